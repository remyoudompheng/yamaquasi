/-
Model of the generic arithmetic helpers of src/arith.rs (`sqrt_mod`, `pow_mod`, `mulmod`,
`inv_mod64`, `perfect_power`, `isqrt`) and of `squfof::isqrt` (src/squfof.rs:98-115).

The functions that are generic over `T: Num` (`u64` or `BUint<N>`) take the size of the type as a
parameter `B = 2^bits`: a product that does not fit (`≥ B`) is a panic of the checked profile and
returns `none`. Division by zero, `assert!`, `unreachable!` and `unwrap` return `none`.

Library code that is *not* part of the repository is modelled by its specification:
* `num_integer::Roots::nth_root` / `sqrt` (and the `bnum` instance): `nthRoot`, the floor root,
  defined by bisection (theorem `nthRoot_spec` shows it is the floor root);
* `num_integer::Integer::extended_gcd` for `i128` is modelled step by step (`egcdLoop`).
For `squfof::isqrt` the floating point seed `(n as f64).sqrt() as u64` is an input of the model.
No Mathlib import.
-/
import Ymq.Model.Limbs

namespace Ymq.Arith
open Ymq.Limbs (W)

/-! ### mulmod, pow_mod -/

/-- `mulmod(a, b, p) = (a * b) % p` in a type with `B` values. -/
def mulmod (B a b p : Nat) : Option Nat :=
  if a * b ≥ B then none                            -- a * b overflows
  else if p = 0 then none                           -- % 0
  else some (a * b % p)

/-- `while k > zero { … }` of `pow_mod`. -/
def powLoop (B p : Nat) : Nat → Nat → Nat → Nat → Option Nat
  | 0, _, _, _ => none
  | f + 1, res, nn, k =>
    if k = 0 then some res
    else
      match (if k % 2 = 1 then mulmod B res nn p else some res) with
      | none => none
      | some res' =>
        match mulmod B nn nn p with
        | none => none
        | some nn' => powLoop B p f res' nn' (k / 2)

/-- `pow_mod(n, k, p)`. -/
def powMod (B n k p : Nat) : Option Nat :=
  if p = 0 then none                                -- n % p
  else powLoop B p (k + 1) 1 (n % p) k

/-! ### sqrt_mod -/

/-- `u64::trailing_zeros`. -/
def tzAux : Nat → Nat → Nat
  | 0, _ => 0
  | f + 1, n => if n % 2 = 1 then 0 else 1 + tzAux f (n / 2)

def tz64 (n : Nat) : Nat := if n = 0 then 64 else tzAux 64 n

/-- `while q.low_u64() % 2 == 0 { q = q >> 1 }` -/
def oddPart : Nat → Nat → Option Nat
  | 0, _ => none
  | f + 1, q => if q % 2 = 0 then oddPart f (q / 2) else some q

/-- `for k in 1..(1 << 24)` of `sqrt_mod` (`fuel` = remaining iterations);
running out of iterations is `unreachable!()`. -/
def tsLoop (B n p q1 : Nat) : Nat → Nat → Option (Option Nat)
  | 0, _ => none
  | f + 1, k =>
    match mulmod B n k p with
    | none => none
    | some nk0 =>
      match mulmod B nk0 k p with
      | none => none
      | some nk =>
        match powMod B nk q1 p with
        | none => none
        | some root =>
          match mulmod B root root p with
          | none => none
          | some rr =>
            if rr = nk then
              if p < 2 then none                    -- p - 2
              else
                match powMod B k (p - 2) p with
                | none => none
                | some ki => (mulmod B root ki p).map some
            else tsLoop B n p q1 f (k + 1)

/-- number of iterations of `for k in 1..(1 << 24)` -/
def tsIters : Nat := 16777215

/-- `sqrt_mod(n, p)`; outer `Option` = panic, inner = the Rust return value. -/
def sqrtMod (B n p : Nat) : Option (Option Nat) :=
  if p = 0 then none                                -- n % p
  else
    let n := n % p
    if n = 0 then some (some 0)
    else if p = 2 then some (some (n % p))
    else if p % 4 = 3 then
      match powMod B n (p / 4 + 1) p with
      | none => none
      | some r =>
        match mulmod B r r p with
        | none => none
        | some rr => some (if rr = n then some r else none)
    else
      match powMod B n (p / 2) p with
      | none => none
      | some e =>
        if e ≠ 1 then some none
        else if p % W = 0 then none                 -- p.low_u64() - 1
        else if tz64 (p % W - 1) ≥ 24 then none     -- assert!(exp2 < 24)
        else
          match oddPart (p + 1) (p / 2) with
          | none => none
          | some q => tsLoop B n p (q / 2 + 1) tsIters 1

/-! ### inv_mod64 -/

def I128MIN : Int := -170141183460469231731687303715884105728
def I128MAX : Int := 170141183460469231731687303715884105727

/-- checked `i128` result -/
def chk128 (x : Int) : Option Int := if I128MIN ≤ x ∧ x ≤ I128MAX then some x else none

/-- `a - q * b` with both operations checked -/
def subMul (a q b : Int) : Option Int :=
  match chk128 (q * b) with
  | none => none
  | some m => chk128 (a - m)

/-- the `while !r.0.is_zero()` loop of `num_integer::Integer::extended_gcd` on `i128`:
state `(s0,s1,t0,t1,r0,r1)`; returns `(r1, s1, t1)`. -/
def egcdLoop : Nat → Int → Int → Int → Int → Int → Int → Option (Int × Int × Int)
  | 0, _, _, _, _, _, _ => none
  | f + 1, s0, s1, t0, t1, r0, r1 =>
    if r0 = 0 then some (r1, s1, t1)
    else if r1 = I128MIN ∧ r0 = -1 then none        -- i128::MIN / -1
    else
      let q := Int.tdiv r1 r0
      match subMul r1 q r0, subMul s1 q s0, subMul t1 q t0 with
      | some r0', some s0', some t0' => egcdLoop f s0' s0 t0' t0 r0' r0
      | _, _, _ => none

/-- `extended_gcd(a, b)` → `(gcd, x, y)` -/
def extendedGcd (a b : Int) : Option (Int × Int × Int) :=
  match egcdLoop (b.natAbs + 2) 0 1 1 0 b a with
  | none => none
  | some (g, x, y) =>
    if g ≥ 0 then some (g, x, y)
    else
      match chk128 (0 - g), chk128 (0 - x), chk128 (0 - y) with
      | some g', some x', some y' => some (g', x', y')
      | _, _, _ => none

/-- `inv_mod64(n, p)`, `n p : u64` (the operands are widened to `i128`). -/
def invMod64 (n p : Nat) : Option (Option Nat) :=
  match extendedGcd (n : Int) (p : Int) with
  | none => none
  | some (g, ex, _) =>
    if g = 1 then
      match (if ex < 0 then chk128 (ex + (p : Int)) else some ex) with
      | none => none
      | some x =>
        if x < 0 then none                          -- assert!(x >= 0)
        else if p = 0 then none                     -- % p
        else some (some (x.toNat % 2 ^ 128 % p % 2 ^ 64))   -- (x as u128 % p as u128) as u64
    else some none

/-! ### roots and perfect powers -/

/-- bisection: invariant `lo^k ≤ n < hi^k` -/
def rootAux (n k : Nat) : Nat → Nat → Nat → Nat
  | 0, lo, _ => lo
  | f + 1, lo, hi =>
    if hi ≤ lo + 1 then lo
    else
      let mid := (lo + hi) / 2
      if mid ^ k ≤ n then rootAux n k f mid hi else rootAux n k f lo mid

/-- specification function for `nth_root(k)` (k ≥ 1): the floor of the k-th root. -/
def nthRoot (n k : Nat) : Nat :=
  let hi := 2 ^ (Nat.log2 n / k + 1)
  rootAux n k hi 0 hi

/-- specification function for `arith::isqrt = num_integer::sqrt`. -/
def isqrt (n : Nat) : Nat := nthRoot n 2

/-- the exponents tried by `perfect_power` -/
def ppExps : List Nat := [2, 3, 5, 7, 11, 13, 17, 19]

/-- `for k in [2, 3, 5, …, 19]` of `perfect_power`; `self` is the recursive call. -/
def ppTry (self : Nat → Option (Option (Nat × Nat))) (n : Nat) :
    List Nat → Option (Option (Nat × Nat))
  | [] => some none
  | k :: ks =>
    let r := nthRoot n k
    if r ^ k = n then
      if r = n then some (some (r, k))              -- n ∈ {0, 1}: no recursion
      else
        match self r with
        | none => none
        | some (some (rr, kk)) =>
          if k * kk ≥ 2 ^ 32 then none else some (some (rr, k * kk))
        | some none => some (some (r, k))
    else ppTry self n ks

/-- `perfect_power(n)` with recursion depth at most `fuel` (`none` = deeper recursion). -/
def ppFuel : Nat → Nat → Option (Option (Nat × Nat))
  | 0, _ => none
  | f + 1, n => ppTry (ppFuel f) n ppExps

/-- `perfect_power(n)` -/
def perfectPower (n : Nat) : Option (Option (Nat × Nat)) := ppFuel (n + 1) n

/-! ### squfof::isqrt -/

/-- the `loop` of `squfof::isqrt` -/
def sqLoop (n : Nat) : Nat → Nat → Option Nat
  | 0, _ => none
  | f + 1, r =>
    if r = 0 then none                              -- n / 0
    else
      let q := n / r
      if q = r then some r
      else if r + 1 ≥ W then none
      else if q = r + 1 then some r
      else if q = r - 1 then some (r - 1)
      else if r + q ≥ W then none
      else sqLoop n f ((r + q) / 2)

/-- `squfof::isqrt(n)` with `seed = (n as f64).sqrt() as u64` and `fuel` iterations allowed. -/
def squfofIsqrt (fuel n seed : Nat) : Option Nat :=
  if n < 4 then some (min n 1) else sqLoop n fuel seed

end Ymq.Arith
