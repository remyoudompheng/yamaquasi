/-
Model of the part of `src/sieve.rs` that decides WHICH PRIMES ARE ATTACHED to a reported sieve
position, and of `fbase::cofactor` (src/fbase.rs).

Modelled: `Sieve::new` (cursor initialisation, `idxskip`, filling of the bucket tables in the exact
order of the code, recycled tables), `Sieve::sieve_block` (cursor update of the three small-prime
classes; bounds of the table slices it reads), `next_block`, `rehash`, `recycle`,
`SieveTable::{new,reset,add,add_overflow,bucket}`, `SieveTableLarge::{new,reset,add,add_overflow,
bucket_offsets}`, and the second half of `Sieve::smooths` ("Now find factors"): recovery of the
small primes from the cursors, lookup in the bucket tables, `is_factor`.
NOT modelled here (see Ymq/Model/SieveLog.lean): the byte array `blk` (log accumulation), thresholds and `skipbits`, i.e.
the first half of `smooths` which decides which positions are reported. The positions are an input of `factorsAt`.

Conventions (see Ymq/Model/Mg64.lean): machine integers are `Nat`/`Int` with explicit truncations
where the code casts (`as u16`, `as u8`); every panic site of the checked profile (assert,
debug_assert, overflow, checked index, unwrap) and every out-of-bounds `get_unchecked` returns `none`;
loops take fuel. `Dividers::{modu16, modi64, divmod_uint}` are exact remainders/quotients (property C08:
`Ymq.C08.modu16_spec`, `modi64_spec`), used here as `%` and `/`.
A table entry (transmuted `(u8,u8)` / `(u16,u16)`) is a pair of `Nat`s.
No Mathlib import: this file is linked into the native driver.
-/
import Ymq.Model.Mg64

namespace Ymq.Sieve

def BLOCK : Nat := 32768
/-- `OFFSET_NONE` -/
def NONE : Nat := 65535
def LARGE_LOG : Nat := 16
def VLARGE_LOG : Nat := 19
def BUCKET_WIDTH : Nat := 256
def BUCKET_SIZE : Nat := 32
/-- `SieveTable::N_ENTRIES`, `N_BUCKETS` (per block) -/
def N_ENTRIES : Nat := 4096
def N_BUCKETS : Nat := 128
def LBW : Nat := 16384
def LBS : Nat := 1024

/-- `32 - u32::leading_zeros(p)` -/
def bitlen (p : Nat) : Nat := if p = 0 then 0 else Nat.log2 p + 1

/-! ### Factor base -/

/-- the fields of `FBase` the sieve reads: `primes` and `idx_by_log` (26 entries). -/
structure FB where
  primes : Array Nat
  ibl : Array Nat

/-- `idx_by_log[l]` = index of the first prime of bit length ≥ l (the documented meaning of the
field; the harness builds synthetic factor bases with this definition and `sv_fb` checks that
`FBase::new` produces the same array). -/
def mkIbl (ps : Array Nat) : Array Nat :=
  (Array.range 26).map fun l => ps.toList.countP (fun p => bitlen p < l)

def FB.ofPrimes (ps : Array Nat) : FB := { primes := ps, ibl := mkIbl ps }

/-- the `idx_by_log` table exactly as `FBase::new` fills it while it pushes the primes:
```
if l >= log { for idx in log..=l { idx_by_log[idx] = primes.len(); } log = l + 1; }   // l = bit length of p
...
for idx in log..idx_by_log.len() { idx_by_log[idx] = primes.len(); }
```
state = (table, log, number of primes pushed so far); a write outside the 26 entries is a panic. -/
def fbaseIblStep (st : Array Nat × Nat × Nat) (p : Nat) : Option (Array Nat × Nat × Nat) :=
  let (ibl, log, cnt) := st
  let l := bitlen p
  if l ≥ log then do
    let ibl ← (List.range' log (l + 1 - log)).foldlM (fun (a : Array Nat) idx =>
      if idx < a.size then some (a.setIfInBounds idx cnt) else none) ibl
    some (ibl, l + 1, cnt + 1)
  else some (ibl, log, cnt + 1)

def fbaseIbl (ps : List Nat) : Option (Array Nat) := do
  let (ibl, log, cnt) ← ps.foldlM fbaseIblStep (Array.replicate 26 0, 0, 0)
  (List.range' log (26 - log)).foldlM (fun (a : Array Nat) idx =>
    if idx < a.size then some (a.setIfInBounds idx cnt) else none) ibl

/-! ### SieveTable -/

structure Table where
  /-- (offset inside the bucket : u8, low byte of the prime index : u8) -/
  entries : Array (Nat × Nat)
  blens : Array Nat
  /-- 32 slots: (offset inside the block : u16, low byte of the prime index) -/
  overflows : Array (Nat × Nat)
  nOverflows : Nat
deriving Inhabited

def Table.new (nblocks : Nat) : Table :=
  { entries := Array.replicate (N_ENTRIES * nblocks) (0, 0)
    blens := Array.replicate (N_BUCKETS * nblocks) 0
    overflows := Array.replicate 32 (0, 0)
    nOverflows := 0 }

/-- `reset`: only the counters are cleared; `entries` and `overflows` keep their stale contents. -/
def Table.reset (t : Table) : Table :=
  { t with blens := Array.replicate t.blens.size 0, nOverflows := 0 }

/-- `SieveTable::add(offset, pidx)` (+ `add_overflow`). (The structure is taken apart so that the
compiled model updates the arrays in place.) -/
def Table.add (t : Table) (offset pidx : Nat) : Option Table :=
  match t with
  | ⟨entries, blens, overflows, nOv⟩ =>
    if ¬ offset < entries.size * BLOCK / N_ENTRIES then none        -- debug_assert (release: out of bounds)
    else
      let b := offset / BUCKET_WIDTH
      let bo := offset % BUCKET_WIDTH
      match blens[b]? with
      | none => none
      | some blen =>
        if blen < BUCKET_SIZE then
          if b * BUCKET_SIZE + blen < entries.size then
            some ⟨entries.setIfInBounds (b * BUCKET_SIZE + blen) (bo % 256, pidx % 256),
                  blens.setIfInBounds b (blen + 1), overflows, nOv⟩
          else none
        else
          some ⟨entries, blens,
                if nOv < overflows.size then overflows.setIfInBounds nOv (offset % BLOCK % 65536, pidx % 256)
                else overflows,
                nOv + 1⟩

/-- the visible part of bucket `b`: `entries[b*32 .. b*32 + blens[b]]`. -/
def Table.bucket (t : Table) (b : Nat) : Option (List (Nat × Nat)) :=
  match t.blens[b]? with
  | none => none                                                   -- `t.blens[b]`: checked index
  | some blen => (List.range' (b * BUCKET_SIZE) blen).mapM fun e => t.entries[e]?

/-- the overflow slots `smooths` looks at: `overflows[..min(len, n_overflows)]`. -/
def Table.ovList (t : Table) : List (Nat × Nat) :=
  t.overflows.toList.take (min t.overflows.size t.nOverflows)

/-- low bytes of the prime indices found for position `r` of the block starting at `baseOff`:
bucket entries first, then overflow slots (the order of the code). -/
def Table.lookup (t : Table) (baseOff r : Nat) : Option (List Nat) := do
  let b := (baseOff + r) / BUCKET_WIDTH
  let boff := (baseOff + r) % BUCKET_WIDTH
  let bk ← t.bucket b
  let hits := (bk.filter fun e => boff % 256 = e.1).map (·.2)
  let ovs := (t.ovList.filter fun e => e.1 = r).map (·.2)
  some (hits ++ ovs)

/-- `for msb in idx1 >> 8..(idx2 >> 8) + 1 { pidx = (msb << 8) + pidx8; if idx1 <= pidx && pidx < idx2 ..` -/
def candidates (idx1 idx2 pidx8 : Nat) : List Nat :=
  ((List.range' (idx1 / 256) (idx2 / 256 + 1 - idx1 / 256)).map fun msb => msb * 256 + pidx8).filter
    fun pidx => idx1 ≤ pidx ∧ pidx < idx2

/-! ### SieveTableLarge -/

structure LTable where
  /-- (offset inside the block : u16, low 16 bits of the prime index) -/
  hits : Array (Nat × Nat)
  lengths : Array Nat
  overflows : Array (Nat × Nat)
deriving Inhabited

def LTable.new (nblocks : Nat) : LTable :=
  let nbuckets := nblocks * BLOCK / LBW
  { hits := Array.replicate ((nbuckets + 1) * LBW) (0, 0)
    lengths := Array.replicate (nbuckets + 1) 0
    overflows := #[] }

def LTable.reset (t : LTable) : LTable :=
  { t with lengths := Array.replicate t.lengths.size 0, overflows := #[] }

def LTable.add (t : LTable) (offset pidx : Nat) : Option LTable :=
  match t with
  | ⟨hits, lengths, overflows⟩ =>
    if ¬ pidx < 2 ^ 30 then none                                     -- debug_assert
    else
      let blk := offset / LBW
      let entry := (offset % BLOCK % 65536, pidx % 65536)
      match lengths[blk]? with
      | none => none
      | some l =>
        if l < LBS then
          if blk * LBS + l < hits.size then
            some ⟨hits.setIfInBounds (blk * LBS + l) entry, lengths.setIfInBounds blk (l + 1), overflows⟩
          else none
        else some ⟨hits, lengths, overflows.push entry⟩

/-- `bucket_offsets(bidx)` -/
def LTable.bucket (t : LTable) (bidx : Nat) : Option (List (Nat × Nat)) :=
  match t.lengths[bidx]? with
  | none => none
  | some len => (List.range' (bidx * LBS) len).mapM fun e => t.hits[e]?

/-- low 16 bits of the prime indices found for position `r` of block `blkNo`. -/
def LTable.lookup (t : LTable) (blkNo r : Nat) : Option (List Nat) := do
  let bk ← t.bucket (2 * blkNo + r / LBW)
  some (((bk ++ t.overflows.toList).filter fun e => e.1 = r).map (·.2))

/-- `pidx = pidx16; while pidx < fbase.len() { ..; pidx += 1 << 16 }` -/
def lcandidates (len pidx16 : Nat) : List Nat :=
  (List.range' 0 ((len + 65535 - pidx16) / 65536)).map fun k => pidx16 + k * 65536

/-! ### Sieve state -/

structure State where
  offset : Int
  nblocks : Nat
  blkNo : Nat
  idxskip : Nat
  lo : Array Nat
  loPrev : Array Nat
  tables : Array Table
  ltables : Array LTable

/-- `pskip` of `Sieve::new` -/
def pskip (len : Nat) : Nat :=
  if len ≤ 1999 then 3 else if len ≤ 4999 then 5 else if len ≤ 9999 then 7
  else if len ≤ 19999 then 11 else if len ≤ 49999 then 13 else 17

/-- `while off < bound { add(off); off += p }` as the list of offsets (fuel = bound suffices, p > 0). -/
def arith (p bound : Nat) : Nat → Nat → Option (List Nat)
  | 0, _ => none
  | f + 1, off => if off < bound then (arith p bound f (off + p)).map (off :: ·) else some []

/-- the unrolled loop of the second size class:
`while kp < interval - p - rmax { add kp+o1, kp+o2, kp+p+o1, kp+p+o2; kp += 2p }` (isize arithmetic);
returns the offsets and the final `kp`. -/
def unrolled (interval p o1 o2 rmax : Nat) : Nat → Nat → Option (List Nat × Nat)
  | 0, _ => none
  | f + 1, kp =>
    if kp + p + rmax < interval then
      (unrolled interval p o1 o2 rmax f (kp + 2 * p)).map fun (l, k) =>
        ((kp + o1) :: (kp + o2) :: (kp + p + o1) :: (kp + p + o2) :: l, k)
    else some ([], kp)

/-- all offsets registered by `Sieve::new` for one prime of the second class, in the order of the code. -/
def largeOffsets (interval p o1 o2 : Nat) : Option (List Nat) := do
  let (l, kp) ← unrolled interval p o1 o2 (max o1 o2) (interval + 1) 0
  let t1 ← arith p interval (interval + 1) (o1 + kp)
  let t2 ← arith p interval (interval + 1) (o2 + kp)
  some (l ++ t1 ++ t2)

/-- offsets registered for one prime of the third class (and by `rehash` for both classes). -/
def vlargeOffsets (interval p o1 o2 : Nat) : Option (List Nat) := do
  let t1 ← arith p interval (interval + 1) o1
  let t2 ← arith p interval (interval + 1) o2
  some (t1 ++ t2)

/-- `let table = &mut tables[i]; ...` : update element `i` (checked index). The element is taken out
of the array first so that the compiled model can update it in place. -/
def modifyM {α} [Inhabited α] (a : Array α) (i : Nat) (f : α → Option α) : Option (Array α) :=
  match a[i]? with
  | none => none
  | some x =>
    let a := a.setIfInBounds i default
    match f x with
    | none => none
    | some y => some (a.setIfInBounds i y)

/-- first size class of `new`: the two cursors of prime `idx` are appended. -/
def newSmallStep (r1 r2 : Array Nat) (offs : Array Nat) (idx : Nat) : Option (Array Nat) := do
  let o1 ← r1[idx]?
  let o2 ← r2[idx]?
  let offs := (offs.push (o1 % 65536)).push (if o1 ≠ o2 then o2 % 65536 else NONE)
  if offs.size ≠ 2 * idx + 2 then none else some offs                -- debug_assert

/-- second size class of `new`: all hits of prime `pidx` are registered in the table of its class. -/
def newLargeStep (fb : FB) (r1 r2 : Array Nat) (interval : Nat) (table : Table) (pidx : Nat) : Option Table := do
  let o1 ← r1[pidx]?
  let o2 ← r2[pidx]?
  let p ← fb.primes[pidx]?
  if o1 = o2 then none                                               -- debug_assert
  let offsets ← largeOffsets interval p o1 o2
  offsets.foldlM (fun t off => t.add off (pidx % 2 ^ 32)) table

/-- third size class of `new`. -/
def newVLargeStep (fb : FB) (r1 r2 : Array Nat) (interval : Nat) (table : LTable) (pidx : Nat) : Option LTable := do
  let o1 ← r1[pidx]?
  let o2 ← r2[pidx]?
  let p ← fb.primes[pidx]?
  if o1 = o2 then none                                               -- debug_assert
  let offsets ← vlargeOffsets interval p o1 o2
  offsets.foldlM (fun t off => t.add off pidx) table

/-- body of `for log in 0..=maxlog` of `new`. -/
def newStep (fb : FB) (r1 r2 : Array Nat) (interval : Nat)
    (st : Array Nat × Array Table × Array LTable) (log : Nat) : Option (Array Nat × Array Table × Array LTable) := do
  let (offs, tables, ltables) := st
  let idx1 ← fb.ibl[log]?
  let idx2 ← fb.ibl[log + 1]?
  if ¬ (idx2 ≤ r1.size ∧ idx2 ≤ r2.size ∧ idx2 ≤ fb.primes.size) then none   -- assert
  if log < LARGE_LOG then
    let offs ← (List.range' idx1 (idx2 - idx1)).foldlM (newSmallStep r1 r2) offs
    some (offs, tables, ltables)
  else if log < VLARGE_LOG then
    let tables ← modifyM tables (log - LARGE_LOG) fun table =>
      (List.range' idx1 (idx2 - idx1)).foldlM (newLargeStep fb r1 r2 interval) table
    some (offs, tables, ltables)
  else
    let ltables ← modifyM ltables (log - VLARGE_LOG) fun table =>
      (List.range' idx1 (idx2 - idx1)).foldlM (newVLargeStep fb r1 r2 interval) table
    some (offs, tables, ltables)

/-- the tables `new` starts from: recycled ones are checked and reset, otherwise fresh ones. -/
def newTables (nblocks maxlog : Nat) (recycled : Option (Array Table × Array LTable)) :
    Option (Array Table × Array LTable) :=
  match recycled with
  | some (ts, lts) =>
    if ts.size ≠ (min (max (maxlog + 1) LARGE_LOG) VLARGE_LOG) - LARGE_LOG then none       -- assert_eq
    else if ts.any (fun t => t.entries.size ≠ N_ENTRIES * nblocks) then none            -- assert_eq
    else if lts.size ≠ max (maxlog + 1) VLARGE_LOG - VLARGE_LOG then none               -- assert_eq
    else some (ts.map Table.reset, lts.map LTable.reset)
  | none =>
    some (Array.replicate (min (VLARGE_LOG - 1) maxlog + 1 - LARGE_LOG) (Table.new nblocks),
          Array.replicate (maxlog + 1 - VLARGE_LOG) (LTable.new nblocks))

/-- `Sieve::new(offset, nblocks, fbase, [roots1, roots2], recycled)` -/
def new (offset : Int) (nblocks : Nat) (fb : FB) (r1 r2 : Array Nat)
    (recycled : Option (Array Table × Array LTable)) : Option State := do
  let len := fb.primes.size
  let _nSmall ← fb.ibl[LARGE_LOG]?                                  -- idx_by_log[LARGE_PRIME_LOG]
  let maxprime ← fb.primes.back?                                   -- bound(): last().unwrap()
  let maxlog := bitlen maxprime
  let (tables, ltables) ← newTables nblocks maxlog recycled
  if nblocks * BLOCK ≥ 2 ^ 62 then none
  let (offs, tables, ltables) ←
    (List.range' 0 (maxlog + 1)).foldlM (newStep fb r1 r2 (nblocks * BLOCK)) (#[], tables, ltables)
  let idxskip := 2 * ((fb.primes.toList.findIdx? (fun p => p > pskip len)).getD len)
  some { offset := offset, nblocks := nblocks, blkNo := 0, idxskip := idxskip,
         lo := offs, loPrev := offs, tables := tables, ltables := ltables }

/-- `recycle` -/
def recycle (s : State) : Array Table × Array LTable := (s.tables, s.ltables)

/-- `rehash`: all hits of one prime of the second class are registered again. -/
def rehashTable (r1 r2 : Array Nat) (interval p pidx : Nat) (table : Table) : Option Table := do
  let o1 ← r1[pidx]?
  let o2 ← r2[pidx]?
  let offsets ← vlargeOffsets interval p o1 o2
  offsets.foldlM (fun t off => t.add off (pidx % 2 ^ 32)) table

/-- `rehash`: same for a prime of the third class. -/
def rehashLTable (r1 r2 : Array Nat) (interval p pidx : Nat) (table : LTable) : Option LTable := do
  let o1 ← r1[pidx]?
  let o2 ← r2[pidx]?
  let offsets ← vlargeOffsets interval p o1 o2
  offsets.foldlM (fun t off => t.add off pidx) table

/-- body of the loop of `rehash` over the factor base. -/
def rehashStep (fb : FB) (r1 r2 : Array Nat) (interval : Nat)
    (st : Array Table × Array LTable) (pidx : Nat) : Option (Array Table × Array LTable) := do
  let (tables, ltables) := st
  let p ← fb.primes[pidx]?
  if p < BLOCK then some (tables, ltables)
  else
    let l := bitlen p
    if l < VLARGE_LOG then
      if l < LARGE_LOG then none                                     -- l - LARGE_PRIME_LOG underflows
      else
        let tables ← modifyM tables (l - LARGE_LOG) (rehashTable r1 r2 interval p pidx)
        some (tables, ltables)
    else
      let ltables ← modifyM ltables (l - VLARGE_LOG) (rehashLTable r1 r2 interval p pidx)
      some (tables, ltables)

/-- `rehash(roots)` -/
def rehash (fb : FB) (s : State) (r1 r2 : Array Nat) : Option State :=
  if s.nblocks = 0 then some { s with blkNo := 0 }
  else do
    let (tables, ltables) ← (List.range' 0 fb.primes.size).foldlM (rehashStep fb r1 r2 (s.nblocks * BLOCK))
      (s.tables.map Table.reset, s.ltables.map LTable.reset)
    some { s with blkNo := 0, tables := tables, ltables := ltables }

/-- `next_block` -/
def nextBlock (s : State) : Option State :=
  if s.offset + BLOCK ≥ 2 ^ 63 then none
  else some { s with offset := s.offset + BLOCK, blkNo := s.blkNo + 1 }

/-! ### sieve_block: cursor updates -/

/-- `while off < len { blk[off] += log; off += p }` -/
def advance (p : Nat) : Nat → Nat → Option Nat
  | 0, _ => none
  | f + 1, off => if off < BLOCK then advance p f (off + p) else some off

/-- `while kp < ll { ..; kp += 2 * p }` -/
def unrollKp (p ll : Nat) : Nat → Nat → Option Nat
  | 0, _ => none
  | f + 1, kp => if kp < ll then unrollKp p ll f (kp + 2 * p) else some kp

/-- skipped (tiny) primes: `off + pp - modu16(BLOCK)`, minus `pp` when ≥ pp, `as u16`. -/
def stepSkipped (pp c : Nat) : Option Nat :=
  if c + pp < BLOCK % pp then none
  else
    let off := c + pp - BLOCK % pp
    let off := if off ≥ pp then off - pp else off
    some (off % 65536)

/-- one prime of the classes `log ≤ 12` (both cursors together); `none` inside = cursor not written. -/
def stepPair (p off1 off2 : Nat) : Option (Option Nat × Option Nat) := do
  let (off1, off2) ←
    if off1 ≠ NONE ∧ off2 ≠ NONE then
      let m := max off1 off2
      if BLOCK < p + m then none                                     -- len - p - m underflows
      else do
        let kp ← unrollKp p (BLOCK - p - m) (BLOCK + 1) 0
        some (off1 + kp, off2 + kp)
    else some (off1, off2)
  let w1 ← if off1 ≠ NONE then (advance p (BLOCK + 1) off1).map fun o => some (o % BLOCK % 65536)
           else some none
  let w2 ← if off2 ≠ NONE then (advance p (BLOCK + 1) off2).map fun o => some (o % BLOCK % 65536)
           else some none
  some (w1, w2)

/-- one cursor of the classes 13..15. -/
def stepSingle (p off : Nat) : Option (Option Nat) :=
  if off = NONE then some none
  else (advance p (BLOCK + 1) off).map fun o => some (o % BLOCK % 65536)

def writeOpt (a : Array Nat) (i : Nat) : Option Nat → Option (Array Nat)
  | none => some a
  | some v => if i < a.size then some (a.setIfInBounds i v) else none

/-- skipped (tiny) primes: cursor `i`. -/
def skipStep (fb : FB) (loPrev : Array Nat) (lo : Array Nat) (i : Nat) : Option (Array Nat) := do
  let pp ← fb.primes[i / 2]?
  let c ← loPrev[i]?
  let v ← stepSkipped pp c
  if i < lo.size then some (lo.setIfInBounds i v) else none

/-- classes `log ≤ 12`: prime `i` (cursors `2i`, `2i+1`). -/
def pairStep (fb : FB) (loPrev : Array Nat) (lo : Array Nat) (i : Nat) : Option (Array Nat) := do
  let p ← fb.primes[i]?
  let off1 ← loPrev[2 * i]?
  let off2 ← loPrev[2 * i + 1]?
  let (w1, w2) ← stepPair p off1 off2
  let lo ← writeOpt lo (2 * i) w1
  writeOpt lo (2 * i + 1) w2

def pairLog (fb : FB) (idxskip : Nat) (loPrev : Array Nat) (lo : Array Nat) (log : Nat) : Option (Array Nat) := do
  let a ← fb.ibl[log]?
  let iStart := max idxskip (2 * a)
  let iEnd ← if log < 15 then (fb.ibl[log + 1]?).map (2 * ·) else some lo.size
  (List.range' (iStart / 2) (iEnd / 2 - iStart / 2)).foldlM (pairStep fb loPrev) lo

/-- classes 13..15: cursor `i`. -/
def singleStep (fb : FB) (loPrev : Array Nat) (lo : Array Nat) (i : Nat) : Option (Array Nat) := do
  let p ← fb.primes[i / 2]?
  let off ← loPrev[i]?
  let w ← stepSingle p off
  writeOpt lo i w

def singleLog (fb : FB) (idxskip : Nat) (loPrev : Array Nat) (lo : Array Nat) (log : Nat) : Option (Array Nat) := do
  let a ← fb.ibl[log]?
  let iStart := max idxskip (2 * a)
  let iEnd ← if log < 15 then (fb.ibl[log + 1]?).map (2 * ·) else some lo.size
  (List.range' iStart (iEnd - iStart)).foldlM (singleStep fb loPrev) lo

/-- cursor part of `sieve_block`: `(lo, lo_prev)` after the call (`mem::swap` first). -/
def sieveCursors (fb : FB) (idxskip : Nat) (lo0 loPrev0 : Array Nat) : Option (Array Nat × Array Nat) := do
  let lo ← (List.range' 0 idxskip).foldlM (skipStep fb lo0) loPrev0
  let lo ← (List.range' 2 11).foldlM (pairLog fb idxskip lo0) lo
  let lo ← (List.range' 13 3).foldlM (singleLog fb idxskip lo0) lo
  some (lo, lo0)

/-- `sieve_block` (the byte array `blk` is modelled in Ymq/Model/SieveLog.lean; the slices of the bucket tables the code
reads must exist). -/
def sieveBlock (fb : FB) (s : State) : Option State := do
  let (lo, loPrev) ← sieveCursors fb s.idxskip s.lo s.loPrev
  if s.tables.size = 0 then some { s with lo := lo, loPrev := loPrev }
  else
    if s.tables.any (fun t => t.entries.size < (s.blkNo + 1) * N_ENTRIES ∨ t.blens.size < (s.blkNo + 1) * N_BUCKETS)
    then none                                                        -- get_unchecked slices
    else if s.ltables.any (fun t => t.lengths.size < 2 * s.blkNo + 2) then none   -- bucket_offsets(bno)
    else if (s.ltables.any fun t => ((t.bucket (2 * s.blkNo)).isNone ∨ (t.bucket (2 * s.blkNo + 1)).isNone)) then none
    else some { s with lo := lo, loPrev := loPrev }

/-- `b` times `sieve_block(); next_block()` (what every caller does between two calls of `smooths`). -/
def runBlocks (fb : FB) : Nat → State → Option State
  | 0, s => some s
  | b + 1, s => do
    let s ← runBlocks fb b s
    let s ← sieveBlock fb s
    nextBlock s

/-- the loop of the classical quadratic sieve: for every root table of `rs` (the roots shifted by one more
interval), a full interval of `nblocks` rounds and then `rehash` with that table. -/
def rehashRounds (fb : FB) (nblocks : Nat) : List (Array Nat × Array Nat) → State → Option State
  | [], s => some s
  | r :: rest, s => do
    let s ← runBlocks fb nblocks s
    let s ← rehash fb s r.1 r.2
    rehashRounds fb nblocks rest s

/-! ### smooths: "Now find factors" -/

/-- the closure `is_factor(offset, pidx)` -/
def isFactor (fb : FB) (s : State) (r1 r2 : Array Nat) (offset pidx : Nat) : Option Bool := do
  let p ← fb.primes[pidx]?                                           -- fbase.div(pidx)
  let b32 := s.blkNo % 2 ^ 32
  if b32 * BLOCK ≥ 2 ^ 32 then none                                  -- checked_mul().unwrap()
  let o := (b32 * BLOCK + offset) % p % 2 ^ 32                       -- modi64 (C08), as u32
  let a ← r1[pidx]?
  if o = a then some true
  else do
    let b ← r2[pidx]?
    some (o = b)

/-- primes below BLOCK_SIZE/2: `modu16(r) == off1 || modu16(r) == off2` (modu16 exact: C08). -/
def smallTest (fb : FB) (s : State) (r : Nat) (acc : List Nat) (i : Nat) : Option (List Nat) := do
  let p ← fb.primes[i]?                                              -- divs.get_unchecked(i)
  let off1 ← s.loPrev[2 * i]?
  let off2 ← s.loPrev[2 * i + 1]?
  let rmod := r % p
  some (if rmod = off1 ∨ rmod = off2 then i :: acc else acc)

/-- primes above BLOCK_SIZE/2: `r == off || r as u32 == off as u32 + p as u32` with `p = primes[pidx] as u16`. -/
def midTest (fb : FB) (s : State) (r : Nat) (acc : List Nat) (i : Nat) : Option (List Nat) := do
  let off ← s.loPrev[i]?
  let p ← fb.primes[i / 2]?
  some (if r = off ∨ r = off + p % 65536 then (i / 2) :: acc else acc)

/-- `if is_factor(r, pidx) { facs[j].push(pidx) }` over the candidate indices. -/
def filt (fb : FB) (s : State) (r1 r2 : Array Nat) (r : Nat) (acc : List Nat) (cands : List Nat) : Option (List Nat) :=
  cands.foldlM (fun (acc : List Nat) pidx => do
    let ok ← isFactor fb s r1 r2 r pidx
    some (if ok then pidx :: acc else acc)) acc

def tableStep (fb : FB) (s : State) (r1 r2 : Array Nat) (r : Nat) (acc : List Nat) (tidx : Nat) : Option (List Nat) := do
  let t ← s.tables[tidx]?
  let idx1 ← fb.ibl[tidx + LARGE_LOG]?
  let idx2 ← fb.ibl[tidx + LARGE_LOG + 1]?
  let p8s ← t.lookup (s.blkNo * BLOCK) r
  p8s.foldlM (fun acc p8 => filt fb s r1 r2 r acc (candidates idx1 idx2 p8)) acc

def ltableStep (fb : FB) (s : State) (r1 r2 : Array Nat) (r : Nat) (acc : List Nat) (t : LTable) : Option (List Nat) := do
  let p16s ← t.lookup s.blkNo r
  p16s.foldlM (fun acc p16 => filt fb s r1 r2 r acc (lcandidates fb.primes.size p16)) acc

/-- prime indices attached to the reported position `r` (pushed in the order of the code). -/
def factorsOf (fb : FB) (s : State) (r1 r2 : Array Nat) (r : Nat) : Option (List Nat) := do
  let n15 ← fb.ibl[15]?
  let small ← (List.range' 0 n15).foldlM (smallTest fb s r) []
  let mid ← (List.range' (2 * n15) (s.loPrev.size - 2 * n15)).foldlM (midTest fb s r) small
  if s.tables.size = 0 then some mid.reverse
  else
    let acc ← (List.range' 0 s.tables.size).foldlM (tableStep fb s r1 r2 r) mid
    let acc ← s.ltables.toList.foldlM (ltableStep fb s r1 r2 r) acc
    some acc.reverse

/-- the factor lists `smooths` returns for the reported positions `res`. -/
def factorsAt (fb : FB) (s : State) (r1 r2 : Array Nat) (res : List Nat) : Option (List (List Nat)) :=
  res.mapM (factorsOf fb s r1 r2)

/-! ### fbase::cofactor -/

/-- `fbase::certainly_composite(n)` (Fermat test to base 2 on the Montgomery routines of C07; the
square-and-multiply loop is the one of `isprime64`: `Mg64.powLoop`). -/
def certainlyComposite (n : Nat) : Option Bool :=
  if n % 2 = 0 then some (decide (n > 2))
  else do
    let ninv ← Mg64.mg2adicInv n
    let sq ← Mg64.mgMul n ninv 2 2
    let x ← Mg64.powLoop n ninv 65 2 sq (n / 2)
    some (x ≠ 2)

/-- `loop { (q, r) = divmod(cofactor); if r == 0 { cofactor = q; exp += 1 } else break }` -/
def divideOut (p : Nat) : Nat → Nat → Nat → Option (Nat × Nat)
  | 0, _, _ => none
  | f + 1, c, e => if c % p = 0 then divideOut p f (c / p) (e + 1) else some (c, e)

/-- trial division by one listed prime: `(cofactor, factors)` after the inner loop. -/
def cofactorStep (primes : Array Nat) (st : Nat × List (Int × Nat)) (pidx : Nat) : Option (Nat × List (Int × Nat)) := do
  let pp ← primes[pidx]?                                             -- fbase.p(pidx)
  let (c, e) ← divideOut pp 300 st.1 0
  some (c, if e > 0 then st.2 ++ [((pp : Int), e)] else st.2)

/-- the part of `cofactor` after the trial division. -/
def cofactorTail (primes : Array Nat) (cof : Nat) (factors : List (Int × Nat)) (maxlarge : Nat) (double : Bool)
    (tf : Nat → Option (Nat × Nat)) : Option (Option ((Nat × Nat) × List (Int × Nat))) :=
  if cof ≥ 2 ^ 64 then some none                                     -- try_into().ok()?
  else if maxlarge * maxlarge ≥ 2 ^ 64 then none                     -- u64 overflow
  else if cof > maxlarge * maxlarge then some none
  else
    match primes.back? with
    | none => none                                                   -- bound(): unwrap
    | some maxprime =>
      if double ∧ cof > maxprime * maxprime then
        match tf cof with
        | some (p, q) => if p > maxlarge ∨ q > maxlarge then some none else some (some ((p, q), factors))
        | none => some none
      else if cof > maxlarge then some none
      else
        match certainlyComposite cof with
        | none => none
        | some cc =>
          if cc then none                                            -- debug_assert!(!certainly_composite)
          else some (some ((cof, 1), factors))

/-- `cofactor(fbase, x, facs, maxlarge, double)`; `tf` stands for `try_factor64` (Pollard rho / ECM,
"not required to be accurate": not modelled, a parameter). Outer `none` = panic/hang, inner = `None`. -/
def cofactor (primes : Array Nat) (x : Int) (facs : List Nat) (maxlarge : Nat) (double : Bool)
    (tf : Nat → Option (Nat × Nat)) : Option (Option ((Nat × Nat) × List (Int × Nat))) := do
  let factors0 : List (Int × Nat) := if x < 0 then [(-1, 1)] else []
  let (cof, factors) ← facs.foldlM (cofactorStep primes) (x.natAbs, factors0)
  cofactorTail primes cof factors maxlarge double tf

end Ymq.Sieve
