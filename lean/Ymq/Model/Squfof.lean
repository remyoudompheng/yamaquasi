/-
Model of src/squfof.rs (Shanks's square forms factorization on `u64`): `squfof`, `maybe_square`
and (through `Ymq.Arith.squfofIsqrt`, Model/Arith.lean) `isqrt`.

Line-by-line over `Nat` with explicit `u64` semantics. Every site where the checked profile
(overflow-checks + debug-assertions) would panic returns `none`:

  squfof.rs:15  `n.checked_mul(k)`                    NOT a panic: `break` (`Step.stop`)
  squfof.rs:16  `isqrt(nk)`                           `isqrt` (division by zero / overflow inside)
  squfof.rs:17  `nsqrt * nsqrt`                       overflow
  squfof.rs:21  `3 * isqrt(nsqrt)`                    overflow
  squfof.rs:25  `nk - nsqrt * nsqrt`                  underflow
  squfof.rs:26  `if q == 0 { continue }`              (repair f24afb6: before it, the next division divided by zero
                                                      whenever n*k was a perfect square, k >= 2)
  squfof.rs:37  `(nsqrt + p_prev) / q`                overflow, DIVISION BY ZERO
  squfof.rs:38  `b * q - p_prev`                      overflow, underflow
  squfof.rs:41  `q_prev + b * (p_prev - p)`           overflow (twice)
  squfof.rs:43  `q_prev - b * (p - p_prev)`           overflow, underflow
  squfof.rs:45  `maybe_square(qnext)`                 `(n + 1)` overflow (evaluated only when the
                                                      first conjunct holds: `&&` short-circuits)
  squfof.rs:46  `isqrt(qnext)`, `qsqrt * qsqrt`
  squfof.rs:59  `(nsqrt - p_prev) / q_sqrt`           underflow, DIVISION BY ZERO
  squfof.rs:60  `b * q_sqrt + p_prev`                 overflow (twice)
  squfof.rs:62  `(nk - p_prev * p_prev) / q_prev`     overflow, underflow, division by zero
  squfof.rs:68-75  same body as 37-44
  squfof.rs:87  `assert_eq!(n % f, 0)`                assertion (`f > 1` so no `% 0`)

What is a parameter / a specification function:
* the floating point seed of `isqrt`, `(n as f64).sqrt() as u64`, is the parameter
  `seed : Nat → Nat` of every definition (the theorems quantify over all seeds within 1 of the
  floor square root, `SeedOK`); the Newton loop itself is `Ymq.Arith.sqLoop`;
* `num_integer::Integer::gcd` (library code, binary gcd on `u64`, cannot panic) is `Nat.gcd`.

Loops: `for i in 1..=iters` is recursion on fuel = `iters` with the counter `i` explicit; when
the range is exhausted (only possible for `iters = 0`) the code falls through with the values the
variables have at that point (`q_sqrt = 0`): that is what the fuel-0 equations return.
Note squfof.rs:17 compares `nsqrt * nsqrt` with `n` although `nsqrt = isqrt(n * k)`: modelled as is.
No Mathlib import.
-/
import Ymq.Model.Arith

namespace Ymq.Squfof

/-- 2^64 -/
def W : Nat := 18446744073709551616

/-- iterations allowed to the Newton loop of `isqrt` (from a seed `r ≥ ⌊√n⌋`, `r − ⌊√n⌋ + 2`
suffice, 6 from the lower neighbour of the root: `Ymq.Squfof.sqLoop_desc`, `sqLoop_below`; the
admissible seeds are within 1 of the root) -/
def isqrtFuel : Nat := 8

/-- `isqrt(n)` (squfof.rs:99-115) with the f64 seed `seed n`. -/
def isqrt (seed : Nat → Nat) (n : Nat) : Option Nat :=
  Ymq.Arith.squfofIsqrt isqrtFuel n (seed n)

/-- `maybe_square(n)` (squfof.rs:94-96):
`(n & 6 == 0 || n & 7 == 4) && (n + 1) % 5 <= 2`. -/
def maybeSquare (n : Nat) : Option Bool :=
  if n % 8 = 0 ∨ n % 8 = 1 ∨ n % 8 = 4 then
    if n + 1 ≥ W then none                               -- n + 1 overflows
    else some (decide ((n + 1) % 5 ≤ 2))
  else some false

/-- the common body of both `for` loops (squfof.rs:37-44 and 68-75): `(p, qnext)`. -/
def step (nsqrt pPrev qPrev q : Nat) : Option (Nat × Nat) :=
  if nsqrt + pPrev ≥ W then none                         -- nsqrt + p_prev
  else if q = 0 then none                                -- / q
  else
    let b := (nsqrt + pPrev) / q
    if b * q ≥ W then none                               -- b * q
    else if b * q < pPrev then none                      -- b * q - p_prev
    else
      let p := b * q - pPrev
      if pPrev > p then
        if b * (pPrev - p) ≥ W then none                 -- b * (p_prev - p)
        else if qPrev + b * (pPrev - p) ≥ W then none    -- q_prev + …
        else some (p, qPrev + b * (pPrev - p))
      else
        if b * (p - pPrev) ≥ W then none                 -- b * (p - p_prev)
        else if qPrev < b * (p - pPrev) then none        -- q_prev - …
        else some (p, qPrev - b * (p - pPrev))

/-- result of the first loop: `none` = `continue 'kloop`, `some (q_sqrt, p_prev)` = the values
after the loop (after `break`, or the initial ones when the range was empty). -/
abbrev FwdRes := Option (Nat × Nat)

/-- first loop (squfof.rs:32-57), arguments: fuel, `i`, `p_prev`, `q_prev`, `q`. -/
def fwdLoop (seed : Nat → Nat) (nsqrt iters : Nat) :
    Nat → Nat → Nat → Nat → Nat → Option FwdRes
  | 0, _, pPrev, _, _ => some (some (0, pPrev))          -- range exhausted: q_sqrt is still 0
  | f + 1, i, pPrev, qPrev, q =>
    if i = iters then some none                          -- continue 'kloop
    else
      match step nsqrt pPrev qPrev q with
      | none => none
      | some (p, qnext) =>
        match maybeSquare qnext with
        | none => none
        | some false => fwdLoop seed nsqrt iters f (i + 1) p q qnext
        | some true =>
          match isqrt seed qnext with
          | none => none
          | some qsqrt =>
            if qsqrt * qsqrt ≥ W then none               -- qsqrt * qsqrt
            else if qnext = qsqrt * qsqrt ∧ i % 2 = 1 then some (some (qsqrt, p))
            else fwdLoop seed nsqrt iters f (i + 1) p q qnext

/-- second loop (squfof.rs:63-83): `none` = `continue 'kloop`, `some p_prev` = value after it. -/
def invLoop (nsqrt iters : Nat) : Nat → Nat → Nat → Nat → Nat → Option (Option Nat)
  | 0, _, pPrev, _, _ => some (some pPrev)               -- range exhausted
  | f + 1, i, pPrev, qPrev, q =>
    if i = iters then some none                          -- continue 'kloop
    else
      match step nsqrt pPrev qPrev q with
      | none => none
      | some (p, qnext) =>
        if p = pPrev then some (some pPrev)              -- break
        else invLoop nsqrt iters f (i + 1) p q qnext

/-- what one round of `'kloop` does -/
inductive Step where
  | ret (a b : Nat)        -- return Some((a, b))
  | next                   -- continue 'kloop (or fall out of its body)
  | stop                   -- break (checked_mul failed)
  deriving DecidableEq, Repr

/-- the part of the body after the first loop (squfof.rs:59-89) -/
def finish (n nk nsqrt iters qSqrt pPrev : Nat) : Option Step :=
  if nsqrt < pPrev then none                             -- nsqrt - p_prev
  else if qSqrt = 0 then none                            -- / q_sqrt
  else
    let b := (nsqrt - pPrev) / qSqrt
    if b * qSqrt ≥ W then none                           -- b * q_sqrt
    else if b * qSqrt + pPrev ≥ W then none              -- … + p_prev
    else
      let p0 := b * qSqrt + pPrev
      if p0 * p0 ≥ W then none                           -- p_prev * p_prev
      else if nk < p0 * p0 then none                     -- nk - …
      else
        let q1 := (nk - p0 * p0) / qSqrt                 -- / q_prev (= q_sqrt ≠ 0)
        match invLoop nsqrt iters iters 1 p0 qSqrt q1 with
        | none => none
        | some none => some .next
        | some (some pf) =>
          let f := Nat.gcd n pf
          if f > 1 then
            if n % f ≠ 0 then none                       -- assert_eq!(n % f, 0)
            else some (.ret f (n / f))
          else some .next

/-- dispatch on the way the first loop was left (`continue 'kloop` / fall through) -/
def afterFwd (n nk nsqrt iters : Nat) : Option FwdRes → Option Step
  | none => none
  | some none => some .next
  | some (some (qSqrt, pPrev)) => finish n nk nsqrt iters qSqrt pPrev

/-- body of `'kloop` for the multiplier `k` (squfof.rs:15-89) -/
def attempt (seed : Nat → Nat) (n k : Nat) : Option Step :=
  if n * k ≥ W then some .stop                           -- checked_mul: break
  else
    let nk := n * k
    match isqrt seed nk with
    | none => none
    | some nsqrt =>
      if nsqrt * nsqrt ≥ W then none                     -- nsqrt * nsqrt
      else if nsqrt * nsqrt = n then some (.ret nsqrt nsqrt)
      else
        match isqrt seed nsqrt with
        | none => none
        | some r =>
          if 3 * r ≥ W then none                         -- 3 * isqrt(nsqrt)
          else
            let iters := 3 * r
            if nk < nsqrt * nsqrt then none              -- nk - nsqrt * nsqrt
            else if nk - nsqrt * nsqrt = 0 then some .next -- q == 0: continue (fix f24afb6)
            else
              afterFwd n nk nsqrt iters
                (fwdLoop seed nsqrt iters iters 1 nsqrt 1 (nk - nsqrt * nsqrt))

/-- `'kloop: for k in ..`, arguments: number of multipliers left, `k`. -/
def kLoop (seed : Nat → Nat) (n : Nat) : Nat → Nat → Option (Option (Nat × Nat))
  | 0, _ => some none
  | f + 1, k =>
    match attempt seed n k with
    | none => none
    | some .stop => some none
    | some (.ret a b) => some (some (a, b))
    | some .next => kLoop seed n f (k + 1)

/-- `squfof(n)` (squfof.rs:11-92): `none` = panic, `some none` = `None`, `some (some (a, b))`. -/
def squfof (seed : Nat → Nat) (n : Nat) : Option (Option (Nat × Nat)) := kLoop seed n 50 1

/-- the exact seed (floor square root by bisection, `Ymq.Arith.isqrt`): used by the examples;
`Ymq.Squfof.squfof_seed_irrelevant` shows every admissible seed gives the same run. -/
def exactSeed (n : Nat) : Nat := Ymq.Arith.isqrt n

/-! ### tracing variant (driver only): multiplier and loop counters of the deciding round -/

/-- number of iterations the first loop ran before leaving (same recursion as `fwdLoop`) -/
def fwdCount (seed : Nat → Nat) (nsqrt iters : Nat) : Nat → Nat → Nat → Nat → Nat → Nat
  | 0, i, _, _, _ => i
  | f + 1, i, pPrev, qPrev, q =>
    if i = iters then i
    else
      match step nsqrt pPrev qPrev q with
      | none => i
      | some (p, qnext) =>
        match maybeSquare qnext, isqrt seed qnext with
        | some true, some qsqrt =>
          if qnext = qsqrt * qsqrt ∧ i % 2 = 1 then i
          else fwdCount seed nsqrt iters f (i + 1) p q qnext
        | _, _ => fwdCount seed nsqrt iters f (i + 1) p q qnext

/-- first `k` whose round does not `continue` (or 51), with the outcome of that round -/
def traceK (seed : Nat → Nat) (n : Nat) : Nat → Nat → Nat × Option Step
  | 0, k => (k, some .next)
  | f + 1, k =>
    match attempt seed n k with
    | some .next => traceK seed n f (k + 1)
    | r => (k, r)

end Ymq.Squfof
