/-
Model of the factoring entry point: `factor`, `factor_impl`, `check_factors`
(src/lib.rs:168-577), line by line. Every sub-algorithm (perfect_power, pseudoprime, rho,
P-1, ECM, the sieves, the abort predicate) is a field of an `Oracle` record with its own
state `σ`: an arbitrary (stateful, possibly adversarial) function in the theorems, a replayed
trace of the real run in the correspondence check.

Outcomes: `.ok`, `.panic site` (a Rust assert / unreachable! / division by zero reached),
`.fuel` (recursion deeper than the fuel given: model artefact).
No Mathlib import: linked into the native driver.
-/
import Ymq.Gen.Primality

namespace Ymq.Factor

inductive Algo
  | auto | rho | squfof | qs64 | pm1 | ecm | ecm128 | qs | mpqs | siqs
  deriving DecidableEq, Repr, Inhabited

inductive Res (α : Type)
  | ok (a : α)
  | panic (site : String)
  | fuel
  deriving Repr

/-- result of a sieve (`siqs` returns `Result<Vec<Uint>, UnexpectedFactor>`; qs/mpqs always `Ok`) -/
inductive SieveRes
  | divs (l : List Nat)
  | unexpected (d : Nat)
  deriving Repr

/-- The sub-algorithms called by `factor_impl`, with threaded state. -/
structure Oracle (σ : Type) where
  pp : σ → Nat → Option (Nat × Nat) × σ              -- arith::perfect_power
  prime : σ → Nat → Bool × σ                          -- pseudoprime
  rho : σ → Nat → Option (List Nat × Nat) × σ         -- pollard_rho::rho
  pm1q : σ → Nat → Option (List Nat × Nat) × σ        -- pollard_pm1::pm1_quick
  ecmauto : σ → Nat → Option (Nat × Nat) × σ          -- ecm128(n,false) for 52..=128 bits else ecm_auto
  pm1 : σ → Nat → Option (List Nat × Nat) × σ         -- pm1_only
  ecm : σ → Nat → Option (Nat × Nat) × σ              -- ecm_only
  ecm128 : σ → Nat → Option (Nat × Nat) × σ           -- ecm128(n,true)
  qs64 : σ → Nat → Option (Nat × Nat) × σ             -- qsieve64::qsieve
  squfof : σ → Nat → Option (Nat × Nat) × σ           -- squfof::squfof
  abort : σ → Nat → Bool × σ                          -- prefs.abort() (argument: current n, informative)
  sieve : σ → Algo → Nat → SieveRes × σ               -- qsieve / mpqs / siqs

/-- `Uint::bits()` -/
def bits (n : Nat) : Nat := if n = 0 then 0 else Nat.log2 n + 1

/-- 2^1024: `Uint` arithmetic wraps modulo this in release builds. -/
def U : Nat := 2 ^ 1024

structure St (σ : Type) where
  os : σ
  factors : List Nat        -- `factors: &mut Vec<Uint>` in push order
  pm1done : Bool            -- Preferences::pm1_done
  giveups : List Nat        -- model-only log: composites pushed unsplit (explicit give-up events)

variable {σ : Type}

def St.push (s : St σ) (x : Nat) : St σ := { s with factors := s.factors ++ [x] }
def St.giveup (s : St σ) (x : Nat) : St σ := { s with factors := s.factors ++ [x], giveups := s.giveups ++ [x] }

/-- sequencing of recursive calls over a list (`for a in a_s { factor_impl(a, ..) }`) -/
def bindList (f : St σ → Nat → Res (St σ)) : List Nat → St σ → Res (St σ)
  | [], s => .ok s
  | a :: as, s =>
    match f s a with
    | .ok s' => bindList f as s'
    | .panic e => .panic e
    | .fuel => .fuel

/-- one pass of `facs.retain(..)` : returns (kept, splits, residue) -/
def retainPass : List Nat → Nat → List Nat × List Nat × Nat
  | [], residue => ([], [], residue)
  | f :: fs, residue =>
    let g := Nat.gcd f residue
    let split := g ≠ f ∧ g ≠ 1
    -- `residue /= gcd` (gcd = 0 only when f = 0 and residue = 0: division by zero)
    let (kept, splits, r) := retainPass fs (residue / g)
    if split then (kept, f :: splits, r) else (f :: kept, splits, r)

/-- whether some `residue /= gcd` in the retain pass divides by zero -/
def retainDivZero : List Nat → Nat → Bool
  | [], _ => false
  | f :: fs, residue =>
    let g := Nat.gcd f residue
    g = 0 || retainDivZero fs (residue / g)

/-- second loop over `splits`: returns the elements pushed on `facs` -/
def splitPass : List Nat → Nat → List Nat
  | [], _ => []
  | f :: fs, residue =>
    let g := Nat.gcd f residue
    if g ≠ f ∧ g ≠ 1 then (f / g) :: g :: splitPass fs (residue / g)
    else f :: splitPass fs (residue / g)

/-- processing of one divisor `d` (lib.rs:519-543) -/
def combineDiv (facs : List Nat) (d : Nat) : Res (List Nat) :=
  if retainDivZero facs d then .panic "division by zero in residue /= gcd"
  else
    let (kept, splits, residue) := retainPass facs d
    if residue ≠ 1 then .panic "assert!(residue.is_one())"
    else .ok (kept ++ splitPass splits d)

def combineDivs : List Nat → List Nat → Res (List Nat)
  | facs, [] => .ok facs
  | facs, d :: ds =>
    match combineDiv facs d with
    | .ok facs' => combineDivs facs' ds
    | .panic e => .panic e
    | .fuel => .fuel

def replicateAppend (k : Nat) (l : List Nat) : List Nat := (List.replicate k l).flatten

/-- `factor_impl(n, alg, prefs, factors, tpool)` -/
def factorImpl (o : Oracle σ) : Nat → Nat → Algo → St σ → Res (St σ)
  | 0, _, _, _ => .fuel
  | fuel + 1, n, alg, s =>
    let recur (s : St σ) (m : Nat) : Res (St σ) := factorImpl o fuel m alg s
    -- splits returned as (a_s, b)
    let splitMany (s : St σ) (as : List Nat) (b : Nat) : Res (St σ) :=
      match bindList recur as s with
      | .ok s' => recur s' b
      | e => e
    let splitTwo (s : St σ) (a b : Nat) : Res (St σ) :=
      match recur s a with
      | .ok s' => recur s' b
      | e => e
    if n = 1 then .ok s
    else
    let (isPP, os) := o.pp s.os n
    let s := { s with os := os }
    match isPP with
    | some (p, k) =>
      -- factor_impl(p, .., &mut facs); then `facs` is appended k times
      match factorImpl o fuel p alg { s with factors := [] } with
      | .ok s' => .ok { s' with factors := s.factors ++ replicateAppend k s'.factors }
      | e => e
    | none =>
    let (isP, os) := o.prime s.os n
    let s := { s with os := os }
    if isP then .ok (s.push n)
    else
    -- automatic strategy: returns either a finished result or the real algorithm
    let auto : Res (St σ) ⊕ (Algo × St σ) :=
      if alg = .auto then
        -- rho below 52 bits
        let r1 : Res (St σ) ⊕ St σ :=
          if bits n < 52 then
            let (r, os) := o.rho s.os n
            let s := { s with os := os }
            match r with
            | some (as, b) => .inl (splitMany s as b)
            | none => .inr s
          else .inr s
        match r1 with
        | .inl r => .inl r
        | .inr s =>
        -- P-1 once, above 64 bits
        let r2 : Res (St σ) ⊕ St σ :=
          if bits n > 64 ∧ !s.pm1done then
            let (r, os) := o.pm1q s.os n
            let s := { s with os := os, pm1done := true }
            match r with
            | some (as, b) => .inl (splitMany s as b)
            | none => .inr s
          else .inr s
        match r2 with
        | .inl r => .inl r
        | .inr s =>
        let (r, os) := o.ecmauto s.os n
        let s := { s with os := os }
        match r with
        | some (a, b) => .inl (splitTwo s a b)
        | none => .inr (if bits n ≤ 80 then Algo.ecm128 else Algo.siqs, s)
      else .inr (alg, s)
    match auto with
    | .inl r => r
    | .inr (algReal, s) =>
    -- returns `.inl result` when the arm returns, `.inr s` when control falls out of the match
    let arm : Res (St σ) ⊕ St σ :=
      match algReal with
      | .auto => .inl (.panic "unreachable!(impossible)")
      | .pm1 =>
        let (r, os) := o.pm1 s.os n
        let s := { s with os := os }
        match r with
        | some (as, b) => .inl (splitMany s as b)
        | none => .inl (.ok (s.giveup n))
      | .ecm =>
        let (r, os) := o.ecm s.os n
        let s := { s with os := os }
        match r with
        | some (a, b) => .inl (splitTwo s a b)
        | none => .inl (.ok (s.giveup n))
      | .ecm128 =>
        let (r, os) := o.ecm128 s.os n
        let s := { s with os := os }
        match r with
        | some (a, b) => .inl (splitTwo s a b)
        | none => .inl (.ok (s.giveup n))
      | .qs64 =>
        if bits n > 64 then .inl (.panic "assert!(n.bits() <= 64)")
        else
        let (r, os) := o.qs64 s.os n
        let s := { s with os := os }
        match r with
        | some (a, b) => .inl (splitTwo s a b)
        | none => .inl (.ok (s.giveup n))
      | .rho =>
        if bits n > 64 then .inl (.panic "assert!(n.bits() <= 64)")
        else
        let (r, os) := o.rho s.os n
        let s := { s with os := os }
        match r with
        | some (as, b) => .inl (splitMany s as b)
        | none => .inl (.ok (s.giveup n))
      | .squfof =>
        if bits n > 64 then .inl (.panic "assert!(n.bits() <= 64)")
        else
        let (r, os) := o.squfof s.os n
        let s := { s with os := os }
        match r with
        | some (a, b) => .inl (splitTwo s a b)
        | none => .inl (.ok (s.giveup n))
      | .qs | .mpqs | .siqs => .inr s
    match arm with
    | .inl r => r
    | .inr s =>
    let (ab, os) := o.abort s.os n
    let s := { s with os := os }
    if ab then .ok (s.giveup n)
    else
    if algReal ≠ .qs ∧ algReal ≠ .mpqs ∧ algReal ≠ .siqs then .panic "unreachable!(impossible)"
    else
    let (divs, os) := o.sieve s.os algReal n
    let s := { s with os := os }
    match divs with
    | .unexpected d =>
      if d = 0 then .panic "division by zero (n / d)"
      else splitTwo s d (n / d)
    | .divs [] => .ok (s.giveup n)
    | .divs ds =>
      match combineDivs [n] ds with
      | .panic e => .panic e
      | .fuel => .fuel
      | .ok facs =>
        -- final loop over facs
        let step (s : St σ) (f : Nat) : Res (St σ) :=
          if f = n then .ok (s.giveup f)
          else
            let (isP, os) := o.prime s.os f
            let s := { s with os := os }
            if !isP then recur s f else .ok (s.push f)
        bindList step facs s

open Ymq.Gen.Primality in
/-- trial division by the 46 small primes: `(nred, factors)` -/
def trialDivideBy (fuel : Nat) : List Nat → Nat → List Nat → Nat × List Nat
  | [], nred, fs => (nred, fs)
  | p :: ps, nred, fs =>
    -- inner `loop`: divide while divisible (fuel bounds the multiplicity; 1024 suffices below 2^1024)
    let rec go : Nat → Nat → List Nat → Nat × List Nat
      | 0, nred, fs => (nred, fs)
      | k + 1, nred, fs => if nred % p = 0 then go k (nred / p) (fs ++ [p]) else (nred, fs)
    let (nred', fs') := go fuel nred fs
    trialDivideBy fuel ps nred' fs'

inductive Out
  | ok (l : List Nat)
  | failure                 -- Err(FactoringFailure)
  | panic (site : String)
  | fuel
  deriving Repr

/-- insertion sort (`factors.sort()`), kept elementary for proofs -/
def insertSorted (x : Nat) : List Nat → List Nat
  | [] => [x]
  | y :: ys => if x ≤ y then x :: y :: ys else y :: insertSorted x ys

def sortNat : List Nat → List Nat
  | [] => []
  | x :: xs => insertSorted x (sortNat xs)

/-- `assert_eq!(*n, factors.iter().product())` then `factors.sort()`; `Uint` products wrap mod 2^1024 -/
def checkProduct (n : Nat) (factors : List Nat) : Out :=
  if n % U ≠ factors.prod % U then .panic "assert_eq!(*n, factors.iter().product())"
  else .ok (sortNat factors)

/-- `check_factors` followed by `sort` -/
def checkFactors (o : Oracle σ) (os : σ) (n : Nat) (factors : List Nat) : Out :=
  match factors with
  | [p] =>
    if n ≠ p then .panic "assert_eq!(n, p)"
    else if !(o.prime os p).1 then .failure
    else checkProduct n factors
  | _ => checkProduct n factors

open Ymq.Gen.Primality in
/-- `factor(n, alg, prefs)` -/
def factor (o : Oracle σ) (fuel : Nat) (n : Nat) (alg : Algo) (os : σ) : Out :=
  if n = 0 then .ok [0]
  else if bits n > 500 then .failure      -- refused up front (64 * MINT_WORDS - 12 bits: the documented limit)
  else
    let (nred, fs) := trialDivideBy 1100 smallPrimes n []
    match factorImpl o fuel nred alg { os := os, factors := fs, pm1done := false, giveups := [] } with
    | .panic e => .panic e
    | .fuel => .fuel
    | .ok s => checkFactors o s.os n s.factors

end Ymq.Factor
