/-
Model of `qsieve64::qsieve(n: u64, v)` (src/qsieve64.rs:18-162): the hard-coded small quadratic
sieve behind the selector `Qs64`, from the top of the function down to the list `rels` handed to
`relations::final_step`, and the few lines after that call.

Conventions (see Ymq/Model/Relations.lean, whose outcome monad `M = Except Err` is reused):
* `u64`/`i64`/`u32`/`u8`/`usize` values are `Nat`/`Int`; every `+ - *` that can overflow or
  underflow in the checked profile is an explicit `.overflow` (`chkI64`, explicit tests),
  every `as` cast an explicit wrap (`toI64`, `% W32`, `% 256`);
* assertions, division by zero, index errors are `.panic`; a `none` of the sub-models
  `Arith.sqrtMod`, `Dividers.new`, `Dividers.divmod64`, `Dividers.modi64` (property C08: any panic
  site inside those routines) is lifted to `.panic`;
* `.fuel`: a loop of the model ran out of fuel. For `addLoop` this never happens (theorem); for the
  trial-division loop `divLoop` it happens exactly when `v = 0`, where the REAL loop
  `loop { (q, r) = divmod64(v); if r == 0 { v = q; exp += 1 } else { break } }` never terminates
  (`0 / p = 0` remainder `0` for ever; in the checked profile `exp += 1` would overflow after 2^64
  rounds). The driver prints `.fuel` as `hang`.
* `arith::isqrt = num_integer::sqrt` is the specification function `Arith.isqrt` (floor square root,
  C08 `isqrt_spec`).
* The multiplier `k` is an INPUT: `select_multiplier` chooses it with `f64` arithmetic that is not
  modelled. Its integer part guarantees `1 ≤ k < 30` and `k·n < 2^64` (`nk` is built by repeated
  `checked_add` and the loop breaks on overflow before a larger `k` can be selected).
* `FBase::new64`: the three parallel vectors `primes`, `sqrts`, `divs` are pushed together, so the
  model keeps one list of entries `(p, r, div)`; `primes[idx]`, `sqrts[idx]`, `divs[idx]` cannot be
  out of range. `idx_by_log`/`revidx` are only read by `fb.idx`, which `Relations.fbIdx` models.
* the `HashMap` `larges` is an association list (never iterated, only `get`/`insert` of an absent
  key); `dummy_rset.combine` is `Relations.combine` (C11) with modulus `n`.
* the sieve interval `Vec<u8>` is an `Array Nat`; it is all zero at the start of every block
  (`vec![0u8; ..]`, then `interval.fill(0)` at the end of every block that does not `break`).
* `extras` (an `i32` statistics counter printed in debug mode, at most 64·32768 increments) and the
  `eprintln!` lines are not modelled.
The kernel vectors of `final_step` are an input (the solvers are property C14), as in C11.
No Mathlib import: linked into the native driver.
-/
import Ymq.Gen.Primality
import Ymq.Model.Arith
import Ymq.Model.Dividers
import Ymq.Model.Relations

namespace Ymq.Qsieve64
open Ymq.Relations (M Err Relation W64 I63 W32 toI64 toU64 bitlen alookup combine finalStep)
open Ymq.Dividers (Div)

def liftO {α : Type} : Option α → M α
  | some a => pure a
  | none => throw .panic

/-- a checked `i64` result -/
def chkI64 (x : Int) : M Int :=
  if -(I63 : Int) ≤ x ∧ x < (I63 : Int) then pure x else throw .overflow

/-! ### `FBase::new64` (src/fbase.rs:82-106) -/

structure FbEntry where
  p : Nat
  r : Nat
  div : Div
  deriving Repr

/-- `for &p in &SMALL_PRIMES { if let Some(r) = sqrt_mod(n, p) { push p, r, Dividers::new(p) } }` -/
def new64Loop (nk : Nat) : List Nat → M (List FbEntry)
  | [] => pure []
  | p :: ps => do
    let r ← liftO (Arith.sqrtMod W64 nk p)
    match r with
    | none => new64Loop nk ps
    | some r => do
      let d ← liftO (Dividers.new (p % W32))                  -- p as u32
      let rest ← new64Loop nk ps
      pure ({ p := p % W32, r := r % W32, div := d } :: rest)

def new64 (nk : Nat) : M (List FbEntry) := do
  let fb ← new64Loop nk Ymq.Gen.Primality.smallPrimes
  match fb.getLast? with
  | none => throw .panic                                      -- primes[primes.len() - 1]
  | some e => if 2 * 128 > e.p then pure fb else throw .panic -- assert!(2 * REVIDX_STEP > ..)

/-! ### set-up: everything before `let mut interval` -/

structure Ctx where
  n : Nat
  nk : Nat
  nsqrt : Nat
  b : Nat
  c : Nat
  bsize : Nat                                                 -- block_size
  fb : List FbEntry
  deriving Repr

inductive Setup
  | early (a b : Nat)                                         -- `return Some((a, b))` before the sieve
  | run (c : Ctx)

/-- `maxlarge` -/
def maxlarge : Nat := 5000

def setup (n k : Nat) : M Setup := do
  let s0 := Arith.isqrt n
  if s0 * s0 ≥ W64 then throw .overflow                       -- nsqrt * nsqrt
  else if n = s0 * s0 then pure (.early s0 s0)
  else if n * k ≥ W64 then throw .overflow                    -- n * k as u64
  else do
    let nk := n * k
    let fb ← new64 nk
    let s := Arith.isqrt nk
    if s * s ≥ W64 then throw .overflow
    else if nk = s * s ∧ k = 0 then throw .panic              -- nsqrt / k
    else if nk = s * s ∧ s / k * s ≥ W64 then throw .overflow
    else if nk = s * s ∧ n = s / k * s then pure (.early (s / k) s)
    else if 2 * s ≥ W64 then throw .overflow                  -- 2 * nsqrt
    else if nk < s * s then throw .overflow                   -- nk - nsqrt * nsqrt
    else
      pure (.run { n := n, nk := nk, nsqrt := s, b := 2 * s, c := nk - s * s,
                   bsize := if bitlen n ≤ 50 then 4096 else 16384, fb := fb })

/-! ### the sieve of one block -/

/-- `while off < interval.len() { interval[off] += logp; off += p }` (fuel = `interval.len()`) -/
def addLoop (logp p : Nat) : Nat → Nat → Array Nat → M (Array Nat)
  | 0, off, iv => if off < iv.size then throw .fuel else pure iv
  | f + 1, off, iv =>
    if off < iv.size then
      let s := iv.getD off 0 + logp
      if s ≥ 256 then throw .overflow                         -- u8 `+=`
      else addLoop logp p f (off + p) (iv.setIfInBounds off s)
    else pure iv

/-- one `rt` of `for rt in [r, p - r]` -/
def sieveRoot (c : Ctx) (offset : Int) (e : FbEntry) (logp rt : Nat) (iv : Array Nat) :
    M (Array Nat) := do
  let a ← chkI64 ((rt : Int) - offset)                        -- rt as i64 - offset
  let a ← chkI64 (a - toI64 c.nsqrt)                          -- - nsqrt as i64
  let off ← liftO (Dividers.modi64 e.div a)
  addLoop logp e.p iv.size off iv

def sievePrime (c : Ctx) (offset : Int) (e : FbEntry) (iv : Array Nat) : M (Array Nat) :=
  if e.p ≤ 3 then pure iv
  else if e.p < e.r then throw .overflow                      -- p - r
  else do
    let logp := Dividers.bitlen e.p                           -- 32 - leading_zeros(p) as u8
    let iv1 ← sieveRoot c offset e logp e.r iv
    sieveRoot c offset e logp (e.p - e.r) iv1

def sieveAll (c : Ctx) (offset : Int) : List FbEntry → Array Nat → M (Array Nat)
  | [], iv => pure iv
  | e :: t, iv => do
    let iv1 ← sievePrime c offset e iv
    sieveAll c offset t iv1

/-! ### candidates -/

/-- the inner `loop` of the trial division by one prime: returns (v, exp) -/
def divLoop (d : Div) : Nat → Nat → Nat → M (Nat × Nat)
  | 0, _, _ => throw .fuel
  | f + 1, v, e => do
    let qr ← liftO (Dividers.divmod64 d v)
    if qr.2 = 0 then divLoop d f qr.1 (e + 1) else pure (v, e)

/-- `for (pidx, &p) in primes.iter().enumerate()` -/
def trialLoop : List FbEntry → Nat → List (Int × Nat) → M (Nat × List (Int × Nat))
  | [], v, fs => pure (v, fs)
  | e :: t, v, fs => do
    let ve ← divLoop e.div 65 v 0
    trialLoop t ve.1 (if ve.2 > 0 then fs ++ [((e.p : Int), ve.2)] else fs)

/-- `if v < 0 { v = -v }` -/
def absI64 (v : Int) : M Int := if v < 0 then chkI64 (-v) else pure v

/-- body of `if sz >= target as u8` up to the construction of `rel`;
`none` = `continue` (cofactor too large) -/
def candidate (c : Ctx) (offset : Int) (i : Nat) : M (Option Relation) := do
  let x ← chkI64 ((i : Int) + offset)
  let u ← chkI64 (toI64 c.nsqrt + x)
  let xb ← chkI64 (x + toI64 c.b)
  let m ← chkI64 (xb * x)
  let v ← chkI64 (m - toI64 c.c)
  let va ← absI64 v
  let cf ← trialLoop c.fb (toU64 va) (if v < 0 then [(-1, 1)] else [])
  if cf.1 ≥ maxlarge then pure none
  else pure (some { x := u.natAbs, cofactor := cf.1, cyclelen := 1, factors := cf.2 })

structure St where
  rels : List Relation
  larges : List (Nat × Relation)
  deriving Repr

/-- "Process relation" -/
def process (c : Ctx) (rel : Relation) (st : St) : M St :=
  if rel.cofactor = 1 then pure { st with rels := st.rels ++ [rel] }
  else
    match alookup rel.cofactor st.larges with
    | some r0 => do
      let rr ← combine c.n rel r0
      pure { st with rels := st.rels ++ [rr] }
    | none => pure { st with larges := (rel.cofactor, rel) :: st.larges }

/-- `n.bits() / 2 + 16 - maxlarge.bits() - 2` (u32), then `as u8` -/
def targetOf (n : Nat) : M Nat :=
  let t := bitlen n / 2 + 16
  if t < bitlen maxlarge then throw .overflow
  else if t - bitlen maxlarge < 2 then throw .overflow
  else pure ((t - bitlen maxlarge - 2) % 256)

/-- `for (i, &sz) in interval.iter().enumerate()` -/
def scanLoop (c : Ctx) (offset : Int) (target : Nat) : List Nat → Nat → St → M St
  | [], _, st => pure st
  | sz :: t, i, st =>
    if sz ≥ target then do
      let r ← candidate c offset i
      match r with
      | none => scanLoop c offset target t (i + 1) st
      | some rel => do
        let st1 ← process c rel st
        scanLoop c offset target t (i + 1) st1
    else scanLoop c offset target t (i + 1) st

/-- `offset = blk * block_size` with `blk = -1, 1, -3, 3, ...` -/
def blockOffset (c : Ctx) (blk : Nat) : Int :=
  (if blk % 2 = 0 then -((blk : Int) + 1) else (blk : Int)) * (c.bsize : Int)

def runBlock (c : Ctx) (blk : Nat) (st : St) : M St := do
  let offset := blockOffset c blk
  let iv ← sieveAll c offset c.fb (Array.replicate (2 * c.bsize) 0)
  let target ← targetOf c.n
  scanLoop c offset target iv.toList 0 st

/-- `for blk in 0..64` with the stop rule `if rels.len() > primes.len() + 8 { break }` -/
def blockLoop (c : Ctx) : List Nat → St → M St
  | [], st => pure st
  | blk :: t, st => do
    let st1 ← runBlock c blk st
    if st1.rels.length > c.fb.length + 8 then pure st1 else blockLoop c t st1

inductive Outcome
  | early (a b : Nat)
  | rels (fb : List FbEntry) (rels : List Relation)

/-- `qsieve` down to the arguments of `relations::final_step` -/
def qsRels (n k : Nat) : M Outcome := do
  let s ← setup n k
  match s with
  | .early a b => pure (.early a b)
  | .run c => do
    let st ← blockLoop c (List.range 64) { rels := [], larges := [] }
    pure (.rels c.fb st.rels)

/-- `qsieve(n, v)` with multiplier `k`, kernel vectors `kernel` and `crate::pseudoprime = isPrime` -/
def qsieve (n k : Nat) (kernel : List (List Nat)) (isPrime : Nat → Bool) : M (Option (Nat × Nat)) := do
  let o ← qsRels n k
  match o with
  | .early a b => pure (some (a, b))
  | .rels fb rels => do
    let res ← finalStep n (fb.map (·.p)) rels kernel isPrime
    match res.2.2.head? with
    | none => pure none
    | some d =>
      let p := d % W64                                        -- p.low_u64()
      if p = 0 then throw .panic                              -- n % p
      else if n % p ≠ 0 then throw .panic                     -- assert_eq!(n % p, 0)
      else pure (some (p, n / p))

end Ymq.Qsieve64
