/-
Model of `Dividers` (src/arith.rs:147-356, `struct Dividers` and its `impl`): division by a fixed 30-bit number through a
precomputed reciprocal.

Conventions (see Ymq/Model/Mg64.lean): machine words are `Nat`; every wrap of the Rust code is
an explicit `% 2^w`; every panic site of the *checked* profile (assert, debug_assert,
overflow/underflow, shift amount ≥ width, division by zero) returns `none`.
A multiword operand (`BUint<N>`) is its little-endian digit list (`Ymq.Limbs`).
No Mathlib import: this file is linked into the native driver.
-/
import Ymq.Model.Limbs

namespace Ymq.Dividers
open Ymq.Limbs (W val ofNat)

/-- the struct `Dividers` (field types: p,r64,m16 : u32; m64 : u64; s64,s16 : u16) -/
structure Div where
  p : Nat
  r64 : Nat
  m64 : Nat
  s64 : Nat
  s16 : Nat
  m16 : Nat
deriving Repr, DecidableEq

/-- `u128::BITS - u128::leading_zeros(x)`: the bit length of `x` (0 for 0). -/
def bitlen (x : Nat) : Nat := if x = 0 then 0 else Nat.log2 x + 1

/-- `Dividers::new(p)`, `p : u32`. -/
def new (p : Nat) : Option Div :=
  if p / 2 ^ 30 ≠ 0 then none                       -- assert!(p >> 30 == 0)
  else if p = 2 then
    some { p := 2, m64 := 2 ^ 63, r64 := 0, s64 := 0, m16 := 1, s16 := 1 }
  else if p = 0 then none                           -- (1 << 127) / 0
  else
    let m127 := 2 ^ 127 / p
    let sz := bitlen m127
    if sz < 64 then none                            -- sz - 64 underflows
    else
      let top := m127 / 2 ^ (sz - 64) % W           -- (m127 >> (sz - 64)) as u64
      if top + 1 ≥ W then none                      -- + 1 overflows
      else
        let m64 := top + 1
        let r64 := (W - 1) % p + 1                  -- (u64::MAX % p) + 1
        if sz > 127 then none                       -- 127 - sz underflows (p = 1)
        else
          let s64 := 127 - sz
          if s64 ≥ 64 then none                     -- debug_assert!(s64 < 64)
          else
            let m := (m64 - 1) / 2 ^ s64
            let mp := (W - m * p % W) % W           -- (!m.wrapping_mul(p)).wrapping_add(1)
            if mp ≠ r64 then none                   -- panic!("incorrect divider")
            else
              let top16 := m127 / 2 ^ (sz - 17) % 2 ^ 32   -- (m127 >> (sz - 17)) as u32
              if top16 + 1 ≥ 2 ^ 32 then none
              else
                some { p := p, m64 := m64, r64 := r64 % 2 ^ 32, s64 := s64 % 2 ^ 16,
                       m16 := top16 + 1, s16 := (127 + 17 - sz) % 2 ^ 16 }

/-- `modu16(n)`, `n : u16`. -/
def modu16 (d : Div) (n : Nat) : Option Nat :=
  if d.p = 2 then some (n % 2)
  else
    let nm := n * d.m16                             -- u64 product
    if nm ≥ W then none
    else if d.s16 ≥ 64 then none                    -- shift amount
    else
      let q := nm / 2 ^ d.s16 % 2 ^ 16              -- as u16
      let qp := q * (d.p % 2 ^ 16)                  -- q * self.p as u16
      if qp ≥ 2 ^ 16 then none
      else if n < qp then none
      else some (n - qp)

/-- `divmod64(n)`, `n : u64`. -/
def divmod64 (d : Div) (n : Nat) : Option (Nat × Nat) :=
  let p := d.p
  let nm := n * d.m64                               -- u128 product of two u64: no overflow
  let himul := nm / W % W
  if d.s64 ≥ 64 then none
  else
    let q := himul / 2 ^ d.s64
    let qp := q * p
    if qp ≥ W then none
    else if qp > n then
      if q = 0 then none
      else if p < qp - n then none
      else some (q - 1, p - (qp - n))
    else some (q, n - qp)

/-- `modu63(n)`, `n : u64` with the top bit clear. -/
def modu63 (d : Div) (n : Nat) : Option Nat :=
  if n / 2 ^ 63 ≠ 0 then none                       -- debug_assert!(n >> 63 == 0)
  else
    let p := d.p
    let himul := n * d.m64 / W % W
    if d.s64 ≥ 64 then none
    else
      let q := himul / 2 ^ d.s64
      let qp := q * p
      if qp ≥ W then none
      else if n < qp then none
      else some (n - qp)

/-- `modi64(n)`, `n : i64`. -/
def modi64 (d : Div) (n : Int) : Option Nat :=
  if n < 0 then
    match divmod64 d (-n).toNat with                -- n.unsigned_abs()
    | none => none
    | some (_, m) =>
      if m = 0 then some 0
      else if d.p < m then none
      else some (d.p - m)
  else modu63 d n.toNat

/-- the shared tail of `mod_u128` and of one Horner step of `mod_uint`:
`pr = hiw * r64 + low; hi = (pr >> 64) * r64; (res, c) = lo.overflowing_add(hi);
 if c { res += r64 }`. -/
def fold64 (d : Div) (hiw low : Nat) : Option Nat :=
  let pr := hiw * d.r64 + low                       -- u128
  if pr ≥ W * W then none
  else
    let hi := (pr / W % W) * d.r64                  -- u64 product
    if hi ≥ W then none
    else
      let lo := pr % W
      let sum := lo + hi
      if sum ≥ W then
        let res := sum % W
        if res + d.r64 ≥ W then none else some (res + d.r64)
      else some sum

/-- `mod_u128(n)`, `n : u128`. -/
def modU128 (d : Div) (n : Nat) : Option Nat :=
  let n0 := n % W
  let n1 := n / W % W
  if n1 = 0 then (divmod64 d n0).map (·.2)
  else
    match fold64 d n1 n0 with
    | none => none
    | some nred => (divmod64 d nred).map (·.2)

/-- the `for i in 2..=N` loop of `mod_uint`; the list holds `nd[N-2], nd[N-3], …, nd[0]`. -/
def modUintLoop (d : Div) : Nat → List Nat → Option Nat
  | pol, [] => some pol
  | pol, w :: ws =>
    if pol = 0 then modUintLoop d w ws
    else
      match fold64 d pol w with
      | none => none
      | some res => modUintLoop d res ws

/-- `mod_uint(n)`; `ds` = `n.digits()` (little endian, `N` words). -/
def modUint (d : Div) (ds : List Nat) : Option Nat :=
  match ds.reverse with
  | [] => none                                      -- nd[N - 1] with N = 0
  | top :: rest =>
    if d.p = 2 then some (ds.headD 0 % 2)
    else
      match modUintLoop d top rest with
      | none => none
      | some pol => (divmod64 d pol).map (·.2)

/-- the loop of `divmod_uint_inplace`, most significant digit first.
Returns the quotient digits (most significant first) and the final carry. -/
def divmodLoop (d : Div) (m64' : Nat) : Nat → List Nat → Option (List Nat × Nat)
  | carry, [] => some ([], carry)
  | carry, dg :: rest =>
    if dg = 0 ∧ carry = 0 then
      match divmodLoop d m64' carry rest with
      | none => none
      | some (qs, c) => some (0 :: qs, c)
    else
      match divmod64 d dg with
      | none => none
      | some (q, r) =>
        if q ≠ dg / d.p then none                   -- debug_assert!(q == d / self.p)
        else if carry ≠ 0 then
          let cm := carry * m64'
          if cm ≥ W then none
          else if q + cm ≥ W then none
          else
            let cr := carry * d.r64
            if cr ≥ W then none
            else if cr + r ≥ W then none
            else
              match divmod64 d (cr + r) with
              | none => none
              | some (cq, cr') =>
                if q + cm + cq ≥ W then none
                else
                  match divmodLoop d m64' cr' rest with
                  | none => none
                  | some (qs, c) => some ((q + cm + cq) :: qs, c)
        else
          match divmodLoop d m64' r rest with
          | none => none
          | some (qs, c) => some (q :: qs, c)

/-- `divmod_uint_inplace(digits)`: new digits (little endian) and the remainder. -/
def divmodUintInplace (d : Div) (ds : List Nat) : Option (List Nat × Nat) :=
  if d.m64 = 0 then none                            -- self.m64 - 1
  else if d.s64 ≥ 64 then none
  else
    match divmodLoop d ((d.m64 - 1) / 2 ^ d.s64) 0 ds.reverse with
    | none => none
    | some (qs, c) => some (qs.reverse, c)

/-- `divmod_uint(n)`; `ds` = `n.digits()`. The `BUint` operators `>>`, `%` of the p = 2 branch
and of the final debug assertion are taken as arithmetic on the value. -/
def divmodUint (d : Div) (ds : List Nat) : Option (List Nat × Nat) :=
  if d.p = 2 then some (ofNat ds.length (val ds / 2), ds.headD 0 % 2)
  else
    match divmodUintInplace d ds with
    | none => none
    | some (qs, rem) =>
      if d.p = 0 then none
      else if val ds % d.p % W ≠ rem then none      -- debug_assert!((n % p).low_u64() == rem)
      else some (qs, rem)

end Ymq.Dividers
