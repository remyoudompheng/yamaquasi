/-
Model of the private 128-bit Montgomery type `M128` (src/ecm128.rs:262-364).

`u128` values are `Nat`s; wrapping operations reduce modulo `W2 = 2^128` explicitly, checked
operations (`+`, `-`, `+=` on u128 in the checked profile) return `none` when they leave
`[0, 2^128)`. When the modulus fits in 64 bits the code delegates to the 64-bit routines
(`mg_2adic_inv`, `mg_mul`: Ymq.Mg64) and the Montgomery multiplier is 2^64 instead of 2^128.
-/
import Ymq.Model.Mg64

namespace Ymq.M128
open Ymq.Mg64 (W)

/-- 2^128 -/
def W2 : Nat := 340282366920938463463374607431768211456

/-- `u128::trailing_zeros` -/
def tz128 (n : Nat) : Nat := if n = 0 then 128 else Ymq.Mg64.tzAux 128 n

/-- the `loop` of `M128::inv_2adic` (same iteration as `mg_2adic_inv`, on 128 bits; the update is
`x = x.wrapping_add(1 << rem.trailing_zeros())` since /repo commit "fix: M128::inv_2adic ...") -/
def invLoop : Nat → Nat → Nat → Option Nat
  | 0, _, _ => none
  | f + 1, n, x =>
    let nx := n * x % W2                  -- n.wrapping_mul(x)
    if nx = 0 then none                   -- `- 1` underflows
    else
      let rem := nx - 1
      if rem = 0 then some x
      else invLoop f n ((x + 2 ^ tz128 rem) % W2)

/-- `M128::inv_2adic(n)` -/
def inv2adic (n : Nat) : Option Nat :=
  if n % 2 ≠ 1 then none                  -- debug_assert!(n % 2 == 1)
  else
    match Ymq.Mg64.mg2adicInv (n % W) with   -- mg_2adic_inv(n as u64)
    | none => none
    | some x0 =>
      if n / W = 0 then some x0           -- n >> 64 == 0
      else
        match invLoop 130 n x0 with
        | none => none
        | some x =>
          if n * x % W2 ≠ 1 then none     -- assert!
          else if x = 0 then none         -- 1 + !x overflows
          else some (W2 - x)

/-- `M128::add(n, x, y)` -/
def add (n x y : Nat) : Option Nat :=
  if n < y then none                      -- n - y underflows
  else
    let my := n - y
    if x ≥ my then some (x - my)
    else if x + y ≥ W2 then none else some (x + y)

/-- `M128::sub(n, x, y)` -/
def sub (n x y : Nat) : Option Nat :=
  if x ≥ y then some (x - y)
  else if n < y then none
  else if x + (n - y) ≥ W2 then none else some (x + (n - y))

/-- the nested `mul256(x, y)`: (low, high) 128-bit halves of the 256-bit product -/
def mul256 (x y : Nat) : Option (Nat × Nat) :=
  let x0 := x % W; let x1 := x / W % W
  let y0 := y % W; let y1 := y / W % W
  let xy0 := x0 * y0
  let xy1 := x1 * y1
  let mid0 := x0 * y1 + x1 * y0           -- overflowing_add
  let mid := mid0 % W2
  let c := mid0 / W2
  let xy1 := if c ≠ 0 then xy1 + W else xy1          -- xy1 += 1 << 64
  if xy1 ≥ W2 then none
  else
    let s := xy0 + mid * W % W2                      -- xy0.overflowing_add(mid.wrapping_shl(64))
    let xy0 := s % W2
    let c := s / W2
    let xy1 := xy1 + mid / W                          -- xy1 += mid >> 64
    if xy1 ≥ W2 then none
    else
      let xy1 := if c ≠ 0 then xy1 + 1 else xy1
      if xy1 ≥ W2 then none else some (xy0, xy1)

/-- `M128::mul(n, ninv, x, y)` -/
def mul (n ninv x y : Nat) : Option Nat :=
  if n / W = 0 then
    Ymq.Mg64.mgMul (n % W) (ninv % W) (x % W) (y % W)   -- mg_mul(n as u64, ninv as u64, x as u64, y as u64)
  else
    match mul256 x y with
    | none => none
    | some (xy0, xy1) =>
      if xy0 = 0 then some xy1
      else
        let m := xy0 * ninv % W2                      -- xy0.wrapping_mul(ninv)
        match mul256 m n with
        | none => none
        | some (_, mn1) =>
          if n < mn1 + 1 then none                    -- n - mn1 - 1 underflows
          else
            let d := n - mn1 - 1
            if xy1 ≥ d then some (xy1 - d)
            else if xy1 + mn1 + 1 ≥ W2 then none else some (xy1 + mn1 + 1)

/-- `for _ in 0..7 { r2 = mul(r2, r2) }` -/
def sqLoop (n ninv : Nat) : Nat → Nat → Option Nat
  | 0, r => some r
  | t + 1, r =>
    match mul n ninv r r with
    | none => none
    | some r' => sqLoop n ninv t r'

/-- `M128::r_r2(n, ninv)` : (R mod n, R² mod n) with R = 2^64 if n < 2^64 else 2^128 -/
def rR2 (n ninv : Nat) : Option (Nat × Nat) :=
  if n = 0 then none                      -- `% n`: division by zero
  else
    let r := (W2 - n) % W2 % n            -- 0_u128.wrapping_sub(n) % n
    if n / W = 0 then some (W % n, r)
    else
      match add n r r with
      | none => none
      | some two =>
        match sqLoop n ninv 7 two with
        | none => none
        | some r2 => some (r, r2)

end Ymq.M128
