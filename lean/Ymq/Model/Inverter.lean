/-
Model of `Inverter` (src/arith.rs:382-486, `struct Inverter` and its `impl`): Kaliski "almost inverse" followed by a multiplication
with a precomputed `-2^-(8j+8) mod p`.

`u32`/`i64`/`u64` semantics are explicit; every panic site of the checked profile
(assert, debug_assert, overflow, shift amount) returns `none`; the `loop` takes fuel
(`none` when it runs out). No Mathlib import.
-/
import Ymq.Model.Dividers

namespace Ymq.Inverter
open Ymq.Limbs (W)
open Ymq.Dividers (Div divmod64)

/-- 2^32 -/
def W32 : Nat := 4294967296

/-- `trailing_zeros` of a non-zero word of at most `fuel` bits. -/
def tzAux : Nat → Nat → Nat
  | 0, _ => 0
  | f + 1, n => if n % 2 = 1 then 0 else 1 + tzAux f (n / 2)

/-- `u32::trailing_zeros` (also `i64::trailing_zeros` of a value with |x| < 2^32, x ≠ 0). -/
def tz (n : Nat) : Nat := tzAux 64 n

/-- body of `for k in 0..=64` in `Inverter::new`; the table is built by appending, which is what
the writes `invpow2[k / 8 - 1] = p - x` at k = 8, 16, …, 64 amount to. -/
def newLoop (p : Nat) : Nat → Nat → Nat → List Nat → Option (List Nat)
  | 0, _, _, tab => some tab
  | f + 1, k, x, tab =>
    let tab? : Option (List Nat) :=
      if k ≥ 8 ∧ k % 8 = 0 then (if p < x then none else some (tab ++ [p - x])) else some tab
    match tab? with
    | none => none
    | some tab' =>
      if x % 2 = 0 then newLoop p f (k + 1) (x / 2) tab'
      else if x + p ≥ W32 then none
      else newLoop p f (k + 1) ((x + p) / 2) tab'

/-- `Inverter::new(p)`: the array `invpow2`. -/
def new (p : Nat) : Option (List Nat) :=
  if p = 2 then some (List.replicate 8 0)
  else if p / 2 ^ 28 ≠ 0 then none                  -- debug_assert!(p >> 28 == 0)
  else newLoop p 65 0 1 []

/-- code after the `loop` of `invert`. -/
def finish (tab : List Nat) (d : Div) (u r k : Nat) : Option Nat :=
  if u ≠ 1 then none                                -- debug_assert!(u == 1)
  else if r > 2 * d.p then none                     -- debug_assert!(r <= 2 * p)
  else
    let powidx := k / 8
    if powidx ≥ 8 then none                         -- debug_assert!(powidx < 8)
    else
      let r' := r * 2 ^ (8 - k % 8) % W             -- (r as u64) << (8 - k % 8)
      let n := r' * tab.getD powidx 0
      if n ≥ W then none
      else (divmod64 d n).map (fun qr => qr.2 % W32)

/-- the `loop` of `invert` -/
def invLoop (tab : List Nat) (d : Div) (x : Nat) : Nat → Nat → Nat → Nat → Nat → Nat → Option Nat
  | 0, _, _, _, _, _ => none
  | f + 1, u, v, r, s, k =>
    if u = v then finish tab d u r k
    else
      let ad := if u > v then u - v else v - u      -- |diff|
      let dtz := tz ad
      let k' := k + dtz
      if k' ≥ W32 then none
      else if dtz = 0 then none                     -- debug_assert!(dtz > 0)
      else if dtz ≥ 32 then none                    -- u32 shift amount
      else if r + s ≥ W32 then none                 -- r + s
      else
        let u' := if u > v then ad / 2 ^ dtz else u
        let v' := if u > v then v else ad / 2 ^ dtz
        let r' := if u > v then r + s else r * 2 ^ dtz % W32
        let s' := if u > v then s * 2 ^ dtz % W32 else r + s
        -- debug_assert!(((r as u64) * (x as u64) + ((u as u64) << k)) % div.p as u64 == 0)
        if k' ≥ 64 then none
        else
          let t := u' * 2 ^ k' % W
          if r' * x + t ≥ W then none
          else if d.p = 0 then none
          else if (r' * x + t) % d.p ≠ 0 then none
          else invLoop tab d x f u' v' r' s' k'

/-- `Inverter::invert(x, div)`, `x : u32`, with `fuel` loop iterations allowed. -/
def invertFuel (fuel : Nat) (tab : List Nat) (d : Div) (x : Nat) : Option Nat :=
  if d.p = 2 then some (x % 2)
  else if d.p / 2 ^ 28 ≠ 0 then none                -- debug_assert!(div.p >> 28 == 0)
  else if x = 0 then none                           -- assert!(x != 0)
  else
    let vtz := if x % 2 = 0 then tz x else 0
    -- (v, r) = (v >> vtz, r << vtz) with r = 0; k += vtz
    invLoop tab d x fuel d.p (x / 2 ^ vtz) 0 1 vtz

/-- `invert` with the fuel the theorems show to be sufficient: `u + v` strictly decreases. -/
def invert (tab : List Nat) (d : Div) (x : Nat) : Option Nat :=
  invertFuel (d.p + x + 1) tab d x

end Ymq.Inverter
