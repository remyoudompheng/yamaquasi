/-
Checked machine arithmetic used by the generated parameter models (Ymq/Gen/Params.lean,
Ymq/Gen/Stage2.lean).  Import-free: linked into the native driver.

Values are `Nat`; an operation returns `none` exactly where the Rust expression would not
produce its mathematical value in the type it is computed in:

* `cadd w`, `cmul w`  : result ≥ 2^w  (overflow: panic in the checked profile, wrap in release);
* `csub`              : negative result (same);
* `cdiv`, `cmod`      : division by zero (panic in both profiles);
* `cshl w a s`        : s ≥ w (panic in the checked profile) **or** a·2^s ≥ 2^w.  The second case
                        is stricter than Rust, which silently drops the high bits in both
                        profiles: a parameter formula that loses bits is treated as a failure.
                        The C20 theorems show that it never happens on the domain, and the
                        correspondence run would show a disagreement if it did;
* `cshr w a s`        : s ≥ w;
* `ccast w a`         : a ≥ 2^w on a narrowing `as` cast (again stricter than Rust, which truncates).

Signed types (`i64`, `i32`) are modelled by their non-negative half: width 63 resp. 31.
-/
namespace Ymq.Checked

def cadd (w a b : Nat) : Option Nat := if a + b < 2 ^ w then some (a + b) else none
def csub (a b : Nat) : Option Nat := if b ≤ a then some (a - b) else none
def cmul (w a b : Nat) : Option Nat := if a * b < 2 ^ w then some (a * b) else none
def cdiv (a b : Nat) : Option Nat := if b = 0 then none else some (a / b)
def cmod (a b : Nat) : Option Nat := if b = 0 then none else some (a % b)
def cshl (w a s : Nat) : Option Nat :=
  if s < w ∧ a * 2 ^ s < 2 ^ w then some (a * 2 ^ s) else none
def cshr (w a s : Nat) : Option Nat := if s < w then some (a / 2 ^ s) else none
def ccast (w a : Nat) : Option Nat := if a < 2 ^ w then some a else none

/-- bit length: `T::BITS - x.leading_zeros()` -/
def bitlen (n : Nat) : Nat := if n = 0 then 0 else Nat.log2 n + 1

/-- `x.leading_zeros()` for a `w`-bit `x` -/
def clz (w n : Nat) : Nat := w - bitlen n

/-- binary-search integer square root: after the loop on bits `k-1 .. 0`,
`r² ≤ n < (r+1)²` whenever `n < 4^k` (spec: `Ymq.Checked.isqrt_spec`). -/
def isqrtAux : Nat → Nat → Nat → Nat
  | 0, r, _ => r
  | k + 1, r, n => if (r + 2 ^ k) * (r + 2 ^ k) ≤ n then isqrtAux k (r + 2 ^ k) n else isqrtAux k r n

/-- `⌊√n⌋` for `n < 2^64`. -/
def isqrt (n : Nat) : Nat := isqrtAux 32 0 n

/-- `(x as f64).sqrt() as uN` for an integer `x`.
`x as f64` is exact below 2^53 and IEEE-754 `sqrt` is correctly rounded.  Let `r = ⌊√x⌋`.  If `x`
is a perfect square the result is exactly `r`.  Otherwise `√x ≤ √((r+1)² - 1) < r + 1 - 1/(2r+2)`,
while the spacing of doubles just below `r + 1 ≤ 2^27` is at most `2^-26`; rounding `√x` up to
`r + 1` would need `1/(2r+2) ≤ 2^-27`, i.e. `r + 1 ≥ 2^26`, i.e. `x ≥ 2^52 - 2^27`.  The arguments
that occur are `256·(bits + 40) < 2^18` (a margin of more than ten orders of magnitude), and the
`as uN` cast truncates, so the value is `⌊√x⌋ = isqrt x` (`isqrt_spec`).  Arguments `≥ 2^53` are
refused.  The equality with the real code is checked for every size by the correspondence run. -/
def csqrtF64 (x : Nat) : Option Nat := if x < 2 ^ 53 then some (isqrt x) else none

/-- square-and-multiply `a^e mod m`, `e < 2^fuel` (spec: `Ymq.Checked.powmod_eq`). -/
def powmodAux : Nat → Nat → Nat → Nat → Nat → Nat
  | 0, acc, _, _, _ => acc
  | f + 1, acc, b, e, m =>
    if e = 0 then acc
    else powmodAux f (if e % 2 = 1 then acc * b % m else acc) (b * b % m) (e / 2) m

def powmod (a e m : Nat) : Nat := powmodAux 64 (1 % m) (a % m) e m

/-- `slice.partition_point(pred)` for a slice that is partitioned by `pred` (all `true` before all
`false`): the length of the longest prefix satisfying `pred`.  That the tables are partitioned
(keys strictly increasing) is itself a C20 theorem. -/
def partitionPoint {α} (p : α → Bool) : List α → Nat
  | [] => 0
  | x :: xs => if p x then 1 + partitionPoint p xs else 0

def absDiff (a b : Nat) : Nat := if a ≤ b then b - a else a - b

/-- with `nearestRow`: `iter().min_by(|x, y| (x.0 - b2).abs().total_cmp(&(y.0 - b2).abs()))` for `b2 = num/den`,
`den > 0`, on rows with integral first component: the first row minimising `|row.0·den − num|`
(`Iterator::min_by` keeps the earlier element on ties). -/
def nearestAux (num den : Nat) : (Nat × Nat × Nat) → List (Nat × Nat × Nat) → (Nat × Nat × Nat)
  | best, [] => best
  | best, r :: rs =>
    if absDiff (r.1 * den) num < absDiff (best.1 * den) num then nearestAux num den r rs
    else nearestAux num den best rs

def nearestRow (table : List (Nat × Nat × Nat)) (num den : Nat) : Option (Nat × Nat × Nat) :=
  match table with
  | [] => none                       -- `.unwrap()` of `None`
  | r :: rs => some (nearestAux num den r rs)

/-- `o` is a value and the value satisfies `p` ("the Rust expression does not fail and ..."). -/
def Holds {α} (o : Option α) (p : α → Prop) : Prop := ∃ a, o = some a ∧ p a

instance {α} (o : Option α) (p : α → Prop) [DecidablePred p] : Decidable (Holds o p) :=
  match o with
  | none => isFalse (fun ⟨_, h, _⟩ => by cases h)
  | some a =>
    if h : p a then isTrue ⟨a, rfl, h⟩
    else isFalse (fun ⟨b, hb, hp⟩ => by cases hb; exact h hp)

theorem Holds.elim {α} {o : Option α} {p : α → Prop} (h : Holds o p) : ∃ a, o = some a ∧ p a := h

end Ymq.Checked
