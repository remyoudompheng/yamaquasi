/-
Model of `RelationSet::walk_doubles` as the code is since fix e402536: an explicit stack of
`WalkFrame`s instead of the mutual recursion with `combine_double` (src/relations.rs:336-401,
522-581), line by line: `walk_frame`, the `while let Some(top) = stack.last_mut()` loop with the
position in the four loops of a frame, `combine_double_step` (the walk from a newly available large
prime is returned as a request), `combine_double` = `combine_double_step` + the requested walk, and
`add` on top of them. Conventions as in Ymq/Model/Relations.lean (`M = Except Err`); the `while`
loop takes fuel = number of iterations (theorem `C11.walk_iter_bound`: a stated bound suffices).
The head of the list `stack` is the top of the Rust `Vec` (`last_mut`/`push`/`pop`).
No Mathlib import: linked into the native driver.
-/
import Ymq.Model.Relations

namespace Ymq.Relations

/-- `struct WalkFrame` -/
structure WalkFrame where
  root : Nat
  pqs : List (Nat × Nat)        -- keys (root, q), collected when the frame was created
  qps : List (Nat × Nat)        -- reverse keys (root, p)
  pos : Nat                     -- position in: combine pqs, combine qps, walk pqs, walk qps
  deriving DecidableEq, Repr

/-- `walk_frame(root)` -/
def walkFrame (root : Nat) (s : Store) : M WalkFrame :=
  -- `root + 1`: u32 overflow panic in the checked profile (release: wraps, `range` panics unless empty)
  if root + 1 ≥ W32 then throw .panic
  else pure { root := root,
              pqs := (s.doubles.filter (fun e => e.1.1 = root)).map (fun e => e.1),
              qps := s.doublesRev.filter (fun e => e.1 = root),
              pos := 0 }

/-- `combine_double_step`: (ok, requested walk, store) -/
def combineDoubleStep (r : Relation) (p q : Nat) (s : Store) : M (Bool × Option Nat × Store) :=
  if p = q then do
    let s1 ← addCycle { r with cofactor := 1, factors := r.factors ++ [(toI64 p, 2)] } s
    pure (true, none, s1)
  else
    match alookup p s.partials, alookup q s.partials with
    | some bp, some bq => do
      let rp ← unpack bp
      let rq ← unpack bq
      let r1 ← combine s.n r rp
      let r2 ← combine s.n r1 rq
      let s1 ← addCycle r2 s
      if rp.cyclelen + r.cyclelen < rq.cyclelen then do
        let rpq ← combine s.n r rp
        if rpq.cofactor ≠ q then throw .panic                 -- assert_eq!(rpq.cofactor, q)
        else do
          let b ← pack rpq
          pure (true, none, s1.setPartial q b)
      else if rq.cyclelen + r.cyclelen < rp.cyclelen then do
        let rqp ← combine s.n r rq
        if rqp.cofactor ≠ p then throw .panic                 -- assert_eq!(rqp.cofactor, p)
        else do
          let b ← pack rqp
          pure (true, none, s1.setPartial p b)
      else pure (true, none, s1)
    | some bp, none => do
      let rp ← unpack bp
      let rq ← combine s.n r rp
      if rq.cofactor ≠ q then throw .panic                    -- assert_eq!(rq.cofactor, q)
      else do
        let b ← pack rq
        pure (true, some (q % W32), { s with nCombined12 := s.nCombined12 + 1 }.setPartial q b)
    | none, some bq => do
      let rq ← unpack bq
      let rp ← combine s.n r rq
      if rp.cofactor ≠ p then throw .panic                    -- assert_eq!(rp.cofactor, p)
      else do
        let b ← pack rp
        pure (true, some (p % W32), { s with nCombined12 := s.nCombined12 + 1 }.setPartial p b)
    | none, none => pure (false, none, s)

/-- what one iteration of the `while` loop asks for -/
inductive StepRes
  | pop                                   -- `stack.pop()`
  | next (x : Option Nat)                 -- the value of `next`
  deriving DecidableEq, Repr

/-- the two combining arms: `(p, q)` is the key of `doubles` -/
def removeStep (p q : Nat) (s : Store) : M (StepRes × Store) :=
  match alookup (p, q) s.doubles with
  | none => pure (.next none, s)                              -- `None => None`
  | some blob => do
    let s1 := { s with doubles := aerase (p, q) s.doubles, doublesRev := serase (q, p) s.doublesRev }
    let r ← unpack blob
    let res ← combineDoubleStep r p q s1
    if res.1 then pure (.next res.2.1, res.2.2) else throw .panic      -- assert!(ok)

/-- the body of the `while` loop for the frame `top` (with `pos` as read before `top.pos += 1`) -/
def frameStep (top : WalkFrame) (s : Store) : M (StepRes × Store) :=
  let npq := top.pqs.length
  let nqp := top.qps.length
  let pos := top.pos
  if pos < npq then
    match top.pqs[pos]? with
    | none => throw .panic
    | some (p, q) => removeStep p q s
  else if pos < npq + nqp then
    match top.qps[pos - npq]? with
    | none => throw .panic
    | some (q, p) => removeStep p q s
  else if pos < 2 * npq + nqp then
    match top.pqs[pos - npq - nqp]? with
    | none => throw .panic
    | some (p, q) => if p ≠ top.root then throw .panic else pure (.next (some q), s)
  else if pos < 2 * npq + 2 * nqp then
    match top.qps[pos - 2 * npq - nqp]? with
    | none => throw .panic
    | some (q, p) => if q ≠ top.root then throw .panic else pure (.next (some p), s)
  else pure (.pop, s)

/-- the `while let Some(top) = stack.last_mut()` loop; fuel = iterations -/
def walkIter : Nat → List WalkFrame → Store → M Store
  | _, [], s => pure s
  | 0, _ :: _, _ => throw .fuel
  | fuel + 1, top :: rest, s => do
    let r ← frameStep top s
    match r.1 with
    | .pop => walkIter fuel rest r.2
    | .next none => walkIter fuel ({ top with pos := top.pos + 1 } :: rest) r.2
    | .next (some x) => do
      let f ← walkFrame x r.2
      walkIter fuel (f :: { top with pos := top.pos + 1 } :: rest) r.2

/-- `walk_doubles(root)`, explicit stack -/
def walkStack (fuel root : Nat) (s : Store) : M Store := do
  let f ← walkFrame root s
  walkIter fuel [f] s

/-- `combine_double` = `combine_double_step` + the requested walk -/
def combineDoubleStack (fuel : Nat) (r : Relation) (p q : Nat) (s : Store) : M (Bool × Store) := do
  let res ← combineDoubleStep r p q s
  match res.2.1 with
  | some root => do
    let s1 ← walkStack fuel root res.2.2
    pure (res.1, s1)
  | none => pure (res.1, res.2.2)

/-- number of loop iterations that always suffices (theorem `C11.walk_iter_bound`), in terms of
`L = doubles.len() + doubles_rev.len()` -/
def Store.iterFuel (s : Store) : Nat :=
  let l := s.doubles.length + s.doublesRev.length
  2 * l * l * (l + 1) + 1

/-- `RelationSet::add` over the explicit-stack walk -/
def addStack (r : Relation) (pq : Option (Nat × Nat)) (s : Store) : M Store :=
  if ¬ r.x < s.n then throw .debug
  else if r.cofactor = 1 then addCycle r s
  else if r.cofactor < s.maxlarge then do
    let res ← combineSingle r { s with nPartials := s.nPartials + 1 }
    if res.1 then pure res.2
    else do
      let b ← pack r
      let s1 := res.2.setPartial r.cofactor b
      if r.cofactor ≥ W32 then throw .panic
      else walkStack s1.iterFuel r.cofactor s1
  else
    match pq with
    | none => pure s
    | some (p, q) =>
      if p ≥ W32 ∨ q ≥ W32 then throw .panic
      else do
        let s0 := { s with nDoubles := s.nDoubles + 1 }
        let res ← combineDoubleStack s0.iterFuel r p q s0
        if res.1 then pure res.2
        else do
          let key := if p < q then (p, q) else (q, p)
          let b ← pack r
          pure { res.2 with doubles := ainsert ltPair key b res.2.doubles,
                            doublesRev := sinsert (key.2, key.1) res.2.doublesRev }

def runHistoryStack : List (Relation × Option (Nat × Nat)) → Store → M Store
  | [], s => pure s
  | (r, pq) :: t, s => do
    let s1 ← addStack r pq s
    runHistoryStack t s1

end Ymq.Relations
