/-
Shared limb library: multiword naturals as little-endian lists of 64-bit words.

This file is the executable half (no Mathlib: it is linked into the native driver); the
lemmas are in `Ymq/Lemmas/Limbs.lean`. It is used by the models of `arith_montgomery`
(C07) and is meant to be reused by the gcd / division / convolution models (C08, C09, C10).

Conventions
* a Rust `[u64; N]` / `&[u64]` is a `List Nat` (index 0 = least significant word); the
  value of a list is `val l = Σ l[i]·W^i`, `W = 2^64`. The functions below are *total* on
  arbitrary `Nat` entries; the lemmas assume `Wf l` (every entry `< W`) where they need it.
* a Rust inner loop `for j in 0..sz { (x[j], carry) = f(x[j], y[j], carry) }` is a structural
  recursion over the zipped lists that returns the list of low words and the final carry.
  Callers cut the operands to `sz` words with `List.take`.
* `u128` intermediate values are plain `Nat`s: on words `a*y + z + c ≤ (W-1)² + 2(W-1) = W² - 1`, so the `u128` cannot wrap.
-/
namespace Ymq.Limbs

/-- 2^64 -/
def W : Nat := 18446744073709551616

/-- value of a little-endian word list: `val [a0, a1, ...] = a0 + W·a1 + W²·a2 + ...` -/
def val : List Nat → Nat
  | [] => 0
  | a :: as => a + W * val as

/-- every entry is a 64-bit word -/
def Wf (l : List Nat) : Prop := ∀ a ∈ l, a < W

/-- executable form of `Wf` -/
def wfb (l : List Nat) : Bool := l.all (fun a => decide (a < W))

/-- `k` zero words -/
def zeros (k : Nat) : List Nat := List.replicate k 0

/-- the `k` low words of `x` (i.e. `x mod W^k`), little endian: `Uint::digits()[..k]` -/
def ofNat : Nat → Nat → List Nat
  | 0, _ => []
  | k + 1, x => x % W :: ofNat k (x / W)

/-- number of 64-bit words of `x` = `(x.bits() + 63) / 64` (0 for x = 0); fuel = `x` suffices -/
def nwordsAux : Nat → Nat → Nat
  | 0, _ => 0
  | f + 1, x => if x = 0 then 0 else 1 + nwordsAux f (x / W)

def nwords (x : Nat) : Nat := nwordsAux 200 x

/-- bitwise complement of every word: `!y[i]` -/
def compl (l : List Nat) : List Nat := l.map (fun y => W - 1 - y)

/-- add-with-carry row: `t = x[i] + y[i] + carry; x[i] = t as u64; carry = t >> 64`
over the common length of the two lists. Returns (low words, final carry). -/
def addc : List Nat → List Nat → Nat → List Nat × Nat
  | x :: xs, y :: ys, c =>
    let t := x + y + c
    let r := addc xs ys (t / W)
    (t % W :: r.1, r.2)
  | _, _, c => ([], c)

/-- subtract-with-borrow row in the form the Rust code uses: `x + !y + carry`
(initial carry 1 gives `x - y`; a final carry 1 means "no borrow"). -/
def subc (xs ys : List Nat) (c : Nat) : List Nat × Nat := addc xs (compl ys) c

/-- multiply-accumulate row: `t = a*y[j] + z[j] + carry; z[j] = t as u64; carry = t >> 64`
over the common length of `ys` and `zs`. Returns (new low words of `z`, final carry). -/
def macRow (a : Nat) : List Nat → List Nat → Nat → List Nat × Nat
  | y :: ys, z :: zs, c =>
    let t := a * y + z + c
    let r := macRow a ys zs (t / W)
    (t % W :: r.1, r.2)
  | _, _, c => ([], c)

/-- add the word `c` into the first word of `l` and ripple the carry upwards
(`overflowing_add` loop). `none` when a non-zero carry leaves the last word. -/
def addWord : List Nat → Nat → Option (List Nat)
  | l, 0 => some l
  | [], _ + 1 => none
  | a :: as, c + 1 =>
    let t := a + (c + 1)
    match addWord as (t / W) with
    | none => none
    | some r => some (t % W :: r)

/-- big-endian lexicographic "less than" (most significant word first):
`for idx in (0..sz).rev() { if x[idx] == n[idx] { continue }; return x[idx] < n[idx] }; false` -/
def ltBE : List Nat → List Nat → Bool
  | x :: xs, n :: ns => if x = n then ltBE xs ns else decide (x < n)
  | _, _ => false

/-- `x < n` on little-endian lists of equal length, scanning from the top word down -/
def ltWords (xs ns : List Nat) : Bool := ltBE xs.reverse ns.reverse

/-- all entries zero -/
def allZero (l : List Nat) : Bool := l.all (fun a => a == 0)

end Ymq.Limbs
