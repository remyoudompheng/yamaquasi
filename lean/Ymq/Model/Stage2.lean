/-
Index structure of the second stages of the group-order methods (C16).

  src/ecm.rs      `ecm_curve`            (lines "ECM stage 2" .. end)      -> `ecmIsGrid`
  src/ecm128.rs   `ecm_curve`            same loops                         -> `ecm128IsGrid`
  src/pp1.rs      `pp1`                  baby/giant Lucas steps             -> `pp1IsGrid`
  src/pollard_pm1.rs `pm1_stage2_polyeval` chirp-z evaluation indices       -> `pm1IsGrid`
  src/pollard_pm1.rs `pm1_impl`          prime walk (b2 <= MULTIEVAL_THRESHOLD) -> `walkCovers`

Only the *sets of exponents that are tested* are modelled here: a stage 2 multiplies together
differences f(i*d1) - f(b) over a grid of giant steps i and baby steps b (f = y-coordinate,
Lucas value V, or power of g); the algebra that turns "l divides a grid value" into "the prime
factor is found" is in the theorems (Lemmas/Stage2Algebra.lean).  The loop bounds are not copied
by hand: they come from Gen/Stage2Arms.lean, which the translator reads from the source text.

`none` = the Rust code panics (assert, index out of range, underflow) for these parameters.
No Mathlib import: this file is linked into the native driver.
-/
import Ymq.Gen.Stage2
import Ymq.Gen.Stage2Arms

namespace Ymq.Stage2
open Ymq.Gen

/-! ### giant steps -/

/-- A giant-step description `(first, pushed, loopLo)`: multiples `first, first+1, ..` of `d1`;
`pushed` of them explicitly and one per iteration of `for _ in loopLo..d2`. -/
def giantCount : Nat × Nat × Nat → Nat → Nat
  | (_, pushed, loopLo), d2 => pushed + (d2 - loopLo)

/-- first giant-step multiplier -/
def giantLo : Nat × Nat × Nat → Nat
  | (first, _, _) => first

/-- exclusive upper end of the giant-step multipliers -/
def giantHi (g : Nat × Nat × Nat) (d2 : Nat) : Nat := giantLo g + giantCount g d2

def isGiant (g : Nat × Nat × Nat) (d2 i : Nat) : Bool := giantLo g ≤ i && i < giantHi g d2

/-! ### ECM (both implementations): `for b in lo..d1/div { if gcd(b, d1) == 1 { bs.push(b) } }` -/

def isEcmBabyOf : Nat × Nat → Nat → Nat → Bool
  | (lo, dv), d1, b => lo ≤ b && b < d1 / dv && Nat.gcd b d1 == 1

/-- `m = i*d1 + b` or `m = i*d1 - b` for a giant step `i` and a baby step `b` (decision by the
residue of `m` modulo `d1`: `b = m % d1` with `i = m / d1`, or `b = d1 - m % d1` with `i = m / d1 + 1`). -/
def symIsGrid (baby : Nat → Bool) (g : Nat × Nat × Nat) (d1 d2 m : Nat) : Bool :=
  (baby (m % d1) && isGiant g d2 (m / d1)) ||
  (baby (d1 - m % d1) && isGiant g d2 (m / d1 + 1))

def ecmIsGrid (d1 d2 m : Nat) : Bool := symIsGrid (isEcmBabyOf Stage2Arms.ecmBaby d1) Stage2Arms.ecmGiant d1 d2 m
def ecm128IsGrid (d1 d2 m : Nat) : Bool := symIsGrid (isEcmBabyOf Stage2Arms.ecm128Baby d1) Stage2Arms.ecm128Giant d1 d2 m

/-- the `assert_eq!(bs[0], 1)` of both routines: `1 < d1/2` (1 is always coprime). -/
def ecmPanics (d1 : Nat) : Bool := !(isEcmBabyOf Stage2Arms.ecmBaby d1 1)

/-! ### P+1: `exp = start` is kept; then `while exp + step < d1/div { exp += step; keep if exp % 3 != 0 && gcd(exp, d1) == 1 }` -/

def isPp1BabyOf : Nat × Nat × Nat → Nat → Nat → Bool
  | (start, step, dv), d1, b =>
    b == start ||
    (start < b && (b - start) % step == 0 && b < d1 / dv && b % 3 != 0 && Nat.gcd b d1 == 1)

def pp1IsGrid (d1 d2 m : Nat) : Bool := symIsGrid (isPp1BabyOf Stage2Arms.pp1Baby d1) Stage2Arms.pp1Giant d1 d2 m

/-- `assert!(d1 % 6 == 0)` -/
def pp1Panics (d1 : Nat) : Bool := d1 % 6 != 0

/-! ### P-1, polynomial evaluation -/

/-- baby steps: `b = start` kept; `while b < d1 { b += step; if b % 3 == 0 || gcd(b, d1) != 1 { continue }; keep }` -/
def isPm1BabyOf : Nat × Nat → Nat → Nat → Bool
  | (start, step), d1, r =>
    r == start ||
    (start < r && (r - start) % step == 0 && r - step < d1 && r % 3 != 0 && Nat.gcd r d1 == 1)

def isPm1Baby (d1 r : Nat) : Bool := isPm1BabyOf Stage2Arms.pm1Baby d1 r

/-- number of baby steps = degree of `P = prod (x - g^r)` -/
def pm1Deg (d1 : Nat) : Nat := ((List.range (d1 + Stage2Arms.pm1Baby.2 + 1)).filter (isPm1Baby d1)).length

/-- `assert!(d1 % 6 == 0)`, `assert!(d2 & (d2-1) == 0)` (underflows for d2 = 0), `negsteps[i]` for
`i < p.len()` needs `p.len() <= d2`, and `p.len() - off` must not underflow (`p.len() = deg + 1`). -/
def pm1PanicsDeg (d1 d2 deg : Nat) : Bool :=
  d1 % 6 != 0 || d2 == 0 || d2 != 2 ^ Nat.log2 d2 || deg + 1 > d2 || deg + 1 < Stage2Arms.pm1ValsOff

/-- The coefficients `z[k]` that are read: `vals = z[p.len() - off ..]` with `vals[0]` overwritten, so
`k` ranges over `[p.len() - off + 1, d2)`; `z[k]` is (a unit times) `P(g^(q*d1))` with
`q + neg + k = d2` (theorem `chirpz_coeff`).  `isQ q`: the multiplier `q` is evaluated. -/
def pm1IsQDeg (d2 deg q : Nat) : Bool :=
  (deg + 1 - Stage2Arms.pm1ValsOff + 1) + q + Stage2Arms.pm1Neg ≤ d2 && 0 < Stage2Arms.pm1Neg + q

/-- `m = |q*d1 - r|` for an evaluated multiplier `q` and a baby step `r`.
Candidates for `r`: `-m mod d1` and that plus `d1` (for `q*d1 - r = m`), `m` and `m + d1` (for `r - q*d1 = m`). -/
def pm1IsGridDeg (d1 d2 deg m : Nat) : Bool :=
  let r0 := (d1 - m % d1) % d1
  [r0, r0 + d1].any (fun r => isPm1Baby d1 r && (m + r) % d1 == 0 && pm1IsQDeg d2 deg ((m + r) / d1)) ||
  [m, m + d1].any (fun r => isPm1Baby d1 r && (r - m) % d1 == 0 && pm1IsQDeg d2 deg ((r - m) / d1))

def pm1IsGrid (d1 d2 m : Nat) : Bool := pm1IsGridDeg d1 d2 (pm1Deg d1) m
def pm1Panics (d1 d2 : Nat) : Bool := pm1PanicsDeg d1 d2 (pm1Deg d1)

/-! ### which primes a stage 2 can catch: `l` divides a grid value -/

/-- `∃ k < n, p k` by a loop (no list is built). -/
def anyBelow (p : Nat → Bool) : Nat → Bool
  | 0 => false
  | n + 1 => p n || anyBelow p n

/-- some positive multiple `k*l <= maxv` of `l` is a grid value -/
def hitsUpTo (isGrid : Nat → Bool) (maxv l : Nat) : Bool :=
  anyBelow (fun k => isGrid ((k + 1) * l)) (maxv / l)

/-- largest value of the symmetric grids: `(hi - 1) * d1 + d1/2` bounds every `i*d1 + b`. -/
def symMax (g : Nat × Nat × Nat) (d1 d2 : Nat) : Nat := giantHi g d2 * d1

def ecmHits (d1 d2 l : Nat) : Bool := hitsUpTo (ecmIsGrid d1 d2) (symMax Stage2Arms.ecmGiant d1 d2) l
def ecm128Hits (d1 d2 l : Nat) : Bool := hitsUpTo (ecm128IsGrid d1 d2) (symMax Stage2Arms.ecm128Giant d1 d2) l
def pp1Hits (d1 d2 l : Nat) : Bool := hitsUpTo (pp1IsGrid d1 d2) (symMax Stage2Arms.pp1Giant d1 d2) l
def pm1Hits (d1 d2 l : Nat) : Bool :=
  let deg := pm1Deg d1
  hitsUpTo (pm1IsGridDeg d1 d2 deg) ((d2 + 1) * d1) l

/-! ### upper ends ("effective B2") -/

/-- ECM / ECM128 / P+1: every `l` coprime to `d1` with `d1/2 < l <= symEff` is a grid value (`ecm_cover`). -/
def symEff (g : Nat × Nat × Nat) (d1 d2 : Nat) : Nat := (giantHi g d2 - 1) * d1 + d1 / 2 - 1

def ecmEff (d1 d2 : Nat) : Nat := symEff Stage2Arms.ecmGiant d1 d2
def ecm128Eff (d1 d2 : Nat) : Nat := symEff Stage2Arms.ecm128Giant d1 d2
def pp1Eff (d1 d2 : Nat) : Nat := symEff Stage2Arms.pp1Giant d1 d2

/-- P-1 polynomial evaluation with `deg` baby steps: every `l` coprime to `d1` with
`1 <= l <= pm1EffDeg` is a grid value (`pm1_cover`). -/
def pm1EffDeg (d1 d2 deg : Nat) : Nat :=
  (d2 - Stage2Arms.pm1Neg - (deg + 2 - Stage2Arms.pm1ValsOff)) * d1 - 1

def pm1Eff (d1 d2 : Nat) : Nat := pm1EffDeg d1 d2 (pm1Deg d1)

/-! ### P-1 prime walk (`b2 <= MULTIEVAL_THRESHOLD`) -/

/-- trial division by every `2 ≤ k ≤ ⌊√n⌋` (`Checked.isqrt`: structural, reduces in the kernel; `n < 2^64`) -/
def isPrimeTD (n : Nat) : Bool := 2 ≤ n && !(anyBelow (fun k => 2 ≤ k && n % k == 0) (Ymq.Checked.isqrt n + 1))

/-- first prime `> n` (fuel: Bertrand) -/
def nextPrimeAux : Nat → Nat → Nat
  | 0, n => n
  | f + 1, n => if isPrimeTD n then n else nextPrimeAux f (n + 1)

def nextPrime (n : Nat) : Nat := nextPrimeAux (n + 2) (n + 1)

/-- The walk multiplies `g^p - 1` for `p = p_prev` (the first prime `> b1`, where stage 1 stopped)
and for every following prime up to and including the first prime `> b2`. -/
def walkCovers (b1 b2 l : Nat) : Bool :=
  isPrimeTD l && nextPrime b1 ≤ l && l ≤ nextPrime (max b2 (nextPrime b1))

/-! ### selection as `pm1_impl`, `pp1`, `ecm_curve` do it (integral B2) -/

/-- what `pm1_impl(n, b1, b2)` tests in stage 2 for a prime `l > b1` -/
def pm1Stage2Hits (b1 b2 l : Nat) : Option Bool :=
  if b2 > Stage2.multievalThreshold then
    match Stage2.pm1Stage2Select b2 1 with
    | none => none
    | some (_, d1, d2) =>
      if pm1Panics d1 d2 then none else some (pm1Hits d1 d2 l)
  else some (walkCovers b1 b2 l)

def pp1Stage2Hits (b2 l : Nat) : Option Bool :=
  match Stage2.stage2Select b2 1 with
  | none => none
  | some (_, d1, d2) => if pp1Panics d1 then none else some (pp1Hits d1 d2 l)

def ecmStage2Hits (b2 l : Nat) : Option Bool :=
  match Stage2.stage2Select b2 1 with
  | none => none
  | some (_, d1, d2) => if ecmPanics d1 then none else some (ecmHits d1 d2 l)

def ecm128Stage2Hits (b2 l : Nat) : Option Bool :=
  match Stage2.stage2Select b2 1 with
  | none => none
  | some (_, d1, d2) => if ecmPanics d1 then none else some (ecm128Hits d1 d2 l)

end Ymq.Stage2
