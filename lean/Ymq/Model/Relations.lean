/-
Model of the relation store and of the final combination step (src/relations.rs):
`Relation`, `Relation::verify`, `RelationSet::{new, add, add_cycle, combine, combine_single,
combine_double, walk_doubles}`, `PackedRelation::{pack, unpack}`, the free functions `combine`
(chunked products), `try_factor`, and the part of `final_step` that turns kernel vectors (an INPUT
here; the kernel solvers are property C14) into divisors.

Conventions
* `Uint` (bnum U1024), `Int` and `num_integer::gcd` are modelled as mathematical `Nat`/`Int`
  arithmetic; a `Uint` subtraction that would underflow is an `.overflow` error. The 1024-bit
  width itself is not modelled (all operands of `*` are `< 2^512` under the stated contracts).
* `u64`/`i64`/`u32` fields are `Nat`/`Int`; every `+`/`*` on them that can overflow in the checked
  profile is an explicit `.overflow` error, every `as` cast is an explicit wrap.
* outcome type `M = Except Err`:
    `.panic`    assert!/assert_eq!/unwrap/index/unreachable!/division by zero (both profiles)
    `.debug`    debug_assert! (checked profile only; the release build goes on)
    `.overflow` arithmetic overflow (checked profile only; the release build wraps)
    `.fuel`     model artefact: recursion fuel exhausted (theorem: never with the fuel `add` uses)
  The driver prints all four as `panic`.
* `HashMap`/`BTreeMap`/`BTreeSet` are association lists kept in KEY ORDER (`BTreeMap::range`
  = `filter` on the ordered list, same iteration order); the `HashMap` is never iterated by the
  code, its order is immaterial.
* usize statistics counters (`n_partials`, ...) are unbounded `Nat`s (they grow by one per call).
No Mathlib import: linked into the native driver.
-/

namespace Ymq.Relations

inductive Err
  | panic | debug | overflow | fuel
  deriving DecidableEq, Repr

abbrev M := Except Err

/-- 2^64 -/
def W64 : Nat := 18446744073709551616
/-- 2^63 -/
def I63 : Nat := 9223372036854775808
/-- 2^32 -/
def W32 : Nat := 4294967296

/-- `v as i64` for a `u64` value -/
def toI64 (v : Nat) : Int := if v < I63 then (v : Int) else (v : Int) - (W64 : Int)

/-- `p as u64` for an `i64` value -/
def toU64 (p : Int) : Nat := (p % (W64 : Int)).toNat

structure Relation where
  x : Nat
  cofactor : Nat
  cyclelen : Nat
  factors : List (Int × Nat)      -- (-1, k) for the sign
  deriving DecidableEq, Repr, Inhabited

/-! ### `Relation::verify` -/

/-- loop of `arith::pow_mod` -/
def powModLoop (p : Nat) : Nat → Nat → Nat → Nat → Nat
  | 0, res, _, _ => res
  | f + 1, res, nn, k =>
    if k = 0 then res
    else powModLoop p f (if k % 2 = 1 then res * nn % p else res) (nn * nn % p) (k / 2)

/-- `pow_mod(b, k, p)` for a 64-bit exponent (`p = 0` is a division by zero: guarded by callers) -/
def powMod (b k p : Nat) : Nat := powModLoop p 64 1 (b % p) k

def verifyLoop (n len : Nat) : List (Int × Nat) → Nat → M Nat
  | [], prod => pure prod
  | (p, k) :: fs, prod =>
    if p = -1 then
      if k % 2 = 1 then
        if n < prod then throw .overflow            -- `n - prod`
        else verifyLoop n len fs (n - prod)
      else verifyLoop n len fs prod
    else if p > 0 ∨ (p = 0 ∧ len = 1) then
      if n = 0 then throw .panic                    -- `% n`
      else verifyLoop n len fs (prod * powMod (toU64 p) k n % n)
    else throw .panic                               -- assert!(p > 0 || ...)

def verify (n : Nat) (r : Relation) : M Bool := do
  let prod ← verifyLoop n r.factors.length r.factors r.cofactor
  if n = 0 then throw .panic
  pure (r.x * r.x % n == prod)

/-! ### `RelationSet::combine` -/

def hasPrime (p : Int) (fs : List (Int × Nat)) : Bool := fs.any (fun f => f.1 == p)

/-- `f.1 += k` on the first entry with prime `p` -/
def bump (p : Int) (k : Nat) : List (Int × Nat) → M (List (Int × Nat))
  | [] => pure []
  | (p', k') :: t =>
    if p' = p then
      if k' + k < W64 then pure ((p', k' + k) :: t) else throw .overflow
    else do
      let t' ← bump p k t
      pure ((p', k') :: t')

/-- the `'iter2` loop -/
def mergeFactors : List (Int × Nat) → List (Int × Nat) → M (List (Int × Nat))
  | acc, [] => pure acc
  | acc, (p, k) :: t =>
    if hasPrime p acc then do
      let acc' ← bump p k acc
      mergeFactors acc' t
    else mergeFactors (acc ++ [(p, k)]) t

def combine (n : Nat) (r1 r2 : Relation) : M Relation := do
  let factors ← mergeFactors r1.factors r2.factors
  if r2.cofactor = 0 then throw .panic                        -- r1.cofactor % r2.cofactor
  else if r1.cofactor % r2.cofactor = 0 then
    if n = 0 then throw .panic
    else if r1.cyclelen + r2.cyclelen < W64 then
      pure { x := r1.x * r2.x % n, cofactor := r1.cofactor / r2.cofactor,
             cyclelen := r1.cyclelen + r2.cyclelen,
             factors := factors ++ [(toI64 r2.cofactor, 2)] }
    else throw .overflow
  else if r1.cofactor = 0 then throw .panic                   -- r2.cofactor % r1.cofactor
  else if r2.cofactor % r1.cofactor ≠ 0 then throw .panic     -- assert!
  else if n = 0 then throw .panic
  else if r1.cyclelen + r2.cyclelen < W64 then
    pure { x := r1.x * r2.x % n, cofactor := r2.cofactor / r1.cofactor,
           cyclelen := r1.cyclelen + r2.cyclelen,
           factors := factors ++ [(toI64 r1.cofactor, 2)] }
  else throw .overflow

/-! ### `PackedRelation` -/

/-- `64 - leading_zeros(v)` -/
def bitlen (v : Nat) : Nat := if v = 0 then 0 else Nat.log2 v + 1

def lebLen (v : Nat) : Nat := max 1 ((bitlen v + 6) / 7)

/-- continuation bytes `j = len-m .. len-1` (flag 0x80 set) -/
def lebCont (v : Nat) : Nat → List Nat
  | 0 => []
  | m + 1 => ((v >>> (7 * m)) % 128 + 128) :: lebCont v m

/-- one integer, most significant 7-bit group first, only the first byte has the high bit clear -/
def lebEnc (v : Nat) : List Nat :=
  ((v >>> (7 * (lebLen v - 1))) % 128) :: lebCont v (lebLen v - 1)

/-- the decoding loop of `unpack`; `first` = (`i == 0`) -/
def lebDec : List Nat → Nat → Bool → List Nat
  | [], cur, _ => [cur]
  | b :: bs, cur, first =>
    if b < 128 then
      if first then lebDec bs b false else cur :: lebDec bs b false
    else lebDec bs (cur * 128 % W64 + b % 128) false

def packFactors : List (Int × Nat) → M (List Nat)
  | [] => pure []
  | (p, k) :: t =>
    if p = -1 then
      if k % 2 = 0 then packFactors t
      else do
        let l ← packFactors t
        pure (0 :: l)
    else if ¬ (p > 0 ∧ p < (W32 : Int) ∧ k > 0) then throw .panic
    else
      let p' : Nat := if p = 2 then 1 else p.toNat
      if p' % 2 ≠ 1 then throw .panic
      else do
        let l ← packFactors t
        if k > 1 then pure (2 * p' :: k :: l) else pure (p' :: l)

/-- `x.digits()[..8]` -/
def digits8 (x : Nat) : List Nat :=
  [x % W64, x / W64 % W64, x / W64 ^ 2 % W64, x / W64 ^ 3 % W64, x / W64 ^ 4 % W64,
   x / W64 ^ 5 % W64, x / W64 ^ 6 % W64, x / W64 ^ 7 % W64]

def packInts (r : Relation) : M (List Nat) := do
  let l ← packFactors r.factors
  pure (digits8 r.x ++ r.cofactor :: r.cyclelen :: l)

def encInts : List Nat → List Nat
  | [] => []
  | v :: t => lebEnc v ++ encInts t

/-- `PackedRelation::pack` : the blob as a list of bytes -/
def pack (r : Relation) : M (List Nat) := do
  let ints ← packInts r
  pure (encInts ints)

/-- factor decoding loop; `pend = some p` : the next integer is the exponent of `p` -/
def unpackFactors : List Nat → Option Int → M (List (Int × Nat))
  | [], none => pure []
  | [], some _ => throw .panic                       -- ints[idx + 1] out of range
  | v :: t, some p => do
    let l ← unpackFactors t none
    pure ((p, v) :: l)
  | v :: t, none =>
    if v = 0 then do
      let l ← unpackFactors t none
      pure ((-1, 1) :: l)
    else if v % 2 = 1 then do
      let l ← unpackFactors t none
      pure ((toI64 (if v = 1 then 2 else v), 1) :: l)
    else unpackFactors t (some (toI64 (if v = 2 then 2 else v / 2)))

def unpackInts : List Nat → M Relation
  | x0 :: x1 :: x2 :: x3 :: x4 :: x5 :: x6 :: x7 :: cof :: clen :: rest => do
    let fs ← unpackFactors rest none
    pure { x := x0 + x1 * W64 + x2 * W64 ^ 2 + x3 * W64 ^ 3 + x4 * W64 ^ 4 + x5 * W64 ^ 5
                + x6 * W64 ^ 6 + x7 * W64 ^ 7,
           cofactor := cof, cyclelen := clen, factors := fs }
  | _ => throw .panic                                -- unreachable!("corrupted relation data")

/-- `PackedRelation::unpack` -/
def unpack (blob : List Nat) : M Relation := unpackInts (lebDec blob 0 true)

/-! ### ordered association lists -/

def ltPair (a b : Nat × Nat) : Bool := a.1 < b.1 || (a.1 == b.1 && a.2 < b.2)

section AList
variable {κ β : Type} [DecidableEq κ]

def alookup (k : κ) : List (κ × β) → Option β
  | [] => none
  | (k', v) :: t => if k' = k then some v else alookup k t

def aerase (k : κ) (l : List (κ × β)) : List (κ × β) := l.filter (fun e => e.1 ≠ k)

def ainsertOrd (lt : κ → κ → Bool) (k : κ) (v : β) : List (κ × β) → List (κ × β)
  | [] => [(k, v)]
  | (k', v') :: t => if lt k k' then (k, v) :: (k', v') :: t else (k', v') :: ainsertOrd lt k v t

/-- `map.insert(k, v)` (replaces an existing entry; key order kept) -/
def ainsert (lt : κ → κ → Bool) (k : κ) (v : β) (l : List (κ × β)) : List (κ × β) :=
  ainsertOrd lt k v (aerase k l)

end AList

def sinsertOrd (a : Nat × Nat) : List (Nat × Nat) → List (Nat × Nat)
  | [] => [a]
  | b :: t => if ltPair a b then a :: b :: t else b :: sinsertOrd a t

/-- `BTreeSet::insert` -/
def sinsert (a : Nat × Nat) (l : List (Nat × Nat)) : List (Nat × Nat) :=
  sinsertOrd a (l.filter (· ≠ a))

/-- `BTreeSet::remove` -/
def serase (a : Nat × Nat) (l : List (Nat × Nat)) : List (Nat × Nat) := l.filter (· ≠ a)

/-! ### the store -/

structure Store where
  n : Nat
  fbsize : Nat
  maxlarge : Nat
  cycles : List Relation                          -- push order
  partials : List (Nat × List Nat)                 -- `partial`: p ↦ packed relation
  doubles : List ((Nat × Nat) × List Nat)          -- (p, q) ↦ packed relation, key order
  doublesRev : List (Nat × Nat)                    -- (q, p), set order
  nPartials : Nat
  nDoubles : Nat
  nCombined12 : Nat
  nCycles : List Nat                               -- [usize; 8]
  deriving DecidableEq, Repr

/-- `RelationSet::new` -/
def Store.new (n fbsize maxlarge : Nat) : Store :=
  { n, fbsize, maxlarge, cycles := [], partials := [], doubles := [], doublesRev := [],
    nPartials := 0, nDoubles := 0, nCombined12 := 0, nCycles := [0, 0, 0, 0, 0, 0, 0, 0] }

def ltNat (a b : Nat) : Bool := a < b

def Store.setPartial (s : Store) (p : Nat) (b : List Nat) : Store :=
  { s with partials := ainsert ltNat p b s.partials }

def bumpAt : Nat → List Nat → List Nat
  | _, [] => []
  | 0, c :: t => (c + 1) :: t
  | i + 1, c :: t => c :: bumpAt i t

/-- `add_cycle` -/
def addCycle (r : Relation) (s : Store) : M Store :=
  if r.cofactor ≠ 1 then throw .panic                         -- assert_eq!(r.cofactor, 1)
  else if r.cyclelen = 0 then throw .panic                    -- `min(8, 0) - 1`: overflow / index
  else pure { s with nCycles := bumpAt (min 8 r.cyclelen - 1) s.nCycles, cycles := s.cycles ++ [r] }

/-- `combine_single` -/
def combineSingle (r : Relation) (s : Store) : M (Bool × Store) :=
  match alookup r.cofactor s.partials with
  | none => pure (false, s)
  | some blob => do
    let r0 ← unpack blob
    let rr ← combine s.n r r0
    if rr.factors.all (fun f => f.2 % 2 == 0) then pure (false, s)
    else
      match verify s.n rr with                                -- debug_assert!(rr.verify(&self.n))
      | .ok true => do
        let s1 ← addCycle rr s
        if r.cyclelen < r0.cyclelen then do
          let b ← pack r
          pure (true, s1.setPartial r.cofactor b)
        else pure (true, s1)
      | _ => throw .debug

/-- `combine_double`; `walk` is the recursive `walk_doubles` (open recursion over the fuel) -/
def combineDouble (walk : Nat → Store → M Store) (r : Relation) (p q : Nat) (s : Store) :
    M (Bool × Store) :=
  if p = q then do
    let s1 ← addCycle { r with cofactor := 1, factors := r.factors ++ [(toI64 p, 2)] } s
    pure (true, s1)
  else
    match alookup p s.partials, alookup q s.partials with
    | some bp, some bq => do
      let rp ← unpack bp
      let rq ← unpack bq
      let r1 ← combine s.n r rp
      let r2 ← combine s.n r1 rq
      let s1 ← addCycle r2 s
      -- the two u64 sums below cannot overflow: both are bounded by r2.cyclelen, computed above
      if rp.cyclelen + r.cyclelen < rq.cyclelen then do
        let rpq ← combine s.n r rp
        if rpq.cofactor ≠ q then throw .panic
        else do
          let b ← pack rpq
          pure (true, s1.setPartial q b)
      else if rq.cyclelen + r.cyclelen < rp.cyclelen then do
        let rqp ← combine s.n r rq
        if rqp.cofactor ≠ p then throw .panic
        else do
          let b ← pack rqp
          pure (true, s1.setPartial p b)
      else pure (true, s1)
    | some bp, none => do
      let rp ← unpack bp
      let rq ← combine s.n r rp
      if rq.cofactor ≠ q then throw .panic
      else do
        let b ← pack rq
        let s1 ← walk (q % W32) ({ s with nCombined12 := s.nCombined12 + 1 }.setPartial q b)
        pure (true, s1)
    | none, some bq => do
      let rq ← unpack bq
      let rp ← combine s.n r rq
      if rp.cofactor ≠ p then throw .panic
      else do
        let b ← pack rp
        let s1 ← walk (p % W32) ({ s with nCombined12 := s.nCombined12 + 1 }.setPartial p b)
        pure (true, s1)
    | none, none => pure (false, s)

/-- body shared by the two removal loops of `walk_doubles`: `(p, q)` is the key of `doubles` -/
def walkStep (walk : Nat → Store → M Store) (p q : Nat) (s : Store) : M Store :=
  match alookup (p, q) s.doubles with
  | none => pure s                                            -- `else { continue }`
  | some blob => do
    let s1 := { s with doubles := aerase (p, q) s.doubles, doublesRev := serase (q, p) s.doublesRev }
    let r ← unpack blob
    let res ← combineDouble walk r p q s1
    if res.1 then pure res.2 else throw .panic                -- assert!(ok)

def walkLoop1 (walk : Nat → Store → M Store) : List (Nat × Nat) → Store → M Store
  | [], s => pure s
  | (p, q) :: t, s => do
    let s1 ← walkStep walk p q s
    walkLoop1 walk t s1

def walkLoop2 (walk : Nat → Store → M Store) : List (Nat × Nat) → Store → M Store
  | [], s => pure s
  | (q, p) :: t, s => do
    let s1 ← walkStep walk p q s
    walkLoop2 walk t s1

/-- the two trailing loops: `assert_eq!(first, root); self.walk_doubles(second)` -/
def walkRec (walk : Nat → Store → M Store) (root : Nat) : List (Nat × Nat) → Store → M Store
  | [], s => pure s
  | (a, b) :: t, s =>
    if a ≠ root then throw .panic
    else do
      let s1 ← walk b s
      walkRec walk root t s1

/-- `walk_doubles(root)`. Since fix e402536 the code keeps an explicit stack of `WalkFrame`s (one per
call of the former recursive function, same keys collected on entry, same order of its four loops);
the model keeps the recursive formulation, which performs the same steps in the same order. Stack
depth itself is not modelled. -/
def walkDoubles : Nat → Nat → Store → M Store
  | 0, _, _ => throw .fuel
  | fuel + 1, root, s =>
    -- `root + 1`: u32 overflow panic in the checked profile; the release build wraps to 0 and
    -- `BTreeMap::range` then panics (start > end) unless the map is empty. Classified `.panic`
    -- (unreachable inside the contract: `add_no_panic`); `.overflow` is reserved for the u64
    -- exponent / cycle-length counters
    if root + 1 ≥ W32 then throw .panic
    else do
      let pqs := (s.doubles.filter (fun e => e.1.1 = root)).map (fun e => e.1)
      let qps := s.doublesRev.filter (fun e => e.1 = root)
      let s1 ← walkLoop1 (walkDoubles fuel) pqs s
      let s2 ← walkLoop2 (walkDoubles fuel) qps s1
      let s3 ← walkRec (walkDoubles fuel) root pqs s2
      walkRec (walkDoubles fuel) root qps s3

/-- recursion depth that always suffices (theorem `add_no_panic`): every non-leaf call removes a
stored double before recursing -/
def Store.fuel (s : Store) : Nat := s.doubles.length + 1

/-- `RelationSet::add` -/
def add (r : Relation) (pq : Option (Nat × Nat)) (s : Store) : M Store :=
  if ¬ r.x < s.n then throw .debug                            -- debug_assert!(&r.x < &self.n)
  else if r.cofactor = 1 then addCycle r s
  else if r.cofactor < s.maxlarge then do
    let res ← combineSingle r { s with nPartials := s.nPartials + 1 }
    if res.1 then pure res.2
    else do
      let b ← pack r
      let s1 := res.2.setPartial r.cofactor b
      if r.cofactor ≥ W32 then throw .panic                   -- assert!(p >> 32 == 0)
      else walkDoubles s1.fuel r.cofactor s1
  else
    match pq with
    | none => pure s
    | some (p, q) =>
      if p ≥ W32 ∨ q ≥ W32 then throw .panic
      else do
        let s0 := { s with nDoubles := s.nDoubles + 1 }
        let res ← combineDouble (walkDoubles s0.fuel) r p q s0
        if res.1 then pure res.2
        else do
          let key := if p < q then (p, q) else (q, p)
          let b ← pack r
          pure { res.2 with doubles := ainsert ltPair key b res.2.doubles,
                            doublesRev := sinsert (key.2, key.1) res.2.doublesRev }

/-- a history: the store after a sequence of `add`s from `RelationSet::new` -/
def runHistory : List (Relation × Option (Nat × Nat)) → Store → M Store
  | [], s => pure s
  | (r, pq) :: t, s => do
    let s1 ← add r pq s
    runHistory t s1

/-! ### `try_factor` -/

/-- `Uint::bits()` -/
def bits (n : Nat) : Nat := bitlen n

def splitBy (n g : Nat) : M (Option (Nat × Nat)) :=
  let p := g
  let q := n / p
  if p * q ≠ n then throw .panic                              -- assert!(p * q == *n)
  else if ¬ (bits p > 1 ∧ bits q > 1) then throw .panic       -- assert!(p.bits() > 1 && q.bits() > 1)
  else pure (some (p, q))

/-- `try_factor(n, a, b)` (after fix bf2c32c: `a + b = 0` is skipped) -/
def tryFactor (n a b : Nat) : M (Option (Nat × Nat)) :=
  if a + b ≠ n ∧ a + b ≠ 0 ∧ Nat.gcd n (a + b) > 1 then splitBy n (Nat.gcd n (a + b))
  else if a ≠ b then
    if n + a < b then throw .overflow                         -- `n + a - b`
    else if Nat.gcd n (n + a - b) > 1 then splitBy n (Nat.gcd n (n + a - b))
    else pure none
  else pure none

/-! ### `combine` (free function: a = ∏ xs, b² = ∏ p^k) and the tail of `final_step`

`ZmodN::{one, from_int, mul, to_int}` are modelled as exact arithmetic modulo `n` (property C07
proves this of the word-level code for odd `n < 2^512` and reduced operands). -/

/-- `zn.from_int(x)` = `mul(x, r2)`: `ZmodN::mul` has `debug_assert!(x < n)` -/
def fromInt (n x : Nat) : M Nat := if x < n then pure x else throw .debug

/-- `for &x in xs { a = zn.mul(&a, &zn.from_int(x)) }` -/
def prodXs (n : Nat) : List Nat → Nat → M Nat
  | [], a => pure a
  | x :: t, a => do
    let xm ← fromInt n x
    prodXs n t (a * xm % n)

/-- `for _ in 0..k/2` : returns (b, chunk) -/
def chunkLoop (n maxchunk pu : Nat) : Nat → Nat → Nat → M (Nat × Nat)
  | 0, b, chunk => pure (b, chunk)
  | i + 1, b, chunk =>
    let c := chunk * pu
    if c ≥ W64 then throw .overflow
    else if c ≥ maxchunk then do
      let cm ← fromInt n chunk
      chunkLoop n maxchunk pu i (b * cm % n) pu
    else chunkLoop n maxchunk pu i b c

def factorsLoop (n maxchunk : Nat) : List (Int × Nat) → Nat → Nat → M (Nat × Nat)
  | [], b, chunk => pure (b, chunk)
  | (p, k) :: t, b, chunk =>
    if p = -1 then factorsLoop n maxchunk t b chunk
    else if k % 2 ≠ 0 then throw .panic                       -- assert_eq!(k % 2, 0)
    else do
      let bc ← chunkLoop n maxchunk (toU64 p) (k / 2) b chunk
      factorsLoop n maxchunk t bc.1 bc.2

def maxChunk (n : Nat) : Nat := if bits n ≤ 64 then min W32 (n % W64) else W32

def combineAB (n : Nat) (xs : List Nat) (factors : List (Int × Nat)) : M (Nat × Nat) := do
  let a ← prodXs n xs (1 % n)
  let bc ← factorsLoop n (maxChunk n) factors (1 % n) 1
  let cm ← fromInt n bc.2
  pure (a, bc.1 * cm % n)

/-- exponent accumulation for one kernel vector `eq` (indices into `rels`).
`slots` = the primes that have an accumulator (`occs[idx].0`, in index order; `get_index(f)` is the
position of `f` in it). Returns (xs, factors) as passed to `combine`. -/
def slotIndex (f : Int) : List Int → Option Nat
  | [] => none
  | g :: t => if g = f then some 0 else (slotIndex f t).map (· + 1)

def accFactors (slots : List Int) : List (Int × Nat) → List Nat → List (Int × Nat) →
    M (List Nat × List (Int × Nat))
  | [], exps, extra => pure (exps, extra)
  | (f, k) :: t, exps, extra =>
    match slotIndex f slots with
    | some idx =>
      match exps[idx]? with
      | none => throw .panic
      | some e =>
        if e + k < W64 then accFactors slots t (exps.set idx (e + k)) extra
        else throw .overflow
    | none =>
      if k % 2 ≠ 0 then throw .panic                          -- assert!(k % 2 == 0)
      else accFactors slots t exps (extra ++ [(f, k)])

def accRels (slots : List Int) (rels : List Relation) : List Nat → List Nat → List Nat →
    List (Int × Nat) → M (List Nat × List Nat × List (Int × Nat))
  | [], xs, exps, extra => pure (xs, exps, extra)
  | i :: t, xs, exps, extra =>
    match rels[i]? with
    | none => throw .panic                                    -- filt_rels[i]
    | some r => do
      let ee ← accFactors slots r.factors exps extra
      accRels slots rels t (xs ++ [r.x]) ee.1 ee.2

def expFactors : List Int → List Nat → M (List (Int × Nat))
  | f :: fs, e :: es =>
    if e > 0 then
      if e % 2 ≠ 0 then throw .panic                          -- assert!(exp % 2 == 0)
      else do
        let l ← expFactors fs es
        pure ((f, e) :: l)
    else expFactors fs es
  | _, _ => pure []

/-- one iteration of the `for eq in k` loop up to and including `try_factor` -/
def kernelStep (n : Nat) (slots : List Int) (rels : List Relation) (eq : List Nat) :
    M (Nat × Nat × Option (Nat × Nat)) := do
  let acc ← accRels slots rels eq [] (slots.map (fun _ => 0)) []
  let fs ← expFactors slots acc.2.1
  let ab ← combineAB n acc.1 (acc.2.2 ++ fs)
  if ab.1 * ab.1 % n ≠ ab.2 * ab.2 % n then throw .panic       -- assert_eq!((a*a) % n, (b*b) % n)
  else do
    let d ← tryFactor n ab.1 ab.2
    pure (ab.1, ab.2, d)

/-! ### `final_step` around the kernel solver

`finalStep n fb rels kernel isPrime`: `fb` = the primes of the factor base in index order
(`fb.idx(p)` = position), `kernel` = the vectors returned by `kernel_gauss`/`kernel_lanczos` as
lists of indices into the filtered relations (an INPUT: the solvers are property C14),
`isPrime` = `crate::pseudoprime` (property C06). Returns (slots, number of filtered relations,
divisors). -/

/-- `fb.idx(f as u32)` -/
def fbIdx (fb : List Nat) (f : Int) : Option Nat :=
  let v := (f % (W32 : Int)).toNat
  let rec go : List Nat → Nat → Option Nat
    | [], _ => none
    | p :: t, i => if p = v then some i else go t (i + 1)
  go fb 0

def modifyAt {α : Type} (f : α → α) : Nat → List α → List α
  | _, [] => []
  | 0, a :: t => f a :: t
  | i + 1, a :: t => a :: modifyAt f i t

/-- registration of one factor in `occs` -/
def occStep (fb : List Nat) (occs : List (Int × Nat)) (f : Int) (k : Nat) : M (List (Int × Nat)) :=
  if f = -1 then pure (modifyAt (fun o => (-1, if k % 2 = 1 then o.2 + 1 else o.2)) 0 occs)
  else
    match fbIdx fb f with
    | some i => pure (modifyAt (fun o => (f, if k % 2 = 1 then o.2 + 1 else o.2)) (i + 1) occs)
    | none => if k % 2 = 0 then pure occs else throw .panic     -- assert!(k % 2 == 0, ..)

def occFactors (fb : List Nat) : List (Int × Nat) → List (Int × Nat) → M (List (Int × Nat))
  | [], occs => pure occs
  | (f, k) :: t, occs => do
    let o ← occStep fb occs f k
    occFactors fb t o

def occRels (fb : List Nat) : List Relation → List (Int × Nat) → M (List (Int × Nat))
  | [], occs => pure occs
  | r :: t, occs => do
    let o ← occFactors fb r.factors occs
    occRels fb t o

/-- stable insertion for `sort_by_key(|&(_, k)| -(k as i64))` : decreasing count, ties in order -/
def insertOcc (x : Int × Nat) : List (Int × Nat) → List (Int × Nat)
  | [] => [x]
  | y :: t => if y.2 ≥ x.2 then y :: insertOcc x t else x :: y :: t

def sortOccs (l : List (Int × Nat)) : List (Int × Nat) := l.foldl (fun acc x => insertOcc x acc) []

def findPos {α : Type} (p : α → Bool) : List α → Nat → Option Nat
  | [], _ => none
  | a :: t, i => if p a then some i else findPos p t (i + 1)

/-- the closure `get_index` (idxs default to 0; `debug_assert!(occs[i].0 == f)`) -/
def getIndex (fb : List Nat) (occs : List (Int × Nat)) (f : Int) : M (Option Nat) :=
  let look : M (Option Nat) :=
    let i := (findPos (fun o => o.1 == f) occs 0).getD 0
    match occs[i]? with
    | none => throw .panic                                     -- occs[i]
    | some o => if o.1 = f then pure (some i) else throw .debug
  if f = -1 then look
  else match fbIdx fb f with
    | none => pure none
    | some _ => look

/-- one relation of the `'skiprel` loop: `false` = skipped -/
def filterFactors (fb : List Nat) (occs : List (Int × Nat)) (nfactors : Nat) :
    List (Int × Nat) → M Bool
  | [] => pure true
  | (f, k) :: t =>
    if k % 2 = 0 then filterFactors fb occs nfactors t
    else do
      let i ← getIndex fb occs f
      match i with
      | none => throw .panic                                   -- get_index(f).unwrap()
      | some idx => if idx < nfactors then filterFactors fb occs nfactors t else pure false

def filterRels (n : Nat) (fb : List Nat) (occs : List (Int × Nat)) (nfactors : Nat) :
    List Relation → M (List Relation)
  | [] => pure []
  | r :: t => do
    let keep ← filterFactors fb occs nfactors r.factors
    let rest ← filterRels n fb occs nfactors t
    if keep then pure ({ r with x := if r.x ≥ n then r.x % n else r.x } :: rest) else pure rest

def checkRels (n : Nat) : List Relation → M Unit
  | [] => pure ()
  | r :: t =>
    match verify n r with                                      -- debug_assert!(r.verify(n))
    | .ok true => checkRels n t
    | _ => throw .debug

def kernelLoop (n : Nat) (slots : List Int) (rels : List Relation) (isPrime : Nat → Bool) :
    List (List Nat) → List Nat → M (List Nat)
  | [], divs => pure divs
  | eq :: t, divs => do
    let r ← kernelStep n slots rels eq
    match r.2.2 with
    | none => kernelLoop n slots rels isPrime t divs
    | some (p, q) =>
      if isPrime p && isPrime q then pure (divs ++ [p, q])
      else kernelLoop n slots rels isPrime t (divs ++ [p, q])

def insertNat (x : Nat) : List Nat → List Nat
  | [] => [x]
  | y :: t => if x < y then x :: y :: t else if x = y then y :: t else y :: insertNat x t

/-- `sort_unstable(); dedup()` -/
def sortDedup (l : List Nat) : List Nat := l.foldl (fun acc x => insertNat x acc) []

def finalStep (n : Nat) (fb : List Nat) (rels : List Relation) (kernel : List (List Nat))
    (isPrime : Nat → Bool) : M (List Int × Nat × List Nat) := do
  checkRels n rels
  let occs0 ← occRels fb rels ((List.range (fb.length + 1)).map fun _ => ((0 : Int), 0))
  let occs := sortOccs (occs0.filter fun o => o.1 != 0)
  let nfactors := (findPos (fun o => decide (o.2 ≤ 1)) occs 0).getD occs.length
  let filt ← filterRels n fb occs nfactors rels
  -- kernel computation happens here (input)
  if n % 2 = 0 ∨ bits n > 512 then throw .panic               -- ZmodN::new(*n)
  else do
    let slots := occs.map (·.1)
    let divs ← kernelLoop n slots filt isPrime kernel []
    pure (slots, filt.length, sortDedup divs)

end Ymq.Relations
