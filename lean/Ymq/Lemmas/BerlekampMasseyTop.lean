/-
Soundness and completeness of the Berlekamp–Massey model `core`, over `ZMod p`:
* whatever non-empty vector it returns is a connection polynomial of the sequence on the window
  `n/2 ≤ i < n`, of degree at most `n - n/2`, with constant term 1;
* on a sequence with two non-zero terms it returns such a vector if and only if one exists
  (otherwise the run ends in `assert!(u[0] != 0)`), and no other panic site is ever reached.
-/
import Ymq.Lemmas.BerlekampMasseyInit
import Mathlib.Algebra.Polynomial.Div
import Mathlib.Algebra.Polynomial.Degree.Domain
import Mathlib.Algebra.Polynomial.Degree.Lemmas
import Mathlib.Algebra.Field.ZMod
import Mathlib.Algebra.BigOperators.NatAntidiagonal

namespace Ymq.BM
open Polynomial

variable {p : ℕ} {o : Ops} {κ : ZMod p}

/-- `Σ_{j ≤ i} c_j · s_{i-j}` (plain naturals) -/
def convAt (c s : List ℕ) (i : ℕ) : ℕ :=
  ((List.range (i + 1)).map (fun j => c.getD j 0 * s.getD (i - j) 0)).sum

theorem sum_map_range (f : ℕ → ZMod p) (m : ℕ) :
    ((List.range m).map f).sum = ∑ k ∈ Finset.range m, f k := by
  induction m with
  | zero => simp
  | succ m ih => simp [List.range_succ, Finset.sum_range_succ, ih]

theorem convAt_cast (c s : List ℕ) (i : ℕ) :
    ((convAt c s i : ℕ) : ZMod p) = (toPoly p c * toPoly p s).coeff i := by
  unfold convAt
  rw [coeff_mul, Finset.Nat.sum_antidiagonal_eq_sum_range_succ
    (fun a b => (toPoly p c).coeff a * (toPoly p s).coeff b) i, Nat.cast_list_sum, List.map_map,
    sum_map_range]
  apply Finset.sum_congr rfl
  intro k _
  simp only [Function.comp, coeff_toPoly, co, gd, Nat.cast_mul]

theorem core_run [Fact p.Prime] (ok : OpsOK o p κ) (seq : List ℕ) (hr : Red p seq) {i j : ℕ}
    (hij : i < j) (hi : gd seq i ≠ 0) (hj : gd seq j ≠ 0) :
    2 ≤ seq.length ∧ ∃ s', Inv p seq.length (toPoly p seq) s' ∧ s'.df < seq.length / 2 ∧
      core o seq = finish o s'.u := by
  rcases init_cases seq hr with ⟨h0, _⟩ | ⟨_, hz, _⟩ | ⟨k, _, hz, _⟩ | ⟨_, _, s, _, _, _, e, inv, hm, hn⟩
  · exact absurd (gd_of_le seq i (by omega)) hi
  · exact absurd (hz i) hi
  · have h1 : i = k := by by_contra hc; exact hi (hz i hc)
    have h2 : j = k := by by_contra hc; exact hj (hz j hc)
    omega
  · obtain ⟨s', f1, f2, _, f4⟩ := mainLoop_spec ok hn (2 * seq.length) s inv hm
    refine ⟨hn, s', f1, f2, ?_⟩
    simp only [core, e, f4]

theorem gd_eq_zero_of_coeff {l : List ℕ} (hl : Red p l) {j : ℕ} (h : (toPoly p l).coeff j = 0) :
    gd l j = 0 := by
  rw [coeff_toPoly] at h
  exact (cast_eq_zero_of_lt (hl j)).mp h

theorem core_some [Fact p.Prime] (ok : OpsOK o p κ) (seq : List ℕ) (hr : Red p seq) {i j : ℕ}
    (hij : i < j) (hi : gd seq i ≠ 0) (hj : gd seq j ≠ 0) (out : List ℕ)
    (h : core o seq = some out) :
    2 ≤ seq.length ∧ ∃ s' c, Inv p seq.length (toPoly p seq) s' ∧ s'.df < seq.length / 2 ∧
      gd s'.u 0 ≠ 0 ∧ c ≠ 0 ∧ out.length = seq.length ∧ Red p out ∧ gd out 0 = 1 ∧
      toPoly p out = C c * toPoly p s'.u := by
  obtain ⟨hn, s', inv, hdf, e⟩ := core_run ok seq hr hij hi hj
  have hl : 0 < s'.u.length := by rw [inv.lu]; omega
  rw [e] at h
  have hu0 : gd s'.u 0 ≠ 0 := by
    intro hu0; rw [finish_none s'.u hl hu0] at h; simp at h
  obtain ⟨out', c, g1, g2, g3, g4, g5⟩ := finish_some ok s'.u hl inv.ru hu0
  obtain rfl : out' = out := Option.some.inj (g1.symm.trans h)
  refine ⟨hn, s', c, inv, hdf, hu0, ?_, by rw [g2, inv.lu], g3, g4, ?_⟩
  · intro hc0
    have h5 := g5 0
    unfold co at h5
    rw [g4, hc0, zero_mul, Nat.cast_one] at h5
    exact one_ne_zero h5
  · ext k; rw [coeff_C_mul, coeff_toPoly, coeff_toPoly, g5]

theorem core_sound [Fact p.Prime] (ok : OpsOK o p κ) (seq : List ℕ) (hr : Red p seq)
    (out : List ℕ) (h : core o seq = some out) (hne : out ≠ []) :
    out.length = seq.length ∧ Red p out ∧ gd out 0 = 1 ∧
      (∀ j, seq.length - seq.length / 2 < j → gd out j = 0) ∧
      ∀ i, seq.length / 2 ≤ i → i < seq.length → (toPoly p out * toPoly p seq).coeff i = 0 := by
  rcases init_cases seq hr with ⟨_, e⟩ | ⟨_, _, e⟩ | ⟨k, _, _, ⟨_, e⟩ | ⟨_, e⟩⟩ |
      ⟨_, _, _, hij, hi, hj, _⟩
  · simp [core, e] at h
  · simp only [core, e] at h; exact absurd (Option.some.inj h).symm hne
  · simp [core, e] at h
  · simp only [core, e] at h; exact absurd (Option.some.inj h).symm hne
  · obtain ⟨_, s', c, f1, f2, _, _, g2, g3, g4, hP⟩ := core_some ok seq hr hij hi hj out h
    have hdu : s'.du ≤ seq.length - seq.length / 2 := by
      have := f1.b1; have := f1.hm; omega
    refine ⟨g2, g3, g4, fun j hj => gd_eq_zero_of_coeff g3 ?_, fun i hi1 hi2 => ?_⟩
    · rw [hP, coeff_C_mul, coeff_toPoly, co_zero (f1.zu j (by omega)), mul_zero]
    · obtain ⟨a, b, c', _, e1, _, _⟩ := f1.gh
      have hUS : toPoly p s'.u * toPoly p seq = toPoly p s'.f - a * X ^ seq.length := by
        rw [e1]; ring
      rw [hP, mul_assoc, coeff_C_mul, hUS, coeff_sub, coeff_toPoly, coeff_mul_X_pow',
        if_neg (by omega), co_zero (f1.zf i (by omega))]
      simp

theorem natDegree_toPoly_le {l : List ℕ} {d : ℕ} (h : ∀ i, d < i → gd l i = 0) :
    (toPoly p l).natDegree ≤ d := by
  rw [natDegree_le_iff_coeff_eq_zero]
  intro N hN
  rw [coeff_toPoly]
  exact co_zero (h N hN)

/-- Uniqueness of the Padé approximant, the step shared by completeness and minimality.
`F = a X^n + U S` is the final state (`deg U ≤ n - n/2`, `deg F < n/2`); `T` of degree at most
`n - n/2` annihilates `S` on `K ≤ i < n` for some `K ≤ n/2`. With `R` the part of `T S` below `K`,
`T S = R + X^n W`, so `U R - T F = -X^n (U W + T a)` has degree below `n` and vanishes. -/
theorem low_part_cross [Fact p.Prime] {n K : ℕ} (hn : 1 ≤ n / 2) (hK : K ≤ n / 2)
    {S U F a T : (ZMod p)[X]} (e1 : F = a * X ^ n + U * S) (hdU : U.natDegree ≤ n - n / 2)
    (hdF : F.natDegree ≤ n / 2 - 1) (hTd : T.natDegree ≤ n - n / 2)
    (hTa : ∀ i, K ≤ i → i < n → (T * S).coeff i = 0) :
    ∃ R W : (ZMod p)[X], (∀ d, R.coeff d = if d < K then (T * S).coeff d else 0) ∧
      T * F = U * R ∧ U * W + T * a = 0 := by
  have hRc := coeff_sum_monomials (fun i => (T * S).coeff i) K
  generalize (∑ i ∈ Finset.range K, C ((T * S).coeff i) * X ^ i : (ZMod p)[X]) = R at hRc
  obtain ⟨W, hW⟩ : X ^ n ∣ T * S - R := by
    rw [X_pow_dvd_iff]
    intro d hd
    rw [coeff_sub, hRc]
    by_cases h1 : d < K
    · rw [if_pos h1]; ring
    · rw [if_neg h1, hTa d (by omega) hd]; ring
  have key : U * R - T * F = X ^ n * (-(U * W + T * a)) := by
    rw [e1]; linear_combination (-U) * hW
  have hdR : R.natDegree ≤ K - 1 := by
    rw [natDegree_le_iff_coeff_eq_zero]
    intro N hN
    rw [hRc, if_neg (by omega)]
  have hUR : (U * R).natDegree < n := lt_of_le_of_lt natDegree_mul_le (by omega)
  have hTF : (T * F).natDegree < n := lt_of_le_of_lt natDegree_mul_le (by omega)
  have hzero : U * R - T * F = 0 :=
    eq_zero_of_dvd_of_natDegree_lt ⟨_, key⟩ (by
      rw [natDegree_X_pow]; exact lt_of_le_of_lt (natDegree_sub_le _ _) (max_lt hUR hTF))
  refine ⟨R, W, hRc, by linear_combination -hzero, ?_⟩
  rw [hzero] at key
  exact neg_eq_zero.mp ((mul_eq_zero.mp key.symm).resolve_left (pow_ne_zero _ X_ne_zero))

/-- completeness in polynomial form: if some polynomial `T` with `T(0) ≠ 0` and `deg T ≤ n - n/2`
annihilates the window, the run does not end in `assert!(u[0] != 0)`. -/
theorem core_complete [Fact p.Prime] (ok : OpsOK o p κ) (seq : List ℕ) (hr : Red p seq) {i j : ℕ}
    (hij : i < j) (hi : gd seq i ≠ 0) (hj : gd seq j ≠ 0) (T : (ZMod p)[X]) (hT0 : T.coeff 0 ≠ 0)
    (hTd : T.natDegree ≤ seq.length - seq.length / 2)
    (hTa : ∀ i, seq.length / 2 ≤ i → i < seq.length → (T * toPoly p seq).coeff i = 0) :
    ∃ out, core o seq = some out ∧ out ≠ [] := by
  obtain ⟨hn, s', inv, hdf, e⟩ := core_run ok seq hr hij hi hj
  have hl : 0 < s'.u.length := by rw [inv.lu]; omega
  have hu0 : gd s'.u 0 ≠ 0 := by
    intro hu0
    obtain ⟨a, b, c, hc, e1, _, e3⟩ := inv.gh
    have hdu : s'.du ≤ seq.length - seq.length / 2 := by
      have := inv.b1; have := inv.hm; omega
    obtain ⟨_, _, _, _, h2⟩ := low_part_cross (by omega) (le_refl _) e1
      (natDegree_toPoly_le fun N hN => inv.zu N (by omega))
      (natDegree_toPoly_le fun N hN => inv.zf N (by omega)) hTd hTa
    have hU0 : (toPoly p s'.u).coeff 0 = 0 := by rw [coeff_toPoly]; exact co_zero hu0
    have h3 := congrArg (fun P => P.coeff 0) h2
    simp only [coeff_add, mul_coeff_zero, coeff_zero, hU0, zero_mul, zero_add] at h3
    have ha0 : a.coeff 0 = 0 := (mul_eq_zero.mp h3).resolve_left hT0
    have h4 := congrArg (fun P => P.coeff 0) e3
    simp only [coeff_sub, mul_coeff_zero, coeff_C_zero, ha0, hU0, zero_mul, mul_zero,
      sub_zero] at h4
    exact hc h4.symm
  obtain ⟨out, c, g1, g2, _, _, _⟩ := finish_some ok s'.u hl inv.ru hu0
  refine ⟨out, by rw [e, g1], ?_⟩
  intro hnil
  rw [hnil, inv.lu] at g2
  simp at g2
  omega

end Ymq.BM
