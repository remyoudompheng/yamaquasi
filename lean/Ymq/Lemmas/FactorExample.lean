/-
Tiny concrete oracles (state `Unit`) used by the non-vacuity examples of C01/C02/C03/C05.
They know one composite: 47053 = 211 · 223 (both primes lie above the 46 trial-division primes).
-/
import Ymq.Lemmas.FactorTop

namespace Ymq.Factor

deriving instance DecidableEq for Ymq.Factor.Out
deriving instance DecidableEq for Ymq.Factor.Res
deriving instance DecidableEq for Ymq.Factor.St

namespace Toy

def pairAt (m : Nat) : Option (Nat × Nat) := if m = 47053 then some (211, 223) else none
def manyAt (m : Nat) : Option (List Nat × Nat) := if m = 47053 then some ([211], 223) else none

/-- every splitting sub-algorithm knows 47053 = 211·223, the sieves report the divisor 211, the
pseudoprime test accepts exactly 211 and 223, abort is never requested -/
def toy : Oracle Unit where
  pp := fun s _ => (none, s)
  prime := fun s m => (decide (m = 211 ∨ m = 223), s)
  rho := fun s m => (manyAt m, s)
  pm1q := fun s m => (manyAt m, s)
  ecmauto := fun s m => (pairAt m, s)
  pm1 := fun s m => (manyAt m, s)
  ecm := fun s m => (pairAt m, s)
  ecm128 := fun s m => (pairAt m, s)
  qs64 := fun s m => (pairAt m, s)
  squfof := fun s m => (pairAt m, s)
  abort := fun s _ => (false, s)
  sieve := fun s _ m => (if m = 47053 then .divs [211] else .divs [], s)

theorem manyAt_ok {n : Nat} {as : List Nat} {b : Nat} (h : manyAt n = some (as, b)) :
    SplitOK n as b := by
  unfold manyAt at h
  split at h
  · rename_i hn
    injection h with h
    injection h with h1 h2
    subst hn h1 h2
    refine ⟨by decide, ?_, by decide⟩
    intro a ha
    simp at ha
    omega
  · exact absurd h (by simp)

theorem pairAt_ok {n a b : Nat} (h : pairAt n = some (a, b)) : PairOK n a b := by
  unfold pairAt at h
  split at h
  · rename_i hn
    injection h with h
    injection h with h1 h2
    subst hn h1 h2
    exact ⟨by decide, by decide, by decide⟩
  · exact absurd h (by simp)

theorem toy_ok : OracleOK toy where
  pp := by intro s n p k _ h; simp [toy] at h
  rho := fun _ _ _ _ _ h => manyAt_ok h
  pm1q := fun _ _ _ _ _ h => manyAt_ok h
  pm1 := fun _ _ _ _ _ h => manyAt_ok h
  ecmauto := fun _ _ _ _ _ h => pairAt_ok h
  ecm := fun _ _ _ _ _ h => pairAt_ok h
  ecm128 := fun _ _ _ _ _ h => pairAt_ok h
  qs64 := fun _ _ _ _ _ h => pairAt_ok h
  squfof := fun _ _ _ _ _ h => pairAt_ok h
  sieveDivs := by
    intro s alg n ds _ h d hd
    simp only [toy] at h
    split at h
    · rename_i hn
      injection h with h
      subst hn h
      simp at hd
      subst hd
      exact ⟨by decide, by decide⟩
    · injection h with h
      subst h
      simp at hd
  sieveUnexpected := by
    intro s alg n d _ h
    simp only [toy] at h
    split at h <;> exact absurd h (by simp)

end Toy

variable {σ : Type}

theorem OracleOK.with_prime {o : Oracle σ} (h : OracleOK o) (pr : σ → Nat → Bool × σ) :
    OracleOK { o with prime := pr } :=
  ⟨h.pp, h.rho, h.pm1q, h.pm1, h.ecmauto, h.ecm, h.ecm128, h.qs64, h.squfof, h.sieveDivs,
    h.sieveUnexpected⟩

theorem OracleOK.with_abort {o : Oracle σ} (h : OracleOK o) (ab : σ → Nat → Bool × σ) :
    OracleOK { o with abort := ab } :=
  ⟨h.pp, h.rho, h.pm1q, h.pm1, h.ecmauto, h.ecm, h.ecm128, h.qs64, h.squfof, h.sieveDivs,
    h.sieveUnexpected⟩

namespace Toy

theorem toy_prime_sound : ∀ (t : Unit) (m : Nat), (toy.prime t m).1 = true → Nat.Prime m := by
  intro t m h
  simp only [toy, decide_eq_true_eq] at h
  rcases h with rfl | rfl <;> norm_num

/-- `toy` whose `rho` always fails (still satisfies the contract) -/
def toyNoRho : Oracle Unit := { toy with rho := fun s _ => (none, s) }

theorem toyNoRho_ok : OracleOK toyNoRho :=
  { toy_ok with rho := by intro s n as b _ h; simp [toyNoRho] at h }

/-- `toy` over a counter state: every sub-algorithm call is one tick (so that an abort predicate
can flip "at instant k") -/
def toyN : Oracle Nat where
  pp := fun c _ => (none, c + 1)
  prime := fun c m => (decide (m = 211 ∨ m = 223), c + 1)
  rho := fun c m => (manyAt m, c + 1)
  pm1q := fun c m => (manyAt m, c + 1)
  ecmauto := fun c m => (pairAt m, c + 1)
  pm1 := fun c m => (manyAt m, c + 1)
  ecm := fun c m => (pairAt m, c + 1)
  ecm128 := fun c m => (pairAt m, c + 1)
  qs64 := fun c m => (pairAt m, c + 1)
  squfof := fun c m => (pairAt m, c + 1)
  abort := fun c _ => (false, c + 1)
  sieve := fun c _ m => (if m = 47053 then .divs [211] else .divs [], c + 1)

theorem toyN_ok : OracleOK toyN where
  pp := by intro s n p k _ h; simp [toyN] at h
  rho := fun _ _ _ _ _ h => manyAt_ok h
  pm1q := fun _ _ _ _ _ h => manyAt_ok h
  pm1 := fun _ _ _ _ _ h => manyAt_ok h
  ecmauto := fun _ _ _ _ _ h => pairAt_ok h
  ecm := fun _ _ _ _ _ h => pairAt_ok h
  ecm128 := fun _ _ _ _ _ h => pairAt_ok h
  qs64 := fun _ _ _ _ _ h => pairAt_ok h
  squfof := fun _ _ _ _ _ h => pairAt_ok h
  sieveDivs := fun _ alg n ds hn h => toy_ok.sieveDivs () alg n ds hn h
  sieveUnexpected := fun _ alg n d hn h => toy_ok.sieveUnexpected () alg n d hn h

/-- abort predicate that flips to `true` at tick `k` (and stays) -/
def flipAt (k : Nat) : Nat → Nat → Bool × Nat := fun c _ => (decide (k ≤ c), c + 1)

/-- a NON-monotone abort predicate: true only on even ticks -/
def flicker : Nat → Nat → Bool × Nat := fun c _ => (decide (c % 2 = 0), c + 1)

end Toy

end Ymq.Factor
