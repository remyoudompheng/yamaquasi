/-
Column operations of the model of `SmithNormalForm` on the `i128` path (`0 < h < 2^63`):
`colsub` and `colswap`. A column operation is an automorphism `φ` of `(Z/h)^n` applied to every row
of `rows` and, simultaneously, to every row of `q`; `colswap` follows it by row operations
(`eliminate`, `normalize`), which keep the relation module and do not touch `q`.
-/
import Ymq.Lemmas.SnfOps
import Ymq.Lemmas.Loops
import Mathlib.LinearAlgebra.Pi

namespace Ymq.Snf
open Ymq.Arith (chk128)

/-- `zeroToH` replaces a zero diagonal entry by `h ≡ 0`: nothing changes modulo `h` -/
theorem zeroToH_spec (s s' : St) (k : Nat) (h : s.zeroToH k = some s') : RowEquiv s s' := by
  unfold St.zeroToH at h
  split at h
  · cases h
  rename_i v hv
  split at h
  case isFalse => exact Option.some.inj h ▸ RowEquiv.refl s
  rename_i hv0
  obtain ⟨hi, hj, hval⟩ := get2_some hv
  unfold set2 at h
  simp only [List.getElem?_eq_getElem hi, if_pos hj, Option.map_some] at h
  obtain rfl := Option.some.inj h
  have hvec : rowVec s.h s.gens.length (s.rows[k].set k (s.h : Int)) = rowVec s.h s.gens.length s.rows[k] := by
    funext c
    rw [rowVec_set _ _ _ _ _ hj]
    split
    · rename_i hc
      rw [rowVec_apply _ _ _ _ (hc ▸ hj)]
      simp [← hc, hval, hv0]
    · rfl
  refine ⟨⟨rfl, rfl, rfl, rfl, rfl, rfl, by simp⟩, rowSpan_set _ _ _ _ hi _ ?_ ?_⟩
  · rw [hvec]; exact rowVec_mem_rowSpan _ _ _ _ (List.getElem_mem _)
  · rw [← hvec]; exact rowVec_mem_rowSpan _ _ _ _ (mem_set_self' _ _ hi _)

theorem forM_eq_foldlM {σ α} (f : σ → α → Option σ) : ∀ (l : List α) (s : σ), forM l s f = l.foldlM f s
  | [], _ => rfl
  | a :: as, s => by
    rw [List.foldlM_cons, forM]
    cases f s a with
    | none => rfl
    | some s' => exact forM_eq_foldlM f as s'

theorem forM_inv_mem {σ α} (P : σ → Prop) (f : σ → α → Option σ) (l : List α) (s s' : σ)
    (hf : ∀ s a s', a ∈ l → P s → f s a = some s' → P s') (hp : P s) (h : forM l s f = some s') : P s' :=
  Loops.foldlM_inv f P l (fun a ha s s' hs hstep => hf s a s' ha hs hstep) hp (forM_eq_foldlM f l s ▸ h)

theorem forM_inv {σ α} (P : σ → Prop) (f : σ → α → Option σ)
    (hf : ∀ s a s', P s → f s a = some s' → P s') (l : List α) (s s' : σ) :
    P s → forM l s f = some s' → P s' :=
  forM_inv_mem P f l s s' (fun s a s' _ => hf s a s')

/-- the column transvection `v_i ← v_i - k·v_j` as a linear map -/
def colSubMap (h n : Nat) (i j : Fin n) (k : ZMod h) : (Fin n → ZMod h) →ₗ[ZMod h] (Fin n → ZMod h) where
  toFun v := Function.update v i (v i - k * v j)
  map_add' v w := by
    funext c
    by_cases hc : c = i
    · subst hc; simp; ring
    · simp [Function.update_of_ne hc]
  map_smul' a v := by
    funext c
    by_cases hc : c = i
    · subst hc; simp; ring
    · simp [Function.update_of_ne hc]

theorem colSubMap_comp (h n : Nat) (i j : Fin n) (hij : i ≠ j) (k : ZMod h) :
    (colSubMap h n i j k).comp (colSubMap h n i j (-k)) = LinearMap.id := by
  apply LinearMap.ext
  intro v
  funext c
  simp only [colSubMap, LinearMap.comp_apply, LinearMap.coe_mk, AddHom.coe_mk, LinearMap.id_apply]
  by_cases hc : c = i
  · subst hc
    simp [Function.update_of_ne (Ne.symm hij)]
  · simp [Function.update_of_ne hc]

/-- the column transvection is an automorphism of `(Z/h)^n` (its inverse adds `k·v_j` back) -/
def colSubEquiv (h n : Nat) (i j : Fin n) (hij : i ≠ j) (k : ZMod h) :
    (Fin n → ZMod h) ≃ₗ[ZMod h] (Fin n → ZMod h) :=
  LinearEquiv.ofLinear (colSubMap h n i j k) (colSubMap h n i j (-k))
    (colSubMap_comp h n i j hij k) (by simpa using colSubMap_comp h n i j hij (-k))

/-- `M'` is `M` with `φ` applied to every row -/
def RowsMapped (h n : Nat) (φ : (Fin n → ZMod h) → (Fin n → ZMod h)) (M M' : Mat) : Prop :=
  M'.length = M.length ∧ ∀ r (h1 : r < M.length) (h2 : r < M'.length), rowVec h n M'[r] = φ (rowVec h n M[r])

theorem colsubRow_spec (s : St) (hs : s.small = true) (i j : Fin s.gens.length) (k : Int) (row row' : List Int)
    (h : s.colsubRow i j k row = some row') :
    rowVec s.h s.gens.length row' = colSubMap s.h s.gens.length i j (k : ZMod s.h) (rowVec s.h s.gens.length row) := by
  unfold St.colsubRow at h
  split at h
  case h_2 => cases h
  rename_i yi yj hyi hyj
  obtain ⟨r, hr, rfl⟩ := Option.map_eq_some_iff.mp h
  obtain ⟨hi, rfl⟩ := List.getElem?_eq_some_iff.mp hyi
  obtain ⟨hj, rfl⟩ := List.getElem?_eq_some_iff.mp hyj
  funext c
  rw [rowVec_set _ _ _ _ _ hi]
  simp only [colSubMap, LinearMap.coe_mk, AddHom.coe_mk]
  split
  · rename_i hc
    obtain rfl : i = c := Fin.ext hc
    rw [Function.update_self, subMulMod_small s hs _ _ _ _ hr, rowVec_apply _ _ _ _ hi, rowVec_apply _ _ _ _ hj]
  · rename_i hc
    rw [Function.update_of_ne (fun e => hc (congrArg Fin.val e).symm)]

/-- **colsub** (`0 < h < 2^63`, at most `n = gens.len()` rows in `rows` and in `q`): the automorphism `v_i ← v_i - k·v_j` of `(Z/h)^n`
is applied to every row of `rows` and of `q`. -/
theorem colsub_spec (s s' : St) (i j : Nat) (k : Int) (hs : s.small = true)
    (hi : i < s.gens.length) (hj : j < s.gens.length) (hij : i ≠ j)
    (hrows : s.rows.length ≤ s.gens.length) (hq : s.q.length ≤ s.gens.length)
    (h : s.colsub i j k = some s') :
    s'.gens = s.gens ∧ s'.h = s.h ∧ s'.qm = s.qm ∧ s'.qe = s.qe ∧ s'.removed = s.removed ∧
    ∃ φ : (Fin s.gens.length → ZMod s.h) ≃ₗ[ZMod s.h] (Fin s.gens.length → ZMod s.h),
      RowsMapped s.h s.gens.length φ s.rows s'.rows ∧ RowsMapped s.h s.gens.length φ s.q s'.q := by
  have hfin : (⟨i, hi⟩ : Fin s.gens.length) ≠ ⟨j, hj⟩ := fun e => hij (by simpa using congrArg Fin.val e)
  unfold St.colsub at h
  split at h
  · obtain rfl : s = s' := Option.some.inj h
    exact ⟨rfl, rfl, rfl, rfl, rfl, LinearEquiv.refl _ _, ⟨rfl, fun _ _ _ => rfl⟩, ⟨rfl, fun _ _ _ => rfl⟩⟩
  · split at h
    · rename_i rows' q' hr hqq
      have := (Option.some.inj h).symm; subst this
      -- the same update runs over `rows` and over `q`
      have key : ∀ M M' : Mat, M.length ≤ s.gens.length →
          updRange (fun _ row => s.colsubRow i j k row) 0 s.gens.length M 0 = some M' →
          RowsMapped s.h s.gens.length (colSubEquiv s.h s.gens.length ⟨i, hi⟩ ⟨j, hj⟩ hfin (k : ZMod s.h)) M M' := by
        intro M M' hM hu
        obtain ⟨hl, hn, hent⟩ := updRange_some _ 0 s.gens.length M 0 M' hu
        refine ⟨hl, fun r h1 h2 => ?_⟩
        have := (hent r h1 h2).1 ⟨Nat.zero_le _, by omega⟩
        simp only [colSubEquiv, LinearEquiv.ofLinear_apply]
        exact colsubRow_spec s hs ⟨i, hi⟩ ⟨j, hj⟩ k _ _ this
      exact ⟨rfl, rfl, rfl, rfl, rfl, _, key _ _ hrows hr, key _ _ hq hqq⟩
    · exact absurd h (by simp)

/-- exchanging two columns as an automorphism of `(Z/h)^n` -/
def colSwapEquiv (h n : Nat) (i j : Fin n) : (Fin n → ZMod h) ≃ₗ[ZMod h] (Fin n → ZMod h) :=
  LinearEquiv.funCongrLeft (ZMod h) (ZMod h) (Equiv.swap i j)

theorem colSwapEquiv_apply (h n : Nat) (i j : Fin n) (v : Fin n → ZMod h) (c : Fin n) :
    colSwapEquiv h n i j v c = v (Equiv.swap i j c) := rfl

theorem swapIdx_rowVec (h n : Nat) (i j : Fin n) (row row' : List Int)
    (hsw : swapIdx row i j = some row') :
    rowVec h n row' = colSwapEquiv h n i j (rowVec h n row) := by
  unfold swapIdx at hsw
  split at hsw
  case h_2 => cases hsw
  rename_i a b ha hb
  obtain rfl := Option.some.inj hsw
  obtain ⟨hi, rfl⟩ := List.getElem?_eq_some_iff.mp ha
  obtain ⟨hj, rfl⟩ := List.getElem?_eq_some_iff.mp hb
  funext c
  rw [colSwapEquiv_apply, rowVec_set _ _ _ _ _ (by simpa using hj), rowVec_set _ _ _ _ _ hi]
  -- `c = j` reads the old entry `i`, `c = i` the old entry `j`
  split
  · rename_i hc
    obtain rfl : j = c := Fin.ext hc
    rw [Equiv.swap_apply_right, rowVec_apply _ _ _ _ hi]
  · split
    · rename_i hc
      obtain rfl : i = c := Fin.ext hc
      rw [Equiv.swap_apply_left, rowVec_apply _ _ _ _ hj]
    · rename_i hcj hci
      rw [Equiv.swap_apply_of_ne_of_ne (fun e => hci (congrArg Fin.val e).symm) (fun e => hcj (congrArg Fin.val e).symm)]

theorem mapOpt_swap_mapped (h n : Nat) (i j : Fin n) (M M' : Mat)
    (hm : mapOpt (swapIdx · (i : Nat) (j : Nat)) M = some M') :
    RowsMapped h n (colSwapEquiv h n i j) M M' := by
  obtain ⟨hl, hent⟩ := Loops.mapM_getElem (mapOpt_eq_mapM _ M ▸ hm)
  refine ⟨hl, ?_⟩
  intro r h1 h2
  exact swapIdx_rowVec h n i j _ _ (hent r h1 h2)

theorem rowSpan_mapped (h n : Nat) (φ : (Fin n → ZMod h) →ₗ[ZMod h] (Fin n → ZMod h)) (M M' : Mat)
    (hm : RowsMapped h n φ M M') : rowSpan h n M' = (rowSpan h n M).map φ := by
  unfold rowSpan
  rw [Submodule.map_span]
  congr 1
  ext v
  constructor
  · rintro ⟨row', hr', rfl⟩
    obtain ⟨r, hr, rfl⟩ := List.getElem_of_mem hr'
    have h1 : r < M.length := by rw [← hm.1]; exact hr
    exact ⟨rowVec h n M[r], ⟨M[r], List.getElem_mem _, rfl⟩, (hm.2 r h1 hr).symm⟩
  · rintro ⟨w, ⟨row, hrow, rfl⟩, rfl⟩
    obtain ⟨r, hr, rfl⟩ := List.getElem_of_mem hrow
    have h2 : r < M'.length := by rw [hm.1]; exact hr
    exact ⟨M'[r], List.getElem_mem _, (hm.2 r hr h2).symm⟩

/-- a chain of row operations: the step function of the loops of `colswap` keeps `RowEquiv` -/
theorem rowops_step (s0 : St) (hs0 : s0.small = true) (k j : Nat) :
    ∀ s s', (RowEquiv s0 s) →
      (match forM (rangeFrom (k + 1) (j + 1)) s (fun s l => s.eliminate k l k) with
        | none => none
        | some s =>
          match s.normalize k k with
          | none => none
          | some s => s.zeroToH k) = some s' → RowEquiv s0 s' := by
  intro s s' hP h
  split at h
  · exact absurd h (by simp)
  · rename_i s1 h1
    have hP1 : RowEquiv s0 s1 := by
      apply forM_inv (fun t => RowEquiv s0 t) _ _ _ s s1 hP h1
      intro t a t' ht hstep
      have hsm : t.small = true := small_of_sameFrame ht.1 hs0
      have := eliminate_spec t t' k a k hsm hstep
      exact ht.trans this
    split at h
    · exact absurd h (by simp)
    · rename_i s2 h2
      have hsm1 : s1.small = true := small_of_sameFrame hP1.1 hs0
      have hP2 : RowEquiv s0 s2 := hP1.trans (normalize_spec s1 s2 k k hsm1 h2)
      exact hP2.trans (zeroToH_spec s2 s' k h)

/-- **colswap** (`0 < h < 2^63`): the two columns are exchanged in `rows` and in `q` (an automorphism
`φ` of `(Z/h)^n`), then rows `i..=j` are re-triangularised by row operations that keep the relation
module and leave `q` alone: the new relation module is the image of the old one under `φ`, and
every row of `q` is mapped by the same `φ`. -/
theorem colswap_spec (s s' : St) (i j : Nat) (hs : s.small = true)
    (hi : i < s.gens.length) (hj : j < s.gens.length) (h : s.colswap i j = some s') :
    s'.gens = s.gens ∧ s'.h = s.h ∧ s'.rows.length = s.rows.length ∧
    ∃ φ : (Fin s.gens.length → ZMod s.h) ≃ₗ[ZMod s.h] (Fin s.gens.length → ZMod s.h),
      RowsMapped s.h s.gens.length φ s.q s'.q ∧
      rowSpan s.h s.gens.length s'.rows = (rowSpan s.h s.gens.length s.rows).map φ.toLinearMap := by
  unfold St.colswap at h
  split at h
  · rename_i rows1 q1 hr1 hq1
    simp only [] at h
    set s1 : St := { s with rows := rows1, q := q1 } with hs1
    have hsm1 : s1.small = true := hs
    have hmr := mapOpt_swap_mapped s.h s.gens.length ⟨i, hi⟩ ⟨j, hj⟩ s.rows rows1 hr1
    have hmq := mapOpt_swap_mapped s.h s.gens.length ⟨i, hi⟩ ⟨j, hj⟩ s.q q1 hq1
    split at h
    · exact absurd h (by simp)
    · rename_i s2 h2
      have hP2 : RowEquiv s1 s2 := by
        apply forM_inv (fun t => RowEquiv s1 t) _ _ _ s1 s2 (RowEquiv.refl s1) h2
        intro t a t' ht hstep
        exact rowops_step s1 hsm1 a j t t' ht hstep
      split at h
      · exact absurd h (by simp)
      · rename_i s3 h3
        have hsm2 : s2.small = true := small_of_sameFrame hP2.1 hsm1
        have hP3 : RowEquiv s1 s3 := hP2.trans (normalize_spec s2 s3 j j hsm2 h3)
        have hP4 : RowEquiv s1 s' := hP3.trans (zeroToH_spec s3 s' j h)
        obtain ⟨⟨e1, e2, e3, _, _, _, e7⟩, hspan⟩ := hP4
        refine ⟨e2, e3, by rw [e7]; exact hmr.1, colSwapEquiv s.h s.gens.length ⟨i, hi⟩ ⟨j, hj⟩, ?_, ?_⟩
        · rw [e1]; exact hmq
        · have : rowSpan s.h s.gens.length s'.rows = rowSpan s.h s.gens.length rows1 := hspan
          rw [this]
          exact rowSpan_mapped s.h s.gens.length _ s.rows rows1 hmr
  · exact absurd h (by simp)

end Ymq.Snf
