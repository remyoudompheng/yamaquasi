/-
`isprime64` and `pseudoprime` as Boolean combinations of plain modular Miller tests (C06):
the tier loop of `isprime64`, its small-table branch, the split `p - 1 = d 2^s` of `pseudoprime`.
-/
import Ymq.Lemmas.MillerMont

namespace Ymq.Mg64
open Ymq.Pseudoprime (millerBase SPRP)
open Ymq.Gen.Primality

/-- the tier loop of `isprime64` over the plain modular Miller test -/
def runTiersN (p s d : Nat) : List (Nat × List Nat) → Bool
  | [] => true
  | (thr, bases) :: ts =>
    if thr = 0 ∨ p / 2 ^ thr ≠ 0 then bases.all (millerBase p s d) && runTiersN p s d ts
    else runTiersN p s d ts

theorem allMiller_cons (c : Ctx) (b : Nat) (bs : List Nat) (v : Bool) (h : miller c b = some v) :
    allMiller c (b :: bs) = if v then allMiller c bs else some false := by
  simp [allMiller, h]

theorem runTiers_cons (c : Ctx) (thr : Nat) (bases : List Nat) (ts : List (Nat × List Nat))
    (v : Bool) (h : allMiller c bases = some v) :
    runTiers c ((thr, bases) :: ts) =
      if thr = 0 ∨ c.p / 2 ^ thr ≠ 0 then (if v then runTiers c ts else some false)
      else runTiers c ts := by
  simp [runTiers, h]

theorem runTiers_skip (c : Ctx) (thr : Nat) (bases : List Nat) (ts : List (Nat × List Nat))
    (h : ¬ (thr = 0 ∨ c.p / 2 ^ thr ≠ 0)) :
    runTiers c ((thr, bases) :: ts) = runTiers c ts := by
  simp only [runTiers]; rw [if_neg h]

theorem isprime64_step (p : Nat) (c : Ctx) (h1 : ¬ p < smallPrimes.getLast!) (h2 : p % 2 = 1)
    (h3 : mkCtx p = some c) : isprime64 p = runTiers c tiers := by
  unfold isprime64
  rw [if_neg h1, if_neg (by simp [h2]), h3]
  rfl

section
variable {p pinv : Nat} (h : MontOk p pinv)
include h

theorem allMiller_eq (h3 : 2 < p) : ∀ bs : List Nat, (∀ b ∈ bs, b < p) →
    allMiller (ctxOf p pinv) bs =
      some (bs.all (millerBase p (tz64 (p - 1)) (p / 2 ^ tz64 (p - 1)))) := by
  obtain ⟨_, _, _, _, hd⟩ := tz_podd_spec p h3 h.odd h.lt
  intro bs
  induction bs with
  | nil => intro _; rfl
  | cons b bs ih =>
    intro hb
    have hm := miller_eq_millerBase h (tz64 (p - 1)) (p / 2 ^ tz64 (p - 1)) b hd
      (hb b (List.mem_cons_self))
    rw [allMiller_cons (ctxOf p pinv) b bs _ hm, ih (fun b' hb' => hb b' (List.mem_cons_of_mem _ hb'))]
    rw [List.all_cons]
    cases millerBase p (tz64 (p - 1)) (p / 2 ^ tz64 (p - 1)) b <;> simp

theorem runTiers_eq (h3 : 2 < p) : ∀ ts : List (Nat × List Nat), (∀ t ∈ ts, ∀ b ∈ t.2, b < p) →
    runTiers (ctxOf p pinv) ts = some (runTiersN p (tz64 (p - 1)) (p / 2 ^ tz64 (p - 1)) ts) := by
  intro ts
  induction ts with
  | nil => intro _; rfl
  | cons t ts ih =>
    intro hb
    obtain ⟨thr, bases⟩ := t
    have ih' := ih (fun t' ht' => hb t' (List.mem_cons_of_mem _ ht'))
    have ha := allMiller_eq h h3 bases (hb (thr, bases) List.mem_cons_self)
    rw [runTiers_cons _ thr bases ts _ ha, ih']
    simp only [runTiersN]
    have : (ctxOf p pinv).p = p := rfl
    rw [this]
    by_cases c : thr = 0 ∨ p / 2 ^ thr ≠ 0
    · rw [if_pos c, if_pos c]
      cases bases.all (millerBase p (tz64 (p - 1)) (p / 2 ^ tz64 (p - 1))) <;> simp
    · rw [if_neg c, if_neg c]

end

theorem prime_iff_trial (p : Nat) (h : p < 289) :
    Nat.Prime p ↔ 2 ≤ p ∧ ∀ q ∈ [2, 3, 5, 7, 11, 13], q ∣ p → q = p := by
  constructor
  · refine fun hp => ⟨hp.two_le, fun q hq hd => ((Nat.dvd_prime hp).1 hd).resolve_left ?_⟩
    rintro rfl
    simp at hq
  · rintro ⟨h2, hall⟩
    have primes_below_17 : ∀ q, q < 17 → Nat.Prime q → q ∈ [2, 3, 5, 7, 11, 13] := by decide +kernel
    by_contra hnp
    have hm := Nat.minFac_prime (show p ≠ 1 by omega)
    have hlt : p.minFac < 17 := by
      by_contra hge
      have := Nat.mul_le_mul (Nat.le_of_not_lt hge) (Nat.le_of_not_lt hge)
      have := Nat.minFac_sq_le_self (by omega) hnp
      rw [sq] at this
      omega
    exact hnp (hall _ (primes_below_17 _ hlt hm) (Nat.minFac_dvd p) ▸ hm)

/-- the small-table branch is exact: the generated table agrees with trial division below 199 -/
theorem smallTable_exact (p : Nat) (h : p < 199) : smallPrimes.contains p = true ↔ Nat.Prime p := by
  rw [prime_iff_trial p (by omega)]
  revert p
  decide +kernel

theorem smallTable_last : smallPrimes.getLast! = 199 := by decide

theorem smallTable_even (p : Nat) (h : p < 199) (heven : p % 2 = 0) :
    smallPrimes.contains p = decide (p = 2) := by
  by_cases h2 : p = 2
  · subst h2; rfl
  · rw [decide_eq_false h2, Bool.eq_false_iff]
    intro hc
    have hp := (smallTable_exact p h).1 hc
    exact h2 ((hp.eq_one_or_self_of_dvd 2 (Nat.dvd_of_mod_eq_zero heven)).resolve_left
      (by decide)).symm

theorem tiers_bases_small : ∀ t ∈ tiers, ∀ b ∈ t.2, 0 < b ∧ b < 199 := by decide

theorem isprime64_odd_eq (p : Nat) (h199 : 199 ≤ p) (hodd : p % 2 = 1) (hlt : p < W) :
    isprime64 p = some (runTiersN p (tz64 (p - 1)) (p / 2 ^ tz64 (p - 1)) tiers) := by
  obtain ⟨pinv, hok, hmk⟩ := mkCtx_spec p (by omega) hodd hlt
  rw [isprime64_step p _ (by rw [smallTable_last]; omega) hodd hmk]
  exact runTiers_eq hok (by omega) tiers
    (fun t ht b hb => lt_of_lt_of_le (tiers_bases_small t ht b hb).2 h199)

theorem isprime64_small (p : Nat) (h : p < 199) : isprime64 p = some (smallPrimes.contains p) := by
  unfold isprime64; rw [if_pos (by rw [smallTable_last]; exact h)]

theorem runTiersN_true_iff (p s d : Nat) : ∀ ts : List (Nat × List Nat),
    runTiersN p s d ts = true ↔
      ∀ t ∈ ts, (t.1 = 0 ∨ p / 2 ^ t.1 ≠ 0) → ∀ b ∈ t.2, millerBase p s d b = true := by
  intro ts
  induction ts with
  | nil => simp [runTiersN]
  | cons t ts ih =>
    obtain ⟨thr, bases⟩ := t
    simp only [runTiersN, List.forall_mem_cons]
    by_cases c : thr = 0 ∨ p / 2 ^ thr ≠ 0
    · rw [if_pos c, Bool.and_eq_true, List.all_eq_true, ih]
      exact ⟨fun ⟨h1, h2⟩ => ⟨fun _ => h1, h2⟩, fun ⟨h1, h2⟩ => ⟨h1 c, h2⟩⟩
    · rw [if_neg c, ih]
      exact ⟨fun h => ⟨fun hc => absurd hc c, h⟩, fun h => h.2⟩

/-- bases of the tiers whose threshold is at most `k` -/
def basesUpTo (k : Nat) (ts : List (Nat × List Nat)) : List Nat :=
  (ts.filter (fun t => t.1 ≤ k)).flatMap (·.2)

theorem mem_basesUpTo {k b : Nat} {ts : List (Nat × List Nat)} :
    b ∈ basesUpTo k ts ↔ ∃ t ∈ ts, t.1 ≤ k ∧ b ∈ t.2 := by
  simp [basesUpTo, and_assoc]

theorem runTiersN_basesUpTo {p s d k : Nat} (hk : 2 ^ k ≤ p) {ts : List (Nat × List Nat)}
    (h : runTiersN p s d ts = true) {b : Nat} (hb : b ∈ basesUpTo k ts) : millerBase p s d b = true := by
  obtain ⟨t, ht, htk, hbt⟩ := mem_basesUpTo.1 hb
  exact (runTiersN_true_iff p s d ts).1 h t ht (Or.inr (Nat.div_pos
    ((Nat.pow_le_pow_right (by decide) htk).trans hk) (Nat.pow_pos (by decide))).ne') b hbt

/-- generated constants: the bases used from 0, 2^20 and 2^40 on contain the sets for which the
literature bounds ψ₂, ψ₅, ψ₁₂ are stated.  Moving a threshold up or dropping a base in the Rust
source makes one of these `decide`s fail. -/
theorem tiers_cover_0 : ∀ b ∈ [2, 3], b ∈ basesUpTo 0 tiers := by decide
theorem tiers_cover_20 : ∀ b ∈ [2, 3, 5, 7, 11], b ∈ basesUpTo 20 tiers := by decide
theorem tiers_cover_40 :
    ∀ b ∈ [2, 3, 5, 7, 11, 13, 17, 19, 23, 29, 31, 37], b ∈ basesUpTo 40 tiers := by decide

/-- the split used by `pseudoprime`: `s = (p.low_u64() - 1).trailing_zeros()` (64 when the low
word is 1) always gives an exact `p - 1 = (p >> s) 2^s`, although `p >> s` may be even. -/
theorem pp_split (p : Nat) (hodd : p % 2 = 1) :
    p - 1 = p / 2 ^ tz64 (p % W - 1) * 2 ^ tz64 (p % W - 1) := by
  have hW0 := W_pos
  have hl := low_odd hodd
  have hlW : p % W < W := Nat.mod_lt _ hW0
  have e0 := Nat.div_add_mod p W
  rcases Nat.eq_zero_or_pos (p % W - 1) with h0 | h0
  · rw [h0]
    have : tz64 0 = 64 := by decide
    rw [this, ← W_eq]
    apply shift_split p 64 (by omega) (by omega)
    rw [← W_eq]
    have : p - 1 = W * (p / W) := by omega
    rw [this, Nat.mul_mod_right]
  · obtain ⟨a, b, c⟩ := tz64_spec (p % W - 1) h0 (by omega)
    generalize tz64 (p % W - 1) = s at *
    have hs : 1 ≤ s := le_of_pow_dvd_of_odd_quot (p % W - 1) 1 s (by simp; omega) b c
    apply shift_split p s (by omega) hs
    have hsW : 2 ^ s ∣ W := by rw [W_eq]; exact pow_dvd_pow 2 (by omega)
    have : p - 1 = W * (p / W) + (p % W - 1) := by omega
    rw [this]
    exact (Nat.dvd_iff_mod_eq_zero).1
      (dvd_add (dvd_mul_of_dvd_left hsW _) (Nat.dvd_of_mod_eq_zero b))

/-- The odd part used by `pseudoprime`: `p >> s` is odd unless `2^65 ∣ p - 1` (low word 1 and an even second word: then
`s = 64` is smaller than the 2-adic valuation of `p - 1` and the exponent `p >> 64` stays even). -/
theorem podd_odd (p : Nat) (hodd : p % 2 = 1) (h65 : p % 2 ^ 65 ≠ 1) :
    (p / 2 ^ tz64 (p % W - 1)) % 2 = 1 := by
  have hW0 := W_pos
  have hl := low_odd hodd
  have hlW : p % W < W := Nat.mod_lt _ hW0
  by_cases h1 : p % W = 1
  · have : tz64 (p % W - 1) = 64 := by rw [h1]; rfl
    rw [this]
    have e : p % (W * 2) = p % W + W * (p / W % 2) := Nat.mod_mul
    have hW2 : W * 2 = 2 ^ 65 := by decide
    have hW64 : (2 : Nat) ^ 64 = W := by decide
    rw [hW2, h1] at e
    rw [hW64]
    rcases Nat.mod_two_eq_zero_or_one (p / W) with h | h
    · rw [h] at e; omega
    · exact h
  · obtain ⟨t64, hdvd, hq⟩ := tz64_spec (p % W - 1) (by omega) (by omega)
    have hsplit := pp_split p hodd
    generalize tz64 (p % W - 1) = t at *
    have e0 := Nat.div_add_mod p W
    have e1 := Nat.div_add_mod (p % W - 1) (2 ^ t)
    rw [hdvd, Nat.add_zero] at e1
    -- `p - 1 = 2^t · (2·(2^(63-t)·(p / W)) + q)` with `q = (low - 1) / 2^t` odd
    have hu : 2 ^ t * (2 * (2 ^ (63 - t) * (p / W))) = W * (p / W) := by
      rw [W_eq, show 64 = t + (1 + (63 - t)) by omega, pow_add, pow_add, pow_one]; ring
    have key : 2 ^ t * (p / 2 ^ t) =
        2 ^ t * (2 * (2 ^ (63 - t) * (p / W)) + (p % W - 1) / 2 ^ t) := by
      rw [Nat.mul_add, e1, hu, Nat.mul_comm, ← hsplit]; omega
    rw [Nat.eq_of_mul_eq_mul_left (Nat.pow_pos (by decide)) key, Nat.mul_add_mod_self_left]
    exact hq

/-- `SPRP` is decided by the executable plain Miller test (used to evaluate `SPRP` on literals) -/
theorem sprp_iff_millerBase (n b : Nat) (h3 : 2 < n) (hodd : n % 2 = 1) (hlt : n < W) :
    SPRP n b ↔ millerBase n (tz64 (n - 1)) (n / 2 ^ tz64 (n - 1)) b = true := by
  obtain ⟨_, _, hpd, hd, hd64⟩ := tz_podd_spec n h3 hodd hlt
  exact (Ymq.Pseudoprime.millerBase_iff_SPRP n _ _ b h3 hodd hd hpd
    (lt_trans hd64 (Nat.pow_lt_pow_right (by decide) (by decide)))).symm

theorem smallPrimes_small : ∀ b ∈ smallPrimes, 0 < b ∧ b < W := by decide

end Ymq.Mg64
