/-
C13 helper lemmas: the state invariant established by `Sieve::new` (fresh or recycled tables), re-established by
`rehash` and preserved by `sieve_block` / `next_block`, hence by any run of blocks.
-/
import Ymq.Lemmas.SieveFill

namespace Ymq.Sieve
open Ymq.Loops

/-- the hits of the primes of bit length `c`, with the prime index as it is passed to `add` (`red`). -/
def ClassHits (fb : FB) (r1 r2 : Array Nat) (interval c : Nat) (red : Nat → Nat) (a : Nat × Nat) : Prop :=
  ∃ pidx p, fb.primes[pidx]? = some p ∧ bitlen p = c ∧ a.2 = red pidx ∧ IsHit fb r1 r2 interval pidx a.1

/-- every hit of every large prime below the interval end is visible in the table of its size class,
or is one of the `n_overflows - 32` lost entries of that table; very large primes never lose a hit
(`ltableStore.dropped` is 0). -/
def TablesInv (fb : FB) (r1 r2 : Array Nat) (interval : Nat) (tables : Array Table) (ltables : Array LTable) : Prop :=
  (∀ (ti : Nat) (t : Table), tables[ti]? = some t →
    tableStore.Covers t (ClassHits fb r1 r2 interval (ti + 16) (· % 2 ^ 32))) ∧
  (∀ (li : Nat) (t : LTable), ltables[li]? = some t → ltableStore.Covers t (ClassHits fb r1 r2 interval (li + 19) id))

theorem TablesInv.table {fb : FB} {r1 r2 : Array Nat} {interval : Nat} {tables : Array Table} {ltables : Array LTable}
    (h : TablesInv fb r1 r2 interval tables ltables) {ti : Nat} {t : Table} (ht : tables[ti]? = some t) :
    t.WF ∧ ∃ lost : List (Nat × Nat), lost.length = t.nOverflows - 32 ∧
      ∀ pidx p x, fb.primes[pidx]? = some p → bitlen p = ti + 16 → IsHit fb r1 r2 interval pidx x →
        t.Has x (pidx % 256) ∨ (x, pidx % 2 ^ 32) ∈ lost := by
  obtain ⟨hw, lost, hl, hc⟩ := h.1 ti t ht
  refine ⟨hw, lost, hl, fun pidx p x hp hb hit => ?_⟩
  have := hc (x, pidx % 2 ^ 32) ⟨pidx, p, hp, hb, rfl, hit⟩
  rwa [show tableStore.key (pidx % 2 ^ 32) = pidx % 256 from
    Nat.mod_mod_of_dvd pidx (by norm_num : 256 ∣ 2 ^ 32)] at this

theorem TablesInv.ltable {fb : FB} {r1 r2 : Array Nat} {interval : Nat} {tables : Array Table} {ltables : Array LTable}
    (h : TablesInv fb r1 r2 interval tables ltables) {li : Nat} {t : LTable} (ht : ltables[li]? = some t) :
    t.WF ∧ ∀ pidx p x, fb.primes[pidx]? = some p → bitlen p = li + 19 → IsHit fb r1 r2 interval pidx x →
      t.Has x (pidx % 65536) := by
  obtain ⟨hw, lost, hl, hc⟩ := h.2 li t ht
  cases List.eq_nil_of_length_eq_zero hl
  exact ⟨hw, fun pidx p x hp hb hit => (hc (x, pidx) ⟨pidx, p, hp, hb, rfl, hit⟩).resolve_right (by simp)⟩

/-- a family of tables filled from tables that show nothing covers the hits of the classes of its tables: every hit
is among the adds of its class (`hO`: the offsets `g` returned for a prime are its two progressions). -/
theorem Filled.covers {τ : Type} {S : Store τ} {fb : FB} (hfb : fb.WF) {r1 r2 : Array Nat} {interval base : Nat}
    {O : Nat → List Nat} {red : Nat → Nat} {g : Nat → Nat → Nat → Nat → Option (List Nat)} {T0 tabs : Array τ}
    (hF : Filled (fun t a => S.add t a.1 a.2) fb base O red (Reads g fb r1 r2 interval) fb.primes.size T0 tabs)
    (h0 : ∀ (i : Nat) (t0 : τ), T0[i]? = some t0 → S.WF t0 ∧ S.dropped t0 = 0)
    (hO : ∀ pidx p o1 o2 l, fb.primes[pidx]? = some p → r1[pidx]? = some o1 → r2[pidx]? = some o2 →
      g interval p o1 o2 = some l → O pidx = l ∧ Progs interval p o1 o2 l)
    (i : Nat) (t : τ) (ht : tabs[i]? = some t) : S.Covers t (ClassHits fb r1 r2 interval (i + base) red) := by
  obtain ⟨t0, idx1, idx2, ht0, hi1, hi2, hfold, hQ⟩ := hF.done hfb ht
  refine ((Store.Covers.empty (h0 i t0 ht0).1 (h0 i t0 ht0).2).fold hfold).mono ?_
  rintro ⟨x, y⟩ ⟨pidx, p, hp, hb, rfl, p', o, hp', hor, hx, k, rfl⟩
  rw [hp] at hp'
  cases hp'
  have hcl := (hfb.class_of hp hi1 hi2).2 hb
  obtain ⟨p', o1, o2, l, hp', h1, h2, hl⟩ := hQ pidx hcl.1 hcl.2
  rw [hp] at hp'
  cases hp'
  obtain ⟨hOl, hP⟩ := hO pidx p o1 o2 l hp h1 h2 hl
  refine Or.inr (List.mem_flatMap.2 ⟨pidx, List.mem_range'_1.2 ⟨hcl.1, by omega⟩, List.mem_map.2 ⟨_, ?_, rfl⟩⟩)
  rw [hOl]
  rcases hor with e | e
  · rw [h1] at e; cases e; exact hP.mem.2 ⟨hx, k, Or.inl rfl⟩
  · rw [h2] at e; cases e; exact hP.mem.2 ⟨hx, k, Or.inr rfl⟩

theorem FilledTL.tablesInv {fb : FB} (hfb : fb.WF) {r1 r2 : Array Nat} {interval : Nat} {OT : Nat → List Nat}
    {g : Nat → Nat → Nat → Nat → Option (List Nat)} {T0 tables : Array Table} {L0 ltables : Array LTable}
    (hF : FilledTL fb r1 r2 interval OT g fb.primes.size T0 tables L0 ltables)
    (hT : ∀ (ti : Nat) (t : Table), T0[ti]? = some t → t.WF ∧ t.nOverflows = 0)
    (hL : ∀ (li : Nat) (t : LTable), L0[li]? = some t → t.WF)
    (hO : ∀ pidx p o1 o2 l, fb.primes[pidx]? = some p → r1[pidx]? = some o1 → r2[pidx]? = some o2 →
      g interval p o1 o2 = some l → OT pidx = l ∧ Progs interval p o1 o2 l) :
    TablesInv fb r1 r2 interval tables ltables :=
  ⟨Filled.covers (S := tableStore) hfb hF.1 (fun i t0 h => ⟨(hT i t0 h).1, by simp [tableStore, (hT i t0 h).2]⟩) hO,
   Filled.covers (S := ltableStore) hfb hF.2 (fun i t0 h => ⟨hL i t0 h, rfl⟩)
    (fun pidx p o1 o2 l hp h1 h2 hl => ⟨offsV_eq hp h1 h2 hl, vlargeOffsets_progs hl⟩)⟩

/-- recycled tables come from a `Sieve` of the same crate: their `overflows` field is the fixed-size
array `[(u16, u8); 32]`. -/
def RecycledOK (recycled : Option (Array Table × Array LTable)) : Prop :=
  ∀ ts lts, recycled = some (ts, lts) → ∀ (i : Nat) (t : Table), ts[i]? = some t → t.overflows.size = 32

/-- the tables `new` starts from: fresh ones, or the recycled ones after `reset` (their numbers were checked). -/
theorem newTables_cases {n maxlog : Nat} {recycled : Option (Array Table × Array LTable)}
    {T0 : Array Table} {L0 : Array LTable} (h : newTables n maxlog recycled = some (T0, L0)) :
    T0.size = min 18 maxlog + 1 - 16 ∧ L0.size = maxlog + 1 - 19 ∧
    (∀ ts lts, recycled = some (ts, lts) → lts.size = L0.size) ∧
    (∀ (ti : Nat) (t : Table), T0[ti]? = some t → (recycled = none ∧ t = Table.new n) ∨
      ∃ ts lts t', recycled = some (ts, lts) ∧ ts[ti]? = some t' ∧ t = t'.reset) ∧
    (∀ (li : Nat) (t : LTable), L0[li]? = some t → (recycled = none ∧ t = LTable.new n) ∨
      ∃ ts lts t', recycled = some (ts, lts) ∧ lts[li]? = some t' ∧ t = t'.reset) := by
  unfold newTables at h
  cases recycled with
  | none =>
    simp only [Option.some.injEq, Prod.mk.injEq, VLARGE_LOG, LARGE_LOG] at h
    obtain ⟨rfl, rfl⟩ := h
    refine ⟨by simp, by simp, ?_, fun ti t ht => Or.inl ⟨rfl, getElem?_replicate_eq ht⟩,
      fun li t ht => Or.inl ⟨rfl, getElem?_replicate_eq ht⟩⟩
    intro _ _ e
    cases e
  | some r =>
    obtain ⟨ts, lts⟩ := r
    simp only at h
    split_ifs at h with hs1 hs2 hs3
    simp only [Option.some.injEq, Prod.mk.injEq] at h
    simp only [VLARGE_LOG, LARGE_LOG, ne_eq, not_not] at hs1 hs3
    obtain ⟨rfl, rfl⟩ := h
    refine ⟨by simp only [Array.size_map]; omega, by simp only [Array.size_map]; omega, ?_,
      fun ti t ht => ?_, fun li t ht => ?_⟩
    · intro _ _ e
      cases e
      simp
    · obtain ⟨t', ht', rfl⟩ := getElem?_map_some ht
      exact Or.inr ⟨ts, lts, t', rfl, ht', rfl⟩
    · obtain ⟨t', ht', rfl⟩ := getElem?_map_some ht
      exact Or.inr ⟨ts, lts, t', rfl, ht', rfl⟩

theorem newTables_spec {nblocks maxlog : Nat} {recycled : Option (Array Table × Array LTable)}
    {T0 : Array Table} {L0 : Array LTable} (hrec : RecycledOK recycled)
    (h : newTables nblocks maxlog recycled = some (T0, L0)) :
    (∀ (ti : Nat) (t : Table), T0[ti]? = some t → t.WF ∧ t.nOverflows = 0 ∧ ∀ o p, ¬ t.Has o p) ∧
    (∀ (li : Nat) (t : LTable), L0[li]? = some t → t.WF ∧ ∀ o p, ¬ t.Has o p) ∧
    T0.size = min 18 maxlog + 1 - 16 ∧ L0.size = maxlog + 1 - 19 := by
  obtain ⟨hTs, hLs, _, hT, hL⟩ := newTables_cases h
  refine ⟨fun ti t ht => ?_, fun li t ht => ?_, hTs, hLs⟩
  · rcases hT ti t ht with ⟨_, rfl⟩ | ⟨ts, lts, t', e, ht', rfl⟩
    · exact ⟨Table.new_WF _, rfl, fun o p => Table.new_not_has _ o p⟩
    · exact ⟨Table.reset_WF t' (hrec ts lts e ti t' ht'), rfl, fun o p => Table.reset_not_has t' o p⟩
  · rcases hL li t ht with ⟨_, rfl⟩ | ⟨_, _, t', _, _, rfl⟩
    · exact ⟨LTable.new_WF _, fun o p => LTable.new_not_has _ o p⟩
    · exact ⟨LTable.reset_WF t', fun o p => LTable.reset_not_has t' o p⟩

/-- the part of the state the guarantee depends on.
`rS` = roots the small-prime cursors were started from (`new`), `rL` = roots registered in the bucket
tables (`new` or the last `rehash`), `B` = number of blocks sieved since `new`. -/
structure Inv (fb : FB) (nS : Nat) (rS1 rS2 rL1 rL2 : Array Nat) (B : Nat) (s : State) : Prop where
  skip_even : s.idxskip % 2 = 0
  skip_le : s.idxskip ≤ 2 * nS
  cur : CurInv fb rS1 rS2 s.idxskip nS B s.lo
  prev : NoneInv rS1 rS2 s.idxskip nS s.loPrev
  tabs : TablesInv fb rL1 rL2 (s.nblocks * BLOCK) s.tables s.ltables
  tsize : ∃ maxprime, fb.primes.back? = some maxprime ∧ s.tables.size = min 18 (bitlen maxprime) + 1 - 16 ∧
    s.ltables.size = bitlen maxprime + 1 - 19

theorem pskip_le (len : Nat) : pskip len ≤ 17 := by
  unfold pskip; split_ifs <;> omega

theorem idxskip_le {fb : FB} (hfb : fb.WF) {nS : Nat} (hnS : fb.ibl[16]? = some nS) (k : Nat) (hk : k ≤ 17) :
    (fb.primes.toList.findIdx? (fun p => decide (p > k))).getD fb.primes.size ≤ nS := by
  have hsmall : ∀ i p, fb.primes[i]? = some p → p ≤ k → i < nS := by
    intro i p hp hle
    exact (hfb.ibl_spec 16 i nS p hnS hp).2 ((bitlen_lt_succ_iff p 15).2 (by omega))
  cases hf : fb.primes.toList.findIdx? (fun p => decide (p > k)) with
  | some i =>
    show i ≤ nS
    rw [List.findIdx?_eq_some_iff_getElem] at hf
    obtain ⟨hi, _, hall⟩ := hf
    by_contra hc
    have hlt : nS < i := by omega
    have := hall nS hlt
    simp only [decide_eq_true_eq, not_lt] at this
    have hn : nS < fb.primes.size := by simp at hi; omega
    have := hsmall nS _ (Array.getElem?_eq_getElem hn) (by simpa using this)
    omega
  | none =>
    show fb.primes.size ≤ nS
    rw [List.findIdx?_eq_none_iff] at hf
    by_contra hc
    have hn : nS < fb.primes.size := by omega
    have := hf fb.primes[nS] (by simp)
    have hle : fb.primes[nS] ≤ k := by simpa using this
    have := hsmall nS _ (Array.getElem?_eq_getElem hn) hle
    omega

/-- what a returning call of `Sieve::new` has computed. -/
theorem new_unfold {fb : FB} {r1 r2 : Array Nat} {offset : Int} {nblocks : Nat}
    {recycled : Option (Array Table × Array LTable)} {s : State}
    (h : new offset nblocks fb r1 r2 recycled = some s) :
    ∃ maxprime T0 L0 offs tables ltables, fb.primes.back? = some maxprime ∧
      newTables nblocks (bitlen maxprime) recycled = some (T0, L0) ∧ ¬ nblocks * BLOCK ≥ 2 ^ 62 ∧
      (List.range' 0 (bitlen maxprime + 1)).foldlM (newStep fb r1 r2 (nblocks * BLOCK)) (#[], T0, L0) =
        some (offs, tables, ltables) ∧
      s = { offset := offset, nblocks := nblocks, blkNo := 0,
            idxskip := 2 * ((fb.primes.toList.findIdx? (fun p => p > pskip fb.primes.size)).getD fb.primes.size),
            lo := offs, loPrev := offs, tables := tables, ltables := ltables } := by
  unfold new at h
  simp only [Option.bind_eq_bind, Option.bind_eq_some_iff] at h
  obtain ⟨_, _, maxprime, hmax, ⟨T0, L0⟩, hnt, h⟩ := h
  by_cases hbig : nblocks * BLOCK ≥ 2 ^ 62
  · simp only [hbig, if_true] at h
    exact absurd h (by simp)
  simp only [hbig, if_false, Option.bind_eq_some_iff, Option.some.injEq] at h
  obtain ⟨⟨offs, tables, ltables⟩, hf, rfl⟩ := h
  exact ⟨maxprime, T0, L0, offs, tables, ltables, hmax, hnt, hbig, hf, rfl⟩

theorem new_eq_some {fb : FB} {r1 r2 : Array Nat} {offset : Int} {nblocks nS maxprime : Nat}
    {recycled : Option (Array Table × Array LTable)} {T0 : Array Table} {L0 : Array LTable}
    {offs : Array Nat} {tables : Array Table} {ltables : Array LTable}
    (hnS : fb.ibl[16]? = some nS) (hmax : fb.primes.back? = some maxprime)
    (hnt : newTables nblocks (bitlen maxprime) recycled = some (T0, L0)) (hbig : ¬ nblocks * BLOCK ≥ 2 ^ 62)
    (hf : (List.range' 0 (bitlen maxprime + 1)).foldlM (newStep fb r1 r2 (nblocks * BLOCK)) (#[], T0, L0) =
      some (offs, tables, ltables)) :
    new offset nblocks fb r1 r2 recycled =
      some { offset := offset, nblocks := nblocks, blkNo := 0,
             idxskip := 2 * ((fb.primes.toList.findIdx? (fun p => p > pskip fb.primes.size)).getD fb.primes.size),
             lo := offs, loPrev := offs, tables := tables, ltables := ltables } := by
  unfold new
  simp only [LARGE_LOG, hnS, hmax, hnt, hbig, if_false, Option.bind_eq_bind, Option.bind_some]
  rw [hf]
  rfl

/-- after the last size class the cursor array has its `2·nS` slots (`idx_by_log` is constant above the bit length of
the largest prime). -/
theorem NewOffs.size_eq {fb : FB} (hfb : fb.WF) {r1 r2 : Array Nat} {nS maxprime : Nat} (hnS : fb.ibl[16]? = some nS)
    (hmax : fb.primes.back? = some maxprime) {offs : Array Nat} (h : NewOffs fb r1 r2 (bitlen maxprime + 1) offs) :
    offs.size = 2 * nS := by
  obtain ⟨v, hv, hsv, _⟩ := h
  rw [hsv]
  congr 1
  by_cases h16 : 16 ≤ bitlen maxprime + 1
  · rw [Nat.min_eq_right h16, hnS] at hv
    exact (Option.some.inj hv).symm
  · rw [Nat.min_eq_left (by omega)] at hv
    rw [ibl_top hfb hmax hv (by omega), ibl_top hfb hmax hnS (by omega)]

theorem new_spec {fb : FB} {r1 r2 : Array Nat} {offset : Int} {nblocks nS : Nat}
    {recycled : Option (Array Table × Array LTable)} {s : State}
    (hfb : fb.WF) (hr : RootsOK fb r1 r2) (hrec : RecycledOK recycled) (hnS : fb.ibl[16]? = some nS)
    (h : new offset nblocks fb r1 r2 recycled = some s) :
    s.blkNo = 0 ∧ s.nblocks = nblocks ∧ s.offset = offset ∧ Inv fb nS r1 r2 r1 r2 0 s := by
  obtain ⟨maxprime, T0, L0, offs, tables, ltables, hmax, hnt, hbig, hf, rfl⟩ := new_unfold h
  obtain ⟨hT, hL, hTs, hLs⟩ := newTables_spec hrec hnt
  have hml := hfb.bitlen_back_le hmax
  have hfill := newFold_filled (r1 := r1) (r2 := r2) (interval := nblocks * BLOCK) hfb hmax (by omega) (by omega) hf
  have hoffs := foldlM_range'_partial (newStep fb r1 r2 (nblocks * BLOCK))
    (fun log st => NewOffs fb r1 r2 log st.1) 0 (bitlen maxprime + 1)
    (fun log st st' _ _ hI hs => newStep_offs hfb hr hI hs)
    (s := (#[], T0, L0)) ⟨0, hfb.ibl_zero, rfl, fun k hk => by simp at hk⟩ hf
  rw [Nat.zero_add] at hoffs
  have hcur := OffsInit.curInv hfb hr hnS (hoffs.size_eq hfb hnS hmax) (let ⟨_, _, _, hi⟩ := hoffs; hi)
    (2 * ((fb.primes.toList.findIdx? fun p => decide (p > pskip fb.primes.size)).getD fb.primes.size))
  exact ⟨rfl, rfl, rfl, {
    skip_even := by simp only; omega
    skip_le := Nat.mul_le_mul_left 2 (idxskip_le hfb hnS _ (pskip_le _))
    cur := hcur
    prev := hcur.noneInv
    tabs := hfill.tablesInv hfb (fun ti t ht => ⟨(hT ti t ht).1, (hT ti t ht).2.1⟩) (fun li t ht => (hL li t ht).1)
      (fun pidx p o1 o2 l hp h1 h2 hl => ⟨offsL_eq hp h1 h2 hl, largeOffsets_progs hl⟩)
    tsize := ⟨maxprime, hmax, by rw [hfill.1.1, hTs], by rw [hfill.2.1, hLs]⟩ }⟩

/-- `rehash`: the cursors are untouched, the bucket tables are rebuilt for the new roots. -/
theorem rehash_spec {fb : FB} {nS : Nat} {rS1 rS2 rL1 rL2 r1 r2 : Array Nat} {B : Nat} {s s' : State} (hfb : fb.WF)
    (hinv : Inv fb nS rS1 rS2 rL1 rL2 B s) (h : rehash fb s r1 r2 = some s') :
    Inv fb nS rS1 rS2 r1 r2 B s' ∧ s'.blkNo = 0 ∧ s'.nblocks = s.nblocks ∧ s'.offset = s.offset := by
  by_cases h0 : s.nblocks = 0
  · simp only [rehash, h0, if_true, Option.some.injEq] at h
    subst h
    refine ⟨?_, rfl, h0.symm, rfl⟩
    refine { skip_even := hinv.skip_even, skip_le := hinv.skip_le, cur := hinv.cur, prev := hinv.prev, tsize := hinv.tsize, tabs := ?_ }
    -- an empty interval has no hits
    have hno : ∀ c q a, ¬ ClassHits fb r1 r2 (0 * BLOCK) c q a := by
      rintro c q a ⟨_, _, _, _, _, _, _, _, _, hx, _⟩
      omega
    exact ⟨fun ti t ht => (hinv.tabs.1 ti t ht).mono fun a ha => absurd ha (hno _ _ a),
      fun li t ht => (hinv.tabs.2 li t ht).mono fun a ha => absurd ha (hno _ _ a)⟩
  · obtain ⟨maxprime, hmax, hts, hls⟩ := hinv.tsize
    have hml := hfb.bitlen_back_le hmax
    have hfill := rehash_filled hfb h0 (by omega) (by omega) h
    have htabs : TablesInv fb r1 r2 (s.nblocks * BLOCK) s'.tables s'.ltables :=
      hfill.tablesInv hfb
        (fun ti t ht => by
          obtain ⟨t', ht', rfl⟩ := getElem?_map_some ht
          exact ⟨Table.reset_WF t' (hinv.tabs.1 ti t' ht').1.2, rfl⟩)
        (fun li t ht => by
          obtain ⟨t', _, rfl⟩ := getElem?_map_some ht
          exact LTable.reset_WF t')
        (fun pidx p o1 o2 l hp h1 h2 hl => ⟨offsV_eq hp h1 h2 hl, vlargeOffsets_progs hl⟩)
    have hsT := hfill.1.1
    have hsL := hfill.2.1
    rw [Array.size_map] at hsT hsL
    simp only [rehash, h0, if_false, Option.bind_eq_bind, Option.bind_eq_some_iff, Option.some.injEq] at h
    obtain ⟨⟨tables, ltables⟩, hf, rfl⟩ := h
    exact ⟨{ skip_even := hinv.skip_even, skip_le := hinv.skip_le, cur := hinv.cur, prev := hinv.prev, tabs := htabs,
             tsize := ⟨maxprime, hmax, hsT.trans hts, hsL.trans hls⟩ }, rfl, rfl, rfl⟩

/-- `sieve_block`: cursors advance by one block; `lo_prev` holds the cursors of the block just sieved
(these are the ones `smooths` uses). -/
theorem sieveBlock_spec {fb : FB} {nS : Nat} {rS1 rS2 rL1 rL2 : Array Nat} {B : Nat} {s s' : State}
    (hfb : fb.WF) (hnS : fb.ibl[16]? = some nS)
    (hinv : Inv fb nS rS1 rS2 rL1 rL2 B s) (h : sieveBlock fb s = some s') :
    Inv fb nS rS1 rS2 rL1 rL2 (B + 1) s' ∧ CurInv fb rS1 rS2 s'.idxskip nS B s'.loPrev ∧
      s'.blkNo = s.blkNo ∧ s'.nblocks = s.nblocks ∧ s'.offset = s.offset ∧ s'.tables = s.tables ∧
      s'.ltables = s.ltables ∧ s'.idxskip = s.idxskip := by
  unfold sieveBlock at h
  simp only [Option.bind_eq_bind, Option.bind_eq_some_iff] at h
  obtain ⟨⟨lo, lp⟩, hc, h⟩ := h
  obtain ⟨lo', hc', hcur⟩ := sieveCursors_ok hfb hnS hinv.skip_even hinv.skip_le hinv.cur hinv.prev
  rw [hc'] at hc
  cases hc
  have hs' : s' = { s with lo := lo, loPrev := s.lo } := by
    simp only at h
    split_ifs at h <;> exact (Option.some.inj h).symm
  subst hs'
  refine ⟨?_, hinv.cur, rfl, rfl, rfl, rfl, rfl, rfl⟩
  exact { skip_even := hinv.skip_even, skip_le := hinv.skip_le, cur := hcur, prev := hinv.cur.noneInv, tabs := hinv.tabs,
          tsize := hinv.tsize }

theorem nextBlock_spec {fb : FB} {nS : Nat} {rS1 rS2 rL1 rL2 : Array Nat} {B : Nat} {s s' : State}
    (hinv : Inv fb nS rS1 rS2 rL1 rL2 B s) (h : nextBlock s = some s') :
    Inv fb nS rS1 rS2 rL1 rL2 B s' ∧ s'.blkNo = s.blkNo + 1 ∧ s'.nblocks = s.nblocks ∧
      s'.offset = s.offset + BLOCK ∧ s'.tables = s.tables ∧ s'.ltables = s.ltables := by
  unfold nextBlock at h
  split_ifs at h
  simp only [Option.some.injEq] at h
  subst h
  exact ⟨{ skip_even := hinv.skip_even, skip_le := hinv.skip_le, cur := hinv.cur, prev := hinv.prev, tabs := hinv.tabs,
           tsize := hinv.tsize }, rfl, rfl, rfl, rfl, rfl⟩

theorem runBlocks_spec {fb : FB} {nS : Nat} {rS1 rS2 rL1 rL2 : Array Nat} (hfb : fb.WF)
    (hnS : fb.ibl[16]? = some nS) :
    ∀ (b B : Nat) (s s' : State), Inv fb nS rS1 rS2 rL1 rL2 B s → runBlocks fb b s = some s' →
      Inv fb nS rS1 rS2 rL1 rL2 (B + b) s' ∧ s'.blkNo = s.blkNo + b ∧ s'.nblocks = s.nblocks ∧
        s'.offset = s.offset + b * BLOCK ∧ s'.tables = s.tables ∧ s'.ltables = s.ltables := by
  intro b
  induction b with
  | zero =>
    intro B s s' hinv h
    simp only [runBlocks, Option.some.injEq] at h
    subst h
    exact ⟨hinv, rfl, rfl, by simp, rfl, rfl⟩
  | succ b ih =>
    intro B s s' hinv h
    simp only [runBlocks, Option.bind_eq_bind, Option.bind_eq_some_iff] at h
    obtain ⟨s1, h1, s2, h2, h3⟩ := h
    obtain ⟨i1, b1, n1, o1, t1, l1⟩ := ih B s s1 hinv h1
    obtain ⟨i2, _, b2, n2, o2, t2, l2, _⟩ := sieveBlock_spec hfb hnS i1 h2
    obtain ⟨i3, b3, n3, o3, t3, l3⟩ := nextBlock_spec i2 h3
    refine ⟨by rw [← Nat.add_assoc]; exact i3, by omega, by rw [n3, n2, n1], ?_, by rw [t3, t2, t1], by rw [l3, l2, l1]⟩
    rw [o3, o2, o1]; push_cast; ring

end Ymq.Sieve
