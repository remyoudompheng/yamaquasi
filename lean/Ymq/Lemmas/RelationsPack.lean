/-
`PackedRelation::{pack, unpack}` (C11): the LEB128-style integer coding round-trips every `u64`,
the factor coding round-trips every factor list in its domain up to the sign normalisation
`normFactors`, hence `unpack (pack r)` stands for the same congruence.
-/
import Ymq.Lemmas.Relations
import Ymq.Lemmas.Bits
import Ymq.Lemmas.Limbs

namespace Ymq.Relations

/-- what the packed encoding deliberately does to the factor list: even powers of `-1` are
dropped, odd powers of `-1` become `(-1, 1)` -/
def normFactors : List (Int × Nat) → List (Int × Nat)
  | [] => []
  | (p, k) :: t =>
    if p = -1 then (if k % 2 = 0 then normFactors t else (-1, 1) :: normFactors t)
    else (p, k) :: normFactors t

theorem normFactors_cons (p : Int) (k : Nat) (t : List (Int × Nat)) :
    normFactors ((p, k) :: t) =
      if p = -1 then (if k % 2 = 0 then normFactors t else (-1, 1) :: normFactors t)
      else (p, k) :: normFactors t := rfl

theorem lebDec_cons (b : Nat) (bs : List Nat) (cur : Nat) (first : Bool) :
    lebDec (b :: bs) cur first =
      if b < 128 then (if first then lebDec bs b false else cur :: lebDec bs b false)
      else lebDec bs (cur * 128 % W64 + b % 128) false := rfl

theorem unpackFactors_some (v : Nat) (t : List Nat) (p : Int) :
    unpackFactors (v :: t) (some p) = (do
      let l ← unpackFactors t none
      pure ((p, v) :: l)) := rfl

theorem unpackFactors_none (v : Nat) (t : List Nat) :
    unpackFactors (v :: t) none =
      if v = 0 then do
        let l ← unpackFactors t none
        pure ((-1, 1) :: l)
      else if v % 2 = 1 then do
        let l ← unpackFactors t none
        pure ((toI64 (if v = 1 then 2 else v), 1) :: l)
      else unpackFactors t (some (toI64 (if v = 2 then 2 else v / 2))) := rfl

theorem fprod_norm (fs : List (Int × Nat)) : fprod (normFactors fs) = fprod fs := by
  induction fs with
  | nil => rfl
  | cons f t ih =>
    obtain ⟨p, k⟩ := f
    rw [normFactors_cons]
    split
    · rename_i hp
      subst hp
      split
      · rename_i hev
        rw [ih, fprod_cons, Even.neg_one_pow (Nat.even_iff.mpr hev), one_mul]
      · rename_i hodd
        have hk : Odd k := Nat.odd_iff.mpr (by omega)
        rw [fprod_cons, fprod_cons, ih, hk.neg_one_pow]
        simp
    · rw [fprod_cons, fprod_cons, ih]

theorem normFactors_forall {P : Int × Nat → Prop} (h1 : P (-1, 1)) {fs : List (Int × Nat)}
    (h : ∀ f ∈ fs, P f) : ∀ f ∈ normFactors fs, P f := by
  induction fs with
  | nil => exact h
  | cons f t ih =>
    obtain ⟨p, k⟩ := f
    rw [List.forall_mem_cons] at h
    rw [normFactors_cons]
    split
    · split
      · exact ih h.2
      · exact List.forall_mem_cons.mpr ⟨h1, ih h.2⟩
    · exact List.forall_mem_cons.mpr ⟨h.1, ih h.2⟩

theorem normFactors_typed {fs : List (Int × Nat)} (h : TypedF fs) : TypedF (normFactors fs) :=
  normFactors_forall ⟨by decide, by decide, by decide⟩ h

theorem normFactors_noOne {fs : List (Int × Nat)} (h : NoOne fs) : NoOne (normFactors fs) :=
  normFactors_forall (P := fun f => f.1 ≠ 1) (by decide) h

theorem lt_pow_lebLen (v : Nat) : v < 128 ^ lebLen v := by
  rw [show (128 : Nat) = 2 ^ 7 by norm_num, ← pow_mul,
    ← Bits.bitlen_le_iff bitlen (fun _ => rfl)]
  unfold lebLen
  omega

theorem shiftRight_7 (v m : Nat) : v >>> (7 * m) = v / 128 ^ m := by
  rw [Nat.shiftRight_eq_div_pow, pow_mul]; norm_num

theorem lebDec_cont (v : Nat) : ∀ (m cur : Nat) (rest : List Nat),
    cur * 128 ^ m + v % 128 ^ m < W64 →
    lebDec (lebCont v m ++ rest) cur false = lebDec rest (cur * 128 ^ m + v % 128 ^ m) false := by
  intro m
  induction m with
  | zero => intro cur rest _; simp [lebCont, Nat.mod_one]
  | succ m ih =>
    intro cur rest hlt
    have hsplit : v % 128 ^ (m + 1) = v % 128 ^ m + 128 ^ m * (v / 128 ^ m % 128) :=
      Nat.mod_pow_succ
    have hpos : 0 < 128 ^ m := Nat.pow_pos (by decide)
    have hcur : cur * 128 < W64 := by
      have : cur * 128 * 1 ≤ cur * 128 * 128 ^ m := Nat.mul_le_mul_left _ hpos
      rw [pow_succ] at hlt
      have e : cur * (128 ^ m * 128) = cur * 128 * 128 ^ m := by ring
      omega
    have hd : (v / 128 ^ m % 128 + 128) % 128 = v / 128 ^ m % 128 := by omega
    have hnew : (cur * 128 + v / 128 ^ m % 128) * 128 ^ m + v % 128 ^ m =
        cur * 128 ^ (m + 1) + v % 128 ^ (m + 1) := by
      rw [hsplit, pow_succ]; ring
    simp only [lebCont, List.cons_append, shiftRight_7]
    rw [lebDec_cons, if_neg (by omega), hd, Nat.mod_eq_of_lt hcur]
    rw [ih (cur * 128 + v / 128 ^ m % 128) rest (by rw [hnew]; exact hlt), hnew]

theorem lebDec_enc (v : Nat) (hv : v < W64) (rest : List Nat) (cur : Nat) (first : Bool) :
    lebDec (lebEnc v ++ rest) cur first =
      (if first then lebDec rest v false else cur :: lebDec rest v false) := by
  have hlt := lt_pow_lebLen v
  have hlen : 1 ≤ lebLen v := by unfold lebLen; exact Nat.le_max_left _ _
  obtain ⟨m, hm⟩ : ∃ m, lebLen v = m + 1 := ⟨lebLen v - 1, by omega⟩
  rw [hm] at hlt
  have hpos : 0 < 128 ^ m := Nat.pow_pos (by decide)
  have hb0 : v / 128 ^ m < 128 := by
    rw [Nat.div_lt_iff_lt_mul hpos, Nat.mul_comm, ← pow_succ]; exact hlt
  have hval : v / 128 ^ m * 128 ^ m + v % 128 ^ m = v := by
    rw [Nat.mul_comm]; exact Nat.div_add_mod v _
  unfold lebEnc
  simp only [hm, Nat.add_sub_cancel, shiftRight_7, List.cons_append, Nat.mod_eq_of_lt hb0]
  rw [lebDec_cons, if_pos hb0, lebDec_cont v m _ rest (by rw [hval]; exact hv), hval]

theorem lebDec_encInts : ∀ (t : List Nat) (v cur : Nat) (first : Bool),
    (∀ w ∈ v :: t, w < W64) →
    lebDec (encInts (v :: t)) cur first = (if first then v :: t else cur :: v :: t) := by
  intro t
  induction t with
  | nil =>
    intro v cur first h
    have := lebDec_enc v (h v (by simp)) [] cur first
    simp only [encInts, List.append_nil] at this ⊢
    rw [this]; simp [lebDec]
  | cons w t ih =>
    intro v cur first h
    have hv := h v (by simp)
    have ht : ∀ u ∈ w :: t, u < W64 := fun u hu => h u (List.mem_cons_of_mem _ hu)
    have := lebDec_enc v hv (encInts (w :: t)) cur first
    rw [show encInts (v :: w :: t) = lebEnc v ++ encInts (w :: t) from rfl, this,
      ih w v false ht]
    simp

theorem lebDec_lt : ∀ (bs : List Nat) (cur : Nat) (first : Bool), cur < W64 →
    ∀ w ∈ lebDec bs cur first, w < W64 := by
  intro bs
  induction bs with
  | nil => intro cur first hc w hw; simp [lebDec] at hw; subst hw; exact hc
  | cons b bs ih =>
    intro cur first hc w hw
    rw [lebDec_cons] at hw
    have e4 : W64 = 18446744073709551616 := by decide
    have hstep : cur * 128 % W64 + b % 128 < W64 := by unfold W64; omega
    split at hw
    · rename_i hb
      have hb' : b < W64 := by omega
      split at hw
      · exact ih b false hb' w hw
      · rcases List.mem_cons.mp hw with hw | hw
        · subst hw; exact hc
        · exact ih b false hb' w hw
    · exact ih _ false hstep w hw

theorem packFactors_cons (p : Int) (k : Nat) (t : List (Int × Nat)) :
    packFactors ((p, k) :: t) =
      (if p = -1 then
        (if k % 2 = 0 then packFactors t else do
          let l ← packFactors t
          pure (0 :: l))
      else if ¬ (p > 0 ∧ p < (W32 : Int) ∧ k > 0) then throw .panic
      else if (if p = 2 then 1 else p.toNat) % 2 ≠ 1 then throw .panic
      else do
        let l ← packFactors t
        if k > 1 then pure (2 * (if p = 2 then 1 else p.toNat) :: k :: l)
        else pure ((if p = 2 then 1 else p.toNat) :: l)) := rfl

theorem packFactors_spec : ∀ (fs : List (Int × Nat)) (ints : List Nat),
    packFactors fs = .ok ints → NoOne fs → TypedF fs →
    unpackFactors ints none = .ok (normFactors fs) ∧ ∀ w ∈ ints, w < W64 := by
  intro fs
  induction fs with
  | nil =>
    intro ints h _ _
    simp only [packFactors, pure_eq_ok] at h
    subst h
    exact ⟨rfl, fun w hw => by cases hw⟩
  | cons f t ih =>
    obtain ⟨p, k⟩ := f
    intro ints h hno hty
    rw [NoOne_cons] at hno
    rw [TypedF_cons] at hty
    have e4 : W64 = 18446744073709551616 := by decide
    have e32 : (W32 : Int) = 4294967296 := by decide
    rw [packFactors_cons] at h
    by_cases hp : p = -1
    · subst hp
      rw [if_pos rfl] at h
      by_cases hev : k % 2 = 0
      · rw [if_pos hev] at h
        obtain ⟨h1, h2⟩ := ih ints h hno.2 hty.2
        refine ⟨?_, h2⟩
        rw [h1, normFactors_cons, if_pos rfl, if_pos hev]
      · rw [if_neg hev] at h
        simp only [bind_eq_ok, pure_eq_ok] at h
        obtain ⟨l, hl, h⟩ := h
        subst h
        obtain ⟨h1, h2⟩ := ih l hl hno.2 hty.2
        refine ⟨?_, ?_⟩
        · rw [unpackFactors_none, if_pos rfl]
          simp only [bind_eq_ok, pure_eq_ok]
          refine ⟨_, h1, ?_⟩
          rw [normFactors_cons, if_pos rfl, if_neg hev]
        · intro w hw
          rcases List.mem_cons.mp hw with hw | hw
          · subst hw; decide
          · exact h2 w hw
    · rw [if_neg hp] at h
      by_cases hdom : (p > 0 ∧ p < (W32 : Int) ∧ k > 0)
      · rw [if_neg (not_not.mpr hdom)] at h
        obtain ⟨hp0, hp32, hk0⟩ := hdom
        have hp1 : p ≠ 1 := hno.1
        have hk64 : k < W64 := hty.1.2.2
        have hpn : (p.toNat : Int) = p := Int.toNat_of_nonneg (le_of_lt hp0)
        -- the code p' of the prime and how it decodes
        obtain ⟨p', hp'def, hlo, hhi, hD1, hD2⟩ : ∃ p' : Nat, (if p = 2 then 1 else p.toNat) = p' ∧
            1 ≤ p' ∧ p' < 4294967296 ∧ toI64 (if p' = 1 then 2 else p') = p ∧
            toI64 (if 2 * p' = 2 then 2 else 2 * p' / 2) = p := by
          by_cases hp2 : p = 2
          · subst hp2
            exact ⟨1, by simp, by decide, by decide, by simp [toI64, I63], by simp [toI64, I63]⟩
          · refine ⟨p.toNat, by rw [if_neg hp2], by omega, by omega, ?_, ?_⟩
            · rw [if_neg (by omega), toI64_small (by unfold I63; omega), hpn]
            · rw [if_neg (by omega), show 2 * p.toNat / 2 = p.toNat by omega,
                toI64_small (by unfold I63; omega), hpn]
        rw [hp'def] at h
        by_cases hodd : p' % 2 = 1
        · rw [if_neg (not_not.mpr hodd)] at h
          simp only [bind_eq_ok] at h
          obtain ⟨l, hl, h⟩ := h
          obtain ⟨h1, h2⟩ := ih l hl hno.2 hty.2
          have hnorm : normFactors ((p, k) :: t) = (p, k) :: normFactors t := by
            rw [normFactors_cons, if_neg hp]
          by_cases hk1 : k > 1
          · rw [if_pos hk1] at h
            simp only [pure_eq_ok] at h
            subst h
            refine ⟨?_, ?_⟩
            · rw [unpackFactors_none, if_neg (by omega), if_neg (by omega), unpackFactors_some]
              simp only [bind_eq_ok, pure_eq_ok]
              refine ⟨_, h1, ?_⟩
              rw [hnorm, hD2]
            · intro w hw
              simp only [List.mem_cons] at hw
              rcases hw with hw | hw | hw
              · subst hw; omega
              · subst hw; exact hk64
              · exact h2 w hw
          · rw [if_neg hk1] at h
            have hk : k = 1 := by omega
            simp only [pure_eq_ok] at h
            subst h
            refine ⟨?_, ?_⟩
            · rw [unpackFactors_none, if_neg (by omega), if_pos hodd]
              simp only [bind_eq_ok, pure_eq_ok]
              refine ⟨_, h1, ?_⟩
              rw [hnorm, hk, hD1]
            · intro w hw
              rcases List.mem_cons.mp hw with hw | hw
              · subst hw; omega
              · exact h2 w hw
        · rw [if_pos hodd] at h
          simp [throw_ne_ok] at h
      · rw [if_pos hdom] at h
        simp [throw_ne_ok] at h

theorem unpackFactors_typed : ∀ (ints : List Nat) (pend : Option Int) (fs : List (Int × Nat)),
    unpackFactors ints pend = .ok fs → (∀ w ∈ ints, w < W64) →
    (∀ p, pend = some p → -(I63 : Int) ≤ p ∧ p < (I63 : Int) ∧ p ≠ 1) →
    TypedF fs ∧ NoOne fs := by
  intro ints
  induction ints with
  | nil =>
    intro pend fs h _ _
    cases pend with
    | none =>
      simp only [unpackFactors, pure_eq_ok] at h
      subst h
      exact ⟨TypedF_nil, fun f hf => by cases hf⟩
    | some p => simp [unpackFactors, throw_ne_ok] at h
  | cons v t ih =>
    intro pend fs h hlt hpend
    have hv : v < W64 := hlt v (by simp)
    have ht : ∀ w ∈ t, w < W64 := fun w hw => hlt w (List.mem_cons_of_mem _ hw)
    have e4 : W64 = 18446744073709551616 := by decide
    have e3 : I63 = 9223372036854775808 := by decide
    have e2 : (I63 : Int) = 9223372036854775808 := by decide
    cases pend with
    | some p =>
      rw [unpackFactors_some] at h
      simp only [bind_eq_ok, pure_eq_ok] at h
      obtain ⟨l, hl, h⟩ := h
      subst h
      obtain ⟨h1, h2⟩ := ih none l hl ht (by intro p hp; cases hp)
      obtain ⟨a, b, c⟩ := hpend p rfl
      exact ⟨TypedF_cons.mpr ⟨⟨a, b, hv⟩, h1⟩, NoOne_cons.mpr ⟨c, h2⟩⟩
    | none =>
      rw [unpackFactors_none] at h
      split at h
      · simp only [bind_eq_ok, pure_eq_ok] at h
        obtain ⟨l, hl, h⟩ := h
        subst h
        obtain ⟨h1, h2⟩ := ih none l hl ht (by intro p hp; cases hp)
        exact ⟨TypedF_cons.mpr ⟨⟨by decide, by decide, by decide⟩, h1⟩,
          NoOne_cons.mpr ⟨by decide, h2⟩⟩
      · rename_i hv0
        split at h
        · rename_i hodd
          simp only [bind_eq_ok, pure_eq_ok] at h
          obtain ⟨l, hl, h⟩ := h
          subst h
          obtain ⟨h1, h2⟩ := ih none l hl ht (by intro p hp; cases hp)
          have hr := toI64_range (v := if v = 1 then 2 else v) (by split <;> omega)
          refine ⟨TypedF_cons.mpr ⟨⟨hr.1, hr.2, by show (1 : Nat) < W64; decide⟩, h1⟩, NoOne_cons.mpr ⟨?_, h2⟩⟩
          simp only
          unfold toI64
          split <;> split <;> omega
        · rename_i hev
          have hr := toI64_range (v := if v = 2 then 2 else v / 2) (by split <;> omega)
          refine ih _ fs h ht ?_
          intro p hp
          cases hp
          refine ⟨hr.1, hr.2, ?_⟩
          unfold toI64
          split <;> split <;> omega

theorem digits8_eq (x : Nat) : digits8 x = Limbs.ofNat 8 x := by
  simp only [digits8, Limbs.ofNat, Nat.div_div_eq_div_mul, ← pow_succ, ← pow_two]
  rfl

theorem words8_val (x0 x1 x2 x3 x4 x5 x6 x7 : Nat) :
    x0 + x1 * W64 + x2 * W64 ^ 2 + x3 * W64 ^ 3 + x4 * W64 ^ 4 + x5 * W64 ^ 5 + x6 * W64 ^ 6 +
      x7 * W64 ^ 7 = Limbs.val [x0, x1, x2, x3, x4, x5, x6, x7] := by
  simp only [Limbs.val_cons, Limbs.val_nil, show Limbs.W = W64 from rfl]
  ring

theorem digits8_sum (x : Nat) :
    x % W64 + x / W64 % W64 * W64 + x / W64 ^ 2 % W64 * W64 ^ 2 + x / W64 ^ 3 % W64 * W64 ^ 3 +
      x / W64 ^ 4 % W64 * W64 ^ 4 + x / W64 ^ 5 % W64 * W64 ^ 5 + x / W64 ^ 6 % W64 * W64 ^ 6 +
      x / W64 ^ 7 % W64 * W64 ^ 7 = x % W64 ^ 8 := by
  rw [words8_val]
  exact (congrArg Limbs.val (digits8_eq x)).trans (Limbs.val_ofNat 8 x)

/-- 2^512 -/
def X512 : Nat := W64 ^ 8

theorem unpack_pack' {r : Relation} {b : List Nat} (h : pack r = .ok b) (hty : Typed r)
    (hno : NoOne r.factors) :
    unpack b = .ok { x := r.x % X512, cofactor := r.cofactor, cyclelen := r.cyclelen,
                     factors := normFactors r.factors } := by
  unfold pack at h
  simp only [bind_eq_ok, pure_eq_ok] at h
  obtain ⟨ints, hints, h⟩ := h
  subst h
  unfold packInts at hints
  simp only [bind_eq_ok, pure_eq_ok] at hints
  obtain ⟨l, hl, hints⟩ := hints
  subst hints
  obtain ⟨hu, hlt⟩ := packFactors_spec _ _ hl hno hty.2.2
  have hall : ∀ w ∈ (digits8 r.x ++ r.cofactor :: r.cyclelen :: l), w < W64 := by
    rw [digits8_eq]
    exact List.forall_mem_append.mpr ⟨Limbs.ofNat_Wf 8 r.x,
      List.forall_mem_cons.mpr ⟨hty.1, List.forall_mem_cons.mpr ⟨hty.2.1, hlt⟩⟩⟩
  unfold unpack
  have hdec : lebDec (encInts (digits8 r.x ++ r.cofactor :: r.cyclelen :: l)) 0 true =
      digits8 r.x ++ r.cofactor :: r.cyclelen :: l :=
    lebDec_encInts _ (r.x % W64) 0 true hall
  rw [hdec]
  simp only [digits8, List.cons_append, List.nil_append, unpackInts, bind_eq_ok, pure_eq_ok]
  refine ⟨_, hu, ?_⟩
  congr 1
  exact digits8_sum r.x

theorem unpack_facts {b : List Nat} {r : Relation} (h : unpack b = .ok r) :
    Typed r ∧ NoOne r.factors ∧ r.x < X512 := by
  unfold unpack at h
  have hlt := lebDec_lt b 0 true (by decide)
  generalize lebDec b 0 true = ints at h hlt
  unfold unpackInts at h
  split at h
  · rename_i x0 x1 x2 x3 x4 x5 x6 x7 cof clen rest
    simp only [bind_eq_ok, pure_eq_ok] at h
    obtain ⟨fs, hfs, h⟩ := h
    subst h
    have hrest : ∀ w ∈ rest, w < W64 := fun w hw => hlt w (by simp [hw])
    obtain ⟨h1, h2⟩ := unpackFactors_typed rest none fs hfs hrest (by intro p hp; cases hp)
    refine ⟨⟨hlt cof (by simp), hlt clen (by simp), h1⟩, h2, ?_⟩
    have hw : Limbs.Wf [x0, x1, x2, x3, x4, x5, x6, x7] :=
      fun w hw => hlt w (List.mem_append_left (cof :: clen :: rest) hw)
    rw [words8_val]
    exact Limbs.val_lt hw
  · simp [throw_ne_ok] at h

end Ymq.Relations
