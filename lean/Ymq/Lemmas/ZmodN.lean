/-
Lemmas about the model of `ZmodN` (Ymq/Model/ZmodN.lean): the limb helpers
`mint_lt`, `mint_add`, `mint_sub`, the conditional subtraction, and `add` / `sub`.
-/
import Ymq.Lemmas.Limbs
import Ymq.Model.ZmodN
import Mathlib.Data.Nat.ModEq

namespace Ymq.ZmodN
open Ymq.Limbs

/-- A well-formed context: what `ZmodN::new(n)` establishes (`new_spec` in Props/C07). -/
structure Valid (c : Ctx) : Prop where
  kpos : 1 ≤ c.k
  kle : c.k ≤ 8
  nodd : c.n % 2 = 1
  nlt : c.n < W ^ c.k
  hninv : (c.n * c.ninv + 1) % W = 0
  rlen : c.r.length = 8
  rwf : Wf c.r
  rval : val c.r = W ^ c.k % c.n
  r2len : c.r2.length = 8
  r2wf : Wf c.r2
  r2val : val c.r2 = W ^ c.k * W ^ c.k % c.n

theorem val_eq_take_add_top {x : List Nat} {k : Nat} (hk : k < x.length) (hv : val x < 2 * W ^ k) :
    val x = val (x.take k) + W ^ k * x.getD k 0 ∧ x.getD k 0 ≤ 1 ∧ val (x.drop (k + 1)) = 0 := by
  have h0 : val (x.drop (k + 1)) = 0 :=
    val_drop_eq_zero (lt_of_lt_of_le hv (by rw [pow_succ, Nat.mul_comm]; exact Nat.mul_le_mul_left _ (by decide)))
  have ex := val_take_drop x k
  have hg : x[k] = x.getD k 0 := by simp [List.getD_eq_getElem?_getD, List.getElem?_eq_getElem hk]
  rw [List.drop_eq_getElem_cons hk, hg, val_cons, h0, Nat.mul_zero, Nat.add_zero] at ex
  refine ⟨ex, Nat.le_of_lt_succ (Nat.lt_of_mul_lt_mul_left (a := W ^ k) ?_), h0⟩
  omega

theorem splice {x r : List Nat} {k t : Nat} (hk : k < x.length) (hx : Wf x) (hr : r.length = k)
    (hw : Wf r) (ht : t < W) (h0 : val (x.drop (k + 1)) = 0) :
    val (r ++ t :: x.drop (k + 1)) = val r + W ^ k * t ∧
    (r ++ t :: x.drop (k + 1)).length = x.length ∧ Wf (r ++ t :: x.drop (k + 1)) := by
  refine ⟨?_, ?_, Wf_append.2 ⟨hw, Wf_cons.2 ⟨ht, Wf_drop hx _⟩⟩⟩
  · rw [val_append, val_cons, h0, hr, Nat.mul_zero, Nat.add_zero]
  · rw [List.length_append, List.length_cons, List.length_drop, hr]; omega

theorem mintLt_spec (x ns : List Nat) (k : Nat) (hx : Wf x) (hn : Wf ns)
    (hvx : val x < 2 * W ^ k) (hvn : val ns < W ^ k) (hkx : k ≤ x.length) (hkn : k ≤ ns.length) :
    mintLt x ns k = some (decide (val x < val ns)) := by
  have h2 : allZero (ns.drop k) = true := allZero_of_val_eq_zero _ (val_drop_eq_zero hvn)
  have en := (val_take_of_lt hvn).symm
  have hcmp := ltWords_spec _ _ (by rw [List.length_take, List.length_take, Nat.min_eq_left hkx,
    Nat.min_eq_left hkn]) (Wf_take hx k) (Wf_take hn k)
  unfold mintLt
  rcases Nat.lt_or_ge k x.length with hk | hk
  · obtain ⟨ex, _, h0⟩ := val_eq_take_add_top hk hvx
    rw [if_neg (by rw [allZero_of_val_eq_zero _ h0]; simp), if_neg (by rw [h2]; simp)]
    by_cases hc : x.getD k 0 > 0
    · have := Nat.mul_le_mul_left (W ^ k) hc
      rw [if_pos ⟨hk, hc⟩, decide_eq_false (by omega)]
    · rw [if_neg (fun h => hc h.2), hcmp, ← en]
      rw [Nat.eq_zero_of_not_pos hc, Nat.mul_zero, Nat.add_zero] at ex
      rw [ex]
  · rw [List.drop_eq_nil_of_le (by omega), if_neg (by simp [allZero]), if_neg (by rw [h2]; simp),
      if_neg (fun h => absurd h.1 (by omega)), hcmp, ← en, List.take_of_length_le hk]

/-- borrow and top word of `lo + P·hi - Y` computed as `lo + (P - 1 - Y) + 1` on the low part
(`R + P·cy`): the carry out is the complement of the top word, and the low part is the difference -/
theorem sub_carry {P lo Y R cy hi X : Nat} (e : R + P * cy + Y = lo + P) (hR : R < P)
    (hX : X = lo + P * hi) (hhi : hi ≤ 1) (hge : Y ≤ X) (hlt : X - Y < P) :
    cy ≤ 1 ∧ hi = 1 - cy ∧ R + Y = X := by
  have hcy : cy ≤ 1 := by
    by_contra h
    have := Nat.mul_le_mul_left P (show 2 ≤ cy by omega)
    omega
  obtain rfl | rfl : hi = 0 ∨ hi = 1 := by omega
  all_goals obtain rfl | rfl : cy = 0 ∨ cy = 1 := by omega
  all_goals omega

/-- `hfit`: without a spare word (`k = x.length`: 8-word moduli) `mint_add` asserts `carry == 0`, so the sum has to fit the
`k` words (C07 `add_512bit_counterexample`). -/
theorem mintAdd_spec (x y : List Nat) (k : Nat) (hx : Wf x)
    (hvx : val x < W ^ k) (hkx : k ≤ x.length) (hky : k ≤ y.length)
    (hfit : k < x.length ∨ val x + val (y.take k) < W ^ k) (hyk : val (y.take k) < W ^ k) :
    ∃ m, mintAdd x y k = some m ∧ val m = val x + val (y.take k) ∧ m.length = x.length ∧ Wf m := by
  have hlk : (x.take k).length = k := by rw [List.length_take, Nat.min_eq_left hkx]
  obtain ⟨e1, e2, e3⟩ := addc_spec (x.take k) (y.take k) 0
    (by rw [hlk, List.length_take, Nat.min_eq_left hky])
  rw [hlk] at e1 e2
  have ex := (val_take_of_lt hvx).symm
  have hlo := val_lt e3
  rw [e2] at hlo
  unfold mintAdd
  generalize addc (x.take k) (y.take k) 0 = r at *
  simp only []
  by_cases hk : k < x.length
  · obtain ⟨ex', _, h1⟩ := val_eq_take_add_top hk (by omega)
    have h0 : x.getD k 0 = 0 := by
      by_contra h
      have := Nat.mul_le_mul_left (W ^ k) (Nat.pos_of_ne_zero h)
      omega
    have hc : r.2 < 2 := Nat.lt_of_mul_lt_mul_left (a := W ^ k) (by omega)
    have hcW : r.2 < W := lt_of_lt_of_le hc (by decide)
    obtain ⟨s1, s2, s3⟩ := splice hk hx e2 e3 hcW h1
    rw [if_pos hk, h0, Nat.zero_add, if_neg (not_le.2 hcW)]
    exact ⟨_, rfl, by rw [s1, e1, ex, Nat.add_zero], s2, s3⟩
  · have hc0 : r.2 = 0 := by
      by_contra h
      have := Nat.mul_le_mul_left (W ^ k) (Nat.pos_of_ne_zero h)
      omega
    rw [if_neg hk, if_neg (by simp [hc0])]
    rw [hc0] at e1
    exact ⟨_, rfl, by omega, by omega, e3⟩

/-- The subtrahend enters twice: the `debug_assert` of `mint_sub` compares 8 words of `y` (`hY8`), the row uses `k` (`hYk`);
the caller shows that both have the value `Y`. -/
theorem mintSub_spec (x y : List Nat) (k Y : Nat) (hx : Wf x) (hy : Wf y) (hlen : x.length = 8)
    (hk : k ≤ 8) (hky : k ≤ y.length)
    (hY8 : val (y.take 8) = Y) (hYk : val (y.take k) = Y)
    (hge : Y ≤ val x) (hlt : val x - Y < W ^ k) (hvx : val x < 2 * W ^ k) :
    ∃ m, mintSub x y k = some m ∧ val m + Y = val x ∧ m.length = 8 ∧ Wf m := by
  have hlk : (x.take k).length = k := by rw [List.length_take, Nat.min_eq_left (by omega)]
  have hlyk : (y.take k).length = k := by rw [List.length_take, Nat.min_eq_left hky]
  obtain ⟨e1, e2, e3⟩ := addc_spec (x.take k) (compl (y.take k)) 1 (by rw [compl_length, hlk, hlyk])
  have hcv := compl_val (y.take k) (Wf_take hy k)
  rw [hlk] at e1 e2
  rw [hYk, hlyk] at hcv
  have hR := val_lt e3
  rw [e2] at hR
  unfold mintSub subc
  simp only [MW, hY8]
  generalize addc (x.take k) (compl (y.take k)) 1 = r at *
  have e : val r.1 + W ^ k * r.2 + Y = val (x.take k) + W ^ k := by omega
  rw [if_neg (by omega)]
  by_cases hk8 : k < 8
  · have hkx : k < x.length := by omega
    obtain ⟨ex, hhi, h1⟩ := val_eq_take_add_top hkx hvx
    obtain ⟨hc, htop, hv⟩ := sub_carry e hR ex hhi hge hlt
    simp only [hk8, if_true]
    rw [if_neg (by omega), if_neg (not_not.2 htop)]
    obtain ⟨s1, s2, s3⟩ := splice hkx hx e2 e3 W_pos h1
    exact ⟨_, rfl, by rw [s1, Nat.mul_zero, Nat.add_zero]; exact hv, s2.trans hlen, s3⟩
  · have ex := val_take_drop x k
    rw [List.drop_eq_nil_of_le (by omega), val_nil, Nat.mul_zero, ← Nat.mul_zero (W ^ k)] at ex
    obtain ⟨hc, htop, hv⟩ := sub_carry e hR ex (Nat.zero_le 1) hge hlt
    simp only [hk8, if_false]
    rw [if_neg (by omega)]
    exact ⟨_, rfl, hv, by omega, e3⟩

theorem Valid.npos {c : Ctx} (h : Valid c) : 0 < c.n := by have := h.nodd; omega

theorem Valid.nlt8 {c : Ctx} (h : Valid c) : c.n < W ^ 8 :=
  lt_of_lt_of_le h.nlt (Nat.pow_le_pow_right W_pos h.kle)

theorem nd_length (c : Ctx) : c.nd.length = 16 := by simp [Ctx.nd]

theorem nd_Wf (c : Ctx) : Wf c.nd := ofNat_Wf _ _

theorem nd_take_val {c : Ctx} (h : Valid c) (j : Nat) (hj : c.k ≤ j) (hj16 : j ≤ 16) :
    val (c.nd.take j) = c.n := by
  rw [Ctx.nd, ofNat_take _ _ _ hj16, val_ofNat]
  exact Nat.mod_eq_of_lt (lt_of_lt_of_le h.nlt (Nat.pow_le_pow_right W_pos hj))

theorem nd_val {c : Ctx} (h : Valid c) : val c.nd = c.n := by
  have := nd_take_val h 16 (by have := h.kle; omega) (le_refl _)
  rwa [List.take_of_length_le (by rw [nd_length])] at this

/-- `if !mint_lt(m, n, k) { mint_sub(m, n, k) }` brings a value below `2n` into `[0, n)`. -/
theorem condSub_spec {c : Ctx} (h : Valid c) (m : List Nat) (hm : Wf m) (hlen : m.length = 8)
    (hlt : val m < 2 * c.n) :
    ∃ m', condSub c m = some m' ∧ val m' < c.n ∧ val m' ≡ val m [MOD c.n] ∧
      m'.length = 8 ∧ Wf m' := by
  have hk := h.kle
  have hn := h.nlt
  have h1 := mintLt_spec m c.nd c.k hm (nd_Wf c) (by omega) (by rw [nd_val h]; exact hn)
    (by omega) (by rw [nd_length]; omega)
  rw [nd_val h] at h1
  unfold condSub
  rw [h1]
  by_cases hc : val m < c.n
  · simp only [hc, decide_true]
    exact ⟨m, rfl, hc, rfl, hlen, hm⟩
  · simp only [hc, decide_false]
    obtain ⟨m', e1, e2, e3, e4⟩ := mintSub_spec m c.nd c.k c.n hm (nd_Wf c) hlen hk
      (by rw [nd_length]; omega) (nd_take_val h 8 hk (by omega)) (nd_take_val h c.k (le_refl _) (by omega))
      (by omega) (by omega) (by omega)
    exact ⟨m', e1, by omega, e2 ▸ (Nat.add_mod_right _ _).symm, e3, e4⟩

theorem add_spec' {c : Ctx} (h : Valid c) (x y : List Nat) (hx : Wf x) (_hy : Wf y)
    (hlx : x.length = 8) (hly : y.length = 8) (hvx : val x < c.n) (hvy : val y < c.n)
    (hfit : c.k < 8 ∨ val x + val y < W ^ 8) :
    ∃ m, add c x y = some m ∧ val m < c.n ∧ val m % c.n = (val x + val y) % c.n ∧
      m.length = 8 ∧ Wf m := by
  have hk := h.kle
  have hn := h.nlt
  have hyk : val (y.take c.k) = val y := val_take_of_lt (lt_trans hvy hn)
  obtain ⟨m, e1, e2, e3, e4⟩ := mintAdd_spec x y c.k hx (lt_trans hvx hn) (by omega) (by omega)
    ((Nat.lt_or_ge c.k 8).imp (by omega) fun h8 => by
      rw [hyk, show c.k = 8 by omega]; exact hfit.resolve_left (by omega))
    (by rw [hyk]; exact lt_trans hvy hn)
  rw [hyk] at e2
  obtain ⟨m', f1, f2, f3, f4, f5⟩ := condSub_spec h m e4 (by omega) (by omega)
  unfold add toUint
  simp only [hvx, hvy, not_true_eq_false, if_false, e1, f1, f2]
  exact ⟨m', rfl, f2, e2 ▸ f3, f4, f5⟩

theorem sub_spec' {c : Ctx} (h : Valid c) (x y : List Nat) (hx : Wf x) (hy : Wf y)
    (hlx : x.length = 8) (hly : y.length = 8) (hvx : val x < c.n) (hvy : val y < c.n)
    (hfit : c.k < 8 ∨ val y ≤ val x ∨ val x + c.n < W ^ 8) :
    ∃ m, sub c x y = some m ∧ val m < c.n ∧ (val m + val y) % c.n = val x % c.n ∧
      m.length = 8 ∧ Wf m := by
  have hk := h.kle
  have hn := h.nlt
  have hyk : val (y.take c.k) = val y := val_take_of_lt (lt_trans hvy hn)
  have hy8 : val (y.take 8) = val y := by rw [List.take_of_length_le (by omega)]
  have hnk := nd_take_val h c.k (le_refl _) (by omega)
  have h1 := mintLt_spec x y c.k hx hy (by omega) (lt_trans hvy hn) (by omega) (by omega)
  unfold sub toUint
  simp only [hvx, hvy, not_true_eq_false, if_false, h1]
  by_cases hc : val x < val y
  · simp only [hc, decide_true, if_true]
    obtain ⟨s, e1, e2, e3, e4⟩ := mintAdd_spec x c.nd c.k hx (lt_trans hvx hn) (by omega)
      (by rw [nd_length]; omega)
      ((Nat.lt_or_ge c.k 8).imp (by omega) fun h8 => by
        rw [hnk, show c.k = 8 by omega]; omega)
      (by rw [hnk]; exact hn)
    rw [hnk] at e2
    obtain ⟨m, f1, f2, f3, f4⟩ := mintSub_spec s y c.k (val y) e4 hy (by omega) hk (by omega) hy8 hyk
      (by omega) (by omega) (by omega)
    have : val m < c.n := by omega
    simp only [e1, f1, this, not_true_eq_false, if_false]
    refine ⟨m, rfl, this, ?_, f3, f4⟩
    rw [f2, e2, Nat.add_mod_right]
  · simp only [hc, decide_false]
    obtain ⟨m, f1, f2, f3, f4⟩ := mintSub_spec x y c.k (val y) hx hy hlx hk (by omega) hy8 hyk
      (by omega) (by omega) (by omega)
    have : val m < c.n := by omega
    simp only [Bool.false_eq_true, if_false, f1, this, not_true_eq_false]
    exact ⟨m, rfl, this, by rw [f2], f3, f4⟩

end Ymq.ZmodN
