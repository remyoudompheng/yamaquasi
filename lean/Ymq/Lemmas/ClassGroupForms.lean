/-
The reference enumeration `reducedForms D` of Ymq/Model/ClassGroup.lean lists exactly the reduced
primitive positive definite forms of discriminant `D < 0`, without repetition.
-/
import Ymq.Model.ClassGroup
import Mathlib.Data.Nat.Sqrt
import Mathlib.Data.List.Nodup
import Mathlib.Data.List.Range
import Mathlib.Tactic.Linarith
import Mathlib.Tactic.Ring
import Mathlib.Tactic.LinearCombination

namespace Ymq.ClassGroup

/-- `f` is a reduced primitive positive definite form of discriminant `D` -/
def IsReducedPrim (D : Int) (f : Form) : Prop :=
  f.disc = D ∧ 0 < f.a ∧ f.b.natAbs ≤ f.a.natAbs ∧ f.a ≤ f.c ∧
    ((f.b.natAbs = f.a.natAbs ∨ f.a = f.c) → 0 ≤ f.b) ∧ gcd3 f.a f.b f.c = 1

theorem isReducedPrim_iff (f : Form) :
    f.isReducedPrim = true ↔ (0 < f.a ∧ f.b.natAbs ≤ f.a.natAbs ∧ f.a ≤ f.c ∧
      ((f.b.natAbs = f.a.natAbs ∨ f.a = f.c) → 0 ≤ f.b) ∧ gcd3 f.a f.b f.c = 1) := by
  unfold Form.isReducedPrim
  simp only [Bool.and_eq_true, Bool.or_eq_true, Bool.not_eq_true', decide_eq_true_eq,
    decide_eq_false_iff_not, beq_iff_eq]
  constructor
  · rintro ⟨⟨⟨⟨h1, h2⟩, h3⟩, h4⟩, h5⟩
    refine ⟨h1, h2, h3, ?_, h5⟩
    intro h
    rcases h4 with h4 | h4
    · exact absurd h h4
    · exact h4
  · rintro ⟨h1, h2, h3, h4, h5⟩
    refine ⟨⟨⟨⟨h1, h2⟩, h3⟩, ?_⟩, h5⟩
    by_cases h : f.b.natAbs = f.a.natAbs ∨ f.a = f.c
    · exact Or.inr (h4 h)
    · exact Or.inl h

theorem mem_bRange {a : Nat} {b : Int} : b ∈ bRange a ↔ -(a : Int) ≤ b ∧ b ≤ a := by
  unfold bRange
  simp only [List.mem_map, List.mem_range]
  constructor
  · rintro ⟨i, hi, rfl⟩
    constructor <;> omega
  · rintro ⟨h1, h2⟩
    refine ⟨(b + a).toNat, ?_, ?_⟩ <;> omega

theorem bRange_nodup (a : Nat) : (bRange a).Nodup := by
  unfold bRange
  apply List.Nodup.map
  · intro i j h
    simp only at h
    omega
  · exact List.nodup_range

theorem mem_formsWithA {D : Int} {a : Nat} {f : Form} :
    f ∈ formsWithA D a ↔ ∃ b : Int, -(a : Int) ≤ b ∧ b ≤ a ∧ (b * b - D) % (4 * (a : Int)) = 0 ∧
      f = ⟨a, b, (b * b - D) / (4 * (a : Int))⟩ ∧ f.isReducedPrim = true := by
  unfold formsWithA
  simp only [List.mem_filterMap, mem_bRange]
  constructor
  · rintro ⟨b, ⟨h1, h2⟩, h⟩
    split at h
    · rename_i hm
      split at h
      · rename_i hr
        simp only [Option.some.injEq] at h
        exact ⟨b, h1, h2, hm, h.symm, h ▸ hr⟩
      · simp at h
    · simp at h
  · rintro ⟨b, h1, h2, hm, rfl, hr⟩
    refine ⟨b, ⟨h1, h2⟩, ?_⟩
    simp [hm, hr]

theorem formsWithA_a {D : Int} {a : Nat} {f : Form} (h : f ∈ formsWithA D a) : f.a = a := by
  obtain ⟨b, _, _, _, rfl, _⟩ := mem_formsWithA.1 h
  rfl

theorem formsWithA_nodup (D : Int) (a : Nat) : (formsWithA D a).Nodup := by
  unfold formsWithA
  apply List.Nodup.filterMap _ (bRange_nodup a)
  intro b b' f hb hb'
  simp only [Option.mem_def] at hb hb'
  split at hb
  · split at hb
    · split at hb'
      · split at hb'
        · simp only [Option.some.injEq] at hb hb'
          have := congrArg Form.b (hb.trans hb'.symm)
          simpa using this
        · simp at hb'
      · simp at hb'
    · simp at hb
  · simp at hb

theorem reducedForms_sound {D : Int} {f : Form} (h : f ∈ reducedForms D) : IsReducedPrim D f := by
  unfold reducedForms at h
  simp only [List.mem_flatMap, List.mem_range] at h
  obtain ⟨a, _, h⟩ := h
  split at h
  · simp at h
  · rename_i ha
    obtain ⟨b, _, _, hm, rfl, hr⟩ := mem_formsWithA.1 h
    obtain ⟨h1, h2, h3, h4, h5⟩ := (isReducedPrim_iff _).1 hr
    refine ⟨?_, h1, h2, h3, h4, h5⟩
    have hd : (4 * (a : Int)) * ((b * b - D) / (4 * (a : Int))) = b * b - D :=
      Int.mul_ediv_cancel' (Int.dvd_of_emod_eq_zero hm)
    simp only [Form.disc]
    linear_combination -hd

/-- `|b| ≤ a ≤ c` and `b² - 4ac = D` give `3a² ≤ -D`: the range of `a` in `reducedForms` -/
theorem three_sq_le_neg_disc {a b c D : Int} (ha : 0 < a) (hb1 : -a ≤ b) (hb2 : b ≤ a) (hac : a ≤ c)
    (hd : b * b - 4 * a * c = D) : 3 * (a * a) ≤ -D := by
  have hbb : 0 ≤ (a - b) * (a + b) := mul_nonneg (sub_nonneg.2 hb2) (by linarith)
  have hnc : a * a ≤ a * c := mul_le_mul_of_nonneg_left hac ha.le
  linarith

theorem reducedForms_complete {D : Int} {f : Form} (h : IsReducedPrim D f) : f ∈ reducedForms D := by
  obtain ⟨hd, ha, hb, hac, hbd, hg⟩ := h
  obtain ⟨a, b, c⟩ := f
  simp only [Form.disc] at *
  obtain ⟨n, rfl⟩ : ∃ n : Nat, a = n := ⟨a.toNat, by omega⟩
  have hn : 0 < n := by omega
  have hb1 : -(n : Int) ≤ b ∧ b ≤ n := by omega
  have h3 : ((3 * (n * n) : Nat) : Int) ≤ -D := by
    push_cast; exact three_sq_le_neg_disc ha hb1.1 hb1.2 hac hd
  unfold reducedForms
  simp only [List.mem_flatMap, List.mem_range]
  refine ⟨n, ?_, ?_⟩
  · have : n ≤ Nat.sqrt (D.natAbs / 3) := by
      rw [Nat.le_sqrt, Nat.le_div_iff_mul_le (by norm_num)]
      omega
    omega
  · rw [if_neg (by omega)]
    rw [mem_formsWithA]
    have hdiv : b * b - D = 4 * (n : Int) * c := by linarith
    have h4n : (4 * (n : Int)) ≠ 0 := by omega
    refine ⟨b, hb1.1, hb1.2, ?_, ?_, ?_⟩
    · rw [hdiv]; exact Int.mul_emod_right _ _
    · rw [hdiv, Int.mul_ediv_cancel_left _ h4n]
    · rw [isReducedPrim_iff]
      exact ⟨ha, hb, hac, hbd, hg⟩

theorem reducedForms_nodup (D : Int) : (reducedForms D).Nodup := by
  unfold reducedForms
  rw [List.nodup_flatMap]
  refine ⟨?_, ?_⟩
  · intro a _
    split
    · exact List.nodup_nil
    · exact formsWithA_nodup D a
  · apply List.Nodup.pairwise_of_forall_ne List.nodup_range
    intro a _ a' _ hne
    simp only [Function.onFun]
    rw [List.disjoint_left]
    intro f hf hf'
    split at hf
    · simp at hf
    · split at hf'
      · simp at hf'
      · have h1 := formsWithA_a hf
        have h2 := formsWithA_a hf'
        rw [h1] at h2
        exact hne (by exact_mod_cast h2)

end Ymq.ClassGroup
