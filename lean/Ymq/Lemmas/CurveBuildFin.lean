/-
The arithmetic context the native driver runs (`finCtx n`, Model/Suyama.lean: canonical residues `Fin n` with the
core operations, inverse by extended Euclid) satisfies the laws `Ctx.Lawful` that every theorem of
Props/C15Suyama.lean assumes. (`Fin n` is the commutative ring `Z/n`: Mathlib's `Fin.instCommRing`.)
-/
import Ymq.Lemmas.CurveBuild

namespace Ymq.Suyama
open Ymq.Gen.Curves
open scoped Fin.CommRing

/-- Bézout invariant of the extended Euclid loop, read modulo `n` -/
theorem xgcdAux_bezout (n : Nat) (a : ZMod n) : ∀ (f : Nat) (r0 r1 s0 s1 : Int),
    (s0 : ZMod n) * a = (r0 : ZMod n) → (s1 : ZMod n) * a = (r1 : ZMod n) →
    (((xgcdAux f r0 r1 s0 s1).2 : Int) : ZMod n) * a = (((xgcdAux f r0 r1 s0 s1).1 : Int) : ZMod n) := by
  intro f
  induction f with
  | zero => intro r0 r1 s0 s1 h0 _; simpa [xgcdAux] using h0
  | succ f ih =>
    intro r0 r1 s0 s1 h0 h1
    simp only [xgcdAux]
    split
    · exact h0
    · apply ih _ _ _ _ h1
      push_cast
      rw [sub_mul, mul_assoc, h0, h1]

theorem xgcdAux_gcd : ∀ (f : Nat) (r0 r1 : Nat) (s0 s1 : Int), r1 < f →
    (xgcdAux f r0 r1 s0 s1).1 = (Nat.gcd r0 r1 : Int) := by
  intro f
  induction f with
  | zero => intro r0 r1 s0 s1 h; omega
  | succ f ih =>
    intro r0 r1 s0 s1 h
    simp only [xgcdAux]
    split
    · rename_i h0
      have : r1 = 0 := by exact_mod_cast h0
      simp [this]
    · rename_i h0
      have h0' : r1 ≠ 0 := by intro h'; exact h0 (by exact_mod_cast h')
      have hr : (r0 : Int) - (r0 : Int) / r1 * r1 = ((r0 % r1 : Nat) : Int) := by
        rw [Int.natCast_mod, Int.emod_def, Int.mul_comm]
      rw [hr, ih r1 (r0 % r1) _ _ (by have := Nat.mod_lt r0 (Nat.pos_of_ne_zero h0'); omega)]
      congr 1
      rw [Nat.gcd_comm r1, ← Nat.gcd_rec, Nat.gcd_comm]

theorem invNat_some (n : Nat) [NeZero n] (a i : Nat) (h : invNat a n = some i) :
    (a : ZMod n) * (i : ZMod n) = 1 := by
  unfold invNat at h
  simp only at h
  split at h
  · rename_i hg
    cases h
    have hb := xgcdAux_bezout n (a : ZMod n) (n + 1) ((a % n : Nat) : Int) n 1 0
      (by simp) (by simp)
    rw [Int.natCast_mod, hg] at hb
    have hnn : 0 ≤ (xgcdAux (n + 1) ((a : Int) % n) n 1 0).2 % (n : Int) :=
      Int.emod_nonneg _ (by exact_mod_cast NeZero.ne n)
    have hz : ∀ z : Int, 0 ≤ z → ((z.toNat : Nat) : ZMod n) = ((z : Int) : ZMod n) := by
      intro z hz0
      obtain ⟨m, rfl⟩ := Int.eq_ofNat_of_zero_le hz0
      simp
    rw [hz _ hnn, ZMod.intCast_mod, mul_comm]
    simpa using hb
  · cases h

theorem invNat_none (n : Nat) [NeZero n] (a : Nat) (h : invNat a n = none) : Nat.gcd n a ≠ 1 := by
  unfold invNat at h
  simp only at h
  split at h
  · cases h
  · rename_i hg
    intro h1
    apply hg
    have := xgcdAux_gcd (n + 1) (a % n) n 1 0 (Nat.lt_succ_self n)
    rw [show (((a % n : Nat) : Int)) = ((a : Int) % (n : Int)) from Int.natCast_mod a n] at this
    rw [this, ← Nat.gcd_rec]
    exact_mod_cast h1

theorem finCtx_lawful (n : Nat) [NeZero n] : (finCtx n).Lawful := by
  obtain ⟨k, rfl⟩ := Nat.exists_eq_succ_of_ne_zero (NeZero.ne n)
  have hcast : ∀ j : Nat, Fin.ofNat (k + 1) j = ((j : ZMod (k + 1)) : Fin (k + 1)) := fun j => rfl
  have hval : ∀ x : Fin (k + 1), ((x.val : ZMod (k + 1)) : Fin (k + 1)) = x := fun x =>
    ZMod.natCast_zmod_val (n := k + 1) x
  have hunit : ∀ x : Fin (k + 1), Nat.gcd (k + 1) x.val = 1 → IsUnit x := by
    intro x h
    have := (ZMod.isUnit_iff_coprime x.val (k + 1)).mpr (Nat.coprime_comm.mp h)
    rw [hval] at this
    exact this
  refine ⟨?_, ?_, fun x => Nat.gcd_dvd_left _ _, hunit, ?_, ?_, fun j => hcast j⟩
  · intro x i h
    simp only [finCtx, Option.map_eq_some_iff] at h
    obtain ⟨j, hj, rfl⟩ := h
    have := invNat_some (k + 1) x.val j hj
    rw [hval] at this
    rw [hcast]; exact this
  · intro x h hu
    simp only [finCtx, Option.map_eq_none_iff] at h
    apply invNat_none (k + 1) x.val h
    have := (ZMod.isUnit_iff_coprime x.val (k + 1)).mp (by rw [hval]; exact hu)
    exact Nat.coprime_comm.mp this
  · intro j
    show Nat.gcd (k + 1) (j % (k + 1)) = Nat.gcd (k + 1) j
    rw [Nat.gcd_comm (k + 1) (j % (k + 1)), ← Nat.gcd_rec]
  · intro x y
    simp [finCtx, Fin.ext_iff]

end Ymq.Suyama
