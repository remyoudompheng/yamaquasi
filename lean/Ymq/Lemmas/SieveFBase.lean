/-
C13 helper lemmas: the `idx_by_log` table as `FBase::new` computes it (incrementally, while pushing the
sorted primes) is the documented one ("index of the first prime of bit length ≥ l"), hence the
class partition the sieve relies on (`FB.WF`) holds for the factor bases `FBase::new` builds, and for the factor bases
`FB.ofPrimes` of the correspondence check.
-/
import Ymq.Lemmas.SieveCursor

namespace Ymq.Sieve
open Ymq.Loops

theorem countP_sorted (P : Nat → Bool) (hdc : ∀ a b, a ≤ b → P b = true → P a = true) :
    ∀ (L : List Nat), L.Pairwise (· < ·) → ∀ (i : Nat) (hi : i < L.length), (i < L.countP P ↔ P L[i] = true) := by
  intro L
  induction L with
  | nil => intro _ i hi; simp at hi
  | cons a L ih =>
    intro hs i hi
    rw [List.pairwise_cons] at hs
    by_cases hpa : P a = true
    · rw [List.countP_cons_of_pos hpa]
      cases i with
      | zero => simp [hpa]
      | succ j =>
        simp only [List.length_cons, Nat.add_lt_add_iff_right] at hi
        simp only [List.getElem_cons_succ, Nat.add_lt_add_iff_right]
        exact ih hs.2 j hi
    · rw [List.countP_cons_of_neg hpa]
      have hall : ∀ b ∈ L, ¬ P b = true := fun b hb hpb => hpa (hdc a b (le_of_lt (hs.1 b hb)) hpb)
      have h0 : L.countP P = 0 := by
        rw [List.countP_eq_zero]; exact hall
      rw [h0]
      cases i with
      | zero => simp [hpa]
      | succ j =>
        simp only [List.length_cons, Nat.add_lt_add_iff_right] at hi
        simp only [List.getElem_cons_succ]
        constructor
        · intro h; omega
        · intro h; exact absurd h (hall _ (List.getElem_mem hi))

/-- the factor bases of the correspondence check (and of `FBase::new`, see the `sv_fb` stream):
a strictly increasing array of numbers in `[2, 2^24)` with the documented `idx_by_log`. -/
theorem FB.ofPrimes_WF (ps : Array Nat) (hs : ps.toList.Pairwise (· < ·))
    (hr : ∀ p ∈ ps.toList, 2 ≤ p ∧ p < 2 ^ 24) : (FB.ofPrimes ps).WF := by
  have hibl : ∀ (l v : Nat), (FB.ofPrimes ps).ibl[l]? = some v →
      l < 26 ∧ v = ps.toList.countP (fun p => decide (bitlen p < l)) := by
    intro l v h
    simp only [FB.ofPrimes, mkIbl, Array.getElem?_map, Option.map_eq_some_iff] at h
    obtain ⟨l', hl', rfl⟩ := h
    have := Array.getElem?_eq_some_iff.1 hl'
    obtain ⟨hlt, he⟩ := this
    simp only [Array.size_range] at hlt
    simp only [Array.getElem_range] at he
    subst he
    exact ⟨hlt, rfl⟩
  have hget : ∀ (i p : Nat), (FB.ofPrimes ps).primes[i]? = some p → ∃ hi : i < ps.toList.length, ps.toList[i] = p := by
    intro i p h
    simp only [FB.ofPrimes] at h
    obtain ⟨hi, he⟩ := Array.getElem?_eq_some_iff.1 h
    exact ⟨by simpa using hi, by simpa using he⟩
  refine { ibl_spec := ?_, ibl_some := ?_, ibl_le := ?_, ge2 := ?_, lt24 := ?_, sorted := ?_ }
  · intro l i v p hv hp
    obtain ⟨_, rfl⟩ := hibl l v hv
    obtain ⟨hi, rfl⟩ := hget i p hp
    rw [countP_sorted (fun p => decide (bitlen p < l))
      (fun a b hab hb => by
        simp only [decide_eq_true_eq] at hb ⊢
        exact lt_of_le_of_lt (bitlen_mono hab) hb) ps.toList hs i hi]
    simp
  · intro l hl
    refine ⟨ps.toList.countP (fun p => decide (bitlen p < l)), ?_⟩
    simp only [FB.ofPrimes, mkIbl, Array.getElem?_map]
    rw [Array.getElem?_eq_getElem (by simpa using hl)]
    simp
  · intro l v hv
    obtain ⟨_, rfl⟩ := hibl l v hv
    simpa [FB.ofPrimes] using List.countP_le_length (l := ps.toList) (p := fun p => decide (bitlen p < l))
  · intro i p hp
    obtain ⟨hi, rfl⟩ := hget i p hp
    exact (hr _ (List.getElem_mem hi)).1
  · intro i p hp
    obtain ⟨hi, rfl⟩ := hget i p hp
    exact (hr _ (List.getElem_mem hi)).2
  · intro i j p q hij hp hq
    obtain ⟨hi, rfl⟩ := hget i p hp
    obtain ⟨hj, rfl⟩ := hget j q hq
    exact List.pairwise_iff_getElem.1 hs i j hi hj hij

/-- `for idx in lo..lo+n { a[idx] = v }` -/
theorem setRange_spec (v : Nat) (n lo : Nat) (a : Array Nat) (h : lo + n ≤ a.size) :
    ∃ a', (List.range' lo n).foldlM (fun (a : Array Nat) idx =>
        if idx < a.size then some (a.setIfInBounds idx v) else none) a = some a' ∧
      a'.size = a.size ∧ ∀ i, a'[i]? = if lo ≤ i ∧ i < lo + n then some v else a[i]? := by
  refine foldlM_range'_total _ (fun j (b : Array Nat) => b.size = a.size ∧
    ∀ i, b[i]? = if lo ≤ i ∧ i < j then some v else a[i]?) lo n ?_
    ⟨rfl, fun i => by rw [if_neg (by omega)]⟩
  rintro j b h1 h2 ⟨hs, hb⟩
  have hj : j < b.size := by omega
  refine ⟨b.setIfInBounds j v, by rw [if_pos hj], by simpa using hs, fun i => ?_⟩
  by_cases hi : i = j
  · subst hi
    rw [if_pos (by omega)]
    simp [hj]
  · rw [Array.getElem?_setIfInBounds_ne (fun e => hi e.symm), hb i]
    by_cases hr : lo ≤ i ∧ i < j
    · rw [if_pos hr, if_pos (by omega)]
    · rw [if_neg hr, if_neg (by omega)]

/-- state of the loop of `FBase::new` after the primes `pre`. -/
def IblInv (pre : List Nat) (st : Array Nat × Nat × Nat) : Prop :=
  st.1.size = 26 ∧ st.2.2 = pre.length ∧ st.2.1 ≤ 25 ∧ (∀ p ∈ pre, bitlen p < st.2.1) ∧
  ((st.2.1 = 0 ∧ pre = []) ∨ ∃ q ∈ pre, bitlen q + 1 = st.2.1) ∧
  ∀ idx, idx < st.2.1 → st.1[idx]? = some (pre.countP fun p => decide (bitlen p < idx))

theorem fbaseIbl_loop (ps : List Nat) (hsorted : ps.Pairwise (fun a b => bitlen a ≤ bitlen b))
    (h24 : ∀ p ∈ ps, bitlen p ≤ 24) :
    ∃ st', ps.foldlM fbaseIblStep (Array.replicate 26 0, 0, 0) = some st' ∧ IblInv ps st' := by
  refine foldlM_total fbaseIblStep IblInv ps ?_
    ⟨by simp, rfl, by simp, by simp, Or.inl ⟨rfl, rfl⟩, by intro idx h; simp at h⟩
  rintro pre p suf ⟨ibl, log, cnt⟩ e ⟨hsz, hcnt, hlog, hlt, hlast, hval⟩
  simp only at hsz hcnt hlog hlt hlast hval
  have hp24 := h24 p (e ▸ List.mem_append_cons_self)
  -- the next prime is not shorter than the previous ones
  have hge : log ≤ bitlen p + 1 := by
    rcases hlast with ⟨h0, _⟩ | ⟨q, hq, hql⟩
    · omega
    · rw [e, List.pairwise_append] at hsorted
      have := hsorted.2.2 q hq p List.mem_cons_self
      omega
  -- the new prime does not count below its own bit length
  have hpc : ∀ idx, idx ≤ bitlen p → ([p].countP fun q => decide (bitlen q < idx)) = 0 := fun idx hi => by
    have : ¬ bitlen p < idx := by omega
    simp [this]
  unfold fbaseIblStep
  simp only
  by_cases hl : bitlen p ≥ log
  · simp only [hl, if_true]
    obtain ⟨a', h1, h2, h3⟩ := setRange_spec cnt (bitlen p + 1 - log) log ibl (by omega)
    refine ⟨(a', bitlen p + 1, cnt + 1), by simp [h1], h2.trans hsz, by simp [hcnt], by simp only; omega, ?_,
      Or.inr ⟨p, by simp, rfl⟩, ?_⟩
    · intro q hq
      rcases List.mem_append.1 hq with hq | hq
      · have := hlt q hq; simp only; omega
      · simp only [List.mem_singleton] at hq; subst hq; simp only; omega
    · intro idx hidx
      simp only at hidx ⊢
      rw [h3 idx, List.countP_append]
      have hpc := hpc idx (by omega)
      simp only [hpc, Nat.add_zero]
      by_cases hr : log ≤ idx ∧ idx < log + (bitlen p + 1 - log)
      · simp only [hr, and_self, if_true]
        congr 1
        rw [hcnt]
        symm
        rw [List.countP_eq_length]
        intro q hq
        have := hlt q hq
        simp only [decide_eq_true_eq]; omega
      · simp only [hr, if_false]
        exact hval idx (by omega)
  · simp only [hl, if_false]
    have hl' : bitlen p + 1 = log := by omega
    refine ⟨(ibl, log, cnt + 1), rfl, hsz, by simp [hcnt], hlog, ?_, Or.inr ⟨p, by simp, hl'⟩, ?_⟩
    · intro q hq
      rcases List.mem_append.1 hq with hq | hq
      · exact hlt q hq
      · simp only [List.mem_singleton] at hq; subst hq; simp only; omega
    · intro idx hidx
      simp only at hidx ⊢
      rw [hval idx hidx, List.countP_append]
      have hpc := hpc idx (by omega)
      rw [hpc, Nat.add_zero]

/-- `FBase::new` fills `idx_by_log` with the documented values: for primes pushed in increasing order,
all below `2^24`, the incrementally maintained table is `mkIbl` (no write outside the 26 entries). -/
theorem fbaseIbl_eq (ps : List Nat) (hs : ps.Pairwise (· < ·)) (h24 : ∀ p ∈ ps, p < 2 ^ 24) :
    fbaseIbl ps = some (mkIbl ps.toArray) := by
  have hb24 : ∀ p ∈ ps, bitlen p ≤ 24 := by
    intro p hp
    have := (bitlen_lt_succ_iff p 24).2 (h24 p hp)
    omega
  obtain ⟨⟨ibl, log, cnt⟩, hf, hsz, hcnt, hlog, hlt, _, hval⟩ := fbaseIbl_loop ps
    (hs.imp (fun h => bitlen_mono (le_of_lt h))) hb24
  simp only at hsz hcnt hlog hlt hval
  obtain ⟨a', h1, h2, h3⟩ := setRange_spec cnt (26 - log) log ibl (by omega)
  unfold fbaseIbl
  simp only [hf, Option.bind_eq_bind, Option.bind_some]
  rw [h1]
  congr 1
  apply Array.ext
  · simp [mkIbl, h2, hsz]
  · intro i hi1 hi2
    have hi : i < 26 := by rw [h2, hsz] at hi1; exact hi1
    have e1 : a'[i]? = some a'[i] := Array.getElem?_eq_getElem hi1
    have e2 : (mkIbl ps.toArray)[i]? = some (ps.countP fun p => decide (bitlen p < i)) := by
      simp only [mkIbl, Array.getElem?_map]
      rw [Array.getElem?_eq_getElem (by simpa using hi)]
      simp
    have e3 : (mkIbl ps.toArray)[i]? = some (mkIbl ps.toArray)[i] := Array.getElem?_eq_getElem hi2
    rw [h3 i] at e1
    by_cases hr : log ≤ i ∧ i < log + (26 - log)
    · simp only [hr, and_self, if_true] at e1
      have : cnt = ps.countP fun p => decide (bitlen p < i) := by
        rw [hcnt]; symm
        rw [List.countP_eq_length]
        intro q hq
        have := hlt q hq
        simp only [decide_eq_true_eq]; omega
      rw [this, ← e2, e3] at e1
      exact (Option.some.inj e1).symm
    · simp only [hr, if_false] at e1
      rw [hval i (by omega), ← e2, e3] at e1
      exact (Option.some.inj e1).symm

/-- the class partition the sieve relies on holds for what `FBase::new` builds: primes strictly increasing
in `[2, 2^24)` and `idx_by_log` computed by its own loop give a well-formed factor base
(in particular `idx_by_log[l] ≤ i < idx_by_log[l+1]` iff prime `i` has bit length exactly `l`). -/
theorem fbase_new_WF (ps : Array Nat) (ibl : Array Nat) (hs : ps.toList.Pairwise (· < ·))
    (hr : ∀ p ∈ ps.toList, 2 ≤ p ∧ p < 2 ^ 24) (h : fbaseIbl ps.toList = some ibl) :
    FB.WF { primes := ps, ibl := ibl } := by
  rw [fbaseIbl_eq ps.toList hs (fun p hp => (hr p hp).2)] at h
  have : ibl = mkIbl ps := by simpa using (Option.some.inj h).symm
  subst this
  exact FB.ofPrimes_WF ps hs hr

end Ymq.Sieve
