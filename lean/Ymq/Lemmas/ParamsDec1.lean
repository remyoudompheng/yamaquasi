/- C20: `params::select_fb_size` on an arbitrary table, and the three tables of the source as instances.
Restated as a property theorem in Ymq/Props/C20.lean. -/
import Ymq.Lemmas.Params
import Ymq.Lemmas.ParamsDefs

namespace Ymq.C20.Dec
open Ymq.Checked Ymq.Gen Ymq.Gen.Params Ymq.C20

theorem mean_bounds {w1 w2 p q M : Nat} (hw : 0 < w1 + w2) (hp : 0 < p ∧ p ≤ M) (hq : 0 < q ∧ q ≤ M) :
    0 < (w1 * p + w2 * q) / (w1 + w2) ∧ (w1 * p + w2 * q) / (w1 + w2) ≤ M ∧ w1 * p + w2 * q ≤ (w1 + w2) * M := by
  have h1 : w1 * 1 ≤ w1 * p := Nat.mul_le_mul_left _ hp.1
  have h2 : w2 * 1 ≤ w2 * q := Nat.mul_le_mul_left _ hq.1
  have h3 : w1 * p ≤ w1 * M := Nat.mul_le_mul_left _ hp.2
  have h4 : w2 * q ≤ w2 * M := Nat.mul_le_mul_left _ hq.2
  have h5 : w1 * p + w2 * q ≤ (w1 + w2) * M := by rw [Nat.add_mul]; omega
  exact ⟨Nat.div_pos (by omega) hw, Nat.div_le_of_le_mul h5, h5⟩

/-- what `select_fb_size` needs of a table: sizes in `1 .. M` in both columns, keys small enough for the `u32` products of
the interpolation, and a last key above 200 (`bitsize - 200` beyond the table) -/
def TableOk (M : Nat) (t : List (Nat × Nat × Nat)) : Prop :=
  (∀ r ∈ t, (0 < r.2.1 ∧ r.2.1 ≤ M) ∧ (0 < r.2.2 ∧ r.2.2 ≤ M) ∧ r.1 * M < 2 ^ 32) ∧
    ∀ r, t.getLast? = some r → 200 < r.1

instance (M : Nat) (t : List (Nat × Nat × Nat)) : Decidable (TableOk M t) := by unfold TableOk; infer_instance

/-- `select_fb_size` on ANY table that meets `TableOk`: below the table 16, inside it the linear interpolation of the two
neighbouring rows, which lies between them, beyond it `1400 (bitsize - 200)` capped at 500000; no step fails.
The proof relies on the shape of the generated function (`partition_point` on the keys, then these three cases with the
interpolation computed in `u32`) and on the constants 16, 200, 1400, 500000 in it: if they change, it no longer goes through.
Of the tables it uses nothing but `TableOk`, which is evaluated on the generated ones (`tables_ok`, `cg_table_ok`): a changed
row, key or table length is checked again there. The bound `b ≤ 2^20` only has to keep `1400 (b - 200)` inside `u32`. -/
theorem select_fb_size_spec {M : Nat} {t : List (Nat × Nat × Nat)} (ht : TableOk M t) (b : Nat) (hb : b ≤ 2 ^ 20)
    (d : Bool) :
    Holds (params.select_fb_size b d t) fun v =>
      0 < v ∧ v ≤ max M 500000 ∧ ((∀ r, t.getLast? = some r → b < r.1) → v ≤ max M 16) := by
  obtain ⟨hlen, hprev, hnext⟩ := partitionPoint_spec (fun row1 : Nat × Nat × Nat => decide (row1.1 ≤ b)) t
  unfold params.select_fb_size
  simp only [beq_iff_eq]
  generalize partitionPoint (fun row1 : Nat × Nat × Nat => decide (row1.1 ≤ b)) t = idx at hlen hprev hnext
  -- `split` is slow on a goal of this size
  by_cases h0 : idx = 0
  · rw [if_pos h0]; exact holds_some.2 ⟨by omega, by omega, fun _ => by omega⟩
  · rw [if_neg h0]
    obtain ⟨prev, hp⟩ : ∃ r, t[idx - 1]? = some r := by
      rw [List.getElem?_eq_getElem (by omega)]; exact ⟨_, rfl⟩
    have hpb : prev.1 ≤ b := by simpa using hprev (idx - 1) prev (by omega) hp
    by_cases hl : idx = t.length
    · rw [if_pos hl]
      -- beyond the table: `prev` is the last row
      have hlast : t.getLast? = some prev := by rw [← hp, hl, List.getLast?_eq_getElem?]
      have h200 := ht.2 prev hlast
      rw [csub_some (by omega), Option.bind_some, cmul_some (by omega), Option.bind_some]
      exact holds_some.2 ⟨by omega, by omega, fun h => absurd (h prev hlast) (by omega)⟩
    · rw [if_neg hl]
      obtain ⟨next, hn⟩ : ∃ r, t[idx]? = some r := by
        rw [List.getElem?_eq_getElem (by omega)]; exact ⟨_, rfl⟩
      have hbn : b < next.1 := by simpa using hnext next hn
      have hpo := ht.1 prev (List.mem_of_getElem? hp)
      have hno := ht.1 next (List.mem_of_getElem? hn)
      obtain ⟨p, q, hpq, hp', hq'⟩ : ∃ p q, (if d then (prev.2.2, next.2.2) else (prev.2.1, next.2.1)) = (p, q) ∧
          (0 < p ∧ p ≤ M) ∧ (0 < q ∧ q ≤ M) := by
        cases d
        · exact ⟨_, _, rfl, hpo.1, hno.1⟩
        · exact ⟨_, _, rfl, hpo.2.1, hno.2.1⟩
      -- the weighted sum is at most `(next.1 - prev.1) * M ≤ next.1 * M < 2^32`
      obtain ⟨hm1, hm2, hm3⟩ := mean_bounds (w1 := next.1 - b) (w2 := b - prev.1) (by omega) hp' hq'
      have hw : next.1 - b + (b - prev.1) = next.1 - prev.1 := by omega
      have e4 : (next.1 - prev.1) * M ≤ next.1 * M := Nat.mul_le_mul_right _ (Nat.sub_le _ _)
      rw [hw] at hm3
      rw [csub_some (by omega : 1 ≤ idx), Option.bind_some, hp, Option.bind_some, hn, Option.bind_some]
      simp only [hpq]
      rw [csub_some (Nat.le_of_lt hbn), Option.bind_some, cmul_some (by omega), Option.bind_some, csub_some hpb,
        Option.bind_some, cmul_some (by omega), Option.bind_some, cadd_some (by omega), Option.bind_some,
        csub_some (by omega), Option.bind_some, cdiv_some (by omega), ← hw]
      exact holds_some.2 ⟨hm1, by omega, fun _ => by omega⟩

theorem tables_ok : ∀ t ∈ fbTables, TableOk 500000 t := by decide +kernel

theorem cg_table_ok : TableOk 100000 params.CLASSGROUP_FBSIZES := by decide +kernel

theorem select_fb_size : ∀ t ∈ fbTables, ∀ b, b ≤ 1024 → ∀ d : Bool,
    Holds (params.select_fb_size b d t) fun v => 0 < v ∧ v ≤ 500000 :=
  fun t ht b hb d => (select_fb_size_spec (tables_ok t ht) b (by omega) d).imp fun _ hv => ⟨hv.1, hv.2.1⟩

end Ymq.C20.Dec
