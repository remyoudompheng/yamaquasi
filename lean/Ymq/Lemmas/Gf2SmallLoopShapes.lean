/-
C14 "small", helper lemmas (Mathlib): the main loop of `kernel_lanczos` at the level of lengths and 64-bit
words: the block operations return on blocks of the right shape (`BlockOK`), the projections of the release
profile keep a well-formed state (`WFL`), the beginning of an iteration (`WFL.direction`), the state an iteration pushes (`WFL.snoc`);
`AOrth`: Montgomery's A-orthogonality as the checked profile tests it.
-/
import Ymq.Lemmas.Gf2SmallAab
import Ymq.Lemmas.Gf2SmallCallsite
import Ymq.Model.Gf2Lanczos

namespace Ymq.Gf2Small
open Ymq.Gf2 Ymq.Gf2Genblock Ymq.Gf2Lanczos

/-- a block with one 64-bit word per column -/
def BlockOK (n : Nat) (x : List Nat) : Prop := x.length = n ∧ ∀ w ∈ x, w < 2 ^ 64

/-- the matrix handed to `kernel_lanczos`: row indices below `k`; `64 ≤ k` (`qs_optimize` keeps the first 64 rows as a
dense block) and at most `2^32` rows and columns (the coordinate list holds `u32`) -/
structure MatOK (k : Nat) (cols : List (List Nat)) : Prop where
  hk64 : 64 ≤ k
  hk : k ≤ U32
  hn : cols.length ≤ U32
  hwf : ∀ col ∈ cols, ∀ a ∈ col, a < k

theorem optMul_ok {k : Nat} {cols : List (List Nat)} (hM : MatOK k cols) {y : List Nat}
    (hy : BlockOK cols.length y) : ∃ r, optMul (qsOptimize k cols) y = some r ∧ BlockOK k r := by
  obtain ⟨r, hr, hl, _⟩ := optMul_spec k cols y hM.hk64 hM.hk hM.hn hy.1 hM.hwf
  exact ⟨r, hr, hl, optMul_lt k cols y r hM.hk hM.hn hM.hwf hy.2 hr⟩

theorem mulAabOpt_ok {k : Nat} {cols : List (List Nat)} (hM : MatOK k cols) {y : List Nat}
    (hy : BlockOK cols.length y) : ∃ r, mulAabOpt (qsOptimize k cols) y = some r ∧ BlockOK cols.length r := by
  obtain ⟨r, hr, hl⟩ := mulAabOpt_total k cols y hM.hk64 hM.hk hM.hn hM.hwf hy.1
  exact ⟨r, hr, hl, mulAabOpt_lt k cols y r hM.hk hM.hn hM.hwf hy.2 hr⟩

theorem blockDot_ok {n : Nat} {x y : List Nat} (hx : x.length = n) (hy : BlockOK n y) :
    ∃ d, blockDot x y = some d ∧ d.length = 64 ∧ ∀ r ∈ d, r < 2 ^ 64 := by
  have h : blockDot x y = some ((List.range 64).map (fun i =>
      (List.zip x y).foldl (fun acc p => if p.1.testBit i then acc ^^^ p.2 else acc) 0)) := by
    simp [blockDot, hx, hy.1]
  exact ⟨_, h, blockDot_lt hy.2 h⟩

theorem blockMulAdd_ok {n : Nat} {self b : List Nat} {m : Mat} (hs : BlockOK n self) (hb : b.length = n)
    (hm : ∀ r ∈ m, r < 2 ^ 64) : ∃ r, blockMulAdd self m b = some r ∧ BlockOK n r := by
  refine ⟨List.zipWith (fun s w => s ^^^ comb w m 0) self b, by simp [blockMulAdd, hs.1, hb],
    by simp [hs.1, hb], ?_⟩
  intro w hw
  obtain ⟨i, hi, rfl⟩ := List.getElem_of_mem hw
  simp only [List.getElem_zipWith]
  exact Nat.xor_lt_two_pow (hs.2 _ (List.getElem_mem _)) (comb_lt _ m hm 0)

theorem mul_lt (ig d : Mat) (hd : ∀ r ∈ d, r < 2 ^ 64) : ∀ r ∈ mul ig d, r < 2 ^ 64 := by
  intro r hr
  obtain ⟨a, _, rfl⟩ := List.mem_map.mp hr
  exact comb_lt a d hd 0

theorem symmetric_blockDot_self (x g : List Nat) (h : blockDot x x = some g) : symmetric 64 g = true := by
  simp only [blockDot, if_true, Option.some.injEq] at h
  subst h
  rw [symmetric_iff]
  intro i j hi hj
  rw [row_map_range 64 _ hi, row_map_range 64 _ hj,
    testBit_foldl_sel (List.zip x x) (fun p => p.1.testBit i) (fun p => p.2) 0 j,
    testBit_foldl_sel (List.zip x x) (fun p => p.1.testBit j) (fun p => p.2) 0 i, zip_self,
    List.map_map, List.map_map]
  simp only [Nat.zero_testBit, Bool.false_xor, Function.comp_def]
  congr 1
  apply List.map_congr_left
  intro w _
  exact Bool.and_comm _ _

/-- the mask loop in closed form -/
theorem foldlM_masks (masks : List Nat) (cnt : Nat) : ∀ (s a : Nat), 1 ≤ s → s - 1 + cnt ≤ masks.length →
    (List.range' s cnt).foldlM (fun m k => match masks[k - 1]? with
      | none => none
      | some x => some (m &&& x)) a =
    some ((List.range' (s - 1) cnt).foldl (fun a l => a &&& masks.getD l 0) a) := by
  induction cnt with
  | zero => intro s a _ _; rfl
  | succ cnt ih =>
    intro s a hs hle
    rw [List.range'_succ, List.foldlM_cons, List.range'_succ, List.foldl_cons]
    have hlt : s - 1 < masks.length := by omega
    rw [List.getElem?_eq_getElem hlt]
    have hg : masks.getD (s - 1) 0 = masks[s - 1] := by
      simp [List.getD_eq_getElem?_getD, List.getElem?_eq_getElem hlt]
    rw [hg]
    have := ih (s + 1) (a &&& masks[s - 1]) (by omega) (by omega)
    rw [show s + 1 - 1 = s - 1 + 1 by omega] at this
    exact this

theorem maskFor_ok (masks : List Nat) (j vlen : Nat) (h : vlen ≤ masks.length + 1) :
    ∃ m, maskFor masks j vlen = some m := by
  by_cases hj : j + 2 ≤ vlen
  · exact ⟨_, foldlM_masks masks _ (j + 2) M64 (by omega) (by omega)⟩
  · exact ⟨M64, by unfold maskFor; rw [show vlen - (j + 2) = 0 by omega]; rfl⟩

/-- state of the projection loop: `(vs, ws, next)` -/
def ProjOK (L n : Nat) (st : List (List Nat) × List (List Nat) × List Nat) : Prop :=
  st.1.length = L ∧ st.2.1.length = L ∧ (∀ w ∈ st.2.1, w = [] ∨ BlockOK n w) ∧ BlockOK n st.2.2

theorem projStep_ok {k : Nat} {cols : List (List Nat)} {av : List Nat} {invgs : List Mat} {masks : List Nat}
    {L : Nat} (hav : BlockOK cols.length av) (hI : invgs.length = L) (hMk : masks.length = L)
    {st : List (List Nat) × List (List Nat) × List Nat} (hst : ProjOK L cols.length st) {j : Nat} (hj : j < L) :
    ∃ st', projStep false (qsOptimize k cols) av invgs masks L st j = some st' ∧ ProjOK L cols.length st' := by
  obtain ⟨vs, ws, next⟩ := st
  obtain ⟨hv, hw, hwOK, hnext⟩ := hst
  simp only at hv hw hwOK hnext
  unfold projStep
  simp only []
  have hjw : j < ws.length := by omega
  rw [List.getElem?_eq_getElem hjw]
  simp only []
  by_cases he : ws[j].isEmpty = true
  · rw [if_pos he]; exact ⟨_, rfl, hv, hw, hwOK, hnext⟩
  · rw [if_neg he]
    have hwj : BlockOK cols.length ws[j] := by
      rcases hwOK ws[j] (List.getElem_mem _) with h | h
      · rw [h] at he; simp at he
      · exact h
    obtain ⟨m, hm⟩ := maskFor_ok masks j L (by omega)
    rw [hm]
    simp only []
    by_cases hm0 : m = 0
    · rw [if_pos hm0]
      simp only [Bool.false_and, Bool.false_eq_true, if_false, show j < vs.length by omega, if_true]
      refine ⟨_, rfl, by simp [hv], by simp [hw], ?_, hnext⟩
      intro w hwm
      rcases List.mem_or_eq_of_mem_set hwm with h | h
      · exact hwOK w h
      · exact Or.inl h
    · rw [if_neg hm0]
      obtain ⟨d, hd, _, hdlt⟩ := blockDot_ok (x := ws[j]) hwj.1 hav
      have hji : j < invgs.length := by omega
      rw [hd, List.getElem?_eq_getElem hji]
      simp only []
      obtain ⟨next', hn', hnOK⟩ := blockMulAdd_ok (m := mul invgs[j] d) hnext hwj.1 (mul_lt _ d hdlt)
      rw [hn']
      simp only [Bool.false_and, Bool.false_eq_true, if_false]
      exact ⟨_, rfl, hv, hw, hwOK, hnOK⟩

/-- well-formed state of the main loop -/
structure WFL (n : Nat) (st : LState) : Prop where
  lenV : st.vs.length = st.ws.length
  lenI : st.invgs.length = st.ws.length
  lenM : st.masks.length = st.ws.length
  wsOK : ∀ w ∈ st.ws, w = [] ∨ BlockOK n w
  lastW : ∃ wl, st.ws.getLast? = some wl ∧ BlockOK n wl
  lastV : ∃ pv, st.vs.getLast? = some pv ∧ BlockOK n pv
  yOK : BlockOK n st.y

/-- the selection of an iteration (`rank_reverse` on odd iterations, `rank` on even ones) -/
theorem selection_ok (dbg odd : Bool) {g : Mat} (hgw : ∀ i, i < 64 → row g i < 2 ^ 64) :
    ∃ rk mk, (if odd = true then rankReverse 64 dbg g else rank 64 dbg g) = some (rk, mk) ∧
      Selected 64 g rk mk := by
  cases odd
  · exact rank_selected dbg hgw
  · exact rankReverse_selected dbg g

theorem BlockOK.xor {n : Nat} {x y : List Nat} (hx : BlockOK n x) (hy : BlockOK n y) :
    BlockOK n (List.zipWith (fun a p => a ^^^ p) x y) := by
  refine ⟨by simp [hx.1, hy.1], fun w hw => ?_⟩
  obtain ⟨i, hi, rfl⟩ := List.getElem_of_mem hw
  simp only [List.getElem_zipWith]
  exact Nat.xor_lt_two_pow (hx.2 _ (List.getElem_mem _)) (hy.2 _ (List.getElem_mem _))

theorem BlockOK.mask {n : Nat} {x : List Nat} (hx : BlockOK n x) (mk : Nat) :
    BlockOK n (x.map (fun v => v &&& mk)) :=
  ⟨by simp [hx.1], fun w hw => by
    obtain ⟨v, hv, rfl⟩ := List.mem_map.mp hw
    exact Nat.lt_of_le_of_lt Nat.and_le_left (hx.2 v hv)⟩

/-- the beginning of an iteration, either profile: the direction `A·W_last ^ V_last` and its image `av` under `A` -/
theorem WFL.direction {k : Nat} {cols : List (List Nat)} (hM : MatOK k cols) {st : LState}
    (h : WFL cols.length st) :
    ∃ wl pv nx av, st.ws.getLast? = some wl ∧ st.vs.getLast? = some pv ∧
      mulAabOpt (qsOptimize k cols) wl = some nx ∧ ¬ pv.length < nx.length ∧
      BlockOK cols.length (List.zipWith (fun a p => a ^^^ p) nx pv) ∧
      mulAabOpt (qsOptimize k cols) (List.zipWith (fun a p => a ^^^ p) nx pv) = some av ∧ BlockOK cols.length av := by
  obtain ⟨wl, hwl, hwlOK⟩ := h.lastW
  obtain ⟨pv, hpv, hpvOK⟩ := h.lastV
  obtain ⟨nx, hnx, hnxOK⟩ := mulAabOpt_ok hM hwlOK
  obtain ⟨av, hav, havOK⟩ := mulAabOpt_ok hM (hnxOK.xor hpvOK)
  exact ⟨wl, pv, nx, av, hwl, hpv, hnx, by rw [hpvOK.1, hnxOK.1]; exact Nat.lt_irrefl _, hnxOK.xor hpvOK, hav, havOK⟩

theorem WFL.snoc {n : Nat} {st : LState} (h : WFL n st) {vs' ws' : List (List Nat)} {next w y' : List Nat}
    (ginv : Mat) (m : Nat) (hv' : vs'.length = st.ws.length) (hw' : ws'.length = st.ws.length)
    (hwOK' : ∀ x ∈ ws', x = [] ∨ BlockOK n x) (hnext : BlockOK n next) (hw : BlockOK n w) (hy' : BlockOK n y') :
    WFL n (LState.mk (vs' ++ [next]) (ws' ++ [w]) (st.invgs ++ [ginv]) (st.masks ++ [m]) y') where
  lenV := by simp only [List.length_append, hv', hw', List.length_singleton]
  lenI := by simp only [List.length_append, h.lenI, hw', List.length_singleton]
  lenM := by simp only [List.length_append, h.lenM, hw', List.length_singleton]
  wsOK := by
    intro x hx
    rcases List.mem_append.mp hx with h1 | h1
    · exact hwOK' x h1
    · rw [List.mem_singleton.mp h1]; exact Or.inr hw
  lastW := ⟨_, List.getLast?_concat, hw⟩
  lastV := ⟨_, List.getLast?_concat, hnext⟩
  yOK := hy'

/-- `wᵗ·A·x = 0` as the code tests it: `&w * &mul_aab(b, &x) == SmallMat::default()` -/
def AOrth (b : SparseOpt) (w x : List Nat) : Prop :=
  ∃ ax, mulAabOpt b x = some ax ∧ blockDot w ax = some zeros64

end Ymq.Gf2Small
