/-
What `MultiZmodP::new(zn, logsize)` returns: `IsNew n logsize m` lists every field of the context in terms of `n`,
`logsize` and the number of primes, read off the model `Crt.new` once (`isNew`); the consequences that the files
on `_crt`, `from_mint` and the root tables share follow (`w ≤ 26`, the primes are the first `w` rows of the
translated table `NTT_PRIMES`, each row meets `RowOk`, hence `PrimeOk`).
-/
import Ymq.Lemmas.CrtLemmas
import Ymq.Lemmas.Loops
import Ymq.Lemmas.Bits
import Ymq.Model.Crt
import Mathlib.Tactic.NormNum

namespace Ymq.Crt
open Ymq.Mg64 (W)

theorem mzp_w_le (nbits logsize w : Nat) (h : Ymq.Gen.Params.arith_fft.mzp_w nbits logsize = some w) : w ≤ 26 := by
  unfold Ymq.Gen.Params.arith_fft.mzp_w at h
  simp only [Option.bind_eq_some_iff] at h
  obtain ⟨need, _, w', _, h3⟩ := h
  split_ifs at h3 with hle
  · simp only [Option.bind_eq_some_iff] at h3
    obtain ⟨b, _, h4⟩ := h3
    split_ifs at h4
    · simp only [Option.some.injEq] at h4
      rw [← h4]
      simpa [Ymq.Gen.Params.NTT_PRIMES_LEN] using of_decide_eq_true hle

theorem mzp_w_eq (nbits logsize w : Nat) (h : Ymq.Gen.Params.arith_fft.mzp_w nbits logsize = some w) :
    w = (2 * nbits + logsize) / 58 + 1 := by
  unfold Ymq.Gen.Params.arith_fft.mzp_w at h
  simp only [Option.bind_eq_some_iff] at h
  obtain ⟨need, ⟨t1, h1, h2⟩, w', ⟨t2, h3, h4⟩, h5⟩ := h
  unfold Ymq.Checked.cmul at h1; unfold Ymq.Checked.cadd at h2 h4; unfold Ymq.Checked.cdiv at h3
  split_ifs at h1 h2 h3 h4
  simp only [Option.some.injEq] at h1 h2 h3 h4
  split_ifs at h5 with hle
  simp only [Option.bind_eq_some_iff] at h5
  obtain ⟨b, _, h6⟩ := h5
  split_ifs at h6
  simp only [Option.some.injEq] at h6
  rw [← h6, ← h4, ← h3, ← h2, ← h1]

/-- what the NTT and `_crt` use of a modulus of the table: odd, below `2^59`, Montgomery constant `p - 2`
(`p·(p - 2) ≡ -1 mod 2^64`). Primality is not a field and is nowhere needed: only that `2^64` and `2` are units. -/
structure PrimeOk (p : Nat) : Prop where
  pos : 1 < p
  lt : p < 2 ^ 59
  inv : (p * (p - 2) + 1) % W = 0
  odd : p % 2 = 1

theorem W_val' : W = 18446744073709551616 := rfl

theorem lt_pow_bitlen (n : Nat) : n < 2 ^ Ymq.Checked.bitlen n :=
  (Ymq.Bits.bitlen_le_iff Ymq.Checked.bitlen (fun _ => rfl) n _).1 le_rfl

theorem PrimeOk.ltW {p : Nat} (h : PrimeOk p) : p < W := by
  have := h.lt
  have h59 : (2 : Nat) ^ 59 = 576460752303423488 := by norm_num
  rw [h59] at this; rw [W_val']; omega

theorem table_rows : ∀ j, j < 26 → ∃ p g, Ymq.Gen.Params.NTT_PRIMES[j]? = some (p, g) ∧ Ymq.Gen.Params.NTT_PRIME_VALUES.getD j 0 = p ∧
    RowOk (p, g) := by
  intro j hj
  have hlen : Ymq.Gen.Params.NTT_PRIMES.length = 26 := by decide
  have hj' : j < Ymq.Gen.Params.NTT_PRIMES.length := by omega
  refine ⟨Ymq.Gen.Params.NTT_PRIMES[j].1, Ymq.Gen.Params.NTT_PRIMES[j].2, List.getElem?_eq_getElem hj', ?_, rows_ok _ (List.getElem_mem hj')⟩
  unfold Ymq.Gen.Params.NTT_PRIME_VALUES
  rw [List.getD_eq_getElem?_getD, List.getElem?_map, List.getElem?_eq_getElem hj']
  rfl

theorem primeOk_of_row {p g : Nat} (h : RowOk (p, g)) : PrimeOk p := by
  obtain ⟨h1, h2, h3, h4, _⟩ := h
  simp only at h1 h2 h3 h4
  refine ⟨by omega, h3, by rw [show W = 2 ^ 64 by decide]; exact h4, ?_⟩
  have : (2 : Nat) ^ 49 = 2 * 2 ^ 48 := by norm_num
  omega


open Ymq.Gen.Params Ymq.Checked in
/-- a context returned by `MultiZmodP::new(zn, logsize)`: every field in terms of `n`, `logsize` and the number
of primes `m.w` (what `Crt.new` does, read off once) -/
structure IsNew (n logsize : Nat) (m : Mzp) : Prop where
  hw : arith_fft.mzp_w (bitlen n) logsize = some m.w
  hn : m.n = n
  hk : m.k = logsize
  hkw : m.kw = (bitlen n + 63) / 64
  hprimes : m.primes = NTT_PRIME_VALUES.take m.w
  hrpowers : (NTT_PRIME_VALUES.take m.w).mapM (rpowersOf m.w) = some m.rpowers
  hpinv : (List.range m.w).mapM (fun i => Ymq.PolySpec.invMod
    (prodExcept (NTT_PRIME_VALUES.take m.w) i % (NTT_PRIME_VALUES.take m.w).getD i 1)
    ((NTT_PRIME_VALUES.take m.w).getD i 1)) = some m.crtPinv
  hcrtP : m.crtP = (List.range m.w).map (prodExcept (NTT_PRIME_VALUES.take m.w))
  hpprod : m.pprod = (NTT_PRIME_VALUES.take m.w).foldl (· * ·) 1
  hplen : m.plen = (bitlen m.pprod + 63) / 64
  hmodn : m.crtPModn = m.crtP.map (· % n)
  hpprods : m.pprodsModn = 0 :: pprodModn n m.pprod ::
    pprodsLoop n (pprodModn n m.pprod) (m.w - 2) (pprodModn n m.pprod) []

theorem isNew {n logsize : Nat} {m : Mzp} (h : new n logsize = some m) : IsNew n logsize m := by
  unfold new at h
  simp only at h
  repeat' split at h
  all_goals first
    | contradiction
    | (simp only [Option.some.injEq] at h
       subst h
       exact ⟨‹_›, rfl, rfl, rfl, rfl, ‹_›, ‹_›, rfl, rfl, rfl, rfl, rfl⟩)

theorem table_len : Ymq.Gen.Params.NTT_PRIME_VALUES.length = 26 := by decide

namespace IsNew
open Ymq.Gen.Params Ymq.Checked
variable {n logsize : Nat} {m : Mzp} (h : IsNew n logsize m)
include h

theorem w_le : m.w ≤ 26 := mzp_w_le _ _ _ h.hw

theorem w_eq : m.w = (2 * bitlen n + logsize) / 58 + 1 := mzp_w_eq _ _ _ h.hw

theorem primes_len : m.primes.length = m.w := by
  rw [h.hprimes, List.length_take, table_len]; have := h.w_le; omega

/-- the `j`-th prime of the context is the `j`-th prime of the table, whatever default the access uses -/
theorem prime_eq {j : Nat} (hj : j < m.w) (d : Nat) :
    (NTT_PRIME_VALUES.take m.w).getD j d = m.primes.getD j 0 ∧ m.primes.getD j 0 = NTT_PRIME_VALUES.getD j 0 := by
  have hl : j < NTT_PRIME_VALUES.length := by rw [table_len]; have := h.w_le; omega
  rw [h.hprimes]
  simp only [List.getD_eq_getElem?_getD, List.getElem?_take_of_lt hj, List.getElem?_eq_getElem hl,
    Option.getD_some, and_self]

theorem row {j : Nat} (hj : j < m.w) :
    ∃ g b, NTT_PRIMES[j]? = some (m.primes.getD j 0, g) ∧ RowOk (m.primes.getD j 0, g) ∧
      m.rpowers[j]? = some b ∧ rpowersOf m.w (m.primes.getD j 0) = some b := by
  obtain ⟨p, g, hrow, hval, hok⟩ := table_rows j (by have := h.w_le; omega)
  obtain ⟨hlen, hf⟩ := Loops.mapM_getElem h.hrpowers
  have hj' : j < (NTT_PRIME_VALUES.take m.w).length := by rw [← h.hprimes, h.primes_len]; exact hj
  have hab := hf j hj' (hlen ▸ hj')
  rw [← Loops.getD_eq_getElem _ 0 hj', (h.prime_eq hj 0).1] at hab
  rw [(h.prime_eq hj 0).2, hval] at hab ⊢
  exact ⟨g, _, hrow, hok, List.getElem?_eq_getElem (hlen ▸ hj'), hab⟩

theorem primeOk {j : Nat} (hj : j < m.w) : PrimeOk (m.primes.getD j 0) := by
  obtain ⟨g, _, _, hok, _⟩ := h.row hj
  exact primeOk_of_row hok

end IsNew

end Ymq.Crt
