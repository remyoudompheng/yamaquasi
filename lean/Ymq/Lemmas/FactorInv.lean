/-
The recursion of `factorImpl`, through the plans of Ymq/Lemmas/FactorShape.lean:
* `factorImpl_appended` (ANY oracle): a successful run only appends; every appended element was
  accepted by `o.prime` (in some oracle state) or is logged as a give-up; 1 is never appended;
  under `OracleOK` the appended block multiplies to `n`;
* `PlanOf.calls_proper` (under `OracleOK`): every recursive call is on a proper divisor; with it
  `factorImpl_total_aux` (selector precondition, enough fuel: the run ends with `.ok`) is
  `Plan.run_total` and `factorStep_congr` is `Plan.run_congr`.
-/
import Ymq.Lemmas.FactorShape
import Ymq.Lemmas.Bits

namespace Ymq.Factor

variable {σ : Type}

theorem bits_le_iff (n k : Nat) : bits n ≤ k ↔ n < 2 ^ k := Bits.bitlen_le_iff bits (fun _ => rfl) n k

theorem bits_pos {n : Nat} (h : 1 ≤ n) : 1 ≤ bits n :=
  Nat.lt_of_not_le fun h0 => by have := (bits_le_iff n 0).1 h0; omega

theorem bits_le_of_le {m n : Nat} (h : m ≤ n) : bits m ≤ bits n :=
  (bits_le_iff _ _).2 (Nat.lt_of_le_of_lt h ((bits_le_iff _ _).1 (Nat.le_refl _)))

theorem bits_lt_of_two_mul_le {m n : Nat} (hm : 1 ≤ m) (h : 2 * m ≤ n) : bits m < bits n := by
  have hn := bits_pos (by omega : 1 ≤ n)
  have h2 : n < 2 ^ (bits n - 1 + 1) := by rw [Nat.sub_add_cancel hn]; exact (bits_le_iff _ _).1 (Nat.le_refl _)
  have := (bits_le_iff m (bits n - 1)).2 (by rw [Nat.pow_succ] at h2; omega)
  omega

theorem two_mul_le_of_dvd_lt {m n : Nat} (hd : m ∣ n) (hlt : m < n) : 2 * m ≤ n := by
  obtain ⟨c, rfl⟩ := hd
  have hc : 2 ≤ c := by
    rcases Nat.lt_or_ge c 2 with h | h
    · have : c = 0 ∨ c = 1 := by omega
      rcases this with rfl | rfl <;> simp at hlt
    · exact h
  calc 2 * m = m * 2 := Nat.mul_comm _ _
    _ ≤ m * c := Nat.mul_le_mul_left m hc

theorem bits_lt_of_dvd_lt {m n : Nat} (hm : 1 ≤ m) (hd : m ∣ n) (hlt : m < n) : bits m < bits n :=
  bits_lt_of_two_mul_le hm (two_mul_le_of_dvd_lt hd hlt)

theorem factorStep_one (o : Oracle σ) (rec : Nat → St σ → Res (St σ)) (alg : Algo) (s : St σ) :
    factorStep o rec 1 alg s = .ok s := by
  simp [factorStep]

theorem replicateAppend_prod (k : Nat) (l : List Nat) : (replicateAppend k l).prod = l.prod ^ k := by
  unfold replicateAppend
  induction k with
  | zero => simp
  | succ k ih => simp [List.replicate_succ, ih, Nat.pow_succ, Nat.mul_comm]

theorem mem_replicateAppend {k : Nat} {l : List Nat} {x : Nat} (h : x ∈ replicateAppend k l) :
    x ∈ l := by
  unfold replicateAppend at h
  obtain ⟨l', hl', hx⟩ := List.mem_flatten.mp h
  rw [List.eq_of_mem_replicate hl'] at hx
  exact hx

theorem ppResult_ok {s s' : St σ} {k : Nat} {r : Res (St σ)} (h : ppResult s k r = .ok s') :
    ∃ s'', r = .ok s'' ∧
      s' = { s'' with factors := s.factors ++ replicateAppend k s''.factors } := by
  cases r with
  | ok s'' =>
    simp only [ppResult] at h
    injection h with h
    exact ⟨s'', rfl, h.symm⟩
  | panic e => simp [ppResult] at h
  | fuel => simp [ppResult] at h

/-- selector precondition (the three `assert!(n.bits() <= 64)` of `factor_impl`, lib.rs) -/
def SelectorPre (alg : Algo) (n : Nat) : Prop :=
  (alg = .qs64 ∨ alg = .rho ∨ alg = .squfof) → bits n ≤ 64

theorem SelectorPre.mono {alg : Algo} {m n : Nat} (h : SelectorPre alg n) (hmn : m ≤ n) :
    SelectorPre alg m := fun ha => Nat.le_trans (bits_le_of_le hmn) (h ha)

variable {o : Oracle σ} {n : Nat} {alg : Algo} {s : St σ}

theorem Dead.elim (hok : OracleOK o) (hn : 2 ≤ n) (hsel : SelectorPre alg n) : ¬ Dead o n alg := by
  intro h
  cases h with
  | bits ha hb => exact absurd (hsel ha) (by omega)
  | unexpected t a h => have := (hok.sieveUnexpected t a n 0 hn h).2.1; omega
  | combine t a ds e hs hc =>
    obtain ⟨facs, hfacs⟩ := combineDivs_no_panic [n] ds (by simp; omega)
      (fun d hd => by simpa using (hok.sieveDivs t a n ds hn hs d hd).1)
    rw [hfacs] at hc; exact absurd hc (by simp)

theorem PlanOf.calls_proper {P : Plan σ} (h : PlanOf o n alg s P) (hok : OracleOK o) (hn : 2 ≤ n)
    {m : Nat} (hm : P.Calls n m) : 1 ≤ m ∧ m ∣ n ∧ m < n := by
  cases h with
  | pp p k s0 _ hpp =>
    obtain ⟨hpk, hk, hp⟩ := hok.pp s.os n p k hn hpp
    cases hm
    refine ⟨by omega, hpk ▸ dvd_pow_self m (by omega), ?_⟩
    calc m = m ^ 1 := (Nat.pow_one m).symm
      _ < m ^ k := Nat.pow_lt_pow_right (by omega) (by omega)
      _ = n := hpk
  | split s1 L _ _ hL => exact hL.parts hok hn m hm
  | sieve s1 ds facs _ _ hc =>
    have hd := ((combineDivs_single hc).2 m hm.1).1
    have := Nat.le_of_dvd (by omega) hd
    exact ⟨Nat.pos_of_dvd_of_pos hd (by omega), hd, by have := hm.2; omega⟩
  | _ => exact hm.elim

theorem finalStep_ok {o : Oracle σ} {n : Nat} {rec : Nat → St σ → Res (St σ)} {f : Nat} {s2 s' : St σ}
    (h : finalStep o rec n s2 f = .ok s') :
    s' = s2.giveup f ∨ (∃ s1, s2.sim s1 ∧ f ≠ n ∧ rec f s1 = .ok s') ∨
      ∃ s1 t, s2.sim s1 ∧ (o.prime t f).1 = true ∧ s' = s1.push f := by
  unfold finalStep at h
  split at h
  · injection h with h; exact .inl h.symm
  · split at h
    · exact .inr (.inl ⟨{ s2 with os := (o.prime s2.os f).2 }, ⟨rfl, rfl⟩, ‹_›, h⟩)
    · rename_i hp
      injection h with h
      exact .inr (.inr ⟨{ s2 with os := (o.prime s2.os f).2 }, s2.os, ⟨rfl, rfl⟩, by simpa using hp,
        h.symm⟩)

/-- `s'` is `s` with `new` appended to the vector and `gnew` to the give-up log -/
structure Appended (o : Oracle σ) (s s' : St σ) (new gnew : List Nat) : Prop where
  factors : s'.factors = s.factors ++ new
  giveups : s'.giveups = s.giveups ++ gnew
  accepted : ∀ x ∈ new, (∃ t, (o.prime t x).1 = true) ∨ x ∈ gnew
  no_one : 1 ∉ new

theorem Appended.of_sim {s s1 : St σ} (h : s.sim s1) : Appended o s s1 [] [] :=
  ⟨by simp [h.1], by simp [h.2], by simp, by simp⟩

theorem Appended.trans {s s1 s2 : St σ} {n1 g1 n2 g2 : List Nat} (h1 : Appended o s s1 n1 g1)
    (h2 : Appended o s1 s2 n2 g2) : Appended o s s2 (n1 ++ n2) (g1 ++ g2) := by
  obtain ⟨hf1, hg1, hp1, ho1⟩ := h1
  obtain ⟨hf2, hg2, hp2, ho2⟩ := h2
  refine ⟨by rw [hf2, hf1, List.append_assoc], by rw [hg2, hg1, List.append_assoc], ?_, ?_⟩
  · intro x hx
    rcases List.mem_append.mp hx with hx | hx
    · exact (hp1 x hx).imp_right (List.mem_append_left _)
    · exact (hp2 x hx).imp_right (List.mem_append_right _)
  · exact fun h => (List.mem_append.mp h).elim ho1 ho2

theorem Appended.sim_left {s s1 s2 : St σ} {new gnew : List Nat} (h : s.sim s1)
    (h2 : Appended o s1 s2 new gnew) :
    Appended o s s2 new gnew := (Appended.of_sim h).trans h2

theorem Appended.push {s s1 : St σ} (h : s.sim s1) (hn : n ≠ 1) (t : σ)
    (hp : (o.prime t n).1 = true) : Appended o s (s1.push n) [n] [] :=
  ⟨by simp [St.push, h.1], by simp [St.push, h.2],
    by intro x hx; simp at hx; subst hx; exact Or.inl ⟨t, hp⟩,
    by simp; exact fun h => hn h.symm⟩

theorem Appended.giveup {s s1 : St σ} (h : s.sim s1) (hn : n ≠ 1) : Appended o s (s1.giveup n) [n] [n] :=
  ⟨by simp [St.giveup, h.1], by simp [St.giveup, h.2], fun x hx => Or.inr hx,
    by simp; exact fun h => hn h.symm⟩

/-- the perfect-power branch: the block of the call on `p`, made with an empty vector, is appended
`k` times -/
theorem Appended.pp {s s0 s'' : St σ} {new gnew : List Nat} (k : Nat) (hf0 : s0.factors = [])
    (hg0 : s0.giveups = s.giveups) (h : Appended o s0 s'' new gnew) :
    Appended o s { s'' with factors := s.factors ++ replicateAppend k s''.factors }
      (replicateAppend k new) gnew :=
  ⟨by rw [h.factors, hf0, List.nil_append], by rw [← hg0]; exact h.giveups,
    fun x hx => h.accepted x (mem_replicateAppend hx), fun h1 => h.no_one (mem_replicateAppend h1)⟩

theorem bindList_appended {G : Prop} {f : St σ → Nat → Res (St σ)} {L : List Nat}
    (hf : ∀ m ∈ L, ∀ s s', f s m = .ok s' → ∃ new gnew, Appended o s s' new gnew ∧ (G → new.prod = m))
    {s s' : St σ} (h : bindList f L s = .ok s') :
    ∃ new gnew, Appended o s s' new gnew ∧ (G → new.prod = L.prod) := by
  induction L generalizing s with
  | nil =>
    simp only [bindList] at h
    injection h with h; subst h
    exact ⟨[], [], Appended.of_sim (St.sim_refl _), fun _ => rfl⟩
  | cons a as ih =>
    rw [bindList] at h
    split at h
    · rename_i s1 h1
      obtain ⟨n1, g1, e1, p1⟩ := hf a (by simp) s s1 h1
      obtain ⟨n2, g2, e2, p2⟩ := ih (fun m hm => hf m (by simp [hm])) h
      exact ⟨_, _, e1.trans e2, fun hG => by rw [List.prod_append, p1 hG, p2 hG, List.prod_cons]⟩
    · exact absurd h (by simp)
    · exact absurd h (by simp)

theorem factorImpl_appended (o : Oracle σ) (alg : Algo) :
    ∀ (fuel n : Nat) (s s' : St σ), factorImpl o fuel n alg s = .ok s' →
      ∃ new gnew, Appended o s s' new gnew ∧ (OracleOK o ∧ 1 ≤ n → new.prod = n) := by
  intro fuel
  induction fuel with
  | zero => intro n s s' h; rw [factorImpl_zero] at h; exact absurd h (by simp)
  | succ fuel ih =>
    intro n s s' h
    rw [factorImpl_succ] at h
    by_cases h1 : n = 1
    · rw [h1, factorStep_one] at h
      injection h with h; subst h
      exact ⟨[], [], Appended.of_sim (St.sim_refl _), fun _ => h1.symm⟩
    obtain ⟨P, hP, hrun⟩ := factorStep_plan o n alg s
    rw [hrun] at h
    have hcall : ∀ m, P.Calls n m → ∀ s s', factorImpl o fuel m alg s = .ok s' →
        ∃ new gnew, Appended o s s' new gnew ∧ (OracleOK o ∧ 1 ≤ n → new.prod = m) :=
      fun m hm s s' hr => (ih m s s' hr).imp fun _ => .imp fun _ => .imp_right fun hp hc =>
        hp ⟨hc.1, (hP.calls_proper hc.1 (by omega) hm).1⟩
    cases hP with
    | one h1' => exact absurd h1' h1
    | pp p k s0 hn hpp hf0 hg0 =>
      obtain ⟨s'', hr, rfl⟩ := ppResult_ok h
      obtain ⟨new, gnew, happ, hprod⟩ := hcall p rfl s0 s'' hr
      exact ⟨_, _, happ.pp k hf0 hg0, fun hc => by
        rw [replicateAppend_prod, hprod hc, (hc.1.pp s.os n p k (by omega) hpp).1]⟩
    | prime s1 t hn hsim hp =>
      injection h with h; subst h
      exact ⟨_, _, Appended.push hsim hn t hp, fun _ => by simp⟩
    | giveup s1 hn hsim =>
      injection h with h; subst h
      exact ⟨_, _, Appended.giveup hsim hn, fun _ => by simp⟩
    | split s1 L hn hsim hL =>
      obtain ⟨new, gnew, e, hprod⟩ := bindList_appended (fun m hm s s' hm' => hcall m hm s s' hm') h
      exact ⟨new, gnew, e.sim_left hsim, fun hc => by rw [hprod hc, (hL.ok hc.1 (by omega)).1]⟩
    | sieve s1 ds facs hn hsim hc =>
      obtain ⟨hfp, hfacs⟩ := combineDivs_single hc
      obtain ⟨new, gnew, e, hprod⟩ := bindList_appended (o := o) (G := OracleOK o ∧ 1 ≤ n)
        (fun f hf s2 s2' hstep => by
        have hf1 : f ≠ 1 := fun h1 => hn ((hfacs f hf).2 h1)
        rcases finalStep_ok hstep with rfl | ⟨s3, h3, hfn, hr⟩ | ⟨s3, t, h3, hp, rfl⟩
        · exact ⟨_, _, Appended.giveup (St.sim_refl _) hf1, fun _ => by simp⟩
        · obtain ⟨new, gnew, e, hprod⟩ := hcall f ⟨hf, hfn⟩ _ _ hr
          exact ⟨new, gnew, e.sim_left h3, hprod⟩
        · exact ⟨_, _, Appended.push h3 hf1 t hp, fun _ => by simp⟩) h
      exact ⟨new, gnew, e.sim_left hsim, fun hc => by rw [hprod hc, hfp]⟩
    | panic => exact absurd h (by simp [Plan.run])

/-- Every recursive call is on a proper divisor, hence at least one bit shorter: fuel `bits n`. -/
theorem factorImpl_total_aux {o : Oracle σ} (hok : OracleOK o) (alg : Algo) :
    ∀ (fuel n : Nat) (s : St σ), 1 ≤ n → bits n ≤ fuel → SelectorPre alg n →
      ∃ s', factorImpl o fuel n alg s = .ok s' := by
  intro fuel
  induction fuel with
  | zero => intro n s hn hb _; have := bits_pos hn; omega
  | succ fuel ih =>
    intro n s hn1 hb hsel
    rw [factorImpl_succ]
    by_cases h1 : n = 1
    · exact ⟨s, by rw [h1, factorStep_one]⟩
    obtain ⟨P, hP, h⟩ := factorStep_plan o n alg s
    rw [h]
    have hn2 : 2 ≤ n := by omega
    refine P.run_total (fun r hr => ?_) fun m hm s => ?_
    · subst hr
      cases hP with
      | panic e hd => exact absurd hd (Dead.elim hok hn2 hsel)
      | _ => exact ⟨_, rfl⟩
    · obtain ⟨hm1, hd, hlt⟩ := hP.calls_proper hok hn2 hm
      have := bits_lt_of_dvd_lt hm1 hd hlt
      exact ih m s hm1 (by omega) (hsel.mono (Nat.le_of_lt hlt))


theorem factorStep_congr (hok : OracleOK o) (h0 : n ≠ 0) {rec rec' : Nat → St σ → Res (St σ)}
    (hrec : ∀ m, m ∣ n → ∀ s, rec m s = rec' m s) (alg : Algo) (s : St σ) :
    factorStep o rec n alg s = factorStep o rec' n alg s := by
  by_cases h1 : n = 1
  · rw [h1, factorStep_one, factorStep_one]
  obtain ⟨P, hP, h⟩ := factorStep_plan o n alg s
  rw [h, h]
  exact P.run_congr fun m hm => hrec m (hP.calls_proper hok (by omega) hm).2.1

end Ymq.Factor
