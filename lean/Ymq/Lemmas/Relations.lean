/-
Basic lemmas for the relation store model (C11): the `Except` monad, the congruence `Valid`,
`pow_mod`, `Relation::verify`, and `RelationSet::combine`.
-/
import Ymq.Model.Relations
import Ymq.Lemmas.BinPow
import Mathlib.Data.Int.ModEq
import Mathlib.Tactic.Ring

namespace Ymq.Relations

theorem bind_eq_ok {α β} {x : M α} {f : α → M β} {b : β} :
    (x >>= f) = .ok b ↔ ∃ a, x = .ok a ∧ f a = .ok b := by
  cases x <;> simp [bind, Except.bind]

theorem pure_eq_ok {α} {a b : α} : (pure a : M α) = .ok b ↔ a = b := by
  simp [pure, Except.pure]

theorem throw_ne_ok {α} {e : Err} {b : α} : (throw e : M α) = .ok b ↔ False := by
  simp [throw, throwThe, MonadExceptOf.throw]

theorem bind_of_ok {α β} {x : M α} {a : α} (h : x = .ok a) (f : α → M β) : (x >>= f) = f a := by
  rw [h]; rfl

theorem ok_bind {α β : Type} (a : α) (f : α → M β) : ((.ok a : M α) >>= f) = f a := rfl

theorem bind_assoc' {α β γ : Type} (x : M α) (f : α → M β) (g : β → M γ) :
    (x >>= f) >>= g = x >>= fun a => f a >>= g := by
  cases x <;> rfl

theorem error_bind {α β : Type} (e : Err) (f : α → M β) : ((.error e : M α) >>= f) = .error e := rfl

theorem throw_bind {α β : Type} (e : Err) (f : α → M β) : ((throw e : M α) >>= f) = throw e := rfl

theorem pure_bind' {α β : Type} (a : α) (f : α → M β) : ((pure a : M α) >>= f) = f a := rfl

theorem bind_pure' {α : Type} (x : M α) : (x >>= pure) = x := by cases x <;> rfl

theorem bind_congr' {α β : Type} (x : M α) {f g : α → M β} (h : ∀ a, f a = g a) :
    (x >>= f) = (x >>= g) := by
  cases x with
  | error e => rfl
  | ok a => exact h a

theorem bind_congr_ok {α β : Type} (x : M α) {f g : α → M β} (h : ∀ a, x = .ok a → f a = g a) :
    (x >>= f) = (x >>= g) := by
  cases x with
  | error e => rfl
  | ok a => exact h a rfl

theorem ite_bind' {α β : Type} (c : Prop) [Decidable c] (x y : M α) (f : α → M β) :
    (if c then x else y) >>= f = if c then x >>= f else y >>= f := by split <;> rfl

def ErrIn {α : Type} (E : Err → Prop) (x : M α) : Prop := ∀ e, x = .error e → E e

theorem ErrIn.ok {α : Type} {E : Err → Prop} (a : α) : ErrIn E (.ok a : M α) := fun _ h => by cases h

theorem ErrIn.pure {α : Type} {E : Err → Prop} (a : α) : ErrIn E (pure a : M α) := ErrIn.ok a

theorem ErrIn.throw {α : Type} {E : Err → Prop} {e : Err} (h : E e) : ErrIn E (throw e : M α) := by
  intro e' h'
  cases h'; exact h

theorem ErrIn.bind {α β : Type} {E : Err → Prop} {x : M α} {f : α → M β} (hx : ErrIn E x)
    (hf : ∀ a, x = .ok a → ErrIn E (f a)) : ErrIn E (x >>= f) := by
  cases x with
  | error e0 => intro e h; cases h; exact hx e0 rfl
  | ok a => exact hf a rfl

/-- the listed prime powers, the sign `-1` included as an ordinary base -/
def fprod : List (Int × Nat) → Int
  | [] => 1
  | (p, k) :: t => p ^ k * fprod t

/-- the congruence a relation stands for: `x² ≡ cofactor · ∏ pᵏ (mod n)` -/
def Valid (n : Nat) (r : Relation) : Prop :=
  (r.x : Int) * r.x ≡ (r.cofactor : Int) * fprod r.factors [ZMOD n]

instance (n : Nat) (r : Relation) : Decidable (Valid n r) := by unfold Valid; infer_instance

/-- Rust types of the factor list: `i64` primes, `u64` exponents -/
def TypedF (fs : List (Int × Nat)) : Prop :=
  ∀ f ∈ fs, -(I63 : Int) ≤ f.1 ∧ f.1 < (I63 : Int) ∧ f.2 < W64

/-- Rust types of a relation (`u64` cofactor and cycle length) -/
def Typed (r : Relation) : Prop := r.cofactor < W64 ∧ r.cyclelen < W64 ∧ TypedF r.factors

/-- no factor entry has base 1 (the packed encoding uses the code 1 for the prime 2) -/
def NoOne (fs : List (Int × Nat)) : Prop := ∀ f ∈ fs, f.1 ≠ 1

instance (fs : List (Int × Nat)) : Decidable (TypedF fs) := by unfold TypedF; infer_instance
instance (r : Relation) : Decidable (Typed r) := by unfold Typed; infer_instance
instance (fs : List (Int × Nat)) : Decidable (NoOne fs) := by unfold NoOne; infer_instance

@[simp] theorem fprod_nil : fprod [] = 1 := rfl
@[simp] theorem fprod_cons (p : Int) (k : Nat) (t : List (Int × Nat)) :
    fprod ((p, k) :: t) = p ^ k * fprod t := rfl

theorem fprod_append (a b : List (Int × Nat)) : fprod (a ++ b) = fprod a * fprod b := by
  induction a with
  | nil => simp
  | cons h t ih => obtain ⟨p, k⟩ := h; simp [ih, mul_assoc]

theorem TypedF_nil : TypedF [] := by intro f hf; cases hf

theorem TypedF_cons {f : Int × Nat} {t : List (Int × Nat)} :
    TypedF (f :: t) ↔ (-(I63 : Int) ≤ f.1 ∧ f.1 < (I63 : Int) ∧ f.2 < W64) ∧ TypedF t := by
  simp [TypedF]

theorem NoOne_cons {f : Int × Nat} {t : List (Int × Nat)} :
    NoOne (f :: t) ↔ f.1 ≠ 1 ∧ NoOne t := by
  simp [NoOne]

theorem toI64_small {v : Nat} (h : v < I63) : toI64 v = (v : Int) := by
  unfold toI64; rw [if_pos h]

theorem toI64_range {v : Nat} (h : v < W64) : -(I63 : Int) ≤ toI64 v ∧ toI64 v < (I63 : Int) := by
  unfold toI64
  have e1 : (W64 : Int) = 18446744073709551616 := by decide
  have e2 : (I63 : Int) = 9223372036854775808 := by decide
  have e3 : I63 = 9223372036854775808 := by decide
  have e4 : W64 = 18446744073709551616 := by decide
  split
  · omega
  · omega

theorem toU64_nonneg {p : Int} (h0 : 0 ≤ p) (h1 : p < (W64 : Int)) : (toU64 p : Int) = p := by
  unfold toU64
  rw [Int.emod_eq_of_lt h0 h1, Int.toNat_of_nonneg h0]

theorem powModLoop_spec (p : Nat) (f res nn k : Nat) (hk : k < 2 ^ f) :
    powModLoop p f res nn k ≡ res * nn ^ k [MOD p] :=
  (BinPow.loop_mod p (F := powModLoop p) (fun _ _ _ => rfl) (fun _ _ _ _ => rfl) f k res nn hk).1

theorem powMod_spec (b k p : Nat) (hk : k < W64) : powMod b k p ≡ b ^ k [MOD p] := by
  unfold powMod
  have h := powModLoop_spec p 64 1 (b % p) k (by simpa [W64] using hk)
  refine h.trans ?_
  rw [one_mul]
  exact (Nat.mod_modEq _ _).pow _

theorem verifyLoop_spec (n len : Nat) : ∀ (fs : List (Int × Nat)) (prod out : Nat),
    TypedF fs → verifyLoop n len fs prod = .ok out →
    (out : Int) ≡ (prod : Int) * fprod fs [ZMOD n] := by
  intro fs
  induction fs with
  | nil =>
    intro prod out _ h
    simp only [verifyLoop, pure_eq_ok] at h
    subst h; simp [Int.ModEq]
  | cons f t ih =>
    obtain ⟨p, k⟩ := f
    intro prod out hty h
    rw [TypedF_cons] at hty
    obtain ⟨⟨hp1, hp2, hk⟩, htt⟩ := hty
    simp only at hp1 hp2 hk
    unfold verifyLoop at h
    split at h
    · rename_i hm1
      subst hm1
      split at h
      · rename_i hodd
        split at h
        · simp [throw_ne_ok] at h
        · rename_i hle
          have := ih (n - prod) out htt h
          refine this.trans ?_
          rw [fprod_cons, Odd.neg_one_pow (Nat.odd_iff.mpr hodd)]
          have hcast : ((n - prod : Nat) : Int) = (n : Int) - prod := by omega
          rw [hcast]
          have : (n : Int) - prod ≡ 0 - prod [ZMOD n] :=
            Int.ModEq.sub_right _ (by simp [Int.ModEq])
          have h2 := this.mul_right (fprod t)
          refine h2.trans ?_
          rw [show (0 - (prod : Int)) * fprod t = prod * (-1 * fprod t) by ring]
      · rename_i hev
        have := ih prod out htt h
        refine this.trans ?_
        have he : Even k := Nat.even_iff.mpr (by omega)
        rw [fprod_cons, Even.neg_one_pow he, one_mul]
    · split at h
      · rename_i hpos
        split at h
        · simp [throw_ne_ok] at h
        · have := ih _ out htt h
          refine this.trans ?_
          have hp0 : 0 ≤ p := by
            rcases hpos with hpos | ⟨hpos, _⟩ <;> omega
          have hW : (p : Int) < (W64 : Int) := by
            have e1 : (W64 : Int) = 18446744073709551616 := by decide
            have e2 : (I63 : Int) = 9223372036854775808 := by decide
            omega
          have hu := toU64_nonneg hp0 hW
          have hpm := powMod_spec (toU64 p) k n hk
          have hpmZ : ((powMod (toU64 p) k n : Nat) : Int) ≡ p ^ k [ZMOD n] := by
            have := Int.natCast_modEq_iff.mpr hpm
            rw [Nat.cast_pow, hu] at this
            exact this
          have h1 : ((prod * powMod (toU64 p) k n % n : Nat) : Int) ≡ prod * p ^ k [ZMOD n] := by
            rw [Int.natCast_mod, Nat.cast_mul]
            exact (Int.mod_modEq _ _).trans (Int.ModEq.mul_left _ hpmZ)
          have h2 := h1.mul_right (fprod t)
          refine h2.trans ?_
          rw [fprod_cons, mul_assoc]
      · simp [throw_ne_ok] at h

theorem verify_sound {n : Nat} {r : Relation} (hty : TypedF r.factors)
    (h : verify n r = .ok true) : Valid n r := by
  unfold verify at h
  simp only [bind_eq_ok] at h
  obtain ⟨prod, hprod, h⟩ := h
  split at h
  · simp [throw, throwThe, MonadExceptOf.throw, Functor.map, Except.map] at h
  · simp only [pure_eq_ok, beq_iff_eq] at h
    have hs := verifyLoop_spec n _ _ _ _ hty hprod
    unfold Valid
    have : ((r.x * r.x % n : Nat) : Int) ≡ (r.x : Int) * r.x [ZMOD n] := by
      rw [Int.natCast_mod, Nat.cast_mul]; exact Int.mod_modEq _ _
    rw [h] at this
    exact this.symm.trans hs

theorem hasPrime_cons_ne {p p' : Int} (k' : Nat) (l : List (Int × Nat)) (hne : ¬ p' = p) :
    hasPrime p ((p', k') :: l) = hasPrime p l := by
  simp only [hasPrime, List.any_cons, Bool.or_eq_right_iff_imp, beq_iff_eq]
  exact fun e => absurd e hne

theorem bump_ok {p : Int} {k : Nat} : ∀ {fs fs' : List (Int × Nat)}, bump p k fs = .ok fs' →
    (hasPrime p fs = false ∧ fs' = fs) ∨
    ∃ a k' b, fs = a ++ (p, k') :: b ∧ hasPrime p a = false ∧ k' + k < W64 ∧
      fs' = a ++ (p, k' + k) :: b := by
  intro fs
  induction fs with
  | nil => intro fs' h; exact Or.inl ⟨rfl, (pure_eq_ok.mp h).symm⟩
  | cons f t ih =>
    obtain ⟨p', k'⟩ := f
    intro fs' h
    unfold bump at h
    split at h
    · rename_i hp
      subst hp
      split at h
      · rename_i hlt
        exact Or.inr ⟨[], k', t, rfl, rfl, hlt, (pure_eq_ok.mp h).symm⟩
      · exact (throw_ne_ok.mp h).elim
    · rename_i hne
      simp only [bind_eq_ok, pure_eq_ok] at h
      obtain ⟨t', ht', rfl⟩ := h
      rcases ih ht' with ⟨hn, rfl⟩ | ⟨a, k0, b, rfl, ha, hlt, rfl⟩
      · exact Or.inl ⟨by rw [hasPrime_cons_ne _ _ hne]; exact hn, rfl⟩
      · exact Or.inr ⟨(p', k') :: a, k0, b, rfl, by rw [hasPrime_cons_ne _ _ hne]; exact ha, hlt, rfl⟩

theorem bump_spec (p : Int) (k : Nat) (fs fs' : List (Int × Nat)) (h : bump p k fs = .ok fs')
    (hp : hasPrime p fs = true) : fprod fs' = fprod fs * p ^ k := by
  rcases bump_ok h with ⟨hn, _⟩ | ⟨a, k', b, rfl, _, _, rfl⟩
  · rw [hn] at hp; cases hp
  · simp only [fprod_append, fprod_cons, pow_add]; ring

theorem bump_forall {P : Int × Nat → Prop} {p : Int} {k : Nat}
    (hP : ∀ p' k', P (p', k') → k' + k < W64 → P (p', k' + k)) (fs fs' : List (Int × Nat))
    (h : bump p k fs = .ok fs') (hall : ∀ f ∈ fs, P f) : ∀ f ∈ fs', P f := by
  rcases bump_ok h with ⟨_, rfl⟩ | ⟨a, k', b, rfl, _, hlt, rfl⟩
  · exact hall
  · rw [List.forall_mem_append, List.forall_mem_cons] at hall ⊢
    exact ⟨hall.1, hP p k' hall.2.1 hlt, hall.2.2⟩

theorem mergeFactors_spec : ∀ (fs acc out : List (Int × Nat)),
    mergeFactors acc fs = .ok out → fprod out = fprod acc * fprod fs := by
  intro fs
  induction fs with
  | nil => intro acc out h; simp only [mergeFactors, pure_eq_ok] at h; subst h; simp
  | cons f t ih =>
    obtain ⟨p, k⟩ := f
    intro acc out h
    unfold mergeFactors at h
    split at h
    · rename_i hp
      simp only [bind_eq_ok] at h
      obtain ⟨acc', hb, h⟩ := h
      rw [ih acc' out h, bump_spec p k acc acc' hb hp, fprod_cons]; ring
    · rw [ih _ out h, fprod_append, fprod_cons, fprod_nil, fprod_cons]; ring

theorem mergeFactors_forall {P : Int × Nat → Prop}
    (hP : ∀ p k k', P (p, k') → k' + k < W64 → P (p, k' + k)) : ∀ (fs acc out : List (Int × Nat)),
    mergeFactors acc fs = .ok out → (∀ f ∈ acc, P f) → (∀ f ∈ fs, P f) → ∀ f ∈ out, P f := by
  intro fs
  induction fs with
  | nil => intro acc out h ha _; rw [← pure_eq_ok.mp h]; exact ha
  | cons f t ih =>
    obtain ⟨p, k⟩ := f
    intro acc out h ha hf
    rw [List.forall_mem_cons] at hf
    unfold mergeFactors at h
    split at h
    · simp only [bind_eq_ok] at h
      obtain ⟨acc', hb, h⟩ := h
      exact ih acc' out h (bump_forall (fun p' k' => hP p' k k') acc acc' hb ha) hf.2
    · refine ih _ out h ?_ hf.2
      rw [List.forall_mem_append, List.forall_mem_singleton]
      exact ⟨ha, hf.1⟩

/-- the cofactor `combine` divides by and squares into the factor list -/
def divisorCof (r1 r2 : Relation) : Nat :=
  if r1.cofactor % r2.cofactor = 0 then r2.cofactor else r1.cofactor

theorem combine_ok {n : Nat} {r1 r2 r : Relation} (h : combine n r1 r2 = .ok r) :
    ∃ fs, mergeFactors r1.factors r2.factors = .ok fs ∧ 0 < n ∧ r.x = r1.x * r2.x % n ∧
      r.cyclelen = r1.cyclelen + r2.cyclelen ∧ r.cyclelen < W64 ∧
      ((r2.cofactor ≠ 0 ∧ r1.cofactor % r2.cofactor = 0 ∧ r.cofactor = r1.cofactor / r2.cofactor ∧
          r.factors = fs ++ [(toI64 r2.cofactor, 2)]) ∨
       (r1.cofactor ≠ 0 ∧ r2.cofactor ≠ 0 ∧ r1.cofactor % r2.cofactor ≠ 0 ∧
          r2.cofactor % r1.cofactor = 0 ∧ r.cofactor = r2.cofactor / r1.cofactor ∧
          r.factors = fs ++ [(toI64 r1.cofactor, 2)])) := by
  unfold combine at h
  simp only [bind_eq_ok] at h
  obtain ⟨fs, hfs, h⟩ := h
  refine ⟨fs, hfs, ?_⟩
  split at h
  · simp [throw_ne_ok] at h
  · rename_i hc2
    split at h
    · rename_i hmod
      split at h
      · simp [throw_ne_ok] at h
      · rename_i hn
        split at h
        · rename_i hlen
          simp only [pure_eq_ok] at h
          subst h
          exact ⟨Nat.pos_of_ne_zero hn, rfl, rfl, hlen, Or.inl ⟨hc2, hmod, rfl, rfl⟩⟩
        · simp [throw_ne_ok] at h
    · rename_i hmod
      split at h
      · simp [throw_ne_ok] at h
      · rename_i hc1
        split at h
        · simp [throw_ne_ok] at h
        · rename_i hmod2
          split at h
          · simp [throw_ne_ok] at h
          · rename_i hn
            split at h
            · rename_i hlen
              simp only [pure_eq_ok] at h
              subst h
              exact ⟨Nat.pos_of_ne_zero hn, rfl, rfl, hlen,
                Or.inr ⟨hc1, hc2, hmod, by simpa using hmod2, rfl, rfl⟩⟩
            · simp [throw_ne_ok] at h

theorem combine_divisor {n : Nat} {r1 r2 r : Relation} (h : combine n r1 r2 = .ok r) :
    divisorCof r1 r2 ≠ 0 ∧ r.cofactor * divisorCof r1 r2 * divisorCof r1 r2 = r1.cofactor * r2.cofactor ∧
    ∃ fs, mergeFactors r1.factors r2.factors = .ok fs ∧
      r.factors = fs ++ [(toI64 (divisorCof r1 r2), 2)] := by
  obtain ⟨fs, hfs, _, _, _, _, hc⟩ := combine_ok h
  rcases hc with ⟨hc2, hmod, hcof, hf⟩ | ⟨hc1, hc2, hmod, hmod2, hcof, hf⟩
  · have hd : divisorCof r1 r2 = r2.cofactor := by unfold divisorCof; rw [if_pos hmod]
    rw [hd, hcof, Nat.div_mul_cancel (Nat.dvd_of_mod_eq_zero hmod)]
    exact ⟨hc2, rfl, fs, hfs, hf⟩
  · have hd : divisorCof r1 r2 = r1.cofactor := by unfold divisorCof; rw [if_neg hmod]
    rw [hd, hcof, Nat.div_mul_cancel (Nat.dvd_of_mod_eq_zero hmod2)]
    exact ⟨hc1, Nat.mul_comm _ _, fs, hfs, hf⟩

/-- `combine` preserves the congruence (the divisor cofactor must survive the `as i64` cast). -/
theorem combine_valid' {n : Nat} {r1 r2 r : Relation} (h : combine n r1 r2 = .ok r)
    (h1 : Valid n r1) (h2 : Valid n r2) (hd : divisorCof r1 r2 < I63) : Valid n r := by
  obtain ⟨_, hmul, fs, hfs, hf⟩ := combine_divisor h
  obtain ⟨_, _, _, hx, _, _, _⟩ := combine_ok h
  have hfp := mergeFactors_spec _ _ _ hfs
  unfold Valid at *
  rw [hf, fprod_append, hfp, fprod_cons, fprod_nil, toI64_small hd, hx]
  have hxx : ((r1.x * r2.x % n : Nat) : Int) ≡ (r1.x : Int) * r2.x [ZMOD n] := by
    rw [Int.natCast_mod, Nat.cast_mul]; exact Int.mod_modEq _ _
  have := (hxx.mul hxx).trans
    (show (r1.x : Int) * r2.x * ((r1.x : Int) * r2.x) ≡
        ((r1.cofactor : Int) * fprod r1.factors) * ((r2.cofactor : Int) * fprod r2.factors) [ZMOD n] by
      rw [show (r1.x : Int) * r2.x * ((r1.x : Int) * r2.x) = (r1.x * r1.x) * (r2.x * r2.x) by ring]
      exact h1.mul h2)
  refine this.trans ?_
  have hmulZ : (r.cofactor : Int) * divisorCof r1 r2 * divisorCof r1 r2 = r1.cofactor * r2.cofactor := by
    exact_mod_cast hmul
  rw [show (r1.cofactor : Int) * fprod r1.factors * ((r2.cofactor : Int) * fprod r2.factors) =
    (r1.cofactor * r2.cofactor) * (fprod r1.factors * fprod r2.factors) by ring, ← hmulZ]
  ring_nf
  rfl

theorem combine_typed {n : Nat} {r1 r2 r : Relation} (h : combine n r1 r2 = .ok r)
    (h1 : Typed r1) (h2 : Typed r2) : Typed r := by
  obtain ⟨fs, hfs, _, _, _, hlen, hc⟩ := combine_ok h
  have hfsT : TypedF fs :=
    mergeFactors_forall (fun _ _ _ h hlt => ⟨h.1, h.2.1, hlt⟩) _ _ _ hfs h1.2.2 h2.2.2
  have hpush : ∀ c, c < W64 → TypedF (fs ++ [(toI64 c, 2)]) := fun c hc =>
    List.forall_mem_append.mpr ⟨hfsT, List.forall_mem_singleton.mpr
      ⟨(toI64_range hc).1, (toI64_range hc).2, by show 2 < W64; decide⟩⟩
  rcases hc with ⟨_, _, hcof, hf⟩ | ⟨_, _, _, _, hcof, hf⟩
  · refine ⟨?_, hlen, ?_⟩
    · rw [hcof]; exact lt_of_le_of_lt (Nat.div_le_self _ _) h1.1
    · rw [hf]; exact hpush _ h2.1
  · refine ⟨?_, hlen, ?_⟩
    · rw [hcof]; exact lt_of_le_of_lt (Nat.div_le_self _ _) h2.1
    · rw [hf]; exact hpush _ h1.1

theorem combine_noOne {n : Nat} {r1 r2 r : Relation} (h : combine n r1 r2 = .ok r)
    (h1 : NoOne r1.factors) (h2 : NoOne r2.factors) (hd : toI64 (divisorCof r1 r2) ≠ 1) :
    NoOne r.factors := by
  obtain ⟨_, _, fs, hfs, hf⟩ := combine_divisor h
  rw [hf]
  exact List.forall_mem_append.mpr
    ⟨mergeFactors_forall (P := fun f => f.1 ≠ 1) (fun _ _ _ h _ => h) _ _ _ hfs h1 h2,
      List.forall_mem_singleton.mpr hd⟩

theorem combine_x_lt {n : Nat} {r1 r2 r : Relation} (h : combine n r1 r2 = .ok r) : r.x < n := by
  obtain ⟨_, _, hn, hx, _⟩ := combine_ok h
  rw [hx]; exact Nat.mod_lt _ hn

end Ymq.Relations
