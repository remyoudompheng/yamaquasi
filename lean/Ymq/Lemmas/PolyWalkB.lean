/-
SIQS (C12): the coefficient `B` of the polynomial number `idx` of a family is the sum of the CRT
roots selected by the Gray code of `idx`; with it, all fields of that polynomial but the root table are known (`At`).
Hence `B ≤ 2·nf·A` along the walk, and on the parameter domain the stored `C` is the exact one.
-/
import Ymq.Lemmas.PolySiqsExact
import Ymq.Lemmas.PolyCrt
import Ymq.Lemmas.PolySizes
namespace Ymq.PolyWalkB
open Ymq.SiqsPoly Ymq.PolyInv Ymq.PolyBits Ymq.PolySiqs Ymq.PolyCrt

/-- `B` for the choice `g` over the stored pairs (`I256`) -/
def bsumZ (g : Nat → Bool) : Nat → List (Int × Int) → Int
  | _, [] => 0
  | k, pr :: rest => (if g k then pr.2 else pr.1) + bsumZ g (k + 1) rest

theorem bsumZ_eq_sum (g : Nat → Bool) : ∀ (l : List (Int × Int)) (k : Nat),
    bsumZ g k l = ∑ j ∈ Finset.range l.length, if g (k + j) then (l.getD j 0).2 else (l.getD j 0).1
  | [], _ => rfl
  | pr :: rest, k => by
    rw [bsumZ, bsumZ_eq_sum g rest (k + 1), List.length_cons, Finset.sum_range_succ', add_comm]
    simp only [List.getD_cons_succ, List.getD_cons_zero, Nat.add_zero, Nat.add_assoc, Nat.add_comm 1]

theorem bsumZ_congr (g g' : Nat → Bool) (l : List (Int × Int)) (k : Nat) (h : ∀ j, k ≤ j → g j = g' j) :
    bsumZ g k l = bsumZ g' k l := by
  rw [bsumZ_eq_sum, bsumZ_eq_sum]
  exact Finset.sum_congr rfl fun j _ => by rw [h (k + j) (Nat.le_add_right _ _)]

theorem bsumZ_flip (g g' : Nat → Bool) (l : List (Int × Int)) (k0 t : Nat) (ht : t < l.length)
    (h : ∀ j, g' j = (g j ^^ decide (k0 + t = j))) :
    bsumZ g' k0 l = bsumZ g k0 l + (if g (k0 + t) then l[t].1 - l[t].2 else l[t].2 - l[t].1) := by
  -- the two sums differ in the term of position `t` only
  rw [bsumZ_eq_sum, bsumZ_eq_sum, ← sub_eq_iff_eq_add', ← Finset.sum_sub_distrib,
    Finset.sum_eq_single_of_mem t (Finset.mem_range.mpr ht) fun j _ hj => by
      rw [h (k0 + j), show decide (k0 + t = k0 + j) = false by simp; omega, Bool.xor_false, sub_self]]
  rw [h (k0 + t), decide_eq_true rfl, Bool.xor_true, List.getD_eq_getElem _ _ ht]
  cases g (k0 + t) <;> rfl

theorem bsumZ_le (g : Nat → Bool) (a : Nat) (l : List (Int × Int)) (k : Nat)
    (h : ∀ pr ∈ l, 0 ≤ pr.1 ∧ pr.1 ≤ pr.2 ∧ pr.2 ≤ 2 * (a : Int)) :
    0 ≤ bsumZ g k l ∧ bsumZ g k l ≤ 2 * (l.length : Int) * a := by
  have hj : ∀ j ∈ Finset.range l.length, 0 ≤ (if g (k + j) then (l.getD j 0).2 else (l.getD j 0).1) ∧
      (if g (k + j) then (l.getD j 0).2 else (l.getD j 0).1) ≤ 2 * (a : Int) := by
    intro j hj
    rw [List.getD_eq_getElem _ _ (Finset.mem_range.mp hj)]
    obtain ⟨h1, h2, h3⟩ := h _ (List.getElem_mem (Finset.mem_range.mp hj))
    split <;> constructor <;> omega
  rw [bsumZ_eq_sum]
  refine ⟨Finset.sum_nonneg fun j hj' => (hj j hj').1,
    (Finset.sum_le_sum fun j hj' => (hj j hj').2).trans (le_of_eq ?_)⟩
  rw [Finset.sum_const, Finset.card_range, nsmul_eq_mul]; ring

theorem bsumZ_false : ∀ (l : List (Int × Int)) (k : Nat), bsumZ (fun _ => false) k l = (l.map (·.1)).sum := by
  intro l
  induction l with
  | nil => intro k; rfl
  | cons x xs ih => intro k; simp [bsumZ, ih]

theorem bsumZ_cast (g : Nat → Bool) : ∀ (prs : List (Nat × Nat)) (k : Nat),
    bsumZ g k (prs.map fun pr => ((pr.1 : Int), (pr.2 : Int))) = ((bsum g k prs : Nat) : Int) := by
  intro prs
  induction prs with
  | nil => intro k; rfl
  | cons x xs ih =>
    intro k
    simp only [List.map_cons, bsumZ, bsum, ih]
    split <;> push_cast <;> rfl

/-- Gray code -/
def grayBits (idx : Nat) (j : Nat) : Bool := (idx ^^^ (idx >>> 1)).testBit j

theorem b_step (roots : List (Int × Int)) (i : Nat) (h64 : i + 1 < 2 ^ 64) (r0 r1 : Int)
    (hroots : roots[flipBit i]? = some (r0, r1)) :
    (if flipUp i then bsumZ (grayBits i) 0 roots + r1 - r0 else bsumZ (grayBits i) 0 roots + r0 - r1)
      = bsumZ (grayBits (i + 1)) 0 roots := by
  obtain ⟨_, _, _, htest⟩ := gray_step_aux i h64
  obtain ⟨hbr, hr⟩ := List.getElem?_eq_some_iff.mp hroots
  have hflip := bsumZ_flip (grayBits i) (grayBits (i + 1)) roots 0 (flipBit i) hbr (by
    intro j
    simp only [grayBits, Nat.zero_add]
    exact htest j)
  rw [hflip, hr, Nat.zero_add]
  have htb : grayBits i (flipBit i) = !flipUp i := by
    simp only [grayBits, flipUp, Nat.testBit_eq_decide_div_mod_eq, Nat.shiftRight_eq_div_pow]
    rcases Nat.mod_two_eq_zero_or_one ((i ^^^ i / 2 ^ 1) / 2 ^ flipBit i) with h | h <;> rw [h] <;> rfl
  rw [htb]
  cases flipUp i <;> simp <;> ring

/-- polynomial number `i` of a family with at least one factor, the root table apart: all fields in closed form
(`B` is the sum of the roots selected by the Gray code of `i`), and it is an output of `_finish_polynomial` -/
structure At (s : Sieve) (pa : APrep) (i : Nat) (pol : Poly) : Prop where
  idx : pol.idx = i
  type2 : pol.type2 = isType2 s.n
  n : pol.n = s.n
  a : pol.a = (pa.a : Int)
  b : pol.b = bsumZ (grayBits i) 0 pa.roots
  fin : Finished s pa pol

theorem polyAt_at {s : Sieve} {pa : APrep} (hne : pa.factors.isEmpty = false) :
    ∀ (idx : Nat) (pol : Poly), polyAt s pa idx = some pol → At s pa idx pol := by
  refine polyAt_ind (fun pol h => ?_) (fun i pol pol' hp h => ?_)
  · obtain ⟨hF, hi, ht, ha, hb, hn⟩ := finish_finished ((first_iff hne).mp h).2.2
    refine ⟨hi, ht, hn, ha, ?_, hF⟩
    rw [hb, show (firstPre s pa).b = (pa.roots.map (·.1)).sum from rfl, ← bsumZ_false pa.roots 0]
    exact bsumZ_congr _ _ _ _ fun j _ => by simp [grayBits]
  · obtain ⟨h64, r0, r1, hroots, _, _, _, hfin⟩ := next_iff.mp h
    obtain ⟨hF, hi, ht, ha, hb, hn⟩ := finish_finished hfin
    rw [hp.idx] at h64 hroots
    refine ⟨by rw [hi]; exact congrArg (· + 1) hp.idx, ht.trans hp.type2, hn.trans hp.n, ha.trans hp.a, ?_, hF⟩
    rw [hb, ← b_step pa.roots i h64 r0 r1 hroots, ← hp.b, ← hp.idx]
    rfl

/-- `crt_B_sq` for the stored pairs (`I256`) -/
theorem bsumZ_sq {n : Int} {sel fb : List Prime} {f : Factors} {a : Nat} {so : Int} {pa : APrep}
    (hs : SelOk n sel) (hf : mkFactors n sel = some f) (ha : a = ((afsOf f a).map (·.2.p)).prod)
    (hpa : prepareA f a fb so = some pa) (hne : pa.factors.isEmpty = false) (g : Nat → Bool) :
    (a : Int) ∣ bsumZ g 0 pa.roots * bsumZ g 0 pa.roots - n ∧
    (n % 4 = 1 → a % 2 = 1 → bsumZ g 0 pa.roots % 2 = 1 ∧
      (4 * (a : Int)) ∣ bsumZ g 0 pa.roots * bsumZ g 0 pa.roots - n) := by
  obtain ⟨prs, hprs, _, _, _, hfac, hroots, _, _⟩ := prepareA_some hpa
  obtain ⟨hl, _⟩ := rootPairs_le (f := f) (a := a) (afs := afsOf f a) _ _ _ hprs
  have hprs_ne : prs ≠ [] := by
    rintro rfl
    rw [hfac, List.length_eq_zero_iff.mp hl.symm] at hne
    simp at hne
  obtain ⟨h1, h2⟩ := crt_B_sq hs hf ha hprs g
  rw [hroots, bsumZ_cast]
  refine ⟨h1, fun h4 hodd => ?_⟩
  obtain ⟨h3, h5⟩ := h2 h4 hodd hprs_ne
  exact ⟨by omega, h5⟩

open Ymq.PolySizes

theorem bsumZ_roots_le {f : Factors} {a : Nat} {fb : List Prime} {so : Int} {pa : APrep}
    (hpa : prepareA f a fb so = some pa) (g : Nat → Bool) :
    0 ≤ bsumZ g 0 pa.roots ∧ bsumZ g 0 pa.roots ≤ 2 * (pa.factors.length : Int) * a := by
  obtain ⟨_, _, fam, hpaa, _, _⟩ := prepareA_fam hpa
  rw [← fam.nf, ← hpaa]
  exact bsumZ_le g pa.a pa.roots 0 fam.bd

theorem poly_exact_dom {n : Int} {f : Factors} {a mm idx : Nat} {fb : List Prime} {pa : APrep} {pol : Poly}
    (hpa : prepareA f a fb (-((mm : Int) / 2)) = some pa) (hne : pa.factors.isEmpty = false)
    (hpol : polyAt (mkSieve n mm) pa idx = some pol) (d : SizeDom n mm a pa.factors.length) :
    Exact pol a ∧ -(2 ^ 254 : Int) < pol.c ∧ pol.c < 2 ^ 254 := by
  obtain ⟨_, _, _, hpaa, _, _⟩ := prepareA_fam hpa
  have hat := polyAt_at hne idx pol hpol
  have hF := hat.fin
  obtain ⟨_, hble⟩ := bsumZ_roots_le hpa (grayBits idx)
  rw [← hat.b] at hble
  have hq : polyM (isType2 n) a * finishC pa pol = pol.b * pol.b - n := by
    have := hF.quot
    rwa [hat.type2, hat.n, hpaa] at this
  have hC := dom_C_lt d pol.b hF.pos hble ⟨_, hq.symm⟩
  rw [← hq, Int.mul_ediv_cancel_left _ (hpaa ▸ polyM_ne_zero hF.a0)] at hC
  -- `|C| < 2^254`, so the cast to `I256` keeps it
  have hc : pol.c = finishC pa pol := by
    rw [hF.c]
    refine wrap256_eq ?_
    unfold P255
    have e : (2 : Int) ^ 254 < 57896044618658097711785492504343953926634992332820282019728792003956564819968 := by
      norm_num
    omega
  exact ⟨⟨hpaa ▸ hat.a, by rw [hc, ← hpaa]; exact hF.quot⟩, hc ▸ hC⟩

end Ymq.PolyWalkB
