/-
Binary quadratic forms for property C18: values, substitutions, proper equivalence (explicit
SL2(Z) matrices), Dirichlet composition of concordant forms with the bilinear Gauss identity,
iterated composition (`IsProduct`, `dirichlet_chain`), and the identification of the forms
`(p, y, ·)` met along a sieved relation with the prime forms `[p]^{±1}` according to the tests of
`classgroup::sieve_block_poly` (`modSigned`, `bit1`).
-/
import Ymq.Lemmas.ClassGroupSign
import Mathlib.Tactic.LinearCombination

namespace Ymq.ClassGroup

def Form.eval (f : Form) (x y : Int) : Int := f.a * x * x + f.b * x * y + f.c * y * y

/-- the substitution `g(X, Y) = f(pX + qY, rX + sY)` -/
def Form.act (f : Form) (p q r s : Int) : Form :=
  ⟨f.a * p * p + f.b * p * r + f.c * r * r,
   2 * f.a * p * q + f.b * (p * s + q * r) + 2 * f.c * r * s,
   f.a * q * q + f.b * q * s + f.c * s * s⟩

namespace Form

theorem act_eval (f : Form) (p q r s X Y : Int) :
    (f.act p q r s).eval X Y = f.eval (p * X + q * Y) (r * X + s * Y) := by
  simp only [Form.eval, Form.act]; ring

theorem act_disc (f : Form) (p q r s : Int) :
    (f.act p q r s).disc = (p * s - q * r) ^ 2 * f.disc := by
  simp only [Form.disc, Form.act]; ring

theorem act_act (f : Form) (p q r s p' q' r' s' : Int) :
    (f.act p q r s).act p' q' r' s'
      = f.act (p * p' + q * r') (p * q' + q * s') (r * p' + s * r') (r * q' + s * s') := by
  simp only [Form.act, Form.mk.injEq]
  refine ⟨by ring, by ring, by ring⟩

theorem act_one (f : Form) : f.act 1 0 0 1 = f := by
  obtain ⟨a, b, c⟩ := f
  simp only [Form.act, Form.mk.injEq]
  refine ⟨by ring, by ring, by ring⟩

end Form

/-- proper equivalence: `g = f ∘ M` for some `M ∈ SL2(Z)` -/
def PEquiv (f g : Form) : Prop := ∃ p q r s : Int, p * s - q * r = 1 ∧ g = f.act p q r s

namespace PEquiv

theorem refl (f : Form) : PEquiv f f := ⟨1, 0, 0, 1, by ring, (Form.act_one f).symm⟩

theorem trans {f g h : Form} (h1 : PEquiv f g) (h2 : PEquiv g h) : PEquiv f h := by
  obtain ⟨p, q, r, s, hd, rfl⟩ := h1
  obtain ⟨p', q', r', s', hd', rfl⟩ := h2
  refine ⟨_, _, _, _, ?_, Form.act_act f p q r s p' q' r' s'⟩
  linear_combination (p' * s' - q' * r') * hd + hd'

theorem symm {f g : Form} (h1 : PEquiv f g) : PEquiv g f := by
  obtain ⟨p, q, r, s, hd, rfl⟩ := h1
  refine ⟨s, -q, -r, p, by linear_combination hd, ?_⟩
  rw [Form.act_act]
  have e1 : p * s + q * -r = 1 := by linear_combination hd
  have e2 : p * -q + q * p = 0 := by ring
  have e3 : r * s + s * -r = 0 := by ring
  have e4 : r * -q + s * p = 1 := by linear_combination hd
  rw [e1, e2, e3, e4, Form.act_one]

theorem disc_eq {f g : Form} (h : PEquiv f g) : g.disc = f.disc := by
  obtain ⟨p, q, r, s, hd, rfl⟩ := h
  rw [Form.act_disc, hd]; ring

end PEquiv

theorem PEquiv.represents {f g : Form} (h : PEquiv f g) (X Y : Int) :
    ∃ x y, f.eval x y = g.eval X Y := by
  obtain ⟨p, q, r, s, _, rfl⟩ := h
  exact ⟨_, _, (Form.act_eval f p q r s X Y).symm⟩

theorem pequiv_translate (a b c k : Int) : PEquiv ⟨a, b, c⟩ ⟨a, b + 2 * a * k, a * k * k + b * k + c⟩ := by
  refine ⟨1, k, 0, 1, by ring, ?_⟩
  simp only [Form.act, Form.mk.injEq]
  refine ⟨by ring, by ring, by ring⟩

theorem pequiv_swap (a b c : Int) : PEquiv ⟨a, b, c⟩ ⟨c, -b, a⟩ := by
  refine ⟨0, -1, 1, 0, by ring, ?_⟩
  simp only [Form.act, Form.mk.injEq]
  refine ⟨by ring, by ring, by ring⟩

theorem form_ext_disc {f g : Form} (ha : f.a = g.a) (hb : f.b = g.b) (h0 : f.a ≠ 0)
    (hd : f.disc = g.disc) : f = g := by
  obtain ⟨a, b, c⟩ := f
  obtain ⟨a', b', c'⟩ := g
  simp only [Form.disc] at *
  subst ha; subst hb
  have : 4 * a * (c - c') = 0 := by linear_combination -hd
  have hc : c - c' = 0 := by
    rcases mul_eq_zero.1 this with h | h
    · exfalso; omega
    · exact h
  simp only [Form.mk.injEq, true_and]
  omega

theorem pequiv_of_congr {f g : Form} (ha : f.a = g.a) (h0 : f.a ≠ 0) (hd : f.disc = g.disc)
    (hb : (2 * f.a) ∣ g.b - f.b) : PEquiv f g := by
  obtain ⟨k, hk⟩ := hb
  have h1 := pequiv_translate f.a f.b f.c k
  have : (⟨f.a, f.b + 2 * f.a * k, f.a * k * k + f.b * k + f.c⟩ : Form) = g := by
    apply form_ext_disc
    · exact ha
    · simp only; linear_combination -hk
    · exact h0
    · rw [← hd, ← (PEquiv.disc_eq h1)]
  rw [this] at h1
  exact h1


theorem gcd3_dvd (a b c : Int) :
    ((gcd3 a b c : Nat) : Int) ∣ a ∧ ((gcd3 a b c : Nat) : Int) ∣ b ∧ ((gcd3 a b c : Nat) : Int) ∣ c :=
  ⟨Int.natCast_dvd.2 (dvd_trans (Nat.gcd_dvd_left _ _) (Nat.gcd_dvd_left _ _)),
    Int.natCast_dvd.2 (dvd_trans (Nat.gcd_dvd_left _ _) (Nat.gcd_dvd_right _ _)),
    Int.natCast_dvd.2 (Nat.gcd_dvd_right _ _)⟩

/-- `h` is the Dirichlet composition of the concordant forms `f = (a₁, b, a₂c)` and
`g = (a₂, b, a₁c)`: `h = (a₁a₂, b, c)`, with `gcd(a₁, a₂, b) = 1` (the condition under which the
bilinear substitution of `dirComp_gauss` is a composition in the sense of Gauss, art. 235). -/
def DirComp (f g h : Form) : Prop :=
  ∃ a1 a2 b c : Int, f = ⟨a1, b, a2 * c⟩ ∧ g = ⟨a2, b, a1 * c⟩ ∧ h = ⟨a1 * a2, b, c⟩ ∧ gcd3 a1 a2 b = 1

theorem dirComp_gauss {f g h : Form} (hc : DirComp f g h) :
    ∃ a1 a2 b c : Int, f = ⟨a1, b, a2 * c⟩ ∧ g = ⟨a2, b, a1 * c⟩ ∧ ∀ x1 y1 x2 y2 : Int,
      f.eval x1 y1 * g.eval x2 y2
        = h.eval (x1 * x2 - c * y1 * y2) (a1 * x1 * y2 + a2 * y1 * x2 + b * y1 * y2) := by
  obtain ⟨a1, a2, b, c, rfl, rfl, rfl, _⟩ := hc
  refine ⟨a1, a2, b, c, rfl, rfl, ?_⟩
  intro x1 y1 x2 y2
  simp only [Form.eval]; ring

theorem DirComp.disc {f g h : Form} (hc : DirComp f g h) : f.disc = h.disc ∧ g.disc = h.disc := by
  obtain ⟨a1, a2, b, c, rfl, rfl, rfl, _⟩ := hc
  simp only [Form.disc]
  constructor <;> ring

/-- composition of classes: `h` is (equivalent to) the Dirichlet composition of forms equivalent to `f`, `g` -/
def Comp (f g h : Form) : Prop :=
  ∃ f' g' h', PEquiv f f' ∧ PEquiv g g' ∧ PEquiv h' h ∧ DirComp f' g' h'

theorem Comp.disc {f g h : Form} (hc : Comp f g h) : f.disc = h.disc ∧ g.disc = h.disc := by
  obtain ⟨f', g', h', h1, h2, h3, h4⟩ := hc
  have := h4.disc
  rw [← h1.disc_eq, ← h2.disc_eq, h3.disc_eq]
  exact this

/-- `IsProduct D l g`: the class of `g` is the product of the classes of the forms of `l`
(iterated composition starting from the principal form) -/
inductive IsProduct (D : Int) : List Form → Form → Prop
  | nil : IsProduct D [] (principal D)
  | cons {f g h : Form} {l : List Form} : IsProduct D l g → Comp f g h → IsProduct D (f :: l) h
  | equiv {g h : Form} {l : List Form} : IsProduct D l g → PEquiv g h → IsProduct D l h

theorem principal_disc {D : Int} (hD : D % 4 = 0 ∨ D % 4 = 1) : (principal D).disc = D := by
  have h4 : (4 : Int) ∣ D % 2 * (D % 2) - D := by
    rcases hD with h | h
    · rw [show D % 2 = 0 by omega]; omega
    · rw [show D % 2 = 1 by omega]; omega
  have := Int.mul_ediv_cancel' h4
  simp only [principal, Form.disc]
  linear_combination -this

namespace IsProduct

theorem congr {D : Int} {l : List Form} {g : Form} (h : IsProduct D l g) :
    ∀ l', List.Forall₂ PEquiv l l' → IsProduct D l' g := by
  induction h with
  | nil => intro l' h; cases h; exact .nil
  | cons _ hc ih =>
    intro l' h
    cases h with
    | cons hab hrest =>
      obtain ⟨f', g', h', h1, h2, h3, h4⟩ := hc
      exact .cons (ih _ hrest) ⟨f', g', h', hab.symm.trans h1, h2, h3, h4⟩
  | equiv _ he ih => intro l' h; exact .equiv (ih _ h) he

end IsProduct

/-- `y² ≡ D (mod 4)` forces `y ≡ D (mod 2)`, since `y² - y` is even -/
theorem parity_of_sq {y D : Int} (h : (4 : Int) ∣ y * y - D) : (2 : Int) ∣ y - D := by
  obtain ⟨m, hm⟩ := h
  obtain ⟨t, ht⟩ := Int.even_mul_pred_self y
  exact ⟨2 * m - t, by linear_combination hm - ht⟩

theorem sq_emod_four (k : Int) : k * k % 4 = 0 ∨ k * k % 4 = 1 := by
  rw [Int.mul_emod]
  have h0 := Int.emod_nonneg k (by norm_num : (4 : Int) ≠ 0)
  have h4 := Int.emod_lt_of_pos k (by norm_num : (0 : Int) < 4)
  generalize k % 4 = r at h0 h4 ⊢
  interval_cases r <;> decide

theorem disc_emod_16 {D y n : Int} (hid : y * y - 4 * n = D) (hy : (2 : Int) ∣ y)
    (hn : (2 : Int) * 2 ∣ n) : D % 16 = 0 ∨ D % 16 = 4 := by
  obtain ⟨k, rfl⟩ := hy
  obtain ⟨m, rfl⟩ := hn
  have e : D = 4 * (k * k) - 16 * m := by rw [← hid]; ring
  have := sq_emod_four k
  omega

theorem sq_dvd_disc {n y D : Int} (hid : y * y - 4 * n = D) {p : Nat} (hpy : (p : Int) ∣ y)
    (hsq : (p : Int) * p ∣ n) : (p : Int) * p ∣ D := by
  obtain ⟨k, hk⟩ := hpy
  obtain ⟨m, hm⟩ := hsq
  exact ⟨k * k - 4 * m, by rw [← hid, hk]; linear_combination -4 * hm⟩

theorem pequiv_principal {D b c : Int} (hD : D % 4 = 0 ∨ D % 4 = 1) (hd : b * b - 4 * c = D) :
    PEquiv (principal D) ⟨1, b, c⟩ := by
  refine pequiv_of_congr rfl one_ne_zero ?_ ?_
  · rw [principal_disc hD]; simp only [Form.disc]; linear_combination -hd
  · have := parity_of_sq (y := b) (D := D) ⟨c, by linear_combination hd⟩
    simp only [principal]
    omega

/-- the form with first coefficient `q` and middle coefficient `b` of discriminant `D` -/
def formQB (D q b : Int) : Form := ⟨q, b, (b * b - D) / (4 * q)⟩

/-- coprimality along the chain: `gcd(q, ∏ rest, b) = 1` at every step -/
def ChainCoprime (b : Int) : List Int → Prop
  | [] => True
  | q :: qs => gcd3 q qs.prod b = 1 ∧ ChainCoprime b qs

theorem dirichlet_chain {D b : Int} (hD : D % 4 = 0 ∨ D % 4 = 1) : ∀ (qs : List Int) (c : Int),
    (∀ q ∈ qs, q ≠ 0) → ChainCoprime b qs → b * b - 4 * qs.prod * c = D →
    IsProduct D (qs.map fun q => formQB D q b) ⟨qs.prod, b, c⟩
  | [], c, _, _, hd => by
    simp only [List.map_nil, List.prod_nil] at hd ⊢
    exact .equiv .nil (pequiv_principal hD (by linarith))
  | q :: qs, c, h0, hcop, hd => by
    have hq : q ≠ 0 := h0 q List.mem_cons_self
    simp only [List.prod_cons] at hd
    have ih := dirichlet_chain hD qs (q * c) (fun x hx => h0 x (List.mem_cons_of_mem _ hx)) hcop.2
      (by linear_combination hd)
    simp only [List.map_cons, List.prod_cons]
    refine .cons ih ⟨_, _, _, PEquiv.refl _, PEquiv.refl _, PEquiv.refl _, q, qs.prod, b, c, ?_, rfl, rfl, hcop.1⟩
    unfold formQB
    simp only [Form.mk.injEq, true_and]
    have : b * b - D = 4 * q * (qs.prod * c) := by linear_combination hd
    rw [this, Int.mul_ediv_cancel_left _ (by omega : 4 * q ≠ 0)]


theorem formQB_disc {D q b : Int} (_hq : q ≠ 0) (h : (4 * q) ∣ b * b - D) : (formQB D q b).disc = D := by
  unfold formQB Form.disc
  simp only
  have := Int.mul_ediv_cancel' h
  linear_combination -this

theorem primeForm_eq (D : Int) (p b : Nat) : primeForm D p b = formQB D p b := rfl

theorem primeForm_conj_eq (D : Int) (p b : Nat) : (primeForm D p b).conj = formQB D p (-(b : Int)) := by
  unfold primeForm Form.conj formQB
  simp

theorem two_mul_dvd {p : Nat} {x : Int} (hodd : p % 2 = 1) (h2 : (2 : Int) ∣ x) (hp : (p : Int) ∣ x) :
    (2 * (p : Int)) ∣ x := by
  obtain ⟨a, ha⟩ := h2
  obtain ⟨b, hb⟩ := hp
  obtain ⟨k, hk⟩ : ∃ k : Int, (p : Int) = 2 * k + 1 := ⟨(p / 2 : Nat), by omega⟩
  exact ⟨a - k * b, by linear_combination (p : Int) * ha - 2 * k * hb - x * hk⟩

theorem pequiv_formQB {D q y b : Int} (hq : q ≠ 0) (hy : (4 * q) ∣ y * y - D)
    (hb : (4 * q) ∣ b * b - D) (h : (2 * q) ∣ b - y) : PEquiv (formQB D q y) (formQB D q b) :=
  pequiv_of_congr rfl hq (by rw [formQB_disc hq hy, formQB_disc hq hb]) h

/-- Odd prime `p` with normalised root `ρ`, `4p ∣ y² - D` (that is `p` divides the norm `(y² - D)/4`):
the form `(p, y, ·)` is the prime form `[p] = (p, ρ, ·)` when `y mod p = ρ` — the test of
`sieve_block_poly` — and its conjugate otherwise. Ramified primes (`p ∣ D`) included. -/
theorem primeForm_of_modSigned {D : Int} {p ρ : Nat} {y : Int} (hp : p.Prime) (hodd : p % 2 = 1)
    (hρ : IsBPlus D p ρ) (hy : (4 * (p : Int)) ∣ y * y - D) :
    (modSigned y p = ρ → PEquiv (formQB D p y) (primeForm D p ρ)) ∧
    (modSigned y p ≠ ρ → PEquiv (formQB D p y) (primeForm D p ρ).conj) := by
  have hp0 : (p : Int) ≠ 0 := by have := hp.pos; omega
  have hyp : (p : Int) ∣ y * y - D := Dvd.dvd.trans (Dvd.intro_left 4 rfl) hy
  obtain ⟨v, hv⟩ := parity_of_sq (Dvd.dvd.trans (Dvd.intro _ rfl) hy)
  obtain ⟨w, hw⟩ := modSigned_dvd y hp.pos
  have hcases := modSigned_cases hp hρ hyp
  obtain ⟨hle, ⟨u, hu⟩, hρ4⟩ := hρ
  constructor
  · intro hm
    rw [hm] at hw
    rw [primeForm_eq]
    exact pequiv_formQB hp0 hy hρ4
      (two_mul_dvd hodd ⟨u - v, by linear_combination hu - hv⟩ ⟨-w, by linear_combination -hw⟩)
  · intro hm
    rw [hcases.resolve_left hm, Nat.cast_sub hle] at hw
    rw [primeForm_conj_eq]
    exact pequiv_formQB hp0 hy (by rwa [neg_mul_neg])
      (two_mul_dvd hodd ⟨-u - v - D, by linear_combination -hu - hv⟩ ⟨-1 - w, by linear_combination -hw⟩)

/-- the residues behind the rule for `p = 2`: `ρ ∈ {0, 1, 2}`, `r = y mod 4`, `r² ≡ ρ² (mod 8)` -/
theorem bit1_residues {ρ : Nat} {r t : Int} (hρ : ρ ≤ 2) (h0 : 0 ≤ r) (h4 : r < 4)
    (key : r * r - (ρ : Int) * ρ = 8 * t) :
    (r < 2 → (4 : Int) ∣ (ρ : Int) - r) ∧ (2 ≤ r → (4 : Int) ∣ -(ρ : Int) - r) := by
  interval_cases ρ <;> interval_cases r <;> omega

/-- `p = 2` with normalised root `ρ ∈ {0, 1, 2}`, `8 ∣ y² - D`: the form `(2, y, ·)` is `[2] = (2, ρ, ·)`
when bit 1 of `y` is clear (`y mod 4 ∈ {0, 1}`), its conjugate when it is set — the rule of
`sieve_block_poly`. (`ρ = 0, 2`: `2 ∣ D`, the class has order ≤ 2 and both statements hold.) -/
theorem primeForm_of_bit1 {D : Int} {ρ : Nat} {y : Int} (hρ : IsBPlus D 2 ρ)
    (hy : (4 * ((2 : Nat) : Int)) ∣ y * y - D) :
    (bit1 y = false → PEquiv (formQB D (2 : Nat) y) (primeForm D 2 ρ)) ∧
    (bit1 y = true → PEquiv (formQB D (2 : Nat) y) (primeForm D 2 ρ).conj) := by
  obtain ⟨hle, -, hρ4⟩ := hρ
  have h20 : ((2 : Nat) : Int) ≠ 0 := by norm_num
  obtain ⟨k, r, hk, hr0, hr4⟩ : ∃ k r : Int, y = 4 * k + r ∧ 0 ≤ r ∧ r < 4 :=
    ⟨y / 4, y % 4, by omega, by omega, by omega⟩
  obtain ⟨m, hm⟩ := hy
  obtain ⟨n, hn⟩ := hρ4
  obtain ⟨h1, h2⟩ := bit1_residues (t := m - n - 2 * k * k - k * r) hle hr0 hr4 (by
    push_cast at hm hn
    subst hk
    linear_combination hm - hn)
  have hb : bit1 y = decide (r ≥ 2) := by
    unfold bit1
    have : y % 4 = r := by omega
    rw [this]
  rw [hb]
  constructor
  · intro h
    obtain ⟨w, hw⟩ := h1 (by simpa using h)
    rw [primeForm_eq]
    exact pequiv_formQB h20 ⟨m, hm⟩ ⟨n, hn⟩ ⟨w - k, by push_cast; linear_combination hw - hk⟩
  · intro h
    obtain ⟨w, hw⟩ := h2 (by simpa using h)
    rw [primeForm_conj_eq]
    exact pequiv_formQB h20 ⟨m, hm⟩ ⟨n, by linear_combination hn⟩
      ⟨w - k, by push_cast; linear_combination hw - hk⟩

theorem exists_isBPlus {D : Int} {p : Nat} {y : Int} (hp : 0 < p) (hy : (4 * (p : Int)) ∣ y * y - D) :
    ∃ b, IsBPlus D p b := by
  have hp' : (0 : Int) < p := by exact_mod_cast hp
  obtain ⟨k, b0, hk, h0, h1⟩ : ∃ k b0 : Int, y = 2 * p * k + b0 ∧ 0 ≤ b0 ∧ b0 < 2 * p :=
    ⟨y / (2 * p), y % (2 * p), (Int.mul_ediv_add_emod y (2 * p)).symm,
      Int.emod_nonneg _ (by omega), Int.emod_lt_of_pos _ (by omega)⟩
  obtain ⟨m, hm⟩ := hy
  have hb0 : (4 * (p : Int)) ∣ b0 * b0 - D :=
    ⟨m - p * k * k - k * b0, by subst hk; linear_combination hm⟩
  have hpar : (2 : Int) ∣ b0 - D := parity_of_sq (Dvd.dvd.trans (Dvd.intro _ rfl) hb0)
  by_cases hle : b0 ≤ p
  · refine ⟨b0.toNat, by omega, ?_, ?_⟩
    · rw [Int.toNat_of_nonneg h0]; exact hpar
    · rw [Int.toNat_of_nonneg h0]; exact hb0
  · have hc : (((2 * p - b0).toNat : Nat) : Int) = 2 * p - b0 := Int.toNat_of_nonneg (by omega)
    refine ⟨(2 * p - b0).toNat, by omega, ?_, ?_⟩
    · rw [hc]
      obtain ⟨u, hu⟩ := hpar
      exact ⟨p - b0 + u, by linear_combination hu⟩
    · rw [hc]
      obtain ⟨u, hu⟩ := hb0
      exact ⟨p - b0 + u, by linear_combination hu⟩

end Ymq.ClassGroup
