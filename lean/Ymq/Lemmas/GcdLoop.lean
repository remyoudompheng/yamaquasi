/- Main loop of `gcd_internal`: loop invariant and partial correctness. -/
import Ymq.Lemmas.GcdStep

namespace Ymq.Gcd

/-- loop invariant: `(x, y)` generate the same ideal as `(n, p)`, and (extended variant) the
cofactor rows express `x` and `y` — a row whose value is `0` may be arbitrary: it is only produced
when the quotient does not fit `BInt<N>` and is never used. -/
structure GInv (ext : Bool) (n p : Nat) (s : St) : Prop where
  g : Nat.gcd s.x s.y = Nat.gcd n p
  xrel : ext = true → s.x = 0 ∨ (s.x : Int) = s.A * n + s.B * p
  yrel : ext = true → s.y = 0 ∨ (s.y : Int) = s.C * n + s.D * p

theorem GInv_init (ext : Bool) (n p : Nat) : GInv ext n p (initSt n p) :=
  ⟨rfl, fun _ => Or.inr (by simp [initSt]), fun _ => Or.inr (by simp [initSt])⟩

theorem GInv_swap {ext : Bool} {n p : Nat} {s : St} (h : GInv ext n p s) : GInv ext n p (swapSt s) := by
  unfold swapSt
  split
  · exact ⟨by rw [Nat.gcd_comm]; exact h.g, h.yrel, h.xrel⟩
  · exact h

/-- a step `(x', y') = (e1 (a x + b y), e2 (c x + d y))` with a unimodular matrix and signs `e1`, `e2`, the
cofactor rows transformed alike: the gcd and the linear relations are kept -/
theorem GInv_of_matrix {ext : Bool} {n p : Nat} {s s' : St} {a b c d e1 e2 : Int} (hinv : GInv ext n p s)
    (hx0 : s.x ≠ 0) (hy0 : s.y ≠ 0) (hdet : Unimod a b c d) (he1 : e1 = 1 ∨ e1 = -1) (he2 : e2 = 1 ∨ e2 = -1)
    (fx : a * s.x + b * s.y = e1 * s'.x) (fy : c * s.x + d * s.y = e2 * s'.y)
    (hrow : ext = true → s'.A = e1 * (a * s.A + b * s.C) ∧ s'.B = e1 * (a * s.B + b * s.D) ∧
      s'.C = e2 * (c * s.A + d * s.C) ∧ s'.D = e2 * (c * s.B + d * s.D)) : GInv ext n p s' := by
  have ex : (s'.x : Int) = e1 * (a * s.x + b * s.y) := by rw [fx, ← mul_assoc, sign_mul_self he1, one_mul]
  have ey : (s'.y : Int) = e2 * (c * s.x + d * s.y) := by rw [fy, ← mul_assoc, sign_mul_self he2, one_mul]
  refine ⟨?_, fun he => Or.inr ?_, fun he => Or.inr ?_⟩
  · rw [← hinv.g]
    refine nat_gcd_unimodular' a b c d s.x s.y _ _ hdet ?_ ?_
    · rcases he1 with h | h <;> rw [h] at ex <;> [left; right] <;> rw [ex] <;> ring
    · rcases he2 with h | h <;> rw [h] at ey <;> [left; right] <;> rw [ey] <;> ring
  · obtain ⟨rA, rB, _, _⟩ := hrow he
    rw [ex, rA, rB, (hinv.xrel he).resolve_left hx0, (hinv.yrel he).resolve_left hy0]; ring
  · obtain ⟨_, _, rC, rD⟩ := hrow he
    rw [ey, rC, rD, (hinv.xrel he).resolve_left hx0, (hinv.yrel he).resolve_left hy0]; ring

/-- a quotient step keeps the invariant: it applies the matrix `(0 1; -1 k)` with the sign `e` on the second
row. When the quotient does not fit `BInt<N>` (`cast_from` wraps) the divisor is 1, the new `y` is 0 and its
row is never used -/
theorem fallbackStep_GInv {N K : Nat} {ext : Bool} {n p : Nat} {s s' : St} (hN : 0 < N)
    (hinv : GInv ext n p s) (hx0 : s.x ≠ 0) (hy0 : s.y ≠ 0) (hyx : s.y ≤ s.x) (hxM : s.x < M N)
    (h : fallbackStep N K ext s = some s') : GInv ext n p s' := by
  have hg : Nat.gcd s.y (s.x % s.y) = Nat.gcd n p := by
    rw [Nat.gcd_comm, ← Nat.gcd_rec, Nat.gcd_comm]; exact hinv.g
  cases ext
  · simp [fallbackStep] at h; subst h
    exact ⟨hg, fun he => by simp at he, fun he => by simp at he⟩
  · have hypos := Nat.pos_of_ne_zero hy0
    by_cases hc : s.x / s.y < M N / 2
    · obtain ⟨e, k, y', nq, eq⟩ := fallbackStep_nq (K := K) hypos hyx hxM hc
      rw [eq] at h
      have hs' := fallbackStep_nq_some nq.sign h
      subst hs'
      obtain ⟨_, hval, _⟩ := nq.facts hyx
      exact GInv_of_matrix (a := 0) (b := 1) (c := -1) (d := k) (e1 := 1) (e2 := e) hinv hx0 hy0
        (Or.inl (by ring)) (Or.inl rfl) nq.sign (by simp) (by simp only; linear_combination hval)
        fun _ => ⟨by simp, by simp, by simp only; ring, by simp only; ring⟩
    · have hy1 : s.y = 1 := by
        by_contra hne
        have h2 : s.x / s.y * 2 ≤ s.x / s.y * s.y := Nat.mul_le_mul_left _ (by omega)
        have := Nat.div_mul_le_self s.x s.y
        have hev : M N % 2 = 0 := by
          unfold M; rw [show 64 * N = (64 * N - 1) + 1 by omega, Nat.pow_succ]; omega
        omega
      rw [fallbackStep_ext_eq hypos hxM, hy1, Nat.mod_one] at h
      simp only [Nat.zero_mul, Nat.zero_mod, gt_iff_lt, Nat.not_lt_zero, if_false] at h
      split at h
      · simp at h; subst h
        exact ⟨by simpa [hy1] using hg, fun he => Or.inr (by simpa [hy1] using (hinv.yrel he).resolve_left hy0),
          fun _ => Or.inl rfl⟩
      · simp at h

theorem gcdStep_ret {N K : Nat} {ext : Bool} {n p : Nat} {s0 : St} {d : Nat} {u v : Int}
    (h : gcdStep N K ext s0 = some (.ret d u v)) (hinv : GInv ext n p s0) :
    d = Nat.gcd n p ∧ (ext = true → u * n + v * p = d) := by
  have hs := GInv_swap hinv
  generalize hsw : swapSt s0 = s at hs
  obtain ⟨hyx, ⟨hx0, e⟩ | ⟨hx0, hy0, e⟩ | ⟨hx0, hy0, hxs, e⟩ | ⟨_, _, ⟨_, e⟩ | ⟨_, e | ⟨_, _, _, _, _, e⟩⟩⟩⟩ :=
    gcdStep_cases (N := N) (ext := ext) hsw
  · rw [e K] at h; simp at h; obtain ⟨rfl, rfl, rfl⟩ := h
    have hg := hs.g; rw [hx0, Nat.gcd_zero_left] at hg
    refine ⟨hg, fun he => ?_⟩
    rcases hs.yrel he with h0 | hr
    · rw [h0] at hg
      have hn : n = 0 := Nat.eq_zero_of_gcd_eq_zero_left hg.symm
      have hp : p = 0 := Nat.eq_zero_of_gcd_eq_zero_right hg.symm
      simp [hn, hp, h0]
    · rw [hr]
  · rw [e K] at h; simp at h; obtain ⟨rfl, rfl, rfl⟩ := h
    have hg := hs.g; rw [hy0, Nat.gcd_zero_right] at hg
    exact ⟨hg, fun he => by rw [(hs.xrel he).resolve_left hx0]⟩
  · rw [e K] at h
    cases ext
    · rw [smallExit_noext] at h
      simp at h; obtain ⟨rfl, rfl, rfl⟩ := h
      rw [Nat.mod_eq_of_lt (by unfold W; omega : s.x < W), Nat.mod_eq_of_lt (by unfold W; omega : s.y < W)]
      exact ⟨hs.g, fun he => by simp at he⟩
    · obtain ⟨g, ex, ey, he, hg1, hg2, _⟩ := egcdI64_total hxs (Nat.pos_of_ne_zero hy0) hyx
      obtain ⟨rfl, rfl, rfl⟩ := smallExit_ext_ret he h
      have hle : Nat.gcd s.x s.y ≤ s.x := Nat.gcd_le_left _ (Nat.pos_of_ne_zero hx0)
      have hd : (g % (W : Int)).toNat = Nat.gcd s.x s.y := by
        have hW : (W : Int) = 18446744073709551616 := by simp [W]
        rw [hW, Int.emod_eq_of_lt (by omega) (by omega), hg2]; simp
      refine ⟨by rw [hd, hs.g], fun he' => ?_⟩
      rw [hd, ← hg2, hg1, (hs.xrel he').resolve_left hx0, (hs.yrel he').resolve_left hy0]; ring
  · rw [e K] at h; simp at h
  · rw [e K] at h; simp at h
  · rw [e K] at h; simp at h

theorem gcdStep_next {N K : Nat} {ext : Bool} {n p : Nat} {s0 s' : St} (hN : 0 < N)
    (h : gcdStep N K ext s0 = some (.next s')) (hinv : GInv ext n p s0) : GInv ext n p s' := by
  have hs := GInv_swap hinv
  generalize hsw : swapSt s0 = s at hs
  obtain ⟨hyx, ⟨hx0, e⟩ | ⟨hx0, hy0, e⟩ | ⟨hx0, hy0, hxs, e⟩ |
      ⟨hx0, hy0, ⟨_, e⟩ | ⟨hxM, e | ⟨xt, yt, xl, yl, T, e⟩⟩⟩⟩ :=
    gcdStep_cases (N := N) (ext := ext) hsw
  · rw [e K] at h; simp at h
  · rw [e K] at h; simp at h
  · rw [e K] at h; exact absurd h smallExit_ne_next
  · rw [e K] at h; simp at h
  all_goals
    rw [e K] at h
    simp only [Option.map_eq_some_iff, Step.next.injEq] at h
    obtain ⟨s'', hst, rfl⟩ := h
  · exact fallbackStep_GInv hN hs hx0 hy0 hyx hxM hst
  · obtain ⟨a, b, c, d, u, v, r1, r2, n1, n2, hr, R, h1, h2, f1, f2, _, _⟩ := lehmer_xy T
    obtain ⟨rfl, rfl, hrow⟩ := lehmerStep_some hr h1 h2 hst
    exact GInv_of_matrix hs hx0 hy0 R.det (flipSign_cases _) (flipSign_cases _) f1 f2 hrow

theorem gcdLoop_succ_some {N K : Nat} {ext : Bool} {f : Nat} {s : St} {d : Nat} {u v : Int}
    (h : gcdLoop N K ext (f + 1) s = some (d, u, v)) :
    gcdStep N K ext s = some (.ret d u v) ∨
      ∃ s', gcdStep N K ext s = some (.next s') ∧ gcdLoop N K ext f s' = some (d, u, v) := by
  unfold gcdLoop at h
  split at h
  · simp at h
  · rename_i hst; simp at h; obtain ⟨rfl, rfl, rfl⟩ := h; exact Or.inl hst
  · rename_i s' hst; exact Or.inr ⟨s', hst, h⟩

theorem gcdLoop_some {N K : Nat} {ext : Bool} {n p : Nat} (hN : 0 < N) :
    ∀ (f : Nat) (s : St) (d : Nat) (u v : Int), gcdLoop N K ext f s = some (d, u, v) →
    GInv ext n p s → d = Nat.gcd n p ∧ (ext = true → u * n + v * p = d) := by
  intro f
  induction f with
  | zero => intro s d u v h; simp [gcdLoop] at h
  | succ f ih =>
    intro s d u v h hinv
    rcases gcdLoop_succ_some h with hst | ⟨s', hst, h'⟩
    · exact gcdStep_ret hst hinv
    · exact ih s' d u v h' (gcdStep_next hN hst hinv)

end Ymq.Gcd
