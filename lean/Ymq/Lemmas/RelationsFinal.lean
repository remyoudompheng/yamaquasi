/-
`try_factor`, the chunked products of `relations::combine`, and the exponent accumulation of
`final_step` (C11).
-/
import Ymq.Lemmas.Relations
import Ymq.Lemmas.Bits

namespace Ymq.Relations

theorem bits_gt_one (p : Nat) : bits p > 1 ↔ 2 ≤ p := by
  have := Bits.bitlen_le_iff bitlen (fun _ => rfl) p 1
  unfold bits
  omega

theorem splitBy_spec {n g : Nat} (hdvd : g ∣ n) (h1 : 1 < g) (hlt : g < n) :
    splitBy n g = .ok (some (g, n / g)) ∧ g * (n / g) = n ∧ 1 < n / g := by
  have hmul : g * (n / g) = n := Nat.mul_div_cancel' hdvd
  have hq : 1 < n / g := by
    by_contra hle
    have : n / g ≤ 1 := by omega
    have : g * (n / g) ≤ g * 1 := Nat.mul_le_mul_left _ this
    omega
  refine ⟨?_, hmul, hq⟩
  unfold splitBy
  simp only
  rw [if_neg (by rw [hmul]; simp), if_neg (by rw [bits_gt_one, bits_gt_one]; simp; omega)]
  rfl

theorem gcd_proper {n m : Nat} (hm0 : m ≠ 0) (hm2 : m < 2 * n) (hmn : m ≠ n) (_hg : 1 < Nat.gcd n m) :
    Nat.gcd n m ∣ n ∧ Nat.gcd n m < n := by
  have hn : 0 < n := by omega
  refine ⟨Nat.gcd_dvd_left _ _, lt_of_le_of_ne (Nat.le_of_dvd hn (Nat.gcd_dvd_left _ _)) ?_⟩
  intro heq
  have : n ∣ m := by
    have := Nat.gcd_dvd_right n m
    rwa [heq] at this
  exact hmn (Nat.eq_of_dvd_of_lt_two_mul hm0 this hm2)

theorem tryFactor_proper' {n a b : Nat} (ha : a < n) (hb : b < n) :
    ∃ res, tryFactor n a b = .ok res ∧
      ∀ p q, res = some (p, q) → p * q = n ∧ 1 < p ∧ 1 < q := by
  unfold tryFactor
  split
  · rename_i hc
    obtain ⟨h1, h2, h3⟩ := hc
    obtain ⟨hd, hl⟩ := gcd_proper h2 (by omega) h1 h3
    obtain ⟨e, hmul, hq⟩ := splitBy_spec hd h3 hl
    refine ⟨_, e, ?_⟩
    intro p q hpq
    simp only [Option.some.injEq, Prod.mk.injEq] at hpq
    rw [← hpq.1, ← hpq.2]
    exact ⟨hmul, h3, hq⟩
  · split
    · rename_i hab
      rw [if_neg (by omega)]
      split
      · rename_i h3
        obtain ⟨hd, hl⟩ := gcd_proper (m := n + a - b) (by omega) (by omega) (by omega) h3
        obtain ⟨e, hmul, hq⟩ := splitBy_spec hd h3 hl
        refine ⟨_, e, ?_⟩
        intro p q hpq
        simp only [Option.some.injEq, Prod.mk.injEq] at hpq
        rw [← hpq.1, ← hpq.2]
        exact ⟨hmul, h3, hq⟩
      · exact ⟨none, rfl, by intro p q h; cases h⟩
    · exact ⟨none, rfl, by intro p q h; cases h⟩

theorem splitBy_some {n g p q : Nat} (h : splitBy n g = .ok (some (p, q))) :
    p * q = n ∧ 1 < p ∧ 1 < q := by
  unfold splitBy at h
  simp only at h
  split at h
  · exact (throw_ne_ok.mp h).elim
  · rename_i hmul
    split at h
    · exact (throw_ne_ok.mp h).elim
    · rename_i hb
      simp only [pure_eq_ok, Option.some.injEq, Prod.mk.injEq] at h
      rw [bits_gt_one, bits_gt_one] at hb
      rw [← h.1, ← h.2]
      exact ⟨not_not.mp hmul, by omega, by omega⟩

/-- whatever the operands, a returned pair has passed the two assertions of `splitBy` -/
theorem tryFactor_some {n a b p q : Nat} (h : tryFactor n a b = .ok (some (p, q))) :
    p * q = n ∧ 1 < p ∧ 1 < q := by
  unfold tryFactor at h
  split at h
  · exact splitBy_some h
  · split at h
    · split at h
      · exact (throw_ne_ok.mp h).elim
      · split at h
        · exact splitBy_some h
        · cases pure_eq_ok.mp h
    · cases pure_eq_ok.mp h

def xprod : List Nat → Nat
  | [] => 1
  | x :: t => x * xprod t

/-- `∏ (p as u64)^(k/2)` over the entries with `p ≠ -1` -/
def halfProd : List (Int × Nat) → Nat
  | [] => 1
  | (p, k) :: t => if p = -1 then halfProd t else toU64 p ^ (k / 2) * halfProd t

theorem fromInt_ok {n x y : Nat} (h : fromInt n x = .ok y) : y = x ∧ x < n := by
  unfold fromInt at h
  split at h
  · simp only [pure_eq_ok] at h; exact ⟨h.symm, by assumption⟩
  · simp [throw_ne_ok] at h

theorem prodXs_spec (n : Nat) : ∀ (xs : List Nat) (a0 a : Nat), prodXs n xs a0 = .ok a →
    a ≡ a0 * xprod xs [MOD n] ∧ (a0 < n → a < n) := by
  intro xs
  induction xs with
  | nil =>
    intro a0 a h
    simp only [prodXs, pure_eq_ok] at h
    subst h; simp [xprod, Nat.ModEq]
  | cons x t ih =>
    intro a0 a h
    simp only [prodXs, bind_eq_ok] at h
    obtain ⟨xm, hxm, h⟩ := h
    obtain ⟨rfl, hx⟩ := fromInt_ok hxm
    obtain ⟨h1, h2⟩ := ih _ _ h
    refine ⟨h1.trans ?_, fun _ => h2 (Nat.mod_lt _ (by omega))⟩
    have : a0 * xm % n * xprod t ≡ a0 * xm * xprod t [MOD n] :=
      Nat.ModEq.mul_right _ (Nat.mod_modEq _ _)
    refine this.trans ?_
    rw [show xprod (xm :: t) = xm * xprod t from rfl, mul_assoc]

theorem chunkLoop_spec (n maxchunk pu : Nat) : ∀ (i b chunk b' chunk' : Nat),
    chunkLoop n maxchunk pu i b chunk = .ok (b', chunk') →
    b' * chunk' ≡ b * chunk * pu ^ i [MOD n] := by
  intro i
  induction i with
  | zero =>
    intro b chunk b' chunk' h
    simp only [chunkLoop, pure_eq_ok, Prod.mk.injEq] at h
    rw [← h.1, ← h.2]; simp [Nat.ModEq]
  | succ i ih =>
    intro b chunk b' chunk' h
    unfold chunkLoop at h
    simp only at h
    split at h
    · simp [throw_ne_ok] at h
    · split at h
      · simp only [bind_eq_ok] at h
        obtain ⟨cm, hcm, h⟩ := h
        obtain ⟨rfl, _⟩ := fromInt_ok hcm
        refine (ih _ _ _ _ h).trans ?_
        have : b * cm % n * pu * pu ^ i ≡ b * cm * pu * pu ^ i [MOD n] :=
          Nat.ModEq.mul_right _ (Nat.ModEq.mul_right _ (Nat.mod_modEq _ _))
        refine this.trans ?_
        rw [pow_succ]; ring_nf; rfl
      · refine (ih _ _ _ _ h).trans ?_
        rw [pow_succ]; ring_nf; rfl

theorem factorsLoop_spec (n maxchunk : Nat) : ∀ (fs : List (Int × Nat)) (b chunk b' chunk' : Nat),
    factorsLoop n maxchunk fs b chunk = .ok (b', chunk') →
    b' * chunk' ≡ b * chunk * halfProd fs [MOD n] := by
  intro fs
  induction fs with
  | nil =>
    intro b chunk b' chunk' h
    simp only [factorsLoop, pure_eq_ok, Prod.mk.injEq] at h
    rw [← h.1, ← h.2]; simp [halfProd, Nat.ModEq]
  | cons f t ih =>
    obtain ⟨p, k⟩ := f
    intro b chunk b' chunk' h
    unfold factorsLoop at h
    split at h
    · rename_i hp
      refine (ih _ _ _ _ h).trans ?_
      simp [halfProd, hp, Nat.ModEq]
    · rename_i hp
      split at h
      · simp [throw_ne_ok] at h
      · simp only [bind_eq_ok] at h
        obtain ⟨bc, hbc, h⟩ := h
        have h1 := chunkLoop_spec n maxchunk (toU64 p) (k / 2) b chunk bc.1 bc.2 hbc
        refine (ih _ _ _ _ h).trans ?_
        have := Nat.ModEq.mul_right (halfProd t) h1
        refine this.trans ?_
        simp only [halfProd, if_neg hp]
        ring_nf; rfl

theorem combineAB_spec {n : Nat} {xs : List Nat} {fs : List (Int × Nat)} {a b : Nat}
    (h : combineAB n xs fs = .ok (a, b)) (hn : 0 < n) :
    a ≡ xprod xs [MOD n] ∧ b ≡ halfProd fs [MOD n] ∧ a < n ∧ b < n := by
  unfold combineAB at h
  simp only [bind_eq_ok, pure_eq_ok, Prod.mk.injEq] at h
  obtain ⟨a', ha, bc, hbc, cm, hcm, rfl, rfl⟩ := h
  obtain ⟨rfl, _⟩ := fromInt_ok hcm
  obtain ⟨h1, h2⟩ := prodXs_spec n xs _ _ ha
  have h3 := factorsLoop_spec n _ fs _ _ _ _ hbc
  have hone : 1 % n ≡ 1 [MOD n] := Nat.mod_modEq _ _
  refine ⟨?_, ?_, h2 (Nat.mod_lt _ hn), Nat.mod_lt _ hn⟩
  · refine h1.trans ?_
    have := Nat.ModEq.mul_right (xprod xs) hone
    simpa using this
  · refine (Nat.mod_modEq _ _).trans (h3.trans ?_)
    have := Nat.ModEq.mul_right (halfProd fs) (Nat.ModEq.mul_right 1 hone)
    simpa using this

/-- all exponents even (sign entries included) and every base `-1` or a non-negative `i64` -/
def EvenF (fs : List (Int × Nat)) : Prop :=
  ∀ f ∈ fs, f.2 % 2 = 0 ∧ (f.1 = -1 ∨ (0 ≤ f.1 ∧ f.1 < (I63 : Int)))

theorem EvenF_nil : EvenF [] := by intro f hf; cases hf

theorem EvenF_cons {f : Int × Nat} {t : List (Int × Nat)} :
    EvenF (f :: t) ↔ (f.2 % 2 = 0 ∧ (f.1 = -1 ∨ (0 ≤ f.1 ∧ f.1 < (I63 : Int)))) ∧ EvenF t := by
  simp [EvenF]

theorem EvenF_append {a b : List (Int × Nat)} : EvenF (a ++ b) ↔ EvenF a ∧ EvenF b :=
  List.forall_mem_append

theorem halfProd_sq {fs : List (Int × Nat)} (h : EvenF fs) :
    ((halfProd fs : Nat) : Int) * (halfProd fs : Nat) = fprod fs := by
  induction fs with
  | nil => simp [halfProd]
  | cons f t ih =>
    obtain ⟨p, k⟩ := f
    rw [EvenF_cons] at h
    obtain ⟨⟨hk, hp⟩, ht⟩ := h
    simp only at hk hp
    have ih' := ih ht
    have hk2 : k = 2 * (k / 2) := by omega
    by_cases hm : p = -1
    · subst hm
      simp only [halfProd, if_true, fprod_cons]
      rw [ih', Even.neg_one_pow (Nat.even_iff.mpr hk), one_mul]
    · rcases hp with hp | ⟨hp0, hp1⟩
      · exact absurd hp hm
      · have hu : (toU64 p : Int) = p := toU64_nonneg hp0 (lt_trans hp1 (by decide))
        simp only [halfProd, if_neg hm, fprod_cons]
        push_cast
        rw [hu]
        conv_rhs => rw [hk2, pow_mul']
        rw [← ih']
        ring

/-- `∏ slots[i] ^ exps[i]` -/
def slotProd : List Int → List Nat → Int
  | f :: fs, e :: es => f ^ e * slotProd fs es
  | _, _ => 1

theorem slotProd_zero : ∀ (slots : List Int), slotProd slots (slots.map fun _ => 0) = 1 := by
  intro slots
  induction slots with
  | nil => rfl
  | cons f t ih => simp [slotProd, ih]

theorem slotProd_set : ∀ (slots : List Int) (exps : List Nat) (f : Int) (idx e k : Nat),
    slotIndex f slots = some idx → exps[idx]? = some e →
    slotProd slots (exps.set idx (e + k)) = slotProd slots exps * f ^ k := by
  intro slots
  induction slots with
  | nil => intro exps f idx e k h; simp [slotIndex] at h
  | cons g t ih =>
    intro exps f idx e k h he
    cases exps with
    | nil => simp at he
    | cons e0 es =>
      unfold slotIndex at h
      split at h
      · rename_i hg
        simp only [Option.some.injEq] at h
        subst h; subst hg
        simp only [List.getElem?_cons_zero, Option.some.injEq] at he
        subst he
        simp only [List.set_cons_zero, slotProd, pow_add]; ring
      · cases hsi : slotIndex f t with
        | none => rw [hsi] at h; simp at h
        | some j =>
          rw [hsi] at h
          simp only [Option.map_some, Option.some.injEq] at h
          subst h
          simp only [List.getElem?_cons_succ] at he
          simp only [List.set_cons_succ, slotProd]
          rw [ih es f j e k hsi he]; ring

theorem slotIndex_mem : ∀ (slots : List Int) (f : Int) (idx : Nat),
    slotIndex f slots = some idx → f ∈ slots := by
  intro slots
  induction slots with
  | nil => intro f idx h; simp [slotIndex] at h
  | cons g t ih =>
    intro f idx h
    unfold slotIndex at h
    split at h
    · rename_i hg; subst hg; exact List.mem_cons_self
    · cases hsi : slotIndex f t with
      | none => rw [hsi] at h; simp at h
      | some j => exact List.mem_cons_of_mem _ (ih f j hsi)

theorem accFactors_spec (slots : List Int) : ∀ (fs : List (Int × Nat)) (exps : List Nat)
    (extra : List (Int × Nat)) (exps' : List Nat) (extra' : List (Int × Nat)),
    accFactors slots fs exps extra = .ok (exps', extra') →
    (∀ f ∈ fs, f.1 = -1 ∨ (0 ≤ f.1 ∧ f.1 < (I63 : Int))) → EvenF extra →
    exps'.length = exps.length ∧ EvenF extra' ∧
      slotProd slots exps' * fprod extra' = slotProd slots exps * fprod extra * fprod fs := by
  intro fs
  induction fs with
  | nil =>
    intro exps extra exps' extra' h _ hev
    simp only [accFactors, pure_eq_ok, Prod.mk.injEq] at h
    rw [← h.1, ← h.2]; simp [hev]
  | cons f t ih =>
    obtain ⟨p, k⟩ := f
    intro exps extra exps' extra' h hpr hev
    have hpt : ∀ f ∈ t, f.1 = -1 ∨ (0 ≤ f.1 ∧ f.1 < (I63 : Int)) :=
      fun f hf => hpr f (List.mem_cons_of_mem _ hf)
    unfold accFactors at h
    split at h
    · rename_i idx hidx
      split at h
      · simp [throw_ne_ok] at h
      · rename_i e he
        split at h
        · obtain ⟨h1, h2, h3⟩ := ih _ _ _ _ h hpt hev
          refine ⟨by rw [h1, List.length_set], h2, ?_⟩
          rw [h3, slotProd_set slots exps p idx e k hidx he, fprod_cons]; ring
        · simp [throw_ne_ok] at h
    · split at h
      · simp [throw_ne_ok] at h
      · rename_i hk
        simp only [not_not] at hk
        have hev' : EvenF (extra ++ [(p, k)]) := by
          rw [EvenF_append]
          exact ⟨hev, EvenF_cons.mpr ⟨⟨hk, hpr (p, k) List.mem_cons_self⟩, EvenF_nil⟩⟩
        obtain ⟨h1, h2, h3⟩ := ih _ _ _ _ h hpt hev'
        refine ⟨h1, h2, ?_⟩
        rw [h3, fprod_append, fprod_cons, fprod_cons, fprod_nil]; ring

/-- a relation the final step accepts: complete, a congruence, bases `-1` or non-negative `i64` -/
def FinalRel (n : Nat) (r : Relation) : Prop :=
  r.cofactor = 1 ∧ Valid n r ∧ ∀ f ∈ r.factors, f.1 = -1 ∨ (0 ≤ f.1 ∧ f.1 < (I63 : Int))

theorem accRels_spec (n : Nat) (slots : List Int) (rels : List Relation)
    (hrels : ∀ r ∈ rels, FinalRel n r) : ∀ (eq xs exps : List Nat) (extra : List (Int × Nat))
    (xs' exps' : List Nat) (extra' : List (Int × Nat)),
    accRels slots rels eq xs exps extra = .ok (xs', exps', extra') → EvenF extra →
    ((xprod xs : Nat) : Int) * (xprod xs : Nat) ≡ slotProd slots exps * fprod extra [ZMOD n] →
    EvenF extra' ∧
    ((xprod xs' : Nat) : Int) * (xprod xs' : Nat) ≡ slotProd slots exps' * fprod extra' [ZMOD n] := by
  intro eq
  induction eq with
  | nil =>
    intro xs exps extra xs' exps' extra' h hev hcong
    simp only [accRels, pure_eq_ok, Prod.mk.injEq] at h
    obtain ⟨rfl, rfl, rfl⟩ := h
    exact ⟨hev, hcong⟩
  | cons i t ih =>
    intro xs exps extra xs' exps' extra' h hev hcong
    unfold accRels at h
    split at h
    · simp [throw_ne_ok] at h
    · rename_i r hr
      simp only [bind_eq_ok] at h
      obtain ⟨ee, hee, h⟩ := h
      obtain ⟨hc1, hv, hpr⟩ := hrels r (List.mem_of_getElem? hr)
      obtain ⟨_, h2, h3⟩ := accFactors_spec slots _ _ _ ee.1 ee.2 hee hpr hev
      refine ih _ _ _ _ _ _ h h2 ?_
      rw [h3]
      have hx : xprod (xs ++ [r.x]) = xprod xs * r.x := by
        clear * -
        induction xs with
        | nil => simp [xprod]
        | cons a t ih => simp only [List.cons_append, xprod, ih]; ring
      rw [hx]
      push_cast
      unfold Valid at hv
      rw [hc1] at hv
      have := hcong.mul hv
      refine (show ((xprod xs : Nat) : Int) * r.x * ((xprod xs : Nat) * r.x) =
        (xprod xs : Nat) * (xprod xs : Nat) * ((r.x : Int) * r.x) by ring) ▸ this.trans ?_
      simp

theorem expFactors_spec : ∀ (slots : List Int) (exps : List Nat) (fs : List (Int × Nat)),
    expFactors slots exps = .ok fs → (∀ f ∈ slots, f = -1 ∨ (0 ≤ f ∧ f < (I63 : Int))) →
    fprod fs = slotProd slots exps ∧ EvenF fs := by
  intro slots
  induction slots with
  | nil =>
    intro exps fs h _
    simp only [expFactors, pure_eq_ok] at h
    subst h; exact ⟨rfl, EvenF_nil⟩
  | cons f t ih =>
    intro exps fs h hs
    have hst : ∀ f ∈ t, f = -1 ∨ (0 ≤ f ∧ f < (I63 : Int)) :=
      fun g hg => hs g (List.mem_cons_of_mem _ hg)
    cases exps with
    | nil =>
      simp only [expFactors, pure_eq_ok] at h
      subst h; exact ⟨rfl, EvenF_nil⟩
    | cons e es =>
      unfold expFactors at h
      split at h
      · split at h
        · simp [throw_ne_ok] at h
        · rename_i hev
          simp only [not_not] at hev
          simp only [bind_eq_ok, pure_eq_ok] at h
          obtain ⟨l, hl, rfl⟩ := h
          obtain ⟨h1, h2⟩ := ih es l hl hst
          exact ⟨by rw [fprod_cons, h1]; rfl,
            EvenF_cons.mpr ⟨⟨hev, hs f List.mem_cons_self⟩, h2⟩⟩
      · rename_i he
        have he0 : e = 0 := by omega
        obtain ⟨h1, h2⟩ := ih es fs h hst
        exact ⟨by rw [h1, he0]; simp [slotProd], h2⟩

theorem insertNat_mem {x d : Nat} : ∀ {l : List Nat}, d ∈ insertNat x l → d = x ∨ d ∈ l := by
  intro l
  induction l with
  | nil => intro h; simp [insertNat] at h; exact Or.inl h
  | cons y t ih =>
    intro h
    unfold insertNat at h
    split at h
    · rcases List.mem_cons.mp h with h | h
      · exact Or.inl h
      · exact Or.inr h
    · split at h
      · exact Or.inr h
      · rcases List.mem_cons.mp h with h | h
        · exact Or.inr (by rw [h]; exact List.mem_cons_self)
        · rcases ih h with h | h
          · exact Or.inl h
          · exact Or.inr (List.mem_cons_of_mem _ h)

theorem sortDedup_mem {d : Nat} {l : List Nat} (h : d ∈ sortDedup l) : d ∈ l := by
  unfold sortDedup at h
  have : ∀ (l acc : List Nat), d ∈ l.foldl (fun acc x => insertNat x acc) acc → d ∈ acc ∨ d ∈ l := by
    intro l
    induction l with
    | nil => intro acc h; exact Or.inl h
    | cons x t ih =>
      intro acc h
      simp only [List.foldl_cons] at h
      rcases ih _ h with h | h
      · rcases insertNat_mem h with h | h
        · exact Or.inr (by rw [h]; exact List.mem_cons_self)
        · exact Or.inl h
      · exact Or.inr (List.mem_cons_of_mem _ h)
  rcases this l [] h with h | h
  · cases h
  · exact h

theorem kernelStep_proper {n : Nat} {slots : List Int} {rels : List Relation} {eq : List Nat}
    {a b p q : Nat} (h : kernelStep n slots rels eq = .ok (a, b, some (p, q))) :
    p * q = n ∧ 1 < p ∧ 1 < q := by
  unfold kernelStep at h
  simp only [bind_eq_ok] at h
  obtain ⟨acc, _, fs, _, ab, _, h⟩ := h
  split at h
  · exact (throw_ne_ok.mp h).elim
  · simp only [bind_eq_ok, pure_eq_ok, Prod.mk.injEq] at h
    obtain ⟨d, hd, _, _, rfl⟩ := h
    exact tryFactor_some hd

def ProperDiv (n d : Nat) : Prop := 1 < d ∧ d < n ∧ d ∣ n

theorem proper_of_split {n p q : Nat} (h : p * q = n) (hp : 1 < p) (hq : 1 < q) :
    ProperDiv n p ∧ ProperDiv n q := by
  refine ⟨⟨hp, ?_, ⟨q, h.symm⟩⟩, ⟨hq, ?_, ⟨p, by rw [← h, Nat.mul_comm]⟩⟩⟩
  · rw [← h]; exact (Nat.lt_mul_iff_one_lt_right (by omega)).mpr hq
  · rw [← h]; exact (Nat.lt_mul_iff_one_lt_left (by omega)).mpr hp

theorem kernelLoop_mem {n : Nat} {slots : List Int} {rels : List Relation} {isPrime : Nat → Bool} :
    ∀ (kernel : List (List Nat)) (divs out : List Nat),
      kernelLoop n slots rels isPrime kernel divs = .ok out →
      ∀ d ∈ out, d ∈ divs ∨ ProperDiv n d := by
  intro kernel
  induction kernel with
  | nil =>
    intro divs out h d hd
    simp only [kernelLoop, pure_eq_ok] at h
    rw [← h] at hd; exact Or.inl hd
  | cons eq t ih =>
    intro divs out h d hd
    simp only [kernelLoop, bind_eq_ok] at h
    obtain ⟨r, hr, h⟩ := h
    split at h
    · exact ih divs out h d hd
    · rename_i p q hpq
      have hstep : kernelStep n slots rels eq = .ok (r.1, r.2.1, some (p, q)) := by
        rw [hr, ← hpq]
      obtain ⟨hm, hp, hq⟩ := kernelStep_proper hstep
      obtain ⟨pp, pq⟩ := proper_of_split hm hp hq
      have hnew : ∀ d ∈ divs ++ [p, q], d ∈ divs ∨ ProperDiv n d := by
        intro d hd
        simp only [List.mem_append, List.mem_cons, List.not_mem_nil, or_false] at hd
        rcases hd with hd | hd | hd
        · exact Or.inl hd
        · rw [hd]; exact Or.inr pp
        · rw [hd]; exact Or.inr pq
      split at h
      · simp only [pure_eq_ok] at h
        rw [← h] at hd
        exact hnew d hd
      · rcases ih _ out h d hd with h1 | h1
        · exact hnew d h1
        · exact Or.inr h1

theorem finalStep_proper {n : Nat} {fb : List Nat} {rels : List Relation}
    {kernel : List (List Nat)} {isPrime : Nat → Bool} {slots : List Int} {cnt : Nat}
    {divs : List Nat} (h : finalStep n fb rels kernel isPrime = .ok (slots, cnt, divs)) :
    ∀ d ∈ divs, ProperDiv n d := by
  unfold finalStep at h
  simp only [bind_eq_ok] at h
  obtain ⟨_, _, occs0, _, filt, _, h⟩ := h
  split at h
  · simp [throw_ne_ok] at h
  · simp only [bind_eq_ok, pure_eq_ok, Prod.mk.injEq] at h
    obtain ⟨out, hout, _, _, rfl⟩ := h
    intro d hd
    rcases kernelLoop_mem _ _ _ hout d (sortDedup_mem hd) with h1 | h1
    · cases h1
    · exact h1

end Ymq.Relations
