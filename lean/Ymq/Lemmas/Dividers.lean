/-
`Dividers` on one-word operands (Props/C08). For `2^s < p ≤ 2^(s+1)` the multiplier `M = ⌊2^(k+1+s)/p⌋ + 1` estimates `⌊n/p⌋`
from above, with an excess below `c` when `n < c·2^k` (`recip_pow`, `recip_pow_div`; `recip_div` is the Granlund–Montgomery
estimate for any width). `new_eq`: `new p` builds `mk p s` with these multipliers at `k = 63` and `k = 16`; `Good` records
that, `Ok` adds the divider of `p = 2`, and `divmod64`, `modu63`, `modu16`, `modi64`, `fold64`, `mod_u128` are read off
`Ok.estimate`.
-/
import Ymq.Model.Dividers
import Mathlib.Tactic.Ring
import Mathlib.Tactic.Linarith
import Mathlib.Algebra.Order.Ring.Nat
import Mathlib.Data.Nat.Prime.Basic
import Mathlib.Data.Nat.ModEq

namespace Ymq.Dividers
open Ymq.Limbs (W)

theorem recip_bounds (S p : Nat) (hp : 0 < p) : S < (S / p + 1) * p ∧ (S / p + 1) * p ≤ S + p := by
  rw [Nat.add_one_mul]
  exact ⟨Nat.lt_div_mul_add hp, Nat.add_le_add_right (Nat.div_mul_le_self S p) p⟩

/-- The estimate `⌊n·M / S⌋` of `⌊n/p⌋` by a multiplier `M ≈ S/p` (Granlund–Montgomery), for any
width: both bounds are compared after multiplication by `p`. -/
theorem recip_div (p M S n c : Nat) (hp : 0 < p) (hS : 0 < S) (h1 : S ≤ M * p)
    (h2 : n * (M * p - S) < c * S) : n / p ≤ n * M / S ∧ n * M / S * p < n + c := by
  have e : n * M * p = n * S + n * (M * p - S) := by
    rw [Nat.mul_assoc, ← Nat.mul_add, Nat.add_sub_cancel' h1]
  constructor
  · rw [Nat.le_div_iff_mul_le hS]
    apply Nat.le_of_mul_le_mul_right _ hp
    calc n / p * S * p = n / p * p * S := Nat.mul_right_comm _ _ _
      _ ≤ n * S := Nat.mul_le_mul_right S (Nat.div_mul_le_self n p)
      _ ≤ n * M * p := by rw [e]; exact Nat.le_add_right _ _
  · apply Nat.lt_of_mul_lt_mul_right (a := S)
    calc n * M / S * p * S = n * M / S * S * p := Nat.mul_right_comm _ _ _
      _ ≤ n * M * p := Nat.mul_le_mul_right p (Nat.div_mul_le_self _ S)
      _ < n * S + c * S := by rw [e]; exact Nat.add_lt_add_left h2 _
      _ = (n + c) * S := (Nat.add_mul _ _ _).symm

theorem W_eq : W = 2 ^ 64 := by decide

theorem bitlen_bounds (x : Nat) (hx : x ≠ 0) : 2 ^ (bitlen x - 1) ≤ x ∧ x < 2 ^ bitlen x := by
  unfold bitlen
  simp only [hx, if_false, Nat.add_sub_cancel]
  exact ⟨Nat.log2_self_le hx, Nat.lt_log2_self⟩

theorem r64_eq (p : Nat) (hp : 0 < p) (hnd : W % p ≠ 0) : (W - 1) % p + 1 = W % p := by
  have e := Nat.div_add_mod (W - 1) p
  have l := Nat.mod_lt (W - 1) hp
  have hW : 0 < W := by decide
  generalize (W - 1) / p = a at *
  generalize (W - 1) % p = b at *
  have hWe : W = p * a + (b + 1) := by omega
  by_cases hb : b + 1 < p
  · rw [hWe, Nat.mul_add_mod, Nat.mod_eq_of_lt hb]
  · have hbp : b + 1 = p := by omega
    exact absurd (by rw [hWe, hbp, ← Nat.mul_succ]; exact Nat.mul_mod_right _ _) hnd

/-- `(!m.wrapping_mul(p)).wrapping_add(1)` for `m = ⌊2^64/p⌋` is `2^64 mod p`. -/
theorem mp_eq (p : Nat) (hp : 0 < p) (hpW : p ≤ W) : (W - W / p * p % W) % W = W % p := by
  have e := Nat.div_add_mod W p
  have l := Nat.mod_lt W hp
  rw [Nat.mul_comm (W / p) p]
  generalize W / p = a at *
  generalize W % p = b at *
  by_cases hb : b = 0
  · have : p * a = W := by omega
    rw [this, Nat.mod_self, Nat.sub_zero, Nat.mod_self, hb]
  · have hW : 0 < W := by decide
    rw [Nat.mod_eq_of_lt (by omega : p * a < W), Nat.mod_eq_of_lt (by omega)]
    omega

/-- The divider `new p` builds when `2^s < p ≤ 2^(s+1)`: both multipliers are `⌊2^k/p⌋ + 1`,
with `k = 64 + s` and `k = 17 + s`. -/
def mk (p s : Nat) : Div :=
  { p := p, m64 := 2 ^ (64 + s) / p + 1, r64 := W % p, s64 := s,
    m16 := 2 ^ (17 + s) / p + 1, s16 := 17 + s }

theorem pow_div_div (n t p : Nat) (ht : t ≤ n) : 2 ^ n / p / 2 ^ t = 2 ^ (n - t) / p := by
  rw [Nat.div_div_eq_div_mul, Nat.mul_comm, ← Nat.div_div_eq_div_mul, Nat.pow_div ht (by decide)]

theorem pow_le_div {a n s p : Nat} (hn : a + (s + 1) = n) (hp : 0 < p) (hhi : p ≤ 2 ^ (s + 1)) :
    2 ^ a ≤ 2 ^ n / p := by
  rw [Nat.le_div_iff_mul_le hp, ← hn, Nat.pow_add]
  exact Nat.mul_le_mul_left _ hhi

theorem div_lt_pow {a n s p : Nat} (hn : a + s = n) (hlo : 2 ^ s < p) : 2 ^ n / p < 2 ^ a := by
  rw [Nat.div_lt_iff_lt_mul (Nat.zero_lt_of_lt hlo), ← hn, Nat.pow_add]
  exact Nat.mul_lt_mul_of_pos_left hlo (Nat.two_pow_pos a)

/-- The reciprocal of any width: for `2^s < p ≤ 2^(s+1)` the multiplier `M = ⌊2^(k+1+s)/p⌋ + 1` has
`k + 1` significant bits and its excess `M·p − 2^(k+1+s)` lies in `(0, p]`. `new` stores the
instances `k = 63` (`m64`) and `k = 16` (`m16`). -/
theorem recip_pow (p k s : Nat) (hlo : 2 ^ s < p) (hhi : p ≤ 2 ^ (s + 1)) :
    2 ^ (k + 1 + s) < (2 ^ (k + 1 + s) / p + 1) * p ∧
    (2 ^ (k + 1 + s) / p + 1) * p ≤ 2 ^ (k + 1 + s) + p ∧
    2 ^ k < 2 ^ (k + 1 + s) / p + 1 ∧ 2 ^ (k + 1 + s) / p + 1 ≤ 2 ^ (k + 1) := by
  have hp : 0 < p := Nat.zero_lt_of_lt hlo
  obtain ⟨blo, bhi⟩ := recip_bounds (2 ^ (k + 1 + s)) p hp
  exact ⟨blo, bhi, Nat.lt_succ_of_le (pow_le_div (by omega) hp hhi), div_lt_pow rfl hlo⟩

theorem recip_pow_div (p k s n c : Nat) (hlo : 2 ^ s < p) (hhi : p ≤ 2 ^ (s + 1))
    (hn : n < c * 2 ^ k) :
    n / p ≤ n * (2 ^ (k + 1 + s) / p + 1) / 2 ^ (k + 1 + s) ∧
      n * (2 ^ (k + 1 + s) / p + 1) / 2 ^ (k + 1 + s) * p < n + c := by
  have hp : 0 < p := Nat.zero_lt_of_lt hlo
  have hS : 0 < 2 ^ (k + 1 + s) := Nat.two_pow_pos _
  obtain ⟨h1, h2, h3, -⟩ := recip_pow p k s hlo hhi
  generalize 2 ^ (k + 1 + s) / p + 1 = M at *
  generalize 2 ^ (k + 1 + s) = S at *
  -- `(2^k + 1)·p ≤ M·p ≤ S + p`, so `2^k·p ≤ S`: the excess `n·(M·p − S) ≤ n·p` stays below `c·S`
  have hAS : 2 ^ k * p ≤ S := by
    apply Nat.le_of_add_le_add_right (b := p)
    calc 2 ^ k * p + p = (2 ^ k + 1) * p := (Nat.add_one_mul _ _).symm
      _ ≤ M * p := Nat.mul_le_mul_right p h3
      _ ≤ S + p := h2
  apply recip_div p M S n c hp hS h1.le
  calc n * (M * p - S) ≤ n * p := Nat.mul_le_mul_left n (Nat.sub_le_iff_le_add'.mpr h2)
    _ < c * 2 ^ k * p := Nat.mul_lt_mul_of_pos_right hn hp
    _ = c * (2 ^ k * p) := Nat.mul_assoc _ _ _
    _ ≤ c * S := Nat.mul_le_mul_left c hAS

/-- the `+ 1` of `new` cannot overflow: `(2^64 - 1)·p ≤ 2^64·2^s ≤ 2^64·(p - 1)` would force
`2^64 ≤ p` -/
theorem m64_lt (p s : Nat) (hlo : 2 ^ s < p) (hp30 : p < 2 ^ 30) :
    2 ^ (64 + s) / p + 1 < 2 ^ 64 := by
  have h1 : 2 ^ (64 + s) / p * p ≤ 2 ^ (64 + s) := Nat.div_mul_le_self _ _
  have e : 2 ^ (64 + s) = 2 ^ 64 * 2 ^ s := Nat.pow_add 2 64 s
  have h3 : 2 ^ 64 * (2 ^ s + 1) ≤ 2 ^ 64 * p := Nat.mul_le_mul_left _ hlo
  by_contra hge
  have h2 : (2 ^ 64 - 1) * p ≤ 2 ^ (64 + s) / p * p := Nat.mul_le_mul_right p (by omega)
  generalize 2 ^ (64 + s) / p * p = qp at *
  generalize 2 ^ (64 + s) = S at *
  generalize 2 ^ s = T at *
  omega

/-- the quotient `(m64 - 1) >> s64` that `new` checks and `divmod_uint_inplace` uses is `⌊2^64/p⌋` -/
theorem mq_eq (p s : Nat) : (2 ^ (64 + s) / p + 1 - 1) / 2 ^ s = W / p := by
  rw [Nat.add_sub_cancel, pow_div_div _ _ _ (Nat.le_add_left s 64), Nat.add_sub_cancel, W_eq]

/-- A divider as `new` builds it for `p ≥ 3`: `mk p s` with `2^s < p ≤ 2^(s+1)`, `p` below `2^30`
and not a power of two. Everything the routines need follows from `recip_pow`. -/
structure Good (d : Div) : Prop where
  lo : 2 ^ d.s64 < d.p
  hi : d.p ≤ 2 ^ (d.s64 + 1)
  p30 : d.p < 2 ^ 30
  r64nz : W % d.p ≠ 0
  m64 : d.m64 = 2 ^ (64 + d.s64) / d.p + 1
  m16 : d.m16 = 2 ^ (17 + d.s64) / d.p + 1
  s16 : d.s16 = 17 + d.s64
  r64 : d.r64 = W % d.p

def d2 : Div := { p := 2, m64 := 2 ^ 63, r64 := 0, s64 := 0, m16 := 1, s16 := 1 }

/-- a divider returned by the constructor: the one of `p = 2`, or `Good` -/
def Ok (d : Div) : Prop := d = d2 ∨ Good d

theorem mk_good (p s : Nat) (hlo : 2 ^ s < p) (hhi : p ≤ 2 ^ (s + 1)) (hp30 : p < 2 ^ 30)
    (hnd : W % p ≠ 0) : Good (mk p s) :=
  ⟨hlo, hhi, hp30, hnd, rfl, rfl, rfl, rfl⟩

theorem Good.p3 {d : Div} (g : Good d) : 3 ≤ d.p := by
  by_contra hlt
  have hlo := Nat.zero_lt_of_lt g.lo
  have : d.p = 1 ∨ d.p = 2 := by omega
  rcases this with h | h <;> exact g.r64nz (by rw [h]; decide)

theorem Good.s64 {d : Div} (g : Good d) : d.s64 < 30 :=
  (Nat.pow_lt_pow_iff_right (by decide)).mp (g.lo.trans g.p30)

theorem Good.recip64 {d : Div} (g : Good d) :
    2 ^ (64 + d.s64) < d.m64 * d.p ∧ d.m64 * d.p ≤ 2 ^ (64 + d.s64) + d.p ∧
    2 ^ 63 < d.m64 ∧ d.m64 < 2 ^ 64 := by
  obtain ⟨h1, h2, h3, -⟩ := recip_pow d.p 63 d.s64 g.lo g.hi
  rw [g.m64]
  exact ⟨h1, h2, h3, m64_lt d.p d.s64 g.lo g.p30⟩

theorem Good.mq {d : Div} (g : Good d) : (d.m64 - 1) / 2 ^ d.s64 = W / d.p := by
  rw [g.m64]; exact mq_eq _ _

theorem Good.recip16 {d : Div} (g : Good d) :
    2 ^ d.s16 < d.m16 * d.p ∧ d.m16 * d.p ≤ 2 ^ d.s16 + d.p ∧ 2 ^ 16 < d.m16 ∧ d.m16 ≤ 2 ^ 17 := by
  rw [g.m16, g.s16]
  exact recip_pow d.p 16 d.s64 g.lo g.hi

theorem bitlen_recip (p : Nat) (hp3 : 3 ≤ p) (hp30 : p < 2 ^ 30) :
    ∃ s, bitlen (2 ^ 127 / p) = 127 - s ∧ s < 30 ∧ 2 ^ s < p ∧ p ≤ 2 ^ (s + 1) := by
  have hp0 : 0 < p := by omega
  have hm0 : 2 ^ 127 / p ≠ 0 := (Nat.div_pos (by omega) hp0).ne'
  obtain ⟨blo, bhi⟩ := bitlen_bounds _ hm0
  rw [Nat.le_div_iff_mul_le hp0] at blo
  rw [Nat.div_lt_iff_lt_mul hp0] at bhi
  generalize bitlen (2 ^ 127 / p) = sz at *
  have h98 : 127 < sz + 30 := by
    apply (Nat.pow_lt_pow_iff_right (a := 2) (by decide)).mp
    calc 2 ^ 127 < 2 ^ sz * p := bhi
      _ < 2 ^ sz * 2 ^ 30 := Nat.mul_lt_mul_of_pos_left hp30 (Nat.two_pow_pos sz)
      _ = 2 ^ (sz + 30) := (Nat.pow_add 2 sz 30).symm
  have h126 : sz < 127 := by
    apply (Nat.pow_lt_pow_iff_right (a := 2) (by decide)).mp
    calc 2 ^ sz = 2 ^ (sz - 1) * 2 := by rw [← Nat.pow_succ]; congr 1; omega
      _ < 2 ^ (sz - 1) * p := Nat.mul_lt_mul_of_pos_left (by omega) (Nat.two_pow_pos _)
      _ ≤ 2 ^ 127 := blo
  refine ⟨127 - sz, by omega, by omega, ?_, ?_⟩
  · apply Nat.lt_of_mul_lt_mul_left (a := 2 ^ sz)
    rwa [← Nat.pow_add, show sz + (127 - sz) = 127 by omega]
  · apply Nat.le_of_mul_le_mul_left (c := 2 ^ (sz - 1)) _ (Nat.two_pow_pos _)
    rwa [← Nat.pow_add, show sz - 1 + (127 - sz + 1) = 127 by omega]

/-- `new` on `3 ≤ p < 2^30`: the `incorrect divider` panic is reached exactly when `p ∣ 2^64`. -/
theorem new_eq (p : Nat) (hp3 : 3 ≤ p) (hp30 : p < 2 ^ 30) :
    ∃ s, 2 ^ s < p ∧ p ≤ 2 ^ (s + 1) ∧
      new p = if W % p = 0 then none else some (mk p s) := by
  obtain ⟨s, hsz, hs, hlo, hhi⟩ := bitlen_recip p hp3 hp30
  refine ⟨s, hlo, hhi, ?_⟩
  have hp0 : 0 < p := by omega
  have hW : W = 2 ^ 64 := W_eq
  have t64 : 2 ^ 127 / p / 2 ^ (127 - s - 64) % W = 2 ^ (64 + s) / p := by
    rw [pow_div_div _ _ _ (by omega), show 127 - (127 - s - 64) = 64 + s by omega, hW]
    exact Nat.mod_eq_of_lt (by have := m64_lt p s hlo hp30; omega)
  have t17 : 2 ^ 127 / p / 2 ^ (127 - s - 17) % 2 ^ 32 = 2 ^ (17 + s) / p := by
    rw [pow_div_div _ _ _ (by omega), show 127 - (127 - s - 17) = 17 + s by omega]
    exact Nat.mod_eq_of_lt ((div_lt_pow rfl hlo).trans (by decide))
  unfold new
  simp only []
  rw [hsz, t64, t17, show 127 - (127 - s) = s by omega, mq_eq p s, mp_eq p hp0 (by omega),
    if_neg (fun h => h (Nat.div_eq_of_lt hp30)), if_neg (by omega : ¬ p = 2),
    if_neg (by omega : ¬ p = 0), if_neg (by omega : ¬ 127 - s < 64),
    if_neg (Nat.not_le.mpr (hW ▸ m64_lt p s hlo hp30)), if_neg (by omega : ¬ 127 - s > 127),
    if_neg (by omega : ¬ s ≥ 64),
    if_neg (Nat.not_le.mpr (Nat.lt_of_le_of_lt (div_lt_pow rfl hlo) (by decide)) :
      ¬ 2 ^ (17 + s) / p + 1 ≥ 2 ^ 32)]
  by_cases hnd : W % p = 0
  · rw [if_pos hnd, if_pos (by rw [hnd]; exact (Nat.succ_ne_zero _).symm)]
  · have hlt : W % p < p := Nat.mod_lt _ hp0
    rw [if_neg hnd, if_neg (not_not.mpr (r64_eq p hp0 hnd).symm), r64_eq p hp0 hnd,
      Nat.mod_eq_of_lt (by omega : W % p < 2 ^ 32), Nat.mod_eq_of_lt (by omega : s < 2 ^ 16),
      show 127 + 17 - (127 - s) = 17 + s by omega, Nat.mod_eq_of_lt (by omega : 17 + s < 2 ^ 16)]
    rfl

theorem new_two : new 2 = some d2 := by
  decide

theorem new_some (p : Nat) (hp3 : 3 ≤ p) (hp30 : p < 2 ^ 30) (hnd : W % p ≠ 0) :
    ∃ d, new p = some d := by
  obtain ⟨s, -, -, h⟩ := new_eq p hp3 hp30
  exact ⟨_, h.trans (if_neg hnd)⟩

theorem new_good (p : Nat) (d : Div) (h : new p = some d) (h2 : p ≠ 2) : d.p = p ∧ Good d := by
  have hp30 : p < 2 ^ 30 := by
    by_contra hge
    rw [new, if_pos (Nat.div_pos (Nat.le_of_not_lt hge) (by decide)).ne'] at h
    cases h
  have hp3 : 3 ≤ p := by
    by_contra hlt
    have h01 : p = 0 ∨ p = 1 := by omega
    -- `1 << 127 / 0`, and `127 - sz` underflows for `p = 1`
    have e0 : new 0 = none := by decide
    have e1 : new 1 = none := by decide +kernel
    rcases h01 with rfl | rfl
    · rw [e0] at h; cases h
    · rw [e1] at h; cases h
  obtain ⟨s, hlo, hhi, he⟩ := new_eq p hp3 hp30
  rw [he] at h
  by_cases hnd : W % p = 0
  · rw [if_pos hnd] at h; cases h
  · rw [if_neg hnd] at h
    cases h
    exact ⟨rfl, mk_good p s hlo hhi hp30 hnd⟩

theorem new_ok (p : Nat) (d : Div) (h : new p = some d) : d.p = p ∧ Ok d := by
  by_cases h2 : p = 2
  · subst h2
    rw [new_two] at h
    injection h with h
    subst h
    exact ⟨rfl, Or.inl rfl⟩
  · obtain ⟨h1, h3⟩ := new_good p d h h2
    exact ⟨h1, Or.inr h3⟩

theorem Ok.p_pos {d : Div} (h : Ok d) : 0 < d.p := by
  rcases h with rfl | g
  · decide
  · have := g.p3; omega

theorem Ok.p30 {d : Div} (h : Ok d) : d.p < 2 ^ 30 := by
  rcases h with rfl | g
  · decide
  · exact g.p30

theorem Ok.r64 {d : Div} (h : Ok d) : d.r64 = W % d.p := by
  rcases h with rfl | g
  · decide
  · exact g.r64

theorem himul_eq (d : Div) (n : Nat) (hn : n < 2 ^ 64) (hm : d.m64 < 2 ^ 64) :
    n * d.m64 / W % W / 2 ^ d.s64 = n * d.m64 / 2 ^ (64 + d.s64) := by
  have hW : W = 2 ^ 64 := W_eq
  have : n * d.m64 / W < W := by
    rw [Nat.div_lt_iff_lt_mul (by decide), hW]
    exact Nat.mul_lt_mul'' hn hm
  rw [Nat.mod_eq_of_lt this, Nat.div_div_eq_div_mul, hW, ← Nat.pow_add]

/-- The quotient estimate `q` of `divmod64` (`c = 2`: any `u64`) and of `modu63` (`c = 1`: top bit
clear): `⌊n/p⌋ ≤ q`, `q·p < n + c`, and `q·p` fits a word. -/
theorem Ok.estimate {d : Div} (h : Ok d) (n c : Nat) (hc : c ≤ 2) (hn : n < c * 2 ^ 63) :
    d.s64 < 64 ∧ n / d.p ≤ n * d.m64 / W % W / 2 ^ d.s64 ∧
      n * d.m64 / W % W / 2 ^ d.s64 * d.p < n + c ∧ n * d.m64 / W % W / 2 ^ d.s64 * d.p < W := by
  have hW : W = 2 ^ 64 := W_eq
  rcases h with rfl | g
  · -- `m64·p = 2^64` exactly: the estimate is `⌊n/2⌋`
    rw [himul_eq d2 n (by omega) (by decide)]
    obtain ⟨hlo, hhi⟩ := recip_div d2.p d2.m64 (2 ^ (64 + d2.s64)) n 1 (by decide) (by decide)
      (by decide) (by rw [show d2.m64 * d2.p - 2 ^ (64 + d2.s64) = 0 by decide, Nat.mul_zero]; decide)
    exact ⟨by decide, hlo, by omega, by omega⟩
  · rw [himul_eq d n (by omega) g.recip64.2.2.2, g.m64]
    obtain ⟨hlo, hhi⟩ := recip_pow_div d.p 63 d.s64 n c g.lo g.hi hn
    refine ⟨by have := g.s64; omega, hlo, hhi, ?_⟩
    -- `q·p ≤ n + 1 ≤ 2^64`, and `p ∤ 2^64`
    generalize n * (2 ^ (64 + d.s64) / d.p + 1) / 2 ^ (64 + d.s64) = q at *
    by_contra hge
    have hq : q * d.p = W := by omega
    exact g.r64nz (by rw [← hq]; exact Nat.mul_mod_left _ _)

theorem divmod64_ok (d : Div) (h : Ok d) (n : Nat) (hn : n < 2 ^ 64) :
    divmod64 d n = some (n / d.p, n % d.p) := by
  have hp0 := h.p_pos
  obtain ⟨hs, hlo, hhi, hqW⟩ := h.estimate n 2 le_rfl (by omega)
  unfold divmod64
  simp only []
  generalize n * d.m64 / W % W / 2 ^ d.s64 = q at *
  rw [if_neg (by omega), if_neg (by omega)]
  have e := Nat.div_add_mod n d.p
  have l := Nat.mod_lt n hp0
  by_cases hgt : q * d.p > n
  · -- the estimate is one too large: `q·p = n + 1`, so `n = (q - 1)·p + (p - 1)`
    have hq1 : q * d.p = n + 1 := by omega
    have hq0 : q ≠ 0 := by rintro rfl; simp at hq1
    have hu : n / d.p = q - 1 ∧ n % d.p = d.p - 1 := by
      rw [Nat.div_mod_unique hp0]
      refine ⟨?_, by omega⟩
      have : q * d.p = d.p * (q - 1) + d.p := by
        rw [Nat.mul_comm, ← Nat.mul_succ, Nat.succ_eq_add_one, Nat.sub_add_cancel (by omega)]
      omega
    rw [if_pos hgt, if_neg hq0, if_neg (by omega), hu.1, hu.2, show q * d.p - n = 1 by omega]
  · have hq : q = n / d.p :=
      Nat.le_antisymm ((Nat.le_div_iff_mul_le hp0).mpr (by omega)) hlo
    rw [if_neg hgt, hq, Nat.mod_def, Nat.mul_comm]

theorem modu63_ok (d : Div) (h : Ok d) (n : Nat) (hn : n < 2 ^ 63) :
    modu63 d n = some (n % d.p) := by
  have hp0 := h.p_pos
  obtain ⟨hs, hlo, hhi, hqW⟩ := h.estimate n 1 (by omega) (by omega)
  unfold modu63
  simp only []
  generalize n * d.m64 / W % W / 2 ^ d.s64 = q at *
  have hq : q = n / d.p :=
    Nat.le_antisymm ((Nat.le_div_iff_mul_le hp0).mpr (by omega)) hlo
  rw [if_neg (by rw [Nat.div_eq_of_lt hn]; exact fun h => h rfl), if_neg (by omega),
    if_neg (by omega), if_neg (by omega), hq, Nat.mod_def, Nat.mul_comm]

theorem modu16_ok (d : Div) (h : Ok d) (n : Nat) (hn : n < 2 ^ 16) :
    modu16 d n = some (n % d.p) := by
  rcases h with rfl | g
  · unfold modu16 d2
    simp
  have hW : W = 2 ^ 64 := W_eq
  have hp0 : 0 < d.p := by have := g.p3; omega
  unfold modu16
  simp only []
  have hnm : n * d.m16 < W := by
    rw [hW]
    calc n * d.m16 < 2 ^ 16 * 2 ^ 17 := Nat.mul_lt_mul_of_lt_of_le hn g.recip16.2.2.2 (by decide)
      _ < 2 ^ 64 := by decide
  obtain ⟨hlo, hhi⟩ : n / d.p ≤ n * d.m16 / 2 ^ d.s16 ∧ n * d.m16 / 2 ^ d.s16 * d.p < n + 1 := by
    rw [g.m16, g.s16]
    exact recip_pow_div d.p 16 d.s64 n 1 g.lo g.hi (by omega)
  have hq : n * d.m16 / 2 ^ d.s16 = n / d.p :=
    Nat.le_antisymm ((Nat.le_div_iff_mul_le hp0).mpr (by omega)) hlo
  have hle : n / d.p * d.p ≤ n := Nat.div_mul_le_self _ _
  have hq16 : n / d.p < 2 ^ 16 := lt_of_le_of_lt (Nat.div_le_self _ _) hn
  rw [if_neg (by have := g.p3; omega), if_neg (by omega), if_neg (by have := g.s16; have := g.s64; omega),
    hq, Nat.mod_eq_of_lt hq16]
  by_cases hp16 : d.p < 2 ^ 16
  · rw [Nat.mod_eq_of_lt hp16, if_neg (by omega), if_neg (by omega), Nat.mod_def n, Nat.mul_comm]
  · -- `p as u16` is a truncation, but then `n < p` and the quotient is 0
    rw [Nat.div_eq_of_lt (by omega), Nat.zero_mul, if_neg (by omega), if_neg (by omega),
      Nat.sub_zero, Nat.mod_eq_of_lt (by omega)]

theorem modi64_ok (d : Div) (h : Ok d) (n : Int) (hlo : -2 ^ 63 ≤ n) (hhi : n < 2 ^ 63) :
    ∃ r, modi64 d n = some r ∧ (r : Int) = n % (d.p : Int) := by
  have hp0 := h.p_pos
  unfold modi64
  by_cases hneg : n < 0
  · rw [if_pos hneg]
    obtain ⟨a, ha⟩ : ∃ a : Nat, n = -(a : Int) := ⟨(-n).toNat, by omega⟩
    subst ha
    have hto : (- -(a : Int)).toNat = a := by omega
    rw [hto, divmod64_ok d h a (by omega)]
    simp only []
    have l := Nat.mod_lt a hp0
    by_cases hm : a % d.p = 0
    · rw [if_pos hm]
      refine ⟨0, rfl, ?_⟩
      rw [Int.neg_emod, if_pos (Int.natCast_dvd_natCast.mpr (Nat.dvd_of_mod_eq_zero hm))]; rfl
    · rw [if_neg hm, if_neg (by omega)]
      refine ⟨_, rfl, ?_⟩
      rw [Int.neg_emod,
        if_neg (fun hd => hm (Nat.mod_eq_zero_of_dvd (Int.natCast_dvd_natCast.mp hd))),
        Int.natAbs_natCast, Nat.cast_sub l.le, Int.natCast_mod]
  · rw [if_neg hneg]
    obtain ⟨a, ha⟩ : ∃ a : Nat, n = (a : Int) := ⟨n.toNat, by omega⟩
    subst ha
    rw [Int.toNat_natCast, modu63_ok d h a (by omega)]
    exact ⟨_, rfl, by push_cast; rfl⟩

theorem fold64_ok (d : Div) (h : Ok d) (hiw low : Nat) (hh : hiw < W) (hl : low < W) :
    ∃ r, fold64 d hiw low = some r ∧ r < W ∧ r % d.p = (hiw * W + low) % d.p := by
  have hW : W = 2 ^ 64 := W_eq
  have hp0 := h.p_pos
  have hp30 := h.p30
  have hrlt : d.r64 < d.p := by rw [h.r64]; exact Nat.mod_lt _ hp0
  have hWr : d.r64 ≡ W [MOD d.p] := by rw [h.r64]; exact Nat.mod_modEq W d.p
  unfold fold64
  simp only []
  generalize d.r64 = r64 at *
  have hpr : hiw * r64 + low < W * (r64 + 1) :=
    calc hiw * r64 + low < hiw * r64 + W := Nat.add_lt_add_left hl _
      _ ≤ W * r64 + W := Nat.add_le_add_right (Nat.mul_le_mul_right _ hh.le) _
  have hph : (hiw * r64 + low) / W < r64 + 1 := Nat.div_lt_of_lt_mul hpr
  have e := Nat.div_add_mod (hiw * r64 + low) W
  have l := Nat.mod_lt (hiw * r64 + low) (by omega : 0 < W)
  -- `lo + ph·r64 ≡ lo + ph·2^64 = hiw·r64 + low ≡ hiw·2^64 + low`
  have hcls : (hiw * r64 + low) % W + (hiw * r64 + low) / W * r64 ≡ hiw * W + low [MOD d.p] :=
    calc _ ≡ (hiw * r64 + low) % W + (hiw * r64 + low) / W * W [MOD d.p] :=
          Nat.ModEq.add_left _ (Nat.ModEq.mul_left _ hWr)
      _ = hiw * r64 + low := by rw [Nat.add_comm, Nat.mul_comm]; exact e
      _ ≡ hiw * W + low [MOD d.p] := Nat.ModEq.add_right _ (Nat.ModEq.mul_left _ hWr)
  generalize (hiw * r64 + low) / W = ph at *
  generalize (hiw * r64 + low) % W = lo at *
  have hhi : ph * r64 < 2 ^ 60 :=
    calc ph * r64 ≤ r64 * r64 := Nat.mul_le_mul_right _ (Nat.le_of_lt_succ hph)
      _ < 2 ^ 30 * 2 ^ 30 := Nat.mul_lt_mul'' (by omega) (by omega)
  rw [if_neg (hpr.trans_le (Nat.mul_le_mul_left _ (by omega))).not_ge,
    Nat.mod_eq_of_lt (by omega : ph < W), if_neg (by omega)]
  by_cases hc : lo + ph * r64 ≥ W
  · -- a carry: the sum wraps to `sum - 2^64 < 2^60`, and `+ r64` cannot wrap again
    have hlt : lo + ph * r64 - W + r64 < W := by omega
    rw [if_pos hc, Nat.mod_eq_sub_mod hc,
      Nat.mod_eq_of_lt (Nat.lt_of_le_of_lt (Nat.le_add_right _ _) hlt), if_neg (Nat.not_le.mpr hlt)]
    refine ⟨_, rfl, hlt, ?_⟩
    have h4 : lo + ph * r64 - W + r64 ≡ lo + ph * r64 - W + W [MOD d.p] :=
      Nat.ModEq.add_left _ hWr
    rw [Nat.sub_add_cancel hc] at h4
    exact h4.trans hcls
  · rw [if_neg hc]
    exact ⟨_, rfl, by omega, hcls⟩

theorem modU128_ok (d : Div) (h : Ok d) (n : Nat) (hn : n < 2 ^ 128) :
    modU128 d n = some (n % d.p) := by
  have hW : W = 2 ^ 64 := W_eq
  have hWpos : 0 < W := by omega
  unfold modU128
  simp only []
  have e := Nat.div_add_mod n W
  have l := Nat.mod_lt n hWpos
  have hn1 : n / W < W := by
    rw [Nat.div_lt_iff_lt_mul hWpos, hW]; omega
  rw [Nat.mod_eq_of_lt hn1]
  by_cases h0 : n / W = 0
  · rw [if_pos h0, divmod64_ok d h _ (by omega)]
    simp only [Option.map_some]
    have : n % W = n := by rw [h0] at e; omega
    rw [this]
  · rw [if_neg h0]
    obtain ⟨r, hr, hrW, hrp⟩ := fold64_ok d h (n / W) (n % W) hn1 l
    rw [hr]
    simp only []
    rw [divmod64_ok d h r (by omega)]
    simp only [Option.map_some]
    rw [hrp]
    have : n / W * W + n % W = n := by rw [Nat.mul_comm]; exact e
    rw [this]

theorem W_mod_ne_zero_iff (p : Nat) (hp30 : p < 2 ^ 30) : W % p ≠ 0 ↔ ∀ k, p ≠ 2 ^ k := by
  have hW : W = 2 ^ 64 := W_eq
  constructor
  · intro h k hk
    apply h
    subst hk
    have hk30 : k < 30 := (Nat.pow_lt_pow_iff_right (by decide)).mp hp30
    rw [hW]
    exact Nat.mod_eq_zero_of_dvd (Nat.pow_dvd_pow 2 (by omega))
  · intro h h0
    have hd : p ∣ 2 ^ 64 := by rw [← hW]; exact Nat.dvd_of_mod_eq_zero h0
    obtain ⟨k, _, hk⟩ := (Nat.dvd_prime_pow Nat.prime_two).mp hd
    exact h k hk

end Ymq.Dividers
