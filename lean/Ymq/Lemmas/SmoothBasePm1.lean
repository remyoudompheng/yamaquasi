/-
The stage-1 exponent stream of `pm1_impl` over one list of numbers (C17), for a flush threshold
`thr` with `thr + 64 ≤ 1024`: no panic site is reached (no `u64` / `U1024` overflow), every
exponent fits its type, the product of the exponents used so far times the two pending blocks
grows by exactly `pow` at every number `p ≤ b1`, and at the first `p > b1` everything is flushed.
-/
import Ymq.Lemmas.SmoothBasePack

namespace Ymq.Pm1
open Ymq.Primes Ymq.SmoothBase

/-- the product of the exponents passed to `exp_modn` / `exp_modn_large` so far: `g` has been raised to it -/
def evProd (evs : List Ev) : Nat := (evs.map Ev.val).prod

/-- the exponent fits the type of the routine it is passed to (`u64`, `U1024`) -/
def EvOK : Ev → Prop
  | .small e => e < 2 ^ 64
  | .large e => e < 2 ^ 1024

/-- between two primes: both pending blocks are positive, `expblock` is a `u64`, and `expblock_lg` is below the flush threshold
(`bits ≤ thr`), so that one more `u64` block can be multiplied in without overflowing `U1024` when `thr + 64 ≤ 1024` -/
structure Inv (thr : Nat) (st : St) : Prop where
  exp_pos : 1 ≤ st.expblock
  exp_lt : st.expblock < 2 ^ 64
  lg_pos : 1 ≤ st.lg
  lg_lt : st.lg < 2 ^ thr
  ev_ok : ∀ e ∈ st.evs, EvOK e

/-- the exponent accumulated so far, pending blocks included -/
def total (st : St) : Nat := evProd st.evs * (st.expblock * st.lg)

theorem evProd_cons (e : Ev) (evs : List Ev) : evProd (e :: evs) = e.val * evProd evs := by
  simp [evProd]

theorem evProd_reverse (evs : List Ev) : evProd evs.reverse = evProd evs := by
  simp [evProd, List.prod_reverse]

theorem inv_st0 (thr : Nat) (hthr : 1 ≤ thr) : Inv thr st0 := by
  constructor
  · exact Nat.le_refl 1
  · show 1 < 2 ^ 64
    exact Nat.one_lt_two_pow (by decide)
  · exact Nat.le_refl 1
  · show 1 < 2 ^ thr
    exact Nat.one_lt_two_pow (by omega)
  · intro e he; simp [st0] at he

theorem total_st0 : total st0 = 1 := by simp [total, st0, evProd]

/-- the small-block flush: never overflows for `thr + 64 ≤ 1024` -/
theorem flushSmall_spec (thr b1 pow : Nat) (stop : Bool) (st : St) (hthr : thr + 64 ≤ 1024)
    (h : Inv thr st) (hpow : pow < 2 ^ 64) :
    ∃ st', flushSmall b1 pow stop st = some st' ∧ total st' = total st ∧
      1 ≤ st'.expblock ∧ st'.expblock < 2 ^ 64 ∧ (stop = true → st'.expblock = 1) ∧
      (stop = false → st'.expblock * pow < 2 ^ 64) ∧
      1 ≤ st'.lg ∧ st'.lg < 2 ^ 1024 ∧ (∀ e ∈ st'.evs, EvOK e) ∧ st'.pPrev = st.pPrev := by
  have he0 : st.expblock ≠ 0 := by have := h.exp_pos; omega
  have hlg1024 : st.lg < 2 ^ 1024 := by
    have := two_pow_thr_mul hthr h.lg_lt (Nat.one_lt_two_pow (by decide : 64 ≠ 0))
    simpa using this
  unfold flushSmall
  have hn : ¬ (stop = false ∧ st.expblock = 0) := fun hc => he0 hc.2
  rw [if_neg hn]
  by_cases hfl : stop = true ∨ 2 ^ (64 - bitlen st.expblock) ≤ pow
  · rw [if_pos hfl]
    by_cases hsm : b1 < 65536
    · rw [if_pos hsm]
      refine ⟨_, rfl, ?_, Nat.le_refl 1, Nat.one_lt_two_pow (by decide), fun _ => rfl,
        fun _ => by simpa using hpow, h.lg_pos, hlg1024, ?_, rfl⟩
      · simp only [total, evProd_cons, Ev.val]; ring
      · intro e he
        simp only [List.mem_cons] at he
        rcases he with rfl | he
        · exact h.exp_lt
        · exact h.ev_ok e he
    · rw [if_neg hsm]
      have hmul := two_pow_thr_mul hthr h.lg_lt h.exp_lt
      rw [if_pos hmul]
      refine ⟨_, rfl, ?_, Nat.le_refl 1, Nat.one_lt_two_pow (by decide), fun _ => rfl,
        fun _ => by simpa using hpow, ?_, hmul, h.ev_ok, rfl⟩
      · simp only [total]; ring
      · have : 1 * 1 ≤ st.lg * st.expblock := Nat.mul_le_mul h.lg_pos h.exp_pos
        simpa using this
  · rw [if_neg hfl]
    have hns : stop = false := by
      cases stop
      · rfl
      · exact absurd (Or.inl rfl) hfl
    have hfl2 : ¬ 2 ^ (64 - bitlen st.expblock) ≤ pow := fun hc => hfl (Or.inr hc)
    refine ⟨st, rfl, rfl, h.exp_pos, h.exp_lt, fun hs => ?_,
      fun _ => mul_lt_of_flush_test h.exp_lt hfl2, h.lg_pos, hlg1024, h.ev_ok, rfl⟩
    rw [hns] at hs; exact absurd hs (by decide)

theorem flushLg_spec (thr : Nat) (stop : Bool) (st : St) (hthr : 1 ≤ thr) (hlg1 : 1 ≤ st.lg)
    (hlg : st.lg < 2 ^ 1024) (hev : ∀ e ∈ st.evs, EvOK e) :
    total (flushLg thr stop st) = total st ∧ (flushLg thr stop st).expblock = st.expblock ∧
      (flushLg thr stop st).pPrev = st.pPrev ∧
      1 ≤ (flushLg thr stop st).lg ∧ (flushLg thr stop st).lg < 2 ^ thr ∧
      (stop = true → (flushLg thr stop st).lg = 1) ∧
      (∀ e ∈ (flushLg thr stop st).evs, EvOK e) := by
  unfold flushLg
  split
  · refine ⟨?_, rfl, rfl, Nat.le_refl 1, Nat.one_lt_two_pow (by omega), fun _ => rfl, ?_⟩
    · simp only [total, evProd_cons, Ev.val]; ring
    · intro e he
      simp only [List.mem_cons] at he
      rcases he with rfl | he
      · exact hlg
      · exact hev e he
  · rename_i hnot
    have hns : stop = false := by
      cases stop
      · rfl
      · exact absurd (Or.inl rfl) hnot
    refine ⟨rfl, rfl, rfl, hlg1, ?_, fun hs => ?_, hev⟩
    · exact lt_of_bitlen_le (by
        have : ¬ bitlen st.lg > thr := fun hc => hnot (Or.inr hc)
        omega)
    · rw [hns] at hs; exact absurd hs (by decide)

/-- one number: for `p ≤ b1` the accumulated exponent is multiplied by `pow`; at the first `p > b1` both pending blocks are
flushed and the loop is left -/
theorem step_spec (thr b1 : Nat) (st : St) (p pow : Nat) (hthr : thr + 64 ≤ 1024) (hthr1 : 1 ≤ thr) (h : Inv thr st)
    (hpow : powBelow 64 p p b1 = some pow) (hpos : 1 ≤ pow) (hpow64 : pow < 2 ^ 64) :
    ∃ st', step thr b1 st p = some (st', decide (p > b1)) ∧ Inv thr st' ∧ st'.pPrev = p % 2 ^ 32 ∧
      (p ≤ b1 → total st' = total st * pow) ∧ (p > b1 → total st' = total st ∧ st'.expblock = 1 ∧ st'.lg = 1) := by
  obtain ⟨st1, e1, t1, x1, x2, x3, x4, l1, l2, ev1, _⟩ :=
    flushSmall_spec thr b1 pow (decide (p > b1)) st hthr h hpow64
  obtain ⟨t2, x5, _, l3, l4, l5, ev2⟩ := flushLg_spec thr (decide (p > b1)) st1 hthr1 l1 l2 ev1
  unfold step
  rw [hpow]
  simp only [e1]
  by_cases hle : p ≤ b1
  · have hstop : decide (p > b1) = false := by simp; omega
    rw [hstop] at x4 t2 x5 l3 l4 ev2 ⊢
    simp only [Bool.false_eq_true, if_false]
    have hm : (flushLg thr false st1).expblock * pow < 2 ^ 64 := by rw [x5]; exact x4 rfl
    rw [if_pos hm]
    refine ⟨_, rfl, ⟨?_, hm, l3, l4, ev2⟩, rfl, fun _ => ?_, fun hgt => absurd hle (by omega)⟩
    · show 1 ≤ (flushLg thr false st1).expblock * pow
      rw [x5]
      have : 1 * 1 ≤ st1.expblock * pow := Nat.mul_le_mul x1 hpos
      simpa using this
    · simp only [total] at t1 t2 ⊢
      rw [x5] at t2 ⊢
      have : evProd (flushLg thr false st1).evs * (st1.expblock * pow * (flushLg thr false st1).lg) =
          evProd (flushLg thr false st1).evs * (st1.expblock * (flushLg thr false st1).lg) * pow := by
        ring
      rw [this, t2, t1]
  · have hstop : decide (p > b1) = true := by simp; omega
    rw [hstop] at x3 t2 x5 l3 l4 l5 ev2 ⊢
    simp only [if_true]
    refine ⟨_, rfl, ⟨?_, ?_, l3, l4, ev2⟩, rfl, fun hle' => absurd hle' hle, fun _ => ⟨?_, ?_, l5 rfl⟩⟩
    · show 1 ≤ (flushLg thr true st1).expblock
      rw [x5]; exact x1
    · show (flushLg thr true st1).expblock < 2 ^ 64
      rw [x5]; exact x2
    · show total (flushLg thr true st1) = total st
      rw [t2, t1]
    · show (flushLg thr true st1).expblock = 1
      rw [x5]; exact x3 rfl

/-- **Inner loop.** For a strictly increasing list of numbers `2 ≤ p < 2^32`: no panic; if the loop
was left at a number `> b1` both pending blocks are empty; otherwise every list element is `≤ b1`.
In both cases `p` and every `p^k < b1` divide the accumulated exponent for every element `p ≤ b1`. -/
theorem block_spec (thr b1 : Nat) (hthr : thr + 64 ≤ 1024) (hthr1 : 1 ≤ thr) (hb : b1 < 2 ^ 32) :
    ∀ ps st, Inv thr st → (∀ p ∈ ps, 2 ≤ p ∧ p < 2 ^ 32) → ps.Pairwise (· < ·) →
      st.pPrev ≤ b1 →
      ∃ st' fl, block thr b1 ps st = some (st', fl) ∧ Inv thr st' ∧ total st ∣ total st' ∧
        (∀ p ∈ ps, p ≤ b1 → p ∣ total st' ∧ ∀ k, p ^ k < b1 → p ^ k ∣ total st') ∧
        (fl = true → st'.expblock = 1 ∧ st'.lg = 1 ∧ st'.pPrev > b1 ∧ ∃ q ∈ ps, q > b1) ∧
        (fl = false → st'.pPrev ≤ b1 ∧ ∀ p ∈ ps, p ≤ b1) := by
  intro ps
  induction ps with
  | nil =>
    intro st h _ _ hpp
    exact ⟨st, false, rfl, h, dvd_refl _, by simp, by simp, fun _ => ⟨hpp, by simp⟩⟩
  | cons p ps ih =>
    intro st h hps hsort hpp
    rw [List.pairwise_cons] at hsort
    have hp2 := (hps p (by simp)).1
    have hp32 := (hps p (by simp)).2
    obtain ⟨pow, hpow, hpos, hlt, hpdvd, hkdvd⟩ := powBelow_start b1 p (Nat.le_of_lt hb) hp2 hp32
    obtain ⟨st1, hs1, hi1, hp1, hgo, hstop⟩ := step_spec thr b1 st p pow hthr hthr1 h hpow hpos (by omega)
    unfold block
    by_cases hle : p ≤ b1
    · have ht1 := hgo hle
      rw [hs1, decide_eq_false (by omega)]
      simp only
      have hpp1 : st1.pPrev ≤ b1 := by
        rw [hp1, Nat.mod_eq_of_lt hp32]; exact hle
      obtain ⟨st', fl, hs', hi', hd', hall, hT, hF⟩ :=
        ih st1 hi1 (fun q hq => hps q (by simp [hq])) hsort.2 hpp1
      have hd1 : total st ∣ total st1 := by rw [ht1]; exact Dvd.intro _ rfl
      have hpowd : pow ∣ total st1 := by rw [ht1]; exact Dvd.intro_left _ rfl
      refine ⟨st', fl, hs', hi', dvd_trans hd1 hd', ?_, ?_, ?_⟩
      · intro q hq hqb
        simp only [List.mem_cons] at hq
        rcases hq with rfl | hq
        · exact ⟨dvd_trans (dvd_trans hpdvd hpowd) hd',
            fun k hk => dvd_trans (dvd_trans (hkdvd k hk) hpowd) hd'⟩
        · exact hall q hq hqb
      · intro hfl
        obtain ⟨a, b, c, q, hq, hqb⟩ := hT hfl
        exact ⟨a, b, c, q, by simp [hq], hqb⟩
      · intro hfl
        obtain ⟨a, b⟩ := hF hfl
        refine ⟨a, ?_⟩
        intro q hq
        simp only [List.mem_cons] at hq
        rcases hq with rfl | hq
        · exact hle
        · exact b q hq
    · have hgt : p > b1 := Nat.lt_of_not_le hle
      obtain ⟨ht1, he1, hl1⟩ := hstop hgt
      rw [hs1, decide_eq_true hgt]
      simp only
      refine ⟨st1, true, rfl, hi1, by rw [ht1], ?_, ?_, by simp⟩
      · intro q hq hqb
        simp only [List.mem_cons] at hq
        rcases hq with rfl | hq
        · omega
        · have := hsort.1 q hq; omega
      · intro _
        refine ⟨he1, hl1, ?_, p, by simp, hgt⟩
        rw [hp1, Nat.mod_eq_of_lt hp32]; exact hgt

end Ymq.Pm1
