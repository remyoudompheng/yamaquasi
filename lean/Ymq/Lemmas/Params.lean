/- Helper lemmas for C20: specifications of the library functions of Ymq/Model/Checked.lean
(integer square root, modular exponentiation, nearest-row selection, partition point), small arithmetic facts
used to lift the finite `decide` checks, and the loop by which bounded sweeps are decided.
The statements from which Ymq/Props/C20.lean reads its theorems off are in four modules of their own (so that lake checks them
in parallel): ParamsDec1 `select_fb_size` on any table and the three tables of the source; ParamsDec2 the sweeps over `sz ≤ 520`
of the functions about which several properties are stated; ParamsDec3 the number of NTT primes `mzp_w`; ParamsDec4 cascades of
rectangular guards (`Arms`) and the dispatch of `convolve_modn`. -/
import Ymq.Model.Checked
import Ymq.Lemmas.BinPow
import Ymq.Lemmas.Bits
import Mathlib.Tactic.Ring
import Mathlib.Tactic.Linarith
import Mathlib.Data.Nat.ModEq

namespace Ymq.Checked

theorem isqrtAux_spec (k : Nat) : ∀ r n, r * r ≤ n → n < (r + 2 ^ k) * (r + 2 ^ k) →
    isqrtAux k r n * isqrtAux k r n ≤ n ∧ n < (isqrtAux k r n + 1) * (isqrtAux k r n + 1) :=
  Bits.isqrtAux_spec isqrtAux (fun _ _ => rfl) (fun _ _ _ => rfl) k

theorem isqrt_spec (n : Nat) (h : n < 2 ^ 64) :
    isqrt n * isqrt n ≤ n ∧ n < (isqrt n + 1) * (isqrt n + 1) := by
  unfold isqrt
  apply isqrtAux_spec 32 0 n (by omega)
  have : (0 + 2 ^ 32) * (0 + 2 ^ 32) = 2 ^ 64 := by norm_num
  omega

theorem powmodAux_spec (m f acc b e : Nat) (he : e < 2 ^ f) :
    powmodAux f acc b e m ≡ acc * b ^ e [MOD m] ∧
      (acc % m = acc → powmodAux f acc b e m % m = powmodAux f acc b e m) :=
  BinPow.loop_mod m (F := fun f x s e => powmodAux f x s e m) (fun _ _ _ => rfl) (fun _ _ _ _ => rfl) f e acc b he

theorem powmod_eq (a e m : Nat) (he : e < 2 ^ 64) : powmod a e m = a ^ e % m := by
  unfold powmod
  obtain ⟨h1, h2⟩ := powmodAux_spec m 64 (1 % m) (a % m) e he
  have h3 : 1 % m * (a % m) ^ e ≡ a ^ e [MOD m] := by
    have := ((Nat.mod_modEq 1 m).mul ((Nat.mod_modEq a m).pow e))
    simpa using this
  rw [← h2 (Nat.mod_mod _ _)]
  exact h1.trans h3

theorem nearestAux_mem (num den : Nat) : ∀ (rs : List (Nat × Nat × Nat)) (best : Nat × Nat × Nat),
    nearestAux num den best rs ∈ best :: rs := by
  intro rs
  induction rs with
  | nil => intro best; simp [nearestAux]
  | cons r rs ih =>
    intro best
    unfold nearestAux
    split
    · have := ih r; simp only [List.mem_cons] at this ⊢; tauto
    · have := ih best; simp only [List.mem_cons] at this ⊢; tauto

theorem nearestAux_min (num den : Nat) : ∀ (rs : List (Nat × Nat × Nat)) (best : Nat × Nat × Nat),
    ∀ r ∈ best :: rs, absDiff ((nearestAux num den best rs).1 * den) num ≤ absDiff (r.1 * den) num := by
  intro rs
  induction rs with
  | nil => intro best r hr; simp [nearestAux] at hr ⊢; subst hr; exact le_refl _
  | cons x rs ih =>
    intro best r hr
    unfold nearestAux
    split
    · next hlt =>
      have h := ih x
      rcases List.mem_cons.1 hr with rfl | hr'
      · exact le_trans (h x (by simp)) (le_of_lt hlt)
      · exact h r hr'
    · next hge =>
      have h := ih best
      rcases List.mem_cons.1 hr with rfl | hr'
      · exact h r (by simp)
      · rcases List.mem_cons.1 hr' with rfl | hr''
        · exact le_trans (h best (by simp)) (by omega)
        · exact h r (by simp [hr''])

theorem nearestRow_spec (t : List (Nat × Nat × Nat)) (ht : t ≠ []) (num den : Nat) :
    ∃ row, nearestRow t num den = some row ∧ row ∈ t ∧
      ∀ r ∈ t, absDiff (row.1 * den) num ≤ absDiff (r.1 * den) num := by
  cases t with
  | nil => exact absurd rfl ht
  | cons r rs =>
    exact ⟨_, rfl, nearestAux_mem num den rs r, nearestAux_min num den rs r⟩

/-- `partitionPoint` stops at the first element that fails `p`: everything before it satisfies `p` (no sortedness needed) -/
theorem partitionPoint_spec {α} (p : α → Bool) : ∀ (l : List α),
    partitionPoint p l ≤ l.length ∧ (∀ i x, i < partitionPoint p l → l[i]? = some x → p x = true) ∧
      ∀ x, l[partitionPoint p l]? = some x → p x = false
  | [] => ⟨Nat.le_refl _, fun _ _ h => absurd h (Nat.not_lt_zero _), fun _ h => by simp at h⟩
  | y :: ys => by
    obtain ⟨h1, h2, h3⟩ := partitionPoint_spec p ys
    unfold partitionPoint
    split
    · next hy =>
      refine ⟨by simp only [List.length_cons]; omega, ?_, ?_⟩
      · intro i x hi hx
        cases i with
        | zero => simp only [List.getElem?_cons_zero, Option.some.injEq] at hx; exact hx ▸ hy
        | succ i => exact h2 i x (by omega) (by simpa using hx)
      · intro x hx
        rw [Nat.add_comm, List.getElem?_cons_succ] at hx
        exact h3 x hx
    · next hy =>
      refine ⟨Nat.zero_le _, fun _ _ h => absurd h (Nat.not_lt_zero _), ?_⟩
      intro x hx
      simp only [List.getElem?_cons_zero, Option.some.injEq] at hx
      exact hx ▸ (Bool.eq_false_iff.2 hy)

theorem cmul_some {w a b : Nat} (h : a * b < 2 ^ w) : cmul w a b = some (a * b) := by simp [cmul, h]
theorem csub_some {a b : Nat} (h : b ≤ a) : csub a b = some (a - b) := by simp [csub, h]
theorem cadd_some {w a b : Nat} (h : a + b < 2 ^ w) : cadd w a b = some (a + b) := by simp [cadd, h]
theorem cdiv_some {a b : Nat} (h : b ≠ 0) : cdiv a b = some (a / b) := by simp [cdiv, h]

theorem holds_some {α} {a : α} {p : α → Prop} : Holds (some a) p ↔ p a :=
  ⟨fun ⟨_, e, h⟩ => Option.some.inj e ▸ h, fun h => ⟨a, rfl, h⟩⟩

theorem Holds.imp {α} {o : Option α} {p q : α → Prop} (h : Holds o p) (hpq : ∀ a, p a → q a) : Holds o q := by
  obtain ⟨a, ha, hp⟩ := h; exact ⟨a, ha, hpq a hp⟩

theorem bitlen_le {n k : Nat} (h : n < 2 ^ k) : bitlen n ≤ k :=
  (Bits.bitlen_le_iff bitlen (fun _ => rfl) n k).2 h

theorem double_bound_fits (B D : Nat) (hB : B < 2 ^ 24) (hD : D ≤ 2 ^ 16) : B * B * D < 2 ^ 64 := by
  have h1 : B * B ≤ (2 ^ 24 - 1) * (2 ^ 24 - 1) := Nat.mul_le_mul (by omega) (by omega)
  calc B * B * D ≤ (2 ^ 24 - 1) * (2 ^ 24 - 1) * 2 ^ 16 := Nat.mul_le_mul h1 hD
    _ < 2 ^ 64 := by norm_num

end Ymq.Checked

namespace Ymq.C20

def allLE : Nat → (Nat → Bool) → Bool
  | 0, f => f 0
  | n + 1, f => f (n + 1) && allLE n f

theorem allLE_iff {n : Nat} {f : Nat → Bool} : allLE n f = true ↔ ∀ i, i ≤ n → f i = true := by
  induction n with
  | zero => simp [allLE]
  | succ n ih =>
    rw [allLE, Bool.and_eq_true, ih]
    constructor
    · rintro ⟨h0, h⟩ i hi
      rcases Nat.le_succ_iff.1 hi with hi | rfl
      · exact h i hi
      · exact h0
    · exact fun h => ⟨h _ (Nat.le_refl _), fun i hi => h i (Nat.le_succ_of_le hi)⟩

/-- Decides `∀ i ≤ n, p i` by the loop `allLE`.  The kernel runs it with less overhead than core's
`Nat.decidableBallLE`, whose recursion carries a proof and re-wraps the predicate at every step;
`decide +kernel` picks this instance inside `Ymq.C20`. -/
scoped instance (priority := high) decidableBallLE (n : Nat) (p : Nat → Prop) [DecidablePred p] :
    Decidable (∀ i, i ≤ n → p i) :=
  decidable_of_iff (allLE n (fun i => decide (p i)) = true) (by simp [allLE_iff])

end Ymq.C20
