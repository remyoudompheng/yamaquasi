/- `reduce64`: the checked i64 operations, the loop body as its three-way branch on the quotient, and the
quotient step as one signed step (`NearQ`). -/
import Ymq.Lemmas.Gcd
import Mathlib.Tactic.LinearCombination

namespace Ymq.Gcd

theorem reduce64Exit_some {a b c d : Int} {r} (h : reduce64Exit a b c d = some r) :
    r = (a, b, c, d) ∧ a.natAbs ≤ 2 ^ 36 ∧ b.natAbs ≤ 2 ^ 36 ∧ c.natAbs ≤ 2 ^ 36 ∧ d.natAbs ≤ 2 ^ 36 := by
  unfold reduce64Exit at h
  split at h
  · rename_i hb; simp at h; exact ⟨h.symm, hb⟩
  · simp at h

theorem mulSub64_some {p c a r : Int} (h : mulSub64 p c a = some r) :
    r = p * c - a ∧ -I63 ≤ p * c ∧ p * c < I63 ∧ -I63 ≤ r ∧ r < I63 := by
  unfold mulSub64 at h
  split at h
  · simp at h
  · rename_i t ht
    have h1 := chkI64_some ht
    have h2 := chkI64_some h
    rw [h1.1] at h2
    exact ⟨h2.1, h1.2.1, h1.2.2, by rw [h2.1]; exact h2.2.1, by rw [h2.1]; exact h2.2.2⟩

theorem subMul64_some {a q c r : Int} (h : subMul64 a q c = some r) :
    r = a - q * c ∧ -I63 ≤ q * c ∧ q * c < I63 ∧ -I63 ≤ r ∧ r < I63 := by
  unfold subMul64 at h
  split at h
  · simp at h
  · rename_i t ht
    have h1 := chkI64_some ht
    have h2 := chkI64_some h
    rw [h1.1] at h2
    exact ⟨h2.1, h1.2.1, h1.2.2, by rw [h2.1]; exact h2.2.1, by rw [h2.1]; exact h2.2.2⟩

-- 9223372036854775808 = 2^63
theorem asI64_small {v : Nat} (h : v < 9223372036854775808) : asI64 v = (v : Int) := by
  unfold asI64; rw [if_pos h]

/-- the loop body when no swap is needed (`v <= u`, `u` a 64-bit word, `v >= 2^24`): the quotient
`u / v < 2^40` and `q + 1` fit i64, so the body is its three-way branch on `q = u / v`, `r = u % v` -/
theorem reduce64Body_quot {x y : Nat} {a b c d : Int} {u v : Nat} (hvu : ¬ u < v) (hu : u < W)
    (hv : 2 ^ 24 ≤ v) :
    reduce64Body x y a b c d u v =
      if c = -I63 ∨ d = -I63 then none
      else if bits (u / v + 1) + bits (max c.natAbs d.natAbs) > 36 then some .brk
      else if u % v > v / 2 then
        match mulSub64 ((u / v : Nat) + 1) c a, mulSub64 ((u / v : Nat) + 1) d b with
        | some c', some d' =>
          if c * x + d * y ≠ v ∨ c' * x + d' * y ≠ ((v - u % v : Nat) : Int) then none
          else some (.cont c d c' d' v (v - u % v))
        | _, _ => none
      else
        match subMul64 a (u / v : Nat) c, subMul64 b (u / v : Nat) d with
        | some c', some d' =>
          if c * x + d * y ≠ v ∨ c' * x + d' * y ≠ ((u % v : Nat) : Int) then none
          else some (.cont c d c' d' v (u % v))
        | _, _ => none := by
  have hq : u / v < 2 ^ 40 := by
    have : u / v ≤ u / 2 ^ 24 := Nat.div_le_div_left hv (by decide)
    have : u / 2 ^ 24 < 2 ^ 40 := by
      rw [Nat.div_lt_iff_lt_mul (by decide)]; unfold W at hu; omega
    omega
  have hI : I63 = 9223372036854775808 := rfl
  unfold reduce64Body
  rw [if_neg hvu]
  generalize u / v = q at *
  have e : (((q : Int) + 1) % (W : Int)).toNat = q + 1 := by
    have hW : (W : Int) = 18446744073709551616 := by simp [W]
    rw [hW, Int.emod_eq_of_lt (by omega) (by omega)]; omega
  simp only [asI64_small (show q < 9223372036854775808 by omega),
    chkI64_of_range (show -I63 ≤ (q : Int) + 1 by rw [hI]; omega)
      (show (q : Int) + 1 < I63 by rw [hI]; omega), e]
  rfl

/-- The quotient step on `0 < y ≤ x`, as `reduce64` and `gcd_internal` both perform it: nearest-integer multiplier `k`
(ties down), `e` the sign of `k y - x`, new value `y' = |k y - x|`. Rounding up is `e = 1`, `k = x / y + 1`, new row
`k * row2 - row1`; rounding down is `e = -1`, `k = x / y`, new row `row1 - k * row2`: in both the new row is
`e * (k * row2 - row1)`, so a property of the step is proved once, for a sign `e`. -/
structure NearQ (x y : Nat) (e k : Int) (y' : Nat) : Prop where
  sign : e = 1 ∨ e = -1
  val : (y' : Int) = e * (k * y - x)
  half : 2 * y' ≤ y
  up : e = 1 → 0 < y' ∧ 2 * y' < y ∧ k = ((x / y : Nat) : Int) + 1
  down : e = -1 → k = ((x / y : Nat) : Int)

theorem nearQ_cases {x y : Nat} (hy : 0 < y) :
    (y < 2 * (x % y) ∧ NearQ x y 1 ((x / y : Nat) + 1) (y - x % y)) ∨
    (2 * (x % y) ≤ y ∧ NearQ x y (-1) (x / y : Nat) (x % y)) := by
  have hrlt : x % y < y := Nat.mod_lt _ hy
  have hI : (x : Int) = y * ((x / y : Nat) : Int) + ((x % y : Nat) : Int) := by
    exact_mod_cast (Nat.div_add_mod x y).symm
  by_cases h : y < 2 * (x % y)
  · exact Or.inl ⟨h, Or.inl rfl, by rw [Nat.cast_sub hrlt.le]; linear_combination hI, by omega,
      fun _ => ⟨by omega, by omega, rfl⟩, fun h => absurd h (by decide)⟩
  · exact Or.inr ⟨by omega, Or.inr rfl, by linear_combination (-1 : Int) * hI, by omega,
      fun h => absurd h (by decide), fun _ => rfl⟩

theorem NearQ.klo {x y : Nat} {e k : Int} {y' : Nat} (h : NearQ x y e k y') : ((x / y : Nat) : Int) ≤ k := by
  rcases h.sign with he | he
  · have := (h.up he).2.2; omega
  · have := h.down he; omega

theorem NearQ.khi {x y : Nat} {e k : Int} {y' : Nat} (h : NearQ x y e k y') : k ≤ ((x / y : Nat) : Int) + 1 := by
  rcases h.sign with he | he
  · have := (h.up he).2.2; omega
  · have := h.down he; omega

theorem sign_mul_self {e : Int} (he : e = 1 ∨ e = -1) : e * e = 1 := by rcases he with rfl | rfl <;> rfl

theorem NearQ.facts {x y : Nat} {e k : Int} {y' : Nat} (h : NearQ x y e k y') (hyx : y ≤ x) :
    0 ≤ k ∧ k * y - x = e * y' ∧ 2 * (y' : Int) ≤ x ∧ k * y ≤ 2 * x ∧
    (e = 1 → (3 : Int) ≤ y ∧ 2 * (k * y) ≤ 3 * x) ∧ (e = -1 → k * y ≤ x) := by
  have hv := h.val
  have hh := h.half
  have hk : 0 ≤ k := le_trans (Int.natCast_nonneg _) h.klo
  rcases h.sign with rfl | rfl
  · obtain ⟨u1, u2, _⟩ := h.up rfl
    generalize k * (y : Int) = ky at hv ⊢
    refine ⟨hk, ?_, ?_, ?_, fun _ => ⟨?_, ?_⟩, fun h => ?_⟩ <;> omega
  · generalize k * (y : Int) = ky at hv ⊢
    refine ⟨hk, ?_, ?_, ?_, fun h => ?_, fun _ => ?_⟩ <;> omega

theorem Unimod.quot {a b c d e k : Int} (h : Unimod a b c d) (he : e = 1 ∨ e = -1) :
    Unimod c d (e * (k * c - a)) (e * (k * d - b)) := by
  have : c * (e * (k * d - b)) - d * (e * (k * c - a)) = e * (a * d - b * c) := by ring
  unfold Unimod at *
  rw [this]
  rcases he with rfl | rfl <;> rcases h with h | h <;> rw [h] <;> simp

theorem guard_ge {u : Nat} (h : u / 2 ^ 24 > 0) : 2 ^ 24 ≤ u := by
  have := (Nat.div_pos_iff (a := u) (b := 2 ^ 24)).1 h; omega

end Ymq.Gcd
