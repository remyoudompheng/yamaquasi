/-
The reference echelon builder in plain modular arithmetic (`EchP`, Ymq/Model/IntMat.lean): the
elimination loop, the invariant kept by `add`, and what one call of `add` can do on a state that
satisfies it.
-/
import Ymq.Model.IntMat
import Ymq.Lemmas.IntMatEchDet
import Ymq.Lemmas.IntMatPerm
import Ymq.Lemmas.IntMatCrt
import Mathlib.Data.ZMod.Basic
import Mathlib.Data.List.GetD
import Mathlib.Data.Nat.Prime.Basic
import Mathlib.Algebra.Module.Pi
import Mathlib.Tactic.Ring
import Mathlib.Tactic.Linarith

namespace Ymq.IntMat

/-- a list of residues as a vector over `Z/p` (`n` columns; missing entries count as 0) -/
def vecN (p n : Nat) (l : List Nat) : Fin n → ZMod p := fun c => ((l.getD c 0 : Nat) : ZMod p)

/-- a list of integers as a vector over `Z/p` -/
def vecI (p n : Nat) (l : List Int) : Fin n → ZMod p := fun c => ((l.getD c 0 : Int) : ZMod p)

theorem vecN_apply (p n : Nat) (l : List Nat) (c : Fin n) (hc : (c : Nat) < l.length) :
    vecN p n l c = ((l[(c : Nat)] : Nat) : ZMod p) := by
  simp [vecN, List.getD_eq_getElem?_getD, List.getElem?_eq_getElem hc]

theorem rowSubMul_length (p : Nat) (v w : List Nat) (m : Nat) (h : v.length = w.length) :
    (rowSubMul p v w m).length = v.length := by
  simp [rowSubMul, h]

theorem cast_subMul (p a m b : Nat) (hp : 0 < p) :
    (((a + (p - m * b % p)) % p : Nat) : ZMod p) = (a : ZMod p) - (m : ZMod p) * (b : ZMod p) := by
  have hle : m * b % p ≤ p := Nat.le_of_lt (Nat.mod_lt _ hp)
  rw [ZMod.natCast_mod, Nat.cast_add, Nat.cast_sub hle, ZMod.natCast_self, ZMod.natCast_mod, Nat.cast_mul]
  ring

theorem rowSubMul_vec (p n : Nat) (hp : 0 < p) (v w : List Nat) (m : Nat) (hv : v.length = n) (hw : w.length = n) :
    vecN p n (rowSubMul p v w m) = vecN p n v - ((m : Nat) : ZMod p) • vecN p n w := by
  funext c
  have hc1 : (c : Nat) < v.length := by rw [hv]; exact c.2
  have hc2 : (c : Nat) < w.length := by rw [hw]; exact c.2
  have hc3 : (c : Nat) < (rowSubMul p v w m).length := by rw [rowSubMul_length p v w m (by omega)]; exact hc1
  rw [Pi.sub_apply, Pi.smul_apply, vecN_apply _ _ _ _ hc3, vecN_apply _ _ _ _ hc1, vecN_apply _ _ _ _ hc2, smul_eq_mul]
  simp only [rowSubMul, List.getElem_zipWith]
  exact cast_subMul p _ m _ hp

theorem rowSubMul_lt (p : Nat) (hp : 0 < p) (v w : List Nat) (m : Nat) : ∀ x ∈ rowSubMul p v w m, x < p := by
  intro x hx
  obtain ⟨i, hi, rfl⟩ := List.getElem_of_mem hx
  simp only [rowSubMul, List.getElem_zipWith]
  exact Nat.mod_lt _ hp

theorem apply_eq_zero_of_mem_span {p n : Nat} {S : Set (Fin n → ZMod p)} {c : Fin n} (hS : ∀ x ∈ S, x c = 0)
    {u : Fin n → ZMod p} (hu : u ∈ Submodule.span (ZMod p) S) : u c = 0 := by
  induction hu using Submodule.span_induction with
  | mem x hx => exact hS x hx
  | zero => rfl
  | add x y _ _ hx hy => rw [Pi.add_apply, hx, hy, add_zero]
  | smul a x _ hx => rw [Pi.smul_apply, hx, smul_zero]

/-- **the elimination loop** on a reduced vector, against rows in echelon form (`piv a` is the pivot
column of the `a`-th row: `1` there, `0` on the pivots of the rows before): no index panic, the
result is reduced, it is `vp` minus a combination of the rows, and it vanishes on every pivot column. -/
theorem elimP_run (p n : Nat) (hp : 0 < p) : ∀ (rows : List (List Nat)) (idxs : List Nat) (piv : Nat → Fin n)
    (vp : List Nat), vp.length = n → (∀ x ∈ vp, x < p) → (∀ r ∈ rows, r.length = n) →
    (∀ a, a < rows.length → idxs[a]? = some ((piv a : Fin n) : Nat)) →
    ∃ vp', elimP p rows idxs vp = some vp' ∧ vp'.length = n ∧ (∀ x ∈ vp', x < p) ∧
    ((∀ a, a < rows.length → vecN p n (rows.getD a []) (piv a) = 1) →
     (∀ a b, a < b → b < rows.length → vecN p n (rows.getD b []) (piv a) = 0) →
      vecN p n vp - vecN p n vp' ∈ Submodule.span (ZMod p) {x | x ∈ rows.map (vecN p n)} ∧
      (∀ a, a < rows.length → vecN p n vp' (piv a) = 0))
  | [], idxs, piv, vp, hl, hlt, _, _ =>
    ⟨vp, rfl, hl, hlt, fun _ _ => ⟨by rw [sub_self]; exact Submodule.zero_mem _, fun a ha => by simp at ha⟩⟩
  | row :: rows, [], piv, vp, hl, _, _, hidx => by
    have := hidx 0 (by simp)
    simp at this
  | row :: rows, idx :: idxs, piv, vp, hl, hlt, hrl, hidx => by
    unfold elimP
    have hrow : row.length = n := hrl row (by simp)
    have hidx0 : idx = ((piv 0 : Fin n) : Nat) := Option.some.inj (hidx 0 (Nat.succ_pos _))
    have hidxn : idx < vp.length := by rw [hl, hidx0]; exact (piv 0).2
    rw [List.getElem?_eq_getElem hidxn]
    simp only []
    set vp1 := (if vp[idx] = 0 then vp else rowSubMul p vp row vp[idx]) with hvp1
    have hl1 : vp1.length = n := by
      rw [hvp1]; split
      · exact hl
      · rw [rowSubMul_length p vp row _ (by omega)]; exact hl
    have hlt1 : ∀ x ∈ vp1, x < p := by
      rw [hvp1]; split
      · exact hlt
      · exact rowSubMul_lt p hp vp row _
    have hv1 : vecN p n vp1 = vecN p n vp - ((vp[idx] : Nat) : ZMod p) • vecN p n row := by
      rw [hvp1]; split
      · rename_i h0; rw [h0]; simp
      · exact rowSubMul_vec p n hp vp row _ hl hrow
    obtain ⟨vp', hrun, ih1, ihlt, ih⟩ := elimP_run p n hp rows idxs (fun a => piv (a + 1)) vp1 hl1 hlt1
      (fun r hr => hrl r (by simp [hr])) (fun a ha => hidx (a + 1) (Nat.succ_lt_succ ha))
    refine ⟨vp', hrun, ih1, ihlt, fun hone hzero => ?_⟩
    obtain ⟨ih2, ih4⟩ := ih (fun a ha => hone (a + 1) (Nat.succ_lt_succ ha))
      (fun a b hab hb => hzero (a + 1) (b + 1) (Nat.succ_lt_succ hab) (Nat.succ_lt_succ hb))
    have hone0 : vecN p n row (piv 0) = 1 := hone 0 (Nat.succ_pos _)
    have hpiv0 : vecN p n vp (piv 0) = ((vp[idx] : Nat) : ZMod p) := by
      rw [vecN_apply _ _ _ _ (by rw [← hidx0]; exact hidxn)]
      simp [hidx0]
    have hv1p : vecN p n vp1 (piv 0) = 0 := by
      rw [hv1, Pi.sub_apply, Pi.smul_apply, hone0, hpiv0]; simp
    refine ⟨?_, ?_⟩
    · -- vp - vp' = vi • row + (vp1 - vp')
      rw [show vecN p n vp - vecN p n vp' = ((vp[idx] : Nat) : ZMod p) • vecN p n row + (vecN p n vp1 - vecN p n vp') by
        rw [hv1]; abel]
      exact Submodule.add_mem _ (Submodule.smul_mem _ _ (Submodule.subset_span List.mem_cons_self))
        (Submodule.span_mono (fun x hx => List.mem_cons_of_mem _ hx) ih2)
    · intro a ha
      cases a with
      | zero =>
        -- all later rows vanish on the first pivot, so `vp'` has there what `vp1` has: `0`
        have := apply_eq_zero_of_mem_span (c := piv 0) (fun x hx => by
          obtain ⟨b, hb, rfl⟩ := List.getElem_of_mem hx
          have := hzero 0 (b + 1) (by omega) (by simpa using hb)
          simpa [List.getD_eq_getElem?_getD, List.getElem?_eq_getElem (show b < rows.length by simpa using hb)]
            using this) ih2
        rw [Pi.sub_apply, hv1p, zero_sub, neg_eq_zero] at this
        exact this
      | succ a => exact ih4 a (by simpa using ha)

theorem firstNonzero_spec : ∀ (l : List Nat) (off i v : Nat), firstNonzero l off = some (i, v) →
    off ≤ i ∧ ∃ (h : i - off < l.length), l[i - off] = v ∧ v ≠ 0
  | [], _, _, _, h => by simp [firstNonzero] at h
  | x :: xs, off, i, v, h => by
    unfold firstNonzero at h
    split at h
    · rename_i hx
      have := Option.some.inj h
      simp only [Prod.mk.injEq] at this
      obtain ⟨e1, e2⟩ := this
      subst e1; subst e2
      exact ⟨le_refl _, by simp, by simp, hx⟩
    · obtain ⟨h1, h2, h3, h4⟩ := firstNonzero_spec xs (off + 1) i v h
      refine ⟨by omega, by simp; omega, ?_, h4⟩
      have : i - off = (i - (off + 1)) + 1 := by omega
      simp [this, h3]

theorem firstNonzero_none : ∀ (l : List Nat) (off : Nat), firstNonzero l off = none → ∀ x ∈ l, x = 0
  | [], _, _ => by simp
  | x :: xs, off, h => by
    unfold firstNonzero at h
    split at h
    · exact absurd h (by simp)
    · rename_i hx
      intro y hy
      rcases List.mem_cons.mp hy with rfl | hy
      · by_contra hne; exact hx hne
      · exact firstNonzero_none xs (off + 1) h y hy

theorem vecN_zero_of_all_zero (p n : Nat) (l : List Nat) (h : ∀ x ∈ l, x = 0) : vecN p n l = 0 := by
  funext col
  unfold vecN
  by_cases hc : (col : Nat) < l.length
  · have := h _ (List.getElem_mem hc)
    rw [List.getD_eq_getElem?_getD, List.getElem?_eq_getElem hc]
    simp [this]
  · rw [List.getD_eq_getElem?_getD, List.getElem?_eq_none (Nat.le_of_not_lt hc)]
    simp

theorem vecN_mod_cast (p n : Nat) (hp : 0 < p) (v : List Int) :
    vecN p n (v.map (fun x => (x % (p : Int)).toNat)) = vecI p n v := by
  funext c
  unfold vecN vecI
  by_cases hc : (c : Nat) < v.length
  · simp only [List.getD_eq_getElem?_getD, List.getElem?_map, List.getElem?_eq_getElem hc, Option.map_some,
      Option.getD_some]
    have h0 : 0 ≤ v[(c : Nat)] % (p : Int) := Int.emod_nonneg _ (by omega)
    have : (((v[(c : Nat)] % (p : Int)).toNat : Nat) : ZMod p) = ((v[(c : Nat)] % (p : Int) : Int) : ZMod p) := by
      have e : (((v[(c : Nat)] % (p : Int)).toNat : Nat) : Int) = v[(c : Nat)] % (p : Int) := Int.toNat_of_nonneg h0
      have h2 : ((((v[(c : Nat)] % (p : Int)).toNat : Nat) : Int) : ZMod p) = ((v[(c : Nat)] % (p : Int) : Int) : ZMod p) := by
        rw [e]
      rw [Int.cast_natCast] at h2
      exact h2
    rw [this, ZMod.intCast_mod]
  · simp [List.getD_eq_getElem?_getD, List.getElem?_eq_none (Nat.le_of_not_lt hc)]

theorem vecN_scale (p n : Nat) (vp : List Nat) (iv : Nat) :
    vecN p n (vp.map (fun x => x * iv % p)) = ((iv : Nat) : ZMod p) • vecN p n vp := by
  funext c
  unfold vecN
  rw [Pi.smul_apply, smul_eq_mul]
  by_cases hc : (c : Nat) < vp.length
  · simp only [List.getD_eq_getElem?_getD, List.getElem?_map, List.getElem?_eq_getElem hc, Option.map_some,
      Option.getD_some]
    rw [ZMod.natCast_mod, Nat.cast_mul]; ring
  · simp [List.getD_eq_getElem?_getD, List.getElem?_eq_none (Nat.le_of_not_lt hc)]

/-- the invariant kept by `add`: `rows` are the accepted rows, `σ` the column order (`indices`, once
the first row has set it), the basis is in echelon form with respect to `σ`, and, whatever rows
complete the two matrices, the determinant over the accepted rows is the product of the pivot
factors times the determinant over the basis rows (every accepted row is its pivot factor times its
basis row plus a combination of the earlier basis rows: `det_fill_snoc`). -/
structure EchInv (p n : Nat) (e : EchP) (rows : List (List Int)) : Prop where
  hp : e.p = p
  len_b : e.basis.length = rows.length
  len_f : e.factors.length = rows.length
  row_len : ∀ r ∈ e.basis, r.length = n
  k_le : rows.length ≤ n
  p_pos : rows ≠ [] → 0 < p
  det_eq : ∀ W : Fin n → Fin n → ZMod p, (fill (rows.map (vecI p n)) W).det =
    (e.factors.map (fun f => ((f : Nat) : ZMod p))).prod * (fill (e.basis.map (vecN p n)) W).det
  ech : ∃ σ : Equiv.Perm (Fin n), (e.start n).indices = permList σ ∧
      (∀ t (_ : t < e.basis.length) (htn : t < n), vecN p n (e.basis.getD t []) (σ ⟨t, htn⟩) = 1) ∧
      (∀ t s (hst : s < t) (_ : t < e.basis.length) (htn : t < n),
        vecN p n (e.basis.getD t []) (σ ⟨s, by omega⟩) = 0)

theorem EchInv.init (p n : Nat) : EchInv p n { p := p, indices := [], basis := [], factors := [] } [] :=
  { hp := rfl, len_b := rfl, len_f := rfl, row_len := (by simp), k_le := Nat.zero_le _, p_pos := (by simp),
    det_eq := fun W => (by simp), ech := ⟨1, (permList_one n).symm, by simp, by simp⟩ }

theorem getD_snoc_eq {α} (l : List α) (a d : α) : (l ++ [a]).getD l.length d = a := by
  rw [List.getD_append_right l [a] d l.length (le_refl _)]; simp

/-- what a successful `add` computed: the reduced row `vp'`, and either it is zero (rejected) or its
first nonzero entry was inverted and the pivot column swapped into place (accepted) -/
theorem EchP.add_some {inv : Inv} {e : EchP} {v : List Int} {r : EchP × Bool} (h : e.add inv v = some r) :
    0 < e.p ∧ e.p < I63 ∧ ∃ vp',
      elimP (e.start v.length).p (e.start v.length).basis (e.start v.length).indices
        (v.map (fun x => (x % ((e.start v.length).p : Int)).toNat)) = some vp' ∧
      ((firstNonzero vp' 0 = none ∧ r = (e.start v.length, false)) ∨
       ∃ i vi iv pos ind',
        firstNonzero vp' 0 = some (i, vi) ∧
        (vp'.map (fun x => x * iv % (e.start v.length).p))[i]? = some 1 ∧
        (e.start v.length).indices.idxOf? i = some pos ∧
        swapIdx (e.start v.length).indices pos (e.start v.length).basis.length = some ind' ∧
        r = ({ p := (e.start v.length).p, indices := ind',
               basis := (e.start v.length).basis ++ [vp'.map (fun x => x * iv % (e.start v.length).p)],
               factors := (e.start v.length).factors ++ [vi] }, true)) := by
  unfold EchP.add at h
  by_cases hpr : e.p ≥ I63 ∨ e.p = 0
  · rw [if_pos hpr] at h; cases h
  rw [if_neg hpr] at h
  by_cases hsh : (!shapeOkP e.basis v.length) = true
  · rw [if_pos hsh] at h; cases h
  rw [if_neg hsh] at h
  simp only [] at h
  refine ⟨by omega, by omega, ?_⟩
  cases helim : elimP (e.start v.length).p (e.start v.length).basis (e.start v.length).indices
      (v.map (fun x => (x % ((e.start v.length).p : Int)).toNat)) with
  | none => rw [helim] at h; cases h
  | some vp' =>
  rw [helim] at h; simp only [] at h
  refine ⟨vp', rfl, ?_⟩
  cases hfirst : firstNonzero vp' 0 with
  | none => rw [hfirst] at h; exact Or.inl ⟨rfl, (Option.some.inj h).symm⟩
  | some ivi =>
  obtain ⟨i, vi⟩ := ivi
  rw [hfirst] at h; simp only [] at h
  cases hinv : inv vi (e.start v.length).p with
  | none => rw [hinv] at h; cases h
  | some o =>
  cases o with
  | none => rw [hinv] at h; cases h
  | some iv =>
  rw [hinv] at h; simp only [] at h
  by_cases hassert : (vp'.map (fun x => x * iv % (e.start v.length).p))[i]? ≠ some 1
  · rw [if_pos hassert] at h; cases h
  rw [if_neg hassert] at h
  cases hpos : (e.start v.length).indices.idxOf? i with
  | none => rw [hpos] at h; cases h
  | some pos =>
  rw [hpos] at h; simp only [] at h
  cases hswap : swapIdx (e.start v.length).indices pos (e.start v.length).basis.length with
  | none => rw [hswap] at h; cases h
  | some ind' =>
  rw [hswap] at h
  exact Or.inr ⟨i, vi, iv, pos, ind', rfl, not_not.mp hassert, hpos, hswap, (Option.some.inj h).symm⟩

theorem EchP.start_basis (e : EchP) (len : Nat) : (e.start len).basis = e.basis := by
  unfold EchP.start; split <;> rfl

theorem EchP.start_factors (e : EchP) (len : Nat) : (e.start len).factors = e.factors := by
  unfold EchP.start; split <;> rfl

theorem EchP.start_p (e : EchP) (len : Nat) : (e.start len).p = e.p := by
  unfold EchP.start; split <;> rfl

theorem shapeOkP_of_inv {p n : Nat} {e : EchP} {rows : List (List Int)} (hI : EchInv p n e rows) :
    shapeOkP e.basis n = true := by
  unfold shapeOkP
  split
  · rfl
  · rename_i b0 bs hb
    have := hI.row_len b0 (by rw [hb]; simp)
    simp [this]

/-- where `add` finds the pivot column of a reduced row: a non-zero entry of a vector that vanishes on
the first `k` pivot columns sits in column `σ pos` with `k ≤ pos`; so the basis is not yet full, and
`position` / `swap` succeed -/
theorem pivot_swap {p n : Nat} (σ : Equiv.Perm (Fin n)) {k : Nat} {vp' : List Nat}
    (hpz : ∀ t (_ : t < k) (htn : t < n), vecN p n vp' (σ ⟨t, htn⟩) = 0)
    {i : Nat} (hi : i < n) (hvi : vecN p n vp' ⟨i, hi⟩ ≠ 0) :
    ∃ (pos : Nat) (hpos : pos < n) (hkn : k < n), k ≤ pos ∧ σ ⟨pos, hpos⟩ = ⟨i, hi⟩ ∧
      (permList σ).idxOf? i = some pos ∧
      swapIdx (permList σ) pos k = some (permList (σ * Equiv.swap ⟨pos, hpos⟩ ⟨k, hkn⟩)) := by
  cases hpos : (permList σ).idxOf? i with
  | none => exact absurd (mem_permList σ i hi) (List.idxOf?_eq_none_iff.mp hpos)
  | some pos =>
    obtain ⟨hposn, hσpos'⟩ := permList_idxOf σ hpos
    have hσpos : σ ⟨pos, hposn⟩ = ⟨i, hi⟩ := Fin.ext hσpos'
    have hkpos : k ≤ pos := by
      by_contra hlt
      exact hvi (hσpos ▸ hpz pos (by omega) hposn)
    exact ⟨pos, hposn, by omega, hkpos, hσpos, rfl, swapIdx_permList σ ⟨pos, hposn⟩ ⟨k, by omega⟩⟩
/-- the elimination loop of `add` on a state satisfying the invariant: `σ` is the column order the
loop runs with, `vp'` the reduced row -/
theorem EchInv.elim {p n : Nat} {e : EchP} {rows : List (List Int)} (hI : EchInv p n e rows) (hp0 : 0 < p)
    (v : List Int) (hv : v.length = n) :
    ∃ (σ : Equiv.Perm (Fin n)) (vp' : List Nat),
      (e.start n).indices = permList σ ∧
      (∀ t (_ : t < e.basis.length) (htn : t < n), vecN p n (e.basis.getD t []) (σ ⟨t, htn⟩) = 1) ∧
      (∀ t s (hst : s < t) (_ : t < e.basis.length) (htn : t < n),
        vecN p n (e.basis.getD t []) (σ ⟨s, by omega⟩) = 0) ∧
      elimP p e.basis (permList σ) (v.map (fun x => (x % (p : Int)).toNat)) = some vp' ∧
      vp'.length = n ∧ (∀ x ∈ vp', x < p) ∧
      vecI p n v - vecN p n vp' ∈ Submodule.span (ZMod p) {x | x ∈ e.basis.map (vecN p n)} ∧
      ∀ t (_ : t < e.basis.length) (htn : t < n), vecN p n vp' (σ ⟨t, htn⟩) = 0 := by
  obtain ⟨σ, hσ, hone, hzero⟩ := hI.ech
  have hk : e.basis.length ≤ n := hI.len_b ▸ hI.k_le
  have hvp0lt : ∀ x ∈ v.map (fun x => (x % (p : Int)).toNat), x < p := by
    intro x hx
    obtain ⟨y, _, rfl⟩ := List.mem_map.mp hx
    have h0 : 0 ≤ y % (p : Int) := Int.emod_nonneg _ (by omega)
    have h1 : y % (p : Int) < p := Int.emod_lt_of_pos _ (by omega)
    omega
  rcases Nat.eq_zero_or_pos n with hn0 | hn0
  · have hb : e.basis = [] := List.eq_nil_of_length_eq_zero (by omega)
    refine ⟨σ, _, hσ, hone, hzero, by rw [hb]; rfl, by simp [hv], hvp0lt, ?_,
      fun t _ htn => absurd htn (by omega)⟩
    rw [vecN_mod_cast p n hp0 v, sub_self]; exact Submodule.zero_mem _
  · -- `elimP_run` wants the pivot columns as a total function of the row number
    let piv : Nat → Fin n := fun a => if ha : a < n then σ ⟨a, ha⟩ else σ ⟨0, hn0⟩
    have hpiv : ∀ a (ha : a < n), piv a = σ ⟨a, ha⟩ := fun a ha => by simp [piv, ha]
    obtain ⟨vp', h0, h1, hlt, hval⟩ := elimP_run p n hp0 e.basis (permList σ) piv _ (by simp [hv]) hvp0lt
      hI.row_len (fun a ha => by rw [hpiv a (by omega)]; exact permList_getElem? σ a (by omega))
    obtain ⟨h2, h4⟩ := hval
      (fun a ha => by rw [hpiv a (by omega)]; exact hone a ha (by omega))
      (fun a b hab hb => by rw [hpiv a (by omega)]; exact hzero b a hab hb (by omega))
    exact ⟨σ, vp', hσ, hone, hzero, h0, h1, hlt, vecN_mod_cast p n hp0 v ▸ h2,
      fun t ht htn => by rw [← hpiv t htn]; exact h4 t ht⟩

/-- the invariant after an accepted row: the reduced row `vp'` scaled by the inverse `iv` of its
entry `vi` in column `i = σ pos` joins the basis, the column order exchanges `pos` and `k` -/
theorem EchInv.snoc {p n : Nat} {e : EchP} {rows : List (List Int)} (hI : EchInv p n e rows) (hp0 : 0 < p)
    {v : List Int} (σ : Equiv.Perm (Fin n))
    (hone : ∀ t (_ : t < e.basis.length) (htn : t < n), vecN p n (e.basis.getD t []) (σ ⟨t, htn⟩) = 1)
    (hzero : ∀ t s (hst : s < t) (_ : t < e.basis.length) (htn : t < n),
      vecN p n (e.basis.getD t []) (σ ⟨s, by omega⟩) = 0)
    {vp' : List Nat} (hlen' : vp'.length = n)
    (hvec : vecI p n v - vecN p n vp' ∈ Submodule.span (ZMod p) {x | x ∈ e.basis.map (vecN p n)})
    (hpz : ∀ t (_ : t < e.basis.length) (htn : t < n), vecN p n vp' (σ ⟨t, htn⟩) = 0)
    {i vi iv pos : Nat} (hin : i < n) (hvpi : vecN p n vp' ⟨i, hin⟩ = ((vi : Nat) : ZMod p))
    (hunit : ((vi : Nat) : ZMod p) * ((iv : Nat) : ZMod p) = 1)
    (hposn : pos < n) (hkn : e.basis.length < n) (hposk : e.basis.length ≤ pos) (hσpos : σ ⟨pos, hposn⟩ = ⟨i, hin⟩) :
    EchInv p n { p := p, indices := permList (σ * Equiv.swap ⟨pos, hposn⟩ ⟨e.basis.length, hkn⟩),
                 basis := e.basis ++ [vp'.map (fun x => x * iv % p)], factors := e.factors ++ [vi] }
      (rows ++ [v]) := by
  have len_b := hI.len_b
  set σ' := σ * Equiv.swap ⟨pos, hposn⟩ ⟨e.basis.length, hkn⟩ with hσ'
  have hσ'lt : ∀ t (ht : t < e.basis.length), σ' ⟨t, by omega⟩ = σ ⟨t, by omega⟩ := by
    intro t ht
    rw [hσ', Equiv.Perm.mul_apply, Equiv.swap_apply_of_ne_of_ne
      (Fin.ne_of_val_ne (show t ≠ pos by omega)) (Fin.ne_of_val_ne (show t ≠ e.basis.length by omega))]
  have hσ'k : σ' ⟨e.basis.length, hkn⟩ = ⟨i, hin⟩ := by
    rw [hσ', Equiv.Perm.mul_apply, Equiv.swap_apply_right, hσpos]
  set row := vp'.map (fun x => x * iv % p) with hrowdef
  have hrowvec : vecN p n row = ((iv : Nat) : ZMod p) • vecN p n vp' := vecN_scale p n vp' iv
  refine { hp := rfl, len_b := (by simp [len_b]), len_f := (by simp [hI.len_f]), row_len := ?_,
           k_le := (by simp; omega), p_pos := fun _ => hp0, det_eq := fun W => ?_,
           ech := ⟨σ', by simp [EchP.start], ?_, ?_⟩ }
  · intro r hr
    simp only at hr
    rcases List.mem_append.mp hr with hr | hr
    · exact hI.row_len r hr
    · simp at hr; rw [hr, hrowdef]; simp [hlen']
  · -- v - vi • row = v - vp' is a combination of the basis rows
    have hv : vecI p n v - ((vi : Nat) : ZMod p) • vecN p n row ∈
        Submodule.span (ZMod p) {x | x ∈ e.basis.map (vecN p n)} := by
      rw [hrowvec, smul_smul, hunit, one_smul]; exact hvec
    simp only [List.map_append, List.map_cons, List.map_nil, List.prod_append, List.prod_cons, List.prod_nil, mul_one]
    exact det_fill_snoc (by simp [len_b]) (by simpa using hkn) hv hI.det_eq W
  · intro t ht htn
    simp only [List.length_append, List.length_singleton] at ht ⊢
    by_cases htk : t < e.basis.length
    · rw [List.getD_append _ _ _ _ htk, hσ'lt t htk]
      exact hone t htk htn
    · have : t = e.basis.length := by omega
      subst this
      rw [getD_snoc_eq, hσ'k, hrowvec, Pi.smul_apply, hvpi, smul_eq_mul, mul_comm]
      exact hunit
  · intro t s hst ht htn
    simp only [List.length_append, List.length_singleton] at ht ⊢
    by_cases htk : t < e.basis.length
    · rw [List.getD_append _ _ _ _ htk, hσ'lt s (by omega)]
      exact hzero t s hst htk htn
    · have : t = e.basis.length := by omega
      subst this
      rw [getD_snoc_eq, hσ'lt s hst, hrowvec, Pi.smul_apply, hpz s hst (by omega), smul_zero]

/-- **one call of `add`** on a state satisfying the invariant (`0 < p < 2^63`, row of length `n`): no
index panic (shape assertion, `vp[idx]`, `position(..).unwrap()`, `indices.swap`); either the row
reduces to zero, it is a combination of the basis and is rejected, or the outcome is decided by
`inv` on the first non-zero entry `vi` of the reduced row and by the assertion on the pivot, and an
accepted row keeps the invariant. Nothing is assumed of `inv` or of `p`: partial correctness and
totality of `add` are both read off. -/
theorem EchInv.add_out (inv : Inv) {p n : Nat} {e : EchP} {rows : List (List Int)} (hI : EchInv p n e rows)
    (hp0 : 0 < p) (h63 : p < I63) {v : List Int} (hv : v.length = n) :
    (e.add inv v = some (e.start n, false) ∧
      vecI p n v ∈ Submodule.span (ZMod p) {x | x ∈ e.basis.map (vecN p n)}) ∨
    ∃ (vi : Nat) (E : Nat → EchP), vi ≠ 0 ∧ vi < p ∧
      (∀ iv, vi * iv % p = 1 → EchInv p n (E iv) (rows ++ [v])) ∧
      e.add inv v = match inv vi p with
        | some (some iv) => if vi * iv % p = 1 then some (E iv, true) else none
        | _ => none := by
  subst hv
  obtain ⟨σ, vp', hσ, hone, hzero, helim, hlen', hlt', hvec, hpz⟩ := hI.elim hp0 v rfl
  have hep : e.p = p := hI.hp
  generalize hr : e.add inv v = r
  unfold EchP.add at hr
  rw [if_neg (by rw [hep]; omega), shapeOkP_of_inv hI] at hr
  simp only [Bool.not_true, Bool.false_eq_true, if_false, EchP.start_basis, EchP.start_p, EchP.start_factors,
    hep, hσ, helim] at hr
  cases hfirst : firstNonzero vp' 0 with
  | none =>
    rw [hfirst] at hr
    rw [vecN_zero_of_all_zero p _ vp' (firstNonzero_none vp' 0 hfirst), sub_zero] at hvec
    exact Or.inl ⟨hr.symm, hvec⟩
  | some ivi =>
    obtain ⟨i, vi⟩ := ivi
    obtain ⟨_, hi', hvi, hvi0⟩ := firstNonzero_spec vp' 0 i vi hfirst
    simp only [Nat.sub_zero] at hi' hvi
    have hin : i < v.length := hlen' ▸ hi'
    have hvilt : vi < p := hvi ▸ hlt' _ (List.getElem_mem hi')
    have hvpi : vecN p v.length vp' ⟨i, hin⟩ = ((vi : Nat) : ZMod p) := by
      rw [vecN_apply _ _ _ _ (by simpa using hi')]; simp [hvi]
    have hvi_ne : ((vi : Nat) : ZMod p) ≠ 0 := fun h0 =>
      absurd (Nat.le_of_dvd (by omega) ((ZMod.natCast_eq_zero_iff _ _).mp h0)) (by omega)
    -- `vp'` vanishes on the pivot columns and `vi ≠ 0`: the pivot lies beyond the basis, which is not yet full
    obtain ⟨pos, hposn, hkn, hposk, hσpos, hidx, hswap⟩ := pivot_swap σ hpz hin (hvpi ▸ hvi_ne)
    have hrowi : ∀ iv, (vp'.map (fun x => x * iv % p))[i]? = some (vi * iv % p) := fun iv => by
      simp [List.getElem?_map, List.getElem?_eq_getElem hi', hvi]
    simp only [hfirst, hidx, hswap, hrowi] at hr
    refine Or.inr ⟨vi, fun iv =>
      { p := p, indices := permList (σ * Equiv.swap ⟨pos, hposn⟩ ⟨e.basis.length, hkn⟩),
        basis := e.basis ++ [vp'.map (fun x => x * iv % p)], factors := e.factors ++ [vi] },
      hvi0, hvilt, ?_, ?_⟩
    · intro iv hiv
      have hunit : ((vi : Nat) : ZMod p) * ((iv : Nat) : ZMod p) = 1 := by
        have : (((vi * iv % p : Nat)) : ZMod p) = ((1 : Nat) : ZMod p) := by rw [hiv]
        rwa [ZMod.natCast_mod, Nat.cast_mul, Nat.cast_one] at this
      exact hI.snoc hp0 σ hone hzero hlen' hvec hpz hin hvpi hunit hposn hkn hposk hσpos
    · rw [← hr]
      rcases inv vi p with _ | _ | iv
      · rfl
      · rfl
      · by_cases hiv : vi * iv % p = 1
        · simp [hiv]
        · simp [hiv]

theorem EchInv.add_true (inv : Inv) (p n : Nat) (e e' : EchP) (rows : List (List Int)) (v : List Int)
    (hI : EchInv p n e rows) (hv : v.length = n) (h : e.add inv v = some (e', true)) :
    EchInv p n e' (rows ++ [v]) := by
  obtain ⟨hp0, h63, _⟩ := EchP.add_some h
  rw [hI.hp] at hp0 h63
  obtain ⟨hrej, _⟩ | ⟨vi, E, _, _, hE, hacc⟩ := hI.add_out inv hp0 h63 hv
  · rw [h] at hrej; cases hrej
  · rw [h] at hacc
    split at hacc
    · split at hacc
      · rename_i hiv
        obtain ⟨rfl, _⟩ := Prod.mk.inj (Option.some.inj hacc)
        exact hE _ hiv
      · cases hacc
    · cases hacc

theorem EchInv.add_false (inv : Inv) (p n : Nat) (e e2 : EchP) (rows : List (List Int)) (v : List Int)
    (hI : EchInv p n e rows) (hv : v.length = n) (h : e.add inv v = some (e2, false)) :
    vecI p n v ∈ Submodule.span (ZMod p) {x | x ∈ e.basis.map (vecN p n)} := by
  obtain ⟨hp0, h63, _⟩ := EchP.add_some h
  rw [hI.hp] at hp0 h63
  obtain ⟨_, hm⟩ | ⟨vi, E, _, _, _, hacc⟩ := hI.add_out inv hp0 h63 hv
  · exact hm
  · rw [h] at hacc
    split at hacc
    · split at hacc <;> cases hacc
    · cases hacc

theorem EchInv.add_total (inv : Inv) (hinv : InvSpec inv) (p n : Nat) (hpr : p.Prime) (hp63 : p < I63)
    (e : EchP) (rows : List (List Int)) (v : List Int)
    (hI : EchInv p n e rows) (hv : v.length = n) :
    ∃ e' b, e.add inv v = some (e', b) := by
  obtain ⟨hrej, _⟩ | ⟨vi, E, hvi0, hvilt, _, hacc⟩ := hI.add_out inv hpr.pos hp63 hv
  · exact ⟨_, _, hrej⟩
  · -- `0 < vi < p` is invertible modulo the prime `p`
    have hcop : Nat.Coprime vi p :=
      ((Nat.Prime.coprime_iff_not_dvd hpr).mpr fun hd => absurd (Nat.le_of_dvd (by omega) hd) (by omega)).symm
    have hU : p < U64 := by unfold I63 at hp63; unfold U64; omega
    obtain ⟨iv, hiv, _, hmul⟩ := hinv vi p (by omega) hU hpr.one_lt hcop
    rw [hiv] at hacc
    exact ⟨_, _, by simpa [hmul] using hacc⟩

end Ymq.IntMat
