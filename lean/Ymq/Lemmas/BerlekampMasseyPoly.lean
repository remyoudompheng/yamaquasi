/-
Lists of words as polynomials over `ZMod p`, and the specifications of the small loops of the
Berlekamp–Massey model (`lowerDeg`, `subAt`, `axLoop`, `scanDeg`, `updOne`, `updTwo`).
-/
import Ymq.Lemmas.BerlekampMasseyOps
import Mathlib.Algebra.Polynomial.Coeff
import Mathlib.Data.List.GetD
import Mathlib.Tactic.Ring
import Mathlib.Tactic.LinearCombination

namespace Ymq.BM
open Polynomial

variable {p : ℕ}

/-- word `i` of a vector, 0 outside (a plain definition so that `simp` leaves it alone) -/
def gd (l : List ℕ) (i : ℕ) : ℕ := l.getD i 0

/-- coefficient `i` of a word vector, in `ZMod p` (0 outside the vector) -/
def co (p : ℕ) (l : List ℕ) (i : ℕ) : ZMod p := ((gd l i : ℕ) : ZMod p)

/-- every word is a reduced residue -/
def Red (p : ℕ) (l : List ℕ) : Prop := ∀ i, gd l i < p

/-- the vector as a polynomial: word `i` is the coefficient of `x^i` -/
noncomputable def toPoly (p : ℕ) (l : List ℕ) : (ZMod p)[X] :=
  ∑ i ∈ Finset.range l.length, C (co p l i) * X ^ i

theorem gd_cons_zero (x : ℕ) (l : List ℕ) : gd (x :: l) 0 = x := by simp [gd]

theorem gd_cons_succ (x : ℕ) (l : List ℕ) (i : ℕ) : gd (x :: l) (i + 1) = gd l i := by simp [gd]

theorem gd_nil (i : ℕ) : gd [] i = 0 := by simp [gd]

theorem gd_of_le (l : List ℕ) (i : ℕ) (h : l.length ≤ i) : gd l i = 0 :=
  List.getD_eq_default _ _ h

theorem co_zero {l : List ℕ} {i : ℕ} (h : gd l i = 0) : co p l i = 0 := by
  unfold co; rw [h]; simp

theorem coeff_sum_monomials (c : ℕ → ZMod p) (K d : ℕ) :
    (∑ i ∈ Finset.range K, C (c i) * X ^ i : (ZMod p)[X]).coeff d = if d < K then c d else 0 := by
  rw [finsetSum_coeff]
  simp only [coeff_C_mul, coeff_X_pow]
  by_cases hd : d < K
  · rw [if_pos hd, Finset.sum_eq_single d]
    · simp
    · intro b _ hb; simp [Ne.symm hb]
    · intro hh; exact absurd (Finset.mem_range.mpr hd) hh
  · rw [if_neg hd]
    apply Finset.sum_eq_zero
    intro b hb
    have := Finset.mem_range.mp hb
    have : d ≠ b := by omega
    simp [this]

theorem coeff_toPoly (l : List ℕ) (i : ℕ) : (toPoly p l).coeff i = co p l i := by
  unfold toPoly
  rw [coeff_sum_monomials]
  split
  · rfl
  · exact (co_zero (gd_of_le l i (by omega))).symm

theorem getD_set (l : List ℕ) (i x k : ℕ) :
    gd (l.set i x) k = if k = i ∧ i < l.length then x else gd l k := by
  simp only [gd, List.getD_eq_getElem?_getD, List.getElem?_set]
  by_cases h : i = k
  · subst h
    by_cases h2 : i < l.length
    · simp [h2]
    · simp [h2]
  · have : ¬ k = i := fun e => h e.symm
    simp [h, this]

theorem getElem?_of_lt (l : List ℕ) (i : ℕ) (h : i < l.length) : l[i]? = some (gd l i) := by
  simp [gd, List.getD_eq_getElem?_getD, List.getElem?_eq_getElem h]

/-- one `←` of a `do` block that succeeds; `rw` with it runs the block statement by statement,
where `simp` would normalise the whole remainder again after each statement -/
theorem bind_of_eq_some {α β : Type} {x : Option α} {a : α} (h : x = some a) (f : α → Option β) :
    x >>= f = f a := by
  rw [h]; rfl

theorem cast_eq_zero_of_lt {x : ℕ} (hx : x < p) : ((x : ZMod p) = 0 ↔ x = 0) := by
  constructor
  · intro h
    have := (ZMod.natCast_eq_zero_iff x p).mp h
    exact Nat.eq_zero_of_dvd_of_lt this hx
  · rintro rfl; simp

theorem lowerDeg_spec (l : List ℕ) : ∀ d, d < l.length →
    ∃ r, lowerDeg l d = some r ∧ r ≤ d ∧ (∀ i, r < i → i ≤ d → gd l i = 0) ∧
      (gd l r ≠ 0 ∨ r = 0)
  | 0, h => by
    refine ⟨0, ?_, le_refl _, ?_, Or.inr rfl⟩
    · simp [lowerDeg, getElem?_of_lt l 0 h]
    · intro i h1 h2; omega
  | d + 1, h => by
    unfold lowerDeg
    rw [getElem?_of_lt l (d + 1) h]
    by_cases hx : gd l (d + 1) = 0
    · obtain ⟨r, e1, e2, e3, e4⟩ := lowerDeg_spec l d (by omega)
      refine ⟨r, ?_, by omega, ?_, e4⟩
      · simp [hx, e1]
      · intro i h1 h2
        by_cases hi : i = d + 1
        · rw [hi]; exact hx
        · exact e3 i h1 (by omega)
    · refine ⟨d + 1, ?_, le_refl _, ?_, Or.inl hx⟩
      · simp [hx]
      · intro i h1 h2; omega

section ops
variable {o : Ops} {κ : ZMod p}

theorem subAt_spec (ok : OpsOK o p κ) (a : List ℕ) (ha : Red p a) (i b : ℕ) (hi : i < a.length)
    (hb : b < p) :
    ∃ a', subAt o a i b = some a' ∧ a'.length = a.length ∧ Red p a' ∧
      toPoly p a' = toPoly p a - C (b : ZMod p) * X ^ i := by
  obtain ⟨r, e1, e2, e3⟩ := ok.sub (gd a i) b (ha i) hb
  refine ⟨a.set i r, ?_, by simp, ?_, ?_⟩
  · simp [subAt, getElem?_of_lt a i hi, e1]
  · intro k; rw [getD_set]; split
    · exact e2
    · exact ha k
  · ext k
    rw [coeff_sub, coeff_toPoly, coeff_toPoly, coeff_C_mul_X_pow]
    unfold co
    rw [getD_set]
    by_cases hk : k = i
    · subst hk; simp [hi, e3]
    · simp [hk]

theorem axLoop_spec (ok : OpsOK o p κ) (term : ℕ → Option ℕ) (τ : ℕ → ZMod p) (d : ℕ) :
    ∀ (c i0 : ℕ) (a : List ℕ), Red p a → i0 + c + d ≤ a.length →
      (∀ i, i0 ≤ i → i < i0 + c → ∃ r, term i = some r ∧ r < p ∧ (r : ZMod p) = τ i) →
      ∃ a', axLoop o term d c i0 a = some a' ∧ a'.length = a.length ∧ Red p a' ∧
        toPoly p a' = toPoly p a - ∑ i ∈ Finset.range c, C (τ (i0 + i)) * X ^ (i0 + i + d)
  | 0, i0, a, ha, _, _ => ⟨a, rfl, rfl, ha, by simp⟩
  | c + 1, i0, a, ha, hlen, ht => by
    obtain ⟨r, e1, e2, e3⟩ := ht i0 (le_refl _) (by omega)
    obtain ⟨a1, f1, f2, f3, f4⟩ := subAt_spec ok a ha (i0 + d) r (by omega) e2
    obtain ⟨a2, g1, g2, g3, g4⟩ := axLoop_spec ok term τ d c (i0 + 1) a1 f3 (by omega)
      (fun i h1 h2 => ht i (by omega) (by omega))
    refine ⟨a2, by rw [axLoop, bind_of_eq_some e1, bind_of_eq_some f1]; exact g1, by omega, g3, ?_⟩
    rw [g4, f4, e3, Finset.sum_range_succ', Nat.add_zero, sub_sub, add_comm]
    congr 2
    exact Finset.sum_congr rfl fun i _ => by rw [show i0 + 1 + i = i0 + (i + 1) by omega]

theorem scanDeg_spec (v : List ℕ) : ∀ (c i dv : ℕ), i + c ≤ v.length →
    ∃ r, scanDeg v c i dv = some r ∧
      ((r = dv ∧ ∀ k, i ≤ k → k < i + c → gd v k = 0) ∨
       (i ≤ r ∧ r < i + c ∧ ∀ k, r < k → k < i + c → gd v k = 0))
  | 0, i, dv, _ => ⟨dv, rfl, Or.inl ⟨rfl, fun k h1 h2 => by omega⟩⟩
  | c + 1, i, dv, h => by
    obtain ⟨r, e1, e2⟩ := scanDeg_spec v c (i + 1) (if gd v i ≠ 0 then i else dv) (by omega)
    refine ⟨r, ?_, ?_⟩
    · simp only [scanDeg, getElem?_of_lt v i (by omega)]
      simpa using e1
    · rcases e2 with ⟨h1, h2⟩ | ⟨h1, h2, h3⟩
      · by_cases hx : gd v i = 0
        · left
          simp only [hx, ne_eq, not_true_eq_false, if_false] at h1
          refine ⟨h1, fun k k1 k2 => ?_⟩
          by_cases hk : k = i
          · rw [hk]; exact hx
          · exact h2 k (by omega) (by omega)
        · right
          simp only [ne_eq, hx, not_false_eq_true, if_true] at h1
          refine ⟨by omega, by omega, fun k k1 k2 => h2 k (by omega) (by omega)⟩
      · right
        exact ⟨by omega, by omega, fun k k1 k2 => h3 k k1 (by omega)⟩

theorem coeff_shift (c : ZMod p) (d : ℕ) (P : (ZMod p)[X]) (k : ℕ) :
    (C c * X ^ d * P).coeff k = if d ≤ k then c * P.coeff (k - d) else 0 := by
  rw [mul_assoc, coeff_C_mul, coeff_X_pow_mul']
  split <;> simp

theorem coeff_shift2 (c1 c0 : ZMod p) (d : ℕ) (P : (ZMod p)[X]) (k : ℕ) :
    ((C c1 * X + C c0) * X ^ d * P).coeff k =
      (if d + 1 ≤ k then c1 * P.coeff (k - (d + 1)) else 0) +
      (if d ≤ k then c0 * P.coeff (k - d) else 0) := by
  have : (C c1 * X + C c0) * X ^ d * P = C c1 * X ^ (d + 1) * P + C c0 * X ^ d * P := by ring
  rw [this, coeff_add, coeff_shift, coeff_shift]

theorem toPoly_eq_sum {l : List ℕ} {deg : ℕ} (hz : ∀ i, deg < i → gd l i = 0) :
    toPoly p l = ∑ i ∈ Finset.range (deg + 1), C (co p l i) * X ^ i := by
  ext k
  rw [coeff_toPoly, coeff_sum_monomials]
  split
  · rfl
  · exact co_zero (hz k (by omega))

theorem updOne_spec (ok : OpsOK o p κ) (src dst : List ℕ) (hs : Red p src) (hd : Red p dst)
    (d deg q : ℕ) (hq : q < p) (hlen : deg + 1 + d ≤ dst.length) (hsl : src.length = dst.length)
    (hz : ∀ i, deg < i → gd src i = 0) :
    ∃ a', updOne o src dst d deg q = some a' ∧ a'.length = dst.length ∧ Red p a' ∧
      toPoly p a' = toPoly p dst - C (κ * q) * X ^ d * toPoly p src := by
  obtain ⟨a', e1, e2, e3, e4⟩ := axLoop_spec ok
    (fun i => do let a ← src[i]?; o.mul q a) (fun i => κ * q * co p src i) d (deg + 1) 0 dst hd
    (by omega) (by
      intro i _ h2
      obtain ⟨r, r1, r2, r3⟩ := ok.mul q (gd src i) hq (hs i)
      refine ⟨r, ?_, r2, r3⟩
      simp [getElem?_of_lt src i (by omega), r1])
  refine ⟨a', e1, e2, e3, ?_⟩
  rw [e4, toPoly_eq_sum hz, Finset.mul_sum, sub_right_inj]
  refine Finset.sum_congr rfl fun i _ => ?_
  rw [zero_add, C_mul, pow_add, mul_comm (X ^ i) (X ^ d), mul_mul_mul_comm]

theorem updTwo_spec (ok : OpsOK o p κ) (htwo : o.two = true) (src dst : List ℕ) (hs : Red p src)
    (hd : Red p dst) (d deg q0 q1 : ℕ) (hq0 : q0 < p) (hq1 : q1 < p)
    (hlen : d + deg + 1 < dst.length) (hsl : src.length = dst.length)
    (hz : ∀ i, deg < i → gd src i = 0) :
    ∃ a', updTwo o src dst d deg q0 q1 = some a' ∧ a'.length = dst.length ∧ Red p a' ∧
      toPoly p a' = toPoly p dst - (C (κ * q1) * X + C (κ * q0)) * X ^ d * toPoly p src := by
  obtain ⟨t0, m1, m2, m3⟩ := ok.mul (gd src 0) q0 (hs 0) hq0
  obtain ⟨a1, f1, f2, f3, f4⟩ := subAt_spec ok dst hd d t0 (by omega) m2
  obtain ⟨a2, g1, g2, g3, g4⟩ := axLoop_spec ok
    (fun i => do let a ← src[i]?; let b ← src[i - 1]?; o.dot a q0 b q1)
    (fun i => κ * (co p src i * q0 + co p src (i - 1) * q1)) d deg 1 a1 f3 (by omega) (by
      intro i _ h2
      obtain ⟨r, r1, r2, r3⟩ := ok.dot htwo (gd src i) q0 (gd src (i - 1)) q1 (hs i) hq0
        (hs _) hq1
      refine ⟨r, ?_, r2, r3⟩
      simp [getElem?_of_lt src i (by omega), getElem?_of_lt src (i - 1) (by omega), r1])
  obtain ⟨tl, n1, n2, n3⟩ := ok.mul (gd src deg) q1 (hs deg) hq1
  obtain ⟨a3, h1, h2, h3, h4⟩ := subAt_spec ok a2 g3 (d + deg + 1) tl (by omega) n2
  refine ⟨a3, ?_, by omega, h3, ?_⟩
  · simp only [Option.bind_eq_bind] at g1
    simp [updTwo, getElem?_of_lt src 0 (by omega), m1, f1, g1,
      getElem?_of_lt src deg (by omega), n1, h1]
  · -- `(q1 x + q0) Σ_{i ≤ deg} s_i x^i`: the `q0` part without its first term and the `q1` part
    -- without its last are the sum the middle loop subtracts
    have hsum : toPoly p src = ∑ i ∈ Finset.range (deg + 1), C (co p src i) * X ^ i :=
      toPoly_eq_sum hz
    rw [h4, g4, f4, m3, n3, add_mul, add_mul, hsum, Finset.mul_sum, Finset.mul_sum]
    rw [Finset.sum_range_succ (fun i => C (κ * q1) * X * X ^ d * (C (co p src i) * X ^ i)),
      Finset.sum_range_succ' (fun i => C (κ * q0) * X ^ d * (C (co p src i) * X ^ i)),
      sub_sub, sub_sub, sub_right_inj]
    have : ∀ i, C (κ * (co p src (1 + i) * q0 + co p src (1 + i - 1) * q1)) * X ^ (1 + i + d) =
        C (κ * q1) * X * X ^ d * (C (co p src i) * X ^ i) +
          C (κ * q0) * X ^ d * (C (co p src (i + 1)) * X ^ (i + 1)) := by
      intro i
      rw [show 1 + i - 1 = i by omega, show 1 + i = i + 1 by omega]
      simp only [C_mul, C_add, pow_add, pow_one]; ring
    rw [Finset.sum_congr rfl fun i _ => this i, Finset.sum_add_distrib]
    unfold co
    simp only [C_mul, pow_add, pow_zero, pow_one]
    ring

end ops

end Ymq.BM
