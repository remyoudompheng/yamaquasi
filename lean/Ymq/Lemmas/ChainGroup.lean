/-
The chain interpreters of Model/Chain.lean over point operations that simulate an additive commutative group
(`OpsSim`): a well-formed chain `c` computes a point standing for `evalChain c • x`, the chain multiplications
return a point standing for `k • x`; double-and-add in a group computes `k • P`.
-/
import Ymq.Lemmas.ChainLong
import Ymq.Lemmas.BinPow
import Ymq.Model.EcmCurve
import Mathlib.Algebra.Group.Basic
import Mathlib.Tactic.Ring

namespace Ymq.Chain

section Generic
variable {P E D : Type}

theorem foldOps_append (step : P → Int → Option P) (ops : List Int) (op : Int) (q : P) :
    foldOps step (ops ++ [op]) q = (foldOps step ops q).bind (fun q' => step q' op) := by
  induction ops generalizing q with
  | nil =>
    simp only [List.nil_append, foldOps, Option.bind_some]
    cases step q op <;> rfl
  | cons a r ih =>
    simp only [List.cons_append, foldOps]
    cases step q a with
    | none => rfl
    | some q' => exact ih q'

/-- the interpreter applies `chain[0]` last -/
theorem runChain_cons (toProj : E → P) (double : P → P) (dblx : P → D) (addp subp : D → E → P)
    (gaps : List E) (op : Int) (rest : List Int) (h : rest ≠ []) :
    runChain toProj double dblx addp subp gaps (op :: rest) =
      (runChain toProj double dblx addp subp gaps rest).bind
        (fun q => stepOp double dblx addp subp gaps q op) := by
  unfold runChain
  rw [List.reverse_cons]
  cases hr : rest.reverse with
  | nil => exact absurd (List.reverse_eq_nil_iff.mp hr) h
  | cons i ops =>
    simp only [List.cons_append]
    by_cases hi : i < 0
    · simp [hi]
    · simp only [hi, if_false]
      cases gaps[i.toNat / 2]? with
      | none => rfl
      | some g => exact foldOps_append _ _ _ _

/-- `ecm128::Curve::scalar64_mul` (fused double-add, subtraction through the negated table entry) is the interpreter
of `scalar64_chainmul` when `dbladd q g = addp (dblext q) g` and `subp` is `addp` of the negated entry -/
theorem scalar64Mul128_eq (zero : P) (toExt : P → E) (toProj : E → P) (double : P → P) (dblext : P → E)
    (addext : E → E → E) (dbladd : P → E → P) (neg : E → E) (addp subp : E → E → P)
    (h1 : ∀ q g, dbladd q g = addp (dblext q) g) (h2 : ∀ e g, addp e (neg g) = subp e g) (k : Nat) (p : P) :
    scalar64Mul128 zero toExt toProj double dblext addext dbladd neg k p
      = scalar64Chainmul zero toExt toProj double dblext addext addp subp k p := by
  have hstep : ∀ gaps, stepOp double id dbladd (fun q g => dbladd q (neg g)) gaps
      = stepOp double dblext addp subp gaps := by
    intro gaps; funext q op; simp only [stepOp, id, h1, h2]
  simp only [scalar64Mul128, scalar64Chainmul, runChain, hstep]

end Generic

section Group
variable {G : Type} [AddCommGroup G]

/-- doubling as the code does it for the group law: `x + x` -/
def dbl (x : G) : G := x + x

/-- `gaps[x / 2] = x P` for every odd `x` in `[1, m]` -/
def GapsOk (gaps : List G) (P : G) (m : Int) : Prop :=
  ∀ x : Int, x % 2 = 1 → 1 ≤ x → x ≤ m → gaps[x.toNat / 2]? = some (x • P)

/-- double-and-add is square-and-multiply in `Multiplicative G` -/
theorem dblAddLoop_spec (f k : Nat) (x s : G) (hk : k < 2 ^ f) :
    dblAddLoop (fun a b => a + b) dbl (f + 1) k x s = some (x + k • s) := by
  obtain ⟨_, hz, rfl⟩ := BinPow.loop (M := Multiplicative G) (R := fun x a => x = a.toAdd)
    (mul := fun a b => some (a + b)) (fun {_ _ _ _} hx hy => ⟨_, rfl, hx ▸ hy ▸ rfl⟩)
    (F := fun f x s e => dblAddLoop (fun a b => a + b) dbl f e x s)
    (fun _ _ _ => by rw [dblAddLoop, if_pos rfl])
    (fun _ _ _ _ _ _ h0 h1 h2 => by
      cases h2
      rw [dblAddLoop, if_neg h0]
      split at h1 <;> rename_i ho <;> cases h1
      · rw [if_pos ho]; rfl
      · rw [if_neg ho]; rfl) f k x s (.ofAdd x) (.ofAdd s) hk rfl rfl
  exact hz

end Group

end Ymq.Chain

namespace Ymq.EcmCurve
open Ymq.Chain

section Sim
variable {P E G : Type} [AddCommGroup G]

/-- The point operations simulate the group law of `G`: `RP p x` / `RE e x` read "the projective point `p` / the
extended point `e` stands for the group element `x`". Reading the operations in the group itself (`RP = RE = Eq`)
gives what a routine computes; an invariant kept by arbitrary operations is a simulation of the trivial group
(`OpsInv.sim`) and gives that the routine returns: one induction per routine serves both. -/
structure OpsSim (o : Ops P E) (RP : P → G → Prop) (RE : E → G → Prop) : Prop where
  zero : RP o.zero 0
  toExt : ∀ {p x}, RP p x → RE (o.toExt p) x
  toProj : ∀ {e x}, RE e x → RP (o.toProj e) x
  double : ∀ {p x}, RP p x → RP (o.double p) (x + x)
  dblext : ∀ {p x}, RP p x → RE (o.dblext p) (x + x)
  addext : ∀ {a b x y}, RE a x → RE b y → RE (o.addext a b) (x + y)
  addp : ∀ {a b x y}, RE a x → RE b y → RP (o.addp a b) (x + y)
  subp : ∀ {a b x y}, RE a x → RE b y → RP (o.subp a b) (x - y)

variable {o : Ops P E} {RP : P → G → Prop} {RE : E → G → Prop}

theorem iter_sim (hs : OpsSim o RP RE) {x : G} : ∀ (n : Nat) {q : P} {e : Int}, RP q (e • x) →
    RP (iter o.double n q) (((2 : Int) ^ n * e) • x)
  | 0, _, _, h => by simpa [iter] using h
  | n + 1, q, e, h => by
    have h2 : RP (o.double q) ((2 * e) • x) := by rw [two_mul, add_zsmul]; exact hs.double h
    have := iter_sim hs n h2
    rwa [← mul_assoc, ← pow_succ] at this

/-- `gaps[i / 2]` stands for `i x`, for every odd `i` in `[1, m]` -/
def GapsSim (RE : E → G → Prop) (gaps : List E) (x : G) (m : Int) : Prop :=
  ∀ i : Int, i % 2 = 1 → 1 ≤ i → i ≤ m → ∃ g, gaps[i.toNat / 2]? = some g ∧ RE g (i • x)

theorem stepOp_sim (hs : OpsSim o RP RE) {gaps : List E} {x : G} {m : Int} (hg : GapsSim RE gaps x m)
    {q : P} {e : Int} (hq : RP q (e • x)) {op : Int} (hop : OpOk m op) :
    ∃ q', stepOp o.double o.dblext o.addp o.subp gaps q op = some q' ∧
      RP q' ((if op % 2 = 0 then 2 ^ (op / 2).toNat * e else 2 * e + op) • x) := by
  have h2 : RE (o.dblext q) ((2 * e) • x) := by rw [two_mul, add_zsmul]; exact hs.dblext hq
  unfold stepOp
  rcases hop with ⟨h1, hlo, hhi⟩ | ⟨h1, hlo, hhi⟩
  · have hodd : ¬ (op % 2 = 0) := by omega
    simp only [hodd, if_false]
    by_cases hpos : op > 0
    · obtain ⟨g, e1, hr⟩ := hg op h1 (by omega) hhi
      simp only [hpos, if_true, e1]
      exact ⟨_, rfl, by rw [add_zsmul]; exact hs.addp h2 hr⟩
    · obtain ⟨g, e1, hr⟩ := hg (-op) (by omega) (by omega) (by omega)
      have h128 : ¬ (op = -128) := by omega
      simp only [hpos, h128, if_false, e1]
      refine ⟨_, rfl, ?_⟩
      have := hs.subp h2 hr
      rwa [neg_zsmul, sub_neg_eq_add, ← add_zsmul] at this
  · simp only [h1, if_true]
    refine ⟨_, rfl, ?_⟩
    rw [Int.tdiv_eq_ediv_of_nonneg (by omega)]
    exact iter_sim hs _ hq

/-- A well-formed chain, run by the interpreter loop of the chain multiplications on a table of odd multiples of
`x`, returns a point standing for `(evalChain c) x`; no table index is out of range. -/
theorem runChain_sim (hs : OpsSim o RP RE) {gaps : List E} {x : G} {m : Int} (hg : GapsSim RE gaps x m) :
    ∀ c, WF m c → ∃ q, runChain o.toProj o.double o.dblext o.addp o.subp gaps c = some q ∧ RP q (evalChain c • x)
  | [], h => absurd h (by simp [WF])
  | [i], h => by
    obtain ⟨h1, h2, h3⟩ := h
    obtain ⟨g, e1, hr⟩ := hg i h1 h2 h3
    have hneg : ¬ (i < 0) := by omega
    have hev : evalChain [i] = i := by unfold evalChain; omega
    simp only [runChain, List.reverse_cons, List.reverse_nil, List.nil_append, hneg, if_false, e1, foldOps, hev]
    exact ⟨_, rfl, hs.toProj hr⟩
  | op :: a :: r, h => by
    have hne : (a :: r) ≠ [] := by simp
    obtain ⟨hop, hrest⟩ := (WF_cons op hne).mp h
    obtain ⟨q, e1, hq⟩ := runChain_sim hs hg (a :: r) hrest
    rw [runChain_cons _ _ _ _ _ _ _ _ hne, e1, Option.bind_some, evalChain_cons _ hne]
    exact stepOp_sim hs hg hq hop

theorem mkGaps_sim (hs : OpsSim o RP RE) {p2 : E} {x : G} (h2 : RE p2 (x + x)) :
    ∀ (cnt : Nat) (g : E) (j : Nat), RE g ((2 * j + 1) • x) → ∀ i, i < cnt →
      ∃ e, (mkGaps o.addext p2 cnt g)[i]? = some e ∧ RE e ((2 * (j + i) + 1) • x)
  | 0, _, _, _, _, h => by omega
  | cnt + 1, g, j, hg, 0, _ => ⟨g, by simp [mkGaps], hg⟩
  | cnt + 1, g, j, hg, i + 1, h => by
    have hn : RE (o.addext g p2) ((2 * (j + 1) + 1) • x) := by
      have := hs.addext hg h2
      rwa [← two_nsmul, ← add_nsmul] at this
    obtain ⟨e, e1, hr⟩ := mkGaps_sim hs h2 cnt _ (j + 1) hn i (by omega)
    refine ⟨e, by simpa [mkGaps] using e1, ?_⟩
    rwa [show j + (i + 1) = j + 1 + i by omega]

/-- the table of odd multiples built by `scalar64_chainmul` / `scalar1024_chainmul` -/
theorem gapsSim_mkGaps (hs : OpsSim o RP RE) {p : P} {x : G} (hp : RP p x) (cnt : Nat) :
    GapsSim RE (mkGaps o.addext (o.dblext p) cnt (o.toExt p)) x (2 * (cnt : Int) - 1) := by
  intro i h1 h2 h3
  obtain ⟨e, e1, hr⟩ := mkGaps_sim hs (hs.dblext hp) cnt _ 0
    (by rw [Nat.mul_zero, Nat.zero_add, one_nsmul]; exact hs.toExt hp) (i.toNat / 2) (by omega)
  refine ⟨e, e1, ?_⟩
  rw [← natCast_zsmul] at hr
  rwa [show ((2 * (0 + i.toNat / 2) + 1 : Nat) : Int) = i by omega] at hr

theorem mul64_sim (hs : OpsSim o RP RE) (k : Nat) (hk : k < 2 ^ 64) {p : P} {x : G} (hp : RP p x) :
    ∃ q, o.mul64 k p = some q ∧ RP q (k • x) := by
  unfold Ops.mul64 scalar64Chainmul
  by_cases h0 : k = 0
  · exact ⟨o.zero, by simp [h0], by simpa [h0] using hs.zero⟩
  · simp only [h0, if_false]
    obtain ⟨c, h1, h2, _, h4⟩ := makeChain_spec k (by omega) hk
    rw [h1, ← natCast_zsmul, ← h2]
    exact runChain_sim hs (gapsSim_mkGaps hs hp 4) c h4

theorem mul1024_sim (hs : OpsSim o RP RE) (k : Nat) (hk : k < 2 ^ 1024) {p : P} {x : G} (hp : RP p x) :
    ∃ q, o.mul1024 k p = some q ∧ RP q (k • x) := by
  unfold Ops.mul1024 scalar1024Chainmul makeChainLong
  by_cases h0 : k = 0
  · exact ⟨o.zero, by simp [h0], by simpa [h0] using hs.zero⟩
  · simp only [h0, if_false]
    obtain ⟨c, h1, h2, h3, _⟩ := makeChainLongCap_spec (cap := Ymq.Gen.Curves.chainLongCap) (by omega : 0 < k) hk
      (by decide)
    rw [h1, ← natCast_zsmul, ← h2]
    exact runChain_sim hs (gapsSim_mkGaps hs hp 32) c h3

end Sim

end Ymq.EcmCurve
