/-
Root sets of quadratic / linear polynomials modulo a prime (generic part of C12), used by the SIQS, MPQS and
classical-sieve exactness theorems, and the facts about residues in `ZMod p` these share.
-/
import Mathlib.Tactic.Ring
import Mathlib.Tactic.Linarith
import Mathlib.Tactic.LinearCombination
import Mathlib.Data.Int.ModEq
import Mathlib.Data.ZMod.Basic
import Mathlib.Data.Nat.Prime.Basic
import Mathlib.Data.Nat.Prime.Int

namespace Ymq.PolyRoots

theorem int_prime_dvd_mul {p : Nat} (hp : Nat.Prime p) {a b : Int} (h : (p : Int) ∣ a * b) :
    (p : Int) ∣ a ∨ (p : Int) ∣ b :=
  (Nat.prime_iff_prime_int.mp hp).dvd_or_dvd h

theorem lin_iff {p : Nat} (hp : Nat.Prime p) {L x ρ so c s : Int} (hL : ¬ (p : Int) ∣ L)
    (hd : (p : Int) ∣ s - (L * (ρ + so) + c)) :
    (p : Int) ∣ L * (x + so) + c - s ↔ x ≡ ρ [ZMOD p] := by
  rw [Int.modEq_comm, Int.modEq_iff_dvd,
    show L * (x + so) + c - s = L * (x - ρ) - (s - (L * (ρ + so) + c)) by ring, dvd_sub_left hd,
    (Nat.prime_iff_prime_int.mp hp).dvd_mul, or_iff_right hL]

/-- Root set of a quadratic whose `M`-multiple is a difference of squares:
`M·Pv = (L·(x+so)+b)² − n`, `p ∤ M`, `p ∤ L`, `r² ≡ n`; the table entries satisfy
`L(r1+so)+b ≡ −r`, `L(r2+so)+b ≡ r`.  Then `p ∣ Pv ⟺ x ≡ r1 ∨ x ≡ r2 (mod p)`. -/
theorem quad_roots_iff {p : Nat} (hp : Nat.Prime p) {L M n r Pv x r1 r2 so b : Int}
    (hLP : M * Pv = (L * (x + so) + b) ^ 2 - n)
    (hM : ¬ (p : Int) ∣ M) (hL : ¬ (p : Int) ∣ L)
    (hr : r * r ≡ n [ZMOD p])
    (h1 : L * (r1 + so) + b ≡ -r [ZMOD p]) (h2 : L * (r2 + so) + b ≡ r [ZMOD p]) :
    (p : Int) ∣ Pv ↔ (x ≡ r1 [ZMOD p] ∨ x ≡ r2 [ZMOD p]) := by
  have hp' := Nat.prime_iff_prime_int.mp hp
  -- `p ∣ Pv ⟺ p ∣ M·Pv = (u + r)(u − r) − (r² − n)` with `u = L(x+so)+b`, and `p ∣ r² − n`
  rw [← lin_iff hp hL (Int.modEq_iff_dvd.mp h1), ← lin_iff hp hL (Int.modEq_iff_dvd.mp h2), ← hp'.dvd_mul,
    show (L * (x + so) + b - -r) * (L * (x + so) + b - r) = M * Pv + (n - r * r) by rw [hLP]; ring,
    dvd_add_left (Int.modEq_iff_dvd.mp hr), hp'.dvd_mul, or_iff_right hM]

theorem lin_root_iff {p : Nat} (hp : Nat.Prime p) {Lc C Pv x r so : Int}
    (hP : Pv ≡ Lc * (x + so) + C [ZMOD p]) (hL : ¬ (p : Int) ∣ Lc)
    (h0 : Lc * (r + so) + C ≡ 0 [ZMOD p]) :
    (p : Int) ∣ Pv ↔ x ≡ r [ZMOD p] := by
  rw [← lin_iff hp hL (Int.modEq_iff_dvd.mp h0), sub_zero]
  exact (dvd_iff_dvd_of_dvd_sub (Int.modEq_iff_dvd.mp hP)).symm

theorem quad_parity {a b : Int} (ha : a % 2 = 1) (hb : b % 2 = 1) (c y : Int) :
    (a * y ^ 2 + b * y + c) % 2 = c % 2 := by
  have h : 2 ∣ y * (a * y + b) := by
    rcases Int.emod_two_eq_zero_or_one y with h | h
    · exact Dvd.dvd.mul_right (Int.dvd_of_emod_eq_zero h) _
    · exact Dvd.dvd.mul_left (Int.dvd_of_emod_eq_zero (by rw [Int.add_emod, Int.mul_emod, ha, h, hb]; rfl)) _
  obtain ⟨k, hk⟩ := h
  rw [show a * y ^ 2 + b * y + c = c + 2 * k by rw [← hk]; ring]
  exact Int.add_mul_emod_self_left _ _ _

/-- the moduli 4 and an odd `M` combine: for odd `B` and `n ≡ 1 (mod 4)`, `M ∣ B² − n` gives `4M ∣ B² − n` (the parity
rule of the type 2 SIQS polynomials and of `make_poly` for `n ≡ 1 mod 4`) -/
theorem odd_sq_crt {B n M : Int} (hB : B % 2 = 1) (hn : n % 4 = 1) (hM : M % 2 = 1) (h : M ∣ B * B - n) :
    4 * M ∣ B * B - n := by
  obtain ⟨j, rfl⟩ : ∃ j, B = 2 * j + 1 := ⟨B / 2, by omega⟩
  obtain ⟨q, rfl⟩ : ∃ q, n = 4 * q + 1 := ⟨n / 4, by omega⟩
  obtain ⟨k, rfl⟩ : ∃ k, M = 2 * k + 1 := ⟨M / 2, by omega⟩
  obtain ⟨t, ht⟩ := h
  -- `B² − n = 4s` with `s = j² + j − q`, and `1 = M² − 4(k² + k)`
  exact ⟨(2 * k + 1) * (j * j + j - q) - (k * k + k) * t, by linear_combination (-4 * (k * k + k)) * ht⟩

theorem zmod_to_modEq {p : Nat} {a b : Int} (h : (a : ZMod p) = (b : ZMod p)) : a ≡ b [ZMOD p] :=
  (ZMod.intCast_eq_intCast_iff _ _ _).mp h

theorem zmod_mul_eq_one {p a x : Nat} (h : a * x % p = 1 % p) : (a : ZMod p) * (x : ZMod p) = 1 := by
  have := (ZMod.natCast_eq_natCast_iff' (a * x) 1 p).mpr h
  rwa [Nat.cast_mul, Nat.cast_one] at this

theorem two_mul_cast {p a s : Nat} (h : 2 * a = s ∨ 2 * a = s + p) :
    (2 : ZMod p) * (a : ZMod p) = (s : ZMod p) := by
  rcases h with e | e
  · exact_mod_cast congrArg (Nat.cast (R := ZMod p)) e
  · have := congrArg (Nat.cast (R := ZMod p)) e
    rwa [Nat.cast_add, ZMod.natCast_self, add_zero, Nat.cast_mul] at this

theorem not_dvd_two {p : Nat} (hp : Nat.Prime p) (hp2 : p ≠ 2) : ¬ ((p : Int) ∣ 2) := fun hd =>
  hp2 ((Nat.prime_dvd_prime_iff_eq hp Nat.prime_two).mp (Int.natCast_dvd_natCast.mp (by simpa using hd)))

theorem not_dvd_one {p : Nat} (hp : Nat.Prime p) : ¬ ((p : Int) ∣ 1) := fun h =>
  hp.one_lt.ne' (Nat.dvd_one.mp (Int.natCast_dvd_natCast.mp (by simpa using h)))

theorem not_dvd_of_zmod_inv {p : Nat} (hp : Nat.Prime p) {a : Int} {x : ZMod p}
    (h : (a : ZMod p) * x = 1) : ¬ (p : Int) ∣ a := by
  intro hd
  have : Fact (1 < p) := ⟨hp.one_lt⟩
  rw [(ZMod.intCast_zmod_eq_zero_iff_dvd a p).mpr hd, zero_mul] at h
  exact zero_ne_one h

/-- `Dividers::modi64`: the reduced residue of an integer -/
theorem emod_toNat_spec {p : Nat} (hp : 0 < p) (z : Int) :
    (z % (p : Int)).toNat < p ∧ (((z % (p : Int)).toNat : Nat) : ZMod p) = (z : ZMod p) := by
  have h0 := Int.emod_nonneg z (by exact_mod_cast hp.ne' : (p : Int) ≠ 0)
  refine ⟨(Int.toNat_lt h0).mpr (Int.emod_lt_of_pos _ (by exact_mod_cast hp)), ?_⟩
  rw [← Int.cast_natCast, Int.toNat_of_nonneg h0, ZMod.intCast_mod]

/-- the residue of `−c` computed from `c0 = |c| mod p`: `c0` when `c < 0` (or `c0 = 0`), `p − c0` otherwise -/
theorem neg_residue {p : Nat} (hp : 0 < p) {c : Int} {k : Nat}
    (h : k = c.natAbs % p ∧ (c < 0 ∨ c.natAbs % p = 0) ∨ k = p - c.natAbs % p ∧ ¬ c < 0) :
    (k : ZMod p) = -(c : ZMod p) := by
  have habs : ((c.natAbs : Nat) : ZMod p) = if c < 0 then -(c : ZMod p) else (c : ZMod p) := by
    rw [← Int.cast_natCast]
    split
    · rw [show (c.natAbs : Int) = -c by omega, Int.cast_neg]
    · rw [show (c.natAbs : Int) = c by omega]
  rcases h with ⟨rfl, hneg | h0⟩ | ⟨rfl, hnn⟩
  · rw [ZMod.natCast_mod, habs, if_pos hneg]
  · have hz : ((c.natAbs : Nat) : ZMod p) = 0 := by rw [← ZMod.natCast_mod, h0, Nat.cast_zero]
    rw [h0, Nat.cast_zero]
    split at habs
    · rw [← habs, hz]
    · rw [← habs, hz, neg_zero]
  · rw [Nat.cast_sub (Nat.mod_lt _ hp).le, ZMod.natCast_self, ZMod.natCast_mod, habs, if_neg hnn, zero_sub]

end Ymq.PolyRoots
