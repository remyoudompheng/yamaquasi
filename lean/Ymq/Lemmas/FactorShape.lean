/-
Plans. One level of `factor_impl` decides what to do — return, push, give up, or which recursive
calls to make in which order — from the answers of the sub-algorithms alone, without looking at
what the recursive calls return. A `Plan` is that decision; `factorStep_plan`: `factorStep o rec n alg s`
runs one plan, the same for every `rec`; `PlanOf` lists the plans that occur, `Dead` the panic sites. Everything later is
said about plans and does not walk the phases of the model again (but for `factorStep_fields` of Ymq/Lemmas/FactorClosed2.lean,
an equation between two oracles, and the closed form `C05.abort_stops`).
The walk itself: a `Phase` either ends the level with one plan or hands one value on to the next phase (`autoRho`, `autoPm1`,
`autoEcm`, the arms); `Planned` is a phase that always ends (the sieve phases, the composite phase, the level). `St.sim`: the
states a level passes through differ from the one it was entered in by the oracle state and the `pm1_done` flag only.
-/
import Ymq.Lemmas.FactorOracle
import Ymq.Lemmas.FactorCombine

namespace Ymq.Factor

variable {σ : Type}

/-- `s1` is `s` up to the oracle state and the `pm1_done` flag -/
def St.sim (s s1 : St σ) : Prop := s1.factors = s.factors ∧ s1.giveups = s.giveups

theorem St.sim_refl (s : St σ) : s.sim s := ⟨rfl, rfl⟩
theorem bindList_append (f : St σ → Nat → Res (St σ)) (l1 l2 : List Nat) (s : St σ) :
    bindList f (l1 ++ l2) s =
      match bindList f l1 s with
      | .ok s' => bindList f l2 s'
      | .panic e => .panic e
      | .fuel => .fuel := by
  induction l1 generalizing s with
  | nil => simp [bindList]
  | cons a as ih =>
    simp only [List.cons_append, bindList]
    cases f s a with
    | ok s' => simpa using ih s'
    | panic e => rfl
    | fuel => rfl

theorem bindList_congr {f g : St σ → Nat → Res (St σ)} : ∀ (L : List Nat) (s : St σ),
    (∀ m ∈ L, ∀ s, f s m = g s m) → bindList f L s = bindList g L s := by
  intro L
  induction L with
  | nil => intro s _; rfl
  | cons a as ih =>
    intro s h
    simp only [bindList]
    rw [h a List.mem_cons_self]
    cases g s a with
    | ok s' => exact ih s' fun m hm => h m (List.mem_cons_of_mem _ hm)
    | panic e => rfl
    | fuel => rfl

theorem bindList_total {f : St σ → Nat → Res (St σ)} {L : List Nat}
    (hf : ∀ m ∈ L, ∀ s, ∃ s', f s m = .ok s') (s : St σ) : ∃ s', bindList f L s = .ok s' := by
  induction L generalizing s with
  | nil => exact ⟨s, rfl⟩
  | cons a as ih =>
    obtain ⟨s1, h1⟩ := hf a (by simp) s
    rw [bindList, h1]
    exact ih (fun m hm => hf m (by simp [hm])) s1

theorem splitManyR_eq (rec : Nat → St σ → Res (St σ)) (s : St σ) (as : List Nat) (b : Nat) :
    splitManyR rec s as b = bindList (fun s m => rec m s) (as ++ [b]) s := by
  rw [bindList_append]
  unfold splitManyR
  cases bindList (fun s m => rec m s) as s with
  | ok s' =>
    simp only [bindList]
    cases rec b s' <;> rfl
  | panic e => rfl
  | fuel => rfl

theorem splitTwoR_eq (rec : Nat → St σ → Res (St σ)) (s : St σ) (a b : Nat) :
    splitTwoR rec s a b = bindList (fun s m => rec m s) [a, b] s := by
  unfold splitTwoR
  simp only [bindList]
  cases rec a s with
  | ok s' =>
    dsimp only
    cases rec b s' <;> rfl
  | panic e => rfl
  | fuel => rfl

theorem ppResult_congr (s s' : St σ) (h : s.factors = s'.factors) (k : Nat) (r : Res (St σ)) :
    ppResult s k r = ppResult s' k r := by
  cases r <;> simp [ppResult, h]

/-- What one level of `factor_impl` has decided to do once the sub-algorithms have answered; the
recursive calls are left open. -/
inductive Plan (σ : Type)
  | ret (r : Res (St σ))
  | pp (p k : Nat) (s0 : St σ)
  | calls (L : List Nat) (s1 : St σ)
  | final (facs : List Nat) (s1 : St σ)

def Plan.run (o : Oracle σ) (n : Nat) (s : St σ) (rec : Nat → St σ → Res (St σ)) :
    Plan σ → Res (St σ)
  | .ret r => r
  | .pp p k s0 => ppResult s k (rec p s0)
  | .calls L s1 => bindList (fun s m => rec m s) L s1
  | .final facs s1 => bindList (finalStep o rec n) facs s1

/-- the arguments on which a plan for `n` may call `rec` -/
def Plan.Calls (n : Nat) : Plan σ → Nat → Prop
  | .ret _, _ => False
  | .pp p _ _, m => m = p
  | .calls L _, m => m ∈ L
  | .final facs _, m => m ∈ facs ∧ m ≠ n

namespace Plan

variable {o : Oracle σ} {n : Nat} {s : St σ} {rec rec' : Nat → St σ → Res (St σ)}

theorem run_congr (P : Plan σ) (h : ∀ m, P.Calls n m → ∀ s, rec m s = rec' m s) :
    P.run o n s rec = P.run o n s rec' := by
  cases P with
  | ret r => rfl
  | pp p k s0 => simp only [Plan.run, h p rfl]
  | calls L s1 => exact bindList_congr L s1 fun m hm s => h m hm s
  | final facs s1 =>
    refine bindList_congr facs s1 fun f hf s => ?_
    unfold finalStep
    split
    · rfl
    · rename_i hfn; rw [h f ⟨hf, hfn⟩]

theorem run_total (P : Plan σ) (hret : ∀ r, P = .ret r → ∃ s', r = .ok s')
    (h : ∀ m, P.Calls n m → ∀ s, ∃ s', rec m s = .ok s') : ∃ s', P.run o n s rec = .ok s' := by
  cases P with
  | ret r => exact hret r rfl
  | pp p k s0 => obtain ⟨s', hs'⟩ := h p rfl s0; exact ⟨_, by simp only [Plan.run, hs']; rfl⟩
  | calls L s1 => exact bindList_total (fun m hm s => h m hm s) s1
  | final facs s1 =>
    refine bindList_total (fun f hf s => ?_) s1
    unfold finalStep
    split
    · exact ⟨_, rfl⟩
    · rename_i hfn
      split
      · exact h f ⟨hf, hfn⟩ _
      · exact ⟨_, rfl⟩

end Plan

/-- the panic sites of one level -/
inductive Dead (o : Oracle σ) (n : Nat) (alg : Algo) : Prop
  /-- `assert!(n.bits() <= 64)` of the Qs64 / Rho / Squfof arms -/
  | bits : alg = .qs64 ∨ alg = .rho ∨ alg = .squfof → 64 < bits n → Dead o n alg
  /-- `n / Uint::from(d)` with `d = 0` -/
  | unexpected (t : σ) (a : Algo) : (o.sieve t a n).1 = .unexpected 0 → Dead o n alg
  /-- division by zero or `assert!(residue.is_one())` in the combination loop -/
  | combine (t : σ) (a : Algo) (ds : List Nat) (e : String) : (o.sieve t a n).1 = .divs ds →
      combineDivs [n] ds = .panic e → Dead o n alg

/-- The plans one level of `factor_impl` can make for argument `n` entered in state `s`. -/
inductive PlanOf (o : Oracle σ) (n : Nat) (alg : Algo) (s : St σ) : Plan σ → Prop
  /-- `if n.is_one() { return }` -/
  | one : n = 1 → PlanOf o n alg s (.ret (.ok s))
  | pp (p k : Nat) (s0 : St σ) : n ≠ 1 → (o.pp s.os n).1 = some (p, k) → s0.factors = [] →
      s0.giveups = s.giveups → PlanOf o n alg s (.pp p k s0)
  /-- `pseudoprime(n)` answered true (in oracle state `t`): `n` pushed -/
  | prime (s1 : St σ) (t : σ) : n ≠ 1 → s.sim s1 → (o.prime t n).1 = true →
      PlanOf o n alg s (.ret (.ok (s1.push n)))
  /-- explicit give-up: `n` pushed unsplit (sub-algorithm returned none / abort / empty divisors) -/
  | giveup (s1 : St σ) : n ≠ 1 → s.sim s1 → PlanOf o n alg s (.ret (.ok (s1.giveup n)))
  | split (s1 : St σ) (L : List Nat) : n ≠ 1 → s.sim s1 → IsSplit o n L →
      PlanOf o n alg s (.calls L s1)
  /-- any `ds`: only what `combineDivs` makes of them matters -/
  | sieve (s1 : St σ) (ds facs : List Nat) : n ≠ 1 → s.sim s1 → combineDivs [n] ds = .ok facs →
      PlanOf o n alg s (.final facs s1)
  | panic (e : String) : Dead o n alg → PlanOf o n alg s (.ret (.panic e))

/-- `f`, whatever `rec` is, carries out one plan of the listed kinds -/
def Planned (o : Oracle σ) (n : Nat) (alg : Algo) (s : St σ)
    (f : (Nat → St σ → Res (St σ)) → Res (St σ)) : Prop :=
  ∃ P, PlanOf o n alg s P ∧ ∀ rec, f rec = P.run o n s rec

/-- a phase, whatever `rec` is, either ends the level with one plan or hands on one value -/
inductive Phase (o : Oracle σ) (n : Nat) (alg : Algo) (s : St σ) {α : Type} (R : α → Prop)
    (f : (Nat → St σ → Res (St σ)) → Res (St σ) ⊕ α) : Prop
  | ends (P : Plan σ) : PlanOf o n alg s P → (∀ rec, f rec = .inl (P.run o n s rec)) →
      Phase o n alg s R f
  | next (a : α) : R a → (∀ rec, f rec = .inr a) → Phase o n alg s R f

variable {o : Oracle σ} {n : Nat} {alg : Algo} {s s0 : St σ}

theorem Phase.handOn {α : Type} {R : α → Prop} {a : α} (ha : R a) :
    Phase o n alg s R fun _ => .inr a := .next a ha fun _ => rfl

theorem Phase.giveup {α : Type} {R : α → Prop} (hn : n ≠ 1) (hsim : s.sim s0) :
    Phase o n alg s R fun _ => .inl (.ok (s0.giveup n)) :=
  .ends _ (.giveup s0 hn hsim) fun _ => rfl

theorem Phase.panic {α : Type} {R : α → Prop} (e : String) (h : Dead o n alg) :
    Phase o n alg s R fun _ => .inl (.panic e) :=
  .ends _ (.panic e h) fun _ => rfl

/-- a splitting sub-algorithm was asked: calls over the parts it returned, or on `none` what `k` does -/
theorem many_phase {α : Type} {R : α → Prop} (hn : n ≠ 1)
    {q : Option (List Nat × Nat)} (hq : ∀ as b, q = some (as, b) → IsSplit o n (as ++ [b]))
    {k : (Nat → St σ → Res (St σ)) → Res (St σ) ⊕ α} (hk : Phase o n alg s R k)
    (hsim : s.sim s0) :
    Phase o n alg s R fun rec =>
      match (generalizing := false) q with
      | some (as, b) => .inl (splitManyR rec s0 as b)
      | none => k rec := by
  cases q with
  | none => exact hk
  | some ab =>
    exact .ends _ (.split s0 _ hn hsim (hq _ _ rfl))
      fun rec => congrArg Sum.inl (splitManyR_eq rec s0 _ _)

theorem two_phase {α : Type} {R : α → Prop} (hn : n ≠ 1)
    {q : Option (Nat × Nat)} (hq : ∀ a b, q = some (a, b) → IsSplit o n [a, b])
    {k : (Nat → St σ → Res (St σ)) → Res (St σ) ⊕ α} (hk : Phase o n alg s R k)
    (hsim : s.sim s0) :
    Phase o n alg s R fun rec =>
      match (generalizing := false) q with
      | some (a, b) => .inl (splitTwoR rec s0 a b)
      | none => k rec := by
  cases q with
  | none => exact hk
  | some ab =>
    exact .ends _ (.split s0 _ hn hsim (hq _ _ rfl))
      fun rec => congrArg Sum.inl (splitTwoR_eq rec s0 _ _)

theorem autoRho_phase (hn : n ≠ 1) (hsim : s.sim s0) :
    Phase o n alg s (s.sim ·) (autoRho o · n s0) := by
  unfold autoRho
  split
  · exact many_phase hn (IsSplit.rho s0.os) (.handOn hsim) hsim
  · exact .handOn hsim

theorem autoPm1_phase (hn : n ≠ 1) (hsim : s.sim s0) :
    Phase o n alg s (s.sim ·) (autoPm1 o · n s0) := by
  unfold autoPm1
  split
  · exact many_phase hn (IsSplit.pm1q s0.os) (.handOn hsim) hsim
  · exact .handOn hsim

/-- the selectors `a` that can reach the `match alg_real` when `factor_impl` was called with
`alg`: never `Auto` -/
def Selected (alg a : Algo) : Prop := a = .ecm128 ∨ a = .siqs ∨ (a = alg ∧ alg ≠ .auto)

theorem autoEcm_phase (hn : n ≠ 1) (hsim : s.sim s0) :
    Phase o n alg s (fun p : Algo × St σ => s.sim p.2 ∧ Selected alg p.1) (autoEcm o · n s0) := by
  unfold autoEcm
  exact two_phase hn (IsSplit.ecmauto s0.os)
    (.handOn ⟨hsim, by unfold Selected; split <;> simp⟩) hsim

/- The phases are chained by hand: a lemma about `match f rec with | .inl r => .inl r | .inr a => g a rec`
does not unify with the matcher that `autoPhase` was compiled to. -/
theorem autoPhase_phase (hn : n ≠ 1) (hsim : s.sim s0) :
    Phase o n alg s (fun p : Algo × St σ => s.sim p.2 ∧ Selected alg p.1)
      (autoPhase o · n alg s0) := by
  unfold autoPhase
  split
  · rcases autoRho_phase (alg := alg) hn hsim with ⟨P, hP, h⟩ | ⟨s1, h1, h⟩
    · exact .ends P hP fun rec => by simp only [h]
    rcases autoPm1_phase (alg := alg) hn h1 with ⟨P, hP, h'⟩ | ⟨s2, h2, h'⟩
    · exact .ends P hP fun rec => by simp only [h, h']
    simp only [h, h']
    exact autoEcm_phase hn h2
  · exact .handOn ⟨hsim, .inr (.inr ⟨rfl, ‹_›⟩)⟩

/-- the arms never fall through, except those of the three sieve selectors -/
theorem armPhase_phase {a : Algo} (hn : n ≠ 1) (hsim : s.sim s0) (ha : Selected alg a) :
    Phase o n alg s (fun s1 => s1 = s0 ∧ (a = .qs ∨ a = .mpqs ∨ a = .siqs))
      (armPhase o · n a s0) := by
  have hbits : 64 < bits n → a = .qs64 ∨ a = .rho ∨ a = .squfof → Dead o n alg := fun hb h =>
    .bits (by unfold Selected at ha; rcases h with h | h | h <;> simp_all) hb
  unfold armPhase
  cases a with
  | auto => exact absurd ha (by simp +contextual [Selected, eq_comm])
  | pm1 => exact many_phase hn (IsSplit.pm1 s0.os) (.giveup hn hsim) hsim
  | ecm => exact two_phase hn (IsSplit.ecm s0.os) (.giveup hn hsim) hsim
  | ecm128 => exact two_phase hn (IsSplit.ecm128 s0.os) (.giveup hn hsim) hsim
  | qs64 =>
    dsimp only; split
    · exact .panic _ (hbits ‹_› (by simp))
    · exact two_phase hn (IsSplit.qs64 s0.os) (.giveup hn hsim) hsim
  | rho =>
    dsimp only; split
    · exact .panic _ (hbits ‹_› (by simp))
    · exact many_phase hn (IsSplit.rho s0.os) (.giveup hn hsim) hsim
  | squfof =>
    dsimp only; split
    · exact .panic _ (hbits ‹_› (by simp))
    · exact two_phase hn (IsSplit.squfof s0.os) (.giveup hn hsim) hsim
  | qs => exact .handOn ⟨rfl, by simp⟩
  | mpqs => exact .handOn ⟨rfl, by simp⟩
  | siqs => exact .handOn ⟨rfl, by simp⟩

theorem sieveResult_planned (hn : n ≠ 1) (hsim : s.sim s0) (t : σ) (a : Algo) {sr : SieveRes}
    (hsr : (o.sieve t a n).1 = sr) : Planned o n alg s (sieveResult o · n s0 sr) := by
  unfold sieveResult
  split
  · rename_i d
    split
    · rename_i hd; subst hd
      exact ⟨_, .panic _ (.unexpected t a hsr), fun _ => rfl⟩
    · exact ⟨_, .split s0 _ hn hsim (.unexpected t a d hsr ‹_›),
        fun rec => splitTwoR_eq rec s0 _ _⟩
  · exact ⟨_, .giveup s0 hn hsim, fun _ => rfl⟩
  · rename_i ds _
    split
    · rename_i e he
      exact ⟨_, .panic e (.combine t a ds e hsr he), fun _ => rfl⟩
    · exact absurd ‹_› (combineDivs_ne_fuel _ _)
    · rename_i facs he
      exact ⟨_, .sieve s0 ds facs hn hsim he, fun _ => rfl⟩

theorem sievePhase_planned {a : Algo} (hn : n ≠ 1) (hsim : s.sim s0)
    (ha : a = .qs ∨ a = .mpqs ∨ a = .siqs) : Planned o n alg s (sievePhase o · n a s0) := by
  unfold sievePhase
  split
  · exact ⟨_, .giveup { s0 with os := (o.abort s0.os n).2 } hn hsim, fun _ => rfl⟩
  · split
    · rename_i hne
      rcases ha with h | h | h <;> simp [h] at hne
    · exact sieveResult_planned (s0 := { s0 with os := (o.sieve (o.abort s0.os n).2 a n).2 })
        hn hsim (o.abort s0.os n).2 a rfl

theorem compositePhase_planned (hn : n ≠ 1) (hsim : s.sim s0) :
    Planned o n alg s (compositePhase o · n alg s0) := by
  unfold compositePhase
  rcases autoPhase_phase (alg := alg) hn hsim with ⟨P, hP, h⟩ | ⟨⟨a, s1⟩, ⟨h1, ha⟩, h⟩
  · exact ⟨P, hP, fun rec => by simp only [h]⟩
  rcases armPhase_phase hn h1 ha with ⟨P, hP, h'⟩ | ⟨_, ⟨rfl, hq⟩, h'⟩
  · exact ⟨P, hP, fun rec => by simp only [h, h']⟩
  simp only [h, h']
  exact sievePhase_planned hn h1 hq

/-- `Planned o n alg s (factorStep o · n alg s)`, spelt out so that users can rewrite with the equation -/
theorem factorStep_plan (o : Oracle σ) (n : Nat) (alg : Algo) (s : St σ) :
    ∃ P, PlanOf o n alg s P ∧ ∀ rec, factorStep o rec n alg s = P.run o n s rec := by
  unfold factorStep
  split
  · exact ⟨_, .one ‹_›, fun _ => rfl⟩
  · rename_i hn
    split
    · rename_i p k hpp
      exact ⟨_, .pp p k { s with os := (o.pp s.os n).2, factors := [] } hn hpp rfl rfl,
        fun _ => rfl⟩
    · split
      · exact ⟨_, .prime { s with os := (o.prime (o.pp s.os n).2 n).2 } _ hn ⟨rfl, rfl⟩ ‹_›,
          fun _ => rfl⟩
      · exact compositePhase_planned (s0 := { s with os := (o.prime (o.pp s.os n).2 n).2 }) hn
          ⟨rfl, rfl⟩

end Ymq.Factor
