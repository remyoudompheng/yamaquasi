/-
Refinement of the word-level model of `pseudoprime` (Ymq/Model/PseudoprimeWord.lean, running on
the limb-level `ZmodN`) to the residue-level model (Ymq/Model/Pseudoprime.lean), by composition
with C07's specifications of `ZmodN::{mul, sub, from_int}`.

`Rep c m a`: the `MInt` `m` (8 well-formed words) is the Montgomery form of the residue `a < n`,
i.e. `val m = a·R mod n` with `R = 2^(64k)`.  `a ↦ a·R mod n` is a bijection of `[0, n)`
(`R` is a unit modulo the odd `n`), so `==` on `MInt`s decides equality of residues.
-/
import Ymq.Lemmas.ZmodNOps
import Ymq.Model.PseudoprimeWord

namespace Ymq.PseudoprimeWord
open Ymq.Limbs Ymq.ZmodN Ymq.Pseudoprime

structure Rep (c : Ctx) (m : List Nat) (a : Nat) : Prop where
  wf : Wf m
  len : m.length = 8
  lt : a < c.n
  eq : val m = a * W ^ c.k % c.n

theorem Rep.vlt {c : Ctx} (h : Valid c) {m : List Nat} {a : Nat} (r : Rep c m a) : val m < c.n := by
  rw [r.eq]; exact Nat.mod_lt _ h.npos

theorem Rep.modEq {c : Ctx} {m : List Nat} {a : Nat} (r : Rep c m a) :
    val m ≡ a * W ^ c.k [MOD c.n] := r.eq ▸ Nat.mod_modEq _ _

theorem Rep.eq_iff {c : Ctx} (h : Valid c) {m m' : List Nat} {a a' : Nat}
    (r : Rep c m a) (r' : Rep c m' a') : m = m' ↔ a = a' := by
  constructor
  · intro hm
    have := (Mont.form_inj h.cop).1 ((hm ▸ r.modEq).symm.trans r'.modEq)
    rwa [Nat.ModEq, Nat.mod_eq_of_lt r.lt, Nat.mod_eq_of_lt r'.lt] at this
  · intro ha
    exact eq_of_val_eq r.wf r'.wf (by rw [r.len, r'.len]) (by rw [r.eq, r'.eq, ha])

/-- `zp.one()` represents 1 -/
theorem rep_one {c : Ctx} (h : Valid c) (h1 : 1 < c.n) : Rep c c.r 1 :=
  ⟨h.rwf, h.rlen, h1, by rw [h.rval, Nat.one_mul]⟩

theorem rep_mul {c : Ctx} (h : Valid c) {x y : List Nat} {a b : Nat}
    (rx : Rep c x a) (ry : Rep c y b) :
    ∃ m, mul c x y = some m ∧ Rep c m (a * b % c.n) := by
  obtain ⟨m, e1, e2, e3, e4, e5⟩ := mul_spec' h x y rx.wf rx.len ry.len (rx.vlt h) (ry.vlt h)
  exact ⟨m, e1, e5, e4, Nat.mod_lt _ h.npos, Mont.eq_of_modEq_of_lt
    ((Mont.form_mul h.cop e3 rx.modEq ry.modEq).trans ((Nat.mod_modEq _ _).mul_right _).symm) e2⟩

theorem rep_fromInt {c : Ctx} (h : Valid c) (b : Nat) (hb : b < c.n) :
    ∃ m, fromInt c b = some m ∧ Rep c m b := by
  obtain ⟨m, e1, _, e3, e4, e5⟩ := fromInt_spec h b hb
  exact ⟨m, e1, e5, e4, hb, e3⟩

/-- `zp.sub(&zp.zero(), &zp.one())` represents `n - 1`, for EVERY admitted modulus (8-word ones
included: `0 + n < 2^512` is the case of `sub` that needs no headroom). -/
theorem rep_pm1 {c : Ctx} (h : Valid c) (h1 : 1 < c.n) :
    ∃ m, sub c (zeros MW) c.r = some m ∧ Rep c m (c.n - 1) := by
  have hz : val (zeros MW) = 0 := val_zeros _
  have hr : val c.r < c.n := by rw [h.rval]; exact Nat.mod_lt _ h.npos
  obtain ⟨m, e1, e2, e3, e4, e5⟩ := sub_spec' h (zeros MW) c.r (Wf_zeros _) h.rwf
    (by simp [zeros, MW]) h.rlen (by rw [hz]; exact h.npos) hr
    (by right; right; rw [hz, Nat.zero_add]; exact h.nlt8)
  rw [hz] at e3
  exact ⟨m, e1, e5, e4, by omega, Mont.eq_of_modEq_of_lt
    (Mont.form_neg_one h.npos e3 (rep_one h h1).modEq) e2⟩

theorem powModW_eq {c : Ctx} (h : Valid c) :
    ∀ (f : Nat) (res x : List Nat) (a b e : Nat), Rep c res a → Rep c x b →
      ∃ m, powModW c f res x e = some m ∧ Rep c m (powMod c.n f a b e) := by
  intro f
  induction f with
  | zero => intro res x a b e ra _; exact ⟨res, rfl, ra⟩
  | succ f ih =>
    intro res x a b e ra rb
    unfold powModW powMod
    by_cases he : e = 0
    · rw [if_pos he, if_pos he]; exact ⟨res, rfl, ra⟩
    · rw [if_neg he, if_neg he]
      obtain ⟨x', hx', rx'⟩ := rep_mul h rb rb
      by_cases hb : e % 2 = 1
      · obtain ⟨res', hr', rr'⟩ := rep_mul h ra rb
        simp only [if_pos hb, hr', hx']
        exact ih res' x' _ _ _ rr' rx'
      · simp only [if_neg hb, hx']
        exact ih res x' _ _ _ ra rx'

theorem sqLoopW_eq {c : Ctx} (h : Valid c) (h1 : 1 < c.n) {pm1 : List Nat}
    (rp : Rep c pm1 (c.n - 1)) :
    ∀ (t : Nat) (pow : List Nat) (a : Nat) (ok : Bool), Rep c pow a →
      sqLoopW c pm1 t pow ok = some (sqLoop c.n t a ok) := by
  intro t
  induction t with
  | zero => intro pow a ok _; rfl
  | succ t ih =>
    intro pow a ok ra
    unfold sqLoopW sqLoop
    obtain ⟨pow', hp', rp'⟩ := rep_mul h ra ra
    simp only [hp']
    -- `==` on representations decides equality of the residues
    rw [if_congr (rp'.eq_iff h rp) rfl
      (if_congr (rp'.eq_iff h (rep_one h h1)) rfl (ih pow' _ ok rp'))]
    simp only [apply_ite some]

theorem millerBaseW_eq {c : Ctx} (h : Valid c) (h1 : 1 < c.n) (s podd b : Nat) (hb : b < c.n) :
    millerBaseW c s podd b = some (millerBase c.n s podd b) := by
  obtain ⟨bm, hbm, rb⟩ := rep_fromInt h b hb
  obtain ⟨pow, hpow, rpow⟩ := powModW_eq h 1024 c.r bm 1 b podd (rep_one h h1) rb
  obtain ⟨pm1, hpm1, rp⟩ := rep_pm1 h h1
  unfold millerBaseW millerBase
  simp only [hbm, hpow, hpm1, Nat.mod_eq_of_lt hb]
  rw [sqLoopW_eq h h1 rp s pow _ _ rpow, decide_eq_decide.2 (rpow.eq_iff h (rep_one h h1)),
    decide_eq_decide.2 (rpow.eq_iff h rp)]

/-- the base loop with its early `return false` is `List.all` -/
theorem basesW_eq {c : Ctx} (h : Valid c) (h1 : 1 < c.n) (s podd : Nat) :
    ∀ l : List Nat, (∀ b ∈ l, b < c.n) →
      basesW c s podd l = some (l.all fun b => millerBase c.n s podd b) := by
  intro l
  induction l with
  | nil => intro _; rfl
  | cons b bs ih =>
    intro hl
    unfold basesW
    rw [millerBaseW_eq h h1 s podd b (hl b (by simp))]
    simp only [List.all_cons]
    cases hm : millerBase c.n s podd b
    · simp
    · simp only [if_true, Bool.true_and]
      exact ih (fun b' hb' => hl b' (by simp [hb']))

end Ymq.PseudoprimeWord
