/-
The model of `ecm128::ecm_curve` (Model/Ecm128Curve.lean) over point operations that simulate an additive commutative
group (`OpsSim` of the operations in the shape of `ecm::ecm_curve`, `Ops128.asOps`, with a fused double-add), and
what its exits return (`gcdExit`). Everything about the loops shared with `ecm::ecm_curve` is taken from
Lemmas/EcmCurveGroup.lean through `Ops128.asOps`.
-/
import Ymq.Model.Ecm128Curve
import Ymq.Lemmas.EcmCurveGroup

namespace Ymq.Ecm128Curve
open Ymq.Chain Ymq.EcmCurve

section Sim
variable {P E G : Type} [AddCommGroup G] {o : Ops128 P E} {RP : P → G → Prop} {RE : E → G → Prop}

/-- the fused double-add of `scalar64_mul` is the extended addition after the extended doubling, without `t` -/
def Fused (o : Ops128 P E) : Prop := ∀ p q, o.dbladd p q = o.proj (o.add (o.dblext p) q)

theorem mul_eq_mul64 (hf : Fused o) (k : Nat) (p : P) : o.mul k p = o.asOps.mul64 k p :=
  scalar64Mul128_eq _ _ _ _ _ _ _ _ o.asOps.addp o.asOps.subp hf (fun _ _ => rfl) k p

theorem mul_sim (hf : Fused o) (hs : OpsSim o.asOps RP RE) (k : Nat) (hk : k < 2 ^ 64) {p : P} {x : G} (hp : RP p x) :
    ∃ q, o.mul k p = some q ∧ RP q (k • x) := by
  rw [mul_eq_mul64 hf]
  exact mul64_sim hs k hk hp

/-- Stage 1 for `u64` blocks, whatever number `xv` reads off a point and whatever `n` is: if it goes on to stage 2 it
does so with a point standing for `[∏ factors] x`; it never panics; with no exit the blocks applied in order give
that point. -/
theorem stage1_sim (hf : Fused o) (hs : OpsSim o.asOps RP RE) (n : Nat) (xv : P → Nat) :
    ∀ (fs : List Nat) (g : P) (x : G), (∀ f ∈ fs, f < 2 ^ 64) → RP g x →
      GoesWith (stage1 o n xv fs g) (RP · (fs.prod • x)) ∧ NoPanic (stage1 o n xv fs g) ∧
      ∃ q, stage1Point o fs g = some q ∧ RP q (fs.prod • x)
  | [], g, x, _, hg => by
    have hg' : RP g (([] : List Nat).prod • x) := by simpa using hg
    refine ⟨?_, ?_, g, rfl, hg'⟩
    · unfold stage1; split
      · trivial
      · exact hg'
    · unfold stage1; split <;> trivial
  | f :: fs, g, x, h, hg => by
    obtain ⟨fg, e, hfg⟩ := mul_sim hf hs f (h f List.mem_cons_self) hg
    obtain ⟨h1, h2, h3⟩ := stage1_sim hf hs n xv fs fg _ (fun y hy => h y (List.mem_cons_of_mem _ hy)) hfg
    rw [List.prod_cons, mul_nsmul]
    refine ⟨?_, ?_, by unfold stage1Point; rw [e]; exact h3⟩
    all_goals unfold stage1; rw [e]; simp only; split
    exacts [trivial, h1, trivial, h2]

theorem babySteps_sim (hs : OpsSim o.asOps RP RE) {g : P} {y : G} (hg : RP g y) {d1 : Nat} (hev : 2 ∣ d1)
    (h4 : 4 ≤ d1) : ∃ r, babySteps o d1 g = some r ∧ List.Forall₂ RP r ((babyIdx d1).map (· • y)) := by
  obtain ⟨rest, r, hr, e, h⟩ := babyTable_sim hs hg (hs.toExt hg)
    (gapsEven_pair (a := o.dblext g) (b := o.dblext (o.proj (o.dblext g))) (hs.dblext hg)
      (hs.dblext (hs.toProj (hs.dblext hg)))) (by simp) hev h4
  unfold babySteps
  rw [hr]
  simp only [ne_eq, not_true_eq_false, if_false]
  exact ⟨_, by rw [show babyLoop o.asOps rest 1 (o.ext g) _ = some r from e]; rfl, h⟩

theorem giantSteps_sim (hf : Fused o) (hs : OpsSim o.asOps RP RE) {g : P} {y : G} (hg : RP g y) {d1 : Nat}
    (hd : d1 < 2 ^ 64) (d2 : Nat) :
    ∃ r, giantSteps o d1 d2 g = some r ∧ List.Forall₂ RP r ((giantIdx d2).map (fun i => (i * d1) • y)) := by
  obtain ⟨dg, e, hdg⟩ := mul_sim hf hs d1 hd hg
  have h2 : RE (o.dblext dg) ((2 * d1) • y) := by rw [two_mul, add_nsmul]; exact hs.dblext hdg
  unfold giantSteps
  rw [e, giantIdx_eq]
  exact ⟨_, rfl, .cons (by show RP dg ((1 * d1) • y); rwa [one_mul])
    (.cons (hs.toProj h2) (giantLoop_sim hs (hs.toExt hdg) _ 2 _ h2))⟩

end Sim

section Group
variable {G : Type} [AddCommGroup G]

/-- the point operations of `ecm128::Curve` read in a group -/
def grp128 : Ops128 G G where
  zero := 0
  ext := id
  proj := id
  double := dbl
  dblext := dbl
  add := fun a b => a + b
  dbladd := fun q g => dbl q + g
  neg := fun g => -g

theorem grp128_asOps : (grp128 : Ops128 G G).asOps = (grpOps : Ops G G) := by
  unfold Ops128.asOps grp128 grpOps
  congr 1
  funext a b
  exact (sub_eq_add_neg a b).symm

theorem grp128_fused : Fused (grp128 : Ops128 G G) := fun _ _ => rfl

theorem grp128Sim : OpsSim (grp128 : Ops128 G G).asOps Eq Eq := grp128_asOps (G := G) ▸ grpSim (G := G)

end Group

section Sound
variable {P E X : Type}

theorem gcdExit_sound {n x d e : Nat} (h : gcdExit n x = some (d, e)) : 1 < d ∧ d < n ∧ d * e = n := by
  unfold gcdExit at h
  simp only at h
  split at h
  · rename_i hc
    simp only [Option.some.injEq, Prod.mk.injEq] at h
    obtain ⟨rfl, rfl⟩ := h
    exact ⟨hc.1, hc.2, Nat.mul_div_cancel' (Nat.gcd_dvd_right x n)⟩
  · exact absurd h (by simp)

theorem stage1_ret (o : Ops128 P E) (n : Nat) (xv : P → Nat) : ∀ (fs : List Nat) (g : P) (r : Option (Nat × Nat)),
    stage1 o n xv fs g = .ret r → ∃ x, r = gcdExit n x
  | [], g, r, h => by
    unfold stage1 at h
    split at h
    · rename_i r' hr; cases h; exact ⟨_, hr.symm⟩
    · cases h
  | f :: fs, g, r, h => by
    unfold stage1 at h
    split at h
    · cases h
    · split at h
      · cases h; exact ⟨_, rfl⟩
      · exact stage1_ret o n xv fs _ r h

end Sound

theorem accumulate_eq_zero {X : Type} [CommRing X] (bys gys : List X) (one : X) (k : Nat) (hk : k < gys.length)
    (h : ∀ j, k ≤ j → ∀ v, (prodRows (· * ·) (· - ·) bys gys one)[j]? = some v → v = 0) :
    accumulate (· * ·) (· - ·) bys gys one = 0 := by
  have hlen := prodRows_length bys gys one
  unfold accumulate
  rw [List.getLast?_eq_getElem?]
  have hidx : (prodRows (· * ·) (· - ·) bys gys one).length - 1 < (prodRows (· * ·) (· - ·) bys gys one).length := by
    omega
  rw [List.getElem?_eq_getElem hidx]
  simp only [Option.getD_some]
  exact h _ (by omega) _ (List.getElem?_eq_getElem hidx)

end Ymq.Ecm128Curve
