/-
The oracle contract `OracleOK` of the `Factor` control-flow model (C01/C03/C05) derived from the MODELS of the
sub-algorithms verified by the other properties:

  clause            discharged from                                        predicate on the oracle
  pp                C08 `perfect_power_spec`        (Model/Arith.lean)      `UsesPerfectPower`
  sieveDivs, qs64   C11 `final_step_proper`         (Model/Relations.lean)  `UsesFinalStep`, `UsesQs64`
  rho               C16 `rho64_proper`              (Model/ExpModn.lean)    `UsesRho64`
  pm1q, pm1         C16 `check_gcd_factors_inv`, `pm1_polyeval_inv`,
                        `pm1_result_proper`                                  `UsesPm1`
  ecmauto/ecm/ecm128  C16 `guard_proper`, `check_gcd_factor_proper`          `UsesEcmExits`
  squfof            exits of squfof.rs (+ named fact `p_prev < n`)            `UsesSqufofExit`
  sieveUnexpected   ASSUMED, no model of fbase.rs `check_divisors`: `d ∣ n`, `2 ≤ d` (`UsesUnexpectedFactor`), `d ≠ n` (`ResidualOK`)

Each `Uses…` predicate of the first six rows says "whatever this oracle field returns is an output of the modelled
function (for SOME inputs of the parts that stay abstract: relations, kernel vectors, value lists, seeds)". Like
`UsesPseudoprime` (Props/C02C06.lean) they are tied to the code by the correspondence streams of the property that owns
the model.

Three sets of premises lead to the contract, one file each; down the list exit-level premises give way to "the field is
the model of the whole function", and each set of premises implies the one above it:
  this file        every field through its exits: `OracleOK o` itself (`oracleOK_of_models_aux`; Props/C01Closed.lean);
  FactorClosed2    `qs64`, `squfof` answer as the models of the whole functions do (`Qs64Model`, `SqufofModel`). Those return
                   improper pairs on tiny arguments, so the contract holds for `guardOracle o` (the two fields silenced
                   outside `Guard`), which `factor` cannot tell from `o` (Props/C01Closed2.lean);
  FactorClosed3    `pp`, `rho` ARE the models of the whole functions (`PerfectPowerModel`, `RhoModel`); the guarded oracle
                   is `guardOracle3` (Props/C01Closed3.lean).
-/
import Ymq.Lemmas.FactorTop
import Ymq.Props.C08
import Ymq.Props.C11
import Ymq.Props.C16
import Mathlib.Tactic.Ring

namespace Ymq.Factor

variable {σ : Type}

/-- the `pp` field only returns what the modelled `arith::perfect_power` returns (lib.rs:240-246
calls the same generic function on the `u64` and on the `Uint` path; the model is over `Nat`). -/
def UsesPerfectPower (o : Oracle σ) : Prop :=
  ∀ t n r, (o.pp t n).1 = some r → Ymq.Arith.perfectPower n = some (some r)

theorem pp_clause {o : Oracle σ} (h : UsesPerfectPower o) :
    ∀ s n p k, 2 ≤ n → (o.pp s n).1 = some (p, k) → p ^ k = n ∧ 2 ≤ k ∧ 2 ≤ p := by
  intro s n p k hn hpp
  have hspec := Ymq.C08.perfect_power_spec n (some (p, k)) (h s n (p, k) hpp)
  obtain ⟨hpk, hk⟩ : p ^ k = n ∧ 2 ≤ k := hspec
  refine ⟨hpk, hk, ?_⟩
  rcases Nat.lt_or_ge p 2 with hp | hp
  · have hp01 : p = 0 ∨ p = 1 := by omega
    rcases hp01 with rfl | rfl
    · rw [Nat.zero_pow (by omega)] at hpk; omega
    · rw [Nat.one_pow] at hpk; omega
  · exact hp

/-- a non-empty divisor list returned by `qsieve`/`mpqs`/`siqs` is the output of the modelled
`relations::final_step` for SOME factor base, relations, kernel vectors and primality answers
(qsieve.rs:227, mpqs.rs:210, siqs.rs:185; the empty list is also returned on abort / failure). -/
def UsesFinalStep (o : Oracle σ) : Prop :=
  ∀ t alg n ds, (o.sieve t alg n).1 = .divs ds → ds = [] ∨
    ∃ fb rels kernel isPrime slots cnt,
      Ymq.Relations.finalStep n fb rels kernel isPrime = .ok (slots, cnt, ds)

theorem sieveDivs_clause {o : Oracle σ} (h : UsesFinalStep o) :
    ∀ s alg n ds, 2 ≤ n → (o.sieve s alg n).1 = .divs ds → ∀ d ∈ ds, d ∣ n ∧ 0 < d := by
  intro s alg n ds _ hs d hd
  rcases h s alg n ds hs with rfl | ⟨fb, rels, kernel, isPrime, slots, cnt, hfs⟩
  · simp at hd
  · obtain ⟨h1, _, h3⟩ := Ymq.C11.final_step_proper n fb rels kernel isPrime slots cnt ds hfs d hd
    exact ⟨h3, by omega⟩

/-- `qsieve64::qsieve` (qsieve64.rs:154-161): `divs = final_step(..)`, `p = divs.first()`,
`assert_eq!(n % p, 0)`, result `(p, n / p)`. -/
def UsesQs64 (o : Oracle σ) : Prop :=
  ∀ t n a b, (o.qs64 t n).1 = some (a, b) →
    ∃ fb rels kernel isPrime slots cnt ds,
      Ymq.Relations.finalStep n fb rels kernel isPrime = .ok (slots, cnt, ds) ∧
      ds.head? = some a ∧ b = n / a

theorem qs64_clause {o : Oracle σ} (h : UsesQs64 o) :
    ∀ s n a b, 2 ≤ n → (o.qs64 s n).1 = some (a, b) → PairOK n a b := by
  intro s n a b _ hq
  obtain ⟨fb, rels, kernel, isPrime, slots, cnt, ds, hfs, hhead, rfl⟩ := h s n a b hq
  have hmem : a ∈ ds := List.mem_of_mem_head? hhead
  obtain ⟨h1, h2, h3⟩ := Ymq.C11.final_step_proper n fb rels kernel isPrime slots cnt ds hfs a hmem
  exact pairOK_of_proper h1 h2 h3

/-- `pollard_rho::rho` (pollard_rho.rs:119-151): the result is `([p], q)` for a pair `(p, q)`
returned by the modelled `rho64(n, c, iters)` for some `c`, `iters` (inputs above 64 bits return
`None`, so the low word `n0` is `n`). -/
def UsesRho64 (o : Oracle σ) : Prop :=
  ∀ t n as b, (o.rho t n).1 = some (as, b) →
    ∃ c iters a, Ymq.ExpModn.rho64 n c iters = some (some (a, b)) ∧ as = [a]

theorem rho_clause {o : Oracle σ} (h : UsesRho64 o) :
    ∀ s n as b, 2 ≤ n → (o.rho s n).1 = some (as, b) → SplitOK n as b := by
  intro s n as b _ hr
  obtain ⟨c, iters, a, h64, rfl⟩ := h s n as b hr
  obtain ⟨hab, ha1, han, hb1⟩ := Ymq.C16.rho64_proper h64
  refine ⟨by simpa using hab, ?_, ?_⟩
  · intro x hx; simp at hx; omega
  · subst hab
    exact (Nat.lt_mul_iff_one_lt_left (by omega)).mpr ha1

open Ymq.ExpModn in
/-- The `(factors, nred, values)` states that `pm1_impl(n)` (pollard_pm1.rs:259-423) can reach:
* `init`: `factors = []`, `nred = n`;
* `values`: the value list is replaced (next prime block, stage 2 products);
* `check`: one call of `check_gcd_factors` (modelled by `checkGcdFactors`, C16) on a non-empty
  list of cumulative products (the chain condition is C16 `cumulative_products_chain`);
* `polyeval`: the stage-2 polynomial path (pollard_pm1.rs, `b2 > MULTIEVAL_THRESHOLD`), modelled
  by `pm1PolyStep` (C16): `gcd_factors(nred, vals)` is appended without `check_gcd_factors`, but
  since the `fix:` 9b94f92 a list containing `n` is refused (`return None`); C16
  `pm1_polyeval_inv` gives the invariant (in particular `n ∉ f2`). Without that guard
  `n ∉ f2` would be a premise here, and it was false for the code before the fix:
  `factor(26881623424511, Algo::Pm1)` recursed forever on `([n], 1)`. -/
inductive Pm1Reach (n : Nat) (pp : Nat → Bool) : CgfState → Prop
  | init (vals : List Nat) : Pm1Reach n pp { factors := [], nred := n, vals := vals }
  | values (st : CgfState) (vals : List Nat) : Pm1Reach n pp st →
      Pm1Reach n pp { st with vals := vals }
  | check (st st' : CgfState) (b : Bool) : Pm1Reach n pp st → st.vals ≠ [] →
      (∀ i j, i ≤ j → j < st.vals.length →
        Nat.gcd st.nred (st.vals.getD i 0) ∣ Nat.gcd st.nred (st.vals.getD j 0)) →
      checkGcdFactors n pp st = some (b, st') → Pm1Reach n pp st'
  | polyeval (st st' : CgfState) : Pm1Reach n pp st → st.vals ≠ [] →
      (∀ i j, i ≤ j → j < st.vals.length →
        Nat.gcd st.nred (st.vals.getD i 0) ∣ Nat.gcd st.nred (st.vals.getD j 0)) →
      pm1PolyStep n pp st = some (some st') → Pm1Reach n pp st'

open Ymq.ExpModn in
theorem Pm1Reach.inv {n : Nat} (hn : 0 < n) {pp : Nat → Bool} {st : CgfState}
    (h : Pm1Reach n pp st) : Ymq.ExpModn.CgfInv n st := by
  induction h with
  | init vals => exact ⟨by simp, by simp, hn, by simp⟩
  | values st vals _ ih => exact ih
  | check st st' b _ hne hchain hc ih =>
    obtain ⟨b', st'', hc', hinv, _⟩ := Ymq.C16.check_gcd_factors_inv n pp st ih hne hchain
    rw [hc] at hc'
    injection hc' with hc'
    injection hc' with _ h2
    rw [h2]; exact hinv
  | polyeval st st' _ hne hchain hstep ih =>
    obtain ⟨r, hr, hprop⟩ := Ymq.C16.pm1_polyeval_inv n pp st ih hne hchain
    rw [hstep] at hr
    injection hr with hr
    exact (hprop st' hr.symm).1

/-- `pm1_quick` / `pm1_only` return `splitResult` (= `Some((factors, nred))` iff `factors` is
non-empty) of a state reachable by `pm1_impl`. Which guard gives which conjunct of `SplitOK`:
* `as.prod * b = n`, parts `> 1`: `gcd_factors` (C16 `gcd_factors_prod`) through the invariant;
* `as ≠ []` (hence `b < n`): `if factors.is_empty() { None }` at every return;
* `a ≠ n` for `a ∈ as` (hence `a < n`): the `fs.contains(n)` guard of `check_gcd_factors`
  (pollard_pm1.rs, C16 `check_gcd_factors_inv`) and, on the polynomial path, the guard
  `if f2.contains(n) { return None }` added by the `fix:` 9b94f92 (C16 `pm1_polyeval_inv`).
No residual assumption is left in this clause. -/
def UsesPm1 (o : Oracle σ) : Prop :=
  (∀ t n as b, (o.pm1q t n).1 = some (as, b) →
    ∃ pp st, Pm1Reach n pp st ∧ Ymq.ExpModn.splitResult st = some (as, b)) ∧
  (∀ t n as b, (o.pm1 t n).1 = some (as, b) →
    ∃ pp st, Pm1Reach n pp st ∧ Ymq.ExpModn.splitResult st = some (as, b))

theorem splitOK_of_pm1 {n : Nat} (hn : 2 ≤ n) {pp : Nat → Bool} {st : Ymq.ExpModn.CgfState}
    {as : List Nat} {b : Nat} (hr : Pm1Reach n pp st)
    (hs : Ymq.ExpModn.splitResult st = some (as, b)) : SplitOK n as b := by
  obtain ⟨hprod, hgt, hpos, hnin, hne⟩ := Ymq.C16.pm1_result_proper (hr.inv (by omega)) hs
  refine ⟨hprod, ?_, ?_⟩
  · intro a ha
    have hd : a ∣ n := hprod ▸ Dvd.dvd.mul_right (List.dvd_prod ha) b
    have hle := Nat.le_of_dvd (by omega) hd
    have : a ≠ n := fun h => hnin (h ▸ ha)
    omega
  · cases as with
    | nil => exact absurd rfl hne
    | cons a as' =>
      have ha := hgt a (by simp)
      have hd : a ∣ (a :: as').prod := List.dvd_prod (by simp)
      have hp2 : 2 ≤ (a :: as').prod := by
        have hpos' : 0 < (a :: as').prod := by
          rcases Nat.eq_zero_or_pos (a :: as').prod with h0 | h0
          · rw [h0, Nat.zero_mul] at hprod; omega
          · exact h0
        exact Nat.le_trans ha (Nat.le_of_dvd hpos' hd)
      rw [← hprod]
      exact (Nat.lt_mul_iff_one_lt_left hpos).mpr (by omega)

theorem pm1_clauses {o : Oracle σ} (h : UsesPm1 o) :
    (∀ s n as b, 2 ≤ n → (o.pm1q s n).1 = some (as, b) → SplitOK n as b) ∧
    (∀ s n as b, 2 ≤ n → (o.pm1 s n).1 = some (as, b) → SplitOK n as b) := by
  refine ⟨?_, ?_⟩
  · intro s n as b hn hq
    obtain ⟨pp, st, hr, hs⟩ := h.1 s n as b hq
    exact splitOK_of_pm1 hn hr hs
  · intro s n as b hn hq
    obtain ⟨pp, st, hr, hs⟩ := h.2 s n as b hq
    exact splitOK_of_pm1 hn hr hs

/-- the two forms of the exits of `ecm::ecm_curve` / `ecm128::ecm_curve` and their drivers:
* `guard`: `d = gcd(n, x)` returned as `(d, n / d)` only if `d > 1 && d < n`
  (ecm128.rs:143, 152, 257; the `UnexpectedLargeFactor(p)` exits ecm.rs:246-257 (`p != n`) and
  ecm128.rs:86-90 (`p < n`), where `p` is the gcd reported by a failed modular inversion);
* `checked`: `d` returned by `ecm::check_gcd_factor(n, values)` on a non-empty list of cumulative
  products, result `(d, n / d)` (ecm.rs:325, 335, 444, 474). -/
inductive EcmExit (n a b : Nat) : Prop
  | guard (x : Nat) : Ymq.ExpModn.guard n (Nat.gcd n x) = some (a, b) → EcmExit n a b
  | checked (vals : List Nat) (pp : Nat → Bool) : vals ≠ [] →
      (∀ i j, i ≤ j → j < vals.length → Nat.gcd n (vals.getD i 0) ∣ Nat.gcd n (vals.getD j 0)) →
      Ymq.ExpModn.checkGcdFactor n vals pp = some (some a) → b = n / a → EcmExit n a b

theorem EcmExit.pairOK {n a b : Nat} (hn : 2 ≤ n) (h : EcmExit n a b) : PairOK n a b := by
  cases h with
  | guard x hg =>
    obtain ⟨h1, h2, _, h4⟩ := Ymq.C16.guard_proper hg
    exact ⟨h1, h2, h4⟩
  | checked vals pp hne hchain hc hb =>
    obtain ⟨r, hr, hprop⟩ := Ymq.C16.check_gcd_factor_proper n vals pp (by omega) hne hchain
    rw [hc] at hr
    injection hr with hr
    obtain ⟨h1, h2, _, h4⟩ := hprop a hr.symm
    subst hb
    exact ⟨h1, h2, h4⟩

/-- every pair returned by the three ECM fields left through one of the exits above -/
def UsesEcmExits (o : Oracle σ) : Prop :=
  (∀ t n a b, (o.ecmauto t n).1 = some (a, b) → EcmExit n a b) ∧
  (∀ t n a b, (o.ecm t n).1 = some (a, b) → EcmExit n a b) ∧
  (∀ t n a b, (o.ecm128 t n).1 = some (a, b) → EcmExit n a b)

/-- the two exits of `squfof::squfof` (squfof.rs:11-92):
* `square`: `nsqrt * nsqrt == n`, result `(nsqrt, nsqrt)` (squfof.rs:17-19);
* `gcd`: `f = gcd(n, p_prev)` under the guard `f > 1`, result `(f, n / f)` (squfof.rs:84-89).
  The code does NOT test `f < n`; it follows from `0 < p_prev < n`, which is the NAMED FACT left
  in this constructor. `squfof_pprev_lt` derives it from the size bound of the square-form
  iteration, `p_prev ≤ 2·isqrt(k·n)` with multiplier `k ≤ 50`, for every `n ≥ 201` (every value
  that reaches `factor_impl` with a prime factor has all prime factors `≥ 211`). -/
inductive SqufofExit (n a b : Nat) : Prop
  | square (r : Nat) : r * r = n → a = r → b = r → SqufofExit n a b
  | gcd (x : Nat) : 0 < x → x < n → a = Nat.gcd n x → 1 < a → b = n / a → SqufofExit n a b

theorem squfof_pprev_lt {n k x : Nat} (hn : 201 ≤ n) (hk : k ≤ 50) (hx : x ≤ 2 * Nat.sqrt (k * n)) :
    x < n := by
  have hs : Nat.sqrt (k * n) * Nat.sqrt (k * n) ≤ k * n := Nat.sqrt_le (k * n)
  have hkn : k * n ≤ 50 * n := Nat.mul_le_mul_right n hk
  rcases Nat.lt_or_ge (2 * Nat.sqrt (k * n)) n with h | h
  · omega
  · exfalso
    have h2 : n * n ≤ (2 * Nat.sqrt (k * n)) * (2 * Nat.sqrt (k * n)) := Nat.mul_le_mul h h
    have h3 : (2 * Nat.sqrt (k * n)) * (2 * Nat.sqrt (k * n)) =
        4 * (Nat.sqrt (k * n) * Nat.sqrt (k * n)) := by ring
    have h4 : n * n ≤ 200 * n := by omega
    have h5 : 201 * n ≤ n * n := Nat.mul_le_mul_right n hn
    omega

theorem SqufofExit.gcd_of_bound {n a b k x : Nat} (hn : 201 ≤ n) (hk : k ≤ 50) (hx0 : 0 < x)
    (hx : x ≤ 2 * Nat.sqrt (k * n)) (ha : a = Nat.gcd n x) (ha1 : 1 < a) (hb : b = n / a) :
    SqufofExit n a b :=
  SqufofExit.gcd x hx0 (squfof_pprev_lt hn hk hx) ha ha1 hb

theorem gcd_proper {n x : Nat} (hx0 : 0 < x) (hx : x < n) (h1 : 1 < Nat.gcd n x) :
    1 < Nat.gcd n x ∧ Nat.gcd n x < n ∧ Nat.gcd n x ∣ n :=
  ⟨h1, Nat.lt_of_le_of_lt (Nat.le_of_dvd hx0 (Nat.gcd_dvd_right n x)) hx, Nat.gcd_dvd_left n x⟩

theorem SqufofExit.pairOK {n a b : Nat} (hn : 2 ≤ n) (h : SqufofExit n a b) : PairOK n a b := by
  cases h with
  | square r hr ha hb =>
    rw [ha, hb]
    refine ⟨hr, ?_, ?_⟩ <;>
    · rcases Nat.lt_or_ge r 2 with h | h
      · have : r = 0 ∨ r = 1 := by omega
        rcases this with rfl | rfl <;> omega
      · exact h
  | gcd x hx0 hx ha ha1 hb =>
    subst ha hb
    obtain ⟨h1, h2, h3⟩ := gcd_proper hx0 hx ha1
    exact pairOK_of_proper h1 h2 h3

/-- every pair returned by the `squfof` field left through one of the two exits -/
def UsesSqufofExit (o : Oracle σ) : Prop :=
  ∀ t n a b, (o.squfof t n).1 = some (a, b) → SqufofExit n a b

/-- `FBase::check_divisors` (fbase.rs:116-124, reached from `siqs`): `UnexpectedFactor(p)` is a
factor-base prime `p > MAX_MULTIPLIER` whose stored square root of `k·n` is 0, i.e. `p ∣ k·n`
with `p ∤ k`: a prime divisor of `n`. -/
def UsesUnexpectedFactor (o : Oracle σ) : Prop :=
  ∀ t alg n d, (o.sieve t alg n).1 = .unexpected d → d ∣ n ∧ 2 ≤ d

/-- What is still ASSUMED after all the above: the unexpected factor is not the sieved number
itself (`d ≠ n`; then `d < n` since `d ∣ n`). The code has no such test; it holds because the
sieve is only started on a number that `pseudoprime` rejected. Two sufficient forms:
`unexpected_ne_of_composite` (`d` prime, `n` not prime — i.e. `pseudoprime` never rejects a
prime, C06) and `unexpected_ne_of_size` (`d < B ≤ n` for a bound `B` on factor-base primes). -/
structure ResidualOK (o : Oracle σ) : Prop where
  unexpectedNotWhole : ∀ s alg n d, 2 ≤ n → (o.sieve s alg n).1 = .unexpected d → d ≠ n

theorem unexpected_ne_of_composite {n d : Nat} (hd : d.Prime) (hn : ¬ n.Prime) : d ≠ n :=
  fun h => hn (h ▸ hd)

theorem unexpected_ne_of_size {n d B : Nat} (hd : d < B) (hn : B ≤ n) : d ≠ n := by omega

theorem sieveUnexpected_clause {o : Oracle σ} (hu : UsesUnexpectedFactor o) (hres : ResidualOK o) :
    ∀ s alg n d, 2 ≤ n → (o.sieve s alg n).1 = .unexpected d → d ∣ n ∧ 2 ≤ d ∧ d < n := by
  intro s alg n d hn h
  obtain ⟨h1, h2⟩ := hu s alg n d h
  have hle := Nat.le_of_dvd (by omega) h1
  have hne := hres.unexpectedNotWhole s alg n d hn h
  exact ⟨h1, h2, by omega⟩

theorem oracleOK_of_models_aux {o : Oracle σ} (hpp : UsesPerfectPower o) (hfs : UsesFinalStep o)
    (hqs : UsesQs64 o) (hrho : UsesRho64 o) (hpm1 : UsesPm1 o) (hecm : UsesEcmExits o)
    (hsq : UsesSqufofExit o) (hun : UsesUnexpectedFactor o) (hres : ResidualOK o) :
    OracleOK o where
  pp := pp_clause hpp
  rho := rho_clause hrho
  pm1q := (pm1_clauses hpm1).1
  pm1 := (pm1_clauses hpm1).2
  ecmauto := fun s n a b hn h => (hecm.1 s n a b h).pairOK hn
  ecm := fun s n a b hn h => (hecm.2.1 s n a b h).pairOK hn
  ecm128 := fun s n a b hn h => (hecm.2.2 s n a b h).pairOK hn
  qs64 := qs64_clause hqs
  squfof := fun s n a b hn h => (hsq s n a b h).pairOK hn
  sieveDivs := sieveDivs_clause hfs
  sieveUnexpected := sieveUnexpected_clause hun hres

end Ymq.Factor
