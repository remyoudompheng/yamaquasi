/-
C10: the transform pipeline of `convolve_modn_ntt` (two forward `ntt_inplace`, `mul`, the bit-reversal swap
loop, inverse `ntt_inplace`) is the cyclic convolution per prime (`nttPipeline_spec`): `fft_mul_eq_cyc`
instantiated by the word-level model; bit reversal is an involution (`bitrev_invol`) and the swap loop
realises it (`swapLoop_spec`).
-/
import Ymq.Lemmas.NttRoots
import Ymq.Lemmas.PolyKaratsuba

namespace Ymq.Crt
open Ymq.Mg64 (W mgMul mgRedc)

theorem bitrev_top : ∀ (k i : Nat), i < 2 ^ k →
    bitrev (k + 1) i = 2 * bitrev k i ∧ bitrev (k + 1) (2 ^ k + i) = 2 * bitrev k i + 1 := by
  intro k
  induction k with
  | zero =>
    intro i hi
    have : i = 0 := by simpa using hi
    subst this
    exact ⟨by decide, by decide⟩
  | succ k ih =>
    intro i hi
    have hi2 : i / 2 < 2 ^ k := by rw [pow_succ] at hi; omega
    obtain ⟨h1, h2⟩ := ih (i / 2) hi2
    have hp : 0 < 2 ^ k := Nat.pow_pos (by decide)
    constructor
    · conv_lhs => unfold bitrev
      rw [h1]
      conv_rhs => unfold bitrev
      rw [pow_succ]; ring
    · conv_lhs => unfold bitrev
      have e1 : (2 ^ (k + 1) + i) % 2 = i % 2 := by rw [pow_succ]; omega
      have e2 : (2 ^ (k + 1) + i) / 2 = 2 ^ k + i / 2 := by rw [pow_succ]; omega
      rw [e1, e2, h2]
      conv_rhs => unfold bitrev
      rw [pow_succ]; ring

theorem bitrev_invol : ∀ (k i : Nat), i < 2 ^ k → bitrev k (bitrev k i) = i := by
  intro k
  induction k with
  | zero => intro i hi; simp at hi; subst hi; rfl
  | succ k ih =>
    intro i hi
    have hi2 : i / 2 < 2 ^ k := by rw [pow_succ] at hi; omega
    have hr := bitrev_lt k (i / 2)
    have hdef : bitrev (k + 1) i = i % 2 * 2 ^ k + bitrev k (i / 2) := by conv_lhs => unfold bitrev
    obtain ⟨t1, t2⟩ := bitrev_top k (bitrev k (i / 2)) hr
    rw [hdef]
    rcases Nat.mod_two_eq_zero_or_one i with h0 | h0
    · rw [h0, Nat.zero_mul, Nat.zero_add, t1, ih _ hi2]; omega
    · rw [h0, Nat.one_mul, t2, ih _ hi2]; omega

/-- the swap loop puts the vector in bit-reversed order -/
theorem swapLoop_spec (K : Nat) (v0 : List (List Nat)) :
    ∀ (c i : Nat) (cur : List (List Nat)), i + c = 2 ^ K → cur.length = 2 ^ K →
      (∀ t, t < 2 ^ K → cur.getD t [] =
        if t < i ∨ bitrev K t < i then v0.getD (bitrev K t) [] else v0.getD t []) →
      (swapLoop K c i cur).length = 2 ^ K ∧
        ∀ t, t < 2 ^ K → (swapLoop K c i cur).getD t [] = v0.getD (bitrev K t) [] := by
  intro c
  induction c with
  | zero =>
    intro i cur hic hl hinv
    refine ⟨hl, fun t ht => ?_⟩
    rw [swapLoop, hinv t ht, if_pos (Or.inl (by omega))]
  | succ c ih =>
    intro i cur hic hl hinv
    have hi : i < 2 ^ K := by omega
    unfold swapLoop
    simp only
    have hrev := bitrev_lt K i
    have hinvol := bitrev_invol K i hi
    apply ih (i + 1) _ (by omega)
    · split_ifs <;> simp [hl]
    · intro t ht
      by_cases hlt : i < bitrev K i
      · rw [if_pos hlt, Ymq.PolyMul.getD_set _ _ _ _ _ (by simp [hl]; exact hrev), Ymq.PolyMul.getD_set _ _ _ _ _ (by rw [hl]; exact hi)]
        by_cases h1 : t = bitrev K i
        · subst h1
          rw [if_pos rfl, hinv i hi, if_neg (by omega), if_pos (Or.inr (by omega)), hinvol]
        · rw [if_neg h1]
          by_cases h2 : t = i
          · subst h2
            rw [if_pos rfl, hinv _ hrev, if_neg (by rw [hinvol]; omega), if_pos (Or.inl (by omega))]
          · rw [if_neg h2, hinv t ht]
            have h3 : bitrev K t ≠ i := by
              intro h; apply h1; rw [← h, bitrev_invol K t ht]
            have : (t < i + 1 ∨ bitrev K t < i + 1) ↔ (t < i ∨ bitrev K t < i) := by omega
            simp only [this]
      · rw [if_neg hlt, hinv t ht]
        by_cases h2 : t = i
        · subst h2
          rw [if_pos (show t < t + 1 ∨ bitrev K t < t + 1 from Or.inl (by omega))]
          split_ifs with h
          · rfl
          · have : bitrev K t = t := by omega
            rw [this]
        · by_cases h3 : bitrev K t = i
          · have ht' : t = bitrev K i := by rw [← h3, bitrev_invol K t ht]
            have hti : t < i := by omega
            rw [if_pos (show t < i ∨ bitrev K t < i from Or.inl hti),
              if_pos (show t < i + 1 ∨ bitrev K t < i + 1 from Or.inl (by omega))]
          · have : (t < i + 1 ∨ bitrev K t < i + 1) ↔ (t < i ∨ bitrev K t < i) := by omega
            simp only [this]

theorem mulV_spec (m : Mzp) (ht : TabOk m) : ∀ (xs ys : List (List Nat)) (h : Nat), VecOk m xs h → VecOk m ys h →
    ∃ zs, mulV m xs ys = some zs ∧ VecOk m zs h ∧ ∀ i, i < h → ∀ j, j < m.w →
      mfe m (zs.getD i []) j = mfe m (xs.getD i []) j * mfe m (ys.getD i []) j := by
  intro xs
  induction xs with
  | nil =>
    intro ys h hx hy
    obtain rfl : 0 = h := hx.1
    obtain rfl : ys = [] := List.length_eq_zero_iff.1 hy.1
    exact ⟨[], rfl, .nil, fun i hi => by omega⟩
  | cons x xs ih =>
    intro ys h hx hy
    obtain rfl : xs.length + 1 = h := hx.1
    cases ys with
    | nil => exact absurd hy.1 (Nat.succ_ne_zero _).symm
    | cons y ys =>
      obtain ⟨hx0, hxs⟩ := VecOk.cons_iff.1 hx
      obtain ⟨hy0, hys⟩ := VecOk.cons_iff.1 hy
      obtain ⟨z, e1, hz, hzv⟩ := mulE_spec m ht x y hx0 hy0
      obtain ⟨zs, e2, hzs, hzsv⟩ := ih ys xs.length hxs hys
      refine ⟨z :: zs, by simp only [mulV, e1, e2], VecOk.cons_iff.2 ⟨hz, hzs⟩, ?_⟩
      intro i hi j hj
      cases i with
      | zero => exact hzv j hj
      | succ i => exact hzsv i (by omega) j hj


theorem two_unit {p : Nat} (h : PrimeOk p) : (2 : ZMod p) * (((p + 1) / 2 : Nat) : ZMod p) = 1 := by
  have h2 : 2 * ((p + 1) / 2) = p + 1 := by have := h.odd; omega
  have : ((2 * ((p + 1) / 2) : Nat) : ZMod p) = ((p + 1 : Nat) : ZMod p) := by rw [h2]
  push_cast at this
  rw [this, ZMod.natCast_self, zero_add]

open Ymq.Dft

/-- **the transform pipeline of `convolve_modn_ntt` is the cyclic convolution per prime**: forward
`ntt_inplace` of both (bit-reversed) residue vectors, `mul`, the bit-reversal swap loop, inverse
`ntt_inplace`: no panic site, reduced residues, and residue `j` of element `i` of the result is
`Σ_a x_a·y_((i-a) mod 2^K)` in `ZMod p_j`, where `x_t`, `y_t` are the residues at the bit-reversed
positions of the inputs -/
theorem nttPipeline_spec (n logsize : Nat) (m : Mzp) (hm : new n logsize = some m) (hK : m.k ≤ 31)
    (K : Nat) (h1 : 1 ≤ K) (hk : K ≤ m.k) (f1 f2 : List (List Nat)) (hf1 : VecOk m f1 (2 ^ K))
    (hf2 : VecOk m f2 (2 ^ K)) :
    ∃ rts g1 g2 h r, rootsPacked m = some rts ∧ nttInplace m rts K f1 0 true = some g1 ∧
      nttInplace m rts K f2 0 true = some g2 ∧ mulV m g1 g2 = some h ∧
      nttInplace m rts K (swapLoop K (2 ^ K) 0 h) 0 false = some r ∧ VecOk m r (2 ^ K) ∧
      ∀ j, j < m.w → ∀ i, i < 2 ^ K →
        mfe m (r.getD i []) j =
          cyc (2 ^ K) (fun t => mfe m (f1.getD (bitrev K t) []) j) (fun t => mfe m (f2.getD (bitrev K t) []) j) i := by
  have ht := tabOk_of_new n logsize m hm
  obtain ⟨rts, erts, hr⟩ := rootsPacked_ok n logsize m hm hK
  obtain ⟨g1, e1, hg1, s1⟩ := nttInplace_spec m ht rts _ hr true K f1 0 h1 hk hf1 (by omega)
  obtain ⟨g2, e2, hg2, s2⟩ := nttInplace_spec m ht rts _ hr true K f2 0 h1 hk hf2 (by omega)
  obtain ⟨h, e3, hh, s3⟩ := mulV_spec m ht g1 g2 (2 ^ K) hg1 hg2
  obtain ⟨lsw, ssw⟩ := swapLoop_spec K h (2 ^ K) 0 h (by omega) hh.1 (by
    intro t _; rw [if_neg (by omega)])
  have hsw : VecOk m (swapLoop K (2 ^ K) 0 h) (2 ^ K) :=
    .of_getD lsw fun t ht' => by rw [ssw t ht']; exact hh.getD _ (bitrev_lt K t)
  obtain ⟨r, e4, hrr, s4⟩ := nttInplace_spec m ht rts _ hr false K _ 0 h1 hk hsw (by omega)
  refine ⟨rts, g1, g2, h, r, erts, e1, e2, e3, e4, hrr, fun j hj i hi => ?_⟩
  have hω' := hr.half j K false hj h1 hk
  -- `2` is a unit modulo an odd prime
  refine conv_of_transforms K _ _ ((((P m j + 1) / 2 : Nat) : ZMod (P m j)) ^ K) (Or.inr (hr.half j K true hj h1 hk))
    (by omega) (hr.inv j K hj h1 hk) (by rw [← mul_pow, mul_comm, two_unit (ht j hj), one_pow]) _ _
    (fun u => mfe m (g1.getD u []) j) (fun u => mfe m (g2.getD u []) j) (fun u => mfe m (h.getD u []) j)
    (fun u => mfe m (r.getD u []) j) (fun u hu => by simpa using s1 j hj u hu)
    (fun u hu => by simpa using s2 j hj u hu) (fun u hu => s3 u hu j hj) i hi ?_
  have hout := s4 j hj i hi
  simp only [Bool.false_eq_true, if_false, Nat.zero_add] at hout
  -- the swap loop undoes the bit reversal of the input view
  rw [hout, fftRec_eq_dft K _ (Or.inr hω') _ i hi, fftRec_eq_dft K _ (Or.inr hω') _ i hi]
  exact dft_congr _ _ _ _ (fun u hu => by rw [ssw _ (bitrev_lt K u), bitrev_invol K u hu]) i

end Ymq.Crt
