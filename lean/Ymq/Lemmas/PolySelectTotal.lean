/-
SIQS (C12): end-to-end totality — whatever `select_siqs_factors` and `select_a` return satisfies the hypotheses of
`walk_total`.
-/
import Ymq.Lemmas.PolySelectA
import Ymq.Lemmas.PolyWalkTotal
namespace Ymq.PolySelect
open Ymq.SiqsPoly Ymq.SiqsSelect Ymq.PolySizes Ymq.PolyCrt Ymq.PolySiqs

theorem mkFactors_isSome {n : Int} {sel : List Prime} (hs : SelOk n sel) : ∃ f, mkFactors n sel = some f := by
  have hrow : ∀ p ∈ sel, ∃ row, allSome (sel.map fun q => if p.p = q.p then some 0 else invMod p.p q.p) = some row := by
    intro p hp
    apply allSome_isSome
    intro x hx
    obtain ⟨q, hq, rfl⟩ := List.mem_map.mp hx
    by_cases he : p.p = q.p
    · exact ⟨0, by rw [if_pos he]⟩
    · rw [if_neg he]
      have hc : Nat.gcd p.p q.p = 1 := (Nat.coprime_primes (hs.prime p hp) (hs.prime q hq)).mpr he
      exact Ymq.PolyInv.invMod_isSome (hs.prime q hq).pos hc
  have htb : ∃ tbl, allSome (sel.map fun (p : Prime) => allSome (sel.map fun (q : Prime) =>
      if p.p = q.p then some 0 else invMod p.p q.p)) = some tbl := by
    apply allSome_isSome
    intro x hx
    obtain ⟨p, hp, rfl⟩ := List.mem_map.mp hx
    exact hrow p hp
  obtain ⟨tbl, htbl⟩ := htb
  exact ⟨_, mkFactors_iff.mpr ⟨tbl, htbl, rfl⟩⟩

theorem prod_odd : ∀ (l : List Nat), (∀ x ∈ l, x % 2 = 1) → l.prod % 2 = 1 := by
  intro l
  induction l with
  | nil => intro _; rfl
  | cons x xs ih =>
    intro h
    have h1 := h x List.mem_cons_self
    have h2 := ih (fun y hy => h y (List.mem_cons_of_mem _ hy))
    rw [List.prod_cons, Nat.mul_mod, h1, h2]

theorem select_walk_total {n : Int} {fb sel : List Prime} {nfacs mm want fuel tgt A : Nat} {as : List Nat}
    (hprime : ∀ q ∈ fb, Nat.Prime q.p) (hsmall : ∀ q ∈ fb, q.p < 2 ^ 24)
    (hroot : ∀ q ∈ fb, q.r < q.p ∧ (q.r : Int) * q.r ≡ n [ZMOD q.p])
    (hnd : (fb.map (·.p)).Nodup) (h2 : ∀ q ∈ fb.drop 1, q.p ≠ 2)
    (hnf : 0 < nfacs) (hnf32 : nfacs ≤ 32)
    (hsel : selectFactors fb n nfacs mm = some (tgt, sel))
    (has : selectA n tgt nfacs want (sel.map (·.p)) fuel = some as) (hA : A ∈ as)
    (hn0 : 0 < n) (hn : n < 2 ^ 448) (hm1 : 32768 ≤ mm) (hm2 : mm < 2 ^ 20)
    (hlo : tgt ≤ 4 * A) (hhi : A ≤ 4 * tgt) (h34 : nfacs ≥ 5 → 3 * tgt ≤ 4 * A) :
    ∃ f pa, mkFactors n sel = some f ∧ prepareA f A fb (-((mm : Int) / 2)) = some pa ∧
      pa.factors.length = nfacs ∧
      ∀ idx, idx < 2 ^ (nfacs - 1) → ∃ pol, polyAt (mkSieve n mm) pa idx = some pol := by
  obtain ⟨htgt, _, hsub, hr, _, _⟩ := selectFactors_some hnf hsel
  obtain ⟨hs, hz⟩ := sel_ok hprime hroot hnd hsub hr
  obtain ⟨f, hf⟩ := mkFactors_isSome hs
  obtain ⟨hprodA, _⟩ := selectA_sound hnf has A hA
  obtain ⟨ha, hlen⟩ := isProd_afs hs hf hprodA
  have hne : afsOf f A ≠ [] := by
    intro he; rw [he] at hlen; simp at hlen; omega
  have hodd : A % 2 = 1 := by
    rw [ha]
    apply prod_odd
    intro x hx
    obtain ⟨y, hy, rfl⟩ := List.mem_map.mp hx
    have hys := (afs_mem_sel (a := A) hf).2 y hy
    have hyf := hsub.subset hys
    have hp := hprime _ ((List.drop_sublist 1 fb).subset hyf)
    exact hp.eq_two_or_odd.resolve_left (h2 _ hyf)
  have d : SizeDom n mm A (afsOf f A).length :=
    ⟨hn0, hn, hm1, hm2, htgt ▸ hlo, htgt ▸ hhi, by rw [hlen]; exact hnf32⟩
  obtain ⟨pa, hpa, hlen', hall⟩ := walk_total hprime hsmall hs hz hf ha hne (fun _ => hodd) d
    (fun h5 => htgt ▸ h34 (hlen ▸ h5))
  exact ⟨f, pa, hf, hpa, hlen' ▸ hlen, fun idx hidx => hall idx (hlen.symm ▸ hidx)⟩

end Ymq.PolySelect
