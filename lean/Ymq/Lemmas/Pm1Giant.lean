/-
The two `debug_assert!`s of `pm1_stage2_polyeval` on canonical residues (Model/Pm1Impl.lean `expCheckPanics`):
`exp_modn` returns a reduced residue (`expModn_lt`), so an assertion `x == exp_modn(g, e)` holds as soon as `x ≡ g^e`
(`expCheckPanics_false`); the giant loop holds `h^(i²)` / `h^(2i+1)` (`giantLoop_heads`), hence the second assertion
(`gexp == g^(d2²·d1/2)`) never fails (`giant_assert_holds`); the baby loop ends with `bg ≡ g^bexp` reduced
(`babySteps_spec`), hence the first one never fails either (`baby_assert_holds`).  With both, `polyVals` has no panic
(`polyVals_isSome`); the number of baby steps it needs is `pm1Deg d1` (`babySteps_length`).
-/
import Ymq.Lemmas.Pm1Baby
import Ymq.Lemmas.Stage2Pm1
import Mathlib.Data.List.Sort

namespace Ymq.Pm1Impl
open Ymq.ExpModn Ymq.Stage2 Ymq.Gen

theorem expModn_lt {m g e x : Nat} (hm : 0 < m) (hg : g < m) (he : e < 2 ^ 64)
    (h : expModn (mulm m) (onem m) g e = some x) : x < m := by
  obtain ⟨r, hr, h'⟩ := expModn_rel (M := ℕ) (γ := 1) (mul := mulm m) (one := onem m) (R := fun a _ => a < m)
    ⟨fun {a b x y} _ _ => Nat.mod_lt _ hm⟩ (Nat.mod_lt _ hm) hg e he
  rw [h] at hr; cases hr; exact h'

/-- a `debug_assert!(x == exp_modn(g, e))` on canonical residues holds as soon as `x ≡ g^e` -/
theorem expCheckPanics_false {m g x e : Nat} (hm : 0 < m) (hg : g < m) (hx : x < m) (he : e < 2 ^ 64)
    (hmod : x ≡ g ^ e [MOD m]) : expCheckPanics m g x e = false := by
  unfold expCheckPanics
  obtain ⟨y, hy, hymod⟩ := expModn_mod (m := m) g e he
  rw [hy]
  have hylt := expModn_lt hm hg he hy
  have : x = y := by
    have h := hmod.trans hymod.symm
    unfold Nat.ModEq at h
    rwa [Nat.mod_eq_of_lt hx, Nat.mod_eq_of_lt hylt] at h
  simp [this]

/-- heads of the two lists of the giant loop: `steps` holds `h^(i²)`, `gaps` holds `h^(2i+1)` -/
theorem giantLoop_heads {m h ddg : Nat} (hdd : ddg ≡ h ^ 2 [MOD m]) :
    ∀ (k i gexp dg : Nat) (sR gR : List Nat), gexp ≡ h ^ (i * i) [MOD m] → dg ≡ h ^ (2 * i + 1) [MOD m] →
      ∃ s d sT gT, giantLoop m ddg (k + 1) gexp dg sR gR = (s :: sT, d :: gT) ∧
        s ≡ h ^ ((i + k) * (i + k)) [MOD m] ∧ d ≡ h ^ (2 * (i + k) + 1) [MOD m] ∧ (0 < m → s < m ∨ (k = 0 ∧ s = gexp))
  | 0, i, gexp, dg, sR, gR, hge, hdg => ⟨gexp, dg, sR, gR, rfl, by simpa using hge, by simpa using hdg, fun _ => Or.inr ⟨rfl, rfl⟩⟩
  | k + 1, i, gexp, dg, sR, gR, hge, hdg => by
    rw [giantLoop]
    obtain ⟨s, d, sT, gT, e1, e2, e3, e4⟩ := giantLoop_heads hdd k (i + 1) _ _ (gexp :: sR) (dg :: gR)
      (mulm_pow hge hdg (by ring)) (mulm_pow hdg hdd (by ring))
    refine ⟨s, d, sT, gT, e1, ?_, ?_, fun hm => ?_⟩
    · rw [show i + (k + 1) = i + 1 + k by omega]; exact e2
    · rw [show i + (k + 1) = i + 1 + k by omega]; exact e3
    · rcases e4 hm with h | ⟨_, h⟩
      · exact Or.inl h
      · left; rw [h]; exact Nat.mod_lt _ hm

theorem giant_assert_holds {m g d1 d2 dg : Nat} (hm : 0 < m) (hg : g < m) (hd1 : d1 % 2 = 0) (hd2 : 1 ≤ d2)
    (hfit : d2 * d2 * d1 < 2 ^ 64) (hdg : expModn (mulm m) (onem m) g (d1 / 2) = some dg) :
    expCheckPanics m g (gexpEnd m (giantLoop m (mulm m dg dg) d2 (onem m) dg [] [])) (d2 * d2 * d1 / 2) = false := by
  have hd1le : d1 ≤ d2 * d2 * d1 := Nat.le_mul_of_pos_left _ (Nat.mul_pos hd2 hd2)
  obtain ⟨y, hy, hymod⟩ := expModn_mod (m := m) g (d1 / 2) (by omega)
  rw [hdg] at hy
  simp only [Option.some.injEq] at hy
  subst hy
  obtain ⟨k, rfl⟩ : ∃ k, d2 = k + 1 := ⟨d2 - 1, by omega⟩
  obtain ⟨s, d, sT, gT, e1, e2, e3, _⟩ := giantLoop_heads (m := m) (h := dg) (g2_modEq m dg) k 0 (onem m) dg [] []
    (by unfold onem; simpa using Nat.mod_modEq 1 m) (by simp; exact Nat.ModEq.refl _)
  rw [e1]
  have hval : gexpEnd m (s :: sT, d :: gT) = mulm m s d := rfl
  rw [hval]
  refine expCheckPanics_false hm hg (Nat.mod_lt _ hm) (by omega) ?_
  refine (mulm_pow e2 e3 rfl).trans ?_
  have h2 := hymod.pow ((0 + k) * (0 + k) + (2 * (0 + k) + 1))
  rw [← pow_mul] at h2
  have he : d1 / 2 * ((0 + k) * (0 + k) + (2 * (0 + k) + 1)) = (k + 1) * (k + 1) * d1 / 2 := by
    obtain ⟨c, rfl⟩ : ∃ c, d1 = 2 * c := ⟨d1 / 2, by omega⟩
    rw [show (k + 1) * (k + 1) * (2 * c) = 2 * ((k + 1) * (k + 1) * c) by ring]
    rw [Nat.mul_div_cancel_left _ (by decide : 0 < 2), Nat.mul_div_cancel_left _ (by decide : 0 < 2)]
    ring
  rw [he] at h2
  exact h2

theorem forall₂_getLast? {α β} {R : α → β → Prop} {l₁ : List α} {l₂ : List β} (h : List.Forall₂ R l₁ l₂) {b : β}
    (hb : l₂.getLast? = some b) : ∃ a, l₁.getLast? = some a ∧ R a b := by
  have hr := List.forall₂_reverse_iff.mpr h
  rw [← List.head?_reverse] at hb ⊢
  cases hl : l₂.reverse with
  | nil => rw [hl] at hb; exact absurd hb (by simp)
  | cons i iT =>
    rw [hl] at hr hb
    obtain ⟨a, vT, hab, -, hv⟩ := List.forall₂_cons_right_iff.mp hr
    exact ⟨a, by rw [hv]; rfl, (Option.some.inj hb) ▸ hab⟩

/-- the first `debug_assert!` of `pm1_stage2_polyeval` (`bg == exp_modn(g, bexp)`) never fails -/
theorem baby_assert_holds {m g d1 : Nat} (hm : 0 < m) (hg : g < m) (hd : d1 + 1 < 2 ^ 64) :
    ∃ vs, babySteps m d1 g = some vs ∧
      expCheckPanics m g (vs.getLast?.getD g) (babyLastExp d1 (d1 + 2) 1 1) = false := by
  obtain ⟨vs, idx, h1, h2, h3, -, h5, h6⟩ := babySteps_spec m g d1
  obtain ⟨X, hX, hmod⟩ := forall₂_getLast? h2 h5
  refine ⟨vs, h1, ?_⟩
  rw [hX]
  have hle : babyLastExp d1 (d1 + 2) 1 1 ≤ d1 + 1 := by
    rcases (h3 _).mp (List.mem_of_getLast? h5) with h | h <;> omega
  exact expCheckPanics_false hm hg (h6 hm hg X (List.mem_of_getLast? hX)) (by omega) hmod

theorem mulLinear_length (m r : Nat) (c : List Nat) : (mulLinear m r c).length = c.length + 1 := by
  simp [mulLinear]

theorem fromRoots_length (m : Nat) (roots : List Nat) : (fromRoots m roots).length = roots.length + 1 := by
  unfold fromRoots
  have : ∀ (rs c : List Nat), (rs.foldl (fun c r => mulLinear m r c) c).length = c.length + rs.length := by
    intro rs
    induction rs with
    | nil => intro c; simp
    | cons r rs ih => intro c; rw [List.foldl_cons, ih, mulLinear_length]; simp; omega
  rw [this]; simp; omega

theorem polyVals_isSome {m g d1 d2 : Nat} (hm : 0 < m) (hg : g < m) (h6 : d1 % 6 = 0) (hd : d1 + 1 < 2 ^ 64)
    (hpow : d2 = 2 ^ Nat.log2 d2) (h56 : 56 ≤ d2)
    (hlen : ∀ vs, babySteps m d1 g = some vs → vs.length + 1 ≤ d2) : (polyVals m d1 d2 g).isSome = true := by
  obtain ⟨vs, hvs, hassert⟩ := baby_assert_holds (d1 := d1) hm hg hd
  obtain ⟨dg, hdg, _⟩ := expModn_mod (m := m) g (d1 / 2) (by omega)
  have hl := hlen vs hvs
  unfold polyVals
  rw [if_neg (by omega), hvs]
  simp only
  rw [hassert]
  simp only [Bool.false_eq_true, if_false, hdg]
  have hgiant : ¬ (d2 * d2 * d1 < 2 ^ 64 ∧
      expCheckPanics m g (gexpEnd m (giantLoop m (mulm m dg dg) d2 (onem m) dg [] [])) (d2 * d2 * d1 / 2) = true) := by
    rintro ⟨hfit, hc⟩
    rw [giant_assert_holds hm hg (by omega) (by omega) hfit hdg] at hc
    exact absurd hc (by simp)
  cases hgl : giantLoop m (mulm m dg dg) d2 (onem m) dg [] [] with
  | mk sR gR =>
    rw [hgl] at hgiant
    simp only
    have h2 : ¬ (d2 = 0 ∨ d2 ≠ 2 ^ Nat.log2 d2) := by
      intro h
      rcases h with h | h
      · omega
      · exact h hpow
    have h3 : ¬ d2 / 2 < 28 := by omega
    have h4 : ¬ (fromRoots m vs).length > d2 := by rw [fromRoots_length]; omega
    have hpos : 1 ≤ vs.length := by
      obtain ⟨vs', idx, e1, e2, e3, _⟩ := babySteps_spec m g d1
      rw [hvs] at e1
      simp only [Option.some.injEq] at e1
      subst e1
      rw [e2.length_eq]
      exact List.length_pos_of_mem ((e3 1).mpr (Or.inl rfl))
    have h5 : ¬ (fromRoots m vs).length < 2 := by rw [fromRoots_length]; omega
    rw [if_neg hgiant, if_neg h2, if_neg h3, if_neg h4, if_neg h5]
    rfl

theorem babySteps_spec_idx (m g : Nat) {d1 : Nat} (h6 : 6 ∣ d1) (hd : 0 < d1) :
    ∃ vs idx, babySteps m d1 g = some vs ∧ List.Forall₂ (fun v r => v ≡ g ^ r [MOD m]) vs idx ∧
      (∀ r, r ∈ idx ↔ isPm1Baby d1 r = true) ∧ idx.Pairwise (· < ·) := by
  obtain ⟨vs, idx, h1, h2, h3, h4, -⟩ := babySteps_spec m g d1
  refine ⟨vs, idx, h1, h2, fun r => ?_, h4⟩
  rw [h3, pm1Baby_iff h6]
  have h6' := Nat.le_of_dvd hd h6
  constructor
  · rintro (rfl | ⟨a1, a2, _, _, a5⟩)
    · exact ⟨by omega, by omega, by simp⟩
    · exact ⟨by omega, a2, a5⟩
  · rintro ⟨a1, a2, a3⟩
    by_cases hr : r = 1
    · exact Or.inl hr
    · exact Or.inr ⟨by omega, a2, odd_of_coprime_even (Nat.dvd_trans (by decide) h6) a3,
        not3_of_coprime (Nat.dvd_trans (by decide) h6) a3, a3⟩

theorem idx_eq_filter {d1 n : Nat} (h6 : 6 ∣ d1) (hn : d1 + 2 ≤ n) {idx : List Nat}
    (e3 : ∀ r, r ∈ idx ↔ isPm1Baby d1 r = true) (e4 : idx.Pairwise (· < ·)) :
    idx = (List.range n).filter (isPm1Baby d1) := by
  refine List.Pairwise.eq_of_mem_iff e4 (List.Pairwise.sublist List.filter_sublist List.pairwise_lt_range) fun r => ?_
  rw [e3, List.mem_filter, List.mem_range]
  exact ⟨fun hb => ⟨by have := ((pm1Baby_iff h6).mp hb).2.1; omega, hb⟩, fun h => h.2⟩

/-- the number of baby steps is `pm1Deg d1` (the degree of the polynomial `from_roots` builds) -/
theorem babySteps_length {m g d1 : Nat} (h6 : 6 ∣ d1) (hd : 0 < d1) {vs : List Nat} (h : babySteps m d1 g = some vs) :
    vs.length = pm1Deg d1 := by
  obtain ⟨vs', idx, e1, e2, e3, e4⟩ := babySteps_spec_idx m g h6 hd
  obtain rfl := Option.some.inj (h.symm.trans e1)
  rw [e2.length_eq, idx_eq_filter (n := d1 + Stage2Arms.pm1Baby.2 + 1) h6
    (by delta Stage2Arms.pm1Baby; show d1 + 2 ≤ d1 + 2 + 1; omega) e3 e4]
  rfl

end Ymq.Pm1Impl
