/-
C14 "small", helper lemmas (Mathlib): Montgomery's three-term property derived from an
extended invariant `VInv` that adds the directions `V_m` to the ghost history.  What is proved here:
`VInv` (with `LInv`) IMPLIES the hypothesis `h3` of the checked inductive step.
-/
import Ymq.Lemmas.Gf2SmallLoopRun

namespace Ymq.Gf2Small
open Ymq.Gf2 Ymq.Gf2Genblock Ymq.Gf2Lanczos
open scoped Matrix

/-- the vectors not selected in any of the blocks `m, …, t-1`: `!S_m & … & !S_{t-1}` -/
def pc (Ss : List Nat) (m t : Nat) : Nat :=
  (List.range' m (t - m)).foldl (fun a l => a &&& (M64 ^^^ Ss.getD l 0)) M64

theorem foldl_and_zero (l : List Nat) (f : Nat → Nat) : l.foldl (fun a x => a &&& f x) 0 = 0 := by
  induction l with
  | nil => rfl
  | cons x l ih => simp [ih]

theorem foldl_and_assoc (l : List Nat) (f : Nat → Nat) (a b : Nat) :
    l.foldl (fun a x => a &&& f x) (a &&& b) = a &&& l.foldl (fun a x => a &&& f x) b := by
  induction l generalizing b with
  | nil => rfl
  | cons x l ih => simp only [List.foldl_cons, Nat.and_assoc, ih]

theorem pc_left_zero (Ss : List Nat) {m t : Nat} (hmt : m < t) (h : pc Ss (m + 1) t = 0) : pc Ss m t = 0 := by
  unfold pc at h ⊢
  rw [show t - m = (t - (m + 1)) + 1 by omega, List.range'_succ, List.foldl_cons,
    Nat.and_comm, foldl_and_assoc, h, Nat.and_zero]

theorem projS_zero : projS 0 = 0 := by
  rw [projS, ← Matrix.diagonal_zero]
  congr 1
  funext t
  rw [Nat.zero_testBit]; rfl

theorem pc_self (Ss : List Nat) (m : Nat) : pc Ss m m = M64 := by
  simp [pc]

theorem pc_succ (Ss : List Nat) {m t : Nat} (hmt : m ≤ t) :
    pc Ss m (t + 1) = pc Ss m t &&& (M64 ^^^ Ss.getD t 0) := by
  unfold pc
  rw [show t + 1 - m = (t - m) + 1 by omega, List.range'_concat, List.foldl_append]
  simp only [List.foldl_cons, List.foldl_nil]
  rw [show m + 1 * (t - m) = t by omega]

theorem pc_append (Ss : List Nat) (x : Nat) {m t : Nat} (ht : t ≤ Ss.length) :
    pc (Ss ++ [x]) m t = pc Ss m t := by
  unfold pc
  apply List.foldl_ext
  intro a l hl
  rw [List.mem_range'] at hl
  obtain ⟨i, hi, rfl⟩ := hl
  rw [getD_snoc_lt rfl (by omega)]

theorem pc_snoc (Ss : List Nat) (x : Nat) {m i : Nat} (hm : m ≤ i) (hi : i < Ss.length) :
    pc (Ss ++ [x]) m (i + 1) = pc Ss m i &&& (M64 ^^^ Ss.getD i 0) := by
  rw [pc_succ _ hm, pc_append Ss x (Nat.le_of_lt hi), getD_snoc_lt rfl hi]

theorem projS_and (a b : Nat) : projS (a &&& b) = projS a * projS b := by
  rw [projS, projS, projS, Matrix.diagonal_mul_diagonal]
  congr 1
  funext t
  rw [Nat.testBit_and]
  cases a.testBit t.1 <;> cases b.testBit t.1 <;> decide

theorem projS_compl (S : Nat) : projS (M64 ^^^ S) = 1 - projS S := by
  rw [projS, projS, ← Matrix.diagonal_one, Matrix.diagonal_sub]
  congr 1
  funext t
  have : M64.testBit t.1 = true := by
    rw [M64, Nat.testBit_two_pow_sub_one]; simp [t.2]
  rw [Nat.testBit_xor, this]
  cases S.testBit t.1 <;> decide

/-- the mask computed by the code is the ghost mask: `masks[l] = !S_l` for `l ≥ 1` -/
theorem maskFor_eq_pc {masks Ss : List Nat} {L j : Nat} (hL : masks.length = L) (hj : j < L)
    (hrel : ∀ l, 1 ≤ l → l < L → masks.getD l 0 = M64 ^^^ Ss.getD l 0) :
    maskFor masks j L = some (pc Ss (j + 1) (L - 1)) := by
  unfold maskFor pc
  refine Eq.trans (foldlM_masks masks _ (j + 2) M64 (by omega) (by omega)) ?_
  congr 1
  rw [show j + 2 - 1 = j + 1 by omega, show L - (j + 2) = L - 1 - (j + 1) by omega]
  apply List.foldl_ext
  intro a l hl
  rw [List.mem_range'] at hl
  obtain ⟨i, hi, rfl⟩ := hl
  rw [hrel _ (by omega) (by omega)]

/-- Extended invariant: `vhist` lists every direction `V_m`; `L = st.ws.length`, `i = L - 1`.
* `lastW`, `lastV`: the last blocks of `ws`, `vs` are the last entries `W_i`, `V_i` of the ghost histories;
  `wvLast`: `W_i = V_i·S_i` (the block is the direction masked by its selection); `vOrth`: `V_i` is A-orthogonal
  to the earlier blocks `W_l`, `l < i`;
* `recur`: the recurrence `V_{j+1} = A·W_j + V_j + Σ_{l ≤ j} W_l c_l`, read against any block `X`
  A-orthogonal to `W_0 … W_j`;
* `cc`, `dd`: against a block `X` A-orthogonal to `W_0 … W_{i-1}`, the vectors of `V_m` not selected in the
  blocks `m … i-1` are those of `V_i`, the selected ones vanish;
* `masksRel`, `purged`: `masks[l] = !S_l`, and a purged block has `!S_{j+1} & … & !S_{i-1} = 0`
  (the purge condition `mask == 0`). -/
structure VInv (k : Nat) (cols : List (List Nat)) (st : LState) (hist vhist : List (List Nat)) (Ss : List Nat) :
    Prop where
  lenVh : vhist.length = st.ws.length
  lastW : st.ws.getLast? = some (hist.getD (st.ws.length - 1) [])
  lastV : st.vs.getLast? = some (vhist.getD (st.ws.length - 1) [])
  wvLast : CM cols.length (hist.getD (st.ws.length - 1) []) =
    CM cols.length (vhist.getD (st.ws.length - 1) []) * projS (Ss.getD (st.ws.length - 1) 0)
  vOrth : ∀ l, l + 1 < st.ws.length → Q k cols (hist.getD l []) (vhist.getD (st.ws.length - 1) []) = 0
  recur : ∀ j, j + 1 < st.ws.length → ∀ X, BlockOK cols.length X → (∀ l, l ≤ j → Q k cols X (hist.getD l []) = 0) →
    (CM cols.length X)ᵀ * gramA k cols * (gramA k cols * CM cols.length (hist.getD j [])) =
      Q k cols X (vhist.getD (j + 1) []) + Q k cols X (vhist.getD j [])
  cc : ∀ m, m < st.ws.length → ∀ X, BlockOK cols.length X →
    (∀ l, l + 1 < st.ws.length → Q k cols X (hist.getD l []) = 0) →
    Q k cols X (vhist.getD m []) * projS (pc Ss m (st.ws.length - 1)) =
      Q k cols X (vhist.getD (st.ws.length - 1) []) * projS (pc Ss m (st.ws.length - 1))
  dd : ∀ m, m < st.ws.length → ∀ X, BlockOK cols.length X →
    (∀ l, l + 1 < st.ws.length → Q k cols X (hist.getD l []) = 0) →
    Q k cols X (vhist.getD m []) * (1 - projS (pc Ss m (st.ws.length - 1))) = 0
  masksRel : ∀ l, 1 ≤ l → l < st.ws.length → st.masks.getD l 0 = M64 ^^^ Ss.getD l 0
  purged : ∀ (j : Nat) (w : List Nat), st.ws[j]? = some w → w.isEmpty = true →
    j + 1 < st.ws.length ∧ pc Ss (j + 1) (st.ws.length - 1) = 0

theorem M64_ne_zero : M64 ≠ 0 := by decide

theorem VInv.notProj {k : Nat} {cols : List (List Nat)} {st : LState} {hist vhist : List (List Nat)} {Ss : List Nat}
    (hV : VInv k cols st hist vhist Ss) (hMk : st.masks.length = st.ws.length) :
    ∀ j, j < st.ws.length → ¬ Projected st.ws st.masks st.ws.length j →
      j + 1 < st.ws.length ∧ pc Ss (j + 1) (st.ws.length - 1) = 0 := by
  intro j hj hnp
  have hgD : st.ws.getD j [] = st.ws[j]'hj := by
    simp [List.getD_eq_getElem?_getD, List.getElem?_eq_getElem hj]
  by_cases he : (st.ws[j]'hj).isEmpty = true
  · exact hV.purged j _ (List.getElem?_eq_getElem hj) he
  · have hm := maskFor_eq_pc (Ss := Ss) hMk hj hV.masksRel
    have h0 : maskFor st.masks j st.ws.length = some 0 := by
      apply Classical.byContradiction
      intro hne
      exact hnp ⟨by rw [hgD]; simpa using he, hne⟩
    rw [hm] at h0
    injection h0 with h0
    refine ⟨?_, h0⟩
    apply Classical.byContradiction
    intro hlt
    have : pc Ss (j + 1) (st.ws.length - 1) = M64 := by
      unfold pc
      rw [show st.ws.length - 1 - (j + 1) = 0 by omega]; rfl
    rw [this] at h0
    exact M64_ne_zero h0

/-- the direction `A·W_i ^ V_i` computed at the beginning of an iteration, read against any block -/
theorem VInv.direction {k : Nat} {cols : List (List Nat)} (hM : MatOK k cols) {Y0 : List Nat} {st : LState}
    {hist vhist : List (List Nat)} {Ss : List Nat} (hInv : LInv k cols Y0 st hist Ss)
    (hV : VInv k cols st hist vhist Ss) {next0 : List Nat} (hd : Direction k cols st next0) (X : List Nat) :
    Q k cols X next0 =
      (CM cols.length X)ᵀ * gramA k cols * (gramA k cols * CM cols.length (hist.getD (st.ws.length - 1) [])) +
        Q k cols X (vhist.getD (st.ws.length - 1) []) := by
  obtain ⟨wl, pv, nx, hwl, hpv, hnx, rfl⟩ := hd
  obtain ⟨wl', hwl', hwlOK⟩ := hInv.wf.lastW
  obtain ⟨pv', hpv', hpvOK⟩ := hInv.wf.lastV
  rw [hwl] at hwl'; cases hwl'
  rw [hpv] at hpv'; cases hpv'
  have hnxOK := aab_ok hM hwlOK hnx
  rw [hV.lastW] at hwl; cases hwl
  rw [hV.lastV] at hpv; cases hpv
  show (CM cols.length X)ᵀ * gramA k cols * cellMat (List.zipWith (fun a p => a ^^^ p) nx _).toArray cols.length = _
  rw [cellMat_zipWith_xor hnxOK.1 hpvOK.1, cellMat_aab hM hnx, Matrix.mul_add]

/-- Montgomery's three-term property: the blocks that are no longer projected are A-orthogonal to the
new direction `A·W_i ^ V_i` -/
theorem three_term_of_VInv {k : Nat} {cols : List (List Nat)} (hM : MatOK k cols) {Y0 : List Nat} {st : LState}
    {hist vhist : List (List Nat)} {Ss : List Nat} (hInv : LInv k cols Y0 st hist Ss)
    (hV : VInv k cols st hist vhist Ss) :
    ∀ next0, Direction k cols st next0 → ∀ j, j < st.ws.length →
      ¬ Projected st.ws st.masks st.ws.length j → Q k cols (hist.getD j []) next0 = 0 := by
  intro next0 hd j hj hnp
  obtain ⟨hj1, hpc⟩ := hV.notProj hInv.wf.lenM j hj hnp
  -- `X = W_i` is A-orthogonal to the earlier blocks
  have hXOK : BlockOK cols.length (hist.getD (st.ws.length - 1) []) := hInv.histOK _ (by omega)
  have hXorth : ∀ l, l + 1 < st.ws.length →
      Q k cols (hist.getD (st.ws.length - 1) []) (hist.getD l []) = 0 :=
    fun l hl => hInv.orth (st.ws.length - 1) l (by omega) (by omega) (by omega)
  have d1 := hV.dd (j + 1) hj1 _ hXOK hXorth
  have d0 := hV.dd j hj _ hXOK hXorth
  rw [hpc, projS_zero, sub_zero, Matrix.mul_one] at d1
  rw [pc_left_zero Ss (by omega) hpc, projS_zero, sub_zero, Matrix.mul_one] at d0
  have hr := hV.recur j hj1 _ hXOK (fun l hl => hXorth l (by omega))
  rw [d1, d0, add_zero] at hr
  rw [hV.direction hM hInv hd, hV.vOrth j hj1, add_zero]
  -- `hr`, transposed
  have := congrArg Matrix.transpose hr
  simp only [Matrix.transpose_mul, Matrix.transpose_transpose, gramA_symm, Matrix.transpose_zero,
    Matrix.mul_assoc] at this
  simp only [Matrix.mul_assoc]
  exact this

theorem lanczosStep_checked_of_VInv {k : Nat} {cols : List (List Nat)} (hM : MatOK k cols) {Y0 ay : List Nat}
    (hay : mulAabOpt (qsOptimize k cols) Y0 = some ay) (hayOK : BlockOK cols.length ay)
    {st : LState} {hist vhist : List (List Nat)} {Ss : List Nat} (hInv : LInv k cols Y0 st hist Ss)
    (hV : VInv k cols st hist vhist Ss) :
    (∃ st', lanczosStep true (qsOptimize k cols) ay st = .finished st' ∧ st'.y = st.y ∧
      ∀ w ∈ st'.ws, w.isEmpty = false → ∃ j : Nat, st.ws[j]? = some w) ∨
    (∃ st' mk w, lanczosStep true (qsOptimize k cols) ay st = .continue st' mk ∧
      LInv k cols Y0 st' (hist ++ [w]) (Ss ++ [mk]) ∧ ∃ next next0, StepFacts k cols st hist st' mk w next next0) :=
  lanczosStep_checked_ok hM hay hayOK hInv (three_term_of_VInv hM hInv hV)

end Ymq.Gf2Small
