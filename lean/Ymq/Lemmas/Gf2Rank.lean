/-
C14 (Mathlib): bridge from the bit-list model to linear algebra over
`ZMod 2` (`matZ`, `vecZ`, `mulVec_matZ`), the list notion `Indep` implies `LinearIndependent`,
the pivot columns are independent, and `Matrix.rank (matZ size M)` = number of pivots, hence
`kernelGauss_count`: returned vectors + rank = number of columns.
-/
import Ymq.Lemmas.Gf2Gauss
import Mathlib.LinearAlgebra.Matrix.Rank
import Mathlib.LinearAlgebra.FiniteDimensional.Lemmas
import Mathlib.Algebra.Field.ZMod

namespace Ymq.Gf2
open Matrix Module

def toZ (b : Bool) : ZMod 2 := if b then 1 else 0

@[simp] theorem toZ_false : toZ false = 0 := rfl
@[simp] theorem toZ_true : toZ true = 1 := rfl

theorem toZ_xor (a b : Bool) : toZ (a ^^ b) = toZ a + toZ b := by
  cases a <;> cases b <;> decide

theorem toZ_and (a b : Bool) : toZ (a && b) = toZ a * toZ b := by
  cases a <;> cases b <;> decide

theorem toZ_eq_zero (a : Bool) : toZ a = 0 ↔ a = false := by
  cases a <;> decide

theorem toZ_decide_ne_zero (x : ZMod 2) : toZ (decide (x ≠ 0)) = x := by
  revert x; decide

def vecZ (k : Nat) (v : BVec) : Fin k → ZMod 2 := fun i => toZ (bitAt v i)

/-- the columns `M` (bit lists) as a `size × ncols` matrix over `ZMod 2` -/
def matZ (size : Nat) (M : List BVec) : Matrix (Fin size) (Fin M.length) (ZMod 2) :=
  fun i j => toZ (bitAt M[j] i)

theorem toZ_xsum_range (n : Nat) (f : Nat → Bool) :
    toZ (xsum ((List.range n).map f)) = ∑ j : Fin n, toZ (f j) := by
  induction n with
  | zero => rfl
  | succ n ih =>
    rw [List.range_succ, List.map_append, xsum_append, toZ_xor, ih, Fin.sum_univ_castSucc]
    simp

theorem mulVec_matZ (size : Nat) (M : List BVec) (c : BVec) (hR : Rect size M) :
    (matZ size M) *ᵥ (vecZ M.length c) = vecZ size (mulVec size M c) := by
  funext i
  simp only [Matrix.mulVec, dotProduct, matZ, vecZ]
  rw [bitAt_mulVec size M c hR, toZ_xsum_range]
  refine Finset.sum_congr rfl (fun j _ => ?_)
  rw [toZ_and, mul_comm, List.getD_eq_getElem?_getD, List.getElem?_eq_getElem j.2, Option.getD_some]
  rfl

theorem bitAt_ofFn {n : Nat} (h : Fin n → Bool) (j : Fin n) : bitAt (List.ofFn h) j = h j := by
  simp [bitAt, List.getD]

theorem Indep.linearIndependent {F : List BVec} (h : Indep F) (k : Nat) (hk : ∀ v ∈ F, v.length ≤ k) :
    LinearIndependent (ZMod 2) (fun j : Fin F.length => vecZ k F[j]) := by
  rw [Fintype.linearIndependent_iff]
  intro g hg j
  let c : BVec := List.ofFn (fun j : Fin F.length => decide (g j ≠ 0))
  have hall := h (F.zip c) (List.map_fst_zip (by simp [c])) (fun i => by
    rw [combZ_zip]
    by_cases hi : i < k
    · rw [← toZ_eq_zero, toZ_xsum_range]
      have := congrFun hg ⟨i, hi⟩
      simp only [Finset.sum_apply, Pi.smul_apply, smul_eq_mul, Pi.zero_apply, vecZ] at this
      refine Eq.trans (Finset.sum_congr rfl (fun j _ => ?_)) this
      rw [toZ_and, bitAt_ofFn, toZ_decide_ne_zero, List.getD_eq_getElem?_getD, List.getElem?_eq_getElem j.2,
        Option.getD_some]
      rfl
    · refine xsum_eq_false_of_forall _ (fun b hb => ?_)
      obtain ⟨t, ht, rfl⟩ := List.mem_map.mp hb
      have ht' : t < F.length := List.mem_range.mp ht
      rw [List.getD_eq_getElem?_getD, List.getElem?_eq_getElem ht', Option.getD_some,
        bitAt_of_ge _ i (by have := hk F[t] (List.getElem_mem ht'); omega), Bool.and_false])
  have := hall (F[j], decide (g j ≠ 0)) (by
    rw [List.mem_iff_getElem]
    exact ⟨j, by simp [c], by simp [c]⟩)
  simpa using this

/-- columns whose top bits sit at strictly decreasing positions are independent: the first column is the only one
with a bit at its own top position, so its flag in a vanishing combination is null; induction on the rest -/
theorem indep_pivots (size : Nat) (pre : List Col) (hcol : ∀ e ∈ pre, e.col.length = size)
    (hz : ∀ e ∈ pre, e.z = lzTop e.col) (hlt : ∀ e ∈ pre, e.z < size)
    (hs : pre.Pairwise (fun a b => a.z < b.z)) : Indep (pre.map (·.col)) := by
  induction pre with
  | nil =>
    intro Z hZ _ z hz
    have : Z = [] := by simpa using hZ
    subst this; simp at hz
  | cons e pre ih =>
    intro Z hZ hc
    obtain ⟨z0, Z', rfl, hz0, hZ'⟩ := List.map_eq_cons_iff.mp hZ
    have he := hlt e (by simp)
    have hetop : bitAt e.col (size - 1 - e.z) = true := by
      have := bitAt_top e.col (by rw [← hz e (by simp), hcol e (by simp)]; exact he)
      rwa [hcol e (by simp), ← hz e (by simp)] at this
    have hothers : ∀ z ∈ Z', bitAt z.1 (size - 1 - e.z) = false := by
      intro z hzm
      have : z.1 ∈ pre.map (·.col) := by rw [← hZ']; exact List.mem_map_of_mem hzm
      obtain ⟨e', he', hcole⟩ := List.mem_map.mp this
      have hlt' : e.z < e'.z := (List.pairwise_cons.mp hs).1 e' he'
      rw [← hcole]
      apply bitAt_above_top
      rw [hcol e' (by simp [he']), ← hz e' (by simp [he'])]
      have := hlt e' (by simp [he'])
      omega
    have hZ'0 : combZ Z' (size - 1 - e.z) = false := by
      apply xsum_eq_false_of_forall
      intro b hb
      simp only [List.mem_map] at hb
      obtain ⟨z, hzm, rfl⟩ := hb
      simp [hothers z hzm]
    have hb0 : z0.2 = false := by
      have := hc (size - 1 - e.z)
      rw [combZ_cons, hZ'0, hz0, hetop] at this
      simpa using this
    have hrest := ih (fun e' h => hcol e' (by simp [h])) (fun e' h => hz e' (by simp [h]))
      (fun e' h => hlt e' (by simp [h])) (List.pairwise_cons.mp hs).2 Z' hZ' (fun i => by
        have := hc i
        rw [combZ_cons, hb0] at this
        simpa using this)
    intro z hzm
    rcases List.mem_cons.mp hzm with rfl | hzm
    · exact hb0
    · exact hrest z hzm


theorem range_getElem_map {α β γ} (L : List α) (g : α → β) (φ : β → γ) :
    Set.range (fun j : Fin (L.map g).length => φ (L.map g)[j]) = (fun a => φ (g a)) '' {a | a ∈ L} := by
  ext x
  simp only [Set.mem_range, Set.mem_image, Set.mem_ofPred_eq]
  constructor
  · rintro ⟨j, rfl⟩
    have hj : j.1 < L.length := by simpa using j.2
    exact ⟨L[j.1], List.getElem_mem hj, by simp⟩
  · rintro ⟨a, ha, rfl⟩
    obtain ⟨i, hi, rfl⟩ := List.getElem_of_mem ha
    exact ⟨⟨i, by simpa using hi⟩, by simp⟩

theorem vecZ_eq_zero (k : Nat) (v : BVec) (h : ∀ i, bitAt v i = false) : vecZ k v = 0 := by
  funext i; simp [vecZ, h]

/-- At the exit of the loop the rank of the input matrix is the number of pivots. -/
theorem rank_eq_pivots {size : Nat} {M : List BVec} {pre rest : List Col} (hR : Rect size M)
    (hI : Inv size M pre rest) (hz : ∀ r ∈ rest, r.z = size) : (matZ size M).rank = pre.length := by
  have hok := hI.entries
  -- the coefficient rows are a basis of `GF(2)^ncols`
  have hC := hI.indep.linearIndependent M.length (fun v hv => by
    obtain ⟨e, he, rfl⟩ := List.mem_map.mp hv
    rw [(hok e he).hcoef])
  have htop := hC.span_eq_top_of_card_eq_finrank' (by
    rw [Fintype.card_fin, Module.finrank_fin_fun, List.length_map, List.length_append]; exact hI.len)
  rw [range_getElem_map] at htop
  -- so the range of `M` is spanned by their images, the columns; those of `rest` are null
  have hnull : Submodule.span (ZMod 2) ((fun e : Col => vecZ size e.col) '' {e | e ∈ rest}) = ⊥ := by
    rw [Submodule.span_eq_bot]
    rintro _ ⟨e, he, rfl⟩
    have h := hok e (List.mem_append_right _ he)
    exact vecZ_eq_zero size e.col ((lzTop_eq_length_iff e.col).mp (by rw [← h.hz, hz e he, h.hcol]))
  have hrange : LinearMap.range (matZ size M).mulVecLin =
      Submodule.span (ZMod 2) ((fun e : Col => vecZ size e.col) '' {e | e ∈ pre}) := by
    rw [LinearMap.range_eq_map, ← htop, Submodule.map_span, Set.image_image,
      Set.image_congr (g := fun e : Col => vecZ size e.col) (fun e he => by
        rw [Matrix.mulVecLin_apply, mulVec_matZ size M e.coef hR, (hok e he).hmul]),
      show {e | e ∈ pre ++ rest} = {e | e ∈ pre} ∪ {e | e ∈ rest} from Set.ext fun e => List.mem_append,
      Set.image_union, Submodule.span_union, hnull, sup_bot_eq]
  have hP := (indep_pivots size pre (fun e he => (hok e (List.mem_append_left _ he)).hcol)
    (fun e he => (hok e (List.mem_append_left _ he)).hz) hI.preLt hI.preSorted).linearIndependent size (by
      intro v hv
      obtain ⟨e, he, rfl⟩ := List.mem_map.mp hv
      rw [(hok e (List.mem_append_left _ he)).hcol])
  have hcard := finrank_span_eq_card hP
  rw [range_getElem_map, Fintype.card_fin, List.length_map] at hcard
  rw [Matrix.rank, hrange, hcard]

theorem kernelGauss_count {size : Nat} {M : List BVec} (hR : Rect size M) {K : List BVec}
    (h : kernelGauss M = some K) : K.length + (matZ size M).rank = M.length := by
  obtain ⟨pre, rest, rfl, hI, hz⟩ := kernelGauss_eq hR h
  rw [rank_eq_pivots hR hI hz]
  have := hI.len
  simp only [List.length_map]
  omega

end Ymq.Gf2
