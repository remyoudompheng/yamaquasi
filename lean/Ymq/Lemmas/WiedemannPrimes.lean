/-
`select_crtprimes`: what the loop guarantees about the selected moduli (`selectPrimes_spec`), and
what the selection depends on: the norm and the size of the matrix (`selectPrimes_congr`) and the
values of the primality test on odd words below `2^63` (`selectPrimes_congr_test`). The latter
lets a concrete selection be evaluated with `isprime64` over plain modular arithmetic
(`selectPrimes_plain`).
-/
import Ymq.Model.Wiedemann
import Ymq.Lemmas.MillerTiers
import Mathlib.Data.Nat.Prime.Basic
import Mathlib.Data.List.Pairwise

namespace Ymq.Wied

/-- the loop only ever appends candidates `q ≤ p` of the progression `p, p - 30, …` accepted by the
primality test, in strictly decreasing order, and stops with exactly `want` of them (unless `acc`
was already long enough) -/
theorem primesLoop_spec (isprime : ℕ → Option Bool) (want : ℕ) :
    ∀ (f p : ℕ) (acc out : List ℕ), primesLoop isprime want f p acc = some out →
      acc.Pairwise (· < ·) → (∀ a ∈ acc, p < a) → acc.length ≤ want →
      out.Pairwise (· > ·) ∧
        (∀ a ∈ out, a ∈ acc ∨ (a ≤ p ∧ a % 30 = p % 30 ∧ isprime a = some true)) ∧
        out.length = want
  | 0, _, _, _, h, _, _, _ => by simp [primesLoop] at h
  | f + 1, p, acc, out, h, hs, hb, hl => by
    unfold primesLoop at h
    by_cases hw : acc.length ≥ want
    · rw [if_pos hw] at h
      have : out = acc.reverse := (Option.some.inj h).symm
      subst this
      refine ⟨?_, fun a ha => Or.inl (List.mem_reverse.mp ha), by simp; omega⟩
      rw [List.pairwise_reverse]
      exact hs.imp (fun h => h)
    · rw [if_neg hw] at h
      cases hip : isprime p with
      | none => rw [hip] at h; simp at h
      | some b =>
        rw [hip] at h
        simp only at h
        by_cases h30 : p < 30
        · rw [if_pos h30] at h; simp at h
        · rw [if_neg h30] at h
          cases b with
          | false =>
            simp only [Bool.false_eq_true, if_false] at h
            obtain ⟨r1, r2, r3⟩ := primesLoop_spec isprime want f (p - 30) acc out h hs
              (fun a ha => by have := hb a ha; omega) hl
            refine ⟨r1, fun a ha => ?_, r3⟩
            rcases r2 a ha with h' | ⟨h1, h2, h3⟩
            · exact Or.inl h'
            · exact Or.inr ⟨by omega, by omega, h3⟩
          | true =>
            simp only [if_true] at h
            obtain ⟨r1, r2, r3⟩ := primesLoop_spec isprime want f (p - 30) (p :: acc) out h
              (List.pairwise_cons.mpr ⟨fun a ha => hb a ha, hs⟩)
              (fun a ha => by
                rcases List.mem_cons.mp ha with rfl | ha
                · omega
                · have := hb a ha; omega)
              (by simp; omega)
            refine ⟨r1, fun a ha => ?_, r3⟩
            rcases r2 a ha with h' | ⟨h1, h2, h3⟩
            · rcases List.mem_cons.mp h' with rfl | h''
              · exact Or.inr ⟨le_refl _, rfl, hip⟩
              · exact Or.inl h''
            · exact Or.inr ⟨by omega, by omega, h3⟩

/-- the loop calls the test on `p, p - 30, p - 60, …` only -/
theorem primesLoop_congr (ip ip' : ℕ → Option Bool) (want : ℕ) :
    ∀ (f p : ℕ) (acc : List ℕ), (∀ q, q ≤ p → q % 30 = p % 30 → ip q = ip' q) →
      primesLoop ip want f p acc = primesLoop ip' want f p acc
  | 0, _, _, _ => rfl
  | f + 1, p, acc, h => by
    unfold primesLoop
    rw [h p (le_refl _) rfl]
    split
    · rfl
    · split
      · rfl
      · split
        · rfl
        · exact primesLoop_congr ip ip' want f (p - 30) _
            (fun q h1 h2 => h q (by omega) (by omega))

/-- the first candidate of `select_crtprimes`: the largest `30k - 1` not above `2^63 / norm` -/
def selStart (m : Mat) : ℕ := 30 * (2 ^ 63 / norm m / 30) - 1

/-- `select_crtprimes` is its loop started at `selStart`, behind one guard on the norm (the check
against `2^64` is implied by the `debug_assert!`) -/
theorem selectPrimes_eq (ip : ℕ → Option Bool) (m : Mat) :
    selectPrimes ip m =
      if 0 < norm m ∧ selStart m % 30 = 29 ∧ selStart m * norm m < 2 ^ 63 then
        primesLoop ip (max m.length 8) primeFuel (selStart m) []
      else none := by
  have hI : I63.toNat = 2 ^ 63 := by decide
  have hW : W = 2 ^ 64 := by decide
  unfold selectPrimes selStart
  simp only [hI, hW]
  by_cases h0 : norm m = 0
  · rw [if_pos h0, if_neg (by omega)]
  rw [if_neg h0]
  by_cases h1 : 30 * (2 ^ 63 / norm m / 30) < 1
  · rw [if_pos h1, if_neg (by omega)]
  rw [if_neg h1]
  by_cases h3 : (30 * (2 ^ 63 / norm m / 30) - 1) * norm m < 2 ^ 63
  · rw [if_neg (by omega), if_neg (by omega), if_pos ⟨by omega, by omega, h3⟩]
  · have hr : ¬ (0 < norm m ∧ (30 * (2 ^ 63 / norm m / 30) - 1) % 30 = 29 ∧
        (30 * (2 ^ 63 / norm m / 30) - 1) * norm m < 2 ^ 63) := fun h => h3 h.2.2
    rw [if_neg hr]
    split
    · rfl
    · rw [if_pos (by omega)]

theorem selectPrimes_spec (isprime : ℕ → Option Bool) (m : Mat) (out : List ℕ)
    (h : selectPrimes isprime m = some out) :
    out.length = max m.length 8 ∧ out.Pairwise (· > ·) ∧
      ∀ q ∈ out, isprime q = some true ∧ q * norm m < 2 ^ 63 ∧ 0 < norm m ∧ q % 30 = 29 := by
  rw [selectPrimes_eq] at h
  split at h
  · rename_i hg
    obtain ⟨r1, r2, r3⟩ := primesLoop_spec isprime _ _ _ [] out h List.Pairwise.nil
      (by simp) (by simp)
    refine ⟨r3, r1, fun q hq => ?_⟩
    rcases r2 q hq with h' | ⟨q1, q2, q3⟩
    · simp at h'
    · exact ⟨q3, lt_of_le_of_lt (Nat.mul_le_mul_right _ q1) hg.2.2, hg.1, by omega⟩
  · simp at h

theorem selectPrimes_congr (isprime : ℕ → Option Bool) {m m' : Mat} (hn : norm m = norm m')
    (hl : m.length = m'.length) : selectPrimes isprime m = selectPrimes isprime m' := by
  rw [selectPrimes_eq, selectPrimes_eq, selStart, selStart, hn, hl]

/-- `select_crtprimes` calls the primality test on odd words below `2^63` only -/
theorem selectPrimes_congr_test (ip ip' : ℕ → Option Bool) (m : Mat)
    (h : ∀ q, q % 2 = 1 → q < 2 ^ 63 → ip q = ip' q) :
    selectPrimes ip m = selectPrimes ip' m := by
  rw [selectPrimes_eq, selectPrimes_eq]
  split
  · rename_i hg
    refine primesLoop_congr ip ip' _ _ _ _ fun q h1 h2 => h q (by omega) ?_
    exact lt_of_le_of_lt (le_trans h1 (Nat.le_mul_of_pos_right _ hg.1)) hg.2.2
  · rfl

open Ymq.Mg64 Ymq.Gen.Primality in
/-- `isprime64` on odd words over plain modular arithmetic: no Montgomery form, no panic site.
This is what the kernel runs when a prime selection is evaluated. -/
def isprimePlain (q : ℕ) : Option Bool :=
  some (if q < 199 then smallPrimes.contains q
    else runTiersN q (tz64 (q - 1)) (q / 2 ^ tz64 (q - 1)) tiers)

theorem isprime64_eq_plain (q : ℕ) (hodd : q % 2 = 1) (hlt : q < Ymq.Mg64.W) :
    Ymq.Mg64.isprime64 q = isprimePlain q := by
  unfold isprimePlain
  split
  · rename_i h; exact Ymq.Mg64.isprime64_small q h
  · rename_i h; exact Ymq.Mg64.isprime64_odd_eq q (by omega) hodd hlt

theorem selectPrimes_plain (m : Mat) :
    selectPrimes Ymq.Mg64.isprime64 m = selectPrimes isprimePlain m :=
  selectPrimes_congr_test _ _ m fun q h1 h2 =>
    isprime64_eq_plain q h1 (lt_trans h2 (by decide))

theorem pairwise_coprime_of_decreasing (l : List ℕ) (hd : l.Pairwise (· > ·))
    (hp : ∀ q ∈ l, q.Prime) : l.Pairwise Nat.Coprime := by
  induction l with
  | nil => exact List.Pairwise.nil
  | cons a t ih =>
    rw [List.pairwise_cons] at hd ⊢
    refine ⟨fun b hb => ?_, ih hd.2 (fun q hq => hp q (List.mem_cons_of_mem _ hq))⟩
    have hne : a ≠ b := by have := hd.1 b hb; omega
    exact (Nat.coprime_primes (hp a List.mem_cons_self) (hp b (List.mem_cons_of_mem _ hb))).mpr hne

end Ymq.Wied
