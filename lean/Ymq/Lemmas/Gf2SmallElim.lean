/-
C14 "small", helper lemmas (Mathlib): the forward elimination shared by `pseudoinverse` and
`inverse` (`elimCol`: invariant `FInv`, one column in `FInv.step`, existence of a pivot in `FInv.exists_pivot`), on
the functions `m k = m.0[k]`, `c k = minv.0[k]`.  `S` is the set of indices the matrix lives on (everything for
`inverse`, the mask for `pseudoinverse`).
-/
import Ymq.Lemmas.Gf2SmallRank

namespace Ymq.Gf2Small
open Matrix Module

theorem add_self_zmod2 {α : Type} [AddCommGroup α] [Module (ZMod 2) α] (v : α) : v + v = 0 :=
  ZModModule.add_self v

theorem length_xorRow (rows : Rows) (i j : Nat) : (xorRow rows i j).length = rows.length := by
  simp [xorRow]

theorem rowAt_xorRow {rows : Rows} {i : Nat} (hi : i < rows.length) (j k : Nat) :
    rowAt (xorRow rows i j) k =
      if k = i then ((rowAt rows i).1 ^^^ (rowAt rows j).1, (rowAt rows i).2 ^^^ (rowAt rows j).2)
      else rowAt rows k := by
  simp only [xorRow, rowAt, List.getD_eq_getElem?_getD, List.getElem?_set]
  by_cases h : k = i
  · subst h; simp [hi]
  · have h' : ¬ i = k := fun e => h e.symm
    simp [h, h']

theorem one_shiftLeft_lt {n k : Nat} (hk : k < n) : 1 <<< k < 2 ^ n := by
  rw [Nat.one_shiftLeft]; exact Nat.pow_lt_pow_right (by omega) hk

theorem testBit_unit (i u : Nat) : (1 <<< i).testBit u = decide (i = u) := by
  rw [Nat.one_shiftLeft, Nat.testBit_two_pow]

theorem lz_one_shiftLeft {n i : Nat} (hi : i < n) : lz n (1 <<< i) = i := by
  apply lz_eq_of hi
  · rw [testBit_unit]; simp
  · intro t ht; rw [testBit_unit]; simp; omega

theorem vecMul_unit {n : Nat} (T : Mat) {k : Nat} (hk : k < n) :
    vec n (1 <<< k) ᵥ* toMat n T = vec n (row T k) := by
  rw [vec_shiftLeft_one hk, Matrix.single_one_vecMul]
  rfl

/-- a pair `(m[k], minv[k])` in good standing: bounded, supported on `S`, `minv[k] · T = m[k]` -/
structure RowOK (n : Nat) (T : Mat) (S : Nat → Prop) (a d : Nat) : Prop where
  lta : a < 2 ^ n
  ltd : d < 2 ^ n
  coef : vec n d ᵥ* toMat n T = vec n a
  suba : ∀ t, a.testBit t = true → S t
  subd : ∀ t, d.testBit t = true → S t

theorem RowOK.xor {n : Nat} {T : Mat} {S : Nat → Prop} {a d a' d' : Nat} (h : RowOK n T S a d)
    (h' : RowOK n T S a' d') : RowOK n T S (a ^^^ a') (d ^^^ d') where
  lta := Nat.xor_lt_two_pow h.lta h'.lta
  ltd := Nat.xor_lt_two_pow h.ltd h'.ltd
  coef := by rw [vec_xor, vec_xor, Matrix.add_vecMul, h.coef, h'.coef]
  suba := by
    intro t ht
    rw [Nat.testBit_xor] at ht
    cases h1 : a.testBit t with
    | true => exact h.suba t h1
    | false => rw [h1] at ht; exact h'.suba t (by simpa using ht)
  subd := by
    intro t ht
    rw [Nat.testBit_xor] at ht
    cases h1 : d.testBit t with
    | true => exact h.subd t h1
    | false => rw [h1] at ht; exact h'.subd t (by simpa using ht)

/-- invariant of the forward elimination before column `b`: the columns `s < b` of `S` are done -/
structure FInv (n : Nat) (T : Mat) (S : Nat → Prop) (m c : Nat → Nat) (b : Nat) : Prop where
  ltm : ∀ k, k < n → m k < 2 ^ n
  ltc : ∀ k, k < n → c k < 2 ^ n
  coef : ∀ k, k < n → vec n (c k) ᵥ* toMat n T = vec n (m k)
  zero : ∀ k, k < n → ¬ S k → m k = 0 ∧ c k = 0
  subm : ∀ k, k < n → ∀ t, (m k).testBit t = true → S t
  subc : ∀ k, k < n → ∀ t, (c k).testBit t = true → S t
  piv : ∀ s, s < b → s < n → S s → lz n (m s) = s
  rest : ∀ k, k < n → ¬ (k < b ∧ S k) → b ≤ lz n (m k)
  span : spanOf n m = spanOf n (row T)

theorem FInv.rowOK {n : Nat} {T : Mat} {S : Nat → Prop} {m c : Nat → Nat} {b : Nat} (h : FInv n T S m c b)
    {k : Nat} (hk : k < n) : RowOK n T S (m k) (c k) :=
  ⟨h.ltm k hk, h.ltc k hk, h.coef k hk, h.subm k hk, h.subc k hk⟩

theorem FInv.skip {n : Nat} {T : Mat} {S : Nat → Prop} {m c : Nat → Nat} {b : Nat} (h : FInv n T S m c b)
    (hbn : b < n) (hb : ¬ S b) : FInv n T S m c (b + 1) :=
  { h with
    piv := fun s hs hsn hS => by
      rcases Nat.lt_or_eq_of_le (Nat.le_of_lt_succ hs) with h1 | h1
      · exact h.piv s h1 hsn hS
      · subst h1; exact absurd hS hb
    rest := fun k hk hnot => by
      have h1 := h.rest k hk (fun hh => hnot ⟨by omega, hh.2⟩)
      rcases Nat.lt_or_eq_of_le h1 with h2 | h2
      · omega
      · exfalso
        have := lz_bit (n := n) (w := m k) (by omega)
        rw [← h2] at this
        exact hb (h.subm k hk b this) }

theorem FInv.pivot_pos {n : Nat} {T : Mat} {S : Nat → Prop} {m c : Nat → Nat} {b : Nat} (h : FInv n T S m c b)
    (hb : b < n) {j : Nat} (hj : j < n) (hlz : lz n (m j) = b) : b ≤ j ∧ S j := by
  have hSj : S j := by
    apply Classical.byContradiction
    intro hS
    have := (h.zero j hj hS).1
    rw [this, lz_zero] at hlz
    omega
  refine ⟨?_, hSj⟩
  apply Nat.le_of_not_lt
  intro hlt
  have := h.piv j hlt hj hSj
  omega

theorem FInv.exists_pivot {n : Nat} {T : Mat} {S : Nat → Prop} {m c : Nat → Nat} {b : Nat} (h : FInv n T S m c b)
    (hb : b < n) {v : Fin n → ZMod 2} (hv : v ∈ spanOf n (row T)) (hlow : ∀ j : Fin n, j.1 < b → v j = 0)
    (hbit : v ⟨b, hb⟩ = 1) : ∃ k, k < n ∧ lz n (m k) = b := by
  rw [← h.span] at hv
  obtain ⟨k, _, hk⟩ := exists_lz_eq_of_mem_span hb (fun k : Fin n => m k) (fun k => k.1 < b ∧ S k.1)
    (fun k hk => by rw [h.piv k.1 hk.1 k.2 hk.2]; exact hk.1)
    (fun k k' hk hk' he => by
      rw [h.piv k.1 hk.1 k.2 hk.2, h.piv k'.1 hk'.1 k'.2 hk'.2] at he
      exact Fin.ext he)
    (fun k hk => h.rest k.1 k.2 hk) v hv hlow hbit
  exact ⟨k.1, k.2, hk⟩

theorem FInv.step {n : Nat} {T : Mat} {S : Nat → Prop} {m c : Nat → Nat} {b : Nat} (h : FInv n T S m c b)
    (hb : b < n) (hSb : S b) {j : Nat} (hj : j < n) (hlz : lz n (m j) = b)
    (m1 c1 m' c' : Nat → Nat)
    (hm1 : ∀ k, m1 k = if k = j then m b else if k = b then m j else m k)
    (hc1 : ∀ k, c1 k = if k = j then c b else if k = b then c j else c k)
    (hm' : ∀ k, k < n → m' k = if b < k ∧ lz n (m1 k) = b then m1 k ^^^ m1 b else m1 k)
    (hc' : ∀ k, k < n → c' k = if b < k ∧ lz n (m1 k) = b then c1 k ^^^ c1 b else c1 k) :
    (∀ k, b < k → k < n → b ≤ lz n (m1 k)) ∧ FInv n T S m' c' (b + 1) := by
  obtain ⟨hbj, hSj⟩ := h.pivot_pos hb hj hlz
  obtain ⟨hm1b, hltm', hlow, hm'b, hrest', hspan⟩ := elim_rows hb hj hbj h.ltm hlz
    (fun k hbk hk => h.rest k hk (fun hh => Nat.not_lt.mpr hbk hh.1)) hm1 hm'
  have hc1b : c1 b = c j := by
    rw [hc1]; by_cases e : b = j
    · subst e; simp
    · simp [e]
  have h1OK : ∀ k, k < n → RowOK n T S (m1 k) (c1 k) := fun k hk => by
    rw [hm1, hc1]
    split
    · exact h.rowOK hb
    · split
      · exact h.rowOK hj
      · exact h.rowOK hk
  have h'OK : ∀ k, k < n → RowOK n T S (m' k) (c' k) := fun k hk => by
    rw [hm' k hk, hc' k hk, hm1b, hc1b]
    split
    · exact (h1OK k hk).xor (h.rowOK hj)
    · exact h1OK k hk
  have h1zero : ∀ k, k < n → ¬ S k → m1 k = 0 ∧ c1 k = 0 := by
    intro k hk hS
    have e1 : k ≠ j := fun e => hS (e ▸ hSj)
    have e2 : k ≠ b := fun e => hS (e ▸ hSb)
    rw [hm1, hc1, if_neg e1, if_neg e2, if_neg e1, if_neg e2]
    exact h.zero k hk hS
  refine ⟨fun k hbk hk => (hrest' k hbk hk).1, ?_⟩
  exact {
    ltm := hltm'
    ltc := fun k hk => (h'OK k hk).ltd
    coef := fun k hk => (h'OK k hk).coef
    zero := by
      intro k hk hS
      have hz := h1zero k hk hS
      have hcnd : ¬ (b < k ∧ lz n (m1 k) = b) := fun hh => by
        rw [hz.1, lz_zero] at hh; exact Nat.ne_of_gt hb hh.2
      rw [hm' k hk, hc' k hk, if_neg hcnd, if_neg hcnd]
      exact hz
    subm := fun k hk => (h'OK k hk).suba
    subc := fun k hk => (h'OK k hk).subd
    piv := by
      intro s hs hsn hS
      rcases Nat.lt_or_eq_of_le (Nat.le_of_lt_succ hs) with h1 | h1
      · rw [hlow s h1]; exact h.piv s h1 hsn hS
      · rw [h1, hm'b]; exact hlz
    rest := by
      intro k hk hnot
      rcases Nat.lt_trichotomy k b with hkb | hkb | hkb
      · -- a row outside `S` below `b`: zero
        have hS : ¬ S k := fun hS => hnot ⟨Nat.lt_succ_of_lt hkb, hS⟩
        rw [hlow k hkb, (h.zero k hk hS).1, lz_zero]; exact hb
      · exact absurd ⟨hkb ▸ Nat.lt_succ_self k, hkb ▸ hSb⟩ hnot
      · exact (hrest' k hkb hk).2
    span := hspan.trans h.span }

theorem elimCol_inv {n : Nat} {T : Mat} {S : Nat → Prop} {rows : Rows} {b j : Nat} (dbg : Bool)
    (hlen : rows.length = n) (h : FInv n T S (fstF rows) (sndF rows) b) (hb : b < n) (hSb : S b)
    (hj : j < n) (hlz : lz n (fstF rows j) = b) :
    ∃ rows', elimCol n dbg b j rows = some rows' ∧ rows'.length = n ∧
      FInv n T S (fstF rows') (sndF rows') (b + 1) := by
  obtain ⟨hl2, h1, h2, h3, h4⟩ := swap_elim_rows (n := n) (i := b) (· ^^^ ·) (show b < rows.length by omega)
    (show j < rows.length by omega)
  rw [hlen] at h3 h4
  obtain ⟨hrest, hF⟩ := h.step hb hSb hj hlz _ _ _ _ h1 h2 h3 h4
  have hany : (List.range n).any (fun k => decide (b < k) && decide (lz n ((swapAt rows b j).getD k (0, 0)).1 < b)) = false := by
    rw [Bool.eq_false_iff]
    intro hh
    rw [List.any_eq_true] at hh
    obtain ⟨k, hk, hkk⟩ := hh
    rw [List.mem_range] at hk
    simp only [Bool.and_eq_true, decide_eq_true_eq] at hkk
    exact Nat.lt_irrefl _ (Nat.lt_of_lt_of_le hkk.2 (hrest k hkk.1 hk))
  refine ⟨_, ?_, hl2.trans hlen, hF⟩
  unfold elimCol
  simp only [hany, Bool.and_false, Bool.false_eq_true, if_false]

end Ymq.Gf2Small
