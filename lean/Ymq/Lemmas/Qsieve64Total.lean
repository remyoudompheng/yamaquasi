/-
C03/qs64, no panic, the rest: candidates, the pending-cofactor map, the block loop and the set-up
reach no panic site; `qsRels_total`.
-/
import Ymq.Lemmas.Qsieve64Sieve
import Ymq.Lemmas.RelationsNoPanic
import Ymq.Lemmas.RelationsNoOverflow

namespace Ymq.Qsieve64
open Ymq.Relations

/-- every successful division at least halves `v`: at most 64 of them for `v < 2^64`, then the one
that fails; hence the fuel 65 of `trialLoop` -/
theorem divLoop_total {d : Dividers.Div} (hd : Dividers.Ok d) : ∀ (f v e : Nat), 0 < v → v < 2 ^ f →
    v < 2 ^ 64 → ∃ r, divLoop d (f + 1) v e = .ok r := by
  intro f
  induction f with
  | zero => intro v e h0 h1 _; omega
  | succ f ih =>
    intro v e h0 h1 h64
    unfold divLoop
    rw [Dividers.divmod64_ok d hd v h64]
    simp only [liftO, bind, Except.bind, pure, Except.pure]
    have hp2 : 2 ≤ d.p := by
      rcases hd with rfl | g
      · decide
      · have := g.p3; omega
    by_cases hr : v % d.p = 0
    · rw [if_pos hr]
      have hdv : d.p ∣ v := Nat.dvd_of_mod_eq_zero hr
      have hpos : 0 < v / d.p := Nat.div_pos (Nat.le_of_dvd h0 hdv) (by omega)
      have hlt : v / d.p < 2 ^ f := by
        rw [Nat.div_lt_iff_lt_mul (by omega)]
        have : 2 ^ (f + 1) = 2 ^ f * 2 := pow_succ 2 f
        have : 2 ^ f * 2 ≤ 2 ^ f * d.p := Nat.mul_le_mul_left _ hp2
        omega
      exact ih _ _ hpos hlt (lt_of_le_of_lt (Nat.div_le_self _ _) h64)
    · rw [if_neg hr]; exact ⟨_, rfl⟩

theorem trialLoop_total : ∀ (fb : List FbEntry), (∀ e ∈ fb, EntryOK e) →
    ∀ (v : Nat) (fs : List (Int × Nat)), 0 < v → v < 2 ^ 64 →
    ∃ cof fs', trialLoop fb v fs = .ok (cof, fs') ∧ 0 < cof ∧ total fs' ≤ total fs + 65 * fb.length := by
  intro fb
  induction fb with
  | nil => intro _ v fs h0 _; exact ⟨v, fs, rfl, h0, by simp⟩
  | cons e t ih =>
    intro hfb v fs h0 h64
    have hE := hfb e List.mem_cons_self
    obtain ⟨⟨v1, e1⟩, hr⟩ := divLoop_total hE.1 64 v 0 h0 h64 h64
    obtain ⟨h1, _, h3, hexp⟩ := divLoop_spec hE.1 65 v 0 v1 e1 h64 hr
    have hv1 : 0 < v1 := by
      rcases Nat.eq_zero_or_pos v1 with h | h
      · subst h; simp at h1; omega
      · exact h
    obtain ⟨cof, fs', g1, g2, g3⟩ := ih (fun e' he' => hfb e' (List.mem_cons_of_mem _ he')) v1
      (if e1 > 0 then fs ++ [((e.p : Int), e1)] else fs) hv1 (lt_of_le_of_lt h3 h64)
    refine ⟨cof, fs', ?_, g2, ?_⟩
    · unfold trialLoop
      simp only [hr, bind, Except.bind]
      exact g1
    · have : total (if e1 > 0 then fs ++ [((e.p : Int), e1)] else fs) ≤ total fs + 65 := by
        split
        · rw [total_append]; simp [total]; omega
        · omega
      simp only [List.length_cons]
      omega

theorem combine_total {n : Nat} {r1 r2 : Relation} (hn : n ≠ 0) (hc : r1.cofactor = r2.cofactor)
    (hc0 : r1.cofactor ≠ 0) (hl1 : r1.cyclelen = 1) (hl2 : r2.cyclelen = 1)
    (hs : total r1.factors + total r2.factors < W64) : ∃ r, combine n r1 r2 = .ok r := by
  cases h : combine n r1 r2 with
  | ok r => exact ⟨r, rfl⟩
  | error e =>
    have hnp := combine_np (Nat.pos_of_ne_zero hn) (hc ▸ hc0) (by rw [hc]; exact Nat.mod_self _) e h
    exact absurd (hnp ▸ h) (combine_ne_overflow hs (by rw [hl1, hl2]; decide))

/-- what `setup` establishes when `n·k < 2^64` is not a perfect square, for the no-panic proofs
(`hi`: `nsqrt` is the floor root; `bs`: `block_size ≤ 16384`) -/
structure CtxNP (c : Ctx) : Prop where
  ok : CtxOK c
  n0 : c.n ≠ 0
  ns32 : c.nsqrt < 2 ^ 32
  hi : c.nk < (c.nsqrt + 1) * (c.nsqrt + 1)
  nsq : ∀ s : Nat, c.nk ≠ s * s
  bs : c.bsize ≤ 16384

theorem V_ne_zero {c : Ctx} (h : CtxNP c) (offset : Int) (i : Nat) : V c offset i ≠ 0 := by
  intro hv
  unfold V at hv
  have h1 : ((c.nsqrt : Int) + ((i : Int) + offset)) * ((c.nsqrt : Int) + ((i : Int) + offset)) =
      (c.nk : Int) := by omega
  rw [← Int.natAbs_mul_self'] at h1
  exact h.nsq _ (by exact_mod_cast h1.symm)

theorem CtxNP.c_le {c : Ctx} (h : CtxNP c) : c.c ≤ 2 * c.nsqrt := by
  have h1 := h.hi
  have h2 := h.ok.c_eq
  have : (c.nsqrt + 1) * (c.nsqrt + 1) = c.nsqrt * c.nsqrt + 2 * c.nsqrt + 1 := by ring
  omega

theorem abs_mul_le {a b A B : Int} (ha : |a| ≤ A) (hb : |b| ≤ B) : |a * b| ≤ A * B := by
  rw [abs_mul]
  exact mul_le_mul ha hb (abs_nonneg b) (le_trans (abs_nonneg a) ha)

/-- `|x² + 2sx − (m − s²)| ≤ 2^42 + 2^54 + 2^33` -/
theorem poly_bound {s m x : Int} (hs : |s| ≤ 2 ^ 32) (hx : |x| ≤ 2 ^ 21) (hlo : s * s ≤ m)
    (hhi : m ≤ s * s + 2 * s) : |(s + x) * (s + x) - m| ≤ 2 ^ 56 := by
  have hxx := abs_le.mp (abs_mul_le hx hx)
  have hsx := abs_le.mp (abs_mul_le hs hx)
  have hs' := abs_le.mp hs
  have : (s + x) * (s + x) - m = x * x + 2 * (s * x) - (m - s * s) := by ring
  rw [this, abs_le]
  constructor <;> omega

theorem V_bounds {c : Ctx} (h : CtxNP c) {offset : Int} {i : Nat} (hs : Small c offset)
    (hi : i < 2 ^ 15) : |V c offset i| ≤ 2 ^ 56 := by
  have ho1 := hs.off_lo
  have ho2 := hs.off_hi
  have hns : (c.nsqrt : Int) < 2 ^ 32 := by exact_mod_cast h.ns32
  have hc1 : (c.c : Int) + (c.nsqrt : Int) * (c.nsqrt : Int) = (c.nk : Int) := by
    exact_mod_cast h.ok.c_eq
  have hc2 : (c.c : Int) ≤ 2 * (c.nsqrt : Int) := by exact_mod_cast h.c_le
  have hi' : (i : Int) < 2 ^ 15 := by exact_mod_cast hi
  exact poly_bound (abs_le.mpr ⟨by omega, by omega⟩) (abs_le.mpr ⟨by omega, by omega⟩) (by omega)
    (by omega)

/-- bound on the SUM of the exponents of a relation built by `candidate`: 1 for the sign, at most 65
(the fuel of `divLoop`) for each of at most 46 primes -/
def expBound : Nat := 1 + 65 * 46

theorem candidate_total {c : Ctx} (h : CtxNP c) {offset : Int} {i : Nat}
    (hs : Small c offset) (hi : i < 2 ^ 15) :
    ∃ r, candidate c offset i = .ok r ∧
      ∀ rel, r = some rel → rel.cofactor ≠ 0 ∧ rel.cyclelen = 1 ∧ total rel.factors ≤ expBound := by
  have hI := I63_eq
  have hW : (W64 : Int) = 2 ^ 64 := by decide
  have ho1 := hs.off_lo
  have ho2 := hs.off_hi
  have hns : (c.nsqrt : Int) < 2 ^ 32 := by exact_mod_cast h.ns32
  have hb : (c.b : Int) = 2 * (c.nsqrt : Int) := by exact_mod_cast h.ok.b_eq
  have hc2 : (c.c : Int) ≤ 2 * (c.nsqrt : Int) := by exact_mod_cast h.c_le
  have hi' : (i : Int) < 2 ^ 15 := by exact_mod_cast hi
  have habs1 := V_bounds h hs hi
  obtain ⟨hV1, hV2⟩ := abs_le.mp habs1
  have habs0 : 0 < |V c offset i| := abs_pos.mpr (V_ne_zero h offset i)
  have hm := poly_eq_V h.ok offset i
  have hU0 : 0 < toU64 |V c offset i| := by
    have := toU64_nonneg (le_of_lt habs0) (by omega)
    omega
  obtain ⟨cof, fs', g1, g2, g3⟩ := trialLoop_total c.fb (fun e he => (h.ok.fb.fact e he).ok)
    (toU64 |V c offset i|) (if V c offset i < 0 then [(-1, 1)] else []) hU0
    (toU64_lt (le_of_lt habs0) (by omega))
  unfold candidate
  rw [toI64_small h.ok.ns63, toI64_small h.ok.b63, toI64_small h.ok.c63,
    chkI64_bind (by omega) (by omega), chkI64_bind (by omega) (by omega),
    chkI64_bind (by omega) (by omega), chkI64_bind (by omega) (by omega), hm,
    chkI64_bind (by omega) (by omega),
    absI64_ok_iff.mpr ⟨rfl, fun _ => ⟨by omega, by omega⟩⟩]
  simp only [g1, bind, Except.bind]
  have hlen := h.ok.fb.len
  have hs0 : total (if V c offset i < 0 then [((-1 : Int), 1)] else []) ≤ 1 := by
    split <;> simp [total]
  split
  · exact ⟨none, rfl, fun rel hrel => by cases hrel⟩
  · refine ⟨_, rfl, fun rel hrel => ?_⟩
    cases hrel
    exact ⟨by show cof ≠ 0; omega, rfl, by show total fs' ≤ expBound; unfold expBound; omega⟩

/-- the pending-cofactor map as the no-panic proof needs it: `combine` meets equal non-zero
cofactors, cycle lengths 1 and exponent sums far below 2^64 -/
structure StNP (st : St) : Prop where
  larges : ∀ kr ∈ st.larges, kr.2.cofactor = kr.1 ∧ kr.1 ≠ 0 ∧ kr.2.cyclelen = 1 ∧
    total kr.2.factors ≤ expBound

theorem process_total {c : Ctx} (hn : c.n ≠ 0) {rel : Relation} {st : St} (hst : StNP st)
    (hc0 : rel.cofactor ≠ 0) (hl : rel.cyclelen = 1) (hs : total rel.factors ≤ expBound) :
    ∃ st', process c rel st = .ok st' ∧ StNP st' := by
  unfold process
  split
  · exact ⟨_, rfl, ⟨hst.larges⟩⟩
  · split
    · rename_i r0 hlook
      obtain ⟨g1, _, g3, g4⟩ := hst.larges _ (alookup_mem hlook)
      obtain ⟨rr, hrr⟩ := combine_total hn g1.symm hc0 hl g3 (by
        have : 2 * expBound < W64 := by decide
        omega)
      rw [hrr]
      exact ⟨_, rfl, ⟨hst.larges⟩⟩
    · exact ⟨_, rfl, ⟨List.forall_mem_cons.mpr ⟨⟨rfl, hc0, hl, hs⟩, hst.larges⟩⟩⟩

theorem scanLoop_total {c : Ctx} (h : CtxNP c) {offset : Int} (hs : Small c offset)
    (target : Nat) : ∀ (l : List Nat) (i : Nat) (st : St),
    i + l.length ≤ 2 ^ 15 → StNP st → ∃ st', scanLoop c offset target l i st = .ok st' ∧ StNP st' := by
  intro l
  induction l with
  | nil => intro i st _ hst; exact ⟨st, rfl, hst⟩
  | cons sz t ih =>
    intro i st hlen hst
    simp only [List.length_cons] at hlen
    unfold scanLoop
    split
    · obtain ⟨r, hr, hfacts⟩ := candidate_total h hs (i := i) (by omega)
      rw [hr]
      simp only [bind, Except.bind]
      cases r with
      | none => exact ih _ _ (by omega) hst
      | some rel =>
        obtain ⟨g1, g2, g3⟩ := hfacts rel rfl
        obtain ⟨st1, hp, hst1⟩ := process_total h.n0 hst g1 g2 g3
        simp only [hp]
        exact ih _ _ (by omega) hst1
    · exact ih _ _ (by omega) hst

theorem targetOf_total (n : Nat) : ∃ t, targetOf n = .ok t := by
  unfold targetOf
  rw [show bitlen maxlarge = 13 by decide]
  rw [if_neg (by omega), if_neg (by omega)]
  exact ⟨_, rfl⟩

theorem blockOffset_small {c : Ctx} (h : CtxNP c) {blk : Nat} (hblk : blk < 64) :
    Small c (blockOffset c blk) := by
  have h1 : (c.bsize : Int) ≤ 16384 := by exact_mod_cast h.bs
  have h2 : (blk : Int) < 64 := by exact_mod_cast hblk
  have hb : |if blk % 2 = 0 then -((blk : Int) + 1) else (blk : Int)| ≤ 64 := by
    rw [abs_le]; split <;> constructor <;> omega
  have := abs_le.mp (abs_mul_le hb (abs_le.mpr ⟨by omega, h1⟩))
  unfold blockOffset
  exact ⟨by omega, by omega, h.ns32⟩

theorem runBlock_total {c : Ctx} (h : CtxNP c) {blk : Nat} (hblk : blk < 64) {st : St}
    (hst : StNP st) : ∃ st', runBlock c blk st = .ok st' ∧ StNP st' := by
  have hsmall := blockOffset_small h hblk
  have hsz : (Array.replicate (2 * c.bsize) (0 : Nat)).size = 2 * c.bsize := by simp
  have hbs := h.bs
  obtain ⟨iv, g1, g2⟩ := sieveAll_ok hsmall c.fb [] (Array.replicate (2 * c.bsize) 0)
    h.ok.fb.fact (by
      intro i hi
      rw [hsz] at hi
      rw [List.nil_append]
      obtain ⟨hV1, hV2⟩ := abs_le.mp (V_bounds h hsmall (i := i) (by omega))
      refine wt_le _ _ h.ok.fb.nodup (fun p hp => ?_) (V_ne_zero h _ _) (by omega)
      rw [List.mem_map] at hp
      obtain ⟨e, he, rfl⟩ := hp
      exact (h.ok.fb.fact e he).prime) (by
      intro i hi
      rw [hsz] at hi
      simp [Array.getD_eq_getD_getElem?, hi])
  obtain ⟨t, ht⟩ := targetOf_total c.n
  unfold runBlock
  simp only [g1, ht, bind, Except.bind]
  refine scanLoop_total h hsmall t _ 0 st ?_ hst
  rw [Array.length_toList, g2, hsz]
  omega

theorem blockLoop_total {c : Ctx} (h : CtxNP c) : ∀ (l : List Nat) (st : St),
    (∀ blk ∈ l, blk < 64) → StNP st → ∃ st', blockLoop c l st = .ok st' := by
  intro l
  induction l with
  | nil => intro st _ _; exact ⟨st, rfl⟩
  | cons blk t ih =>
    intro st hl hst
    obtain ⟨st1, g1, g2⟩ := runBlock_total h (hl blk List.mem_cons_self) hst
    unfold blockLoop
    simp only [g1, bind, Except.bind]
    split
    · exact ⟨_, rfl⟩
    · exact ih st1 (fun b hb => hl b (List.mem_cons_of_mem _ hb)) g2

theorem setup_total {n k : Nat} (h64 : n * k < 2 ^ 64) (hsq : ∀ s : Nat, n * k ≠ s * s) :
    ∃ s, setup n k = .ok s := by
  have hk : k ≠ 0 := by
    intro hk; subst hk; exact hsq 0 (by simp)
  have hn : n ≤ n * k := Nat.le_mul_of_pos_right n (Nat.pos_of_ne_zero hk)
  have h0 := (Arith.isqrt_spec' n).1
  have h1 := (Arith.isqrt_spec' (n * k)).1
  rw [← W64_eq] at h64
  have h32 := isqrt_lt32 h64
  have hW : (W64 : Nat) = 2 ^ 64 := W64_eq
  obtain ⟨fb, hfb, _⟩ := new64_spec (n * k)
  by_cases h2 : n = Arith.isqrt n * Arith.isqrt n
  · exact ⟨_, (setup_ok_iff rfl rfl).mpr ⟨by omega, Or.inl ⟨h2, rfl⟩⟩⟩
  · exact ⟨_, (setup_ok_iff rfl rfl).mpr ⟨by omega, Or.inr ⟨h2, by omega, fb, hfb, by omega,
      fun h => hsq _ h.1, fun h => hsq _ h.1, Or.inr ⟨fun h => hsq _ h.1, by omega, by omega, rfl⟩⟩⟩⟩

theorem runCtx_np {n k : Nat} {fb : List FbEntry} (h64 : n * k < W64)
    (hfb : new64 (n * k) = .ok fb) (hsq : ∀ s : Nat, n * k ≠ s * s) : CtxNP (runCtx n k fb) := by
  refine ⟨runCtx_ok h64 hfb, ?_, isqrt_lt32 h64, (Arith.isqrt_spec' (n * k)).2, hsq, ?_⟩
  · intro hn
    exact hsq 0 (by rw [show n = 0 from hn]; simp)
  · show (if bitlen n ≤ 50 then 4096 else 16384) ≤ 16384
    split <;> omega

theorem qsRels_total {n k : Nat} (h64 : n * k < 2 ^ 64) (hsq : ∀ s : Nat, n * k ≠ s * s) :
    ∃ o, qsRels n k = .ok o := by
  obtain ⟨s, hs⟩ := setup_total h64 hsq
  unfold qsRels
  simp only [hs, bind, Except.bind]
  cases s with
  | early a b => exact ⟨_, rfl⟩
  | run c =>
    obtain ⟨hW, fb, hfb, rfl⟩ := setup_run hs
    obtain ⟨st, hst⟩ := blockLoop_total (runCtx_np hW hfb hsq) (List.range 64) { rels := [], larges := [] }
      (fun b hb => List.mem_range.mp hb) ⟨fun kr hkr => by cases hkr⟩
    simp only [hst]
    exact ⟨_, rfl⟩

end Ymq.Qsieve64
