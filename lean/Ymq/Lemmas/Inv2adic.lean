/-
The word `W = 2^64`, trailing zeros, and the 2-adic inverse loop `mg_2adic_inv` of the 64-bit Montgomery model: the base of
Lemmas/Mg64, M128 (whose 128-bit loop shares `lift_rem` / `lift_step`) and ZmodNNew; the Miller files use the facts on odd parts.
-/
import Ymq.Model.Mg64
import Ymq.Lemmas.Bits
import Mathlib.Tactic.Ring
import Mathlib.Tactic.Linarith
import Mathlib.Data.Nat.ModEq

namespace Ymq.Mg64

theorem W_eq : W = 2 ^ 64 := by decide
theorem W_pos : 0 < W := by decide

theorem tzAux_spec (f n : Nat) (h0 : 0 < n) (hn : n < 2 ^ f) :
    tzAux f n < f ∧ n % 2 ^ (tzAux f n) = 0 ∧ n / 2 ^ (tzAux f n) % 2 = 1 := by
  obtain ⟨hd, hr⟩ := Bits.tz_spec tzAux (fun _ => rfl) (fun _ _ => rfl) f n
  exact ⟨(hr h0 hn).1, Nat.mod_eq_zero_of_dvd hd, (hr h0 hn).2⟩

theorem tz64_spec (n : Nat) (h0 : 0 < n) (h1 : n < W) :
    tz64 n < 64 ∧ n % 2 ^ (tz64 n) = 0 ∧ n / 2 ^ (tz64 n) % 2 = 1 := by
  unfold tz64
  have : n ≠ 0 := by omega
  simp only [this, if_false]
  exact tzAux_spec 64 n h0 (by rw [← W_eq]; exact h1)

theorem low_odd {p : Nat} (h : p % 2 = 1) : p % W % 2 = 1 := by
  rw [Nat.mod_mod_of_dvd p (by decide : 2 ∣ W)]; exact h

theorem le_of_pow_dvd_of_odd_quot (n k t : Nat) (hk : n % 2 ^ k = 0) (ht : n % 2 ^ t = 0)
    (hq : n / 2 ^ t % 2 = 1) : k ≤ t := by
  by_contra h
  have h1 : 2 ^ (t + 1) ∣ n :=
    dvd_trans (pow_dvd_pow 2 (by omega)) (Nat.dvd_of_mod_eq_zero hk)
  have h2 : n = 2 ^ t * (n / 2 ^ t) := by
    have := Nat.div_add_mod n (2 ^ t); omega
  rw [h2, pow_succ] at h1
  have h3 : 2 ∣ n / 2 ^ t := (Nat.mul_dvd_mul_iff_left (by positivity)).1 h1
  omega

theorem shift_split (p s : Nat) (hp : 0 < p) (hs : 1 ≤ s) (hdvd : (p - 1) % 2 ^ s = 0) :
    p - 1 = p / 2 ^ s * 2 ^ s := by
  have e1 := Nat.div_add_mod (p - 1) (2 ^ s)
  rw [hdvd] at e1
  have h2s : 1 < 2 ^ s := Nat.one_lt_two_pow (by omega)
  have e2 : p / 2 ^ s = (p - 1) / 2 ^ s := by
    have : p = 2 ^ s * ((p - 1) / 2 ^ s) + 1 := by omega
    conv_lhs => rw [this]
    rw [Nat.mul_add_div (by omega), Nat.div_eq_of_lt h2s, Nat.add_zero]
  rw [e2, Nat.mul_comm]; omega

/-- The loop invariant `n·x ≡ 1 (mod 2^k)` seen through the wrapped product `n·x mod R`, `R = 2^B`. -/
theorem lift_rem {n x R B k : Nat} (hR : R = 2 ^ B) (hk1 : 1 ≤ k) (hkB : k ≤ B)
    (hinv : n * x % 2 ^ k = 1) : n * x % R ≠ 0 ∧ (n * x % R - 1) % 2 ^ k = 0 := by
  have hnx : n * x % R % 2 ^ k = 1 := by
    rw [hR, Nat.mod_mod_of_dvd _ (pow_dvd_pow 2 hkB)]; exact hinv
  have hk2 : 2 ^ 1 ≤ 2 ^ k := Nat.pow_le_pow_right (by decide) hk1
  have hpos : n * x % R ≠ 0 := by
    intro h; rw [h, Nat.zero_mod] at hnx; omega
  refine ⟨hpos, ?_⟩
  have := Nat.div_add_mod (n * x % R) (2 ^ k)
  rw [hnx] at this
  rw [show n * x % R - 1 = 2 ^ k * (n * x % R / 2 ^ k) by omega, Nat.mul_mod_right]

/-- One lifting step of the 2-adic inverse: if `n` is odd and `n·x mod 2^B = 1 + 2^t·(odd)` with
`t < B`, adding `2^t` to `x` clears bit `t`: `n·(x + 2^t) ≡ 1 (mod 2^(t+1))`. -/
theorem lift_step {n x R B t : Nat} (hR : R = 2 ^ B) (hn : n % 2 = 1) (htB : t < B)
    (hpos : n * x % R ≠ 0) (hdvd : (n * x % R - 1) % 2 ^ t = 0)
    (hodd : (n * x % R - 1) / 2 ^ t % 2 = 1) : n * (x + 2 ^ t) % 2 ^ (t + 1) = 1 := by
  have hu : R = 2 ^ (t + 1) * 2 ^ (B - 1 - t) := by
    rw [hR, ← pow_add]; congr 1; omega
  have e1 := Nat.div_add_mod (n * x) R
  have e2 := Nat.div_add_mod (n * x % R - 1) (2 ^ t)
  rw [hdvd] at e2
  have e3 := Nat.div_add_mod ((n * x % R - 1) / 2 ^ t) 2
  rw [hodd] at e3
  have e4 := Nat.div_add_mod n 2
  rw [hn] at e4
  generalize (n * x % R - 1) / 2 ^ t / 2 = q at e3
  generalize n / 2 = m at e4
  generalize n * x / R = a at e1
  have e5 : n * x % R = 2 ^ t * (2 * q + 1) + 1 := by
    have := Nat.pos_of_ne_zero hpos
    rw [← e3] at e2; omega
  have key : n * (x + 2 ^ t) = 2 ^ (t + 1) * (2 ^ (B - 1 - t) * a + q + m + 1) + 1 := by
    rw [Nat.mul_add, ← e1, e5, hu, ← e4, pow_succ]; ring
  have : 2 ^ 1 ≤ 2 ^ (t + 1) := Nat.pow_le_pow_right (by decide) (by omega)
  rw [key, Nat.mul_add_mod]
  exact Nat.mod_eq_of_lt (by omega)

/-- Invariant of the loop of `mg_2adic_inv`: `x < 2^k`, `n x ≡ 1 (mod 2^k)`, `k` increases at
every turn, hence at most `65 - k` turns are left. -/
theorem inv2adicLoop_spec (n : Nat) (hn : n % 2 = 1) :
    ∀ f k x, 1 ≤ k → k ≤ 64 → x < 2 ^ k → n * x % 2 ^ k = 1 → 65 ≤ f + k →
    ∃ x', inv2adicLoop f n x = some x' ∧ x' < W ∧ n * x' % W = 1 := by
  intro f
  induction f with
  | zero => intro k x _ _ _ _ h; omega
  | succ f ih =>
    intro k x hk1 hk64 hx hinv hf
    have hW0 := W_pos
    obtain ⟨hnx0, hremk⟩ := lift_rem W_eq hk1 hk64 hinv
    have hxW : x < W := lt_of_lt_of_le hx (W_eq ▸ Nat.pow_le_pow_right (by decide) hk64)
    unfold inv2adicLoop
    simp only [hnx0, if_false]
    by_cases hrem : n * x % W - 1 = 0
    · simp only [hrem, if_true]
      exact ⟨x, rfl, hxW, by omega⟩
    · simp only [hrem, if_false]
      have hremW : n * x % W - 1 < W := by have := Nat.mod_lt (n * x) hW0; omega
      obtain ⟨ht64, htdvd, htodd⟩ := tz64_spec _ (Nat.pos_of_ne_zero hrem) hremW
      generalize tz64 (n * x % W - 1) = t at *
      have hkt : k ≤ t := le_of_pow_dvd_of_odd_quot _ k t hremk htdvd htodd
      have hpk : 2 ^ k ≤ 2 ^ t := Nat.pow_le_pow_right (by decide) hkt
      have hpt : 2 ^ (t + 1) ≤ W := W_eq ▸ Nat.pow_le_pow_right (by decide) (by omega)
      have hx' : x + 2 ^ t < 2 ^ (t + 1) := by rw [pow_succ]; omega
      rw [if_neg (by omega)]
      exact ih (t + 1) (x + 2 ^ t) (by omega) (by omega) hx'
        (lift_step W_eq hn ht64 hnx0 htdvd htodd) (by omega)

/-- negating an inverse modulo `R`: `n·x ≡ 1` gives `n·(R - x) ≡ -1` (the `1 + !x` of the code) -/
theorem neg_inv {R n x : Nat} (hx : x ≤ R) (h : n * x % R = 1 % R) : (n * (R - x) + 1) % R = 0 := by
  have e : n * (R - x) + 1 + n * x = n * R + 1 := by
    have := Nat.mul_le_mul_left n hx
    rw [Nat.mul_sub]; omega
  have h1 : n * (R - x) + 1 + n * x ≡ 0 + 1 [MOD R] := by
    rw [e, Nat.zero_add]; exact Nat.mul_add_mod_self_right n R 1
  exact Nat.ModEq.add_right_cancel h h1

theorem mg2adicInv_odd (n : Nat) (hn : n % 2 = 1) :
    ∃ v, mg2adicInv n = some v ∧ v < W ∧ (n * v + 1) % W = 0 := by
  obtain ⟨x, hx, hxW, hinv⟩ := inv2adicLoop_spec n hn 65 1 1 (by omega) (by omega) (by decide)
    (by simpa using hn) (by omega)
  have hx0 : x ≠ 0 := by
    intro h; rw [h] at hinv; simp at hinv
  unfold mg2adicInv
  rw [hx]
  simp only [hx0, if_false]
  exact ⟨W - x, rfl, by omega, neg_inv hxW.le hinv⟩

end Ymq.Mg64
