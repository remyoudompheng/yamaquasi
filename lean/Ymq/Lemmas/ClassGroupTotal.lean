/-
Totality of the model of `CRelationSet` (Ymq/Model/ClassGroup.lean): the recursion of
`update_tree` terminates within the fuel the wrappers provide, `paths.get(&p).unwrap()` never
fails, so a history of `add` calls can only stop at the two documented panic sites:
`assert!(p != q)` and the `q + 1` of the range query for `q = u32::MAX`.
-/
import Ymq.Lemmas.ClassGroupStore

namespace Ymq.ClassGroup

/-- all vertices (large primes, and the root 1) mentioned by the stored edges and the reverse index -/
def verts (s : CSet) : List Nat :=
  s.doubles.flatMap (fun e => [e.1.1, e.1.2]) ++ s.doublesRev.flatMap (fun e => [e.1, e.2])

/-- number of mentioned vertices that are not yet in the tree (with multiplicity) -/
def mu (s : CSet) : Nat := ((verts s).filter (fun v => !hasKey s.paths v)).length

theorem mem_verts {s : CSet} {v : Nat} : v ∈ verts s ↔
    (∃ e ∈ s.doubles, v = e.1.1 ∨ v = e.1.2) ∨ (∃ e ∈ s.doublesRev, v = e.1 ∨ v = e.2) := by
  unfold verts
  simp only [List.mem_append, List.mem_flatMap, List.mem_cons, List.not_mem_nil, or_false]

theorem flatMap_length_two {α β} (f : α → List β) (hf : ∀ a, (f a).length = 2) :
    ∀ l : List α, (l.flatMap f).length = 2 * l.length
  | [] => rfl
  | x :: t => by
    rw [List.flatMap_cons, List.length_append, hf, flatMap_length_two f hf t, List.length_cons]; omega

theorem mu_le (s : CSet) : mu s ≤ 2 * s.doubles.length + 2 * s.doublesRev.length := by
  refine Nat.le_trans (List.length_filter_le _ _) (Nat.le_of_eq ?_)
  unfold verts
  rw [List.length_append, flatMap_length_two _ (fun _ => rfl), flatMap_length_two _ (fun _ => rfl)]

theorem filter_length_mono {α} (p q : α → Bool) (hpq : ∀ a, p a = true → q a = true) (l : List α) :
    (l.filter p).length ≤ (l.filter q).length := by
  rw [← List.countP_eq_length_filter, ← List.countP_eq_length_filter]
  exact List.countP_mono_left fun a _ => hpq a

theorem filter_length_lt {α} (p q : α → Bool) (hpq : ∀ a, p a = true → q a = true) (a : α)
    (l : List α) (ha : a ∈ l) (hq : q a = true) (hp : p a = false) :
    (l.filter p).length < (l.filter q).length := by
  obtain ⟨l1, l2, rfl⟩ := List.append_of_mem ha
  have h1 := filter_length_mono p q hpq l1
  have h2 := filter_length_mono p q hpq l2
  simp only [List.filter_append, List.length_append, List.filter_cons_of_neg (Bool.not_eq_true _ ▸ hp),
    List.filter_cons_of_pos hq, List.length_cons]
  omega

namespace Ext

theorem verts {s s' : CSet} (h : Ext s s') : verts s' = verts s := by
  unfold ClassGroup.verts; rw [h.doubles, h.doublesRev]

theorem mu_le {s s' : CSet} (h : Ext s s') : mu s' ≤ mu s := by
  unfold mu
  rw [h.verts]
  apply filter_length_mono
  intro v hv
  simp only [Bool.not_eq_true'] at hv ⊢
  by_contra hc
  have := h.keys v (by simpa using hc)
  rw [this] at hv
  exact absurd hv (by simp)

end Ext

/-- `update_tree` succeeds: the parent is in the tree, all vertices are below `u32::MAX`, and the
fuel exceeds the number of mentioned vertices outside the tree -/
theorem updateTree_some : ∀ (fuel : Nat) (s : CSet) (p q : Nat),
    hasKey s.paths p = true → (∀ v ∈ verts s, v + 1 < 2 ^ 32) → q + 1 < 2 ^ 32 → mu s < fuel →
    ∃ s', updateTree fuel s p q = some s'
  | 0, _, _, _, _, _, _, hm => by omega
  | fuel + 1, s, p, q, hp, hv, hq, hm => by
    rw [updateTree]
    split
    · exact ⟨s, rfl⟩
    · rename_i hnq
      obtain ⟨vp, hvp⟩ := Option.isSome_iff_exists.1 hp
      simp only [hvp]
      rw [if_neg (by omega)]
      -- neighbours are mentioned vertices
      have hnb : ∀ q2 ∈ (s.doubles.filter (fun e => e.1.1 = q)).map (fun e => e.1.2) ++
          (s.doublesRev.filter (fun e => e.1 = q)).map (fun e => e.2), q ∈ verts s ∧ q2 ∈ verts s := by
        intro q2 hq2
        simp only [mem_verts]
        rcases List.mem_append.1 hq2 with h | h
        · obtain ⟨e, he, rfl⟩ := List.mem_map.1 h
          obtain ⟨he1, he2⟩ := List.mem_filter.1 he
          exact ⟨Or.inl ⟨e, he1, Or.inl (of_decide_eq_true he2).symm⟩, Or.inl ⟨e, he1, Or.inr rfl⟩⟩
        · obtain ⟨e, he, rfl⟩ := List.mem_map.1 h
          obtain ⟨he1, he2⟩ := List.mem_filter.1 he
          exact ⟨Or.inr ⟨e, he1, Or.inl (of_decide_eq_true he2).symm⟩, Or.inr ⟨e, he1, Or.inr rfl⟩⟩
      generalize ((s.doubles.filter (fun e => e.1.1 = q)).map (fun e => e.1.2) ++
          (s.doublesRev.filter (fun e => e.1 = q)).map (fun e => e.2)) = nb at hnb
      -- the state after inserting `q`: one mentioned vertex less outside the tree
      obtain ⟨hext, hk⟩ := ext_insert s
        (if (vp ++ [q]).length > 2 then s.nCombined12 + 1 else s.nCombined12) q (vp ++ [q])
      generalize ({ s with
          nCombined12 := if (vp ++ [q]).length > 2 then s.nCombined12 + 1 else s.nCombined12,
          paths := pathInsert q (vp ++ [q]) s.paths } : CSet) = s1 at hext hk ⊢
      have hq1 : hasKey s1.paths q = true := by rw [hk, beq_self_eq_true, Bool.true_or]
      have hdrop : q ∈ verts s → mu s1 < mu s := by
        intro hqv
        unfold mu
        rw [hext.verts]
        refine filter_length_lt _ _ ?_ q _ hqv (by unfold hasKey; rw [Bool.eq_false_iff.2 hnq]; rfl) (by rw [hq1]; rfl)
        intro v hv
        rw [hk, Bool.not_or, Bool.and_eq_true] at hv
        exact hv.2
      cases nb with
      | nil => exact ⟨s1, rfl⟩
      | cons q2 t =>
        have := hdrop (hnb q2 List.mem_cons_self).1
        -- every call of the fold keeps the tree vertices and does not raise `mu`
        obtain ⟨s', hs', _⟩ := Loops.foldlM_some (fun st q2 => updateTree fuel st q q2)
          (fun s0 => Ext s1 s0 ∧ mu s0 < fuel) (q2 :: t)
          (fun x hx s0 ⟨he, hmu⟩ => by
            obtain ⟨sx, hsx⟩ := updateTree_some fuel s0 q x (he.keys q hq1)
              (by rw [he.verts, hext.verts]; exact hv) (hv x (hnb x hx).2) hmu
            have hex := (updateTree_ext fuel s0 q x sx hsx).1
            exact ⟨sx, hsx, he.trans hex, Nat.lt_of_le_of_lt hex.mu_le hmu⟩)
          ⟨Ext.refl s1, by omega⟩
        exact ⟨s', hs'⟩

def VertsOk (s : CSet) : Prop := ∀ v ∈ verts s, v + 1 < 2 ^ 32

/-- the large primes of a relation are below `u32::MAX` and, when there are two, distinct -/
def RelOk (r : Rel) : Prop :=
  (∀ pe, r.large1 = some pe → pe.1 + 1 < 2 ^ 32) ∧ (∀ pe, r.large2 = some pe → pe.1 + 1 < 2 ^ 32) ∧
    (∀ pe qe, r.large1 = some pe → r.large2 = some qe → pe.1 ≠ qe.1)

theorem mem_setInsert {k e : Nat × Nat} {l : List (Nat × Nat)} (h : e ∈ setInsert k l) : e = k ∨ e ∈ l := by
  induction l with
  | nil => simpa [setInsert] using h
  | cons x t ih =>
    simp only [setInsert] at h
    split_ifs at h <;> simp only [List.mem_cons] at h ⊢
    · exact Or.inr h
    · exact h
    · exact h.elim (fun h => Or.inr (Or.inl h)) fun h => (ih h).imp_right Or.inr

theorem emit_vertsOk {s r n} (h : VertsOk s) : VertsOk (emit s r n) := h

theorem emitPath_vertsOk : ∀ (path : List Nat) (s : CSet), VertsOk s → VertsOk (emitPath s path)
  | [], s, h => by simpa [emitPath] using h
  | [_], s, h => by simpa [emitPath] using h
  | p :: q :: t, s, h => by
    rw [emitPath]
    apply emitPath_vertsOk (q :: t)
    split
    · apply emit_vertsOk
      intro v hv
      apply h v
      rw [mem_verts] at hv ⊢
      rcases hv with ⟨e, he, hv⟩ | ⟨e, he, hv⟩
      · exact Or.inl ⟨e, mem_mapErase he, hv⟩
      · exact Or.inr ⟨e, he, hv⟩
    · exact h

theorem extendTree_some {s1 : CSet} {hasp hasq : Bool} {p q : Nat} (hv : VertsOk s1)
    (hp : p + 1 < 2 ^ 32) (hq : q + 1 < 2 ^ 32)
    (h1 : hasp = true → hasKey s1.paths p = true) (h2 : hasq = true → hasKey s1.paths q = true) :
    ∃ s', extendTree s1 hasp hasq p q = some s' ∧ VertsOk s' := by
  unfold extendTree
  have hfuel : ∀ s : CSet, mu s < treeFuel s := fun s => by
    have := mu_le s; unfold treeFuel; omega
  have step1 : ∃ s2, (if hasp = true then updateTree (treeFuel s1) s1 p q else some s1) = some s2 ∧ Ext s1 s2 := by
    by_cases hh : hasp = true
    · rw [if_pos hh]
      obtain ⟨s2, hs2⟩ := updateTree_some (treeFuel s1) s1 p q (h1 hh) hv hq (hfuel s1)
      exact ⟨s2, hs2, (updateTree_ext _ _ _ _ _ hs2).1⟩
    · rw [if_neg hh]; exact ⟨s1, rfl, Ext.refl _⟩
  obtain ⟨s2, hs2, he2⟩ := step1
  rw [hs2]
  simp only
  have hv2 : VertsOk s2 := by intro v hvv; rw [he2.verts] at hvv; exact hv v hvv
  by_cases hh : hasq = true
  · rw [if_pos hh]
    obtain ⟨s3, hs3⟩ := updateTree_some (treeFuel s2) s2 q p (he2.keys q (h2 hh)) hv2 hp (hfuel s2)
    refine ⟨s3, hs3, ?_⟩
    intro v hvv
    rw [(updateTree_ext _ _ _ _ _ hs3).1.verts] at hvv
    exact hv2 v hvv
  · rw [if_neg hh]; exact ⟨s2, rfl, hv2⟩

theorem addPathSorted_some {s : CSet} {p q : Nat} {r : Rel} (hv : VertsOk s)
    (hp : p + 1 < 2 ^ 32) (hq : q + 1 < 2 ^ 32) :
    ∃ s', addPathSorted s p q r = some s' ∧ VertsOk s' := by
  unfold addPathSorted
  split
  · exact ⟨_, rfl, emit_vertsOk (emitPath_vertsOk _ _ (emitPath_vertsOk _ _ hv))⟩
  · rename_i hpo hqo _
    apply extendTree_some
    · intro v hvv
      rw [mem_verts] at hvv
      simp only at hvv
      rcases hvv with ⟨e, he, hve⟩ | ⟨e, he, hve⟩
      · rcases mem_mapInsert he with he | he
        · rw [he] at hve; simp only at hve; rcases hve with rfl | rfl <;> assumption
        · exact hv v (mem_verts.2 (Or.inl ⟨e, he, hve⟩))
      · rcases mem_setInsert he with he | he
        · rw [he] at hve; simp only at hve; rcases hve with rfl | rfl <;> assumption
        · exact hv v (mem_verts.2 (Or.inr ⟨e, he, hve⟩))
    · exact hp
    · exact hq
    · intro h; simpa [hasKey] using h
    · intro h; simpa [hasKey] using h

theorem addPath_some {s : CSet} {p q : Nat} {r : Rel} (hv : VertsOk s)
    (hp : p + 1 < 2 ^ 32) (hq : q + 1 < 2 ^ 32) :
    ∃ s', addPath s p q r = some s' ∧ VertsOk s' := by
  unfold addPath
  split
  · exact addPathSorted_some hv hp hq
  · exact addPathSorted_some hv hq hp

theorem add_some {s : CSet} {r : Rel} (hv : VertsOk s) (hr : RelOk r) :
    ∃ s', add s r = some s' ∧ VertsOk s' := by
  unfold add
  split
  · exact ⟨_, rfl, emit_vertsOk hv⟩
  · rename_i p e h1 h2
    split
    · exact addPath_some (s := { s with nPartials := s.nPartials + 1 }) hv (by omega) (hr.1 _ h1)
    · exact ⟨s, rfl, hv⟩
  · rename_i p e q e' h1 h2
    rw [if_neg (hr.2.2 _ _ h1 h2)]
    exact addPath_some (s := { s with nDoubles := s.nDoubles + 1 }) hv (hr.1 _ h1) (hr.2.1 _ h2)
  · exact ⟨s, rfl, hv⟩

theorem run_some : ∀ (rs : List Rel) (s : CSet), VertsOk s → (∀ r ∈ rs, RelOk r) →
    ∃ s', run s rs = some s'
  | [], s, _, _ => ⟨s, rfl⟩
  | r :: rs, s, hv, hr => by
    rw [run]
    obtain ⟨s1, hs1, hv1⟩ := add_some hv (hr r List.mem_cons_self)
    rw [hs1]
    exact run_some rs s1 hv1 (fun x hx => hr x (List.mem_cons_of_mem _ hx))

end Ymq.ClassGroup
