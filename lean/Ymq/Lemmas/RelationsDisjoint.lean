/-
`doubles_disjoint` (C11): no stored double-large-prime relation has a prime that is a key of
`partial`. The recursive walk is handled with a set `T` of tolerated vertices (the roots of the
walks still in progress further up the stack): `walk_doubles(root)` turns "every offending double
touches `root` or `T`" into "every offending double touches `T`".
-/
import Ymq.Lemmas.RelationsMono

namespace Ymq.Relations

/-- every stored double that has a prime in `partial` touches a tolerated vertex -/
def Tol (T : Nat → Prop) (s : Store) : Prop :=
  ∀ k, dkey s k → (pkey s k.1 ∨ pkey s k.2) → (T k.1 ∨ T k.2)

/-- the invariant named by the property: "No key is common with partial map" -/
def Disj (s : Store) : Prop := ∀ k, dkey s k → ¬ pkey s k.1 ∧ ¬ pkey s k.2

theorem disj_iff_tol (s : Store) : Disj s ↔ Tol (fun _ => False) s := by
  unfold Disj Tol
  constructor
  · intro h k hk hb
    rcases hb with hb | hb
    · exact absurd hb (h k hk).1
    · exact absurd hb (h k hk).2
  · intro h k hk
    constructor
    · intro hp; have := h k hk (Or.inl hp); tauto
    · intro hp; have := h k hk (Or.inr hp); tauto

theorem disj_iff_mem (s : Store) : Disj s ↔ ∀ p q b, ((p, q), b) ∈ s.doubles →
    (∀ c, (p, c) ∉ s.partials) ∧ (∀ c, (q, c) ∉ s.partials) :=
  ⟨fun h p q b hb => ⟨fun c hc => (h (p, q) ⟨b, hb⟩).1 ⟨c, hc⟩, fun c hc => (h (p, q) ⟨b, hb⟩).2 ⟨c, hc⟩⟩,
    fun h k ⟨b, hb⟩ => ⟨fun ⟨c, hc⟩ => (h k.1 k.2 b hb).1 c hc, fun ⟨c, hc⟩ => (h k.1 k.2 b hb).2 c hc⟩⟩

theorem tol_of_same {T : Nat → Prop} {s s' : Store} (h : Tol T s)
    (hp : ∀ k, pkey s' k ↔ pkey s k) (hd : ∀ e ∈ s'.doubles, e ∈ s.doubles) : Tol T s' := by
  intro k hk hb
  obtain ⟨b, hb'⟩ := hk
  refine h k ⟨b, hd _ hb'⟩ ?_
  rw [← hp, ← hp]; exact hb

theorem tol_setPartial {T : Nat → Prop} {s : Store} (h : Tol T s) (key : Nat) (b : List Nat) :
    Tol (fun v => v = key ∨ T v) (s.setPartial key b) := by
  intro k hk hb
  have hk' : dkey s k := hk
  by_cases h1 : k.1 = key
  · exact Or.inl (Or.inl h1)
  · by_cases h2 : k.2 = key
    · exact Or.inr (Or.inl h2)
    · have : pkey s k.1 ∨ pkey s k.2 := by
        rcases hb with hb | hb
        · rcases pkey_setPartial.mp hb with hb | hb
          · exact absurd hb h1
          · exact Or.inl hb
        · rcases pkey_setPartial.mp hb with hb | hb
          · exact absurd hb h2
          · exact Or.inr hb
      rcases h k hk' this with ht | ht
      · exact Or.inl (Or.inr ht)
      · exact Or.inr (Or.inr ht)

theorem Tol.mono {T T' : Nat → Prop} {s : Store} (h : Tol T s) (hT : ∀ v, T v → T' v) : Tol T' s :=
  fun k hk hb => (h k hk hb).imp (hT _) (hT _)

theorem step_tol {T : Nat → Prop} {r : Relation} {p q : Nat} {s : Store}
    {st : Bool × Option Nat × Store} (h : combineDoubleStep r p q s = .ok st) (hp32 : p < W32)
    (hq32 : q < W32) (ht : Tol T s) : Tol (fun v => st.2.1 = some v ∨ T v) st.2.2 := by
  have hcyc : ∀ {r' : Relation} {s1 : Store}, addCycle r' s = .ok s1 →
      (∀ k, pkey s1 k ↔ pkey s k) ∧ Tol T s1 := by
    intro r' s1 h1
    obtain ⟨_, hp, hd, _⟩ := addCycle_mono h1
    have hpk : ∀ k, pkey s1 k ↔ pkey s k := fun k => by unfold pkey; rw [hp]
    exact ⟨hpk, tol_of_same ht hpk (by rw [hd]; exact fun _ h => h)⟩
  rcases combineDoubleStep_ok h with ⟨_, s1, hs1, rfl⟩ |
    ⟨_, bp, bq, _, _, _, _, s1, hlp, hlq, _, _, _, _, hs1, hres⟩ |
    ⟨_, k, k', b, hk, _, _, rfl⟩ | ⟨_, _, _, rfl⟩
  · exact (hcyc hs1).2.mono (fun _ => Or.inr)
  · obtain ⟨hpk, t1⟩ := hcyc hs1
    rcases hres with rfl | ⟨k, k', b, hk, _, rfl⟩
    · exact t1.mono (fun _ => Or.inr)
    · -- `k'` is a key already
      have hk' : pkey s1 k' := by
        rcases hk with ⟨_, rfl⟩ | ⟨_, rfl⟩
        · exact (hpk _).mpr (pkey_of_lookup hlq)
        · exact (hpk _).mpr (pkey_of_lookup hlp)
      refine (tol_of_same (s' := s1.setPartial k' b) t1 (fun v => ?_) (fun _ h => h)).mono (fun _ => Or.inr)
      rw [pkey_setPartial]
      exact ⟨fun h => h.elim (fun e => e ▸ hk') id, Or.inr⟩
  · have hk32 : k' < W32 := by rcases hk with ⟨_, rfl⟩ | ⟨_, rfl⟩ <;> assumption
    have ht0 : Tol T { s with nCombined12 := s.nCombined12 + 1 } := ht
    refine (tol_setPartial ht0 k' b).mono (fun v hv => hv.imp (fun e => ?_) id)
    rw [e, Nat.mod_eq_of_lt hk32]
  · exact ht.mono (fun _ => Or.inr)

theorem removeStep_tol {T : Nat → Prop} {p q : Nat} {s : Store} {res : StepRes × Store}
    (h : removeStep p q s = .ok res) (hi : Inv s) (ht : Tol T s) :
    Tol (fun v => res.1.req = some v ∨ T v) res.2 := by
  rcases removeStep_ok h with ⟨_, rfl⟩ | ⟨blob, r, st, hl, hu, hst, _, rfl⟩
  · exact ht.mono (fun _ => Or.inr)
  · obtain ⟨hlt, _, _, hq32, _⟩ := hi.double hl hu
    obtain ⟨hpk, hsub, _⟩ := mono_erase s p q
    exact step_tol hst (lt_trans hlt hq32) hq32 (tol_of_same ht hpk hsub)

/-- what `walk_doubles(root)` does to the tolerated vertices: it may start with offending doubles
at `root`, it ends with none there -/
def WalkTol (walk : Nat → Store → M Store) : Prop :=
  ∀ (root : Nat) (s s' : Store) (T : Nat → Prop), Good s → walk root s = .ok s' →
    Tol (fun v => v = root ∨ T v) s → Tol T s'

theorem serve_tol {walk : Nat → Store → M Store} (hwalk : WalkTol walk) {q : StepRes × Store}
    {s' : Store} {T : Nat → Prop} (h : serve walk q = .ok s') (hg : Good q.2)
    (ht : Tol (fun v => q.1.req = some v ∨ T v) q.2) : Tol T s' := by
  rcases serve_ok h with ⟨hn, rfl⟩ | ⟨x, hx, hw⟩
  · exact ht.mono (fun v hv => hv.elim (fun e => by rw [hn] at e; cases e) id)
  · exact hwalk x _ s' T hg hw (ht.mono (fun v hv => hv.imp (fun e => Option.some.inj (hx ▸ e).symm) id))

theorem runActs_tol {walk : Nat → Store → M Store} (hwalk : WalkTol walk) (hk : WalkKeeps walk)
    {T : Nat → Prop} {root : Nat} {l : List Act} {s s' : Store} (h : runActs walk root l s = .ok s')
    (hg : Good s) (ht : Tol T s) : Tol T s' :=
  (runActs_pres (Q := fun s1 => Good s1 ∧ Tol T s1) (fun {a s res s1} hq hres hs1 => by
    have hg1 := hq.1.of_keeps (keeps_stepRel.actStep hq.1 hres)
    refine ⟨hg1.of_keeps (keeps_stepRel.serve hk hg1 (Keeps.refl hg1.1) hs1), serve_tol hwalk hs1 hg1 ?_⟩
    cases a with
    | rem p q => exact removeStep_tol hres hq.1.1 hq.2
    | go a b => rw [(actStep_go_ok hres).2]; exact hq.2.mono (fun _ => Or.inr)) l s s' h ⟨hg, ht⟩).2

theorem walkDoubles_tol : ∀ (fuel : Nat), WalkTol (walkDoubles fuel) := by
  intro fuel
  induction fuel with
  | zero => intro root s s' T _ h; exact (throw_ne_ok.mp h).elim
  | succ fuel ih =>
    intro root s s' T hg h ht
    have hkf : WalkKeeps (walkDoubles fuel) := fun hg h => keeps_stepRel.of_walkDoubles fuel _ hg h
    have hmf : ∀ root s s', walkDoubles fuel root s = .ok s' → Mono s s' :=
      fun root _ _ h => mono_stepRel.of_walkDoubles fuel root trivial h
    rw [walkDoubles_frame] at h
    split at h
    · exact (throw_ne_ok.mp h).elim
    · obtain ⟨s2, hs2, h⟩ := bind_eq_ok.mp h
      have g2 := hg.of_keeps (keeps_stepRel.of_walkLoop1 hkf hg hs2)
      have t2 := runActs_tol ih hkf (walkLoop1_acts _ root _ _ ▸ hs2) hg ht
      obtain ⟨m, c, _⟩ := walkLoop1_mono hmf _ _ _ hs2
      -- no double of s2 touches root any more
      have t2' : Tol T s2 := by
        rintro k ⟨b, hb⟩ hp
        have hn : ¬ (k.1 = root ∨ k.2 = root) := fun hr =>
          c k ((mem_keysOf hg.1).mpr ⟨⟨b, m.dsub _ hb⟩, hr⟩) ⟨b, hb⟩
        exact (t2 k ⟨b, hb⟩ hp).imp (fun h1 => h1.resolve_left (fun e => hn (Or.inl e)))
          (fun h1 => h1.resolve_left (fun e => hn (Or.inr e)))
      exact runActs_tol ih hkf (walkRec_acts _ root _ _ ▸ h) g2 t2'

theorem IsWalk.walkTol {wk : Nat → Store → M Store} (hwk : IsWalk wk) : WalkTol wk :=
  fun x s s' T hg h ht => let ⟨f, hf⟩ := hwk x s s' h; walkDoubles_tol f x s s' T hg hf ht

theorem head_tol {T : Nat → Prop} {r : Relation} {pq : Option (Nat × Nat)} {s : Store}
    {h1 : StepRes × Store} (h : addHead r pq s = .ok h1) (ht : Tol T s) :
    Tol (fun v => h1.1.req = some v ∨ T v) h1.2 := by
  rcases (addHead_ok h).2 with ⟨_, _, h1'⟩ | ⟨_, _, res, hres, hcs⟩ | ⟨_, _, _, rfl⟩ |
    ⟨_, _, p, q, rfl, hp32, hq32, hdd⟩
  · obtain ⟨_, hp, hdd, _⟩ := addCycle_mono h1'
    exact (tol_of_same ht (fun k => by unfold pkey; rw [hp]) (by rw [hdd]; exact fun _ h => h)).mono
      (fun _ => Or.inr)
  · obtain ⟨_, hpk, hdd, _⟩ := single_mono hres
    have ht0 : Tol T { s with nPartials := s.nPartials + 1 } := ht
    have t1 : Tol T res.2 := tol_of_same ht0 hpk (by rw [hdd]; exact fun _ h => h)
    rcases hcs with ⟨_, rfl⟩ | ⟨_, _, b, _, rfl⟩
    · exact t1.mono (fun _ => Or.inr)
    · exact (tol_setPartial t1 _ _).mono (fun v hv => hv.imp (fun e => by rw [e]; rfl) id)
  · exact ht.mono (fun _ => Or.inr)
  · have ht0 : Tol T { s with nDoubles := s.nDoubles + 1 } := ht
    rcases hdd with ⟨st, hst, _, rfl⟩ | ⟨_, hlp, hlq, b, _, rfl⟩
    · exact step_tol hst hp32 hq32 ht0
    · -- the new double: neither of its primes is a key
      rintro k ⟨b', hb'⟩ hb
      rcases mem_ainsert.mp hb' with hb' | ⟨hb', _⟩
      · have hk : (k.1 = p ∧ k.2 = q) ∨ (k.1 = q ∧ k.2 = p) := by
          simp only [Prod.mk.injEq] at hb'
          rw [hb'.1]; split <;> simp
        have hnp : ¬ pkey s p := not_pkey_of_lookup hlp
        have hnq : ¬ pkey s q := not_pkey_of_lookup hlq
        rcases hk with ⟨h1, h2⟩ | ⟨h1, h2⟩ <;> rw [h1, h2] at hb
        · exact (hb.elim hnp hnq).elim
        · exact (hb.elim hnq hnp).elim
      · exact (ht k ⟨b', hb'⟩ hb).imp Or.inr Or.inr

theorem addWith_disj {wk : Nat → Store → M Store} (hwk : IsWalk wk) {r : Relation}
    {pq : Option (Nat × Nat)} {s s' : Store} (h : addWith wk r pq s = .ok s') (hg : Good s)
    (hin : InputOK s.n r pq) (hd : Disj s) : Disj s' := by
  rw [disj_iff_tol] at hd ⊢
  obtain ⟨h1, hh, hs⟩ := addWith_eq_ok.mp h
  exact serve_tol hwk.walkTol hs (hg.of_keeps (head_keeps hh hg hin)) (head_tol hh hd)

theorem IsRun.disj {run : List (Relation × Option (Nat × Nat)) → Store → M Store}
    {wk : Nat → Store → M Store} (hrun : IsRun run wk) (hwk : IsWalk wk)
    (ops : List (Relation × Option (Nat × Nat))) (s s' : Store) (h : run ops s = .ok s') (hg : Good s)
    (hok : HistoryOK s.n ops) (hd : Disj s) : Disj s' :=
  (hrun.ind (P := fun _ s1 => Good s1 ∧ Disj s1) (C := fun n _ op => InputOK n op.1 op.2)
    (fun hp hc h1 => by
      have hk1 := addWith_keeps hwk h1 hp.1 hc
      exact ⟨⟨hp.1.of_keeps hk1, addWith_disj hwk h1 hp.1 hc hp.2⟩, hk1.1, hk1.2.1⟩)
    ops 0 s s' ⟨hg, hd⟩ hok h).2

end Ymq.Relations
