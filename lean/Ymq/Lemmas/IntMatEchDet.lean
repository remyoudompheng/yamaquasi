/-
Abstract core of `echelon_det`. `det_fill_snoc`: when a row `v`, equal to `f • b` up to the span of the
rows `B`, is put under `k` rows on the left and `b` under the rows `B` on the right, the determinant on the left picks up
the factor `f`, whatever rows complete the two matrices; so after `n` accepted rows
`det V = ∏ f · det B`, and a row without a `b` part (`f = 0`) makes `det V` vanish.
`det_echelon_basis`: `det B = sign σ` for an echelon basis `B` whose pivot columns are given by the
permutation `σ` (`B t (σ t) = 1`, `B t (σ s) = 0` for `s < t`). Together: the invariant kept by
`GFpEchelonBuilder::add` and the formula evaluated by `det`.
-/
import Mathlib.LinearAlgebra.Matrix.Block
import Mathlib.LinearAlgebra.Matrix.Determinant.Basic
import Mathlib.Data.List.GetD
import Mathlib.LinearAlgebra.Span.Basic

namespace Ymq.IntMat
open Matrix

variable {n : Nat} {R : Type*}

/-- the square matrix whose first rows are the vectors of `L`, the remaining rows those of `W` -/
def fill (L : List (Fin n → R)) (W : Fin n → Fin n → R) : Matrix (Fin n) (Fin n) R :=
  fun t => L.getD t (W t)

theorem fill_update (L : List (Fin n → R)) (x b : Fin n → R) (W : Fin n → Fin n → R) (hk : L.length < n) :
    fill L (Function.update W ⟨L.length, hk⟩ x) = (fill (L ++ [b]) W).updateRow ⟨L.length, hk⟩ x := by
  funext t
  by_cases ht : t = ⟨L.length, hk⟩
  · subst ht
    rw [updateRow_self]
    show L.getD L.length (Function.update W ⟨L.length, hk⟩ x ⟨L.length, hk⟩) = x
    rw [Function.update_self, List.getD_eq_default _ _ (le_refl _)]
  · have hne : (t : Nat) ≠ L.length := fun e => ht (Fin.ext e)
    rw [updateRow_ne ht]
    show L.getD t (Function.update W ⟨L.length, hk⟩ x t) = (L ++ [b]).getD t (W t)
    rw [Function.update_of_ne ht]
    rcases Nat.lt_or_ge t L.length with h | h
    · rw [List.getD_append _ _ _ _ h]
    · rw [List.getD_eq_default _ _ h, List.getD_eq_default _ _ (by simp; omega)]

theorem fill_snoc (L : List (Fin n → R)) (x : Fin n → R) (W : Fin n → Fin n → R) (hk : L.length < n) :
    fill (L ++ [x]) W = fill L (Function.update W ⟨L.length, hk⟩ x) := by
  rw [fill_update L x x W hk]
  funext t
  by_cases ht : t = ⟨L.length, hk⟩
  · subst ht
    rw [updateRow_self]
    show (L ++ [x]).getD L.length _ = x
    rw [List.getD_append_right _ _ _ _ (le_refl _)]; simp
  · rw [updateRow_ne ht]

theorem fill_of_le (L : List (Fin n → R)) (W : Fin n → Fin n → R) (t : Fin n) (ht : L.length ≤ t) :
    fill L W t = W t :=
  List.getD_eq_default _ _ ht

theorem fill_map_apply {α} (g : α → Fin n → R) (L : List α) (d : α) (W : Fin n → Fin n → R) (t : Fin n)
    (ht : (t : Nat) < L.length) : fill (L.map g) W t = g (L.getD t d) := by
  show (L.map g).getD t (W t) = g (L.getD t d)
  rw [List.getD_eq_getElem _ _ (by simpa using ht), List.getD_eq_getElem _ _ ht, List.getElem_map]

variable [CommRing R]

theorem det_echelon_basis (B : Matrix (Fin n) (Fin n) R) (σ : Equiv.Perm (Fin n))
    (hone : ∀ t, B t (σ t) = 1) (hzero : ∀ t s, s < t → B t (σ s) = 0) :
    B.det = ((Equiv.Perm.sign σ : ℤ) : R) := by
  have htri : (B.submatrix id σ).IsUpperTriangular := by
    intro i j hij
    exact hzero i j hij
  have h1 : (B.submatrix id σ).det = 1 := by
    rw [det_of_isUpperTriangular htri]
    apply Finset.prod_eq_one
    intro i _
    exact hone i
  rw [det_permute'] at h1
  -- sign σ * det B = 1 and sign σ = ±1
  have hs : ((Equiv.Perm.sign σ : ℤ) : R) * ((Equiv.Perm.sign σ : ℤ) : R) = 1 := by
    rcases Int.units_eq_one_or (Equiv.Perm.sign σ) with h | h <;> simp [h]
  calc B.det = (((Equiv.Perm.sign σ : ℤ) : R) * ((Equiv.Perm.sign σ : ℤ) : R)) * B.det := by rw [hs, one_mul]
    _ = ((Equiv.Perm.sign σ : ℤ) : R) * (((Equiv.Perm.sign σ : ℤ) : R) * B.det) := by ring
    _ = ((Equiv.Perm.sign σ : ℤ) : R) := by rw [h1, mul_one]

/-- **one more row on both sides.** `det` picks up the factor `f` when the new row `v` is `f` times
the new row `b` plus a combination of the rows `LB` already there, whatever rows `W` complete the
matrix: `det` is linear in the row, and a row taken from the span of the other rows contributes
nothing. With `f = 0`: a row that depends on the earlier ones kills `det`. -/
theorem det_fill_snoc {LV LB : List (Fin n → R)} (hlen : LV.length = LB.length) (hk : LB.length < n) {F f : R}
    {v b : Fin n → R} (hv : v - f • b ∈ Submodule.span R {x | x ∈ LB})
    (ih : ∀ W, (fill LV W).det = F * (fill LB W).det) (W : Fin n → Fin n → R) :
    (fill (LV ++ [v]) W).det = F * f * (fill (LB ++ [b]) W).det := by
  have hk' : LV.length < n := hlen ▸ hk
  have e : (⟨LV.length, hk'⟩ : Fin n) = ⟨LB.length, hk⟩ := Fin.ext hlen
  rw [fill_snoc LV v W hk', ih, e, fill_update LB v b W hk]
  set M := fill (LB ++ [b]) W with hM
  have hb : M ⟨LB.length, hk⟩ = b := by
    show (LB ++ [b]).getD LB.length _ = b
    rw [List.getD_append_right _ _ _ _ (le_refl _)]; simp
  have hzero : ∀ u ∈ Submodule.span R {x | x ∈ LB}, (M.updateRow ⟨LB.length, hk⟩ u).det = 0 := by
    intro u hu
    induction hu using Submodule.span_induction with
    | mem x hx =>
      obtain ⟨s, hs, rfl⟩ := List.getElem_of_mem hx
      have hne : (⟨s, by omega⟩ : Fin n) ≠ ⟨LB.length, hk⟩ := Fin.ne_of_val_ne (show s ≠ LB.length by omega)
      refine det_zero_of_row_eq hne ?_
      rw [updateRow_ne hne, updateRow_self]
      show (LB ++ [b]).getD s _ = LB[s]
      rw [List.getD_append _ _ _ _ hs, List.getD_eq_getElem _ _ hs]
    | zero => exact det_eq_zero_of_row_eq_zero ⟨LB.length, hk⟩ (fun j => by rw [updateRow_self]; rfl)
    | add x y _ _ hx hy => rw [det_updateRow_add, hx, hy, add_zero]
    | smul a x _ hx => rw [det_updateRow_smul, hx, mul_zero]
  rw [show v = f • b + (v - f • b) by abel, det_updateRow_add, det_updateRow_smul, hzero _ hv, add_zero, ← hb,
    updateRow_eq_self]
  ring

end Ymq.IntMat
