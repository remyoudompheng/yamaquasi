/-
From the list model to matrices over `ZMod p`: `mulpLane` is the matrix–vector product, the
Krylov loop of `_detp4` produces `s_k = (M^k v)_0`.
-/
import Ymq.Lemmas.WiedemannMulp
import Ymq.Lemmas.WiedemannAlg
import Ymq.Lemmas.Loops
import Mathlib.Data.ZMod.Basic
import Mathlib.Data.List.GetD

namespace Ymq.Wied
open Matrix

variable {p : ℕ}

/-- the matrix of a row list, reduced modulo `p` (duplicate columns add up) -/
def matOf (p n : ℕ) (m : Mat) : Matrix (Fin n) (Fin n) (ZMod p) :=
  fun i j => ((m.getD i []).map (fun je => if je.1 = j.val then (je.2 : ZMod p) else 0)).sum

def colOf (p n : ℕ) (v : List ℕ) : Matrix (Fin n) (Fin 1) (ZMod p) :=
  fun i _ => ((v.getD i.val 0 : ℕ) : ZMod p)

def e0 (p n : ℕ) : Matrix (Fin 1) (Fin n) (ZMod p) := fun _ j => if j.val = 0 then 1 else 0

/-- **`mulp`, one lane.** Under the code's assumption (`weight × bound < 2^63` for every row, entries
of `v` at most `Bd`), `mulp` does not panic and returns `(Σ_j M_ij v_j) mod p` row by row. -/
theorem mulpLane_spec (m : Mat) (p : ℕ) (hp0 : 0 < p) (hp : (p : Int) < I63) (v : List ℕ)
    (hlen : v.length = m.length) (Bd : Int) (hB0 : 0 ≤ Bd) (hv : ∀ j, ((v.getD j 0 : ℕ) : Int) ≤ Bd)
    (hw : ∀ r ∈ m, posW r * Bd < I63 ∧ negW r * Bd < I63) :
    mulpLane m p v =
      some (m.map (fun r => (rowDot (fun j => v.getD j 0) r % (p : Int)).toNat)) := by
  unfold mulpLane
  rw [if_neg (by omega)]
  exact Loops.mapM_eq_map _ _ m (fun r hr =>
    rowLane_spec (fun j => v.getD j 0) Bd hB0 hv p hp0 hp r (hw r hr).1 (hw r hr).2)

theorem cast_toNat_emod (x : Int) (hp0 : 0 < p) :
    (((x % (p : Int)).toNat : ℕ) : ZMod p) = (x : ZMod p) := by
  have h : 0 ≤ x % (p : Int) := Int.emod_nonneg _ (by exact_mod_cast (Nat.pos_iff_ne_zero.mp hp0))
  have : (((x % (p : Int)).toNat : ℕ) : Int) = x % (p : Int) := Int.toNat_of_nonneg h
  rw [← Int.cast_natCast, this, ZMod.intCast_mod]

theorem rowDot_cast (n : ℕ) (col : ℕ → ℕ) : ∀ r : Row, (∀ je ∈ r, je.1 < n) →
    ((rowDot col r : Int) : ZMod p) =
      ∑ j : Fin n, (r.map (fun je => if je.1 = j.val then (je.2 : ZMod p) else 0)).sum *
        ((col j.val : ℕ) : ZMod p)
  | [], _ => by simp [rowDot, sumSel]
  | je :: r, h => by
    have ih := rowDot_cast n col r (fun a ha => h a (List.mem_cons_of_mem _ ha))
    have hj : je.1 < n := h je List.mem_cons_self
    unfold rowDot at ih ⊢
    unfold sumSel
    simp only [if_true, List.map_cons, List.sum_cons, add_mul, Finset.sum_add_distrib]
    rw [Int.cast_add, ih]
    congr 1
    rw [Finset.sum_eq_single (⟨je.1, hj⟩ : Fin n)]
    · simp
    · intro b _ hb
      have : ¬ je.1 = b.val := fun e => hb (Fin.ext e.symm)
      simp [this]
    · intro h'; exact absurd (Finset.mem_univ _) h'


theorem getD_map_zero (g : Row → ℕ) (hg : g [] = 0) (m : Mat) (i : ℕ) :
    (m.map g).getD i 0 = g (m.getD i []) := by
  by_cases hi : i < m.length
  · simp [List.getD_eq_getElem?_getD, List.getElem?_eq_getElem hi]
  · have h1 : m.length ≤ i := by omega
    simp [List.getD_eq_getElem?_getD, List.getElem?_eq_none h1, hg]

theorem matOf_mul_colOf (n : ℕ) (m : Mat) (hcols : ∀ r ∈ m, ∀ je ∈ r, je.1 < n) (v : List ℕ)
    (i : Fin n) (k : Fin 1) :
    (matOf p n m * colOf p n v) i k =
      ((rowDot (fun j => v.getD j 0) (m.getD i.val []) : Int) : ZMod p) := by
  have hrow : ∀ je ∈ m.getD i.val [], je.1 < n := by
    intro je hje
    by_cases hi : i.val < m.length
    · rw [Loops.getD_eq_getElem m [] hi] at hje
      exact hcols _ (List.getElem_mem hi) je hje
    · rw [List.getD_eq_default _ _ (by omega)] at hje; simp at hje
  rw [Matrix.mul_apply, rowDot_cast n _ _ hrow]
  rfl

theorem mulp_matrix (n : ℕ) (m : Mat) (hcols : ∀ r ∈ m, ∀ je ∈ r, je.1 < n) (v : List ℕ)
    (hp0 : 0 < p) :
    colOf p n (m.map (fun r => (rowDot (fun j => v.getD j 0) r % (p : Int)).toNat)) =
      matOf p n m * colOf p n v := by
  ext i k
  have g0 : (rowDot (fun j => v.getD j 0) [] % (p : Int)).toNat = 0 := by simp [rowDot, sumSel]
  rw [matOf_mul_colOf n m hcols]
  show (((m.map _).getD i.val 0 : ℕ) : ZMod p) = _
  rw [getD_map_zero _ g0, cast_toNat_emod _ hp0]

/-- the terms gathered so far, oldest first: reduced, and term `t` is `(M^t V)_0` -/
def Terms (n : ℕ) (hn : 1 ≤ n) (M : Matrix (Fin n) (Fin n) (ZMod p))
    (V : Matrix (Fin n) (Fin 1) (ZMod p)) (l : List ℕ) : Prop :=
  (∀ x ∈ l, x < p) ∧ ∀ t, t < l.length → ((l.getD t 0 : ℕ) : ZMod p) = (M ^ t * V) ⟨0, hn⟩ 0

theorem Terms.snoc {n : ℕ} {hn : 1 ≤ n} {M : Matrix (Fin n) (Fin n) (ZMod p)}
    {V : Matrix (Fin n) (Fin 1) (ZMod p)} {l : List ℕ} (h : Terms n hn M V l) {a : ℕ} (ha : a < p)
    (hv : ((a : ℕ) : ZMod p) = (M ^ l.length * V) ⟨0, hn⟩ 0) : Terms n hn M V (l ++ [a]) := by
  refine ⟨fun x hx => ?_, fun t ht => ?_⟩
  · rcases List.mem_append.mp hx with hx | hx
    · exact h.1 x hx
    · rw [List.mem_singleton.mp hx]; exact ha
  · by_cases htl : t < l.length
    · rw [List.getD_append _ _ _ _ htl]; exact h.2 t htl
    · obtain rfl : t = l.length := by simp at ht; omega
      rw [List.getD_append_right _ _ _ _ (le_refl _)]; simpa using hv

theorem Terms.nil {n : ℕ} {hn : 1 ≤ n} {M : Matrix (Fin n) (Fin n) (ZMod p)}
    {V : Matrix (Fin n) (Fin 1) (ZMod p)} : Terms n hn M V ([] : List ℕ).reverse :=
  ⟨by simp, by simp⟩

section loop
variable {mul : List ℕ → Option (List ℕ)} {n : ℕ} {K : ℕ → List ℕ → List ℕ → Option (List ℕ)}
  (hK : ∀ f v seq, K (f + 1) v seq =
    match v[0]? with
    | none => none
    | some v0 =>
      if (v0 :: seq).length = 2 * n then some (v0 :: seq).reverse
      else
        match mul v with
        | none => none
        | some w => K f w (v0 :: seq))
include hK

/-- A loop `K` with the equations of `krylov` / `krylovBig` (`n` the size, `mul` the product):
whatever it returns is the `2n` reduced terms `(M^t V)_0`, when `mul` acts as `M` on the vectors
that satisfy `P`. The accumulator `seq` holds the terms so far, newest first. -/
theorem loop_exact (hn : 1 ≤ n) (M : Matrix (Fin n) (Fin n) (ZMod p))
    (V : Matrix (Fin n) (Fin 1) (ZMod p)) (P : List ℕ → Prop)
    (hP : ∀ v, P v → v.length = n ∧ v.getD 0 0 < p)
    (hmul : ∀ v u, P v → mul v = some u → P u ∧ colOf p n u = M * colOf p n v) :
    ∀ (f : ℕ) (v seq out : List ℕ), K f v seq = some out → 2 * n - seq.length ≤ f →
      seq.length < 2 * n → P v → colOf p n v = M ^ seq.length * V → Terms n hn M V seq.reverse →
      out.length = 2 * n ∧ Terms n hn M V out
  | 0, _, _, _, _, h1, h2, _, _, _ => by omega
  | f + 1, v, seq, out, h, h1, h2, hv, hV, hs => by
    obtain ⟨hl, h0⟩ := hP v hv
    have hv0 : v[0]? = some (v.getD 0 0) := by
      simp [List.getD_eq_getElem?_getD, List.getElem?_eq_getElem (show 0 < v.length by omega)]
    have hs' : Terms n hn M V (v.getD 0 0 :: seq).reverse := by
      rw [List.reverse_cons]
      refine hs.snoc h0 ?_
      rw [List.length_reverse, ← hV]; rfl
    rw [hK, hv0] at h
    simp only at h
    split at h
    · rename_i hlen
      rw [← Option.some.inj h]
      exact ⟨by rw [List.length_reverse]; exact hlen, hs'⟩
    · rename_i hlen
      cases hmu : mul v with
      | none => rw [hmu] at h; simp at h
      | some u =>
        rw [hmu] at h
        obtain ⟨hu, hucol⟩ := hmul v u hv hmu
        simp only [List.length_cons] at hlen
        exact loop_exact hn M V P hP hmul f u _ out h
          (by simp only [List.length_cons]; omega) (by simp only [List.length_cons]; omega) hu
          (by rw [hucol, hV, ← Matrix.mul_assoc, ← pow_succ', List.length_cons]) hs'

theorem loop_some (P : List ℕ → Prop) (h0 : ∀ v, P v → 0 < v.length)
    (hmul : ∀ v, P v → ∃ u, mul v = some u ∧ P u) :
    ∀ (f : ℕ) (v seq : List ℕ), P v → 2 * n - seq.length ≤ f → seq.length < 2 * n →
      ∃ out, K f v seq = some out
  | 0, _, _, _, h1, h2 => by omega
  | f + 1, v, seq, hv, h1, h2 => by
    rw [hK, List.getElem?_eq_getElem (h0 v hv)]
    simp only
    split
    · exact ⟨_, rfl⟩
    · rename_i hlen
      obtain ⟨u, e, hu⟩ := hmul v hv
      rw [e]
      simp only [List.length_cons] at hlen
      exact loop_some P h0 hmul f u _ hu (by simp only [List.length_cons]; omega)
        (by simp only [List.length_cons]; omega)

end loop


theorem getD_map_lt (m : Mat) (v : List ℕ) (hp0 : 0 < p) (j : ℕ) :
    (m.map (fun r => (rowDot (fun j => v.getD j 0) r % (p : Int)).toNat)).getD j 0 < p := by
  have g0 : (rowDot (fun j => v.getD j 0) [] % (p : Int)).toNat = 0 := by simp [rowDot, sumSel]
  rw [getD_map_zero _ g0]
  have hp' : (0 : Int) < p := by exact_mod_cast hp0
  have h1 := Int.emod_lt_of_pos (rowDot (fun j => v.getD j 0) (m.getD j [])) hp'
  have h2 := Int.emod_nonneg (rowDot (fun j => v.getD j 0) (m.getD j [])) (ne_of_gt hp')
  omega

theorem startVec_length : ∀ (n x y : ℕ), (startVec n x y).length = n
  | 0, _, _ => rfl
  | n + 1, x, y => by simp [startVec, startVec_length n]

theorem startVec_lt : ∀ (n x y j : ℕ), (startVec n x y).getD j 0 < 65537
  | 0, _, _, _ => by simp [startVec]
  | n + 1, x, y, 0 => by simp [startVec]; omega
  | n + 1, x, y, j + 1 => by
    simp only [startVec, List.getD_cons_succ]
    exact startVec_lt n _ _ j

theorem krylovSeq_e0 (n : ℕ) (hn : 1 ≤ n) (M : Matrix (Fin n) (Fin n) (ZMod p))
    (V : Matrix (Fin n) (Fin 1) (ZMod p)) (t : ℕ) :
    krylovSeq M (e0 p n) V t = (M ^ t * V) ⟨0, hn⟩ 0 := by
  unfold krylovSeq
  rw [Matrix.mul_assoc, Matrix.mul_apply, Finset.sum_eq_single (⟨0, hn⟩ : Fin n)]
  · simp [e0]
  · intro b _ hb
    have : ¬ b.val = 0 := fun e => hb (Fin.ext e)
    simp [e0, this]
  · intro h; exact absurd (Finset.mem_univ _) h


/-- **The Krylov loop of `_detp4`, one lane**: no panic, `2n` reduced terms, and term `t` is
`e_0 · M^t · v` for `M = matOf p n m` and `v` the Fibonacci start vector. -/
theorem krylov_model_spec (n : ℕ) (hn : 1 ≤ n) (m : Mat) (hm : m.length = n)
    (hcols : ∀ r ∈ m, ∀ je ∈ r, je.1 < n) (hp1 : 1 < p) (hp : (p : Int) < I63)
    (Bd : Int) (hBp : (p : Int) ≤ Bd + 1) (hB65 : 65536 ≤ Bd)
    (hw : ∀ r ∈ m, posW r * Bd < I63 ∧ negW r * Bd < I63) :
    ∃ seq, krylov m p (2 * m.length + 1) (startVec m.length 0 1) [] = some seq ∧
      seq.length = 2 * n ∧ (∀ x ∈ seq, x < p) ∧
      ∀ t, t < 2 * n → ((seq.getD t 0 : ℕ) : ZMod p) =
        krylovSeq (matOf p n m) (e0 p n) (colOf p n (startVec n 0 1)) t := by
  have hp0 : 0 < p := by omega
  have h1 : (startVec n 0 1).getD 0 0 < p := by
    obtain ⟨n', rfl⟩ : ∃ n', n = n' + 1 := ⟨n - 1, by omega⟩
    simp [startVec]; omega
  -- the invariant of the loop: `size` entries within the bound, the head a reduced residue
  let P : List ℕ → Prop := fun v =>
    v.length = n ∧ (∀ j, ((v.getD j 0 : ℕ) : Int) ≤ Bd) ∧ v.getD 0 0 < p
  have hmul : ∀ v, P v → mulpLane m p v =
      some (m.map (fun r => (rowDot (fun j => v.getD j 0) r % (p : Int)).toNat)) ∧
      P (m.map (fun r => (rowDot (fun j => v.getD j 0) r % (p : Int)).toNat)) := fun v hv =>
    ⟨mulpLane_spec m p hp0 hp v (by omega) Bd (by omega) hv.2.1 hw,
      by simp [hm], fun j => by have := getD_map_lt (p := p) m v hp0 j; omega, getD_map_lt m v hp0 0⟩
  have hP0 : P (startVec n 0 1) :=
    ⟨startVec_length n 0 1, fun j => by have := startVec_lt n 0 1 j; omega, h1⟩
  subst hm
  obtain ⟨out, e1⟩ := loop_some (mul := mulpLane m p) (n := m.length) (K := krylov m p)
    (fun _ _ _ => rfl) P (fun v hv => by omega) (fun v hv => ⟨_, hmul v hv⟩) (2 * m.length + 1) _ [] hP0
    (by simp) (by simp; omega)
  obtain ⟨e2, e3, e4⟩ := loop_exact (mul := mulpLane m p) (K := krylov m p) (fun _ _ _ => rfl) hn
    (matOf p m.length m) (colOf p m.length (startVec m.length 0 1)) P (fun v hv => ⟨hv.1, hv.2.2⟩)
    (fun v u hv hu => by
      obtain ⟨e, hu'⟩ := hmul v hv
      rw [e] at hu
      rw [← Option.some.inj hu]
      exact ⟨hu', mulp_matrix m.length m hcols v hp0⟩)
    _ _ [] out e1 (by simp) (by simp; omega) hP0 (by simp) Terms.nil
  exact ⟨out, e1, e2, e3, fun t ht => by rw [krylovSeq_e0 m.length hn, e4 t (e2 ▸ ht)]⟩

end Ymq.Wied
