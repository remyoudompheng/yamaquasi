/-
Reduction of positive definite forms (reference arithmetic of property C18): `Form.reduce` with the model's fuel
`reduceFuel` ends in a reduced form. If a swap did not halve the first coefficient, the next normalisation is final
(`no_second_swap`), so the first coefficient halves at every swap but the last one and `log2 a + 3` iterations suffice.
`IsReducedPD` has the boundary convention of `Form.reduce` (`-a < b ≤ a`); `IsReducedPrim D` (ClassGroupForms) is the Prop form of
the model's `Form.isReducedPrim` (`|b| ≤ a`, `b ≥ 0` when `|b| = a`) with discriminant and primitivity added; on primitive forms
they agree (`isReducedPrim_of_PD` here, `isReducedPD_of_prim` in ClassGroupUnique).
-/
import Ymq.Lemmas.ClassGroupCompose
import Ymq.Lemmas.ClassGroupForms
import Mathlib.Tactic.Linarith
namespace Ymq.ClassGroup

/-- reduced positive definite form, with the boundary conventions of `Form.reduce`: `-a < b ≤ a ≤ c`, `b ≥ 0` if `a = c` -/
def IsReducedPD (f : Form) : Prop :=
  0 < f.a ∧ -f.a < f.b ∧ f.b ≤ f.a ∧ f.a ≤ f.c ∧ (f.a = f.c → 0 ≤ f.b)

theorem pos_c {a b c : Int} (ha : 0 < a) (hd : b * b - 4 * a * c < 0) : 0 < c := by
  by_contra h
  have h : c ≤ 0 := not_lt.1 h
  nlinarith [mul_self_nonneg b, mul_nonneg ha.le (neg_nonneg.2 h)]

theorem normalize_spec (f : Form) (ha : 0 < f.a) :
    f.normalize.a = f.a ∧ -f.a < f.normalize.b ∧ f.normalize.b ≤ f.a := by
  unfold Form.normalize
  split
  · rename_i h; exact ⟨rfl, h.1, h.2⟩
  · simp only
    have h2a : 0 < 2 * f.a := by omega
    have h1 := Int.emod_nonneg (f.a - f.b) (ne_of_gt h2a)
    have h2 := Int.emod_lt_of_pos (f.a - f.b) h2a
    have h3 := Int.mul_ediv_add_emod (f.a - f.b) (2 * f.a)
    refine ⟨trivial, ?_, ?_⟩ <;> linarith

theorem normalize_disc (f : Form) : f.normalize.disc = f.disc := by
  unfold Form.normalize
  split
  · rfl
  · simp only [Form.disc]; ring

/-- the terminal branch of `Form.reduce` on a normalised form that is not swapped -/
theorem terminal_reduced (g : Form) (ha : 0 < g.a) (h1 : -g.a < g.b) (h2 : g.b ≤ g.a) (h3 : ¬ g.a > g.c) :
    IsReducedPD (if g.a = g.c ∧ g.b < 0 then ⟨g.a, -g.b, g.c⟩ else g) := by
  split
  · rename_i h
    refine ⟨ha, ?_, ?_, ?_, ?_⟩ <;> simp only <;> omega
  · rename_i h
    refine ⟨ha, h1, h2, by omega, ?_⟩
    intro he; by_contra hb; exact h ⟨he, by omega⟩

/-- after a swap that did not halve the first coefficient, the next normalisation is not followed by a swap -/
theorem no_second_swap (a b c : Int) (hc : 0 < c) (hca : c < a) (h1 : -a < b) (h2 : b ≤ a) (hh : a < 2 * c) :
    ¬ (Form.normalize ⟨c, -b, a⟩).a > (Form.normalize ⟨c, -b, a⟩).c := by
  unfold Form.normalize
  simp only
  split
  · simp only; omega
  · simp only
    have h2c : 0 < 2 * c := by omega
    have hr1 : -1 ≤ (c - -b) / (2 * c) := by rw [Int.le_ediv_iff_mul_le h2c]; omega
    have hr2 : (c - -b) / (2 * c) < 2 := by rw [Int.ediv_lt_iff_lt_mul h2c]; omega
    generalize (c - -b) / (2 * c) = r at hr1 hr2
    have : r = -1 ∨ r = 0 ∨ r = 1 := by omega
    rcases this with rfl | rfl | rfl <;> omega

theorem reduce_terminates : ∀ (n fuel : Nat) (f : Form), 0 < f.a → f.disc < 0 → f.a < 2 ^ n → n + 2 ≤ fuel →
    IsReducedPD (f.reduce fuel) := by
  intro n
  induction n with
  | zero => intro fuel f ha _ hlt _; simp at hlt; omega
  | succ n ih =>
    intro fuel f ha hd hlt hf
    obtain ⟨k, rfl⟩ : ∃ k, fuel = k + 1 := ⟨fuel - 1, by omega⟩
    obtain ⟨na, nb1, nb2⟩ := normalize_spec f ha
    have nd : f.normalize.disc < 0 := by rw [normalize_disc]; exact hd
    have ngpos : 0 < f.normalize.a := by rw [na]; exact ha
    have ncpos : 0 < f.normalize.c := pos_c ngpos (by simpa only [Form.disc] using nd)
    rw [Form.reduce]
    by_cases hsw : f.normalize.a > f.normalize.c
    · rw [if_pos hsw]
      have hd' : (⟨f.normalize.c, -f.normalize.b, f.normalize.a⟩ : Form).disc < 0 := by
        have : (⟨f.normalize.c, -f.normalize.b, f.normalize.a⟩ : Form).disc = f.normalize.disc := by
          simp only [Form.disc]; ring
        rw [this]; exact nd
      by_cases hhalf : 2 * f.normalize.c ≤ f.a
      · apply ih k _ ncpos hd' _ (by omega)
        simp only
        have : (2 : Int) ^ (n + 1) = 2 * 2 ^ n := by ring
        omega
      · obtain ⟨j, rfl⟩ : ∃ j, k = j + 1 := ⟨k - 1, by omega⟩
        rw [Form.reduce]
        have hns := no_second_swap f.normalize.a f.normalize.b f.normalize.c ncpos hsw
          (by rw [na]; exact nb1) (by rw [na]; exact nb2) (by rw [na]; omega)
        rw [if_neg hns]
        obtain ⟨ma, mb1, mb2⟩ := normalize_spec ⟨f.normalize.c, -f.normalize.b, f.normalize.a⟩ ncpos
        simp only at ma mb1 mb2
        exact terminal_reduced _ (by rw [ma]; exact ncpos) (by rw [ma]; exact mb1) (by rw [ma]; exact mb2) hns
    · rw [if_neg hsw]
      exact terminal_reduced _ ngpos (by rw [na]; exact nb1) (by rw [na]; exact nb2) hsw

theorem reduce_of_fuel (f : Form) (ha : 0 < f.a) (hd : f.disc < 0) (fuel : Nat)
    (hf : f.a.natAbs.log2 + 3 ≤ fuel) : IsReducedPD (f.reduce fuel) := by
  apply reduce_terminates (f.a.natAbs.log2 + 1) _ f ha hd
  · have := Nat.lt_log2_self (n := f.a.natAbs)
    have e : f.a = (f.a.natAbs : Int) := by omega
    rw [e]; exact_mod_cast this
  · omega

theorem reduceFuel_suffices (f : Form) (ha : 0 < f.a) (hd : f.disc < 0) : IsReducedPD (f.reduce (reduceFuel f)) :=
  reduce_of_fuel f ha hd _ (by unfold reduceFuel; omega)

theorem dvd_act {f : Form} {d : Int} (ha : d ∣ f.a) (hb : d ∣ f.b) (hc : d ∣ f.c) (p q r s : Int) :
    d ∣ (f.act p q r s).a ∧ d ∣ (f.act p q r s).b ∧ d ∣ (f.act p q r s).c := by
  simp only [Form.act]
  refine ⟨?_, ?_, ?_⟩
  · exact dvd_add (dvd_add ((ha.mul_right _).mul_right _) ((hb.mul_right _).mul_right _))
      ((hc.mul_right _).mul_right _)
  · exact dvd_add (dvd_add (((ha.mul_left 2).mul_right _).mul_right _) (hb.mul_right _))
      (((hc.mul_left 2).mul_right _).mul_right _)
  · exact dvd_add (dvd_add ((ha.mul_right _).mul_right _) ((hb.mul_right _).mul_right _))
      ((hc.mul_right _).mul_right _)

theorem pequiv_gcd3 {f g : Form} (h : PEquiv f g) (hf : gcd3 f.a f.b f.c = 1) : gcd3 g.a g.b g.c = 1 := by
  obtain ⟨p, q, r, s, _, hfg⟩ := h.symm
  obtain ⟨ha, hb, hc⟩ := gcd3_dvd g.a g.b g.c
  obtain ⟨h1, h2, h3⟩ := dvd_act ha hb hc p q r s
  rw [← hfg] at h1 h2 h3
  have : gcd3 g.a g.b g.c ∣ gcd3 f.a f.b f.c :=
    Nat.dvd_gcd (Nat.dvd_gcd (Int.natCast_dvd.1 h1) (Int.natCast_dvd.1 h2)) (Int.natCast_dvd.1 h3)
  rw [hf] at this
  exact Nat.dvd_one.1 this

theorem isReducedPrim_of_PD {f : Form} (h : IsReducedPD f) (hp : gcd3 f.a f.b f.c = 1) :
    IsReducedPrim f.disc f := by
  obtain ⟨h1, h2, h3, h4, h5⟩ := h
  refine ⟨rfl, h1, by omega, h4, ?_, hp⟩
  rintro (h | h)
  · omega
  · exact h5 h

end Ymq.ClassGroup
