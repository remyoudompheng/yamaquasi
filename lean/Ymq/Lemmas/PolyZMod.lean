/-
The residue operations the driver runs (`natOps n`) map to `ZMod n`: `natOps_hom` and `natOps_homE` (with soundness of the
specification inverse `PolySpec.invMod`: `invMod_sound`, `invMod_one`) specialise the ring-generic theorems of C10 to what the
driver runs; completeness of `==` is `natOps_eq_complete` here and the instance `natOps_homC` beside `HomC` in PolyBarrett.lean.
-/
import Ymq.Lemmas.PolyKaratsuba
import Ymq.Lemmas.PolySeries
import Mathlib.Data.ZMod.Basic

namespace Ymq.PolyMul
open Ymq.PolySpec

theorem natOps_hom (n : Nat) (hn : 0 < n) : Hom (natOps n) (Nat.cast : ℕ → ZMod n) where
  zero := by simp [natOps]
  one := by simp [natOps]
  add a b := by simp [natOps]
  sub a b := by
    simp only [natOps]
    rw [ZMod.natCast_mod, Nat.cast_sub (by have := Nat.mod_lt b hn; omega), Nat.cast_add,
      ZMod.natCast_mod, ZMod.natCast_self]
    ring
  mul a b := by simp [natOps]

theorem xgcdAux_inv (n : Nat) (x : ZMod n) : ∀ (f : Nat) (a b u v : Int),
    (a : ZMod n) = u * x → (b : ZMod n) = v * x →
    (((xgcdAux f a b u v).1 : Int) : ZMod n) = ((xgcdAux f a b u v).2 : Int) * x := by
  intro f
  induction f with
  | zero => intro a b u v ha _; simpa [xgcdAux] using ha
  | succ f ih =>
    intro a b u v ha hb
    unfold xgcdAux
    split_ifs with h0
    · simpa using ha
    · apply ih
      · exact hb
      · rw [Int.emod_def]
        push_cast
        rw [ha, hb]; ring

theorem invMod_sound (a n i : Nat) (hn : 0 < n) (h : invMod a n = some i) : (a : ZMod n) * (i : ZMod n) = 1 := by
  unfold invMod at h
  simp only at h
  split_ifs at h with h1
  simp only [Option.some.injEq] at h
  have hinv := xgcdAux_inv n (a : ZMod n) (2 * n.log2 + 4) ((a % n : Nat) : Int) (n : Int) 1 0
    (by push_cast; simp) (by simp)
  rw [h1] at hinv
  rw [← h]
  have hnn : ((xgcdAux (2 * n.log2 + 4) ((a % n : Nat) : Int) (n : Int) 1 0).2 % (n : Int)).toNat =
      (xgcdAux (2 * n.log2 + 4) ((a % n : Nat) : Int) (n : Int) 1 0).2 % (n : Int) :=
    Int.toNat_of_nonneg (Int.emod_nonneg _ (by omega))
  have : (((xgcdAux (2 * n.log2 + 4) ((a % n : Nat) : Int) (n : Int) 1 0).2 % (n : Int)).toNat : ZMod n) =
      (((xgcdAux (2 * n.log2 + 4) ((a % n : Nat) : Int) (n : Int) 1 0).2 : Int) : ZMod n) := by
    have := congrArg (fun z : Int => (z : ZMod n)) hnn
    simp only [Int.cast_natCast] at this
    rw [this]
    simp
  rw [this, mul_comm]
  simpa using hinv.symm

theorem natOps_homE (n : Nat) (hn : 0 < n) : HomE (natOps n) (Nat.cast : ℕ → ZMod n) where
  toHom := natOps_hom n hn
  eq_sound a b h := by
    have : a % n = b % n := by simpa [natOps] using h
    exact (ZMod.natCast_eq_natCast_iff' a b n).2 this
  inv_sound a i h := invMod_sound a n i hn h

theorem natOps_eq_complete (n : Nat) (a b : Nat) (h : ((a : ℕ) : ZMod n) = ((b : ℕ) : ZMod n)) :
    (natOps n).eq a b = true := by
  have : a % n = b % n := (ZMod.natCast_eq_natCast_iff' a b n).1 h
  simp [natOps, this]

theorem invMod_one (n : Nat) (hn : 1 < n) : invMod 1 n = some (1 % n) := by
  have h1 : (1 % n : Nat) = 1 := Nat.mod_eq_of_lt hn
  have hn0 : (n : Int) ≠ 0 := by omega
  have h2 : (1 : Int) % (n : Int) = 1 := Int.emod_eq_of_lt (by decide) (by omega)
  have hx : ∀ f, xgcdAux (f + 3) (1 : Int) (n : Int) 1 0 = (1, 1) := by
    intro f
    simp only [xgcdAux]
    rw [if_neg hn0, h2, if_neg (by decide), Int.emod_one, if_pos rfl]
    simp
  unfold invMod
  rw [h1, show 2 * n.log2 + 4 = (2 * n.log2 + 1) + 3 by omega]
  simp only [Nat.cast_one]
  rw [hx]
  simp only [if_true]
  rw [h2]; rfl

theorem natOps_inv_one (n : Nat) (hn : 1 < n) : ∃ i, (natOps n).inv (natOps n).one = some i :=
  ⟨1 % n, by
    show invMod (1 % n) n = some (1 % n)
    rw [Nat.mod_eq_of_lt hn, invMod_one n hn, Nat.mod_eq_of_lt hn]⟩

end Ymq.PolyMul
