/-
The whole-curve model (Model/EcmCurve.lean) over point operations that simulate an additive commutative group
(`OpsSim`, Lemmas/ChainGroup.lean): what stage 1 reaches, what the baby and giant tables hold, that no table is
indexed outside. `grpSim`: in the group itself the operations are the group law.
-/
import Ymq.Model.EcmCurve
import Ymq.Lemmas.ChainGroup
import Ymq.Lemmas.Stage2Extract
import Ymq.Model.Stage2
import Mathlib.Algebra.BigOperators.Group.List.Basic
import Mathlib.Tactic.Ring
import Mathlib.Tactic.Abel

namespace Ymq.EcmCurve
open Ymq.Chain

section Group
variable {G : Type} [AddCommGroup G]

/-- the point operations of `Curve` read in a group: both coordinate systems are the group, doubling is `x + x` -/
def grpOps : Ops G G where
  zero := 0
  toExt := id
  toProj := id
  double := dbl
  dblext := dbl
  addext := fun a b => a + b
  addp := fun a b => a + b
  subp := fun a b => a - b

theorem grpSim : OpsSim (grpOps : Ops G G) Eq Eq where
  zero := rfl
  toExt := id
  toProj := id
  double := fun h => h ▸ rfl
  dblext := fun h => h ▸ rfl
  addext := fun h1 h2 => h1 ▸ h2 ▸ rfl
  addp := fun h1 h2 => h1 ▸ h2 ▸ rfl
  subp := fun h1 h2 => h1 ▸ h2 ▸ rfl

theorem gapsSim_of_gapsOk {gaps : List G} {P : G} {m : Int} (hg : GapsOk gaps P m) : GapsSim Eq gaps P m :=
  fun i h1 h2 h3 => ⟨_, hg i h1 h2 h3, rfl⟩

theorem gapsOk_mkGaps (P : G) (cnt : Nat) :
    GapsOk (mkGaps (fun a b => a + b) (dbl P) cnt (id P)) P (2 * (cnt : Int) - 1) := by
  intro i h1 h2 h3
  obtain ⟨e, e1, rfl⟩ := gapsSim_mkGaps (grpSim (G := G)) (rfl : P = P) cnt i h1 h2 h3
  exact e1

theorem grp_mul64 (k : Nat) (hk : k < 2 ^ 64) (P : G) : (grpOps : Ops G G).mul64 k P = some (k • P) := by
  obtain ⟨q, e, rfl⟩ := mul64_sim (grpSim (G := G)) k hk (rfl : P = P)
  exact e

theorem grp_mul1024 (k : Nat) (hk : k < 2 ^ 1024) (P : G) : (grpOps : Ops G G).mul1024 k P = some (k • P) := by
  obtain ⟨q, e, rfl⟩ := mul1024_sim (grpSim (G := G)) k hk (rfl : P = P)
  exact e

theorem eq_of_forall₂_eq {α : Type} {r l : List α} (h : List.Forall₂ Eq r l) : r = l := by
  rwa [List.forall₂_eq_eq_eq] at h

end Group

section Sim
variable {P E G X : Type} [AddCommGroup G] {o : Ops P E} {RP : P → G → Prop} {RE : E → G → Prop}

theorem mulBlock_sim (mul : Nat → P → Option P) (B : Nat)
    (hmul : ∀ k, k < B → ∀ p x, RP p x → ∃ q, mul k p = some q ∧ RP q (k • x)) (xOf : P → X) :
    ∀ (fs : List Nat) (g : P) (x : G), RP g x → (∀ f ∈ fs, f < B) →
      ∃ g' xs, mulBlock mul xOf fs g = some (g', xs) ∧ RP g' (fs.prod • x)
  | [], g, x, hg, _ => ⟨g, [], rfl, by simpa using hg⟩
  | f :: fs, g, x, hg, h => by
    obtain ⟨q, e, hq⟩ := hmul f (h f List.mem_cons_self) g x hg
    obtain ⟨g', xs, e', hg'⟩ := mulBlock_sim mul B hmul xOf fs q _ hq (fun y hy => h y (List.mem_cons_of_mem _ hy))
    exact ⟨g', xOf q :: xs, by simp [mulBlock, e, e'], by rwa [List.prod_cons, mul_nsmul]⟩

theorem chunksAux_flatten {α : Type} (k : Nat) (hk : 0 < k) : ∀ (f : Nat) (l : List α), l.length ≤ f →
    (chunksAux k f l).flatten = l ∧ ∀ c ∈ chunksAux k f l, c ≠ [] ∧ c.length ≤ k
  | 0, l, h => by
    have : l = [] := List.eq_nil_of_length_eq_zero (by omega)
    subst this; simp [chunksAux]
  | f + 1, l, h => by
    unfold chunksAux
    by_cases hl : l.isEmpty
    · have : l = [] := List.isEmpty_iff.mp hl
      subst this; simp
    · simp only [hl, Bool.false_eq_true, if_false]
      have hne : l ≠ [] := fun h0 => hl (by simp [h0])
      have hpos : 0 < l.length := List.length_pos_iff.mpr hne
      obtain ⟨ih1, ih2⟩ := chunksAux_flatten k hk f (l.drop k) (by simp; omega)
      refine ⟨by simp [ih1], ?_⟩
      intro c hc
      rcases List.mem_cons.mp hc with rfl | hc
      · refine ⟨?_, by simp⟩
        intro h0
        rcases List.take_eq_nil_iff.mp h0 with h | h
        · omega
        · exact hne h
      · exact ih2 c hc

theorem chunks_flatten {α : Type} (k : Nat) (hk : 0 < k) (l : List α) : (chunks k l).flatten = l :=
  (chunksAux_flatten k hk l.length l (le_refl _)).1

theorem mem_of_mem_chunks {α : Type} {k : Nat} (hk : 0 < k) {l b : List α} (hb : b ∈ chunks k l) {f : α}
    (hf : f ∈ b) : f ∈ l := by
  rw [← chunks_flatten k hk l]
  exact List.mem_flatten.mpr ⟨b, hb, hf⟩

/-- "if the part goes on, it goes on with `g`" -/
def GoesTo {α : Type} (s : Step α) (g : α) : Prop :=
  match s with
  | .go v => v = g
  | _ => True

/-- "the part does not panic" (`checked_noPanic`: a part panics only where `check_gcd_factor` does) -/
def NoPanic {α : Type} (s : Step α) : Prop :=
  match s with
  | .panic => False
  | _ => True

/-- `check_gcd_factor` returns normally, and never the factor 0 -/
def CheckTotal {X : Type} (check : List X → Option (Option Nat)) : Prop :=
  ∀ xs, check xs ≠ none ∧ check xs ≠ some (some 0)

/-- "if the part goes on, it goes on with a value satisfying `I`" -/
def GoesWith {α : Type} (s : Step α) (I : α → Prop) : Prop :=
  match s with
  | .go v => I v
  | _ => True

theorem goesTo_iff {α : Type} (s : Step α) (g : α) : GoesTo s g ↔ GoesWith s (· = g) := by
  cases s <;> exact Iff.rfl

theorem checked_goesWith {α : Type} (n : Nat) (check : List X → Option (Option Nat)) (xs : List X) (k : Step α)
    (I : α → Prop) (h : GoesWith k I) : GoesWith (checked n check xs k) I := by
  unfold checked
  split
  · trivial
  · split <;> trivial
  · exact h

theorem checked_noPanic {α X : Type} (n : Nat) (check : List X → Option (Option Nat)) (hc : CheckTotal check)
    (xs : List X) (k : Step α) (h : NoPanic k) : NoPanic (checked n check xs k) := by
  unfold checked
  split
  · rename_i h0; exact absurd h0 (hc xs).1
  · rename_i d h0
    split
    · rename_i hd; subst hd; exact absurd h0 (hc xs).2
    · trivial
  · exact h

theorem stage1Blocks_sim (hs : OpsSim o RP RE) (n : Nat) (xOf : P → X) (check : List X → Option (Option Nat)) :
    ∀ (blocks : List (List Nat)) (g : P) (x : G) (lastx : X), RP g x → (∀ b ∈ blocks, ∀ f ∈ b, f < 2 ^ 64) →
    GoesWith (stage1Blocks n o.mul64 xOf check blocks g lastx) (RP · (blocks.flatten.prod • x)) ∧
    (CheckTotal check → NoPanic (stage1Blocks n o.mul64 xOf check blocks g lastx))
  | [], g, x, _, hg, _ => ⟨by simpa [stage1Blocks, GoesWith] using hg, fun _ => trivial⟩
  | blk :: rest, g, x, lastx, hg, h => by
    obtain ⟨g', xs, e, hg'⟩ := mulBlock_sim o.mul64 (2 ^ 64) (fun k hk p x hp => mul64_sim hs k hk hp) xOf blk g x hg
      (h blk List.mem_cons_self)
    obtain ⟨ih1, ih2⟩ := stage1Blocks_sim hs n xOf check rest g' _ (xOf g') hg'
      (fun b hb => h b (List.mem_cons_of_mem _ hb))
    simp only [stage1Blocks, e]
    refine ⟨checked_goesWith n check _ _ _ ?_, fun hc => checked_noPanic n check hc _ _ (ih2 hc)⟩
    rwa [List.flatten_cons, List.prod_append, mul_nsmul]

/-- Stage 1, whatever `check_gcd_factor` answers and whatever coordinate it is shown: if it goes on to stage 2 it does
so with a point standing for `[∏ factors · ∏ larges] x`; it panics only if `check_gcd_factor` does (or returns the
factor 0). -/
theorem stage1_sim (hs : OpsSim o RP RE) (n : Nat) (xOf : P → X) (one : X) (check : List X → Option (Option Nat))
    (factors larges : List Nat) (hf : ∀ f ∈ factors, f < 2 ^ 64) (hl : ∀ f ∈ larges, f < 2 ^ 1024) {g : P} {x : G}
    (hg : RP g x) :
    GoesWith (stage1 o n xOf one check factors larges g) (RP · ((factors.prod * larges.prod) • x)) ∧
    (CheckTotal check → NoPanic (stage1 o n xOf one check factors larges g)) := by
  obtain ⟨h1, h2⟩ := stage1Blocks_sim hs n xOf check (chunks gcdInterval factors) g x one hg
    fun b hb f hfb => hf f (mem_of_mem_chunks (by decide) hb hfb)
  rw [chunks_flatten gcdInterval (by decide)] at h1
  unfold stage1
  cases hst : stage1Blocks n o.mul64 xOf check (chunks gcdInterval factors) g one with
  | panic => exact ⟨trivial, fun hc => by have := h2 hc; rwa [hst] at this⟩
  | ret r => exact ⟨trivial, fun _ => trivial⟩
  | go g1 =>
    rw [hst] at h1
    obtain ⟨g2, xs, e, hg2⟩ := mulBlock_sim o.mul1024 (2 ^ 1024) (fun k hk p x hp => mul1024_sim hs k hk hp) xOf
      larges g1 _ h1 hl
    simp only [e]
    refine ⟨checked_goesWith n check _ _ _ ?_, fun hc => checked_noPanic n check hc _ _ trivial⟩
    show RP g2 _
    rwa [mul_nsmul]

theorem stage1Point_sim (hs : OpsSim o RP RE) (factors larges : List Nat) (hf : ∀ f ∈ factors, f < 2 ^ 64)
    (hl : ∀ f ∈ larges, f < 2 ^ 1024) {g : P} {x : G} (hg : RP g x) :
    ∃ q, stage1Point o factors larges g = some q ∧ RP q ((factors.prod * larges.prod) • x) := by
  obtain ⟨g1, xs, e, h1⟩ := mulBlock_sim o.mul64 (2 ^ 64) (fun k hk p x hp => mul64_sim hs k hk hp) (fun _ => ())
    factors g x hg hf
  obtain ⟨g2, ys, e', h2⟩ := mulBlock_sim o.mul1024 (2 ^ 1024) (fun k hk p x hp => mul1024_sim hs k hk hp)
    (fun _ => ()) larges g1 _ h1 hl
  exact ⟨g2, by simp only [stage1Point, e, e', Option.map_some], by rwa [mul_nsmul]⟩

/-- `gaps[k]` stands for `(2k + 2) y` -/
def GapsEven (RE : E → G → Prop) (gaps : List E) (y : G) : Prop :=
  ∀ k (h : k < gaps.length), RE gaps[k] ((2 * k + 2) • y)

/-- the table `[2y, 4y]` the baby steps start from -/
theorem gapsEven_pair {a b : E} {y : G} (ha : RE a (y + y)) (hb : RE b (y + y + (y + y))) : GapsEven RE [a, b] y := by
  intro k hk
  simp only [List.length_cons, List.length_nil] at hk
  have : k = 0 ∨ k = 1 := by omega
  rcases this with rfl | rfl
  · rwa [Nat.mul_zero, Nat.zero_add, two_nsmul]
  · rwa [show 2 * 1 + 2 = 2 + 2 from rfl, add_nsmul, two_nsmul]

theorem growGaps_sim (hs : OpsSim o RP RE) (y : G) : ∀ (f : Nat) (gaps : List E) (tgt : Nat),
    GapsEven RE gaps y → 1 ≤ gaps.length → tgt + 1 ≤ f + gaps.length → 1 ≤ f →
    ∃ gaps', growGaps o.addext f gaps tgt = some gaps' ∧ GapsEven RE gaps' y ∧ 1 ≤ gaps'.length ∧
      tgt ≤ gaps'.length
  | 0, gaps, tgt, _, _, h, hf => by omega
  | f + 1, gaps, tgt, hg, h1, h, _ => by
    unfold growGaps
    by_cases hlt : gaps.length < tgt
    · simp only [hlt, if_true]
      have hne : gaps ≠ [] := List.ne_nil_of_length_pos (by omega)
      rw [List.head?_eq_some_head hne, List.getLast?_eq_some_getLast hne]
      simp only
      apply growGaps_sim hs y f (gaps ++ [o.addext (gaps.head hne) (gaps.getLast hne)]) tgt
      · intro k hk
        rw [List.length_append, List.length_singleton] at hk
        by_cases hk2 : k < gaps.length
        · rw [List.getElem_append_left hk2]; exact hg k hk2
        · have hk3 : k = gaps.length := by omega
          subst hk3
          rw [List.getElem_append_right (le_refl _)]
          simp only [Nat.sub_self, List.getElem_singleton]
          have := hs.addext (hg 0 (by omega)) (hg (gaps.length - 1) (by omega))
          rw [← add_nsmul, ← List.head_eq_getElem, ← List.getLast_eq_getElem] at this
          rwa [show 2 * gaps.length + 2 = 2 * 0 + 2 + (2 * (gaps.length - 1) + 2) by omega]
      · simp
      · simp; omega
      · omega
    · simp only [hlt, if_false]
      exact ⟨gaps, rfl, hg, h1, by omega⟩

/-- The walk over the baby indices: the step pushed for `b` stands for `b y`; `b - bexp` and `gap / 2 - 1` do not
underflow and `gaps` is not indexed outside. -/
theorem babyLoop_sim (hs : OpsSim o RP RE) (y : G) : ∀ (bs : List Nat) (bexp : Nat) (bg : E) (gaps : List E),
    bexp % 2 = 1 → (∀ b ∈ bs, b % 2 = 1) → bs.Pairwise (· < ·) → (∀ b ∈ bs, bexp < b) → RE bg (bexp • y) →
    GapsEven RE gaps y → 1 ≤ gaps.length →
    ∃ r, babyLoop o bs bexp bg gaps = some r ∧ List.Forall₂ RP r (bs.map (· • y))
  | [], _, _, _, _, _, _, _, _, _, _ => ⟨[], rfl, .nil⟩
  | b :: bs, bexp, bg, gaps, ho, hodd, hpw, hgt, hbg, hg, h1 => by
    have hb : bexp < b := hgt b List.mem_cons_self
    have hbo : b % 2 = 1 := hodd b List.mem_cons_self
    obtain ⟨gaps', e1, hg', h1', hlen⟩ := growGaps_sim hs y ((b - bexp) / 2 + 1) gaps ((b - bexp) / 2) hg h1
      (by omega) (by omega)
    have hidx : (b - bexp) / 2 - 1 < gaps'.length := by omega
    have hnew : RE (o.addext bg gaps'[(b - bexp) / 2 - 1]) (b • y) := by
      have := hs.addext hbg (hg' _ hidx)
      rwa [← add_nsmul, show bexp + (2 * ((b - bexp) / 2 - 1) + 2) = b by omega] at this
    obtain ⟨r, e2, hr⟩ := babyLoop_sim hs y bs b _ gaps' hbo (fun x hx => hodd x (List.mem_cons_of_mem _ hx))
      (List.Pairwise.of_cons hpw) (fun x hx => List.rel_of_pairwise_cons hpw hx) hnew hg' h1'
    unfold babyLoop
    have hnlt : ¬ b < bexp := by omega
    have hne : ¬ (b - bexp) / 2 = 0 := by omega
    simp only [hnlt, if_false, hne, e1, List.getElem?_eq_getElem hidx, e2]
    exact ⟨_, rfl, .cons (hs.toProj hnew) hr⟩

theorem babyIdx_mem {d1 b : Nat} : b ∈ babyIdx d1 ↔ 1 ≤ b ∧ b < d1 / 2 ∧ Nat.gcd b d1 = 1 := by
  unfold babyIdx
  simp only [List.mem_filter, List.mem_range, Bool.and_eq_true, decide_eq_true_eq, beq_iff_eq]
  tauto

theorem babyIdx_sorted (d1 : Nat) : (babyIdx d1).Pairwise (· < ·) := by
  unfold babyIdx
  exact List.Pairwise.filter _ List.pairwise_lt_range

/-- For an even `d1 ≥ 4` the baby indices start with 1; the others are odd (coprime to `d1`), increasing and
above 1: the hypotheses of the walk `babyLoop`. -/
theorem babyIdx_cons {d1 : Nat} (hev : 2 ∣ d1) (h4 : 4 ≤ d1) :
    ∃ rest, babyIdx d1 = 1 :: rest ∧ (∀ b ∈ rest, b % 2 = 1) ∧ rest.Pairwise (· < ·) ∧ ∀ b ∈ rest, 1 < b := by
  have hs := babyIdx_sorted d1
  have hodd : ∀ b ∈ babyIdx d1, b % 2 = 1 := by
    intro b hb
    have hg := (babyIdx_mem.mp hb).2.2
    by_contra hcon
    have : 2 ∣ Nat.gcd b d1 := Nat.dvd_gcd (by omega) hev
    rw [hg] at this; omega
  have hmem : 1 ∈ babyIdx d1 := babyIdx_mem.mpr ⟨le_refl _, by omega, by simp⟩
  cases hb : babyIdx d1 with
  | nil => rw [hb] at hmem; simp at hmem
  | cons b0 rest =>
    rw [hb] at hs hmem hodd
    have hb1 : 1 ≤ b0 := by have := hodd b0 List.mem_cons_self; omega
    have h1 : b0 = 1 := by
      rcases List.mem_cons.mp hmem with h1 | h1
      · exact h1.symm
      · have := List.rel_of_pairwise_cons hs h1
        omega
    subst h1
    exact ⟨rest, rfl, fun b hb => hodd b (List.mem_cons_of_mem _ hb), List.Pairwise.of_cons hs,
      fun x hx => List.rel_of_pairwise_cons hs hx⟩

/-- The baby table for an even `d1 ≥ 4`, from `g`, its extended form `bg` and a table `gaps` of even multiples: the walk
returns, and with `g` in front the steps stand for `b y`, for exactly the `b` of `babyIdx d1`, in order. -/
theorem babyTable_sim (hs : OpsSim o RP RE) {g : P} {y : G} (hg : RP g y) {bg : E} (hbg : RE bg y) {gaps : List E}
    (hgaps : GapsEven RE gaps y) (h1 : 1 ≤ gaps.length) {d1 : Nat} (hev : 2 ∣ d1) (h4 : 4 ≤ d1) :
    ∃ rest r, babyIdx d1 = 1 :: rest ∧ babyLoop o rest 1 bg gaps = some r ∧
      List.Forall₂ RP (g :: r) ((1 :: rest).map (· • y)) := by
  obtain ⟨rest, hr, hodd, hsrt, hgt⟩ := babyIdx_cons hev h4
  obtain ⟨r, e, hr2⟩ := babyLoop_sim hs y rest 1 bg gaps (by decide) hodd hsrt hgt (by rwa [one_nsmul]) hgaps h1
  exact ⟨rest, r, hr, e, .cons (by show RP g (1 • y); rwa [one_nsmul]) hr2⟩

theorem babySteps_sim (hs : OpsSim o RP RE) {g : P} {y : G} (hg : RP g y) {d1 : Nat} (hev : 2 ∣ d1) (h4 : 4 ≤ d1) :
    ∃ r, babySteps o d1 g = some r ∧ List.Forall₂ RP r ((babyIdx d1).map (· • y)) := by
  obtain ⟨rest, r, hr, e, h⟩ := babyTable_sim hs hg (hs.toExt hg)
    (gapsEven_pair (hs.toExt (hs.double hg)) (hs.toExt (hs.double (hs.double hg)))) (by simp) hev h4
  unfold babySteps
  rw [hr]
  simp only [ne_eq, not_true_eq_false, if_false, e, Option.map_some]
  exact ⟨_, rfl, h⟩

theorem giantLoop_sim (hs : OpsSim o RP RE) {dgext : E} {y : G} {d1 : Nat} (hd : RE dgext (d1 • y)) :
    ∀ (k j : Nat) (gg : E), RE gg ((j * d1) • y) →
      List.Forall₂ RP (giantLoop o dgext k gg) ((List.range' (j + 1) k).map (fun i => (i * d1) • y))
  | 0, _, _, _ => .nil
  | k + 1, j, gg, h => by
    have hn : RE (o.addext gg dgext) (((j + 1) * d1) • y) := by
      have := hs.addext h hd
      rwa [← add_nsmul, ← Nat.succ_mul] at this
    exact .cons (hs.toProj hn) (giantLoop_sim hs hd k (j + 1) _ hn)

theorem giantIdx_eq (d2 : Nat) : giantIdx d2 = 1 :: 2 :: List.range' 3 (d2 - 2) := by
  rw [giantIdx, List.range'_eq_map_range]
  simp only [List.cons.injEq, true_and]
  exact List.map_congr_left fun t _ => Nat.add_comm _ _

/-- The giant steps: the table holds points standing for `[i d1] y` for exactly the `i` of `giantIdx d2`, in order: the
first two by chain multiplication and doubling, the others by extended additions. -/
theorem giantSteps_sim (hs : OpsSim o RP RE) {g : P} {y : G} (hg : RP g y) {d1 : Nat} (hd : d1 < 2 ^ 64) (d2 : Nat) :
    ∃ r, giantSteps o d1 d2 g = some r ∧ List.Forall₂ RP r ((giantIdx d2).map (fun i => (i * d1) • y)) := by
  obtain ⟨dg, e, hdg⟩ := mul64_sim hs d1 hd hg
  have h2 : RP (o.double dg) ((2 * d1) • y) := by rw [two_mul, add_nsmul]; exact hs.double hdg
  unfold giantSteps
  rw [e, giantIdx_eq]
  exact ⟨_, rfl, .cons (by show RP dg ((1 * d1) • y); rwa [one_mul])
    (.cons h2 (giantLoop_sim hs (hs.toExt hdg) _ 2 _ (hs.toExt h2)))⟩

theorem giantIdx_mem {d2 i : Nat} (h2 : 2 ≤ d2) : i ∈ giantIdx d2 ↔ 1 ≤ i ∧ i ≤ d2 := by
  unfold giantIdx
  simp only [List.mem_cons, List.mem_map, List.mem_range]
  constructor
  · rintro (h | h | ⟨t, ht, rfl⟩) <;> omega
  · intro ⟨h1, h3⟩
    by_cases hi1 : i = 1
    · exact Or.inl hi1
    · by_cases hi2 : i = 2
      · exact Or.inr (Or.inl hi2)
      · exact Or.inr (Or.inr ⟨i - 3, by omega, by omega⟩)

/-- For the loop constants `(1, 2)` / `(1, 2, 2)` that the translator reads from the source (`Stage2Arms.ecmBaby`,
`ecmGiant` and the `ecm128` ones), `babyIdx` and `giantIdx` are the index sets of the grid predicates of Model/Stage2:
`1 ≤ b < d1/2` coprime to `d1`, and the closed range `[1, d2]`. -/
theorem index_sets {baby : Nat × Nat} {giant : Nat × Nat × Nat} (hb : baby = (1, 2)) (hg : giant = (1, 2, 2))
    (d1 d2 : Nat) (h2 : 2 ≤ d2) :
    (∀ b, b ∈ babyIdx d1 ↔ Ymq.Stage2.isEcmBabyOf baby d1 b = true) ∧
    (∀ i, i ∈ giantIdx d2 ↔ Ymq.Stage2.isGiant giant d2 i = true) ∧
    (giantIdx d2).length = Ymq.Stage2.giantCount giant d2 ∧
    (∀ i, i ∈ giantIdx d2 ↔ 1 ≤ i ∧ i ≤ d2) := by
  subst hb hg
  refine ⟨fun b => ?_, fun i => ?_, ?_, fun i => giantIdx_mem h2⟩
  · rw [babyIdx_mem]
    simp [Ymq.Stage2.isEcmBabyOf, and_assoc]
  · rw [giantIdx_mem h2, Ymq.Stage2.isGiant, Bool.and_eq_true, decide_eq_true_iff, decide_eq_true_iff]
    show 1 ≤ i ∧ i ≤ d2 ↔ 1 ≤ i ∧ i < 1 + (2 + (d2 - 2))
    omega
  · simp [giantIdx, Ymq.Stage2.giantCount]
    omega

end Sim

section Ring
variable {X : Type} [CommRing X]

theorem rowProd_zero (pgy : X) : ∀ (bys : List X), rowProd (· * ·) (· - ·) pgy bys 0 = 0
  | [] => rfl
  | b :: t => by simp only [rowProd, zero_mul]; exact rowProd_zero pgy t

theorem rowProd_hit (pgy : X) : ∀ (bys : List X) (buf : X), pgy ∈ bys → rowProd (· * ·) (· - ·) pgy bys buf = 0
  | [], _, h => by simp at h
  | b :: t, buf, h => by
    simp only [rowProd]
    rcases List.mem_cons.mp h with rfl | h
    · rw [sub_self, mul_zero]; exact rowProd_zero _ t
    · exact rowProd_hit pgy t _ h

theorem prodRows_zero (bys : List X) : ∀ (gys : List X) (v : X), v ∈ prodRows (· * ·) (· - ·) bys gys 0 → v = 0
  | [], _, h => by simp [prodRows] at h
  | g :: t, v, h => by
    simp only [prodRows, rowProd_zero] at h
    rcases List.mem_cons.mp h with rfl | h
    · rfl
    · exact prodRows_zero bys t v h

/-- once a giant step has the `y` of a baby step, that row's product and every later one is 0 -/
theorem prodRows_hit (bys : List X) : ∀ (gys : List X) (buf : X) (k : Nat) (gy : X), gys[k]? = some gy → gy ∈ bys →
    ∀ j, k ≤ j → ∀ v, (prodRows (· * ·) (· - ·) bys gys buf)[j]? = some v → v = 0
  | [], _, _, _, h, _, _, _, _, _ => by simp at h
  | g :: t, buf, 0, gy, h, hmem, j, _, v, hv => by
    simp only [List.getElem?_cons_zero, Option.some.injEq] at h
    subst h
    simp only [prodRows, rowProd_hit g bys buf hmem] at hv
    cases j with
    | zero => simp at hv; exact hv.symm
    | succ j =>
      simp only [List.getElem?_cons_succ] at hv
      exact prodRows_zero bys t v (List.mem_of_getElem? hv)
  | g :: t, buf, k + 1, gy, h, hmem, j, hj, v, hv => by
    simp only [List.getElem?_cons_succ] at h
    cases j with
    | zero => omega
    | succ j =>
      simp only [prodRows, List.getElem?_cons_succ] at hv
      exact prodRows_hit bys t _ k gy h hmem j (by omega) v hv

theorem prodRows_length (bys : List X) : ∀ (gys : List X) (buf : X),
    (prodRows (· * ·) (· - ·) bys gys buf).length = gys.length
  | [], _ => rfl
  | g :: t, buf => by simp [prodRows, prodRows_length bys t]

end Ring

theorem ynorm_length {F : Type} [CommRing F] (steps : List (F × F)) :
    (Ymq.ExpModn.ynorm (· * ·) steps).length = steps.length := by
  rw [Ymq.ExpModn.ynorm_eq_spec]
  generalize (1 : F) = u
  induction steps generalizing u with
  | nil => rfl
  | cons a t ih => obtain ⟨y, z⟩ := a; simp [Ymq.ExpModn.ynSpec, ih]

end Ymq.EcmCurve
