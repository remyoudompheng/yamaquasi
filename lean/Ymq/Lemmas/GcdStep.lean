/- One iteration of `gcd_internal`, function by function, in the form the properties are read off:
`gcdStep` as a case distinction without hypotheses (it checks itself that the operands are `BUint<N>`
values: `top64_some_le`), the quotient step in closed form, and the Lehmer step on its domain, where
`reduce64` and both `dot_product`s return and their values are known. -/
import Ymq.Lemmas.GcdRow2
import Ymq.Lemmas.GcdEgcd2

namespace Ymq.Gcd

theorem castB_eq {N q : Nat} (h : q < M N / 2) : castB N q = (q : Int) := by
  unfold castB; rw [if_pos h]

theorem negIf_some {N : Nat} {neg : Bool} {z r : Int}
    (h : (if neg = true then chkB N (-z) else some z) = some r) : r = if neg then -z else z := by
  cases neg
  · simp at h; simp [h]
  · simp at h; simp [(chkB_some h).1]

theorem lt_of_bits_lt_64 {x : Nat} (h : bits x < 64) : x < 9223372036854775808 := by
  have h1 := lt_two_pow_bits x
  have h2 : 2 ^ bits x ≤ 2 ^ 63 := Nat.pow_le_pow_right (by decide) (by omega)
  have : (2 : Nat) ^ 63 = 9223372036854775808 := by norm_num
  omega

theorem bits_mono {x y : Nat} (h : y ≤ x) : bits y ≤ bits x :=
  bits_le_of_lt (Nat.lt_of_le_of_lt h (lt_two_pow_bits x))

theorem swapSt_facts (s0 : St) : (swapSt s0).y ≤ (swapSt s0).x ∧
    (swapSt s0).x * (swapSt s0).y = s0.x * s0.y ∧
    (∀ B, s0.x < B → s0.y < B → (swapSt s0).x < B ∧ (swapSt s0).y < B) := by
  unfold swapSt
  split
  · rename_i h; exact ⟨h, Nat.mul_comm _ _, fun B h1 h2 => ⟨h2, h1⟩⟩
  · rename_i h; exact ⟨by omega, rfl, fun B h1 h2 => ⟨h1, h2⟩⟩

theorem top_facts {N x y : Nat} (hyx : y ≤ x) (h64 : 64 ≤ bits x) (hN : bits x ≤ 64 * N) :
    ∃ xtop ytop xl yl, top64 (toDigits N x) (bits x) = some xtop ∧
      top64 (toDigits N y) (bits x) = some ytop ∧
      x = xtop * 2 ^ (bits x - 64) + xl ∧ y = ytop * 2 ^ (bits x - 64) + yl ∧
      xl < 2 ^ (bits x - 64) ∧ yl < 2 ^ (bits x - 64) ∧ xtop < W ∧ 2 ^ 63 ≤ xtop ∧ ytop ≤ xtop := by
  have hx0 : x ≠ 0 := by intro h0; rw [h0] at h64; simp [bits] at h64
  have hlt := lt_two_pow_bits x
  have hge := two_pow_le_of_bits hx0
  generalize hl : bits x = l at *
  have hkp : 0 < 2 ^ (l - 64) := Nat.pow_pos (by decide)
  have e1 : 2 ^ l = 2 ^ 64 * 2 ^ (l - 64) := by rw [← Nat.pow_add]; congr 1; omega
  have e2 : 2 ^ (l - 1) = 2 ^ 63 * 2 ^ (l - 64) := by rw [← Nat.pow_add]; congr 1; omega
  have hxt : x / 2 ^ (l - 64) < W := by
    rw [Nat.div_lt_iff_lt_mul hkp, W_eq, ← e1]; exact hlt
  have hyt : y / 2 ^ (l - 64) ≤ x / 2 ^ (l - 64) := Nat.div_le_div_right hyx
  refine ⟨x / 2 ^ (l - 64), y / 2 ^ (l - 64), x % 2 ^ (l - 64), y % 2 ^ (l - 64), ?_, ?_, ?_, ?_,
    Nat.mod_lt _ hkp, Nat.mod_lt _ hkp, hxt, ?_, hyt⟩
  · rw [top64_toDigits N x l h64 hN, Nat.mod_eq_of_lt hxt]
  · rw [top64_toDigits N y l h64 hN, Nat.mod_eq_of_lt (Nat.lt_of_le_of_lt hyt hxt)]
  · rw [Nat.mul_comm]; exact (Nat.div_add_mod x _).symm
  · rw [Nat.mul_comm]; exact (Nat.div_add_mod y _).symm
  · rw [Nat.le_div_iff_mul_le hkp, ← e2]; exact hge

theorem asI64_mod {x : Nat} (h : bits x < 64) : asI64 (x % W) = (x : Int) := by
  have hx := lt_of_bits_lt_64 h
  rw [Nat.mod_eq_of_lt (by unfold W; omega), asI64_small hx]

theorem lt_M_of_bits {N x : Nat} (h : bits x ≤ 64 * N) : x < M N :=
  Nat.lt_of_lt_of_le (lt_two_pow_bits x) (Nat.pow_le_pow_right (by decide) h)

/-- the `<64`-bit exit of `gcdStep`, on operands below `2^63` -/
def smallExit (K : Nat) (ext : Bool) (s : St) : Option Step :=
  if ext then
    match egcdI64 s.x s.y with
    | none => none
    | some (g, ex, ey) =>
      match lin2 K ex s.A ey s.C, lin2 K ex s.B ey s.D with
      | some u, some v => some (.ret (g % (W : Int)).toNat u v)
      | _, _ => none
  else some (.ret (Nat.gcd (s.x % W) (s.y % W)) 0 0)

theorem smallExit_ne_next {K : Nat} {ext : Bool} {s s' : St} : smallExit K ext s ≠ some (.next s') := by
  unfold smallExit
  cases ext
  · simp
  · simp only [if_true]
    split
    · simp
    · split <;> simp

theorem smallExit_noext (K : Nat) (s : St) :
    smallExit K false s = some (.ret (Nat.gcd (s.x % W) (s.y % W)) 0 0) := by
  simp [smallExit]

theorem smallExit_ext_eq {K : Nat} {s : St} {g ex ey u v : Int} (he : egcdI64 s.x s.y = some (g, ex, ey))
    (hu : lin2 K ex s.A ey s.C = some u) (hv : lin2 K ex s.B ey s.D = some v) :
    smallExit K true s = some (.ret (g % (W : Int)).toNat u v) := by
  unfold smallExit
  rw [if_pos rfl, he]
  simp only [hu, hv]

theorem smallExit_ext_ret {K : Nat} {s : St} {g ex ey u v : Int} {d : Nat}
    (he : egcdI64 s.x s.y = some (g, ex, ey)) (h : smallExit K true s = some (.ret d u v)) :
    d = (g % (W : Int)).toNat ∧ u = ex * s.A + ey * s.C ∧ v = ex * s.B + ey * s.D := by
  unfold smallExit at h
  rw [if_pos rfl, he] at h
  simp only at h
  split at h
  · rename_i u' v' hu hv
    simp at h; obtain ⟨rfl, rfl, rfl⟩ := h
    exact ⟨rfl, lin2_some hu, lin2_some hv⟩
  · simp at h

/-- the situation of a Lehmer step: `y <= x`, `x` of at least 64 bits and more than 36 bits below the
type width, the top words `xt`, `yt` (bits `[bits x - 64, bits x)` of `x` and `y`) split off, `yt >= 2^32` -/
structure Tops (N : Nat) (s : St) (xt yt xl yl : Nat) : Prop where
  hb : bits s.x + 36 < 64 * N
  h64 : 64 ≤ bits s.x
  hyx : s.y ≤ s.x
  ex : s.x = xt * 2 ^ (bits s.x - 64) + xl
  ey : s.y = yt * 2 ^ (bits s.x - 64) + yl
  hxl : xl < 2 ^ (bits s.x - 64)
  hyl : yl < 2 ^ (bits s.x - 64)
  hxtW : xt < W
  h63 : 2 ^ 63 ≤ xt
  hytx : yt ≤ xt
  h32 : 2 ^ 32 ≤ yt

/-- the ways through one iteration, for the state `s` after the swap: a zero operand, the `<64`-bit
exit, or — operands of at least 64 bits — a panic when `x` is not a `BUint<N>` value, a quotient
step, or a Lehmer step. Which way it goes does not depend on the cofactor width `K`. -/
theorem gcdStep_cases {N : Nat} {ext : Bool} {s0 s : St} (hs : swapSt s0 = s) :
    s.y ≤ s.x ∧
    ((s.x = 0 ∧ ∀ K, gcdStep N K ext s0 = some (.ret s.y s.C s.D)) ∨
    (s.x ≠ 0 ∧ s.y = 0 ∧ ∀ K, gcdStep N K ext s0 = some (.ret s.x s.A s.B)) ∨
    (s.x ≠ 0 ∧ s.y ≠ 0 ∧ s.x < 9223372036854775808 ∧ ∀ K, gcdStep N K ext s0 = smallExit K ext s) ∨
    (s.x ≠ 0 ∧ s.y ≠ 0 ∧
      (M N ≤ s.x ∧ (∀ K, gcdStep N K ext s0 = none) ∨
       s.x < M N ∧
       ((∀ K, gcdStep N K ext s0 = (fallbackStep N K ext s).map Step.next) ∨
        ∃ xt yt xl yl, Tops N s xt yt xl yl ∧
          ∀ K, gcdStep N K ext s0 = (lehmerStep N K ext s (bits s.x) xt yt).map Step.next)))) := by
  have hyx : s.y ≤ s.x := hs ▸ (swapSt_facts s0).1
  refine ⟨hyx, ?_⟩
  by_cases hlx : bits s.x = 0
  · exact Or.inl ⟨bits_eq_zero.1 hlx, fun K => by unfold gcdStep; simp only [hs]; rw [if_pos hlx]⟩
  have hx0 : s.x ≠ 0 := fun h0 => hlx (bits_eq_zero.2 h0)
  by_cases hly : bits s.y = 0
  · exact Or.inr (Or.inl ⟨hx0, bits_eq_zero.1 hly, fun K => by
      unfold gcdStep; simp only [hs]; rw [if_neg hlx, if_pos hly]⟩)
  have hy0 : s.y ≠ 0 := fun h0 => hly (bits_eq_zero.2 h0)
  by_cases hsm : bits s.x < 64 ∧ bits s.y < 64
  · exact Or.inr (Or.inr (Or.inl ⟨hx0, hy0, lt_of_bits_lt_64 hsm.1, fun K => by
      unfold gcdStep; simp only [hs]
      rw [if_neg hlx, if_neg hly, if_pos hsm, asI64_mod hsm.1, asI64_mod hsm.2]; rfl⟩))
  · have hbm := bits_mono hyx
    have h64 : 64 ≤ bits s.x := by omega
    have hbig : ∀ K, gcdStep N K ext s0 =
        match top64 (toDigits N s.x) (bits s.x), top64 (toDigits N s.y) (bits s.x) with
        | some xtop, some ytop =>
          if bits s.x + 36 ≥ N * 64 ∨ bits s.y + 36 ≥ N * 64 ∨ ytop < 2 ^ 32 then
            (fallbackStep N K ext s).map Step.next
          else (lehmerStep N K ext s (bits s.x) xtop ytop).map Step.next
        | _, _ => none := fun K => by
      unfold gcdStep; simp only [hs]
      rw [if_neg hlx, if_neg hly, if_neg hsm, Nat.max_eq_left hbm]
      rfl
    refine Or.inr (Or.inr (Or.inr ⟨hx0, hy0, ?_⟩))
    by_cases hN : bits s.x ≤ 64 * N
    · obtain ⟨xt, yt, xl, yl, t1, t2, ex, ey, hxl, hyl, hxtW, h63, hytx⟩ := top_facts (N := N) hyx h64 hN
      rw [t1, t2] at hbig
      refine Or.inr ⟨lt_M_of_bits hN, ?_⟩
      by_cases hc : bits s.x + 36 ≥ N * 64 ∨ bits s.y + 36 ≥ N * 64 ∨ yt < 2 ^ 32
      · exact Or.inl (fun K => by rw [hbig K]; simp only [if_pos hc])
      · exact Or.inr ⟨xt, yt, xl, yl, ⟨by omega, h64, hyx, ex, ey, hxl, hyl, hxtW, h63, hytx, by omega⟩,
          fun K => by rw [hbig K]; simp only [if_neg hc]⟩
    · refine Or.inl ⟨Nat.le_of_not_lt fun h => hN (bits_le_of_lt h), fun K => ?_⟩
      rw [hbig K]
      cases ht : top64 (toDigits N s.x) (bits s.x) with
      | none => rfl
      | some t => exact absurd (top64_some_le ht) hN

/-- the extended quotient step on a `BUint<N>` value `x` and `y > 0`: `q * y` fits, `q * y <= x` and
`r = x - q * y < y`, so only the `BInt<K>` operations on the cofactors can fail -/
theorem fallbackStep_ext_eq {N K : Nat} {s : St} (hy : 0 < s.y) (hxM : s.x < M N) :
    fallbackStep N K true s =
      if s.x % s.y * 2 % M N > s.y then
        match chkB K (castB N (s.x / s.y) + 1) with
        | none => none
        | some q1 =>
          match mulSub K q1 s.C s.A, mulSub K q1 s.D s.B with
          | some c, some d => some { A := s.C, B := s.D, C := c, D := d, x := s.y, y := s.y - s.x % s.y }
          | _, _ => none
      else
        match subMul K s.A (castB N (s.x / s.y)) s.C, subMul K s.B (castB N (s.x / s.y)) s.D with
        | some c, some d => some { A := s.C, B := s.D, C := c, D := d, x := s.y, y := s.x % s.y }
        | _, _ => none := by
  have hqy : s.x / s.y * s.y ≤ s.x := Nat.div_mul_le_self _ _
  have hr : s.x - s.x / s.y * s.y = s.x % s.y := by
    have := Nat.div_add_mod' s.x s.y; omega
  have hrlt : s.x % s.y < s.y := Nat.mod_lt _ hy
  unfold fallbackStep chkU
  simp only [if_true, if_pos (Nat.lt_of_le_of_lt hqy hxM), if_neg (Nat.not_lt.2 hqy), hr,
    if_neg (Nat.lt_asymm hrlt)]
  rfl

/-- the checked row operation of a quotient step with sign `e` -/
def qrow (K : Nat) (e k C A : Int) : Option Int := if e = 1 then mulSub K k C A else subMul K A k C

theorem qrow_some {K : Nat} {e k C A r : Int} (he : e = 1 ∨ e = -1) (h : qrow K e k C A = some r) :
    r = e * (k * C - A) := by
  unfold qrow at h
  rcases he with rfl | rfl
  · rw [if_pos rfl] at h; rw [mulSub_some h, one_mul]
  · rw [if_neg (by decide)] at h; rw [subMul_some h]; ring

/-- the extended quotient step in one form for both roundings (`x / y < 2^(64N-1)`: `cast_from` does not wrap) -/
theorem fallbackStep_nq {N K : Nat} {s : St} (hy : 0 < s.y) (hyx : s.y ≤ s.x) (hxM : s.x < M N)
    (hq : s.x / s.y < M N / 2) :
    ∃ e k y', NearQ s.x s.y e k y' ∧ fallbackStep N K true s =
      match (if e = 1 then chkB K k else some k), qrow K e k s.C s.A, qrow K e k s.D s.B with
      | some _, some c, some d => some { A := s.C, B := s.D, C := c, D := d, x := s.y, y := y' }
      | _, _, _ => none := by
  have h2r : s.x % s.y * 2 % M N = s.x % s.y * 2 := Nat.mod_eq_of_lt (by have := two_mod_le hy hyx; omega)
  rw [fallbackStep_ext_eq hy hxM, castB_eq hq, h2r]
  rcases nearQ_cases (x := s.x) hy with ⟨hr, nq⟩ | ⟨hr, nq⟩ <;> refine ⟨_, _, _, nq, ?_⟩
  · rw [if_pos (by omega)]
    unfold qrow
    simp only [if_true]
    cases hc : chkB K (((s.x / s.y : Nat) : Int) + 1) with
    | none => rfl
    | some q1 =>
      rw [(chkB_some hc).1]
      dsimp only
      cases mulSub K (((s.x / s.y : Nat) : Int) + 1) s.C s.A <;>
        cases mulSub K (((s.x / s.y : Nat) : Int) + 1) s.D s.B <;> rfl
  · rw [if_neg (by omega)]
    unfold qrow
    simp only [show ¬ ((-1 : Int) = 1) by decide, if_false]
    cases subMul K s.A ((s.x / s.y : Nat) : Int) s.C <;> cases subMul K s.B ((s.x / s.y : Nat) : Int) s.D <;> rfl

theorem fallbackStep_nq_some {K : Nat} {s s' : St} {e k : Int} {y' : Nat} (he : e = 1 ∨ e = -1)
    (h : (match (if e = 1 then chkB K k else some k), qrow K e k s.C s.A, qrow K e k s.D s.B with
      | some _, some c, some d => some ({ A := s.C, B := s.D, C := c, D := d, x := s.y, y := y' } : St)
      | _, _, _ => none) = some s') :
    s' = { A := s.C, B := s.D, C := e * (k * s.C - s.A), D := e * (k * s.D - s.B), x := s.y, y := y' } := by
  split at h
  · rename_i c d _ hc hd
    rw [← qrow_some he hc, ← qrow_some he hd]; simpa using h.symm
  · simp at h

/-- the value part of a quotient step, both variants: `(x, y) -> (y, r')` with `2 r' <= x`
(for `x < 2^(64N)` the doubled remainder does not wrap) -/
theorem fallbackStep_xy {N K : Nat} {ext : Bool} {s s' : St} (h : fallbackStep N K ext s = some s')
    (hy : 0 < s.y) (hyx : s.y ≤ s.x) (hxM : s.x < M N) :
    s'.x = s.y ∧ (s'.y = s.x % s.y ∨ (s.y < s.x % s.y * 2 ∧ s'.y = s.y - s.x % s.y)) := by
  have hmod := two_mod_le hy hyx
  have h2r : s.x % s.y * 2 % M N = s.x % s.y * 2 := Nat.mod_eq_of_lt (by omega)
  cases ext
  · simp [fallbackStep] at h; subst h; exact ⟨rfl, Or.inl rfl⟩
  · rw [fallbackStep_ext_eq hy hxM, h2r] at h
    split at h
    · rename_i hbr
      split at h
      · simp at h
      · split at h
        · simp at h; subst h; exact ⟨rfl, Or.inr ⟨hbr, rfl⟩⟩
        · simp at h
    · split at h
      · simp at h; subst h; exact ⟨rfl, Or.inl rfl⟩
      · simp at h

theorem opp_signs_of_small {a b x y : Int} (hy : 0 < y) (hyx : y ≤ x) (h0 : 0 ≤ a * x + b * y)
    (h1 : a * x + b * y ≤ y) : a * b ≤ 0 := by
  by_contra hpos
  have hx : 0 < x := lt_of_lt_of_le hy hyx
  rcases pos_and_pos_or_neg_and_neg_of_mul_pos (not_le.1 hpos) with ⟨ha, hb⟩ | ⟨ha, hb⟩
  · have h2 : x ≤ a * x := le_mul_of_one_le_left hx.le ha
    have h3 : y ≤ b * y := le_mul_of_one_le_left hy.le hb
    linarith
  · have h2 := mul_neg_of_neg_of_pos ha hx
    have h3 := mul_neg_of_neg_of_pos hb hy
    linarith

/-- a combination of two values in `[0, K)` with coefficients of opposite signs, both at most `E` in
absolute value: the two terms partly cancel, so the combination stays below `E * K` -/
theorem abs_dot_lt {a b E x y K : Int} (hab : a * b ≤ 0) (ha : |a| ≤ E) (hb : |b| ≤ E) (hE : 0 < E)
    (hx0 : 0 ≤ x) (hy0 : 0 ≤ y) (hx : x < K) (hy : y < K) : |a * x + b * y| < E * K := by
  rcases mul_nonpos_iff.1 hab with ⟨ha0, hb0⟩ | ⟨ha0, hb0⟩
  · rw [abs_of_nonneg ha0] at ha; rw [abs_of_nonpos hb0] at hb
    rw [show a * x + b * y = a * x - -b * y by ring]
    exact abs_sub_lt_of_nonneg_of_lt (mul_nonneg ha0 hx0) (mul_lt_mul' ha hx hx0 hE)
      (mul_nonneg (neg_nonneg.2 hb0) hy0) (mul_lt_mul' hb hy hy0 hE)
  · rw [abs_of_nonpos ha0] at ha; rw [abs_of_nonneg hb0] at hb
    rw [show a * x + b * y = b * y - -a * x by ring]
    exact abs_sub_lt_of_nonneg_of_lt (mul_nonneg hb0 hy0) (mul_lt_mul' hb hy hy0 hE)
      (mul_nonneg (neg_nonneg.2 ha0) hx0) (mul_lt_mul' ha hx hx0 hE)

/-- applying a row with entries of opposite signs, of size at most `E`, to the full operands: the
result is the reduced top value scaled by `K = 2^k`, up to an error below `E * K` -/
theorem dot_bound {a b E : Int} {T S xl yl K : Nat} {u : Nat} (hab : a * b ≤ 0)
    (ha : |a| ≤ E) (hb : |b| ≤ E) (hE : 0 < E) (hxl : xl < K) (hyl : yl < K)
    (hu : a * T + b * S = u) :
    |a * ((T * K + xl : Nat) : Int) + b * ((S * K + yl : Nat) : Int)| < ((u : Int) + E) * K := by
  have e : a * ((T * K + xl : Nat) : Int) + b * ((S * K + yl : Nat) : Int)
      = (u : Int) * K + (a * xl + b * yl) := by
    push_cast; rw [← hu]; ring
  have hr := abs_dot_lt hab ha hb hE (Int.natCast_nonneg xl) (Int.natCast_nonneg yl)
    (Int.ofNat_lt.2 hxl) (Int.ofNat_lt.2 hyl)
  have huK : |(u : Int) * K| = u * K := abs_of_nonneg (mul_nonneg (Int.natCast_nonneg _) (Int.natCast_nonneg _))
  calc |a * ((T * K + xl : Nat) : Int) + b * ((S * K + yl : Nat) : Int)|
      ≤ |(u : Int) * K| + |a * xl + b * yl| := e ▸ abs_add_le _ _
    _ < (u : Int) * K + E * K := by rw [huK]; exact Int.add_lt_add_left hr _
    _ = ((u : Int) + E) * K := (add_mul _ _ _).symm

/-- what `reduce64` guarantees its caller (`xt` with its top bit set, `xt >= yt >= 2^32`): the reduced
vector `(u, v)` with `u <= yt`, `2 v <= u`, rows with entries of opposite signs, each entry times `u` at
most twice the operand it does not multiply -/
structure Red (xt yt : Nat) (a b c d : Int) (u v : Nat) : Prop where
  ru : a * xt + b * yt = u
  rv : c * xt + d * yt = v
  huy : u ≤ yt
  hvu : 2 * v ≤ u
  h24 : 2 ^ 24 ≤ u
  ba : |a| < 2 ^ 36
  bb : |b| < 2 ^ 36
  bc : |c| < 2 ^ 36
  bd : |d| < 2 ^ 36
  hab : a * b ≤ 0
  hcd : c * d ≤ 0
  det : Unimod a b c d
  ka : |a| * u ≤ 2 * yt
  kc : |c| * u ≤ 2 * yt
  kb : |b| * u ≤ 2 * xt
  kd : |d| * u ≤ 2 * xt
  r2 : R2 a b c d

/-- under the precondition of its caller `reduce64` performs at least one step -/
theorem reduce64_red {x y : Nat} (hx : x < W) (hx63 : 2 ^ 63 ≤ x) (hyx : y ≤ x) (hy32 : 2 ^ 32 ≤ y) :
    ∃ a b c d u v, reduce64 x y = some (a, b, c, d) ∧ Red x y a b c d u v := by
  obtain ⟨a, b, c, d, u, v, hr, hinv, hexit⟩ := reduce64_spec x y hx (by omega)
  have hxI : (0 : Int) < x := by exact_mod_cast (by omega : 0 < x)
  have hyI : (0 : Int) < y := by exact_mod_cast (by omega : 0 < y)
  have hphase : u ≤ y ∧ 2 * v ≤ u ∧ 2 ^ 24 ≤ u := by
    rcases hinv.phase with ⟨_, _, hc, hd, rfl, rfl⟩ | ⟨_, _, _, _, _, _, hlt⟩ | ⟨h1, h2, h3⟩
    · -- still in the initial state: impossible, the loop performs at least one iteration
      exfalso
      subst hc hd
      rcases hexit with hg | ⟨_, hb⟩
      · apply hg; constructor <;> omega
      · have hq : u / v < 2 ^ 32 := by
          rw [Nat.div_lt_iff_lt_mul (by omega)]
          unfold W at hx
          calc u < 2 ^ 64 := hx
            _ = 2 ^ 32 * 2 ^ 32 := by norm_num
            _ ≤ 2 ^ 32 * v := Nat.mul_le_mul_left _ hy32
        have h1 : bits (u / v + 1) ≤ 33 := bits_le_of_lt (by omega)
        have h2 : bits (max (0 : Int).natAbs (1 : Int).natAbs) ≤ 1 := bits_le_of_lt (by decide)
        omega
    · omega
    · exact ⟨by omega, h2, h3⟩
  have hU0 : (0 : Int) ≤ u := Int.natCast_nonneg _
  have hV0 : (0 : Int) ≤ v := Int.natCast_nonneg _
  have h2I : 2 * (v : Int) ≤ u := by exact_mod_cast hphase.2.1
  have huyI : (u : Int) ≤ y := by exact_mod_cast hphase.1
  have hyxI : (y : Int) ≤ x := by exact_mod_cast hyx
  have hXx : |d * (u : Int) - b * v| = x := by
    have e : d * (u : Int) - b * v = (a * d - b * c) * x := by
      rw [← hinv.relu, ← hinv.relv]; ring
    rw [e]
    rcases hinv.det with hd | hd <;> rw [hd] <;> simp [abs_of_nonneg (le_of_lt hxI)]
  have hXy : |c * (u : Int) - a * v| = y := by
    have e : c * (u : Int) - a * v = -((a * d - b * c) * y) := by
      rw [← hinv.relu, ← hinv.relv]; ring
    rw [e]
    rcases hinv.det with hd | hd <;> rw [hd] <;> simp [abs_of_nonneg (le_of_lt hyI)]
  obtain ⟨kd, kb⟩ := col_entry_bound hU0 hV0 h2I hinv.colbd hXx (le_trans huyI hyxI)
  obtain ⟨kc, ka⟩ := col_entry_bound hU0 hV0 h2I hinv.colac hXy huyI
  exact ⟨a, b, c, d, u, v, hr, hinv.relu, hinv.relv, hphase.1, hphase.2.1, hphase.2.2, hinv.ba, hinv.bb,
    hinv.bc, hinv.bd,
    opp_signs_of_small hyI hyxI (by rw [hinv.relu]; exact hU0) (by rw [hinv.relu]; exact huyI),
    opp_signs_of_small hyI hyxI (by rw [hinv.relv]; exact hV0) (by rw [hinv.relv]; linarith),
    hinv.det, ka, kc, kb, kd, hinv.r2⟩

theorem Unimod.row_pos {p q p' q' : Int} (hd : Unimod p q p' q' ∨ Unimod p' q' p q) :
    (0 : Int) < ((max p.natAbs q.natAbs : Nat) : Int) := by
  by_contra hlt
  have h0 : max p.natAbs q.natAbs = 0 := by omega
  have hp : p = 0 := by have := Nat.le_max_left p.natAbs q.natAbs; omega
  have hq : q = 0 := by have := Nat.le_max_right p.natAbs q.natAbs; omega
  subst hp hq
  rcases hd with hd | hd <;> rcases hd with hd | hd <;> simp at hd

/-- the value part of a Lehmer step, total: `reduce64` on the top words and both `dot_product`s
return; the new values are `|a x + b y|`, `|c x + d y|`, each within one row size (times `2^k`) of
the reduced top values `u`, `v` -/
theorem lehmer_xy {N : Nat} {s : St} {xt yt xl yl : Nat} (T : Tops N s xt yt xl yl) :
    ∃ a b c d u v r1 r2 n1 n2, reduce64 xt yt = some (a, b, c, d) ∧ Red xt yt a b c d u v ∧
      dotProduct N ((bits s.x + 63) / 64) a s.x b s.y = some (r1, n1) ∧
      dotProduct N ((bits s.x + 63) / 64) c s.x d s.y = some (r2, n2) ∧
      a * s.x + b * s.y = flipSign n1 * r1 ∧ c * s.x + d * s.y = flipSign n2 * r2 ∧
      r1 < (u + max a.natAbs b.natAbs) * 2 ^ (bits s.x - 64) ∧
      r2 < (v + max c.natAbs d.natAbs) * 2 ^ (bits s.x - 64) := by
  obtain ⟨a, b, c, d, u, v, hr, R⟩ := reduce64_red T.hxtW T.h63 T.hytx T.h32
  have hx := lt_two_pow_bits s.x
  have hy : s.y < 2 ^ bits s.x := Nat.lt_of_le_of_lt T.hyx hx
  obtain ⟨r1, n1, h1, f1⟩ := dotProduct_spec (N := N) T.hb hx hy R.ba R.bb
  obtain ⟨r2, n2, h2, f2⟩ := dotProduct_spec (N := N) T.hb hx hy R.bc R.bd
  have b1 := dot_bound (K := 2 ^ (bits s.x - 64)) R.hab (abs_le_max_natAbs_left a b)
    (abs_le_max_natAbs_right a b) (Unimod.row_pos (Or.inl R.det)) T.hxl T.hyl R.ru
  have b2 := dot_bound (K := 2 ^ (bits s.x - 64)) R.hcd (abs_le_max_natAbs_left c d)
    (abs_le_max_natAbs_right c d) (Unimod.row_pos (Or.inr R.det)) T.hxl T.hyl R.rv
  rw [← T.ex, ← T.ey, f1, abs_flip, abs_of_nonneg (Int.natCast_nonneg r1)] at b1
  rw [← T.ex, ← T.ey, f2, abs_flip, abs_of_nonneg (Int.natCast_nonneg r2)] at b2
  exact ⟨a, b, c, d, u, v, r1, r2, n1, n2, hr, R, h1, h2, f1, f2, by exact_mod_cast b1, by exact_mod_cast b2⟩

theorem lehmerStep_some {N K : Nat} {ext : Bool} {s s' : St} {bts xt yt : Nat} {a b c d : Int}
    {r1 r2 : Nat} {n1 n2 : Bool} (hr : reduce64 xt yt = some (a, b, c, d))
    (h1 : dotProduct N ((bts + 63) / 64) a s.x b s.y = some (r1, n1))
    (h2 : dotProduct N ((bts + 63) / 64) c s.x d s.y = some (r2, n2))
    (h : lehmerStep N K ext s bts xt yt = some s') :
    s'.x = r1 ∧ s'.y = r2 ∧ (ext = true →
      s'.A = flipSign n1 * (a * s.A + b * s.C) ∧ s'.B = flipSign n1 * (a * s.B + b * s.D) ∧
      s'.C = flipSign n2 * (c * s.A + d * s.C) ∧ s'.D = flipSign n2 * (c * s.B + d * s.D)) := by
  unfold lehmerStep at h
  simp only [hr, h1, h2] at h
  cases ext
  · simp at h; subst h; exact ⟨rfl, rfl, fun he => by simp at he⟩
  · simp only [if_true] at h
    split at h
    · rename_i aa bb cc dd haa hbb hcc hdd
      split at h
      · rename_i aa' bb' cc' dd' haa' hbb' hcc' hdd'
        simp at h; subst h
        refine ⟨rfl, rfl, fun _ => ?_⟩
        simp only
        rw [negIf_some haa', negIf_some hbb', negIf_some hcc', negIf_some hdd',
          lin2_some haa, lin2_some hbb, lin2_some hcc, lin2_some hdd]
        cases n1 <;> cases n2 <;> simp [flipSign]
      · simp at h
    · simp at h

end Ymq.Gcd
