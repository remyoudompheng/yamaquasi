/-
List-level form of the Berlekamp–Massey theorems (for any closures satisfying `OpsOK`):
`Connection`, `TwoTerms`, exact characterisation of the three outcomes of `core`.
-/
import Ymq.Lemmas.BerlekampMasseyTop

namespace Ymq.BM
open Polynomial

variable {p : ℕ} {o : Ops} {κ : ZMod p}

/-- `c` is a connection polynomial of `s` modulo `p` on the window the algorithm guarantees:
non-zero constant term, degree at most `n - n/2`, and `Σ_j c_j s_{i-j} ≡ 0` for `n/2 ≤ i < n`. -/
def Connection (p : ℕ) (s c : List ℕ) : Prop :=
  c.getD 0 0 % p ≠ 0 ∧ (∀ j, s.length - s.length / 2 < j → c.getD j 0 % p = 0) ∧
    ∀ i, s.length / 2 ≤ i → i < s.length → convAt c s i % p = 0

def TwoTerms (s : List ℕ) : Prop := ∃ i j, i < j ∧ s.getD i 0 ≠ 0 ∧ s.getD j 0 ≠ 0

theorem not_twoTerms_of_single {s : List ℕ} {k : ℕ} (hz : ∀ i, i ≠ k → s.getD i 0 = 0) :
    ¬ TwoTerms s := by
  rintro ⟨i, j, hij, hi, hj⟩
  have h1 : i = k := by by_contra hc; exact hi (hz i hc)
  have h2 : j = k := by by_contra hc; exact hj (hz j hc)
  omega

theorem red_of_mem (hp : 0 < p) (l : List ℕ) (h : ∀ x ∈ l, x < p) : Red p l := by
  intro i
  by_cases hi : i < l.length
  · have : gd l i = l[i] := by simp [gd, List.getD_eq_getElem?_getD, List.getElem?_eq_getElem hi]
    rw [this]; exact h _ (List.getElem_mem hi)
  · rw [gd_of_le l i (by omega)]; exact hp

theorem mem_lt_of_red (l : List ℕ) (h : Red p l) : ∀ x ∈ l, x < p := by
  intro x hx
  obtain ⟨i, hi, rfl⟩ := List.getElem_of_mem hx
  have : gd l i = l[i] := by simp [gd, List.getD_eq_getElem?_getD, List.getElem?_eq_getElem hi]
  rw [← this]; exact h i

theorem mod_eq_zero_iff_cast (x : ℕ) : x % p = 0 ↔ ((x : ℕ) : ZMod p) = 0 := by
  rw [ZMod.natCast_eq_zero_iff, Nat.dvd_iff_mod_eq_zero]

theorem core_sound_list [Fact p.Prime] (ok : OpsOK o p κ) (seq : List ℕ) (hr : ∀ x ∈ seq, x < p)
    (out : List ℕ) (h : core o seq = some out) (hne : out ≠ []) :
    out.length = seq.length ∧ (∀ x ∈ out, x < p) ∧ out.getD 0 0 = 1 ∧
      (∀ j, seq.length - seq.length / 2 < j → out.getD j 0 = 0) ∧
      ∀ i, seq.length / 2 ≤ i → i < seq.length → convAt out seq i % p = 0 := by
  have hp : 0 < p := (Fact.out : p.Prime).pos
  obtain ⟨h1, h2, h3, h4, h5⟩ := core_sound ok seq (red_of_mem hp seq hr) out h hne
  refine ⟨h1, mem_lt_of_red out h2, h3, h4, fun i hi1 hi2 => ?_⟩
  rw [mod_eq_zero_iff_cast, convAt_cast]
  exact h5 i hi1 hi2

theorem connection_of_sound [Fact p.Prime] (seq out : List ℕ)
    (h3 : out.getD 0 0 = 1) (h4 : ∀ j, seq.length - seq.length / 2 < j → out.getD j 0 = 0)
    (h5 : ∀ i, seq.length / 2 ≤ i → i < seq.length → convAt out seq i % p = 0) :
    Connection p seq out := by
  have hp1 : 1 < p := (Fact.out : p.Prime).one_lt
  refine ⟨?_, fun j hj => ?_, h5⟩
  · rw [h3, Nat.mod_eq_of_lt hp1]; omega
  · rw [h4 j hj]; simp

theorem taps_toPoly (c s : List ℕ) {L K : ℕ} (h0 : c.getD 0 0 % p ≠ 0)
    (hd : ∀ j, L < j → c.getD j 0 % p = 0)
    (hrec : ∀ i, K ≤ i → i < s.length → convAt c s i % p = 0) :
    (toPoly p c).coeff 0 ≠ 0 ∧ (toPoly p c).natDegree ≤ L ∧
      ∀ i, K ≤ i → i < s.length → (toPoly p c * toPoly p s).coeff i = 0 := by
  refine ⟨?_, ?_, fun i hi1 hi2 => ?_⟩
  · rw [coeff_toPoly]
    unfold co gd
    rwa [Ne, ← mod_eq_zero_iff_cast]
  · rw [natDegree_le_iff_coeff_eq_zero]
    intro N hN
    rw [coeff_toPoly]
    unfold co gd
    rw [← mod_eq_zero_iff_cast]
    exact hd N hN
  · rw [← convAt_cast, ← mod_eq_zero_iff_cast]
    exact hrec i hi1 hi2

theorem core_complete_list [Fact p.Prime] (ok : OpsOK o p κ) (seq : List ℕ)
    (hr : ∀ x ∈ seq, x < p) (h2 : TwoTerms seq) (c : List ℕ) (hc : Connection p seq c) :
    ∃ out, core o seq = some out ∧ out ≠ [] := by
  have hp : 0 < p := (Fact.out : p.Prime).pos
  obtain ⟨i, j, hij, hi, hj⟩ := h2
  obtain ⟨c0, c1, c2⟩ := hc
  obtain ⟨t0, t1, t2⟩ := taps_toPoly c seq c0 c1 c2
  exact core_complete ok seq (red_of_mem hp seq hr) hij hi hj (toPoly p c) t0 t1 t2

/-- with at most one non-zero term the loop is never entered: panic on the empty sequence and when
the head is the non-zero term, the empty vector otherwise -/
theorem core_of_not_two [Fact p.Prime] (o : Ops) (seq : List ℕ) (hr : ∀ x ∈ seq, x < p)
    (h2 : ¬ TwoTerms seq) :
    core o seq = if seq = [] ∨ seq.getD 0 0 ≠ 0 then none else some [] := by
  have hp : 0 < p := (Fact.out : p.Prime).pos
  rcases init_cases seq (red_of_mem hp seq hr) with ⟨h0, e⟩ | ⟨h0, hz, e⟩ |
      ⟨k, hk, hz, ⟨k0, e⟩ | ⟨k0, e⟩⟩ | ⟨i, j, _, hij, hi, hj, _⟩
  · rw [if_pos (Or.inl (List.length_eq_zero_iff.mp h0))]; simp [core, e]
  · have hc : ¬ (seq = [] ∨ seq.getD 0 0 ≠ 0) :=
      not_or.mpr ⟨fun hh => by rw [hh] at h0; simp at h0, not_not.mpr (hz 0)⟩
    rw [if_neg hc]; simp [core, e]
  · have hc : seq = [] ∨ seq.getD 0 0 ≠ 0 := Or.inr (by subst k0; exact hk)
    rw [if_pos hc]; simp [core, e]
  · have hc : ¬ (seq = [] ∨ seq.getD 0 0 ≠ 0) :=
      not_or.mpr ⟨fun hh => by rw [hh] at hk; exact hk rfl, not_not.mpr (hz 0 (by omega))⟩
    rw [if_neg hc]; simp [core, e]
  · exact absurd ⟨i, j, hij, hi, hj⟩ h2

/-- with two non-zero terms the loop runs to its end: a connection polynomial is returned if and
only if one exists, otherwise the run ends in `assert!(u[0] != 0)` -/
theorem core_of_two [Fact p.Prime] (ok : OpsOK o p κ) (seq : List ℕ) (hr : ∀ x ∈ seq, x < p)
    (h2 : TwoTerms seq) :
    ((∃ c, Connection p seq c) → ∃ out, core o seq = some out ∧ out ≠ []) ∧
      ((¬ ∃ c, Connection p seq c) → core o seq = none) := by
  refine ⟨fun ⟨c, hc⟩ => core_complete_list ok seq hr h2 c hc, fun hc => ?_⟩
  cases hcore : core o seq with
  | none => rfl
  | some out =>
    obtain ⟨i, j, hij, hi, hj⟩ := h2
    have hp : 0 < p := (Fact.out : p.Prime).pos
    obtain ⟨hn, _, _, _, _, _, _, hl, _⟩ := core_some ok seq (red_of_mem hp seq hr) hij hi hj out hcore
    obtain ⟨_, _, h3, h4, h5⟩ := core_sound_list ok seq hr out hcore
      (fun hnil => by rw [hnil] at hl; simp at hl; omega)
    exact absurd ⟨out, connection_of_sound seq out h3 h4 h5⟩ hc

theorem twoTerms_ne_nil {s : List ℕ} (h : TwoTerms s) : s ≠ [] := by
  rintro rfl
  obtain ⟨i, _, _, hi, _⟩ := h
  exact hi rfl

theorem core_none_iff [Fact p.Prime] (ok : OpsOK o p κ) (seq : List ℕ) (hr : ∀ x ∈ seq, x < p) :
    core o seq = none ↔
      seq = [] ∨ (seq.getD 0 0 ≠ 0 ∧ ∀ i, 1 ≤ i → seq.getD i 0 = 0) ∨
      (TwoTerms seq ∧ ¬ ∃ c, Connection p seq c) := by
  by_cases h2 : TwoTerms seq
  · obtain ⟨c1, c2⟩ := core_of_two ok seq hr h2
    constructor
    · refine fun h => Or.inr (Or.inr ⟨h2, fun hc => ?_⟩)
      obtain ⟨out, e, _⟩ := c1 hc
      rw [e] at h; exact absurd h (by simp)
    · rintro (h | ⟨_, hz⟩ | ⟨_, hc⟩)
      · exact absurd h (twoTerms_ne_nil h2)
      · exact absurd h2 (not_twoTerms_of_single (k := 0) fun i hi => hz i (by omega))
      · exact c2 hc
  · rw [core_of_not_two o seq hr h2]
    constructor
    · intro h
      split at h
      · rename_i hc
        refine hc.imp id fun h0 => Or.inl ⟨h0, fun i hi => ?_⟩
        by_contra hne
        exact h2 ⟨0, i, by omega, h0, hne⟩
      · exact absurd h (by simp)
    · rintro (h | ⟨h0, _⟩ | ⟨h, _⟩)
      · exact if_pos (Or.inl h)
      · exact if_pos (Or.inr h0)
      · exact absurd h h2

theorem core_empty_iff [Fact p.Prime] (ok : OpsOK o p κ) (seq : List ℕ) (hr : ∀ x ∈ seq, x < p) :
    core o seq = some [] ↔
      seq ≠ [] ∧ ((∀ i, seq.getD i 0 = 0) ∨
        ∃ k, 1 ≤ k ∧ seq.getD k 0 ≠ 0 ∧ ∀ i, i ≠ k → seq.getD i 0 = 0) := by
  by_cases h2 : TwoTerms seq
  · obtain ⟨i, j, hij, hi, hj⟩ := id h2
    refine ⟨fun h => ?_, ?_⟩
    · have hp : 0 < p := (Fact.out : p.Prime).pos
      obtain ⟨hn, _, _, _, _, _, _, hl, _⟩ :=
        core_some ok seq (red_of_mem hp seq hr) hij hi hj [] h
      rw [← hl] at hn; simp at hn
    · rintro ⟨_, hz | ⟨k, _, _, hz⟩⟩
      · exact absurd (hz i) hi
      · exact absurd h2 (not_twoTerms_of_single hz)
  · rw [core_of_not_two o seq hr h2]
    constructor
    · intro h
      split at h
      · exact absurd h (by simp)
      · rename_i hc
        obtain ⟨hne, h0⟩ := not_or.mp hc
        refine ⟨hne, ?_⟩
        by_cases hz : ∀ i, seq.getD i 0 = 0
        · exact Or.inl hz
        · obtain ⟨k, hk⟩ := not_forall.mp hz
          refine Or.inr ⟨k, ?_, hk, fun i hik => ?_⟩
          · by_contra hc'; exact hk (by rw [show k = 0 by omega]; exact not_not.mp h0)
          · by_contra hne'
            rcases Nat.lt_or_gt_of_ne hik with hlt | hlt
            · exact h2 ⟨i, k, hlt, hne', hk⟩
            · exact h2 ⟨k, i, hlt, hk, hne'⟩
    · rintro ⟨hne, hz | ⟨k, hk1, _, hz⟩⟩
      · exact if_neg (not_or.mpr ⟨hne, not_not.mpr (hz 0)⟩)
      · exact if_neg (not_or.mpr ⟨hne, not_not.mpr (hz 0 (by omega))⟩)

end Ymq.BM
