/-
The relation construction of `sieve_block_poly` (model `relationOf` of Ymq/Model/ClassGroup.lean), piece by piece:
the discriminant identity of `Poly::eval`, `fbase::cofactor` (`trialDivide_spec`), one step of the conversion loop and
of `Poly::factors`, the control flow of `relationOf` (`relationOf_cases`) and what a produced relation is made of
(`relationOf_rel_inv`). What the loops return on their domain is in Ymq/Lemmas/ClassGroupGenuine.lean.
-/
import Ymq.Lemmas.ClassGroupSign

namespace Ymq.ClassGroup

/-- discriminant of the form behind the polynomial -/
def polyDisc (type1 : Bool) (a b c : Int) : Int := if type1 then 4 * (b * b - a * c) else b * b - 4 * a * c

/-- `y² - 4 A P(x)` is the discriminant: `y = 2(Ax + B)` for type 1 (`A x² + 2B x + C`), `y = 2Ax + B` for
type 2 (`A x² + B x + C`) -/
theorem polyEval_disc (type1 : Bool) (a b c x : Int) :
    (polyEval type1 a b c x).2 * (polyEval type1 a b c x).2 - 4 * a * (polyEval type1 a b c x).1
      = polyDisc type1 a b c := by
  cases type1
  · simp only [polyEval, polyDisc, Bool.false_eq_true, if_false]; ring
  · simp only [polyEval, polyDisc, if_true]; ring

theorem polyEval_snd_mod (type1 : Bool) (a b c x : Int) :
    a ∣ (polyEval type1 a b c x).2 - (if type1 then 2 * b else b) := by
  unfold polyEval
  cases type1
  · exact ⟨2 * x, by simp only [Bool.false_eq_true, if_false]; ring⟩
  · exact ⟨2 * x, by simp only [if_true]; ring⟩

/-- positive definite: `A > 0`, `D < 0` give `P(x) > 0` (the `debug_assert!(v.is_positive())`) -/
theorem polyEval_pos (type1 : Bool) (a b c x : Int) (ha : 0 < a) (hD : polyDisc type1 a b c < 0) :
    0 < (polyEval type1 a b c x).1 := by
  have h := polyEval_disc type1 a b c x
  have hsq : 0 ≤ (polyEval type1 a b c x).2 * (polyEval type1 a b c x).2 := mul_self_nonneg _
  by_contra hv
  have hv' : (polyEval type1 a b c x).1 ≤ 0 := not_lt.1 hv
  have : 4 * a * (polyEval type1 a b c x).1 ≤ 0 := by nlinarith
  linarith

theorem divLoop_spec : ∀ (f p v e v' e' : Nat), divLoop f p v e = (v', e') →
    e ≤ e' ∧ v = v' * p ^ (e' - e)
  | 0, p, v, e, v', e', h => by
    simp only [divLoop, Prod.mk.injEq] at h
    obtain ⟨rfl, rfl⟩ := h
    simp
  | f + 1, p, v, e, v', e', h => by
    rw [divLoop] at h
    split at h
    · rename_i hc
      obtain ⟨h1, h2⟩ := divLoop_spec f p (v / p) (e + 1) v' e' h
      refine ⟨by omega, ?_⟩
      have hv : v = v / p * p := by
        have := Nat.div_add_mod v p
        rw [hc.2.2] at this
        rw [Nat.mul_comm]; omega
      have he : e' - e = (e' - (e + 1)) + 1 := by omega
      rw [he, pow_succ, ← Nat.mul_assoc, ← h2]
      exact hv
    · simp only [Prod.mk.injEq] at h
      obtain ⟨rfl, rfl⟩ := h
      simp

theorem trialDivide_spec : ∀ (facs : List Nat) (v : Nat),
    (∀ pe ∈ (trialDivide facs v).1, pe.1 ∈ facs ∧ pe.1 ∣ v) ∧ (trialDivide facs v).2 ∣ v ∧
      v = (trialDivide facs v).2 * ((trialDivide facs v).1.map fun pe => pe.1 ^ pe.2).prod
  | [], v => by simp [trialDivide]
  | p :: ps, v => by
    rw [trialDivide]
    cases hd : divLoop (v.log2 + 1) p v 0 with
    | mk v' e =>
      obtain ⟨_, hv⟩ := divLoop_spec _ _ _ _ _ _ hd
      rw [Nat.sub_zero] at hv
      have hv'v : v' ∣ v := ⟨p ^ e, hv⟩
      obtain ⟨ih1, ih2, ih3⟩ := trialDivide_spec ps v'
      dsimp only
      cases hr : trialDivide ps v' with
      | mk fs cof =>
        rw [hr] at ih1 ih2 ih3
        dsimp only at ih1 ih2 ih3 ⊢
        have hrest : ∀ pe ∈ fs, pe.1 ∈ p :: ps ∧ pe.1 ∣ v := fun pe h =>
          ⟨List.mem_cons_of_mem _ (ih1 pe h).1, Dvd.dvd.trans (ih1 pe h).2 hv'v⟩
        refine ⟨?_, Dvd.dvd.trans ih2 hv'v, ?_⟩
        · split
          · rename_i he
            refine List.forall_mem_cons.2 ⟨⟨List.mem_cons_self, ?_⟩, hrest⟩
            rw [hv]
            exact Dvd.dvd.mul_left (dvd_pow_self p (by omega)) _
          · exact hrest
        · split
          · rw [List.map_cons, List.prod_cons, hv, ih3]
            ring
          · have : e = 0 := by omega
            rw [hv, this, pow_zero, Nat.mul_one, ih3]

/-- what the factor base must satisfy for a candidate prime: it is 2, or a conductor prime (the
relation is then rejected), or an odd prime whose stored root gives the normalised root -/
def FbOk (D : Int) (type1 : Bool) (conductor : List Nat) (fb : List (Nat × Nat)) (p : Nat) : Prop :=
  p = 2 ∨ p ∈ conductor ∨
    (p.Prime ∧ ∃ r ref, fb.lookup p = some r ∧ bPlus p r type1 = some ref ∧ IsBPlus D p ref)

/-- one step of an accepted conversion: the entry of `p` and how its exponent was signed (no hypothesis on the factor
base: what an `.ok` outcome says even outside the domain of `convFactors_eq`) -/
theorem convFactors_cons_ok {type1 : Bool} {bx : Int} {conductor : List Nat} {fb : List (Nat × Nat)}
    {p e : Nat} {rest : List (Nat × Nat)} {fs : List (Nat × Int)}
    (h : convFactors type1 bx conductor fb ((p, e) :: rest) = .ok fs) :
    ∃ se fs', fs = (p, se) :: fs' ∧ convFactors type1 bx conductor fb rest = .ok fs' ∧
      ((p = 2 ∧ se = if !bit1 bx then (e : Int) else -(e : Int)) ∨
       (p ≠ 2 ∧ ¬ conductor.contains p = true ∧ ∃ r ref, fb.lookup p = some r ∧
          bPlus p r type1 = some ref ∧ signedExp p ref bx e = some se)) := by
  rw [convFactors] at h
  by_cases h2 : p = 2
  · rw [if_pos h2] at h
    cases hr : convFactors type1 bx conductor fb rest with
    | panic => rw [hr] at h; cases h
    | reject => rw [hr] at h; cases h
    | ok fs' =>
      rw [hr] at h
      exact ⟨_, fs', by rw [h2]; exact (Conv.ok.inj h).symm, rfl, Or.inl ⟨h2, rfl⟩⟩
  · rw [if_neg h2] at h
    by_cases hc : conductor.contains p = true
    · rw [if_pos hc] at h; cases h
    rw [if_neg hc] at h
    cases hl : fb.lookup p with
    | none => rw [hl] at h; cases h
    | some r =>
      rw [hl] at h
      dsimp only at h
      cases hb : bPlus p r type1 with
      | none => rw [hb] at h; cases h
      | some ref =>
        rw [hb] at h
        dsimp only at h
        cases hs : signedExp p ref bx e with
        | none => rw [hs] at h; cases h
        | some se =>
          rw [hs] at h
          dsimp only at h
          cases hr : convFactors type1 bx conductor fb rest with
          | panic => rw [hr] at h; cases h
          | reject => rw [hr] at h; cases h
          | ok fs' =>
            rw [hr] at h
            exact ⟨se, fs', (Conv.ok.inj h).symm, rfl, Or.inr ⟨h2, hc, r, ref, rfl, hb, hs⟩⟩

theorem convFactors_ok_not_conductor {type1 : Bool} {bx : Int} {conductor : List Nat} {fb : List (Nat × Nat)} :
    ∀ (intfacs : List (Nat × Nat)) (fs : List (Nat × Int)),
    convFactors type1 bx conductor fb intfacs = .ok fs → ∀ pe ∈ intfacs, pe.1 ≠ 2 → pe.1 ∉ conductor
  | [], _, _ => by simp
  | (p, e) :: rest, fs, h => by
    obtain ⟨se, fs', -, hr, hcase⟩ := convFactors_cons_ok h
    intro pe hpe hne
    rcases List.mem_cons.1 hpe with rfl | hm
    · rcases hcase with ⟨h2, -⟩ | ⟨-, hc, -⟩
      · exact absurd h2 hne
      · exact fun hmem => hc (List.contains_iff_mem.2 hmem)
    · exact convFactors_ok_not_conductor rest fs' hr pe hm hne

/-- one step of `Poly::factors` for `B ≥ 0`: the residue compared with `b_plus` is `y mod p` for
`y = 2B` (type 1) resp. `B` (type 2) -/
theorem polyFactors_cons {type1 : Bool} {b : Int} (hb : 0 ≤ b) (p r : Nat) (fs : List (Nat × Nat)) :
    polyFactors type1 b ((p, r) :: fs) =
      (bPlus p r type1).bind fun ref => (polyFactors type1 b fs).bind fun rest =>
        if modSigned (if type1 then 2 * b else b) p = ref then some ((p, 1) :: rest)
        else if p - modSigned (if type1 then 2 * b else b) p = ref then some ((p, -1) :: rest)
        else none := by
  have hms : modSigned (if type1 then 2 * b else b) p
      = (if type1 then (2 * b.natAbs) % p else b.natAbs % p) := by
    unfold modSigned
    cases type1
    · rw [if_neg Bool.false_ne_true, if_neg Bool.false_ne_true, if_neg (by omega)]
    · rw [if_pos rfl, if_pos rfl, if_neg (by omega)]
      congr 1
      omega
  rw [polyFactors, if_neg (not_lt.2 hb), hms]
  rfl

theorem relationOf_nonpos {type1 : Bool} {a b c x : Int} {maxprime maxlarge : Nat} {double : Bool}
    {conductor : List Nat} {fb : List (Nat × Nat)} {facs : List Nat} {afs : List (Nat × Nat)}
    {lp lq : Nat} (hv : (polyEval type1 a b c x).1 ≤ 0) :
    relationOf type1 a b c x maxprime maxlarge double conductor fb facs afs lp lq = .panic := by
  unfold relationOf
  generalize polyEval type1 a b c x = ev at hv
  obtain ⟨v, bx⟩ := ev
  exact if_pos hv

/-- The control flow of `relationOf` on a positive value: the candidate is skipped, the supplied
pair is wrong, or the large prime pair `(p, q)` multiplies to the cofactor and the outcome is that
of the conversion loop and of `Poly::factors`. -/
theorem relationOf_cases (type1 : Bool) (a b c x : Int) (maxprime maxlarge : Nat) (double : Bool)
    (conductor : List Nat) (fb : List (Nat × Nat)) (facs : List Nat) (afs : List (Nat × Nat))
    (lp lq : Nat) (hv : 0 < (polyEval type1 a b c x).1) :
    relationOf type1 a b c x maxprime maxlarge double conductor fb facs afs lp lq = .skip ∨
    relationOf type1 a b c x maxprime maxlarge double conductor fb facs afs lp lq = .badpq ∨
    ∃ p q, p * q = (trialDivide facs (polyEval type1 a b c x).1.toNat).2 ∧
      relationOf type1 a b c x maxprime maxlarge double conductor fb facs afs lp lq =
        match convFactors type1 (polyEval type1 a b c x).2 conductor fb
            (trialDivide facs (polyEval type1 a b c x).1.toNat).1 with
        | .panic => .panic
        | .reject => .skip
        | .ok fs =>
          match polyFactors type1 b afs with
          | none => .panic
          | some qf => .rel
              { factors := mergeQ fs qf
                large1 := if p > 1 then
                  some (p, (if q = p then 2 else 1) * largeSign type1 (polyEval type1 a b c x).2 p)
                  else none
                large2 := if q > 1 ∧ q ≠ p then
                  some (q, largeSign type1 (polyEval type1 a b c x).2 q) else none } := by
  generalize hR : relationOf type1 a b c x maxprime maxlarge double conductor fb facs afs lp lq = R
  unfold relationOf at hR
  generalize polyEval type1 a b c x = ev at hv hR ⊢
  obtain ⟨v, bx⟩ := ev
  dsimp only at hv hR ⊢
  generalize trialDivide facs v.toNat = td at hR ⊢
  obtain ⟨intfacs, cof⟩ := td
  dsimp only at hR ⊢
  rw [if_neg (not_le.2 hv)] at hR
  by_cases h1 : cof ≥ 2 ^ 64
  · rw [if_pos h1] at hR; exact Or.inl hR.symm
  rw [if_neg h1] at hR
  by_cases h2 : cof > maxlarge * maxlarge
  · rw [if_pos h2] at hR; exact Or.inl hR.symm
  rw [if_neg h2] at hR
  by_cases hd : double = true ∧ cof > maxprime * maxprime
  · -- the pair of `try_factor64`
    by_cases hpq : lp * lq = cof
    · rw [if_neg (fun h => h.2 hpq), if_pos hd] at hR
      by_cases hl : lp > maxlarge ∨ lq > maxlarge
      · rw [if_pos hl] at hR; exact Or.inl hR.symm
      rw [if_neg hl] at hR
      dsimp only at hR
      by_cases h32 : lp ≥ 2 ^ 32 ∨ lq ≥ 2 ^ 32
      · rw [if_pos h32] at hR; exact Or.inl hR.symm
      rw [if_neg h32] at hR
      exact Or.inr (Or.inr ⟨lp, lq, hpq, hR.symm⟩)
    · rw [if_pos ⟨hd, hpq⟩] at hR; exact Or.inr (Or.inl hR.symm)
  · -- the pair `(cof, 1)`
    rw [if_neg (fun h => hd h.1), if_neg hd] at hR
    by_cases hl : cof > maxlarge
    · rw [if_pos hl] at hR; exact Or.inl hR.symm
    rw [if_neg hl] at hR
    dsimp only at hR
    by_cases h32 : cof ≥ 2 ^ 32 ∨ 1 ≥ 2 ^ 32
    · rw [if_pos h32] at hR; exact Or.inl hR.symm
    rw [if_neg h32] at hR
    exact Or.inr (Or.inr ⟨cof, 1, Nat.mul_one _, hR.symm⟩)

theorem relationOf_rel_inv {type1 : Bool} {a b c x : Int} {maxprime maxlarge : Nat} {double : Bool}
    {conductor : List Nat} {fb : List (Nat × Nat)} {facs : List Nat} {afs : List (Nat × Nat)}
    {lp lq : Nat} {r : Rel}
    (h : relationOf type1 a b c x maxprime maxlarge double conductor fb facs afs lp lq = .rel r) :
    ∃ (p q : Nat) (fs qf : List (Nat × Int)),
      0 < (polyEval type1 a b c x).1 ∧
      p * q = (trialDivide facs (polyEval type1 a b c x).1.toNat).2 ∧
      convFactors type1 (polyEval type1 a b c x).2 conductor fb
        (trialDivide facs (polyEval type1 a b c x).1.toNat).1 = .ok fs ∧
      polyFactors type1 b afs = some qf ∧
      r = { factors := mergeQ fs qf,
            large1 := if p > 1 then
              some (p, (if q = p then 2 else 1) * largeSign type1 (polyEval type1 a b c x).2 p) else none,
            large2 := if q > 1 ∧ q ≠ p then some (q, largeSign type1 (polyEval type1 a b c x).2 q) else none } := by
  have hv : 0 < (polyEval type1 a b c x).1 := by
    by_contra hv
    rw [relationOf_nonpos (not_lt.1 hv)] at h
    cases h
  rcases relationOf_cases type1 a b c x maxprime maxlarge double conductor fb facs afs lp lq hv
    with h' | h' | ⟨p, q, hpq, h'⟩
  · rw [h'] at h; cases h
  · rw [h'] at h; cases h
  · rw [h'] at h
    cases hcv : convFactors type1 (polyEval type1 a b c x).2 conductor fb
        (trialDivide facs (polyEval type1 a b c x).1.toNat).1 with
    | panic => rw [hcv] at h; cases h
    | reject => rw [hcv] at h; cases h
    | ok fs =>
      cases hpf : polyFactors type1 b afs with
      | none => rw [hcv, hpf] at h; cases h
      | some qf =>
        rw [hcv, hpf] at h
        exact ⟨p, q, fs, qf, hv, hpq, rfl, rfl, (RelOut.rel.inj h).symm⟩

end Ymq.ClassGroup
