/-
The power-series routines (Ymq/Model/PolySeries.lean, property C10): the Newton step (`div_step`), the middle-product
step both routines share (general branch and `1 + xC` shortcut), `invModXn_spec` (`p·z ≡ 1 mod x^len`) and
`divModXn_spec` (`q·z ≡ p mod x^len`).
-/
import Ymq.Lemmas.PolyMiddle

namespace Ymq.PolyMul
open Polynomial Finset

variable {α : Type} {R : Type} [CommRing R]

/-- the step shared by the Newton iterations for `1/P` and for `P/Q`: from `Q·Zlo ≡ P`, `Q·A ≡ 1 (mod x^u)` to
`Q·(Zlo + x^u·M) ≡ P (mod x^(u+h))` with `M ≡ A·T (mod x^h)`, `T` the coefficients `u …` of the defect `P - Q·Zlo` -/
theorem div_step (P Q Zlo M Ah A T : R[X]) (u h : Nat) (hhu : h ≤ u)
    (hZ : Agree u (Q * Zlo) P) (hA : Agree u (Q * A) 1) (hAh : Agree h Ah A)
    (hT : ∀ i, i < h → T.coeff i = P.coeff (u + i) - (Q * Zlo).coeff (u + i))
    (hM : Agree h M (Ah * T)) : Agree (u + h) (Q * (Zlo + X ^ u * M)) P := by
  have hQM : Agree h (Q * M) T := by
    have e : Q * (Ah * T) = T * (Q * Ah) := by ring
    have := ((hAh.mul_left Q).trans (hA.mono hhu)).mul_left T
    rw [← e, mul_one] at this
    exact (hM.mul_left Q).trans this
  intro k hk
  rw [mul_add, mul_left_comm, coeff_add, coeff_X_pow_mul']
  split_ifs with hku
  · obtain ⟨i, rfl⟩ : ∃ i, k = u + i := ⟨k - u, by omega⟩
    rw [Nat.add_sub_cancel_left, hQM i (by omega), hT i (by omega)]
    ring
  · rw [add_zero]; exact hZ k (by omega)

/-- one Newton step for the inverse, `I' = I - x^u·(E·I mod x^h)` where `P·I = 1 + x^u·E + …`: the inverse is the
quotient `1/P` -/
theorem newton_step (P I N Eh Ih : R[X]) (u h : Nat) (hu : 1 ≤ u) (hhu : h ≤ u)
    (hI : Agree u (P * I) 1) (hE : ∀ i, i < h → Eh.coeff i = (P * I).coeff (u + i))
    (hIh : Agree h Ih I) (hN : ∀ i, i < h → N.coeff i = -(Eh * Ih).coeff i) :
    Agree (u + h) (P * (I + X ^ u * N)) 1 :=
  div_step 1 P I N Ih I (-Eh) u h hhu hI hI hIh
    (fun i hi => by rw [coeff_neg, hE i hi, coeff_one, if_neg (by omega), zero_sub])
    (fun i hi => by rw [hN i hi, mul_neg, coeff_neg, mul_comm])

/-- general branch: middle product of `l[1..]` (zero padded) by `S`, `|S| = u`: the coefficients
`u … 2u-1` of `l·S` -/
theorem mid_general {o : Ops α} {φ : α → R} (h : Hom o φ) (c : Ctx)
    (l0 : α) (rest S : List α) (u pad mullen : Nat) (hu : 1 ≤ u) (hu2 : u ≤ 2 ^ 62) (hS : S.length = u)
    (hpad : 2 * u - 1 ≤ rest.length + pad) (hmul : mmNeed u ≤ mullen) (hfit : Fits c u) :
    ∃ t, middlemul c o FUEL u ((rest ++ List.replicate pad o.zero).take (2 * u - 1)) S mullen = some t ∧
      t.length = u ∧
      ∀ i, i < u → φ (t.getD i o.zero) = (poly ((l0 :: rest).map φ) * poly (S.map φ)).coeff (u + i) := by
  obtain ⟨t, e, lt, ht⟩ := middlemul_fuel h c u ((rest ++ List.replicate pad o.zero).take (2 * u - 1)) S mullen u
    hS hu hu2 (by rw [List.length_take, List.length_append, List.length_replicate]; omega) le_rfl hmul hfit
  refine ⟨t, e, lt, fun i hi => ?_⟩
  -- the truncated, padded operand agrees with `rest` below `2u - 1`; then the head rule on `l0 :: rest`
  rw [ht i hi, List.map_take, coeff_mul_take_left _ _ _ _ (by omega), poly_map_append_zeros h, List.map_cons,
    show u + i = (u - 1 + i) + 1 by omega, coeff_cons_mul_succ, below_map φ S _ (by omega), mul_zero, zero_add]

/-- `1 + xC` shortcut: middle product of `l[1..]` by `1 + x·C` where `S = s0 :: Cs`, `φ s0 = 1`,
`|l| = 2u - 1`, `|S| = u ≥ 2`: the coefficients `u … 2u-2` of `l·S` -/
theorem mid_shortcut {o : Ops α} {φ : α → R} (h : Hom o φ) (c : Ctx)
    (l0 s0 : α) (rest Cs : List α) (u mullen : Nat) (hu : 2 ≤ u) (hu2 : u ≤ 2 ^ 62)
    (hC : Cs.length = u - 1) (hl : rest.length = 2 * u - 2) (hs0 : φ s0 = 1)
    (hmul : mmNeed (u - 1) ≤ mullen) (hfit : Fits c (u - 1)) :
    ∃ t, middlemul1x c o u rest Cs mullen = some t ∧ t.length = u - 1 ∧
      ∀ i, i < u - 1 → φ (t.getD i o.zero) =
        (poly ((l0 :: rest).map φ) * poly ((s0 :: Cs).map φ)).coeff (u + i) := by
  unfold middlemul1x
  rw [if_neg (by omega)]
  obtain ⟨m, e, lm, hm⟩ := middlemul_fuel h c u (rest.take (rest.length - 1)) Cs mullen (u - 1) hC (by omega) (by omega)
    (by rw [List.length_take, hl]; omega) (by omega) hmul hfit
  rw [e]
  simp only
  rw [if_neg (by omega)]
  have lsl : ((rest.drop Cs.length).take Cs.length).length = u - 1 := by
    rw [List.length_take, List.length_drop, hC, hl]; omega
  refine ⟨_, rfl, by rw [List.length_zipWith, lm, lsl, Nat.min_self], fun i hi => ?_⟩
  -- the slice entry is l[u + i]; then l = l0 + X·rest, S = 1 + X·C: two applications of the head rule
  rw [getD_zipWith _ _ _ _ _ (by omega) (by omega), h.add, hm i hi, List.map_take,
    coeff_mul_take_left _ _ _ _ (by omega), getD_take _ _ _ _ (by omega), getD_drop, hC, ← coeff_den h,
    List.map_cons, List.map_cons, show u + i = (u - 1 - 1 + i) + 1 + 1 by omega, coeff_cons_mul_succ,
    below_poly (φ s0 :: Cs.map φ) _ (by simp only [List.length_cons, List.length_map, hC]; omega), mul_zero,
    zero_add, coeff_mul_cons_succ, hs0, one_mul, show u - 1 + i = u - 1 - 1 + i + 1 by omega, add_comm]

theorem seriesMid_spec {o : Ops α} {φ : α → R} (h : HomE o φ) (c : Ctx)
    (l0 : α) (rest S : List α) (u len mullen pad : Nat) (hu1 : 1 ≤ u) (hu62 : u ≤ 2 ^ 62)
    (hS : S.length = u) (hlen : len = rest.length + 1) (hLu2 : len ≤ 2 * u)
    (hpad : 2 * u - 1 ≤ rest.length + pad) (hmulA : mmNeed (u - 1) ≤ mullen) (hmulB : mmNeed u ≤ mullen)
    (hfit : Fits c u) :
    ∃ t, seriesMid c o u len mullen pad (l0 :: rest) S = some t ∧ len - u ≤ t.length ∧
      ∀ i, i < len - u → φ (t.getD i o.zero) =
        (poly ((l0 :: rest).map φ) * poly (S.map φ)).coeff (u + i) := by
  unfold seriesMid
  split_ifs with hc
  · obtain ⟨hc1, hc2, hc3, _⟩ := hc
    cases S with
    | nil => simp at hS; omega
    | cons s0 Cs =>
      have hs0 : φ s0 = 1 := by
        rw [List.getD_cons_zero] at hc1
        rw [h.eq_sound _ _ hc1, h.one]
      have lCs : Cs.length = u - 1 := by simp at hS; omega
      have hdrop : ((s0 :: Cs).drop 1).take (u - 1) = Cs := by
        rw [List.drop_succ_cons, List.drop_zero, ← lCs, List.take_length]
      rw [hdrop, List.drop_succ_cons, List.drop_zero]
      obtain ⟨t, e, lt, ht'⟩ := mid_shortcut h.toHom c l0 s0 rest Cs u mullen hc2 hu62 lCs
        (by omega) hs0 hmulA (hfit.mono (by omega))
      exact ⟨t, e, by omega, fun i hi => ht' i (by omega)⟩
  · rw [List.drop_succ_cons, List.drop_zero]
    obtain ⟨t, e, lt, ht'⟩ := mid_general h.toHom c l0 rest S u pad mullen hu1 hu62 hS hpad hmulB hfit
    exact ⟨t, e, by omega, fun i hi => ht' i (by omega)⟩

/-- `_inv_mod_xn`. Scratch: `4·len`, or none at all where the code returns before its `assert!` (length 1, and length 2
or 3 with `p[0] == 1`, as in the call of `roots_eval` on a tree with a single leaf) -/
theorem invModXn_spec {o : Ops α} {φ : α → R} (h : HomE o φ) (c : Ctx) :
    ∀ (f : Nat) (p : List α) (tmplen L : Nat), p.length = L → 1 ≤ L → L ≤ 2 ^ f → L ≤ 2 ^ 62 →
      (L ≤ 1 ∨ (o.eq (p.getD 0 o.zero) o.one = true ∧ L ≤ 3) ∨ 4 * L ≤ tmplen) →
      Fits c (L - L / 2) → (∃ i, o.inv (p.getD 0 o.zero) = some i) →
      ∃ z, invModXn c o (f + 1) p tmplen = some z ∧ z.length = L ∧
        Agree L (poly (p.map φ) * poly (z.map φ)) 1 := by
  intro f
  induction f using Nat.strong_induction_on with
  | _ f ih =>
    intro p tmplen L hL h1 h2 hf ht hfit hinv
    match p, hL, h1 with
    | p0 :: rest, hL, _ =>
    unfold invModXn
    simp only
    rw [hL]
    by_cases c1 : o.eq p0 o.one = true ∧ L = 2
    · rw [if_pos c1]
      have hp0 : φ p0 = 1 := by rw [h.eq_sound _ _ c1.1, h.one]
      obtain ⟨hc, rfl⟩ := c1
      match rest, hL with
      | [p1], _ =>
        refine ⟨_, rfl, rfl, fun k hk => ?_⟩
        have hk' : k = 0 ∨ k = 1 := by omega
        rcases hk' with rfl | rfl <;> rw [coeff_poly_mul, coeff_one] <;>
          simp [Finset.sum_range_succ, h.sub, h.zero, h.one, hp0]
    · rw [if_neg c1]
      by_cases c2 : o.eq p0 o.one = true ∧ L = 3
      · rw [if_pos c2]
        have hp0 : φ p0 = 1 := by rw [h.eq_sound _ _ c2.1, h.one]
        obtain ⟨hc, rfl⟩ := c2
        match rest, hL with
        | [p1, p2], _ =>
          refine ⟨_, rfl, rfl, fun k hk => ?_⟩
          have hk' : k = 0 ∨ k = 1 ∨ k = 2 := by omega
          rcases hk' with rfl | rfl | rfl <;> rw [coeff_poly_mul, coeff_one] <;>
            simp [Finset.sum_range_succ, h.sub, h.zero, h.one, h.mul, hp0]
          ring
      · rw [if_neg c2]
        by_cases c3 : L = 1
        · rw [if_pos c3]
          obtain ⟨i, hi⟩ := hinv
          simp only [List.getD_cons_zero] at hi
          rw [hi]
          subst c3
          obtain rfl : rest = [] := List.length_eq_zero_iff.1 (by simpa using hL)
          refine ⟨[i], rfl, rfl, fun k hk => ?_⟩
          obtain rfl : k = 0 := by omega
          rw [coeff_poly_mul, coeff_one]
          simp [h.inv_sound p0 i hi]
        · -- past the base cases the code asserts `tmp.len() >= 4 * p.len()`
          replace ht : 4 * L ≤ tmplen := by
            rcases ht with h | ⟨h, h'⟩ | h
            · omega
            · rw [List.getD_cons_zero] at h
              rcases Nat.lt_or_ge L 3 with h3 | h3
              · exact absurd ⟨h, by omega⟩ c1
              · exact absurd ⟨h, by omega⟩ c2
            · exact h
          rw [if_neg c3, if_neg (by omega)]
          -- two or more coefficients, so there is fuel for the recursive call; then the precision schedule
          -- `L = u + hh`, `1 ≤ hh ≤ u ≤ hh + 1`, and what the calls below need of it
          obtain ⟨f', rfl, huf, _⟩ := half_fuel L f (by omega) h2
          have hs := half_split L (by omega)
          generalize L / 2 = hh at *
          generalize L - hh = u at *
          obtain ⟨hh1, hhu, hu1', huL⟩ := hs
          replace hL : rest.length + 1 = L := hL
          clear c1 c2 c3 h2
          generalize emul : tmplen - u - L = mullen
          obtain ⟨hut, hmA, hmB, hmh⟩ : 4 * u ≤ tmplen ∧ (u - 1 ≤ 2 ∨ 5 * (u - 1) ≤ mullen + 3) ∧
              (u ≤ 2 ∨ 5 * u ≤ mullen + 3) ∧ 3 * hh ≤ mullen := by omega
          clear emul ht
          obtain ⟨hLu, hu1, hu62, hur, hL2, hpad, hh62⟩ : L - u = hh ∧ 1 ≤ u ∧ u ≤ 2 ^ 62 ∧
              u ≤ rest.length + 1 ∧ L ≤ 2 * u ∧ 2 * u - 1 ≤ rest.length + 1 ∧ hh ≤ 2 ^ 62 := by omega
          clear hf hu1'
          have ltk : ((p0 :: rest).take u).length = u := List.length_take_of_le hur
          obtain ⟨zi, ezi, lzi, hzi⟩ := ih f' (Nat.lt_succ_self f') ((p0 :: rest).take u) tmplen u ltk hu1 huf hu62
            (Or.inr (Or.inr hut)) (hfit.mono (Nat.sub_le _ _)) (by rw [getD_take_cons_zero _ _ _ _ hu1]; exact hinv)
          rw [ezi]
          simp only
          set P := poly ((p0 :: rest).map φ) with hP
          set I := poly (zi.map φ) with hI
          have hPI : Agree u (P * I) 1 := by
            rw [List.map_take] at hzi
            exact ((agree_take _ u).mul_right I).symm.trans hzi
          -- E = (P·I) div x^u, through either branch
          obtain ⟨t, et, lt, ht'⟩ := seriesMid_spec h c p0 rest zi u L mullen 1 hu1 hu62 lzi hL.symm hL2 hpad
            (mmNeed_le_of _ _ hmA) (mmNeed_le_of _ _ hmB) hfit
          rw [hLu] at lt ht'
          rw [et]
          simp only
          obtain ⟨lm, elm, llm, plm⟩ := longmul_eq_spec h.toHom c (2 * hh) mullen (t.take hh) (zi.take hh) hh
            (List.length_take_of_le lt) (List.length_take_of_le (lzi ▸ hhu)) hh1 hh62 le_rfl hmh (hfit.mono hhu)
          rw [elm]
          simp only
          refine ⟨_, rfl, ?_, ?_⟩
          · rw [List.length_append, List.length_map, List.length_take_of_le (by rw [llm]; exact Nat.le_mul_of_pos_left hh (by decide)), lzi, huL]
          · rw [List.map_append, poly_append, List.length_map, lzi, ← huL]
            apply newton_step P I _ (poly ((t.take hh).map φ)) (poly ((zi.take hh).map φ)) u hh hu1 hhu hPI
            · intro i hi
              rw [List.map_take, coeff_poly_take, if_pos hi, coeff_den h.toHom, ht' i hi]
            · rw [List.map_take]; exact agree_take _ hh
            · intro i hi
              rw [coeff_den h.toHom, getD_map_take _ _ _ _ _ hi (by rw [llm]; exact Nat.le_mul_of_pos_left hh (by decide)),
                h.sub, h.zero, ← coeff_den h.toHom, plm, zero_sub]

/-- first half of the quotient: `α·p mod x^u`, through either branch -/
theorem divZlo_spec {o : Ops α} {φ : α → R} (h : HomE o φ) (c : Ctx) (p0 : α) (prest al : List α)
    (u hilen : Nat) (hu1 : 1 ≤ u) (hu62 : u ≤ 2 ^ 62) (lal : al.length = u) (hp : u ≤ prest.length + 1)
    (hhi : 3 * u ≤ hilen) (hfit : Fits c u) :
    ∃ zlo, divZlo c o u hilen (p0 :: prest) al = some zlo ∧ zlo.length = u ∧
      ∀ k, k < u → φ (zlo.getD k o.zero) = (poly (al.map φ) * poly ((p0 :: prest).map φ)).coeff k := by
  unfold divZlo
  split_ifs with hc
  · obtain ⟨hc1, hc2, hc3, _⟩ := hc
    cases al with
    | nil => simp at lal; omega
    | cons a0 as =>
      have las : as.length = u - 1 := by simp at lal; omega
      have ha0 : φ a0 = 1 := by rw [List.getD_cons_zero] at hc2; rw [h.eq_sound _ _ hc2, h.one]
      have hp0 : φ p0 = 1 := by rw [List.getD_cons_zero] at hc1; rw [h.eq_sound _ _ hc1, h.one]
      have hd1 : ((a0 :: as).drop 1).take (u - 1) = as := by
        rw [List.drop_succ_cons, List.drop_zero, ← las, List.take_length]
      rw [hd1, List.drop_succ_cons, List.drop_zero]
      obtain ⟨lm, elm, llm, plm⟩ := longmul_spec h.toHom c (2 * u - 2) hilen as (prest.take (u - 1))
        (u - 1) (u - 1) (u - 1) (u - 1) las (List.length_take_of_le (by omega)) (by omega) le_rfl le_rfl (by omega)
        (by omega) (by omega) (hfit.mono (by omega)) (by omega)
      rw [elm]
      simp only
      refine ⟨_, rfl, by simp; omega, fun k hk => ?_⟩
      -- (1 + x·A')(1 + x·P'): the head rule on both factors
      rw [List.map_cons]
      rcases k with _ | _ | k
      · simp [mul_coeff_zero, h.one, ha0, hp0]
      · rw [coeff_cons_mul_succ, mul_coeff_zero, ha0, one_mul, coeff_den h.toHom, coeff_den h.toHom,
          coeff_den h.toHom]
        simp only [List.getD_cons_succ, List.getD_cons_zero, h.add, hp0, mul_one]
        ring
      · rw [coeff_cons_mul_succ, ha0, one_mul, List.map_cons, coeff_mul_cons_succ, hp0, one_mul, ← hp0,
          ← List.map_cons, coeff_den h.toHom, coeff_den h.toHom]
        simp only [List.getD_cons_succ]
        rw [getD_range_map _ _ _ _ (by omega), h.add, h.add, ← coeff_den h.toHom lm, plm, List.map_take,
          mul_comm (poly (as.map φ)), coeff_mul_take_left _ _ _ _ (by omega), mul_comm]
        ring
  · obtain ⟨lm, elm, llm, plm⟩ := longmul_spec h.toHom c (2 * u) hilen al ((p0 :: prest).take u) u u u u lal
      (List.length_take_of_le (by rw [List.length_cons]; omega)) hu1 le_rfl le_rfl hu62 (by omega) hhi hfit (by omega)
    rw [elm]
    refine ⟨lm.take u, rfl, List.length_take_of_le (by omega), fun k hk => ?_⟩
    rw [getD_take _ _ _ _ hk, ← coeff_den h.toHom, plm, List.map_take]
    exact (agree_take _ u).mul_left _ k hk

/-- `_div_mod_xn`. Scratch: `max(5·len, 8·⌈len/2⌉)`; the public wrapper allocates `6·len` -/
theorem divModXn_spec {o : Ops α} {φ : α → R} (h : HomE o φ) (c : Ctx)
    (p q : List α) (tmplen L : Nat) (hp : p.length = L) (hq : q.length = L) (h1 : 1 ≤ L)
    (h62 : L ≤ 2 ^ 62) (ht : 5 * L ≤ tmplen) (ht8 : 2 ≤ L → 8 * (L - L / 2) ≤ tmplen)
    (hfit : Fits c (L - L / 2)) (hinv : ∃ i, o.inv (q.getD 0 o.zero) = some i) :
    ∃ z, divModXn c o p q tmplen = some z ∧ z.length = L ∧
      Agree L (poly (q.map φ) * poly (z.map φ)) (poly (p.map φ)) := by
  unfold divModXn
  rw [hp, hq, if_neg (by omega), if_neg (by omega)]
  cases p with
  | nil => simp at hp; omega
  | cons p0 prest =>
  cases q with
  | nil => simp at hq; omega
  | cons q0 qrest =>
  simp only
  by_cases c1 : L = 1
  · rw [if_pos c1]
    obtain ⟨i, hi⟩ := hinv
    simp only [List.getD_cons_zero] at hi
    rw [hi]
    subst c1
    obtain rfl : prest = [] := List.length_eq_zero_iff.1 (by simpa using hp)
    obtain rfl : qrest = [] := List.length_eq_zero_iff.1 (by simpa using hq)
    refine ⟨_, rfl, rfl, fun k hk => ?_⟩
    obtain rfl : k = 0 := by omega
    rw [coeff_poly_mul]
    have := h.inv_sound q0 i hi
    simp [h.mul]
    rw [← mul_assoc, mul_comm (φ q0), mul_assoc, this, mul_one]
  · rw [if_neg c1]
    replace hp : prest.length + 1 = L := hp
    replace hq : qrest.length + 1 = L := hq
    -- the precision schedule `L = u + hh`, `1 ≤ hh ≤ u ≤ hh + 1`, and what the calls below need of it
    have hs := half_split L (by omega)
    replace ht8 : 8 * (L - L / 2) ≤ tmplen := ht8 (by omega)
    generalize L / 2 = hh at *
    generalize L - hh = u at *
    obtain ⟨hh1, hhu, hu1', huL⟩ := hs
    clear c1
    generalize ehi : tmplen - 4 * u = hilen
    obtain ⟨hut, hmA, hmB, hmh, hmu⟩ : 4 * u ≤ hilen ∧ (u - 1 ≤ 2 ∨ 5 * (u - 1) ≤ hilen + 3) ∧
        (u ≤ 2 ∨ 5 * u ≤ hilen + 3) ∧ 3 * hh ≤ hilen ∧ 3 * u ≤ hilen := by omega
    clear ehi ht ht8
    obtain ⟨hLu, hu1, hu62, hur, hup, hL2, hpad, hh62⟩ : L - u = hh ∧ 1 ≤ u ∧ u ≤ 2 ^ 62 ∧ u ≤ qrest.length + 1 ∧
        u ≤ prest.length + 1 ∧ L ≤ 2 * u ∧ 2 * u - 1 ≤ qrest.length + (2 * u - (L - 1)) ∧ hh ≤ 2 ^ 62 := by omega
    clear h62 hu1'
    set P := poly ((p0 :: prest).map φ) with hP
    set Q := poly ((q0 :: qrest).map φ) with hQ
    have ltk : ((q0 :: qrest).take u).length = u := List.length_take_of_le hur
    obtain ⟨al, eal, lal, hal⟩ := invModXn_spec h c 63 ((q0 :: qrest).take u) hilen u ltk hu1
      (le_trans hu62 (Nat.pow_le_pow_right (by decide) (by decide))) hu62 (Or.inr (Or.inr hut))
      (hfit.mono (Nat.sub_le _ _)) (by rw [getD_take_cons_zero _ _ _ _ hu1]; exact hinv)
    have eal' : invModXn c o FUEL ((q0 :: qrest).take u) hilen = some al := eal
    rw [eal']
    simp only
    set A := poly (al.map φ) with hA
    have hQA : Agree u (Q * A) 1 := by
      rw [List.map_take] at hal
      exact ((agree_take _ u).mul_right A).symm.trans hal
    obtain ⟨zlo, ezlo, lzlo, hzlo'⟩ := divZlo_spec h c p0 prest al u hilen hu1 hu62 lal hup hmu hfit
    rw [ezlo]
    simp only
    set Zlo := poly (zlo.map φ) with hZlo
    have hQZ : Agree u (Q * Zlo) P := by
      have e1 : Agree u Zlo (A * P) := fun j hj => by rw [hZlo, coeff_den h.toHom, hzlo' j hj]
      have e2 := hQA.mul_left P
      rw [mul_one, ← mul_assoc, mul_comm P, mul_assoc, mul_comm P] at e2
      exact (e1.mul_left Q).trans e2
    obtain ⟨g, eg, lg, hg⟩ := seriesMid_spec h c q0 qrest zlo u L hilen (2 * u - (L - 1)) hu1 hu62 lzlo
      hq.symm hL2 hpad (mmNeed_le_of _ _ hmA) (mmNeed_le_of _ _ hmB) hfit
    rw [hLu] at lg hg
    rw [eg]
    simp only
    set targ := (List.range hh).map fun i => o.sub ((p0 :: prest).getD (u + i) o.zero) (g.getD i o.zero) with htarg
    obtain ⟨lm2, elm2, llm2, plm2⟩ := longmul_eq_spec h.toHom c (2 * hh) hilen (al.take hh) targ hh
      (List.length_take_of_le (lal ▸ hhu)) (by simp [htarg]) hh1 hh62 le_rfl hmh (hfit.mono hhu)
    rw [elm2]
    simp only
    refine ⟨_, rfl, ?_, ?_⟩
    · rw [List.length_append, List.length_take_of_le (by rw [llm2]; exact Nat.le_mul_of_pos_left hh (by decide)),
        lzlo, huL]
    · rw [List.map_append, poly_append, List.length_map, lzlo, ← huL]
      apply div_step P Q Zlo _ (poly ((al.take hh).map φ)) A (poly (targ.map φ)) u hh hhu hQZ hQA
      · rw [List.map_take]; exact agree_take _ hh
      · intro i hi
        rw [coeff_den h.toHom, htarg, getD_range_map _ _ _ _ hi, h.sub, hg i hi, hP, coeff_den h.toHom]
      · rw [List.map_take, ← plm2]; exact agree_take _ hh

end Ymq.PolyMul
