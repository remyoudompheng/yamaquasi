/-
`echelon_det` for the reference echelon builder `EchP`: `det()` after `n` accepted rows of an `n × n`
matrix returns the determinant modulo `p` (`echInv_det`), a rejected row makes it vanish
(`detModPlain_spec`), and for a prime modulus below 2^63 no panic site is reached (`detModPlain_total`).
These three serve Props/C19 and C19Dense. `acceptAll`/`echP_det` say the first of them for a fold that
gives up at a rejected row; no property theorem uses them.
-/
import Ymq.Lemmas.IntMatEchP

namespace Ymq.IntMat

/-- all rows are accepted by `add` (specification-level fold) -/
def acceptAll (inv : Inv) : EchP → List (List Int) → Option EchP
  | e, [] => some e
  | e, v :: vs =>
    match e.add inv v with
    | some (e', true) => acceptAll inv e' vs
    | _ => none

theorem acceptAll_inv (inv : Inv) (p n : Nat) : ∀ (rest : List (List Int)) (e e' : EchP) (rows : List (List Int)),
    EchInv p n e rows → (∀ r ∈ rest, r.length = n) → acceptAll inv e rest = some e' →
    EchInv p n e' (rows ++ rest)
  | [], e, e', rows, hI, _, h => by
    simp only [acceptAll] at h
    rw [← Option.some.inj h]; simpa using hI
  | v :: vs, e, e', rows, hI, hr, h => by
    unfold acceptAll at h
    split at h
    · rename_i e1 hadd
      have h1 := EchInv.add_true inv p n e e1 rows v hI (hr v (by simp)) hadd
      have := acceptAll_inv inv p n vs e1 e' (rows ++ [v]) h1 (fun r hr' => hr r (by simp [hr'])) h
      simpa using this
    · exact absurd h (by simp)

theorem foldl_prod_cast (p : Nat) : ∀ (fs : List Nat) (acc : Nat),
    ((fs.foldl (fun acc f => acc * f % p) acc : Nat) : ZMod p) = (acc : ZMod p) * (fs.map (fun f => ((f : Nat) : ZMod p))).prod
  | [], acc => by simp
  | f :: fs, acc => by
    simp only [List.foldl_cons, List.map_cons, List.prod_cons]
    rw [foldl_prod_cast p fs (acc * f % p), ZMod.natCast_mod, Nat.cast_mul]; ring

theorem foldl_mulmod_lt (p : Nat) (hp : 0 < p) : ∀ (fs : List Nat) (acc : Nat), acc < p →
    fs.foldl (fun acc f => acc * f % p) acc < p
  | [], acc, h => by simpa using h
  | f :: fs, acc, _ => by
    simp only [List.foldl_cons]
    exact foldl_mulmod_lt p hp fs _ (Nat.mod_lt _ hp)

/-- the matrix of a list of integer rows, modulo `p` -/
def matOf (p n : Nat) (mat : List (List Int)) : Matrix (Fin n) (Fin n) (ZMod p) :=
  fun t => vecI p n (mat.getD t [])

/-- `det()` once `n > 0` rows of length `n` are accepted: the assertion and the cycle walk pass, and
the value is the reduced residue of the determinant (sign of the column order times the product of
the pivot factors) -/
theorem echInv_det (p n : Nat) (hn : 0 < n) (mat : List (List Int)) (hlen : mat.length = n)
    (e : EchP) (hI : EchInv p n e mat) :
    ∃ d, e.det = some d ∧ d < p ∧ ((d : Nat) : ZMod p) = (matOf p n mat).det := by
  obtain ⟨σ, hidx, hone, hzero⟩ := hI.ech
  have hp := hI.hp
  have len_b := hI.len_b
  have hne : mat ≠ [] := by intro h; rw [h] at hlen; simp at hlen; omega
  have hp0 : 0 < p := hI.p_pos hne
  have hkn : e.basis.length = n := by rw [len_b, hlen]
  -- the matrix is full on both sides: `det = ∏ factors · det basis = ∏ factors · sign σ`
  have hV : fill (mat.map (vecI p n)) 0 = matOf p n mat :=
    funext fun t => fill_map_apply _ mat [] 0 t (by rw [hlen]; exact t.2)
  have hB : fill (e.basis.map (vecN p n)) 0 = fun t : Fin n => vecN p n (e.basis.getD t []) :=
    funext fun t => fill_map_apply _ e.basis [] 0 t (by rw [hkn]; exact t.2)
  have hdetV := hI.det_eq 0
  rw [hV, hB, det_echelon_basis _ σ (fun t => hone t (by rw [hkn]; exact t.2) t.2)
    (fun t s hst => hzero t s hst (by rw [hkn]; exact t.2) t.2)] at hdetV
  unfold EchP.det
  cases hb : e.basis with
  | nil => rw [hb] at len_b; simp at len_b; omega
  | cons b0 bs =>
    simp only []
    have hσ : e.indices = permList σ := by simpa [EchP.start, hb] using hidx
    have hb0 : b0.length = n := hI.row_len b0 (by rw [hb]; simp)
    rw [if_neg (by rw [hI.len_f, hb0, hlen]; simp), hσ]
    obtain ⟨r, hsw, hr2⟩ := permSwaps_permList σ
    rw [hsw]
    simp only []
    set P := e.factors.foldl (fun acc f => acc * f % e.p) (1 % e.p) with hP
    have hPlt : P < p := by
      rw [hP, hp]; exact foldl_mulmod_lt p hp0 _ _ (Nat.mod_lt _ hp0)
    have hPcast : ((P : Nat) : ZMod p) = (e.factors.map (fun f => ((f : Nat) : ZMod p))).prod := by
      rw [hP, hp, foldl_prod_cast p e.factors (1 % p), ZMod.natCast_mod, Nat.cast_one, one_mul]
    rw [hdetV, ← hPcast, hp, mul_comm]
    refine ⟨_, rfl, ?_, ?_⟩
    · split
      · omega
      · exact hPlt
    · rcases Nat.even_or_odd r with hev | hodd
      · have h2 : r % 2 ≠ 1 := by obtain ⟨q, hq⟩ := hev; omega
        rw [if_neg (fun hh => h2 hh.1)]
        have : Equiv.Perm.sign σ = 1 := by rw [← hr2]; exact Even.neg_one_pow hev
        rw [this]; simp
      · have h2 : r % 2 = 1 := by obtain ⟨q, hq⟩ := hodd; omega
        have hs : Equiv.Perm.sign σ = -1 := by rw [← hr2]; exact Odd.neg_one_pow hodd
        rw [hs]
        by_cases hpos : P > 0
        · rw [if_pos ⟨h2, hpos⟩, Nat.cast_sub (Nat.le_of_lt hPlt), ZMod.natCast_self]; simp
        · have : P = 0 := by omega
          rw [if_neg (fun hh => hpos hh.2), this]; simp

/-- all `n` rows of the `n × n` matrix accepted (`acceptAll`), `det() = d` ⇒ `d ≡ det`: the accepting case of
`detModPlain_spec` -/
theorem echP_det (inv : Inv) (p n : Nat) (hn : 0 < n) (mat : List (List Int)) (hlen : mat.length = n)
    (hrows : ∀ r ∈ mat, r.length = n) (e : EchP) (d : Nat)
    (hacc : acceptAll inv { p := p, indices := [], basis := [], factors := [] } mat = some e)
    (hdet : e.det = some d) :
    ((d : Nat) : ZMod p) = (matOf p n mat).det := by
  have hI := acceptAll_inv inv p n mat _ e [] (EchInv.init p n) hrows hacc
  simp only [List.nil_append] at hI
  obtain ⟨d', hd', _, h⟩ := echInv_det p n hn mat hlen e hI
  rwa [Option.some.inj (hd'.symm.trans hdet)] at h

/-- **the determinant modulo `p` computed by the reference builder**: whenever `detModPlain` returns
a value for an `n × n` matrix (all rows accepted and `det()` evaluated, or a row rejected and `0`
returned), the value is the determinant modulo `p`. -/
theorem detModPlain_spec (inv : Inv) (p n : Nat) (hn : 0 < n) :
    ∀ (rest : List (List Int)) (e : EchP) (rows : List (List Int)) (d : Nat),
      EchInv p n e rows → (rows ++ rest).length = n → (∀ r ∈ rest, r.length = n) →
      detModPlain inv p e rest = some d → ((d : Nat) : ZMod p) = (matOf p n (rows ++ rest)).det
  | [], e, rows, d, hI, hlen, _, h => by
    simp only [detModPlain] at h
    simp only [List.append_nil] at hlen ⊢
    obtain ⟨d', hd', _, hd⟩ := echInv_det p n hn rows hlen e hI
    rwa [Option.some.inj (hd'.symm.trans h)] at hd
  | v :: vs, e, rows, d, hI, hlen, hr, h => by
    unfold detModPlain at h
    have hv : v.length = n := hr v (by simp)
    split at h
    · exact absurd h (by simp)
    · rename_i e2 hadd
      have hd : d = 0 := (Option.some.inj h).symm
      have hm := EchInv.add_false inv p n e e2 rows v hI hv hadd
      have hk : rows.length < n := by
        rw [← hlen]; simp
      -- the matrix begins with `rows ++ [v]`, and `v` has no part outside the basis rows
      have hV : fill ((rows.map (vecI p n)) ++ [vecI p n v]) (matOf p n (rows ++ v :: vs)) =
          matOf p n (rows ++ v :: vs) := by
        funext t
        rw [← List.map_singleton, ← List.map_append, List.append_cons rows v vs]
        by_cases ht : (t : Nat) < (rows ++ [v]).length
        · refine (fill_map_apply (vecI p n) (rows ++ [v]) [] _ t ht).trans ?_
          show _ = vecI p n ((rows ++ [v] ++ vs).getD t [])
          rw [List.getD_append _ _ _ _ ht]
        · exact fill_of_le _ _ t (by simpa using ht)
      have hv : vecI p n v - (0 : ZMod p) • (0 : Fin n → ZMod p) ∈
          Submodule.span (ZMod p) {x | x ∈ e.basis.map (vecN p n)} := by simpa using hm
      have := det_fill_snoc (by simp [hI.len_b]) (by simpa [hI.len_b] using hk) hv hI.det_eq
        (matOf p n (rows ++ v :: vs))
      rw [hV] at this
      rw [hd, this]; simp
    · rename_i e' hadd
      have h1 := EchInv.add_true inv p n e e' rows v hI hv hadd
      have := detModPlain_spec inv p n hn vs e' (rows ++ [v]) d h1 (by simpa using hlen)
        (fun r hr' => hr r (by simp [hr'])) h
      simpa using this

theorem detModPlain_total (inv : Inv) (hinv : InvSpec inv) (p n : Nat) (hn : 0 < n) (hpr : p.Prime) (hp63 : p < I63) :
    ∀ (rest : List (List Int)) (e : EchP) (rows : List (List Int)),
      EchInv p n e rows → (rows ++ rest).length = n → (∀ r ∈ rest, r.length = n) →
      ∃ d, detModPlain inv p e rest = some d ∧ d < p
  | [], e, rows, hI, hlen, _ => by
    simp only [detModPlain]
    simp only [List.append_nil] at hlen
    obtain ⟨d, hd, hlt, _⟩ := echInv_det p n hn rows hlen e hI
    exact ⟨d, hd, hlt⟩
  | v :: vs, e, rows, hI, hlen, hr => by
    unfold detModPlain
    have hv : v.length = n := hr v (by simp)
    obtain ⟨e', b, hadd⟩ := hI.add_total inv hinv p n hpr hp63 e rows v hv
    rw [hadd]
    cases b with
    | false => exact ⟨0, rfl, hpr.pos⟩
    | true =>
      simp only []
      have h1 := EchInv.add_true inv p n e e' rows v hI hv hadd
      exact detModPlain_total inv hinv p n hn hpr hp63 vs e' (rows ++ [v]) h1 (by simpa using hlen)
        (fun r hr' => hr r (by simp [hr']))

end Ymq.IntMat
