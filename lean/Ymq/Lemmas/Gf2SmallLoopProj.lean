/-
C14 "small", helper lemmas (Mathlib): the projection loop of the checked profile under the
block Lanczos invariant (`projStep_checked_inv`: one step of the invariant `FoldInv`).
-/
import Ymq.Lemmas.Gf2SmallLoopAlg

namespace Ymq.Gf2Small
open Ymq.Gf2 Ymq.Gf2Genblock Ymq.Gf2Lanczos
open scoped Matrix

/-- the block `j` is projected in this iteration: kept and not yet consumed -/
def Projected (ws : List (List Nat)) (masks : List Nat) (L j : Nat) : Prop :=
  (ws.getD j []).isEmpty = false ∧ maskFor masks j L ≠ some 0

instance (ws : List (List Nat)) (masks : List Nat) (L j : Nat) : Decidable (Projected ws masks L j) := by
  unfold Projected; infer_instance

/-- what the projection loop needs from the state: `hist` lists every block `W_j` ever selected
(purged or not) -/
structure ProjCtx (k : Nat) (cols : List (List Nat)) (st : LState) (hist : List (List Nat)) (Ss : List Nat)
    (next0 : List Nat) : Prop where
  kept : ∀ j w, st.ws[j]? = some w → w.isEmpty = false →
    w = hist.getD j [] ∧ ∃ ig, st.invgs[j]? = some ig ∧ KeptOK k cols w ig (Ss.getD j 0)
  orth : ∀ j l, j < st.ws.length → l < st.ws.length → j ≠ l → Q k cols (hist.getD j []) (hist.getD l []) = 0
  /-- the three-term property: the blocks that are not projected any more are already A-orthogonal to
  the new direction -/
  threeTerm : ∀ j, j < st.ws.length → ¬ Projected st.ws st.masks st.ws.length j →
    Q k cols (hist.getD j []) next0 = 0

/-- invariant of the projection loop before index `j0` -/
structure FoldInv (k : Nat) (cols : List (List Nat)) (st : LState) (hist : List (List Nat)) (next0 : List Nat)
    (j0 : Nat) (stp : List (List Nat) × List (List Nat) × List Nat) : Prop where
  ok : ProjOK st.ws.length cols.length stp
  same : ∀ j, j0 ≤ j → stp.2.1[j]? = st.ws[j]?
  sub : ∀ (j : Nat) (w : List Nat), stp.2.1[j]? = some w → w.isEmpty = false → st.ws[j]? = some w
  q : ∀ j, j < st.ws.length → Q k cols (hist.getD j []) stp.2.2 =
    if j < j0 ∧ Projected st.ws st.masks st.ws.length j then 0 else Q k cols (hist.getD j []) next0
  /-- against a block A-orthogonal to the whole history the projections change nothing -/
  xform : ∀ X, BlockOK cols.length X → (∀ l, l < st.ws.length → Q k cols X (hist.getD l []) = 0) →
    Q k cols X stp.2.2 = Q k cols X next0
  /-- a block emptied by this loop had `mask == 0` -/
  purgeRec : ∀ (j : Nat) (w : List Nat), stp.2.1[j]? = some w → w.isEmpty = true →
    (∃ w0, st.ws[j]? = some w0 ∧ w0.isEmpty = true) ∨ maskFor st.masks j st.ws.length = some 0

/-- One step of `FoldInv`, in the three cases of `projStep`: the block was purged earlier (nothing happens); its mask is
null (purge: the assertion `ws[j]·av == 0` is the three-term property); it is projected (`projStep_checked_ok`; the
values `Q W_l next` of the other blocks do not move because the history is pairwise A-orthogonal). -/
theorem projStep_checked_inv {k : Nat} {cols : List (List Nat)} (hM : MatOK k cols) {st : LState}
    {hist : List (List Nat)} {Ss : List Nat} {next0 av : List Nat}
    (hn0 : BlockOK cols.length next0) (hav : mulAabOpt (qsOptimize k cols) next0 = some av)
    (hMk : st.masks.length = st.ws.length)
    (hC : ProjCtx k cols st hist Ss next0) {j0 : Nat} (hj0 : j0 < st.ws.length)
    {stp : List (List Nat) × List (List Nat) × List Nat} (hF : FoldInv k cols st hist next0 j0 stp) :
    ∃ stp', projStep true (qsOptimize k cols) av st.invgs st.masks st.ws.length stp j0 = some stp' ∧
      FoldInv k cols st hist next0 (j0 + 1) stp' := by
  obtain ⟨vs, ws, next⟩ := stp
  obtain ⟨hv, hw, hwOK, hnext⟩ := hF.ok
  have hsame := hF.same
  have hsub := hF.sub
  have hq := hF.q
  have hx := hF.xform
  have hpr := hF.purgeRec
  simp only at hv hw hwOK hnext hsame hsub hq hx hpr
  have hwj : ws[j0]? = some (st.ws[j0]'hj0) := by rw [hsame j0 (Nat.le_refl _), List.getElem?_eq_getElem hj0]
  have hgetD : st.ws.getD j0 [] = st.ws[j0]'hj0 := by
    simp [List.getD_eq_getElem?_getD, List.getElem?_eq_getElem hj0]
  have hiff : ∀ {j}, j ≠ j0 → ((j < j0 + 1 ∧ Projected st.ws st.masks st.ws.length j) ↔
      (j < j0 ∧ Projected st.ws st.masks st.ws.length j)) := fun e =>
    and_congr_left' ⟨fun h => Nat.lt_of_le_of_ne (Nat.le_of_lt_succ h) e, Nat.lt_succ_of_lt⟩
  cases he : (st.ws[j0]'hj0).isEmpty with
  | true =>
    refine ⟨(vs, ws, next), ?_,
      { ok := ⟨hv, hw, hwOK, hnext⟩, same := fun j hj => hsame j (by omega), sub := hsub, q := ?_
        xform := hx, purgeRec := hpr }⟩
    · unfold projStep; simp only [hwj, he, if_true]
    · intro j hj
      rw [hq j hj]
      by_cases e : j = j0
      · subst e
        have : ¬ Projected st.ws st.masks st.ws.length j := by
          intro hp; rw [Projected, hgetD, he] at hp; exact absurd hp.1 (by decide)
        simp [this]
      · simp only [hiff e]
  | false =>
    obtain ⟨hwh, ig, hig, hK⟩ := hC.kept j0 _ (List.getElem?_eq_getElem hj0) he
    obtain ⟨m, hm⟩ := maskFor_ok st.masks j0 st.ws.length (by omega)
    by_cases hm0 : m = 0
    · -- purge: the assertion `ws[j] * av == 0` is the three-term property
      subst hm0
      have hnp : ¬ Projected st.ws st.masks st.ws.length j0 := fun hp => hp.2 hm
      have hz : blockDot (st.ws[j0]'hj0) av = some zeros64 :=
        dot_aab_zero hM hK.wOK.1 (aab_ok hM hn0 hav) hav (hwh ▸ hC.threeTerm j0 hj0 hnp)
      refine ⟨(vs.set j0 [], ws.set j0 [], next), ?_,
        { ok := ⟨by simp [hv], by simp [hw], ?_, hnext⟩, same := ?_, sub := ?_, q := ?_, xform := hx, purgeRec := ?_ }⟩
      rotate_right
      · intro j w hjw hwe
        have hjw' : (ws.set j0 [])[j]? = some w := hjw
        by_cases e : j0 = j
        · subst e; exact Or.inr hm
        · rw [List.getElem?_set_ne e] at hjw'
          exact hpr j w hjw' hwe
      · unfold projStep
        simp only [hwj, he, Bool.false_eq_true, if_false, hm, if_true, hz, bne_self_eq_false, Bool.and_false,
          show j0 < vs.length by omega]
      · intro w hwm
        rcases List.mem_or_eq_of_mem_set hwm with h | h
        · exact hwOK w h
        · exact Or.inl h
      · intro j hj
        show (ws.set j0 [])[j]? = _
        rw [List.getElem?_set_ne (by omega)]
        exact hsame j (by omega)
      · intro j w hjw hwe
        have hjw' : (ws.set j0 [])[j]? = some w := hjw
        by_cases e : j0 = j
        · subst e
          rw [List.getElem?_set_self (by omega)] at hjw'
          injection hjw' with hjw'
          rw [← hjw'] at hwe
          exact absurd hwe (by decide)
        · rw [List.getElem?_set_ne e] at hjw'
          exact hsub j w hjw' hwe
      · intro j hj
        show Q k cols (hist.getD j []) next = _
        rw [hq j hj]
        by_cases e : j = j0
        · subst e; simp [hnp]
        · simp only [hiff e]
    · have hp : Projected st.ws st.masks st.ws.length j0 := by
        refine ⟨by rw [hgetD]; exact he, ?_⟩
        rw [hm]; intro h; injection h with h; exact hm0 h
      have hcomm : Q k cols (st.ws[j0]'hj0) next = Q k cols (st.ws[j0]'hj0) next0 := by
        have := hq j0 hj0
        rw [if_neg (by omega), ← hwh] at this
        exact this
      obtain ⟨next', hstep, hn'OK, hn'M, horth⟩ := projStep_checked_ok hM (vs := vs) (ws := ws) hn0 hav hnext hwj he
        hm hm0 hig hK hcomm
      refine ⟨(vs, ws, next'), hstep,
        { ok := ⟨hv, hw, hwOK, hn'OK⟩, same := fun j hj => hsame j (by omega), sub := hsub, q := ?_, xform := ?_
          purgeRec := hpr }⟩
      rotate_left
      · intro X hX hall
        show Q k cols X next' = _
        rw [Q_add hn'M, show Q k cols X (st.ws[j0]'hj0) = 0 from hwh ▸ hall j0 hj0, Matrix.zero_mul, add_zero]
        exact hx X hX hall
      intro j hj
      show Q k cols (hist.getD j []) next' = _
      by_cases e : j = j0
      · subst e
        rw [if_pos ⟨by omega, hp⟩, ← hwh]
        exact horth
      · simp only [hiff e]
        rw [← hq j hj]
        show Q k cols (hist.getD j []) next' = _
        rw [Q_add hn'M, show Q k cols (hist.getD j []) (st.ws[j0]'hj0) = 0 from hwh ▸ hC.orth j j0 hj hj0 e,
          Matrix.zero_mul, add_zero]

end Ymq.Gf2Small
