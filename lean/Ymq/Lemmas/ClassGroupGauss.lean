/-
Gauss composition for the reference arithmetic of property C18: `Form.compose` (Cohen, Algorithm 5.4.7, with the
model's own extended gcd, whose fuel suffices) IS a composition. With `e = gcd(a1, a2, s)`, `s = (b1+b2)/2`, and Bezout
coefficients of `e`, the quotient defining the third coefficient is exact, the discriminant is kept, and
`f1(x1,y1) f2(x2,y2) = g(e x1x2 - r x1y2 - m y1x2 + k3 y1y2, v1 x1y2 + v2 y1x2 + σ y1y2)`.
-/
import Ymq.Lemmas.ClassGroupCompose
import Mathlib.Tactic.Linarith
namespace Ymq.ClassGroup


/-- The identity in normal form. `g = (v1 v2, B, c3)` is the composed form; the two factors are `e · f_i` with `f_i`
written through `g`: `a_i = e v_i`, `b_i = B + 2 v_i k_i`, `e c_i = k_i B + v_i k_i² + v_j c3`. `gauss_identity` brings
`f1`, `f2` into this shape with `k1 = -m`, `k2 = -r`. -/
theorem gauss_core (e v1 v2 B k1 k2 c3 x1 y1 x2 y2 : Int) :
    (e*e*v1*x1*x1 + e*(B+2*v1*k1)*x1*y1 + (k1*B+v1*k1*k1+v2*c3)*y1*y1)
      * (e*e*v2*x2*x2 + e*(B+2*v2*k2)*x2*y2 + (k2*B+v2*k2*k2+v1*c3)*y2*y2)
    = (⟨v1*v2, B, c3⟩ : Form).eval
        (e*e*x1*x2 + e*k2*x1*y2 + e*k1*y1*x2 + (k1*k2-c3)*y1*y2)
        (e*v1*x1*y2 + e*v2*y1*x2 + (B+v1*k1+v2*k2)*y1*y2) := by
  simp only [Form.eval]; ring

/-- Bezout part: the two divisibilities (`m`, `k3` of `gauss_identity` are the quotients by `v1`) that make Cohen 5.4.7
work. Letters as in `gauss_identity`; `x2`, `P = y1 y2`, `t = y2 w` are the coefficients of `e = x2 s - P a2 - t a1`, put
together from `d = y1 a2 + w a1` (`stepD`) and `e = x2 s - y2 d` (`stepE`); `k` is the quotient lost when `r` is reduced
modulo `v1`. -/
theorem compose_divs (b1 c1 b2 c2 e v1 v2 σ x2 P t r k : Int)
    (he : e ≠ 0)
    (h2s : b1 + b2 = 2 * (e * σ))
    (hD : b1 * b1 - 4 * (e * v1) * c1 = b2 * b2 - 4 * (e * v2) * c2)
    (hbez : e = x2 * (e * σ) - P * (e * v2) - t * (e * v1))
    (hr : r = P * (b2 - e * σ) - x2 * c2 + k * v1) :
    (b2 - e * σ) + v2 * r = v1 * (-(x2 * c1) - (b2 - e * σ) * t + v2 * k) ∧
    c2 + σ * r = -(v1 * (P * c1 + c2 * t - σ * k)) := by
  have H2 : 1 = x2 * σ - P * v2 - t * v1 := by
    apply mul_left_cancel₀ he
    linear_combination hbez
  have H1 : (b2 - e * σ) * σ - v2 * c2 = -(v1 * c1) := by
    apply mul_left_cancel₀ (mul_ne_zero (by norm_num : (4 : Int) ≠ 0) he)
    linear_combination (b1 - b2 + 2 * (e*σ)) * h2s - hD
  subst hr
  constructor
  · linear_combination (b2 - e * σ) * H2 + x2 * H1
  · linear_combination c2 * H2 + P * H1

/-- The letters, in terms of Cohen 5.4.7 / `composeCore` for `f_i = (a_i, b_i, c_i)`: `s = (b1 + b2)/2`,
`e = gcd(a1, a2, s)` (`d1` of the algorithm, `xe.2.2` of `composeCore`), `v_i = a_i / e`, `σ = s / e`, `r` the residue of
step 4, `m = ((b2 - s) + v2 r) / v1` and `k3 = -(c2 + σ r) / v1` (exact: `F1`, `F2`, from `compose_divs`). The composed form is
`(v1 v2, b2 + 2 v2 r, r m - e k3)`; the first conjunct says that this third coefficient is the quotient the code takes. -/
theorem gauss_identity (a1 b1 c1 a2 b2 c2 e v1 v2 σ r m k3 : Int)
    (he : e ≠ 0) (hv1 : v1 ≠ 0)
    (ha1 : a1 = e * v1) (ha2 : a2 = e * v2)
    (h2s : b1 + b2 = 2 * (e * σ))
    (hD : b1 * b1 - 4 * a1 * c1 = b2 * b2 - 4 * a2 * c2)
    (F1 : (b2 - e * σ) + v2 * r = v1 * m)
    (F2 : c2 + σ * r = -(v1 * k3)) :
    c2 * e + r * (b2 + v2 * r) = v1 * (r * m - e * k3) ∧
    (⟨v1 * v2, b2 + 2 * v2 * r, r * m - e * k3⟩ : Form).disc = (⟨a2, b2, c2⟩ : Form).disc ∧
    ∀ x1 y1 x2 y2 : Int, (⟨a1, b1, c1⟩ : Form).eval x1 y1 * (⟨a2, b2, c2⟩ : Form).eval x2 y2
      = (⟨v1 * v2, b2 + 2 * v2 * r, r * m - e * k3⟩ : Form).eval
          (e * x1 * x2 - r * x1 * y2 - m * y1 * x2 + k3 * y1 * y2)
          (v1 * x1 * y2 + v2 * y1 * x2 + σ * y1 * y2) := by
  subst ha1 ha2
  have hdisc : (b2 + 2 * v2 * r) * (b2 + 2 * v2 * r) - 4 * (v1 * v2) * (r * m - e * k3)
      = b2 * b2 - 4 * (e * v2) * c2 := by
    linear_combination (4 * v2 * r) * F1 + (4 * v2 * e) * F2
  have hb1 : b1 = (b2 + 2 * v2 * r) + 2 * v1 * (-m) := by
    linear_combination h2s - 2 * F1
  have R1 : e * c1 = (-m) * (b2 + 2 * v2 * r) + v1 * (-m) * (-m) + v2 * (r * m - e * k3) := by
    apply mul_left_cancel₀ (mul_ne_zero (by norm_num : (4 : Int) ≠ 0) hv1)
    rw [hb1] at hD
    linear_combination hdisc - hD
  have R2 : e * c2 = (-r) * (b2 + 2 * v2 * r) + v2 * (-r) * (-r) + v1 * (r * m - e * k3) := by
    linear_combination r * F1 + e * F2
  have R3 : e * σ = (b2 + 2 * v2 * r) + v1 * (-m) + v2 * (-r) := by
    linear_combination (-1) * F1
  refine ⟨by linear_combination r * F1 + e * F2, ?_, ?_⟩
  · simp only [Form.disc]; linear_combination hdisc
  · intro x1 y1 x2 y2
    have core := gauss_core e v1 v2 (b2 + 2 * v2 * r) (-m) (-r) (r * m - e * k3) x1 y1 x2 y2
    apply mul_left_cancel₀ (mul_ne_zero he he)
    have e1 : e * (⟨e * v1, b1, c1⟩ : Form).eval x1 y1
        = e*e*v1*x1*x1 + e*((b2 + 2 * v2 * r)+2*v1*(-m))*x1*y1
          + ((-m)*(b2 + 2 * v2 * r)+v1*(-m)*(-m)+v2*(r * m - e * k3))*y1*y1 := by
      simp only [Form.eval]; rw [← R1, ← hb1]; ring
    have e2 : e * (⟨e * v2, b2, c2⟩ : Form).eval x2 y2
        = e*e*v2*x2*x2 + e*((b2 + 2 * v2 * r)+2*v2*(-r))*x2*y2
          + ((-r)*(b2 + 2 * v2 * r)+v2*(-r)*(-r)+v1*(r * m - e * k3))*y2*y2 := by
      simp only [Form.eval]; rw [← R2]; ring
    have e3 : ∀ (g : Form) (X Y : Int), e * e * g.eval X Y = g.eval (e * X) (e * Y) := by
      intro g X Y; simp only [Form.eval]; ring
    rw [e3]
    have eX : e * (e * x1 * x2 - r * x1 * y2 - m * y1 * x2 + k3 * y1 * y2)
        = e*e*x1*x2 + e*(-r)*x1*y2 + e*(-m)*y1*x2 + ((-m)*(-r)-(r * m - e * k3))*y1*y2 := by ring
    have eY : e * (v1 * x1 * y2 + v2 * y1 * x2 + σ * y1 * y2)
        = e*v1*x1*y2 + e*v2*y1*x2 + ((b2 + 2 * v2 * r)+v1*(-m)+v2*(-r))*y1*y2 := by
      rw [← R3]; ring
    rw [eX, eY, ← core, ← e1, ← e2]; ring



theorem xgcdAux_bezout (A B : Int) : ∀ (fuel : Nat) (a b u0 v0 u1 v1 : Int),
    u0 * A + v0 * B = a → u1 * A + v1 * B = b →
    ∀ g u v, xgcdAux fuel a b u0 v0 u1 v1 = (g, u, v) → u * A + v * B = g := by
  intro fuel
  induction fuel with
  | zero =>
    intro a b u0 v0 u1 v1 h0 _ g u v h
    simp only [xgcdAux, Prod.mk.injEq] at h
    obtain ⟨rfl, rfl, rfl⟩ := h; exact h0
  | succ f ih =>
    intro a b u0 v0 u1 v1 h0 h1 g u v h
    rw [xgcdAux] at h
    split at h
    · split at h
      · simp only [Prod.mk.injEq] at h
        obtain ⟨rfl, rfl, rfl⟩ := h; linear_combination -h0
      · simp only [Prod.mk.injEq] at h
        obtain ⟨rfl, rfl, rfl⟩ := h; exact h0
    · exact ih _ _ _ _ _ _ h1 (by linear_combination h0 - (a / b) * h1) g u v h

/-- the remainder halves every two steps of Euclid's algorithm -/
theorem emod_emod_lt {b r : Int} {n : Nat} (hr0 : 0 < r) (hrb : r < b) (hb : b < 2 ^ (n + 1)) : b % r < 2 ^ n := by
  have h1 := Int.emod_lt_of_pos b hr0
  have h2 := Int.emod_nonneg b hr0.ne'
  have h3 := Int.mul_ediv_add_emod b r
  have hq : 1 ≤ b / r := by rw [Int.le_ediv_iff_mul_le hr0]; omega
  have : r * 1 ≤ r * (b / r) := Int.mul_le_mul_of_nonneg_left hq hr0.le
  have h2n : (2 : Int) ^ (n + 1) = 2 * 2 ^ n := by ring
  omega

/-- with `b < 2^n`, `a % b < 2^m` and `n + m + 1` units of fuel the loop ends on a zero remainder: the result
divides both arguments -/
theorem xgcdAux_dvd : ∀ (fuel n m : Nat) (a b u0 v0 u1 v1 : Int),
    0 ≤ b → b < 2 ^ n → (b ≠ 0 → a % b < 2 ^ m) → n + m + 1 ≤ fuel →
    ∀ g u v, xgcdAux fuel a b u0 v0 u1 v1 = (g, u, v) → g ∣ a ∧ g ∣ b ∧ 0 ≤ g
  | 0, _, _, _, _, _, _, _, _, _, _, _, hf => by omega
  | f + 1, n, m, a, b, u0, v0, u1, v1, hb0, hb, hr, hf => by
    intro g u v h
    rw [xgcdAux] at h
    by_cases hbz : b = 0
    · subst hbz
      rw [if_pos rfl] at h
      split at h <;> (obtain ⟨rfl, -, -⟩ := Prod.mk.inj h)
      · exact ⟨by simp, dvd_zero _, by omega⟩
      · exact ⟨dvd_refl _, dvd_zero _, by omega⟩
    · rw [if_neg hbz] at h
      dsimp only at h
      rw [show a - a / b * b = a % b by rw [Int.emod_def]; ring] at h
      have hbpos : 0 < b := by omega
      have hr0 : 0 ≤ a % b := Int.emod_nonneg _ hbz
      have hrlt : a % b < b := Int.emod_lt_of_pos _ hbpos
      obtain ⟨n', rfl⟩ : ∃ n', n = n' + 1 := ⟨n - 1, by
        rcases n with _ | n
        · simp at hb; omega
        · rfl⟩
      obtain ⟨h1, h2, h3⟩ := xgcdAux_dvd f m n' b (a % b) _ _ _ _ hr0 (hr hbz)
        (fun hrz => emod_emod_lt (by omega) hrlt hb) (by omega) g u v h
      refine ⟨?_, h1, h3⟩
      rw [← Int.mul_ediv_add_emod a b]
      exact dvd_add (Dvd.dvd.mul_right h1 _) h2

theorem xgcd_spec (a b : Int) (hb : 0 ≤ b) (g u v : Int) (h : xgcd a b = (g, u, v)) :
    u * a + v * b = g ∧ g ∣ a ∧ g ∣ b ∧ 0 ≤ g := by
  unfold xgcd at h
  refine ⟨xgcdAux_bezout a b _ a b 1 0 0 1 (by ring) (by ring) g u v h, ?_⟩
  have hlt : b < 2 ^ (b.natAbs.log2 + 1) := by
    have := Nat.lt_log2_self (n := b.natAbs)
    have e : b = (b.natAbs : Int) := by omega
    rw [e]
    exact_mod_cast this
  exact xgcdAux_dvd _ (b.natAbs.log2 + 1) (b.natAbs.log2 + 1) a b 1 0 0 1 hb hlt
    (fun hbz => lt_trans (Int.emod_lt_of_pos _ (by omega)) hlt) (by omega) g u v h



/-- step 2 of Cohen 5.4.7 as `Form.compose` has it: `(y1, d)`, `d = gcd(a1, a2) = y1 a2 + w a1` -/
def stepD (a1 a2 : Int) : Int × Int :=
  if a2 % a1 = 0 then ((0 : Int), a1) else let (g, u, _) := xgcd a2 a1; (u, g)

/-- step 3: `(x2, y2, d1)`, `d1 = gcd(s, d) = x2 s - y2 d` -/
def stepE (s d : Int) : Int × Int × Int :=
  if s % d = 0 then ((0 : Int), (-1 : Int), d) else let (g, u, v) := xgcd s d; (u, -v, g)

/-- the `let`-chain of `Form.compose` after the swap that makes `f1.a ≤ f2.a`, before `Form.reduce` -/
def composeCore (f1 f2 : Form) : Form :=
  let s := (f1.b + f2.b) / 2
  let n := f2.b - s
  let yd := stepD f1.a f2.a
  let xe := stepE s yd.2
  let v1 := f1.a / xe.2.2
  let v2 := f2.a / xe.2.2
  let r := (yd.1 * xe.2.1 * n - xe.1 * f2.c) % v1
  ⟨v1 * v2, f2.b + 2 * v2 * r, (f2.c * xe.2.2 + r * (f2.b + v2 * r)) / v1⟩

/-- `Form.compose` before `Form.reduce` (`compose_eq_raw`) -/
def Form.composeRaw (f1 f2 : Form) : Form :=
  if f1.a > f2.a then composeCore f2 f1 else composeCore f1 f2

theorem compose_eq_raw (f1 f2 : Form) :
    f1.compose f2 = (f1.composeRaw f2).reduce (reduceFuel (f1.composeRaw f2)) := by
  unfold Form.compose Form.composeRaw
  by_cases h : f1.a > f2.a
  · rw [if_pos h, if_pos h]; rfl
  · rw [if_neg h, if_neg h]; rfl


theorem xgcd_pos {a b g u v : Int} (hb : 0 < b) (h : xgcd a b = (g, u, v)) :
    u * a + v * b = g ∧ g ∣ a ∧ g ∣ b ∧ 0 < g := by
  obtain ⟨h1, h2, h3, h4⟩ := xgcd_spec a b hb.le g u v h
  refine ⟨h1, h2, h3, lt_of_le_of_ne h4 ?_⟩
  rintro rfl
  exact hb.ne' (zero_dvd_iff.1 h3)

theorem stepD_spec (a1 a2 : Int) (h1 : 0 < a1) :
    ∃ w : Int, (stepD a1 a2).2 = (stepD a1 a2).1 * a2 + w * a1 ∧ (stepD a1 a2).2 ∣ a1 ∧
      (stepD a1 a2).2 ∣ a2 ∧ 0 < (stepD a1 a2).2 := by
  unfold stepD
  by_cases h : a2 % a1 = 0
  · rw [if_pos h]
    exact ⟨1, by simp, dvd_refl _, Int.dvd_of_emod_eq_zero h, h1⟩
  · rw [if_neg h]
    rcases hx : xgcd a2 a1 with ⟨g, u, v⟩
    obtain ⟨hb, hg2, hg1, hg0⟩ := xgcd_pos h1 hx
    exact ⟨v, hb.symm, hg1, hg2, hg0⟩

theorem stepE_spec (s d : Int) (hd : 0 < d) :
    (stepE s d).2.2 = (stepE s d).1 * s - (stepE s d).2.1 * d ∧ (stepE s d).2.2 ∣ s ∧
      (stepE s d).2.2 ∣ d ∧ 0 < (stepE s d).2.2 := by
  unfold stepE
  by_cases h : s % d = 0
  · rw [if_pos h]
    exact ⟨by simp, Int.dvd_of_emod_eq_zero h, dvd_refl _, hd⟩
  · rw [if_neg h]
    rcases hx : xgcd s d with ⟨g, u, v⟩
    obtain ⟨hb, hg2, hg1, hg0⟩ := xgcd_pos hd hx
    exact ⟨by linear_combination -hb, hg2, hg1, hg0⟩

theorem disc_parity {f1 f2 : Form} (hd : f1.disc = f2.disc) : (2 : Int) ∣ f1.b + f2.b := by
  have p1 : (2 : Int) ∣ f1.b - f1.disc := parity_of_sq ⟨f1.a * f1.c, by simp only [Form.disc]; ring⟩
  have p2 : (2 : Int) ∣ f2.b - f1.disc := parity_of_sq ⟨f2.a * f2.c, by rw [hd]; simp only [Form.disc]; ring⟩
  obtain ⟨u, hu⟩ := p1
  obtain ⟨v, hv⟩ := p2
  exact ⟨u + v + f1.disc, by linear_combination hu + hv⟩

/-- what `composeCore` computes: `e = gcd(a1, a2, s)` with its Bezout coefficients, the cofactors, and the two
divisibilities `F1`, `F2` that make the third coefficient an exact quotient -/
theorem composeCore_spec (f1 f2 : Form) (h1 : 0 < f1.a) (hd : f1.disc = f2.disc) :
    ∃ e v1 v2 σ r m k3 x2 P t : Int, 0 < e ∧ v1 ≠ 0 ∧ f1.a = e * v1 ∧ f2.a = e * v2 ∧
      f1.b + f2.b = 2 * (e * σ) ∧ e = x2 * (e * σ) - P * (e * v2) - t * (e * v1) ∧
      (f2.b - e * σ) + v2 * r = v1 * m ∧ f2.c + σ * r = -(v1 * k3) ∧
      composeCore f1 f2 = ⟨v1 * v2, f2.b + 2 * v2 * r, r * m - e * k3⟩ ∧
      (composeCore f1 f2).disc = f2.disc ∧
      ∀ x1 y1 x2 y2 : Int, f1.eval x1 y1 * f2.eval x2 y2 = (composeCore f1 f2).eval
        (e * x1 * x2 - r * x1 * y2 - m * y1 * x2 + k3 * y1 * y2)
        (v1 * x1 * y2 + v2 * y1 * x2 + σ * y1 * y2) := by
  obtain ⟨w, hdb, hd1, hd2, hd0⟩ := stepD_spec f1.a f2.a h1
  obtain ⟨heb, hes, hed, he0⟩ := stepE_spec ((f1.b + f2.b) / 2) (stepD f1.a f2.a).2 hd0
  obtain ⟨s, hs⟩ := disc_parity hd
  have hs' : (f1.b + f2.b) / 2 = s := by rw [hs]; exact Int.mul_ediv_cancel_left _ (by norm_num)
  rw [hs'] at heb hes hed he0
  generalize hyd : stepD f1.a f2.a = yd at *
  generalize hxe : stepE s yd.2 = xe at *
  obtain ⟨y1, d⟩ := yd
  obtain ⟨x2, y2, e⟩ := xe
  simp only at hdb hd1 hd2 hd0 heb hes hed he0
  have hea1 : e ∣ f1.a := dvd_trans hed hd1
  have hea2 : e ∣ f2.a := dvd_trans hed hd2
  obtain ⟨v1, hv1⟩ := hea1
  obtain ⟨v2, hv2⟩ := hea2
  obtain ⟨σ, hσ⟩ := hes
  subst hσ
  simp only at hxe
  have he : e ≠ 0 := by omega
  have hv10 : v1 ≠ 0 := by rintro rfl; rw [mul_zero] at hv1; omega
  have q1 : f1.a / e = v1 := by rw [hv1]; exact Int.mul_ediv_cancel_left _ he
  have q2 : f2.a / e = v2 := by rw [hv2]; exact Int.mul_ediv_cancel_left _ he
  have hD : f1.b * f1.b - 4 * (e * v1) * f1.c = f2.b * f2.b - 4 * (e * v2) * f2.c := by
    have := hd; simp only [Form.disc] at this; rw [hv1, hv2] at this; exact this
  have h2s : f1.b + f2.b = 2 * (e * σ) := hs
  have hbez : e = x2 * (e * σ) - (y1 * y2) * (e * v2) - (y2 * w) * (e * v1) := by
    rw [← hv2, ← hv1]; linear_combination heb - y2 * hdb
  set r0 := y1 * y2 * (f2.b - e * σ) - x2 * f2.c with hr0
  have hr : r0 % v1 = y1 * y2 * (f2.b - e * σ) - x2 * f2.c + (-(r0 / v1)) * v1 := by
    rw [Int.emod_def]; ring
  obtain ⟨F1, F2⟩ := compose_divs f1.b f1.c f2.b f2.c e v1 v2 σ x2 (y1 * y2) (y2 * w) (r0 % v1) (-(r0 / v1))
    he h2s hD hbez hr
  obtain ⟨m, F1⟩ : ∃ m, (f2.b - e * σ) + v2 * (r0 % v1) = v1 * m := ⟨_, F1⟩
  obtain ⟨k3, F2⟩ : ∃ k3, f2.c + σ * (r0 % v1) = -(v1 * k3) := ⟨_, F2⟩
  obtain ⟨hc3, hdisc, hid⟩ := gauss_identity f1.a f1.b f1.c f2.a f2.b f2.c e v1 v2 σ (r0 % v1) m k3 he hv10
    hv1 hv2 h2s (by rw [hv1, hv2]; exact hD) F1 F2
  have hcore : composeCore f1 f2 = ⟨v1 * v2, f2.b + 2 * v2 * (r0 % v1), r0 % v1 * m - e * k3⟩ := by
    unfold composeCore
    simp only [hs', hyd, hxe, q1, q2]
    rw [Form.mk.injEq]
    refine ⟨rfl, rfl, ?_⟩
    rw [hc3]; exact Int.mul_ediv_cancel_left _ hv10
  refine ⟨e, v1, v2, σ, r0 % v1, m, k3, x2, y1 * y2, y2 * w, he0, hv10, hv1, hv2, h2s, hbez, F1, F2, hcore, ?_, ?_⟩
  · rw [hcore]; exact hdisc
  · rw [hcore]; exact hid

/-- a bilinear form in `(x1, y1)`, `(x2, y2)` with integer coefficients -/
def bil (α : Int × Int × Int × Int) (x1 y1 x2 y2 : Int) : Int :=
  α.1 * x1 * x2 + α.2.1 * x1 * y2 + α.2.2.1 * y1 * x2 + α.2.2.2 * y1 * y2

/-- `g` is a composition of `f1` and `f2` in the sense of the bilinear identity of Gauss (art. 235):
`f1(x1, y1) · f2(x2, y2) = g(X, Y)` with `X`, `Y` integer bilinear forms -/
def GaussComposes (f1 f2 g : Form) : Prop :=
  ∃ α β : Int × Int × Int × Int, ∀ x1 y1 x2 y2 : Int,
    f1.eval x1 y1 * f2.eval x2 y2 = g.eval (bil α x1 y1 x2 y2) (bil β x1 y1 x2 y2)

namespace GaussComposes

theorem swap {f1 f2 g : Form} (h : GaussComposes f1 f2 g) : GaussComposes f2 f1 g := by
  obtain ⟨⟨α1, α2, α3, α4⟩, ⟨β1, β2, β3, β4⟩, hid⟩ := h
  refine ⟨(α1, α3, α2, α4), (β1, β3, β2, β4), ?_⟩
  intro x1 y1 x2 y2
  rw [mul_comm, hid x2 y2 x1 y1]
  simp only [bil]
  congr 1 <;> ring

theorem pequiv {f1 f2 g h : Form} (hc : GaussComposes f1 f2 g) (he : PEquiv g h) :
    GaussComposes f1 f2 h := by
  obtain ⟨⟨α1, α2, α3, α4⟩, ⟨β1, β2, β3, β4⟩, hid⟩ := hc
  obtain ⟨p, q, r, s, hdet, rfl⟩ := he
  refine ⟨(s * α1 - q * β1, s * α2 - q * β2, s * α3 - q * β3, s * α4 - q * β4),
    (-r * α1 + p * β1, -r * α2 + p * β2, -r * α3 + p * β3, -r * α4 + p * β4), ?_⟩
  intro x1 y1 x2 y2
  rw [hid, Form.act_eval]
  simp only [bil]
  congr 1
  · linear_combination (-(α1 * x1 * x2 + α2 * x1 * y2 + α3 * y1 * x2 + α4 * y1 * y2)) * hdet
  · linear_combination (-(β1 * x1 * x2 + β2 * x1 * y2 + β3 * y1 * x2 + β4 * y1 * y2)) * hdet

end GaussComposes

theorem composeCore_gauss (f1 f2 : Form) (h1 : 0 < f1.a) (hd : f1.disc = f2.disc) :
    (composeCore f1 f2).disc = f1.disc ∧ GaussComposes f1 f2 (composeCore f1 f2) := by
  obtain ⟨e, v1, v2, σ, r, m, k3, -, -, -, -, -, -, -, -, -, -, -, -, hdisc, hid⟩ :=
    composeCore_spec f1 f2 h1 hd
  refine ⟨by rw [hdisc, hd], (e, -r, -m, k3), (0, v1, v2, σ), ?_⟩
  intro x1 y1 x2 y2
  rw [hid x1 y1 x2 y2]
  simp only [bil]
  congr 1 <;> ring

theorem gcd3_of_bezout {a b c u v w : Int} (h : u * a + v * b + w * c = 1) : gcd3 a b c = 1 := by
  obtain ⟨ha, hb, hc⟩ := gcd3_dvd a b c
  have h1 : ((gcd3 a b c : Nat) : Int) ∣ 1 := by
    rw [← h]; exact dvd_add (dvd_add (ha.mul_left u) (hb.mul_left v)) (hc.mul_left w)
  have := Int.eq_one_of_dvd_one (by omega) h1
  exact_mod_cast this

theorem eq_one_of_dvd_gcd3 {a b c e : Int} (he : 0 < e) (ha : e ∣ a) (hb : e ∣ b) (hc : e ∣ c)
    (h : gcd3 a b c = 1) : e = 1 := by
  have h1 : e.natAbs ∣ gcd3 a b c :=
    Nat.dvd_gcd (Nat.dvd_gcd (Int.natAbs_dvd_natAbs.2 ha) (Int.natAbs_dvd_natAbs.2 hb))
      (Int.natAbs_dvd_natAbs.2 hc)
  rw [h] at h1
  have := Nat.dvd_one.1 h1
  omega

/-- `gcd(a1, a2, (b1+b2)/2) = 1`: the raw result of Cohen 5.4.7 is the Dirichlet composition of two forms
equivalent to `f1`, `f2` (translations to the common middle coefficient `B`) -/
theorem composeCore_comp (f1 f2 : Form) (h1 : 0 < f1.a) (h2 : f2.a ≠ 0) (hd : f1.disc = f2.disc)
    (hg : gcd3 f1.a f2.a ((f1.b + f2.b) / 2) = 1) : Comp f1 f2 (composeCore f1 f2) := by
  obtain ⟨e, v1, v2, σ, r, m, k3, x2, P, t, he0, hv10, hv1, hv2, h2s, hbez, F1, F2, hgf, hdisc, -⟩ :=
    composeCore_spec f1 f2 h1 hd
  rw [hgf] at hdisc
  have hs' : (f1.b + f2.b) / 2 = e * σ := by rw [h2s]; exact Int.mul_ediv_cancel_left _ (by norm_num)
  have he1 : e = 1 := eq_one_of_dvd_gcd3 he0 ⟨v1, hv1⟩ ⟨v2, hv2⟩ ⟨σ, hs'⟩ hg
  subst he1
  simp only [one_mul] at hv1 hv2 h2s hbez F1 F2 hgf hdisc
  rw [hgf]
  subst hv1 hv2
  set B := f2.b + 2 * f2.a * r with hB
  set c3 := r * m - k3 with hc3
  have hdg : (⟨f1.a * f2.a, B, c3⟩ : Form).disc = f2.disc := by
    have := hdisc; simpa only [Form.disc, one_mul] using this
  refine ⟨⟨f1.a, B, f2.a * c3⟩, ⟨f2.a, B, f1.a * c3⟩, ⟨f1.a * f2.a, B, c3⟩, ?_, ?_, PEquiv.refl _,
    f1.a, f2.a, B, c3, rfl, rfl, rfl, ?_⟩
  · refine pequiv_of_congr (f := f1) (g := ⟨f1.a, B, f2.a * c3⟩) rfl hv10 ?_ ?_
    · rw [hd, ← hdg]; simp only [Form.disc]; ring
    · exact ⟨m, by simp only [hB]; linear_combination 2 * F1 - h2s⟩
  · refine pequiv_of_congr (f := f2) (g := ⟨f2.a, B, f1.a * c3⟩) rfl h2 ?_ ?_
    · rw [← hdg]; simp only [Form.disc]; ring
    · exact ⟨r, by simp only [hB]; ring⟩
  · apply gcd3_of_bezout (u := -(x2 * m) - t) (v := -(x2 * r) - P) (w := x2)
    simp only [hB]
    linear_combination -hbez + x2 * F1

theorem gcd3_comm12 (a b c : Int) : gcd3 a b c = gcd3 b a c := by
  unfold gcd3; rw [Nat.gcd_comm a.natAbs]

/-- literally concordant inputs: the raw result is a translate of the Dirichlet composition -/
theorem composeCore_concordant (a1 a2 b c : Int) (h1 : 0 < a1) (h2 : a2 ≠ 0) (hg : gcd3 a1 a2 b = 1) :
    PEquiv ⟨a1 * a2, b, c⟩ (composeCore ⟨a1, b, a2 * c⟩ ⟨a2, b, a1 * c⟩) := by
  have hd : (⟨a1, b, a2 * c⟩ : Form).disc = (⟨a2, b, a1 * c⟩ : Form).disc := by
    simp only [Form.disc]; ring
  obtain ⟨e, v1, v2, σ, r, m, k3, x2, P, t, he0, hv10, hv1, hv2, h2s, hbez, F1, F2, hgf, hdisc, -⟩ :=
    composeCore_spec ⟨a1, b, a2 * c⟩ ⟨a2, b, a1 * c⟩ h1 hd
  rw [hgf] at hdisc
  simp only at hv1 hv2 h2s hbez F1 F2 hgf
  have hσ : e * σ = b := by omega
  have he1 : e = 1 := eq_one_of_dvd_gcd3 he0 ⟨v1, hv1⟩ ⟨v2, hv2⟩ ⟨σ, hσ.symm⟩ hg
  subst he1
  simp only [one_mul] at hv1 hv2 h2s hbez F1 F2 hgf hdisc hσ
  subst hv1 hv2 hσ
  rw [hgf]
  have hdd : (σ + 2 * a2 * r) * (σ + 2 * a2 * r) - 4 * (a1 * a2) * (r * m - k3) = σ * σ - 4 * a2 * (a1 * c) := by
    have := hdisc; simpa only [Form.disc] using this
  refine pequiv_of_congr (f := ⟨a1 * a2, σ, c⟩) (g := ⟨a1 * a2, σ + 2 * a2 * r, r * m - k3⟩) rfl
    (mul_ne_zero hv10 h2) ?_ ?_
  · simp only [Form.disc]; linear_combination -hdd
  · refine ⟨x2 * ((r * m - k3) - c - r * m) - P * m - t * r, ?_⟩
    simp only
    have hδ : a2 * r = a1 * m := by linear_combination F1
    have hbδ : σ * (a2 * r) = a1 * a2 * ((r * m - k3) - c - r * m) := by
      have : 4 * (σ * (a2 * r)) = 4 * (a1 * a2 * ((r * m - k3) - c - r * m)) := by
        linear_combination hdd - (4 * a2 * r) * hδ
      omega
    linear_combination (2 * a2 * r) * hbez + 2 * x2 * hbδ - (2 * P * a2) * hδ

end Ymq.ClassGroup
