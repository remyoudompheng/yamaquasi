/-
`Inverter` (Props/C08 `inverter_new_spec`, `invert_spec`): Kaliski's almost inverse. `Inv` is the loop invariant: `u`, `v` odd
and coprime, `u·s + v·r = p`, `r·x ≡ -u·2^k` and `s·x ≡ v·2^k (mod p)`, and `u·v·2^k ≤ p·x`, which bounds `k` by 56 and keeps
every product in a word (`Inv.checks`). The loop ends at `u = v = 1` with `r·x ≡ -2^k`; `finish` multiplies by the table
entry `-2^-(8j+8)` (`TabInv`; `newLoop` builds the table by halving modulo `p`). `u + v` decreases: fuel `p + x + 1`.
-/
import Ymq.Model.Inverter
import Ymq.Lemmas.Dividers
import Ymq.Lemmas.Bits
import Mathlib.Data.ZMod.Basic
import Mathlib.Data.Nat.GCD.Basic
import Mathlib.Tactic.LinearCombination
import Mathlib.Data.List.GetD

namespace Ymq.Inverter
open Ymq.Limbs (W)
open Ymq.Dividers (Div divmod64 Ok divmod64_ok W_eq)

theorem tzAux_spec (f n : Nat) :
    2 ^ tzAux f n ∣ n ∧ (0 < n → n < 2 ^ f → tzAux f n < f ∧ n / 2 ^ tzAux f n % 2 = 1) :=
  Bits.tz_spec tzAux (fun _ => rfl) (fun _ _ => rfl) f n

theorem tz_facts (n : Nat) (h0 : n ≠ 0) (hn : n < 2 ^ 64) :
    2 ^ tz n ∣ n ∧ n / 2 ^ tz n % 2 = 1 ∧ n / 2 ^ tz n * 2 ^ tz n = n ∧ 2 ^ tz n ≤ n := by
  obtain ⟨h1, h2⟩ := tzAux_spec 64 n
  exact ⟨h1, (h2 (by omega) hn).2, Nat.div_mul_cancel h1, Nat.le_of_dvd (by omega) h1⟩

theorem tz_pos (n : Nat) (h : n % 2 = 0) : 1 ≤ tz n := by
  unfold tz tzAux
  rw [if_neg (by omega)]; omega

/-- loop invariant of `invert` (Kaliski almost inverse) -/
structure Inv (p x u v r s k : Nat) : Prop where
  uodd : u % 2 = 1
  vodd : v % 2 = 1
  cop : Nat.Coprime u v
  lin : u * s + v * r = p
  bnd : u * v * 2 ^ k ≤ p * x
  c1 : ((r : ZMod p) * x + u * 2 ^ k) = 0
  c2 : ((s : ZMod p) * x) = v * 2 ^ k
  spos : 0 < s
  vle : v ≤ x

theorem Inv.step_u {p x u v r s k : Nat} (h : Inv p x u v r s k) (huv : v < u) (hu : u < 2 ^ 32) :
    Inv p x ((u - v) / 2 ^ tz (u - v)) v (r + s) (s * 2 ^ tz (u - v)) (k + tz (u - v)) := by
  have hne : u - v ≠ 0 := by omega
  obtain ⟨hd, hodd, hmul, _⟩ := tz_facts (u - v) hne (by omega)
  generalize tz (u - v) = d at *
  generalize hu' : (u - v) / 2 ^ d = u' at *
  have huv' : u' * 2 ^ d + v = u := by omega
  constructor
  · exact hodd
  · exact h.vodd
  · have : Nat.Coprime (u - v) v := (Nat.coprime_sub_self_left (le_of_lt huv)).mpr h.cop
    rw [← hu']; exact this.coprime_div_left hd
  · have := h.lin
    calc u' * (s * 2 ^ d) + v * (r + s) = (u' * 2 ^ d + v) * s + v * r := by ring
      _ = p := by rw [huv']; exact this
  · have := h.bnd
    calc u' * v * 2 ^ (k + d) = (u' * 2 ^ d) * v * 2 ^ k := by rw [Nat.pow_add]; ring
      _ ≤ u * v * 2 ^ k := by
        apply Nat.mul_le_mul_right; apply Nat.mul_le_mul_right; omega
      _ ≤ p * x := this
  · have e : ((u' : ZMod p) * 2 ^ d + v) = u := by exact_mod_cast congrArg (Nat.cast : Nat → ZMod p) huv'
    push_cast
    rw [pow_add]
    linear_combination h.c1 + h.c2 + (2 : ZMod p) ^ k * e
  · push_cast
    rw [pow_add]
    linear_combination (2 : ZMod p) ^ d * h.c2
  · exact Nat.mul_pos h.spos (Nat.two_pow_pos _)
  · exact h.vle

theorem Inv.step_v {p x u v r s k : Nat} (h : Inv p x u v r s k) (huv : u < v) (hv : v < 2 ^ 32) :
    Inv p x u ((v - u) / 2 ^ tz (v - u)) (r * 2 ^ tz (v - u)) (r + s) (k + tz (v - u)) := by
  have hne : v - u ≠ 0 := by omega
  obtain ⟨hd, hodd, hmul, _⟩ := tz_facts (v - u) hne (by omega)
  generalize tz (v - u) = d at *
  generalize hv' : (v - u) / 2 ^ d = v' at *
  have hvu' : v' * 2 ^ d + u = v := by omega
  constructor
  · exact h.uodd
  · exact hodd
  · have : Nat.Coprime u (v - u) := (Nat.coprime_sub_self_right (le_of_lt huv)).mpr h.cop
    rw [← hv']; exact (this.symm.coprime_div_left hd).symm
  · have := h.lin
    calc u * (r + s) + v' * (r * 2 ^ d) = u * s + (v' * 2 ^ d + u) * r := by ring
      _ = p := by rw [hvu']; exact this
  · have := h.bnd
    calc u * v' * 2 ^ (k + d) = u * (v' * 2 ^ d) * 2 ^ k := by rw [Nat.pow_add]; ring
      _ ≤ u * v * 2 ^ k := by
        apply Nat.mul_le_mul_right; apply Nat.mul_le_mul_left; omega
      _ ≤ p * x := this
  · push_cast
    rw [pow_add]
    linear_combination (2 : ZMod p) ^ d * h.c1
  · have e : ((v' : ZMod p) * 2 ^ d + u) = v := by exact_mod_cast congrArg (Nat.cast : Nat → ZMod p) hvu'
    push_cast
    rw [pow_add]
    linear_combination h.c1 + h.c2 - (2 : ZMod p) ^ k * e
  · have := h.spos; omega
  · have := h.vle
    have : v' ≤ v - u := by rw [← hv']; exact Nat.div_le_self _ _
    omega

/-- entry `j` of the table is `-2^-(8j+8) mod p` -/
def TabInv (p : Nat) (tab : List Nat) : Prop :=
  ∀ j, j < tab.length → tab.getD j 0 < p ∧ ((tab.getD j 0 : Nat) : ZMod p) * 2 ^ (8 * j + 8) = -1

/-- the table write of step `k` (at `k = 8, 16, …`): the new entry is `p - x` with `x = 2^-k` -/
theorem tabWrite_spec (p k x : Nat) (tab : List Nat) (hx0 : 0 < x) (hxp : x < p)
    (hx : (x : ZMod p) * 2 ^ k = 1) (hl : tab.length = (k - 1) / 8) (ht : TabInv p tab) :
    ∃ tab1, (if k ≥ 8 ∧ k % 8 = 0 then (if p < x then none else some (tab ++ [p - x]))
        else some tab) = some tab1 ∧ tab1.length = k / 8 ∧ TabInv p tab1 := by
  by_cases hk : k ≥ 8 ∧ k % 8 = 0
  · rw [if_pos hk, if_neg (Nat.lt_asymm hxp)]
    have hjk : 8 * tab.length + 8 = k := by omega
    refine ⟨_, rfl, by rw [List.length_append, List.length_singleton]; omega, ?_⟩
    intro j hj
    rw [List.length_append, List.length_singleton] at hj
    by_cases hjl : j < tab.length
    · rw [List.getD_append _ _ _ _ hjl]; exact ht j hjl
    · obtain rfl : j = tab.length := by omega
      rw [List.getD_append_right _ _ _ _ (Nat.le_refl _), Nat.sub_self, List.getD_cons_zero, hjk,
        Nat.cast_sub hxp.le, ZMod.natCast_self]
      exact ⟨Nat.sub_lt (Nat.zero_lt_of_lt hxp) hx0, by linear_combination -hx⟩
  · rw [if_neg hk]
    exact ⟨tab, rfl, by omega, ht⟩

theorem newLoop_spec (p : Nat) (hp : p % 2 = 1) (hp3 : 3 ≤ p) (hp28 : p < 2 ^ 28) :
    ∀ (f k x : Nat) (tab : List Nat), 0 < x → x < p → (x : ZMod p) * 2 ^ k = 1 →
      tab.length = (k - 1) / 8 → TabInv p tab →
      ∃ tab', newLoop p f k x tab = some tab' ∧ tab'.length = (k + f - 1) / 8 ∧ TabInv p tab' := by
  intro f
  induction f with
  | zero =>
    intro k x tab _ _ _ hl ht
    exact ⟨tab, rfl, hl, ht⟩
  | succ f ih =>
    intro k x tab hx0 hxp hx hl ht
    obtain ⟨tab1, htab1, hl1, ht1⟩ := tabWrite_spec p k x tab hx0 hxp hx hl ht
    -- both ways of halving `x` modulo `p` continue the loop with `y = x/2 (mod p)`
    have hstep : ∀ y, 2 * y = x ∨ 2 * y = x + p → ∃ tab', newLoop p f (k + 1) y tab1 = some tab' ∧
        tab'.length = (k + (f + 1) - 1) / 8 ∧ TabInv p tab' := by
      intro y hy
      have hy2 : (y : ZMod p) * 2 = x := by
        rw [mul_comm]
        rcases hy with hy | hy
        · exact_mod_cast congrArg (Nat.cast : Nat → ZMod p) hy
        · have := congrArg (Nat.cast : Nat → ZMod p) hy
          rwa [Nat.cast_add, ZMod.natCast_self, add_zero, Nat.cast_mul] at this
      obtain ⟨t, h1, h2, h3⟩ := ih (k + 1) y tab1 (by omega) (by omega)
        (by rw [pow_succ]; linear_combination hx + (2 : ZMod p) ^ k * hy2) hl1 ht1
      exact ⟨t, h1, by rw [h2, Nat.add_right_comm, Nat.add_assoc], h3⟩
    rw [newLoop, htab1]
    simp only []
    by_cases hev : x % 2 = 0
    · rw [if_pos hev]; exact hstep _ (Or.inl (by omega))
    · rw [if_neg hev, if_neg (by unfold W32; omega)]; exact hstep _ (Or.inr (by omega))

theorem new_spec (p : Nat) (hp : p % 2 = 1) (hp3 : 3 ≤ p) (hp28 : p < 2 ^ 28) :
    ∃ tab, new p = some tab ∧ tab.length = 8 ∧ TabInv p tab := by
  unfold new
  rw [if_neg (by omega), if_neg (by rw [Nat.div_eq_of_lt hp28]; simp)]
  obtain ⟨t, h1, h2, h3⟩ := newLoop_spec p hp hp3 hp28 65 0 1 [] (by omega) (by omega) (by simp)
    (by simp) (fun j hj => by simp at hj)
  exact ⟨t, h1, by simpa using h2, h3⟩

theorem finish_spec (tab : List Nat) (d : Div) (p x r k : Nat) (hd : Ok d) (hdp : d.p = p)
    (hp3 : 3 ≤ p) (hp28 : p < 2 ^ 28) (hl : tab.length = 8) (ht : TabInv p tab)
    (hr : r ≤ p) (hk : k < 56) (hc : (r : ZMod p) * x + 1 * 2 ^ k = 0) :
    ∃ res, finish tab d 1 r k = some res ∧ res < p ∧ x * res % p = 1 := by
  have hW : W = 2 ^ 64 := W_eq
  unfold finish
  rw [if_neg (by simp), if_neg (by rw [hdp]; omega)]
  simp only []
  rw [if_neg (by omega)]
  obtain ⟨hT, hTc⟩ := ht (k / 8) (by omega)
  generalize tab.getD (k / 8) 0 = T at *
  have hc8 : (2 : Nat) ^ (8 - k % 8) ≤ 2 ^ 8 := Nat.pow_le_pow_right (by decide) (by omega)
  have hr1 : r * 2 ^ (8 - k % 8) < 2 ^ 36 := by
    calc r * 2 ^ (8 - k % 8) ≤ p * 2 ^ 8 := Nat.mul_le_mul hr hc8
      _ < 2 ^ 28 * 2 ^ 8 := Nat.mul_lt_mul_of_pos_right hp28 (by norm_num)
      _ = 2 ^ 36 := by norm_num
  rw [Nat.mod_eq_of_lt (by rw [hW]; omega)]
  have hn : r * 2 ^ (8 - k % 8) * T < 2 ^ 64 := by
    calc r * 2 ^ (8 - k % 8) * T < 2 ^ 36 * 2 ^ 28 := Nat.mul_lt_mul'' hr1 (by omega)
      _ = 2 ^ 64 := by norm_num
  rw [if_neg (by rw [hW]; omega), divmod64_ok d hd _ hn]
  simp only [Option.map_some]
  have hp0 : 0 < p := by omega
  have hres : r * 2 ^ (8 - k % 8) * T % d.p % W32 = r * 2 ^ (8 - k % 8) * T % p := by
    rw [hdp]; apply Nat.mod_eq_of_lt
    have := Nat.mod_lt (r * 2 ^ (8 - k % 8) * T) hp0
    unfold W32; omega
  rw [hres]
  refine ⟨_, rfl, Nat.mod_lt _ hp0, ?_⟩
  have h1 : (1 : Nat) = 1 % p := (Nat.mod_eq_of_lt (by omega)).symm
  rw [h1, ← ZMod.natCast_eq_natCast_iff']
  push_cast
  rw [ZMod.natCast_mod]
  push_cast
  have hexp : 8 * (k / 8) + 8 = k + (8 - k % 8) := by omega
  rw [hexp, pow_add] at hTc
  linear_combination ((2 : ZMod p) ^ (8 - k % 8) * T) * hc - hTc

/-- consequences of the invariant that make every check of one iteration pass -/
theorem Inv.checks {p x u v r s k : Nat} (h : Inv p x u v r s k) (hpx : p * x < 2 ^ 56) :
    1 ≤ u ∧ 1 ≤ v ∧ u ≤ p ∧ v ≤ x ∧ r ≤ p ∧ r + s ≤ p ∧ k < 56 ∧ u * 2 ^ k < 2 ^ 56 ∧ r * x < 2 ^ 56 ∧
    (r * x + u * 2 ^ k) % p = 0 := by
  have hu1 : 1 ≤ u := by have := h.uodd; omega
  have hv1 : 1 ≤ v := by have := h.vodd; omega
  have hs1 := h.spos
  have hlin := h.lin
  have hbnd := h.bnd
  have hus : u ≤ u * s := Nat.le_mul_of_pos_right u hs1
  have hss : s ≤ u * s := Nat.le_mul_of_pos_left s hu1
  have hrr : r ≤ v * r := Nat.le_mul_of_pos_left r hv1
  have hup : u ≤ p := by omega
  have hrs : r + s ≤ p := by omega
  have hrp : r ≤ p := by omega
  have hk2 : u * 2 ^ k ≤ p * x := by
    calc u * 2 ^ k = u * 1 * 2 ^ k := by ring
      _ ≤ u * v * 2 ^ k := Nat.mul_le_mul_right _ (Nat.mul_le_mul_left _ hv1)
      _ ≤ p * x := hbnd
  have hk3 : 2 ^ k ≤ u * 2 ^ k := Nat.le_mul_of_pos_left _ hu1
  have hk56 : k < 56 := by
    by_contra hge
    have : (2:Nat) ^ 56 ≤ 2 ^ k := Nat.pow_le_pow_right (by decide) (by omega)
    omega
  refine ⟨hu1, hv1, hup, h.vle, hrp, hrs, hk56, by omega, ?_, ?_⟩
  · calc r * x ≤ p * x := Nat.mul_le_mul_right _ hrp
      _ < 2 ^ 56 := hpx
  · apply Nat.mod_eq_zero_of_dvd
    rw [← ZMod.natCast_eq_zero_iff]
    push_cast
    exact h.c1

theorem tz_sub_odd {a b : Nat} (ha : a % 2 = 1) (hb : b % 2 = 1) (hlt : b < a) (ha32 : a < 2 ^ 32) :
    tz (a - b) ≠ 0 ∧ tz (a - b) < 32 ∧ (a - b) / 2 ^ tz (a - b) + b < a := by
  have hsub : a - b < 2 ^ 32 := (Nat.sub_le a b).trans_lt ha32
  obtain ⟨_, _, _, hle⟩ := tz_facts (a - b) (Nat.sub_ne_zero_of_lt hlt) (hsub.trans (by decide))
  have hpos := tz_pos (a - b) (by omega)
  have hhalf : (a - b) / 2 ^ tz (a - b) ≤ (a - b) / 2 :=
    Nat.div_le_div_left (Nat.pow_le_pow_right (n := 2) (by decide) hpos) (by decide)
  exact ⟨Nat.ne_of_gt hpos, (Nat.pow_lt_pow_iff_right (a := 2) (by decide)).mp (hle.trans_lt hsub),
    by omega⟩

/-- One iteration passes every check as soon as the state it produces satisfies the invariant
(the `u32` truncation of the shifted coefficient is void). The next state enters through equations, so that both
branches of `u > v` rewrite to the same goal. -/
theorem invLoop_step (tab : List Nat) (d : Div) {p x f u v r s k a u' v' r' s' : Nat}
    (hdp : d.p = p) (hp28 : p < 2 ^ 28) (hpx : p * x < 2 ^ 56) (huv : u ≠ v) (hrs : r + s ≤ p)
    (ha : (if u > v then u - v else v - u) = a)
    (hu' : (if u > v then a / 2 ^ tz a else u) = u') (hv' : (if u > v then v else a / 2 ^ tz a) = v')
    (hr' : (if u > v then r + s else r * 2 ^ tz a) = r')
    (hs' : (if u > v then s * 2 ^ tz a else r + s) = s')
    (hd0 : tz a ≠ 0) (hd32 : tz a < 32) (hI : Inv p x u' v' r' s' (k + tz a)) :
    invLoop tab d x (f + 1) u v r s k = invLoop tab d x f u' v' r' s' (k + tz a) := by
  obtain ⟨hu1, _, hup, _, _, hrs', hk, ht, hrx, hmod⟩ := hI.checks hpx
  have hW : W = 2 ^ 64 := W_eq
  have er : (if u > v then r + s else r * 2 ^ tz a % W32) = r' := by
    rw [← hr']; split_ifs with c
    · rfl
    · rw [if_neg c] at hr'; exact Nat.mod_eq_of_lt (by unfold W32; omega)
  have es : (if u > v then s * 2 ^ tz a % W32 else r + s) = s' := by
    rw [← hs']; split_ifs with c
    · rw [if_pos c] at hs'; exact Nat.mod_eq_of_lt (by unfold W32; omega)
    · rfl
  rw [invLoop, if_neg huv]
  simp only []
  rw [ha, hu', hv', er, es]
  generalize k + tz a = k' at *
  generalize u' * 2 ^ k' = t at *
  rw [if_neg (by unfold W32; omega), if_neg hd0, if_neg (by omega), if_neg (by unfold W32; omega),
    if_neg (by omega), Nat.mod_eq_of_lt (by omega), if_neg (by omega), if_neg (by omega), hdp,
    if_neg (not_not.mpr hmod)]

theorem invLoop_spec (tab : List Nat) (d : Div) (p x : Nat) (hd : Ok d) (hdp : d.p = p)
    (hp3 : 3 ≤ p) (hp28 : p < 2 ^ 28) (hl : tab.length = 8) (ht : TabInv p tab)
    (hxp : x < p) :
    ∀ (f u v r s k : Nat), Inv p x u v r s k → u + v ≤ f →
    ∃ res, invLoop tab d x f u v r s k = some res ∧ res < p ∧ x * res % p = 1 := by
  have hpx : p * x < 2 ^ 56 := by
    calc p * x < 2 ^ 28 * 2 ^ 28 := Nat.mul_lt_mul'' hp28 (hxp.trans hp28)
      _ = 2 ^ 56 := by decide
  have hp32 : p < 2 ^ 32 := hp28.trans (by decide)
  intro f
  induction f with
  | zero =>
    intro u v r s k h hf
    have := h.uodd; omega
  | succ f ih =>
    intro u v r s k h hf
    obtain ⟨_, hv1, hup, hvx, hrp, hrs, hk56, _, _, _⟩ := h.checks hpx
    have hu32 : u < 2 ^ 32 := hup.trans_lt hp32
    have hv32 : v < 2 ^ 32 := (hvx.trans_lt hxp).trans hp32
    rcases Nat.lt_trichotomy u v with hlt | huv | hgt
    · obtain ⟨hd0, hd32, hdec⟩ := tz_sub_odd h.vodd h.uodd hlt hv32
      have hI := h.step_v hlt hv32
      have hng : ¬ u > v := Nat.lt_asymm hlt
      rw [invLoop_step tab d hdp hp28 hpx hlt.ne hrs (if_neg hng) (if_neg hng) (if_neg hng)
        (if_neg hng) (if_neg hng) hd0 hd32 hI]
      exact ih _ _ _ _ _ hI (by omega)
    · subst huv
      have hu : u = 1 := by
        have := h.cop
        rwa [Nat.coprime_self] at this
      subst hu
      have hc := h.c1
      push_cast at hc
      rw [invLoop, if_pos rfl]
      exact finish_spec tab d p x r k hd hdp hp3 hp28 hl ht hrp hk56 hc
    · obtain ⟨hd0, hd32, hdec⟩ := tz_sub_odd h.uodd h.vodd hgt hu32
      have hI := h.step_u hgt hu32
      rw [invLoop_step tab d hdp hp28 hpx hgt.ne' hrs (if_pos hgt) (if_pos hgt) (if_pos hgt)
        (if_pos hgt) (if_pos hgt) hd0 hd32 hI]
      exact ih _ _ _ _ _ hI (by omega)

theorem invert_ok (tab : List Nat) (d : Div) (p x : Nat) (hd : Ok d) (hdp : d.p = p)
    (hodd : p % 2 = 1) (hp3 : 3 ≤ p) (hp28 : p < 2 ^ 28) (hl : tab.length = 8) (ht : TabInv p tab)
    (hx0 : 0 < x) (hxp : x < p) (hcop : Nat.Coprime x p) :
    ∃ res, invert tab d x = some res ∧ res < p ∧ x * res % p = 1 := by
  unfold invert invertFuel
  rw [if_neg (by omega), if_neg (by rw [hdp, Nat.div_eq_of_lt hp28]; simp), if_neg (by omega)]
  simp only []
  rw [hdp]
  apply invLoop_spec tab d p x hd hdp hp3 hp28 hl ht hxp
  · -- the initial state satisfies the invariant (`tz x = 0` for odd `x`, so the test on `x % 2` is void)
    have htz : (if x % 2 = 0 then tz x else 0) = tz x := by
      split_ifs with hev
      · rfl
      · unfold tz tzAux; rw [if_pos (by omega)]
    rw [htz]
    obtain ⟨hdv, hodd', hmul, _⟩ := tz_facts x (by omega) (by omega)
    generalize tz x = t at *
    exact
      { uodd := hodd, vodd := hodd'
        cop := hcop.symm.coprime_dvd_right (Nat.div_dvd_of_dvd hdv)
        lin := by ring
        bnd := by rw [Nat.mul_assoc, hmul]
        c1 := by push_cast; rw [ZMod.natCast_self]; ring
        c2 := by
          have := congrArg (Nat.cast : Nat → ZMod p) hmul
          push_cast at this
          rw [this]; push_cast; ring
        spos := Nat.one_pos
        vle := Nat.div_le_self _ _ }
  · have : x / 2 ^ (if x % 2 = 0 then tz x else 0) ≤ x := Nat.div_le_self _ _
    omega

end Ymq.Inverter
