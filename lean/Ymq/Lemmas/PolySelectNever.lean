/-
SIQS (C12): the sampling loop of `select_a` cannot return when the selection admits fewer than `want` products.
-/
import Ymq.Lemmas.PolySelectTotal
import Mathlib.Data.Finset.Powerset
import Mathlib.Data.Finset.Sort
namespace Ymq.PolySelect
open Ymq.SiqsPoly Ymq.SiqsSelect Ymq.PolySizes Ymq.PolyCrt

theorem isProd_card (ps : List Nat) (k : Nat) (cands : List Nat) (hnd : cands.Nodup)
    (h : ∀ A ∈ cands, IsProd ps k A) : cands.length ≤ Nat.choose ps.length k := by
  classical
  let g : Finset Nat → Nat := fun S => S.prod fun i => ps.getD i 0
  have hsub : cands.toFinset ⊆ (Finset.powersetCard k (Finset.range ps.length)).image g := by
    intro A hA
    obtain ⟨idxs, h1, h2, h3, h4⟩ := h A (List.mem_toFinset.mp hA)
    refine Finset.mem_image.mpr ⟨idxs.toFinset, ?_, ?_⟩
    · rw [Finset.mem_powersetCard]
      refine ⟨?_, by rw [List.toFinset_card_of_nodup h1, h2]⟩
      intro i hi
      exact Finset.mem_range.mpr (h3 i (List.mem_toFinset.mp hi))
    · show (idxs.toFinset.prod fun i => ps.getD i 0) = A
      rw [h4, List.prod_toFinset _ h1]
  calc cands.length = cands.toFinset.card := (List.toFinset_card_of_nodup hnd).symm
    _ ≤ ((Finset.powersetCard k (Finset.range ps.length)).image g).card := Finset.card_le_card hsub
    _ ≤ (Finset.powersetCard k (Finset.range ps.length)).card := Finset.card_image_le
    _ = Nat.choose ps.length k := by rw [Finset.card_powersetCard, Finset.card_range]

/-- a returned list would come from a strictly increasing list of at least `want` products of `nfacs` primes, and there
are at most `C(|ps|, nfacs)` of them -/
theorem selectA_never {n : Int} {tgt nfacs want : Nat} {ps : List Nat} (hnf : 0 < nfacs)
    (hsamp : ¬ (nfacs ≤ Ymq.Gen.SiqsSel.smallNf ∧ bitlen tgt ≤ Ymq.Gen.SiqsSel.smallBits))
    (hfew : Nat.choose ps.length nfacs < want) : ∀ fuel, selectA n tgt nfacs want ps fuel = none := by
  intro fuel
  unfold selectA
  rw [if_neg (by omega)]
  split
  · rfl
  · rename_i div _
    rw [if_neg hsamp]
    split
    · rfl
    · cases hres : sampleLoop tgt nfacs want ps fuel 0 Ymq.Gen.SiqsSel.seed div [] with
      | none => rfl
      | some as =>
        obtain ⟨c, ⟨hsort, hc⟩, hlen, _⟩ := sampleLoop_some tgt nfacs want div ps hnf fuel 0 _ div [] as (le_refl _)
          ⟨List.Pairwise.nil, by simp⟩ hres
        have := isProd_card ps nfacs c (hsort.imp (fun h => Nat.ne_of_lt h)) (fun A hA => (hc A hA).1)
        omega

end Ymq.PolySelect
