/-
C13 helper lemmas: the sieve model does not reach a panic site on valid inputs (totality).
-/
import Ymq.Lemmas.SieveSmooths

namespace Ymq.Sieve
open Ymq.Loops

/-- index of the table of bit-length class `b` among the `min 18 m + 1 - 16` size-class tables and the
`m + 1 - 19` large tables of a factor base whose largest prime has `m` bits. -/
theorem tidx_lt {b m : Nat} (h16 : 16 ≤ b) (h19 : b < 19) (hbm : b ≤ m) : b - 16 < min 18 m + 1 - 16 := by omega

theorem lidx_lt {b m : Nat} (h19 : ¬ b < 19) (hbm : b ≤ m) : b - 19 < m + 1 - 19 := by omega

/-- a `SieveTable` allocated for `n` blocks. -/
def Table.Sized (n : Nat) (t : Table) : Prop :=
  t.entries.size = 4096 * n ∧ t.blens.size = 128 * n ∧ t.WF

def LTable.Sized (n : Nat) (t : LTable) : Prop :=
  t.lengths.size = n * BLOCK / LBW + 1 ∧ t.hits.size = (n * BLOCK / LBW + 1) * LBW ∧ t.WF

theorem Table.new_sized (n : Nat) : (Table.new n).Sized n :=
  ⟨by simp [Table.new, N_ENTRIES], by simp [Table.new, N_BUCKETS], Table.new_WF n⟩

theorem Table.reset_sized {n : Nat} {t : Table} (h : t.Sized n) : t.reset.Sized n :=
  ⟨h.1, by simp [Table.reset, h.2.1], Table.reset_WF t h.2.2.2⟩

theorem LTable.new_sized (n : Nat) : (LTable.new n).Sized n :=
  ⟨by simp [LTable.new], by simp [LTable.new], LTable.new_WF n⟩

theorem LTable.reset_sized {n : Nat} {t : LTable} (h : t.Sized n) : t.reset.Sized n :=
  ⟨by simp [LTable.reset, h.1], h.2.1, LTable.reset_WF t⟩

theorem Table.add_some {n : Nat} {t : Table} (h : t.Sized n) {off : Nat} (hoff : off < n * BLOCK) (pidx : Nat) :
    ∃ t', t.add off pidx = some t' ∧ t'.Sized n := by
  obtain ⟨he, hb, hwf⟩ := h
  -- it suffices that `add` returns: `add_spec` says the rest
  suffices hex : ∃ t', t.add off pidx = some t' by
    obtain ⟨t', hadd⟩ := hex
    obtain ⟨w, _, _, _, _, e1, e2, _⟩ := Table.add_spec hwf hadd
    exact ⟨t', hadd, e1.trans he, e2.trans hb, w⟩
  obtain ⟨entries, blens, ovs, nOv⟩ := t
  simp only at he hb
  have hdbg : off < entries.size * BLOCK / N_ENTRIES := by
    rw [he]; simp only [BLOCK, N_ENTRIES] at *; omega
  have hbi : off / 256 < blens.size := by rw [hb]; simp only [BLOCK] at hoff; omega
  have hbl : blens[off / 256]? = some blens[off / 256] := Array.getElem?_eq_getElem hbi
  unfold Table.add
  simp only [hdbg, not_true_eq_false, if_false, BUCKET_WIDTH, BUCKET_SIZE, hbl]
  by_cases hroom : blens[off / 256] < 32
  · have hidx : off / 256 * 32 + blens[off / 256] < entries.size := by rw [he]; omega
    simp only [hroom, if_true, hidx]
    exact ⟨_, rfl⟩
  · simp only [hroom, if_false]
    exact ⟨_, rfl⟩

theorem LTable.add_some {n : Nat} {t : LTable} (h : t.Sized n) {off : Nat} (hoff : off < n * BLOCK) {pidx : Nat}
    (hp : pidx < 2 ^ 30) : ∃ t', t.add off pidx = some t' ∧ t'.Sized n := by
  obtain ⟨hl, hh, hwf⟩ := h
  suffices hex : ∃ t', t.add off pidx = some t' ∧ t'.lengths.size = t.lengths.size ∧ t'.hits.size = t.hits.size by
    obtain ⟨t', hadd, e1, e2⟩ := hex
    exact ⟨t', hadd, e1.trans hl, e2.trans hh, (LTable.add_spec hwf hadd).1⟩
  obtain ⟨hits, lengths, ovs⟩ := t
  simp only at hl hh
  have hbi : off / 16384 < lengths.size := by
    rw [hl]; simp only [BLOCK, LBW] at *; omega
  have hbl : lengths[off / 16384]? = some lengths[off / 16384] := Array.getElem?_eq_getElem hbi
  unfold LTable.add
  simp only [hp, not_true_eq_false, if_false, LBW, LBS, hbl]
  by_cases hroom : lengths[off / 16384] < 1024
  · have hidx : off / 16384 * 1024 + lengths[off / 16384] < hits.size := by
      rw [hh]; simp only [BLOCK, LBW] at *; omega
    simp only [hroom, if_true, hidx]
    exact ⟨_, rfl, by simp, by simp⟩
  · simp only [hroom, if_false]
    exact ⟨_, rfl, rfl, rfl⟩

theorem Table.foldl_add_some {n : Nat} (pidx : Nat) :
    ∀ (offs : List Nat) (t : Table), t.Sized n → (∀ x ∈ offs, x < n * BLOCK) →
      ∃ t', offs.foldlM (fun t off => t.add off pidx) t = some t' ∧ t'.Sized n := by
  intro offs t ht hoffs
  exact foldlM_some (fun t off => t.add off pidx) (Table.Sized n) offs
    (fun x hx s hs => Table.add_some hs (hoffs x hx) pidx) ht

theorem LTable.foldl_add_some {n : Nat} {pidx : Nat} (hp : pidx < 2 ^ 30) :
    ∀ (offs : List Nat) (t : LTable), t.Sized n → (∀ x ∈ offs, x < n * BLOCK) →
      ∃ t', offs.foldlM (fun t off => t.add off pidx) t = some t' ∧ t'.Sized n := by
  intro offs t ht hoffs
  exact foldlM_some (fun t off => t.add off pidx) (LTable.Sized n) offs
    (fun x hx s hs => LTable.add_some hs (hoffs x hx) hp) ht

theorem modifyM_some {α} [Inhabited α] {a : Array α} {i : Nat} {f : α → Option α} {x y : α}
    (hx : a[i]? = some x) (hf : f x = some y) :
    ∃ a', modifyM a i f = some a' ∧ a'.size = a.size ∧ a'[i]? = some y ∧ ∀ j, j ≠ i → a'[j]? = a[j]? := by
  have hi : i < a.size := (Array.getElem?_eq_some_iff.1 hx).1
  refine ⟨(a.setIfInBounds i default).setIfInBounds i y, by simp [modifyM, hx, hf], by simp, ?_, ?_⟩
  · simp [hi]
  · intro j hj
    rw [Array.getElem?_setIfInBounds_ne (fun e => hj e.symm), Array.getElem?_setIfInBounds_ne (fun e => hj e.symm)]

theorem modifyM_ok {α} [Inhabited α] {P : α → Prop} {a : Array α} {i : Nat} {f : α → Option α} (hi : i < a.size)
    (hall : ∀ (j : Nat) (x : α), a[j]? = some x → P x) (hf : ∀ x, P x → ∃ y, f x = some y ∧ P y) :
    ∃ a', modifyM a i f = some a' ∧ a'.size = a.size ∧ ∀ (j : Nat) (x : α), a'[j]? = some x → P x := by
  have hx : a[i]? = some a[i] := Array.getElem?_eq_getElem hi
  obtain ⟨y, hy, hPy⟩ := hf _ (hall i _ hx)
  obtain ⟨a', hm, hsz, hi', hne⟩ := modifyM_some hx hy
  refine ⟨a', hm, hsz, fun j x hj => ?_⟩
  by_cases e : j = i
  · subst e; rw [hi'] at hj; rw [← Option.some.inj hj]; exact hPy
  · rw [hne j e] at hj; exact hall j x hj

theorem FB.WF.idx_add_two_le {fb : FB} (h : fb.WF) : ∀ (i p : Nat), fb.primes[i]? = some p → i + 2 ≤ p := by
  intro i
  induction i with
  | zero => intro p hp; have := h.ge2 0 p hp; omega
  | succ i ih =>
    intro p hp
    have hi : i + 1 < fb.primes.size := (Array.getElem?_eq_some_iff.1 hp).1
    obtain ⟨q, hq⟩ := h.prime_at (i := i) (by omega)
    have := ih q hq
    have := h.sorted i (i + 1) q p (by omega) hq hp
    omega

theorem FB.WF.size_lt {fb : FB} (h : fb.WF) : fb.primes.size < 2 ^ 24 := by
  by_contra hc
  obtain ⟨p, hp⟩ := h.prime_at (i := 2 ^ 24 - 1) (by omega)
  have := h.idx_add_two_le _ _ hp
  have := h.lt24 _ _ hp
  omega

theorem roots_size {fb : FB} {r1 r2 : Array Nat} (hr : RootsOK fb r1 r2) :
    fb.primes.size ≤ r1.size ∧ fb.primes.size ≤ r2.size := by
  by_cases h0 : fb.primes.size = 0
  · omega
  · have hi : fb.primes.size - 1 < fb.primes.size := by omega
    obtain ⟨o1, o2, h1, h2, _⟩ := hr _ _ (Array.getElem?_eq_getElem hi)
    have := (Array.getElem?_eq_some_iff.1 h1).1
    have := (Array.getElem?_eq_some_iff.1 h2).1
    omega

theorem newLargeStep_some {fb : FB} {r1 r2 : Array Nat} {n pidx p o1 o2 : Nat} (hp : fb.primes[pidx]? = some p)
    (h1 : r1[pidx]? = some o1) (h2 : r2[pidx]? = some o2) (hne : o1 ≠ o2) (hp0 : 0 < p) {t : Table}
    (ht : t.Sized n) : ∃ t', newLargeStep fb r1 r2 (n * BLOCK) t pidx = some t' ∧ t'.Sized n := by
  obtain ⟨l, hl⟩ := largeOffsets_some (n * BLOCK) p o1 o2 hp0
  obtain ⟨t', ht', hs'⟩ := Table.foldl_add_some (pidx % 2 ^ 32) l t ht (fun x hx => ((largeOffsets_progs hl).mem.1 hx).1)
  refine ⟨t', ?_, hs'⟩
  unfold newLargeStep
  simp only [h1, h2, hp, Option.bind_eq_bind, Option.bind_some, hne, if_false, hl]
  exact ht'

theorem newVLargeStep_some {fb : FB} {r1 r2 : Array Nat} {n pidx p o1 o2 : Nat} (hp : fb.primes[pidx]? = some p)
    (h1 : r1[pidx]? = some o1) (h2 : r2[pidx]? = some o2) (hne : o1 ≠ o2) (hp0 : 0 < p) (hpi : pidx < 2 ^ 30)
    {t : LTable} (ht : t.Sized n) : ∃ t', newVLargeStep fb r1 r2 (n * BLOCK) t pidx = some t' ∧ t'.Sized n := by
  obtain ⟨l, hl⟩ := vlargeOffsets_some (n * BLOCK) p o1 o2 hp0
  obtain ⟨t', ht', hs'⟩ := LTable.foldl_add_some hpi l t ht (fun x hx => ((vlargeOffsets_progs hl).mem.1 hx).1)
  refine ⟨t', ?_, hs'⟩
  unfold newVLargeStep
  simp only [h1, h2, hp, Option.bind_eq_bind, Option.bind_some, hne, if_false, hl]
  exact ht'

/-- state of the loop of `new` before class `log`. -/
def NewInv (fb : FB) (n : Nat) (T0 : Array Table) (L0 : Array LTable) (log : Nat)
    (st : Array Nat × Array Table × Array LTable) : Prop :=
  (∃ v, fb.ibl[min log 16]? = some v ∧ st.1.size = 2 * v) ∧
  st.2.1.size = T0.size ∧ (∀ (ti : Nat) (t : Table), st.2.1[ti]? = some t → t.Sized n) ∧
  st.2.2.size = L0.size ∧ (∀ (li : Nat) (t : LTable), st.2.2[li]? = some t → t.Sized n)

theorem newStep_some {fb : FB} {r1 r2 : Array Nat} {n maxlog : Nat} {T0 : Array Table} {L0 : Array LTable}
    (hfb : fb.WF) (hr : RootsOK fb r1 r2) (hd : RootsDistinct fb r1 r2)
    (hTs : T0.size = min 18 maxlog + 1 - 16) (hLs : L0.size = maxlog + 1 - 19) (hml : maxlog ≤ 24)
    {log : Nat} (hlog : log ≤ maxlog) {st : Array Nat × Array Table × Array LTable}
    (hinv : NewInv fb n T0 L0 log st) :
    ∃ st', newStep fb r1 r2 (n * BLOCK) st log = some st' ∧ NewInv fb n T0 L0 (log + 1) st' := by
  obtain ⟨offs, tables, ltables⟩ := st
  obtain ⟨⟨v, hv, hos⟩, hts, htz, hls, hlz⟩ := hinv
  simp only at hos hts htz hls hlz
  obtain ⟨idx1, h1⟩ := hfb.ibl_some log (by omega)
  obtain ⟨idx2, h2⟩ := hfb.ibl_some (log + 1) (by omega)
  have hle2 := hfb.ibl_le _ _ h2
  have h12 : idx1 ≤ idx2 := hfb.ibl_mono (by omega) h1 h2
  obtain ⟨hs1, hs2⟩ := roots_size hr
  have hass : ¬ ¬ (idx2 ≤ r1.size ∧ idx2 ≤ r2.size ∧ idx2 ≤ fb.primes.size) := by
    simp only [not_not]; exact ⟨by omega, by omega, hle2⟩
  have hclass : ∀ pidx, pidx ∈ List.range' idx1 (idx2 - idx1) → ∃ p o1 o2, fb.primes[pidx]? = some p ∧
      r1[pidx]? = some o1 ∧ r2[pidx]? = some o2 ∧ bitlen p = log := by
    intro pidx hm
    have hm' := List.mem_range'_1.1 hm
    obtain ⟨p, hp⟩ := hfb.prime_at (i := pidx) (by omega)
    obtain ⟨o1, o2, ho1, ho2, _⟩ := hr _ _ hp
    exact ⟨p, o1, o2, hp, ho1, ho2, (hfb.class_of hp h1 h2).1 ⟨hm'.1, by omega⟩⟩
  unfold newStep
  simp only [h1, h2, hass, if_false, Option.bind_eq_bind, Option.bind_some]
  by_cases hl : log < LARGE_LOG
  · simp only [hl, if_true]
    simp only [LARGE_LOG] at hl
    have hm16 : min log 16 = log := by omega
    rw [hm16, h1] at hv
    have := Option.some.inj hv; subst this
    obtain ⟨offs', hf, hsz', _⟩ := newSmallFold_ok (r1 := r1) (r2 := r2) (n := idx2 - idx1) (fun idx hi1 hi2 => by
      obtain ⟨p, o1, o2, _, ho1, ho2, _⟩ := hclass idx (List.mem_range'_1.2 ⟨hi1, hi2⟩)
      exact ⟨o1, o2, ho1, ho2⟩) hos
    refine ⟨(offs', tables, ltables), by simp [hf], ⟨idx2, ?_, by rw [hsz']; congr 1; omega⟩, hts, htz, hls, hlz⟩
    have : min (log + 1) 16 = log + 1 := by omega
    rw [this]; exact h2
  · simp only [hl, if_false]
    simp only [LARGE_LOG] at hl
    have hm16 : min log 16 = 16 := by omega
    have hm16' : min (log + 1) 16 = 16 := by omega
    have hoffs : ∃ v, fb.ibl[min (log + 1) 16]? = some v ∧ offs.size = 2 * v := by
      rw [hm16']; rw [hm16] at hv; exact ⟨v, hv, hos⟩
    -- the primes of the class are at least `2^15`: their two roots differ
    have hprime : ∀ pidx, pidx ∈ List.range' idx1 (idx2 - idx1) → ∃ p o1 o2, fb.primes[pidx]? = some p ∧
        r1[pidx]? = some o1 ∧ r2[pidx]? = some o2 ∧ o1 ≠ o2 ∧ 0 < p := by
      intro pidx hm
      obtain ⟨p, o1, o2, hp, ho1, ho2, hb⟩ := hclass pidx hm
      have := two_pow_le_of_bitlen (p := p) (l := 15) (by omega)
      refine ⟨p, o1, o2, hp, ho1, ho2, fun e => ?_, by omega⟩
      subst e
      exact hd pidx p hp (by omega) (by rw [ho1, ho2])
    by_cases hvl : log < VLARGE_LOG
    · simp only [hvl, if_true]
      simp only [VLARGE_LOG] at hvl
      obtain ⟨tables', hm, hsz, hall⟩ := modifyM_ok (P := Table.Sized n) (i := log - LARGE_LOG)
        (f := fun table => (List.range' idx1 (idx2 - idx1)).foldlM (newLargeStep fb r1 r2 (n * BLOCK)) table)
        (by rw [hts, hTs]; exact tidx_lt (by omega) hvl hlog) htz
        (fun t ht => foldlM_some _ (Table.Sized n) _ (fun pidx hm t ht => by
          obtain ⟨p, o1, o2, hp, ho1, ho2, hne, hp0⟩ := hprime pidx hm
          exact newLargeStep_some hp ho1 ho2 hne hp0 ht) ht)
      exact ⟨(offs, tables', ltables), by simp [hm], hoffs, hsz.trans hts, hall, hls, hlz⟩
    · simp only [hvl, if_false]
      simp only [VLARGE_LOG] at hvl
      obtain ⟨ltables', hm, hsz, hall⟩ := modifyM_ok (P := LTable.Sized n) (i := log - VLARGE_LOG)
        (f := fun table => (List.range' idx1 (idx2 - idx1)).foldlM (newVLargeStep fb r1 r2 (n * BLOCK)) table)
        (by rw [hls, hLs]; exact lidx_lt hvl hlog) hlz
        (fun t ht => foldlM_some _ (LTable.Sized n) _ (fun pidx hm t ht => by
          obtain ⟨p, o1, o2, hp, ho1, ho2, hne, hp0⟩ := hprime pidx hm
          have := (Array.getElem?_eq_some_iff.1 hp).1
          have := hfb.size_lt
          exact newVLargeStep_some hp ho1 ho2 hne hp0 (by omega) ht) ht)
      exact ⟨(offs, tables, ltables'), by simp [hm], hoffs, hts, htz, hsz.trans hls, hall⟩

/-- the bucket tables of the state are allocated for `n` blocks. -/
structure StateSized (n : Nat) (s : State) : Prop where
  nb : s.nblocks = n
  tabs : ∀ (ti : Nat) (t : Table), s.tables[ti]? = some t → t.Sized n
  ltabs : ∀ (li : Nat) (t : LTable), s.ltables[li]? = some t → t.Sized n

/-- `Sieve::new` returns on valid inputs as soon as `newTables` does with tables allocated for `nblocks` blocks
(fresh or recycled). -/
theorem new_some_of_tables {fb : FB} {r1 r2 : Array Nat} {offset : Int} {nblocks nS maxprime : Nat}
    {recycled : Option (Array Table × Array LTable)} {T0 : Array Table} {L0 : Array LTable}
    (hfb : fb.WF) (hr : RootsOK fb r1 r2) (hd : RootsDistinct fb r1 r2)
    (hN : nblocks ≤ 2 ^ 17) (hnS : fb.ibl[16]? = some nS) (hmax : fb.primes.back? = some maxprime)
    (hnt : newTables nblocks (bitlen maxprime) recycled = some (T0, L0))
    (hTs : T0.size = min 18 (bitlen maxprime) + 1 - 16) (hLs : L0.size = bitlen maxprime + 1 - 19)
    (hT : ∀ (i : Nat) (t : Table), T0[i]? = some t → t.Sized nblocks)
    (hL : ∀ (i : Nat) (t : LTable), L0[i]? = some t → t.Sized nblocks) :
    ∃ s, new offset nblocks fb r1 r2 recycled = some s ∧ StateSized nblocks s ∧ s.idxskip ≤ 2 * nS := by
  have hml := hfb.bitlen_back_le hmax
  obtain ⟨⟨offs, tables, ltables⟩, hf, _, _, htz, _, hlz⟩ := foldlM_range'_total (newStep fb r1 r2 (nblocks * BLOCK))
    (NewInv fb nblocks T0 L0) 0 (bitlen maxprime + 1)
    (fun log st _ hl hst => newStep_some hfb hr hd hTs hLs hml (by omega) hst)
    (s := (#[], T0, L0)) ⟨⟨0, hfb.ibl_zero, rfl⟩, rfl, hT, rfl, hL⟩
  have hbig : ¬ nblocks * 32768 ≥ 2 ^ 62 := by omega
  refine ⟨_, new_eq_some hnS hmax hnt hbig hf, ⟨rfl, htz, hlz⟩, ?_⟩
  exact Nat.mul_le_mul_left 2 (idxskip_le hfb hnS (pskip fb.primes.size) (pskip_le _))

theorem FB.WF.back_some {fb : FB} (_h : fb.WF) (hne : fb.primes.size ≠ 0) : ∃ maxprime, fb.primes.back? = some maxprime :=
  ⟨fb.primes[fb.primes.size - 1], by rw [Array.back?_eq_getElem?]; exact Array.getElem?_eq_getElem (by omega)⟩

theorem newTables_none (n maxlog : Nat) :
    ∃ T0 L0, newTables n maxlog none = some (T0, L0) ∧ T0.size = min 18 maxlog + 1 - 16 ∧ L0.size = maxlog + 1 - 19 ∧
      (∀ (i : Nat) (t : Table), T0[i]? = some t → t.Sized n) ∧ (∀ (i : Nat) (t : LTable), L0[i]? = some t → t.Sized n) :=
  ⟨_, _, rfl, by simp [VLARGE_LOG, LARGE_LOG], by simp [VLARGE_LOG],
    fun i t ht => by rw [getElem?_replicate_eq ht]; exact Table.new_sized _,
    fun i t ht => by rw [getElem?_replicate_eq ht]; exact LTable.new_sized _⟩

theorem new_total {fb : FB} {r1 r2 : Array Nat} {offset : Int} {nblocks nS : Nat}
    (hfb : fb.WF) (hne : fb.primes.size ≠ 0) (hr : RootsOK fb r1 r2) (hd : RootsDistinct fb r1 r2)
    (hN : nblocks ≤ 2 ^ 17) (hnS : fb.ibl[16]? = some nS) :
    ∃ s, new offset nblocks fb r1 r2 none = some s ∧ StateSized nblocks s ∧ s.idxskip ≤ 2 * nS := by
  obtain ⟨maxprime, hmax⟩ := hfb.back_some hne
  obtain ⟨T0, L0, hnt, hTs, hLs, hT, hL⟩ := newTables_none nblocks (bitlen maxprime)
  exact new_some_of_tables hfb hr hd hN hnS hmax hnt hTs hLs hT hL

theorem mapM_range'_some {α} (g : Nat → Option α) (n s : Nat) (h : ∀ j, j < n → ∃ v, g (s + j) = some v) :
    ∃ l, (List.range' s n).mapM g = some l := by
  obtain ⟨l, hl, _⟩ := mapM_total g (fun _ _ => True) (List.range' s n) fun i hi => by
    obtain ⟨hs, hn⟩ := List.mem_range'_1.1 hi
    obtain ⟨v, hv⟩ := h (i - s) (by omega)
    exact ⟨v, by rw [← hv]; congr 1; omega, trivial⟩
  exact ⟨l, hl⟩

theorem Table.bucket_some {n : Nat} {t : Table} (h : t.Sized n) {b : Nat} (hb : b < 128 * n) :
    ∃ bk, t.bucket b = some bk := by
  obtain ⟨he, hbl, hle, _⟩ := h
  have hbi : b < t.blens.size := by omega
  have hbl' : t.blens[b]? = some t.blens[b] := Array.getElem?_eq_getElem hbi
  have h32 := hle _ _ hbl'
  unfold Table.bucket
  simp only [hbl', BUCKET_SIZE]
  exact mapM_range'_some _ _ _ (fun j hj => ⟨t.entries[b * 32 + j]'(by omega), Array.getElem?_eq_getElem (by omega)⟩)

theorem Table.lookup_some {n : Nat} {t : Table} (h : t.Sized n) {blkNo r : Nat} (hb : blkNo < n) (hr : r < BLOCK) :
    ∃ l, t.lookup (blkNo * BLOCK) r = some l := by
  obtain ⟨bk, hbk⟩ := Table.bucket_some h (b := (blkNo * BLOCK + r) / 256) (by simp only [BLOCK] at *; omega)
  simp only [Table.lookup, BUCKET_WIDTH, hbk, Option.bind_eq_bind, Option.bind_some]
  exact ⟨_, rfl⟩

theorem LTable.bucket_some {n : Nat} {t : LTable} (h : t.Sized n) {b : Nat} (hb : b < 2 * n + 1) :
    ∃ bk, t.bucket b = some bk := by
  obtain ⟨hl, hh, hwf⟩ := h
  have e : n * BLOCK / LBW = 2 * n := by simp only [BLOCK, LBW]; omega
  rw [e] at hl hh
  have hbi : b < t.lengths.size := by omega
  have hbl' : t.lengths[b]? = some t.lengths[b] := Array.getElem?_eq_getElem hbi
  have hle := hwf _ _ hbl'
  unfold LTable.bucket
  simp only [hbl', LBS]
  have hsz : b * 1024 + 1024 ≤ t.hits.size := by rw [hh]; simp only [LBW]; omega
  exact mapM_range'_some _ _ _ (fun j hj => ⟨t.hits[b * 1024 + j]'(by omega), Array.getElem?_eq_getElem (by omega)⟩)

theorem LTable.lookup_some {n : Nat} {t : LTable} (h : t.Sized n) {blkNo r : Nat} (hb : blkNo < n) (hr : r < BLOCK) :
    ∃ l, t.lookup blkNo r = some l := by
  obtain ⟨bk, hbk⟩ := LTable.bucket_some h (b := 2 * blkNo + r / LBW) (by simp only [BLOCK, LBW] at *; omega)
  simp only [LTable.lookup, hbk, Option.bind_eq_bind, Option.bind_some]
  exact ⟨_, rfl⟩

theorem sieveBlock_some {fb : FB} {nS n : Nat} {rS1 rS2 rL1 rL2 : Array Nat} {B : Nat} {s : State}
    (hfb : fb.WF) (hnS : fb.ibl[16]? = some nS) (hinv : Inv fb nS rS1 rS2 rL1 rL2 B s)
    (hsz : StateSized n s) (hb : s.blkNo < n) :
    ∃ s', sieveBlock fb s = some s' := by
  obtain ⟨lo, hc, _⟩ := sieveCursors_ok hfb hnS hinv.skip_even hinv.skip_le hinv.cur hinv.prev
  unfold sieveBlock
  simp only [hc, Option.bind_eq_bind, Option.bind_some]
  by_cases h0 : s.tables.size = 0
  · simp only [h0, if_true]
    exact ⟨_, rfl⟩
  · simp only [h0, if_false]
    have h1 : (s.tables.any fun t => decide (t.entries.size < (s.blkNo + 1) * N_ENTRIES ∨
        t.blens.size < (s.blkNo + 1) * N_BUCKETS)) = false := by
      rw [Array.any_eq_false]
      intro i hi
      obtain ⟨he, hbl, _⟩ := hsz.tabs i _ (Array.getElem?_eq_getElem hi)
      have : (s.blkNo + 1) * 4096 ≤ 4096 * n := by omega
      have : (s.blkNo + 1) * 128 ≤ 128 * n := by omega
      simp only [decide_eq_true_eq, N_ENTRIES, N_BUCKETS, he, hbl]
      omega
    have e : n * BLOCK / LBW = 2 * n := by simp only [BLOCK, LBW]; omega
    have h2 : (s.ltables.any fun t => decide (t.lengths.size < 2 * s.blkNo + 2)) = false := by
      rw [Array.any_eq_false]
      intro i hi
      obtain ⟨hl, _, _⟩ := hsz.ltabs i _ (Array.getElem?_eq_getElem hi)
      rw [e] at hl
      simp only [decide_eq_true_eq, hl]
      omega
    have h3 : (s.ltables.any fun t => decide ((t.bucket (2 * s.blkNo)).isNone = true ∨
        (t.bucket (2 * s.blkNo + 1)).isNone = true)) = false := by
      rw [Array.any_eq_false]
      intro i hi
      have hs := hsz.ltabs i _ (Array.getElem?_eq_getElem hi)
      obtain ⟨b1, hb1⟩ := LTable.bucket_some hs (b := 2 * s.blkNo) (by omega)
      obtain ⟨b2, hb2⟩ := LTable.bucket_some hs (b := 2 * s.blkNo + 1) (by omega)
      simp [hb1, hb2]
    simp only [h1, h2, h3]
    exact ⟨_, rfl⟩

theorem isFactor_some {fb : FB} {s : State} {r1 r2 : Array Nat} (hr : RootsOK fb r1 r2) {r pidx : Nat}
    (hp : pidx < fb.primes.size) (hblk : s.blkNo < 2 ^ 17) : ∃ b, isFactor fb s r1 r2 r pidx = some b := by
  have hpp : fb.primes[pidx]? = some fb.primes[pidx] := Array.getElem?_eq_getElem hp
  obtain ⟨o1, o2, h1, h2, _⟩ := hr _ _ hpp
  have hb32 : s.blkNo % 2 ^ 32 = s.blkNo := Nat.mod_eq_of_lt (by omega)
  have hbig : ¬ s.blkNo * BLOCK ≥ 2 ^ 32 := by simp only [BLOCK]; omega
  unfold isFactor
  -- `rw`, not `simp only`, with `Option.bind_some`: used as a `dsimp` lemma it leaves a conversion over the `% 2 ^ 32`
  -- tests that is slow to check
  simp only [Option.bind_eq_bind]
  rw [hpp, Option.bind_some, hb32, if_neg hbig, h1, Option.bind_some]
  split
  · exact ⟨true, rfl⟩
  · rw [h2, Option.bind_some]; exact ⟨_, rfl⟩

theorem foldlM_some_all {σ α} (f : σ → α → Option σ) (l : List α) (h : ∀ x ∈ l, ∀ s, ∃ s', f s x = some s') (s : σ) :
    ∃ s', l.foldlM f s = some s' := by
  obtain ⟨s', hs', _⟩ := foldlM_some f (fun _ => True) l (fun x hx s _ => by
    obtain ⟨s', hs'⟩ := h x hx s
    exact ⟨s', hs', trivial⟩) (s := s) trivial
  exact ⟨s', hs'⟩

theorem filt_some {fb : FB} {s : State} {r1 r2 : Array Nat} (hr : RootsOK fb r1 r2) {r : Nat}
    (hblk : s.blkNo < 2 ^ 17) (cands : List Nat) (hc : ∀ pidx ∈ cands, pidx < fb.primes.size) (acc : List Nat) :
    ∃ acc', filt fb s r1 r2 r acc cands = some acc' := by
  unfold filt
  refine foldlM_some_all _ cands (fun pidx hm a => ?_) acc
  obtain ⟨b, hb⟩ := isFactor_some (s := s) (r := r) hr (hc pidx hm) hblk
  exact ⟨_, by rw [hb]; rfl⟩

theorem tableStep_some {fb : FB} {n : Nat} {rL1 rL2 : Array Nat} {s : State} (hfb : fb.WF) (hrL : RootsOK fb rL1 rL2)
    (hsz : StateSized n s) (hb : s.blkNo < n) (hblk : s.blkNo < 2 ^ 17) {r : Nat} (hr : r < BLOCK)
    {ti : Nat} (hti : ti < s.tables.size) (hti3 : ti < 3) (acc : List Nat) :
    ∃ acc', tableStep fb s rL1 rL2 r acc ti = some acc' := by
  have ht : s.tables[ti]? = some s.tables[ti] := Array.getElem?_eq_getElem hti
  obtain ⟨idx1, hi1⟩ := hfb.ibl_some (ti + 16) (by omega)
  obtain ⟨idx2, hi2⟩ := hfb.ibl_some (ti + 16 + 1) (by omega)
  have hle2 := hfb.ibl_le _ _ hi2
  obtain ⟨p8s, hlook⟩ := Table.lookup_some (hsz.tabs ti _ ht) hb hr
  unfold tableStep
  simp only [Option.bind_eq_bind, LARGE_LOG]
  rw [ht, Option.bind_some, hi1, Option.bind_some, hi2, Option.bind_some, hlook, Option.bind_some]
  refine foldlM_some_all _ p8s (fun p8 _ acc => filt_some hrL hblk _ (fun pidx hm => ?_) acc) acc
  unfold candidates at hm
  have := (List.mem_filter.1 hm).2
  simp only [decide_eq_true_eq] at this
  omega

theorem ltableStep_some {fb : FB} {n : Nat} {rL1 rL2 : Array Nat} {s : State} (hrL : RootsOK fb rL1 rL2)
    (hb : s.blkNo < n) (hblk : s.blkNo < 2 ^ 17) {r : Nat} (hr : r < BLOCK) {t : LTable} (ht : t.Sized n)
    (acc : List Nat) : ∃ acc', ltableStep fb s rL1 rL2 r acc t = some acc' := by
  obtain ⟨p16s, hlook⟩ := LTable.lookup_some ht hb hr
  simp only [ltableStep, hlook, Option.bind_eq_bind, Option.bind_some]
  refine foldlM_some_all _ p16s (fun p16 _ acc => filt_some hrL hblk _ (fun pidx hm => ?_) acc) acc
  unfold lcandidates at hm
  obtain ⟨k, hk, rfl⟩ := List.mem_map.1 hm
  have := List.mem_range'_1.1 hk
  omega

theorem factorsOf_some {fb : FB} {nS n B : Nat} {rS1 rS2 rL1 rL2 : Array Nat} {s : State}
    (hfb : fb.WF) (hnS : fb.ibl[16]? = some nS) (hrL : RootsOK fb rL1 rL2)
    (hprev : CurInv fb rS1 rS2 s.idxskip nS B s.loPrev)
    (htsize : ∃ maxprime, fb.primes.back? = some maxprime ∧ s.tables.size = min 18 (bitlen maxprime) + 1 - 16 ∧
      s.ltables.size = bitlen maxprime + 1 - 19)
    (hsz : StateSized n s) (hb : s.blkNo < n) (hn : n ≤ 2 ^ 17) {r : Nat} (hr : r < BLOCK) :
    ∃ facs, factorsOf fb s rL1 rL2 r = some facs := by
  obtain ⟨n15, hn15⟩ := hfb.ibl_some 15 (by omega)
  have hn15le : n15 ≤ nS := hfb.ibl_mono (by omega) hn15 hnS
  have hnSle := hfb.ibl_le _ _ hnS
  have hblk : s.blkNo < 2 ^ 17 := by omega
  have hlp : ∀ k, k < 2 * nS → ∃ c, s.loPrev[k]? = some c := fun k hk =>
    ⟨s.loPrev[k]'(by rw [hprev.1]; exact hk), Array.getElem?_eq_getElem (by rw [hprev.1]; exact hk)⟩
  obtain ⟨small, hsmall⟩ := foldlM_some_all (smallTest fb s r) (List.range' 0 n15) (fun i hi a => by
    have hm := List.mem_range'_1.1 hi
    obtain ⟨p, hp⟩ := hfb.prime_at (i := i) (by omega)
    obtain ⟨c1, hc1⟩ := hlp (2 * i) (by omega)
    obtain ⟨c2, hc2⟩ := hlp (2 * i + 1) (by omega)
    simp only [smallTest, hp, hc1, hc2, Option.bind_eq_bind, Option.bind_some]
    exact ⟨_, rfl⟩) []
  obtain ⟨mid, hmid⟩ := foldlM_some_all (midTest fb s r) (List.range' (2 * n15) (s.loPrev.size - 2 * n15))
    (fun i hi a => by
      have hm := List.mem_range'_1.1 hi
      have hi2 : i < 2 * nS := by rw [hprev.1] at hm; omega
      obtain ⟨p, hp⟩ := hfb.prime_at (i := i / 2) (by omega)
      obtain ⟨c, hc⟩ := hlp i hi2
      simp only [midTest, hp, hc, Option.bind_eq_bind, Option.bind_some]
      exact ⟨_, rfl⟩) small
  unfold factorsOf
  simp only [hn15, hsmall, hmid, Option.bind_eq_bind, Option.bind_some]
  by_cases h0 : s.tables.size = 0
  · exact ⟨_, if_pos h0⟩
  · rw [if_neg h0]
    obtain ⟨maxprime, hmax, hts, hls⟩ := htsize
    obtain ⟨a1, h1⟩ := foldlM_some_all (tableStep fb s rL1 rL2 r) (List.range' 0 s.tables.size) (fun ti hi a => by
      have hm := List.mem_range'_1.1 hi
      exact tableStep_some hfb hrL hsz hb hblk hr (by omega) (by omega) a) mid
    obtain ⟨a2, h2⟩ := foldlM_some_all (ltableStep fb s rL1 rL2 r) s.ltables.toList (fun t ht a => by
      obtain ⟨li, hli, rfl⟩ := List.getElem_of_mem ht
      have hli' : li < s.ltables.size := by simpa using hli
      have hts' : s.ltables[li]? = some s.ltables.toList[li] := by
        rw [Array.getElem?_eq_getElem hli']; simp
      exact ltableStep_some hrL hb hblk hr (hsz.ltabs li _ hts') a) a1
    simp only [h1, h2, Option.bind_some]
    exact ⟨_, rfl⟩

end Ymq.Sieve
