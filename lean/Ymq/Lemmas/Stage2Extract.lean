/-
Result extraction of the group-order methods (C16): the invariant of `check_gcd_factors` (P-1, P+1), the
y-normalisation of ecm_curve and the gap walk of PM1Base::factor.  Models: Ymq/Model/ExpModn.lean.
-/
import Ymq.Lemmas.Stage2Ladders
import Mathlib.Algebra.BigOperators.Group.List.Basic
import Mathlib.Algebra.Ring.Basic
import Mathlib.Algebra.Order.Group.Nat
import Mathlib.Data.List.Chain
import Mathlib.Tactic.LinearCombination

namespace Ymq.ExpModn
open Ymq.Stage2 Ymq.Gen

theorem gcd_dvd_gcd_mul_mod (n a b : Nat) : Nat.gcd n a ∣ Nat.gcd n (a * b % n) := by
  apply Nat.dvd_gcd (Nat.gcd_dvd_left n a)
  rw [Nat.dvd_mod_iff (Nat.gcd_dvd_left n a)]
  exact Dvd.dvd.mul_right (Nat.gcd_dvd_right n a) b

/-- the invariant of the `(factors, nred)` pair carried through `pm1_impl` / `pp1` -/
def CgfInv (n : Nat) (st : CgfState) : Prop :=
  st.factors.prod * st.nred = n ∧ (∀ f ∈ st.factors, 1 < f) ∧ 0 < st.nred ∧ n ∉ st.factors

theorem CgfInv.append {n : Nat} {st : CgfState} (hinv : CgfInv n st) {fs : List Nat} {rest : Nat}
    (hfr : fs.prod * rest = st.nred) (hfgt : ∀ f ∈ fs, 1 < f) (hn : n ∉ fs) (vals : List Nat) :
    CgfInv n { factors := st.factors ++ fs, nred := rest, vals := vals } := by
  obtain ⟨hprod, hgt, hpos, hnot⟩ := hinv
  refine ⟨?_, fun f hf => (List.mem_append.mp hf).elim (hgt f) (hfgt f), ?_,
    fun h => (List.mem_append.mp h).elim hnot hn⟩
  · show (st.factors ++ fs).prod * rest = n
    rw [List.prod_append, mul_assoc, hfr]; exact hprod
  · show 0 < rest
    exact Nat.pos_of_ne_zero (by rintro rfl; rw [Nat.mul_zero] at hfr; omega)

theorem splitResult_proper {n : Nat} {st : CgfState} (hinv : CgfInv n st) {fs : List Nat} {rest : Nat}
    (h : splitResult st = some (fs, rest)) :
    fs.prod * rest = n ∧ (∀ f ∈ fs, 1 < f) ∧ 0 < rest ∧ n ∉ fs ∧ fs ≠ [] := by
  unfold splitResult at h
  split at h
  · exact absurd h (by simp)
  · rename_i hne
    simp only [Option.some.injEq, Prod.mk.injEq] at h
    obtain ⟨rfl, rfl⟩ := h
    exact ⟨hinv.1, hinv.2.1, hinv.2.2.1, hinv.2.2.2, by intro h; simp [h] at hne⟩

section
variable {M : Type*} [CommMonoid M]

/-- the `z`-coordinates of a list of steps `(y, z)` -/
def zsOf (l : List (M × M)) : List M := l.map Prod.snd

/-- what `ynorm` computes, written directly: `y_k * (z_0 ⋯ z_{k-1}) * (z_{k+1} ⋯ z_{l-1})` -/
def ynSpec : M → List (M × M) → List (M × M)
  | _, [] => []
  | u, (y, z) :: t => (y * u * (zsOf t).prod, z) :: ynSpec (u * z) t

theorem ynHead_eq (l : List (M × M)) : ynHead (· * ·) l = ynPass (· * ·) 1 l := by
  cases l with
  | nil => rfl
  | cons a t => obtain ⟨y, z⟩ := a; simp [ynHead, ynPass]

theorem ynPass_append (u : M) (l : List (M × M)) (a : M × M) :
    ynPass (· * ·) u (l ++ [a]) = ynPass (· * ·) u l ++ [(a.1 * (u * (zsOf l).prod), a.2)] := by
  induction l generalizing u with
  | nil => obtain ⟨y, z⟩ := a; simp [ynPass, zsOf]
  | cons b t ih =>
    obtain ⟨y, z⟩ := b
    simp only [List.cons_append, ynPass, ih, zsOf, List.map_cons, List.prod_cons, mul_assoc]

/-- the backward pass: `y_k` is multiplied by the product of the later `z`s -/
theorem ynPass_reverse (l : List (M × M)) :
    (ynPass (· * ·) 1 l.reverse).reverse = l.zipWith (fun e s => (e.1 * s, e.2))
      ((List.range l.length).map fun k => ((zsOf l).drop (k + 1)).prod) := by
  induction l with
  | nil => simp [ynPass]
  | cons a t ih =>
    rw [List.reverse_cons, ynPass_append, List.reverse_append, ih]
    simp only [List.reverse_cons, List.reverse_nil, List.nil_append, List.singleton_append, List.length_cons,
      List.range_succ_eq_map, List.map_cons, List.map_map, List.zipWith_cons_cons]
    congr 1
    simp [zsOf, List.map_reverse, List.prod_reverse]

theorem ynorm_eq_spec_aux (u : M) (l : List (M × M)) :
    (ynPass (· * ·) u l).zipWith (fun e s => (e.1 * s, e.2))
      ((List.range l.length).map fun k => ((zsOf l).drop (k + 1)).prod) = ynSpec u l := by
  induction l generalizing u with
  | nil => simp [ynPass, ynSpec]
  | cons a t ih =>
    obtain ⟨y, z⟩ := a
    simp only [ynPass, List.length_cons, List.range_succ_eq_map, List.map_cons, List.map_map,
      List.zipWith_cons_cons, ynSpec]
    congr 1
    have := ih (u * z)
    simp only [zsOf, List.map_cons, Function.comp_def, List.drop_succ_cons] at this ⊢
    exact this

theorem zsOf_ynPass (u : M) (l : List (M × M)) : zsOf (ynPass (· * ·) u l) = zsOf l := by
  induction l generalizing u with
  | nil => rfl
  | cons a t ih => obtain ⟨y, z⟩ := a; simp [ynPass, zsOf] at ih ⊢; exact ih _

theorem length_ynPass (u : M) (l : List (M × M)) : (ynPass (· * ·) u l).length = l.length := by
  induction l generalizing u with
  | nil => rfl
  | cons a t ih => obtain ⟨y, z⟩ := a; simp [ynPass, ih]

theorem ynorm_eq_spec (l : List (M × M)) : ynorm (· * ·) l = ynSpec 1 l := by
  unfold ynorm
  rw [ynHead_eq, ynHead_eq, ynPass_reverse, length_ynPass, zsOf_ynPass]
  exact ynorm_eq_spec_aux 1 l

/-- entry `k` of the normalised list times its own `z` is `y_k` times the product of *all* `z`s (and of `u`) -/
theorem ynSpec_entry (u : M) (l : List (M × M)) (k : Nat) (e e' : M × M)
    (he : l[k]? = some e) (he' : (ynSpec u l)[k]? = some e') :
    e'.1 * e.2 = e.1 * (u * (zsOf l).prod) ∧ e'.2 = e.2 := by
  induction l generalizing u k with
  | nil => simp at he
  | cons a t ih =>
    obtain ⟨y, z⟩ := a
    cases k with
    | zero =>
      simp only [List.getElem?_cons_zero, Option.some.injEq, ynSpec] at he he'
      subst he; subst he'
      simp only [zsOf, List.map_cons, List.prod_cons]
      constructor
      · simp only [mul_assoc, mul_comm, mul_left_comm]
      · trivial
    | succ k =>
      simp only [List.getElem?_cons_succ, ynSpec] at he he'
      obtain ⟨h1, h2⟩ := ih (u * z) k he he'
      refine ⟨?_, h2⟩
      rw [h1]; simp only [zsOf, List.map_cons, List.prod_cons, mul_assoc]
end

/-- `ynorm_compare`: over an integral domain (the field `Z/p`), when no `z` vanishes, two normalised `y`s are
equal exactly when the affine coordinates `y/z` are: the product of differences vanishes mod `p` iff two points
have the same affine `y` (= are equal up to sign, in the even-coordinate setting of `ecm_hit`). -/
theorem ynorm_compare {F : Type*} [CommRing F] [IsDomain F] (l : List (F × F)) (hz : ∀ e ∈ l, e.2 ≠ 0)
    (i k : Nat) (ei ek ei' ek' : F × F) (hi : l[i]? = some ei) (hk : l[k]? = some ek)
    (hi' : (ynorm (· * ·) l)[i]? = some ei') (hk' : (ynorm (· * ·) l)[k]? = some ek') :
    ei'.1 - ek'.1 = 0 ↔ ei.1 * ek.2 = ek.1 * ei.2 := by
  rw [ynorm_eq_spec] at hi' hk'
  obtain ⟨h1, _⟩ := ynSpec_entry 1 l i ei ei' hi hi'
  obtain ⟨h2, _⟩ := ynSpec_entry 1 l k ek ek' hk hk'
  have hzi : ei.2 ≠ 0 := hz ei (List.mem_of_getElem? hi)
  have hzk : ek.2 ≠ 0 := hz ek (List.mem_of_getElem? hk)
  have hP : (1 * (zsOf l).prod : F) ≠ 0 := by
    rw [one_mul]
    apply List.prod_ne_zero
    intro h0
    obtain ⟨e, he, hez⟩ := List.mem_map.mp h0
    exact hz e he hez
  set P : F := 1 * (zsOf l).prod
  rw [sub_eq_zero]
  constructor
  · intro h
    have : P * (ei.1 * ek.2 - ek.1 * ei.2) = 0 := by
      have e1 : ei'.1 * ei.2 * ek.2 = ei.1 * P * ek.2 := by rw [h1]
      have e2 : ek'.1 * ek.2 * ei.2 = ek.1 * P * ei.2 := by rw [h2]
      rw [h] at e1
      linear_combination e2 - e1
    rcases mul_eq_zero.mp this with h0 | h0
    · exact absurd h0 hP
    · exact sub_eq_zero.mp h0
  · intro h
    have : (ei'.1 - ek'.1) * (ei.2 * ek.2) = 0 := by
      linear_combination ek.2 * h1 - ei.2 * h2 + P * h
    rcases mul_eq_zero.mp this with h0 | h0
    · exact sub_eq_zero.mp h0
    · exact absurd h0 (mul_ne_zero hzi hzk)

/-- the gap walk reproduces the list it walks when the entries are odd, increasing and at most `2*njumps` apart -/
theorem pm1baseGaps_spec (njumps : Nat) : ∀ (ps : List Nat) (exp : Nat) (acc : List Nat), exp % 2 = 1 →
    (∀ p ∈ ps, p % 2 = 1) → List.IsChain (fun a b => a < b ∧ b - a ≤ 2 * njumps) (exp :: ps) →
    pm1baseGaps njumps exp exp ps acc = some (acc.reverse ++ ps)
  | [], _, acc, _, _, _ => by simp [pm1baseGaps]
  | p :: t, exp, acc, hodd, hall, hch => by
    obtain ⟨⟨hlt, hgap⟩, hch'⟩ := List.isChain_cons_cons.mp hch
    have hp : p % 2 = 1 := hall p (List.mem_cons_self ..)
    rw [pm1baseGaps, if_neg (by omega)]
    have h2 : (p - exp) / 2 ≠ 0 := by omega
    have h3 : ¬ ((p - exp) / 2 = 0 ∨ (p - exp) / 2 - 1 ≥ njumps) := by omega
    have h4 : exp + 2 * ((p - exp) / 2) = p := by omega
    simp only [if_neg h3, h4]
    rw [pm1baseGaps_spec njumps t p _ hp (fun q hq => hall q (List.mem_cons_of_mem _ hq)) hch']
    simp

end Ymq.ExpModn
