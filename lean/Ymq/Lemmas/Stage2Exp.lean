/-
`exp_modn(g, e) = g^e` for every 64-bit exponent (C16): the 3-bit window loop on the bit-reversed exponent.
Model: Ymq/Model/ExpModn.lean.  The loop reads its exponent from the low end of `exprev`; `unrev k v` is the exponent
the low `k` bits of `v` stand for, so the loop is specified on every `v` and the reversal is undone once
(`unrev_revBits`).  The specification is relational (`Hom`): the values of the program stand for elements of a
commutative monoid, so that one statement serves the abstract ring, the residues `a*b % m` and the bound `< m` on the
results.
-/
import Ymq.Model.ExpModn
import Mathlib.Algebra.Group.Basic
import Mathlib.Algebra.Group.Defs
import Mathlib.Tactic.Ring
import Mathlib.Tactic.IntervalCases

namespace Ymq.ExpModn

theorem revBits_lt : ∀ (k x : Nat), revBits k x < 2 ^ k
  | 0, _ => by simp [revBits]
  | k + 1, x => by
    have ih := revBits_lt k (x % 2 ^ k)
    have h2 : x / 2 ^ k % 2 < 2 := Nat.mod_lt _ (by decide)
    rw [revBits, pow_succ]; omega

theorem revBits_mod2 (k x : Nat) : revBits (k + 1) x % 2 = x / 2 ^ k % 2 := by
  rw [revBits]; omega

theorem revBits_div2 (k x : Nat) : revBits (k + 1) x / 2 = revBits k (x % 2 ^ k) := by
  rw [revBits]; omega

/-- the number whose `k` bits, most significant first, are the low `k` bits of `v`, least significant first -/
def unrev : Nat → Nat → Nat
  | 0, _ => 0
  | k + 1, v => v % 2 * 2 ^ k + unrev k (v / 2)

theorem unrev_revBits : ∀ (k x : Nat), x < 2 ^ k → unrev k (revBits k x) = x
  | 0, x, h => by
    have : x = 0 := by simpa using h
    subst this; rfl
  | k + 1, x, h => by
    have hb : x / 2 ^ k < 2 := by rw [Nat.div_lt_iff_lt_mul (by positivity), Nat.mul_comm, ← pow_succ]; exact h
    rw [unrev, revBits_mod2, revBits_div2, unrev_revBits k _ (Nat.mod_lt _ (by positivity)), Nat.mod_eq_of_lt hb, Nat.mul_comm]
    exact Nat.div_add_mod x (2 ^ k)

/-- reading `c` bits off the low end -/
theorem unrev_add : ∀ (c k v : Nat), unrev (c + k) v = unrev c (v % 2 ^ c) * 2 ^ k + unrev k (v / 2 ^ c)
  | 0, k, v => by simp [unrev]
  | c + 1, k, v => by
    have e1 : v % 2 ^ (c + 1) % 2 = v % 2 := by rw [pow_succ']; exact Nat.mod_mul_right_mod _ _ _
    have e2 : v % 2 ^ (c + 1) / 2 = v / 2 % 2 ^ c := by rw [pow_succ', Nat.mod_mul_right_div_self]
    have e3 : v / 2 ^ (c + 1) = v / 2 / 2 ^ c := by rw [pow_succ', Nat.div_div_eq_div_mul]
    rw [show c + 1 + k = (c + k) + 1 by omega, unrev, unrev, unrev_add c k (v / 2), e1, e2, e3, pow_add]
    ring

theorem unrev_even {k v : Nat} (h : v % 2 = 0) : unrev (k + 1) v = unrev k (v / 2) := by
  rw [unrev, h, Nat.zero_mul, Nat.zero_add]

/-- `trailing_zeros` and the shift: the zeros dropped from the low end are leading zeros of the exponent -/
theorem stripZeros_spec : ∀ (fuel k v i : Nat), unrev k v ≠ 0 → v < 2 ^ k → k ≤ fuel →
    ∃ t v', stripZeros fuel v i = (v', i + t) ∧ v' % 2 = 1 ∧ t < k ∧ v' < 2 ^ (k - t) ∧ unrev k v = unrev (k - t) v'
  | _, 0, v, _, h0, _, _ => absurd rfl h0
  | 0, k + 1, _, _, _, _, hf => by omega
  | f + 1, k + 1, v, i, h0, hv, hf => by
    rw [stripZeros]
    by_cases h1 : v % 2 = 1
    · rw [if_pos h1]; exact ⟨0, v, rfl, h1, by omega, hv, rfl⟩
    · rw [if_neg h1]
      have hev := unrev_even (k := k) (v := v) (by omega)
      obtain ⟨t, v', e, a1, a2, a3, a4⟩ := stripZeros_spec f k (v / 2) (i + 1) (hev ▸ h0)
        (by rw [Nat.div_lt_iff_lt_mul (by decide), ← pow_succ]; exact hv) (by omega)
      exact ⟨t + 1, v', by rw [e]; congr 1; omega, a1, by omega, by rwa [Nat.add_sub_add_right],
        by rw [hev, a4, Nat.add_sub_add_right]⟩

section
variable {M : Type*} [CommMonoid M]

theorem win_id (r g : M) (c w k y : Nat) :
    (r ^ (2 ^ c) * g ^ w) ^ (2 ^ k) * g ^ y = r ^ (2 ^ (c + k)) * g ^ (w * 2 ^ k + y) := by
  rw [mul_pow, ← pow_mul, ← pow_mul, mul_assoc, ← pow_add, ← pow_add]

/-- reading the `c` bits `w` below position `a + c` and going on with `κ^(2^c)·γ^w` -/
theorem ladder_step (κ γ : M) (e a c : Nat) :
    (κ ^ (2 ^ c) * γ ^ (e / 2 ^ a % 2 ^ c)) ^ (2 ^ a) * γ ^ (e % 2 ^ a) = κ ^ (2 ^ (a + c)) * γ ^ (e % 2 ^ (a + c)) := by
  rw [win_id, Nat.add_comm c a, pow_add 2 a c, Nat.mod_mul, Nat.add_comm (e % 2 ^ a), Nat.mul_comm (e / 2 ^ a % 2 ^ c)]

theorem sq2 (r : M) : r * r * (r * r) = r ^ (2 ^ 2) := by
  rw [show (2 : Nat) ^ 2 = 4 from rfl, pow_succ, pow_succ, pow_succ, pow_one]; simp [mul_assoc]
theorem sq3 (r : M) : r * r * (r * r) * (r * r * (r * r)) = r ^ (2 ^ 3) := by
  rw [sq2, ← pow_two, ← pow_mul]; congr 1
end

theorem le_of_pow_le_lt {j k v : Nat} (hj : 2 ^ j ≤ v) (hv : v < 2 ^ k) : j + 1 ≤ k :=
  (Nat.pow_lt_pow_iff_right (by decide : 1 < 2)).mp (lt_of_le_of_lt hj hv)

theorem bitlen_bounds {e : Nat} (he : e ≠ 0) : 2 ^ (bitlen e - 1) ≤ e ∧ e < 2 ^ bitlen e ∧ 1 ≤ bitlen e := by
  unfold bitlen
  rw [if_neg he]
  exact ⟨by simpa using Nat.log2_self_le he, Nat.lt_log2_self, by omega⟩

/-- `R a x`: the program value `a` stands for the element `x` of a commutative monoid; `Hom mul R` says that the
program's multiplication respects this. -/
structure Hom {α M : Type*} [CommMonoid M] (mul : α → α → α) (R : α → M → Prop) : Prop where
  mul : ∀ {a b x y}, R a x → R b y → R (mul a b) (x * y)

/-- the window an odd `k`-bit `v` starts with at its low end, as `exp_modn` and its loop decode it from `v % 8` -/
theorem window_cases {k v : Nat} (hv : v < 2 ^ k) (hodd : v % 2 = 1) :
    (v % 8 = 1 ∧ v % 4 = 1 ∧ 1 ≤ k) ∨ (v % 8 = 3 ∧ v % 4 = 3 ∧ 2 ≤ k) ∨ (v % 8 = 5 ∧ 3 ≤ k) ∨ (v % 8 = 7 ∧ 3 ≤ k) := by
  have hk := fun j (hj : 2 ^ j ≤ v) => le_of_pow_le_lt hj hv
  have hcases : v % 8 = 1 ∨ v % 8 = 3 ∨ v % 8 = 5 ∨ v % 8 = 7 := by omega
  rcases hcases with h | h | h | h
  · exact Or.inl ⟨h, by omega, hk 0 (by omega)⟩
  · exact Or.inr (Or.inl ⟨h, by omega, hk 1 (by omega)⟩)
  · exact Or.inr (Or.inr (Or.inl ⟨h, hk 2 (by omega)⟩))
  · exact Or.inr (Or.inr (Or.inr ⟨h, hk 2 (by omega)⟩))

section
variable {α M : Type*} [CommMonoid M] {mul : α → α → α} {R : α → M → Prop} (hR : Hom mul R)
include hR

/-- with `64 - i = k` bits left the loop raises to `2^k` and multiplies by `γ` to the exponent those bits stand for -/
theorem expLoop_rel {g g3 g5 g7 : α} {γ : M} (hg : R g γ) (h3 : R g3 (γ ^ 3)) (h5 : R g5 (γ ^ 5)) (h7 : R g7 (γ ^ 7)) :
    ∀ (k : Nat), k ≤ 64 → ∀ (v : Nat), v < 2 ^ k → ∀ {res : α} {ρ : M} (fuel : Nat), R res ρ → k < fuel →
      ∃ r, expLoop mul g g3 g5 g7 fuel v (64 - k) res = some r ∧ R r (ρ ^ (2 ^ k) * γ ^ unrev k v) := by
  intro k
  induction k using Nat.strong_induction_on with
  | _ k ih =>
    intro hk v hv res ρ fuel hres hfuel
    obtain ⟨f, rfl⟩ : ∃ f, fuel = f + 1 := ⟨fuel - 1, by omega⟩
    rw [expLoop]
    rcases Nat.eq_zero_or_pos k with rfl | hk0
    · exact ⟨res, by simp, by simpa [unrev] using hres⟩
    rw [if_neg (by omega)]
    -- the `c` low bits `w` are read and the loop goes on with `r` standing for `ρ^(2^c) · γ^(unrev c w)`
    have leaf : ∀ c d w, d = 2 ^ c → 1 ≤ c → c ≤ k → v % d = w → ∀ {r : α}, R r (ρ ^ (2 ^ c) * γ ^ unrev c w) →
        ∃ o, expLoop mul g g3 g5 g7 f (v / d) (64 - k + c) r = some o ∧ R o (ρ ^ (2 ^ k) * γ ^ unrev k v) := by
      rintro c d w rfl hc1 hc rfl r hr
      obtain ⟨j, rfl⟩ : ∃ j, k = c + j := ⟨k - c, by omega⟩
      obtain ⟨o, ho, ho'⟩ := ih j (by omega) (by omega) (v / 2 ^ c)
        (by rw [Nat.div_lt_iff_lt_mul (by positivity), Nat.mul_comm, ← pow_add]; exact hv) f hr (by omega)
      exact ⟨o, by rw [show 64 - (c + j) + c = 64 - j by omega]; exact ho, by rw [unrev_add, ← win_id]; exact ho'⟩
    have s2 : ρ ^ 2 ^ 2 = ρ * ρ * (ρ * ρ) := (sq2 ρ).symm
    have s3 : ρ ^ 2 ^ 3 = ρ * ρ * (ρ * ρ) * (ρ * ρ * (ρ * ρ)) := (sq3 ρ).symm
    have hsq : R (mul res res) (ρ ^ 2 ^ 1) := by rw [pow_one, pow_two]; exact hR.mul hres hres
    have h4 := hR.mul (hR.mul hres hres) (hR.mul hres hres)
    by_cases hev : v % 2 = 0
    · rw [if_pos hev]
      exact leaf 1 2 0 rfl le_rfl hk0 hev (by simpa [unrev] using hsq)
    rw [if_neg hev]
    have hodd : v % 2 = 1 := by omega
    rcases window_cases hv hodd with ⟨h, -, -⟩ | ⟨h, hw, hc⟩ | ⟨h, hc⟩ | ⟨h, hc⟩ <;> simp only [h]
    · exact leaf 1 2 1 rfl le_rfl hk0 hodd (by simpa [unrev] using hR.mul hsq hg)
    · exact leaf 2 4 3 rfl (by decide) hc hw (by rw [s2]; exact hR.mul h4 h3)
    · exact leaf 3 8 5 rfl (by decide) hc h (by rw [s3]; exact hR.mul (hR.mul h4 h4) h5)
    · exact leaf 3 8 7 rfl (by decide) hc h (by rw [s3]; exact hR.mul (hR.mul h4 h4) h7)

theorem expModn_rel {one g : α} {γ : M} (h1 : R one 1) (hg : R g γ) (e : Nat) (he : e < 2 ^ 64) :
    ∃ r, expModn mul one g e = some r ∧ R r (γ ^ e) := by
  unfold expModn
  by_cases h0 : e = 0
  · subst h0; exact ⟨one, by simp, by simpa using h1⟩
  rw [if_neg h0]
  have hrev := unrev_revBits 64 e he
  obtain ⟨t, v, hstrip, hodd, ht, hv, hun⟩ := stripZeros_spec 64 64 (revBits 64 e) 0
    (hrev.symm ▸ h0) (revBits_lt 64 e) le_rfl
  rw [hrev] at hun
  have hg2 : R (mul g g) (γ ^ 2) := by rw [pow_two]; exact hR.mul hg hg
  have hg3 : R (mul g (mul g g)) (γ ^ 3) := by rw [pow_succ' γ 2]; exact hR.mul hg hg2
  have hg5 : R (mul (mul g (mul g g)) (mul g g)) (γ ^ 5) := by rw [pow_add γ 3 2]; exact hR.mul hg3 hg2
  have hg7 : R (mul (mul (mul g (mul g g)) (mul g g)) (mul g g)) (γ ^ 7) := by rw [pow_add γ 5 2]; exact hR.mul hg5 hg2
  -- after a first window of `c` bits `w` the loop finishes the job
  have rest : ∀ c w, c ≤ 64 - t → v % 2 ^ c = w → ∀ {r : α}, R r (γ ^ unrev c w) →
      ∃ o, expLoop mul g (mul g (mul g g)) (mul (mul g (mul g g)) (mul g g)) (mul (mul (mul g (mul g g)) (mul g g)) (mul g g))
        65 (v / 2 ^ c) (0 + t + c) r = some o ∧ R o (γ ^ e) := by
    rintro c w hc rfl r hr
    obtain ⟨j, hj⟩ : ∃ j, 64 - t = c + j := ⟨64 - t - c, by omega⟩
    rw [hj] at hv hun
    obtain ⟨o, ho, ho'⟩ := expLoop_rel hR hg hg3 hg5 hg7 j (by omega) (v / 2 ^ c)
      (by rw [Nat.div_lt_iff_lt_mul (by positivity), Nat.mul_comm, ← pow_add]; exact hv) 65 hr (by omega)
    refine ⟨o, by rw [show 0 + t + c = 64 - j by omega]; exact ho, ?_⟩
    rwa [hun, unrev_add, pow_add, pow_mul]
  simp only [hstrip]
  rcases window_cases hv hodd with ⟨h, hw, hc⟩ | ⟨h, hw, hc⟩ | ⟨h, hc⟩ | ⟨h, hc⟩ <;> simp only [h]
  · by_cases hi : 0 + t > 60
    · rw [if_pos hi]; exact rest 1 1 hc hodd (by simpa [unrev] using hg)
    · rw [if_neg hi]; exact rest 2 1 (by omega) hw hg2
  · exact rest 2 3 hc hw hg3
  · exact rest 3 5 hc h hg5
  · exact rest 3 7 hc h hg7

end

end Ymq.ExpModn
