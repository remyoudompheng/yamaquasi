/-
Pratt certificates (C16): kernel-checkable primality of the bad-row witnesses.  A table of entries
`(p, a, [(q, e), ..])` with `p - 1 = ∏ q^e`, `a^(p-1) ≡ 1`, `a^((p-1)/q) ≢ 1 (mod p)`; every `q` is below 2^16
(trial division) or is the `p` of an earlier entry.  Soundness is Lucas' primality criterion.
-/
import Ymq.Lemmas.Stage2Pm1
import Ymq.Lemmas.Stage2Totient
import Ymq.Lemmas.Params
import Mathlib.NumberTheory.LucasPrimality

namespace Ymq.Stage2
open Ymq.Checked

abbrev PrattEntry := Nat × Nat × List (Nat × Nat)

def prattEntryOk (known : List Nat) : PrattEntry → Bool
  | (p, a, fs) =>
    decide (2 ≤ p) && decide (p < 2 ^ 64) && (valOf fs == p - 1) &&
    fs.all (fun qe => (decide (qe.1 < 65536) && isPrimeTD qe.1) || known.contains qe.1) &&
    (powmod a (p - 1) p == 1) && fs.all (fun qe => powmod a ((p - 1) / qe.1) p != 1)

/-- processes the table in order; returns the numbers proved prime -/
def prattTable : List Nat → List PrattEntry → Option (List Nat)
  | known, [] => some known
  | known, e :: t => if prattEntryOk known e then prattTable (e.1 :: known) t else none

theorem isPrimeTD_sound {n : Nat} (hn : n < 2 ^ 64) (h : isPrimeTD n = true) : n.Prime := by
  unfold isPrimeTD at h
  simp only [Bool.and_eq_true, decide_eq_true_eq, Bool.not_eq_true'] at h
  obtain ⟨h2, hany⟩ := h
  rw [Nat.prime_def_le_sqrt]
  refine ⟨h2, ?_⟩
  intro m hm2 hms hdvd
  have hs := isqrt_spec n hn
  have hmm : m * m ≤ n := by
    have := Nat.sqrt_le' n
    rw [pow_two] at this
    exact le_trans (Nat.mul_le_mul hms hms) this
  have hmle : m ≤ isqrt n := by
    by_contra hc
    have h1 : isqrt n + 1 ≤ m := by omega
    have := Nat.mul_le_mul h1 h1
    omega
  have : anyBelow (fun k => decide (2 ≤ k) && n % k == 0) (isqrt n + 1) = true := by
    rw [anyBelow_iff]
    exact ⟨m, by omega, by simp [hm2, Nat.mod_eq_zero_of_dvd hdvd]⟩
  rw [this] at hany
  exact absurd hany (by simp)

theorem natCast_pow_eq_one_iff {p a k : Nat} (hp : 2 ≤ p) : ((a : ZMod p)) ^ k = 1 ↔ a ^ k % p = 1 := by
  have h1 : ((a : ZMod p)) ^ k = ((a ^ k : Nat) : ZMod p) := by push_cast; rfl
  have h2 : (1 : ZMod p) = ((1 : Nat) : ZMod p) := by simp
  rw [h1, h2, ZMod.natCast_eq_natCast_iff', Nat.mod_eq_of_lt (show 1 < p by omega)]

theorem prattEntry_sound {known : List Nat} (hk : ∀ q ∈ known, q.Prime) {e : PrattEntry}
    (h : prattEntryOk known e = true) : e.1.Prime := by
  obtain ⟨p, a, fs⟩ := e
  unfold prattEntryOk at h
  simp only [Bool.and_eq_true, decide_eq_true_eq, beq_iff_eq, List.all_eq_true, Bool.or_eq_true,
    List.contains_iff_mem, bne_iff_ne, ne_eq] at h
  obtain ⟨⟨⟨⟨⟨hp2, hp64⟩, hval⟩, hfs⟩, hpow⟩, hne⟩ := h
  have hbases : ∀ qe ∈ fs, qe.1.Prime := by
    intro qe hqe
    rcases hfs qe hqe with ⟨hlt, htd⟩ | hmem
    · exact isPrimeTD_sound (by omega) htd
    · exact hk _ hmem
  have he1 : p - 1 < 2 ^ 64 := by omega
  apply lucas_primality p (a : ZMod p)
  · rw [natCast_pow_eq_one_iff hp2, ← powmod_eq a (p - 1) p he1]; exact hpow
  · intro r hr hdvd
    rw [← hval] at hdvd
    obtain ⟨qe, hmem, rfl⟩ := prime_dvd_valOf' hr fs hbases hdvd
    rw [Ne, natCast_pow_eq_one_iff hp2, ← powmod_eq a _ p (lt_of_le_of_lt (Nat.div_le_self _ _) he1)]
    exact hne qe hmem

theorem prattTable_sound : ∀ (entries : List PrattEntry) (known known' : List Nat), (∀ q ∈ known, q.Prime) →
    prattTable known entries = some known' → ∀ q ∈ known', q.Prime
  | [], known, known', hk, h => by
    simp only [prattTable, Option.some.injEq] at h; subst h; exact hk
  | e :: t, known, known', hk, h => by
    rw [prattTable] at h
    split at h
    · rename_i hok
      apply prattTable_sound t (e.1 :: known) known' _ h
      intro q hq
      rcases List.mem_cons.mp hq with rfl | hq
      · exact prattEntry_sound hk hok
      · exact hk q hq
    · exact absurd h (by simp)

theorem prattTable_mem : ∀ (entries : List PrattEntry) (k0 k1 : List Nat), prattTable k0 entries = some k1 →
    (∀ q ∈ k0, q ∈ k1) ∧ ∀ e ∈ entries, e.1 ∈ k1
  | [], k0, k1, h => by
    simp only [prattTable, Option.some.injEq] at h
    subst h
    exact ⟨fun q hq => hq, by simp⟩
  | e :: t, k0, k1, h => by
    rw [prattTable] at h
    split at h
    · obtain ⟨h1, h2⟩ := prattTable_mem t (e.1 :: k0) k1 h
      refine ⟨fun q hq => h1 q (List.mem_cons_of_mem _ hq), fun x hx => ?_⟩
      rcases List.mem_cons.mp hx with rfl | hx
      · exact h1 _ List.mem_cons_self
      · exact h2 x hx
    · exact absurd h (by simp)

end Ymq.Stage2
