/-
Lemmas about the model of `ZmodN`: multiprecision Montgomery reduction `ZmodN::redc`.

Row invariant on the live suffix `s = m[i..]`: `val s' · W = val s + m_i·n`; the carry ripple
(`addWord`) cannot leave the 16-word array as long as `x + R·n ≤ W^16`, which holds for all
`x < n·R` when `2n ≤ 2^512`, and for all `x < 2^512` (the `to_int` case) for every modulus.
-/
import Ymq.Lemmas.ZmodNMul

namespace Ymq.ZmodN
open Ymq.Limbs

theorem two_pow_64 (k : Nat) : 2 ^ (64 * k) = W ^ k := by
  rw [pow_mul]; rfl

/-- one reduction row preserves the condition under which the remaining carry ripples stay inside
the array (`T = W^(rows left)`, `P = W^(words left)`) -/
theorem fit_step {s s1 m N P T : Nat} (hm : m < W) (e : s1 * W = s + m * N)
    (hfit : s + T * W * N < P * W + N) : s1 + T * N < P + N := by
  have h1 : m * N + N ≤ W * N := by rw [← Nat.succ_mul]; exact Nat.mul_le_mul_right _ hm
  refine Nat.lt_of_mul_lt_mul_right (a := W) ?_
  rw [Nat.add_mul, Nat.add_mul, e, Nat.mul_right_comm T N W, Nat.mul_comm N W]
  omega

section Rows
variable {k ninv N : Nat} {n : List Nat} (hk : 1 ≤ k) (hnl : n.length = k) (hnv : val n = N)
  (hninv : (N * ninv + 1) % W = 0)
include hk hnl hnv hninv

theorem redcRow_spec (s : List Nat) (hs : Wf s) (hsl : k < s.length) (hfit : val s + W * N < W ^ s.length + N) :
    ∃ s', redcRow k ninv n s = some s' ∧ s'.length + 1 = s.length ∧ Wf s' ∧
      ∃ m, m < W ∧ val s' * W = val s + m * N := by
  obtain ⟨k', rfl⟩ : ∃ k', k = k' + 1 := ⟨k - 1, by omega⟩
  have htl : (s.take (k' + 1)).length = k' + 1 := by rw [List.length_take]; omega
  have hdl : (s.drop (k' + 1)).length = s.length - (k' + 1) := List.length_drop
  have hpow : W ^ (k' + 1) * W ^ (s.length - (k' + 1)) = W ^ s.length := by
    rw [← pow_add, Nat.add_sub_cancel' hsl.le]
  have es := val_take_drop s (k' + 1)
  obtain ⟨m, q, cy, hmW, hm, hrow, l1, w1, e1⟩ :=
    montRow_spec hk hnl hnv hninv (s.take (k' + 1)) (Wf_take hs _) htl
  have hh : s.headD 0 = (s.take (k' + 1)).headD 0 := by cases s <;> rfl
  unfold redcRow
  simp only []
  rw [hh, hm, hrow]
  simp only [List.tail_cons]
  obtain ⟨a1, a2⟩ := addWord_spec (s.drop (k' + 1)) cy (Wf_drop hs _)
  -- the carry ripple does not leave the array
  have hmN : m * N + N ≤ W * N := by
    rw [← Nat.succ_mul]; exact Nat.mul_le_mul_right _ hmW
  have hfit2 : val (s.drop (k' + 1)) + cy < W ^ (s.drop (k' + 1)).length := by
    rw [hdl]
    refine Nat.lt_of_mul_lt_mul_left (a := W ^ (k' + 1)) ?_
    rw [hpow, Nat.mul_add]
    have := Nat.zero_le (W * val q)
    omega
  obtain ⟨hi, hhi⟩ := a2 hfit2
  obtain ⟨b1, b2, b3⟩ := a1 hi hhi
  rw [hhi]
  refine ⟨_, rfl, ?_, Wf_append.2 ⟨w1, b3⟩, m, hmW, ?_⟩
  · rw [List.length_append, b2, hdl]; omega
  · rw [val_append, b1, Nat.succ.inj l1]
    rw [pow_succ] at e1 es
    linear_combination e1 + es.symm

theorem redcRows_spec (t : Nat) (s : List Nat)
    (hs : Wf s) (hsl : k + t ≤ s.length) (hfit : val s + W ^ t * N < W ^ s.length + N) :
    ∃ s', redcRows k ninv n t s = some s' ∧ s'.length + t = s.length ∧ Wf s' ∧
      ∃ M, M < W ^ t ∧ val s' * W ^ t = val s + M * N := by
  induction t generalizing s with
  | zero => exact ⟨s, rfl, rfl, hs, 0, by simp, by simp⟩
  | succ t ih =>
    have hfit1 : val s + W * N < W ^ s.length + N :=
      lt_of_le_of_lt (Nat.add_le_add_left
        (Nat.mul_le_mul_right N (Nat.le_self_pow (Nat.succ_ne_zero t) W)) _) hfit
    obtain ⟨s1, e1, e2, e3, m, e4, e5⟩ :=
      redcRow_spec hk hnl hnv hninv s hs (by omega) hfit1
    rw [← e2, pow_succ, pow_succ] at hfit
    obtain ⟨s2, f1, f2, f3, M, f4, f5⟩ := ih s1 e3 (by omega) (fit_step e4 e5 hfit)
    simp only [redcRows, e1]
    refine ⟨s2, f1, by omega, f3, m + W * M, ?_, ?_⟩
    · have := Nat.mul_le_mul_left W (Nat.succ_le_of_lt f4)
      rw [Nat.mul_succ] at this
      rw [pow_succ, Nat.mul_comm (W ^ t) W]
      omega
    · rw [pow_succ]
      linear_combination W * f5 + e5

end Rows

/-- `ZmodN::redc`: for `x < n·R` whose reduction fits (`x + R·n ≤ W^16`, automatic when
`2n ≤ 2^512` or `x < 2^512`: `redc_fit_of_small`, `redc_fit_of_lt`). -/
theorem redc_spec' {c : Ctx} (h : Valid c) (x : List Nat) (hx : Wf x) (hlx : x.length = 16)
    (hvx : val x < c.n * W ^ c.k) (hfit : val x + W ^ c.k * c.n ≤ W ^ 16) :
    ∃ m, redc c x = some m ∧ val m < c.n ∧ val m * W ^ c.k % c.n = val x % c.n ∧
      m.length = 8 ∧ Wf m := by
  have hk := h.kle
  have hk1 := h.kpos
  have hn := h.nlt
  have hnp := h.npos
  have hnw := nd_take_val h c.k (le_refl _) (by omega)
  have hnwl : (c.nd.take c.k).length = c.k := by rw [List.length_take, nd_length]; omega
  obtain ⟨s, e1, e2, e3, M, e4, e5⟩ := redcRows_spec hk1 hnwl hnw h.hninv
    c.k x hx (by omega) (by rw [hlx]; omega)
  have hs2 : val s < 2 * c.n := Nat.two_mul c.n ▸ Mont.quot_lt e5 e4 hvx
  have hsl : s.length = 16 - c.k := by omega
  have hs8 : val s < W ^ 8 := by
    by_cases h8 : c.k = 8
    · have := val_lt e3; rwa [hsl, h8] at this
    · have h1 : W ^ (c.k + 1) ≤ W ^ 8 := Nat.pow_le_pow_right W_pos (by omega)
      have h2 : 2 * W ^ c.k ≤ W ^ (c.k + 1) := by
        rw [pow_succ, Nat.mul_comm]; exact Nat.mul_le_mul_left _ (by decide)
      omega
  have hst : val (s.take 8) = val s := val_take_of_lt hs8
  obtain ⟨m, f1, f2, f3, f4, f5⟩ := condSub_spec h (s.take MW) (Wf_take e3 _)
    (by simp only [MW]; rw [List.length_take, hsl]; omega) (by simp only [MW]; rw [hst]; exact hs2)
  simp only [MW] at f1 f3
  rw [hst] at f3
  unfold redc
  rw [two_pow_64]
  simp only [hvx, not_true_eq_false, if_false, e1, MW, f1]
  exact ⟨m, rfl, f2, (f3.mul_right _).trans (Mont.mul_mod_of_eq e5), f4, f5⟩

theorem redc_fit_of_small {c : Ctx} (h : Valid c) (X : Nat) (hvx : X < c.n * W ^ c.k)
    (h2n : 2 * c.n ≤ W ^ 8) : X + W ^ c.k * c.n ≤ W ^ 16 := by
  have hk := h.kle
  have h1 : W ^ c.k ≤ W ^ 8 := Nat.pow_le_pow_right W_pos hk
  have h2 : 2 * c.n * W ^ c.k ≤ W ^ 8 * W ^ 8 := Nat.mul_le_mul h2n h1
  have h3 : W ^ 8 * W ^ 8 = W ^ 16 := by rw [← pow_add]
  linarith only [hvx, h2, h3]

theorem redc_fit_of_lt {c : Ctx} (h : Valid c) (X : Nat) (hvx : X < W ^ 8) :
    X + W ^ c.k * c.n ≤ W ^ 16 := by
  have hk := h.kle
  have hn := h.nlt8
  have h1 : W ^ c.k ≤ W ^ 8 := Nat.pow_le_pow_right W_pos hk
  have h2 : W ^ c.k * c.n ≤ W ^ 8 * c.n := Nat.mul_le_mul_right _ h1
  have h6 : W ^ 8 * (c.n + 1) ≤ W ^ 8 * W ^ 8 := Nat.mul_le_mul_left _ (by omega)
  have h3 : W ^ 8 * W ^ 8 = W ^ 16 := by rw [← pow_add]
  linarith only [hvx, h2, h3, h6]

/-- `redc` on a slice padded with zero words to the 16 words of the array, as `to_int` and `redc_large`
call it; the carry ripple stays inside when the modulus has a spare bit or the slice is below `2^512` -/
theorem redc_pad {c : Ctx} (h : Valid c) (l : List Nat) (j : Nat) (hl : Wf l) (hlen : l.length + j = 16)
    (hv : val l < c.n * W ^ c.k) (hfit : 2 * c.n ≤ W ^ 8 ∨ val l < W ^ 8) :
    ∃ m, redc c (l ++ zeros j) = some m ∧ val m < c.n ∧ val m * W ^ c.k % c.n = val l % c.n ∧
      m.length = 8 ∧ Wf m := by
  have := redc_spec' h (l ++ zeros j) (Wf_append_zeros hl j)
    (by rw [List.length_append, zeros_length, hlen]) (by rw [val_append_zeros]; exact hv)
    (by rw [val_append_zeros]; exact hfit.elim (redc_fit_of_small h _ hv) (redc_fit_of_lt h _))
  rwa [val_append_zeros] at this

end Ymq.ZmodN
