/- Digit arrays: `toDigits`/`ofDigits`, and what `mulword`, `dot_product`, `top64` return on their domains. -/
import Ymq.Lemmas.Gcd
import Ymq.Lemmas.Limbs

namespace Ymq.Gcd

theorem W_pos : 0 < W := by decide

theorem ofDigits_eq_val : ∀ l, ofDigits l = Limbs.val l
  | [] => rfl
  | a :: l => by show a + _ * _ = a + _ * _; rw [ofDigits_eq_val l]; rfl

theorem toDigits_eq_ofNat : ∀ N n, toDigits N n = Limbs.ofNat N n
  | 0, _ => rfl
  | N + 1, n => by show _ :: _ = _ :: _; rw [toDigits_eq_ofNat N]; rfl

theorem toDigits_length (N n : Nat) : (toDigits N n).length = N := by
  rw [toDigits_eq_ofNat]; exact Limbs.ofNat_length N n

theorem toDigits_lt (N n : Nat) : ∀ d ∈ toDigits N n, d < W := by
  rw [toDigits_eq_ofNat]; exact Limbs.ofNat_Wf N n

theorem ofDigits_toDigits (N n : Nat) (h : n < W ^ N) : ofDigits (toDigits N n) = n := by
  rw [toDigits_eq_ofNat, ofDigits_eq_val]; exact Limbs.val_ofNat_of_lt h

theorem ofDigits_take_toDigits (N n sz : Nat) (h : sz ≤ N) :
    ofDigits ((toDigits N n).take sz) = n % W ^ sz := by
  rw [toDigits_eq_ofNat, ofDigits_eq_val, Limbs.ofNat_take N sz n h]; exact Limbs.val_ofNat sz n

theorem ofDigits_drop_toDigits (N n sz : Nat) (h : n < W ^ sz) : ofDigits ((toDigits N n).drop sz) = 0 := by
  rw [toDigits_eq_ofNat, ofDigits_eq_val]
  refine Limbs.val_drop_eq_zero (k := sz) ?_
  rw [Limbs.val_ofNat]
  exact Nat.lt_of_le_of_lt (Nat.mod_le _ _) h

/-- `mulword` on the digits: with the loop inside the array, nothing above the `sz` low words, and either a
free word left for the carry or a product that fits, no index is out of range and the result is the
exact product -/
theorem mulwordAux_eq (w : Nat) : ∀ (sz : Nat) (ds : List Nat) (carry : Nat), sz ≤ ds.length →
    ofDigits (ds.drop sz) = 0 → (sz < ds.length ∨ ofDigits (ds.take sz) * w + carry < W ^ sz) →
    ∃ r, mulwordAux w sz ds carry = some r ∧ ofDigits r = w * ofDigits ds + carry
  | 0, ds, carry, _, hz, h => by
    have h0 : ofDigits ds = 0 := hz
    unfold mulwordAux
    split
    · cases ds with
      | nil => simp [ofDigits] at h; omega
      | cons d t =>
        have ht : ofDigits t = 0 := by
          have : d + W * ofDigits t = 0 := h0
          exact (Nat.mul_eq_zero.1 (Nat.eq_zero_of_add_eq_zero_left this)).resolve_left (Nat.ne_of_gt W_pos)
        exact ⟨_, rfl, by rw [h0]; simp [ofDigits, ht]⟩
    · exact ⟨_, rfl, by rw [h0]; omega⟩
  | sz + 1, [], _, hl, _, _ => by simp at hl
  | sz + 1, d :: t, carry, hl, hz, h => by
    unfold mulwordAux
    simp only
    obtain ⟨r, hr, hv⟩ := mulwordAux_eq w sz t ((d * w + carry) / W) (by simpa using hl)
      (by simpa using hz) (by
      rcases h with h | h
      · left; simpa using h
      · right
        simp only [List.take_succ_cons, ofDigits] at h
        rw [Nat.pow_succ, Nat.mul_comm (W ^ sz) W] at h
        have h2 := Nat.div_add_mod (d * w + carry) W
        have h3 : W * (ofDigits (t.take sz) * w + (d * w + carry) / W) < W * W ^ sz := by
          have : W * (ofDigits (t.take sz) * w + (d * w + carry) / W)
              = W * (ofDigits (t.take sz) * w) + W * ((d * w + carry) / W) := by ring
          have e : (d + W * ofDigits (t.take sz)) * w + carry
              = W * (ofDigits (t.take sz) * w) + (d * w + carry) := by ring
          omega
        exact Nat.lt_of_mul_lt_mul_left h3)
    rw [hr]
    refine ⟨_, rfl, ?_⟩
    simp only [ofDigits, hv]
    have := Nat.div_add_mod (d * w + carry) W
    have e : W * (w * ofDigits t + (d * w + carry) / W) = W * (w * ofDigits t) + W * ((d * w + carry) / W) := by ring
    have e2 : w * (d + W * ofDigits t) = d * w + W * (w * ofDigits t) := by ring
    omega

theorem mulword_eq {N w sz n : Nat} (hsz : sz ≤ N) (hn : n < W ^ sz) (h : sz < N ∨ n * w < W ^ sz) :
    mulword N w sz n = some (w * n) := by
  have hN : n < W ^ N := Nat.lt_of_lt_of_le hn (Nat.pow_le_pow_right W_pos hsz)
  obtain ⟨r, hr, hv⟩ := mulwordAux_eq w sz (toDigits N n) 0 (by rw [toDigits_length]; exact hsz)
    (ofDigits_drop_toDigits N n sz hn) (by
      rw [toDigits_length, ofDigits_take_toDigits N n sz hsz, Nat.mod_eq_of_lt hn]
      exact h.imp_right fun h => by omega)
  unfold mulword
  simp only [hr, hv, ofDigits_toDigits N n hN, Nat.add_zero]

theorem sgn_mul_neg (a b : Int) : sgn a * sgn b < 0 ↔ (a < 0 ∧ 0 < b) ∨ (0 < a ∧ b < 0) := by
  unfold sgn
  rcases lt_trichotomy a 0 with ha | ha | ha <;> rcases lt_trichotomy b 0 with hb | hb | hb <;>
    simp [ha, hb, not_lt.2 ha.le, not_lt.2 hb.le]

theorem mul_eq_of_natAbs (a : Int) (x : Nat) :
    a * x = if a < 0 then -((a.natAbs * x : Nat) : Int) else ((a.natAbs * x : Nat) : Int) := by
  push_cast
  split
  · rename_i h; rw [abs_of_neg h]; ring
  · rename_i h; rw [abs_of_nonneg (not_lt.1 h)]

/-- the sign `dot_product` reports, as a factor -/
def flipSign (neg : Bool) : Int := if neg then -1 else 1

theorem flipSign_cases (neg : Bool) : flipSign neg = 1 ∨ flipSign neg = -1 := by
  cases neg <;> simp [flipSign]

theorem abs_flip (neg : Bool) (z : Int) : |flipSign neg * z| = |z| := by
  cases neg <;> simp [flipSign]

/-- the sign logic of `dot_product` on the unsigned products `ax = |a| x`, `bY = |b| y`: their difference
when the signs are strictly opposite, their sum otherwise -/
theorem dot_sign {a b : Int} {ax bY : Nat} (ha0 : a = 0 → ax = 0) (hb0 : b = 0 → bY = 0) :
    (if a < 0 then -(ax : Int) else (ax : Int)) + (if b < 0 then -(bY : Int) else (bY : Int)) =
      if (a < 0 ∧ 0 < b) ∨ (0 < a ∧ b < 0) then
        flipSign ((decide (ax > bY) && decide (a < 0)) || (decide (ax < bY) && decide (b < 0))) *
          ((if ax ≥ bY then ax - bY else bY - ax : Nat) : Int)
      else flipSign (decide (a < 0) || decide (b < 0)) * ((ax + bY : Nat) : Int) := by
  unfold flipSign
  by_cases hs : (a < 0 ∧ 0 < b) ∨ (0 < a ∧ b < 0)
  · rw [if_pos hs]
    rcases hs with ⟨ha, hb⟩ | ⟨ha, hb⟩
    · simp only [ha, not_lt.2 hb.le, if_true, if_false, decide_true, decide_false, Bool.and_true,
        Bool.and_false, Bool.or_false, decide_eq_true_eq]
      split_ifs <;> omega
    · simp only [hb, not_lt.2 ha.le, if_true, if_false, decide_true, decide_false, Bool.and_true,
        Bool.and_false, Bool.false_or, decide_eq_true_eq]
      split_ifs <;> omega
  · rw [if_neg hs]
    rw [not_or, not_and, not_and] at hs
    by_cases ha : a < 0 <;> by_cases hb : b < 0 <;>
      simp only [ha, hb, if_true, if_false, decide_true, decide_false, Bool.or_true, Bool.or_false] <;>
      push_cast
    · ring
    · rw [hb0 (by have := hs.1 ha; omega)]; simp
    · rw [ha0 (by have := fun h => hs.2 h hb; omega)]; simp
    · ring

theorem bits_eq_zero {n : Nat} : bits n = 0 ↔ n = 0 := by
  unfold bits; split <;> simp_all

theorem lt_two_pow_bits (n : Nat) : n < 2 ^ bits n := by
  unfold bits
  split
  · rename_i h; subst h; simp
  · exact Nat.lt_log2_self

theorem bits_le_of_lt {n k : Nat} (h : n < 2 ^ k) : bits n ≤ k := by
  unfold bits
  split
  · omega
  · rename_i hn
    have := (Nat.log2_lt hn).2 h
    omega

theorem lt_of_bits_le {n k : Nat} (h : bits n ≤ k) : n < 2 ^ k :=
  Nat.lt_of_lt_of_le (lt_two_pow_bits n) (Nat.pow_le_pow_right (by decide) h)

theorem two_le_bits {n : Nat} (h : 2 ≤ n) : 2 ≤ bits n := by
  by_contra hlt
  have := lt_of_bits_le (n := n) (k := 1) (by omega)
  omega

theorem two_pow_le_of_bits {n : Nat} (hn : n ≠ 0) : 2 ^ (bits n - 1) ≤ n := by
  unfold bits
  rw [if_neg hn]
  simpa using Nat.log2_self_le hn

theorem W_eq : W = 2 ^ 64 := by decide

theorem W_pow (k : Nat) : W ^ k = 2 ^ (64 * k) := by rw [W_eq, ← Nat.pow_mul]

/-- `dot_product` in the situation of the Lehmer step (operands below `2^bts`, coefficients below
`2^36`, `bts + 36 < 64 N`): no panic, and it returns `|a x + b y|` with the sign of `a x + b y` -/
theorem dotProduct_spec {N bts : Nat} {a b : Int} {x y : Nat} (hb : bts + 36 < 64 * N)
    (hx : x < 2 ^ bts) (hy : y < 2 ^ bts) (ha : |a| < 2 ^ 36) (hbb : |b| < 2 ^ 36) :
    ∃ r neg, dotProduct N ((bts + 63) / 64) a x b y = some (r, neg) ∧
      a * x + b * y = flipSign neg * r := by
  have hsz : (bts + 63) / 64 ≤ N := by omega
  have hle : 2 ^ bts ≤ W ^ ((bts + 63) / 64) := by
    rw [W_pow]; exact Nat.pow_le_pow_right (by decide) (by omega)
  have haN : a.natAbs < 2 ^ 36 := by rw [Int.abs_eq_natAbs] at ha; exact_mod_cast ha
  have hbN : b.natAbs < 2 ^ 36 := by rw [Int.abs_eq_natAbs] at hbb; exact_mod_cast hbb
  have hprod : ∀ w n : Nat, w < 2 ^ 36 → n < 2 ^ bts → n * w < 2 ^ (bts + 36) := fun w n hw hn => by
    rw [Nat.pow_add]
    exact Nat.mul_lt_mul_of_lt_of_le hn (Nat.le_of_lt hw) (Nat.pow_pos (by decide))
  have hfit : ∀ w n : Nat, w < 2 ^ 36 → n < 2 ^ bts →
      (bts + 63) / 64 < N ∨ n * w < W ^ ((bts + 63) / 64) := fun w n hw hn => by
    by_cases hlt : (bts + 63) / 64 < N
    · exact Or.inl hlt
    · right
      rw [show (bts + 63) / 64 = N by omega, W_pow]
      exact Nat.lt_of_lt_of_le (hprod w n hw hn) (Nat.pow_le_pow_right (by decide) (by omega))
  have hax := mulword_eq (N := N) (w := a.natAbs) hsz (Nat.lt_of_lt_of_le hx hle) (hfit _ _ haN hx)
  have hby := mulword_eq (N := N) (w := b.natAbs) hsz (Nat.lt_of_lt_of_le hy hle) (hfit _ _ hbN hy)
  have hsum : a.natAbs * x + b.natAbs * y < M N := by
    have h1 := hprod _ _ haN hx
    have h2 := hprod _ _ hbN hy
    have hM : 2 ^ (bts + 36) + 2 ^ (bts + 36) ≤ M N := by
      unfold M
      rw [← Nat.two_mul, ← Nat.pow_succ']
      exact Nat.pow_le_pow_right (by decide) (by omega)
    rw [Nat.mul_comm a.natAbs x, Nat.mul_comm b.natAbs y]; omega
  have hval := dot_sign (a := a) (b := b) (ax := a.natAbs * x) (bY := b.natAbs * y)
    (fun h => by rw [h]; simp) (fun h => by rw [h]; simp)
  rw [← mul_eq_of_natAbs a x, ← mul_eq_of_natAbs b y] at hval
  unfold dotProduct chkU
  simp only [hax, hby, sgn_mul_neg, if_pos hsum]
  by_cases hs : (a < 0 ∧ 0 < b) ∨ (0 < a ∧ b < 0)
  · rw [if_pos hs] at hval ⊢; exact ⟨_, _, rfl, hval⟩
  · rw [if_neg hs] at hval ⊢; exact ⟨_, _, rfl, hval⟩

theorem getElem_toDigits : ∀ (N n i : Nat), i < N → (toDigits N n)[i]? = some (n / W ^ i % W)
  | 0, _, _, h => by omega
  | N + 1, n, 0, _ => by simp [toDigits]
  | N + 1, n, i + 1, h => by
    simp only [toDigits, List.getElem?_cons_succ]
    rw [getElem_toDigits N (n / W) i (by omega), Nat.pow_succ, Nat.div_div_eq_div_mul, Nat.mul_comm]

theorem top64_toDigits (N n bts : Nat) (h1 : 64 ≤ bts) (h2 : bts ≤ 64 * N) :
    top64 (toDigits N n) bts = some (n / 2 ^ (bts - 64) % W) := by
  unfold top64
  simp only
  rw [if_neg (by omega)]
  have hw := Nat.div_add_mod bts 64
  generalize hwd : bts / 64 = w at *
  generalize hkd : bts % 64 = k at *
  have hk : k < 64 := by rw [← hkd]; exact Nat.mod_lt _ (by decide)
  have hw1 : 1 ≤ w := by omega
  by_cases hk0 : k = 0
  · rw [if_pos hk0, getElem_toDigits N n (w - 1) (by omega), W_pow]
    have : 64 * (w - 1) = bts - 64 := by omega
    rw [this]
  · rw [if_neg hk0, getElem_toDigits N n (w - 1) (by omega), getElem_toDigits N n w (by omega)]
    simp only [Option.some.injEq]
    rw [W_pow, W_pow, W_eq]
    apply Nat.eq_of_testBit_eq
    intro i
    simp only [Nat.testBit_or, Nat.testBit_mod_two_pow, Nat.testBit_mul_two_pow, Nat.testBit_div_two_pow]
    by_cases hi : i < 64
    · by_cases hik : 64 - k ≤ i
      · have e1 : i - (64 - k) + 64 * w = i + (bts - 64) := by omega
        have e2 : ¬ (i + k < 64) := by omega
        have e3 : i - (64 - k) < 64 := by omega
        simp [hi, hik, e1, e2, e3]
      · have e1 : i + k + 64 * (w - 1) = i + (bts - 64) := by omega
        have e2 : i + k < 64 := by omega
        simp [hi, hik, e1, e2]
    · have e2 : ¬ (i + k < 64) := by omega
      simp [hi, e2]

theorem top64_some_le {N x bts t : Nat} (h : top64 (toDigits N x) bts = some t) : bts ≤ 64 * N := by
  unfold top64 at h
  simp only at h
  have hlen := toDigits_length N x
  split at h
  · simp at h
  · split at h
    · have := (List.getElem?_eq_some_iff.1 h).1
      omega
    · split at h
      · rename_i x1 x2 h1 h2
        have := (List.getElem?_eq_some_iff.1 h2).1
        omega
      · simp at h

end Ymq.Gcd
