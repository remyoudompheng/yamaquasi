/-
C13 helper lemmas: the factor recovery of `smooths` (`factorsOf`) lists every prime index whose root
matches the reported position.
-/
import Ymq.Lemmas.SieveState

namespace Ymq.Sieve
open Ymq.Loops

/-- accumulated factor lists only grow. -/
def Grows (acc acc' : List Nat) : Prop := ∀ x ∈ acc, x ∈ acc'

theorem Grows.refl (a : List Nat) : Grows a a := fun _ h => h
theorem Grows.trans {a b c : List Nat} (h1 : Grows a b) (h2 : Grows b c) : Grows a c :=
  fun x hx => h2 x (h1 x hx)

theorem Grows.ite (c : Prop) [Decidable c] (x : Nat) (acc : List Nat) : Grows acc (if c then x :: acc else acc) := by
  intro y hy
  split
  · exact List.mem_cons_of_mem _ hy
  · exact hy

/-- a loop whose steps only add to the accumulator: it only adds, and what the step of `x` inserts (`Ins x v`) is in
the result. -/
theorem foldlM_acc {α} (f : List Nat → α → Option (List Nat)) (l : List α) (Ins : α → Nat → Prop)
    (hstep : ∀ x ∈ l, ∀ s s', f s x = some s' → Grows s s' ∧ ∀ v, Ins x v → v ∈ s') {s s' : List Nat}
    (h : l.foldlM f s = some s') : Grows s s' ∧ ∀ x ∈ l, ∀ v, Ins x v → v ∈ s' := by
  refine foldlM_partial f (fun pre t => Grows s t ∧ ∀ x ∈ pre, ∀ v, Ins x v → v ∈ t) l ?_ ⟨Grows.refl s, by simp⟩ h
  rintro pre x _ t t' e ⟨hg, hin⟩ hs
  obtain ⟨g1, i1⟩ := hstep x (e ▸ List.mem_append_cons_self) t t' hs
  refine ⟨hg.trans g1, fun y hy v hv => ?_⟩
  rcases List.mem_append.1 hy with hy | hy
  · exact g1 v (hin y hy v hv)
  · cases List.mem_singleton.1 hy; exact i1 v hv

theorem foldlM_grows {α} (f : List Nat → α → Option (List Nat)) (l : List α)
    (hstep : ∀ x ∈ l, ∀ s s', f s x = some s' → Grows s s') {s s' : List Nat} (h : l.foldlM f s = some s') :
    Grows s s' :=
  (foldlM_acc f l (fun _ _ => False) (fun x hx s s' hs => ⟨hstep x hx s s' hs, by simp⟩) h).1

theorem foldlM_inserts {α} (f : List Nat → α → Option (List Nat)) (l : List α) (x0 : α) (v : Nat)
    (hx0 : x0 ∈ l) (hstep : ∀ x ∈ l, ∀ s s', f s x = some s' → Grows s s')
    (hest : ∀ s s', f s x0 = some s' → v ∈ s') {s s' : List Nat} (h : l.foldlM f s = some s') : v ∈ s' :=
  (foldlM_acc f l (fun x w => x = x0 ∧ w = v) (fun x hx s s' hs => ⟨hstep x hx s s' hs, by
    rintro w ⟨rfl, rfl⟩; exact hest s s' hs⟩) h).2 x0 hx0 v ⟨rfl, rfl⟩

section Smooths
variable {fb : FB} {s : State} {r1 r2 : Array Nat} {r : Nat}

/-- `modu16(r) == off1 || modu16(r) == off2`: prime `i` is listed when `r mod p` is one of its two cursors. -/
theorem smallTest_spec {acc acc' : List Nat} {i : Nat} (h : smallTest fb s r acc i = some acc') :
    Grows acc acc' ∧ ∀ p c, fb.primes[i]? = some p → (s.loPrev[2 * i]? = some c ∨ s.loPrev[2 * i + 1]? = some c) →
      r % p = c → i ∈ acc' := by
  unfold smallTest at h
  simp only [Option.bind_eq_bind, Option.bind_eq_some_iff, Option.some.injEq] at h
  obtain ⟨p, hp, o1, h1, o2, h2, rfl⟩ := h
  refine ⟨Grows.ite _ _ _, fun p' c hp' hc hr => ?_⟩
  rw [hp] at hp'
  cases hp'
  rw [h1, h2] at hc
  have : r % p = o1 ∨ r % p = o2 := by
    rcases hc with e | e <;> cases e
    · exact Or.inl hr
    · exact Or.inr hr
  rw [if_pos this]
  exact List.mem_cons_self

/-- `r == off || r == off + p`: the prime of cursor `k` is listed when `r` is the cursor or the cursor plus `p`. -/
theorem midTest_spec {acc acc' : List Nat} {k : Nat} (h : midTest fb s r acc k = some acc') :
    Grows acc acc' ∧ ∀ p c, fb.primes[k / 2]? = some p → s.loPrev[k]? = some c → (r = c ∨ r = c + p % 65536) →
      k / 2 ∈ acc' := by
  unfold midTest at h
  simp only [Option.bind_eq_bind, Option.bind_eq_some_iff, Option.some.injEq] at h
  obtain ⟨o, ho, p, hp, rfl⟩ := h
  refine ⟨Grows.ite _ _ _, fun p' c hp' hc hr => ?_⟩
  rw [hp] at hp'
  rw [ho] at hc
  cases hp'
  cases hc
  rw [if_pos hr]
  exact List.mem_cons_self

theorem filt_spec {acc acc' : List Nat} {cands : List Nat} (h : filt fb s r1 r2 r acc cands = some acc') :
    Grows acc acc' ∧ ∀ pidx ∈ cands, (∀ b, isFactor fb s r1 r2 r pidx = some b → b = true) → pidx ∈ acc' := by
  obtain ⟨g, hin⟩ := foldlM_acc _ cands (fun pidx v => v = pidx ∧ ∀ b, isFactor fb s r1 r2 r pidx = some b → b = true)
    (fun pidx _ a a' ha => by
      simp only [Option.bind_eq_bind, Option.bind_eq_some_iff, Option.some.injEq] at ha
      obtain ⟨ok, hok, rfl⟩ := ha
      refine ⟨Grows.ite _ _ _, ?_⟩
      rintro v ⟨rfl, htrue⟩
      rw [htrue ok hok, if_pos rfl]
      exact List.mem_cons_self) h
  exact ⟨g, fun pidx hm ht => hin pidx hm pidx ⟨rfl, ht⟩⟩

/-- the loop over the truncated indices found in a table: every accepted candidate of every key is listed. -/
theorem keysFold_spec (cand : Nat → List Nat) {keys : List Nat} {acc acc' : List Nat}
    (h : keys.foldlM (fun acc k => filt fb s r1 r2 r acc (cand k)) acc = some acc') :
    Grows acc acc' ∧ ∀ k ∈ keys, ∀ pidx ∈ cand k, (∀ b, isFactor fb s r1 r2 r pidx = some b → b = true) →
      pidx ∈ acc' := by
  obtain ⟨g, hin⟩ := foldlM_acc _ keys
    (fun k v => v ∈ cand k ∧ ∀ b, isFactor fb s r1 r2 r v = some b → b = true)
    (fun k _ a a' ha => ⟨(filt_spec ha).1, fun v hv => (filt_spec ha).2 v hv.1 hv.2⟩) h
  exact ⟨g, fun k hk pidx hp ht => hin k hk pidx ⟨hp, ht⟩⟩

/-- size classes 16..18: an accepted prime index of the class whose pair is visible in table `ti` is listed. -/
theorem tableStep_spec (hfb : fb.WF) (hr : r < BLOCK) {acc acc' : List Nat} {ti : Nat}
    (h : tableStep fb s r1 r2 r acc ti = some acc') :
    Grows acc acc' ∧ ∀ t pidx p, s.tables[ti]? = some t → t.WF → fb.primes[pidx]? = some p → bitlen p = ti + 16 →
      t.Has (s.blkNo * BLOCK + r) (pidx % 256) → (∀ b, isFactor fb s r1 r2 r pidx = some b → b = true) →
      pidx ∈ acc' := by
  unfold tableStep at h
  simp only [Option.bind_eq_bind, Option.bind_eq_some_iff, LARGE_LOG] at h
  obtain ⟨t, ht, idx1, hi1, idx2, hi2, p8s, hlook, h⟩ := h
  obtain ⟨g, hin⟩ := keysFold_spec (candidates idx1 idx2) h
  refine ⟨g, fun t' pidx p ht' hwf hp hb hhas htrue => ?_⟩
  rw [ht] at ht'
  cases ht'
  have hcl := (hfb.class_of hp hi1 hi2).2 hb
  exact hin _ (Table.lookup_of_has hwf hr hlook hhas) pidx (mem_candidates hcl.1 hcl.2) htrue

/-- size classes ≥ 19. -/
theorem ltableStep_spec (hr : r < BLOCK) {acc acc' : List Nat} {t : LTable}
    (h : ltableStep fb s r1 r2 r acc t = some acc') :
    Grows acc acc' ∧ ∀ pidx, pidx < fb.primes.size → t.Has (s.blkNo * BLOCK + r) (pidx % 65536) →
      (∀ b, isFactor fb s r1 r2 r pidx = some b → b = true) → pidx ∈ acc' := by
  unfold ltableStep at h
  simp only [Option.bind_eq_bind, Option.bind_eq_some_iff] at h
  obtain ⟨p16s, hlook, h⟩ := h
  obtain ⟨g, hin⟩ := keysFold_spec (lcandidates fb.primes.size) h
  exact ⟨g, fun pidx hp hhas htrue => hin _ (LTable.lookup_of_has hr hlook hhas) pidx (mem_lcandidates hp) htrue⟩

/-- `is_factor` accepts a prime index whose root matches the position. -/
theorem isFactor_true (hfb : fb.WF) {pidx p o : Nat} (hp : fb.primes[pidx]? = some p) (hblk : s.blkNo < 2 ^ 17)
    (hroot : r1[pidx]? = some o ∨ r2[pidx]? = some o) (hx : (s.blkNo * BLOCK + r) % p = o) :
    ∀ b, isFactor fb s r1 r2 r pidx = some b → b = true := by
  intro b h
  unfold isFactor at h
  simp only [Option.bind_eq_bind, Option.bind_eq_some_iff] at h
  obtain ⟨p', hp', h⟩ := h
  rw [hp] at hp'
  have := Option.some.inj hp'; subst this
  have hb32 : s.blkNo % 2 ^ 32 = s.blkNo := Nat.mod_eq_of_lt (by omega)
  rw [hb32] at h
  have hbig : ¬ s.blkNo * BLOCK ≥ 2 ^ 32 := by simp only [BLOCK]; omega
  simp only [hbig, if_false, Option.bind_eq_some_iff] at h
  obtain ⟨a, ha, h⟩ := h
  have hp24 := hfb.lt24 _ _ hp
  have hp0 := hfb.ge2 _ _ hp
  have ho : (s.blkNo * BLOCK + r) % p % 2 ^ 32 = o := by
    rw [hx]
    have : o < p := by rw [← hx]; exact Nat.mod_lt _ (by omega)
    exact Nat.mod_eq_of_lt (by omega)
  rw [ho] at h
  split_ifs at h with hoa
  · exact (Option.some.inj h).symm
  · simp only [Option.bind_eq_some_iff, Option.some.injEq] at h
    obtain ⟨b', hb', rfl⟩ := h
    rcases hroot with e | e
    · rw [ha] at e; exact absurd (Option.some.inj e).symm hoa
    · rw [hb'] at e
      have := Option.some.inj e; subst this
      simp

end Smooths

/-- `small_recovery` + lookup: what `factorsOf` returns is complete.
`B` = number of blocks sieved before this one (cursors), `s.blkNo` = block number inside the
interval registered in the bucket tables. -/
theorem factorsOf_complete {fb : FB} {nS B : Nat} {rS1 rS2 rL1 rL2 : Array Nat} {s : State}
    (hfb : fb.WF) (hnS : fb.ibl[16]? = some nS)
    (hprev : CurInv fb rS1 rS2 s.idxskip nS B s.loPrev)
    (htsize : ∃ maxprime, fb.primes.back? = some maxprime ∧ s.tables.size = min 18 (bitlen maxprime) + 1 - 16 ∧
      s.ltables.size = bitlen maxprime + 1 - 19)
    (hblk : s.blkNo < 2 ^ 17) {r : Nat} (hr : r < BLOCK) {facs : List Nat}
    (h : factorsOf fb s rL1 rL2 r = some facs) {pidx p : Nat} (hp : fb.primes[pidx]? = some p) :
    -- primes below the block size: recovered from the cursors
    (p < BLOCK → ∀ o, (rS1[pidx]? = some o ∨ rS2[pidx]? = some o) → (B * BLOCK + r) % p = o → pidx ∈ facs) ∧
    -- size classes 16..18: recovered when the hit is visible in the table of the class
    (∀ ti t, s.tables[ti]? = some t → t.WF → bitlen p = ti + 16 →
      ∀ o, (rL1[pidx]? = some o ∨ rL2[pidx]? = some o) → (s.blkNo * BLOCK + r) % p = o →
        t.Has (s.blkNo * BLOCK + r) (pidx % 256) → pidx ∈ facs) ∧
    -- size classes ≥ 19
    (∀ li t, s.ltables[li]? = some t → bitlen p = li + 19 →
      ∀ o, (rL1[pidx]? = some o ∨ rL2[pidx]? = some o) → (s.blkNo * BLOCK + r) % p = o →
        t.Has (s.blkNo * BLOCK + r) (pidx % 65536) → pidx ∈ facs) := by
  unfold factorsOf at h
  simp only [Option.bind_eq_bind, Option.bind_eq_some_iff] at h
  obtain ⟨n15, hn15, small, hsmall, mid, hmid, h⟩ := h
  have gmid : Grows small mid := foldlM_grows _ _ (fun _ _ _ _ hs => (midTest_spec hs).1) hmid
  -- the part of the result that comes from the tables, when there are tables
  obtain ⟨acc, rfl, gacc, htab⟩ : ∃ acc, facs = acc.reverse ∧ Grows mid acc ∧ (s.tables.size ≠ 0 → ∃ a1,
      (List.range' 0 s.tables.size).foldlM (tableStep fb s rL1 rL2 r) mid = some a1 ∧
      s.ltables.toList.foldlM (ltableStep fb s rL1 rL2 r) a1 = some acc) := by
    split_ifs at h with h0
    · exact ⟨mid, (Option.some.inj h).symm, Grows.refl _, fun hne => absurd h0 hne⟩
    · simp only [Option.bind_eq_some_iff, Option.some.injEq] at h
      obtain ⟨a1, h1, a2, h2, rfl⟩ := h
      exact ⟨a2, rfl, (foldlM_grows _ _ (fun _ _ _ _ hs => (tableStep_spec hfb hr hs).1) h1).trans
        (foldlM_grows _ _ (fun _ _ _ _ hs => (ltableStep_spec hr hs).1) h2), fun _ => ⟨a1, h1, h2⟩⟩
  obtain ⟨maxprime, hmax, hts, hls⟩ := htsize
  have hpm := bitlen_mono (hfb.le_back hp hmax)
  refine ⟨?_, ?_, ?_⟩
  · intro hpB o hroot hx
    have hi : pidx < nS := (hfb.ibl_spec 16 pidx nS p hnS hp).2
      ((bitlen_lt_succ_iff p 15).2 (by simpa [BLOCK] using hpB))
    -- the cursor slot of the matching root
    obtain ⟨k, c, hk2, hk, hc, hlt, hinv⟩ : ∃ k c, k / 2 = pidx ∧ k < 2 * nS ∧ s.loPrev[k]? = some c ∧ c < p ∧
        (c + B * BLOCK) % p = o := by
      obtain ⟨o1, o2, c1, h1, h2, hc1, hlt1, hinv1, hlive, _⟩ := hprev.pair (i := pidx) (by omega) hp
      by_cases ho1 : o = o1
      · subst ho1
        exact ⟨2 * pidx, c1, by omega, by omega, hc1, hlt1, hinv1⟩
      · have ho2 : o = o2 := by
          rcases hroot with e | e
          · rw [h1] at e; exact absurd (Option.some.inj e).symm ho1
          · rw [h2] at e; exact (Option.some.inj e).symm
        subst ho2
        obtain ⟨c2, hc2, hlt2, hinv2⟩ := hlive (fun e => ho1 e.symm)
        exact ⟨2 * pidx + 1, c2, by omega, by omega, hc2, hlt2, hinv2⟩
    refine List.mem_reverse.2 (gacc _ ?_)
    by_cases h14 : pidx < n15
    · -- p < 2^14: modu16(r) == off
      have hc' : s.loPrev[2 * pidx]? = some c ∨ s.loPrev[2 * pidx + 1]? = some c := by
        have hkk : k = 2 * pidx ∨ k = 2 * pidx + 1 := by omega
        rcases hkk with e | e <;> subst e
        · exact Or.inl hc
        · exact Or.inr hc
      exact gmid _ (foldlM_inserts (smallTest fb s r) _ pidx pidx (List.mem_range'_1.2 ⟨by omega, by omega⟩)
        (fun _ _ _ _ hs => (smallTest_spec hs).1)
        (fun _ _ hs => (smallTest_spec hs).2 p c hp hc' ((recover_small hlt hinv).2 hx)) hsmall)
    · -- 2^14 ≤ p < 2^15: r == off || r == off + p
      have hp14 : 2 ^ 14 ≤ p := by
        have : ¬ bitlen p < 15 := fun hb => h14 ((hfb.ibl_spec 15 pidx n15 p hn15 hp).2 hb)
        exact two_pow_le_of_bitlen (by omega)
      have hn15le : n15 ≤ nS := hfb.ibl_mono (by omega) hn15 hnS
      have hpm : p % 65536 = p := Nat.mod_eq_of_lt (by simp only [BLOCK] at hpB; omega)
      rw [← hk2] at hp ⊢
      exact foldlM_inserts (midTest fb s r) _ k (k / 2) (List.mem_range'_1.2 ⟨by omega, by rw [hprev.1]; omega⟩)
        (fun _ _ _ _ hs => (midTest_spec hs).1)
        (fun _ _ hs => (midTest_spec hs).2 p c hp hc
          (by rw [hpm]; exact (recover_mid hlt (by simp only [BLOCK]; omega) hr hinv).2 hx)) hmid
  · intro ti t ht hwf hb o hroot hx hhas
    have hti : ti < s.tables.size := (Array.getElem?_eq_some_iff.1 ht).1
    obtain ⟨a1, h1, h2⟩ := htab (by omega)
    have g2 := foldlM_grows _ _ (fun _ _ _ _ hs => (ltableStep_spec hr hs).1) h2
    exact List.mem_reverse.2 (g2 _ (foldlM_inserts (tableStep fb s rL1 rL2 r) _ ti pidx (List.mem_range'_1.2 ⟨by omega, by omega⟩)
      (fun _ _ _ _ hs => (tableStep_spec hfb hr hs).1)
      (fun _ _ hs => (tableStep_spec hfb hr hs).2 t pidx p ht hwf hp hb hhas (isFactor_true hfb hp hblk hroot hx)) h1))
  · intro li t ht hb o hroot hx hhas
    have hli : li < s.ltables.size := (Array.getElem?_eq_some_iff.1 ht).1
    obtain ⟨a1, h1, h2⟩ := htab (by omega)
    have htm : t ∈ s.ltables.toList := by
      rw [Array.getElem?_eq_getElem hli] at ht
      cases ht
      exact Array.getElem_mem_toList hli
    exact List.mem_reverse.2 (foldlM_inserts (ltableStep fb s rL1 rL2 r) _ t pidx htm (fun _ _ _ _ hs => (ltableStep_spec hr hs).1)
      (fun _ _ hs => (ltableStep_spec hr hs).2 pidx (Array.getElem?_eq_some_iff.1 hp).1 hhas
        (isFactor_true hfb hp hblk hroot hx)) h2)

end Ymq.Sieve
