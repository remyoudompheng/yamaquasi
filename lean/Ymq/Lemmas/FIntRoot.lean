/-
The word-exact `FInt` model: `√2 = 2^(48N) - 2^(16N)` squares to 2 modulo
`2^(64N)+1`, and `twiddle(i, k)` multiplies by the `i`-th power of `√2^(256N/2^k)`.
-/
import Ymq.Lemmas.FIntShift

namespace Ymq.FInt
open Ymq.Limbs

/-- the code's `√2`: `2^(48N) - 2^(16N)` (a Nat; `2^(16N) ≤ 2^(48N)`) -/
def sqrt2 (N : Nat) : Nat := 2 ^ (48 * N) - 2 ^ (16 * N)

theorem Fmod_eq (N : Nat) : Fmod N = (2 ^ (16 * N)) ^ 4 + 1 := by
  rw [Fmod, W_eq, ← pow_mul, ← pow_mul]; congr 2; omega

theorem sqrt2_add (N : Nat) : sqrt2 N + 2 ^ (16 * N) = (2 ^ (16 * N)) ^ 3 := by
  unfold sqrt2
  have : (2 ^ (16 * N)) ^ 3 = 2 ^ (48 * N) := by rw [← pow_mul]; congr 1; omega
  rw [this]
  have : 2 ^ (16 * N) ≤ 2 ^ (48 * N) := Nat.pow_le_pow_right (by decide) (by omega)
  omega

theorem sqrt2_sq' (N : Nat) : sqrt2 N * sqrt2 N ≡ 2 [MOD Fmod N] := by
  have h := sqrt2_add N
  rw [Fmod_eq]
  generalize sqrt2 N = d at *
  generalize 2 ^ (16 * N) = a at *
  apply modEq_of_eq (k1 := 2) (k2 := a * a)
  -- `d² = (a³ - a)² = a⁶ - 2a⁴ + a²` and `a⁴ ≡ -1`
  linear_combination (d + a + a ^ 3) * h + 2 * a * h.symm


theorem sqrt2_pow_even (N m : Nat) : sqrt2 N ^ (2 * m) ≡ 2 ^ m [MOD Fmod N] := by
  rw [pow_mul, sq]
  exact (sqrt2_sq' N).pow m

/-- the primitive `2^k`-th root of unity used by `twiddle(·, k)`: `√2 ^ (256 N / 2^k)` -/
def root (N k : Nat) : Nat := sqrt2 N ^ (256 * N / 2 ^ k)

/-- `root N k` is a `2^k`-th root of unity whenever `2^k` divides `256N`: `√2^(256N) = 2^(128N) ≡ 1` -/
theorem root_pow' (N k : Nat) (hdvd : 2 ^ k ∣ 256 * N) : root N k ^ 2 ^ k ≡ 1 [MOD Fmod N] := by
  unfold root
  rw [← pow_mul, Nat.div_mul_cancel hdvd, show 256 * N = 2 * (128 * N) by ring]
  exact (sqrt2_pow_even N (128 * N)).trans (pow_period N)

/-- the root is principal: `ω^(2^(k-1)) = √2^(128N) = 2^(64N) ≡ -1` -/
theorem root_half' (N k : Nat) (hk : 0 < k) (hdvd : 2 ^ k ∣ 256 * N) :
    root N k ^ 2 ^ (k - 1) + 1 ≡ 0 [MOD Fmod N] := by
  unfold root
  have he : 256 * N / 2 ^ k * 2 ^ (k - 1) = 2 * (64 * N) := by
    obtain ⟨c, hc⟩ := hdvd
    have hp : 0 < 2 ^ k := Nat.pow_pos (by decide)
    have h2 : 2 ^ k = 2 ^ (k - 1) * 2 := by rw [← pow_succ]; congr 1; omega
    rw [hc, Nat.mul_div_cancel_left _ hp]
    have : 2 * (c * 2 ^ (k - 1)) = 2 * (128 * N) := by
      calc 2 * (c * 2 ^ (k - 1)) = 2 ^ (k - 1) * 2 * c := by ring
        _ = 2 ^ k * c := by rw [← h2]
        _ = 256 * N := hc.symm
        _ = 2 * (128 * N) := by ring
    omega
  rw [← pow_mul, he]
  refine ((sqrt2_pow_even N (64 * N)).add_right 1).trans ?_
  rw [show 2 ^ (64 * N) + 1 = Fmod N by unfold Fmod; rw [W_eq, ← pow_mul]]
  exact Nat.modEq_zero_iff_dvd.2 (dvd_refl _)

/-- the exponent `e = i·(256N/2^k)` of `√2` in `twiddle(i, k)`: the shift is `e/2`, and the half shift is
taken iff `e` is odd -/
theorem twiddle_exp {N k : Nat} (i : Nat) (hN : 0 < N) (hdiv : 2 ^ k ∣ 128 * N ∨ 2 ^ k = 256 * N) :
    128 * i * N / 2 ^ k = i * (256 * N / 2 ^ k) / 2 ∧
      ((i % 2 = 1 ∧ 2 ^ k = 256 * N) ↔ i * (256 * N / 2 ^ k) % 2 = 1) := by
  have hp : 0 < 2 ^ k := Nat.pow_pos (by decide)
  rcases hdiv with ⟨m, hm⟩ | hfull
  · have hle : 2 ^ k ≤ 128 * N := Nat.le_of_dvd (by omega) ⟨m, hm⟩
    have h256 : 256 * N / 2 ^ k = 2 * m := by
      rw [show 256 * N = 2 ^ k * (2 * m) by rw [show 256 * N = 2 * (128 * N) by ring, hm]; ring,
        Nat.mul_div_cancel_left _ hp]
    have h128 : 128 * i * N / 2 ^ k = i * m := by
      rw [show 128 * i * N = 2 ^ k * (i * m) by rw [show 128 * i * N = i * (128 * N) by ring, hm]; ring,
        Nat.mul_div_cancel_left _ hp]
    rw [h256, h128, show i * (2 * m) = 2 * (i * m) by ring, Nat.mul_div_cancel_left _ (by decide),
      Nat.mul_mod_right]
    exact ⟨rfl, by omega⟩
  · rw [hfull, Nat.div_self (by omega), Nat.mul_one, show 128 * i * N = 128 * N * i by ring,
      show 256 * N = 128 * N * 2 by ring, Nat.mul_div_mul_left _ _ (by omega)]
    exact ⟨rfl, by simp⟩

/-- `FInt::twiddle(i, k)`: multiplication by `ω^i`, `ω = √2^(256N/2^k)`, whenever `2^k` divides
`128 N` (pure shifts) or `2^k = 256 N` (the transform length at which `√2` itself is needed). -/
theorem twiddle_spec' {N : Nat} (x : FI) (i k : Nat) (hN : 0 < N) (hx : WfN N x) (hn : Norm x)
    (hk : k < 32) (hi : 128 * i * N < 2 ^ 32) (hdiv : 2 ^ k ∣ 128 * N ∨ 2 ^ k = 256 * N) :
    ∃ r, twiddle x i k = some r ∧ WfN N r ∧ Norm r ∧
      r.value ≡ x.value * root N k ^ i [MOD Fmod N] := by
  unfold twiddle
  simp only [hx.1]
  by_cases hk0 : k = 0
  · rw [if_pos hk0]
    subst hk0
    refine ⟨x, rfl, hx, hn, ?_⟩
    have h1 : root N 0 = sqrt2 N ^ (2 * (128 * N)) := by
      unfold root; congr 1; simp; omega
    have h2 : root N 0 ≡ 1 [MOD Fmod N] := by
      rw [h1]; exact (sqrt2_pow_even N (128 * N)).trans (pow_period N)
    have h3 := (h2.pow i).mul_left x.value
    rw [one_pow, Nat.mul_one] at h3
    exact h3.symm
  · rw [if_neg hk0, if_neg (by omega), if_neg (by omega)]
    obtain ⟨hshift, hhalf⟩ := twiddle_exp i hN hdiv
    rw [hshift, show root N k ^ i = sqrt2 N ^ (i * (256 * N / 2 ^ k)) by unfold root; rw [← pow_mul, Nat.mul_comm]]
    generalize i * (256 * N / 2 ^ k) = e at hhalf ⊢
    -- after the half shift (`x1 = x·√2^(e mod 2)`): the shift by `e/2` bits multiplies by `√2^(2·(e/2))`
    have fin : ∀ x1, WfN N x1 → Norm x1 → x1.value ≡ x.value * sqrt2 N ^ (e % 2) [MOD Fmod N] →
        ∃ r, shl x1 (e / 2) = some r ∧ WfN N r ∧ Norm r ∧ r.value ≡ x.value * sqrt2 N ^ e [MOD Fmod N] := by
      intro x1 hw1 hn1 hv1
      obtain ⟨r, hr, hw, hnr, hv⟩ := shl_spec' x1 (e / 2) hN hw1 hn1
      refine ⟨r, hr, hw, hnr, hv.trans ?_⟩
      have := (hv1.mul_right _).trans (((sqrt2_pow_even N (e / 2)).symm).mul_left _)
      rwa [Nat.mul_assoc, ← pow_add, Nat.add_comm, Nat.div_add_mod] at this
    by_cases hodd : e % 2 = 1
    · -- `e` odd: `x·√2 = (x << 48N) - (x << 16N)`
      rw [if_pos (hhalf.2 hodd)]
      obtain ⟨y, hy, hwy, hny, hvy⟩ := shl_spec' x (16 * N) hN hx hn
      obtain ⟨s, hs, hws, hns, hvs⟩ := shl_spec' x (48 * N) hN hx hn
      rw [hy, hs]
      simp only
      obtain ⟨x1, hx1, hw1, hn1, hv1⟩ := sub_spec' s y hN hws hwy hns hny
      rw [hx1]
      refine fin x1 hw1 hn1 ?_
      have h1 : x1.value + x.value * 2 ^ (16 * N) ≡ x.value * 2 ^ (48 * N) [MOD Fmod N] :=
        ((Nat.ModEq.add_left _ hvy.symm).trans hv1).trans hvs
      have h2 : x.value * sqrt2 N + x.value * 2 ^ (16 * N) = x.value * 2 ^ (48 * N) := by
        rw [← Nat.mul_add, sqrt2_add, ← pow_mul]; congr 2; omega
      rw [hodd, pow_one]
      rw [← h2] at h1
      exact Nat.ModEq.add_right_cancel' _ h1
    · rw [if_neg (mt hhalf.1 hodd)]
      exact fin x hx hn (by rw [show e % 2 = 0 by omega, pow_zero, Nat.mul_one])

end Ymq.FInt
