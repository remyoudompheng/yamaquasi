/-
The oracle contract of the `Factor` control-flow model with `qsieve64::qsieve` and `squfof::squfof` inside the model: the
premises on these two fields are "the field answers as the MODEL of the whole function does" (`Qs64Model`:
Ymq/Model/Qsieve64.lean; `SqufofModel`: Ymq/Model/Squfof.lean), where Ymq/Lemmas/FactorClosed.lean has the exit-level
`UsesQs64` and `UsesSqufofExit` (which mention abstract relations resp. the named fact `0 < p_prev < n`).

The models return a proper split only for arguments that are not tiny (`qsieve(6) = (1, 6)`,
`squfof(p) = (p, 1)` for the primes `p ≤ 47`), so the contract `OracleOK` — quantified over ALL
`n ≥ 2` — is false for them. What holds is the contract AT THE CALL SITES of `factor_impl`:
`factor` strips the 46 primes `≤ 199` first, every recursive argument divides the stripped value,
hence every argument of `qsieve` / `squfof` is `≥ 211` and (the arms assert it) at most 64 bits long.

Technique: `guardOracle o` answers `None` for `qs64`/`squfof` outside `Guard n := 51 ≤ n ∧ bits n ≤ 64`
and is `o` otherwise. (1) `factor o = factor (guardOracle o)` on every input (`factor_guard_eq`:
by induction, all call sites satisfy the guard — this threads `NoSmall` through the recursion);
(2) `OracleOK (guardOracle o)` follows from the models (`oracleOK_guard`).
The part of (1) that does not mention the guard — `factorStep_fields`, `factorImpl_congr`, `factor_congr`: two oracles that one
level of `factor_impl` cannot tell apart on numbers without small prime factor are not told apart by `factor` — also serves
Ymq/Lemmas/FactorClosed3.lean.
-/
import Ymq.Lemmas.FactorClosed
import Ymq.Props.C03Qs64
import Ymq.Props.C03Squfof

namespace Ymq.Factor

variable {σ : Type}
open Ymq.Gen.Primality (smallPrimes)

/-- no prime of `SMALL_PRIMES` divides `n` -/
def NoSmall (n : Nat) : Prop := ∀ p ∈ smallPrimes, ¬ p ∣ n

theorem NoSmall.dvd {m n : Nat} (h : NoSmall n) (hd : m ∣ n) : NoSmall m :=
  fun p hp hpm => h p hp (Nat.dvd_trans hpm hd)

theorem small_has_small_factor : ∀ q, q < 211 → 2 ≤ q → ∃ p ∈ smallPrimes, p ∣ q := by
  decide +kernel

theorem NoSmall.ne_zero {n : Nat} (h : NoSmall n) : n ≠ 0 := by
  intro h0; subst h0
  exact h 2 (by decide) (Nat.dvd_zero 2)

theorem NoSmall.ge {n : Nat} (h : NoSmall n) (h1 : n ≠ 1) : 211 ≤ n := by
  by_contra hlt
  have h0 := h.ne_zero
  obtain ⟨p, hp, hd⟩ := small_has_small_factor n (by omega) (by omega)
  exact h p hp hd

theorem trialGo_dvd (p : Nat) : ∀ (k nred : Nat) (fs : List Nat),
    (trialDivideBy.go p k nred fs).1 ∣ nred := by
  intro k nred fs
  obtain ⟨j, _, hd, he, _⟩ := trialGo_eq p k nred fs
  rw [he]; exact Nat.div_dvd_of_dvd hd

theorem lt_two_pow_of_bits {n k : Nat} (h : bits n ≤ k) : n < 2 ^ k := (bits_le_iff n k).1 h

theorem trialDiv_noSmall {n : Nat} (h0 : n ≠ 0) (hb : bits n ≤ 500) : NoSmall (trialDiv n).1 := by
  have hlt : n < 2 ^ 1100 :=
    lt_of_lt_of_le (lt_two_pow_of_bits hb) (Nat.pow_le_pow_right (by omega) (by omega))
  obtain ⟨_, _, _, _, h⟩ := trialDivideBy_eq 1100 smallPrimes n []
  rw [trialDiv_def]
  exact h smallPrimes_ge_two h0 hlt

/-- what holds at every call of `qsieve64::qsieve` / `squfof::squfof` inside `factor_impl`. The call sites give `211 ≤ n`
(`NoSmall.ge`); the guard asks only for what the two models need: `51 ≤ n` is the premise of `C03Squfof.squfof_exit` (the
multipliers are `k ≤ 50 < n`) and implies the `30 ≤ n` of `C03Qs64.qs64_proper`. -/
def Guard (n : Nat) : Prop := 51 ≤ n ∧ bits n ≤ 64

instance : DecidablePred Guard := fun n => by unfold Guard; infer_instance

/-- `o` with the `qs64` and `squfof` fields silenced outside `Guard` (the oracle state moves on as
in `o`) -/
def guardOracle (o : Oracle σ) : Oracle σ :=
  { o with
    qs64 := fun t n => if Guard n then o.qs64 t n else (none, (o.qs64 t n).2)
    squfof := fun t n => if Guard n then o.squfof t n else (none, (o.squfof t n).2) }

theorem guarded_eq_some {α : Type} {G : Prop} [Decidable G] {x : Option α × σ} {r : α}
    (h : (if G then x else (none, x.2)).1 = some r) : G ∧ x.1 = some r := by
  split at h
  · exact ⟨‹_›, h⟩
  · cases h

theorem guard_of_noSmall {n : Nat} (hns : NoSmall n) (h1 : n ≠ 1) (hb : ¬ bits n > 64) : Guard n :=
  ⟨by have := hns.ge h1; omega, by omega⟩

/-- One level of `factor_impl` asks `rho`, `qs64`, `squfof` about `n` itself only, never when
`n = 1`, and `qs64` / `squfof` only behind `assert!(n.bits() <= 64)`. -/
theorem factorStep_fields (o : Oracle σ) (r : σ → Nat → Option (List Nat × Nat) × σ)
    (q sq : σ → Nat → Option (Nat × Nat) × σ) (rec : Nat → St σ → Res (St σ)) {n : Nat}
    (hr : n ≠ 1 → ∀ t, r t n = o.rho t n)
    (hq : n ≠ 1 → ¬ bits n > 64 → ∀ t, q t n = o.qs64 t n ∧ sq t n = o.squfof t n)
    (alg : Algo) (s : St σ) :
    factorStep { o with rho := r, qs64 := q, squfof := sq } rec n alg s = factorStep o rec n alg s := by
  by_cases h1 : n = 1
  · unfold factorStep; rw [if_pos h1, if_pos h1]
  · have hauto : ∀ s, autoRho { o with rho := r, qs64 := q, squfof := sq } rec n s = autoRho o rec n s := by
      intro s; unfold autoRho; dsimp only; rw [hr h1]
    have harm : ∀ a s, armPhase { o with rho := r, qs64 := q, squfof := sq } rec n a s =
        armPhase o rec n a s := by
      intro a s
      cases a with
      | rho => unfold armPhase; dsimp only; rw [hr h1]
      | qs64 => unfold armPhase; dsimp only; split; · rfl
                rename_i hb; rw [(hq h1 hb s.os).1]
      | squfof => unfold armPhase; dsimp only; split; · rfl
                  rename_i hb; rw [(hq h1 hb s.os).2]
      | _ => rfl
    have hcp : ∀ s, compositePhase { o with rho := r, qs64 := q, squfof := sq } rec n alg s =
        compositePhase o rec n alg s := by
      intro s
      unfold compositePhase autoPhase
      rw [hauto]
      simp only [harm]
      rfl
    unfold factorStep
    rw [if_neg h1, if_neg h1, hcp]

theorem factorImpl_congr {o o' : Oracle σ} (hok : OracleOK o') (alg : Algo)
    (hstep : ∀ rec n s, NoSmall n → factorStep o' rec n alg s = factorStep o rec n alg s) :
    ∀ (fuel n : Nat) (s : St σ), NoSmall n →
      factorImpl o fuel n alg s = factorImpl o' fuel n alg s := by
  intro fuel
  induction fuel with
  | zero => intro n s _; rw [factorImpl_zero, factorImpl_zero]
  | succ fuel ih =>
    intro n s hns
    rw [factorImpl_succ, factorImpl_succ, ← hstep _ n s hns]
    exact factorStep_congr hok hns.ne_zero (fun m hm s' => ih m s' (hns.dvd hm)) alg s

/-- two oracles with the same `prime` field that `factor_impl` cannot tell apart on numbers without small
prime factor are not told apart by `factor` (which hands `factor_impl` such a number) -/
theorem factor_congr {o o' : Oracle σ} (hprime : o'.prime = o.prime) {alg : Algo}
    (h : ∀ (fuel n : Nat) (s : St σ), NoSmall n → factorImpl o fuel n alg s = factorImpl o' fuel n alg s)
    (fuel n : Nat) (os : σ) : factor o fuel n alg os = factor o' fuel n alg os := by
  rw [factor_eq, factor_eq]
  by_cases h0 : n = 0
  · rw [if_pos h0, if_pos h0]
  · rw [if_neg h0, if_neg h0]
    by_cases hb : bits n > 500
    · rw [if_pos hb, if_pos hb]
    · rw [if_neg hb, if_neg hb]
      unfold factorRun checkFactors
      rw [h fuel _ _ (trialDiv_noSmall h0 (by omega)), hprime]

/-- `factor` itself does not see the guard: trial division comes first -/
theorem factor_guard_eq (o : Oracle σ) (hok : OracleOK (guardOracle o)) (fuel n : Nat) (alg : Algo)
    (os : σ) : factor o fuel n alg os = factor (guardOracle o) fuel n alg os :=
  factor_congr (o := o) (o' := guardOracle o) rfl
    (factorImpl_congr hok alg fun rec _ s hns => factorStep_fields o o.rho _ _ rec (fun _ _ => rfl)
      (fun h1 hb _ => ⟨if_pos (guard_of_noSmall hns h1 hb), if_pos (guard_of_noSmall hns h1 hb)⟩) alg s)
    fuel n os

/-- the `qs64` field answers `Some((a, b))` only as the MODEL of `qsieve64::qsieve`
(Ymq/Model/Qsieve64.lean) does, for SOME multiplier inside the contract of `select_multiplier`
(`k < 30`; f64 scores not modelled), SOME kernel vectors (C14) and primality answers (C06).
No side condition on `n`. -/
def Qs64Model (o : Oracle σ) : Prop :=
  ∀ t n a b, (o.qs64 t n).1 = some (a, b) →
    ∃ k kernel isPrime, k < 30 ∧ Ymq.Qsieve64.qsieve n k kernel isPrime = .ok (some (a, b))

/-- the `squfof` field answers `Some((a, b))` only as the MODEL of `squfof::squfof`
(Ymq/Model/Squfof.lean) does. No side condition on `n`. -/
def SqufofModel (seed : Nat → Nat) (o : Oracle σ) : Prop :=
  ∀ t n a b, (o.squfof t n).1 = some (a, b) → Ymq.Squfof.squfof seed n = some (some (a, b))

theorem oracleOK_guard {o : Oracle σ} {seed : Nat → Nat} (hseed : Ymq.Squfof.SeedOK seed)
    (hpp : UsesPerfectPower o) (hfs : UsesFinalStep o) (hqs : Qs64Model o) (hrho : UsesRho64 o)
    (hpm1 : UsesPm1 o) (hecm : UsesEcmExits o) (hsq : SqufofModel seed o)
    (hun : UsesUnexpectedFactor o) (hres : ResidualOK o) : OracleOK (guardOracle o) where
  pp := pp_clause (o := guardOracle o) hpp
  rho := rho_clause (o := guardOracle o) hrho
  pm1q := (pm1_clauses (o := guardOracle o) hpm1).1
  pm1 := (pm1_clauses (o := guardOracle o) hpm1).2
  ecmauto := fun s n a b hn h => (hecm.1 s n a b h).pairOK hn
  ecm := fun s n a b hn h => (hecm.2.1 s n a b h).pairOK hn
  ecm128 := fun s n a b hn h => (hecm.2.2 s n a b h).pairOK hn
  qs64 := by
    intro s n a b _ h
    obtain ⟨hg, h⟩ := guarded_eq_some h
    obtain ⟨k, kernel, isPrime, hk, hm⟩ := hqs s n a b h
    exact Ymq.C03Qs64.qs64_proper n k kernel isPrime a b (lt_two_pow_of_bits hg.2) hk
      (by have := hg.1; omega) hm
  squfof := by
    intro s n a b hn h
    obtain ⟨hg, h⟩ := guarded_eq_some h
    exact (Ymq.C03Squfof.squfof_exit hseed hg.1 (hsq s n a b h)).pairOK hn
  sieveDivs := sieveDivs_clause (o := guardOracle o) hfs
  sieveUnexpected := sieveUnexpected_clause (o := guardOracle o) hun ⟨hres.unexpectedNotWhole⟩

end Ymq.Factor
