/-
C10: the quotient estimate of `MultiZmodP::_crt` AS THE MODEL READS IT (Ymq/Model/Crt.lean, `qEstimate`:
three branches on the top word of `P`, shifted two-word reads of `crt_p[i]`, 128-bit sums, division
by the truncated top of `P`) returns the CRT quotient (`qEstimate_spec`, on top of the error analysis
`q_estimate'`), and the tables built by `MultiZmodP::new` from the translated prime table meet its
requirements for every admissible number of primes (`new_estOk`, decided on the table). `foldlM_checked_sum` is the
one rule for the checked `u128` accumulation loops of `_crt` and `from_mint`.
-/
import Ymq.Lemmas.CrtNew
import Mathlib.Tactic.NormNum

namespace Ymq.Crt
open Finset
open Ymq.Mg64 (W)

/-- what the quotient estimate needs of the tables of a `MultiZmodP` -/
structure EstOk (m : Mzp) : Prop where
  /-- `NTT_PRIMES` has 26 rows; so `q < w ≤ 26`, and 26 residues below `2^59` sum to less than `2^64` -/
  w_le : m.w ≤ 26
  plen2 : 2 ≤ m.plen
  /-- `P` has exactly `plen` words -/
  lo : W ^ (m.plen - 1) ≤ m.pprod
  hi : m.pprod < W ^ m.plen
  /-- the branch for a top word below `2^8` reads `crt[plen - 3]` -/
  plen3 : m.pprod < 2 ^ 8 * W ^ (m.plen - 1) → 3 ≤ m.plen
  /-- `crt_p[i] = P/p_i` with `p_i > 2^58` (every row of the table): bounds `crt_p[i]` by `P/2^58` -/
  crt : ∀ i, i < m.w → ∃ p, 2 ^ 58 < p ∧ m.crtP.getD i 0 * p = m.pprod

theorem W_eq : W = 2 ^ 64 := by decide

/-- a `u128` accumulation with overflow check: `z += t j` for `j < n`, each term at most `T` -/
theorem foldlM_checked_sum (step : Nat → Nat → Option Nat) (t : Nat → Nat) (n z0 T : Nat)
    (hstep : ∀ z j, j < n → z + t j < 2 ^ 128 → step z j = some (z + t j))
    (ht : ∀ j, j < n → t j ≤ T) (hB : z0 + n * T < 2 ^ 128) :
    (List.range n).foldlM step z0 = some (z0 + ∑ j ∈ range n, t j) := by
  obtain ⟨z, hz, rfl, _⟩ := Loops.foldlM_range_total step
    (fun i z => z = z0 + ∑ j ∈ range i, t j ∧ ∑ j ∈ range i, t j ≤ i * T) n
    (fun i z hi ⟨hz, hb⟩ => by
      have hiT : (i + 1) * T ≤ n * T := Nat.mul_le_mul_right _ hi
      have := ht i hi
      refine ⟨_, hstep z i hi (by rw [hz, Nat.succ_mul] at *; omega), ?_, ?_⟩
      · rw [sum_range_succ, hz, Nat.add_assoc]
      · rw [sum_range_succ, Nat.succ_mul]; omega) (s := z0) ⟨by simp, by simp⟩
  exact hz

theorem sumTop_eq (m : Mzp) (xs : List Nat) (f : Nat → Option Nat) (g : Nat → Nat) (B : Nat)
    (hf : ∀ i, i < m.w → f (m.crtP.getD i 0) = some (g i)) (hg : ∀ i, i < m.w → g i ≤ B)
    (hxs : ∀ i, i < m.w → xs.getD i 0 < 2 ^ 59) (hB : m.w * (2 ^ 59 * B) < 2 ^ 128) :
    sumTop m xs f = some (∑ i ∈ range m.w, xs.getD i 0 * g i) := by
  have := foldlM_checked_sum (sumTopStep xs m.crtP f) (fun i => xs.getD i 0 * g i) m.w 0 (2 ^ 59 * B)
    (fun z j hj hlt => by unfold sumTopStep; rw [hf j hj]; exact if_neg (by omega))
    (fun j hj => Nat.mul_le_mul (le_of_lt (hxs j hj)) (hg j hj)) (by omega)
  rwa [Nat.zero_add] at this

/-- the shifted two-word read `crt[k+1] << 32 | crt[k] >> 32` is `c / (2^32·W^k)` when word `k+1` is
below `2^32` (no bits lost by the 64-bit shift) -/
theorem two_word_read (c k : Nat) (h : c / W ^ (k + 1) < 2 ^ 32) :
    dig c (k + 1) * 2 ^ 32 % W + dig c k / 2 ^ 32 = c / (2 ^ 32 * W ^ k) := by
  unfold dig
  have hy1 : c / W ^ (k + 1) = c / W ^ k / W := by rw [pow_succ, Nat.div_div_eq_div_mul]
  have hy2 : c / (2 ^ 32 * W ^ k) = c / W ^ k / 2 ^ 32 := by rw [Nat.mul_comm, Nat.div_div_eq_div_mul]
  rw [hy1] at h ⊢
  rw [hy2]
  generalize c / W ^ k = y at h ⊢
  have h' : y / 18446744073709551616 < 2 ^ 32 := h
  show y / 18446744073709551616 % 18446744073709551616 * 2 ^ 32 % 18446744073709551616 +
    y % 18446744073709551616 / 2 ^ 32 = y / 2 ^ 32
  omega


theorem sum_range_le (w : Nat) (f : Nat → Nat) (B : Nat) (h : ∀ i, i < w → f i ≤ B) :
    ∑ i ∈ range w, f i ≤ w * B := by
  induction w with
  | zero => simp
  | succ w ih =>
    rw [sum_range_succ, Nat.add_mul, Nat.one_mul]
    have := ih (fun i hi => h i (by omega))
    have := h w (by omega)
    omega

/-- the shifted two-word read of `c < 2^95·W^k` loses no bits and its increment is a word -/
theorem two_word_some (c k : Nat) (h : c < 2 ^ 95 * W ^ k) :
    (if dig c (k + 1) * 2 ^ 32 % W + dig c k / 2 ^ 32 + 1 ≥ W then none
      else some (dig c (k + 1) * 2 ^ 32 % W + dig c k / 2 ^ 32 + 1)) = some (c / (2 ^ 32 * W ^ k) + 1) ∧
    c / (2 ^ 32 * W ^ k) < W := by
  have hA : 0 < W ^ k := Nat.pow_pos (by decide)
  have h1 : c / W ^ (k + 1) < 2 ^ 32 := by
    rw [Nat.div_lt_iff_lt_mul (Nat.pow_pos (by decide)), pow_succ]
    show c < 2 ^ 32 * (W ^ k * 18446744073709551616)
    omega
  have h2 : c / (2 ^ 32 * W ^ k) < 2 ^ 63 := by
    rw [Nat.div_lt_iff_lt_mul (Nat.mul_pos (by decide) hA)]; omega
  have hW : W = 18446744073709551616 := rfl
  rw [two_word_read c k h1, if_neg (by omega)]
  exact ⟨rfl, by omega⟩

/-- One precision branch of the estimate: every `c_i = crt_p[i]` is read as the word `c_i / M + 1`, the
products are summed in 128 bits and the high word of the sum is divided by `d = P / (W·M)`. For `w ≤ 26`
residues below `2^59` and `d ≥ 53` no check fires and the result is the CRT quotient (`q_estimate'`, whose
hypothesis `2q + 3 ≤ hi` is `53 ≤ d` at `q ≤ 25`). -/
theorem estimate_branch (m : Mzp) (hw : m.w ≤ 26) (xs : List Nat) (hxs : ∀ i, i < m.w → xs.getD i 0 < 2 ^ 59)
    (q V : Nat) (hS : V + q * m.pprod = ∑ i ∈ range m.w, xs.getD i 0 * m.crtP.getD i 0)
    (hV : 2 * V < m.pprod) (hq : q ≤ 25) (f : Nat → Option Nat) (M d : Nat) (hM : 0 < M)
    (hf : ∀ i, i < m.w → f (m.crtP.getD i 0) = some (m.crtP.getD i 0 / M + 1))
    (hg : ∀ i, i < m.w → m.crtP.getD i 0 / M < W) (hd : d = m.pprod / (W * M)) (h53 : 53 ≤ d) :
    ∃ top, sumTop m xs f = some top ∧ top / W % W / d = q := by
  have hWv : W = 18446744073709551616 := rfl
  have hWpos : 0 < W := by decide
  have hB : m.w * (2 ^ 59 * W) < 2 ^ 128 := by
    have := Nat.mul_le_mul_right (2 ^ 59 * W) hw
    rw [hWv] at this ⊢; omega
  refine ⟨_, sumTop_eq m xs f (fun i => m.crtP.getD i 0 / M + 1) W hf hg hxs hB, ?_⟩
  have hle := sum_range_le m.w (fun i => xs.getD i 0 * (m.crtP.getD i 0 / M + 1)) (2 ^ 59 * W)
    (fun i hi => Nat.mul_le_mul (le_of_lt (hxs i hi)) (hg i hi))
  have hsumxs : ∑ i ∈ range m.w, xs.getD i 0 ≤ W := by
    have := sum_range_le m.w (fun i => xs.getD i 0) (2 ^ 59) (fun i hi => le_of_lt (hxs i hi))
    have := Nat.mul_le_mul_right (2 ^ 59) hw
    rw [hWv]; omega
  rw [Nat.mod_eq_of_lt ((Nat.div_lt_iff_lt_mul hWpos).2 (by rw [hWv] at hle hB ⊢; omega))]
  have b1 := Nat.div_mul_le_self m.pprod (W * M)
  have b2 := Nat.lt_mul_div_succ m.pprod (Nat.mul_pos hWpos hM)
  rw [Nat.mul_comm] at b2
  have := q_estimate' (w := m.w) m.pprod q V M d W (fun i => xs.getD i.val 0) (fun i => m.crtP.getD i.val 0)
    hM hWpos (by omega)
    (by rw [Fin.sum_univ_eq_sum_range (fun i => xs.getD i 0 * m.crtP.getD i 0)]; exact hS) hV
    (by rw [hd, Nat.mul_assoc]; exact b1) (by rw [hd, Nat.mul_assoc]; exact b2)
    (by rw [Fin.sum_univ_eq_sum_range (fun i => xs.getD i 0)]; exact hsumxs) (by omega)
  rwa [Fin.sum_univ_eq_sum_range (fun i => xs.getD i 0 * (m.crtP.getD i 0 / M + 1))] at this

/-- **The quotient estimate of `_crt` as the model reads it is the CRT quotient.** For tables meeting
`EstOk` (`P` of exactly `plen ≥ 2` words, `crt_p[i] = P/p_i` with `p_i > 2^58`, `w ≤ 26`; three words when
the top word of `P` is below `2^8`), `xs_i < 2^59`, `Σ xs_i·crt_p[i] = V + q·P` with `2V < P` and `q ≤ 25`:
`qEstimate` reaches no panic site in any of its three branches (128-bit sums, the shifted two-word
reads lose no bits, non-zero divisor) and returns `q`. -/
theorem qEstimate_spec (m : Mzp) (ok : EstOk m) (xs : List Nat) (hxs : ∀ i, i < m.w → xs.getD i 0 < 2 ^ 59)
    (q V : Nat) (hS : V + q * m.pprod = ∑ i ∈ range m.w, xs.getD i 0 * m.crtP.getD i 0)
    (hV : 2 * V < m.pprod) (hq : q ≤ 25) : qEstimate m xs = some q := by
  obtain ⟨hw, hL2, hPlo, hPhi, hL3, hcrt⟩ := ok
  have hWv : W = 18446744073709551616 := rfl
  have hWpos : 0 < W := by decide
  -- every `P/p_i` is below `P/2^58`
  have hc58 : ∀ i, i < m.w → m.crtP.getD i 0 * 2 ^ 58 < m.pprod := by
    intro i hi
    obtain ⟨p, hp, hcp⟩ := hcrt i hi
    have hc0 : 0 < m.crtP.getD i 0 := by
      rcases Nat.eq_zero_or_pos (m.crtP.getD i 0) with h0 | h0
      · rw [h0, Nat.zero_mul] at hcp; omega
      · exact h0
    rw [← hcp]
    exact Nat.mul_lt_mul_of_pos_left hp hc0
  obtain ⟨k, hk⟩ : ∃ k, m.plen = k + 2 := ⟨m.plen - 2, by omega⟩
  unfold qEstimate
  simp only [hk, show k + 2 - 1 = k + 1 from rfl, show k + 2 - 2 = k from rfl,
    show k + 2 - 3 = k - 1 from rfl] at hPlo hPhi hL3 ⊢
  -- `y = P / W^k` holds the two top words of `P`: `W ≤ y < W²`
  have hA : 0 < W ^ k := Nat.pow_pos hWpos
  have hy1 : W ≤ m.pprod / W ^ k := (Nat.le_div_iff_mul_le hA).2 (by rw [← pow_succ']; exact hPlo)
  have hy2 : m.pprod / W ^ k < W * W :=
    (Nat.div_lt_iff_lt_mul hA).2 (by rw [Nat.mul_assoc, ← pow_succ', ← pow_succ']; exact hPhi)
  have hdigL : dig m.pprod (k + 2) = 0 := by unfold dig; rw [Nat.div_eq_of_lt hPhi, Nat.zero_mod]
  have hhi : dig m.pprod (k + 1) = m.pprod / W ^ k / W := by
    unfold dig
    rw [pow_succ, ← Nat.div_div_eq_div_mul]
    exact Nat.mod_eq_of_lt ((Nat.div_lt_iff_lt_mul hWpos).2 hy2)
  have hptop : m.pprod / W ^ k / W * W + dig m.pprod k = m.pprod / W ^ k := by
    unfold dig
    have := Nat.div_add_mod (m.pprod / W ^ k) W
    rwa [Nat.mul_comm] at this
  rw [if_neg (by rw [hdigL]; omega), hhi, hptop]
  have hPhi' : m.pprod < W ^ k * 18446744073709551616 * 18446744073709551616 := by
    rw [pow_succ, pow_succ] at hPhi; exact hPhi
  generalize hy : m.pprod / W ^ k = y at hy1 hy2 ⊢
  rw [hWv] at hy1 hy2
  by_cases h56 : y / W ≥ 2 ^ 56
  · -- 0. P/p_i has bits in word [plen-1]
    rw [if_pos h56]
    rw [hWv] at h56
    have hc : ∀ i, i < m.w → m.crtP.getD i 0 < 2 ^ 95 * W ^ k := by
      intro i hi; have := hc58 i hi; omega
    obtain ⟨top, e, hq'⟩ := estimate_branch m hw xs hxs q V hS hV hq
      (fun crt => if dig crt (k + 1) * 2 ^ 32 % W + dig crt k / 2 ^ 32 + 1 ≥ W then none
        else some (dig crt (k + 1) * 2 ^ 32 % W + dig crt k / 2 ^ 32 + 1))
      (2 ^ 32 * W ^ k) (y / 2 ^ 96) (Nat.mul_pos (by decide) hA)
      (fun i hi => (two_word_some _ k (hc i hi)).1) (fun i hi => (two_word_some _ k (hc i hi)).2)
      (by rw [← hy, Nat.div_div_eq_div_mul,
        show W ^ k * 2 ^ 96 = W * (2 ^ 32 * W ^ k) by rw [hWv]; ring]) (by omega)
    rw [e]
    simp only
    rw [Nat.mod_eq_of_lt (show y / 2 ^ 96 < W by rw [hWv]; omega), if_neg (by omega), hq']
  · rw [if_neg h56]
    rw [hWv] at h56
    by_cases h8 : y / W ≥ 2 ^ 8
    · -- 1. top word only
      rw [if_pos h8]
      rw [hWv] at h8
      have hP : m.pprod < 2 ^ 120 * W ^ k := (Nat.div_lt_iff_lt_mul hA).1 (by rw [hy]; omega)
      have hg : ∀ i, i < m.w → m.crtP.getD i 0 / W ^ k < W := by
        intro i hi
        have := hc58 i hi
        rw [Nat.div_lt_iff_lt_mul hA]
        show _ < 18446744073709551616 * W ^ k
        omega
      obtain ⟨top, e, hq'⟩ := estimate_branch m hw xs hxs q V hS hV hq (fun crt => some (dig crt k + 1))
        (W ^ k) (y / W) hA (fun i hi => by rw [dig, Nat.mod_eq_of_lt (hg i hi)]) hg
        (by rw [← hy, Nat.div_div_eq_div_mul, Nat.mul_comm]) (by rw [hWv]; omega)
      rw [e]
      simp only
      rw [if_neg (by rw [hWv]; omega), hq']
    · -- 2. shift left by 32 bits
      rw [if_neg h8]
      rw [hWv] at h8
      have hP8 : m.pprod < 2 ^ 8 * W ^ (k + 1) := by
        rw [pow_succ' W k]
        have := (Nat.div_lt_iff_lt_mul hA).1 (show m.pprod / W ^ k < 2 ^ 8 * 18446744073709551616 by rw [hy]; omega)
        rw [Nat.mul_assoc] at this
        exact this
      obtain ⟨k', rfl⟩ : ∃ k', k = k' + 1 := ⟨k - 1, by have := hL3 hP8; omega⟩
      rw [if_neg (by omega)]
      simp only [Nat.add_sub_cancel]
      have hA' : 0 < W ^ k' := Nat.pow_pos hWpos
      have hc : ∀ i, i < m.w → m.crtP.getD i 0 < 2 ^ 95 * W ^ k' := by
        intro i hi
        have := hc58 i hi
        rw [pow_succ, pow_succ] at hP8
        have hP8' : m.pprod < 2 ^ 8 * (W ^ k' * 18446744073709551616 * 18446744073709551616) := hP8
        omega
      obtain ⟨top, e, hq'⟩ := estimate_branch m hw xs hxs q V hS hV hq
        (fun crt => if dig crt (k' + 1) * 2 ^ 32 % W + dig crt k' / 2 ^ 32 + 1 ≥ W then none
          else some (dig crt (k' + 1) * 2 ^ 32 % W + dig crt k' / 2 ^ 32 + 1))
        (2 ^ 32 * W ^ k') (y / 2 ^ 32) (Nat.mul_pos (by decide) hA')
        (fun i hi => (two_word_some _ k' (hc i hi)).1) (fun i hi => (two_word_some _ k' (hc i hi)).2)
        (by rw [← hy, Nat.div_div_eq_div_mul,
          show W ^ (k' + 1) * 2 ^ 32 = W * (2 ^ 32 * W ^ k') by ring]) (by omega)
      rw [e]
      simp only
      rw [Nat.mod_eq_of_lt (show y / 2 ^ 32 < W by rw [hWv]; omega), if_neg (by omega), hq']


/-- the part of `EstOk` that depends on the number of primes only, as a decidable check on the
translated prime table -/
def tablesOk (w : Nat) : Bool :=
  let primes := Ymq.Gen.Params.NTT_PRIME_VALUES.take w
  let pprod := primes.foldl (· * ·) 1
  let plen := (Ymq.Checked.bitlen pprod + 63) / 64
  decide (2 ≤ plen) && decide (W ^ (plen - 1) ≤ pprod) && decide (pprod < W ^ plen) &&
    (decide (2 ^ 8 * W ^ (plen - 1) ≤ pprod) || decide (3 ≤ plen)) &&
    (List.range w).all fun i => decide (2 ^ 58 < primes.getD i 1) &&
      decide (prodExcept primes i * primes.getD i 1 = pprod)

theorem tables_ok : ∀ w ∈ List.range 27, 2 ≤ w → tablesOk w = true := by decide +kernel


/-- **the tables of `MultiZmodP::new` meet the requirements of the quotient estimate** (for `w ≥ 2`
primes; `w = 1` does not use the estimate) -/
theorem new_estOk (n logsize : Nat) (m : Mzp) (h : new n logsize = some m) (hw2 : 2 ≤ m.w) : EstOk m := by
  have k := isNew h
  have hok := tables_ok m.w (List.mem_range.2 (by have := k.w_le; omega)) hw2
  unfold tablesOk at hok
  simp only [Bool.and_eq_true, Bool.or_eq_true, decide_eq_true_eq, List.all_eq_true, List.mem_range,
    ← k.hpprod, ← k.hplen] at hok
  obtain ⟨⟨⟨⟨k1, k2⟩, k3⟩, k4⟩, k5⟩ := hok
  refine ⟨k.w_le, k1, k2, k3, fun hlt => k4.resolve_left (by omega), fun i hi => ?_⟩
  obtain ⟨k6, k7⟩ := k5 i hi
  refine ⟨_, k6, ?_⟩
  rw [k.hcrtP, List.getD_eq_getElem?_getD, List.getElem?_map, List.getElem?_range hi]
  exact k7

end Ymq.Crt
