/-
The oracle contract `OracleOK` under which the exact product / totality theorems of the
`Factor` model are proved, and the notion `IsSplit o n L` ("the list of recursive-call arguments
`L` was produced for `n` by one of the splitting sub-algorithms").
-/
import Ymq.Lemmas.FactorStep
import Mathlib.Algebra.BigOperators.Group.List.Lemmas

namespace Ymq.Factor

variable {σ : Type}

/-- contract of a split `(a_s, b)` returned for `n`: the parts multiply to `n` and every part is
a proper part. (Hence every part is `≥ 1` and divides `n`; `b = 1` is allowed: `pm1_impl` returns
`nred = 1` when the listed factors already multiply to `n`: `nred` is what `gcd_factors` leaves. A part equal to 1
is harmless: `factor_impl` returns at once on 1.) -/
def SplitOK (n : Nat) (as : List Nat) (b : Nat) : Prop :=
  as.prod * b = n ∧ (∀ a ∈ as, a < n) ∧ b < n

def PairOK (n a b : Nat) : Prop := a * b = n ∧ 2 ≤ a ∧ 2 ≤ b

/-- What the control flow of `factor_impl` needs from the sub-algorithms, for every oracle state
and every argument `n ≥ 2`. This is the *weakest* contract used by the proofs; the real
functions are meant to satisfy it:
* `pp` = `arith::perfect_power`: returns `(p, k)` only with `p^k = n`, `k ≥ 2`;
* `rho` = `pollard_rho::rho`: returns `([p], n / p)` with `p = gcd(n, ·)`, `1 < p < n`
  (pollard_rho.rs:86-111, 142-147);
* `pm1q`/`pm1` = `pollard_pm1::pm1_quick/pm1_only` → `pm1_impl`: the listed factors are quotients
  of nested gcds with `n` (`gcd_factors`), the list is non-empty, never contains `n` itself
  (`fs.contains(n)` check of `check_gcd_factors`, pollard_pm1.rs) and `nred = n / ∏ factors`;
* `ecmauto/ecm/ecm128/qs64/squfof`: `(a, b)` with `a * b = n`, both proper;
* `sieve` = `qsieve/mpqs/siqs`: every reported divisor divides `n` (gcds with `n`,
  relations.rs `try_factor`), `UnexpectedFactor(d)` is a factor-base prime dividing the composite `n`.
Where the real guarantee is established: Ymq/Lemmas/FactorClosed.lean discharges every clause except
`sieveUnexpected` from the models of the sub-algorithms (`perfect_power`: C08; sieve divisors and `qs64`: C11;
`rho`, P-1, ECM: C16; `squfof`: its two exits); `sieveUnexpected` rests on two assumptions about the unmodelled
`FBase::check_divisors` (`UsesUnexpectedFactor`, `ResidualOK`).
There is NO condition on `prime` and on `abort`: they are arbitrary stateful functions. -/
structure OracleOK (o : Oracle σ) : Prop where
  pp : ∀ s n p k, 2 ≤ n → (o.pp s n).1 = some (p, k) → p ^ k = n ∧ 2 ≤ k ∧ 2 ≤ p
  rho : ∀ s n as b, 2 ≤ n → (o.rho s n).1 = some (as, b) → SplitOK n as b
  pm1q : ∀ s n as b, 2 ≤ n → (o.pm1q s n).1 = some (as, b) → SplitOK n as b
  pm1 : ∀ s n as b, 2 ≤ n → (o.pm1 s n).1 = some (as, b) → SplitOK n as b
  ecmauto : ∀ s n a b, 2 ≤ n → (o.ecmauto s n).1 = some (a, b) → PairOK n a b
  ecm : ∀ s n a b, 2 ≤ n → (o.ecm s n).1 = some (a, b) → PairOK n a b
  ecm128 : ∀ s n a b, 2 ≤ n → (o.ecm128 s n).1 = some (a, b) → PairOK n a b
  qs64 : ∀ s n a b, 2 ≤ n → (o.qs64 s n).1 = some (a, b) → PairOK n a b
  squfof : ∀ s n a b, 2 ≤ n → (o.squfof s n).1 = some (a, b) → PairOK n a b
  sieveDivs : ∀ s alg n ds, 2 ≤ n → (o.sieve s alg n).1 = .divs ds → ∀ d ∈ ds, d ∣ n ∧ 0 < d
  sieveUnexpected : ∀ s alg n d, 2 ≤ n → (o.sieve s alg n).1 = .unexpected d →
    d ∣ n ∧ 2 ≤ d ∧ d < n

/-- `L` is the list of arguments of the recursive calls made for `n` after one of the splitting
sub-algorithms succeeded (in call order). -/
inductive IsSplit (o : Oracle σ) (n : Nat) : List Nat → Prop
  | rho (t : σ) (as : List Nat) (b : Nat) : (o.rho t n).1 = some (as, b) → IsSplit o n (as ++ [b])
  | pm1q (t : σ) (as : List Nat) (b : Nat) : (o.pm1q t n).1 = some (as, b) → IsSplit o n (as ++ [b])
  | pm1 (t : σ) (as : List Nat) (b : Nat) : (o.pm1 t n).1 = some (as, b) → IsSplit o n (as ++ [b])
  | ecmauto (t : σ) (a b : Nat) : (o.ecmauto t n).1 = some (a, b) → IsSplit o n [a, b]
  | ecm (t : σ) (a b : Nat) : (o.ecm t n).1 = some (a, b) → IsSplit o n [a, b]
  | ecm128 (t : σ) (a b : Nat) : (o.ecm128 t n).1 = some (a, b) → IsSplit o n [a, b]
  | qs64 (t : σ) (a b : Nat) : (o.qs64 t n).1 = some (a, b) → IsSplit o n [a, b]
  | squfof (t : σ) (a b : Nat) : (o.squfof t n).1 = some (a, b) → IsSplit o n [a, b]
  | unexpected (t : σ) (alg : Algo) (d : Nat) : (o.sieve t alg n).1 = .unexpected d → d ≠ 0 →
      IsSplit o n [d, n / d]

theorem SplitOK.list {n : Nat} {as : List Nat} {b : Nat} (h : SplitOK n as b) :
    (as ++ [b]).prod = n ∧ ∀ m ∈ as ++ [b], m < n := by
  obtain ⟨h1, h2, h3⟩ := h
  refine ⟨by simpa using h1, ?_⟩
  intro m hm
  rcases List.mem_append.mp hm with hm | hm
  · exact h2 m hm
  · simp at hm; omega

theorem PairOK.list {n a b : Nat} (h : PairOK n a b) :
    [a, b].prod = n ∧ ∀ m ∈ [a, b], m < n := by
  obtain ⟨h1, h2, h3⟩ := h
  refine ⟨by simpa using h1, ?_⟩
  intro m hm
  simp at hm
  rcases hm with rfl | rfl
  · subst h1; exact (Nat.lt_mul_iff_one_lt_right (by omega)).mpr (by omega)
  · subst h1; exact (Nat.lt_mul_iff_one_lt_left (by omega)).mpr (by omega)

theorem pairOK_of_proper {n a : Nat} (h1 : 1 < a) (h2 : a < n) (h3 : a ∣ n) : PairOK n a (n / a) := by
  have hmul : a * (n / a) = n := Nat.mul_div_cancel' h3
  refine ⟨hmul, h1, ?_⟩
  rcases Nat.lt_or_ge (n / a) 2 with h4 | h4
  · have : n / a ≤ 1 := by omega
    have : a * (n / a) ≤ a * 1 := Nat.mul_le_mul_left a this
    omega
  · exact h4

theorem IsSplit.ok {o : Oracle σ} (hok : OracleOK o) {n : Nat} (hn : 2 ≤ n) {L : List Nat}
    (h : IsSplit o n L) : L.prod = n ∧ ∀ m ∈ L, m < n := by
  cases h with
  | rho t as b h => exact (hok.rho t n as b hn h).list
  | pm1q t as b h => exact (hok.pm1q t n as b hn h).list
  | pm1 t as b h => exact (hok.pm1 t n as b hn h).list
  | ecmauto t a b h => exact (hok.ecmauto t n a b hn h).list
  | ecm t a b h => exact (hok.ecm t n a b hn h).list
  | ecm128 t a b h => exact (hok.ecm128 t n a b hn h).list
  | qs64 t a b h => exact (hok.qs64 t n a b hn h).list
  | squfof t a b h => exact (hok.squfof t n a b hn h).list
  | unexpected t alg d h hd =>
    obtain ⟨h1, h2, h3⟩ := hok.sieveUnexpected t alg n d hn h
    exact (pairOK_of_proper h2 h3 h1).list

theorem IsSplit.parts {o : Oracle σ} (hok : OracleOK o) {n : Nat} (hn : 2 ≤ n) {L : List Nat}
    (h : IsSplit o n L) : ∀ m ∈ L, 1 ≤ m ∧ m ∣ n ∧ m < n := by
  obtain ⟨hp, hlt⟩ := h.ok hok hn
  intro m hm
  have hd : m ∣ n := hp ▸ List.dvd_prod hm
  refine ⟨?_, hd, hlt m hm⟩
  rcases Nat.eq_zero_or_pos m with h0 | h0
  · subst h0; have := Nat.eq_zero_of_zero_dvd hd; omega
  · exact h0

end Ymq.Factor
