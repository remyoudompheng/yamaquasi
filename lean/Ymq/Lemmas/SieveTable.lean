/-
C13 helper lemmas: the bucket tables `SieveTable` / `SieveTableLarge` (add, reset, lookup).
-/
import Ymq.Lemmas.SieveArith
import Ymq.Lemmas.Loops

namespace Ymq.Sieve
open Ymq.Loops

theorem mapM_range'_mem {α} (g : Nat → Option α) (n s : Nat) (l : List α)
    (h : (List.range' s n).mapM g = some l) (e : α) : e ∈ l ↔ ∃ j, j < n ∧ g (s + j) = some e := by
  have hm : some e ∈ l.map some ↔ e ∈ l := by simp
  rw [← hm, ← (mapM_eq_some_iff g).1 h, List.mem_map]
  constructor
  · rintro ⟨i, hi, hg⟩
    obtain ⟨hs, hn⟩ := List.mem_range'_1.1 hi
    exact ⟨i - s, by omega, by rw [← hg]; congr 1; omega⟩
  · rintro ⟨j, hj, hg⟩
    exact ⟨s + j, List.mem_range'_1.2 ⟨by omega, by omega⟩, hg⟩

theorem getElem?_replicate_eq {α} {k i : Nat} {x t : α} (h : (Array.replicate k x)[i]? = some t) : t = x := by
  rw [Array.getElem?_replicate] at h
  split at h
  · exact (Option.some.inj h).symm
  · simp at h

theorem getElem?_map_some {α β} {f : α → β} {a : Array α} {i : Nat} {y : β} (h : (a.map f)[i]? = some y) :
    ∃ x, a[i]? = some x ∧ y = f x := by
  rw [Array.getElem?_map] at h
  obtain ⟨x, hx, rfl⟩ := Option.map_eq_some_iff.1 h
  exact ⟨x, hx, rfl⟩

/-- bucket lengths never exceed the capacity; 32 overflow slots. -/
def Table.WF (t : Table) : Prop := (∀ (b v : Nat), t.blens[b]? = some v → v ≤ 32) ∧ t.overflows.size = 32

/-- `(off % 256, p8)` is a visible entry of the bucket of `off`. -/
def Table.InBucket (t : Table) (off p8 : Nat) : Prop :=
  ∃ blen j, t.blens[off / 256]? = some blen ∧ j < blen ∧ t.entries[off / 256 * 32 + j]? = some (off % 256, p8)

/-- `(off % BLOCK, p8)` is one of the overflow slots `smooths` looks at. -/
def Table.InOv (t : Table) (off p8 : Nat) : Prop :=
  ∃ j, j < t.nOverflows ∧ j < 32 ∧ t.overflows[j]? = some (off % BLOCK, p8)

/-- the pair is visible to the lookup of `smooths`. -/
def Table.Has (t : Table) (off p8 : Nat) : Prop := t.InBucket off p8 ∨ t.InOv off p8

theorem Table.new_WF (n : Nat) : (Table.new n).WF :=
  ⟨fun b v h => by rw [getElem?_replicate_eq h]; omega, by simp [Table.new]⟩

theorem Table.reset_WF (t : Table) (h : t.overflows.size = 32) : t.reset.WF :=
  ⟨fun b v hb => by rw [getElem?_replicate_eq hb]; omega, by simpa [Table.reset] using h⟩

theorem Table.reset_not_has (t : Table) (off p8 : Nat) : ¬ t.reset.Has off p8 := by
  rintro (⟨blen, j, hb, hj, _⟩ | ⟨j, hj, _, _⟩)
  · rw [getElem?_replicate_eq hb] at hj; omega
  · simp [Table.reset] at hj

theorem Table.new_not_has (n off p8 : Nat) : ¬ (Table.new n).Has off p8 := by
  rintro (⟨blen, j, hb, hj, _⟩ | ⟨j, hj, _, _⟩)
  · rw [getElem?_replicate_eq hb] at hj; omega
  · simp [Table.new] at hj

theorem Table.reset_nOverflows (t : Table) : t.reset.nOverflows = 0 := rfl
theorem Table.reset_entries_size (t : Table) : t.reset.entries.size = t.entries.size := rfl
theorem Table.reset_blens_size (t : Table) : t.reset.blens.size = t.blens.size := by simp [Table.reset]

/-- slots of different buckets are different. -/
theorem slot_ne {C b b0 j len : Nat} (hq : b ≠ b0) (hj : j < C) (hl : len < C) : b0 * C + len ≠ b * C + j := by
  rcases Nat.lt_or_gt_of_ne hq with h | h
  · have := Nat.mul_le_mul_right C (Nat.succ_le_of_lt h)
    rw [Nat.succ_mul] at this; omega
  · have := Nat.mul_le_mul_right C (Nat.succ_le_of_lt h)
    rw [Nat.succ_mul] at this; omega

/-- `e` is a visible entry of bucket `b` of a bucket store with `C` slots per bucket. -/
def InB {α} (lens : Array Nat) (store : Array α) (C b : Nat) (e : α) : Prop :=
  ∃ len j, lens[b]? = some len ∧ j < len ∧ store[b * C + j]? = some e

/-- writing `e0` into the next free slot of bucket `b0`: lengths stay within the capacity, everything visible stays
visible, `e0` becomes visible, and nothing else does. -/
theorem inB_push {α} {lens : Array Nat} {store : Array α} {C b0 len : Nat} (e0 : α)
    (hle : ∀ (b v : Nat), lens[b]? = some v → v ≤ C) (hlen : lens[b0]? = some len) (hroom : len < C)
    (hidx : b0 * C + len < store.size) :
    (∀ (b v : Nat), (lens.setIfInBounds b0 (len + 1))[b]? = some v → v ≤ C) ∧
    (∀ b e, InB lens store C b e →
      InB (lens.setIfInBounds b0 (len + 1)) (store.setIfInBounds (b0 * C + len) e0) C b e) ∧
    InB (lens.setIfInBounds b0 (len + 1)) (store.setIfInBounds (b0 * C + len) e0) C b0 e0 ∧
    (∀ b e, InB (lens.setIfInBounds b0 (len + 1)) (store.setIfInBounds (b0 * C + len) e0) C b e →
      InB lens store C b e ∨ (b = b0 ∧ e = e0)) := by
  have hb_lt : b0 < lens.size := (Array.getElem?_eq_some_iff.1 hlen).1
  have hnew : (lens.setIfInBounds b0 (len + 1))[b0]? = some (len + 1) := by
    simp [hb_lt]
  refine ⟨fun b v hv => ?_, ?_, ⟨len + 1, len, hnew, by omega, by simp [hidx]⟩, ?_⟩
  · by_cases hbq : b0 = b
    · subst hbq
      rw [hnew] at hv
      cases hv
      omega
    · rw [Array.getElem?_setIfInBounds_ne hbq] at hv
      exact hle b v hv
  · rintro b e ⟨bl, j, h1, h2, h3⟩
    by_cases hq : b = b0
    · subst hq
      rw [hlen] at h1
      cases h1
      exact ⟨len + 1, j, hnew, by omega, by rw [Array.getElem?_setIfInBounds_ne (by omega)]; exact h3⟩
    · refine ⟨bl, j, ?_, h2, ?_⟩
      · rw [Array.getElem?_setIfInBounds_ne (fun e => hq e.symm)]; exact h1
      · rw [Array.getElem?_setIfInBounds_ne (slot_ne hq (lt_of_lt_of_le h2 (hle _ _ h1)) hroom)]; exact h3
  · rintro b e ⟨bl, j, h1, h2, h3⟩
    by_cases hq : b = b0
    · subst hq
      rw [hnew] at h1
      cases h1
      by_cases hj : j = len
      · subst hj
        simp only [Array.getElem?_setIfInBounds, if_true, hidx, Option.some.injEq] at h3
        exact Or.inr ⟨rfl, h3.symm⟩
      · rw [Array.getElem?_setIfInBounds_ne (by omega)] at h3
        exact Or.inl ⟨len, j, hlen, by omega, h3⟩
    · rw [Array.getElem?_setIfInBounds_ne (fun e => hq e.symm)] at h1
      rw [Array.getElem?_setIfInBounds_ne (slot_ne hq (lt_of_lt_of_le h2 (hle _ _ h1)) hroom)] at h3
      exact Or.inl ⟨bl, j, h1, h2, h3⟩

/-- one `add`: the table stays well formed; what was visible stays visible; what is visible afterwards was visible or is
the new pair; the new pair is visible, or else the count of lost entries `n_overflows - 32` (truncated: the 32 overflow
slots are still searched) went up by one; `n_overflows` never decreases; the arrays keep their sizes; the offset was
inside the table. -/
theorem Table.add_spec {t t' : Table} {off pidx : Nat} (hwf : t.WF) (h : t.add off pidx = some t') :
    t'.WF ∧ (∀ o p8, t.Has o p8 → t'.Has o p8) ∧
    (∀ o p8, t'.Has o p8 → t.Has o p8 ∨ (o % BLOCK = off % BLOCK ∧ p8 = pidx % 256)) ∧
    ((t'.Has off (pidx % 256) ∧ t'.nOverflows - 32 = t.nOverflows - 32) ∨
      t'.nOverflows - 32 = t.nOverflows - 32 + 1) ∧
    t.nOverflows ≤ t'.nOverflows ∧ t'.entries.size = t.entries.size ∧ t'.blens.size = t.blens.size ∧
    off < t.entries.size * BLOCK / N_ENTRIES := by
  obtain ⟨entries, blens, ovs, nOv⟩ := t
  obtain ⟨hle, hsz⟩ := hwf
  simp only at hle hsz
  unfold Table.add at h
  simp only [BUCKET_WIDTH, BUCKET_SIZE] at h
  split at h
  · simp at h
  rename_i hdbg
  simp only [not_not] at hdbg
  split at h
  · simp at h
  rename_i blen hbl
  have hb_lt : off / 256 < blens.size := by
    have := Array.getElem?_eq_some_iff.1 hbl
    exact this.1
  by_cases hroom : blen < 32
  · simp only [hroom, if_true] at h
    by_cases hidx : off / 256 * 32 + blen < entries.size
    · simp only [hidx, if_true, Option.some.injEq] at h
      subst h
      rw [Nat.mod_mod]
      obtain ⟨w, m, n, c⟩ := inB_push (off % 256, pidx % 256) hle hbl hroom hidx
      refine ⟨⟨w, hsz⟩, ?_, ?_, Or.inl ⟨Or.inl n, rfl⟩, le_refl _, by simp, by simp, hdbg⟩
      · rintro o p8 (hb | hov)
        · exact Or.inl (m _ _ hb)
        · exact Or.inr hov
      · rintro o p8 (hb | hov)
        · rcases c _ _ hb with hb' | ⟨hq, he⟩
          · exact Or.inl (Or.inl hb')
          · simp only [Prod.mk.injEq] at he
            have e1 := Nat.div_add_mod o 256
            have e2 := Nat.div_add_mod off 256
            have : o = off := by omega
            exact Or.inr ⟨by rw [this], he.2⟩
        · exact Or.inl (Or.inr hov)
    · simp [hidx] at h
  · simp only [hroom, if_false, Option.some.injEq] at h
    subst h
    have hBm : off % BLOCK % 65536 = off % BLOCK := by
      have : off % BLOCK < BLOCK := Nat.mod_lt _ (by decide)
      simp only [BLOCK] at *; omega
    refine ⟨⟨hle, ?_⟩, ?_, ?_, ?_, by simp, rfl, rfl, hdbg⟩
    · simp only; split <;> simp [hsz]
    · rintro o p8 (hb | ⟨j, h1, h2, h3⟩)
      · left; exact hb
      · right
        simp only at h1 h3
        refine ⟨j, Nat.lt_succ_of_lt h1, h2, ?_⟩
        simp only
        split
        · rw [Array.getElem?_setIfInBounds_ne (by omega)]; exact h3
        · exact h3
    · rintro o p8 (hb | ⟨j, h1, h2, h3⟩)
      · left; left; exact hb
      · simp only at h1 h3
        by_cases hj : j < nOv
        · left; right
          refine ⟨j, hj, h2, ?_⟩
          split at h3
          · rw [Array.getElem?_setIfInBounds_ne (by omega)] at h3; exact h3
          · exact h3
        · have hjn : j = nOv := by omega
          subst hjn
          have hlt : j < ovs.size := by omega
          simp only [hlt, if_true, Array.getElem?_setIfInBounds, Option.some.injEq, Prod.mk.injEq, hBm] at h3
          right; exact ⟨h3.1.symm, h3.2.symm⟩
    · simp only
      by_cases hlt : nOv < 32
      · left
        refine ⟨Or.inr ⟨nOv, Nat.lt_succ_self _, hlt, ?_⟩, by omega⟩
        have hlt' : nOv < ovs.size := by omega
        simp only [hlt', if_true, Array.getElem?_setIfInBounds, hBm]
      · right; omega

theorem Table.mem_ovList {t : Table} {e : Nat × Nat} (hsz : t.overflows.size = 32) :
    e ∈ t.ovList ↔ ∃ j, j < t.nOverflows ∧ j < 32 ∧ t.overflows[j]? = some e := by
  unfold Table.ovList
  rw [List.mem_take_iff_getElem]
  constructor
  · rintro ⟨i, hi, he⟩
    simp only [Array.length_toList, hsz] at hi
    refine ⟨i, by omega, by omega, ?_⟩
    rw [← he]
    simp only [Array.getElem_toList]
    exact Array.getElem?_eq_getElem _
  · rintro ⟨j, h1, h2, h3⟩
    have hj : j < t.overflows.size := by omega
    refine ⟨j, by simp only [Array.length_toList, hsz]; omega, ?_⟩
    simp only [Array.getElem_toList]
    rw [Array.getElem?_eq_getElem hj] at h3
    exact Option.some.inj h3

theorem Table.bucket_eq {t : Table} {b blen : Nat} (h : t.blens[b]? = some blen) :
    t.bucket b = (List.range' (b * 32) blen).mapM fun e => t.entries[e]? := by
  unfold Table.bucket
  rw [h]
  rfl

theorem Table.lookup_of_has {t : Table} {blkNo r p8 : Nat} {l : List Nat} (hwf : t.WF) (hr : r < BLOCK)
    (h : t.lookup (blkNo * BLOCK) r = some l) (hh : t.Has (blkNo * BLOCK + r) p8) : p8 ∈ l := by
  unfold Table.lookup at h
  simp only [BUCKET_WIDTH, Option.bind_eq_bind, Option.bind_eq_some_iff, Option.some.injEq] at h
  obtain ⟨bk, hbk, rfl⟩ := h
  rw [List.mem_append]
  rcases hh with ⟨blen, j, h1, h2, h3⟩ | ⟨j, h1, h2, h3⟩
  · left
    rw [Table.bucket_eq h1] at hbk
    have := (mapM_range'_mem _ _ _ _ hbk ((blkNo * BLOCK + r) % 256, p8)).2 ⟨j, h2, h3⟩
    rw [List.mem_map]
    exact ⟨_, List.mem_filter.2 ⟨this, by simp⟩, rfl⟩
  · right
    have hm : (blkNo * BLOCK + r) % BLOCK = r := by
      rw [Nat.mul_add_mod_self_right]; exact Nat.mod_eq_of_lt hr
    rw [hm] at h3
    have := (Table.mem_ovList hwf.2).2 ⟨j, h1, h2, h3⟩
    rw [List.mem_map]
    exact ⟨_, List.mem_filter.2 ⟨this, by simp⟩, rfl⟩

theorem mem_candidates {idx1 idx2 pidx : Nat} (h1 : idx1 ≤ pidx) (h2 : pidx < idx2) :
    pidx ∈ candidates idx1 idx2 (pidx % 256) := by
  unfold candidates
  rw [List.mem_filter]
  refine ⟨?_, by simp [h1, h2]⟩
  rw [List.mem_map]
  refine ⟨pidx / 256, ?_, ?_⟩
  · rw [List.mem_range'_1]
    omega
  · have := Nat.div_add_mod pidx 256
    omega

def LTable.WF (t : LTable) : Prop := ∀ (b v : Nat), t.lengths[b]? = some v → v ≤ 1024

def LTable.Has (t : LTable) (off p16 : Nat) : Prop :=
  (∃ len j, t.lengths[off / 16384]? = some len ∧ j < len ∧
    t.hits[off / 16384 * 1024 + j]? = some (off % BLOCK, p16)) ∨
  (off % BLOCK, p16) ∈ t.overflows.toList

theorem LTable.new_WF (n : Nat) : (LTable.new n).WF :=
  fun b v h => by rw [getElem?_replicate_eq h]; omega

theorem LTable.reset_WF (t : LTable) : t.reset.WF :=
  fun b v h => by rw [getElem?_replicate_eq h]; omega

theorem LTable.reset_not_has (t : LTable) (off p16 : Nat) : ¬ t.reset.Has off p16 := by
  rintro (⟨len, j, hb, hj, _⟩ | h)
  · rw [getElem?_replicate_eq hb] at hj; omega
  · simp [LTable.reset] at h

theorem LTable.new_not_has (n off p16 : Nat) : ¬ (LTable.new n).Has off p16 := by
  rintro (⟨len, j, hb, hj, _⟩ | h)
  · rw [getElem?_replicate_eq hb] at hj; omega
  · simp [LTable.new] at h

/-- large tables never lose an entry. -/
theorem LTable.add_spec {t t' : LTable} {off pidx : Nat} (hwf : t.WF) (h : t.add off pidx = some t') :
    t'.WF ∧ (∀ o p, t.Has o p → t'.Has o p) ∧ t'.Has off (pidx % 65536) ∧
    (∀ o p, t'.Has o p → t.Has o p ∨ (o % BLOCK = off % BLOCK ∧ p = pidx % 65536)) := by
  obtain ⟨hits, lengths, ovs⟩ := t
  unfold LTable.WF at hwf
  simp only at hwf
  unfold LTable.add at h
  simp only [LBW, LBS] at h
  split at h
  · simp at h
  split at h
  · simp at h
  rename_i len hlen
  have hb_lt : off / 16384 < lengths.size := (Array.getElem?_eq_some_iff.1 hlen).1
  have hBm : off % BLOCK % 65536 = off % BLOCK := by
    have : off % BLOCK < BLOCK := Nat.mod_lt _ (by decide)
    simp only [BLOCK] at *; omega
  by_cases hroom : len < 1024
  · simp only [hroom, if_true] at h
    by_cases hidx : off / 16384 * 1024 + len < hits.size
    · simp only [hidx, if_true, Option.some.injEq] at h
      subst h
      rw [hBm]
      obtain ⟨w, m, n, c⟩ := inB_push (off % BLOCK, pidx % 65536) hwf hlen hroom hidx
      refine ⟨w, ?_, Or.inl n, ?_⟩
      · rintro o p (hb | h1)
        · exact Or.inl (m _ _ hb)
        · exact Or.inr h1
      · rintro o p (hb | h1)
        · rcases c _ _ hb with hb' | ⟨_, he⟩
          · exact Or.inl (Or.inl hb')
          · simp only [Prod.mk.injEq] at he
            exact Or.inr he
        · exact Or.inl (Or.inr h1)
    · simp [hidx] at h
  · simp only [hroom, if_false, Option.some.injEq] at h
    subst h
    refine ⟨hwf, ?_, Or.inr ?_, ?_⟩
    · rintro o p (hb | h1)
      · left; exact hb
      · right; simp only [Array.toList_push, List.mem_append]; exact Or.inl h1
    · simp only [Array.toList_push, List.mem_append, List.mem_singleton, hBm]; exact Or.inr trivial
    · rintro o p (hb | h1)
      · left; left; exact hb
      · simp only [Array.toList_push, List.mem_append, List.mem_singleton, Prod.mk.injEq, hBm] at h1
        rcases h1 with h1 | ⟨h1, h2⟩
        · left; right; exact h1
        · right; exact ⟨h1, h2⟩

/-- What the recovery proofs use of a bucket table type (`SieveTable`, `SieveTableLarge`): an `add` that keeps
what is visible, makes the new pair visible under the stored truncation `key` of the prime index or counts it as
dropped, and shows nothing that was not added. -/
structure Store (τ : Type) where
  add : τ → Nat → Nat → Option τ
  WF : τ → Prop
  Has : τ → Nat → Nat → Prop
  key : Nat → Nat
  dropped : τ → Nat
  add_spec : ∀ {t t' : τ} {off pidx : Nat}, WF t → add t off pidx = some t' →
    WF t' ∧ (∀ o p, Has t o p → Has t' o p) ∧
    (∀ o p, Has t' o p → Has t o p ∨ (o % BLOCK = off % BLOCK ∧ p = key pidx)) ∧
    ((Has t' off (key pidx) ∧ dropped t' = dropped t) ∨ dropped t' = dropped t + 1)

def tableStore : Store Table where
  add := Table.add
  WF := Table.WF
  Has := Table.Has
  key := (· % 256)
  dropped := fun t => t.nOverflows - 32
  add_spec := fun hwf h => let ⟨a, b, c, d, _⟩ := Table.add_spec hwf h; ⟨a, b, c, d⟩

def ltableStore : Store LTable where
  add := LTable.add
  WF := LTable.WF
  Has := LTable.Has
  key := (· % 65536)
  dropped := fun _ => 0
  add_spec := fun hwf h => let ⟨a, b, c, d⟩ := LTable.add_spec hwf h; ⟨a, b, d, Or.inl ⟨c, rfl⟩⟩

namespace Store
variable {τ : Type} (S : Store τ)

/-- every pair of `P` is visible in `t`, or is one of its dropped entries. -/
def Covers (t : τ) (P : Nat × Nat → Prop) : Prop :=
  S.WF t ∧ ∃ lost : List (Nat × Nat), lost.length = S.dropped t ∧ ∀ a, P a → S.Has t a.1 (S.key a.2) ∨ a ∈ lost

variable {S}

theorem Covers.mono {t : τ} {P P' : Nat × Nat → Prop} (h : S.Covers t P) (hp : ∀ a, P' a → P a) : S.Covers t P' :=
  let ⟨w, lost, hl, hc⟩ := h; ⟨w, lost, hl, fun a ha => hc a (hp a ha)⟩

theorem Covers.empty {t : τ} (hwf : S.WF t) (h0 : S.dropped t = 0) : S.Covers t (fun _ => False) :=
  ⟨hwf, [], h0.symm, fun _ h => h.elim⟩

theorem Covers.add {t t' : τ} {P : Nat × Nat → Prop} {off pidx : Nat} (h : S.Covers t P)
    (ha : S.add t off pidx = some t') : S.Covers t' (fun a => P a ∨ a = (off, pidx)) := by
  obtain ⟨w, lost, hl, hc⟩ := h
  obtain ⟨w', keep, _, hnew⟩ := S.add_spec w ha
  have hold : ∀ (l' : List (Nat × Nat)), (∀ a ∈ lost, a ∈ l') → ∀ a, P a → S.Has t' a.1 (S.key a.2) ∨ a ∈ l' :=
    fun l' hsub a hp => (hc a hp).imp (keep _ _) (hsub a)
  rcases hnew with ⟨hh, hd⟩ | hd
  · refine ⟨w', lost, by rw [hl, hd], ?_⟩
    rintro a (hp | rfl)
    · exact hold lost (fun _ h => h) a hp
    · exact Or.inl hh
  · refine ⟨w', lost ++ [(off, pidx)], by rw [List.length_append, hl, hd]; rfl, ?_⟩
    rintro a (hp | rfl)
    · exact hold _ (fun _ h => List.mem_append_left _ h) a hp
    · exact Or.inr (by simp)

theorem Covers.fold {t t' : τ} {P : Nat × Nat → Prop} {adds : List (Nat × Nat)} (h : S.Covers t P)
    (hf : adds.foldlM (fun t a => S.add t a.1 a.2) t = some t') : S.Covers t' (fun a => P a ∨ a ∈ adds) := by
  refine foldlM_partial _ (fun pre t1 => S.Covers t1 (fun a => P a ∨ a ∈ pre)) adds ?_ (h.mono (by simp)) hf
  intro pre x _ t1 t2 _ hc hs
  refine (hc.add hs).mono ?_
  rintro a (hp | ha)
  · exact Or.inl (Or.inl hp)
  · rcases List.mem_append.1 ha with ha | ha
    · exact Or.inl (Or.inr ha)
    · exact Or.inr (List.mem_singleton.1 ha)

theorem fold_sound {t t' : τ} {adds : List (Nat × Nat)} (hwf : S.WF t)
    (hf : adds.foldlM (fun t a => S.add t a.1 a.2) t = some t') :
    S.WF t' ∧ ∀ o p, S.Has t' o p → S.Has t o p ∨ ∃ a ∈ adds, o % BLOCK = a.1 % BLOCK ∧ p = S.key a.2 := by
  refine foldlM_partial _ (fun pre t1 => S.WF t1 ∧ ∀ o p, S.Has t1 o p →
    S.Has t o p ∨ ∃ a ∈ pre, o % BLOCK = a.1 % BLOCK ∧ p = S.key a.2) adds ?_ ⟨hwf, fun _ _ h => Or.inl h⟩ hf
  rintro pre x _ t1 t2 _ ⟨w, hs⟩ ha
  obtain ⟨w', _, snd, _⟩ := S.add_spec w ha
  refine ⟨w', fun o p hh => ?_⟩
  rcases snd o p hh with h1 | h1
  · exact (hs o p h1).imp_right fun ⟨a, ha, e⟩ => ⟨a, List.mem_append_left _ ha, e⟩
  · exact Or.inr ⟨x, by simp, h1⟩

end Store

/-- everything visible after the adds of one prime index was visible before or was added (`Store.fold_sound` for one
index). -/
theorem Table.foldl_add_sound (pidx : Nat) :
    ∀ (offs : List Nat) (t t' : Table), t.WF →
      offs.foldlM (fun t off => t.add off pidx) t = some t' →
      ∀ o p8, t'.Has o p8 → t.Has o p8 ∨ ((∃ x ∈ offs, o % BLOCK = x % BLOCK) ∧ p8 = pidx % 256) := by
  intro offs t t' hwf h o p8 hh
  rcases (Store.fold_sound (S := tableStore) (adds := offs.map (·, pidx)) hwf
    (by rw [List.foldlM_map]; exact h)).2 o p8 hh with h1 | ⟨a, ha, e1, e2⟩
  · exact Or.inl h1
  · obtain ⟨x, hx, rfl⟩ := List.mem_map.1 ha
    exact Or.inr ⟨⟨x, hx, e1⟩, e2⟩

theorem LTable.lookup_of_has {t : LTable} {blkNo r p16 : Nat} {l : List Nat} (hr : r < BLOCK)
    (h : t.lookup blkNo r = some l) (hh : t.Has (blkNo * BLOCK + r) p16) : p16 ∈ l := by
  unfold LTable.lookup at h
  simp only [LBW, Option.bind_eq_bind, Option.bind_eq_some_iff, Option.some.injEq] at h
  obtain ⟨bk, hbk, rfl⟩ := h
  have hm : (blkNo * BLOCK + r) % BLOCK = r := by
    rw [Nat.mul_add_mod_self_right]; exact Nat.mod_eq_of_lt hr
  have hd : (blkNo * BLOCK + r) / 16384 = 2 * blkNo + r / 16384 := by
    simp only [BLOCK] at *; omega
  rw [List.mem_map]
  refine ⟨(r, p16), List.mem_filter.2 ⟨?_, by simp⟩, rfl⟩
  rw [List.mem_append]
  rcases hh with ⟨len, j, h1, h2, h3⟩ | h1
  · left
    rw [hd] at h1 h3
    rw [hm] at h3
    unfold LTable.bucket at hbk
    rw [h1] at hbk
    simp only [LBS] at hbk
    exact (mapM_range'_mem _ _ _ _ hbk (r, p16)).2 ⟨j, h2, h3⟩
  · right; rw [hm] at h1; exact h1

theorem mem_lcandidates {len pidx : Nat} (h : pidx < len) : pidx ∈ lcandidates len (pidx % 65536) := by
  unfold lcandidates
  rw [List.mem_map]
  refine ⟨pidx / 65536, ?_, ?_⟩
  · rw [List.mem_range'_1]
    have := Nat.div_add_mod pidx 65536
    omega
  · have := Nat.div_add_mod pidx 65536
    omega

theorem Table.reset_lookup (t : Table) (base r : Nat) (l : List Nat) (h : t.reset.lookup base r = some l) :
    l = [] := by
  unfold Table.lookup at h
  simp only [Option.bind_eq_bind, Option.bind_eq_some_iff, Option.some.injEq] at h
  obtain ⟨bk, hbk, rfl⟩ := h
  have hbk' : bk = [] := by
    unfold Table.bucket at hbk
    simp only [Table.reset, Array.getElem?_replicate] at hbk
    split at hbk
    · simp at hbk
    · rename_i blen hbl
      split at hbl
      · have := Option.some.inj hbl; subst this
        simpa using hbk.symm
      · simp at hbl
  subst hbk'
  simp [Table.ovList, Table.reset]

theorem LTable.reset_lookup (t : LTable) (blkNo r : Nat) (l : List Nat) (h : t.reset.lookup blkNo r = some l) :
    l = [] := by
  unfold LTable.lookup at h
  simp only [Option.bind_eq_bind, Option.bind_eq_some_iff, Option.some.injEq] at h
  obtain ⟨bk, hbk, rfl⟩ := h
  have hbk' : bk = [] := by
    unfold LTable.bucket at hbk
    simp only [LTable.reset, Array.getElem?_replicate] at hbk
    split at hbk
    · simp at hbk
    · rename_i len hbl
      split at hbl
      · have := Option.some.inj hbl; subst this
        simpa using hbk.symm
      · simp at hbl
  subst hbk'
  simp [LTable.reset]

end Ymq.Sieve
