/-
Totality of the whole-curve model (Model/EcmCurve.lean) over arbitrary point operations that preserve invariants `IP`
(projective points) and `IE` (extended points): such operations simulate the trivial group, so the statements of
Lemmas/EcmCurveGroup.lean give that every part returns and stage 1 reaches a point satisfying `IP`. Also: the rows
`stage2_params` can return (`stage2Select_row`).
-/
import Ymq.Lemmas.EcmCurveGroup
import Ymq.Lemmas.Params
import Mathlib.Algebra.Group.PUnit

namespace Ymq.EcmCurve
open Ymq.Chain

section Inv
variable {P E : Type}

structure OpsInv (o : Ops P E) (IP : P → Prop) (IE : E → Prop) : Prop where
  zero : IP o.zero
  toExt : ∀ p, IP p → IE (o.toExt p)
  toProj : ∀ e, IE e → IP (o.toProj e)
  double : ∀ p, IP p → IP (o.double p)
  dblext : ∀ p, IP p → IE (o.dblext p)
  addext : ∀ a b, IE a → IE b → IE (o.addext a b)
  addp : ∀ a b, IE a → IE b → IP (o.addp a b)
  subp : ∀ a b, IE a → IE b → IP (o.subp a b)

variable {o : Ops P E} {IP : P → Prop} {IE : E → Prop}

/-- an invariant of the operations is a simulation of the trivial group -/
theorem OpsInv.sim (hi : OpsInv o IP IE) : OpsSim (G := PUnit) o (fun p _ => IP p) (fun e _ => IE e) where
  zero := hi.zero
  toExt := hi.toExt _
  toProj := hi.toProj _
  double := hi.double _
  dblext := hi.dblext _
  addext := hi.addext _ _
  addp := hi.addp _ _
  subp := hi.subp _ _

/-- **`ecm_curve` returns.** If the operations preserve invariants that hold for the generator, `is_valid` accepts
every projective point satisfying the invariant, `check_gcd_factor` and `roots_eval` return, the exponent blocks fit
their words and `d1` is even, at least 4 and a `u64`: no assertion fails, no index is out of range, nothing
underflows. -/
theorem ecmCurve_total {X : Type} (env : Env P E X) (hi : OpsInv env.ops IP IE) (hvalid : ∀ p, IP p → env.valid p = true)
    (hc : CheckTotal env.check) (hre : ∀ a b, env.rootsEval a b ≠ none) (factors larges : List Nat)
    (hf : ∀ f ∈ factors, f < 2 ^ 64) (hl : ∀ f ∈ larges, f < 2 ^ 1024) {d1 : Nat} (hev : 2 ∣ d1) (h4 : 4 ≤ d1)
    (hd : d1 < 2 ^ 64) (d2 : Nat) (g : P) (hg : IP g) :
    ecmCurve env factors larges d1 d2 g ≠ none := by
  obtain ⟨h2, h1⟩ := stage1_sim hi.sim env.n env.xOf env.one env.check factors larges hf hl (x := PUnit.unit) hg
  replace h1 := h1 hc
  unfold ecmCurve
  cases hs : stage1 env.ops env.n env.xOf env.one env.check factors larges g with
  | panic => rw [hs] at h1; exact absurd h1 id
  | ret r => simp
  | go g1 =>
    rw [hs] at h2
    have hg1 : IP g1 := h2
    simp only [hvalid g1 hg1, Bool.not_true, Bool.false_eq_true, if_false]
    obtain ⟨bt, eb, _⟩ := babySteps_sim hi.sim (y := PUnit.unit) hg1 hev h4
    obtain ⟨gt, eg, _⟩ := giantSteps_sim hi.sim (y := PUnit.unit) hg1 hd d2
    unfold stage2
    simp only [eb, eg]
    have hcheck : ∀ vals, (match env.check vals with
        | none => (none : Option (Option (Nat × Nat)))
        | some (some d) => if d = 0 then none else some (some (d, env.n / d))
        | some none => some none) ≠ none := by
      intro vals
      have := hc vals
      split
      · rename_i h0; exact absurd h0 this.1
      · rename_i d h0
        split
        · rename_i hd0; subst hd0; exact absurd h0 this.2
        · simp
      · simp
    by_cases hd4 : d1 < 4000
    · simp only [hd4, if_true]
      exact hcheck _
    · simp only [hd4, if_false]
      cases hr : env.rootsEval (List.drop bt.length (normY env.mul (List.map env.yz (bt ++ gt))))
          (List.take bt.length (normY env.mul (List.map env.yz (bt ++ gt)))) with
      | none => exact absurd hr (hre _ _)
      | some vals =>
        simp only [Option.map_some]
        exact hcheck _

/-- `stage2_params(b2)` for an integral `b2` returns a row; every row of the table has an even `d1 ≥ 4` that is a `u64` -/
theorem stage2Select_row (b2 : Nat) : ∃ lab d1 d2, Ymq.Gen.Stage2.stage2Select b2 1 = some (lab, d1, d2) ∧ 2 ∣ d1 ∧
    4 ≤ d1 ∧ d1 < 2 ^ 64 := by
  obtain ⟨row, hr1, hr2, _⟩ := Ymq.Checked.nearestRow_spec Ymq.Gen.Stage2.ecmTable (by decide) b2 1
  have hrows : (Ymq.Gen.Stage2.ecmTable.all fun r => r.2.1 % 2 == 0 && decide (4 ≤ r.2.1) && decide (r.2.1 < 2 ^ 64))
      = true := by decide
  have hrow := List.all_eq_true.mp hrows row hr2
  simp only [Bool.and_eq_true, beq_iff_eq, decide_eq_true_eq] at hrow
  obtain ⟨lab, d1, d2⟩ := row
  exact ⟨lab, d1, d2, hr1, Nat.dvd_of_mod_eq_zero hrow.1.1, hrow.1.2, hrow.2⟩

end Inv

end Ymq.EcmCurve
