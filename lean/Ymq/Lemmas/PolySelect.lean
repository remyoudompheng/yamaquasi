/-
SIQS (C12): `select_siqs_factors` — the window assertion, what a successful call returns, and that the selection
satisfies the hypotheses of the CRT / totality theorems.
-/
import Ymq.Lemmas.PolyCrt
import Ymq.Lemmas.PolySizes
import Ymq.Model.SiqsSelect
namespace Ymq.PolySelect
open Ymq.SiqsPoly Ymq.SiqsSelect Ymq.PolySizes Ymq.PolyCrt

theorem target_eq {n : Int} {mm tgt : Nat} (h : target n mm = some tgt) :
    tgt = siqsTarget n mm ∧ mm / 2 ≠ 0 := by
  unfold target at h
  split at h
  · cases h
  · rename_i h0
    injection h with h
    exact ⟨h.symm, h0⟩

theorem window_len (idx nfacs plen : Nat) (hnf : 0 < nfacs) :
    (window idx nfacs plen).2 ≤ plen ∧
    ((window idx nfacs plen).2 - (window idx nfacs plen).1 > nfacs ↔ plen > nfacs) ∧
    (window idx nfacs plen).2 - (window idx nfacs plen).1 ≤ 4 * nfacs := by
  unfold window
  split
  · simp only; omega
  · simp only; omega

/-- `select_siqs_factors`: the assertion `selected_idx.len() > nfacs` fails exactly when the pool (the primes of
index ≥ 1 with non-zero root among the first `2·idx + 4·nfacs`) has at most `nfacs` elements -/
theorem selectFactors_isSome_iff (fb : List Prime) (n : Int) (nfacs mm tgt : Nat) (hnf : 0 < nfacs)
    (ht : target n mm = some tgt) (hbits : bitlen tgt < 256) :
    (∃ r, selectFactors fb n nfacs mm = some r) ↔
      (pool fb (partitionPoint fb nfacs tgt) nfacs).length > nfacs := by
  obtain ⟨h1, h2, _⟩ := window_len (partitionPoint fb nfacs tgt) nfacs
    (pool fb (partitionPoint fb nfacs tgt) nfacs).length hnf
  unfold selectFactors
  rw [if_neg (by omega), ht]
  dsimp only
  constructor
  · rintro ⟨r, hr⟩
    split at hr
    · cases hr
    · rename_i hw
      exact h2.mp (not_not.mp hw)
  · intro hp
    rw [if_neg (by rw [not_not]; exact h2.mpr hp), if_neg (by omega), if_neg (by rw [not_not]; exact hbits)]
    exact ⟨_, rfl⟩

theorem selectFactors_some {fb : List Prime} {n : Int} {nfacs mm tgt : Nat} {sel : List Prime}
    (hnf : 0 < nfacs) (h : selectFactors fb n nfacs mm = some (tgt, sel)) :
    tgt = siqsTarget n mm ∧ mm / 2 ≠ 0 ∧ sel.Sublist (fb.drop 1) ∧ (∀ q ∈ sel, q.r ≠ 0) ∧
    nfacs < sel.length ∧ sel.length ≤ 4 * nfacs := by
  unfold selectFactors at h
  rw [if_neg (by omega)] at h
  split at h
  · cases h
  · rename_i t ht
    obtain ⟨ht1, ht2⟩ := target_eq ht
    simp only [Option.ite_none_left_eq_some, not_not, Option.some.injEq, Prod.mk.injEq] at h
    obtain ⟨hw, hw2, _, rfl, rfl⟩ := h
    obtain ⟨w1, w2, w3⟩ := window_len (partitionPoint fb nfacs t) nfacs
      (pool fb (partitionPoint fb nfacs t) nfacs).length hnf
    generalize hpl : pool fb (partitionPoint fb nfacs t) nfacs = pl at *
    have hsub : ((pl.drop (window (partitionPoint fb nfacs t) nfacs pl.length).1).take
        ((window (partitionPoint fb nfacs t) nfacs pl.length).2
          - (window (partitionPoint fb nfacs t) nfacs pl.length).1)).Sublist pl :=
      (List.take_sublist _ _).trans (List.drop_sublist _ _)
    have hpool : pl.Sublist (fb.drop 1) := by
      rw [← hpl]; unfold pool
      exact List.filter_sublist.trans ((List.take_sublist _ _).drop 1)
    refine ⟨ht1, ht2, hsub.trans hpool, ?_, ?_, ?_⟩
    · intro q hq
      have : q ∈ pl := hsub.subset hq
      rw [← hpl] at this; unfold pool at this
      simpa using (List.mem_filter.mp this).2
    · rw [List.length_take, List.length_drop]
      omega
    · rw [List.length_take, List.length_drop]
      omega

theorem sel_ok {n : Int} {fb sel : List Prime}
    (hprime : ∀ q ∈ fb, Nat.Prime q.p) (hroot : ∀ q ∈ fb, q.r < q.p ∧ (q.r : Int) * q.r ≡ n [ZMOD q.p])
    (hnd : (fb.map (·.p)).Nodup) (hsub : sel.Sublist (fb.drop 1)) (hr : ∀ q ∈ sel, q.r ≠ 0) :
    SelOk n sel ∧ (∀ q ∈ sel, ¬ ((q.p : Int) ∣ n)) := by
  have hsub' : sel.Sublist fb := hsub.trans (List.drop_sublist _ _)
  refine ⟨⟨hnd.sublist (hsub'.map _), fun q hq => hprime q (hsub'.subset hq),
    fun q hq => (hroot q (hsub'.subset hq)).2⟩, ?_⟩
  intro q hq hdvd
  have hqf := hsub'.subset hq
  obtain ⟨hlt, hsq⟩ := hroot q hqf
  have hp := hprime q hqf
  have h1 : ((q.p : Nat) : Int) ∣ (q.r : Int) * q.r := by
    have := Int.modEq_iff_dvd.mp hsq
    have h2 := Int.dvd_sub hdvd this
    simpa using h2
  have h2 : q.p ∣ q.r * q.r := by exact_mod_cast h1
  have h3 : q.p ∣ q.r := by
    rcases (Nat.Prime.dvd_mul hp).mp h2 with h | h <;> exact h
  have := Nat.le_of_dvd (Nat.pos_of_ne_zero (hr q hq)) h3
  omega

end Ymq.PolySelect
