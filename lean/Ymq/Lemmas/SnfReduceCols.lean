/-
The column phase `reduce_cols` of `SmithNormalForm::reduce` (model `St.reduceCols`) on the `i128`
path: the composition of the `colsub`/`colswap` steps over its loops is an automorphism `φ` of
`(Z/h)^n` that maps the relation module of the input to the relation module of the output and the
identity matrix to `q`: the two presentations define isomorphic groups, and `q` records the
isomorphism.
-/
import Ymq.Lemmas.SnfCols

namespace Ymq.Snf

/-- `ColEquiv s0 s`: one automorphism `φ` of `(Z/h)^n` maps the rows of `s0.q` to the rows of `s.q` and the
relation module of `s0` onto that of `s` (what column operations, tracked in `q`, and row operations keep) -/
def ColEquiv (s0 s : St) : Prop :=
  s.gens = s0.gens ∧ s.h = s0.h ∧ s.rows.length = s0.rows.length ∧ s.q.length = s0.q.length ∧
  ∃ φ : (Fin s0.gens.length → ZMod s0.h) ≃ₗ[ZMod s0.h] (Fin s0.gens.length → ZMod s0.h),
    RowsMapped s0.h s0.gens.length φ s0.q s.q ∧
    rowSpan s0.h s0.gens.length s.rows = (rowSpan s0.h s0.gens.length s0.rows).map φ.toLinearMap

theorem ColEquiv.refl (s : St) : ColEquiv s s := by
  refine ⟨rfl, rfl, rfl, rfl, LinearEquiv.refl _ _, ⟨rfl, fun r _ _ => rfl⟩, ?_⟩
  simp

theorem RowsMapped.trans {h n : Nat} {f g : (Fin n → ZMod h) → (Fin n → ZMod h)} {A B C : Mat}
    (h1 : RowsMapped h n f A B) (h2 : RowsMapped h n g B C) : RowsMapped h n (g ∘ f) A C := by
  refine ⟨by rw [h2.1, h1.1], ?_⟩
  intro r hr1 hr2
  have hb : r < B.length := by rw [h1.1]; exact hr1
  rw [h2.2 r hb hr2, h1.2 r hr1 hb]
  rfl

theorem ColEquiv.step {s0 s s' : St} (h0 : ColEquiv s0 s)
    (hg : s'.gens = s.gens) (hh : s'.h = s.h) (hr : s'.rows.length = s.rows.length)
    (ψ : (Fin s.gens.length → ZMod s.h) ≃ₗ[ZMod s.h] (Fin s.gens.length → ZMod s.h))
    (hq : RowsMapped s.h s.gens.length ψ s.q s'.q)
    (hspan : rowSpan s.h s.gens.length s'.rows = (rowSpan s.h s.gens.length s.rows).map ψ.toLinearMap) :
    ColEquiv s0 s' := by
  obtain ⟨e1, e2, e3, e4, φ, hφq, hφs⟩ := h0
  -- transport ψ to the frame of s0
  revert ψ hq hspan
  rw [e1, e2]
  intro ψ hq hspan
  refine ⟨by rw [hg, e1], by rw [hh, e2], by rw [hr, e3], by rw [hq.1, e4], φ.trans ψ, ?_, ?_⟩
  · have := RowsMapped.trans hφq hq
    exact this
  · rw [hspan, hφs, ← Submodule.map_comp]
    rfl

variable {s0 : St}

/-- the hypotheses under which the steps of `reduce_cols` are covered by the operation theorems -/
structure ColFrame (s0 s : St) : Prop where
  ce : ColEquiv s0 s
  small : s.small = true
  rows_le : s.rows.length ≤ s.gens.length
  q_le : s.q.length ≤ s.gens.length

theorem ColFrame.colsub {s s' : St} (hf : ColFrame s0 s) (i j : Nat) (k : Int) (hi : i < s.gens.length)
    (hj : j < s.gens.length) (hij : i ≠ j) (h : s.colsub i j k = some s') : ColFrame s0 s' := by
  obtain ⟨hg, hh, _, _, _, φ, hr, hq⟩ := colsub_spec s s' i j k hf.small hi hj hij hf.rows_le hf.q_le h
  exact ⟨hf.ce.step hg hh hr.1 φ hq (rowSpan_mapped _ _ _ _ _ hr), small_of_h_eq hh hf.small,
    by rw [hr.1, hg]; exact hf.rows_le, by rw [hq.1, hg]; exact hf.q_le⟩

theorem ColFrame.colswap {s s' : St} (hf : ColFrame s0 s) (i j : Nat) (hi : i < s.gens.length)
    (hj : j < s.gens.length) (h : s.colswap i j = some s') : ColFrame s0 s' := by
  obtain ⟨hg, hh, hr, φ, hq, hspan⟩ := colswap_spec s s' i j hf.small hi hj h
  exact ⟨hf.ce.step hg hh hr φ hq hspan, small_of_h_eq hh hf.small,
    by rw [hr, hg]; exact hf.rows_le, by rw [hq.1, hg]; exact hf.q_le⟩

theorem ColFrame.gens {s : St} (hf : ColFrame s0 s) : s.gens = s0.gens := hf.ce.1

theorem colWhile_frame (i j : Nat) (hij : i ≠ j) (hi : i < s0.gens.length) (hj : j < s0.gens.length) :
    ∀ (fuel : Nat) (s : St) (ran : Bool) (s' : St) (ran' : Bool), ColFrame s0 s →
      s.colWhile i j fuel ran = some (s', ran') → ColFrame s0 s'
  | 0, s, ran, s', ran', _, h => by simp [St.colWhile] at h
  | fuel + 1, s, ran, s', ran', hf, h => by
    unfold St.colWhile at h
    split at h
    case h_2 => cases h
    split at h
    · exact (Prod.mk.inj (Option.some.inj h)).1 ▸ hf
    split at h
    · cases h
    split at h
    · cases h
    rename_i s1 h1
    have hf1 := hf.colsub j i _ (hf.gens ▸ hj) (hf.gens ▸ hi) (Ne.symm hij) h1
    split at h
    · cases h
    rename_i rij' _
    split at h
    · cases h
    rename_i s2 h2
    have hf2 : ColFrame s0 s2 := by
      by_cases hz : rij' ≠ 0
      · rw [if_pos hz] at h2
        exact hf1.colswap i j (hf1.gens ▸ hi) (hf1.gens ▸ hj) h2
      · rw [if_neg hz] at h2
        exact Option.some.inj h2 ▸ hf1
    exact colWhile_frame i j hij hi hj fuel s2 true s' ran' hf2 h

theorem colPair_frame (s : St) (more : Bool) (i j : Nat) (hij : i ≠ j) (s' : St) (more' : Bool)
    (hf : ColFrame s0 s) (hi : i < s0.gens.length) (hj : j < s0.gens.length)
    (h : s.colPair more i j = some (s', more')) : ColFrame s0 s' := by
  unfold St.colPair at h
  split at h
  · cases h
  rename_i s1 ran h1
  have hf1 := colWhile_frame i j hij hi hj colFuel s false s1 ran hf h1
  split at h
  case h_2 => cases h
  split at h
  · split at h
    · cases h
    rename_i s2 h2
    have hf2 := hf1.colsub j i 1 (hf1.gens ▸ hj) (hf1.gens ▸ hi) (Ne.symm hij) h2
    cases h3 : s2.colswap i j with
    | none => rw [h3] at h; cases h
    | some s3 =>
      rw [h3] at h
      exact (Prod.mk.inj (Option.some.inj h)).1 ▸ hf2.colswap i j (hf2.gens ▸ hi) (hf2.gens ▸ hj) h3
  · exact (Prod.mk.inj (Option.some.inj h)).1 ▸ hf1

theorem mem_rangeFrom {lo hi j : Nat} (h : j ∈ rangeFrom lo hi) : lo ≤ j ∧ j < hi := by
  unfold rangeFrom at h
  obtain ⟨k, hk, rfl⟩ := List.mem_map.mp h
  have := List.mem_range.mp hk
  omega

theorem colPass_frame (s : St) (n : Nat) (hn : n ≤ s0.gens.length) (s' : St) (more' : Bool)
    (hf : ColFrame s0 s) (h : s.colPass n = some (s', more')) : ColFrame s0 s' := by
  unfold St.colPass at h
  refine forM_inv_mem (fun (p : St × Bool) => ColFrame s0 p.1) _ (List.range n) (s, false) (s', more') ?_ hf h
  intro p i p' hi hp hstep
  have hi' : i < n := List.mem_range.mp hi
  obtain ⟨s1, m1⟩ := p
  simp only [] at hstep
  refine forM_inv_mem (fun (p : St × Bool) => ColFrame s0 p.1) _ (rangeFrom (i + 1) n) (s1, m1) p' ?_ hp hstep
  intro q j q' hj hq hstep2
  obtain ⟨hj1, hj2⟩ := mem_rangeFrom hj
  obtain ⟨s2, m2⟩ := q
  obtain ⟨s3, m3⟩ := q'
  simp only [] at hstep2
  exact colPair_frame s2 m2 i j (by omega) s3 m3 hq (by omega) (by omega) hstep2

theorem colPasses_frame (n : Nat) (hn : n ≤ s0.gens.length) :
    ∀ (k : Nat) (s s' : St), ColFrame s0 s → s.colPasses n k = some s' → ColFrame s0 s'
  | 0, s, s', hf, h => by
    simp [St.colPasses] at h; rw [← h]; exact hf
  | k + 1, s, s', hf, h => by
    unfold St.colPasses at h
    split at h
    · exact absurd h (by simp)
    · rename_i s1 more h1
      have hf1 := colPass_frame s n hn s1 more hf h1
      split at h
      · exact colPasses_frame n hn k s1 s' hf1 h
      · have := Option.some.inj h
        rw [← this]; exact hf1

/-- **reduce_cols** (`0 < h < 2^63`, square matrix): there is an automorphism `φ` of `(Z/h)^n` such
that the relation module of the output is the image of the relation module of the input, and the
rows of the output `q` are the images of the rows of the identity matrix (`q` is the matrix of
`φ`). -/
theorem reduceCols_spec (s s' : St) (hs : s.small = true) (hsq : s.rows.length = s.gens.length)
    (h : s.reduceCols = some s') :
    s'.gens = s.gens ∧ s'.h = s.h ∧ s'.rows.length = s.rows.length ∧
    ∃ φ : (Fin s.gens.length → ZMod s.h) ≃ₗ[ZMod s.h] (Fin s.gens.length → ZMod s.h),
      RowsMapped s.h s.gens.length φ (identity s.rows.length) s'.q ∧
      rowSpan s.h s.gens.length s'.rows = (rowSpan s.h s.gens.length s.rows).map φ.toLinearMap := by
  unfold St.reduceCols at h
  simp only [] at h
  set s1 : St := { s with q := identity s.rows.length } with hs1
  have hq1 : s1.q.length = s.rows.length := by simp [s1, identity]
  have hf1 : ColFrame s1 s1 := ⟨ColEquiv.refl s1, hs, by simp [s1, hsq], by rw [hq1]; simp [s1, hsq]⟩
  have hf := colPasses_frame (s0 := s1) s.rows.length (by simp [s1, hsq]) 10 s1 s' hf1 h
  obtain ⟨e1, e2, e3, _, φ, hq, hspan⟩ := hf.ce
  exact ⟨e1, e2, e3, φ, hq, hspan⟩

end Ymq.Snf
