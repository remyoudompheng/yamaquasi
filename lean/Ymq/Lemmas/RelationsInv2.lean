/-
Second store invariant (C11), needed for `add_no_panic` and `cycles_tail_even`: every stored relation
can be packed again after a combination (its factor entries are in the encoder's domain), has a positive
cycle length and duplicate prime entries with even exponents only (`TailEven`, also for the published
cycles), and every large prime is a usable key (`LargeOK`).
-/
import Ymq.Lemmas.RelationsMono

namespace Ymq.Relations

/-- a factor entry the packed encoding accepts: the sign, or a prime in `(0, 2^32)`, 2 or odd, with
a positive exponent -/
def FactorOK (f : Int × Nat) : Prop :=
  f.1 = -1 ∨ (0 < f.1 ∧ f.1 < (W32 : Int) ∧ 0 < f.2 ∧ (f.1 = 2 ∨ f.1 % 2 = 1))

instance (f : Int × Nat) : Decidable (FactorOK f) := by unfold FactorOK; infer_instance

def FOK (fs : List (Int × Nat)) : Prop := ∀ f ∈ fs, FactorOK f

instance (fs : List (Int × Nat)) : Decidable (FOK fs) := by unfold FOK; infer_instance

/-- a large prime the store can work with: greater than 1, 2 or odd, and `p + 1` fits in a `u32` -/
def LargeOK (p : Nat) : Prop := 1 < p ∧ p + 1 < W32 ∧ (p = 2 ∨ p % 2 = 1)

instance (p : Nat) : Decidable (LargeOK p) := by unfold LargeOK; infer_instance

theorem LargeOK.lt32 {p : Nat} (h : LargeOK p) : p < W32 := by
  have := h.2.1; omega

theorem LargeOK.ne1 {p : Nat} (h : LargeOK p) : p ≠ 1 := by
  have := h.1; omega

theorem factorOK_large {p : Nat} (h : LargeOK p) : FactorOK (toI64 p, 2) := by
  obtain ⟨h1, h2, h3⟩ := h
  have e32 : W32 = 4294967296 := by decide
  have e32' : (W32 : Int) = 4294967296 := by decide
  rw [toI64_small (W32_lt_I63 (by omega))]
  right
  refine ⟨by omega, by omega, by show 0 < 2; decide, ?_⟩
  rcases h3 with h3 | h3
  · left; omega
  · right; omega

theorem mergeFactors_fok {fs acc out : List (Int × Nat)} (h : mergeFactors acc fs = .ok out)
    (ha : FOK acc) (hf : FOK fs) : FOK out :=
  mergeFactors_forall (fun _ k k' h _ => h.imp id fun ⟨a, b, c, d⟩ =>
    ⟨a, b, Nat.lt_of_lt_of_le c (Nat.le_add_right k' k), d⟩) _ _ _ h ha hf

theorem normFactors_fok {fs : List (Int × Nat)} (h : FOK fs) : FOK (normFactors fs) :=
  normFactors_forall (Or.inl rfl) h

/-! ### duplicate prime entries

`combine` merges the factor lists entry by entry but appends the squared cofactor as a NEW entry,
so a prime can have several entries. Only the first entry of a prime is ever increased
(`bump`), and every appended duplicate has exponent 2: in every relation the store builds, all
entries of a prime except the first have EVEN exponents (`TailEven`). Hence the parity of the
total exponent of a prime equals the OR of the parities of its entries, which is what the matrix
of `final_step` uses (`BitVec::set`). -/

def TailEven : List (Int × Nat) → Prop
  | [] => True
  | (p, _) :: t => (∀ f ∈ t, f.1 = p → f.2 % 2 = 0) ∧ TailEven t

instance TailEven.dec : (fs : List (Int × Nat)) → Decidable (TailEven fs)
  | [] => isTrue trivial
  | (p, _) :: t => by
    unfold TailEven
    have := TailEven.dec t
    infer_instance

theorem tailEven_cons {p : Int} {k : Nat} {t : List (Int × Nat)} :
    TailEven ((p, k) :: t) ↔ (∀ f ∈ t, f.1 = p → f.2 % 2 = 0) ∧ TailEven t := Iff.rfl

theorem tailEven_append : ∀ {fs : List (Int × Nat)} {p : Int} {k : Nat}, TailEven fs →
    (k % 2 = 0 ∨ hasPrime p fs = false) → TailEven (fs ++ [(p, k)]) := by
  intro fs
  induction fs with
  | nil => intro p k _ _; exact ⟨(fun f hf => by cases hf), trivial⟩
  | cons e t ih =>
    obtain ⟨q, kq⟩ := e
    intro p k h hk
    rw [tailEven_cons] at h
    have hk' : k % 2 = 0 ∨ (q ≠ p ∧ hasPrime p t = false) := hk.imp id (fun hp => by
      simpa only [hasPrime, List.any_cons, Bool.or_eq_false_iff, beq_eq_false_iff_ne, ne_eq] using hp)
    rw [List.cons_append, tailEven_cons]
    refine ⟨?_, ih h.2 (hk'.imp id And.right)⟩
    intro f hf hfq
    rcases List.mem_append.mp hf with hf | hf
    · exact h.1 f hf hfq
    · rw [List.mem_singleton] at hf
      rcases hk' with hk' | ⟨hne, _⟩
      · rw [hf]; exact hk'
      · rw [hf] at hfq; exact absurd hfq.symm hne

theorem tailEven_first {p : Int} {k1 k2 : Nat} {b : List (Int × Nat)} :
    ∀ {a : List (Int × Nat)}, hasPrime p a = false → TailEven (a ++ (p, k1) :: b) →
      TailEven (a ++ (p, k2) :: b) := by
  intro a
  induction a with
  | nil => intro _ h; exact h
  | cons e t ih =>
    obtain ⟨q, kq⟩ := e
    intro ha h
    have hne : ¬ q = p := fun e => by simp [hasPrime, e] at ha
    rw [hasPrime_cons_ne _ _ hne] at ha
    rw [List.cons_append, tailEven_cons] at h ⊢
    refine ⟨fun f hf hfq => ?_, ih ha h.2⟩
    rcases List.mem_append.mp hf with hf | hf
    · exact h.1 f (List.mem_append_left _ hf) hfq
    · rcases List.mem_cons.mp hf with hf | hf
      · rw [hf] at hfq; exact absurd hfq.symm hne
      · exact h.1 f (List.mem_append_right _ (List.mem_cons_of_mem _ hf)) hfq

theorem bump_tailEven (p : Int) (k : Nat) (fs fs' : List (Int × Nat)) (h : bump p k fs = .ok fs')
    (hte : TailEven fs) : TailEven fs' := by
  rcases bump_ok h with ⟨_, rfl⟩ | ⟨a, k', b, rfl, ha, _, rfl⟩
  · exact hte
  · exact tailEven_first ha hte

theorem mergeFactors_tailEven : ∀ (fs acc out : List (Int × Nat)),
    mergeFactors acc fs = .ok out → TailEven acc → TailEven out := by
  intro fs
  induction fs with
  | nil => intro acc out h ha; simp only [mergeFactors, pure_eq_ok] at h; subst h; exact ha
  | cons f t ih =>
    obtain ⟨p, k⟩ := f
    intro acc out h ha
    unfold mergeFactors at h
    split at h
    · simp only [bind_eq_ok] at h
      obtain ⟨acc', hb, h⟩ := h
      exact ih acc' out h (bump_tailEven p k acc acc' hb ha)
    · rename_i hp
      exact ih _ out h (tailEven_append ha (Or.inr (by simpa using hp)))

theorem normFactors_mem : ∀ {fs : List (Int × Nat)} {f : Int × Nat}, f ∈ normFactors fs →
    ∃ g ∈ fs, g.1 = f.1 ∧ g.2 % 2 = f.2 % 2 := by
  intro fs
  induction fs with
  | nil => intro f hf; cases hf
  | cons e t ih =>
    obtain ⟨p, k⟩ := e
    intro f hf
    rw [normFactors_cons] at hf
    have lift : (∃ g ∈ t, g.1 = f.1 ∧ g.2 % 2 = f.2 % 2) →
        ∃ g ∈ (p, k) :: t, g.1 = f.1 ∧ g.2 % 2 = f.2 % 2 :=
      fun ⟨g, hg, h⟩ => ⟨g, List.mem_cons_of_mem _ hg, h⟩
    split at hf
    · rename_i hp
      split at hf
      · exact lift (ih hf)
      · rename_i hodd
        rcases List.mem_cons.mp hf with hf | hf
        · refine ⟨(p, k), List.mem_cons_self, ?_, ?_⟩
          · rw [hf]; exact hp
          · rw [hf]; simp only; omega
        · exact lift (ih hf)
    · rcases List.mem_cons.mp hf with hf | hf
      · exact ⟨(p, k), List.mem_cons_self, by rw [hf], by rw [hf]⟩
      · exact lift (ih hf)

theorem normFactors_tailEven : ∀ {fs : List (Int × Nat)}, TailEven fs → TailEven (normFactors fs) := by
  intro fs
  induction fs with
  | nil => intro h; exact h
  | cons e t ih =>
    obtain ⟨p, k⟩ := e
    intro h
    rw [tailEven_cons] at h
    have hrest : ∀ f ∈ normFactors t, f.1 = p → f.2 % 2 = 0 := by
      intro f hf hfp
      obtain ⟨g, hg, h1, h2⟩ := normFactors_mem hf
      rw [← h2]; exact h.1 g hg (h1.trans hfp)
    rw [normFactors_cons]
    split
    · rename_i hp
      split
      · exact ih h.2
      · rw [tailEven_cons]
        exact ⟨fun f hf hfp => hrest f hf (hfp.trans hp.symm), ih h.2⟩
    · rw [tailEven_cons]; exact ⟨hrest, ih h.2⟩

theorem combine_tailEven {n : Nat} {r1 r2 rr : Relation} (h : combine n r1 r2 = .ok rr)
    (h1 : TailEven r1.factors) : TailEven rr.factors := by
  obtain ⟨_, _, fs, hfs, hf⟩ := combine_divisor h
  rw [hf]
  exact tailEven_append (mergeFactors_tailEven _ _ _ hfs h1) (Or.inl (by decide))

def totalExp (p : Int) : List (Int × Nat) → Nat
  | [] => 0
  | (q, k) :: t => (if q = p then k else 0) + totalExp p t

/-- the parity bit `final_step` computes for `p` (OR over the entries) -/
def orParity (p : Int) (fs : List (Int × Nat)) : Bool := fs.any (fun f => f.1 == p && f.2 % 2 == 1)

theorem allEven_parity (q : Int) : ∀ (t : List (Int × Nat)), (∀ f ∈ t, f.1 = q → f.2 % 2 = 0) →
    totalExp q t % 2 = 0 ∧ ¬ (t.any (fun f => f.1 == q && f.2 % 2 == 1) = true) := by
  intro t
  induction t with
  | nil => intro _; simp [totalExp]
  | cons e t ih =>
    obtain ⟨q', k'⟩ := e
    intro h
    have h1 := h (q', k') List.mem_cons_self
    obtain ⟨h2, h3⟩ := ih (fun f hf => h f (List.mem_cons_of_mem _ hf))
    simp only [totalExp, List.any_cons, Bool.or_eq_true, Bool.and_eq_true, beq_iff_eq, not_or]
    by_cases hqq : q' = q
    · have := h1 hqq
      simp only at this
      rw [if_pos hqq]
      refine ⟨by omega, ?_, h3⟩
      rintro ⟨_, ho⟩; omega
    · rw [if_neg hqq]
      refine ⟨by simpa using h2, ?_, h3⟩
      rintro ⟨hc, _⟩; exact hqq hc

theorem tailEven_parity (p : Int) : ∀ {fs : List (Int × Nat)}, TailEven fs →
    (orParity p fs = true ↔ totalExp p fs % 2 = 1) := by
  intro fs
  induction fs with
  | nil => intro _; simp [orParity, totalExp]
  | cons e t ih =>
    obtain ⟨q, k⟩ := e
    intro h
    rw [tailEven_cons] at h
    have iht := ih h.2
    unfold orParity at iht ⊢
    simp only [List.any_cons, totalExp, Bool.or_eq_true, Bool.and_eq_true, beq_iff_eq]
    by_cases hq : q = p
    · subst hq
      obtain ⟨hev1, hev2⟩ := allEven_parity q t h.1
      simp only [if_true]
      constructor
      · rintro (⟨_, ho⟩ | ho)
        · omega
        · exact absurd ho hev2
      · intro ho
        left
        exact ⟨trivial, by omega⟩
    · rw [if_neg hq]
      simp only [Nat.zero_add]
      constructor
      · rintro (⟨hc, _⟩ | ho)
        · exact absurd hc hq
        · exact iht.mp ho
      · intro ho
        exact Or.inr (iht.mpr ho)

theorem combine_stored2 {n : Nat} {r rp rr : Relation} {p : Nat} (h : combine n r rp = .ok rr)
    (hr : FOK r.factors) (hp : FOK rp.factors) (hc : rp.cofactor = p) (hdvd : r.cofactor % p = 0)
    (hl : LargeOK p) : FOK rr.factors ∧ rr.cyclelen = r.cyclelen + rp.cyclelen := by
  obtain ⟨_, _, fs, hfs, hf⟩ := combine_divisor h
  obtain ⟨_, _, _, _, hlen, _⟩ := combine_ok h
  have hd : divisorCof r rp = p := by unfold divisorCof; rw [hc, if_pos hdvd]
  refine ⟨?_, hlen⟩
  rw [hf, hd]
  exact List.forall_mem_append.mpr
    ⟨mergeFactors_fok hfs hr hp, List.forall_mem_singleton.mpr (factorOK_large hl)⟩

/-- a packed relation decodes to something that can be packed again -/
def GoodF (b : List Nat) : Prop :=
  ∃ r, unpack b = .ok r ∧ FOK r.factors ∧ 0 < r.cyclelen ∧ TailEven r.factors

/-- what `Inv2` needs of a relation that is combined or stored, beside `RelOK` (which is what `Inv`
needs) -/
structure RelOK2 (r : Relation) : Prop where
  fok : FOK r.factors
  clen : 0 < r.cyclelen
  te : TailEven r.factors

theorem goodF_of_pack {r : Relation} {b : List Nat} (h : pack r = .ok b) (hty : Typed r)
    (hno : NoOne r.factors) (h2 : RelOK2 r) : GoodF b :=
  ⟨_, unpack_pack' h hty hno, normFactors_fok h2.fok, h2.clen, normFactors_tailEven h2.te⟩

/-- The second store invariant (the first is `Inv`, validity; the third, `Inv3`, bounds the
counters): what `add_no_panic` needs beyond validity. Keys are usable large primes, every stored
relation can be packed again after a combination, duplicate prime entries are even. It reads
`partials`, `doubles` and `cycles` only: a store that differs in its counters satisfies it by
`⟨h.par, h.dbl, h.cyc⟩`. -/
structure Inv2 (s : Store) : Prop where
  par : ∀ e ∈ s.partials, LargeOK e.1 ∧ GoodF e.2
  dbl : ∀ e ∈ s.doubles, LargeOK e.1.1 ∧ LargeOK e.1.2 ∧ GoodF e.2
  cyc : ∀ r ∈ s.cycles, TailEven r.factors

theorem inv2_new (n fbsize maxlarge : Nat) : Inv2 (Store.new n fbsize maxlarge) := by
  refine ⟨?_, ?_, ?_⟩
  · intro e he; cases he
  · intro e he; cases he
  · intro e he; cases he

theorem inv2_setPartial {s : Store} (h : Inv2 s) {p : Nat} {b : List Nat} (hp : LargeOK p)
    (hg : GoodF b) : Inv2 (s.setPartial p b) := by
  refine ⟨?_, h.dbl, h.cyc⟩
  intro e he
  simp only [Store.setPartial] at he
  rw [mem_ainsert] at he
  rcases he with he | ⟨he, _⟩
  · subst he; exact ⟨hp, hg⟩
  · exact h.par e he

theorem addCycle_inv2 {r : Relation} {s s' : Store} (h : addCycle r s = .ok s') (hi : Inv2 s)
    (hte : TailEven r.factors) : Inv2 s' := by
  obtain ⟨_, _, hs⟩ := addCycle_ok h
  subst hs
  refine ⟨hi.par, hi.dbl, ?_⟩
  intro r' hr'
  simp only [List.mem_append, List.mem_singleton] at hr'
  rcases hr' with hr' | hr'
  · exact hi.cyc r' hr'
  · rw [hr']; exact hte

theorem relOK2_of_unpack {b : List Nat} {r : Relation} (h : unpack b = .ok r) (hg : GoodF b) :
    RelOK2 r := by
  obtain ⟨r', hu, hf, hl, hte⟩ := hg
  rw [h] at hu; cases hu
  exact ⟨hf, hl, hte⟩

theorem NewSingle.goodF {s : Store} {r : Relation} {k k' : Nat} {b : List Nat}
    (h : NewSingle s r k k' b) (hg : Good s) (h2 : Inv2 s) (hr : RelOK s.n r) (hr2 : RelOK2 r)
    (hdvd : r.cofactor % k = 0) : GoodF b := by
  obtain ⟨bk, rk, rr, hl, hu, hcomb, _, hb⟩ := h
  obtain ⟨h1, h32, hc, hk⟩ := hg.1.single hl hu
  obtain ⟨hlk, hgk⟩ := h2.par _ (alookup_mem hl)
  obtain ⟨hrr, _⟩ := combine_key hcomb hr hk hc hdvd h1 h32
  obtain ⟨hf, hlen⟩ := combine_stored2 hcomb hr2.fok (relOK2_of_unpack hu hgk).fok hc hdvd hlk
  exact goodF_of_pack hb hrr.typed hrr.noOne
    ⟨hf, by rw [hlen]; have := hr2.clen; omega, combine_tailEven hcomb hr2.te⟩

theorem single_inv2 {r : Relation} {s : Store} {res : Bool × Store}
    (h : combineSingle r s = .ok res) (hi : Inv2 s) (hr : RelOK s.n r) (hr2 : RelOK2 r) :
    Inv2 res.2 := by
  rcases combineSingle_ok h with ⟨_, rfl⟩ | ⟨blob, r0, rr, hl, _, hcomb, rfl | ⟨s1, _, hs1, hres⟩⟩
  · exact hi
  · exact hi
  · have hi1 := addCycle_inv2 hs1 hi (combine_tailEven hcomb hr2.te)
    rcases hres with rfl | ⟨b, _, hb, rfl⟩
    · exact hi1
    · exact inv2_setPartial hi1 (hi.par _ (alookup_mem hl)).1 (goodF_of_pack hb hr.typed hr.noOne hr2)

theorem step_inv2 {r : Relation} {p q : Nat} {s : Store} {st : Bool × Option Nat × Store}
    (h : combineDoubleStep r p q s = .ok st) (hg : Good s) (h2 : Inv2 s) (hr : RelOK s.n r)
    (hr2 : RelOK2 r) (hc : r.cofactor = p * q) (hp : LargeOK p) (hq : LargeOK q) : Inv2 st.2.2 := by
  have hpq : PairOK r p q := ⟨hc, hp.ne1, hq.ne1, hp.lt32, hq.lt32⟩
  have hl : ∀ {k k' : Nat}, (k = p ∧ k' = q ∨ k = q ∧ k' = p) → LargeOK k' := by
    rintro k k' (⟨_, rfl⟩ | ⟨_, rfl⟩) <;> assumption
  rcases combineDoubleStep_ok h with ⟨rfl, s1, hs1, rfl⟩ |
    ⟨_, _, _, _, _, r1, r2, s1, _, _, _, _, hr1, hr2', hs1, hres⟩ |
    ⟨_, k, k', b, hk, _, hns, rfl⟩ | ⟨_, _, _, rfl⟩
  · exact addCycle_inv2 hs1 h2 (tailEven_append hr2.te (Or.inl (by decide)))
  · have h21 := addCycle_inv2 hs1 h2 (combine_tailEven hr2' (combine_tailEven hr1 hr2.te))
    rcases hres with rfl | ⟨k, k', b, hk, hns, rfl⟩
    · exact h21
    · exact inv2_setPartial h21 (hl hk) (hns.goodF hg h2 hr hr2 (hpq.perm hk).dvd)
  · exact inv2_setPartial (s := { s with nCombined12 := s.nCombined12 + 1 }) ⟨h2.par, h2.dbl, h2.cyc⟩
      (hl hk) (hns.goodF hg h2 hr hr2 (hpq.perm hk).dvd)
  · exact h2

theorem inv2_erase_double {s : Store} (hi : Inv2 s) (p q : Nat) : Inv2 (s.eraseDouble p q) :=
  ⟨hi.par, fun e he => hi.dbl e (mem_aerase.mp he).1, hi.cyc⟩

theorem removeStep_inv2 {p q : Nat} {s : Store} {res : StepRes × Store} (hg : Good s) (h2 : Inv2 s)
    (h : removeStep p q s = .ok res) : Inv2 res.2 := by
  rcases removeStep_ok h with ⟨_, rfl⟩ | ⟨blob, r, st, hl, hu, hst, _, rfl⟩
  · exact h2
  · obtain ⟨_, _, _, _, hc, hr⟩ := hg.1.double hl hu
    obtain ⟨hlp, hlq, hgf⟩ := h2.dbl _ (alookup_mem hl)
    exact step_inv2 hst ⟨inv_erase_double hg.1 p q, hg.2⟩ (inv2_erase_double h2 p q) hr
      (relOK2_of_unpack hu hgf) hc hlp hlq

theorem inv2_stepRel : StepRel (fun s => Good s ∧ Inv2 s) (fun s s' => Keeps s s' ∧ Inv2 s') :=
  ⟨fun _ h => ⟨Keeps.refl h.1.1, h.2⟩, fun h1 h2 => ⟨h1.1.trans h2.1, h2.2⟩,
    fun h r => ⟨h.1.of_keeps r.1, r.2⟩,
    fun h hrs => ⟨removeStep_keeps h.1 hrs, removeStep_inv2 h.1 h.2 hrs⟩⟩

/-- The callers' contract of `add`, complete form (no-panic part included; it goes with `Inv2` as
`InputOK` goes with `Inv`): the validity contract `InputOK`, `x < n` (the code's debug assertion), factor entries in the encoder's domain, a positive
cycle length, and usable large primes: the cofactor itself when it is treated as a single large
prime, the supplied pair when it is treated as a double. -/
structure InputOK2 (s : Store) (r : Relation) (pq : Option (Nat × Nat)) : Prop where
  base : InputOK s.n r pq
  xlt : r.x < s.n
  fok : FOK r.factors
  clen : 0 < r.cyclelen
  single : r.cofactor ≠ 1 → r.cofactor < s.maxlarge → LargeOK r.cofactor
  pairOK : ∀ p q, pq = some (p, q) → s.maxlarge ≤ r.cofactor → LargeOK p ∧ LargeOK q
  te : TailEven r.factors

/-- `InputOK2`, for every store with modulus `n` and `maxlarge = m`, in a form that `decide`
evaluates on a concrete relation -/
theorem InputOK2.of_dec {n m : Nat} {r : Relation} {pq : Option (Nat × Nat)}
    (h : (Typed r ∧ Valid n r ∧ NoOne r.factors ∧ ∀ k ∈ pq, r.cofactor = k.1 * k.2 ∧ k.1 ≠ 1 ∧ k.2 ≠ 1) ∧
      r.x < n ∧ FOK r.factors ∧ 0 < r.cyclelen ∧ (r.cofactor ≠ 1 → r.cofactor < m → LargeOK r.cofactor) ∧
      (∀ k ∈ pq, m ≤ r.cofactor → LargeOK k.1 ∧ LargeOK k.2) ∧ TailEven r.factors)
    (s : Store) (hn : s.n = n) (hm : s.maxlarge = m) : InputOK2 s r pq := by
  subst hn; subst hm
  exact ⟨InputOK.of_dec h.1, h.2.1, h.2.2.1, h.2.2.2.1, h.2.2.2.2.1,
    fun p q e => h.2.2.2.2.2.1 (p, q) e, h.2.2.2.2.2.2⟩

theorem InputOK2.rel {s : Store} {r : Relation} {pq : Option (Nat × Nat)} (h : InputOK2 s r pq) :
    RelOK2 r := ⟨h.fok, h.clen, h.te⟩

theorem inv2_insertDouble {s : Store} (h2 : Inv2 s) {p q : Nat} {b : List Nat} (hp : LargeOK p)
    (hq : LargeOK q) (hg : GoodF b) : Inv2 (s.insertDouble p q b) := by
  refine ⟨h2.par, ?_, h2.cyc⟩
  intro e he
  rcases mem_ainsert.mp he with he | ⟨he, _⟩
  · subst he
    by_cases hlt : p < q
    · simp only [if_pos hlt]; exact ⟨hp, hq, hg⟩
    · simp only [if_neg hlt]; exact ⟨hq, hp, hg⟩
  · exact h2.dbl e he

theorem head_inv2 {r : Relation} {pq : Option (Nat × Nat)} {s : Store} {h1 : StepRes × Store}
    (h : addHead r pq s = .ok h1) (hg : Good s) (h2 : Inv2 s) (hin : InputOK2 s r pq) :
    Inv2 h1.2 := by
  have hr := hin.base.rel
  have hr2 := hin.rel
  rcases (addHead_ok h).2 with ⟨_, _, h1'⟩ | ⟨hc1, hlt, res, hres, hcs⟩ | ⟨_, _, _, rfl⟩ |
    ⟨_, hge, p, q, rfl, _, _, hdd⟩
  · exact addCycle_inv2 h1' h2 hin.te
  · have j1 := single_inv2 (s := { s with nPartials := s.nPartials + 1 }) hres
      ⟨h2.par, h2.dbl, h2.cyc⟩ hr hr2
    rcases hcs with ⟨_, rfl⟩ | ⟨_, _, b, hb, rfl⟩
    · exact j1
    · exact inv2_setPartial j1 (hin.single hc1 hlt) (goodF_of_pack hb hr.typed hr.noOne hr2)
  · exact h2
  · obtain ⟨hp, hq⟩ := hin.pairOK p q rfl (by omega)
    have h20 : Inv2 { s with nDoubles := s.nDoubles + 1 } := ⟨h2.par, h2.dbl, h2.cyc⟩
    rcases hdd with ⟨st, hst, _, rfl⟩ | ⟨_, _, _, b, hb, rfl⟩
    · exact step_inv2 hst (hg.counters rfl rfl rfl rfl rfl) h20 hr hr2 (hin.base.pair p q rfl).1 hp hq
    · exact inv2_insertDouble h20 hp hq (goodF_of_pack hb hr.typed hr.noOne hr2)

theorem addWith_inv2 {wk : Nat → Store → M Store} (hwk : IsWalk wk) {r : Relation}
    {pq : Option (Nat × Nat)} {s s' : Store} (h : addWith wk r pq s = .ok s') (hg : Good s)
    (h2 : Inv2 s) (hin : InputOK2 s r pq) : Inv2 s' := by
  obtain ⟨h1, hh, hs⟩ := addWith_eq_ok.mp h
  exact (inv2_stepRel.serve_isWalk hwk ⟨hg, h2⟩ ⟨head_keeps hh hg hin.base, head_inv2 hh hg h2 hin⟩ hs).2

/-- contract of a whole history, complete form (`InputOK2` of every entry) -/
def HistoryOK2 (n maxlarge : Nat) (ops : List (Relation × Option (Nat × Nat))) : Prop :=
  ∀ op ∈ ops, ∀ s : Store, s.n = n → s.maxlarge = maxlarge → InputOK2 s op.1 op.2

theorem addWith_step2 {wk : Nat → Store → M Store} (hwk : IsWalk wk) {s s' : Store}
    {r : Relation} {pq : Option (Nat × Nat)} (hp : Good s ∧ Inv2 s)
    (hc : ∀ s1 : Store, s1.n = s.n → s1.maxlarge = s.maxlarge → InputOK2 s1 r pq)
    (h : addWith wk r pq s = .ok s') :
    (Good s' ∧ Inv2 s') ∧ s'.n = s.n ∧ s'.maxlarge = s.maxlarge := by
  have hin := hc s rfl rfl
  have hk := addWith_keeps hwk h hp.1 hin.base
  exact ⟨⟨hp.1.of_keeps hk, addWith_inv2 hwk h hp.1 hp.2 hin⟩, hk.1, hk.2.1⟩

theorem IsRun.inv2 {run : List (Relation × Option (Nat × Nat)) → Store → M Store}
    {wk : Nat → Store → M Store} (hrun : IsRun run wk) (hwk : IsWalk wk)
    (ops : List (Relation × Option (Nat × Nat))) (s s' : Store) (h : run ops s = .ok s') (hg : Good s)
    (h2 : Inv2 s) (hok : HistoryOK2 s.n s.maxlarge ops) : Inv2 s' :=
  (hrun.ind (P := fun _ s1 => Good s1 ∧ Inv2 s1)
    (C := fun n m op => ∀ s1 : Store, s1.n = n → s1.maxlarge = m → InputOK2 s1 op.1 op.2)
    (addWith_step2 hwk) ops 0 s s' ⟨hg, h2⟩ hok h).2

end Ymq.Relations
