/-
The word-exact `FInt` model (Ymq/Model/FInt.lean): the ripple loops,
`_sub_slices`, `reduce`, `add_small`, `add_assign`, `sub_assign`, `add`, `sub`, `butterfly`.
Every statement has the shape: on well-formed `N`-word inputs (`WfN`) the model returns
`some r` (no panic site), `r` is well formed and in the normal form of the code (`Norm`), and
its value is congruent modulo `F = 2^(64N)+1` to the expected one.
-/
import Ymq.Model.FInt
import Ymq.Lemmas.Limbs
import Mathlib.Data.Nat.ModEq
import Mathlib.Tactic.LinearCombination

namespace Ymq.FInt
open Ymq.Limbs

/-- the code's normal form: `top = 0`, or `top = 1` and all words zero -/
def Norm (x : FI) : Prop := x.top = 0 ∨ (x.top = 1 ∧ val x.ws = 0)

/-- `N` words below `2^64`; nothing is said of the top word (`Norm`, or a bound on `x.top`, comes separately) -/
def WfN (N : Nat) (x : FI) : Prop := x.ws.length = N ∧ Wf x.ws

/-- `n` well-formed words: what `WfN N x` says of `x.ws` (both unfold to the same conjunction), for the bare word
lists the slice routines work on. The word-level lemmas take `n` as a parameter, so that no caller rewrites lengths. -/
def Sl (n : Nat) (l : List Nat) : Prop := l.length = n ∧ Wf l

namespace Sl
variable {n m a b : Nat} {l x y : List Nat}

theorem lt (h : Sl n l) : val l < W ^ n := h.1 ▸ val_lt h.2

theorem zeros (k : Nat) : Sl k (zeros k) := ⟨zeros_length k, Wf_zeros k⟩

theorem single (h : a < W) : Sl 1 [a] := ⟨rfl, fun x hx => by rw [List.mem_singleton.1 hx]; exact h⟩

theorem compl (h : Sl n l) : Sl n (compl l) := ⟨(compl_length l).trans h.1, compl_Wf l⟩

theorem append (hx : Sl a x) (hy : Sl b y) : Sl (a + b) (x ++ y) :=
  ⟨by rw [List.length_append, hx.1, hy.1], Wf_append.2 ⟨hx.2, hy.2⟩⟩

theorem cast (h : Sl n l) (e : n = m) : Sl m l := e ▸ h

theorem cons_iff : Sl (n + 1) (a :: l) ↔ a < W ∧ Sl n l := by
  unfold Sl; rw [List.length_cons, Nat.add_right_cancel_iff, Wf_cons]; tauto

theorem uncons (h : Sl n l) (hn : 0 < n) : ∃ a t, l = a :: t ∧ a < W ∧ Sl (n - 1) t := by
  obtain ⟨n, rfl⟩ : ∃ m, n = m + 1 := ⟨n - 1, by omega⟩
  match l, h with
  | a :: t, h => exact ⟨a, t, rfl, cons_iff.1 h⟩

theorem take {k : Nat} (h : Sl n l) (hk : k ≤ n) : Sl k (l.take k) :=
  ⟨by rw [List.length_take, h.1]; omega, Wf_take h.2 _⟩

theorem drop (h : Sl n l) (k : Nat) : Sl (n - k) (l.drop k) := ⟨by rw [List.length_drop, h.1], Wf_drop h.2 _⟩

theorem split (h : Sl (a + b) l) :
    Sl a (l.take a) ∧ Sl b (l.drop a) ∧ val l = val (l.take a) + W ^ a * val (l.drop a) :=
  ⟨h.take (Nat.le_add_right a b), (h.drop a).cast (Nat.add_sub_cancel_left ..), val_take_drop l a⟩

theorem halves (h : Sl (2 * a) l) :
    Sl a (l.take a) ∧ Sl a (l.drop a) ∧ val l = val (l.take a) + W ^ a * val (l.drop a) :=
  (h.cast (Nat.two_mul a)).split

end Sl

theorem chain_cons {P a a' v v' c c' b : Nat} (hh : a' + c = a + W * c') (ht : v' + c' = v + P * b) :
    a' + W * v' + c = a + W * v + P * W * b := by
  linear_combination hh + W * ht

theorem subRipple_spec {n : Nat} {z : List Nat} (c : Nat) (hz : Sl n z) (hc : c ≤ W) :
    ∃ d b, subRipple z c = (d, b) ∧ Sl n d ∧ ((0 < n ∨ c ≤ 1) → b ≤ 1) ∧ val d + c = val z + W ^ n * b := by
  induction z generalizing n c with
  | nil =>
    obtain rfl : 0 = n := hz.1
    exact ⟨[], c, rfl, hz, by omega, by simp⟩
  | cons a l ih =>
    obtain ⟨n, rfl⟩ : ∃ m, n = m + 1 := ⟨l.length, hz.1.symm⟩
    have ⟨ha, hl⟩ := Sl.cons_iff.1 hz
    unfold subRipple
    by_cases h : a ≥ c
    · rw [if_pos h]
      exact ⟨_, 0, rfl, Sl.cons_iff.2 ⟨by omega, hl⟩, fun _ => by omega, by rw [val_cons, val_cons]; omega⟩
    · rw [if_neg h]
      obtain ⟨d, b, hr, sd, h4, h1⟩ := ih 1 hl (by have := W_pos; omega)
      refine ⟨_, b, by rw [hr], Sl.cons_iff.2 ⟨by omega, sd⟩, fun _ => h4 (Or.inr le_rfl), ?_⟩
      rw [val_cons, val_cons, pow_succ]
      exact chain_cons (c' := 1) (by omega) h1

theorem addRipple_spec {n : Nat} {z : List Nat} (c : Nat) (hz : Sl n z) (hc : c ≤ W) :
    ∃ d b, addRipple z c = (d, b) ∧ Sl n d ∧ ((0 < n ∨ c ≤ 1) → b ≤ 1) ∧ val d + W ^ n * b = val z + c := by
  induction z generalizing n c with
  | nil =>
    obtain rfl : 0 = n := hz.1
    exact ⟨[], c, rfl, hz, by omega, by simp⟩
  | cons a l ih =>
    obtain ⟨n, rfl⟩ : ∃ m, n = m + 1 := ⟨l.length, hz.1.symm⟩
    have ⟨ha, hl⟩ := Sl.cons_iff.1 hz
    unfold addRipple
    by_cases h : a + c < W
    · rw [if_pos h]
      exact ⟨_, 0, rfl, Sl.cons_iff.2 ⟨h, hl⟩, fun _ => by omega, by rw [val_cons, val_cons]; omega⟩
    · rw [if_neg h]
      obtain ⟨d, b, hr, sd, h4, h1⟩ := ih 1 hl (by have := W_pos; omega)
      refine ⟨_, b, by rw [hr], Sl.cons_iff.2 ⟨by omega, sd⟩, fun _ => h4 (Or.inr le_rfl), ?_⟩
      rw [val_cons, val_cons, pow_succ]
      exact (chain_cons (c' := 1) (by omega) h1.symm).symm

theorem subSlices_spec {n c : Nat} {z x : List Nat} (hz : Sl n z) (hx : Sl n x) (hc : c ≤ 1) :
    ∃ d b, subSlices z x c = (d, b) ∧ Sl n d ∧ b ≤ 1 ∧ val d + val x + c = val z + W ^ n * b := by
  induction z generalizing n x c with
  | nil =>
    obtain rfl : 0 = n := hz.1
    obtain rfl : x = [] := List.length_eq_zero_iff.1 hx.1
    exact ⟨[], c, rfl, hz, hc, by simp⟩
  | cons a l ih =>
    obtain ⟨n, rfl⟩ : ∃ m, n = m + 1 := ⟨l.length, hz.1.symm⟩
    obtain ⟨y, ys, rfl, hy, hys⟩ := hx.uncons (Nat.succ_pos n)
    have ⟨ha, hl⟩ := Sl.cons_iff.1 hz
    -- all three branches store a word `a'` and pass a borrow `c'` on, with `a' + y + c = a + W * c'`
    have step : ∀ a' c', c' ≤ 1 → a' < W → a' + y + c = a + W * c' →
        ∃ d b, (a' :: (subSlices l ys c').1, (subSlices l ys c').2) = (d, b) ∧ Sl (n + 1) d ∧ b ≤ 1 ∧
          val d + val (y :: ys) + c = val (a :: l) + W ^ (n + 1) * b := by
      intro a' c' hc' ha' hh
      obtain ⟨d, b, hr, sd, e4, e1⟩ := ih hl hys hc'
      refine ⟨a' :: d, b, by rw [hr], Sl.cons_iff.2 ⟨ha', sd⟩, e4, ?_⟩
      rw [val_cons, val_cons, val_cons, pow_succ]
      linear_combination hh + W * e1
    unfold subSlices
    by_cases h1 : y + c ≥ W
    · rw [if_pos h1]; exact step a 1 le_rfl ha (by omega)
    · rw [if_neg h1]
      by_cases h2 : a ≥ y + c
      · rw [if_pos h2]; exact step _ 0 (by omega) (by omega) (by omega)
      · rw [if_neg h2]; exact step _ 1 le_rfl (by omega) (by omega)

theorem addc_words {n c : Nat} {xs ys : List Nat} (hx : Sl n xs) (hy : Sl n ys) (hc : c ≤ 1) :
    ∃ d k, addc xs ys c = (d, k) ∧ Sl n d ∧ k ≤ 1 ∧ val d + W ^ n * k = val xs + val ys + c := by
  obtain ⟨e1, e2, e3⟩ := addc_spec xs ys c (hx.1.trans hy.1.symm)
  rw [hx.1] at e1 e2
  refine ⟨_, _, rfl, ⟨e2, e3⟩, ?_, e1⟩
  have h1 := hx.lt
  have h2 := hy.lt
  by_contra hcon
  have : W ^ n * 2 ≤ W ^ n * (addc xs ys c).2 := Nat.mul_le_mul_left _ (by omega)
  omega

theorem modEq_of_eq {F a b k1 k2 : Nat} (h : a + F * k1 = b + F * k2) : a ≡ b [MOD F] := by
  have h1 : (a + F * k1) % F = a % F := Nat.add_mul_mod_self_left a F k1
  have h2 : (b + F * k2) % F = b % F := Nat.add_mul_mod_self_left b F k2
  unfold Nat.ModEq
  rw [← h1, ← h2, h]

theorem FI.value_mk (ws : List Nat) (t : Nat) : (FI.mk ws t).value = val ws + W ^ ws.length * t := rfl

theorem norm_zero_top {x : FI} (h : x.top = 0) : Norm x := Or.inl h

theorem reduce_spec' {N : Nat} (x : FI) (hN : 0 < N) (hx : WfN N x) (ht : x.top < W) :
    ∃ r, reduce x = some r ∧ WfN N r ∧ Norm r ∧ r.value ≡ x.value [MOD Fmod N] := by
  obtain ⟨ws, t⟩ := x
  obtain ⟨z0, zs, rfl, hz0, hzs⟩ := Sl.uncons hx hN
  simp only at ht
  unfold reduce
  simp only
  by_cases h : z0 ≥ t
  · rw [if_pos h]
    refine ⟨_, rfl, ⟨hx.1, Wf_cons.2 ⟨by omega, hzs.2⟩⟩, Or.inl rfl, ?_⟩
    apply modEq_of_eq (k1 := t) (k2 := 0)
    obtain ⟨d, rfl⟩ : ∃ d, z0 = d + t := ⟨z0 - t, by omega⟩
    simp only [FI.value_mk, val_cons, Fmod, ← hx.1, List.length_cons, Nat.add_sub_cancel]
    ring
  · rw [if_neg h]
    obtain ⟨d, b, hr, sd, e4, e1⟩ := subRipple_spec t hx (le_of_lt ht)
    have hb := e4 (Or.inl hN)
    obtain ⟨u, rfl⟩ : ∃ u, t = u + 1 := ⟨t - 1, by omega⟩
    rw [hr]
    simp only
    obtain rfl | rfl : b = 0 ∨ b = 1 := by omega
    · rw [if_neg (by decide)]
      refine ⟨_, rfl, sd, Or.inl rfl, ?_⟩
      apply modEq_of_eq (k1 := u + 1) (k2 := 0)
      simp only [FI.value_mk, Fmod, sd.1, hx.1]
      linear_combination e1
    · rw [if_pos rfl]
      -- `d + 1` is `W^N - u ≤ W^N`: a carry out of the increment leaves all words zero
      obtain ⟨d', c', hr', sd', a4, a1⟩ := addRipple_spec 1 sd (by decide)
      have hc := a4 (Or.inr le_rfl)
      have hlt := sd.lt
      rw [hr']
      refine ⟨_, rfl, sd', ?_, ?_⟩
      · obtain rfl | rfl : c' = 0 ∨ c' = 1 := by omega
        · exact Or.inl rfl
        · exact Or.inr ⟨rfl, by simp only; omega⟩
      · apply modEq_of_eq (k1 := u) (k2 := 0)
        simp only [FI.value_mk, Fmod, sd'.1, hx.1]
        linear_combination a1 + e1

theorem addSmall_spec' {N : Nat} (a : FI) (x : Nat) (hN : 0 < N) (ha : WfN N a) (hx : x < W)
    (ht : a.top + 1 < W) :
    ∃ r, addSmall a x = some r ∧ WfN N r ∧ r.value = a.value + x ∧ r.top ≤ a.top + 1 := by
  obtain ⟨ws, t⟩ := a
  obtain ⟨N, rfl⟩ : ∃ M, N = M + 1 := ⟨N - 1, by omega⟩
  obtain ⟨z0, zs, rfl, hz0, hzs⟩ := Sl.uncons ha hN
  rw [Nat.add_sub_cancel] at hzs
  simp only at ht
  unfold addSmall
  simp only
  have hcW : (z0 + x) / W ≤ 1 := by
    have := Nat.div_lt_of_lt_mul (show z0 + x < W * 2 by omega)
    omega
  obtain ⟨d, c, hr, sd, a4, a1⟩ := addRipple_spec ((z0 + x) / W) hzs (by have := W_pos; omega)
  have hc := a4 (Or.inr hcW)
  have hdm := Nat.div_add_mod (z0 + x) W
  rw [hr]
  simp only
  -- in both branches the new top word is `t + c`
  have key : ∀ t', t' = t + c → WfN (N + 1) ⟨(z0 + x) % W :: d, t'⟩ ∧
      (FI.mk ((z0 + x) % W :: d) t').value = (FI.mk (z0 :: zs) t).value + x ∧ t' ≤ t + 1 := by
    rintro t' rfl
    refine ⟨Sl.cons_iff.2 ⟨Nat.mod_lt _ W_pos, sd⟩, ?_, by omega⟩
    simp only [FI.value_mk, val_cons, List.length_cons, sd.1, hzs.1, pow_succ]
    linear_combination hdm + W * a1
  obtain rfl | rfl : c = 0 ∨ c = 1 := by omega
  · rw [if_pos rfl]
    exact ⟨_, rfl, key t rfl⟩
  · rw [if_neg (by decide), if_neg (by omega)]
    exact ⟨_, rfl, key (t + 1) rfl⟩

theorem addOneIf_spec {N : Nat} (p : Prop) [Decidable p] (a : FI) (hN : 0 < N) (ha : WfN N a)
    (ht : a.top + 1 < W) :
    ∃ r, (if p then addSmall a 1 else some a) = some r ∧ WfN N r ∧
      r.value = a.value + (if p then 1 else 0) ∧ r.top ≤ a.top + 1 := by
  by_cases hp : p
  · simp only [hp, if_true]
    exact addSmall_spec' a 1 hN ha (by decide) ht
  · simp only [hp, if_false]
    exact ⟨a, rfl, ha, rfl, by omega⟩

theorem ite_one_zero {b : Nat} (hb : b ≤ 1) : (if b = 1 then 1 else 0) = b := by
  obtain rfl | rfl : b = 0 ∨ b = 1 := by omega
  all_goals rfl

theorem addAssign_spec' {N : Nat} (x y : FI) (hN : 0 < N) (hx : WfN N x) (hy : WfN N y)
    (ht : x.top + y.top + 1 < W) :
    ∃ r, addAssign x y = some r ∧ WfN N r ∧ Norm r ∧ r.value ≡ x.value + y.value [MOD Fmod N] := by
  unfold addAssign
  obtain ⟨d, c, hr, sd, hc, e1⟩ := addc_words hx hy (c := 0) (by omega)
  rw [hr]
  simp only
  rw [if_neg (by omega)]
  obtain ⟨r, hr, hw, hn, hv⟩ := reduce_spec' ⟨d, x.top + (c + y.top)⟩ hN sd (by simp only; omega)
  have heq : (FI.mk d (x.top + (c + y.top))).value = x.value + y.value := by
    simp only [FI.value, sd.1, hx.1, hy.1]
    linear_combination e1
  rw [heq] at hv
  exact ⟨r, hr, hw, hn, hv⟩

theorem norm_top_le {x : FI} (h : Norm x) : x.top ≤ 1 := by
  rcases h with h | ⟨h, _⟩ <;> omega

theorem W_gt : 3 < W := by decide

theorem subAssign_spec' {N : Nat} (x y : FI) (hN : 0 < N) (hx : WfN N x) (hy : WfN N y)
    (hny : Norm y) (ht : x.top + 2 < W) :
    ∃ r, subAssign x y = some r ∧ WfN N r ∧ Norm r ∧ r.value + y.value ≡ x.value [MOD Fmod N] := by
  unfold subAssign
  -- the words `d` and the borrow `b` of the subtraction; `y = W^N ≡ -1` counts as a borrow
  obtain ⟨d, b, hr, hd, hb, hv⟩ : ∃ d b, (if y.top = 1 then (x.ws, 1) else subSlices x.ws y.ws 0) = (d, b) ∧
      WfN N ⟨d, x.top⟩ ∧ b ≤ 1 ∧ val d + b + y.value = val x.ws + Fmod N * b := by
    by_cases hy1 : y.top = 1
    · have hvy : val y.ws = 0 := by rcases hny with h | ⟨_, h⟩; omega; exact h
      rw [if_pos hy1]
      refine ⟨_, _, rfl, hx, le_rfl, ?_⟩
      simp only [FI.value, hvy, hy1, hy.1, Fmod]
      ring
    · have hy0 : y.top = 0 := by have := norm_top_le hny; omega
      rw [if_neg hy1]
      obtain ⟨d, b, hr, sd, e4, e1⟩ := subSlices_spec hx hy (c := 0) (by omega)
      refine ⟨d, b, hr, sd, e4, ?_⟩
      simp only [FI.value, hy0, Fmod]
      linear_combination e1
  rw [hr]
  simp only
  obtain ⟨r1, hr1, hw1, hv1, ht1⟩ := addOneIf_spec (b = 1) ⟨d, x.top⟩ hN hd (by simp only; omega)
  rw [hr1]
  obtain ⟨r, hr, hw, hn, hvr⟩ := reduce_spec' r1 hN hw1 (by simp only at ht1; omega)
  refine ⟨r, hr, hw, hn, (hvr.add_right _).trans ?_⟩
  apply modEq_of_eq (k1 := 0) (k2 := b)
  rw [hv1, ite_one_zero hb]
  simp only [FI.value, hd.1, hx.1] at hv ⊢
  linear_combination hv

theorem isReduced_of_norm {x : FI} (h : Norm x) : isReduced x = true := by
  unfold isReduced
  rcases h with h | ⟨h1, h2⟩
  · simp [h]
  · simp [h1, allZero_of_val_eq_zero _ h2]

theorem add_spec' {N : Nat} (x y : FI) (hN : 0 < N) (hx : WfN N x) (hy : WfN N y)
    (hnx : Norm x) (hny : Norm y) :
    ∃ r, add x y = some r ∧ WfN N r ∧ Norm r ∧ r.value ≡ x.value + y.value [MOD Fmod N] := by
  unfold add
  simp only [isReduced_of_norm hnx, isReduced_of_norm hny, Bool.not_true, Bool.or_self, Bool.false_eq_true, if_false]
  have := norm_top_le hnx; have := norm_top_le hny; have := W_gt
  exact addAssign_spec' x y hN hx hy (by omega)

theorem sub_spec' {N : Nat} (x y : FI) (hN : 0 < N) (hx : WfN N x) (hy : WfN N y)
    (hnx : Norm x) (hny : Norm y) :
    ∃ r, sub x y = some r ∧ WfN N r ∧ Norm r ∧ r.value + y.value ≡ x.value [MOD Fmod N] := by
  unfold sub
  simp only [isReduced_of_norm hnx, isReduced_of_norm hny, Bool.not_true, Bool.or_self, Bool.false_eq_true, if_false]
  have := norm_top_le hnx; have := W_gt
  exact subAssign_spec' x y hN hx hy hny (by omega)

theorem butterfly_spec' {N : Nat} (x y : FI) (hN : 0 < N) (hx : WfN N x) (hy : WfN N y)
    (hnx : Norm x) (hny : Norm y) :
    ∃ a b, butterfly x y = some (a, b) ∧ WfN N a ∧ WfN N b ∧ Norm a ∧ Norm b ∧
      a.value ≡ x.value + y.value [MOD Fmod N] ∧ b.value + y.value ≡ x.value [MOD Fmod N] := by
  unfold butterfly
  by_cases h1 : x.top = 1 ∨ y.top = 1
  · simp only [h1, if_true]
    obtain ⟨a, ha, hwa, hna, hva⟩ := add_spec' x y hN hx hy hnx hny
    obtain ⟨b, hb, hwb, hnb, hvb⟩ := sub_spec' x y hN hx hy hnx hny
    rw [ha, hb]
    exact ⟨a, b, rfl, hwa, hwb, hna, hnb, hva, hvb⟩
  · simp only [h1, if_false]
    have hx0 : x.top = 0 := by have := norm_top_le hnx; omega
    have hy0 : y.top = 0 := by have := norm_top_le hny; omega
    obtain ⟨da, ca, hra, sda, e4, e1⟩ := addc_words hx hy (c := 0) (by omega)
    obtain ⟨ds, cs, hrs, sds, s4, s1⟩ := addc_words hx (Sl.compl hy) (c := 1) le_rfl
    have hcv := compl_val y.ws hy.2
    rw [hy.1] at hcv
    have hW := W_gt
    simp only [subc, hra, hrs]
    rw [if_neg (by omega)]
    obtain ⟨a, ha, hwa, hna, hva⟩ := reduce_spec' ⟨da, x.top + ca⟩ hN sda (by simp only; omega)
    -- no carry out of `x + !y + 1` means `x < y`: the difference is taken modulo `W^N` and one is added
    obtain ⟨r1, hr1, hw1, hv1, ht1⟩ := addOneIf_spec (cs = 0) ⟨ds, y.top⟩ hN sds (by simp only; omega)
    obtain ⟨b, hb, hwb, hnb, hvb⟩ := reduce_spec' r1 hN hw1 (by simp only at ht1; omega)
    rw [hr1]
    simp only [ha, hb]
    have heq : (FI.mk da (x.top + ca)).value = x.value + y.value := by
      simp only [FI.value, hx0, hy0, sda.1, hx.1, hy.1]
      linear_combination e1
    rw [heq] at hva
    refine ⟨a, b, rfl, hwa, hwb, hna, hnb, hva, (hvb.add_right _).trans ?_⟩
    · apply modEq_of_eq (k1 := 0) (k2 := 1 - cs)
      rw [hv1]
      simp only [FI.value, hy0, hx0, hy.1, hx.1, Fmod, sds.1]
      obtain rfl | rfl : cs = 0 ∨ cs = 1 := by omega
      · simp only [if_true]; linear_combination s1 + hcv
      · simp only [one_ne_zero, if_false]; linear_combination s1 + hcv

end Ymq.FInt
