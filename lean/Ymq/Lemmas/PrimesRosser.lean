/-
The Rosser-type bound `p_k < k·bitlen k` that `fbase::primes` relies on, checked in the kernel for
the first 564 primes (all primes below 4096), which are computed by `coprimesFrom` (C17).
-/
import Mathlib.Data.Nat.Prime.Nth
import Ymq.Lemmas.PrimesCount
import Ymq.Lemmas.PrimesTop

namespace Ymq.Primes
open Nat

/-- `l[i] < (k0 + i)·bitlen(k0 + i)` for every `i` with `k0 + i ≥ 2` -/
def rosserOK : Nat → List Nat → Bool
  | _, [] => true
  | k, p :: ps => (Nat.blt k 2 || Nat.blt p (k * bitlen k)) && rosserOK (k + 1) ps

theorem rosserOK_spec : ∀ (l : List Nat) (k0 : Nat), rosserOK k0 l = true →
    ∀ i (hi : i < l.length), 2 ≤ k0 + i → l[i] < (k0 + i) * bitlen (k0 + i) := by
  intro l
  induction l with
  | nil => intro k0 _ i hi; simp at hi
  | cons p ps ih =>
    intro k0 h i hi h2
    rw [rosserOK, Bool.and_eq_true, Bool.or_eq_true, Nat.blt_eq, Nat.blt_eq] at h
    cases i with
    | zero =>
      rcases h.1 with h1 | h1
      · omega
      · simpa using h1
    | succ i =>
      have := ih (k0 + 1) h.2 i (by simpa using hi) (by omega)
      rw [show k0 + 1 + i = k0 + (i + 1) by omega] at this
      simpa using this

/-- the primes below 4096, in computable form -/
def small564 : List Nat := first90 ++ coprimesFrom 63 ! 1 464 3632

theorem primesBelow_4096 : primesBelow 4096 = small564 := by
  rw [primesBelow_append 464 3632, primesBelow_464,
    primesFrom_eq_coprimesFrom 63 _ _ (by decide) (by decide)]
  rfl

attribute [irreducible] small564

theorem small564_length : small564.length = 564 := by decide +kernel

theorem small564_rosser : rosserOK 1 small564 = true := by decide +kernel

theorem rosser_564 (k : Nat) (h2 : 2 ≤ k) (hk : k ≤ 564) :
    Nat.nth Nat.Prime (k - 1) < k * bitlen k := by
  have hi : k - 1 < small564.length := by rw [small564_length]; omega
  have := rosserOK_spec small564 1 small564_rosser (k - 1) hi (by omega)
  rw [show 1 + (k - 1) = k by omega] at this
  have hl := primesBelow_4096
  rw [primesBelow_eq_map_nth] at hl
  simpa [← hl] using this

end Ymq.Primes
