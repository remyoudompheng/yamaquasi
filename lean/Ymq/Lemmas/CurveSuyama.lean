/-
Closure of `Suyama11::double` and `Suyama11::add_g` (ecm.rs) on the projective Weierstrass curve
`y² z = x³ + a x z² + b z³`.
-/
import Ymq.Lemmas.CurveDefs

namespace Ymq.Curve
open Ymq.Gen.Curves
variable {R : Type} [CommRing R]

theorem suyama_double_closed (a b gx gy : R) (p : Pt R) (h1 : suyamaIsValid a b gx gy p) :
    suyamaIsValid a b gx gy (suyamaDouble a b gx gy p) := by
  obtain ⟨X1, Y1, Z1⟩ := p
  simp only [suyamaDouble, suyamaIsValid, suyamaIsValidSides] at h1 ⊢
  linear_combination (512*Y1^9*Z1^6) * h1

theorem suyama_add_g_closed (a b gx gy : R) (p : Pt R) (h1 : suyamaIsValid a b gx gy p)
    (hg : suyamaIsValid a b gx gy ⟨gx, gy, 1⟩) : suyamaIsValid a b gx gy (suyamaAddG a b gx gy p) := by
  obtain ⟨X1, Y1, Z1⟩ := p
  simp only [suyamaAddG, suyamaIsValid, suyamaIsValidSides] at h1 hg ⊢
  -- in the coordinates `u = gy Z - Y`, `v = gx Z - X` of the code (the generator at the origin)
  -- the curve equation has six terms and the cofactors three
  obtain ⟨u, rfl⟩ : ∃ u, Y1 = gy * Z1 - u := ⟨gy * Z1 - Y1, by ring⟩
  obtain ⟨v, rfl⟩ : ∃ v, X1 = gx * Z1 - v := ⟨gx * Z1 - X1, by ring⟩
  linear_combination (-(v ^ 6 * (u ^ 2 * Z1 + v ^ 3 - 3 * gx * Z1 * v ^ 2))) * h1
    + (v ^ 6 * Z1 ^ 3 * (u ^ 2 * Z1 + 2 * v ^ 3 - 3 * gx * Z1 * v ^ 2)) * hg

end Ymq.Curve
