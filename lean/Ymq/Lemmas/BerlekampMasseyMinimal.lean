/-
Minimality of the polynomial returned by the Berlekamp–Massey model: when the sequence satisfies
a recurrence of order `L` with `2L ≤ n`, the returned vector has degree at most `L` and
annihilates the sequence from index `L` on (not only on the window `n/2 ≤ i < n`): it is the
connection polynomial of the rational function in lowest terms.
-/
import Ymq.Lemmas.BerlekampMasseySpec
import Mathlib.Algebra.Polynomial.Inductions
import Mathlib.RingTheory.Coprime.Lemmas

namespace Ymq.BM
open Polynomial

variable {p : ℕ} {o : Ops} {κ : ZMod p}

theorem core_minimal_dvd [Fact p.Prime] (ok : OpsOK o p κ) (seq : List ℕ) (hr : Red p seq)
    {i j : ℕ}
    (hij : i < j) (hi : gd seq i ≠ 0) (hj : gd seq j ≠ 0) (T : (ZMod p)[X]) (hT0 : T.coeff 0 ≠ 0)
    (L : ℕ) (hL : 2 * L ≤ seq.length) (hTd : T.natDegree ≤ L)
    (hTa : ∀ i, L ≤ i → i < seq.length → (T * toPoly p seq).coeff i = 0)
    (out : List ℕ) (h : core o seq = some out) :
    ∃ A : (ZMod p)[X], T = toPoly p out * A ∧ (∀ j, L < j → gd out j = 0) ∧
      ∀ i, L ≤ i + A.natDegree → i < seq.length →
        (toPoly p out * toPoly p seq).coeff i = 0 := by
  obtain ⟨hn, s', c, inv, hdf, hu0, hcne, _, g3, _, hP⟩ := core_some ok seq hr hij hi hj out h
  obtain ⟨a, b, cc, hc, e1, e2, e3⟩ := inv.gh
  have hdu : s'.du ≤ seq.length - seq.length / 2 := by
    have := inv.b1; have := inv.hm; omega
  obtain ⟨R, _, hRc, hURTF, _⟩ := low_part_cross (K := L) (by omega) (by omega) e1
    (natDegree_toPoly_le fun N hN => inv.zu N (by omega))
    (natDegree_toPoly_le fun N hN => inv.zf N (by omega)) (by omega) hTa
  generalize hU : toPoly p s'.u = U at *
  generalize hF : toPoly p s'.f = F at *
  generalize hV : toPoly p s'.v = V at *
  generalize hG : toPoly p s'.g = G at *
  generalize hS : toPoly p seq = S at *
  have hU0 : U.coeff 0 ≠ 0 := by
    rw [← hU, coeff_toPoly]; unfold co
    rw [Ne, cast_eq_zero_of_lt (inv.ru 0)]; exact hu0
  have hUne : U ≠ 0 := fun hh => hU0 (by rw [hh]; simp)
  have hTne : T ≠ 0 := fun hh => hT0 (by rw [hh]; simp)
  -- gcd(U, F) = 1
  have hdet : F * V - G * U = C cc * X ^ seq.length := by
    rw [e1, e2]; linear_combination X ^ seq.length * e3
  have hcopX : IsCoprime U X := by
    refine ⟨C (U.coeff 0)⁻¹, -(C (U.coeff 0)⁻¹ * divX U), ?_⟩
    have hd := divX_mul_X_add U
    have hc1 : C (U.coeff 0)⁻¹ * C (U.coeff 0) = (1 : (ZMod p)[X]) := by
      rw [← C_mul, inv_mul_cancel₀ hU0, C_1]
    linear_combination (C (U.coeff 0)⁻¹) * (-hd) + hc1
  obtain ⟨α, β, hαβ⟩ := hcopX.pow_right (n := seq.length)
  have hcc : C cc⁻¹ * C cc = (1 : (ZMod p)[X]) := by rw [← C_mul, inv_mul_cancel₀ hc, C_1]
  have hcop : IsCoprime U F := by
    refine ⟨α - β * C cc⁻¹ * G, β * C cc⁻¹ * V, ?_⟩
    linear_combination hαβ + (β * C cc⁻¹) * hdet + (β * X ^ seq.length) * hcc
  have hUT : U ∣ T := hcop.dvd_of_dvd_mul_right ⟨R, hURTF⟩
  obtain ⟨A, hA⟩ := hUT
  have hAne : A ≠ 0 := fun hh => hTne (by rw [hA, hh, mul_zero])
  have hRAF : R = A * F := by
    have : U * (A * F) = U * R := by rw [← hURTF, hA]; ring
    exact (mul_left_cancel₀ hUne this).symm
  have hdU' : U.natDegree ≤ L := by
    have := natDegree_mul hUne hAne
    rw [← hA] at this
    omega
  have hFz : ∀ i, L ≤ i + A.natDegree → F.coeff i = 0 := by
    intro i hi
    by_cases hF0 : F = 0
    · rw [hF0]; simp
    · have hRne : R ≠ 0 := by rw [hRAF]; exact mul_ne_zero hAne hF0
      have hRlt : R.natDegree < L := by
        by_contra hc'
        have : R.coeff R.natDegree = 0 := by rw [hRc, if_neg hc']
        exact hRne (leadingCoeff_eq_zero.mp this)
      have := natDegree_mul hAne hF0
      rw [← hRAF] at this
      exact coeff_eq_zero_of_natDegree_lt (by omega)
  have hcinv : C c * C c⁻¹ = (1 : (ZMod p)[X]) := by rw [← C_mul, mul_inv_cancel₀ hcne, C_1]
  refine ⟨C c⁻¹ * A, ?_, ?_, ?_⟩
  · rw [hP, hA]; linear_combination (-(U * A)) * hcinv
  · intro j hj
    refine gd_eq_zero_of_coeff g3 ?_
    rw [hP, coeff_C_mul, coeff_eq_zero_of_natDegree_lt (show U.natDegree < j by omega), mul_zero]
  · intro i hi1 hi2
    have hUS : U * S = F - a * X ^ seq.length := by rw [e1]; ring
    have hdA : (C c⁻¹ * A).natDegree = A.natDegree := natDegree_C_mul (inv_ne_zero hcne)
    rw [hdA] at hi1
    rw [hP, mul_assoc, coeff_C_mul, hUS, coeff_sub, hFz i hi1, coeff_mul_X_pow',
      if_neg (by omega)]
    simp

theorem core_minimal_list [Fact p.Prime] (ok : OpsOK o p κ) (seq : List ℕ)
    (hr : ∀ x ∈ seq, x < p) (h2 : TwoTerms seq) (L : ℕ) (taps : List ℕ)
    (hL : 2 * L ≤ seq.length) (h0 : taps.getD 0 0 % p ≠ 0)
    (hd : ∀ j, L < j → taps.getD j 0 % p = 0)
    (hrec : ∀ i, L ≤ i → i < seq.length → convAt taps seq i % p = 0)
    (out : List ℕ) (h : core o seq = some out) :
    (∀ j, L < j → out.getD j 0 = 0) ∧
      ∀ i, L ≤ i → i < seq.length → convAt out seq i % p = 0 := by
  have hp : 0 < p := (Fact.out : p.Prime).pos
  obtain ⟨i, j, hij, hi, hj⟩ := h2
  obtain ⟨t0, t1, t2⟩ := taps_toPoly taps seq h0 hd hrec
  obtain ⟨_, _, m1, m2⟩ := core_minimal_dvd ok seq (red_of_mem hp seq hr) hij hi hj (toPoly p taps) t0
    L hL t1 t2 out h
  refine ⟨m1, fun i hi1 hi2 => ?_⟩
  rw [mod_eq_zero_iff_cast, convAt_cast]
  exact m2 i (by omega) hi2

end Ymq.BM
