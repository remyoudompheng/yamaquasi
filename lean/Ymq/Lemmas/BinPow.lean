/-
Right-to-left binary exponentiation, once. The crate has a dozen `while k > 0 { if k & 1 { res = res·x }; x = x·x; k >>= 1 }`
loops over different multiplications (plain `% p`, Montgomery words, checked `u64` products, limb rows); each model
mirrors its loop as a fuel recursion of its own. `step` is the arithmetic of one turn in a monoid; `loop` is the
induction for a loop over a partial multiplication that respects a representation relation; `loop_mod` is the
induction for the pure `% p` loops. A model loop enters through the unfolding of one turn (`hF0`, `hF`): `loop` serves `Mg64.powLoop` and the loops of
ClassGroupLegendre and ChainGroup, `loop_mod` serves `Pseudoprime.powMod`, `Relations.powModLoop`, `Checked.powmodAux`.
`Arith.powLoop` (overflow-checked, read without a size hypothesis) uses `step` only; `PseudoprimeWord.powModW` follows
`Pseudoprime.powMod` turn by turn.
-/
import Mathlib.Data.Nat.ModEq

namespace Ymq.BinPow

variable {α M : Type*} [Monoid M]

/-- one turn: the low bit of `e` decides whether `b` enters `a`, the rest is an exponent of `b²` -/
theorem step (a b : M) (e : Nat) : (if e % 2 = 1 then a * b else a) * (b * b) ^ (e / 2) = a * b ^ e := by
  conv_rhs => rw [← Nat.mod_add_div e 2, pow_add, pow_mul, pow_two, ← mul_assoc]
  rcases Nat.mod_two_eq_zero_or_one e with h | h <;> simp [h]

theorem half_lt {e f : Nat} (h : e < 2 ^ (f + 1)) : e / 2 < 2 ^ f := by
  rw [pow_succ] at h; omega

/-- `R x a`: the state `x` stands for the element `a`; `mul` is total on represented states and respects `R`;
`F` is a fuel loop (out of fuel at `0`, whatever it does there) that returns the accumulator at `e = 0` and
otherwise, when its two products succeed, continues with them on `e / 2`. With fuel for the bits of `e` the
loop returns a state that stands for `a · b^e`. -/
theorem loop {R : α → M → Prop} {mul : α → α → Option α}
    (hmul : ∀ {x y a b}, R x a → R y b → ∃ z, mul x y = some z ∧ R z (a * b))
    {F : Nat → α → α → Nat → Option α} (hF0 : ∀ f x s, F (f + 1) x s 0 = some x)
    (hF : ∀ f x s e x' s', e ≠ 0 → (if e % 2 = 1 then mul x s else some x) = some x' → mul s s = some s' →
      F (f + 1) x s e = F f x' s' (e / 2)) :
    ∀ f e x s a b, e < 2 ^ f → R x a → R s b → ∃ z, F (f + 1) x s e = some z ∧ R z (a * b ^ e) := by
  intro f
  induction f with
  | zero =>
    intro e x s a b he hx _
    obtain rfl : e = 0 := by simpa using he
    exact ⟨x, hF0 _ _ _, by simpa using hx⟩
  | succ f ih =>
    intro e x s a b he hx hs
    by_cases h0 : e = 0
    · subst h0; exact ⟨x, hF0 _ _ _, by simpa using hx⟩
    · obtain ⟨s', es, hs'⟩ := hmul hs hs
      obtain ⟨x', ex, hx'⟩ : ∃ x', (if e % 2 = 1 then mul x s else some x) = some x' ∧
          R x' (if e % 2 = 1 then a * b else a) := by
        split
        · exact hmul hx hs
        · exact ⟨x, rfl, hx⟩
      obtain ⟨z, ez, hz⟩ := ih (e / 2) x' s' _ _ (half_lt he) hx' hs'
      exact ⟨z, (hF _ _ _ _ _ _ h0 ex es).trans ez, step a b e ▸ hz⟩

theorem loop_mod (p : Nat) {F : Nat → Nat → Nat → Nat → Nat} (hF0 : ∀ x s e, F 0 x s e = x)
    (hF : ∀ f x s e, F (f + 1) x s e =
      if e = 0 then x else F f (if e % 2 = 1 then x * s % p else x) (s * s % p) (e / 2)) :
    ∀ f e x s, e < 2 ^ f → F f x s e ≡ x * s ^ e [MOD p] ∧ (x % p = x → F f x s e % p = F f x s e) := by
  intro f
  induction f with
  | zero =>
    intro e x s he
    obtain rfl : e = 0 := by simpa using he
    rw [hF0]; exact ⟨by simp [Nat.ModEq], id⟩
  | succ f ih =>
    intro e x s he
    rw [hF]
    by_cases h0 : e = 0
    · subst h0; rw [if_pos rfl]; exact ⟨by simp [Nat.ModEq], id⟩
    · rw [if_neg h0]
      obtain ⟨h1, h2⟩ := ih (e / 2) (if e % 2 = 1 then x * s % p else x) (s * s % p) (half_lt he)
      refine ⟨h1.trans ?_, fun hx => h2 (by split; exact Nat.mod_mod _ _; exact hx)⟩
      rw [← step x s e]
      refine Nat.ModEq.mul ?_ ((Nat.mod_modEq _ _).pow _)
      split
      · exact Nat.mod_modEq _ _
      · rfl

end Ymq.BinPow
