/- Lemmas on the shape-built worker programs (C04, C05). -/
import Ymq.Model.SchedShape
import Ymq.Lemmas.Sched

namespace Ymq.Sched
open Ymq.Gen.SchedShape
variable {ρ σ : Type}

theorem pendingAdds_expandK (rs : List ρ) (k : K) :
    pendingAdds (expandK rs k) = if k = K.add then rs else [] := by
  cases k <;> simp [expandK, pendingAdds, pendingAdds_map_add]

theorem pendingAdds_expand (ks : List K) (rs : List ρ) :
    pendingAdds (expand ks rs) = (List.replicate (ks.count K.add) rs).flatten := by
  induction ks with
  | nil => rfl
  | cons k ks ih =>
    unfold expand at *
    rw [List.flatMap_cons, pendingAdds_append, ih, pendingAdds_expandK]
    cases k <;> simp [List.replicate_succ]

theorem pendingAdds_flatMap_expand (ks : List K) (u : List (List ρ)) (h : ks.count K.add = 1) :
    pendingAdds (u.flatMap (expand ks)) = u.flatten := by
  induction u with
  | nil => rfl
  | cons p ps ih =>
    rw [List.flatMap_cons, pendingAdds_append, ih, pendingAdds_expand, h]
    simp

theorem pendingAdds_expand_nil (ks : List K) : pendingAdds (expand ks ([] : List ρ)) = [] := by
  rw [pendingAdds_expand]; simp

theorem pendingAdds_compileUnit (sh : Shape) (h : sh.body.count K.add = 1) (u : List (List ρ)) :
    pendingAdds (compileUnit sh u) = u.flatten := by
  unfold compileUnit
  rw [pendingAdds_append, pendingAdds_append, pendingAdds_expand_nil, pendingAdds_expand_nil,
    pendingAdds_flatMap_expand _ _ h]
  simp

theorem pendingAdds_compileShape (sh : Shape) (h : sh.body.count K.add = 1) (prog : List (List (List ρ))) :
    pendingAdds (compileShape sh prog) = prog.flatten.flatten := by
  unfold compileShape
  induction prog with
  | nil => rfl
  | cons u us ih =>
    rw [List.flatMap_cons, pendingAdds_append, ih, pendingAdds_compileUnit sh h]
    simp

theorem mem_expand {r : ρ} {ks : List K} {rs : List ρ} (h : Act.add r ∈ expand ks rs) : r ∈ rs := by
  obtain ⟨k, _, hk⟩ := List.mem_flatMap.1 h
  cases k <;> simp [expandK] at hk
  exact hk

theorem mem_pendingAdds_compileShape (sh : Shape) (prog : List (List (List ρ))) (r : ρ)
    (hr : r ∈ pendingAdds (compileShape sh prog)) : ∃ u ∈ prog, ∃ p ∈ u, r ∈ p := by
  obtain ⟨u, hu, h⟩ := List.mem_flatMap.1 (mem_pendingAdds.1 hr)
  simp only [compileUnit, List.mem_append, List.mem_flatMap] at h
  rcases h with h | ⟨p, hp, h⟩ | h
  · exact absurd (mem_expand h) (by simp)
  · exact ⟨u, hu, p, hp, mem_expand h⟩
  · exact absurd (mem_expand h) (by simp)

theorem untilPoll_append_of_mem (a b : List (Act ρ)) (h : Act.poll ∈ a) : untilPoll (a ++ b) ≤ a.length := by
  obtain ⟨a1, a2, rfl⟩ := List.append_of_mem h
  have := untilPoll_append_le a1 (Act.poll :: a2 ++ b)
  simp only [List.append_assoc, List.cons_append, List.length_append, List.length_cons, untilPoll] at this ⊢
  omega

theorem poll_mem_expand (ks : List K) (rs : List ρ) (h : ks.contains K.poll = true) :
    Act.poll ∈ expand ks rs := by
  unfold expand
  rw [List.mem_flatMap]
  exact ⟨K.poll, by simpa using h, by simp [expandK]⟩

theorem poll_mem_compileUnit (sh : Shape) (h : pollsPerUnit sh = true) (u : List (List ρ)) :
    Act.poll ∈ compileUnit sh u := by
  unfold pollsPerUnit at h
  unfold compileUnit
  rw [Bool.or_eq_true] at h
  rcases h with h | h
  · exact List.mem_append_left _ (poll_mem_expand _ _ h)
  · exact List.mem_append_right _ (List.mem_append_right _ (poll_mem_expand _ _ h))

theorem suffix_append_cases {α : Type} (l a b : List α) (h : l <:+ a ++ b) :
    l <:+ b ∨ ∃ t, t <:+ a ∧ l = t ++ b := by
  induction a with
  | nil => exact Or.inl (by simpa using h)
  | cons x xs ih =>
    rw [List.cons_append, List.suffix_cons_iff] at h
    rcases h with h | h
    · exact Or.inr ⟨x :: xs, List.suffix_refl _, by simpa using h⟩
    · rcases ih h with h | ⟨t, ht, hl⟩
      · exact Or.inl h
      · exact Or.inr ⟨t, List.suffix_cons_iff.mpr (Or.inr ht), hl⟩

/-- wherever a worker stands in a program whose units all poll, the next poll is at most the
rest of its current unit plus the next unit away -/
theorem untilPoll_suffix_compileShape (sh : Shape) (hp : pollsPerUnit sh = true) (B : Nat) :
    ∀ (prog : List (List (List ρ))), (∀ u ∈ prog, (compileUnit sh u).length ≤ B) →
      ∀ l, l <:+ compileShape sh prog → untilPoll l ≤ 2 * B := by
  intro prog
  induction prog with
  | nil =>
    intro _ l hl
    have : l = [] := by simpa [compileShape] using hl
    subst this; simp [untilPoll]
  | cons u us ih =>
    intro hB l hl
    unfold compileShape at hl
    rw [List.flatMap_cons] at hl
    rcases suffix_append_cases l _ _ hl with h | ⟨t, ht, rfl⟩
    · exact ih (fun v hv => hB v (List.mem_cons_of_mem _ hv)) l h
    · have h1 := untilPoll_append_le t (us.flatMap (compileUnit sh))
      have h2 : t.length ≤ B := Nat.le_trans (List.IsSuffix.length_le ht) (hB u List.mem_cons_self)
      have h3 : untilPoll (us.flatMap (compileUnit sh)) ≤ B := by
        cases us with
        | nil => simp [untilPoll]
        | cons v vs =>
          rw [List.flatMap_cons]
          exact Nat.le_trans (untilPoll_append_of_mem _ _ (poll_mem_compileUnit sh hp v))
            (hB v (List.mem_cons_of_mem _ List.mem_cons_self))
      omega

def SuffixInv (sh : Shape) (progs : List (List (List (List ρ)))) (c : Cfg ρ σ) : Prop :=
  c.pcs.length = progs.length ∧ ∀ l ∈ c.pcs, ∃ prog ∈ progs, l <:+ compileShape sh prog

theorem suffixInv_init (sh : Shape) (s0 : σ) (progs : List (List (List (List ρ)))) :
    SuffixInv sh progs (initShape sh s0 progs) := by
  refine ⟨by simp [initShape], ?_⟩
  intro l hl
  simp only [initShape, List.mem_map] at hl
  obtain ⟨prog, hp, rfl⟩ := hl
  exact ⟨prog, hp, List.suffix_refl _⟩

theorem suffixInv_run (add : σ → ρ → σ) (enough : σ → Bool) (sh : Shape) (progs : List (List (List (List ρ))))
    (sched : List (Nat × Bool × Bool)) (c : Cfg ρ σ) (h : SuffixInv sh progs c) :
    SuffixInv sh progs (run add enough c sched) :=
  run_induction add enough (SuffixInv sh progs) (fun c w st ab h => by
    by_cases he : effective c w
    · obtain ⟨a, rest, ha⟩ := he
      rw [step_eq add enough ha]
      refine ⟨by simp only [setPc, List.length_set]; exact h.1, fun x hx => ?_⟩
      rcases List.mem_or_eq_of_mem_set hx with hx | rfl
      · exact h.2 x hx
      · obtain ⟨prog, hp, hs⟩ := h.2 _ (List.mem_of_getElem? ha)
        exact ⟨prog, hp, (next_suffix _ _ _ _).trans hs⟩
    · rw [step_idle add enough he]; exact h) sched c h

theorem abortBudget_le_of_suffixInv (sh : Shape) (hp : pollsPerUnit sh = true) (B : Nat)
    (progs : List (List (List (List ρ))))
    (hB : ∀ prog ∈ progs, ∀ u ∈ prog, (compileUnit sh u).length ≤ B)
    (c : Cfg ρ σ) (h : SuffixInv sh progs c) : abortBudget c ≤ progs.length * (2 * B) := by
  unfold abortBudget
  rw [← h.1]
  apply sum_map_le_length_mul
  intro l hl
  obtain ⟨prog, hpr, hs⟩ := h.2 l hl
  exact untilPoll_suffix_compileShape sh hp B prog (hB prog hpr) l hs

end Ymq.Sched
