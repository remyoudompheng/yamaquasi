/-
C10: the two ends of `convolve_modn_ntt` before composition: `pprods_neg` (`pprods_modn[q] ≡ -qP mod n`),
`rp_full` (the table `rpowers` of `MultiZmodP::new`), `fromMint_spec` (`from_mint` = Montgomery forms of
`v mod p_j`), `scatterRev_spec` (residues at bit-reversed positions).
-/
import Ymq.Lemmas.CrtBound
import Ymq.Lemmas.NttPipeline
import Ymq.Lemmas.Mg64
import Ymq.Lemmas.Limbs

namespace Ymq.Crt
open Ymq.Mg64 (W)

/-- **`pprods_modn[q] ≡ -q·P (mod n)`** for the tables of the model of `new` -/
theorem pprods_neg (n logsize : Nat) (m : Mzp) (h : new n logsize = some m) (hn : 0 < n)
    (q : Nat) (hq : q < m.w) : (m.pprodsModn.getD q 0 + q * m.pprod) % n = 0 := by
  have k := isNew h
  have hpmn := pprodModn_lt n m.pprod hn
  have hval : m.pprodsModn.getD q 0 = q * pprodModn n m.pprod % n := by
    rw [k.hpprods]
    match q, hq with
    | 0, _ => simp
    | 1, _ => simp [Nat.mod_eq_of_lt hpmn]
    | q + 2, hq =>
      simp only [List.getD_cons_succ]
      rw [(pprodsLoop_closed n _ hn hpmn (m.w - 2)).2 q (by omega)]
  rw [hval, Nat.add_mod, Nat.mod_mod, ← Nat.add_mod, ← Nat.mul_add, Nat.mul_mod, pprodModn_neg n _ hn, Nat.mul_zero,
    Nat.zero_mod]

theorem mulmod_key (p R t : Nat) :
    (R ^ (t + 2) % p) * ((R % p * (R % p)) % p) % p = R ^ (t + 3) * R % p := by
  have h1 : (R ^ (t + 2) % p) * ((R % p * (R % p)) % p) ≡ R ^ (t + 2) * (R * R) [MOD p] :=
    Nat.ModEq.mul (Nat.mod_modEq _ _) ((Nat.mod_modEq _ _).trans ((Nat.mod_modEq R p).mul (Nat.mod_modEq R p)))
  have h2 : R ^ (t + 2) * (R * R) = R ^ (t + 3) * R := by ring
  rw [← h2]; exact h1

/-- the loop of `rpowers`: `R^3, R^4, … mod p` -/
theorem iterM_rp {p : Nat} (h : PrimeOk p) (w : Nat) :
    ∃ l, iterM (fun rj => mgMul64 p rj (W % p * (W % p) % p)) w (W % p * (W % p) % p) [] = some l ∧
      l.length = w ∧ ∀ i, i < w → l.getD i 0 = W ^ (i + 3) % p := by
  have hp : 0 < p := by have := h.pos; omega
  obtain ⟨l, e, ll, hl⟩ := iterM_inv 0 (fun rj => mgMul64 p rj (W % p * (W % p) % p))
    (fun t a => a = W ^ (t + 2) % p) (fun t a ha => ⟨_, by
      rw [ha]
      exact Ymq.Mg64.mgMul_eq ⟨h.pos, h.odd, h.ltW, h.inv⟩ (x := W ^ (t + 2) % p) (y := W % p * (W % p) % p)
        (Nat.mod_lt _ hp) (lt_trans (Nat.mod_lt _ hp) h.ltW) (W ^ (t + 3)) (mulmod_key p W t), rfl⟩)
    w (W % p * (W % p) % p) [] 0 (by rw [← Nat.mul_mod, Nat.zero_add, pow_two])
  exact ⟨l, e, ll, fun i hi => by rw [hl i hi]; congr 2; omega⟩


open Ymq.Gen.Params in
/-- **the table `rpowers` of `MultiZmodP::new`**: `rpowers[j][i] = R^(i+1) mod p_j` for `i ≤ w + 1` -/
theorem rp_full (n logsize : Nat) (m : Mzp) (h : new n logsize = some m) (j : Nat) (hj : j < m.w) :
    ∃ ri, m.rpowers[j]? = some ri ∧ ri.length = m.w + 2 ∧ ∀ i, i < m.w + 2 → ri.getD i 0 = W ^ (i + 1) % P m j := by
  obtain ⟨g, b, hrow, hok, hb, hab⟩ := (isNew h).row hj
  have hpo := primeOk_of_row hok
  obtain ⟨l, el, ll, hl⟩ := iterM_rp hpo m.w
  unfold rpowersOf at hab
  simp only [el, Option.map_some, Option.some.injEq] at hab
  refine ⟨b, hb, by rw [← hab]; simp [ll], ?_⟩
  intro i hi
  rw [← hab]
  match i, hi with
  | 0, _ => simp
  | 1, _ => simp only [List.getD_cons_succ, List.getD_cons_zero]; rw [← Nat.mul_mod, pow_two]
  | i + 2, hi =>
    simp only [List.getD_cons_succ]
    rw [hl i (by omega)]

theorem sum_digits_val : ∀ (k : Nat) (x : List Nat), k ≤ x.length →
    ∑ j ∈ Finset.range k, x.getD j 0 * W ^ j = Ymq.Limbs.val (x.take k) := by
  intro k
  induction k with
  | zero => intro x _; simp
  | succ k ih =>
    intro x hk
    rw [Finset.sum_range_succ, ih x (by omega), List.take_add_one, Ymq.Limbs.val_append, List.length_take,
      Nat.min_eq_left (by omega)]
    have : x[k]?.toList = [x.getD k 0] := by
      rw [List.getD_eq_getElem?_getD, List.getElem?_eq_getElem (by omega)]; rfl
    rw [this]
    simp only [Ymq.Limbs.val_cons, Ymq.Limbs.val_nil, Nat.mul_zero, Nat.add_zero]
    rw [Nat.mul_comm]; rfl

theorem getD_ofNat : ∀ (k v j : Nat), j < k → (Ymq.Limbs.ofNat k v).getD j 0 = v / W ^ j % W := by
  intro k
  induction k with
  | zero => intro v j hj; omega
  | succ k ih =>
    intro v j hj
    unfold Ymq.Limbs.ofNat
    cases j with
    | zero => simp; rfl
    | succ j =>
      simp only [List.getD_cons_succ]
      rw [ih (v / Ymq.Limbs.W) j (by omega), pow_succ, Nat.div_div_eq_div_mul, Nat.mul_comm]
      rfl


theorem mul_bound123 (a b : Nat) (ha : a < W) (hb : b < 2 ^ 59) : a * b ≤ 2 ^ 123 := by
  have hWv : W = 18446744073709551616 := rfl
  have e59 : (2 : Nat) ^ 59 = 576460752303423488 := by norm_num
  rw [hWv] at ha; rw [e59] at hb
  have := Nat.mul_le_mul (le_of_lt ha) (le_of_lt hb)
  norm_num at this ⊢
  omega

theorem fromMintFold (ri x : List Nat) (hx : ∀ i, x.getD i 0 < W) (hr : ∀ i, ri.getD i 0 < 2 ^ 59)
    (c z0 : Nat) (hc : c + 2 ≤ ri.length) (hB : z0 + c * 2 ^ 123 < 2 ^ 128) :
    (List.range c).foldlM (fromMintStep ri x) z0 =
        some (z0 + ∑ j ∈ Finset.range c, x.getD (j + 1) 0 * ri.getD (j + 2) 0) ∧
      z0 + ∑ j ∈ Finset.range c, x.getD (j + 1) 0 * ri.getD (j + 2) 0 ≤ z0 + c * 2 ^ 123 := by
  have hterm : ∀ j, j < c → x.getD (j + 1) 0 * ri.getD (j + 2) 0 ≤ 2 ^ 123 :=
    fun j _ => mul_bound123 _ _ (hx (j + 1)) (hr (j + 2))
  refine ⟨foldlM_checked_sum _ _ c z0 _ (fun z j hj hz => ?_) hterm hB,
    Nat.add_le_add_left (sum_range_le c _ _ hterm) _⟩
  unfold fromMintStep
  rw [List.getElem?_eq_getElem (by omega), ← List.getD_eq_getElem _ 0]
  exact if_neg (by omega)

/-- one residue of `from_mint`: the Montgomery form of the value of the `kw` low words -/
theorem fromMint1_spec (n logsize : Nat) (m : Mzp) (h : new n logsize = some m) (j : Nat) (hj : j < m.w)
    (x : List Nat) (hx : ∀ i, x.getD i 0 < W) (hkw1 : 1 ≤ m.kw) (hkw8 : m.kw ≤ 8) (hkww : m.kw ≤ m.w + 1) :
    ∃ z, fromMint1 m x j = some z ∧ z < P m j ∧
      mf (P m j) z = ((∑ i ∈ Finset.range m.kw, x.getD i 0 * W ^ i : Nat) : ZMod (P m j)) := by
  have hpo := tabOk_of_new n logsize m h j hj
  have hp0 : 0 < P m j := by have := hpo.pos; omega
  obtain ⟨ri, eri, lri, hri⟩ := rp_full n logsize m h j hj
  have hWv : W = 18446744073709551616 := rfl
  have h59 : (2 : Nat) ^ 59 = 576460752303423488 := by norm_num
  have hrlt : ∀ i, ri.getD i 0 < 2 ^ 59 := by
    intro i
    by_cases hi : i < m.w + 2
    · rw [hri i hi]; exact lt_trans (Nat.mod_lt _ hp0) hpo.lt
    · rw [List.getD_eq_default _ _ (by omega)]; norm_num
  have hprime : m.primes[j]? = some (P m j) := by
    show m.primes[j]? = some (m.primes.getD j 0)
    rw [List.getD_eq_getElem?_getD, List.getElem?_eq_getElem (by rw [(isNew h).primes_len]; exact hj)]; rfl
  have hg : ∀ i, i < m.w + 2 → ri[i]? = some (W ^ (i + 1) % P m j) := by
    intro i hi
    rw [← hri i hi, List.getD_eq_getElem?_getD, List.getElem?_eq_getElem (by omega)]; rfl
  have hz0 : x.getD 0 0 * (W ^ 2 % P m j) ≤ 2 ^ 123 :=
    mul_bound123 _ _ (hx 0) (lt_trans (Nat.mod_lt _ hp0) hpo.lt)
  have h7 : (m.kw - 1) * 2 ^ 123 ≤ 7 * 2 ^ 123 := Nat.mul_le_mul_right _ (by omega)
  obtain ⟨ef, hfb⟩ := fromMintFold ri x hx hrlt (m.kw - 1) (x.getD 0 0 * (W ^ 2 % P m j)) (by omega) (by
      norm_num at h7 hz0 ⊢; omega)
  set zi := x.getD 0 0 * (W ^ 2 % P m j) + ∑ j' ∈ Finset.range (m.kw - 1), x.getD (j' + 1) 0 * ri.getD (j' + 2) 0
    with hzi
  -- zi ≡ W²·Σ x_i W^i
  have hzmod : ((zi : Nat) : ZMod (P m j)) =
      ((W : Nat) : ZMod (P m j)) ^ 2 * ((∑ i ∈ Finset.range m.kw, x.getD i 0 * W ^ i : Nat) : ZMod (P m j)) := by
    rw [hzi]
    have hk : m.kw = (m.kw - 1) + 1 := by omega
    conv_rhs => rw [hk, Finset.sum_range_succ']
    push_cast
    rw [ZMod.natCast_mod, mul_add, Finset.mul_sum]
    push_cast
    simp only [pow_zero, mul_one]
    rw [add_comm]
    congr 1
    · apply Finset.sum_congr rfl
      intro a ha
      rw [hri (a + 2) (by simp at ha; omega), ZMod.natCast_mod]
      push_cast; ring
    · ring
  have hz128 : zi < 2 ^ 127 := by
    norm_num at h7 hz0 hfb ⊢; omega
  set z2 := zi / W * (W % P m j) + zi % W with hz2
  have hz2lt : z2 < P m j * W := by
    have h1 : zi / W < 2 ^ 63 := by
      rw [Nat.div_lt_iff_lt_mul (by decide)]
      have : (2 : Nat) ^ 63 * W = 2 ^ 127 := by rw [hWv]; norm_num
      omega
    have h2 : W % P m j < P m j := Nat.mod_lt _ hp0
    have h3 : zi / W * (W % P m j) ≤ 2 ^ 63 * P m j := Nat.mul_le_mul (le_of_lt h1) (le_of_lt h2)
    have h4 : zi % W < W := Nat.mod_lt _ (by decide)
    have h5 := hpo.pos
    rw [hz2, hWv] at *
    generalize P m j = pp at *
    norm_num at h3 ⊢
    omega
  have hz2mod : ((z2 : Nat) : ZMod (P m j)) = ((zi : Nat) : ZMod (P m j)) := by
    rw [hz2]
    push_cast
    rw [ZMod.natCast_mod]
    have := Nat.div_add_mod zi W
    conv_rhs => rw [← this]
    push_cast; ring
  obtain ⟨z, ez, zlt, hzm⟩ := mgRedc_mf hpo z2 hz2lt
  refine ⟨z, ?_, zlt, ?_⟩
  · unfold fromMint1
    simp only [hprime, eri, hg 1 (by omega), hg 0 (by omega), Nat.zero_add, pow_one]
    rw [show 1 + 1 = 2 from rfl, ef]
    simp only
    rw [← hz2, if_neg (by
      have : P m j * W < W * W := Nat.mul_lt_mul_of_pos_right hpo.ltW (by decide)
      have hWW : W * W = 2 ^ 128 := by rw [hWv]; norm_num
      omega)]
    exact ez
  · -- `mf z = z2/R`, `z2 ≡ zi ≡ R²·Σ` and `mf(·)·R` is the identity, twice
    unfold mf
    rw [hzm]
    unfold mf
    rw [hz2mod, hzmod]
    linear_combination (((W : Nat) : ZMod (P m j)) * uinv (P m j) + 1) *
      ((∑ i ∈ Finset.range m.kw, x.getD i 0 * W ^ i : Nat) : ZMod (P m j)) * W_uinv hpo


theorem kw_pos (n logsize : Nat) (m : Mzp) (h : new n logsize = some m) (hn : 0 < n) : 1 ≤ m.kw := by
  have hb := lt_pow_bitlen n
  rw [(isNew h).hkw]
  by_contra hcon
  have : Ymq.Checked.bitlen n = 0 := by omega
  rw [this] at hb; omega

theorem new_kw (n logsize : Nat) (m : Mzp) (h : new n logsize = some m) (hn : 0 < n)
    (hbits : Ymq.Checked.bitlen n ≤ 512) :
    m.n = n ∧ 1 ≤ m.kw ∧ m.kw ≤ 8 ∧ m.kw ≤ m.w + 1 ∧ n < W ^ m.kw := by
  have k := isNew h
  have hb := lt_pow_bitlen n
  refine ⟨k.hn, kw_pos n logsize m h hn, by rw [k.hkw]; omega, by rw [k.hkw, k.w_eq]; omega, ?_⟩
  rw [k.hkw, show W = 2 ^ 64 by decide, ← pow_mul]
  exact lt_of_lt_of_le hb (Nat.pow_le_pow_right (by decide) (by omega))

/-- **`from_mint`**: for a reduced `MInt` (8 words holding `v < n`) no panic site is reached (the `u128` sums,
`mg_redc`) and residue `j` is the Montgomery form of `v mod p_j` -/
theorem fromMint_spec (n logsize : Nat) (m : Mzp) (h : new n logsize = some m) (hn : 0 < n)
    (hbits : Ymq.Checked.bitlen n ≤ 512) (v : Nat) (hv : v < n) :
    ∃ z, fromMint m (Ymq.Limbs.ofNat 8 v) = some z ∧ EltOk m z ∧
      ∀ j, j < m.w → mfe m z j = ((v : Nat) : ZMod (P m j)) := by
  obtain ⟨_, hk1, hk8, hkw, hnW⟩ := new_kw n logsize m h hn hbits
  set x := Ymq.Limbs.ofNat 8 v with hx
  have hxW : ∀ i, x.getD i 0 < W := by
    intro i
    by_cases hi : i < 8
    · rw [hx, getD_ofNat 8 v i hi]; exact Nat.mod_lt _ (by decide)
    · rw [List.getD_eq_default _ _ (by simp [hx]; omega)]; decide
  have hvW : v < W ^ m.kw := lt_trans hv hnW
  have hsum : ∑ i ∈ Finset.range m.kw, x.getD i 0 * W ^ i = v := by
    rw [sum_digits_val m.kw x (by simp [hx]; omega), hx, Ymq.Limbs.ofNat_take 8 m.kw v hk8,
      Ymq.Limbs.val_ofNat_of_lt hvW]
  unfold fromMint
  rw [if_neg (by omega), if_neg ?_]
  · exact eltM_spec m (fromMint1 m x) (fun j r => r = ((v : Nat) : ZMod (P m j))) fun j hj => by
      obtain ⟨z, e1, e2, e3⟩ := fromMint1_spec n logsize m h j hj x hxW hk1 hk8 hkw
      exact ⟨z, e1, e2, by rw [e3, hsum]⟩
  · rintro ⟨hlt, hne⟩
    apply hne
    have h8 : m.kw < 8 := by simpa [hx] using hlt
    rw [hx, getD_ofNat 8 v m.kw h8, Nat.div_eq_of_lt hvW, Nat.zero_mod]

theorem eltOk_zero (m : Mzp) (ht : TabOk m) : EltOk m (List.replicate m.w 0) := by
  refine ⟨by simp, fun j hj => ?_⟩
  rw [List.getD_replicate _ hj]
  have := (ht j hj).pos
  show 0 < P m j
  omega

theorem mfe_zero (m : Mzp) (j : Nat) (hj : j < m.w) : mfe m (List.replicate m.w 0) j = 0 := by
  unfold mfe mf
  rw [List.getD_replicate _ hj]
  simp

theorem bitrev_inj (K a b : Nat) (ha : a < 2 ^ K) (hb : b < 2 ^ K) (h : bitrev K a = bitrev K b) : a = b := by
  rw [← bitrev_invol K a ha, ← bitrev_invol K b hb, h]

/-- **the scatter of the residues into bit-reversed positions** -/
theorem scatterRev_spec (m : Mzp) (K : Nat) (Z : List Nat → List Nat) :
    ∀ (xs : List (List Nat)) (i : Nat) (f : List (List Nat)), i + xs.length ≤ 2 ^ K → f.length = 2 ^ K →
      (∀ x ∈ xs, fromMint m x = some (Z x)) →
      ∃ F, scatterRev m K xs i f = some F ∧ F.length = 2 ^ K ∧
        ∀ t, t < 2 ^ K → F.getD (bitrev K t) [] =
          if i ≤ t ∧ t < i + xs.length then Z (xs.getD (t - i) []) else f.getD (bitrev K t) [] := by
  intro xs
  induction xs with
  | nil =>
    intro i f _ hl _
    exact ⟨f, rfl, hl, fun t _ => by rw [if_neg (by simp)]⟩
  | cons x xs ih =>
    intro i f hi hl hZ
    simp only [List.length_cons] at hi
    have hi2 : i < 2 ^ K := by omega
    unfold scatterRev
    rw [hZ x List.mem_cons_self]
    simp only
    rw [Nat.mod_eq_of_lt hi2]
    obtain ⟨F, e, lF, hF⟩ := ih (i + 1) (f.set (bitrev K i) (Z x)) (by omega) (by simp [hl])
      (fun y hy => hZ y (List.mem_cons_of_mem _ hy))
    refine ⟨F, e, lF, ?_⟩
    intro t ht
    rw [hF t ht]
    by_cases h1 : i + 1 ≤ t ∧ t < i + 1 + xs.length
    · rw [if_pos h1, if_pos (by simp only [List.length_cons]; omega)]
      rw [show t - i = (t - (i + 1)) + 1 by omega, List.getD_cons_succ]
    · rw [if_neg h1, Ymq.PolyMul.getD_set _ _ _ _ _ (by rw [hl]; exact bitrev_lt K i)]
      by_cases h2 : t = i
      · subst h2
        rw [if_pos rfl, if_pos (by simp only [List.length_cons]; omega), Nat.sub_self, List.getD_cons_zero]
      · have hne : bitrev K t ≠ bitrev K i := fun hh => h2 (bitrev_inj K t i ht hi2 hh)
        rw [if_neg hne, if_neg (by simp only [List.length_cons]; omega)]

end Ymq.Crt
