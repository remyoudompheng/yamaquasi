/-
P-1 polynomial-evaluation grid (C16): the executable test `pm1IsGridDeg` against its existential
specification, the cover lemma, the degree `pm1Deg d1 = φ(d1) + 1`, and `hitsUpTo`.
-/
import Ymq.Lemmas.Stage2Cover
import Mathlib.Data.Nat.Totient

namespace Ymq.Stage2
open Ymq.Gen

theorem pm1Baby_iff {d1 r : Nat} (h6 : 6 ∣ d1) :
    isPm1Baby d1 r = true ↔ 0 < r ∧ r ≤ d1 + 1 ∧ Nat.gcd r d1 = 1 := by
  unfold isPm1Baby
  delta Stage2Arms.pm1Baby
  simp only [isPm1BabyOf, Bool.or_eq_true, Bool.and_eq_true, beq_iff_eq, decide_eq_true_eq, bne_iff_ne, ne_eq, and_assoc]
  rw [keep_iff h6]
  constructor <;> rintro ⟨a1, a2, a3⟩ <;> exact ⟨a1, by omega, a3⟩

theorem pm1IsQ_iff {d2 deg q : Nat} (hdeg : 1 ≤ deg) : pm1IsQDeg d2 deg q = true ↔ deg + q + 1 ≤ d2 := by
  unfold pm1IsQDeg
  delta Stage2Arms.pm1ValsOff Stage2Arms.pm1Neg
  simp; omega

/-- `m = |q*d1 - r|` for an evaluated multiplier `q` (`deg + q + 1 ≤ d2`) and a baby step `r`: the exponents at which
`pm1_stage2_polyeval` evaluates `∏_r (X − g^r)` at `g^(q·d1)`; `pm1IsGridDeg` decides it (`pm1IsGridDeg_iff`). -/
def Pm1Grid (d1 d2 deg m : Nat) : Prop :=
  ∃ q r, deg + q + 1 ≤ d2 ∧ isPm1Baby d1 r = true ∧ (m + r = q * d1 ∨ m + q * d1 = r)

theorem pm1IsGridDeg_sound {d1 d2 deg m : Nat} (hd : 0 < d1) (hdeg : 1 ≤ deg) (h : pm1IsGridDeg d1 d2 deg m = true) :
    Pm1Grid d1 d2 deg m := by
  unfold pm1IsGridDeg at h
  simp only [List.any_cons, List.any_nil, Bool.or_false, Bool.or_eq_true, Bool.and_eq_true, beq_iff_eq] at h
  have key1 : ∀ r, isPm1Baby d1 r = true → (m + r) % d1 = 0 → pm1IsQDeg d2 deg ((m + r) / d1) = true →
      Pm1Grid d1 d2 deg m := fun r hb hm hq =>
    ⟨(m + r) / d1, r, (pm1IsQ_iff hdeg).mp hq, hb, Or.inl (Nat.div_mul_cancel (Nat.dvd_of_mod_eq_zero hm)).symm⟩
  have key2 : ∀ r, m ≤ r → isPm1Baby d1 r = true → (r - m) % d1 = 0 → pm1IsQDeg d2 deg ((r - m) / d1) = true →
      Pm1Grid d1 d2 deg m := fun r hle hb hm hq => by
    refine ⟨(r - m) / d1, r, (pm1IsQ_iff hdeg).mp hq, hb, Or.inr ?_⟩
    rw [Nat.div_mul_cancel (Nat.dvd_of_mod_eq_zero hm)]; omega
  rcases h with (⟨⟨hb, hm⟩, hq⟩ | ⟨⟨hb, hm⟩, hq⟩) | (⟨⟨hb, hm⟩, hq⟩ | ⟨⟨hb, hm⟩, hq⟩)
  · exact key1 _ hb hm hq
  · exact key1 _ hb hm hq
  · exact key2 _ (Nat.le_refl _) hb hm hq
  · exact key2 _ (by omega) hb hm hq

/-- the baby steps `0 < r ≤ d1 + 1` in the class of `-m` modulo `d1` are the two candidates the grid test tries -/
theorem neg_class_candidates {d1 m r : Nat} (hd : 2 ≤ d1) (hmod : (m + r) % d1 = 0) (hr0 : 0 < r) (hr1 : r ≤ d1 + 1) :
    r ∈ [(d1 - m % d1) % d1, (d1 - m % d1) % d1 + d1] := by
  have ha := Nat.mod_lt m (by omega : 0 < d1)
  -- `m % d1 + r` is a multiple of `d1` in `[1, 2·d1]`
  obtain ⟨k, hk⟩ : d1 ∣ m % d1 + r := Nat.dvd_of_mod_eq_zero (by rw [Nat.add_mod, Nat.mod_mod, ← Nat.add_mod]; exact hmod)
  have hk12 : k = 1 ∨ k = 2 := by
    rcases k with _ | _ | _ | k
    · omega
    · exact Or.inl rfl
    · exact Or.inr rfl
    · have : d1 * 3 ≤ d1 * (k + 1 + 1 + 1) := Nat.mul_le_mul_left _ (by omega)
      omega
  simp only [List.mem_cons, List.not_mem_nil, or_false]
  rcases Nat.eq_zero_or_pos (m % d1) with ha0 | ha0
  · rw [ha0, Nat.sub_zero, Nat.mod_self]
    rcases hk12 with rfl | rfl <;> omega
  · rw [Nat.mod_eq_of_lt (by omega : d1 - m % d1 < d1)]
    rcases hk12 with rfl | rfl <;> omega

theorem pm1IsGridDeg_complete {d1 d2 deg m : Nat} (h6 : 6 ∣ d1) (hd : 0 < d1) (hdeg : 1 ≤ deg) (h : Pm1Grid d1 d2 deg m) :
    pm1IsGridDeg d1 d2 deg m = true := by
  obtain ⟨q, r, hq, hb, hm⟩ := h
  have h6' : 6 ≤ d1 := Nat.le_of_dvd hd h6
  obtain ⟨hr0, hr1, _⟩ := (pm1Baby_iff h6).mp hb
  have hqq := (pm1IsQ_iff hdeg).mpr hq
  unfold pm1IsGridDeg
  rw [Bool.or_eq_true]
  rcases hm with hm | hm
  · -- `q·d1 − r = m`: `r` is in the class of `-m`
    have hmod : (m + r) % d1 = 0 := by rw [hm]; exact Nat.mul_mod_left _ _
    have hdiv : (m + r) / d1 = q := by rw [hm]; exact Nat.mul_div_cancel _ hd
    exact Or.inl (List.any_eq_true.mpr ⟨r, neg_class_candidates (by omega) hmod hr0 hr1, by simp [hb, hmod, hdiv, hqq]⟩)
  · -- `r − q·d1 = m` with `r ≤ d1 + 1`: `q` is 0 or 1
    have hq01 : q = 0 ∨ q = 1 := by
      rcases q with _ | _ | q
      · exact Or.inl rfl
      · exact Or.inr rfl
      · have : 2 * d1 ≤ (q + 1 + 1) * d1 := Nat.mul_le_mul_right _ (by omega)
        omega
    have hsub : r - m = q * d1 := by omega
    have hmod : (r - m) % d1 = 0 := by rw [hsub]; exact Nat.mul_mod_left _ _
    have hdiv : (r - m) / d1 = q := by rw [hsub]; exact Nat.mul_div_cancel _ hd
    refine Or.inr (List.any_eq_true.mpr ⟨r, ?_, by simp [hb, hmod, hdiv, hqq]⟩)
    simp only [List.mem_cons, List.not_mem_nil, or_false]
    rcases hq01 with rfl | rfl <;> omega

theorem pm1IsGridDeg_iff {d1 d2 deg m : Nat} (h6 : 6 ∣ d1) (hd : 0 < d1) (hdeg : 1 ≤ deg) :
    pm1IsGridDeg d1 d2 deg m = true ↔ Pm1Grid d1 d2 deg m :=
  ⟨pm1IsGridDeg_sound hd hdeg, pm1IsGridDeg_complete h6 hd hdeg⟩

theorem pm1_cover_spec {d1 d2 deg l : Nat} (h6 : 6 ∣ d1) (hd : 0 < d1) (hl : Nat.gcd l d1 = 1)
    (hhi : l < (d2 - 1 - deg) * d1) :
    ∃ q r, deg + q + 1 ≤ d2 ∧ isPm1Baby d1 r = true ∧ l + r = q * d1 := by
  have hev : 2 ∣ d1 := Nat.dvd_trans (by decide) h6
  have h6' : 6 ≤ d1 := Nat.le_of_dvd hd h6
  obtain ⟨hg, h0, _, hlt⟩ := coprime_mod_facts hev (by omega) hl
  have hdm := Nat.div_add_mod l d1
  generalize l / d1 = c at hdm ⊢
  generalize l % d1 = a at hdm hg h0 hlt ⊢
  refine ⟨c + 1, d1 - a, ?_, ?_, ?_⟩
  · by_contra hcon
    have : d2 - 1 - deg ≤ c := by omega
    have h3 : (d2 - 1 - deg) * d1 ≤ c * d1 := Nat.mul_le_mul_right _ this
    have h4 : c * d1 = d1 * c := Nat.mul_comm _ _
    omega
  · exact (pm1Baby_iff h6).mpr ⟨by omega, by omega, by rw [Nat.gcd_self_sub_left (by omega)]; exact hg⟩
  · have : (c + 1) * d1 = d1 * c + d1 := by ring
    omega

theorem pm1_grid_le {d1 d2 deg m : Nat} (h6 : 6 ∣ d1) (h : Pm1Grid d1 d2 deg m) :
    m + 1 ≤ (d2 - 1 - deg) * d1 ∨ m ≤ d1 + 1 := by
  obtain ⟨q, r, hq, hb, hm⟩ := h
  obtain ⟨hr0, hr1, _⟩ := (pm1Baby_iff h6).mp hb
  rcases hm with hm | hm
  · left
    have h3 : q * d1 ≤ (d2 - 1 - deg) * d1 := Nat.mul_le_mul_right _ (by omega)
    omega
  · right; omega

theorem filter_range_length_eq_card (p : Nat → Bool) (n : Nat) :
    ((List.range n).filter p).length = ((Finset.range n).filter (fun x => p x = true)).card := by
  induction n with
  | zero => simp
  | succ n ih =>
    rw [List.range_succ, List.filter_append, List.length_append, ih, Finset.range_add_one,
      Finset.filter_insert]
    by_cases hp : p n = true
    · simp [hp]
    · simp [hp]

/-- the number of baby steps of `pm1_stage2_polyeval` is `φ(d1) + 1` (the residues coprime to `d1`
in `[1, d1)` and `d1 + 1`). -/
theorem pm1Deg_eq {d1 : Nat} (h6 : 6 ∣ d1) (hd : 0 < d1) : pm1Deg d1 = Nat.totient d1 + 1 := by
  have h6' : 6 ≤ d1 := Nat.le_of_dvd hd h6
  have hstep : Stage2Arms.pm1Baby.2 = 2 := by delta Stage2Arms.pm1Baby; rfl
  unfold pm1Deg
  rw [hstep, show d1 + 2 + 1 = d1 + 1 + 1 + 1 from rfl, List.range_succ, List.range_succ, List.range_succ]
  simp only [List.filter_append, List.length_append]
  have e0 : ((List.range d1).filter (isPm1Baby d1)).length = Nat.totient d1 := by
    rw [filter_range_length_eq_card, Nat.totient_eq_card_coprime]
    congr 1
    ext x
    simp only [Finset.mem_filter, Finset.mem_range]
    constructor
    · rintro ⟨hx, hb⟩
      obtain ⟨_, _, hg⟩ := (pm1Baby_iff h6).mp hb
      exact ⟨hx, by rw [Nat.Coprime, Nat.gcd_comm]; exact hg⟩
    · rintro ⟨hx, hc⟩
      refine ⟨hx, (pm1Baby_iff h6).mpr ⟨?_, by omega, by rw [Nat.gcd_comm]; exact hc⟩⟩
      rcases Nat.eq_zero_or_pos x with rfl | h
      · rw [Nat.Coprime, Nat.gcd_zero_right] at hc; omega
      · exact h
  have e1 : isPm1Baby d1 d1 = false := by
    rw [Bool.eq_false_iff]; intro h
    obtain ⟨_, _, hg⟩ := (pm1Baby_iff h6).mp h
    rw [Nat.gcd_self] at hg; omega
  have e2 : isPm1Baby d1 (d1 + 1) = true :=
    (pm1Baby_iff h6).mpr ⟨by omega, by omega, by simp⟩
  have e3 : isPm1Baby d1 (d1 + 1 + 1) = false := by
    rw [Bool.eq_false_iff]; intro h
    obtain ⟨_, h1, _⟩ := (pm1Baby_iff h6).mp h
    omega
  simp [e0, e1, e2, e3]

theorem anyBelow_iff (p : Nat → Bool) (n : Nat) : anyBelow p n = true ↔ ∃ k, k < n ∧ p k = true := by
  induction n with
  | zero => simp [anyBelow]
  | succ n ih =>
    simp only [anyBelow, Bool.or_eq_true, ih]
    constructor
    · rintro (h | ⟨k, hk, hp⟩)
      · exact ⟨n, by omega, h⟩
      · exact ⟨k, by omega, hp⟩
    · rintro ⟨k, hk, hp⟩
      rcases Nat.lt_or_ge k n with h | h
      · exact Or.inr ⟨k, h, hp⟩
      · have : k = n := by omega
        subst this; exact Or.inl hp

theorem hitsUpTo_iff {isGrid : Nat → Bool} {maxv l : Nat} (hl : 0 < l)
    (hmax : ∀ m, isGrid m = true → m ≤ maxv) :
    hitsUpTo isGrid maxv l = true ↔ ∃ m, 0 < m ∧ l ∣ m ∧ isGrid m = true := by
  unfold hitsUpTo
  rw [anyBelow_iff]
  constructor
  · rintro ⟨k, _, hp⟩
    exact ⟨(k + 1) * l, Nat.mul_pos (by omega) hl, ⟨k + 1, Nat.mul_comm _ _⟩, hp⟩
  · rintro ⟨m, hm0, ⟨c, rfl⟩, hp⟩
    have hc : 0 < c := by
      rcases Nat.eq_zero_or_pos c with rfl | h
      · simp at hm0
      · exact h
    refine ⟨c - 1, ?_, ?_⟩
    · have := hmax _ hp
      have h2 : c ≤ maxv / l := by
        rw [Nat.le_div_iff_mul_le hl, Nat.mul_comm]; exact this
      omega
    · have : c - 1 + 1 = c := by omega
      rw [this, Nat.mul_comm]; exact hp

theorem sym_nothing_above {baby : Nat → Bool} {g : Nat × Nat × Nat} {d1 d2 maxv l : Nat}
    (hb : ∀ b, baby b = true → b < d1 / 2) (hd : 0 < d1) (hl : symEff g d1 d2 < l) :
    hitsUpTo (symIsGrid baby g d1 d2) maxv l = false := by
  rw [Bool.eq_false_iff]
  intro h
  obtain ⟨k, _, hk⟩ := (anyBelow_iff _ _).mp h
  have := sym_grid_le hb (symIsGrid_sound hd hk)
  have h2 : l ≤ (k + 1) * l := Nat.le_mul_of_pos_left _ (by omega)
  omega

theorem sym_hits_exact {baby : Nat → Bool} {g : Nat × Nat × Nat} {d1 d2 l : Nat}
    (hb : ∀ b, baby b = true → b < d1 / 2) (hd : 0 < d1) (hl : 0 < l) :
    hitsUpTo (symIsGrid baby g d1 d2) (symMax g d1 d2) l = true ↔
      ∃ m, 0 < m ∧ l ∣ m ∧ symIsGrid baby g d1 d2 m = true := by
  apply hitsUpTo_iff hl
  intro m hm
  have h1 := sym_grid_le hb (symIsGrid_sound hd hm)
  obtain ⟨i, _, hgi, _, _⟩ := symIsGrid_sound hd hm
  simp only [isGiant, Bool.and_eq_true, decide_eq_true_eq] at hgi
  unfold symEff at h1
  unfold symMax
  obtain ⟨k, hk⟩ : ∃ k, giantHi g d2 = k + 1 := ⟨giantHi g d2 - 1, by omega⟩
  rw [hk] at h1 ⊢
  have : (k + 1) * d1 = k * d1 + d1 := by ring
  simp only [Nat.add_sub_cancel] at h1
  omega

theorem std_hits {baby : Nat → Bool} {g : Nat × Nat × Nat} {d1 d2 l : Nat} (S : StdGrid baby g d1 d2) (h6 : 6 ∣ d1) (hd : 0 < d1)
    (hg : Nat.gcd l d1 = 1) (hl : d1 / 2 < l) (hu : l ≤ symEff g d1 d2) :
    hitsUpTo (symIsGrid baby g d1 d2) (symMax g d1 d2) l = true := by
  rw [S.eff] at hu
  have hmax : symMax g d1 d2 = d2 * d1 + d1 := by unfold symMax; rw [S.hi, Nat.succ_mul]
  exact (anyBelow_iff _ _).mpr ⟨0, Nat.div_pos (by omega) (by omega), by simpa using std_cover S h6 hd hg hl hu⟩

end Ymq.Stage2
