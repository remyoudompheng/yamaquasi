/-
The main loop of the Berlekamp–Massey model: it ends, without reaching a panic site, in `finish`
applied to a state that satisfies the invariant with `df < n / 2`; and the two outcomes of `finish`
(`finish_none`, `finish_some`).
-/
import Ymq.Lemmas.BerlekampMasseyStep
import Ymq.Lemmas.Loops

namespace Ymq.BM
open Polynomial

variable {p : ℕ} {o : Ops} {κ : ZMod p} {n : ℕ} {S : (ZMod p)[X]}

theorem mapM_mul (ok : OpsOK o p κ) (hp : 0 < p) (q : ℕ) (hq : q < p) (l : List ℕ) (h : Red p l) :
    ∃ out, l.mapM (fun x => o.mul x q) = some out ∧ out.length = l.length ∧
      ∀ i, gd out i < p ∧ co p out i = κ * co p l i * q := by
  obtain ⟨out, e, hlen, hQ⟩ := Loops.mapM_total (fun x => o.mul x q)
    (fun x y => y < p ∧ (y : ZMod p) = κ * x * q) l (fun x hx => by
      obtain ⟨i, hi, rfl⟩ := List.getElem_of_mem hx
      have := h i
      rw [gd, Loops.getD_eq_getElem l 0 hi] at this
      exact ok.mul _ q this hq)
  refine ⟨out, e, hlen, fun i => ?_⟩
  by_cases hi : i < l.length
  · have := hQ i hi (hlen ▸ hi)
    unfold co gd
    rwa [Loops.getD_eq_getElem l 0 hi, Loops.getD_eq_getElem out 0 (hlen ▸ hi)]
  · rw [co_zero (gd_of_le out i (by omega)), co_zero (gd_of_le l i (by omega)),
      gd_of_le out i (by omega)]
    exact ⟨hp, by ring⟩

theorem finish_none (u : List ℕ) (hl : 0 < u.length) (h0 : gd u 0 = 0) : finish o u = none := by
  simp [finish, getElem?_of_lt u 0 hl, h0]

theorem finish_some [Fact p.Prime] (ok : OpsOK o p κ) (u : List ℕ) (hl : 0 < u.length)
    (ru : Red p u) (h0 : gd u 0 ≠ 0) :
    ∃ out c, finish o u = some out ∧ out.length = u.length ∧ Red p out ∧ gd out 0 = 1 ∧
      ∀ i, co p out i = c * co p u i := by
  have hp1 : 1 < p := (Fact.out : p.Prime).one_lt
  obtain ⟨q, q1, q2, q3⟩ := ok.fin (gd u 0) (Nat.pos_of_ne_zero h0) (ru 0)
  obtain ⟨out, e1, e2, e3⟩ := mapM_mul ok (by omega) q q2 u ru
  have hc : ∀ i, co p out i = κ * q * co p u i := fun i => by rw [(e3 i).2]; ring
  refine ⟨out, κ * q, ?_, e2, fun i => (e3 i).1, ?_, hc⟩
  · simp [finish, getElem?_of_lt u 0 hl, h0, q1, e1]
  · have h1 : ((gd out 0 : ℕ) : ZMod p) = ((1 : ℕ) : ZMod p) := by
      have := hc 0
      unfold co at this
      rw [this, Nat.cast_one, q3]
    have := (ZMod.natCast_eq_natCast_iff' _ _ _).mp h1
    rwa [Nat.mod_eq_of_lt (e3 0).1, Nat.mod_eq_of_lt hp1] at this

theorem mainLoop_spec (ok : OpsOK o p κ) (hn : 2 ≤ n) : ∀ (k : ℕ) (s : St), Inv p n S s →
    s.df + s.dg + 2 ≤ k →
    ∃ s', Inv p n S s' ∧ s'.df < n / 2 ∧ s'.df ≤ s'.dg ∧ mainLoop o n k s = finish o s'.u
  | 0, s, _, hk => by omega
  | k + 1, s, h, hk => by
    have h1 := inv_swap h
    have hle := swap_le s
    have hsum := swap_sum s
    by_cases hd : (swapIf s).df < n / 2
    · refine ⟨swapIf s, h1, hd, hle, ?_⟩
      simp [mainLoop, hd]
    · obtain ⟨s2, e1, e2, e3, e4⟩ := step_spec ok hn h1 hle (by omega)
      obtain ⟨s3, f1, f2, f3, f4⟩ := mainLoop_spec ok hn k s2 e2 (by omega)
      refine ⟨s3, f1, f2, f3, ?_⟩
      simp [mainLoop, hd, e1, f4]

end Ymq.BM
