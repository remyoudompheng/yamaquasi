/-
Closure of `Curve::add` (ecm.rs), the unified projective addition on `a x² + y² = 1 + d x² y²`.
The identity holds for every `a`; the code's two branches are `a = 1` and `a = -1`.
-/
import Ymq.Lemmas.CurveDefs

namespace Ymq.Curve
open Ymq.Gen.Curves
variable {R : Type} [CommRing R]

/-- Closure of the twisted Edwards addition for every `a`, on the intermediate values of the code:
`x₁ … z₂` stand for the squares of the coordinates, `m` for `X₁X₂Y₁Y₂`, and `A F G E N` for
`Z₁Z₂`, `A² ∓ d m`, `X₁Y₂ + Y₁X₂`, `Y₁Y₂ - a X₁X₂`; the sum is `(A F E : A G N : F G)`. -/
theorem add_closed_gen (a d x1 y1 z1 x2 y2 z2 m A F G E N : R)
    (h1 : (a * x1 + y1) * z1 = z1 * z1 + d * (x1 * y1))
    (h2 : (a * x2 + y2) * z2 = z2 * z2 + d * (x2 * y2))
    (hm : m * m = x1 * y1 * (x2 * y2)) (hA : A * A = z1 * z2)
    (hF : F = A * A - d * m) (hG : G = A * A + d * m)
    (hE : E * E = x1 * y2 + y1 * x2 + 2 * m)
    (hN : N * N = y1 * y2 + a * a * (x1 * x2) - 2 * a * m) :
    (a * (A * F * E * (A * F * E)) + A * G * N * (A * G * N)) * (F * G * (F * G)) =
      F * G * (F * G) * (F * G * (F * G)) + d * (A * F * E * (A * F * E) * (A * G * N * (A * G * N))) := by
  -- the affine identity, all of whose terms carry the factor `(F G)²` in the projective one
  have hK : A * A * (a * (F * F * (E * E)) + G * G * (N * N)) =
      F * F * (G * G) + d * (A * A * (A * A) * (E * E * (N * N))) := by
    rw [hE, hN, hF, hG, hA]
    -- with `sᵢ = a xᵢ + yᵢ` the curve equations read `d xᵢ yᵢ = zᵢ (sᵢ - zᵢ)`
    have hD : d * d * (m * m) = z1 * z2 * ((a * x1 + y1 - z1) * (a * x2 + y2 - z2)) := by
      linear_combination (d * d) * hm - (d * (x2 * y2)) * h1 - (z1 * (a * x1 + y1 - z1)) * h2
    linear_combination
      (z1 * z2 * ((a * x1 + y1) * (a * x2 + y2) + 2 * (z1 * z2) - (a * x1 + y1 - z1) * (a * x2 + y2 - z2))
        - d * d * (m * m)) * hD
      + (z1 * z2 * (z1 * z2) * ((a * x2 + y2) * (a * x2 + y2))) * h1
      + (z1 * z2 * (z1 * z2) * ((a * x1 + y1) * (a * x1 + y1))) * h2
      - (4 * a * d * (z1 * z2 * (z1 * z2))) * hm
  linear_combination (F * F * (G * G)) * hK

end Ymq.Curve
