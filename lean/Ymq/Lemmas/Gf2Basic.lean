/-
C14 (core Lean only): bit vectors seen pointwise (`bitAt`) and xor-sums of Booleans (`xsum`). Every
GF(2) sum of the C14 files is `xsum (l.map f)`, with `l = List.range n` for a sum over indices;
`lzTop` is `BitVec::leading_zeros`.
-/
import Ymq.Model.Gf2
namespace Ymq.Gf2

def bitAt (v : BVec) (i : Nat) : Bool := v.getD i false

def xsum (l : List Bool) : Bool := l.foldr xor false

@[simp] theorem xsum_nil : xsum [] = false := rfl
@[simp] theorem xsum_cons (b : Bool) (l : List Bool) : xsum (b :: l) = (b ^^ xsum l) := rfl

theorem xsum_append (a b : List Bool) : xsum (a ++ b) = (xsum a ^^ xsum b) := by
  induction a with
  | nil => simp
  | cons x a ih => simp [ih]

theorem xsum_map_xor {α} (l : List α) (f g : α → Bool) :
    xsum (l.map (fun a => (f a ^^ g a))) = (xsum (l.map f) ^^ xsum (l.map g)) := by
  induction l with
  | nil => simp
  | cons x l ih =>
    simp only [List.map_cons, xsum_cons, ih]
    cases f x <;> cases g x <;> cases xsum (l.map f) <;> cases xsum (l.map g) <;> rfl

theorem xsum_map_and {α} (l : List α) (c : Bool) (f : α → Bool) :
    xsum (l.map (fun a => (c && f a))) = (c && xsum (l.map f)) := by
  induction l with
  | nil => simp
  | cons x l ih =>
    simp only [List.map_cons, xsum_cons, ih]
    cases c <;> simp

theorem xsum_eq_false_of_forall (l : List Bool) (h : ∀ b ∈ l, b = false) : xsum l = false := by
  induction l with
  | nil => rfl
  | cons x l ih =>
    simp only [xsum_cons]
    rw [h x (by simp), ih (fun b hb => h b (by simp [hb]))]; rfl

theorem xsum_perm {a b : List Bool} (h : a.Perm b) : xsum a = xsum b := by
  induction h with
  | nil => rfl
  | cons x _ ih => simp [ih]
  | swap x y l => simp only [xsum_cons]; cases x <;> cases y <;> cases xsum l <;> rfl
  | trans _ _ ih1 ih2 => exact ih1.trans ih2

theorem xsum_map_congr {α} {l : List α} {f g : α → Bool} (h : ∀ a ∈ l, f a = g a) :
    xsum (l.map f) = xsum (l.map g) := by
  rw [List.map_congr_left h]

theorem xsum_map_false {α} (l : List α) : xsum (l.map (fun _ => false)) = false :=
  xsum_eq_false_of_forall _ (fun b hb => by obtain ⟨_, _, rfl⟩ := List.mem_map.mp hb; rfl)

theorem xsum_comm {α β} (l : List α) (m : List β) (f : α → β → Bool) :
    xsum (l.map (fun a => xsum (m.map (f a)))) = xsum (m.map (fun b => xsum (l.map (fun a => f a b)))) := by
  induction l with
  | nil => simp [xsum_map_false]
  | cons a l ih => simp only [List.map_cons, xsum_cons, ih, xsum_map_xor]

theorem xsum_range_succ' (n : Nat) (f : Nat → Bool) :
    xsum ((List.range (n + 1)).map f) = (f 0 ^^ xsum ((List.range n).map (fun j => f (j + 1)))) := by
  rw [List.range_succ_eq_map, List.map_cons, List.map_map, xsum_cons]; rfl

theorem xsum_range_single (n i : Nat) (f : Nat → Bool) :
    xsum ((List.range n).map (fun j => (j == i && f j))) = (decide (i < n) && f i) := by
  induction n generalizing i f with
  | zero => simp
  | succ n ih =>
    rw [xsum_range_succ']
    cases i with
    | zero =>
      rw [xsum_eq_false_of_forall _ (fun b hb => by
        obtain ⟨j, _, rfl⟩ := List.mem_map.mp hb; simp)]
      simp
    | succ i =>
      rw [xsum_map_congr (g := fun j => (j == i && f (j + 1))) (fun j _ => by simp), ih]
      simp

@[simp] theorem bitAt_nil (i : Nat) : bitAt [] i = false := by simp [bitAt]
@[simp] theorem bitAt_cons_zero (b : Bool) (v : BVec) : bitAt (b :: v) 0 = b := by simp [bitAt]
@[simp] theorem bitAt_cons_succ (b : Bool) (v : BVec) (i : Nat) : bitAt (b :: v) (i + 1) = bitAt v i := by
  simp [bitAt]

theorem bitAt_of_ge (v : BVec) (i : Nat) (h : v.length ≤ i) : bitAt v i = false := by
  simp [bitAt, List.getD, List.getElem?_eq_none h]

theorem bitAt_vxor (a b : BVec) (h : a.length = b.length) (i : Nat) :
    bitAt (vxor a b) i = (bitAt a i ^^ bitAt b i) := by
  induction a generalizing b i with
  | nil => cases b with
    | nil => simp [vxor]
    | cons y b => simp at h
  | cons x a ih => cases b with
    | nil => simp at h
    | cons y b =>
      cases i with
      | zero => simp [vxor]
      | succ i =>
        simp only [List.length_cons, Nat.add_right_cancel_iff] at h
        have := ih b h i
        simpa [vxor] using this

theorem length_vxor (a b : BVec) (h : a.length = b.length) : (vxor a b).length = a.length := by
  simp [vxor, h]

theorem bitAt_replicate_false (n i : Nat) : bitAt (List.replicate n false) i = false := by
  simp only [bitAt, List.getD, List.getElem?_replicate]
  split <;> rfl

theorem bvec_ext (a b : BVec) (hl : a.length = b.length) (h : ∀ i, bitAt a i = bitAt b i) : a = b := by
  induction a generalizing b with
  | nil => cases b with
    | nil => rfl
    | cons y b => simp at hl
  | cons x a ih => cases b with
    | nil => simp at hl
    | cons y b =>
      have h0 := h 0
      simp only [bitAt_cons_zero] at h0
      have := ih b (by simpa using hl) (fun i => by simpa using h (i + 1))
      rw [h0, this]

theorem isZero_iff (v : BVec) : isZero v = true ↔ ∀ i, bitAt v i = false := by
  induction v with
  | nil => simp [isZero]
  | cons x v ih =>
    simp only [isZero, List.all_cons, Bool.and_eq_true, beq_iff_eq] at ih ⊢
    constructor
    · rintro ⟨hx, hv⟩ i
      cases i with
      | zero => simpa using hx
      | succ i => simpa using ih.mp hv i
    · intro h
      exact ⟨by simpa using h 0, ih.mpr (fun i => by simpa using h (i + 1))⟩


theorem lzAux_le (l : List Bool) : lzAux l ≤ l.length := by
  induction l with
  | nil => simp [lzAux]
  | cons x l ih => cases x <;> simp [lzAux]; omega

theorem le_lzAux_iff (l : List Bool) (k : Nat) :
    k ≤ lzAux l ↔ ∀ i, i < k → l[i]? = some false := by
  induction l generalizing k with
  | nil =>
    simp only [lzAux, Nat.le_zero_eq, List.getElem?_nil]
    constructor
    · intro h i hi; omega
    · intro h
      cases k with
      | zero => rfl
      | succ k => exact absurd (h 0 (by omega)) (by simp)
  | cons x l ih =>
    cases x with
    | true =>
      simp only [lzAux, Nat.le_zero_eq]
      constructor
      · intro h i hi; omega
      · intro h
        cases k with
        | zero => rfl
        | succ k => exact absurd (h 0 (by omega)) (by simp)
    | false =>
      simp only [lzAux]
      cases k with
      | zero => simp
      | succ k =>
        rw [Nat.add_le_add_iff_right, ih k]
        constructor
        · intro h i hi
          cases i with
          | zero => simp
          | succ i => simpa using h i (by omega)
        · intro h i hi
          simpa using h (i + 1) (by omega)


theorem lzTop_le (v : BVec) : lzTop v ≤ v.length := by
  simpa [lzTop] using lzAux_le v.reverse

theorem le_lzTop_iff (v : BVec) (k : Nat) (hk : k ≤ v.length) :
    k ≤ lzTop v ↔ ∀ i, v.length - k ≤ i → bitAt v i = false := by
  unfold lzTop
  rw [le_lzAux_iff]
  constructor
  · intro h i hi
    by_cases hin : i < v.length
    · have h1 := h (v.length - 1 - i) (by omega)
      rw [List.getElem?_reverse (by omega)] at h1
      have : v.length - 1 - (v.length - 1 - i) = i := by omega
      rw [this] at h1
      simp [bitAt, List.getD, h1]
    · exact bitAt_of_ge v i (by omega)
  · intro h i hi
    rw [List.getElem?_reverse (by omega)]
    have h1 := h (v.length - 1 - i) (by omega)
    have hlt : v.length - 1 - i < v.length := by omega
    simp only [bitAt, List.getD, List.getElem?_eq_getElem hlt, Option.getD_some] at h1
    rw [List.getElem?_eq_getElem hlt, h1]

theorem lzTop_eq_length_iff (v : BVec) : lzTop v = v.length ↔ ∀ i, bitAt v i = false := by
  have h := le_lzTop_iff v v.length (Nat.le_refl _)
  have hle := lzTop_le v
  constructor
  · intro he i
    exact (h.mp (by omega)) i (by omega)
  · intro hz
    have := h.mpr (fun i _ => hz i)
    omega

theorem bitAt_above_top (v : BVec) (i : Nat) (hi : v.length - lzTop v ≤ i) : bitAt v i = false :=
  (le_lzTop_iff v (lzTop v) (lzTop_le v)).mp (Nat.le_refl _) i hi

theorem bitAt_top (v : BVec) (h : lzTop v < v.length) : bitAt v (v.length - 1 - lzTop v) = true := by
  cases hb : bitAt v (v.length - 1 - lzTop v) with
  | true => rfl
  | false =>
    exfalso
    have := (le_lzTop_iff v (lzTop v + 1) (by omega)).mpr (fun i hi => by
      by_cases he : i = v.length - 1 - lzTop v
      · rw [he]; exact hb
      · exact bitAt_above_top v i (by omega))
    omega

theorem lzTop_vxor_gt (a b : BVec) (hl : a.length = b.length) (hz : lzTop a = lzTop b)
    (hlt : lzTop a < a.length) : lzTop a < lzTop (vxor a b) := by
  have hlen := length_vxor a b hl
  have := (le_lzTop_iff (vxor a b) (lzTop a + 1) (by omega)).mpr (fun i hi => by
    rw [bitAt_vxor a b hl]
    by_cases he : i = a.length - 1 - lzTop a
    · rw [he, bitAt_top a hlt]
      have : a.length - 1 - lzTop a = b.length - 1 - lzTop b := by omega
      rw [this, bitAt_top b (by omega)]; rfl
    · rw [bitAt_above_top a i (by omega), bitAt_above_top b i (by omega)]; rfl)
  omega

def Rect (size : Nat) (M : List BVec) : Prop := ∀ c ∈ M, c.length = size

theorem Rect.tail {size : Nat} {c : BVec} {M : List BVec} (h : Rect size (c :: M)) : Rect size M :=
  fun d hd => h d (by simp [hd])

theorem length_mulVec (size : Nat) (M : List BVec) (v : BVec) (h : Rect size M) :
    (mulVec size M v).length = size := by
  induction M generalizing v with
  | nil => simp [mulVec]
  | cons c M ih =>
    cases v with
    | nil => simp [mulVec]
    | cons b v =>
      simp only [mulVec]
      split
      · rw [length_vxor _ _ (by rw [ih v h.tail, h c (by simp)])]; exact h c (by simp)
      · exact ih v h.tail

theorem bitAt_mulVec (size : Nat) (M : List BVec) (v : BVec) (h : Rect size M) (i : Nat) :
    bitAt (mulVec size M v) i =
      xsum ((List.range M.length).map (fun j => (bitAt v j && bitAt (M.getD j []) i))) := by
  induction M generalizing v with
  | nil => simp [mulVec, bitAt_replicate_false]
  | cons c M ih =>
    rw [List.length_cons, xsum_range_succ']
    cases v with
    | nil => simp [mulVec, bitAt_replicate_false, xsum_map_false]
    | cons b v =>
      simp only [mulVec, bitAt_cons_zero, bitAt_cons_succ, List.getD_cons_zero, List.getD_cons_succ]
      rw [← ih v h.tail]
      cases b with
      | true =>
        rw [if_pos rfl, bitAt_vxor _ _ (by rw [length_mulVec size M v h.tail, h c (by simp)])]; rfl
      | false => simp

theorem length_unitVec (n i : Nat) : (unitVec n i).length = n := by simp [unitVec]

theorem bitAt_map {α} (l : List α) (f : α → Bool) (d : α) (j : Nat) (hj : j < l.length) :
    bitAt (l.map f) j = f (l.getD j d) := by
  simp [bitAt, List.getD, hj]

theorem bitAt_map_range (n : Nat) (f : Nat → Bool) (i : Nat) :
    bitAt ((List.range n).map f) i = (decide (i < n) && f i) := by
  simp only [bitAt, List.getD, List.getElem?_map]
  by_cases h : i < n
  · simp [h]
  · simp [h]

theorem bitAt_unitVec (n i t : Nat) : bitAt (unitVec n i) t = (decide (t < n) && t == i) :=
  bitAt_map_range n (· == i) t

theorem mulVec_unitVec (size : Nat) (M : List BVec) (h : Rect size M) (j : Nat) (hj : j < M.length) :
    mulVec size M (unitVec M.length j) = M[j] := by
  apply bvec_ext
  · rw [length_mulVec size M _ h, h M[j] (List.getElem_mem hj)]
  · intro i
    rw [bitAt_mulVec size M _ h, xsum_map_congr (g := fun t => (t == j && bitAt (M.getD t []) i))
      (fun t ht => by rw [bitAt_unitVec, decide_eq_true (List.mem_range.mp ht), Bool.true_and]),
      xsum_range_single, decide_eq_true hj, Bool.true_and, List.getD_eq_getElem?_getD,
      List.getElem?_eq_getElem hj, Option.getD_some]

end Ymq.Gf2
