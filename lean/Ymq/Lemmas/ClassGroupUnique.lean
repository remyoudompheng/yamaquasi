/-
Uniqueness of the reduced form in a proper equivalence class (positive definite forms), the second half of Gauss'
theorem, for property C18: a reduced form takes its minimum `a` on nonzero vectors, only at `(±1, 0)` when `a < c`
(`reduced_min`, `reduced_min_vectors`), so equivalent reduced forms have the same `a` (`reduced_a_eq`) and are equal when
`a < c` (`reduced_unique_lt`); the case `a = c` and the theorem itself are `C18.reduced_unique` in Ymq/Props/C18Group.lean.
-/
import Ymq.Lemmas.ClassGroupReduce
namespace Ymq.ClassGroup

theorem int_sq_ge_one {z : Int} (h : z ≠ 0) : 1 ≤ z * z := by
  have := mul_self_pos.2 h
  omega

/-- `2 (x² + y² - xy) = x² + y² + (x - y)²`, and two of `x`, `y`, `x - y` are nonzero -/
theorem xy_form_ge_one {x y : Int} (h : x ≠ 0 ∨ y ≠ 0) : 1 ≤ x * x + y * y - x * y := by
  have hd := mul_self_nonneg (x - y)
  by_cases hx : x = 0
  · subst hx
    have := int_sq_ge_one (h.resolve_left (fun h => h rfl))
    linarith
  · have hx1 := int_sq_ge_one hx
    by_cases hy : y = 0
    · subst hy; linarith
    · have hy1 := int_sq_ge_one hy
      linarith

/-- lower bound for the values of a reduced form at nonzero vectors:
`f(x, y) ≥ a (x² + y² - |xy|) + (c - a) y²` because `|b| ≤ a` -/
theorem reduced_lower {f : Form} (h : IsReducedPD f) {x y : Int} (hxy : x ≠ 0 ∨ y ≠ 0) :
    f.a + (f.c - f.a) * (y * y) ≤ f.eval x y := by
  obtain ⟨ha, h1, h2, _, _⟩ := h
  have key : -(f.a * |x * y|) ≤ f.b * (x * y) := by
    have := mul_le_mul_of_nonneg_right (abs_le.2 ⟨h1.le, h2⟩ : |f.b| ≤ f.a) (abs_nonneg (x * y))
    rw [← abs_mul] at this
    linarith [neg_abs_le (f.b * (x * y))]
  have hq : 1 ≤ x * x + y * y - |x * y| := by
    rcases abs_choice (x * y) with e | e <;> rw [e]
    · exact xy_form_ge_one hxy
    · have := xy_form_ge_one (x := x) (y := -y) (hxy.imp id neg_ne_zero.2)
      linarith
  have := le_mul_of_one_le_right ha.le hq
  simp only [Form.eval]
  linarith

theorem reduced_min {f : Form} (h : IsReducedPD f) {x y : Int} (hxy : x ≠ 0 ∨ y ≠ 0) : f.a ≤ f.eval x y := by
  have := reduced_lower h hxy
  have := mul_nonneg (sub_nonneg.2 h.2.2.2.1) (mul_self_nonneg y)
  linarith

theorem reduced_min_vectors {f : Form} (h : IsReducedPD f) (hac : f.a < f.c) {x y : Int}
    (hxy : x ≠ 0 ∨ y ≠ 0) (hv : f.eval x y = f.a) : y = 0 ∧ (x = 1 ∨ x = -1) := by
  have hy : y = 0 := by
    by_contra hy
    have := reduced_lower h hxy
    have := le_mul_of_one_le_right (sub_pos.2 hac).le (int_sq_ge_one hy)
    linarith
  subst hy
  refine ⟨rfl, ?_⟩
  simp only [Form.eval] at hv
  have : f.a * ((x - 1) * (x + 1)) = 0 := by linear_combination hv
  rcases mul_eq_zero.1 ((mul_eq_zero.1 this).resolve_left h.1.ne') with h | h
  · left; omega
  · right; omega

/-- Properly equivalent reduced forms have the same first coefficient, the minimum of their common
set of values at nonzero vectors: `g.a = f(p, r)` and `f.a = g(s, -r)`. -/
theorem reduced_a_eq {f g : Form} (hf : IsReducedPD f) (hg : IsReducedPD g) {p q r s : Int}
    (hdet : p * s - q * r = 1) (hfg : g = f.act p q r s) :
    g.a = f.a ∧ (p ≠ 0 ∨ r ≠ 0) ∧ f.eval p r = f.a := by
  have hga : g.a = f.eval p r := by rw [hfg]; rfl
  have hpr : p ≠ 0 ∨ r ≠ 0 := by
    by_contra hc
    rw [not_or, not_not, not_not] at hc
    rw [hc.1, hc.2] at hdet; omega
  have hfa : f.a = g.eval s (-r) := by
    rw [hfg, Form.act_eval]
    have e1 : p * s + q * -r = 1 := by linear_combination hdet
    have e2 : r * s + s * -r = 0 := by ring
    rw [e1, e2]; simp only [Form.eval]; ring
  have hsr : s ≠ 0 ∨ -r ≠ 0 := by
    by_contra hc
    rw [not_or, not_not, not_not, neg_eq_zero] at hc
    rw [hc.1, hc.2] at hdet; omega
  have h1 : f.a ≤ g.a := hga ▸ reduced_min hf hpr
  have h2 : g.a ≤ f.a := hfa ▸ reduced_min hg hsr
  have haa := le_antisymm h2 h1
  exact ⟨haa, hpr, by rw [← hga, haa]⟩

/-- the case `a < c` of uniqueness: the matrix is `±(1, q; 0, 1)`, and `b`, `b + 2aq` both lie in
`(-a, a]` -/
theorem reduced_unique_lt {f g : Form} (hf : IsReducedPD f) (hg : IsReducedPD g) (hac : f.a < f.c)
    (he : PEquiv f g) : f = g := by
  obtain ⟨p, q, r, s, hdet, hfg⟩ := he
  obtain ⟨haa, hpr, hv⟩ := reduced_a_eq hf hg hdet hfg
  obtain ⟨hr0, hp1⟩ := reduced_min_vectors hf hac hpr hv
  subst hr0
  have hps : p * s = 1 := by linear_combination hdet
  have hgb : g.b = f.b + 2 * f.a * (p * q) := by
    rw [hfg]; simp only [Form.act]; linear_combination f.b * hps
  obtain ⟨_, g1, g2, _, _⟩ := hg
  obtain ⟨fa, f1, f2, _, _⟩ := hf
  have hlo : 2 * f.a * (-1) < 2 * f.a * (p * q) := by omega
  have hhi : 2 * f.a * (p * q) < 2 * f.a * 1 := by omega
  have h2a : 0 ≤ 2 * f.a := by omega
  have hpq : p * q = 0 := by
    have := lt_of_mul_lt_mul_left hlo h2a
    have := lt_of_mul_lt_mul_left hhi h2a
    omega
  have hb : f.b = g.b := by rw [hgb, hpq]; ring
  exact form_ext_disc haa.symm hb (by omega) (PEquiv.disc_eq ⟨p, q, 0, s, hdet, hfg⟩).symm

theorem isReducedPD_of_prim {D : Int} {f : Form} (h : IsReducedPrim D f) : IsReducedPD f := by
  obtain ⟨_, ha, hb, hc, hs, _⟩ := h
  refine ⟨ha, ?_, by omega, hc, fun e => hs (Or.inr e)⟩
  by_contra hlt
  have hb' : f.b.natAbs = f.a.natAbs := by omega
  have := hs (Or.inl hb')
  omega

end Ymq.ClassGroup
