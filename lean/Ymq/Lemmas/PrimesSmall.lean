/-
`HSmall` (C17): the model's `primes(6542)` — block 0 of the `PrimeSieve` — is the list of all
primes below 2^16.  Proved from the correctness theorem of the sieve model (`primes_eq`) and the
kernel-computed count π(65536) = 6542 (Ymq/Lemmas/PrimesCount.lean).  With it, call `b + 1` of `next`
on a fresh sieve returns block `b` (`nth_fresh`).
-/
import Ymq.Lemmas.PrimesCount
import Ymq.Lemmas.PrimesTop

namespace Ymq.Primes

theorem primes_6542 : primes 6542 = some (primesBelow 65536) := by
  have hb : bound 6542 = some 85046 := by decide +kernel
  have e : (primesBelow (2 * (85046 / 2))).take 6542 = primesBelow 65536 := by
    rw [show 2 * (85046 / 2) = 65536 + 19510 from rfl, primesBelow_append,
      List.take_append_of_le_length (by rw [length_primesBelow_65536]),
      List.take_of_length_le (by rw [length_primesBelow_65536])]
  rw [primes_eq 6542 85046 hb, e]

theorem nth_fresh (b : Nat) (hb : b < 65536) :
    ∃ ps0 ps', PrimeSieve.new = some ps0 ∧
      PrimeSieve.nth b ps0 = some (primesFrom (65536 * b) 65536, ps') ∧ Good ps' (b + 1) := by
  obtain ⟨ps0, ps1, hnew, hnext, hgood⟩ := new_spec primes_6542
  cases b with
  | zero =>
    refine ⟨ps0, ps1, hnew, ?_, hgood⟩
    rw [Nat.mul_zero, ← primesBelow_eq_primesFrom_zero]
    exact hnext
  | succ b =>
    obtain ⟨ps', hn, hg⟩ := nth_spec b 1 ps1 hgood (by omega) (by omega)
    rw [Nat.add_comm 1 b] at hn hg
    exact ⟨ps0, ps', hnew, by rw [PrimeSieve.nth, hnext]; exact hn, hg⟩

end Ymq.Primes
