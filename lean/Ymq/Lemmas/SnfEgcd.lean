/-
Bezout property of the model of `num_integer::Integer::extended_gcd` on `i128`
(`Ymq.Arith.extendedGcd`, Ymq/Model/Arith.lean), as used by `SmithNormalForm::{normalize, eliminate}`.
-/
import Ymq.Model.Arith
import Mathlib.Tactic.Ring
import Mathlib.Tactic.Linarith
import Mathlib.Data.Int.GCD

namespace Ymq.Snf
open Ymq.Arith

theorem chk128_some {x y : Int} (h : chk128 x = some y) : y = x := by
  unfold chk128 at h
  split at h
  · exact (Option.some.inj h).symm
  · exact absurd h (by simp)

theorem subMul_val {a q b r : Int} (h : subMul a q b = some r) : r = a - q * b := by
  unfold subMul at h
  split at h
  · exact absurd h (by simp)
  · rename_i m hm
    rw [chk128_some h, chk128_some hm]

theorem egcdLoop_inv (a b : Int) : ∀ (f : Nat) (s0 s1 t0 t1 r0 r1 g x y : Int),
    egcdLoop f s0 s1 t0 t1 r0 r1 = some (g, x, y) →
    r0 = s0 * a + t0 * b → r1 = s1 * a + t1 * b → Int.gcd r0 r1 = Int.gcd a b →
    g = x * a + y * b ∧ g.natAbs = Int.gcd a b
  | 0, _, _, _, _, _, _, _, _, _, h, _, _, _ => by simp [egcdLoop] at h
  | f + 1, s0, s1, t0, t1, r0, r1, g, x, y, h, h0, h1, hg => by
    unfold egcdLoop at h
    split at h
    · rename_i hr0
      obtain ⟨rfl, rfl, rfl⟩ : r1 = g ∧ s1 = x ∧ t1 = y := by simpa using h
      refine ⟨h1, ?_⟩
      rw [← hg, hr0]; simp
    · split at h
      · exact absurd h (by simp)
      · simp only [] at h
        split at h
        · rename_i r0' s0' t0' hr hs ht
          have er := subMul_val hr
          have es := subMul_val hs
          have et := subMul_val ht
          apply egcdLoop_inv a b f s0' s0 t0' t0 r0' r0 g x y h
          · rw [er, es, et, h0, h1]; ring
          · exact h0
          · rw [er, ← hg]
            rw [Int.gcd_comm r0 r1]
            have : r1 - Int.tdiv r1 r0 * r0 = r1 + r0 * (-(Int.tdiv r1 r0)) := by ring
            rw [this, Int.gcd_add_mul_left_left]
        · exact absurd h (by simp)

theorem extendedGcd_bezout {a b g x y : Int} (h : extendedGcd a b = some (g, x, y)) :
    x * a + y * b = g ∧ 0 ≤ g ∧ g ∣ a ∧ g ∣ b := by
  unfold extendedGcd at h
  split at h
  · exact absurd h (by simp)
  · rename_i g0 x0 y0 hl
    obtain ⟨e1, e2⟩ := egcdLoop_inv a b _ 0 1 1 0 b a g0 x0 y0 hl (by ring) (by ring) (Int.gcd_comm b a)
    have hdvd : ∀ z : Int, z.natAbs = Int.gcd a b → z ∣ a ∧ z ∣ b := fun z hz =>
      ⟨Int.natAbs_dvd.mp (hz ▸ Int.gcd_dvd_left a b), Int.natAbs_dvd.mp (hz ▸ Int.gcd_dvd_right a b)⟩
    split at h
    · rename_i hpos
      obtain ⟨rfl, rfl, rfl⟩ : g0 = g ∧ x0 = x ∧ y0 = y := by simpa using h
      exact ⟨e1.symm, hpos, hdvd _ e2⟩
    · split at h
      · rename_i g' x' y' hg' hx' hy'
        obtain ⟨rfl, rfl, rfl⟩ : g' = g ∧ x' = x ∧ y' = y := by simpa using h
        rw [chk128_some hg', chk128_some hx', chk128_some hy']
        refine ⟨by rw [e1]; ring, by omega, hdvd _ ?_⟩
        rw [← e2]; simp
      · exact absurd h (by simp)

end Ymq.Snf
