/-
C14 "small", helper lemmas (Mathlib): a continuing iteration of the checked profile preserves
the extended invariant `VInv` (directions `V_m` in the ghost history).
-/
import Ymq.Lemmas.Gf2SmallThreeTerm

namespace Ymq.Gf2Small
open Ymq.Gf2 Ymq.Gf2Genblock Ymq.Gf2Lanczos
open scoped Matrix

theorem projS_comm (a b : Nat) : projS a * projS b = projS b * projS a := by
  rw [← projS_and, ← projS_and, Nat.and_comm]

/-- the step of `VInv.cc`: `Pc` projects on the vectors not selected so far, `Ci` on those the new block leaves;
`N` is the new direction -/
theorem cc_algebra {I : Type} [Fintype I] [DecidableEq I] {R : Type} [CommRing R] (Vm Vi N Pc Ci : Matrix I I R) (hcomm : Pc * Ci = Ci * Pc)
    (hcc : Vm * Pc = Vi * Pc) (hcol : N * Ci = Vi * Ci) : Vm * (Pc * Ci) = N * (Pc * Ci) := by
  calc Vm * (Pc * Ci) = (Vm * Pc) * Ci := (mul_assoc _ _ _).symm
    _ = Vi * Pc * Ci := by rw [hcc]
    _ = Vi * (Ci * Pc) := by rw [mul_assoc, hcomm]
    _ = (Vi * Ci) * Pc := (mul_assoc _ _ _).symm
    _ = (N * Ci) * Pc := by rw [hcol]
    _ = N * (Ci * Pc) := mul_assoc _ _ _
    _ = N * (Pc * Ci) := by rw [hcomm]

/-- the step of `VInv.dd`: the vectors of `Vi` that the new block selects (`Pi`) vanish -/
theorem dd_algebra {I : Type} [Fintype I] [DecidableEq I] {R : Type} [CommRing R] (Vm Vi Pc Pi : Matrix I I R) (hcomm : Pc * Pi = Pi * Pc)
    (hdd : Vm * (1 - Pc) = 0) (hcc : Vm * Pc = Vi * Pc) (hz : Vi * Pi = 0) :
    Vm * (1 - Pc * (1 - Pi)) = 0 := by
  have hsplit : 1 - Pc * (1 - Pi) = (1 - Pc) + Pc * Pi := by
    rw [mul_sub, mul_one]; abel
  rw [hsplit, mul_add, hdd, zero_add, ← mul_assoc, hcc, mul_assoc, hcomm, ← mul_assoc, hz, zero_mul]

/-- A continuing iteration keeps `VInv`. The last index moves from `i` to `i + 1`: `recur` gains the equation of the new
direction (`StepFacts.xform` with `VInv.direction`); `cc`, `dd` at `(m, i + 1)` come from `(m, i)` by `cc_algebra`,
`dd_algebra`, since `W_i = V_i·S_i` removes the selected vectors; `purged` comes from the purge record of
`StepFacts.wsEq` and the fact that `!S_{j+1} & …` stays null once it is. -/
theorem VInv_step {k : Nat} {cols : List (List Nat)} (hM : MatOK k cols) (hn0 : 0 < cols.length) {Y0 : List Nat}
    {st st' : LState} {hist vhist : List (List Nat)} {Ss : List Nat} {mk : Nat} {w next next0 : List Nat}
    (hInv : LInv k cols Y0 st hist Ss) (hV : VInv k cols st hist vhist Ss)
    (hF : StepFacts k cols st hist st' mk w next next0) :
    VInv k cols st' (hist ++ [w]) (vhist ++ [next]) (Ss ++ [mk]) := by
  obtain ⟨ws0, hws', hws0l, hpr⟩ := hF.wsEq
  obtain ⟨vs0, hvs'⟩ := hF.vsEq
  -- `i` is the index of the last block: the statement's `st.ws.length - 1`, `st'.ws.length - 1` become `i`, `i + 1`
  obtain ⟨i, hi⟩ : ∃ i, st.ws.length = i + 1 := by
    obtain ⟨wl, hwl, _⟩ := hInv.wf.lastW
    cases hh : st.ws with
    | nil => rw [hh] at hwl; cases hwl
    | cons a l => exact ⟨l.length, rfl⟩
  have hlen' : st'.ws.length = i + 1 + 1 := by rw [hws', List.length_append, hws0l, hi]; rfl
  have hH : hist.length = i + 1 := hInv.lenH.trans hi
  have hS : Ss.length = i + 1 := hInv.lenS.trans hi
  have hVh : vhist.length = i + 1 := hV.lenVh.trans hi
  have hMk : st.masks.length = i + 1 := hInv.wf.lenM.trans hi
  have gH : ∀ j, j < i + 1 → (hist ++ [w]).getD j [] = hist.getD j [] := fun j hj => getD_snoc_lt hH hj _ _
  have gHl : (hist ++ [w]).getD (i + 1) [] = w := getD_snoc_length hH _ _
  have gV : ∀ j, j < i + 1 → (vhist ++ [next]).getD j [] = vhist.getD j [] := fun j hj => getD_snoc_lt hVh hj _ _
  have gVl : (vhist ++ [next]).getD (i + 1) [] = next := getD_snoc_length hVh _ _
  have gS : ∀ j, j < i + 1 → (Ss ++ [mk]).getD j 0 = Ss.getD j 0 := fun j hj => getD_snoc_lt hS hj _ _
  have gSl : (Ss ++ [mk]).getD (i + 1) 0 = mk := getD_snoc_length hS _ _
  have hpc : ∀ m, m ≤ i → pc (Ss ++ [mk]) m (i + 1) = pc Ss m i &&& (M64 ^^^ Ss.getD i 0) :=
    fun m hm => pc_snoc Ss mk hm (by rw [hS]; exact Nat.lt_succ_self i)
  have hwM : CM cols.length w = CM cols.length next * projS mk := by
    rw [hF.wEq]; exact cellMat_mask hF.nextOK.1 mk
  have hdir := hV.direction hM hInv hF.dir
  have hnotProj := hV.notProj hInv.wf.lenM
  have horthV := hF.orthV
  have hxf := hF.xform
  have hWV := hV.wvLast
  have hrec := hV.recur
  have hcc := hV.cc
  have hdd := hV.dd
  have hmR := hV.masksRel
  rw [hi] at hrec hmR horthV hxf hpr
  rw [hi, Nat.add_sub_cancel] at hWV hcc hdd hdir hnotProj
  have hz : CM cols.length (hist.getD i []) * projS (M64 ^^^ Ss.getD i 0) = 0 := by
    rw [hWV, projS_compl, Matrix.mul_assoc, Matrix.mul_sub, Matrix.mul_one, projS_idem, sub_self, Matrix.mul_zero]
  -- a block A-orthogonal to the new history is A-orthogonal to the old one
  have hold : ∀ {X : List Nat}, (∀ l, l + 1 < i + 1 + 1 → Q k cols X ((hist ++ [w]).getD l []) = 0) →
      ∀ l, l < i + 1 → Q k cols X (hist.getD l []) = 0 :=
    fun hall l hl => by rw [← gH l hl]; exact hall l (Nat.succ_lt_succ hl)
  exact {
    lenVh := by rw [hlen', List.length_append, hVh]; rfl
    lastW := by rw [hlen', Nat.add_sub_cancel, gHl, hws', List.getLast?_concat]
    lastV := by rw [hlen', Nat.add_sub_cancel, gVl, hvs', List.getLast?_concat]
    wvLast := by rw [hlen', Nat.add_sub_cancel, gHl, gVl, gSl]; exact hwM
    vOrth := by
      rw [hlen', Nat.add_sub_cancel, gVl]
      intro l hl
      rw [gH l (Nat.lt_of_succ_lt_succ hl)]
      exact horthV l (Nat.lt_of_succ_lt_succ hl)
    recur := by
      rw [hlen']
      intro j hj X hX hall
      have hji : j < i + 1 := Nat.lt_of_succ_lt_succ hj
      have hall' : ∀ l, l ≤ j → Q k cols X (hist.getD l []) = 0 := fun l hl => by
        rw [← gH l (Nat.lt_of_le_of_lt hl hji)]; exact hall l hl
      rw [gH j hji, gV j hji]
      rcases Nat.lt_or_eq_of_le (Nat.le_of_lt_succ hji) with hlt | rfl
      · rw [gV (j + 1) (Nat.succ_lt_succ hlt)]
        exact hrec j (Nat.succ_lt_succ hlt) X hX hall'
      · rw [gVl, hxf X hX (fun l hl => hall' l (Nat.le_of_lt_succ hl)), hdir X, add_assoc, ZModModule.add_self, add_zero]
    cc := by
      rw [hlen', Nat.add_sub_cancel, gVl]
      intro m hm X hX hall
      rcases Nat.lt_or_eq_of_le (Nat.le_of_lt_succ hm) with hml | rfl
      · have hcol : Q k cols X next * projS (M64 ^^^ Ss.getD i 0) =
            Q k cols X (vhist.getD i []) * projS (M64 ^^^ Ss.getD i 0) := by
          rw [hxf X hX (hold hall), hdir X, Matrix.add_mul, Matrix.mul_assoc, Matrix.mul_assoc (gramA k cols), hz,
            Matrix.mul_zero, Matrix.mul_zero, zero_add]
        rw [gV m hml, hpc m (Nat.le_of_lt_succ hml), projS_and]
        exact cc_algebra _ _ _ _ _ (projS_comm _ _)
          (hcc m hml X hX (fun l hl => hold hall l (Nat.lt_of_succ_lt hl))) hcol
      · rw [gVl]
    dd := by
      rw [hlen', Nat.add_sub_cancel]
      intro m hm X hX hall
      rcases Nat.lt_or_eq_of_le (Nat.le_of_lt_succ hm) with hml | rfl
      · have hXW : Q k cols X (vhist.getD i []) * projS (Ss.getD i 0) = 0 := by
          show (CM cols.length X)ᵀ * gramA k cols * CM cols.length (vhist.getD i []) * _ = 0
          rw [Matrix.mul_assoc, ← hWV]
          exact hold hall i (Nat.lt_succ_self i)
        have hold1 : ∀ l, l + 1 < i + 1 → Q k cols X (hist.getD l []) = 0 :=
          fun l hl => hold hall l (Nat.lt_of_succ_lt hl)
        rw [gV m hml, hpc m (Nat.le_of_lt_succ hml), projS_and, projS_compl]
        exact dd_algebra _ _ _ _ (projS_comm _ _) (hdd m hml X hX hold1) (hcc m hml X hX hold1) hXW
      · rw [pc_self, projS_M64, sub_self, Matrix.mul_zero]
    masksRel := by
      rw [hlen', hF.masksEq]
      intro l hl1 hl
      rcases Nat.lt_or_eq_of_le (Nat.le_of_lt_succ hl) with hll | rfl
      · rw [getD_snoc_lt hMk hll, gS l hll]
        exact hmR l hl1 hll
      · rw [getD_snoc_length hMk, gSl]
    purged := by
      rw [hlen', Nat.add_sub_cancel, hws']
      intro j x hjx hxe
      rcases Nat.lt_or_ge j ws0.length with hj | hj
      · rw [List.getElem?_append_left hj] at hjx
        have hjL : j < i + 1 := by rw [← hi, ← hws0l]; exact hj
        have hnp : ¬ Projected st.ws st.masks (i + 1) j := by
          rintro ⟨hp1, hp2⟩
          rcases hpr j x hjx hxe with ⟨w0, hw0, hw0e⟩ | hm0
          · have : st.ws.getD j [] = w0 := by simp [List.getD_eq_getElem?_getD, hw0]
            rw [this, hw0e] at hp1; exact absurd hp1 (by decide)
          · exact hp2 hm0
        obtain ⟨h1, h2⟩ := hnotProj j hjL hnp
        refine ⟨Nat.lt_succ_of_lt h1, ?_⟩
        rw [hpc (j + 1) (Nat.le_of_lt_succ h1), h2, Nat.zero_and]
      · -- the new block has one word per column: it is not empty
        exfalso
        rw [List.getElem?_append_right hj] at hjx
        rw [List.mem_singleton.mp (List.mem_of_getElem? hjx), List.isEmpty_iff] at hxe
        have hwl : w.length = cols.length := by rw [hF.wEq, List.length_map, hF.nextOK.1]
        rw [hxe] at hwl
        exact absurd hwl (Nat.ne_of_lt hn0) }

end Ymq.Gf2Small
