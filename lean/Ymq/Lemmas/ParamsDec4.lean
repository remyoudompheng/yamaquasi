/- C20: the dispatch of `convolve_modn`, checked arm by arm.  Restated as property theorems in Ymq/Props/C20.lean. -/
import Ymq.Lemmas.Params
import Ymq.Lemmas.ParamsDefs

namespace Ymq.C20
open Ymq.Checked Ymq.Gen Ymq.Gen.Params

/-- First-match cascades of rectangular guards with constant results, indexed by the function they denote: a term of
`Arms g` lists the arms `(a, s, r)` of `g`, so that a check can run over the arms instead of over the arguments.
A function has such a term only if it IS a cascade `if b ≤ a && sz ≤ s then some r else ..` ending in `none`, with guards of
exactly the form the translator prints for a tuple `match` on ranges; nothing is assumed of the number of arms or of the
constants in them, which `Arms.check` reads and evaluates. -/
inductive Arms {R : Type} : (Nat → Nat → Option R) → Type
  | nil : Arms (fun _ _ => none)
  | cons (a s : Nat) (r : R) {g : Nat → Nat → Option R} (tl : Arms g) :
      Arms (fun b sz => if (decide ((b, sz).1 ≤ a) && decide ((b, sz).2 ≤ s)) = true then some r else g b sz)

/-- `P` holds wherever an arm is selected, for the second argument `sz` and first arguments in `lo .. N`: an arm that
admits `sz` is selected for the `b ≤ a` that no earlier arm took (`lo ≤ b`), and is checked at the largest of them;
when the arms are used up nothing may be left (`N < lo`). -/
def Arms.check {R : Type} (P : Nat → R → Bool) (N sz : Nat) : {g : Nat → Nat → Option R} → Arms g → Nat → Bool
  | _, .nil, lo => decide (N < lo)
  | _, .cons a s r tl, lo =>
    if sz ≤ s then (decide (a < lo) || P (min a N) r) && tl.check P N sz (max lo (a + 1)) else tl.check P N sz lo

/-- `hP`: `P` is antitone in the first argument; that is why checking an arm at the largest first argument it is selected for
(`min a N`) is enough for all of them. -/
theorem Arms.check_sound {R : Type} {P : Nat → R → Bool} (hP : ∀ b b' r, b ≤ b' → P b' r = true → P b r = true)
    {N sz : Nat} : ∀ {g : Nat → Nat → Option R} (c : Arms g) (lo : Nat), c.check P N sz lo = true →
      ∀ b, lo ≤ b → b ≤ N → ∃ r, g b sz = some r ∧ P b r = true
  | _, .nil, lo, h, b, hlo, hN => by
    have := of_decide_eq_true h
    omega
  | _, .cons a s r tl, lo, h, b, hlo, hN => by
    unfold Arms.check at h
    by_cases hs : sz ≤ s
    · rw [if_pos hs, Bool.and_eq_true, Bool.or_eq_true, decide_eq_true_eq] at h
      by_cases hb : b ≤ a
      · exact ⟨r, by simp [hb, hs], hP b (min a N) r (by omega) (h.1.resolve_left (by omega))⟩
      · obtain ⟨r', hr', hp⟩ := check_sound hP tl _ h.2 b (by omega) hN
        exact ⟨r', by simp [hb, hr'], hp⟩
    · rw [if_neg hs] at h
      obtain ⟨r', hr', hp⟩ := check_sound hP tl _ h b hlo hN
      exact ⟨r', by simp [hs, hr'], hp⟩

theorem DispatchOk.anti {a bits k : Nat} {r : Nat × Nat × Nat} (h : DispatchOk a k r) (hb : bits ≤ a) :
    DispatchOk bits k r := by
  unfold DispatchOk at h ⊢
  obtain ⟨h1, h2, h3, h4, h5⟩ := h
  refine ⟨h1, h2, h3, h4, ?_⟩
  split at h5 <;> rename_i h0
  · rw [if_pos h0]; exact ⟨h5.1, by omega, by omega, h5.2.2.2⟩
  · rw [if_neg h0]; exact ⟨by omega, h5.2⟩

theorem Dec.convolve_of_arms (arms : Arms arith_fft.convolve_dispatch)
    (h : ∀ k, k ≤ 19 → arms.check (fun b r => decide (1 ≤ k → DispatchOk b k r)) CONVOLVE_MAX_BITS (2 ^ k) 0 = true) :
    ∀ bits, bits ≤ CONVOLVE_MAX_BITS → ∀ k, k ≤ 19 →
      Holds (arith_fft.convolve_dispatch bits (2 ^ k)) fun r => 1 ≤ k → DispatchOk bits k r := by
  intro bits hb k hk
  obtain ⟨r, hr, hp⟩ := Arms.check_sound (P := fun b r => decide (1 ≤ k → DispatchOk b k r))
    (fun b b' r hbb hp => decide_eq_true fun h1 => DispatchOk.anti (of_decide_eq_true hp h1) hbb)
    arms 0 (h k hk) bits (Nat.zero_le _) hb
  exact ⟨r, hr, of_decide_eq_true hp⟩

theorem Dec.convolve : ∀ bits, bits ≤ CONVOLVE_MAX_BITS → ∀ k, k ≤ 19 →
    Holds (arith_fft.convolve_dispatch bits (2 ^ k)) fun r => 1 ≤ k → DispatchOk bits k r := by
  refine Dec.convolve_of_arms ?arms ?h
  case arms =>
    -- constructs the list of arms by reading them off the if-cascade of the generated definition, one `cons` per `if`
    -- (the unifier fills in the two bounds and the result of each arm), `nil` for the final `none`
    repeat (first | exact .nil | refine .cons _ _ _ ?_)
  case h => decide +kernel

end Ymq.C20
