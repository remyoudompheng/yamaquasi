/-
C13 helper lemmas: the class loops of `sieve_block` visit every non-skipped cursor exactly once
(`smallHits_rootSum`: closed form of the small-prime part of the byte array, in terms of the roots).
-/
import Ymq.Lemmas.SieveLog
import Ymq.Lemmas.SieveLogSum
import Ymq.Lemmas.SieveFill

namespace Ymq.SieveLog
open Ymq.Sieve

/-- `Σ_{k = s}^{s+n-1} f k` -/
def rangeSum (f : Nat → Nat) (s n : Nat) : Nat := ((List.range' s n).map f).sum

theorem rangeSum_zero (f : Nat → Nat) (s : Nat) : rangeSum f s 0 = 0 := rfl

theorem rangeSum_succ (f : Nat → Nat) (s n : Nat) : rangeSum f s (n + 1) = f s + rangeSum f (s + 1) n := by
  simp [rangeSum, List.range'_succ]

theorem rangeSum_append (f : Nat → Nat) (s m n : Nat) :
    rangeSum f s (m + n) = rangeSum f s m + rangeSum f (s + m) n := by
  unfold rangeSum
  have := List.range'_append (s := s) (m := m) (n := n) (step := 1)
  simp only [Nat.one_mul] at this
  rw [← this, List.map_append, List.sum_append]

theorem rangeSum_concat (f : Nat → Nat) (s A B C : Nat) (h1 : A ≤ B) (h2 : B ≤ C) :
    rangeSum f (max s A) (B - max s A) + rangeSum f (max s B) (C - max s B) =
      rangeSum f (max s A) (C - max s A) := by
  by_cases hs : s ≤ B
  · have e1 : max s B = B := by omega
    have e2 : C - max s A = (B - max s A) + (C - B) := by omega
    have e3 : max s A + (B - max s A) = B := by omega
    rw [e1, e2, rangeSum_append, e3]
  · have e1 : B - max s A = 0 := by omega
    have e2 : max s B = s := by omega
    have e3 : max s A = s := by omega
    rw [e1, e2, e3, rangeSum_zero, Nat.zero_add]

theorem mono_chain (A : Nat → Nat) : ∀ (n a : Nat), (∀ l, a ≤ l → l < a + n → A l ≤ A (l + 1)) → A a ≤ A (a + n) := by
  intro n
  induction n with
  | zero => intro a _; simp
  | succ n ih =>
    intro a hm
    have h1 := ih a (fun l h1 h2 => hm l h1 (by omega))
    have h2 := hm (a + n) (by omega) (by omega)
    have e : a + (n + 1) = a + n + 1 := rfl
    rw [e]; omega

theorem rangeSum_chain (f : Nat → Nat) (s : Nat) (A : Nat → Nat) :
    ∀ (n a : Nat), (∀ l, a ≤ l → l < a + n → A l ≤ A (l + 1)) →
      ((List.range' a n).map fun l => rangeSum f (max s (A l)) (A (l + 1) - max s (A l))).sum =
        rangeSum f (max s (A a)) (A (a + n) - max s (A a)) := by
  intro n
  induction n with
  | zero => intro a _; simp [rangeSum]
  | succ n ih =>
    intro a hm
    rw [List.range'_concat, List.map_append, List.sum_append, ih a (fun l h1 h2 => hm l h1 (by omega))]
    simp only [List.map_cons, List.map_nil, List.sum_cons, List.sum_nil, Nat.add_zero, Nat.one_mul]
    have hmono := mono_chain A n a (fun l h1 h2 => hm l h1 (by omega))
    have := rangeSum_concat f s (A a) (A (a + n)) (A (a + n + 1)) hmono (hm (a + n) (by omega) (by omega))
    have e : a + (n + 1) = a + n + 1 := rfl
    rw [e]
    exact this

theorem rangeSum_pairs (F : Nat → Nat) :
    ∀ (n lo : Nat), ((List.range' lo n).map fun i => F (2 * i) + F (2 * i + 1)).sum = rangeSum F (2 * lo) (2 * n) := by
  intro n
  induction n with
  | zero => intro lo; simp [rangeSum]
  | succ n ih =>
    intro lo
    rw [List.range'_succ, List.map_cons, List.sum_cons, ih (lo + 1)]
    have e : 2 * (n + 1) = 2 * n + 1 + 1 := by ring
    rw [e, rangeSum_succ, rangeSum_succ]
    have e2 : 2 * (lo + 1) = 2 * lo + 1 + 1 := by ring
    rw [e2]; omega

/-- a loop that collects hits, seen through the total added at `x`: termwise `R` (`=`, or `≤`) gives `R` of the sums. -/
theorem mapM_flatten_rel (R : Nat → Nat → Prop) (hR0 : R 0 0)
    (hRadd : ∀ a b c d, R a b → R c d → R (a + c) (b + d)) {α} (g : α → Option (List (Nat × Nat))) (f : α → Nat)
    (x : Nat) :
    ∀ (L : List α) (ls : List (List (Nat × Nat))), L.mapM g = some ls →
      (∀ i ∈ L, ∀ l, g i = some l → R (hitSum l x) (f i)) → R (hitSum ls.flatten x) ((L.map f).sum) := by
  intro L
  induction L with
  | nil => intro ls h _; simp at h; subst h; exact hR0
  | cons a t ih =>
    intro ls h hf
    rw [List.mapM_cons] at h
    simp only [bind, Option.bind_eq_some_iff, pure, Option.some.injEq] at h
    obtain ⟨l, hl, ls', hls', rfl⟩ := h
    rw [List.flatten_cons, hitSum_append, List.map_cons, List.sum_cons]
    exact hRadd _ _ _ _ (hf a List.mem_cons_self l hl) (ih ls' hls' (fun i hi => hf i (List.mem_cons_of_mem _ hi)))

theorem mapM_flatten_sum {α} (g : α → Option (List (Nat × Nat))) (f : α → Nat) (x : Nat)
    (L : List α) (ls : List (List (Nat × Nat))) (h : L.mapM g = some ls)
    (hf : ∀ i ∈ L, ∀ l, g i = some l → hitSum l x = f i) : hitSum ls.flatten x = (L.map f).sum :=
  mapM_flatten_rel Eq rfl (fun _ _ _ _ h1 h2 => by rw [h1, h2]) g f x L ls h hf

/-- what cursor slot `k` adds at position `x` of block `B`, in terms of the ROOTS given to `Sieve::new`: slot `2i`
belongs to root `r1[i]`, slot `2i+1` to `r2[i]` and exists only when the two roots differ; the slot adds the bit
length of its prime exactly when `B·32768 + x ≡ root (mod p)`. -/
def rootF (fb : FB) (r1 r2 : Array Nat) (B x k : Nat) : Nat :=
  match fb.primes[k / 2]?, r1[k / 2]?, r2[k / 2]? with
  | some p, some o1, some o2 =>
    if (k % 2 = 0 ∨ o1 ≠ o2) ∧ (B * BLOCK + x) % p = (if k % 2 = 0 then o1 else o2) then bitlen p else 0
  | _, _, _ => 0

theorem rootF_two {fb : FB} {r1 r2 : Array Nat} {B x i p o1 o2 : Nat} (hp : fb.primes[i]? = some p)
    (h1 : r1[i]? = some o1) (h2 : r2[i]? = some o2) :
    rootF fb r1 r2 B x (2 * i) = (if (B * BLOCK + x) % p = o1 then bitlen p else 0) ∧
    rootF fb r1 r2 B x (2 * i + 1) = (if o1 ≠ o2 ∧ (B * BLOCK + x) % p = o2 then bitlen p else 0) := by
  have e0 : (2 * i) / 2 = i := by omega
  have e1 : (2 * i + 1) / 2 = i := by omega
  have m0 : (2 * i) % 2 = 0 := by omega
  have m1 : ¬ (2 * i + 1) % 2 = 0 := by omega
  unfold rootF
  simp only [e0, e1, m0, m1, hp, h1, h2, if_true, if_false, true_or, true_and, false_or]

section Cover
variable {fb : FB} {r1 r2 : Array Nat} {idxskip nS B : Nat} {loPrev : Array Nat}

theorem bitlen_small_mod {p : Nat} (h : p < 32768) : bitlen p % 256 = bitlen p := by
  have := (bitlen_lt_succ_iff p 15).2 (by simpa using h)
  omega

theorem pairHitStep_sum (hfb : fb.WF) (hcur : CurInv fb r1 r2 idxskip nS B loPrev) {i x lg : Nat}
    {l : List (Nat × Nat)} (hi : 2 * i + 1 < 2 * nS) (hge : idxskip ≤ 2 * i) (hx : x < BLOCK)
    (hlg : ∀ p, fb.primes[i]? = some p → bitlen p = lg ∧ p ≤ 4096)
    (h : pairHitStep fb loPrev lg i = some l) :
    hitSum l x = rootF fb r1 r2 B x (2 * i) + rootF fb r1 r2 B x (2 * i + 1) := by
  unfold pairHitStep at h
  simp only [Option.bind_eq_bind, Option.bind_eq_some_iff, Option.some.injEq] at h
  obtain ⟨p, hp, c1, hc1, c2, hc2, l0, hl0, rfl⟩ := h
  obtain ⟨hbl, hp4⟩ := hlg p hp
  have hp2 := hfb.ge2 _ _ hp
  obtain ⟨o1, o2, c, h1, h2, hc, hlt1, hinv1, hlive, hdead⟩ := hcur.pair hi hp
  rw [hc1] at hc
  cases hc
  have hlgm : lg % 256 = lg := by rw [← hbl]; exact bitlen_small_mod (by omega)
  -- the second cursor is live exactly when the roots differ
  have hc2' : ((c2 < p ∧ c2 ≠ c1) ∨ c2 = NONE) ∧
      ((c2 ≠ NONE ∧ x % p = c2) ↔ (o1 ≠ o2 ∧ (B * BLOCK + x) % p = o2)) := by
    by_cases hne : o1 = o2
    · have := hdead hne (by omega)
      rw [hc2] at this
      cases this
      exact ⟨Or.inr rfl, by simp [hne]⟩
    · obtain ⟨c', hc', hlt2, hinv2⟩ := hlive hne
      rw [hc2] at hc'
      cases hc'
      have n2 : c2 ≠ NONE := by unfold NONE; omega
      exact ⟨Or.inl ⟨hlt2, fun e => hne (by rw [← hinv1, ← hinv2, e])⟩,
        by rw [recover_small hlt2 hinv2]; simp [n2, hne]⟩
  obtain ⟨q0, q1⟩ := rootF_two (B := B) (x := x) hp h1 h2
  rw [hlgm, pairHits_sum (lg := lg) (by omega) hp4 hlt1 hc2'.1 hx hl0, q0, q1, hbl,
    if_congr (recover_small hlt1 hinv1) rfl rfl, if_congr hc2'.2 rfl rfl]

theorem singleHitStep_sum (hfb : fb.WF) (hnS : fb.ibl[16]? = some nS)
    (hcur : CurInv fb r1 r2 idxskip nS B loPrev) {i x lg : Nat} {l : List (Nat × Nat)}
    (hi : i < 2 * nS) (hge : idxskip ≤ i) (hx : x < BLOCK)
    (hlg : ∀ p, fb.primes[i / 2]? = some p → bitlen p = lg)
    (h : singleHitStep fb loPrev lg i = some l) : hitSum l x = rootF fb r1 r2 B x i := by
  unfold singleHitStep at h
  simp only [Option.bind_eq_bind, Option.bind_eq_some_iff, Option.some.injEq] at h
  obtain ⟨p, hp, c, hc, l0, hl0, rfl⟩ := h
  have hbl := hlg p hp
  have hp2 := hfb.ge2 _ _ hp
  have hps := prime_small hfb hnS hi hp
  obtain ⟨p', o1, o2, hp', h1, h2, hif⟩ := hcur.2 i hi
  rw [hp] at hp'
  cases hp'
  have hlgm : lg % 256 = lg := by rw [← hbl]; exact bitlen_small_mod hps
  rw [hlgm]
  unfold rootF
  simp only [hp, h1, h2]
  by_cases hl : i % 2 = 0 ∨ o1 ≠ o2
  · rw [if_pos hl] at hif
    obtain ⟨c', hc', hlt, hinv⟩ := hif
    rw [hc] at hc'
    cases hc'
    have n1 : c ≠ NONE := by unfold NONE; omega
    rw [singleHits_sum (lg := lg) (by omega) hlt n1 hx hl0, hbl]
    exact if_congr ((recover_small hlt hinv).trans (and_iff_right hl).symm) rfl rfl
  · rw [if_neg hl] at hif
    have := hif hge
    rw [hc] at this
    cases this
    simp only [singleHits, if_true, Option.some.injEq] at hl0
    subst hl0
    rw [if_neg (fun q => hl q.1)]
    rfl

theorem pairHitLog_sum (hfb : fb.WF) (hnS : fb.ibl[16]? = some nS) (hev : idxskip % 2 = 0)
    (hcur : CurInv fb r1 r2 idxskip nS B loPrev) {log x : Nat} {l : List (Nat × Nat)} (hlog : log ≤ 12)
    (hx : x < BLOCK) (h : pairHitLog fb idxskip loPrev log = some l) :
    hitSum l x = rangeSum (rootF fb r1 r2 B x) (max idxskip (2 * iblAt fb log))
      (2 * iblAt fb (log + 1) - max idxskip (2 * iblAt fb log)) := by
  obtain ⟨a, ha⟩ := hfb.ibl_some log (by omega)
  obtain ⟨b, hb⟩ := hfb.ibl_some (log + 1) (by omega)
  rw [iblAt_eq ha, iblAt_eq hb]
  unfold pairHitLog at h
  have hl15 : log < 15 := by omega
  simp only [ha, hb, hl15, if_true, Option.map_some, Option.bind_eq_bind, Option.bind_some, Option.bind_eq_some_iff,
    Option.some.injEq] at h
  obtain ⟨ls, hls, rfl⟩ := h
  have hbn : b ≤ nS := hfb.ibl_mono (by omega) hb hnS
  rw [mapM_flatten_sum _ (fun i => rootF fb r1 r2 B x (2 * i) + rootF fb r1 r2 B x (2 * i + 1)) x _ _ hls]
  · obtain ⟨e1, e2⟩ := pair_range_slots (a := a) (b := b) hev
    rw [rangeSum_pairs, e1, e2]
  · intro i hi l hl
    have hm := List.mem_range'_1.1 hi
    obtain ⟨hge, hai, hib⟩ := pair_range_mem hev hm.1 hm.2
    refine pairHitStep_sum hfb hcur (by omega) hge hx ?_ hl
    intro p hp
    have hcl := (hfb.class_of hp ha hb).1 ⟨hai, hib⟩
    have := (bitlen_lt_succ_iff p 12).1 (by omega)
    exact ⟨hcl, by omega⟩

theorem singleHitLog_sum (hfb : fb.WF) (hnS : fb.ibl[16]? = some nS)
    (hcur : CurInv fb r1 r2 idxskip nS B loPrev) {log x : Nat} {l : List (Nat × Nat)} (hlog : log ≤ 15)
    (hx : x < BLOCK) (h : singleHitLog fb idxskip loPrev log = some l) :
    hitSum l x = rangeSum (rootF fb r1 r2 B x) (max idxskip (2 * iblAt fb log))
      (2 * iblAt fb (log + 1) - max idxskip (2 * iblAt fb log)) := by
  obtain ⟨a, ha⟩ := hfb.ibl_some log (by omega)
  obtain ⟨b, hb⟩ := hfb.ibl_some (log + 1) (by omega)
  rw [iblAt_eq ha, iblAt_eq hb]
  unfold singleHitLog at h
  have hbn : b ≤ nS := hfb.ibl_mono (by omega) hb hnS
  have key : ∀ ls E, E = 2 * b →
      (List.range' (max idxskip (2 * a)) (E - max idxskip (2 * a))).mapM (singleHitStep fb loPrev log) = some ls →
      hitSum ls.flatten x = rangeSum (rootF fb r1 r2 B x) (max idxskip (2 * a)) (2 * b - max idxskip (2 * a)) := by
    intro ls E hE hls
    subst hE
    rw [mapM_flatten_sum _ (fun i => rootF fb r1 r2 B x i) x _ _ hls]
    · rfl
    · intro i hi l hl
      have hm := List.mem_range'_1.1 hi
      refine singleHitStep_sum hfb hnS hcur (by omega) (by omega) hx ?_ hl
      intro p hp
      exact (hfb.class_of hp ha hb).1 ⟨by omega, by omega⟩
  by_cases hl15 : log < 15
  · simp only [ha, hb, hl15, if_true, Option.map_some, Option.bind_eq_bind, Option.bind_some,
      Option.bind_eq_some_iff, Option.some.injEq] at h
    obtain ⟨ls, hls, rfl⟩ := h
    exact key ls _ rfl hls
  · simp only [ha, hl15, if_false, Option.bind_eq_bind, Option.bind_some, Option.bind_eq_some_iff,
      Option.some.injEq] at h
    obtain ⟨ls, hls, rfl⟩ := h
    have : log = 15 := by omega
    subst this
    rw [hnS] at hb
    have := Option.some.inj hb; subst this
    exact key ls _ hcur.1 hls

/-- `class_loops_cover`, sum form, in terms of the ROOTS given to `Sieve::new`: the class loops of `sieve_block`
(2..12 with the unrolled loop and the two tails, 13..15 per cursor) add at position `x` of block `B` exactly the
contributions of the cursor slots `idxskip ≤ k < 2·nS`, each slot once. -/
theorem smallHits_rootSum (hfb : fb.WF) (hnS : fb.ibl[16]? = some nS) (hev : idxskip % 2 = 0)
    (hcur : CurInv fb r1 r2 idxskip nS B loPrev) {x : Nat} {l : List (Nat × Nat)} (hx : x < 32768)
    (h : smallHits fb idxskip loPrev = some l) :
    hitSum l x = rangeSum (rootF fb r1 r2 B x) idxskip (2 * nS - idxskip) := by
  unfold smallHits at h
  simp only [Option.bind_eq_bind, Option.bind_eq_some_iff, Option.some.injEq] at h
  obtain ⟨h1, hh1, h2, hh2, rfl⟩ := h
  have hmono : ∀ l, l < 25 → 2 * iblAt fb l ≤ 2 * iblAt fb (l + 1) := fun l hl =>
    Nat.mul_le_mul_left 2 (iblAt_mono hfb (Nat.le_succ l) (by omega))
  rw [hitSum_append,
    mapM_flatten_sum _ (fun log => rangeSum (rootF fb r1 r2 B x) (max idxskip (2 * iblAt fb log))
      (2 * iblAt fb (log + 1) - max idxskip (2 * iblAt fb log))) x _ _ hh1 (fun log hl l hl' => by
        have hm := List.mem_range'_1.1 hl
        exact pairHitLog_sum hfb hnS hev hcur (by omega) hx hl'),
    mapM_flatten_sum _ (fun log => rangeSum (rootF fb r1 r2 B x) (max idxskip (2 * iblAt fb log))
      (2 * iblAt fb (log + 1) - max idxskip (2 * iblAt fb log))) x _ _ hh2 (fun log hl l hl' => by
        have hm := List.mem_range'_1.1 hl
        exact singleHitLog_sum hfb hnS hcur (by omega) hx hl'),
    rangeSum_chain _ idxskip (fun l => 2 * iblAt fb l) 11 2 (fun l h1 h2 => hmono l (by omega)),
    rangeSum_chain _ idxskip (fun l => 2 * iblAt fb l) 3 13 (fun l h1 h2 => hmono l (by omega))]
  have := rangeSum_concat (rootF fb r1 r2 B x) idxskip (2 * iblAt fb 2) (2 * iblAt fb 13) (2 * iblAt fb 16)
    (mono_chain (fun l => 2 * iblAt fb l) 11 2 (fun l h1 h2 => hmono l (by omega)))
    (mono_chain (fun l => 2 * iblAt fb l) 3 13 (fun l h1 h2 => hmono l (by omega)))
  have e1 : (2 : Nat) + 11 = 13 := rfl
  have e2 : (13 : Nat) + 3 = 16 := rfl
  rw [e1, e2, this, iblAt_eq hnS]
  -- idx_by_log[2] = 0: every prime has at least 2 bits
  have h2' : iblAt fb 2 = 0 := by
    obtain ⟨v, hv⟩ := hfb.ibl_some 2 (by omega)
    rw [iblAt_eq hv]
    by_contra hc
    have hle := hfb.ibl_le _ _ hv
    obtain ⟨p, hp⟩ := hfb.prime_at (i := 0) (by omega)
    have := (hfb.ibl_spec 2 0 v p hv hp).1 (by omega)
    have := hfb.ge2 _ _ hp
    have := (bitlen_lt_succ_iff p 1).1 (by omega)
    omega
  rw [h2']
  congr 1 <;> omega

theorem list_sum_le_finset (P g : Nat → Nat) (L : List Nat) (ps : Finset ℕ) (hn : L.Nodup)
    (hle : ∀ i ∈ L, g i ≤ bitlen (P i)) (hmem : ∀ i ∈ L, 0 < g i → P i ∈ ps)
    (hinj : ∀ i ∈ L, ∀ j ∈ L, P i = P j → i = j) : (L.map g).sum ≤ ∑ p ∈ ps, bitlen p := by
  rw [← List.sum_toFinset g hn]
  -- only the indices that contribute count; they go injectively to primes of `ps`
  calc ∑ i ∈ L.toFinset, g i = ∑ i ∈ L.toFinset.filter (fun i => 0 < g i), g i :=
        (Finset.sum_filter_of_ne (fun i _ h => Nat.pos_of_ne_zero h)).symm
    _ ≤ ∑ i ∈ L.toFinset.filter (fun i => 0 < g i), bitlen (P i) :=
        Finset.sum_le_sum (fun i hi => hle i (List.mem_toFinset.1 (Finset.mem_filter.1 hi).1))
    _ = ∑ p ∈ (L.toFinset.filter (fun i => 0 < g i)).image P, bitlen p :=
        (Finset.sum_image (fun i hi j hj e => hinj i (List.mem_toFinset.1 (Finset.mem_filter.1 hi).1) j
          (List.mem_toFinset.1 (Finset.mem_filter.1 hj).1) e)).symm
    _ ≤ ∑ p ∈ ps, bitlen p := Finset.sum_le_sum_of_subset (fun p hp => by
        obtain ⟨i, hi, rfl⟩ := Finset.mem_image.1 hp
        obtain ⟨h1, h2⟩ := Finset.mem_filter.1 hi
        exact hmem i (List.mem_toFinset.1 h1) h2)

theorem primeSum_le (hfb : fb.WF) (g : Nat → Nat) (ps : Finset ℕ) {s n : Nat}
    (hn : ∀ i, s ≤ i → i < s + n → i < fb.primes.size)
    (hg : ∀ i p, s ≤ i → i < s + n → fb.primes[i]? = some p → g i ≤ bitlen p ∧ (0 < g i → p ∈ ps)) :
    ((List.range' s n).map g).sum ≤ ∑ p ∈ ps, bitlen p := by
  have hat : ∀ i ∈ List.range' s n, ∃ p, fb.primes[i]? = some p ∧ s ≤ i ∧ i < s + n := fun i hi => by
    have hm := List.mem_range'_1.1 hi
    obtain ⟨p, hp⟩ := hfb.prime_at (hn i hm.1 hm.2)
    exact ⟨p, hp, hm.1, hm.2⟩
  refine list_sum_le_finset (fun i => (fb.primes[i]?).getD 0) g _ ps (List.nodup_range' (step := 1) (by omega)) ?_ ?_ ?_
  · intro i hi
    obtain ⟨p, hp, h1, h2⟩ := hat i hi
    simp only [hp, Option.getD_some]
    exact (hg i p h1 h2 hp).1
  · intro i hi hpos
    obtain ⟨p, hp, h1, h2⟩ := hat i hi
    simp only [hp, Option.getD_some]
    exact (hg i p h1 h2 hp).2 hpos
  · intro i hi j hj hij
    obtain ⟨p, hp, _⟩ := hat i hi
    obtain ⟨q, hq, _⟩ := hat j hj
    simp only [hp, hq, Option.getD_some] at hij
    subst hij
    by_contra hne
    rcases Nat.lt_or_gt_of_ne hne with h | h
    · exact absurd (hfb.sorted i j p p h hp hq) (lt_irrefl _)
    · exact absurd (hfb.sorted j i p p h hq hp) (lt_irrefl _)

end Cover

theorem rootF_pair {fb : FB} {r1 r2 : Array Nat} {B x i p o1 o2 : Nat} (hp : fb.primes[i]? = some p)
    (h1 : r1[i]? = some o1) (h2 : r2[i]? = some o2) :
    rootF fb r1 r2 B x (2 * i) + rootF fb r1 r2 B x (2 * i + 1) ≤ bitlen p ∧
      (0 < rootF fb r1 r2 B x (2 * i) + rootF fb r1 r2 B x (2 * i + 1) →
        (B * 32768 + x) % p = o1 ∨ (B * 32768 + x) % p = o2) := by
  obtain ⟨q0, q1⟩ := rootF_two (B := B) (x := x) hp h1 h2
  have hB : BLOCK = 32768 := rfl
  rw [hB] at q0 q1
  rw [q0, q1]
  by_cases a1 : (B * 32768 + x) % p = o1
  · have a2 : ¬ (o1 ≠ o2 ∧ (B * 32768 + x) % p = o2) := fun a2 => a2.1 (a1.symm.trans a2.2)
    rw [if_pos a1, if_neg a2]
    exact ⟨le_refl _, fun _ => Or.inl a1⟩
  · rw [if_neg a1, Nat.zero_add]
    split
    · next a2 => exact ⟨le_refl _, fun _ => Or.inr a2.2⟩
    · exact ⟨Nat.zero_le _, fun h => absurd h (lt_irrefl 0)⟩

/-- the small-prime part of the byte at `x` is bounded by the bit lengths of any finite set of primes that
contains every non-skipped prime below the block size with a root at `x`. -/
theorem rootSum_le {fb : FB} {r1 r2 : Array Nat} {idxskip nS B x : Nat} (hfb : fb.WF)
    (hnS : fb.ibl[16]? = some nS) (hev : idxskip % 2 = 0) (hr : RootsOK fb r1 r2) (ps : Finset ℕ)
    (hps : ∀ i p o, idxskip ≤ 2 * i → fb.primes[i]? = some p → p < 32768 → (r1[i]? = some o ∨ r2[i]? = some o) →
      (B * 32768 + x) % p = o → p ∈ ps) :
    rangeSum (rootF fb r1 r2 B x) idxskip (2 * nS - idxskip) ≤ ∑ p ∈ ps, bitlen p := by
  have hnn := hfb.ibl_le _ _ hnS
  have e : rangeSum (rootF fb r1 r2 B x) idxskip (2 * nS - idxskip) =
      ((List.range' (idxskip / 2) (nS - idxskip / 2)).map fun i =>
        rootF fb r1 r2 B x (2 * i) + rootF fb r1 r2 B x (2 * i + 1)).sum := by
    rw [rangeSum_pairs]
    congr 1 <;> omega
  rw [e]
  refine primeSum_le hfb _ ps (fun i _ _ => by omega) ?_
  intro i p hlo hhi hp
  obtain ⟨o1, o2, h1, h2, _⟩ := hr i p hp
  have hsmall := prime_small hfb hnS (k := 2 * i) (by omega) (by
    have : (2 * i) / 2 = i := by omega
    rw [this]; exact hp)
  obtain ⟨hle, hpos⟩ := rootF_pair (B := B) (x := x) hp h1 h2
  refine ⟨hle, fun h => ?_⟩
  rcases hpos h with c | c
  · exact hps i p o1 (by omega) hp hsmall (Or.inl h1) c
  · exact hps i p o2 (by omega) hp hsmall (Or.inr h2) c

end Ymq.SieveLog
