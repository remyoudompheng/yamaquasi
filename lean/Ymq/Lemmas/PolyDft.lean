/-
The discrete Fourier transform behind `mulfft` (Fermat transform) and `convolve_modn_ntt`
(multi-prime NTT), in an arbitrary commutative ring (the parts of `dft_conv`, Ymq/Props/C10.lean): the
radix-2 recursion of `fft`/`ntt_inplace` computes the DFT for a root with `ω^(2^(k-1)) = -1`, such a
root is principal (orthogonality), the transform with the inverse root inverts up to the factor
`2^k`, and pointwise products correspond to cyclic convolutions.
-/
import Mathlib.Algebra.BigOperators.Group.Finset.Basic
import Mathlib.Algebra.BigOperators.Ring.Finset
import Mathlib.Algebra.BigOperators.Intervals
import Mathlib.Algebra.Ring.Parity
import Mathlib.Tactic.Ring
import Mathlib.Tactic.Linarith
import Mathlib.Data.List.GetD
import Ymq.Lemmas.KroneckerSum

namespace Ymq.Dft
open Finset

variable {R : Type*} [CommRing R]

/-- the discrete Fourier transform of length `n` with root `ω`: `Σ_{i<n} f i · ω^(i·j)` -/
def dft (n : Nat) (ω : R) (f : Nat → R) (j : Nat) : R := ∑ i ∈ range n, f i * ω ^ (i * j)

/-- the radix-2 recursion of `arith_fft::fft` / `ntt_inplace` on the strided view `f`:
transform the even and the odd entries with the root `ω²`, twiddle the odd half by `ω^j` and
combine with a butterfly. -/
def fftRec : Nat → R → (Nat → R) → Nat → R
  | 0, _, f, _ => f 0
  | k + 1, ω, f, j =>
    let e := fftRec k (ω * ω) (fun i => f (2 * i))
    let o := fftRec k (ω * ω) (fun i => f (2 * i + 1))
    if j < 2 ^ k then e j + ω ^ j * o j else e (j - 2 ^ k) - ω ^ (j - 2 ^ k) * o (j - 2 ^ k)

theorem sum_even_odd (n : Nat) (h : Nat → R) :
    ∑ i ∈ range (2 * n), h i = ∑ i ∈ range n, h (2 * i) + ∑ i ∈ range n, h (2 * i + 1) := by
  induction n with
  | zero => simp
  | succ n ih =>
    rw [show 2 * (n + 1) = 2 * n + 1 + 1 by ring, sum_range_succ, sum_range_succ, ih,
      sum_range_succ, sum_range_succ]
    ring

theorem half_of_succ {k : Nat} {ω : R} (hω : k + 1 = 0 ∨ ω ^ 2 ^ (k + 1 - 1) = -1) : ω ^ 2 ^ k = -1 := by
  rcases hω with h | h
  · omega
  · simpa using h

theorem root_sq (k : Nat) (ω : R) (hω : k + 1 = 0 ∨ ω ^ 2 ^ (k + 1 - 1) = -1) :
    k = 0 ∨ (ω * ω) ^ 2 ^ (k - 1) = -1 := by
  rcases Nat.eq_zero_or_pos k with h0 | hpos
  · exact Or.inl h0
  · right
    rw [← pow_two, ← pow_mul, ← pow_succ', show k - 1 + 1 = k by omega, half_of_succ hω]

theorem dft_split (n : Nat) (ω : R) (f : Nat → R) (j : Nat) :
    dft (2 * n) ω f j =
      dft n (ω * ω) (fun i => f (2 * i)) j + ω ^ j * dft n (ω * ω) (fun i => f (2 * i + 1)) j := by
  unfold dft
  rw [sum_even_odd, Finset.mul_sum]
  congr 1 <;> refine Finset.sum_congr rfl fun i _ => ?_
  · rw [← pow_two, ← pow_mul, Nat.mul_assoc]
  · rw [← pow_two, ← pow_mul, show (2 * i + 1) * j = j + 2 * (i * j) by ring, pow_add]; ring

theorem dft_add_period (n : Nat) (ω : R) (h : ω ^ n = 1) (f : Nat → R) (j : Nat) :
    dft n ω f (j + n) = dft n ω f j := by
  unfold dft
  refine Finset.sum_congr rfl fun i _ => ?_
  rw [Nat.mul_add, pow_add, Nat.mul_comm i n, pow_mul ω n i, h, one_pow, mul_one]

/-- **The radix-2 recursion computes the DFT**: for a root with `ω^(2^(k-1)) = -1` (size `2^k`,
`k ≥ 1`; nothing is needed for size 1), every output `j < 2^k` of the recursion is
`Σ_{i<2^k} f i · ω^(i·j)`. -/
theorem fftRec_eq_dft (k : Nat) (ω : R) (hω : k = 0 ∨ ω ^ 2 ^ (k - 1) = -1) (f : Nat → R) (j : Nat)
    (hj : j < 2 ^ k) : fftRec k ω f j = dft (2 ^ k) ω f j := by
  induction k generalizing ω f j with
  | zero =>
    have : j = 0 := by simpa using hj
    subst this
    simp [fftRec, dft]
  | succ k ih =>
    have hneg := half_of_succ hω
    have hω' := root_sq k ω hω
    have h1 : (ω * ω) ^ 2 ^ k = 1 := by rw [← pow_two, ← pow_mul, Nat.mul_comm, pow_mul, hneg, neg_one_sq]
    unfold fftRec
    simp only
    rw [show 2 ^ (k + 1) = 2 * 2 ^ k by ring, dft_split]
    by_cases hlow : j < 2 ^ k
    · rw [if_pos hlow, ih _ hω' _ j hlow, ih _ hω' _ j hlow]
    · -- the upper half: the two half transforms have period `2^k`, and `ω^(2^k) = -1`
      obtain ⟨j', rfl⟩ : ∃ j', j = j' + 2 ^ k := ⟨j - 2 ^ k, by omega⟩
      have hj' : j' < 2 ^ k := by rw [pow_succ] at hj; omega
      rw [if_neg hlow, Nat.add_sub_cancel, ih _ hω' _ j' hj', ih _ hω' _ j' hj', dft_add_period _ _ h1,
        dft_add_period _ _ h1, pow_add, hneg]
      ring

/-- the butterfly step on lists: from the transforms `e`, `o` of the even and the odd entries (scaled by `s`)
and `us[t] = e[t] + ω^t·o[t]`, `vs[t] = e[t] - ω^t·o[t]`, the list `us ++ vs` is the transform one level up.
`val` reads an entry of the carrier in the ring, `d` is the default of `getD` (never reached), `s` is the factor by
which the inverse direction has already divided (`1` forward). -/
theorem fftRec_append {α : Type*} (val : α → R) (d : α) (k : Nat) (ω s : R) (f : Nat → R) (e o us vs : List α)
    (lu : us.length = 2 ^ k)
    (he : ∀ j < 2 ^ k, val (e.getD j d) * s = fftRec k (ω * ω) (fun i => f (2 * i)) j)
    (ho : ∀ j < 2 ^ k, val (o.getD j d) * s = fftRec k (ω * ω) (fun i => f (2 * i + 1)) j)
    (hc : ∀ t < 2 ^ k, val (us.getD t d) = val (e.getD t d) + ω ^ t * val (o.getD t d) ∧
      val (vs.getD t d) = val (e.getD t d) - ω ^ t * val (o.getD t d)) (j : Nat) (hj : j < 2 ^ (k + 1)) :
    val ((us ++ vs).getD j d) * s = fftRec (k + 1) ω f j := by
  simp only [fftRec]
  by_cases hjk : j < 2 ^ k
  · rw [if_pos hjk, ← he j hjk, ← ho j hjk, List.getD_append _ _ _ _ (lu ▸ hjk), (hc j hjk).1]; ring
  · have hj2 : j - 2 ^ k < 2 ^ k := by rw [pow_succ] at hj; omega
    rw [if_neg hjk, ← he _ hj2, ← ho _ hj2, List.getD_append_right _ _ _ _ (by omega), lu, (hc _ hj2).2]; ring

theorem root_pow_one (k : Nat) (ω : R) (hω : k = 0 ∨ ω ^ 2 ^ (k - 1) = -1) (h1 : k = 0 → ω = 1) :
    ω ^ 2 ^ k = 1 := by
  rcases Nat.eq_zero_or_pos k with h0 | hpos
  · subst h0; simp [h1 rfl]
  · rcases hω with h | h
    · omega
    · have : 2 ^ k = 2 ^ (k - 1) * 2 := by rw [← pow_succ]; congr 1; omega
      rw [this, pow_mul, h]; ring

/-- **Orthogonality** (`ω` is a principal `2^k`-th root of unity): `Σ_{j<2^k} ω^(e·j) = 0` unless
`2^k ∣ e`. -/
theorem geom_zero (k : Nat) (ω : R) (hω : k = 0 ∨ ω ^ 2 ^ (k - 1) = -1) (e : Nat) (he : ¬ 2 ^ k ∣ e) :
    ∑ j ∈ range (2 ^ k), ω ^ (e * j) = 0 := by
  induction k generalizing ω e with
  | zero => simp at he
  | succ k ih =>
    have hneg := half_of_succ hω
    rw [show 2 ^ (k + 1) = 2 ^ k + 2 ^ k by ring, sum_range_add]
    have hshift : ∀ j, ω ^ (e * (2 ^ k + j)) = (-1) ^ e * ω ^ (e * j) := by
      intro j
      rw [Nat.mul_add, pow_add, Nat.mul_comm e (2 ^ k), pow_mul, hneg]
    simp only [hshift]
    rw [← Finset.mul_sum]
    rcases Nat.even_or_odd e with hev | hodd
    · obtain ⟨e', he'⟩ := hev
      have hne : ¬ 2 ^ k ∣ e' := by
        intro hd
        apply he
        rw [he', ← two_mul, pow_succ']
        exact Nat.mul_dvd_mul_left 2 hd
      have := ih (ω * ω) (root_sq k ω hω) e' hne
      have hrw : ∀ j, ω ^ (e * j) = (ω * ω) ^ (e' * j) := by
        intro j; rw [← pow_two, ← pow_mul, he']; congr 1; ring
      simp only [hrw, this]; ring
    · rw [hodd.neg_one_pow]; ring

theorem geom_full (k : Nat) (ω : R) (h1 : ω ^ 2 ^ k = 1) (e : Nat) (he : 2 ^ k ∣ e) :
    ∑ j ∈ range (2 ^ k), ω ^ (e * j) = (2 ^ k : R) := by
  obtain ⟨c, rfl⟩ := he
  have : ∀ j, ω ^ (2 ^ k * c * j) = 1 := by
    intro j; rw [Nat.mul_assoc, pow_mul, h1, one_pow]
  simp [this]

theorem inv_root (k : Nat) (ω ω' : R) (hω : k = 0 ∨ ω ^ 2 ^ (k - 1) = -1) (hinv : ω * ω' = 1) :
    k = 0 ∨ ω' ^ 2 ^ (k - 1) = -1 := by
  rcases hω with h | h
  · exact Or.inl h
  · right
    have : (ω * ω') ^ 2 ^ (k - 1) = 1 := by rw [hinv, one_pow]
    rw [mul_pow, h] at this
    have h2 : -(ω' ^ 2 ^ (k - 1)) = 1 := by simpa using this
    rw [← h2]; ring

/-- **The inverse transform divides by `2^k`.** With `ω·ω' = 1` (the code multiplies by
`ω^(2^k - idx)` in the inverse direction) the transform with root `ω'` of the transform with root
`ω` is `2^k·f` — the code's `shr(k)` then divides by `2^k`. -/
theorem dft_inverse (k : Nat) (ω ω' : R) (hω : k = 0 ∨ ω ^ 2 ^ (k - 1) = -1) (hinv : ω * ω' = 1)
    (f : Nat → R) (m : Nat) (hm : m < 2 ^ k) :
    dft (2 ^ k) ω' (dft (2 ^ k) ω f) m = (2 ^ k : R) * f m := by
  have hω' := inv_root k ω ω' hω hinv
  unfold dft
  have hswap : ∑ j ∈ range (2 ^ k), (∑ i ∈ range (2 ^ k), f i * ω ^ (i * j)) * ω' ^ (j * m) =
      ∑ i ∈ range (2 ^ k), f i * ∑ j ∈ range (2 ^ k), ω ^ (i * j) * ω' ^ (j * m) := by
    simp only [Finset.sum_mul, Finset.mul_sum]
    rw [Finset.sum_comm]
    apply Finset.sum_congr rfl; intro i _
    apply Finset.sum_congr rfl; intro j _
    ring
  rw [hswap, Finset.sum_eq_single m]
  · -- i = m: every term is 1
    have : ∀ j, ω ^ (m * j) * ω' ^ (j * m) = 1 := by
      intro j; rw [Nat.mul_comm j m, ← mul_pow, hinv, one_pow]
    simp [this]; ring
  · intro i hi hne
    have hi' : i < 2 ^ k := by simpa using hi
    have hz : ∑ j ∈ range (2 ^ k), ω ^ (i * j) * ω' ^ (j * m) = 0 := by
      rcases Nat.lt_or_ge i m with hlt | hge
      · -- ω'^((m - i) j)
        have hrw : ∀ j, ω ^ (i * j) * ω' ^ (j * m) = ω' ^ ((m - i) * j) := by
          intro j
          have : j * m = i * j + (m - i) * j := by
            rw [← Nat.add_mul, Nat.add_sub_cancel' (le_of_lt hlt), Nat.mul_comm]
          rw [this, pow_add, ← mul_assoc, ← mul_pow, hinv, one_pow, one_mul]
        simp only [hrw]
        exact geom_zero k ω' hω' (m - i) (fun hd => by
          have := Nat.le_of_dvd (by omega) hd; omega)
      · have hrw : ∀ j, ω ^ (i * j) * ω' ^ (j * m) = ω ^ ((i - m) * j) := by
          intro j
          have : i * j = (i - m) * j + j * m := by
            rw [Nat.mul_comm j m, ← Nat.add_mul, Nat.sub_add_cancel hge]
          rw [this, pow_add, mul_assoc, ← mul_pow, hinv, one_pow, mul_one]
        simp only [hrw]
        exact geom_zero k ω hω (i - m) (fun hd => by
          have := Nat.le_of_dvd (by omega) hd; omega)
    rw [hz, mul_zero]
  · intro h; exact absurd (by simpa using hm) h

/-- cyclic convolution of length `n` in a ring: `Σ_{a<n} f a · g ((k - a) mod n)` -/
def cyc (n : Nat) (f g : Nat → R) (k : Nat) : R := ∑ a ∈ range n, f a * g ((k + n - a) % n)

theorem cyc_congr (n : Nat) {f f' g g' : Nat → R} (hf : ∀ i < n, f i = f' i) (hg : ∀ i < n, g i = g' i) (k : Nat) :
    cyc n f g k = cyc n f' g' k :=
  Finset.sum_congr rfl fun a ha => by
    have ha' := mem_range.1 ha
    rw [hf a ha', hg _ (Nat.mod_lt _ (by omega))]

theorem cast_cycSum (n : Nat) (f g : Nat → Nat) (k : Nat) :
    ((Ymq.Kronecker.cycSum n f g k : Nat) : R) = cyc n (fun i => (f i : R)) (fun i => (g i : R)) k := by
  unfold Ymq.Kronecker.cycSum cyc
  push_cast
  rfl

/-- **Convolution theorem**: for `ω^n = 1` the transform of the cyclic convolution is the pointwise
product of the transforms. -/
theorem dft_cyc (n : Nat) (ω : R) (h1 : ω ^ n = 1) (f g : Nat → R) (j : Nat) :
    dft n ω (cyc n f g) j = dft n ω f j * dft n ω g j := by
  unfold dft cyc
  have hmod : ∀ x : Nat, ω ^ (x % n * j) = ω ^ (x * j) := by
    intro x
    conv_rhs => rw [← Nat.div_add_mod x n, Nat.add_mul, pow_add, Nat.mul_assoc, pow_mul, h1, one_pow, one_mul]
  calc ∑ k ∈ range n, (∑ a ∈ range n, f a * g ((k + n - a) % n)) * ω ^ (k * j)
      = ∑ a ∈ range n, ∑ k ∈ range n, f a * g ((k + n - a) % n) * ω ^ (k * j) := by
        simp only [Finset.sum_mul]; rw [Finset.sum_comm]
    _ = ∑ a ∈ range n, ∑ b ∈ range n, f a * g b * ω ^ ((a + b) * j) := by
        refine Finset.sum_congr rfl fun a ha => ?_
        rw [Ymq.Kronecker.sum_cyc_shift n a (mem_range.1 ha) (fun k b => f a * g b * ω ^ (k * j))]
        simp only [hmod]
    _ = (∑ a ∈ range n, f a * ω ^ (a * j)) * ∑ b ∈ range n, g b * ω ^ (b * j) := by
        rw [Finset.sum_mul_sum]
        apply Finset.sum_congr rfl; intro a _
        apply Finset.sum_congr rfl; intro b _
        rw [Nat.add_mul, pow_add]; ring


/-- the root of the inverse direction: `x^(2^k - 1)` is the inverse of a `2^k`-th root of unity `x` -/
def invRoot (x : R) (k : Nat) : R := x ^ (2 ^ k - 1)

theorem mul_invRoot {x : R} {k : Nat} (h : x ^ 2 ^ k = 1) : x * invRoot x k = 1 := by
  rw [invRoot, ← pow_succ', Nat.sub_add_cancel Nat.one_le_two_pow, h]

theorem invRoot_pow {x : R} {k : Nat} (h : x ^ 2 ^ k = 1) (i : Nat) (hi : i ≤ 2 ^ k) :
    x ^ (2 ^ k - i) = invRoot x k ^ i := by
  refine left_inv_eq_right_inv (a := x ^ i) ?_ ?_
  · rw [← pow_add, Nat.sub_add_cancel hi, h]
  · rw [← mul_pow, mul_invRoot h, one_pow]

theorem invRoot_sq {x y : R} {k : Nat} (hy : y * y = x) (h : x ^ 2 ^ k = 1) :
    invRoot y (k + 1) * invRoot y (k + 1) = invRoot x k := by
  rw [invRoot, invRoot, ← mul_pow, hy, show 2 ^ (k + 1) - 1 = 2 ^ k + (2 ^ k - 1) by
    have := Nat.one_le_two_pow (n := k); rw [pow_succ]; omega, pow_add, h, one_mul]

theorem invRoot_half {x : R} {k : Nat} (hk : 0 < k) (h : x ^ 2 ^ (k - 1) = -1) :
    invRoot x k ^ 2 ^ (k - 1) = -1 := by
  rw [invRoot, ← pow_mul, Nat.mul_comm, pow_mul, h]
  refine Odd.neg_one_pow ⟨2 ^ (k - 1) - 1, ?_⟩
  have := Nat.one_le_two_pow (n := k - 1)
  have : 2 ^ k = 2 * 2 ^ (k - 1) := by rw [← pow_succ']; congr 1; omega
  omega

theorem dft_congr (n : Nat) (ω : R) (h1 h2 : Nat → R) (h : ∀ i < n, h1 i = h2 i) (j : Nat) :
    dft n ω h1 j = dft n ω h2 j := by
  unfold dft
  apply Finset.sum_congr rfl
  intro i hi
  rw [h i (by simpa using hi)]

/-- **FFT multiplication is the cyclic convolution** (the structure of `mulfft` and of
`convolve_modn_ntt`): forward radix-2 transforms with a principal `2^k`-th root `ω`, pointwise
product, radix-2 transform with the inverse root `ω'`: the result is `2^k` times the cyclic
convolution (the code's inverse direction divides by `2^k`: `shr` / `div_pow2`). -/
theorem fft_mul_eq_cyc (k : Nat) (ω ω' : R) (hω : k = 0 ∨ ω ^ 2 ^ (k - 1) = -1) (h0 : k = 0 → ω = 1)
    (hinv : ω * ω' = 1) (f g : Nat → R) (m : Nat) (hm : m < 2 ^ k) :
    fftRec k ω' (fun j => fftRec k ω f j * fftRec k ω g j) m = (2 ^ k : R) * cyc (2 ^ k) f g m := by
  have hω' := inv_root k ω ω' hω hinv
  have h1 : ω ^ 2 ^ k = 1 := root_pow_one k ω hω h0
  rw [fftRec_eq_dft k ω' hω' _ m hm]
  rw [dft_congr (2 ^ k) ω' _ (dft (2 ^ k) ω (cyc (2 ^ k) f g)) ?_ m]
  · exact dft_inverse k ω ω' hω hinv _ m hm
  · intro j hj
    rw [fftRec_eq_dft k ω hω f j hj, fftRec_eq_dft k ω hω g j hj,
      dft_cyc (2 ^ k) ω h1 f g j]

/-- **the shape of `mulfft` and of `convolve_modn_ntt`**: forward transforms `F`, `G` of `f`, `g`, pointwise
products `H`, and an inverse transform `Y` that is still to be divided by the unit `2^k`: `Y` is the cyclic
convolution -/
theorem conv_of_transforms (k : Nat) (ω ω' c : R) (hω : k = 0 ∨ ω ^ 2 ^ (k - 1) = -1) (h0 : k = 0 → ω = 1)
    (hinv : ω * ω' = 1) (hc : c * 2 ^ k = 1) (f g F G H Y : Nat → R)
    (hF : ∀ j < 2 ^ k, F j = fftRec k ω f j) (hG : ∀ j < 2 ^ k, G j = fftRec k ω g j)
    (hH : ∀ j < 2 ^ k, H j = F j * G j) (m : Nat) (hm : m < 2 ^ k)
    (hY : Y m * 2 ^ k = fftRec k ω' H m) : Y m = cyc (2 ^ k) f g m := by
  have hω' := inv_root k ω ω' hω hinv
  have hcong : fftRec k ω' H m = fftRec k ω' (fun j => fftRec k ω f j * fftRec k ω g j) m := by
    rw [fftRec_eq_dft k _ hω' _ m hm, fftRec_eq_dft k _ hω' _ m hm]
    exact dft_congr _ _ _ _ (fun j hj => by rw [hH j hj, hF j hj, hG j hj]) m
  rw [hcong, fft_mul_eq_cyc k _ _ hω h0 hinv _ _ m hm] at hY
  calc Y m = c * (Y m * 2 ^ k) := by rw [mul_left_comm, hc, mul_one]
    _ = _ := by rw [hY, ← mul_assoc, hc, one_mul]

end Ymq.Dft
