/-
C13 helper lemmas: a run of the sieve reaches no panic site: `new` with recycled tables, `rehash`, and the rounds
`sieve_block(); next_block()` with the factor recovery (`run_some`).
-/
import Ymq.Lemmas.SieveTotal

namespace Ymq.Sieve
open Ymq.Loops

/-- recycled tables come from a sieve over the same factor base with the same number of blocks
(the documented requirement of `Sieve::new`: "it should originate from a sieve with the same factor
base and number of blocks"); their contents are arbitrary. -/
def RecycledSized (fb : FB) (n : Nat) (recycled : Option (Array Table × Array LTable)) : Prop :=
  ∀ ts lts, recycled = some (ts, lts) →
    (∃ maxprime, fb.primes.back? = some maxprime ∧ ts.size = min 18 (bitlen maxprime) + 1 - 16 ∧
      lts.size = bitlen maxprime + 1 - 19) ∧
    (∀ (i : Nat) (t : Table), ts[i]? = some t → t.Sized n) ∧
    (∀ (i : Nat) (t : LTable), lts[i]? = some t → t.Sized n)

theorem RecycledSized.ok {fb : FB} {n : Nat} {recycled : Option (Array Table × Array LTable)}
    (h : RecycledSized fb n recycled) : RecycledOK recycled :=
  fun ts lts hr i t ht => ((h ts lts hr).2.1 i t ht).2.2.2

theorem newTables_some {fb : FB} {n maxprime : Nat} {recycled : Option (Array Table × Array LTable)}
    (hmax : fb.primes.back? = some maxprime) (h : RecycledSized fb n recycled) :
    ∃ T0 L0, newTables n (bitlen maxprime) recycled = some (T0, L0) ∧
      T0.size = min 18 (bitlen maxprime) + 1 - 16 ∧ L0.size = bitlen maxprime + 1 - 19 ∧
      (∀ (i : Nat) (t : Table), T0[i]? = some t → t.Sized n) ∧
      (∀ (i : Nat) (t : LTable), L0[i]? = some t → t.Sized n) := by
  cases recycled with
  | none => exact newTables_none n (bitlen maxprime)
  | some r =>
    obtain ⟨ts, lts⟩ := r
    obtain ⟨⟨mp, hmp, hts, hls⟩, hT, hL⟩ := h ts lts rfl
    rw [hmax] at hmp
    have := Option.some.inj hmp; subst this
    have c1 : ¬ ts.size ≠ (min (max (bitlen maxprime + 1) LARGE_LOG) VLARGE_LOG) - LARGE_LOG := by
      simp only [LARGE_LOG, VLARGE_LOG, ne_eq, not_not]; omega
    have c2 : ¬ (ts.any fun t => decide (t.entries.size ≠ N_ENTRIES * n)) = true := by
      simp only [Bool.not_eq_true]
      rw [Array.any_eq_false]
      intro i hi
      have := (hT i _ (Array.getElem?_eq_getElem hi)).1
      simp [N_ENTRIES, this]
    have c3 : ¬ lts.size ≠ max (bitlen maxprime + 1) VLARGE_LOG - VLARGE_LOG := by
      simp only [VLARGE_LOG, ne_eq, not_not]; omega
    refine ⟨ts.map Table.reset, lts.map LTable.reset, ?_, by simpa using hts, by simpa using hls, ?_, ?_⟩
    · unfold newTables
      simp only
      rw [if_neg c1, if_neg c2, if_neg c3]
    · intro i t ht
      obtain ⟨t', ht', rfl⟩ := getElem?_map_some ht
      exact Table.reset_sized (hT i t' ht')
    · intro i t ht
      obtain ⟨t', ht', rfl⟩ := getElem?_map_some ht
      exact LTable.reset_sized (hL i t' ht')

theorem new_total' {fb : FB} {r1 r2 : Array Nat} {offset : Int} {nblocks nS : Nat}
    {recycled : Option (Array Table × Array LTable)}
    (hfb : fb.WF) (hne : fb.primes.size ≠ 0) (hr : RootsOK fb r1 r2) (hd : RootsDistinct fb r1 r2)
    (hN : nblocks ≤ 2 ^ 17) (hnS : fb.ibl[16]? = some nS) (hrec : RecycledSized fb nblocks recycled) :
    ∃ s, new offset nblocks fb r1 r2 recycled = some s ∧ StateSized nblocks s ∧ s.idxskip ≤ 2 * nS := by
  obtain ⟨maxprime, hmax⟩ := hfb.back_some hne
  obtain ⟨T0, L0, hnt, hTs, hLs, hT, hL⟩ := newTables_some hmax hrec
  exact new_some_of_tables hfb hr hd hN hnS hmax hnt hTs hLs hT hL

theorem recycle_sized {fb : FB} {nS n : Nat} {rS1 rS2 rL1 rL2 : Array Nat} {B : Nat} {s : State}
    (hinv : Inv fb nS rS1 rS2 rL1 rL2 B s) (hsz : StateSized n s) : RecycledSized fb n (some (recycle s)) := by
  intro ts lts h
  simp only [recycle, Option.some.injEq, Prod.mk.injEq] at h
  obtain ⟨rfl, rfl⟩ := h
  exact ⟨hinv.tsize, hsz.tabs, hsz.ltabs⟩

theorem rehashTable_some {r1 r2 : Array Nat} {n pidx p o1 o2 : Nat} (h1 : r1[pidx]? = some o1) (h2 : r2[pidx]? = some o2)
    (hp0 : 0 < p) {t : Table} (ht : t.Sized n) :
    ∃ t', rehashTable r1 r2 (n * BLOCK) p pidx t = some t' ∧ t'.Sized n := by
  obtain ⟨l, hl⟩ := vlargeOffsets_some (n * BLOCK) p o1 o2 hp0
  obtain ⟨t', ht', hs'⟩ := Table.foldl_add_some (pidx % 2 ^ 32) l t ht (fun x hx => ((vlargeOffsets_progs hl).mem.1 hx).1)
  refine ⟨t', ?_, hs'⟩
  unfold rehashTable
  simp only [Option.bind_eq_bind]
  -- `rw`, not `simp only [h1, h2, hl, Option.bind_some]`: what that leaves for the kernel is a large term, slow to check
  rw [h1, Option.bind_some, h2, Option.bind_some, hl, Option.bind_some]
  exact ht'

theorem rehashLTable_some {r1 r2 : Array Nat} {n pidx p o1 o2 : Nat} (h1 : r1[pidx]? = some o1) (h2 : r2[pidx]? = some o2)
    (hp0 : 0 < p) (hpi : pidx < 2 ^ 30) {t : LTable} (ht : t.Sized n) :
    ∃ t', rehashLTable r1 r2 (n * BLOCK) p pidx t = some t' ∧ t'.Sized n := by
  obtain ⟨l, hl⟩ := vlargeOffsets_some (n * BLOCK) p o1 o2 hp0
  obtain ⟨t', ht', hs'⟩ := LTable.foldl_add_some hpi l t ht (fun x hx => ((vlargeOffsets_progs hl).mem.1 hx).1)
  refine ⟨t', ?_, hs'⟩
  unfold rehashLTable
  simp only [Option.bind_eq_bind]
  rw [h1, Option.bind_some, h2, Option.bind_some, hl, Option.bind_some]
  exact ht'

theorem rehashStep_some {fb : FB} {r1 r2 : Array Nat} {n : Nat} {maxprime : Nat} (hfb : fb.WF)
    (hr : RootsOK fb r1 r2) (hmax : fb.primes.back? = some maxprime) {pidx : Nat} (hp : pidx < fb.primes.size)
    {st : Array Table × Array LTable}
    (hts : st.1.size = min 18 (bitlen maxprime) + 1 - 16) (hls : st.2.size = bitlen maxprime + 1 - 19)
    (hT : ∀ (i : Nat) (t : Table), st.1[i]? = some t → t.Sized n)
    (hL : ∀ (i : Nat) (t : LTable), st.2[i]? = some t → t.Sized n) :
    ∃ st', rehashStep fb r1 r2 (n * BLOCK) st pidx = some st' ∧ st'.1.size = st.1.size ∧ st'.2.size = st.2.size ∧
      (∀ (i : Nat) (t : Table), st'.1[i]? = some t → t.Sized n) ∧
      (∀ (i : Nat) (t : LTable), st'.2[i]? = some t → t.Sized n) := by
  obtain ⟨tables, ltables⟩ := st
  simp only at hts hls hT hL
  have hpp : fb.primes[pidx]? = some fb.primes[pidx] := Array.getElem?_eq_getElem hp
  generalize fb.primes[pidx] = p at hpp
  obtain ⟨o1, o2, ho1, ho2, _⟩ := hr _ _ hpp
  have hp2 := hfb.ge2 _ _ hpp
  have hpm := bitlen_mono (hfb.le_back hpp hmax)
  unfold rehashStep
  simp only [Option.bind_eq_bind]
  rw [hpp, Option.bind_some]
  by_cases hsm : p < BLOCK
  · simp only [hsm, if_true]
    exact ⟨_, rfl, rfl, rfl, hT, hL⟩
  · simp only [hsm, if_false]
    have h16 : 16 ≤ bitlen p := by
      by_contra hc
      have := (bitlen_lt_succ_iff p 15).1 (by omega)
      simp only [BLOCK] at hsm; omega
    by_cases hv : bitlen p < VLARGE_LOG
    · have hl16 : ¬ bitlen p < LARGE_LOG := by simp only [LARGE_LOG]; omega
      simp only [hv, if_true, hl16, if_false]
      simp only [VLARGE_LOG] at hv
      obtain ⟨tables', hm, hsz, hall⟩ := modifyM_ok (P := Table.Sized n) (i := bitlen p - LARGE_LOG)
        (f := rehashTable r1 r2 (n * BLOCK) p pidx) (by rw [hts]; exact tidx_lt h16 hv hpm) hT
        (fun t ht => rehashTable_some ho1 ho2 (by omega) ht)
      exact ⟨(tables', ltables), by simp [hm], hsz, rfl, hall, hL⟩
    · simp only [hv, if_false]
      simp only [VLARGE_LOG] at hv
      obtain ⟨ltables', hm, hsz, hall⟩ := modifyM_ok (P := LTable.Sized n) (i := bitlen p - VLARGE_LOG)
        (f := rehashLTable r1 r2 (n * BLOCK) p pidx) (by rw [hls]; exact lidx_lt hv hpm) hL
        (fun t ht => rehashLTable_some ho1 ho2 (by omega) (by have := hfb.size_lt; omega) ht)
      exact ⟨(tables, ltables'), by simp [hm], rfl, hsz, hT, hall⟩

/-- `rehash` returns for every reduced root table (it has no assertion on the roots). -/
theorem rehash_some {fb : FB} {nS n : Nat} {rS1 rS2 rL1 rL2 r1 r2 : Array Nat} {B : Nat} {s : State}
    (hfb : fb.WF) (hr : RootsOK fb r1 r2) (hinv : Inv fb nS rS1 rS2 rL1 rL2 B s) (hsz : StateSized n s) :
    ∃ s', rehash fb s r1 r2 = some s' ∧ StateSized n s' := by
  unfold rehash
  by_cases h0 : s.nblocks = 0
  · simp only [h0, if_true]
    exact ⟨_, rfl, ⟨by simpa [h0] using hsz.nb, hsz.tabs, hsz.ltabs⟩⟩
  · simp only [h0, if_false, Option.bind_eq_bind]
    obtain ⟨maxprime, hmax, hts, hls⟩ := hinv.tsize
    obtain ⟨st, hf, _, _, hT, hL⟩ := foldlM_some (rehashStep fb r1 r2 (s.nblocks * BLOCK))
      (fun st => st.1.size = min 18 (bitlen maxprime) + 1 - 16 ∧ st.2.size = bitlen maxprime + 1 - 19 ∧
        (∀ (i : Nat) (t : Table), st.1[i]? = some t → t.Sized n) ∧
        (∀ (i : Nat) (t : LTable), st.2[i]? = some t → t.Sized n))
      (List.range' 0 fb.primes.size)
      (fun pidx hm st ⟨a1, a2, a3, a4⟩ => by
        have := List.mem_range'_1.1 hm
        obtain ⟨st', h1, h2, h3, h4, h5⟩ := rehashStep_some (n := n) hfb hr hmax (pidx := pidx) (by omega) a1 a2 a3 a4
        rw [hsz.nb]
        exact ⟨st', h1, h2.trans a1, h3.trans a2, h4, h5⟩)
      (s := (s.tables.map Table.reset, s.ltables.map LTable.reset))
      ⟨by simpa using hts, by simpa using hls,
        fun i t ht => by
          obtain ⟨t', ht', rfl⟩ := getElem?_map_some ht
          exact Table.reset_sized (hsz.tabs i t' ht'),
        fun i t ht => by
          obtain ⟨t', ht', rfl⟩ := getElem?_map_some ht
          exact LTable.reset_sized (hsz.ltabs i t' ht')⟩
    rw [hf]
    exact ⟨_, rfl, ⟨hsz.nb, hT, hL⟩⟩

/-- one round `sieve_block(); next_block()` from a state satisfying the invariant, inside the interval and `i64`. -/
theorem round_some {fb : FB} {nS n B : Nat} {rS1 rS2 rL1 rL2 : Array Nat} {s : State} (hfb : fb.WF)
    (hnS : fb.ibl[16]? = some nS) (hinv : Inv fb nS rS1 rS2 rL1 rL2 B s) (hsz : StateSized n s)
    (hb : s.blkNo < n) (hoff : s.offset + 32768 < 2 ^ 63) :
    ∃ s' s2, sieveBlock fb s = some s' ∧ nextBlock s' = some s2 ∧
      Inv fb nS rS1 rS2 rL1 rL2 (B + 1) s' ∧ CurInv fb rS1 rS2 s'.idxskip nS B s'.loPrev ∧ StateSized n s' ∧
      s'.blkNo = s.blkNo ∧ Inv fb nS rS1 rS2 rL1 rL2 (B + 1) s2 ∧ StateSized n s2 ∧ s2.blkNo = s.blkNo + 1 ∧
      s2.offset = s.offset + 32768 := by
  obtain ⟨s', hs'⟩ := sieveBlock_some hfb hnS hinv hsz hb
  obtain ⟨inv2, hprev, bk2, nb2, of2, tb2, lt2, _⟩ := sieveBlock_spec hfb hnS hinv hs'
  have hsz' : StateSized n s' := ⟨by rw [nb2, hsz.nb], by rw [tb2]; exact hsz.tabs, by rw [lt2]; exact hsz.ltabs⟩
  have hnx : ¬ s'.offset + (BLOCK : Int) ≥ 2 ^ 63 := by rw [of2]; simp only [BLOCK]; omega
  have hs2 : nextBlock s' = some { s' with offset := s'.offset + BLOCK, blkNo := s'.blkNo + 1 } := by
    simp only [nextBlock, hnx, if_false]
  obtain ⟨inv3, _, _, _⟩ := nextBlock_spec inv2 hs2
  exact ⟨s', _, hs', hs2, inv2, hprev, hsz', bk2, inv3, ⟨hsz'.nb, hsz'.tabs, hsz'.ltabs⟩, by simp only [bk2],
    by simp only [of2, BLOCK]; push_cast; ring⟩

/-- from any state satisfying the invariant, `b` rounds `sieve_block(); next_block()` return as long as the
block number stays inside the interval and the offset inside `i64`. -/
theorem runBlocks_some {fb : FB} {nS n : Nat} {rS1 rS2 rL1 rL2 : Array Nat} (hfb : fb.WF)
    (hnS : fb.ibl[16]? = some nS) :
    ∀ (b B : Nat) (s : State), Inv fb nS rS1 rS2 rL1 rL2 B s → StateSized n s →
      s.blkNo + b ≤ n → s.offset + (b : Int) * 32768 < 2 ^ 63 →
      ∃ s1, runBlocks fb b s = some s1 ∧ Inv fb nS rS1 rS2 rL1 rL2 (B + b) s1 ∧ StateSized n s1 ∧
        s1.blkNo = s.blkNo + b ∧ s1.offset = s.offset + (b : Int) * 32768 := by
  intro b
  induction b with
  | zero => intro B s hinv hsz _ _; exact ⟨s, rfl, hinv, hsz, rfl, by simp⟩
  | succ b ih =>
    intro B s hinv hsz hb hoff
    obtain ⟨s1, h1, inv1, sz1, bk1, of1⟩ := ih B s hinv hsz (by omega) (by push_cast at hoff ⊢; omega)
    obtain ⟨s', s2, hs', hs2, _, _, _, _, inv3, sz3, bk3, of3⟩ := round_some hfb hnS inv1 sz1 (by omega)
      (by rw [of1]; push_cast at hoff ⊢; omega)
    refine ⟨s2, ?_, by rw [← Nat.add_assoc]; exact inv3, sz3, by rw [bk3, bk1]; omega,
      by rw [of3, of1]; push_cast; ring⟩
    simp only [runBlocks, h1, hs', hs2, Option.bind_eq_bind, Option.bind_some]

/-- `b` rounds, one more `sieve_block`, the factor recovery at every position and `next_block` return. -/
theorem run_some {fb : FB} {nS n : Nat} {rS1 rS2 rL1 rL2 : Array Nat} (hfb : fb.WF)
    (hnS : fb.ibl[16]? = some nS) (hrL : RootsOK fb rL1 rL2) (hn : n ≤ 2 ^ 17)
    (b B : Nat) (s : State) (hinv : Inv fb nS rS1 rS2 rL1 rL2 B s) (hsz : StateSized n s)
    (hb : s.blkNo + b < n) (hoff : s.offset + ((b : Int) + 1) * 32768 < 2 ^ 63) :
    ∃ s1 s' s2, runBlocks fb b s = some s1 ∧ sieveBlock fb s1 = some s' ∧ nextBlock s' = some s2 ∧
      (∀ r, r < 32768 → ∃ facs, factorsOf fb s' rL1 rL2 r = some facs) ∧
      Inv fb nS rS1 rS2 rL1 rL2 (B + b + 1) s2 ∧ StateSized n s2 ∧ s2.blkNo = s.blkNo + b + 1 := by
  obtain ⟨s1, h1, inv1, sz1, bk1, of1⟩ := runBlocks_some hfb hnS b B s hinv hsz (by omega)
    (by push_cast at hoff ⊢; omega)
  obtain ⟨s', s2, hs', hs2, inv2, hprev, hsz', bk2, inv3, sz3, bk3, _⟩ := round_some hfb hnS inv1 sz1 (by omega)
    (by rw [of1]; push_cast at hoff ⊢; omega)
  refine ⟨s1, s', s2, h1, hs', hs2, fun r hr => ?_, inv3, sz3, by rw [bk3, bk1]⟩
  exact factorsOf_some hfb hnS hrL hprev inv2.tsize hsz' (by rw [bk2, bk1]; omega) hn (by simpa [BLOCK] using hr)

end Ymq.Sieve
