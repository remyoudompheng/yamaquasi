/-
Lemmas about the model of the 128-bit Montgomery type `M128` (Ymq/Model/M128.lean):
`mul256` is the exact 256-bit product without overflow, `mul` (modulus above 64 bits) is a
Montgomery product with `R = 2^128`, `add`/`sub` are modular addition/subtraction; then `inv_2adic` (the 128-bit lifting
loop, same step lemmas as the 64-bit one) and the squaring loop of `r_r2`.
-/
import Ymq.Model.M128
import Ymq.Lemmas.Mg64
import Mathlib.Data.Nat.ModEq
import Mathlib.Tactic.Ring
import Mathlib.Tactic.Linarith
import Mathlib.Tactic.LinearCombination

namespace Ymq.M128
open Ymq.Mg64 (W W_pos tzAux_spec le_of_pow_dvd_of_odd_quot lift_rem lift_step)

theorem W2_eq : W2 = W * W := by decide
theorem W2_pos : 0 < W2 := by decide

theorem ite_carry {c : Nat} (hc : c ≤ 1) (a b : Nat) :
    (if c ≠ 0 then a + b else a) = a + c * b := by
  obtain rfl | rfl : c = 0 ∨ c = 1 := by omega
  · simp
  · simp

/-- Schoolbook product of two two-digit numbers in base `W` (`B = W²`) with the partial sums split
as `mul256` splits them: cross terms `B·c + mid`, shifted middle `mid·W = B·md + mw`, low sum
`B·c' + s0`. -/
theorem schoolbook {W B x0 x1 y0 y1 c mid md mw c' s0 : Nat} (hB : B = W * W)
    (e1 : x0 * y1 + x1 * y0 = B * c + mid) (e2 : mid * W = B * md + mw)
    (e3 : x0 * y0 + mw = B * c' + s0) :
    (W * x1 + x0) * (W * y1 + y0) = s0 + B * (x1 * y1 + c * W + md + c') := by
  subst hB
  linear_combination W * e1 + e2 + e3

/-- `wrapping_shl(64)` keeps the low half and `>> 64` the high half of `mid·2^64` -/
theorem shl_split (mid : Nat) : mid * W = W2 * (mid / W) + mid * W % W2 := by
  have h := Nat.div_add_mod (mid * W) W2
  rw [show mid * W / W2 = mid / W by
    rw [W2_eq, Nat.mul_comm mid W, Nat.mul_div_mul_left _ _ W_pos]] at h
  exact h.symm

theorem mul256_spec (x y : Nat) (hx : x < W2) (hy : y < W2) :
    mul256 x y = some (x * y % W2, x * y / W2) := by
  have hW := W_pos
  have hB := W2_pos
  have hx1 : x / W < W := (Nat.div_lt_iff_lt_mul hW).2 (W2_eq ▸ hx)
  have hy1 : y / W < W := (Nat.div_lt_iff_lt_mul hW).2 (W2_eq ▸ hy)
  have hx0 := Nat.mod_lt x hW
  have hy0 := Nat.mod_lt y hW
  have hxy : x * y < W2 * W2 := Nat.mul_lt_mul'' hx hy
  unfold mul256
  simp only [Nat.mod_eq_of_lt hx1, Nat.mod_eq_of_lt hy1]
  have hprod := schoolbook W2_eq (Nat.div_add_mod (x % W * (y / W) + x / W * (y % W)) W2).symm
    (shl_split _) (Nat.div_add_mod (x % W * (y % W) + _) W2).symm
  rw [Nat.div_add_mod, Nat.div_add_mod] at hprod
  generalize x % W = x0 at *
  generalize x / W = x1 at *
  generalize y % W = y0 at *
  generalize y / W = y1 at *
  -- both carries are flags: each sum is below `2·W²`
  have h01 : x0 * y1 < W * W := Nat.mul_lt_mul'' hx0 hy1
  have h10 : x1 * y0 < W * W := Nat.mul_lt_mul'' hx1 hy0
  have h00 : x0 * y0 < W * W := Nat.mul_lt_mul'' hx0 hy0
  have hc : (x0 * y1 + x1 * y0) / W2 ≤ 1 :=
    Nat.lt_succ_iff.1 ((Nat.div_lt_iff_lt_mul hB).2 (by rw [W2_eq]; omega))
  have hmw := Nat.mod_lt ((x0 * y1 + x1 * y0) % W2 * W) hB
  generalize (x0 * y1 + x1 * y0) % W2 * W % W2 = mw at *
  have hc' : (x0 * y0 + mw) / W2 ≤ 1 :=
    Nat.lt_succ_iff.1 ((Nat.div_lt_iff_lt_mul hB).2 (by rw [W2_eq] at hmw ⊢; omega))
  have hs0 := Nat.mod_lt (x0 * y0 + mw) hB
  rw [ite_carry hc, ite_carry hc']
  generalize (x0 * y1 + x1 * y0) / W2 = c at *
  generalize (x0 * y1 + x1 * y0) % W2 / W = md at *
  generalize (x0 * y0 + mw) / W2 = c' at *
  generalize (x0 * y0 + mw) % W2 = s0 at *
  -- the high half is below `W²` because the product is below `W⁴`; the partial sums are below it
  have hhi : x1 * y1 + c * W + md + c' < W2 := by
    by_contra h
    have := Nat.mul_le_mul_left W2 (Nat.le_of_not_lt h)
    omega
  rw [if_neg (by omega), if_neg (by omega), if_neg (by omega), hprod, Nat.add_mul_mod_self_left,
    Nat.mod_eq_of_lt hs0, Nat.add_mul_div_left _ _ hB, Nat.div_eq_of_lt hs0, Nat.zero_add,
    Nat.mul_one]

theorem mul_spec_big (n ninv x y : Nat) (hnW : W ≤ n) (hn2 : n < W2)
    (hninv : (n * ninv + 1) % W2 = 0) (hx : x < n) (hy : y < W2) :
    ∃ r, mul n ninv x y = some r ∧ r < n ∧ r * W2 % n = x * y % n := by
  have hB := W2_pos
  have hn : 0 < n := lt_of_lt_of_le W_pos hnW
  have hT : x * y < n * W2 := Nat.mul_lt_mul'' hx hy
  have hhi : x * y / W2 < n := (Nat.div_lt_iff_lt_mul hB).2 hT
  unfold mul
  rw [if_neg (Nat.div_ne_zero_iff.2 ⟨W_pos.ne', hnW⟩), mul256_spec x y (lt_trans hx hn2) hy]
  by_cases hlo : x * y % W2 = 0
  · simp only [hlo, if_true]
    exact ⟨_, rfl, hhi, by rw [Nat.div_mul_cancel (Nat.dvd_of_mod_eq_zero hlo)]⟩
  · simp only [hlo, if_false]
    rw [mul256_spec _ n (Nat.mod_lt _ hB) hn2]
    exact Mont.redc_tail hB hn le_rfl hn2.le hninv hT hlo

theorem add_spec (n x y : Nat) (hn2 : n < W2) (hx : x < n) (hy : y < n) :
    ∃ r, add n x y = some r ∧ r < n ∧ r % n = (x + y) % n := by
  unfold add
  have h1 : ¬ n < y := by omega
  simp only [h1, if_false]
  by_cases h : x ≥ n - y
  · simp only [h, if_true]
    refine ⟨_, rfl, by omega, ?_⟩
    have : x + y = x - (n - y) + n := by omega
    rw [this, Nat.add_mod_right]
  · have h2 : ¬ (x + y ≥ W2) := by omega
    simp only [h, h2, if_false]
    exact ⟨_, rfl, by omega, rfl⟩

theorem sub_spec (n x y : Nat) (hn2 : n < W2) (hx : x < n) (hy : y < n) :
    ∃ r, sub n x y = some r ∧ r < n ∧ (r + y) % n = x % n := by
  unfold sub
  by_cases h : x ≥ y
  · simp only [h, if_true]
    exact ⟨_, rfl, by omega, by rw [Nat.sub_add_cancel h]⟩
  · have h1 : ¬ n < y := by omega
    have h2 : ¬ (x + (n - y) ≥ W2) := by omega
    simp only [h, h1, h2, if_false]
    refine ⟨_, rfl, by omega, ?_⟩
    have : x + (n - y) + y = x + n := by omega
    rw [this, Nat.add_mod_right]

theorem W2_pow : W2 = 2 ^ 128 := by decide

theorem tz128_spec (n : Nat) (h0 : 0 < n) (h1 : n < W2) :
    tz128 n < 128 ∧ n % 2 ^ (tz128 n) = 0 ∧ n / 2 ^ (tz128 n) % 2 = 1 := by
  unfold tz128
  have : n ≠ 0 := by omega
  simp only [this, if_false]
  exact tzAux_spec 128 n h0 (by rw [← W2_pow]; exact h1)

/-- Invariant of the loop of `M128::inv_2adic`: `n x ≡ 1 (mod 2^j)` and `j` increases at every
turn, hence at most `129 - j` turns are left (any start value `x`, wrapping addition). -/
theorem invLoop_spec (n : Nat) (hn : n % 2 = 1) :
    ∀ f j x, 1 ≤ j → j ≤ 128 → x < W2 → n * x % 2 ^ j = 1 → 129 ≤ f + j →
    ∃ x', invLoop f n x = some x' ∧ x' < W2 ∧ n * x' % W2 = 1 := by
  intro f
  induction f with
  | zero => intro j x _ _ _ _ h; omega
  | succ f ih =>
    intro j x hj1 hj128 hxW hinv hf
    have hW0 : 0 < W2 := W2_pos
    obtain ⟨hnx0, hremj⟩ := lift_rem W2_pow hj1 hj128 hinv
    unfold invLoop
    simp only [hnx0, if_false]
    by_cases hrem : n * x % W2 - 1 = 0
    · simp only [hrem, if_true]
      exact ⟨x, rfl, hxW, by omega⟩
    · simp only [hrem, if_false]
      have hremW : n * x % W2 - 1 < W2 := by have := Nat.mod_lt (n * x) hW0; omega
      obtain ⟨ht128, htdvd, htodd⟩ := tz128_spec _ (Nat.pos_of_ne_zero hrem) hremW
      generalize tz128 (n * x % W2 - 1) = t at *
      have hjt : j ≤ t := le_of_pow_dvd_of_odd_quot _ j t hremj htdvd htodd
      refine ih (t + 1) ((x + 2 ^ t) % W2) (by omega) (by omega) (Nat.mod_lt _ hW0) ?_ (by omega)
      -- the wrapping addition does not matter modulo `2^(t+1)`, a divisor of `2^128`
      rw [Nat.mul_mod, W2_pow, Nat.mod_mod_of_dvd _ (pow_dvd_pow 2 (by omega : t + 1 ≤ 128)),
        ← Nat.mul_mod]
      exact lift_step W2_pow hn ht128 hnx0 htdvd htodd

theorem inv2adic_spec (n : Nat) (hodd : n % 2 = 1) (_hn2 : n < W2) :
    ∃ v, inv2adic n = some v ∧
      (if n < W then v < W ∧ (n * v + 1) % W = 0 else v < W2 ∧ (n * v + 1) % W2 = 0) := by
  have h2W : (2 : Nat) ∣ W := ⟨W / 2, by decide⟩
  have hlow := Ymq.Mg64.low_odd hodd
  obtain ⟨x0, hx0, hx0W, hx0inv⟩ := Ymq.Mg64.mg2adicInv_odd (n % W) hlow
  unfold inv2adic
  simp only [hodd, ne_eq, not_true_eq_false, if_false, hx0]
  by_cases hs : n < W
  · rw [if_pos (Nat.div_eq_of_lt hs)]
    simp only [hs, if_true]
    rw [Nat.mod_eq_of_lt hs] at hx0inv
    exact ⟨x0, rfl, hx0W, hx0inv⟩
  · rw [if_neg (Nat.div_ne_zero_iff.2 ⟨W_pos.ne', not_lt.1 hs⟩)]
    simp only [hs, if_false]
    -- the code seeds the loop with the NEGATED 64-bit inverse `x0`, so only bit 0 is right: the invariant starts at
    -- `j = 1` (`x0` odd, so n·x0 ≡ 1 (mod 2)) and the loop takes up to 128 turns, within the fuel 130
    have hx0odd : n * x0 % 2 ^ 1 = 1 := by
      have h1 : (n % W * x0 + 1) % 2 = 0 := by
        rw [← Nat.mod_mod_of_dvd _ h2W, hx0inv]
      have h4 : (n % W * x0) % 2 = 1 := by omega
      rw [Nat.mul_mod, hlow] at h4
      rw [pow_one, Nat.mul_mod, hodd]; exact h4
    obtain ⟨x, hl, hxlt, hxinv⟩ := invLoop_spec n hodd 130 1 x0 (by omega) (by omega)
      (lt_trans hx0W (by decide)) hx0odd (by omega)
    have hx : x ≠ 0 := by
      intro hx; rw [hx] at hxinv; simp at hxinv
    simp only [hl, hxinv, hx, not_true_eq_false, if_false]
    exact ⟨W2 - x, rfl, by omega, Ymq.Mg64.neg_inv hxlt.le hxinv⟩

theorem sqLoop_spec (n ninv : Nat) (hodd : n % 2 = 1) (hnW : W ≤ n) (hn2 : n < W2)
    (hninv : (n * ninv + 1) % W2 = 0) :
    ∀ t a r, r < n → r % n = a * W2 % n →
      ∃ r', sqLoop n ninv t r = some r' ∧ r' < n ∧ r' % n = a ^ (2 ^ t) * W2 % n := by
  intro t
  induction t with
  | zero => intro a r hr h; exact ⟨r, rfl, hr, by simpa using h⟩
  | succ t ih =>
    intro a r hr h
    obtain ⟨r1, e1, e2, e3⟩ := mul_spec_big n ninv r r hnW hn2 hninv hr (lt_trans hr hn2)
    obtain ⟨r', f1, f2, f3⟩ := ih (a * a) r1 e2
      (Mont.form_mul (W2_pow ▸ Mont.coprime_two_pow hodd 128) e3 h h)
    refine ⟨r', by simp only [sqLoop, e1, f1], f2, ?_⟩
    rw [f3, ← pow_two, ← pow_mul, pow_succ, Nat.mul_comm 2]

end Ymq.M128
