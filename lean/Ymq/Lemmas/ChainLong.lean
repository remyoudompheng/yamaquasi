/-
The 1024-bit addition-chain builder `mkLongLoop` (Model/Chain.lean). The loop keeps the low `curbits` bits of the
remainder `Rv` in `exp` and the rest in memory; `Win` is what it keeps of that window. Each round makes a `Step` of the
signed-window recoding with window 7 on `Rv`, so `recode_loop` gives value, well-formedness and length; the bracket `Br`
with `b + bits = bitLen n` gives the exit test of the last opcode.
-/
import Ymq.Lemmas.Chain

namespace Ymq.Chain
open Ymq.Recode

/-- the words of `n` not yet loaded into `exp` -/
def hiOf (n : Nat) (s : LongSt) : Nat := n / 2 ^ (64 * s.nextword)

/-- what is left to encode, in units of `2^bits`: loaded window (carry included) + unloaded words -/
def Rv (n : Nat) (s : LongSt) : Nat := s.exp + hiOf n s * 2 ^ s.curbits

/-- what the loop keeps of its window: `exp` fits `curbits` bits (or is `2^curbits` after a carry), and while words are left
to load the bits consumed and the bits in the window add up to the words loaded. 96: a refill adds 64 bits to at most 32. -/
structure Win (n : Nat) (s : LongSt) : Prop where
  expLe : s.exp ≤ 2 ^ s.curbits
  cbLe : s.curbits ≤ 96
  sumEq : s.nextword ≤ (bitLen n - 1) / 64 → s.bits + s.curbits = 64 * s.nextword

theorem hi_zero {n : Nat} {s : LongSt} (h : ¬ (s.nextword ≤ (bitLen n - 1) / 64)) : hiOf n s = 0 := by
  unfold hiOf
  apply Nat.div_eq_of_lt
  have h1 : bitLen n ≤ 64 * s.nextword := by omega
  exact lt_of_lt_of_le (lt_two_pow_bitLen n) (Nat.pow_le_pow_right (by decide) h1)

theorem hi_pos_bits {n : Nat} {s : LongSt} (h : hiOf n s ≠ 0) : 64 * s.nextword < bitLen n := by
  apply lt_bitLen
  unfold hiOf at h
  by_contra hc
  exact h (Nat.div_eq_of_lt (by omega))

/-- state after the optional refill at the top of an iteration -/
def refill (n : Nat) (s : LongSt) : LongSt :=
  { s with exp := s.exp + (n / 2 ^ (64 * s.nextword) % W) * 2 ^ s.curbits,
           nextword := s.nextword + 1, curbits := s.curbits + 64 }

/-- state after an even opcode shifting by `t` -/
def stepEven (s : LongSt) (t : Nat) : LongSt :=
  { s with exp := s.exp / 2 ^ t, bits := s.bits + t, curbits := s.curbits - t, idx := s.idx + 1 }

/-- state after an odd opcode (`exp` already adjusted to `e`, a multiple of 128) -/
def stepOdd (s : LongSt) (e : Nat) : LongSt :=
  { s with exp := e / 2, bits := s.bits + 1, curbits := s.curbits - 1, idx := s.idx + 1 }

/-- the digits of `n` as `make_addition_chain_long` reads them -/
def ndOf (n : Nat) : Nat → Nat := fun i => n / 2 ^ (64 * i) % W

/-- after the refill step: while words remain, more than 32 bits are in the window -/
def Filled (n : Nat) (s : LongSt) : Prop := s.nextword ≤ (bitLen n - 1) / 64 → 33 ≤ s.curbits

variable {n cap b : Nat} {s : LongSt}

theorem longRefill_spec (hn : n < 2 ^ 1024) (h : Win n s) :
    ∃ s1, longRefill (ndOf n) ((bitLen n - 1) / 64) s = some s1 ∧ Win n s1 ∧ Rv n s1 = Rv n s ∧
      s1.bits = s.bits ∧ s1.idx = s.idx ∧ Filled n s1 := by
  unfold longRefill
  by_cases hc : s.curbits ≤ 32 ∧ s.nextword ≤ (bitLen n - 1) / 64
  · have hsum := h.sumEq hc.2
    have hsplit : n / 2 ^ (64 * s.nextword) =
        n / 2 ^ (64 * s.nextword) % W + W * (n / 2 ^ (64 * (s.nextword + 1))) := by
      have e1 : n / 2 ^ (64 * (s.nextword + 1)) = n / 2 ^ (64 * s.nextword) / W := by
        rw [Nat.div_div_eq_div_mul, W_eq, ← Nat.pow_add]; congr 2
      rw [e1]; have := Nat.mod_add_div (n / 2 ^ (64 * s.nextword)) W; omega
    have hR : Rv n (refill n s) = Rv n s := by
      simp only [Rv, hiOf, refill]
      generalize n / 2 ^ (64 * (s.nextword + 1)) = hi' at hsplit
      generalize n / 2 ^ (64 * s.nextword) % W = d at hsplit
      rw [hsplit, Nat.pow_add, ← W_eq]; ring
    have hdlt : n / 2 ^ (64 * s.nextword) % W < W := Nat.mod_lt _ (by decide)
    have hexp : (refill n s).exp ≤ 2 ^ (s.curbits + 64) := by
      simp only [refill]
      have := h.expLe
      rw [Nat.pow_add, ← W_eq]
      generalize 2 ^ s.curbits = B at *
      generalize n / 2 ^ (64 * s.nextword) % W = d at *
      linarith [Nat.mul_le_mul_right B (Nat.succ_le_of_lt hdlt)]
    have hnb : bitLen n ≤ 1024 := bitLen_le hn
    have h16 : ¬ (s.nextword ≥ 16) := by omega
    have hW : ¬ (s.exp + ndOf n s.nextword * 2 ^ s.curbits ≥ W128) := by
      have h96 : (2 : Nat) ^ (s.curbits + 64) ≤ 2 ^ 96 := Nat.pow_le_pow_right (by decide) (by omega)
      have : (2 : Nat) ^ 96 < W128 := by decide
      have : (refill n s).exp = s.exp + ndOf n s.nextword * 2 ^ s.curbits := rfl
      omega
    simp only [hc, h16, hW, and_self, if_true, if_false]
    refine ⟨refill n s, rfl, ⟨hexp, ?_, ?_⟩, hR, rfl, rfl, ?_⟩
    · simp only [refill]; omega
    · intro _; simp only [refill]; omega
    · intro _; simp only [refill]; omega
  · simp only [hc, if_false]
    refine ⟨s, rfl, h, rfl, rfl, rfl, ?_⟩
    intro h2
    by_contra h3
    exact hc ⟨by omega, h2⟩

theorem hi_facts (h : Win n s) (hf : Filled n s) (hh : hiOf n s ≠ 0) :
    33 ≤ s.curbits ∧ s.bits + s.curbits < bitLen n := by
  have hnw : s.nextword ≤ (bitLen n - 1) / 64 := by
    by_contra hc; exact hh (hi_zero hc)
  have h1 := h.sumEq hnw
  have h2 := hi_pos_bits hh
  exact ⟨hf hnw, by omega⟩

theorem hi_dvd (h : Win n s) (hf : Filled n s) : 128 ∣ hiOf n s * 2 ^ s.curbits := by
  by_cases hh : hiOf n s = 0
  · rw [hh]; simp
  · have h33 := (hi_facts h hf hh).1
    have : 2 ^ s.curbits = 2 ^ 7 * 2 ^ (s.curbits - 7) := by rw [← Nat.pow_add]; congr 1; omega
    rw [this]
    exact Dvd.intro _ (by ring : 128 * (hiOf n s * 2 ^ (s.curbits - 7)) = hiOf n s * (2 ^ 7 * 2 ^ (s.curbits - 7)))

theorem le_tz128 {e j : Nat} (he : e < 2 ^ 128) (hj : j ≤ 128) (hd : 2 ^ j ∣ e) : j ≤ tz128 e := by
  by_cases h0 : e = 0
  · simp only [tz128, h0, if_true]; exact hj
  · obtain ⟨m, hm, hmo, _⟩ := tzAux_spec 128 e (by omega) he
    simp only [tz128, h0, if_false]
    generalize tzAux 128 e = tz at hm ⊢
    by_contra hc
    have h2 : 2 ^ (tz + 1) ∣ e := (Nat.pow_dvd_pow 2 (by omega)).trans hd
    rw [hm, Nat.pow_succ] at h2
    have := Nat.dvd_of_mul_dvd_mul_left (Nat.pow_pos (by decide) : 0 < 2 ^ tz) h2
    omega

theorem pow_tz128_dvd {e : Nat} (he : e < 2 ^ 128) : 2 ^ tz128 e ∣ e := by
  by_cases h0 : e = 0
  · rw [h0]; exact dvd_zero _
  · obtain ⟨m, hm, _, _⟩ := tzAux_spec 128 e (by omega) he
    simp only [tz128, h0, if_false]
    exact Dvd.intro _ hm.symm

/-- The shift `t = min 60 (min tz curbits)` of an even opcode (window `e`, `cb` bits of it valid, `hi` the unloaded
words, at least 33 bits in the window while there are any): it divides the window and exhausts the trailing zeros
of the whole remainder up to 33. -/
theorem shift_spec {e cb hi : Nat} (hle : e ≤ 2 ^ cb) (hcb : cb ≤ 96) (hpos : 0 < e + hi * 2 ^ cb)
    (h33 : hi ≠ 0 → 33 ≤ cb) :
    ∃ t, min 60 (min (tz128 e) cb) = t ∧ t ≤ 60 ∧ t ≤ cb ∧ 2 ^ t ∣ e ∧
      ∀ j, j ≤ 33 → 2 ^ j ∣ e + hi * 2 ^ cb → j ≤ t := by
  have he : e < 2 ^ 128 := lt_of_le_of_lt (hle.trans (Nat.pow_le_pow_right (by decide) hcb)) (by decide)
  refine ⟨_, rfl, by omega, by omega, (Nat.pow_dvd_pow 2 (by omega)).trans (pow_tz128_dvd he), ?_⟩
  intro j hj hd
  have hjcb : j ≤ cb := by
    by_cases hh : hi = 0
    · rw [hh, Nat.zero_mul, Nat.add_zero] at hd hpos
      exact (Nat.pow_le_pow_iff_right (by decide)).mp ((Nat.le_of_dvd hpos hd).trans hle)
    · have := h33 hh; omega
  have hde : 2 ^ j ∣ e := (Nat.dvd_add_left (Dvd.dvd.mul_left (Nat.pow_dvd_pow 2 hjcb) hi)).mp hd
  have := le_tz128 he (by omega) hde
  omega

theorem longStep_even (h : Win n s) (hf : Filled n s) (hpos : 0 < Rv n s) (hidx : s.idx < cap) (hev : s.exp % 2 = 0) :
    ∃ t : Nat, longStep cap (bitLen n) s = some (.inr (2 * (t : Int), stepEven s t)) ∧
      Win n (stepEven s t) ∧ Step 7 64 (Rv n s) (2 * (t : Int)) (Rv n (stepEven s t)) t := by
  have hidx' : ¬ (s.idx ≥ cap) := by omega
  have hexpLe := h.expLe
  obtain ⟨t, htdef, ht60, htcb, ⟨q, hq⟩, hC⟩ :=
    shift_spec (hi := hiOf n s) hexpLe h.cbLe hpos (fun hh => (hi_facts h hf hh).1)
  have h128 := hi_dvd h hf
  have h2R : 2 ∣ Rv n s := by simp only [Rv]; omega
  have ht1 : 1 ≤ t := hC 1 (by decide) (by rw [Nat.pow_one]; exact h2R)
  have hi8 := i8_shift (t := t) (by omega)
  have hdiv : s.exp / 2 ^ t = q := Nat.div_eq_of_eq_mul_right (Nat.pow_pos (by decide)) hq
  have hcb : 2 ^ s.curbits = 2 ^ t * 2 ^ (s.curbits - t) := by rw [← Nat.pow_add]; congr 1; omega
  have hR : Rv n s = 2 ^ t * Rv n (stepEven s t) := by
    simp only [Rv, hiOf, stepEven, hdiv]; rw [hcb, hq]; ring
  refine ⟨t, ?_, ⟨?_, ?_, ?_⟩, .even t _ ht1 (by omega) hR ?_ ?_⟩
  · unfold longStep
    simp only [hidx', if_false, hev, if_true, htdef, hi8]
    rfl
  · simp only [stepEven, hdiv]
    rw [hcb, hq] at hexpLe
    exact Nat.le_of_mul_le_mul_left hexpLe (Nat.pow_pos (by decide))
  · simp only [stepEven]; have := h.cbLe; omega
  · intro h2; simp only [stepEven]; have := h.sumEq h2; omega
  · -- a short shift leaves an odd remainder: else one more power of two divides `Rv`
    by_cases h33 : 33 ≤ t
    · left; omega
    · right
      by_contra hne
      have : 2 ^ (t + 1) ∣ Rv n s := by
        rw [hR, Nat.pow_succ]; exact Nat.mul_dvd_mul_left _ (by omega)
      have := hC (t + 1) (by omega) this
      omega
  · intro h64
    have := hC 6 (by decide) h64
    omega

/-- an odd opcode `x` that leaves the window `e = exp - x`, a multiple of 128 -/
theorem win_odd (h : Win n s) (hf : Filled n s) (e : Nat) (x : Int) (hodd : s.exp % 2 = 1) (hcb : 1 ≤ s.curbits)
    (he : (e : Int) = s.exp - x) (h128 : 128 ∣ e) (hle : e ≤ 2 ^ s.curbits) (hx1 : -64 < x) (hx2 : x < 64)
    (hpos : 0 < e / 2 + hiOf n s * 2 ^ (s.curbits - 1)) :
    Win n (stepOdd s e) ∧ Step 7 64 (Rv n s) x (Rv n (stepOdd s e)) 1 := by
  have hhi := hi_dvd h hf
  have hcb2 : 2 ^ s.curbits = 2 * 2 ^ (s.curbits - 1) := by rw [← Nat.pow_succ']; congr 1; omega
  have hR' : Rv n (stepOdd s e) = e / 2 + hiOf n s * 2 ^ (s.curbits - 1) := rfl
  have h2R : 2 * Rv n (stepOdd s e) = e + hiOf n s * 2 ^ s.curbits := by
    have : 2 * (e / 2) = e := by omega
    rw [hR', hcb2, Nat.mul_add, this, Nat.mul_left_comm]
  refine ⟨⟨?_, ?_, ?_⟩, .odd x _ (by omega) (by omega) (by omega) ?_ ?_ (hR' ▸ hpos)⟩
  · simp only [stepOdd]; rw [hcb2] at hle; omega
  · simp only [stepOdd]; have := h.cbLe; omega
  · intro h2; simp only [stepOdd]; have := h.sumEq h2; omega
  · have : ((2 * Rv n (stepOdd s e) : Nat) : Int) = (e : Int) + ((hiOf n s * 2 ^ s.curbits : Nat) : Int) := by
      rw [h2R]; push_cast; ring
    simp only [Rv] at this ⊢; push_cast at this ⊢; linarith
  · have : 128 ∣ 2 * Rv n (stepOdd s e) := by rw [h2R]; exact Nat.dvd_add h128 hhi
    omega

/-- the last opcode: nothing is left but a digit below 64, and the bracket says at most 6 bits are left -/
theorem longStep_last (hb : Br b (Rv n s)) (hbits : b + s.bits = bitLen n) (hidx : s.idx < cap)
    (hodd : s.exp % 2 = 1) (hlow : s.exp < 64) (hh : hiOf n s = 0) :
    longStep cap (bitLen n) s = some (.inl [(s.exp : Int)]) ∧ Rv n s = s.exp := by
  have hR : Rv n s = s.exp := by simp only [Rv, hh]; omega
  have hb6 : b ≤ 6 := by
    by_contra hc
    have : 2 ^ 7 ≤ 2 ^ b := Nat.pow_le_pow_right (by decide) (by omega)
    have := hb.1; rw [hR] at this; omega
  have hidx' : ¬ (s.idx ≥ cap) := by omega
  have hev : ¬ (s.exp % 2 = 0) := by omega
  have hm : s.exp % 128 = s.exp := by omega
  have he0 : s.exp - s.exp = 0 := by omega
  have hb1 : ¬ (bitLen n < s.bits) := by omega
  have hb2 : bitLen n - s.bits ≤ 6 := by omega
  unfold longStep
  simp only [hidx', hev, hm, hlow, he0, hb1, hb2, true_and, and_self, if_true, if_false,
    asI8_small _ (Nat.lt_trans hlow (by decide))]
  exact hR

/-- an odd opcode that is not the last one: `exp % 128` when that is below 64, else `exp % 128 - 128` -/
theorem longStep_odd (h : Win n s) (hf : Filled n s) (hidx : s.idx < cap) (hodd : s.exp % 2 = 1)
    (hA : ¬ (s.exp < 64 ∧ hiOf n s = 0)) :
    ∃ op e, longStep cap (bitLen n) s = some (.inr (op, stepOdd s e)) ∧ Win n (stepOdd s e) ∧
      Step 7 64 (Rv n s) op (Rv n (stepOdd s e)) 1 := by
  have hidx' : ¬ (s.idx ≥ cap) := by omega
  have hev : ¬ (s.exp % 2 = 0) := by omega
  have hexpLe := h.expLe
  -- a window above 64 has at least 7 valid bits
  have hcb7 : 64 < s.exp → 7 ≤ s.curbits := by
    intro h1
    by_contra hc
    have : 2 ^ s.curbits ≤ 2 ^ 6 := Nat.pow_le_pow_right (by decide) (by omega)
    omega
  by_cases hlow : s.exp % 128 < 64
  · have hhe : s.exp - s.exp % 128 ≠ 0 ∨ hiOf n s ≠ 0 := by
      by_contra hc; exact hA ⟨by omega, by omega⟩
    have hcond1 : ¬ (s.exp - s.exp % 128 = 0 ∧ bitLen n < s.bits) := by
      rcases hhe with h1 | h1
      · exact fun hc => h1 hc.1
      · have := hi_facts h hf h1; omega
    have hcond2 : ¬ (s.exp - s.exp % 128 = 0 ∧ bitLen n - s.bits ≤ 6) := by
      rcases hhe with h1 | h1
      · exact fun hc => h1 hc.1
      · have := hi_facts h hf h1; omega
    have hcb0 : ¬ (s.curbits = 0) := by
      rcases hhe with h1 | h1
      · have := hcb7 (by omega); omega
      · have := (hi_facts h hf h1).1; omega
    have hposn : 0 < (s.exp - s.exp % 128) / 2 + hiOf n s * 2 ^ (s.curbits - 1) := by
      rcases hhe with h1 | h1
      · omega
      · have : 0 < hiOf n s * 2 ^ (s.curbits - 1) :=
          Nat.mul_pos (Nat.pos_of_ne_zero h1) (Nat.pow_pos (by decide))
        omega
    obtain ⟨h1, h2⟩ := win_odd h hf (s.exp - s.exp % 128) ((s.exp % 128 : Nat) : Int) hodd
      (by omega) (by omega) (by omega) (by omega) (by omega) (by omega) hposn
    refine ⟨_, _, ?_, h1, h2⟩
    unfold longStep
    simp only [hidx', hev, hlow, hcond1, hcond2, hcb0, if_true, if_false,
      asI8_small _ (Nat.lt_trans hlow (by decide))]
    rfl
  · have hi8 := i8_neg (r := 128 - s.exp % 128) (by omega)
    have h2cb96 : 2 ^ s.curbits ≤ 2 ^ 96 := Nat.pow_le_pow_right (by decide) h.cbLe
    have hW : ¬ (s.exp + (128 - s.exp % 128) ≥ W128) := by
      have : W128 = 2 ^ 128 := by decide
      omega
    have hcb7' := hcb7 (by omega)
    have hcb0 : ¬ (s.curbits = 0) := by omega
    have hle : s.exp + (128 - s.exp % 128) ≤ 2 ^ s.curbits := by
      have : 2 ^ s.curbits = 2 ^ 7 * 2 ^ (s.curbits - 7) := by rw [← Nat.pow_add]; congr 1; omega
      rw [this] at hexpLe ⊢
      generalize 2 ^ (s.curbits - 7) = M at *
      omega
    obtain ⟨h1, h2⟩ := win_odd h hf (s.exp + (128 - s.exp % 128))
      (-((128 - s.exp % 128 : Nat) : Int)) hodd (by omega) (by omega) (by omega) hle (by omega) (by omega) (by omega)
    refine ⟨_, _, ?_, h1, h2⟩
    unfold longStep
    simp only [hidx', hev, hlow, hi8, hW, hcb0, if_false]
    rfl

theorem longStep_spec (hw : Win n s) (hf : Filled n s) (hb : Br b (Rv n s)) (hbits : b + s.bits = bitLen n)
    (hidx : s.idx < cap) :
    (∃ x : Nat, longStep cap (bitLen n) s = some (.inl [(x : Int)]) ∧ x % 2 = 1 ∧ x < 64 ∧ Rv n s = x) ∨
    (∃ op s' sh, longStep cap (bitLen n) s = some (.inr (op, s')) ∧ Win n s' ∧ Step 7 64 (Rv n s) op (Rv n s') sh ∧
        s'.bits = s.bits + sh ∧ s'.idx = s.idx + 1) := by
  by_cases hev : s.exp % 2 = 0
  · obtain ⟨t, hstep, hw2, hs⟩ := longStep_even hw hf hb.pos hidx hev
    exact Or.inr ⟨_, _, _, hstep, hw2, hs, rfl, rfl⟩
  · by_cases hA : s.exp < 64 ∧ hiOf n s = 0
    · obtain ⟨hstep, hR⟩ := longStep_last hb hbits hidx (by omega) hA.1 hA.2
      exact Or.inl ⟨s.exp, hstep, by omega, hA.1, hR⟩
    · obtain ⟨op, e, hstep, hw2, hs⟩ := longStep_odd hw hf hidx (by omega) hA
      exact Or.inr ⟨_, _, _, hstep, hw2, hs, rfl, rfl⟩

theorem mkLongLoop_round (hn : n < 2 ^ 1024) (f : Nat) (s : LongSt) (b : Nat)
    (hI : Win n s ∧ b + s.bits = bitLen n) (hb : Br b (Rv n s)) (hidx : s.idx < cap) :
    (∃ x : Nat, mkLongLoop cap (ndOf n) (bitLen n) ((bitLen n - 1) / 64) (f + 1) s = some [(x : Int)] ∧
        x % 2 = 1 ∧ x < 64 ∧ Rv n s = x) ∨
    (∃ op s' sh, mkLongLoop cap (ndOf n) (bitLen n) ((bitLen n - 1) / 64) (f + 1) s =
          (mkLongLoop cap (ndOf n) (bitLen n) ((bitLen n - 1) / 64) f s').bind (fun c => some (op :: c)) ∧
        Step 7 64 (Rv n s) op (Rv n s') sh ∧ (Win n s' ∧ (b - sh) + s'.bits = bitLen n) ∧ s'.idx = s.idx + 1) := by
  obtain ⟨hw, hbits⟩ := hI
  rw [mkLongLoop]
  -- the loop condition holds: something is left
  have hcond : s.bits < bitLen n ∨ s.exp > 0 := by
    by_cases hh : hiOf n s = 0
    · right
      have := hb.pos
      simp only [Rv, hh] at this; omega
    · left
      have hnw : s.nextword ≤ (bitLen n - 1) / 64 := by
        by_contra hc; exact hh (hi_zero hc)
      have h1 := hw.sumEq hnw
      have h2 := hi_pos_bits hh
      omega
  obtain ⟨s1, hs1, hw1, hR1, hb1, hi1, hfill⟩ := longRefill_spec hn hw
  simp only [hcond, not_true_eq_false, if_false, hs1]
  rw [← hR1] at hb ⊢
  rw [← hb1] at hbits
  rw [← hi1] at hidx ⊢
  rcases longStep_spec hw1 hfill hb hbits hidx with ⟨x, hstep, hx⟩ | ⟨op, s2, sh, hstep, hw2, hs, hbit, hix⟩
  · exact Or.inl ⟨x, by simp only [hstep], hx⟩
  · refine Or.inr ⟨op, s2, sh, ?_, hs, ⟨hw2, ?_⟩, hix⟩
    · simp only [hstep]
      cases mkLongLoop cap (ndOf n) (bitLen n) ((bitLen n - 1) / 64) f s2 <;> rfl
    · have := (hs.br (by decide) (by decide) hb).1; omega

/-- `make_addition_chain_long`: the potential of a 1024-bit scalar is at most `2·1025 + 10`, seven units per opcode, so
at most 294 opcodes; a buffer of 295 entries is never indexed outside. -/
theorem makeChainLongCap_spec (h0 : 0 < n) (hn : n < 2 ^ 1024) (hcap : 295 ≤ cap) :
    ∃ c, makeChainLongCap cap n = some c ∧ evalChain c = (n : Int) ∧ WF 63 c ∧ c.length ≤ 294 := by
  have hbr := bitLen_br h0
  have hnb0 : bitLen n ≠ 0 := by
    intro hc; have := lt_two_pow_bitLen n; rw [hc] at this; omega
  let s0 : LongSt := { exp := n / 2 ^ (64 * 0) % W, nextword := 1, idx := 0, bits := 0,
                       curbits := if bitLen n ≥ 64 then 64 else bitLen (n / 2 ^ (64 * 0) % W) }
  have hW0 : (0 : Nat) < W := by decide
  have hexp : s0.exp = n % W := by simp [s0]
  have hhi : hiOf n s0 = n / W := by rw [W_eq]; rfl
  -- the window holds the low word when there are more, else all of `n`
  have key : s0.curbits ≤ 64 ∧ n % W ≤ 2 ^ s0.curbits ∧
      n / W * 2 ^ s0.curbits = n - n % W ∧ (1 ≤ (bitLen n - 1) / 64 → s0.curbits = 64) := by
    by_cases hbig : bitLen n ≥ 64
    · have hcb : s0.curbits = 64 := by simp [s0, hbig]
      rw [hcb, ← W_eq]
      have := Nat.mod_add_div n W
      exact ⟨le_refl _, le_of_lt (Nat.mod_lt _ hW0), by rw [Nat.mul_comm]; omega, fun _ => rfl⟩
    · have hlt : n < W := by
        rw [W_eq]
        exact lt_of_lt_of_le (lt_two_pow_bitLen n) (Nat.pow_le_pow_right (by decide) (by omega))
      have hmod : n % W = n := Nat.mod_eq_of_lt hlt
      have hcb : s0.curbits = bitLen n := by simp [s0, hbig, hmod]
      rw [hcb, hmod, Nat.div_eq_of_lt hlt]
      exact ⟨by omega, le_of_lt (lt_two_pow_bitLen n), by simp, fun h => by omega⟩
  obtain ⟨k1, k2, k4, k5⟩ := key
  have hR : Rv n s0 = n := by
    have := Nat.mod_le n W
    simp only [Rv, hhi, hexp, k4]; omega
  have hwin : Win n s0 := ⟨by rw [hexp]; exact k2, by omega, fun h => by simpa [s0] using k5 h⟩
  have hnb : bitLen n ≤ 1024 := bitLen_le hn
  have hw := wOf_le (u := 7) (h := 64) (R := n) (by decide)
  obtain ⟨c, h1, h2, h3, h4⟩ := recode_loop (u := 7) (h := 64) (cap := cap) (by decide) (by decide)
    (mkLongLoop cap (ndOf n) (bitLen n) ((bitLen n - 1) / 64)) (fun b s => Win n s ∧ b + s.bits = bitLen n)
    (Rv n) (·.idx) (mkLongLoop_round hn) (cap + 1) s0 (bitLen n) ⟨hwin, rfl⟩ (by rw [hR]; exact hbr)
    (by rw [hR]; unfold pot; omega) (by rw [hR]; unfold pot; simp only [s0]; omega)
  rw [hR] at h2 h4
  unfold pot at h4
  refine ⟨c, ?_, h2, h3, by omega⟩
  unfold makeChainLongCap
  simp only [hnb0, if_false]
  exact h1

end Ymq.Chain
