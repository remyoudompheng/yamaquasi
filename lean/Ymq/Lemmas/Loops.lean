/-
Rules for the two loop forms of the model, `List.foldlM` and `List.mapM` in `Option` (a `none` is a panic site
reached). An invariant of a fold is indexed by the list of elements already consumed; for a fold over
`List.range' a n` that is the index reached. Each rule comes in two readings: *total* (every step returns and
re-establishes the invariant, so the fold returns) and *partial* (a fold that returned kept the invariant).
No import: usable from the files that avoid Mathlib.
-/

namespace Ymq.Loops

theorem foldlM_total {σ α} (f : σ → α → Option σ) (I : List α → σ → Prop) (l : List α)
    (hstep : ∀ pre x post s, l = pre ++ x :: post → I pre s → ∃ s', f s x = some s' ∧ I (pre ++ [x]) s')
    {s : σ} (h0 : I [] s) : ∃ s', l.foldlM f s = some s' ∧ I l s' := by
  suffices h : ∀ (post pre : List α) (s : σ), l = pre ++ post → I pre s →
      ∃ s', post.foldlM f s = some s' ∧ I l s' from h l [] s rfl h0
  intro post
  induction post with
  | nil => intro pre s hl hs; exact ⟨s, rfl, by rw [hl, List.append_nil]; exact hs⟩
  | cons x post ih =>
    intro pre s hl hs
    obtain ⟨s1, h1, hs1⟩ := hstep pre x post s hl hs
    obtain ⟨s', h', hs'⟩ := ih (pre ++ [x]) s1 (by rw [hl, List.append_assoc]; rfl) hs1
    exact ⟨s', by rw [List.foldlM_cons, h1]; exact h', hs'⟩

theorem foldlM_partial {σ α} (f : σ → α → Option σ) (I : List α → σ → Prop) (l : List α)
    (hstep : ∀ pre x post s s', l = pre ++ x :: post → I pre s → f s x = some s' → I (pre ++ [x]) s')
    {s s' : σ} (h0 : I [] s) (h : l.foldlM f s = some s') : I l s' := by
  suffices key : ∀ (post pre : List α) (s : σ), l = pre ++ post → I pre s → post.foldlM f s = some s' → I l s' from
    key l [] s rfl h0 h
  intro post
  induction post with
  | nil =>
    intro pre s hl hs h
    rw [hl, List.append_nil]
    exact Option.some.inj h ▸ hs
  | cons x post ih =>
    intro pre s hl hs h
    rw [List.foldlM_cons] at h
    obtain ⟨s1, h1, h2⟩ := Option.bind_eq_some_iff.1 h
    exact ih (pre ++ [x]) s1 (by rw [hl, List.append_assoc]; rfl) (hstep pre x post s s1 hl hs h1) h2

theorem foldlM_some {σ α} (f : σ → α → Option σ) (P : σ → Prop) (l : List α)
    (hstep : ∀ x ∈ l, ∀ s, P s → ∃ s', f s x = some s' ∧ P s') {s : σ} (h0 : P s) :
    ∃ s', l.foldlM f s = some s' ∧ P s' :=
  foldlM_total f (fun _ => P) l (fun _ x _ s hl => hstep x (hl ▸ List.mem_append_cons_self) s) h0

theorem foldlM_inv {σ α} (f : σ → α → Option σ) (P : σ → Prop) (l : List α)
    (hstep : ∀ x ∈ l, ∀ s s', P s → f s x = some s' → P s') {s s' : σ} (h0 : P s)
    (h : l.foldlM f s = some s') : P s' :=
  foldlM_partial f (fun _ => P) l (fun _ x _ s s' hl => hstep x (hl ▸ List.mem_append_cons_self) s s') h0 h

theorem range'_split {a n x : Nat} {pre post : List Nat} (h : List.range' a n = pre ++ x :: post) :
    x = a + pre.length ∧ pre.length < n := by
  have hlen : pre.length < (List.range' a n).length := by rw [h, List.length_append, List.length_cons]; omega
  have hx : (List.range' a n)[pre.length] = x := by simp [h]
  rw [List.getElem_range', Nat.one_mul] at hx
  exact ⟨hx.symm, by simpa using hlen⟩

theorem foldlM_range'_total {σ} (f : σ → Nat → Option σ) (I : Nat → σ → Prop) (a n : Nat)
    (hstep : ∀ i s, a ≤ i → i < a + n → I i s → ∃ s', f s i = some s' ∧ I (i + 1) s')
    {s : σ} (h0 : I a s) : ∃ s', (List.range' a n).foldlM f s = some s' ∧ I (a + n) s' := by
  have := foldlM_total f (fun pre s => I (a + pre.length) s) (List.range' a n)
    (fun pre x post s hl hs => by
      obtain ⟨rfl, hlt⟩ := range'_split hl
      rw [List.length_append, List.length_singleton, ← Nat.add_assoc]
      exact hstep _ s (Nat.le_add_right ..) (Nat.add_lt_add_left hlt a) hs) (s := s) h0
  simpa using this

theorem foldlM_range'_partial {σ} (f : σ → Nat → Option σ) (I : Nat → σ → Prop) (a n : Nat)
    (hstep : ∀ i s s', a ≤ i → i < a + n → I i s → f s i = some s' → I (i + 1) s')
    {s s' : σ} (h0 : I a s) (h : (List.range' a n).foldlM f s = some s') : I (a + n) s' := by
  have := foldlM_partial f (fun pre s => I (a + pre.length) s) (List.range' a n)
    (fun pre x post s s' hl hs hf => by
      obtain ⟨rfl, hlt⟩ := range'_split hl
      rw [List.length_append, List.length_singleton, ← Nat.add_assoc]
      exact hstep _ s s' (Nat.le_add_right ..) (Nat.add_lt_add_left hlt a) hs hf) (s := s) h0 h
  simpa using this

theorem foldlM_range_total {σ} (f : σ → Nat → Option σ) (I : Nat → σ → Prop) (n : Nat)
    (hstep : ∀ i s, i < n → I i s → ∃ s', f s i = some s' ∧ I (i + 1) s')
    {s : σ} (h0 : I 0 s) : ∃ s', (List.range n).foldlM f s = some s' ∧ I n s' := by
  have := foldlM_range'_total f I 0 n (fun i s _ hi => hstep i s (by omega)) h0
  rwa [← List.range_eq_range', Nat.zero_add] at this

theorem mapM_eq_some_iff {α β} (f : α → Option β) {l : List α} :
    ∀ {ys : List β}, l.mapM f = some ys ↔ l.map f = ys.map some := by
  induction l with
  | nil => intro ys; cases ys <;> simp
  | cons x l ih =>
    intro ys
    cases ys with
    | nil => simp [Option.bind_eq_some_iff]
    | cons y ys => simp [Option.bind_eq_some_iff, ← ih]

theorem mapM_eq_map {α β} (f : α → Option β) (g : α → β) (l : List α) (h : ∀ x ∈ l, f x = some (g x)) :
    l.mapM f = some (l.map g) :=
  (mapM_eq_some_iff f).2 (by rw [List.map_map]; exact List.map_congr_left h)

theorem mapM_getElem {α β} {f : α → Option β} {l : List α} {ys : List β} (h : l.mapM f = some ys) :
    ys.length = l.length ∧ ∀ i (h1 : i < l.length) (h2 : i < ys.length), f l[i] = some ys[i] := by
  have e := (mapM_eq_some_iff f).1 h
  have hlen : ys.length = l.length := by simpa using (congrArg List.length e).symm
  refine ⟨hlen, fun i h1 h2 => ?_⟩
  have := List.getElem_of_eq e (by simpa using h1)
  simpa using this

theorem mapM_total {α β} (f : α → Option β) (Q : α → β → Prop) (l : List α)
    (h : ∀ x ∈ l, ∃ y, f x = some y ∧ Q x y) :
    ∃ ys, l.mapM f = some ys ∧ ys.length = l.length ∧ ∀ i (h1 : i < l.length) (h2 : i < ys.length), Q l[i] ys[i] := by
  induction l with
  | nil => exact ⟨[], rfl, rfl, fun i h1 => absurd h1 (Nat.not_lt_zero i)⟩
  | cons x l ih =>
    obtain ⟨y, hy, hq⟩ := h x List.mem_cons_self
    obtain ⟨ys, hys, hlen, hQ⟩ := ih fun x hx => h x (List.mem_cons_of_mem _ hx)
    refine ⟨y :: ys, by rw [List.mapM_cons, hy, hys]; rfl, by simp [hlen], fun i h1 h2 => ?_⟩
    cases i with
    | zero => exact hq
    | succ i => exact hQ i (Nat.lt_of_succ_lt_succ h1) (Nat.lt_of_succ_lt_succ h2)

theorem getD_eq_getElem {β} (l : List β) (d : β) {i : Nat} (h : i < l.length) : l.getD i d = l[i] := by
  rw [List.getD_eq_getElem?_getD, List.getElem?_eq_getElem h, Option.getD_some]

/-- the two readings for `(List.range w).mapM f`, results read with `getD` as the model reads them -/
theorem mapM_range_total {β} (d : β) {Q : Nat → β → Prop} (f : Nat → Option β) (w : Nat)
    (h : ∀ i, i < w → ∃ r, f i = some r ∧ Q i r) :
    ∃ l, (List.range w).mapM f = some l ∧ l.length = w ∧ ∀ i, i < w → Q i (l.getD i d) := by
  obtain ⟨l, hl, hlen, hQ⟩ := mapM_total f Q (List.range w) fun i hi => h i (List.mem_range.1 hi)
  rw [List.length_range] at hlen
  refine ⟨l, hl, hlen, fun i hi => ?_⟩
  have := hQ i (by simpa using hi) (hlen ▸ hi)
  rwa [List.getElem_range, ← getD_eq_getElem l d] at this

theorem mapM_range_partial {β} (d : β) {f : Nat → Option β} {w : Nat} {l : List β}
    (h : (List.range w).mapM f = some l) : l.length = w ∧ ∀ i, i < w → f i = some (l.getD i d) := by
  obtain ⟨hlen, hf⟩ := mapM_getElem h
  rw [List.length_range] at hlen
  refine ⟨hlen, fun i hi => ?_⟩
  have := hf i (by simpa using hi) (hlen ▸ hi)
  rwa [List.getElem_range, ← getD_eq_getElem l d] at this

end Ymq.Loops
