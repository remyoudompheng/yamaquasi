/-
`sqrt_mod` (Props/C08 `sqrt_mod_sound`, `sqrt_mod_none`, `sqrt_mod_no_panic`). `sqrtMod_some` lists the five ways the routine
returns; `tsLoop_some` reads the Tonelli–Shanks variant: it returns at the first `k` with `tsOk` (the candidate `(n·k²)^q1`
squares to `n·k²`), with value `tsVal`. In `ZMod p` such a `k` exists for a square `n` (`ts_exists`: `k = y⁻¹`) and the value
is a root (`ts_root`). `tsLoop_total` is the forward reading when `(p-1)² < B`.
-/
import Ymq.Lemmas.Arith
import Mathlib.NumberTheory.LegendreSymbol.Basic

namespace Ymq.Arith
open Ymq.Limbs (W)

/-- the value `n·k·k mod p` examined by iteration `k` -/
def tsNk (n p k : Nat) : Nat := n * k % p * k % p

/-- iteration `k` of the Tonelli–Shanks variant succeeds -/
def tsOk (n p q1 k : Nat) : Prop :=
  (tsNk n p k ^ q1 % p) * (tsNk n p k ^ q1 % p) % p = tsNk n p k

/-- the value returned by a successful iteration `k` -/
def tsVal (n p q1 k : Nat) : Nat := (tsNk n p k ^ q1 % p) * (k ^ (p - 2) % p) % p

theorem tsLoop_some (B n p q1 : Nat) (hq1 : q1 ≠ 0) (hp : 2 < p) :
    ∀ (f k : Nat) (res : Option Nat), tsLoop B n p q1 f k = some res →
    ∃ j, k ≤ j ∧ (∀ i, k ≤ i → i < j → ¬ tsOk n p q1 i) ∧ tsOk n p q1 j ∧ res = some (tsVal n p q1 j) := by
  intro f
  induction f with
  | zero => intro k res h; simp [tsLoop] at h
  | succ f ih =>
    intro k res h
    unfold tsLoop at h
    cases h1 : mulmod B n k p with
    | none => rw [h1] at h; simp at h
    | some nk0 =>
      rw [h1] at h; simp only [] at h
      cases h2 : mulmod B nk0 k p with
      | none => rw [h2] at h; simp at h
      | some nk =>
        rw [h2] at h; simp only [] at h
        cases h3 : powMod B nk q1 p with
        | none => rw [h3] at h; simp at h
        | some root =>
          rw [h3] at h; simp only [] at h
          cases h4 : mulmod B root root p with
          | none => rw [h4] at h; simp at h
          | some rr =>
            rw [h4] at h; simp only [] at h
            obtain ⟨e1, _, _⟩ := mulmod_some h1
            obtain ⟨e2, _, _⟩ := mulmod_some h2
            obtain ⟨_, e3⟩ := powMod_some h3
            obtain ⟨e4, _, _⟩ := mulmod_some h4
            rw [if_neg hq1] at e3
            have hnk : nk = tsNk n p k := by rw [e2, e1]; rfl
            by_cases hs : rr = nk
            · rw [if_pos hs, if_neg (by omega)] at h
              cases h5 : powMod B k (p - 2) p with
              | none => rw [h5] at h; simp at h
              | some ki =>
                rw [h5] at h; simp only [] at h
                obtain ⟨_, e5⟩ := powMod_some h5
                rw [if_neg (by omega)] at e5
                cases h6 : mulmod B root ki p with
                | none => rw [h6] at h; simp at h
                | some v =>
                  rw [h6] at h
                  simp only [Option.map_some] at h
                  injection h with h
                  obtain ⟨e6, _, _⟩ := mulmod_some h6
                  refine ⟨k, le_refl _, fun i h1 h2 => by omega, ?_, ?_⟩
                  · unfold tsOk; rw [← hnk, ← e3, ← e4, hs]
                  · rw [← h, e6, e3, e5, hnk]; rfl
            · rw [if_neg hs] at h
              obtain ⟨j, hj1, hj2, hj3, hj4⟩ := ih _ _ h
              refine ⟨j, by omega, ?_, hj3, hj4⟩
              intro i hi1 hi2
              by_cases hik : i = k
              · subst hik
                unfold tsOk
                rw [← hnk, ← e3, ← e4]; exact hs
              · exact hj2 i (by omega) hi2

section prime
variable {p : Nat} [hpf : Fact p.Prime]

theorem cast_ne_zero_of_mod {n : Nat} (h : n % p ≠ 0) : (n : ZMod p) ≠ 0 := by
  intro h0
  rw [ZMod.natCast_eq_zero_iff] at h0
  exact h (Nat.mod_eq_zero_of_dvd h0)

theorem tsNk_cast (n k : Nat) : ((tsNk n p k : Nat) : ZMod p) = (n : ZMod p) * k * k := by
  unfold tsNk
  rw [ZMod.natCast_mod]; push_cast; rw [ZMod.natCast_mod]; push_cast; ring

omit hpf in
theorem tsNk_mod (n k : Nat) : tsNk n p k % p = tsNk n p k := by
  unfold tsNk; exact Nat.mod_mod _ _

theorem tsOk_iff (n q1 k : Nat) :
    tsOk n p q1 k ↔ (((n : ZMod p) * k * k) ^ q1) * (((n : ZMod p) * k * k) ^ q1) = (n : ZMod p) * k * k := by
  unfold tsOk
  rw [← tsNk_cast, ← tsNk_mod n k (p := p), ← ZMod.natCast_eq_natCast_iff', tsNk_mod]
  push_cast
  rw [ZMod.natCast_mod]
  push_cast
  rfl

theorem ts_exists (n q1 : Nat) (hn : n % p ≠ 0) (hsq : IsSquare (n : ZMod p)) :
    ∃ k, 1 ≤ k ∧ k < p ∧ tsOk n p q1 k := by
  obtain ⟨y, hy⟩ := hsq
  have hN := cast_ne_zero_of_mod hn
  have hy0 : y ≠ 0 := by rintro rfl; simp at hy; exact hN hy
  have hyi : y⁻¹ ≠ 0 := inv_ne_zero hy0
  refine ⟨(y⁻¹).val, ?_, ZMod.val_lt _, ?_⟩
  · have : (y⁻¹).val ≠ 0 := by rwa [Ne, ZMod.val_eq_zero]
    omega
  · rw [tsOk_iff, ZMod.natCast_zmod_val, hy]
    have : y * y * y⁻¹ * y⁻¹ = 1 := by field_simp
    rw [this]; simp

/-- Euler's criterion in the form the code tests it -/
theorem isSquare_of_pow_eq_one {n : Nat} (hn : n % p ≠ 0) (he : (n % p) ^ (p / 2) % p = 1) :
    IsSquare ((n % p : Nat) : ZMod p) := by
  rw [ZMod.euler_criterion p (cast_ne_zero_of_mod (by rwa [Nat.mod_mod]))]
  have : (((n % p) ^ (p / 2) % p : Nat) : ZMod p) = ((1 : Nat) : ZMod p) := by rw [he]
  rwa [ZMod.natCast_mod, Nat.cast_pow, Nat.cast_one] at this

/-- the value of a successful iteration: with `t = N·j²` and `t^q1 · t^q1 = t`, the product
`t^q1 · j⁻¹` (`j⁻¹ = j^(p-2)`) squares to `N` -/
theorem ts_root {N j : ZMod p} {q1 : Nat} (hj : j ≠ 0)
    (hok : (N * j * j) ^ q1 * (N * j * j) ^ q1 = N * j * j) :
    (N * j * j) ^ q1 * j ^ (p - 2) * ((N * j * j) ^ q1 * j ^ (p - 2)) = N := by
  have hpp : j ^ (p - 2) * j = 1 := by
    rw [← pow_succ, show p - 2 + 1 = p - 1 by have := hpf.out.two_le; omega,
      ZMod.pow_card_sub_one_eq_one hj]
  calc (N * j * j) ^ q1 * j ^ (p - 2) * ((N * j * j) ^ q1 * j ^ (p - 2))
      = ((N * j * j) ^ q1 * (N * j * j) ^ q1) * (j ^ (p - 2) * j ^ (p - 2)) := by ring
    _ = N * ((j ^ (p - 2) * j) * (j ^ (p - 2) * j)) := by rw [hok]; ring
    _ = N := by rw [hpp, mul_one, mul_one]

end prime

/-- What `sqrt_mod` has done when it returns: one of the two early returns, the power for
`p ≡ 3 (mod 4)` with its check, a failed Euler test, or the Tonelli–Shanks loop. -/
theorem sqrtMod_some {B n p : Nat} {res : Option Nat} (hp0 : 0 < p)
    (h : sqrtMod B n p = some res) :
    (n % p = 0 ∧ res = some 0) ∨ (p = 2 ∧ n % 2 = 1 ∧ res = some 1) ∨
    (2 < p ∧ n % p ≠ 0 ∧
      ((p % 4 = 3 ∧ ∃ r, r = (n % p) ^ (p / 4 + 1) % p ∧
          res = if r * r % p = n % p then some r else none) ∨
       ((n % p) ^ (p / 2) % p ≠ 1 ∧ res = none) ∨
       ((n % p) ^ (p / 2) % p = 1 ∧ ∃ q1, q1 ≠ 0 ∧ tsLoop B (n % p) p q1 tsIters 1 = some res))) := by
  unfold sqrtMod at h
  rw [if_neg hp0.ne'] at h
  simp only [] at h
  by_cases hn0 : n % p = 0
  · rw [if_pos hn0] at h; cases h; exact Or.inl ⟨hn0, rfl⟩
  rw [if_neg hn0] at h
  by_cases hp2 : p = 2
  · subst hp2
    rw [if_pos rfl] at h; cases h
    exact Or.inr (Or.inl ⟨rfl, by omega, by rw [Nat.mod_mod]; congr 1; omega⟩)
  rw [if_neg hp2] at h
  have hp3 : 2 < p := by
    by_contra hlt
    obtain rfl : p = 1 := by omega
    exact hn0 (Nat.mod_one n)
  refine Or.inr (Or.inr ⟨hp3, hn0, ?_⟩)
  by_cases h34 : p % 4 = 3
  · rw [if_pos h34] at h
    cases h1 : powMod B (n % p) (p / 4 + 1) p with
    | none => rw [h1] at h; cases h
    | some r1 =>
      rw [h1] at h; simp only [] at h
      cases h2 : mulmod B r1 r1 p with
      | none => rw [h2] at h; cases h
      | some rr =>
        rw [h2] at h; cases h
        obtain ⟨e2, _, _⟩ := mulmod_some h2
        obtain ⟨_, e1⟩ := powMod_some h1
        rw [if_neg (Nat.succ_ne_zero _)] at e1
        exact Or.inl ⟨h34, r1, e1, by rw [e2]⟩
  · rw [if_neg h34] at h
    cases h1 : powMod B (n % p) (p / 2) p with
    | none => rw [h1] at h; cases h
    | some e =>
      rw [h1] at h; simp only [] at h
      obtain ⟨_, e1⟩ := powMod_some h1
      rw [if_neg (by omega)] at e1
      subst e1
      by_cases he : (n % p) ^ (p / 2) % p = 1
      · rw [if_neg (not_not.mpr he)] at h
        split_ifs at h with c1 c2
        cases h2 : oddPart (p + 1) (p / 2) with
        | none => rw [h2] at h; cases h
        | some q => rw [h2] at h; exact Or.inr (Or.inr ⟨he, _, Nat.succ_ne_zero _, h⟩)
      · rw [if_pos he] at h; cases h
        exact Or.inr (Or.inl ⟨he, rfl⟩)

theorem tz64_lt (n : Nat) (h0 : n ≠ 0) (hn : n < 2 ^ 24) : tz64 n < 24 := by
  unfold tz64
  rw [if_neg h0]
  by_contra hge
  have h1 := Nat.le_of_dvd (by omega) (tzAux_dvd 64 n)
  have : (2:Nat) ^ 24 ≤ 2 ^ tzAux 64 n := Nat.pow_le_pow_right (by decide) (by omega)
  omega

theorem oddPart_some : ∀ (f q : Nat), 0 < q → q < f → ∃ r, oddPart f q = some r := by
  intro f
  induction f with
  | zero => intro q _ h; omega
  | succ f ih =>
    intro q h0 hf
    unfold oddPart
    by_cases he : q % 2 = 0
    · rw [if_pos he]; exact ih _ (by omega) (by omega)
    · rw [if_neg he]; exact ⟨_, rfl⟩

theorem tsLoop_total (B n p q1 k0 : Nat) (hq1 : q1 ≠ 0) (hp : 2 < p) (hn : n < p)
    (hB : (p - 1) * (p - 1) < B) (hk0p : k0 < p) (hok : tsOk n p q1 k0) :
    ∀ (f k : Nat), k ≤ k0 → k0 < k + f → ∃ res, tsLoop B n p q1 f k = some res := by
  have hp0 : 0 < p := by omega
  have hlt : ∀ a b, a < p → b < p → a * b < B := by
    intro a b ha hb
    calc a * b ≤ (p - 1) * (p - 1) := Nat.mul_le_mul (by omega) (by omega)
      _ < B := hB
  intro f
  induction f with
  | zero => intro k h1 h2; omega
  | succ f ih =>
    intro k hk hkf
    have hkp : k < p := by omega
    unfold tsLoop
    rw [mulmod_eq hp0 (hlt _ _ hn hkp)]
    simp only []
    rw [mulmod_eq hp0 (hlt _ _ (Nat.mod_lt _ hp0) hkp)]
    simp only []
    rw [powMod_eq hp0 hB, if_neg hq1]
    simp only []
    rw [mulmod_eq hp0 (hlt _ _ (Nat.mod_lt _ hp0) (Nat.mod_lt _ hp0))]
    simp only []
    by_cases hs : (n * k % p * k % p) ^ q1 % p * ((n * k % p * k % p) ^ q1 % p) % p = n * k % p * k % p
    · rw [if_pos hs, if_neg (by omega), powMod_eq hp0 hB]
      simp only []
      rw [mulmod_eq hp0 (hlt _ _ (Nat.mod_lt _ hp0) (by
        split_ifs
        · omega
        · exact Nat.mod_lt _ hp0))]
      exact ⟨_, rfl⟩
    · rw [if_neg hs]
      have hne : k ≠ k0 := by
        rintro rfl
        exact hs hok
      exact ih (k + 1) (by omega) (by omega)

end Ymq.Arith
