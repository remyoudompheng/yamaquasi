/-
C14 "small", helper lemmas (core only): `lz` (= trailing_zeros), `ofBits`, pointwise access to
lists of row pairs (`rowAt`), `swapAt`, `position`.
-/
import Ymq.Model.Gf2Small
namespace Ymq.Gf2Small

theorem lzFrom_spec (f k w : Nat) :
    k ≤ lzFrom f k w ∧ lzFrom f k w ≤ k + f ∧
    (∀ t, k ≤ t → t < lzFrom f k w → w.testBit t = false) ∧
    (lzFrom f k w < k + f → w.testBit (lzFrom f k w) = true) := by
  induction f generalizing k with
  | zero => simp only [lzFrom]; exact ⟨Nat.le_refl _, Nat.le_refl _, fun t h1 h2 => by omega, fun h => by omega⟩
  | succ f ih =>
    unfold lzFrom
    by_cases h : w.testBit k = true
    · rw [if_pos h]
      exact ⟨Nat.le_refl _, by omega, fun t h1 h2 => by omega, fun _ => h⟩
    · simp only [h, Bool.false_eq_true, if_false]
      obtain ⟨h1, h2, h3, h4⟩ := ih (k + 1)
      refine ⟨by omega, by omega, ?_, fun hlt => h4 (by omega)⟩
      intro t ht1 ht2
      by_cases htk : t = k
      · subst htk; simpa using h
      · exact h3 t (by omega) ht2

theorem lz_le (n w : Nat) : lz n w ≤ n := by
  have := (lzFrom_spec n 0 w).2.1; simpa [lz] using this

theorem lz_below {n w t : Nat} (h : t < lz n w) : w.testBit t = false :=
  (lzFrom_spec n 0 w).2.2.1 t (Nat.zero_le _) h

theorem lz_bit {n w : Nat} (h : lz n w < n) : w.testBit (lz n w) = true :=
  (lzFrom_spec n 0 w).2.2.2 (by simpa [lz] using h)

theorem lz_le_of_testBit {n w i : Nat} (h : w.testBit i = true) : lz n w ≤ i := by
  apply Nat.le_of_not_lt
  intro hlt
  rw [lz_below hlt] at h; cases h

theorem lz_eq_of {n w i : Nat} (hi : i < n) (hb : w.testBit i = true) (hlow : ∀ t, t < i → w.testBit t = false) :
    lz n w = i := by
  have h1 := lz_le_of_testBit (n := n) hb
  rcases Nat.lt_or_ge (lz n w) i with h | h
  · have := lz_bit (n := n) (w := w) (by omega)
    rw [hlow _ h] at this; cases this
  · omega

theorem lz_eq_iff {n w i : Nat} (hi : i < n) :
    lz n w = i ↔ w.testBit i = true ∧ ∀ t, t < i → w.testBit t = false :=
  ⟨fun h => ⟨by have := lz_bit (n := n) (w := w) (by omega); rwa [h] at this,
    fun t ht => lz_below (n := n) (by omega)⟩, fun ⟨h1, h2⟩ => lz_eq_of hi h1 h2⟩

theorem lz_eq_n_iff {n w : Nat} : lz n w = n ↔ ∀ t, t < n → w.testBit t = false := by
  constructor
  · intro h t ht; exact lz_below (n := n) (by omega)
  · intro h
    rcases Nat.lt_or_ge (lz n w) n with hl | hl
    · have := lz_bit hl; rw [h _ hl] at this; cases this
    · have := lz_le n w; omega

theorem eq_zero_of_lz {n w : Nat} (hw : w < 2 ^ n) (h : lz n w = n) : w = 0 := by
  apply Nat.eq_of_testBit_eq
  intro i
  rw [Nat.zero_testBit]
  by_cases hi : i < n
  · exact lz_eq_n_iff.mp h i hi
  · exact Nat.testBit_lt_two_pow (Nat.lt_of_lt_of_le hw (Nat.pow_le_pow_right (by omega) (by omega)))

theorem lz_zero (n : Nat) : lz n 0 = n := lz_eq_n_iff.mpr (fun _ _ => Nat.zero_testBit _)

theorem testBit_ofBits (k : Nat) (f : Nat → Bool) (j : Nat) :
    (ofBits k f).testBit j = (decide (j < k) && f j) := by
  induction k with
  | zero => simp [ofBits]
  | succ k ih =>
    unfold ofBits
    by_cases hf : f k = true
    · simp only [hf, if_true, Nat.testBit_or, ih, Nat.one_shiftLeft, Nat.testBit_two_pow]
      by_cases hjk : j = k
      · subst hjk; simp [hf]
      · by_cases hlt : j < k
        · have : j < k + 1 := by omega
          have h2 : ¬ k = j := fun h => hjk h.symm
          simp [hlt, this, h2]
        · have h1 : ¬ j < k + 1 := by omega
          have h2 : ¬ k = j := fun h => hjk h.symm
          simp [hlt, h1, h2]
    · simp only [hf, Bool.false_eq_true, if_false, ih]
      by_cases hjk : j = k
      · subst hjk; simp [hf]
      · by_cases hlt : j < k
        · have : j < k + 1 := by omega
          simp [hlt, this]
        · have h1 : ¬ j < k + 1 := by omega
          simp [hlt, h1]

theorem ofBits_lt (k : Nat) (f : Nat → Bool) : ofBits k f < 2 ^ k := by
  apply Nat.lt_pow_two_of_testBit
  intro i hi
  rw [testBit_ofBits]
  have : ¬ i < k := by omega
  simp [this]

def rowAt (rows : Rows) (k : Nat) : Nat × Nat := rows.getD k (0, 0)

theorem rowAt_eq_getElem {rows : Rows} {k : Nat} (h : k < rows.length) : rowAt rows k = rows[k] := by
  simp [rowAt, List.getD_eq_getElem?_getD, List.getElem?_eq_getElem h]

theorem rowAt_of_ge {rows : Rows} {k : Nat} (h : rows.length ≤ k) : rowAt rows k = (0, 0) := by
  simp [rowAt, List.getD_eq_getElem?_getD, List.getElem?_eq_none h]

theorem length_swapAt {α} (l : List α) (a b : Nat) : (swapAt l a b).length = l.length := by
  unfold swapAt
  split <;> simp

theorem rowAt_swapAt {rows : Rows} {a b : Nat} (ha : a < rows.length) (hb : b < rows.length) (k : Nat) :
    rowAt (swapAt rows a b) k = if k = b then rowAt rows a else if k = a then rowAt rows b else rowAt rows k := by
  unfold swapAt
  rw [List.getElem?_eq_getElem ha, List.getElem?_eq_getElem hb]
  simp only [rowAt, List.getD_eq_getElem?_getD, List.getElem?_set, List.length_set]
  by_cases h1 : k = b
  · subst h1; simp [hb, List.getElem?_eq_getElem ha]
  · by_cases h2 : k = a
    · subst h2
      have : ¬ b = k := fun h => h1 h.symm
      simp [this, ha, h1, List.getElem?_eq_getElem hb]
    · have h3 : ¬ b = k := fun h => h1 h.symm
      have h4 : ¬ a = k := fun h => h2 h.symm
      simp [h1, h2, h3, h4]

theorem rowAt_mapIdx {rows : Rows} (f : Nat → Nat × Nat → Nat × Nat) {k : Nat} (h : k < rows.length) :
    rowAt (rows.mapIdx f) k = f k (rowAt rows k) := by
  simp [rowAt, List.getD_eq_getElem?_getD, List.getElem?_mapIdx, List.getElem?_eq_getElem h]

theorem rowAt_map_range (n : Nat) (f : Nat → Nat × Nat) {k : Nat} (h : k < n) :
    rowAt ((List.range n).map f) k = f k := by
  simp [rowAt, List.getD_eq_getElem?_getD, List.getElem?_map, List.getElem?_range h]

theorem row_map_range (n : Nat) (f : Nat → Nat) {k : Nat} (h : k < n) :
    row ((List.range n).map f) k = f k := by
  simp [row, List.getD_eq_getElem?_getD, List.getElem?_map, List.getElem?_range h]

theorem row_of_ge {m : Mat} {k : Nat} (h : m.length ≤ k) : row m k = 0 := by
  simp [row, List.getD_eq_getElem?_getD, List.getElem?_eq_none h]

theorem row_map_snd (rows : Rows) (k : Nat) : row (rows.map (·.2)) k = (rowAt rows k).2 := by
  simp only [row, rowAt, List.getD_eq_getElem?_getD, List.getElem?_map]
  cases rows[k]? <;> rfl

theorem position_some {n i : Nat} {rows : Rows} {j : Nat} (h : position n i rows = some j) :
    j < rows.length ∧ lz n (rowAt rows j).1 = i ∧ ∀ k, k < j → lz n (rowAt rows k).1 ≠ i := by
  unfold position at h
  rw [List.findIdx?_eq_some_iff_getElem] at h
  obtain ⟨hj, h1, h2⟩ := h
  refine ⟨hj, ?_, ?_⟩
  · rw [rowAt_eq_getElem hj]; simpa using h1
  · intro k hk
    rw [rowAt_eq_getElem (by omega)]
    simpa using h2 k hk

theorem position_none {n i : Nat} {rows : Rows} (h : position n i rows = none) :
    ∀ k, k < rows.length → lz n (rowAt rows k).1 ≠ i := by
  unfold position at h
  rw [List.findIdx?_eq_none_iff] at h
  intro k hk
  rw [rowAt_eq_getElem hk]
  simpa using h rows[k] (List.getElem_mem hk)

theorem position_isSome {n i : Nat} {rows : Rows} {k : Nat} (hk : k < rows.length)
    (h : lz n (rowAt rows k).1 = i) : ∃ j, position n i rows = some j := by
  cases hp : position n i rows with
  | some j => exact ⟨j, rfl⟩
  | none => exact absurd h (position_none hp k hk)

end Ymq.Gf2Small
