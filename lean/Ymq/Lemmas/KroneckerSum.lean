/-
Finite-sum lemmas behind the Kronecker substitution (property C10), independent of the model:
base-`B` digits of a digit sum, the exact product of two packed words as a sum of digits, the
bound on a digit, and the re-indexing theorem `scatter_sum`: scattering digit `j` of product word
`i` to index `(i·A + j) mod size` and adding gives the cyclic product modulo `X^size - 1`.
-/
import Mathlib.Algebra.BigOperators.Group.Finset.Basic
import Mathlib.Algebra.BigOperators.Ring.Finset
import Mathlib.Algebra.BigOperators.Intervals
import Mathlib.Algebra.Order.BigOperators.Group.Finset
import Mathlib.Tactic.Ring
import Mathlib.Tactic.Linarith

namespace Ymq.Kronecker
open Finset

theorem sum_block (L A : Nat) (h : Nat → Nat) :
    ∑ a ∈ range L, ∑ j ∈ range A, h (a * A + j) = ∑ u ∈ range (L * A), h u := by
  induction L with
  | zero => simp
  | succ L ih => rw [sum_range_succ, ih, Nat.succ_mul, sum_range_add]

/-- value of the packed word `a`: `Σ_{j<A} f(a·A + j)·B^j` -/
def packVal (A B : Nat) (f : Nat → Nat) (a : Nat) : Nat := ∑ j ∈ range A, f (a * A + j) * B ^ j

/-- digit `j` of the exact product word `i`: the sum of the coefficient products
`f(a·A + j1)·g(b·A + j2)` over `a + b ≡ i (mod L)`, `j1 + j2 = j` -/
def digitSum (A L : Nat) (f g : Nat → Nat) (i j : Nat) : Nat :=
  ∑ a ∈ range L, ∑ j1 ∈ range A, ∑ j2 ∈ range A,
    if j1 + j2 = j then f (a * A + j1) * g ((i + L - a) % L * A + j2) else 0

/-- the exact cyclic product word `i` of the packed operands -/
def wordProd (A B L : Nat) (f g : Nat → Nat) (i : Nat) : Nat :=
  ∑ a ∈ range L, packVal A B f a * packVal A B g ((i + L - a) % L)

/-- summing over the digit index `j < 2A - 1` and the pairs `j1 + j2 = j` is summing over all pairs -/
theorem sum_antidiag {M : Type*} [AddCommMonoid M] (A : Nat) (H : Nat → Nat → Nat → M) :
    ∑ j ∈ range (2 * A - 1), ∑ j1 ∈ range A, ∑ j2 ∈ range A, (if j1 + j2 = j then H j j1 j2 else 0) =
      ∑ j1 ∈ range A, ∑ j2 ∈ range A, H (j1 + j2) j1 j2 := by
  rw [Finset.sum_comm]
  refine Finset.sum_congr rfl fun j1 hj1 => ?_
  rw [Finset.sum_comm]
  refine Finset.sum_congr rfl fun j2 hj2 => ?_
  rw [Finset.sum_ite_eq, if_pos]
  simp only [mem_range] at *; omega

theorem wordProd_eq_digits (A B L : Nat) (f g : Nat → Nat) (i : Nat) :
    wordProd A B L f g i = ∑ j ∈ range (2 * A - 1), digitSum A L f g i j * B ^ j := by
  unfold wordProd digitSum packVal
  conv_rhs => simp only [Finset.sum_mul, ite_mul, zero_mul]
  rw [Finset.sum_comm]
  refine Finset.sum_congr rfl fun a _ => ?_
  rw [sum_antidiag A (fun j j1 j2 => f (a * A + j1) * g ((i + L - a) % L * A + j2) * B ^ j), Finset.sum_mul_sum]
  refine Finset.sum_congr rfl fun j1 _ => Finset.sum_congr rfl fun j2 _ => ?_
  rw [pow_add]; ring

theorem digits_of_sum (B m : Nat) (d : Nat → Nat) (hd : ∀ j < m, d j < B) :
    (∑ j ∈ range m, d j * B ^ j) < B ^ m ∧
    ∀ j < m, (∑ j ∈ range m, d j * B ^ j) / B ^ j % B = d j := by
  induction m with
  | zero => simp
  | succ m ih =>
    obtain ⟨h1, h2⟩ := ih (fun j hj => hd j (by omega))
    have hB : 0 < B := by have := hd m (by omega); omega
    have hBm : 0 < B ^ m := Nat.pow_pos hB
    rw [sum_range_succ]
    refine ⟨?_, ?_⟩
    · have := hd m (by omega)
      calc ∑ x ∈ range m, d x * B ^ x + d m * B ^ m < B ^ m + d m * B ^ m := by omega
        _ = (d m + 1) * B ^ m := by ring
        _ ≤ B * B ^ m := Nat.mul_le_mul_right _ (by omega)
        _ = B ^ (m + 1) := by rw [pow_succ]; ring
    · intro j hj
      rcases Nat.lt_or_ge j m with hjm | hjm
      · have e : d m * B ^ m = B ^ j * (d m * B ^ (m - j - 1) * B) := by
          have hp : B ^ m = B ^ j * B ^ (m - j - 1) * B := by
            rw [← pow_add, ← pow_succ]; congr 1; omega
          rw [hp]; ring
        rw [e, Nat.add_mul_div_left _ _ (Nat.pow_pos hB), Nat.add_mul_mod_self_right]
        exact h2 j hjm
      · have : j = m := by omega
        subst this
        rw [Nat.add_mul_div_right _ _ hBm, Nat.div_eq_of_lt h1, Nat.zero_add]
        exact Nat.mod_eq_of_lt (hd j (by omega))


theorem sum_ite_add_le (A j1 j c : Nat) (t : Nat → Nat) (ht : ∀ j2, t j2 ≤ c) :
    ∑ j2 ∈ range A, (if j1 + j2 = j then t j2 else 0) ≤ c := by
  calc ∑ j2 ∈ range A, (if j1 + j2 = j then t j2 else 0)
      ≤ ∑ j2 ∈ range A, (if j2 = j - j1 then c else 0) := by
        apply Finset.sum_le_sum
        intro j2 _
        by_cases h : j1 + j2 = j
        · rw [if_pos h, if_pos (by omega)]; exact ht j2
        · rw [if_neg h]; exact Nat.zero_le _
    _ ≤ c := by
        rw [Finset.sum_ite_eq']
        split_ifs <;> omega

theorem digitSum_le (A L c : Nat) (f g : Nat → Nat) (hfg : ∀ u v, f u * g v ≤ c) (i j : Nat) :
    digitSum A L f g i j ≤ L * A * c := by
  unfold digitSum
  calc _ ≤ ∑ a ∈ range L, ∑ j1 ∈ range A, c := by
        apply Finset.sum_le_sum; intro a _
        apply Finset.sum_le_sum; intro j1 _
        exact sum_ite_add_le A j1 j c _ (fun j2 => hfg _ _)
    _ = L * A * c := by simp [Finset.sum_const, Nat.mul_assoc]

theorem sub_mod_cases (i a L : Nat) (hi : i < L) (ha : a < L) :
    (i + L - a) % L = if a ≤ i then i - a else i + L - a := by
  split_ifs with h
  · have : i + L - a = i - a + L := by omega
    rw [this, Nat.add_mod_right, Nat.mod_eq_of_lt (by omega)]
  · exact Nat.mod_eq_of_lt (by omega)

theorem add_mod_cases (a b L : Nat) (ha : a < L) (hb : b < L) :
    (a + b) % L = if a + b < L then a + b else a + b - L := by
  split_ifs with h
  · exact Nat.mod_eq_of_lt h
  · rw [Nat.mod_eq_sub_mod (by omega), Nat.mod_eq_of_lt (by omega)]

theorem add_sub_mod (a i L : Nat) (ha : a < L) (hi : i < L) : (a + (i + L - a) % L) % L = i := by
  rw [sub_mod_cases i a L hi ha]
  split_ifs with h
  · rw [Nat.add_sub_cancel' h, Nat.mod_eq_of_lt hi]
  · rw [show a + (i + L - a) = i + L by omega, Nat.add_mod_right, Nat.mod_eq_of_lt hi]

theorem sub_add_mod (a b L : Nat) (ha : a < L) (hb : b < L) : ((a + b) % L + L - a) % L = b := by
  rw [add_mod_cases a b L ha hb]
  split_ifs with h
  · rw [show a + b + L - a = b + L by omega, Nat.add_mod_right, Nat.mod_eq_of_lt hb]
  · rw [show a + b - L + L - a = b by omega, Nat.mod_eq_of_lt hb]

/-- a cyclic shift permutes the residues: summing over `i < L` with `b = (i - a) mod L`, or over `b < L`
with `i = (a + b) mod L`, is the same -/
theorem sum_cyc_shift {M : Type*} [AddCommMonoid M] (L a : Nat) (ha : a < L) (F : Nat → Nat → M) :
    ∑ i ∈ range L, F i ((i + L - a) % L) = ∑ b ∈ range L, F ((a + b) % L) b := by
  have hL : 0 < L := by omega
  refine Finset.sum_nbij' (fun i => (i + L - a) % L) (fun b => (a + b) % L)
    (fun i _ => mem_range.2 (Nat.mod_lt _ hL)) (fun b _ => mem_range.2 (Nat.mod_lt _ hL))
    (fun i hi => add_sub_mod a i L ha (mem_range.1 hi)) (fun b hb => sub_add_mod a b L ha (mem_range.1 hb))
    (fun i hi => by rw [add_sub_mod a i L ha (mem_range.1 hi)])

/-- coefficient `k` of the cyclic product modulo `X^size - 1` -/
def cycSum (size : Nat) (f g : Nat → Nat) (k : Nat) : Nat :=
  ∑ u ∈ range size, f u * g ((k + size - u) % size)

theorem cycSum_le (size c : Nat) (f g : Nat → Nat) (hfg : ∀ u v, f u * g v ≤ c) (k : Nat) :
    cycSum size f g k ≤ size * c := by
  unfold cycSum
  calc _ ≤ ∑ _u ∈ range size, c := Finset.sum_le_sum (fun u _ => hfg _ _)
    _ = size * c := by simp

theorem cycSum_eq_double (size : Nat) (f g : Nat → Nat) (k : Nat) (hk : k < size) :
    cycSum size f g k =
      ∑ u ∈ range size, ∑ v ∈ range size, if (u + v) % size = k then f u * g v else 0 := by
  unfold cycSum
  apply Finset.sum_congr rfl
  intro u hu
  have hu' : u < size := mem_range.1 hu
  rw [Finset.sum_eq_single_of_mem ((k + size - u) % size) (mem_range.2 (Nat.mod_lt _ (by omega))),
    if_pos (add_sub_mod u k size hu' hk)]
  intro v hv hne
  rw [if_neg]
  rintro rfl
  exact hne (sub_add_mod u v size hu' (mem_range.1 hv)).symm

theorem mod_mul_add (x L A r : Nat) : (x % L * A + r) % (L * A) = (x * A + r) % (L * A) := by
  conv_rhs => rw [← Nat.div_add_mod x L]
  have : (L * (x / L) + x % L) * A + r = x % L * A + r + L * A * (x / L) := by ring
  rw [this, Nat.add_mul_mod_self_left]

/-- **Re-indexing of the Kronecker product.** Scattering digit `j` of product word `i` to the
output index `(i·A + j) mod size` (`size = L·A`) and adding up gives exactly the cyclic product. -/
theorem scatter_sum (A L : Nat) (f g : Nat → Nat) (k : Nat) (hk : k < L * A) :
    ∑ i ∈ range L, ∑ j ∈ range (2 * A - 1),
        (if (i * A + j) % (L * A) = k then digitSum A L f g i j else 0) = cycSum (L * A) f g k := by
  rw [cycSum_eq_double _ _ _ _ hk]
  -- the digit index is summed out
  have step1 : ∀ i ∈ range L, ∑ j ∈ range (2 * A - 1),
      (if (i * A + j) % (L * A) = k then digitSum A L f g i j else 0) =
      ∑ a ∈ range L, ∑ j1 ∈ range A, ∑ j2 ∈ range A,
        if (i * A + (j1 + j2)) % (L * A) = k then f (a * A + j1) * g ((i + L - a) % L * A + j2) else 0 := by
    intro i _
    unfold digitSum
    have hpush : ∀ j, (if (i * A + j) % (L * A) = k then
        (∑ a ∈ range L, ∑ j1 ∈ range A, ∑ j2 ∈ range A,
          if j1 + j2 = j then f (a * A + j1) * g ((i + L - a) % L * A + j2) else 0) else 0) =
        ∑ a ∈ range L, ∑ j1 ∈ range A, ∑ j2 ∈ range A,
          if j1 + j2 = j then
            (if (i * A + j) % (L * A) = k then f (a * A + j1) * g ((i + L - a) % L * A + j2) else 0)
          else 0 := by
      intro j
      split_ifs with h <;> simp
    simp only [hpush]
    rw [Finset.sum_comm]
    exact Finset.sum_congr rfl fun a _ => sum_antidiag A (fun j j1 j2 =>
      if (i * A + j) % (L * A) = k then f (a * A + j1) * g ((i + L - a) % L * A + j2) else 0)
  rw [Finset.sum_congr rfl step1, Finset.sum_comm]
  -- for every `a` the word index `i` is replaced by `b = (i - a) mod L`; then `(a, j1)`, `(b, j2)` merge into `u`, `v`
  have step2 : ∀ a ∈ range L, ∑ i ∈ range L, ∑ j1 ∈ range A, ∑ j2 ∈ range A,
      (if (i * A + (j1 + j2)) % (L * A) = k then f (a * A + j1) * g ((i + L - a) % L * A + j2) else 0) =
      ∑ j1 ∈ range A, ∑ v ∈ range (L * A),
        if ((a * A + j1) + v) % (L * A) = k then f (a * A + j1) * g v else 0 := by
    intro a ha
    rw [sum_cyc_shift L a (mem_range.1 ha) (fun i b => ∑ j1 ∈ range A, ∑ j2 ∈ range A,
      if (i * A + (j1 + j2)) % (L * A) = k then f (a * A + j1) * g (b * A + j2) else 0), Finset.sum_comm]
    refine Finset.sum_congr rfl fun j1 _ => ?_
    rw [← sum_block L A (fun v => if ((a * A + j1) + v) % (L * A) = k then f (a * A + j1) * g v else 0)]
    refine Finset.sum_congr rfl fun b _ => Finset.sum_congr rfl fun j2 _ => ?_
    rw [mod_mul_add, show (a + b) * A + (j1 + j2) = a * A + j1 + (b * A + j2) by ring]
  rw [Finset.sum_congr rfl step2]
  exact sum_block L A (fun u => ∑ v ∈ range (L * A), if (u + v) % (L * A) = k then f u * g v else 0)

end Ymq.Kronecker
