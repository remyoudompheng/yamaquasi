/-
The stage-1 exponent stream of `pm1_impl` over the blocks of the `PrimeSieve` model (C17): the outer loop ends at the block of
the first prime above `b1`; that one exists below 2^32 for every `b1 < 4294967291` (`prime_4294967291`, a Pratt certificate).
-/
import Ymq.Lemmas.SmoothBasePm1
import Ymq.Lemmas.PrimesStream
import Ymq.Lemmas.Stage2Pratt

namespace Ymq.Pm1
open Ymq.Primes Ymq.SmoothBase

/-- the largest prime below 2^32, by a Pratt certificate: `2` has order `p − 1 = 2·5·19·22605091` -/
theorem prime_4294967291 : Nat.Prime 4294967291 :=
  Ymq.Stage2.prattTable_sound
    [(22605091, 11, [(2, 1), (3, 1), (5, 1), (23, 1), (181, 2)]), (4294967291, 2, [(2, 1), (5, 1), (19, 1), (22605091, 1)])]
    [] [4294967291, 22605091] (by simp) (by decide +kernel) _ List.mem_cons_self

theorem primesFrom_bounds {p c : Nat} (hc : c < 65536) (hp : p ∈ primesFrom (65536 * c) 65536) :
    2 ≤ p ∧ p < 2 ^ 32 := by
  rw [mem_primesFrom] at hp
  exact ⟨hp.2.two_le, by omega⟩

theorem outer_stop {thr b1 f : Nat} {ps : PrimeSieve} {blk : List Nat} {st st' : St} {fl : Bool}
    (hblk : block thr b1 blk st = some (st', fl)) (h : st'.pPrev > b1 % 2 ^ 32) :
    outer thr b1 (f + 1) ps blk st = some st'.evs.reverse := by
  rw [outer, hblk]
  exact if_pos h

theorem outer_next {thr b1 f : Nat} {ps ps' : PrimeSieve} {blk blk' : List Nat} {st st' : St} {fl : Bool}
    (hblk : block thr b1 blk st = some (st', fl)) (h : ¬ st'.pPrev > b1 % 2 ^ 32) (hnext : ps.next = some (blk', ps')) :
    outer thr b1 (f + 1) ps blk st = outer thr b1 f ps' blk' st' := by
  rw [outer, hblk]
  simp only
  rw [if_neg h, hnext]

/-- **Outer loop.** `P` is any prime with `b1 < P < 2^32`; the loop is at block `c`, everything
below `65536·c` has been consumed without reaching a number `> b1`. -/
theorem outer_spec (thr b1 P : Nat) (hthr : thr + 64 ≤ 1024) (hthr1 : 1 ≤ thr)
    (hP : P.Prime) (hbP : b1 < P) (hP32 : P < 2 ^ 32) :
    ∀ d c f (ps : PrimeSieve) (st : St), c + d = P / 65536 → d < f → Good ps (c + 1) →
      Inv thr st → st.pPrev ≤ b1 →
      (∀ p, p.Prime → p < 65536 * c →
        p ≤ b1 ∧ p ∣ total st ∧ ∀ k, p ^ k < b1 → p ^ k ∣ total st) →
      ∃ evs, outer thr b1 f ps (primesFrom (65536 * c) 65536) st = some evs ∧
        (∀ e ∈ evs, EvOK e) ∧
        ∀ p, p.Prime → p ≤ b1 → p ∣ evProd evs ∧ ∀ k, p ^ k < b1 → p ^ k ∣ evProd evs := by
  have hb32 : b1 < 2 ^ 32 := by omega
  have hmod : b1 % 2 ^ 32 = b1 := Nat.mod_eq_of_lt hb32
  have hPdiv : P / 65536 < 65536 := by omega
  intro d
  induction d using Nat.strong_induction_on with
  | _ d ih =>
  intro c f ps st hcd hf hgood hinv hpp hold
  obtain ⟨f, rfl⟩ : ∃ f', f = f' + 1 := ⟨f - 1, by omega⟩
  have hc : c < 65536 := by omega
  obtain ⟨st', fl, hblk, hinv', hdvd, hall, hT, hF⟩ :=
    block_spec thr b1 hthr hthr1 hb32 (primesFrom (65536 * c) 65536) st hinv
      (fun p hp => primesFrom_bounds hc hp) (primesFrom_sorted _ _) hpp
  have hin : ∀ p, p.Prime → ¬ p < 65536 * c → p < 65536 * c + 65536 → p ∈ primesFrom (65536 * c) 65536 :=
    fun p hp h1 h2 => mem_primesFrom.mpr ⟨⟨by omega, h2⟩, hp⟩
  cases fl with
  | true =>
    obtain ⟨he, hl, hprev, q, hq, hqb⟩ := hT rfl
    have htot : evProd st'.evs.reverse = total st' := by
      rw [evProd_reverse, total, he, hl]; ring
    refine ⟨_, outer_stop hblk (by omega), fun e he' => hinv'.ev_ok e (List.mem_reverse.mp he'), ?_⟩
    intro p hp hpb
    rw [htot]
    by_cases hlt : p < 65536 * c
    · obtain ⟨_, h2, h3⟩ := hold p hp hlt
      exact ⟨dvd_trans h2 hdvd, fun k hk => dvd_trans (h3 k hk) hdvd⟩
    · have hq' := (mem_primesFrom.mp hq).1
      exact hall p (hin p hp hlt (by omega)) hpb
  | false =>
    obtain ⟨hprev, hallle⟩ := hF rfl
    -- `P > b1` is not in this block, so it is not the last one
    obtain ⟨d, rfl⟩ : ∃ d', d = d' + 1 := by
      refine ⟨d - 1, ?_⟩
      by_contra hd
      have hdiv := Nat.div_add_mod P 65536
      have hmodlt := Nat.mod_lt P (by decide : 65536 > 0)
      have := hallle P (hin P hP (by omega) (by omega))
      omega
    obtain ⟨ps', hnext, hgood'⟩ := next_spec ps (c + 1) hgood (by omega) (by omega)
    rw [outer_next hblk (by omega) hnext]
    apply ih d (Nat.lt_succ_self d) (c + 1) f ps' st' (by omega) (by omega) hgood' hinv' hprev
    intro p hp hlt
    by_cases hlt' : p < 65536 * c
    · obtain ⟨h1, h2, h3⟩ := hold p hp hlt'
      exact ⟨h1, dvd_trans h2 hdvd, fun k hk => dvd_trans (h3 k hk) hdvd⟩
    · have hpin := hin p hp hlt' (by omega)
      have hle := hallle p hpin
      exact ⟨hle, hall p hpin hle⟩

theorem stage1_eq {thr b1 : Nat} (h4 : 4 ≤ b1) {ps ps' : PrimeSieve} {blk : List Nat}
    (hnew : PrimeSieve.new = some ps) (hnext : ps.next = some (blk, ps')) :
    stage1 thr b1 = outer thr b1 65600 ps' blk st0 := by
  unfold stage1
  rw [if_neg (by omega), hnew]
  simp only
  rw [hnext]

/-- **Stage 1 of P−1.** For every flush threshold `thr ≤ 960`, every `b1 ≥ 4` below a prime
`P < 2^32`: no panic site is reached (no `u64`/`U1024` overflow), every exponent fits its type and
every prime `p ≤ b1` and every prime power `p^k < b1` divides the product of the exponents. -/
theorem stage1_spec (thr b1 P : Nat) (hthr : thr + 64 ≤ 1024) (hthr1 : 1 ≤ thr) (h4 : 4 ≤ b1)
    (hP : P.Prime) (hbP : b1 < P) (hP32 : P < 2 ^ 32)
    (HSmall : primes 6542 = some (primesBelow 65536)) :
    ∃ evs, stage1 thr b1 = some evs ∧ (∀ e ∈ evs, EvOK e) ∧
      ∀ p, p.Prime → p ≤ b1 → p ∣ evProd evs ∧ ∀ k, p ^ k < b1 → p ^ k ∣ evProd evs := by
  obtain ⟨ps0, ps1, hnew, hnext, hgood⟩ := new_spec HSmall
  have e0 : primesBelow 65536 = primesFrom (65536 * 0) 65536 := (primesBelow_append 0 65536).trans (List.nil_append _)
  rw [stage1_eq h4 hnew hnext, e0]
  exact outer_spec thr b1 P hthr hthr1 hP hbP hP32 (P / 65536) 0 65600 ps1 st0 (by omega) (by omega)
    hgood (inv_st0 thr hthr1) (by show 1 ≤ b1; omega) (fun p _ hlt => by omega)

end Ymq.Pm1
