/-
C13 helper lemmas: well-formed factor bases and the cursor invariant of
`sieve_block` (every live cursor is reduced and ≡ root − B·32768; a missing second root stays
`OFFSET_NONE` in both arrays). Every step of the cursor loops is stated once, as "under the invariant it returns, and
what it returns is ...", so that the same lemma serves the invariant and the absence of panics.
-/
import Ymq.Lemmas.SieveTable

namespace Ymq.Sieve
open Ymq.Loops

/-- what `FBase::new` guarantees about the fields the sieve reads. -/
structure FB.WF (fb : FB) : Prop where
  /-- `idx_by_log[l]` is the index of the first prime of bit length ≥ l -/
  ibl_spec : ∀ (l i v p : Nat), fb.ibl[l]? = some v → fb.primes[i]? = some p → (i < v ↔ bitlen p < l)
  ibl_some : ∀ l, l < 26 → ∃ v, fb.ibl[l]? = some v
  ibl_le : ∀ (l v : Nat), fb.ibl[l]? = some v → v ≤ fb.primes.size
  ge2 : ∀ (i p : Nat), fb.primes[i]? = some p → 2 ≤ p
  /-- "a factor base consisting of 24-bit primes" (`prepare_factor_base` drops `p ≥ 2^24`) -/
  lt24 : ∀ (i p : Nat), fb.primes[i]? = some p → p < 2 ^ 24
  sorted : ∀ (i j p q : Nat), i < j → fb.primes[i]? = some p → fb.primes[j]? = some q → p < q

/-- both root tables are reduced. -/
def RootsOK (fb : FB) (r1 r2 : Array Nat) : Prop :=
  ∀ (i p : Nat), fb.primes[i]? = some p → ∃ o1 o2, r1[i]? = some o1 ∧ r2[i]? = some o2 ∧ o1 < p ∧ o2 < p

/-- the two roots differ for the primes that are registered in the bucket tables (`p ≥ 32768`): the debug assertion of
`new`, a hypothesis of the totality statements. -/
def RootsDistinct (fb : FB) (r1 r2 : Array Nat) : Prop :=
  ∀ (i p : Nat), fb.primes[i]? = some p → 32768 ≤ p → r1[i]? ≠ r2[i]?

theorem FB.WF.ibl_mono {fb : FB} (h : fb.WF) {l l' v v' : Nat} (hl : l ≤ l') (h1 : fb.ibl[l]? = some v)
    (h2 : fb.ibl[l']? = some v') : v ≤ v' := by
  by_contra hc
  have hv : v' < v := by omega
  have hle := h.ibl_le l v h1
  have hlt : v' < fb.primes.size := by omega
  obtain ⟨p, hp⟩ : ∃ p, fb.primes[v']? = some p := ⟨fb.primes[v'], Array.getElem?_eq_getElem hlt⟩
  have a1 := (h.ibl_spec l v' v p h1 hp).1 hv
  have a2 := (h.ibl_spec l' v' v' p h2 hp)
  have : ¬ bitlen p < l' := fun hb => absurd (a2.2 hb) (lt_irrefl _)
  omega

theorem FB.WF.prime_at {fb : FB} (_h : fb.WF) {i : Nat} (hi : i < fb.primes.size) :
    ∃ p, fb.primes[i]? = some p := ⟨fb.primes[i], Array.getElem?_eq_getElem hi⟩

theorem FB.WF.ibl_zero {fb : FB} (h : fb.WF) : fb.ibl[0]? = some 0 := by
  obtain ⟨v0, hv0⟩ := h.ibl_some 0 (by omega)
  have : v0 = 0 := by
    by_contra hc
    have hle := h.ibl_le _ _ hv0
    obtain ⟨p, hp⟩ := h.prime_at (i := 0) (by omega)
    have := (h.ibl_spec 0 0 v0 p hv0 hp).1 (by omega)
    omega
  rw [hv0, this]

theorem FB.WF.class_of {fb : FB} (h : fb.WF) {i p l v v' : Nat} (hp : fb.primes[i]? = some p)
    (h1 : fb.ibl[l]? = some v) (h2 : fb.ibl[l + 1]? = some v') :
    (v ≤ i ∧ i < v') ↔ bitlen p = l := by
  have a1 := h.ibl_spec l i v p h1 hp
  have a2 := h.ibl_spec (l + 1) i v' p h2 hp
  constructor
  · rintro ⟨b1, b2⟩
    have := a2.1 b2
    have : ¬ bitlen p < l := fun hb => absurd (a1.2 hb) (by omega)
    omega
  · intro hb
    refine ⟨?_, a2.2 (by omega)⟩
    by_contra hc
    have := a1.1 (by omega)
    omega

theorem FB.WF.le_back {fb : FB} (h : fb.WF) {i p m : Nat} (hp : fb.primes[i]? = some p)
    (hm : fb.primes.back? = some m) : p ≤ m := by
  rw [Array.back?_eq_getElem?] at hm
  have hi := (Array.getElem?_eq_some_iff.1 hp).1
  by_cases he : i = fb.primes.size - 1
  · subst he; rw [hp] at hm; exact le_of_eq (Option.some.inj hm)
  · exact le_of_lt (h.sorted i (fb.primes.size - 1) p m (by omega) hp hm)

theorem FB.WF.bitlen_back_le {fb : FB} (h : fb.WF) {m : Nat} (hm : fb.primes.back? = some m) : bitlen m ≤ 24 := by
  rw [Array.back?_eq_getElem?] at hm
  have := (bitlen_lt_succ_iff m 24).2 (h.lt24 _ _ hm)
  omega

theorem writeOpt_spec {a a' : Array Nat} {j : Nat} {w : Option Nat} (h : writeOpt a j w = some a') :
    a'.size = a.size ∧ (∀ k, k ≠ j → a'[k]? = a[k]?) ∧ (∀ v, w = some v → a'[j]? = some v) ∧
    (w = none → a' = a) := by
  cases w with
  | none =>
    simp only [writeOpt, Option.some.injEq] at h
    subst h
    exact ⟨rfl, fun _ _ => rfl, by simp, fun _ => rfl⟩
  | some v =>
    simp only [writeOpt] at h
    by_cases hj : j < a.size
    · simp only [hj, if_true, Option.some.injEq] at h
      subst h
      refine ⟨by simp, fun k hk => Array.getElem?_setIfInBounds_ne (fun e => hk e.symm), ?_, by simp⟩
      intro v' hv
      simp only [Option.some.injEq] at hv
      subst hv
      simp [hj]
    · simp [hj] at h

theorem writeOpt_some {a : Array Nat} {j : Nat} (hj : j < a.size) (w : Option Nat) :
    ∃ a', writeOpt a j w = some a' ∧ a'.size = a.size := by
  cases w with
  | none => exact ⟨a, rfl, rfl⟩
  | some v => exact ⟨a.setIfInBounds j v, by simp [writeOpt, hj], by simp⟩

section Cursor
variable (fb : FB) (r1 r2 : Array Nat) (idxskip nS : Nat)

/-- slot `k` holds a real cursor (first root, or second root different from the first). -/
def LiveSlot (k : Nat) : Prop :=
  ∀ o1 o2, r1[k / 2]? = some o1 → r2[k / 2]? = some o2 → (k % 2 = 0 ∨ o1 ≠ o2)

/-- the cursor array `a` is correct for block `B`: every live cursor `c` of a prime `p` with root `o`
satisfies `c < p` and `c + B·32768 ≡ o (mod p)`; a missing second root is `OFFSET_NONE`
(for the primes that are not skipped). -/
def CurInv (B : Nat) (a : Array Nat) : Prop :=
  a.size = 2 * nS ∧
  ∀ k, k < 2 * nS → ∃ p o1 o2, fb.primes[k / 2]? = some p ∧ r1[k / 2]? = some o1 ∧ r2[k / 2]? = some o2 ∧
    (if k % 2 = 0 ∨ o1 ≠ o2 then
       ∃ c, a[k]? = some c ∧ c < p ∧ (c + B * BLOCK) % p = (if k % 2 = 0 then o1 else o2)
     else idxskip ≤ k → a[k]? = some NONE)

/-- the other cursor array: same size, missing second roots are `OFFSET_NONE`. -/
def NoneInv (a : Array Nat) : Prop :=
  a.size = 2 * nS ∧
  ∀ k, k < 2 * nS → ∀ o1 o2, r1[k / 2]? = some o1 → r2[k / 2]? = some o2 →
    ¬ (k % 2 = 0 ∨ o1 ≠ o2) → idxskip ≤ k → a[k]? = some NONE

theorem CurInv.noneInv {B : Nat} {a : Array Nat} (h : CurInv fb r1 r2 idxskip nS B a) :
    NoneInv r1 r2 idxskip nS a := by
  refine ⟨h.1, ?_⟩
  intro k hk o1 o2 h1 h2 hdead hge
  obtain ⟨p, o1', o2', _, h1', h2', hif⟩ := h.2 k hk
  rw [h1] at h1'; rw [h2] at h2'
  have e1 := Option.some.inj h1'; have e2 := Option.some.inj h2'
  subst e1; subst e2
  simp only [hdead, if_false] at hif
  exact hif hge

/-- `v` is a correct value for slot `k` of the next block, given the cursors `lo0` of this block. -/
def GoodW (lo0 : Array Nat) (k v : Nat) : Prop :=
  ∃ p o1 o2, fb.primes[k / 2]? = some p ∧ r1[k / 2]? = some o1 ∧ r2[k / 2]? = some o2 ∧
    (if k % 2 = 0 ∨ o1 ≠ o2 then ∃ c, lo0[k]? = some c ∧ Next p c v else k < idxskip)

/-- slot `k` of `a` holds a value that is good for the next block. -/
def Written (lo0 : Array Nat) (k : Nat) (a : Array Nat) : Prop := ∃ v, a[k]? = some v ∧ GoodW fb r1 r2 idxskip lo0 k v

/-- one step of `sieve_block` on the array being written: every slot is unchanged or correctly written. -/
def GoodStep (lo0 : Array Nat) (a a' : Array Nat) : Prop :=
  a'.size = a.size ∧ ∀ k, k < 2 * nS → (a'[k]? = a[k]? ∨ Written fb r1 r2 idxskip lo0 k a')

theorem GoodStep.refl (lo0 a : Array Nat) : GoodStep fb r1 r2 idxskip nS lo0 a a := ⟨rfl, fun _ _ => Or.inl rfl⟩

theorem GoodStep.trans {lo0 a b c : Array Nat} (h1 : GoodStep fb r1 r2 idxskip nS lo0 a b) (h2 : GoodStep fb r1 r2 idxskip nS lo0 b c) :
    GoodStep fb r1 r2 idxskip nS lo0 a c := by
  refine ⟨h2.1.trans h1.1, ?_⟩
  intro k hk
  rcases h2.2 k hk with e | w
  · rcases h1.2 k hk with e1 | ⟨v, hv, g⟩
    · exact Or.inl (e.trans e1)
    · exact Or.inr ⟨v, e.trans hv, g⟩
  · exact Or.inr w

theorem Written.step {lo0 a b : Array Nat} {k : Nat} (hk : k < 2 * nS) (h1 : Written fb r1 r2 idxskip lo0 k a)
    (h2 : GoodStep fb r1 r2 idxskip nS lo0 a b) : Written fb r1 r2 idxskip lo0 k b := by
  rcases h2.2 k hk with e | w
  · obtain ⟨v, hv, g⟩ := h1
    exact ⟨v, e.trans hv, g⟩
  · exact w

variable {fb r1 r2 idxskip nS}

/-- the invariant on the two slots of prime `i`: the first cursor is live; the second is live when the roots differ
and `OFFSET_NONE` otherwise (for the primes that are sieved). -/
theorem CurInv.pair {B : Nat} {a : Array Nat} (h : CurInv fb r1 r2 idxskip nS B a) {i p : Nat}
    (hi : 2 * i + 1 < 2 * nS) (hp : fb.primes[i]? = some p) :
    ∃ o1 o2 c1, r1[i]? = some o1 ∧ r2[i]? = some o2 ∧ a[2 * i]? = some c1 ∧ c1 < p ∧ (c1 + B * BLOCK) % p = o1 ∧
      (o1 ≠ o2 → ∃ c2, a[2 * i + 1]? = some c2 ∧ c2 < p ∧ (c2 + B * BLOCK) % p = o2) ∧
      (o1 = o2 → idxskip ≤ 2 * i + 1 → a[2 * i + 1]? = some NONE) := by
  have e0 : (2 * i) / 2 = i := by omega
  have e1 : (2 * i + 1) / 2 = i := by omega
  have m0 : (2 * i) % 2 = 0 := by omega
  have m1 : ¬ (2 * i + 1) % 2 = 0 := by omega
  obtain ⟨p', o1, o2, hp', h1, h2, hif0⟩ := h.2 (2 * i) (by omega)
  obtain ⟨p'', o1', o2', hp'', h1', h2', hif1⟩ := h.2 (2 * i + 1) hi
  rw [e0] at hp' h1 h2
  rw [e1] at hp'' h1' h2'
  rw [hp] at hp' hp''
  cases hp'; cases hp''
  rw [h1] at h1'; rw [h2] at h2'
  cases h1'; cases h2'
  simp only [m0, m1, true_or, false_or, if_true, if_false] at hif0 hif1
  obtain ⟨c1, hc1, hlt1, hinv1⟩ := hif0
  refine ⟨o1, o2, c1, h1, h2, hc1, hlt1, hinv1, fun hne => ?_, fun he => ?_⟩
  · rw [if_pos hne] at hif1; exact hif1
  · rw [if_neg (fun hne => hne he)] at hif1; exact hif1

theorem prime_small (hfb : fb.WF) (hnS : fb.ibl[16]? = some nS) {k p : Nat} (hk : k < 2 * nS)
    (hp : fb.primes[k / 2]? = some p) : p < 32768 := by
  have := (hfb.ibl_spec 16 (k / 2) nS p hnS hp).1 (by omega)
  have := (bitlen_lt_succ_iff p 15).1 this
  simpa using this

theorem GoodStep.write {lo0 a : Array Nat} {i v : Nat} (hi : i < a.size)
    (hw : i < 2 * nS → Written fb r1 r2 idxskip lo0 i (a.setIfInBounds i v)) :
    GoodStep fb r1 r2 idxskip nS lo0 a (a.setIfInBounds i v) := by
  refine ⟨by simp, fun k hk => ?_⟩
  by_cases hki : k = i
  · subst hki; exact Or.inr (hw hk)
  · exact Or.inl (Array.getElem?_setIfInBounds_ne (fun e => hki e.symm))

theorem writeOpt_ok {lo0 a : Array Nat} {j : Nat} (hj : j < a.size) (w : Option Nat)
    (hw : ∀ v, w = some v → j < 2 * nS → GoodW fb r1 r2 idxskip lo0 j v) :
    ∃ a', writeOpt a j w = some a' ∧ GoodStep fb r1 r2 idxskip nS lo0 a a' ∧ (∀ v, w = some v → a'[j]? = some v) := by
  obtain ⟨a', h, _⟩ := writeOpt_some hj w
  obtain ⟨hsz, hne, hwr, hnone⟩ := writeOpt_spec h
  refine ⟨a', h, ⟨hsz, fun k hk => ?_⟩, hwr⟩
  by_cases hkj : k = j
  · subst hkj
    cases w with
    | none => rw [hnone rfl]; exact Or.inl rfl
    | some v => exact Or.inr ⟨v, hwr v rfl, hw v rfl hk⟩
  · exact Or.inl (hne k hkj)

theorem skipStep_ok (hfb : fb.WF) (hnS : fb.ibl[16]? = some nS) {B : Nat} {lo0 a : Array Nat}
    (hcur : CurInv fb r1 r2 idxskip nS B lo0) (ha : a.size = 2 * nS) {i : Nat} (hi : i < idxskip)
    (hi2 : i < 2 * nS) :
    ∃ a', skipStep fb lo0 a i = some a' ∧ GoodStep fb r1 r2 idxskip nS lo0 a a' ∧ Written fb r1 r2 idxskip lo0 i a' := by
  obtain ⟨p, o1, o2, hp, h1, h2, hif⟩ := hcur.2 i hi2
  obtain ⟨c, hc⟩ : ∃ c, lo0[i]? = some c := ⟨lo0[i]'(by rw [hcur.1]; exact hi2), Array.getElem?_eq_getElem _⟩
  have hp2 := hfb.ge2 _ _ hp
  obtain ⟨v, hv⟩ := stepSkipped_some (p := p) (by omega) c
  have hia : i < a.size := by omega
  have hW : Written fb r1 r2 idxskip lo0 i (a.setIfInBounds i v) := by
    refine ⟨v, by simp [hia], p, o1, o2, hp, h1, h2, ?_⟩
    split
    · rename_i hl
      rw [if_pos hl, hc] at hif
      obtain ⟨_, e, hlt, _⟩ := hif
      cases e
      obtain ⟨c', e', hn⟩ := stepSkipped_next (by omega) (by have := prime_small hfb hnS hi2 hp; omega) hlt
      rw [hv] at e'
      cases e'
      exact ⟨c, hc, hn⟩
    · exact hi
  exact ⟨_, by simp [skipStep, hp, hc, hv, hia], GoodStep.write hia fun _ => hW, hW⟩

theorem singleStep_ok (hfb : fb.WF) (hnS : fb.ibl[16]? = some nS) {B : Nat} {lo0 a : Array Nat}
    (hcur : CurInv fb r1 r2 idxskip nS B lo0) (ha : a.size = 2 * nS) {i : Nat} (hi : idxskip ≤ i)
    (hi2 : i < 2 * nS) :
    ∃ a', singleStep fb lo0 a i = some a' ∧ GoodStep fb r1 r2 idxskip nS lo0 a a' ∧
      (LiveSlot r1 r2 i → Written fb r1 r2 idxskip lo0 i a') := by
  obtain ⟨p, o1, o2, hp, h1, h2, hif⟩ := hcur.2 i hi2
  have hps := prime_small hfb hnS hi2 hp
  have hp2 := hfb.ge2 _ _ hp
  obtain ⟨c, w, hc, hw, hgood, hlive⟩ : ∃ c w, lo0[i]? = some c ∧ stepSingle p c = some w ∧
      (∀ v, w = some v → GoodW fb r1 r2 idxskip lo0 i v) ∧ (LiveSlot r1 r2 i → w ≠ none) := by
    by_cases hl : i % 2 = 0 ∨ o1 ≠ o2
    · rw [if_pos hl] at hif
      obtain ⟨c, hc, hlt, _⟩ := hif
      obtain ⟨c', e', hn⟩ := stepSingle_next (p := p) (by omega) (by simp only [BLOCK]; omega) hlt
      refine ⟨c, _, hc, e', ?_, fun _ => by simp⟩
      intro v hv
      cases hv
      exact ⟨p, o1, o2, hp, h1, h2, by rw [if_pos hl]; exact ⟨c, hc, hn⟩⟩
    · rw [if_neg hl] at hif
      exact ⟨NONE, none, hif hi, by simp [stepSingle], by simp, fun hlive => absurd (hlive o1 o2 h1 h2) hl⟩
  obtain ⟨a', ha', hT, hget⟩ := writeOpt_ok (nS := nS) (a := a) (j := i) (by omega) w (fun v hv _ => hgood v hv)
  refine ⟨a', by simp [singleStep, hp, hc, hw, ha'], hT, fun hl => ?_⟩
  obtain ⟨v, rfl⟩ := Option.ne_none_iff_exists'.1 (hlive hl)
  exact ⟨v, hget v rfl, hgood v rfl⟩

theorem pairStep_ok (hfb : fb.WF) (hnS : fb.ibl[16]? = some nS) {B : Nat} {lo0 a : Array Nat}
    (hcur : CurInv fb r1 r2 idxskip nS B lo0) (ha : a.size = 2 * nS) {i : Nat} (hi : idxskip ≤ 2 * i)
    (hi2 : 2 * i < 2 * nS) (hp4 : ∀ p, fb.primes[i]? = some p → p ≤ 4096) :
    ∃ a', pairStep fb lo0 a i = some a' ∧ GoodStep fb r1 r2 idxskip nS lo0 a a' ∧
      ∀ k, k / 2 = i → LiveSlot r1 r2 k → Written fb r1 r2 idxskip lo0 k a' := by
  have hn := hfb.ibl_le _ _ hnS
  obtain ⟨p, hp⟩ := hfb.prime_at (i := i) (by omega)
  obtain ⟨o1, o2, c1, h1, h2, hc1, hlt1, _, hlive, hdead⟩ := hcur.pair (by omega) hp
  have hp2 := hfb.ge2 _ _ hp
  have hpl := hp4 _ hp
  have e0 : (2 * i) / 2 = i := by omega
  have e1 : (2 * i + 1) / 2 = i := by omega
  have m0 : (2 * i) % 2 = 0 := by omega
  have m1 : ¬ ((2 * i + 1) % 2 = 0) := by omega
  obtain ⟨c2, v1, w2, hc2, hw, g1, g2, hl2⟩ : ∃ c2 v1 w2, lo0[2 * i + 1]? = some c2 ∧
      stepPair p c1 c2 = some (some v1, w2) ∧ Next p c1 v1 ∧
      (∀ v, w2 = some v → o1 ≠ o2 ∧ Next p c2 v) ∧ (o1 ≠ o2 → w2 ≠ none) := by
    by_cases hl : o1 = o2
    · obtain ⟨v1, e, g1⟩ := stepPair_one (p := p) (by omega) hpl hlt1
      exact ⟨NONE, v1, none, hdead hl (by omega), e, g1, by simp, fun h => absurd hl h⟩
    · obtain ⟨c2, hc2, hlt2, _⟩ := hlive hl
      obtain ⟨v1, v2, e, g1, g2⟩ := stepPair_two (p := p) (by omega) hpl hlt1 hlt2
      exact ⟨c2, v1, some v2, hc2, e, g1, fun v hv => by cases hv; exact ⟨hl, g2⟩, fun _ => by simp⟩
  have hG0 : GoodW fb r1 r2 idxskip lo0 (2 * i) v1 :=
    ⟨p, o1, o2, by rw [e0]; exact hp, by rw [e0]; exact h1, by rw [e0]; exact h2,
      by rw [if_pos (Or.inl m0)]; exact ⟨c1, hc1, g1⟩⟩
  have hG1 : ∀ v, w2 = some v → GoodW fb r1 r2 idxskip lo0 (2 * i + 1) v := fun v hv =>
    ⟨p, o1, o2, by rw [e1]; exact hp, by rw [e1]; exact h1, by rw [e1]; exact h2,
      by rw [if_pos (Or.inr (g2 v hv).1)]; exact ⟨c2, hc2, (g2 v hv).2⟩⟩
  obtain ⟨a1, ha1, T1, get1⟩ := writeOpt_ok (nS := nS) (a := a) (j := 2 * i) (by omega) (some v1)
    (fun v hv _ => by cases hv; exact hG0)
  obtain ⟨a2, ha2, T2, get2⟩ := writeOpt_ok (nS := nS) (a := a1) (j := 2 * i + 1) (by rw [T1.1]; omega) w2
    (fun v hv _ => hG1 v hv)
  have hW0 : Written fb r1 r2 idxskip lo0 (2 * i) a2 := Written.step fb r1 r2 idxskip nS hi2 ⟨v1, get1 v1 rfl, hG0⟩ T2
  refine ⟨a2, by simp [pairStep, hp, hc1, hc2, hw, ha1, ha2], GoodStep.trans fb r1 r2 idxskip nS T1 T2, ?_⟩
  intro k hki hlk
  have : k = 2 * i ∨ k = 2 * i + 1 := by omega
  rcases this with rfl | rfl
  · exact hW0
  · have hne : o1 ≠ o2 := (hlk o1 o2 (by rw [e1]; exact h1) (by rw [e1]; exact h2)).resolve_left m1
    obtain ⟨v, rfl⟩ := Option.ne_none_iff_exists'.1 (hl2 hne)
    exact ⟨v, get2 v rfl, hG1 v rfl⟩

/-- a loop whose steps return, change the array by `GoodStep` and write the slots they own correctly: it returns, changes
the array by `GoodStep`, and every slot owned by one of its steps is correctly written. -/
theorem sweep_ok {ι : Type} (lo0 : Array Nat) (step : Array Nat → ι → Option (Array Nat)) (own : ι → Nat → Prop)
    (l : List ι)
    (hstep : ∀ i ∈ l, ∀ a, a.size = 2 * nS → ∃ a', step a i = some a' ∧ GoodStep fb r1 r2 idxskip nS lo0 a a' ∧
      ∀ k, k < 2 * nS → own i k → Written fb r1 r2 idxskip lo0 k a')
    {a : Array Nat} (ha : a.size = 2 * nS) :
    ∃ a', l.foldlM step a = some a' ∧ GoodStep fb r1 r2 idxskip nS lo0 a a' ∧
      ∀ i ∈ l, ∀ k, k < 2 * nS → own i k → Written fb r1 r2 idxskip lo0 k a' := by
  refine foldlM_total step (fun pre a1 => GoodStep fb r1 r2 idxskip nS lo0 a a1 ∧
    ∀ i ∈ pre, ∀ k, k < 2 * nS → own i k → Written fb r1 r2 idxskip lo0 k a1) l ?_ ⟨GoodStep.refl .., by simp⟩
  rintro pre x _ a1 e ⟨hT, hW⟩
  obtain ⟨a2, h2, T2, W2⟩ := hstep x (e ▸ List.mem_append_cons_self) a1 (hT.1.trans ha)
  refine ⟨a2, h2, GoodStep.trans fb r1 r2 idxskip nS hT T2, fun i hi k hk ho => ?_⟩
  rcases List.mem_append.1 hi with hi | hi
  · exact Written.step fb r1 r2 idxskip nS hk (hW i hi k hk ho) T2
  · cases List.mem_singleton.1 hi; exact W2 k hk ho

theorem pairLog_ok (hfb : fb.WF) (hnS : fb.ibl[16]? = some nS) (hev : idxskip % 2 = 0) {B : Nat}
    {lo0 a : Array Nat} (hcur : CurInv fb r1 r2 idxskip nS B lo0) (ha : a.size = 2 * nS) {log : Nat}
    (hlog : log ≤ 12) :
    ∃ a', pairLog fb idxskip lo0 a log = some a' ∧ GoodStep fb r1 r2 idxskip nS lo0 a a' ∧
      ∀ k, k < 2 * nS → (idxskip ≤ k ∧ LiveSlot r1 r2 k ∧ ∀ p, fb.primes[k / 2]? = some p → bitlen p = log) →
        Written fb r1 r2 idxskip lo0 k a' := by
  obtain ⟨va, hva⟩ := hfb.ibl_some log (by omega)
  obtain ⟨vb, hvb⟩ := hfb.ibl_some (log + 1) (by omega)
  have hvbn : vb ≤ nS := hfb.ibl_mono (by omega) hvb hnS
  obtain ⟨a', ha', hT, hW⟩ := sweep_ok lo0 (pairStep fb lo0) (fun i k => k / 2 = i ∧ LiveSlot r1 r2 k)
    (List.range' (max idxskip (2 * va) / 2) (2 * vb / 2 - max idxskip (2 * va) / 2))
    (fun i hi a ha => by
      have hm := List.mem_range'_1.1 hi
      obtain ⟨hge, _, hib⟩ := pair_range_mem hev hm.1 hm.2
      obtain ⟨a', h1, h2, h3⟩ := pairStep_ok hfb hnS hcur ha hge (by omega) (fun p hp => by
        have := (hfb.ibl_spec (log + 1) i vb p hvb hp).1 hib
        have := (bitlen_lt_succ_iff p 12).1 (by omega)
        omega)
      exact ⟨a', h1, h2, fun k _ hk => h3 k hk.1 hk.2⟩) ha
  refine ⟨a', ?_, hT, ?_⟩
  · have hl15 : log < 15 := by omega
    simp only [pairLog, hva, hvb, hl15, if_true, Option.bind_eq_bind, Option.bind_some, Option.map_some]
    exact ha'
  · rintro k hk ⟨hki, hlive, hbl⟩
    obtain ⟨p, _, _, hp, _⟩ := hcur.2 k hk
    have hcl := (hfb.class_of hp hva hvb).2 (hbl p hp)
    exact hW (k / 2) (List.mem_range'_1.2 ⟨by omega, by omega⟩) k hk ⟨rfl, hlive⟩

theorem singleLog_ok (hfb : fb.WF) (hnS : fb.ibl[16]? = some nS) {B : Nat}
    {lo0 a : Array Nat} (hcur : CurInv fb r1 r2 idxskip nS B lo0) (ha : a.size = 2 * nS) {log : Nat}
    (h13 : 13 ≤ log) (hlog : log ≤ 15) :
    ∃ a', singleLog fb idxskip lo0 a log = some a' ∧ GoodStep fb r1 r2 idxskip nS lo0 a a' ∧
      ∀ k, k < 2 * nS → (idxskip ≤ k ∧ LiveSlot r1 r2 k ∧ ∀ p, fb.primes[k / 2]? = some p → bitlen p = log) →
        Written fb r1 r2 idxskip lo0 k a' := by
  obtain ⟨va, hva⟩ := hfb.ibl_some log (by omega)
  obtain ⟨vb, hvb⟩ := hfb.ibl_some (log + 1) (by omega)
  have hvbn : vb ≤ nS := hfb.ibl_mono (by omega) hvb hnS
  -- the end of the range: `2·idx_by_log[log+1]`, or the end of the array for the last class
  obtain ⟨iEnd, hEnd, hle, hcls⟩ : ∃ iEnd, (if log < 15 then (fb.ibl[log + 1]?).map (2 * ·) else some a.size) = some iEnd ∧
      iEnd ≤ 2 * nS ∧ ∀ k, k < 2 * nS → (∀ p, fb.primes[k / 2]? = some p → bitlen p = log) → 2 * va ≤ k ∧ k < iEnd := by
    have hcl : ∀ k, k < 2 * nS → (∀ p, fb.primes[k / 2]? = some p → bitlen p = log) → va ≤ k / 2 ∧ k / 2 < vb := by
      intro k hk hbl
      obtain ⟨p, _, _, hp, _⟩ := hcur.2 k hk
      exact (hfb.class_of hp hva hvb).2 (hbl p hp)
    by_cases hl15 : log < 15
    · exact ⟨2 * vb, by simp [hl15, hvb], by omega, fun k hk hbl => by have := hcl k hk hbl; omega⟩
    · exact ⟨a.size, by simp [hl15], by omega, fun k hk hbl => by have := hcl k hk hbl; omega⟩
  obtain ⟨a', ha', hT, hW⟩ := sweep_ok lo0 (singleStep fb lo0) (fun i k => k = i ∧ LiveSlot r1 r2 k)
    (List.range' (max idxskip (2 * va)) (iEnd - max idxskip (2 * va)))
    (fun i hi a ha => by
      have hm := List.mem_range'_1.1 hi
      obtain ⟨a', h1, h2, h3⟩ := singleStep_ok hfb hnS hcur ha (i := i) (by omega) (by omega)
      exact ⟨a', h1, h2, fun k _ hk => by rw [hk.1]; exact h3 (hk.1 ▸ hk.2)⟩) ha
  refine ⟨a', ?_, hT, ?_⟩
  · unfold singleLog
    simp only [Option.bind_eq_bind]
    rw [hva, Option.bind_some]
    split at hEnd <;> rename_i h15
    · rw [if_pos h15, hEnd, Option.bind_some]; exact ha'
    · rw [if_neg h15, hEnd, Option.bind_some]; exact ha'
  · rintro k hk ⟨hki, hlive, hbl⟩
    have := hcls k hk hbl
    exact hW k (List.mem_range'_1.2 ⟨by omega, by omega⟩) k hk ⟨rfl, hlive⟩

/-- `sieve_block` on the cursors: it returns, the previous array becomes `lo_prev` unchanged, and correct cursors of
block `B` become correct cursors of block `B + 1`. -/
theorem sieveCursors_ok (hfb : fb.WF) (hnS : fb.ibl[16]? = some nS) (hev : idxskip % 2 = 0)
    (hsk : idxskip ≤ 2 * nS) {B : Nat} {lo0 lp0 : Array Nat} (hcur : CurInv fb r1 r2 idxskip nS B lo0)
    (hnone : NoneInv r1 r2 idxskip nS lp0) :
    ∃ lo, sieveCursors fb idxskip lo0 lp0 = some (lo, lo0) ∧ CurInv fb r1 r2 idxskip nS (B + 1) lo := by
  let own (log k : Nat) : Prop := idxskip ≤ k ∧ LiveSlot r1 r2 k ∧ ∀ p, fb.primes[k / 2]? = some p → bitlen p = log
  obtain ⟨la, hla, Ta, Wa⟩ := sweep_ok lo0 (skipStep fb lo0) (fun i k => k = i) (List.range' 0 idxskip)
    (fun i hi a ha => by
      have hm := List.mem_range'_1.1 hi
      obtain ⟨a', h1, h2, h3⟩ := skipStep_ok hfb hnS hcur ha (i := i) (by omega) (by omega)
      exact ⟨a', h1, h2, fun k _ hk => hk ▸ h3⟩) hnone.1
  obtain ⟨lb, hlb, Tb, Wb⟩ := sweep_ok lo0 (pairLog fb idxskip lo0) own (List.range' 2 11)
    (fun log hl a ha => pairLog_ok hfb hnS hev hcur ha (by have := List.mem_range'_1.1 hl; omega)) (Ta.1.trans hnone.1)
  obtain ⟨lc, hlc, Tc, Wc⟩ := sweep_ok lo0 (singleLog fb idxskip lo0) own (List.range' 13 3)
    (fun log hl a ha => by
      have := List.mem_range'_1.1 hl
      exact singleLog_ok hfb hnS hcur ha (by omega) (by omega)) (Tb.1.trans (Ta.1.trans hnone.1))
  have Tall := GoodStep.trans fb r1 r2 idxskip nS (GoodStep.trans fb r1 r2 idxskip nS Ta Tb) Tc
  refine ⟨lc, by simp [sieveCursors, hla, hlb, hlc], Tall.1.trans hnone.1, fun k hk => ?_⟩
  obtain ⟨p, o1, o2, hp, h1, h2, hif⟩ := hcur.2 k hk
  refine ⟨p, o1, o2, hp, h1, h2, ?_⟩
  by_cases hl : k % 2 = 0 ∨ o1 ≠ o2
  · rw [if_pos hl] at hif ⊢
    obtain ⟨c, hc, hlt, hinv⟩ := hif
    have hlive : LiveSlot r1 r2 k := fun a b ha hb => by
      rw [h1] at ha; rw [h2] at hb; cases ha; cases hb; exact hl
    -- the step that owns slot `k`
    have hW : Written fb r1 r2 idxskip lo0 k lc := by
      by_cases hks : k < idxskip
      · exact Written.step fb r1 r2 idxskip nS hk (Written.step fb r1 r2 idxskip nS hk
          (Wa k (List.mem_range'_1.2 ⟨by omega, by omega⟩) k hk rfl) Tb) Tc
      · have hb15 : bitlen p < 15 + 1 := (bitlen_lt_succ_iff p 15).2 (by simpa using prime_small hfb hnS hk hp)
        have hb2 : 2 ≤ bitlen p := by
          by_contra hx
          have := (bitlen_lt_succ_iff p 1).1 (by omega)
          have := hfb.ge2 _ _ hp
          omega
        have hown : own (bitlen p) k := ⟨by omega, hlive, fun q hq => by rw [hp] at hq; cases hq; rfl⟩
        by_cases h12 : bitlen p ≤ 12
        · exact Written.step fb r1 r2 idxskip nS hk (Wb _ (List.mem_range'_1.2 ⟨hb2, by omega⟩) k hk hown) Tc
        · exact Wc _ (List.mem_range'_1.2 ⟨by omega, by omega⟩) k hk hown
    obtain ⟨v, hv, p', o1', o2', hp', h1', h2', hg⟩ := hW
    rw [hp] at hp'; rw [h1] at h1'; rw [h2] at h2'
    cases hp'; cases h1'; cases h2'
    rw [if_pos hl, hc] at hg
    obtain ⟨_, e, hn⟩ := hg
    cases e
    exact ⟨v, hv, hn.1, hn.chain hinv⟩
  · rw [if_neg hl]
    intro hge
    rcases Tall.2 k hk with e | ⟨v, hv, p', o1', o2', hp', h1', h2', hg⟩
    · rw [e]; exact hnone.2 k hk o1 o2 h1 h2 hl hge
    · rw [h1] at h1'; rw [h2] at h2'
      cases h1'; cases h2'
      rw [if_neg hl] at hg
      omega


end Cursor

end Ymq.Sieve
