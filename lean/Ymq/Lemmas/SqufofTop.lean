/-
One round of `'kloop` classified completely, the multiplier loop, and independence of the run
from the floating point seed.
-/
import Ymq.Lemmas.SqufofLoops

namespace Ymq.Squfof

variable {seed : Nat → Nat}

theorem attempt_stop {n k : Nat} (h : n * k ≥ W) : attempt seed n k = some .stop := by
  unfold attempt; rw [if_pos h]

/-- `n·k` a perfect square that the square test does not accept (`⌊√(nk)⌋² ≠ n`, i.e. `k ≥ 2`):
`q = nk − nsqrt² = 0` and the round is skipped (squfof.rs:26; before the repair f24afb6 the first
iteration divided by `q`). -/
theorem attempt_square_skips (hs : SeedOK seed) {n k : Nat} (hlt : n * k < W)
    (hsq : Nat.sqrt (n * k) * Nat.sqrt (n * k) = n * k) (hne : n * k ≠ n) :
    attempt seed n k = some .next := by
  rw [attempt_eq hs hlt rfl, if_neg (by omega), if_pos (by omega)]

/-- a round never panics, and ends in one of the four ways of `Round`: `break` on overflow of
`n·k`; `continue`; the square test of round 1; the gcd exit with `1 ≤ p_prev ≤ ⌊√(nk)⌋` -/
theorem attempt_round (hs : SeedOK seed) (n k : Nat) :
    ∃ r, attempt seed n k = some r ∧ Round n (n * k) r := by
  rcases Nat.lt_or_ge (n * k) W with hlt | hge
  · obtain ⟨s, hr⟩ : ∃ s, Nat.sqrt (n * k) = s := ⟨_, rfl⟩
    have hle := Nat.sqrt_le (n * k)
    have hhi := Nat.lt_succ_sqrt (n * k)
    rw [hr] at hle hhi
    rw [attempt_eq hs hlt hr]
    by_cases hsq : s * s = n
    · rw [if_pos hsq]; exact ⟨_, rfl, .square s hsq⟩
    rw [if_neg hsq]
    by_cases hns : n * k - s * s = 0
    · rw [if_pos hns]; exact ⟨_, rfl, .next⟩
    rw [if_neg hns]
    have c : Ctx (n * k) s := ⟨hlt, by omega, hhi⟩
    have hs1 := c.s_pos
    have hs2 : 0 < Nat.sqrt s := Nat.sqrt_pos.2 hs1
    have hinv : Inv (n * k) s s 1 (n * k - s * s) := ⟨by omega, hs1, Nat.le_refl _, by omega⟩
    rcases fwdLoop_ok hs c (3 * Nat.sqrt s) (3 * Nat.sqrt s) 1 _ _ _ hinv (by omega) (by omega)
      with h | ⟨qs, p, Qb, h, hb⟩
    · rw [h]; exact ⟨_, rfl, .next⟩
    · rw [h]; exact finish_ok c n (3 * Nat.sqrt s) hb
  · exact ⟨_, attempt_stop hge, .stop hge⟩

theorem kLoop_first (n : Nat) : ∀ (f k : Nat) (r : Option (Option (Nat × Nat))),
    kLoop seed n f k = r → r ≠ some none →
    ∃ j, j < f ∧ ((r = none ∧ attempt seed n (k + j) = none) ∨
        ∃ a b, r = some (some (a, b)) ∧ attempt seed n (k + j) = some (.ret a b)) := by
  intro f
  induction f with
  | zero => intro k r h hr; rw [kLoop] at h; exact absurd h.symm hr
  | succ f ih =>
    intro k r h hr
    rw [kLoop] at h
    cases ha : attempt seed n k with
    | none =>
      rw [ha] at h
      exact ⟨0, by omega, Or.inl ⟨h.symm, ha⟩⟩
    | some st =>
      rw [ha] at h
      cases st with
      | stop => exact absurd h.symm hr
      | ret a b => exact ⟨0, by omega, Or.inr ⟨a, b, h.symm, ha⟩⟩
      | next =>
        obtain ⟨j, hj, hres⟩ := ih (k + 1) r h hr
        refine ⟨j + 1, by omega, ?_⟩
        rwa [show k + 1 + j = k + (j + 1) by omega] at hres

theorem fwdLoop_seed {seed seed' : Nat → Nat} (hs : SeedOK seed) (hs' : SeedOK seed')
    (s it : Nat) : ∀ (f i P Q' Q : Nat), Q' < W → Q < W →
      fwdLoop seed s it f i P Q' Q = fwdLoop seed' s it f i P Q' Q := by
  intro f
  induction f with
  | zero => intros; rfl
  | succ f ih =>
    intro i P Q' Q h1 h2
    rw [fwdLoop, fwdLoop]
    by_cases hi : i = it
    · rw [if_pos hi, if_pos hi]
    · rw [if_neg hi, if_neg hi]
      cases hst : step s P Q' Q with
      | none => rfl
      | some pq =>
        obtain ⟨p, qn⟩ := pq
        have hb := step_lt h1 hst
        simp only []
        rw [isqrt_eq hs hb.2, isqrt_eq hs' hb.2, ih _ _ _ _ h2 hb.2]

theorem attempt_seed {seed seed' : Nat → Nat} (hs : SeedOK seed) (hs' : SeedOK seed') (n k : Nat) :
    attempt seed n k = attempt seed' n k := by
  rcases Nat.lt_or_ge (n * k) W with hlt | hge
  · rw [attempt_eq hs hlt rfl, attempt_eq hs' hlt rfl]
    have := Nat.sqrt_le (n * k)
    rw [fwdLoop_seed hs hs' _ _ _ _ _ _ _ (by unfold W; omega) (by omega)]
  · rw [attempt_stop hge, attempt_stop hge]

theorem kLoop_seed {seed seed' : Nat → Nat} (hs : SeedOK seed) (hs' : SeedOK seed') (n : Nat) :
    ∀ (f k : Nat), kLoop seed n f k = kLoop seed' n f k := by
  intro f
  induction f with
  | zero => intro k; rfl
  | succ f ih =>
    intro k
    rw [kLoop, kLoop, attempt_seed hs hs', ih]

theorem exactSeed_ok : SeedOK exactSeed := by
  intro m _ _
  have h := Ymq.Arith.isqrt_spec' m
  have e : exactSeed m = Nat.sqrt m := Nat.eq_sqrt.2 h
  rw [e]; omega

end Ymq.Squfof
