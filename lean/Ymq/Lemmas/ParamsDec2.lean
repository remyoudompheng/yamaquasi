/- C20: the functions of which Ymq/Props/C20.lean states several properties, each swept once with
all of them (the square root in `factor_base_size` makes the factor base sizes the dear
evaluations); in its own module so that lake checks the large finite checks in parallel. -/
import Ymq.Lemmas.Params
import Ymq.Lemmas.ParamsDefs

namespace Ymq.C20.Dec
open Ymq.Checked Ymq.Gen Ymq.Gen.Params Ymq.C20

/-- Requests of up to `2^26` primes are admissible: `n = 2 * size + 40` has at most 28 bits, and
`2^28 * 28 < 2^32`. -/
theorem _root_.Ymq.C20.FbRequestOk.of_le {size : Nat} (h : size ≤ 2 ^ 26) : FbRequestOk size := by
  have hb := bitlen_le (by omega : 2 * size + 40 < 2 ^ 28)
  have hm : (2 * size + 40) * (32 - (32 - bitlen (2 * size + 40))) < 2 ^ 32 :=
    Nat.lt_of_le_of_lt (Nat.mul_le_mul_left _ (by omega : _ ≤ 28)) (by omega)
  simp only [FbRequestOk, fbase.candidate_count, fbase.primes_bound, clz, cmul_some (by omega : 2 * size < 2 ^ 32),
    cadd_some (by omega : 2 * size + 40 < 2 ^ 32), csub_some (Nat.sub_le 32 _), cmul_some hm,
    cadd_some (by omega : size + 7 < 2 ^ 32), Option.bind_some, holds_some, and_self]

theorem factor_base_size : ∀ sz, sz ≤ 520 →
    Holds (params.factor_base_size sz) fun v => 0 < v ∧ v ≤ 2 ^ 26 := by decide +kernel

theorem siqs_fb_size : ∀ sz, sz ≤ 520 → ∀ d m8 : Bool, Holds (siqs.fb_size sz d m8) fun v =>
    (0 < v ∧ v ≤ 2 ^ 26) ∧ (sz ≤ 390 → sz ≤ 360 ∨ d = true → v ≤ 500000) ∧
    Holds (siqs.nfactors sz) fun k => k + 2 ≤ 8 * ((v + 7) / 8) := by decide +kernel

theorem siqs_nfactors : ∀ sz, sz ≤ 520 → Holds (siqs.nfactors sz) fun k =>
    (1 ≤ k ∧ k - 1 < 31) ∧ SELECT_PER_NFAC * k ≤ SELECT_A_MASK_BITS ∧
    (sz ≤ 424 → SELECT_PER_NFAC * k ≤ 64) ∧ (425 ≤ sz → 64 < SELECT_PER_NFAC * k) := by decide +kernel

theorem siqs_interval_size : ∀ sz, sz ≤ 520 → ∀ d : Bool, Holds (siqs.interval_size sz d) fun m =>
    (0 < m ∧ m % BLOCK_SIZE = 0 ∧ m < 2 ^ 32 ∧ 1 ≤ m / 2) ∧ (sz ≤ SIQS_MAX_BITS → SiqsPolyFits sz m) ∧
    (468 ≤ sz → 255 ≤ (sz + 2) / 2 - bitlen (m / 2) - 1 + 2 * bitlen m) := by decide +kernel

theorem cl_a_params : ∀ sz, sz ≤ 520 → Holds (classgroup.a_params sz) fun r =>
    (1 ≤ r.1 ∧ (r.2 ≤ 1 ∨ r.2 - 1 < 31)) ∧ SELECT_PER_NFAC * r.2 ≤ SELECT_A_MASK_BITS := by
  decide +kernel

end Ymq.C20.Dec
