/-
`Curve::addext` (the dedicated addition in extended coordinates, ecm.rs) agrees projectively with
the unified `Curve::add`. For every `a` the dedicated law is
`((x₁y₁ + x₂y₂)/(y₁y₂ + a x₁x₂), (x₁y₁ - x₂y₂)/(x₁y₂ - y₁x₂))`; the `a = -1` branch of the code
computes every intermediate value doubled (`k = 2`).
-/
import Ymq.Lemmas.CurveDefs

namespace Ymq.Curve
open Ymq.Gen.Curves
variable {R : Type} [CommRing R]

/-- `(e f : g h : f g)` is the dedicated sum, `(A F E : A G N : F G)` the unified one. -/
theorem addext_add_gen (a d k X1 Y1 Z1 T1 X2 Y2 Z2 T2 e f g h A F G E N : R)
    (h1 : a * (X1 * X1) + Y1 * Y1 = Z1 * Z1 + d * (T1 * T1)) (q1 : T1 * Z1 = X1 * Y1)
    (h2 : a * (X2 * X2) + Y2 * Y2 = Z2 * Z2 + d * (T2 * T2)) (q2 : T2 * Z2 = X2 * Y2)
    (he : e = k * (T1 * Z2 + Z1 * T2)) (hf : f = k * (X1 * Y2 - Y1 * X2))
    (hg : g = k * (Y1 * Y2 + a * (X1 * X2))) (hh : h = k * (T1 * Z2 - Z1 * T2))
    (hA : A = Z1 * Z2) (hF : F = A * A - d * (X1 * X2 * (Y1 * Y2)))
    (hG : G = A * A + d * (X1 * X2 * (Y1 * Y2))) (hE : E = X1 * Y2 + Y1 * X2)
    (hN : N = Y1 * Y2 - a * (X1 * X2)) :
    e * f * (A * G * N) = g * h * (A * F * E) ∧ g * h * (F * G) = f * g * (A * G * N) ∧
      f * g * (A * F * E) = e * f * (F * G) := by
  -- the two affine coordinates agree; the three cross products are multiples of these
  have hx : g * (A * E) = e * G := by
    subst he hg hA hG hE
    linear_combination (k * (X2 * Y2 * (Z1 * Z2))) * h1 + (k * Z2 * (d * T1 * (X2 * Y2) - Z1 * (Z2 * Z2))) * q1
      + (k * (X1 * Y1 * (Z1 * Z2))) * h2 + (k * Z1 * (d * T2 * (X1 * Y1) - Z1 * Z1 * Z2)) * q2
  have hy : h * F = f * (A * N) := by
    subst hh hf hA hF hN
    linear_combination (k * (X2 * Y2 * (Z1 * Z2))) * h1 + (k * Z2 * (d * T1 * (X2 * Y2) + Z1 * (Z2 * Z2))) * q1
      - (k * (X1 * Y1 * (Z1 * Z2))) * h2 - (k * Z1 * (d * T2 * (X1 * Y1) + Z1 * Z1 * Z2)) * q2
  refine ⟨?_, ?_, ?_⟩
  · linear_combination (-(f * (A * N))) * hx - (g * (A * E)) * hy
  · linear_combination (g * G) * hy
  · linear_combination (f * F) * hx

end Ymq.Curve
