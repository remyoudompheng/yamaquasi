/-
Lemmas tying the Kronecker model (Ymq/Model/Kronecker.lean) to the finite-sum lemmas: the
packing loop computes the base-`B` value, digits of the exact product word are the digit sums,
the scatter loop adds up the reduced digits per output index, and both arms of
`_convolve_modn` return the cyclic convolution (times `R⁻¹`, Montgomery domain).
-/
import Ymq.Model.Kronecker
import Ymq.Lemmas.KroneckerSum
import Ymq.Lemmas.KroneckerDispatch
import Ymq.Lemmas.Loops

namespace Ymq.Kronecker
open Finset Ymq.PolySpec

theorem sumTo_eq (m : Nat) (f : Nat → Nat) : sumTo m f = ∑ i ∈ range m, f i := by
  induction m with
  | zero => simp [sumTo]
  | succ m ih => rw [sumTo, ih, sum_range_succ]

theorem cycCoef_eq (size : Nat) (f g : Nat → Nat) (k : Nat) :
    cycCoef size f g k = cycSum size f g k := by
  unfold cycCoef cycSum; rw [sumTo_eq]

theorem coef_ofFn {m : Nat} (h : Fin m → Nat) (i : Nat) (hi : i < m) :
    coef (Array.ofFn h) i = h ⟨i, hi⟩ := by
  unfold coef
  simp [Array.getD, hi]

theorem coef_ofFn_ge {m : Nat} (h : Fin m → Nat) (i : Nat) (hi : m ≤ i) :
    coef (Array.ofFn h) i = 0 := by
  unfold coef
  simp [Array.getD, Nat.not_lt.2 hi]

theorem coef_ge (p : Array Nat) (i : Nat) (hi : p.size ≤ i) : coef p i = 0 := by
  unfold coef
  simp [Array.getD, Nat.not_lt.2 hi]

theorem writeAt_lt (w off c : Nat) (h : w < W ^ off) : writeAt w off c = w + c * W ^ off := by
  unfold writeAt
  have h2 : w < W ^ (off + 8) := lt_of_lt_of_le h (Nat.pow_le_pow_right (by decide) (by omega))
  rw [Nat.mod_eq_of_lt h, Nat.div_eq_of_lt h2]
  simp

/-- the packing loop for one FFT word computes `Σ_j p[a·A + j]·B^j`, `B = W^stride`, when every
coefficient is `< B` (later `copy_from_slice`s then only overwrite zero words) -/
theorem packWord_eq (stride A : Nat) (p : Array Nat) (a : Nat) (hp : ∀ u, coef p u < W ^ stride) :
    packWord stride A p a = packVal A (W ^ stride) (coef p) a := by
  unfold packWord packVal
  suffices h : ∀ m, (List.range m).foldl
      (fun w j => if a * A + j < p.size then writeAt w (stride * j) (coef p (a * A + j)) else w) 0 =
      ∑ j ∈ range m, coef p (a * A + j) * (W ^ stride) ^ j ∧
      ∑ j ∈ range m, coef p (a * A + j) * (W ^ stride) ^ j < (W ^ stride) ^ m from (h A).1
  intro m
  induction m with
  | zero => simp
  | succ m ih =>
    obtain ⟨e, hlt⟩ := ih
    have hlt' := (digits_of_sum (W ^ stride) (m + 1) (fun j => coef p (a * A + j))
      (fun j _ => hp _)).1
    refine ⟨?_, hlt'⟩
    rw [List.range_succ, List.foldl_append, e, sum_range_succ]
    simp only [List.foldl_cons, List.foldl_nil]
    have hpow : W ^ (stride * m) = (W ^ stride) ^ m := by rw [pow_mul]
    split_ifs with hsz
    · rw [writeAt_lt _ _ _ (by rw [hpow]; exact hlt), hpow]
    · rw [coef_ge p _ (by omega)]; simp

theorem pack_eq (N L A stride : Nat) (p : Array Nat) (h1 : p.size ≤ L * A)
    (h2 : stride * (A - 1) + 8 ≤ N) (hp : ∀ u, coef p u < W ^ stride) :
    ∃ vp, pack N L A stride p = some vp ∧ vp.size = L ∧
      ∀ a < L, coef vp a = packVal A (W ^ stride) (coef p) a := by
  unfold pack
  have c1 : ¬ p.size > L * A := by omega
  have c2 : ¬ (p.size ≠ 0 ∧ stride * (min A p.size - 1) + 8 > N) := by
    rintro ⟨_, h⟩
    have : stride * (min A p.size - 1) ≤ stride * (A - 1) := Nat.mul_le_mul_left _ (by omega)
    omega
  rw [if_neg c1, if_neg c2]
  refine ⟨_, rfl, by simp, ?_⟩
  intro a ha
  rw [coef_ofFn _ a ha]
  exact packWord_eq stride A p a hp

theorem digit_eq (N stride w j : Nat) (h1 : stride * (j + 1) ≤ N) (hw : w < W ^ N) :
    digit N stride w j = some (w / (W ^ stride) ^ j % W ^ stride) := by
  unfold digit
  rw [if_neg (by omega), Nat.mod_eq_of_lt hw, pow_mul]

theorem redcLarge_eq (n k rinv len x : Nat) (h1 : len < 24) (h2 : k ≤ len) (h3 : len ≤ k + 16)
    (h4 : x < n * W ^ k * W ^ k) : redcLarge n k rinv len x = some (x * rinv % n) := by
  unfold redcLarge
  rw [if_neg (by omega)]


theorem coef_set (res : Array Nat) (m x t : Nat) (hm : m < res.size) :
    coef (res.setIfInBounds m x) t = if t = m then x else coef res t := by
  unfold coef
  rw [Array.getD_eq_getD_getElem?, Array.getD_eq_getD_getElem?, Array.getElem?_setIfInBounds]
  by_cases h : m = t
  · subst h; simp [hm]
  · rw [if_neg h, if_neg (Ne.symm h)]

/-- the output index of step `(i, j)` -/
def outIdx (wrap : Bool) (size A : Nat) (ij : Nat × Nat) : Nat :=
  if wrap then (ij.1 * A + ij.2) % size else ij.1 * A + ij.2

/-- sum of the values scattered to index `k` -/
def hits (steps : List (Nat × Nat)) (wrap : Bool) (size A : Nat) (v : Nat × Nat → Nat) (k : Nat) : Nat :=
  (steps.map fun ij => if outIdx wrap size A ij = k then v ij else 0).sum

theorem hits_snoc (pre : List (Nat × Nat)) (ij : Nat × Nat) (wrap : Bool) (size A : Nat) (v : Nat × Nat → Nat)
    (k : Nat) : hits (pre ++ [ij]) wrap size A v k =
      hits pre wrap size A v k + if outIdx wrap size A ij = k then v ij else 0 := by
  simp [hits]

theorem scatter_fold (wrap : Bool) (n k rinv N size A stride offset : Nat) (vpq : Array Nat)
    (hn : 0 < n) (v : Nat × Nat → Nat) (steps : List (Nat × Nat))
    (hv : ∀ ij ∈ steps, ∃ d, digit N stride (coef vpq ij.1) ij.2 = some d ∧
      redcLarge n k rinv stride d = some (v ij))
    (res : Array Nat) (hres : ∀ t, coef res t < n) :
    ∃ res', steps.foldlM (scatterStep wrap n k rinv N size A stride offset vpq) res = some res' ∧
      res'.size = res.size ∧ (∀ t, coef res' t < n) ∧
      ∀ t < res.size, coef res' t = (coef res t + hits steps wrap size A v (offset + t)) % n := by
  obtain ⟨res', e, h1, h2, h3⟩ := Ymq.Loops.foldlM_total (scatterStep wrap n k rinv N size A stride offset vpq)
    (fun pre s => s.size = res.size ∧ (∀ t, coef s t < n) ∧
      ∀ t < res.size, coef s t = (coef res t + hits pre wrap size A v (offset + t)) % n) steps
    (fun pre ij post s hl ⟨hs, hlt, hval⟩ => by
      obtain ⟨d, hd, hr⟩ := hv ij (hl ▸ List.mem_append_cons_self)
      have hidx : (if wrap = true then (ij.1 * A + ij.2) % size else ij.1 * A + ij.2) =
          outIdx wrap size A ij := rfl
      by_cases hwin : offset ≤ outIdx wrap size A ij ∧ outIdx wrap size A ij < offset + s.size
      · -- the step adds `v ij` at index `m`
        set m := outIdx wrap size A ij - offset with hm
        have hmlt : m < s.size := by omega
        refine ⟨s.setIfInBounds m ((coef s m + v ij) % n), ?_, by rw [Array.size_setIfInBounds, hs], fun t => ?_,
          fun t ht => ?_⟩
        · unfold scatterStep
          simp only [hidx]
          rw [if_pos hwin, hd]
          simp only [hr]
          rfl
        · rw [coef_set _ _ _ _ hmlt]
          split_ifs
          · exact Nat.mod_lt _ hn
          · exact hlt t
        · rw [coef_set _ _ _ _ hmlt, hits_snoc]
          by_cases htm : t = m
          · rw [if_pos htm, if_pos (by omega), ← htm, hval t ht, Nat.add_mod, Nat.mod_mod, ← Nat.add_mod,
              Nat.add_assoc]
          · rw [if_neg htm, if_neg (by omega), Nat.add_zero, hval t ht]
      · refine ⟨s, ?_, hs, hlt, fun t ht => ?_⟩
        · unfold scatterStep
          simp only [hidx]
          rw [if_neg hwin]
        · rw [hits_snoc, if_neg (by omega), Nat.add_zero, hval t ht])
    (s := res) ⟨rfl, hres, fun t _ => by simp [hits, Nat.mod_eq_of_lt (hres t)]⟩
  exact ⟨res', e, h1, h2, h3⟩


theorem list_range_sum (m : Nat) (h : Nat → Nat) :
    ((List.range m).map h).sum = ∑ i ∈ range m, h i := by
  induction m with
  | zero => simp
  | succ m ih => rw [List.range_succ, List.map_append, List.sum_append, ih, sum_range_succ]; simp

theorem flatMap_sum {α β : Type} (l : List α) (f : α → List β) (h : β → Nat) :
    ((l.flatMap f).map h).sum = (l.map fun i => ((f i).map h).sum).sum := by
  induction l with
  | nil => simp
  | cons a l ih => simp [List.flatMap_cons, List.map_append, List.sum_append, ih]

theorem pairs_sum (L J : Nat) (h : Nat × Nat → Nat) :
    ((pairs L J).map h).sum = ∑ i ∈ range L, ∑ j ∈ range J, h (i, j) := by
  unfold pairs
  rw [flatMap_sum, list_range_sum]
  apply Finset.sum_congr rfl
  intro i _
  rw [List.map_map, list_range_sum]
  rfl

theorem hits_pairs (L J : Nat) (wrap : Bool) (size A : Nat) (v : Nat × Nat → Nat) (k : Nat) :
    hits (pairs L J) wrap size A v k =
      ∑ i ∈ range L, ∑ j ∈ range J, if outIdx wrap size A (i, j) = k then v (i, j) else 0 := by
  unfold hits
  rw [pairs_sum]

theorem mem_pairs (L J : Nat) (ij : Nat × Nat) (h : ij ∈ pairs L J) : ij.1 < L ∧ ij.2 < J := by
  unfold pairs at h
  simp only [List.mem_flatMap, List.mem_range, List.mem_map] at h
  obtain ⟨i, hi, j, hj, rfl⟩ := h
  exact ⟨hi, hj⟩


/-- what the model needs of `mulfft`: the exact cyclic product modulo `F` of word vectors below
`2^(64N)` (proved for the word-level model of `mulfft`: `cycFft_exact`) -/
def ExactCyc (N : Nat) (cyc : Array Nat → Array Nat → Option (Array Nat)) : Prop :=
  ∀ x y : Array Nat, x.size = y.size → 0 < x.size → x.size ≤ 256 * N → (∃ m, x.size = 2 ^ m) →
    (∀ i, coef x i < W ^ N) → (∀ i, coef y i < W ^ N) →
    ∃ z, cyc x y = some z ∧ z.size = x.size ∧
      ∀ i < x.size, coef z i = cycCoef x.size (coef x) (coef y) i % (W ^ N + 1)

theorem sum_mul_mod (s : Finset Nat) (c : Nat → Prop) [DecidablePred c] (D : Nat → Nat) (r n : Nat) :
    (∑ x ∈ s, if c x then D x * r % n else 0) % n = (∑ x ∈ s, if c x then D x else 0) * r % n := by
  rw [Finset.sum_mul, Finset.sum_nat_mod, Finset.sum_nat_mod (f := fun x => (if c x then D x else 0) * r)]
  congr 1
  apply Finset.sum_congr rfl
  intro x _
  split_ifs <;> simp

theorem sum2_mul_mod (L J : Nat) (c : Nat → Nat → Prop) [∀ i, DecidablePred (c i)] (D : Nat → Nat → Nat)
    (r n : Nat) :
    (∑ i ∈ range L, ∑ j ∈ range J, if c i j then D i j * r % n else 0) % n =
      (∑ i ∈ range L, ∑ j ∈ range J, if c i j then D i j else 0) * r % n := by
  rw [Finset.sum_mul, Finset.sum_nat_mod,
    Finset.sum_nat_mod (f := fun i => (∑ j ∈ range J, if c i j then D i j else 0) * r)]
  congr 1
  apply Finset.sum_congr rfl
  intro i _
  exact sum_mul_mod (range J) (c i) (D i) r n

theorem sq_pred_lt {n size : Nat} (hn : 0 < n) (hsz : 0 < size) : size * ((n - 1) * (n - 1)) < size * (n * n) :=
  Nat.mul_lt_mul_of_pos_left
    (calc (n - 1) * (n - 1) ≤ (n - 1) * n := Nat.mul_le_mul_left _ (by omega)
      _ < n * n := Nat.mul_lt_mul_of_pos_right (by omega) hn) hsz

/-- a sum of at most `size` products of residues is admissible for `redc_large` -/
theorem lt_redc_bound {n size k S : Nat} (hn : 0 < n) (hsz : 0 < size) (hS : S ≤ size * ((n - 1) * (n - 1)))
    (hsmall : size * n ≤ W ^ k * W ^ k) : S < n * W ^ k * W ^ k :=
  calc S < size * (n * n) := lt_of_le_of_lt hS (sq_pred_lt hn hsz)
    _ = n * (size * n) := by ring
    _ ≤ n * (W ^ k * W ^ k) := Nat.mul_le_mul_left _ hsmall
    _ = n * W ^ k * W ^ k := by ring

/-- **the digits of the packed product are exact**: for coefficients below `n` with `L·A·n² ≤ B = W^stride` and
`(2A - 1)·stride ≤ N`, the product word `i` does not wrap modulo `F` and its slice `j` is the digit sum -/
theorem digits_exact (N L A stride n : Nat) (f g : Nat → Nat) (hf : ∀ u, f u < n) (hg : ∀ u, g u < n)
    (hsz : 0 < L * A) (hdig : L * A * (n * n) ≤ W ^ stride) (hfit : (2 * A - 1) * stride ≤ N) (i : Nat) :
    (∀ j, digitSum A L f g i j ≤ L * A * ((n - 1) * (n - 1))) ∧ wordProd A (W ^ stride) L f g i < W ^ N ∧
      ∀ j < 2 * A - 1, digit N stride (wordProd A (W ^ stride) L f g i) j = some (digitSum A L f g i j) := by
  have hn : 0 < n := by have := hf 0; omega
  have hle : ∀ j, digitSum A L f g i j ≤ L * A * ((n - 1) * (n - 1)) :=
    digitSum_le A L _ f g (fun u v => Nat.mul_le_mul (by have := hf u; omega) (by have := hg v; omega)) i
  have hdigits := digits_of_sum (W ^ stride) (2 * A - 1) (fun j => digitSum A L f g i j)
    (fun j _ => lt_of_le_of_lt (hle j) (lt_of_lt_of_le (sq_pred_lt hn hsz) hdig))
  rw [← wordProd_eq_digits] at hdigits
  have hlt : wordProd A (W ^ stride) L f g i < W ^ N :=
    lt_of_lt_of_le hdigits.1 (by rw [← pow_mul, Nat.mul_comm]; exact Nat.pow_le_pow_right (by decide) hfit)
  refine ⟨hle, hlt, fun j hj => ?_⟩
  rw [digit_eq N stride _ _ ?_ hlt, hdigits.2 j hj]
  calc stride * (j + 1) ≤ stride * (2 * A - 1) := Nat.mul_le_mul_left _ (by omega)
    _ = (2 * A - 1) * stride := Nat.mul_comm _ _
    _ ≤ N := hfit

/-- the packed arm of `_convolve_modn` (`wrap = true`: output index `(i·A + j) % size`) over an exact cyclic product -/
theorem convolveModn_packed (cyc : Array Nat → Array Nat → Option (Array Nat))
    (n k rinv N size logpack stride : Nat) (p q : Array Nat) (reslen offset : Nat)
    (hn : 0 < n) (hp : ∀ u, coef p u < n) (hq : ∀ u, coef q u < n)
    (hps : 0 < p.size) (hps2 : p.size ≤ size) (hqs : q.size ≤ size)
    (hst : stride ≠ 0) (hL : 0 < size / 2 ^ logpack) (hsize : size = size / 2 ^ logpack * 2 ^ logpack)
    (hLp : ∃ m, size / 2 ^ logpack = 2 ^ m) (hroots : size / 2 ^ logpack ≤ 256 * N)
    (hdig : size * (n * n) ≤ W ^ stride) (hfit : (2 * 2 ^ logpack - 1) * stride ≤ N)
    (hcopy : stride * (2 ^ logpack - 1) + 8 ≤ N)
    (hs1 : stride < 24) (hs2 : k ≤ stride) (hs3 : stride ≤ k + 16)
    (hsmall : size * n ≤ W ^ k * W ^ k) (hcyc : ExactCyc N cyc) :
    ∃ res, convolveModn true cyc n k rinv N size logpack stride p q reslen offset = some res ∧
      res.size = reslen ∧
      ∀ t < reslen, offset + t < size →
        coef res t = cycCoef size (coef p) (coef q) (offset + t) * rinv % n := by
  set A := 2 ^ logpack with hA
  set L := size / A with hLdef
  have hApos : 0 < A := Nat.pow_pos (by decide)
  have hsz : 0 < L * A := Nat.mul_pos hL hApos
  have hnB : n ≤ W ^ stride := by
    have : 1 * (n * n) ≤ size * (n * n) := Nat.mul_le_mul_right _ (by rw [hsize]; exact hsz)
    have : n ≤ n * n := Nat.le_mul_self n
    omega
  have hBA : (W ^ stride) ^ A ≤ W ^ N := by
    rw [← pow_mul]
    exact Nat.pow_le_pow_right (by decide) (le_trans (by rw [Nat.mul_comm]; exact Nat.mul_le_mul_right _ (by omega)) hfit)
  -- a packed operand: `L` words below `2^(64N)`
  have hpack : ∀ r : Array Nat, (∀ u, coef r u < n) → r.size ≤ size → ∃ vr, pack N L A stride r = some vr ∧
      vr.size = L ∧ (∀ a < L, coef vr a = packVal A (W ^ stride) (coef r) a) ∧ ∀ i, coef vr i < W ^ N := by
    intro r hr hrs
    have hrB : ∀ u, coef r u < W ^ stride := fun u => lt_of_lt_of_le (hr u) hnB
    obtain ⟨vr, e, hs, hc⟩ := pack_eq N L A stride r (by rw [← hsize]; exact hrs) hcopy hrB
    refine ⟨vr, e, hs, hc, fun i => ?_⟩
    by_cases hi : i < L
    · rw [hc i hi]
      exact lt_of_lt_of_le (digits_of_sum (W ^ stride) A (fun j => coef r (i * A + j)) (fun j _ => hrB _)).1 hBA
    · rw [coef_ge _ _ (by omega)]; exact Nat.pow_pos (by decide)
  obtain ⟨vp, hvp, hvps, hvpc, hvpb⟩ := hpack p hp hps2
  obtain ⟨vq, hvq, hvqs, hvqc, hvqb⟩ := hpack q hq hqs
  obtain ⟨z, hz, hzs, hzc⟩ := hcyc vp vq (by rw [hvps, hvqs]) (by rw [hvps]; exact hL)
    (by rw [hvps]; exact hroots) (by rw [hvps]; exact hLp) hvpb hvqb
  rw [hvps] at hzs hzc
  unfold convolveModn
  rw [if_neg (by omega), if_neg hst]
  simp only [← hA, ← hLdef, hvp, hvq, hz, hzs]
  set f := coef p with hf
  set g := coef q with hg
  have hex := digits_exact N L A stride n f g hp hq hsz (by rw [← hsize]; exact hdig) hfit
  set v : Nat × Nat → Nat := fun ij => digitSum A L f g ij.1 ij.2 * rinv % n with hv
  have hsteps : ∀ ij ∈ pairs L (2 * A - 1), ∃ d, digit N stride (coef z ij.1) ij.2 = some d ∧
      redcLarge n k rinv stride d = some (v ij) := by
    intro ij hij
    obtain ⟨hi, hj⟩ := mem_pairs _ _ _ hij
    obtain ⟨hle, hlt, hd⟩ := hex ij.1
    have hw : cycSum L (coef vp) (coef vq) ij.1 = wordProd A (W ^ stride) L f g ij.1 :=
      Finset.sum_congr rfl fun a ha => by rw [hvpc a (by simpa using ha), hvqc _ (Nat.mod_lt _ hL)]
    rw [hzc _ hi, cycCoef_eq, hw, Nat.mod_eq_of_lt (by omega)]
    exact ⟨_, hd _ hj, redcLarge_eq n k rinv stride _ hs1 hs2 hs3
      (lt_redc_bound hn hsz (hle _) (by rw [← hsize]; exact hsmall))⟩
  have h0 : ∀ t, coef (Array.replicate reslen 0) t = 0 := by
    intro t
    unfold coef
    rw [Array.getD_eq_getD_getElem?]
    by_cases h : t < reslen <;> simp [h]
  obtain ⟨res, h1, h2, _, h4⟩ := scatter_fold true n k rinv N size A stride offset z hn v
    (pairs L (2 * A - 1)) hsteps (Array.replicate reslen 0) (fun t => by rw [h0]; exact hn)
  refine ⟨res, h1, by simpa using h2, ?_⟩
  intro t ht hts
  rw [h4 t (by simpa using ht), h0, Nat.zero_add, hits_pairs]
  have hidx : ∀ i j, outIdx true size A (i, j) = (i * A + j) % (L * A) := by
    intro i j
    unfold outIdx
    simp only [if_true]
    rw [← hsize]
  simp only [hidx, hv]
  rw [sum2_mul_mod L (2 * A - 1) (fun i j => (i * A + j) % (L * A) = offset + t)
    (fun i j => digitSum A L f g i j) rinv n]
  rw [scatter_sum A L f g (offset + t) (by rw [← hsize]; exact hts), ← hsize, cycCoef_eq]


theorem coef_push (res : Array Nat) (x t : Nat) :
    coef (res.push x) t = if t = res.size then x else coef res t := by
  unfold coef
  rw [Array.getD_eq_getD_getElem?, Array.getD_eq_getD_getElem?, Array.getElem?_push]
  split_ifs <;> rfl

theorem foldlM_push (m : Nat) (h : Nat → Option Nat) (r : Nat → Nat) (hh : ∀ i < m, h i = some (r i)) :
    ∃ res, (List.range m).foldlM (fun (res : Array Nat) i =>
        match h i with
        | none => none
        | some x => some (res.push x)) #[] = some res ∧ res.size = m ∧ ∀ t < m, coef res t = r t := by
  induction m with
  | zero => exact ⟨#[], rfl, rfl, fun t ht => by omega⟩
  | succ m ih =>
    obtain ⟨res, h1, h2, h3⟩ := ih (fun i hi => hh i (by omega))
    refine ⟨res.push (r m), ?_, by simp [h2], ?_⟩
    · rw [List.range_succ, List.foldlM_append, h1]
      simp [hh m (by omega)]
    · intro t ht
      rw [coef_push, h2]
      split_ifs with htm
      · rw [htm]
      · exact h3 t (by omega)

theorem coef_resize (p : Array Nat) (size u : Nat) (hu : u < size) : coef (resize p size) u = coef p u := by
  unfold resize
  rw [coef_ofFn _ u hu]

/-- the unpacked arm of `_convolve_modn` (`stride = 0`) over an exact cyclic product -/
theorem convolveModn_unpacked (cyc : Array Nat → Array Nat → Option (Array Nat))
    (n k rinv N size logpack : Nat) (p q : Array Nat) (reslen offset : Nat)
    (hn : 0 < n) (hp : ∀ u, coef p u < n) (hq : ∀ u, coef q u < n)
    (hps : 0 < p.size) (hps2 : p.size ≤ size) (hqs : q.size ≤ size)
    (hN : 16 ≤ N) (hsz : 0 < size) (hLp : ∃ m, size = 2 ^ m) (hroots : size ≤ 256 * N)
    (hdig : size * (n * n) ≤ W ^ 16) (hs2 : k ≤ 16)
    (hsmall : size * n ≤ W ^ k * W ^ k) (hwin : offset + reslen ≤ size) (hcyc : ExactCyc N cyc) :
    ∃ res, convolveModn true cyc n k rinv N size logpack 0 p q reslen offset = some res ∧
      res.size = reslen ∧
      ∀ t < reslen, coef res t = cycCoef size (coef p) (coef q) (offset + t) * rinv % n := by
  have hnW : n ≤ W ^ N := by
    have h1 : 1 * (n * n) ≤ size * (n * n) := Nat.mul_le_mul_right _ hsz
    have h2 : n ≤ n * n := Nat.le_mul_self n
    have h3 : W ^ 16 ≤ W ^ N := Nat.pow_le_pow_right (by decide) hN
    omega
  have hbound : ∀ (r : Array Nat), (∀ u, coef r u < n) → ∀ i, coef (resize r size) i < W ^ N := by
    intro r hr i
    by_cases hi : i < size
    · rw [coef_resize r size i hi]; exact lt_of_lt_of_le (hr i) hnW
    · rw [coef_ge _ _ (by simp [resize]; omega)]; exact Nat.pow_pos (by decide)
  obtain ⟨z, hz, hzs, hzc⟩ := hcyc (resize p size) (resize q size) (by simp [resize]) (by simpa [resize] using hsz)
    (by simpa [resize] using hroots) (by simpa [resize] using hLp) (hbound p hp) (hbound q hq)
  have hrs : (resize p size).size = size := by simp [resize]
  rw [hrs] at hzs hzc
  unfold convolveModn
  rw [if_neg (by omega)]
  simp only [if_true]
  rw [if_neg (by omega), if_neg (by omega), hz]
  simp only
  by_cases hr0 : reslen = 0
  · rw [if_pos hr0]
    exact ⟨#[], rfl, by simp [hr0], fun t ht => by omega⟩
  · rw [if_neg hr0, if_neg (by omega), if_neg (by omega)]
    set f := coef p with hf
    set g := coef q with hg
    have hfg : ∀ u v, f u * g v ≤ (n - 1) * (n - 1) := fun u v =>
      Nat.mul_le_mul (by have := hp u; omega) (by have := hq v; omega)
    have hval : ∀ i < size, coef z i = cycSum size f g i ∧ cycSum size f g i < W ^ 16 ∧
        cycSum size f g i < n * W ^ k * W ^ k := by
      intro i hi
      have hle := cycSum_le size ((n - 1) * (n - 1)) f g hfg i
      have h16 : cycSum size f g i < W ^ 16 := lt_of_le_of_lt hle (lt_of_lt_of_le (sq_pred_lt hn hsz) hdig)
      have hWN : W ^ 16 ≤ W ^ N := Nat.pow_le_pow_right (by decide) hN
      refine ⟨?_, h16, lt_redc_bound hn hsz hle hsmall⟩
      rw [hzc i hi, cycCoef_eq]
      have : cycSum size (coef (resize p size)) (coef (resize q size)) i = cycSum size f g i := by
        unfold cycSum
        apply Finset.sum_congr rfl
        intro u hu
        rw [coef_resize p size u (by simpa using hu), coef_resize q size _ (Nat.mod_lt _ hsz)]
      rw [this, Nat.mod_eq_of_lt (by omega)]
    obtain ⟨res, h1, h2, h3⟩ := foldlM_push reslen
      (fun i => redcLarge n k rinv 16 (coef z (offset + i) % W ^ N % W ^ 16))
      (fun i => cycSum size f g (offset + i) * rinv % n) (by
        intro i hi
        obtain ⟨e1, e2, e3⟩ := hval (offset + i) (by omega)
        have hWN : W ^ 16 ≤ W ^ N := Nat.pow_le_pow_right (by decide) hN
        rw [e1, Nat.mod_eq_of_lt (lt_of_lt_of_le e2 hWN), Nat.mod_eq_of_lt e2]
        exact redcLarge_eq n k rinv 16 _ (by decide) hs2 (by omega) e3)
    refine ⟨res, h1, h2, ?_⟩
    intro t ht
    rw [h3 t ht, cycCoef_eq]

end Ymq.Kronecker
