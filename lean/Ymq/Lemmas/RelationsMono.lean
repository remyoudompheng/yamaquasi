/-
Structural monotonicity of the relation store (C11): `partial` only gains keys, `doubles` only
loses entries, and a double that disappears leaves both its primes as keys of `partial`.
Used by `doubles_disjoint` and by `add_no_panic` (fuel and `assert!(ok)`).
-/
import Ymq.Lemmas.RelationsStore

namespace Ymq.Relations

def pkey (s : Store) (k : Nat) : Prop := ∃ b, (k, b) ∈ s.partials

def dkey (s : Store) (k : Nat × Nat) : Prop := ∃ b, (k, b) ∈ s.doubles

theorem pkey_of_lookup {s : Store} {k : Nat} {b : List Nat} (h : alookup k s.partials = some b) :
    pkey s k := ⟨b, alookup_mem h⟩

theorem not_pkey_of_lookup {s : Store} {k : Nat} (h : alookup k s.partials = none) : ¬ pkey s k := by
  rintro ⟨b, hb⟩; exact alookup_none h b hb

theorem alookup_isSome_of_mem {κ β : Type} [DecidableEq κ] {k : κ} :
    ∀ {l : List (κ × β)} {v : β}, (k, v) ∈ l → ∃ v', alookup k l = some v' := by
  intro l
  induction l with
  | nil => intro v h; cases h
  | cons e t ih =>
    obtain ⟨k', v'⟩ := e
    intro v h
    unfold alookup
    split
    · exact ⟨v', rfl⟩
    · rename_i hk
      rcases List.mem_cons.mp h with h | h
      · simp only [Prod.mk.injEq] at h; exact absurd h.1.symm hk
      · exact ih h

theorem pkey_setPartial {s : Store} {p k : Nat} {b : List Nat} :
    pkey (s.setPartial p b) k ↔ k = p ∨ pkey s k := by
  unfold pkey Store.setPartial
  simp only [mem_ainsert]
  constructor
  · rintro ⟨b', h | ⟨h, _⟩⟩
    · simp only [Prod.mk.injEq] at h; exact Or.inl h.1
    · exact Or.inr ⟨b', h⟩
  · rintro (h | ⟨b', h⟩)
    · exact ⟨b, Or.inl (by rw [h])⟩
    · by_cases hk : k = p
      · exact ⟨b, Or.inl (by rw [hk])⟩
      · exact ⟨b', Or.inr ⟨h, hk⟩⟩

/-- what a walk does to the shape of the store: `partial` keeps its keys, `doubles` only loses
entries, and a double `(p, q)` that has gone has left both primes as keys of `partial`; a double
`(p, p)` is published as a cycle without touching `partial`, hence `k.1 ≠ k.2` in `removed` -/
structure Mono (s s' : Store) : Prop where
  pmono : ∀ k, pkey s k → pkey s' k
  dsub : ∀ e ∈ s'.doubles, e ∈ s.doubles
  dlen : s'.doubles.length ≤ s.doubles.length
  removed : ∀ k, dkey s k → ¬ dkey s' k → k.1 ≠ k.2 → pkey s' k.1 ∧ pkey s' k.2

theorem Mono.refl (s : Store) : Mono s s :=
  ⟨fun _ h => h, fun _ h => h, Nat.le_refl _, fun _ h1 h2 _ => absurd h1 h2⟩

theorem Mono.trans {s s1 s2 : Store} (h1 : Mono s s1) (h2 : Mono s1 s2) : Mono s s2 := by
  refine ⟨fun k h => h2.pmono k (h1.pmono k h), fun e h => h1.dsub e (h2.dsub e h),
    Nat.le_trans h2.dlen h1.dlen, ?_⟩
  intro k hk hnk hne
  by_cases hk1 : dkey s1 k
  · exact h2.removed k hk1 hnk hne
  · obtain ⟨a, b⟩ := h1.removed k hk hk1 hne
    exact ⟨h2.pmono _ a, h2.pmono _ b⟩

theorem mono_of_same_doubles {s s' : Store} (hp : ∀ k, pkey s k → pkey s' k)
    (hd : s'.doubles = s.doubles) : Mono s s' := by
  refine ⟨hp, by rw [hd]; exact fun _ h => h, by rw [hd], ?_⟩
  intro k hk hnk _
  exact absurd (by unfold dkey at *; rw [hd]; exact hk) hnk

theorem mono_setPartial (s : Store) (p : Nat) (b : List Nat) : Mono s (s.setPartial p b) :=
  mono_of_same_doubles (fun _ h => pkey_setPartial.mpr (Or.inr h)) rfl

theorem addCycle_mono {r : Relation} {s s' : Store} (h : addCycle r s = .ok s') :
    Mono s s' ∧ s'.partials = s.partials ∧ s'.doubles = s.doubles ∧ s'.doublesRev = s.doublesRev := by
  obtain ⟨_, _, hs⟩ := addCycle_ok h
  subst hs
  exact ⟨mono_of_same_doubles (fun _ h => h) rfl, rfl, rfl, rfl⟩

theorem single_mono {r : Relation} {s : Store} {res : Bool × Store}
    (h : combineSingle r s = .ok res) :
    Mono s res.2 ∧ (∀ k, pkey res.2 k ↔ pkey s k) ∧ res.2.doubles = s.doubles ∧
      res.2.doublesRev = s.doublesRev := by
  rcases combineSingle_ok h with ⟨_, rfl⟩ | ⟨blob, r0, rr, hl, _, _, rfl | ⟨s1, _, hs1, hres⟩⟩
  · exact ⟨Mono.refl s, fun _ => Iff.rfl, rfl, rfl⟩
  · exact ⟨Mono.refl s, fun _ => Iff.rfl, rfl, rfl⟩
  · obtain ⟨hm, hp, hd, hr⟩ := addCycle_mono hs1
    have hpk : ∀ k, pkey s1 k ↔ pkey s k := by intro k; unfold pkey; rw [hp]
    rcases hres with rfl | ⟨b, _, _, rfl⟩
    · exact ⟨hm, hpk, hd, hr⟩
    · refine ⟨hm.trans (mono_setPartial _ _ _), fun k => ?_, hd, hr⟩
      rw [pkey_setPartial, hpk]
      exact ⟨fun hk => hk.elim (fun e => e ▸ pkey_of_lookup hl) id, Or.inr⟩

theorem step_mono {r : Relation} {p q : Nat} {s : Store} {st : Bool × Option Nat × Store}
    (h : combineDoubleStep r p q s = .ok st) :
    Mono s st.2.2 ∧ (st.1 = true → p ≠ q → pkey st.2.2 p ∧ pkey st.2.2 q) := by
  rcases combineDoubleStep_ok h with ⟨hpq, s1, hs1, rfl⟩ |
    ⟨_, bp, bq, _, _, _, _, s1, hlp, hlq, _, _, _, _, hs1, hres⟩ |
    ⟨_, k, k', b, hk, _, ⟨bk, _, _, hlk, _⟩, rfl⟩ | ⟨_, _, _, rfl⟩
  · exact ⟨(addCycle_mono hs1).1, fun _ hne => absurd hpq hne⟩
  · obtain ⟨hm, _⟩ := addCycle_mono hs1
    have hpp : pkey s1 p := hm.pmono _ (pkey_of_lookup hlp)
    have hqq : pkey s1 q := hm.pmono _ (pkey_of_lookup hlq)
    rcases hres with rfl | ⟨_, k', b, _, _, rfl⟩
    · exact ⟨hm, fun _ _ => ⟨hpp, hqq⟩⟩
    · have hm2 := mono_setPartial s1 k' b
      exact ⟨hm.trans hm2, fun _ _ => ⟨hm2.pmono _ hpp, hm2.pmono _ hqq⟩⟩
  · have hk1 : pkey ({ s with nCombined12 := s.nCombined12 + 1 }.setPartial k' b) k :=
      pkey_setPartial.mpr (Or.inr (pkey_of_lookup hlk))
    have hk2 : pkey ({ s with nCombined12 := s.nCombined12 + 1 }.setPartial k' b) k' :=
      pkey_setPartial.mpr (Or.inl rfl)
    refine ⟨mono_of_same_doubles (fun _ hk => pkey_setPartial.mpr (Or.inr hk)) rfl, fun _ _ => ?_⟩
    rcases hk with ⟨rfl, rfl⟩ | ⟨rfl, rfl⟩
    · exact ⟨hk1, hk2⟩
    · exact ⟨hk2, hk1⟩
  · exact ⟨Mono.refl s, fun hf => by cases hf⟩

theorem aerase_length_lt {κ β : Type} [DecidableEq κ] {k : κ} {v : β} {l : List (κ × β)}
    (h : (k, v) ∈ l) : (aerase k l).length < l.length := by
  unfold aerase
  induction l with
  | nil => cases h
  | cons e t ih =>
    simp only [List.filter_cons]
    split
    · rename_i hk
      rcases List.mem_cons.mp h with h | h
      · subst h; simp at hk
      · simp only [List.length_cons]; exact Nat.succ_lt_succ (ih h)
    · simp only [List.length_cons]
      exact Nat.lt_succ_of_le (List.length_filter_le _ _)

theorem mono_erase (s : Store) (p q : Nat) :
    (∀ k, pkey (s.eraseDouble p q) k ↔ pkey s k) ∧ (∀ e ∈ (s.eraseDouble p q).doubles, e ∈ s.doubles) ∧
      (s.eraseDouble p q).doubles.length ≤ s.doubles.length ∧ ¬ dkey (s.eraseDouble p q) (p, q) ∧
      (∀ k, dkey s k → k ≠ (p, q) → dkey (s.eraseDouble p q) k) := by
  refine ⟨fun _ => Iff.rfl, fun e he => (mem_aerase.mp he).1, List.length_filter_le _ _, ?_, ?_⟩
  · rintro ⟨b, hb⟩
    exact (mem_aerase.mp hb).2 rfl
  · rintro k ⟨b, hb⟩ hne
    exact ⟨b, mem_aerase.mpr ⟨hb, hne⟩⟩

theorem removeStep_len {p q : Nat} {s : Store} {res : StepRes × Store}
    (h : removeStep p q s = .ok res) :
    res.2.doubles.length ≤ s.doubles.length ∧ res.2.doublesRev.length ≤ s.doublesRev.length ∧
      (dkey s (p, q) → res.2.doubles.length < s.doubles.length) := by
  rcases removeStep_ok h with ⟨hl, rfl⟩ | ⟨blob, r, st, hl, _, hst, _, rfl⟩
  · exact ⟨Nat.le_refl _, Nat.le_refl _, fun ⟨b, hb⟩ => absurd hb (alookup_none hl b)⟩
  · have h1 := aerase_length_lt (alookup_mem hl)
    rw [(combineDoubleStep_lists hst).1, (combineDoubleStep_lists hst).2]
    exact ⟨Nat.le_of_lt h1, List.length_filter_le _ _, fun _ => h1⟩

/-- a removal step is monotone and removes its key; the double it removes leaves both its primes
as keys of `partial` (this is `assert!(ok)`) -/
theorem removeStep_mono {p q : Nat} {s : Store} {res : StepRes × Store}
    (h : removeStep p q s = .ok res) :
    Mono s res.2 ∧ ¬ dkey res.2 (p, q) ∧ (dkey s (p, q) → res.2.doubles.length < s.doubles.length) ∧
      (¬ dkey s (p, q) → res = (.next none, s)) := by
  rcases removeStep_ok h with ⟨hl, rfl⟩ | ⟨blob, r, st, hl, _, hst, hok, rfl⟩
  · have hno : ¬ dkey s (p, q) := fun ⟨b, hb⟩ => alookup_none hl b hb
    exact ⟨Mono.refl s, hno, fun hd => absurd hd hno, fun _ => rfl⟩
  · obtain ⟨hpk, hsub, hlen, hnk, hkeep⟩ := mono_erase s p q
    obtain ⟨hm, hdone⟩ := step_mono hst
    have hnk' : ¬ dkey st.2.2 (p, q) := fun ⟨b, hb⟩ => hnk ⟨b, hm.dsub _ hb⟩
    refine ⟨⟨fun k hk => hm.pmono k ((hpk k).mpr hk), fun e he => hsub e (hm.dsub e he),
      Nat.le_trans hm.dlen hlen, ?_⟩, hnk', (removeStep_len h).2.2, fun hno => absurd ⟨blob, alookup_mem hl⟩ hno⟩
    · intro k hk hnk2 hne
      by_cases hkk : k = (p, q)
      · rw [hkk] at hne ⊢; exact hdone hok hne
      · exact hm.removed k (hkeep k hk hkk) hnk2 hne

theorem mono_stepRel : StepRel (fun _ => True) Mono :=
  ⟨fun s _ => Mono.refl s, Mono.trans, fun _ _ => trivial, fun _ h => (removeStep_mono h).1⟩

theorem walkStep_mono {walk : Nat → Store → M Store}
    (hwalk : ∀ root s s', walk root s = .ok s' → Mono s s')
    {p q : Nat} {s s' : Store} (h : walkStep walk p q s = .ok s') :
    Mono s s' ∧ ¬ dkey s' (p, q) ∧ (dkey s (p, q) → s'.doubles.length < s.doubles.length) ∧
      (¬ dkey s (p, q) → s' = s) := by
  rw [walkStep_eq_remove, bind_eq_ok] at h
  obtain ⟨res, hrs, h⟩ := h
  obtain ⟨hm, hn, hl, hs⟩ := removeStep_mono hrs
  have hm2 : Mono res.2 s' :=
    mono_stepRel.serve (fun _ h => hwalk _ _ _ h) (s := res.2) trivial (Mono.refl _) h
  refine ⟨hm.trans hm2, fun ⟨b, hb⟩ => hn ⟨b, hm2.dsub _ hb⟩,
    fun hd => lt_of_le_of_lt hm2.dlen (hl hd), fun hno => ?_⟩
  rw [hs hno] at h
  exact (pure_eq_ok.mp h).symm

theorem walkLoop1_mono {walk : Nat → Store → M Store}
    (hwalk : ∀ root s s', walk root s = .ok s' → Mono s s') :
    ∀ (l : List (Nat × Nat)) (s s' : Store), walkLoop1 walk l s = .ok s' →
      Mono s s' ∧ (∀ k ∈ l, ¬ dkey s' k) ∧
        ((∃ k ∈ l, dkey s k) → s'.doubles.length < s.doubles.length) := by
  intro l
  induction l with
  | nil =>
    intro s s' h
    simp only [walkLoop1, pure_eq_ok] at h
    rw [← h]
    exact ⟨Mono.refl s, (fun k hk => by cases hk), (fun ⟨k, hk, _⟩ => by cases hk)⟩
  | cons e t ih =>
    obtain ⟨p, q⟩ := e
    intro s s' h
    simp only [walkLoop1, bind_eq_ok] at h
    obtain ⟨s1, hs1, h⟩ := h
    obtain ⟨hm1, hn1, hl1, hsame⟩ := walkStep_mono hwalk hs1
    obtain ⟨hm2, hn2, hl2⟩ := ih s1 s' h
    refine ⟨hm1.trans hm2, ?_, ?_⟩
    · intro k hk
      rcases List.mem_cons.mp hk with hk | hk
      · rw [hk]; rintro ⟨b, hb⟩; exact hn1 ⟨b, hm2.dsub _ hb⟩
      · exact hn2 k hk
    · rintro ⟨k, hk, hd⟩
      by_cases hpq : dkey s (p, q)
      · exact lt_of_le_of_lt hm2.dlen (hl1 hpq)
      · -- this step found nothing to remove: `k` is a later key, still present
        rcases List.mem_cons.mp hk with hk | hk
        · rw [hk] at hd; exact absurd hd hpq
        · rw [hsame hpq] at hl2; exact hl2 ⟨k, hk, hd⟩

theorem mem_pqsOf {s : Store} {root : Nat} {k : Nat × Nat} :
    k ∈ pqsOf s root ↔ dkey s k ∧ k.1 = root := by
  unfold pqsOf dkey
  simp only [List.mem_map, List.mem_filter, decide_eq_true_eq]
  constructor
  · rintro ⟨e, ⟨he, hr⟩, rfl⟩
    exact ⟨⟨e.2, he⟩, hr⟩
  · rintro ⟨⟨b, hb⟩, hr⟩
    exact ⟨(k, b), ⟨hb, hr⟩, rfl⟩

theorem mem_qpsOf {s : Store} (hi : Inv s) {root : Nat} {k : Nat × Nat} :
    k ∈ qpsOf s root ↔ dkey s (k.2, k.1) ∧ k.1 = root := by
  unfold qpsOf dkey
  simp only [List.mem_filter, decide_eq_true_eq]
  rw [show k = (k.1, k.2) from rfl, hi.rev k.2 k.1]

theorem mem_keysOf {s : Store} (hi : Inv s) {root : Nat} {k : Nat × Nat} :
    k ∈ keysOf s root ↔ dkey s k ∧ (k.1 = root ∨ k.2 = root) := by
  have hq : k ∈ (qpsOf s root).map Prod.swap ↔ dkey s k ∧ k.2 = root := by
    rw [List.mem_map]
    constructor
    · rintro ⟨e, he, rfl⟩; exact (mem_qpsOf hi).mp he
    · intro h; exact ⟨k.swap, (mem_qpsOf hi).mpr h, rfl⟩
  unfold keysOf
  rw [List.mem_append, mem_pqsOf, hq, and_or_left]

/-- the keys of the trailing walks of `walk_doubles(root)` -/
theorem mem_recKeys {s : Store} {root : Nat} {e : Nat × Nat}
    (h : e ∈ pqsOf s root ++ qpsOf s root) :
    e.1 = root ∧ (e ∈ keysOf s root ∨ e.swap ∈ keysOf s root) := by
  rcases List.mem_append.mp h with h | h
  · exact ⟨(mem_pqsOf.mp h).2, Or.inl (List.mem_append_left _ h)⟩
  · exact ⟨by simpa [qpsOf] using (List.mem_filter.mp h).2,
      Or.inr (List.mem_append_right _ (List.mem_map_of_mem h))⟩

theorem head_mono {r : Relation} {pq : Option (Nat × Nat)} {s : Store} {h1 : StepRes × Store}
    (h : addHead r pq s = .ok h1) : ∀ k, pkey s k → pkey h1.2 k := by
  rcases (addHead_ok h).2 with ⟨_, _, h1'⟩ | ⟨_, _, res, hres, hcs⟩ | ⟨_, _, _, rfl⟩ |
    ⟨_, _, p, q, _, _, _, hd⟩
  · exact (addCycle_mono h1').1.pmono
  · have hm : ∀ k, pkey s k → pkey res.2 k := (single_mono hres).1.pmono
    rcases hcs with ⟨_, rfl⟩ | ⟨_, _, b, _, rfl⟩
    · exact hm
    · exact fun k hk => (mono_setPartial _ _ _).pmono k (hm k hk)
  · exact fun _ hk => hk
  · rcases hd with ⟨st, hst, _, rfl⟩ | ⟨_, _, _, b, _, rfl⟩
    · exact (step_mono hst).1.pmono
    · exact fun _ hk => hk

theorem addWith_mono {wk : Nat → Store → M Store} (hwk : IsWalk wk) {r : Relation}
    {pq : Option (Nat × Nat)} {s s' : Store} (h : addWith wk r pq s = .ok s') :
    ∀ k, pkey s k → pkey s' k := by
  obtain ⟨h1, hh, hs⟩ := addWith_eq_ok.mp h
  exact fun k hk => (mono_stepRel.serve_isWalk hwk (s := h1.2) trivial (Mono.refl _) hs).pmono k
    (head_mono hh k hk)

/-- `add` is monotone except for the double it may store -/
theorem add_mono {r : Relation} {pq : Option (Nat × Nat)} {s s' : Store}
    (h : add r pq s = .ok s') : ∀ k, pkey s k → pkey s' k :=
  addWith_mono isWalk_rec (add_eq_addWith r pq s ▸ h)

end Ymq.Relations
