/-
SIQS (C12): the CRT basis of `prepare_a`. Every combination of the chosen roots squares to `n`
modulo `A`; for type 2 polynomials (`A` odd) it is odd and squares to `n` modulo `4A` (parity rule). With it,
`prepare_a` returns.
-/
import Ymq.Lemmas.PolySiqs
import Mathlib.Algebra.BigOperators.Group.List.Basic
import Mathlib.Data.Nat.GCD.BigOperators
import Mathlib.RingTheory.Coprime.Lemmas
namespace Ymq.PolyCrt
open Ymq.SiqsPoly Ymq.PolyInv Ymq.PolySiqs

theorem mkInverses_spec {sel : List Prime} {tbl : List (List Nat)} (h : mkInverses sel = some tbl)
    (i j : Nat) (hi : i < sel.length) (hj : j < sel.length) :
    ∃ row v, tbl[i]? = some row ∧ row[j]? = some v ∧
      (sel[i].p ≠ sel[j].p → invMod sel[i].p sel[j].p = some v) := by
  unfold mkInverses at h
  obtain ⟨hl, hget⟩ := allSome_getElem h
  have hi' : i < tbl.length := by rw [← hl]; simpa using hi
  have hrow := hget i (by simpa using hi) hi'
  simp only [List.getElem_map] at hrow
  obtain ⟨hl2, hget2⟩ := allSome_getElem hrow
  have hj' : j < tbl[i].length := by rw [← hl2]; simpa using hj
  have hv := hget2 j (by simpa using hj) hj'
  simp only [List.getElem_map] at hv
  refine ⟨tbl[i], tbl[i][j], List.getElem?_eq_getElem hi', List.getElem?_eq_getElem hj', ?_⟩
  intro hne
  rw [if_neg hne] at hv
  exact hv

/-- the primes of the other factors -/
def others (idx : Nat) (l : List (Nat × Prime)) : List Nat :=
  (l.filter fun jq => jq.1 != idx).map (·.2.p)

/-- every entry of `afs` whose index differs from `idx` has an inverse in the table -/
def InvOk (f : Factors) (idx p : Nat) (l : List (Nat × Prime)) : Prop :=
  ∀ jq ∈ l, jq.1 ≠ idx → ∃ row v, f.inverses[jq.1]? = some row ∧ row[idx]? = some v ∧ v * jq.2.p % p = 1

theorem crtLoop_total {f : Factors} {idx p : Nat} (hp1 : 1 < p) :
    ∀ (l : List (Nat × Prime)) (c inv : Nat), InvOk f idx p l →
      ∃ inv', crtLoop f idx p l c inv = some (c * (others idx l).prod, inv') ∧
        c * (others idx l).prod * inv' % p = c * inv % p := by
  intro l
  induction l with
  | nil => intro c inv _; exact ⟨inv, by simp [crtLoop, others]⟩
  | cons x xs ih =>
    intro c inv hok
    obtain ⟨jdx, q⟩ := x
    have hok' : InvOk f idx p xs := fun jq hm hne => hok jq (List.mem_cons_of_mem _ hm) hne
    by_cases hj : jdx = idx
    · subst hj
      obtain ⟨inv', h1, h2⟩ := ih c inv hok'
      exact ⟨inv', by simpa [crtLoop, others] using h1, by simpa [others] using h2⟩
    · obtain ⟨row, v, hrow, hv, hinv⟩ := hok (jdx, q) (List.mem_cons_self) hj
      obtain ⟨inv', h1, h2⟩ := ih (c * q.p) (inv * v % p) hok'
      have ho : others idx ((jdx, q) :: xs) = q.p :: others idx xs := by simp [others, hj]
      refine ⟨inv', ?_, ?_⟩
      · simp only [crtLoop, ne_eq, hj, not_false_eq_true, if_true, hrow, hv, ho, List.prod_cons, ← Nat.mul_assoc, h1]
        exact if_neg (by omega)
      · rw [ho, List.prod_cons, ← Nat.mul_assoc, h2]
        have e : c * q.p * (inv * v % p) % p = (c * inv) * (v * q.p) % p := by
          rw [Nat.mul_mod, Nat.mod_mod, ← Nat.mul_mod]; congr 1; ring
        rw [e, Nat.mul_mod, hinv, Nat.mul_one, Nat.mod_mod]

/-- what `rootPair` returns for factor number `i` of `A` (prime `p`, `c` = product of the other primes of `A`): both roots
are multiples of `c` and square roots of `n` modulo `p`; for odd `A` they are odd for `i = 0` and even otherwise
(the parity rule that makes `B` odd for type 2) -/
structure PairOk (n : Int) (a c p : Nat) (i : Nat) (pr : Nat × Nat) : Prop where
  dvd1 : c ∣ pr.1
  dvd2 : c ∣ pr.2
  sq1 : (pr.1 : Int) * pr.1 ≡ n [ZMOD p]
  sq2 : (pr.2 : Int) * pr.2 ≡ n [ZMOD p]
  par0 : a % 2 = 1 → i = 0 → pr.1 % 2 = 1 ∧ pr.2 % 2 = 1
  par1 : a % 2 = 1 → i ≠ 0 → pr.1 % 2 = 0 ∧ pr.2 % 2 = 0

/-- the parity rule of `rootPair`: for odd `A`, `A ± R` have the parity opposite to `R`; `2A − R` has the parity of `R` -/
theorem pm_parity {a R : Nat} (hRa : R ≤ a) (ha : a % 2 = 1) :
    (R % 2 = 0 → (a - R) % 2 = 1 ∧ (a + R) % 2 = 1) ∧ (R % 2 = 1 → (a - R) % 2 = 0 ∧ (a + R) % 2 = 0) := by
  constructor <;> intro h <;> omega

theorem refl_parity {a R : Nat} (hRa : R ≤ a) : (2 * a - R) % 2 = R % 2 := by omega

theorem rootPair_ok {n : Int} {a i : Nat} {fp : Prime} {c inv : Nat} {pr : Nat × Nat}
    (hac : a = fp.p * c) (hci : c * inv % fp.p = 1) (hsq : (fp.r : Int) * fp.r ≡ n [ZMOD fp.p])
    (h : rootPair a i fp c inv = some pr) : PairOk n a c fp.p i pr := by
  obtain ⟨_, hRa, rfl⟩ := rootPair_iff.mp h
  -- `R ≡ r (mod p)`, so `R² ≡ n`, and so do `(t·A ± R)²` since `p ∣ A`
  have hRmod : ((fp.r * inv % fp.p * c : Nat) : Int) ≡ (fp.r : Int) [ZMOD fp.p] :=
    Int.natCast_modEq_iff.mpr (show fp.r * inv % fp.p * c % fp.p = fp.r % fp.p by
      rw [Nat.mul_mod, Nat.mod_mod, ← Nat.mul_mod, Nat.mul_assoc, Nat.mul_comm inv c, Nat.mul_mod, hci, Nat.mul_one,
        Nat.mod_mod])
  have hcR : c ∣ fp.r * inv % fp.p * c := Dvd.intro_left _ rfl
  have hca : c ∣ a := hac ▸ Dvd.intro_left _ rfl
  generalize fp.r * inv % fp.p * c = R at hRa hRmod hcR ⊢
  have sq_of : ∀ (r : Nat) (t : Int), (r : Int) = t * a + R ∨ (r : Int) = t * a - R →
      (r : Int) * r ≡ n [ZMOD fp.p] := by
    intro r t hrt
    refine (Int.modEq_iff_dvd.mpr ?_ : (r : Int) * r ≡ (R : Int) * R [ZMOD fp.p]).trans ((hRmod.mul hRmod).trans hsq)
    rcases hrt with e | e
    · exact ⟨-(t * c * (t * a + 2 * R)), by rw [e, hac]; push_cast; ring⟩
    · exact ⟨-(t * c * (t * a - 2 * R)), by rw [e, hac]; push_cast; ring⟩
  split
  · rename_i hpar
    have hR2 : R % 2 = 1 ↔ ¬ i = 0 := by
      by_cases h1 : R % 2 = 1 <;> by_cases h2 : i = 0 <;> simp [h1, h2] at hpar ⊢
    exact ⟨Nat.dvd_sub hca hcR, Nat.dvd_add hca hcR,
      sq_of _ 1 (Or.inr (by push_cast [Nat.cast_sub hRa]; ring)), sq_of _ 1 (Or.inl (by push_cast; ring)),
      fun ha hi => (pm_parity hRa ha).1 (Nat.mod_two_ne_one.mp fun h => hR2.mp h hi),
      fun ha hi => (pm_parity hRa ha).2 (hR2.mpr hi)⟩
  · rename_i hpar
    have hR2 : R % 2 = 1 ↔ i = 0 := by
      by_cases h1 : R % 2 = 1 <;> by_cases h2 : i = 0 <;> simp [h1, h2] at hpar ⊢
    exact ⟨hcR, Nat.dvd_sub (Dvd.dvd.mul_left hca 2) hcR, sq_of _ 0 (Or.inl (by ring)),
      sq_of _ 2 (Or.inr (by push_cast [Nat.cast_sub (by omega : R ≤ 2 * a)]; ring)),
      fun _ hi => ⟨hR2.mpr hi, (refl_parity hRa).trans (hR2.mpr hi)⟩,
      fun _ hi => ⟨Nat.mod_two_ne_one.mp fun h => hi (hR2.mp h),
        (refl_parity hRa).trans (Nat.mod_two_ne_one.mp fun h => hi (hR2.mp h))⟩⟩

theorem prod_split : ∀ (l : List (Nat × Prime)) (idx : Nat) (fp : Prime), (l.map (·.1)).Nodup →
    (idx, fp) ∈ l → (l.map (·.2.p)).prod = fp.p * (others idx l).prod := by
  intro l
  induction l with
  | nil => intro idx fp _ h; simp at h
  | cons x xs ih =>
    intro idx fp hnd hm
    obtain ⟨j, q⟩ := x
    simp only [List.map_cons, List.nodup_cons] at hnd
    rcases List.mem_cons.mp hm with heq | hm'
    · injection heq with h1 h2
      subst h1 h2
      have : others idx ((idx, fp) :: xs) = xs.map (·.2.p) := by
        simp only [others, List.filter_cons, bne_self_eq_false, Bool.false_eq_true, if_false]
        congr 1
        apply List.filter_eq_self.mpr
        intro y hy
        have : y.1 ≠ idx := fun he => hnd.1 (List.mem_map.mpr ⟨y, hy, he⟩)
        simpa using this
      rw [this]; simp
    · have hne : j ≠ idx := fun he => hnd.1 (List.mem_map.mpr ⟨(idx, fp), hm', he.symm⟩)
      have : others idx ((j, q) :: xs) = q.p :: others idx xs := by
        simp only [others, List.filter_cons]
        have : ((j, q).1 != idx) = true := by simpa using hne
        rw [if_pos this]; simp
      rw [this]
      simp only [List.map_cons, List.prod_cons]
      rw [ih idx fp hnd.2 hm']; ring

theorem prod_dvd_of_coprime : ∀ (ps : List Nat) (m : Int), ps.Pairwise Nat.Coprime →
    (∀ p ∈ ps, (p : Int) ∣ m) → ((ps.prod : Nat) : Int) ∣ m := by
  intro ps
  induction ps with
  | nil => intro m _ _; simp
  | cons p ps ih =>
    intro m hpw hd
    simp only [List.pairwise_cons] at hpw
    have h1 : (p : Int) ∣ m := hd p (List.mem_cons_self)
    have h2 : ((ps.prod : Nat) : Int) ∣ m := ih m hpw.2 (fun q hq => hd q (List.mem_cons_of_mem _ hq))
    have hc : Nat.Coprime p ps.prod := Nat.coprime_list_prod_right_iff.mpr hpw.1
    have hci : IsCoprime (p : Int) ((ps.prod : Nat) : Int) := Nat.isCoprime_iff_coprime.mpr hc
    simp only [List.prod_cons, Nat.cast_mul]
    exact hci.mul_dvd h1 h2

/-- `B` for the choice `g`: `Σ_j (if g j then r1ⱼ else r0ⱼ)` -/
def bsum (g : Nat → Bool) : Nat → List (Nat × Nat) → Nat
  | _, [] => 0
  | k, pr :: rest => (if g k then pr.2 else pr.1) + bsum g (k + 1) rest

theorem bsum_eq_sum (g : Nat → Bool) : ∀ (l : List (Nat × Nat)) (k : Nat),
    bsum g k l = ∑ j ∈ Finset.range l.length, if g (k + j) then (l.getD j 0).2 else (l.getD j 0).1
  | [], _ => rfl
  | pr :: rest, k => by
    rw [bsum, bsum_eq_sum g rest (k + 1), List.length_cons, Finset.sum_range_succ', add_comm]
    simp only [List.getD_cons_succ, List.getD_cons_zero, Nat.add_zero, Nat.add_assoc, Nat.add_comm 1]

theorem bsum_false : ∀ (prs : List (Nat × Nat)) (k : Nat), bsum (fun _ => false) k prs = (prs.map (·.1)).sum := by
  intro prs
  induction prs with
  | nil => intro k; rfl
  | cons x xs ih => intro k; simp [bsum, ih]

theorem bsum_mod (p : Nat) (g : Nat → Bool) (prs : List (Nat × Nat)) (k0 l : Nat) (hl : l < prs.length)
    (hdiv : ∀ j (hj : j < prs.length), j ≠ l → p ∣ prs[j].1 ∧ p ∣ prs[j].2) :
    bsum g k0 prs % p = (if g (k0 + l) then prs[l].2 else prs[l].1) % p := by
  rw [bsum_eq_sum, ← Finset.add_sum_erase _ _ (Finset.mem_range.mpr hl), List.getD_eq_getElem _ _ hl]
  obtain ⟨t, ht⟩ : p ∣ ∑ j ∈ (Finset.range prs.length).erase l,
      if g (k0 + j) then (prs.getD j 0).2 else (prs.getD j 0).1 := by
    refine Finset.dvd_sum fun j hj => ?_
    obtain ⟨hne, hj⟩ := Finset.mem_erase.mp hj
    rw [List.getD_eq_getElem _ _ (Finset.mem_range.mp hj)]
    split
    · exact (hdiv j (Finset.mem_range.mp hj) hne).2
    · exact (hdiv j (Finset.mem_range.mp hj) hne).1
  rw [ht, Nat.add_mul_mod_self_left]

/-- what `select_siqs_factors` provides: distinct primes with a square root of `n` -/
structure SelOk (n : Int) (sel : List Prime) : Prop where
  nodup : (sel.map (·.p)).Nodup
  prime : ∀ q ∈ sel, Nat.Prime q.p
  root : ∀ q ∈ sel, (q.r : Int) * q.r ≡ n [ZMOD q.p]

/-- what the CRT loop needs to know about one factor of `A` -/
structure ElemOk (f : Factors) (n : Int) (a : Nat) (afs : List (Nat × Prime)) (x : Nat × Prime) : Prop where
  one_lt : 1 < x.2.p
  inv : InvOk f x.1 x.2.p afs
  prod : a = x.2.p * (others x.1 afs).prod
  root : (x.2.r : Int) * x.2.r ≡ n [ZMOD x.2.p]

theorem rootPairs_total {f : Factors} {n : Int} {a : Nat} {afs : List (Nat × Prime)}
    (l : List (Nat × Prime)) (i : Nat) (hok : ∀ x ∈ l, ElemOk f n a afs x) :
    ∃ prs, rootPairs f a afs i l = some prs ∧ prs.length = l.length ∧
      ∀ k (hk : k < l.length) (hk' : k < prs.length),
        PairOk n a (others l[k].1 afs).prod l[k].2.p (i + k) prs[k] := by
  -- one factor: `crtLoop` gives `c = ∏ others` and `c·inv ≡ 1`; `R ≤ A` because `A = p·c`
  obtain ⟨prs, h1, h2, h3⟩ := allSome_map_total
    (f := fun x => (crtLoop f x.2.1 x.2.2.p afs 1 1).bind fun ci => rootPair a x.1 x.2.2 ci.1 ci.2)
    (P := fun x pr => PairOk n a (others x.2.1 afs).prod x.2.2.p x.1 pr) (withIdx i l) (by
      rintro ⟨k, idx, fp⟩ hx
      obtain ⟨j, hj, _, hq⟩ := (mem_withIdx l i k (idx, fp)).mp hx
      have ex := hok (idx, fp) (hq ▸ List.getElem_mem hj)
      have hp0 : fp.p ≠ 0 := by have := ex.one_lt; simp only at this; omega
      obtain ⟨inv, h1, hci⟩ := crtLoop_total ex.one_lt afs 1 1 ex.inv
      rw [Nat.one_mul] at h1 hci
      have hci' : (others idx afs).prod * inv % fp.p = 1 := by rw [hci]; exact Nat.mod_eq_of_lt ex.one_lt
      have h2 : rootPair a k fp (others idx afs).prod inv = some _ := rootPair_iff.mpr ⟨hp0, by
        rw [ex.prod]
        exact Nat.mul_le_mul_right _ (Nat.mod_lt _ (Nat.pos_of_ne_zero hp0)).le, rfl⟩
      exact ⟨_, by rw [h1]; exact h2, rootPair_ok ex.prod hci' ex.root h2⟩)
  rw [withIdx_length] at h2
  refine ⟨prs, by rw [rootPairs_eq]; exact h1, h2, fun k hk hk' => ?_⟩
  have := h3 k (by rw [withIdx_length]; exact hk) hk'
  rwa [withIdx_getElem] at this

theorem mem_afsOf {f : Factors} {a j : Nat} {q : Prime} :
    (j, q) ∈ afsOf f a ↔ ∃ h : j < f.factors.length, q = f.factors[j] ∧ q.p ≠ 0 ∧ q.p ∣ a := by
  unfold afsOf
  rw [List.mem_filter, mem_withIdx]
  simp only [Nat.zero_add, Bool.and_eq_true, bne_iff_ne, ne_eq, beq_iff_eq, Nat.dvd_iff_mod_eq_zero]
  constructor
  · rintro ⟨⟨i, hi, rfl, rfl⟩, h⟩; exact ⟨hi, rfl, h⟩
  · rintro ⟨hj, rfl, h⟩; exact ⟨⟨j, hj, rfl, rfl⟩, h⟩

theorem afsOf_fst_nodup (f : Factors) (a : Nat) : ((afsOf f a).map (·.1)).Nodup :=
  (withIdx_fst_nodup f.factors 0).sublist (List.filter_sublist.map _)

theorem mkFactors_iff {n : Int} {sel : List Prime} {f : Factors} :
    mkFactors n sel = some f ↔ ∃ tbl, mkInverses sel = some tbl ∧ f = { n, factors := sel, inverses := tbl } := by
  simp only [mkFactors, Option.bind_eq_bind, Option.bind_eq_some_iff, Option.some.injEq, eq_comm (a := f)]

theorem afs_elem_ok {n : Int} {sel : List Prime} {f : Factors} {a : Nat} (hs : SelOk n sel)
    (hf : mkFactors n sel = some f) (ha : a = ((afsOf f a).map (·.2.p)).prod) :
    ((afsOf f a).map (·.1)).Nodup ∧ ((afsOf f a).map (·.2.p)).Pairwise Nat.Coprime ∧
    ∀ x ∈ afsOf f a, ElemOk f n a (afsOf f a) x := by
  obtain ⟨tbl, htbl, rfl⟩ := mkFactors_iff.mp hf
  set afs := afsOf { n := n, factors := sel, inverses := tbl } a with hafs
  have hnd : (afs.map (·.1)).Nodup := afsOf_fst_nodup _ a
  have hmem : ∀ x ∈ afs, ∃ (h : x.1 < sel.length), x.2 = sel[x.1] := fun x hx =>
    (mem_afsOf.mp hx).imp fun _ h => h.1
  have hpne : ∀ x ∈ afs, ∀ y ∈ afs, x.1 ≠ y.1 → x.2.p ≠ y.2.p := by
    intro x hx y hy hne heq
    obtain ⟨hxi, hxq⟩ := hmem x hx
    obtain ⟨hyi, hyq⟩ := hmem y hy
    rw [hxq, hyq] at heq
    have := (List.Nodup.getElem_inj_iff hs.nodup (i := x.1) (j := y.1)
      (hi := by simpa using hxi) (hj := by simpa using hyi)).mp (by simpa using heq)
    exact hne this
  refine ⟨hnd, ?_, ?_⟩
  · -- pairwise coprime
    have hpw : afs.Pairwise (fun x y => x.1 ≠ y.1) := by
      have := List.pairwise_map.mp (List.nodup_iff_pairwise_ne.mp hnd |> id)
      exact this
    rw [List.pairwise_map]
    refine List.Pairwise.imp_of_mem ?_ hpw
    intro x y hx hy hne
    obtain ⟨hxi, hxq⟩ := hmem x hx
    obtain ⟨hyi, hyq⟩ := hmem y hy
    have px : Nat.Prime x.2.p := by rw [hxq]; exact hs.prime _ (List.getElem_mem hxi)
    have py : Nat.Prime y.2.p := by rw [hyq]; exact hs.prime _ (List.getElem_mem hyi)
    exact (Nat.coprime_primes px py).mpr (hpne x hx y hy hne)
  · intro x hx
    obtain ⟨hxi, hxq⟩ := hmem x hx
    have px : Nat.Prime x.2.p := by rw [hxq]; exact hs.prime _ (List.getElem_mem hxi)
    refine ⟨px.one_lt, ?_, ?_, ?_⟩
    · intro y hy hne
      obtain ⟨hyi, hyq⟩ := hmem y hy
      obtain ⟨row, v, hrow, hv, hinv⟩ := mkInverses_spec htbl y.1 x.1 hyi hxi
      refine ⟨row, v, hrow, hv, ?_⟩
      have hpp : sel[y.1].p ≠ sel[x.1].p := by
        have := hpne y hy x hx hne
        rwa [hyq, hxq] at this
      obtain ⟨_, h2, _⟩ := invMod_some (by rw [← hxq]; exact px.pos) (hinv hpp)
      rw [hyq, hxq, Nat.mul_comm, h2]
      exact Nat.mod_eq_of_lt (by rw [← hxq]; exact px.one_lt)
    · rw [← prod_split afs x.1 x.2 hnd hx]; exact ha
    · rw [hxq]; exact hs.root _ (List.getElem_mem hxi)

theorem dvd_others_prod {afs : List (Nat × Prime)} {x : Nat × Prime} {idx : Nat} (hx : x ∈ afs) (hne : x.1 ≠ idx) :
    x.2.p ∣ (others idx afs).prod :=
  List.dvd_prod (List.mem_map.mpr ⟨x, List.mem_filter.mpr ⟨hx, by simpa using hne⟩, rfl⟩)

theorem crt_B_sq {n : Int} {sel : List Prime} {f : Factors} {a : Nat} {prs : List (Nat × Nat)}
    (hs : SelOk n sel) (hf : mkFactors n sel = some f) (ha : a = ((afsOf f a).map (·.2.p)).prod)
    (hprs : rootPairs f a (afsOf f a) 0 (afsOf f a) = some prs) (g : Nat → Bool) :
    (a : Int) ∣ (bsum g 0 prs : Int) * (bsum g 0 prs : Int) - n ∧
    (n % 4 = 1 → a % 2 = 1 → prs ≠ [] →
      bsum g 0 prs % 2 = 1 ∧ (4 * (a : Int)) ∣ (bsum g 0 prs : Int) * (bsum g 0 prs : Int) - n) := by
  obtain ⟨hnd, hcop, helem⟩ := afs_elem_ok hs hf ha
  obtain ⟨prs', hprs', hlen, hpair⟩ := rootPairs_total (afsOf f a) 0 helem
  cases hprs.symm.trans hprs'
  set afs := afsOf f a with hafs
  set B := bsum g 0 prs with hB
  -- the prime of position `l` divides both entries of every other position (it is among their `others`)
  have hoth : ∀ l (hl : l < afs.length) j (hj : j < prs.length), j ≠ l →
      afs[l].2.p ∣ prs[j].1 ∧ afs[l].2.p ∣ prs[j].2 := by
    intro l hl j hj hne
    have hj' : j < afs.length := hlen ▸ hj
    have pj := hpair j hj' hj
    have hd := dvd_others_prod (List.getElem_mem hl) (idx := afs[j].1) fun he =>
      hne ((List.Nodup.getElem_inj_iff hnd (i := l) (j := j) (hi := by simpa using hl)
        (hj := by simpa using hj')).mp (by simpa using he)).symm
    exact ⟨Nat.dvd_trans hd pj.dvd1, Nat.dvd_trans hd pj.dvd2⟩
  -- so modulo that prime `B` is the chosen root of position `l`, a square root of `n`
  have hdiv : ∀ p ∈ afs.map (fun x => x.2.p), ((p : Nat) : Int) ∣ (B : Int) * B - n := by
    intro p hp
    obtain ⟨x, hx, rfl⟩ := List.mem_map.mp hp
    obtain ⟨l, hl, rfl⟩ := List.mem_iff_getElem.mp hx
    have hl' : l < prs.length := hlen ▸ hl
    have hBr := Int.natCast_modEq_iff.mpr (bsum_mod afs[l].2.p g prs 0 l hl' (hoth l hl))
    rw [Nat.zero_add] at hBr
    have pl := hpair l hl hl'
    refine Int.modEq_iff_dvd.mp ((hBr.mul hBr).trans ?_).symm
    split
    · exact pl.sq2
    · exact pl.sq1
  have hA : (a : Int) ∣ (B : Int) * B - n := by
    rw [ha]; exact prod_dvd_of_coprime _ _ hcop hdiv
  refine ⟨hA, fun hn4 haodd hne => ?_⟩
  -- parity: modulo 2 all positions but 0 vanish, and the roots of position 0 are odd
  have h0 : 0 < prs.length := List.length_pos_iff.mpr hne
  have hBodd : B % 2 = 1 := by
    have hmod := bsum_mod 2 g prs 0 0 h0 fun j hj hj0 => by
      have := (hpair j (hlen ▸ hj) hj).par1 haodd (by omega)
      omega
    have := (hpair 0 (hlen ▸ h0) h0).par0 haodd rfl
    rw [hB, hmod]
    split <;> omega
  exact ⟨hBodd, PolyRoots.odd_sq_crt (by omega) hn4 (by omega) hA⟩

theorem afs_mem_sel {n : Int} {sel : List Prime} {f : Factors} {a : Nat} (hf : mkFactors n sel = some f) :
    f.n = n ∧ ∀ x ∈ afsOf f a, x.2 ∈ sel := by
  obtain ⟨_, _, rfl⟩ := mkFactors_iff.mp hf
  refine ⟨rfl, ?_⟩
  rintro ⟨j, q⟩ hx
  obtain ⟨hj, rfl, _⟩ := mem_afsOf.mp hx
  exact List.getElem_mem hj

theorem prepareA_isSome {n : Int} {sel fb : List Prime} {f : Factors} {a : Nat} {so : Int}
    (hs : SelOk n sel) (hf : mkFactors n sel = some f) (ha : a = ((afsOf f a).map (·.2.p)).prod)
    (hne : afsOf f a ≠ []) (hfb : ∀ q ∈ fb, q.p ≠ 0 ∧ q.p < 2 ^ 24) (ha0 : a ≠ 0) (ha254 : a < 2 ^ 254)
    (hso1 : -(2 ^ 20 : Int) ≤ so) (hso2 : so ≤ 0) :
    ∃ pa, prepareA f a fb so = some pa := by
  obtain ⟨_, _, helem⟩ := afs_elem_ok hs hf ha
  obtain ⟨prs, hprs, _⟩ := rootPairs_total (afsOf f a) 0 helem
  obtain ⟨hA, _⟩ := crt_B_sq hs hf ha hprs (fun _ => false)
  have hroot0 : root0Of f.n (afsOf f a).isEmpty prs = bsum (fun _ => false) 0 prs := by
    unfold root0Of
    have : (afsOf f a).isEmpty = false := by simpa using hne
    rw [this, bsum_false]; simp
  obtain ⟨pps, hpps⟩ := allSome_isSome (fb.map (mkPP (a2aOf f.n a) (root0Of f.n (afsOf f a).isEmpty prs)
      (prs.map fun pr => pr.2 - pr.1) so)) (by
    intro x hx
    obtain ⟨q, hq, rfl⟩ := List.mem_map.mp hx
    exact mkPP_isSome (hfb q hq).1 (hfb q hq).2 hso1 hso2)
  refine ⟨_, prepareA_iff.mpr ⟨ha254, prs, hprs, ha0, ?_, pps, hpps, rfl⟩⟩
  rw [hroot0, (afs_mem_sel (a := a) hf).1]
  push_cast
  exact hA

end Ymq.PolyCrt
