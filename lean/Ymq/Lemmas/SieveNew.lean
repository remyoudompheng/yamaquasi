/-
C13 helper lemmas: the loops of `Sieve::new` and `rehash` taken apart (`modifyM`, what a returning step of each loop did,
by size class), and the cursor array `new` builds: every slot holds its initial value (`OffsInit`, `NewOffs`).
-/
import Ymq.Lemmas.SieveCursor

namespace Ymq.Sieve
open Ymq.Loops

theorem modifyM_spec {α} [Inhabited α] {a a' : Array α} {i : Nat} {f : α → Option α}
    (h : modifyM a i f = some a') :
    ∃ x y, a[i]? = some x ∧ f x = some y ∧ a'.size = a.size ∧ a'[i]? = some y ∧
      ∀ j, j ≠ i → a'[j]? = a[j]? := by
  unfold modifyM at h
  split at h
  · simp at h
  rename_i x hx
  have hi : i < a.size := (Array.getElem?_eq_some_iff.1 hx).1
  split at h
  · simp at h
  rename_i y hy
  simp only [Option.some.injEq] at h
  subst h
  refine ⟨x, y, hx, hy, by simp, ?_, ?_⟩
  · simp [hi]
  · intro j hj
    rw [Array.getElem?_setIfInBounds_ne (fun e => hj e.symm), Array.getElem?_setIfInBounds_ne (fun e => hj e.symm)]

/-- the value `new` stores in cursor slot `k`. -/
def initSlot (r1 r2 : Array Nat) (k : Nat) (v : Nat) : Prop :=
  ∃ o1 o2, r1[k / 2]? = some o1 ∧ r2[k / 2]? = some o2 ∧
    v = (if k % 2 = 0 then o1 % 65536 else if o1 ≠ o2 then o2 % 65536 else NONE)

theorem newSmallStep_eq {r1 r2 offs : Array Nat} {idx o1 o2 : Nat} (h1 : r1[idx]? = some o1) (h2 : r2[idx]? = some o2)
    (hs : offs.size = 2 * idx) :
    newSmallStep r1 r2 offs idx = some ((offs.push (o1 % 65536)).push (if o1 ≠ o2 then o2 % 65536 else NONE)) := by
  simp only [newSmallStep, h1, h2, Option.bind_eq_bind, Option.bind_some]
  rw [if_neg (by simp only [Array.size_push]; omega)]

/-- every slot of the cursor array under construction holds the value `new` stores there. -/
def OffsInit (r1 r2 : Array Nat) (offs : Array Nat) : Prop :=
  ∀ k, k < offs.size → ∃ v, offs[k]? = some v ∧ initSlot r1 r2 k v

/-- first size class of `new`: the loop over the primes `idx1 ≤ idx < idx1 + n` appends their two cursors each. -/
theorem newSmallFold_ok {r1 r2 : Array Nat} {idx1 n : Nat} {offs : Array Nat}
    (hr : ∀ i, idx1 ≤ i → i < idx1 + n → ∃ o1 o2, r1[i]? = some o1 ∧ r2[i]? = some o2)
    (hs : offs.size = 2 * idx1) :
    ∃ offs', (List.range' idx1 n).foldlM (newSmallStep r1 r2) offs = some offs' ∧ offs'.size = 2 * (idx1 + n) ∧
      (OffsInit r1 r2 offs → OffsInit r1 r2 offs') := by
  refine foldlM_range'_total (newSmallStep r1 r2) (fun i a => a.size = 2 * i ∧ (OffsInit r1 r2 offs → OffsInit r1 r2 a))
    idx1 n ?_ ⟨hs, fun h => h⟩
  rintro idx a h1 h2 ⟨hs, hI⟩
  obtain ⟨o1, o2, ho1, ho2⟩ := hr idx h1 h2
  refine ⟨_, newSmallStep_eq ho1 ho2 hs, by simp only [Array.size_push]; omega, fun h0 k hk => ?_⟩
  generalize hv : (if o1 ≠ o2 then o2 % 65536 else NONE) = v2 at hk ⊢
  rw [Array.getElem?_push, Array.getElem?_push]
  simp only [Array.size_push, hs] at hk ⊢
  by_cases hk0 : k < 2 * idx
  · rw [if_neg (by omega), if_neg (by omega)]
    exact hI h0 k (by omega)
  · have : k = 2 * idx ∨ k = 2 * idx + 1 := by omega
    rcases this with rfl | rfl
    · rw [if_neg (by omega), if_pos rfl]
      exact ⟨_, rfl, o1, o2, by rwa [Nat.mul_div_cancel_left _ (by omega : 0 < 2)],
        by rwa [Nat.mul_div_cancel_left _ (by omega : 0 < 2)], by simp⟩
    · have e1 : (2 * idx + 1) / 2 = idx := by omega
      rw [if_pos rfl]
      exact ⟨_, rfl, o1, o2, by rwa [e1], by rwa [e1], by rw [if_neg (by omega)]; exact hv.symm⟩

section New
variable {fb : FB} {r1 r2 : Array Nat} {interval : Nat}

/-- what a returning step of the loop of `new` did, by size class. -/
theorem newStep_cases {offs : Array Nat} {tables : Array Table} {ltables : Array LTable} {log : Nat}
    {st' : Array Nat × Array Table × Array LTable}
    (h : newStep fb r1 r2 interval (offs, tables, ltables) log = some st') :
    ∃ idx1 idx2, fb.ibl[log]? = some idx1 ∧ fb.ibl[log + 1]? = some idx2 ∧
      ((log < 16 ∧ ∃ offs', (List.range' idx1 (idx2 - idx1)).foldlM (newSmallStep r1 r2) offs = some offs' ∧
          st' = (offs', tables, ltables)) ∨
       (16 ≤ log ∧ log < 19 ∧ ∃ tables', modifyM tables (log - 16) (fun t =>
          (List.range' idx1 (idx2 - idx1)).foldlM (newLargeStep fb r1 r2 interval) t) = some tables' ∧
          st' = (offs, tables', ltables)) ∨
       (19 ≤ log ∧ ∃ ltables', modifyM ltables (log - 19) (fun t =>
          (List.range' idx1 (idx2 - idx1)).foldlM (newVLargeStep fb r1 r2 interval) t) = some ltables' ∧
          st' = (offs, tables, ltables'))) := by
  unfold newStep at h
  simp only [Option.bind_eq_bind, Option.bind_eq_some_iff] at h
  obtain ⟨idx1, h1, idx2, h2, h⟩ := h
  by_cases hass : ¬ (idx2 ≤ r1.size ∧ idx2 ≤ r2.size ∧ idx2 ≤ fb.primes.size)
  · simp [hass] at h
  simp only [hass, if_false, LARGE_LOG, VLARGE_LOG] at h
  refine ⟨idx1, idx2, h1, h2, ?_⟩
  by_cases hl : log < 16
  · simp only [hl, if_true, Option.bind_eq_some_iff, Option.some.injEq] at h
    obtain ⟨offs', hf, rfl⟩ := h
    exact Or.inl ⟨hl, offs', hf, rfl⟩
  · simp only [hl, if_false] at h
    by_cases hv : log < 19
    · simp only [hv, if_true, Option.bind_eq_some_iff, Option.some.injEq] at h
      obtain ⟨tables', hm, rfl⟩ := h
      exact Or.inr (Or.inl ⟨by omega, hv, tables', hm, rfl⟩)
    · simp only [hv, if_false, Option.bind_eq_some_iff, Option.some.injEq] at h
      obtain ⟨ltables', hm, rfl⟩ := h
      exact Or.inr (Or.inr ⟨by omega, ltables', hm, rfl⟩)

/-- the cursor array before class `log` of the loop of `new`: the cursors of the primes below
`idx_by_log[min log 16]`, each slot with its initial value. -/
def NewOffs (fb : FB) (r1 r2 : Array Nat) (log : Nat) (offs : Array Nat) : Prop :=
  ∃ v, fb.ibl[min log 16]? = some v ∧ offs.size = 2 * v ∧ OffsInit r1 r2 offs

theorem newStep_offs (hfb : fb.WF) (hr : RootsOK fb r1 r2) {st st' : Array Nat × Array Table × Array LTable}
    {log : Nat} (hI : NewOffs fb r1 r2 log st.1) (h : newStep fb r1 r2 interval st log = some st') :
    NewOffs fb r1 r2 (log + 1) st'.1 := by
  obtain ⟨offs, tables, ltables⟩ := st
  obtain ⟨v, hv, hs, hinit⟩ := hI
  obtain ⟨idx1, idx2, h1, h2, ⟨hl, offs', hf, rfl⟩ | hbig⟩ := newStep_cases h
  · rw [Nat.min_eq_left (by omega), h1] at hv
    have := Option.some.inj hv
    subst this
    have h12 := hfb.ibl_mono (by omega : log ≤ log + 1) h1 h2
    have hle2 := hfb.ibl_le _ _ h2
    -- the loop returns what `newSmallFold_ok` says, since it returns at all
    obtain ⟨offs'', hf', hs', hi'⟩ := newSmallFold_ok (r1 := r1) (r2 := r2) (n := idx2 - idx1) (fun i _ hi2 => by
      obtain ⟨p, hp⟩ := hfb.prime_at (i := i) (by omega)
      obtain ⟨o1, o2, a, b, _⟩ := hr i p hp
      exact ⟨o1, o2, a, b⟩) hs
    rw [hf] at hf'
    cases hf'
    exact ⟨idx2, by rw [Nat.min_eq_left (by omega)]; exact h2, by rw [hs']; congr 1; omega, hi' hinit⟩
  · have hoffs : st'.1 = offs ∧ 16 ≤ log := by
      rcases hbig with ⟨hl, _, _, _, rfl⟩ | ⟨hl, _, _, rfl⟩
      · exact ⟨rfl, hl⟩
      · exact ⟨rfl, by omega⟩
    rw [hoffs.1]
    rw [Nat.min_eq_right hoffs.2] at hv
    exact ⟨v, by rw [Nat.min_eq_right (by omega)]; exact hv, hs, hinit⟩

/-- the cursor array `new` builds satisfies the cursor invariant for block 0: a reduced root below `2^15` is its own
cursor. -/
theorem OffsInit.curInv (hfb : fb.WF) (hr : RootsOK fb r1 r2) {nS : Nat} (hnS : fb.ibl[16]? = some nS)
    {offs : Array Nat} (hsize : offs.size = 2 * nS) (hinit : OffsInit r1 r2 offs) (idxskip : Nat) :
    CurInv fb r1 r2 idxskip nS 0 offs := by
  refine ⟨hsize, fun k hk => ?_⟩
  obtain ⟨v, hv, o1, o2, h1, h2, hveq⟩ := hinit k (by rw [hsize]; exact hk)
  obtain ⟨p, hp⟩ := hfb.prime_at (i := k / 2) (by have := hfb.ibl_le _ _ hnS; omega)
  obtain ⟨o1', o2', h1', h2', hlt1, hlt2⟩ := hr _ p hp
  rw [h1] at h1'; rw [h2] at h2'
  cases h1'; cases h2'
  have hps := prime_small hfb hnS hk hp
  have hred : ∀ o, o < p → o % 65536 < p ∧ (o % 65536 + 0 * BLOCK) % p = o := fun o ho => by
    rw [Nat.mod_eq_of_lt (by omega : o < 65536), Nat.zero_mul, Nat.add_zero]
    exact ⟨ho, Nat.mod_eq_of_lt ho⟩
  refine ⟨p, o1, o2, hp, h1, h2, ?_⟩
  subst hveq
  by_cases hk2 : k % 2 = 0
  · rw [if_pos (Or.inl hk2), if_pos hk2]
    rw [if_pos hk2] at hv
    exact ⟨_, hv, hred o1 hlt1⟩
  · rw [if_neg hk2] at hv
    by_cases hne : o1 ≠ o2
    · rw [if_pos (Or.inr hne), if_neg hk2]
      rw [if_pos hne] at hv
      exact ⟨_, hv, hred o2 hlt2⟩
    · rw [if_neg (by tauto)]
      rw [if_neg hne] at hv
      exact fun _ => hv

/-- the hits of prime index `pidx` (prime `p`, roots from `r1`, `r2`) below `interval`. -/
def IsHit (fb : FB) (r1 r2 : Array Nat) (interval : Nat) (pidx x : Nat) : Prop :=
  ∃ p o, fb.primes[pidx]? = some p ∧ (r1[pidx]? = some o ∨ r2[pidx]? = some o) ∧ x < interval ∧ ∃ k, x = o + k * p

theorem IsHit.of_mod {pidx p o x : Nat} (hp : fb.primes[pidx]? = some p)
    (hroot : r1[pidx]? = some o ∨ r2[pidx]? = some o) (hx : x < interval) (hm : x % p = o) :
    IsHit fb r1 r2 interval pidx x :=
  ⟨p, o, hp, hroot, hx, x / p, by have := Nat.div_add_mod x p; rw [hm, Nat.mul_comm] at this; omega⟩

end New

/-- what a returning step of the loop of `rehash` did, by the size class of its prime. -/
theorem rehashStep_cases {fb : FB} {r1 r2 : Array Nat} {interval pidx : Nat} {tables : Array Table}
    {ltables : Array LTable} {st' : Array Table × Array LTable}
    (h : rehashStep fb r1 r2 interval (tables, ltables) pidx = some st') :
    ∃ p, fb.primes[pidx]? = some p ∧
      ((bitlen p < 16 ∧ st' = (tables, ltables)) ∨
       (16 ≤ bitlen p ∧ bitlen p < 19 ∧ ∃ tables', modifyM tables (bitlen p - 16)
          (rehashTable r1 r2 interval p pidx) = some tables' ∧ st' = (tables', ltables)) ∨
       (19 ≤ bitlen p ∧ ∃ ltables', modifyM ltables (bitlen p - 19)
          (rehashLTable r1 r2 interval p pidx) = some ltables' ∧ st' = (tables, ltables'))) := by
  unfold rehashStep at h
  simp only [Option.bind_eq_bind, Option.bind_eq_some_iff, BLOCK, LARGE_LOG, VLARGE_LOG] at h
  obtain ⟨p, hp, h⟩ := h
  refine ⟨p, hp, ?_⟩
  by_cases hsm : p < 32768
  · simp only [hsm, if_true, Option.some.injEq] at h
    exact Or.inl ⟨(bitlen_lt_succ_iff p 15).2 (by omega), h.symm⟩
  · simp only [hsm, if_false] at h
    have h16 : 16 ≤ bitlen p := by
      by_contra hc
      have := (bitlen_lt_succ_iff p 15).1 (by omega)
      omega
    by_cases hv : bitlen p < 19
    · have hl : ¬ bitlen p < 16 := by omega
      simp only [hv, if_true, hl, if_false, Option.bind_eq_some_iff, Option.some.injEq] at h
      obtain ⟨tables', hm, rfl⟩ := h
      exact Or.inr (Or.inl ⟨h16, hv, tables', hm, rfl⟩)
    · simp only [hv, if_false, Option.bind_eq_some_iff, Option.some.injEq] at h
      obtain ⟨ltables', hm, rfl⟩ := h
      exact Or.inr (Or.inr ⟨by omega, ltables', hm, rfl⟩)

end Ymq.Sieve
