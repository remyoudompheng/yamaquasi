/-
Lemmas about the model of `CRelationSet` (Ymq/Model/ClassGroup.lean): whatever the history of
`add` calls, the relations emitted so far and the relations still stored in `doubles` are
relations that were added, and no complete relation is lost. (The store never combines relations: it only delays
them until their large primes are connected to the spanning tree.) `Ext`: what `update_tree` may change.
-/
import Ymq.Model.ClassGroup
import Mathlib.Tactic.Common
import Ymq.Lemmas.Loops

namespace Ymq.ClassGroup

theorem mem_mapInsert {β} {k : Nat × Nat} {v : β} {l : List ((Nat × Nat) × β)} {e : (Nat × Nat) × β}
    (h : e ∈ mapInsert k v l) : e = (k, v) ∨ e ∈ l := by
  induction l with
  | nil => simpa [mapInsert] using h
  | cons x t ih =>
    simp only [mapInsert] at h
    split_ifs at h <;> simp only [List.mem_cons] at h ⊢
    · exact h.imp_right Or.inr
    · exact h
    · exact h.elim (fun h => Or.inr (Or.inl h)) fun h => (ih h).imp_right Or.inr

theorem mem_mapErase {β} {k : Nat × Nat} {l : List ((Nat × Nat) × β)} {e : (Nat × Nat) × β}
    (h : e ∈ mapErase k l) : e ∈ l := by
  induction l with
  | nil => simp [mapErase] at h
  | cons x t ih =>
    simp only [mapErase] at h
    split_ifs at h <;> simp only [List.mem_cons] at h ⊢
    · exact Or.inr h
    · exact h.imp_right ih

theorem mapLookup_mem {β} {k : Nat × Nat} {l : List ((Nat × Nat) × β)} {v : β}
    (h : mapLookup k l = some v) : (k, v) ∈ l := by
  induction l with
  | nil => simp [mapLookup] at h
  | cons x t ih =>
    obtain ⟨k', v'⟩ := x
    simp only [mapLookup] at h
    split at h
    · rename_i hk
      simp only [Option.some.injEq] at h
      subst hk; subst h
      exact List.mem_cons_self
    · exact List.mem_cons_of_mem _ (ih h)

/-- every emitted relation and every stored relation belongs to `I` -/
def StoreInv (I : List Rel) (s : CSet) : Prop :=
  (∀ r ∈ s.emittedRev, r ∈ I) ∧ (∀ e ∈ s.doubles, e.2 ∈ I)

/-- the emitted list only grows, by relations satisfying `Q` -/
def GrowsBy (Q : Rel → Prop) (s s' : CSet) : Prop :=
  ∃ l, s'.emittedRev = l ++ s.emittedRev ∧ ∀ x ∈ l, Q x

theorem GrowsBy.refl {Q} (s : CSet) : GrowsBy Q s s := ⟨[], rfl, nofun⟩

theorem GrowsBy.trans {Q} {a b c : CSet} (h1 : GrowsBy Q a b) (h2 : GrowsBy Q b c) : GrowsBy Q a c := by
  obtain ⟨l1, e1, q1⟩ := h1
  obtain ⟨l2, e2, q2⟩ := h2
  refine ⟨l2 ++ l1, by rw [e2, e1, List.append_assoc], fun x hx => ?_⟩
  rcases List.mem_append.1 hx with h | h
  · exact q2 x h
  · exact q1 x h

/-! Every operation of the store keeps "the stored relations satisfy `Q`" and emits only relations
satisfying `Q` (`Q` = membership in the inputs for `StoreInv`, `Q` = `True` for mere growth). -/

theorem emitPath_step {Q : Rel → Prop} : ∀ (path : List Nat) (s : CSet), (∀ e ∈ s.doubles, Q e.2) →
    (∀ e ∈ (emitPath s path).doubles, Q e.2) ∧ GrowsBy Q s (emitPath s path)
  | [], s, h => ⟨h, .refl s⟩
  | [_], s, h => ⟨h, .refl s⟩
  | p :: q :: t, s, h => by
    rw [emitPath]
    split
    · rename_i r hr
      obtain ⟨h1, h2⟩ := emitPath_step (Q := Q) (q :: t)
        (emit { s with doubles := mapErase _ s.doubles } r 0) (fun e he => h e (mem_mapErase he))
      refine ⟨h1, GrowsBy.trans ⟨[r], rfl, fun x hx => ?_⟩ h2⟩
      rw [List.mem_singleton.1 hx]
      exact h _ (mapLookup_mem hr)
    · exact emitPath_step (q :: t) s h

def hasKey (paths : List (Nat × List Nat)) (v : Nat) : Bool := (paths.lookup v).isSome

theorem hasKey_pathInsert (k : Nat) (v : List Nat) (l : List (Nat × List Nat)) (x : Nat) :
    hasKey (pathInsert k v l) x = (x == k || hasKey l x) := by
  unfold hasKey
  induction l with
  | nil => simp only [pathInsert, List.lookup_cons, List.lookup_nil]; cases x == k <;> rfl
  | cons y t ih =>
    obtain ⟨k', v'⟩ := y
    simp only [pathInsert]
    split_ifs with h1 h2
    · subst h1; simp only [List.lookup_cons]; cases x == k <;> rfl
    · simp only [List.lookup_cons]; cases x == k <;> rfl
    · simp only [List.lookup_cons]; cases x == k'
      · exact ih
      · simp

/-- `s'` has the same emitted list and the same edges as `s`, and at least its tree vertices: all that
`update_tree` may change -/
structure Ext (s s' : CSet) : Prop where
  emitted : s'.emittedRev = s.emittedRev
  doubles : s'.doubles = s.doubles
  doublesRev : s'.doublesRev = s.doublesRev
  keys : ∀ x, hasKey s.paths x = true → hasKey s'.paths x = true

theorem Ext.refl (s : CSet) : Ext s s := ⟨rfl, rfl, rfl, fun _ h => h⟩

theorem Ext.trans {a b c : CSet} (h1 : Ext a b) (h2 : Ext b c) : Ext a c :=
  ⟨h2.emitted.trans h1.emitted, h2.doubles.trans h1.doubles, h2.doublesRev.trans h1.doublesRev,
    fun x h => h2.keys x (h1.keys x h)⟩

/-- the state of `update_tree` after the new vertex `q` got its path -/
theorem ext_insert (s : CSet) (n q : Nat) (v : List Nat) :
    Ext s { s with nCombined12 := n, paths := pathInsert q v s.paths } ∧
      ∀ x, hasKey ({ s with nCombined12 := n, paths := pathInsert q v s.paths } : CSet).paths x
        = (x == q || hasKey s.paths x) :=
  ⟨⟨rfl, rfl, rfl, fun x hx => by simp only [hasKey_pathInsert, hx, Bool.or_true]⟩, hasKey_pathInsert _ _ _⟩

theorem updateTree_ext : ∀ (fuel : Nat) (s : CSet) (p q : Nat) (s' : CSet),
    updateTree fuel s p q = some s' → Ext s s' ∧ hasKey s'.paths q = true
  | 0, s, p, q, s', h => by simp [updateTree] at h
  | fuel + 1, s, p, q, s', h => by
    rw [updateTree] at h
    split at h
    · rename_i hq
      cases h
      exact ⟨Ext.refl _, hq⟩
    · split at h
      · cases h
      · rename_i vp hvp
        dsimp only at h
        split at h
        · cases h
        · obtain ⟨hs1, hk⟩ := ext_insert s
            (if (vp ++ [q]).length > 2 then s.nCombined12 + 1 else s.nCombined12) q (vp ++ [q])
          -- every call of the fold extends the state and keeps `q` in the tree
          exact Loops.foldlM_inv _ (fun t => Ext s t ∧ hasKey t.paths q = true) _
            (fun x _ a b hab hf =>
              let e := (updateTree_ext fuel a q x b hf).1
              ⟨hab.1.trans e, e.keys q hab.2⟩)
            ⟨hs1, by rw [hk, beq_self_eq_true, Bool.true_or]⟩ h

theorem updateTree_frame (fuel : Nat) (s : CSet) (p q : Nat) (s' : CSet) (h : updateTree fuel s p q = some s') :
    s'.emittedRev = s.emittedRev ∧ s'.doubles = s.doubles ∧ s'.doublesRev = s.doublesRev :=
  let e := (updateTree_ext fuel s p q s' h).1
  ⟨e.emitted, e.doubles, e.doublesRev⟩

theorem updateTree_step {Q : Rel → Prop} {fuel s p q s'} (h : updateTree fuel s p q = some s')
    (hs : ∀ e ∈ s.doubles, Q e.2) : (∀ e ∈ s'.doubles, Q e.2) ∧ GrowsBy Q s s' := by
  obtain ⟨h1, h2, _⟩ := updateTree_frame fuel s p q s' h
  exact ⟨by rw [h2]; exact hs, [], h1, nofun⟩

theorem extendTree_step {Q : Rel → Prop} {s1 hasp hasq p q s'}
    (h : extendTree s1 hasp hasq p q = some s') (hs : ∀ e ∈ s1.doubles, Q e.2) :
    (∀ e ∈ s'.doubles, Q e.2) ∧ GrowsBy Q s1 s' := by
  unfold extendTree at h
  split at h
  · cases h
  · rename_i s2 hs2
    have h2 : (∀ e ∈ s2.doubles, Q e.2) ∧ GrowsBy Q s1 s2 := by
      split at hs2
      · exact updateTree_step hs2 hs
      · cases hs2; exact ⟨hs, .refl _⟩
    split at h
    · obtain ⟨h3, g3⟩ := updateTree_step h h2.1
      exact ⟨h3, h2.2.trans g3⟩
    · cases h; exact h2

theorem addPathSorted_step {Q : Rel → Prop} {s p q r s'} (h : addPathSorted s p q r = some s')
    (hs : ∀ e ∈ s.doubles, Q e.2) (hr : Q r) : (∀ e ∈ s'.doubles, Q e.2) ∧ GrowsBy Q s s' := by
  unfold addPathSorted at h
  split at h
  · cases h
    obtain ⟨h1, g1⟩ := emitPath_step (Q := Q) _ s hs
    obtain ⟨h2, g2⟩ := emitPath_step (Q := Q) _ _ h1
    exact ⟨h2, (g1.trans g2).trans ⟨[r], rfl, fun x hx => List.mem_singleton.1 hx ▸ hr⟩⟩
  · have := extendTree_step (Q := Q) h fun e he => by
      rcases mem_mapInsert he with he | he
      · rw [he]; exact hr
      · exact hs e he
    exact this

theorem add_step {Q : Rel → Prop} {s r s'} (h : add s r = some s') (hs : ∀ e ∈ s.doubles, Q e.2)
    (hr : Q r) : (∀ e ∈ s'.doubles, Q e.2) ∧ GrowsBy Q s s' := by
  have hpath : ∀ (s0 : CSet) p q, addPath s0 p q r = some s' → (∀ e ∈ s0.doubles, Q e.2) →
      (∀ e ∈ s'.doubles, Q e.2) ∧ GrowsBy Q s0 s' := by
    intro s0 p q h1 h0
    unfold addPath at h1
    split at h1 <;> exact addPathSorted_step h1 h0 hr
  unfold add at h
  split at h
  · cases h; exact ⟨hs, [r], rfl, fun x hx => List.mem_singleton.1 hx ▸ hr⟩
  · split at h
    · have := hpath _ _ _ h hs
      exact this
    · cases h; exact ⟨hs, .refl _⟩
  · split at h
    · cases h
    · have := hpath _ _ _ h hs
      exact this
  · cases h; exact ⟨hs, .refl _⟩

/-- a whole history: besides the two facts kept by every `add`, every complete relation (no large prime) of the
history is among the emitted ones, since `add` emits it at once and the emitted list only grows -/
theorem run_step {Q : Rel → Prop} : ∀ (rs : List Rel) (s s' : CSet), run s rs = some s' →
    (∀ e ∈ s.doubles, Q e.2) → (∀ r ∈ rs, Q r) → (∀ e ∈ s'.doubles, Q e.2) ∧ GrowsBy Q s s' ∧
      ∀ r ∈ rs, r.large1 = none → r.large2 = none → r ∈ s'.emittedRev
  | [], s, s', h, hs, _ => by cases h; exact ⟨hs, .refl _, nofun⟩
  | r :: rs, s, s', h, hs, hQ => by
    rw [run] at h
    split at h
    · cases h
    · rename_i s1 h1
      obtain ⟨d1, g1⟩ := add_step h1 hs (hQ r List.mem_cons_self)
      obtain ⟨d2, g2, c2⟩ := run_step rs s1 s' h d1 (fun x hx => hQ x (List.mem_cons_of_mem _ hx))
      refine ⟨d2, g1.trans g2, fun x hx l1 l2 => ?_⟩
      rcases List.mem_cons.1 hx with rfl | hx
      · obtain ⟨l, hl, -⟩ := g2
        rw [hl]
        refine List.mem_append_right _ ?_
        unfold add at h1
        rw [l1, l2] at h1
        cases h1
        exact List.mem_cons_self
      · exact c2 x hx l1 l2

theorem run_complete (rs : List Rel) (s s' : CSet) (h : run s rs = some s') :
    ∀ r ∈ rs, r.large1 = none → r.large2 = none → r ∈ s'.emittedRev :=
  (run_step (Q := fun _ => True) rs s s' h (fun _ _ => trivial) (fun _ _ => trivial)).2.2

theorem StoreInv.of_growsBy {I : List Rel} {s s' : CSet} (hs : StoreInv I s)
    (h : (∀ e ∈ s'.doubles, e.2 ∈ I) ∧ GrowsBy (· ∈ I) s s') : StoreInv I s' := by
  obtain ⟨hd, l, he, hl⟩ := h
  refine ⟨fun x hx => ?_, hd⟩
  rw [he] at hx
  rcases List.mem_append.1 hx with h | h
  · exact hl x h
  · exact hs.1 x h

theorem add_inv {I s r s'} (h : add s r = some s') (hs : StoreInv I s) (hr : r ∈ I) : StoreInv I s' :=
  hs.of_growsBy (add_step h hs.2 hr)

theorem run_inv {I} (rs : List Rel) (s s' : CSet) (h : run s rs = some s') (hs : StoreInv I s)
    (hI : ∀ r ∈ rs, r ∈ I) : StoreInv I s' :=
  let h := run_step rs s s' h hs.2 hI
  hs.of_growsBy ⟨h.1, h.2.1⟩

end Ymq.ClassGroup
