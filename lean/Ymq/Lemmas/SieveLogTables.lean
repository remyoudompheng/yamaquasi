/-
C13 helper lemmas for the primes ≥ 32768: the offsets `Sieve::new` and `rehash` register for a prime are the positions
of the interval congruent to one of its roots, each once (`OffsFor`, `offs_for`); the closed form `tabF` of
what such a prime adds at a position and its bound (`tabSum_le`).
-/
import Ymq.Lemmas.SieveFill
import Ymq.Lemmas.SieveBuckets
import Ymq.Lemmas.SieveLogCover
import Ymq.Lemmas.SieveTotal

namespace Ymq.SieveLog
open Ymq.Sieve

/-- what prime index `pidx` (a prime ≥ 32768, of a size-class table or of a large table) adds at the absolute position
`X`: its bit length when `X` is below the interval end and congruent to one of its two roots. -/
def tabF (fb : FB) (r1 r2 : Array Nat) (interval X pidx : Nat) : Nat :=
  match fb.primes[pidx]?, r1[pidx]?, r2[pidx]? with
  | some p, some o1, some o2 => if X < interval ∧ (X % p = o1 ∨ X % p = o2) then bitlen p else 0
  | _, _, _ => 0

/-- `O` lists, for every prime ≥ 32768 (whose two roots differ), the positions below the interval end congruent to one
of its two roots, each once. -/
def OffsFor (fb : FB) (r1 r2 : Array Nat) (interval : Nat) (O : Nat → List Nat) : Prop :=
  ∀ {pidx p o1 o2 : Nat}, fb.primes[pidx]? = some p → 32768 ≤ p → r1[pidx]? = some o1 → r2[pidx]? = some o2 →
    Enum (O pidx) (fun x => x < interval ∧ (x % p = o1 ∨ x % p = o2))

theorem offs_for {fb : FB} {r1 r2 : Array Nat} {interval : Nat} (hr : RootsOK fb r1 r2) (hd : RootsDistinct fb r1 r2) :
    OffsFor fb r1 r2 interval (offsL fb r1 r2 interval) ∧ OffsFor fb r1 r2 interval (offsV fb r1 r2 interval) := by
  have key : ∀ {pidx p o1 o2 : Nat}, fb.primes[pidx]? = some p → 32768 ≤ p → r1[pidx]? = some o1 →
      r2[pidx]? = some o2 → 0 < p ∧ o1 < p ∧ o2 < p ∧ o1 ≠ o2 := fun hp hbig h1 h2 => by
    obtain ⟨o1', o2', h1', h2', hl1, hl2⟩ := hr _ _ hp
    rw [h1] at h1'; rw [h2] at h2'
    cases h1'; cases h2'
    exact ⟨by omega, hl1, hl2, fun e => hd _ _ hp hbig (by rw [h1, h2, e])⟩
  constructor
  · intro pidx p o1 o2 hp hbig h1 h2
    obtain ⟨hp0, hl1, hl2, hne⟩ := key hp hbig h1 h2
    obtain ⟨l, hl⟩ := largeOffsets_some interval p o1 o2 hp0
    rw [offsL_eq hp h1 h2 hl]
    exact largeOffsets_enum hp0 hl1 hl2 hne hl
  · intro pidx p o1 o2 hp hbig h1 h2
    obtain ⟨hp0, hl1, hl2, hne⟩ := key hp hbig h1 h2
    obtain ⟨l, hl⟩ := vlargeOffsets_some interval p o1 o2 hp0
    rw [offsV_eq hp h1 h2 hl]
    exact vlargeOffsets_enum hp0 hl1 hl2 hne hl

/-- recycled tables have the bucket-length array of a sieve with the same number of blocks (and the 32 slots). -/
def RecycledBlens (n : Nat) (recycled : Option (Array Table × Array LTable)) : Prop :=
  ∀ ts lts, recycled = some (ts, lts) → ∀ (i : Nat) (t : Table), ts[i]? = some t →
    t.blens.size = 128 * n ∧ t.overflows.size = 32

theorem RecycledBlens.ok {n : Nat} {recycled : Option (Array Table × Array LTable)} (h : RecycledBlens n recycled) :
    RecycledOK recycled := fun ts lts hr i t ht => (h ts lts hr i t ht).2

/-- recycled tables of the same `nblocks` (what `Sieve::recycle` returns). -/
def RecycledLens (n : Nat) (recycled : Option (Array Table × Array LTable)) : Prop :=
  RecycledBlens n recycled ∧ ∀ ts lts, recycled = some (ts, lts) → ∀ (i : Nat) (t : LTable), lts[i]? = some t →
    2 * n ≤ t.lengths.size

theorem big_of_class {fb : FB} (hfb : fb.WF) {l idx1 pidx p : Nat} (hl : 16 ≤ l) (hi : fb.ibl[l]? = some idx1)
    (hle : idx1 ≤ pidx) (hp : fb.primes[pidx]? = some p) : 32768 ≤ p := by
  have := hfb.ibl_spec _ _ _ _ hi hp
  have h16 : ¬ bitlen p < 15 + 1 := by omega
  rw [bitlen_lt_succ_iff] at h16
  norm_num at h16; exact h16

/-- the table term is bounded by the bit lengths of any finite set of primes that contains every prime ≥ 32768
with a root at `X`. -/
theorem tabSum_le {fb : FB} {r1 r2 : Array Nat} {interval X nS : Nat} (hfb : fb.WF) (hr : RootsOK fb r1 r2)
    (hnS : fb.ibl[16]? = some nS) (ps : Finset ℕ)
    (hps : ∀ (i p o : Nat), fb.primes[i]? = some p → 32768 ≤ p → (r1[i]? = some o ∨ r2[i]? = some o) →
      X % p = o → p ∈ ps) :
    rangeSum (tabF fb r1 r2 interval X) nS (fb.primes.size - nS) ≤ ∑ p ∈ ps, bitlen p := by
  unfold rangeSum
  refine primeSum_le hfb _ ps (fun i _ _ => by omega) ?_
  intro i p hlo _ hp
  obtain ⟨o1, o2, h1, h2, _⟩ := hr i p hp
  have hbig := big_of_class hfb (le_refl 16) hnS hlo hp
  unfold tabF
  simp only [hp, h1, h2]
  split
  · next c =>
    exact ⟨le_refl _, fun _ => c.2.elim (hps i p o1 hp hbig (Or.inl h1)) (hps i p o2 hp hbig (Or.inr h2))⟩
  · exact ⟨Nat.zero_le _, fun h => absurd h (lt_irrefl 0)⟩

end Ymq.SieveLog
