/- `reduce64`: the loop invariant (linear relations, determinant, magnitude bounds), kept by a
continuing iteration, under which an iteration does not panic. -/
import Ymq.Lemmas.GcdReduce
import Ymq.Lemmas.GcdWords
import Mathlib.Algebra.Order.Ring.Abs

namespace Ymq.Gcd

theorem abs_mul_sub_opp {p s k : Int} (hk : 0 ≤ k) (h : p * s ≤ 0) : |k * s - p| = k * |s| + |p| := by
  rcases lt_trichotomy s 0 with hs | hs | hs
  · have hp : 0 ≤ p := by nlinarith
    have : k * s - p ≤ 0 := by nlinarith
    rw [abs_of_nonpos this, abs_of_neg hs, abs_of_nonneg hp]; ring
  · subst hs; simp
  · have hp : p ≤ 0 := by nlinarith
    have : 0 ≤ k * s - p := by nlinarith
    rw [abs_of_nonneg this, abs_of_pos hs, abs_of_nonpos hp]; ring

theorem abs_mul_sub_same {p s k : Int} (h : 0 ≤ p * s) (hle : |p| ≤ k * |s|) :
    |k * s - p| = k * |s| - |p| := by
  rcases lt_trichotomy s 0 with hs | hs | hs
  · have hp : p ≤ 0 := by nlinarith
    rw [abs_of_neg hs, abs_of_nonpos hp] at hle
    have : k * s - p ≤ 0 := by nlinarith
    rw [abs_of_nonpos this, abs_of_neg hs, abs_of_nonpos hp]; ring
  · subst hs; simp at hle ⊢; simp [hle]
  · have hp : 0 ≤ p := by nlinarith
    rw [abs_of_pos hs, abs_of_nonneg hp] at hle
    have : 0 ≤ k * s - p := by nlinarith
    rw [abs_of_nonneg this, abs_of_pos hs, abs_of_nonneg hp]

theorem mul_le_sq_of_abs_le {p s : Int} (h : |p| ≤ |s|) : p * s ≤ s * s := by
  have h1 : p * s ≤ |p * s| := le_abs_self _
  rw [abs_mul] at h1
  have h2 : |p| * |s| ≤ |s| * |s| := mul_le_mul_of_nonneg_right h (abs_nonneg s)
  rw [abs_mul_abs_self] at h2
  linarith

/-- column invariant: the previous cofactor is not larger than the current one (or we are at the
very first step, where the column is `(±1, 0)`) -/
def Col (p s : Int) : Prop := |p| ≤ |s| ∨ (s = 0 ∧ |p| ≤ 1)

/-- sign mode of the two columns: opposite signs, or equal signs right after a "ceiling" step
(then the next quotient is at least 2) -/
def Mode (p s : Int) (same : Prop) : Prop := p * s ≤ 0 ∨ (0 ≤ p * s ∧ same)

/-- one column under a step `s' = k s - p` (`k = q + 1` in a ceiling step; a floor step gives `-s'`
with `k = q`): the new entry dominates the old one, has its sign, and is at most `(k + 1) |s|` -/
theorem col_step {p s k : Int} (hk : 1 ≤ k) (hcol : Col p s) (hmode : p * s ≤ 0 ∨ (0 ≤ p * s ∧ 2 ≤ k)) :
    Col s (k * s - p) ∧ 0 ≤ s * (k * s - p) ∧ (|k * s - p| ≤ (k + 1) * |s| ∨ |k * s - p| ≤ 1) := by
  have hs0 := abs_nonneg s
  have hp0 := abs_nonneg p
  unfold Col at hcol ⊢
  rcases hcol with hcol | ⟨rfl, hp1⟩
  · have hks : |s| ≤ k * |s| := le_mul_of_one_le_left hs0 hk
    have hsign : 0 ≤ s * (k * s - p) := by
      have hps := mul_le_sq_of_abs_le hcol
      have hkss : s * s ≤ k * (s * s) := le_mul_of_one_le_left (mul_self_nonneg s) hk
      linarith
    rcases hmode with hm | ⟨hm, hk2⟩
    · rw [abs_mul_sub_opp (by linarith) hm]
      exact ⟨Or.inl (by linarith), hsign, Or.inl (by linarith)⟩
    · have h2s : 2 * |s| ≤ k * |s| := mul_le_mul_of_nonneg_right hk2 hs0
      rw [abs_mul_sub_same hm (by linarith)]
      exact ⟨Or.inl (by linarith), hsign, Or.inl (by linarith)⟩
  · exact ⟨Or.inl (by simp), by simp, Or.inr (by simpa using hp1)⟩

theorem NearQ.abs_e {x y : Nat} {e k : Int} {y' : Nat} (h : NearQ x y e k y') (z : Int) : |e * z| = |z| := by
  rcases h.sign with he | he <;> rw [he] <;> simp

theorem Col.sign {p s e : Int} (h : Col p s) (he : e = 1 ∨ e = -1) : Col p (e * s) := by
  rcases he with rfl | rfl
  · rwa [one_mul]
  · rw [neg_one_mul]; exact h.imp (fun h => by rwa [abs_neg]) fun ⟨h0, h⟩ => ⟨neg_eq_zero.2 h0, h⟩

theorem col_step_lt {p s k m B : Int} (hk : 0 ≤ k) (hsm : |s| ≤ m) (hb : (k + 1) * m < B) (hB : 1 < B)
    (h : |k * s - p| ≤ (k + 1) * |s| ∨ |k * s - p| ≤ 1) : |k * s - p| < B := by
  rcases h with h | h
  · exact lt_of_le_of_lt (le_trans h (mul_le_mul_of_nonneg_left hsm (by linarith))) hb
  · exact lt_of_le_of_lt h hB

theorem nobreak_bound {q m : Nat} (h : bits (q + 1) + bits m ≤ 36) : (q + 2) * m < 2 ^ 36 := by
  have h1 := lt_two_pow_bits (q + 1)
  have h2 := lt_two_pow_bits m
  have h3 : q + 2 ≤ 2 ^ bits (q + 1) := by omega
  rcases Nat.eq_zero_or_pos m with hm | hm
  · subst hm; simp
  · calc (q + 2) * m ≤ 2 ^ bits (q + 1) * m := Nat.mul_le_mul_right _ h3
      _ < 2 ^ bits (q + 1) * 2 ^ bits m := Nat.mul_lt_mul_of_pos_left h2 (Nat.pow_pos (by decide))
      _ = 2 ^ (bits (q + 1) + bits m) := (Nat.pow_add _ _ _).symm
      _ ≤ 2 ^ 36 := Nat.pow_le_pow_right (by decide) h

/-- loop invariant of `reduce64` on the words `x`, `y`, matrix `(a b; c d)`, values `(u, v)`: the rows express the
values (`relu`, `relv`), the matrix is unimodular, in each column the previous cofactor is not larger than the current
one (`colac`, `colbd`), every entry is below `2^36` (the code's debug assertions), and `phase`: the loop is in its
initial state, or in the initial state after the swap (`x < y`), or it has made a quotient step, after which
`u <= min x y`, `2 v <= u` (nearest-integer remainder) and `u >= 2^24` (the guard was passed) -/
structure RInv (x y : Nat) (a b c d : Int) (u v : Nat) : Prop where
  relu : a * x + b * y = u
  relv : c * x + d * y = v
  det : Unimod a b c d
  colac : Col a c
  colbd : Col b d
  ba : |a| < 2 ^ 36
  bb : |b| < 2 ^ 36
  bc : |c| < 2 ^ 36
  bd : |d| < 2 ^ 36
  phase : (a = 1 ∧ b = 0 ∧ c = 0 ∧ d = 1 ∧ u = x ∧ v = y) ∨
    (a = 0 ∧ b = 1 ∧ c = 1 ∧ d = 0 ∧ u = y ∧ v = x ∧ x < y) ∨
    (u ≤ min x y ∧ 2 * v ≤ u ∧ 2 ^ 24 ≤ u)

theorem RInv_init (x y : Nat) : RInv x y 1 0 0 1 x y where
  relu := by simp
  relv := by simp
  det := Or.inl (by ring)
  colac := Or.inr ⟨rfl, by simp⟩
  colbd := Or.inl (by simp)
  ba := by simp
  bb := by simp
  bc := by simp
  bd := by simp
  phase := Or.inl ⟨rfl, rfl, rfl, rfl, rfl, rfl⟩

theorem abs_le_max_natAbs_left (c d : Int) : |c| ≤ ((max c.natAbs d.natAbs : Nat) : Int) := by
  rw [Int.abs_eq_natAbs]; exact_mod_cast Nat.le_max_left _ _

theorem abs_le_max_natAbs_right (c d : Int) : |d| ≤ ((max c.natAbs d.natAbs : Nat) : Int) := by
  rw [Int.abs_eq_natAbs]; exact_mod_cast Nat.le_max_right _ _

theorem RInv.step_facts {x y : Nat} {a b c d : Int} {u v : Nat} (hinv : RInv x y a b c d u v)
    (hv : 2 ^ 24 ≤ v) (hvu : v ≤ u) (hnb : bits (u / v + 1) + bits (max c.natAbs d.natAbs) ≤ 36) :
    (1 : Int) ≤ ((u / v : Nat) : Int) ∧
    (a * c ≤ 0 ∨ (0 ≤ a * c ∧ (2 : Int) ≤ ((u / v : Nat) : Int))) ∧
    (b * d ≤ 0 ∨ (0 ≤ b * d ∧ (2 : Int) ≤ ((u / v : Nat) : Int))) ∧
    |c| ≤ ((max c.natAbs d.natAbs : Nat) : Int) ∧ |d| ≤ ((max c.natAbs d.natAbs : Nat) : Int) ∧
    (((u / v : Nat) : Int) + 2) * ((max c.natAbs d.natAbs : Nat) : Int) < 2 ^ 36 ∧
    ((max c.natAbs d.natAbs : Nat) : Int) < 2 ^ 34 := by
  have hvpos : 0 < v := by omega
  have hq1 : 1 ≤ u / v := Nat.div_pos hvu hvpos
  have hb2 := two_le_bits (n := u / v + 1) (by omega)
  have hm := lt_of_bits_le (n := max c.natAbs d.natAbs) (k := 34) (by omega)
  -- the first regular step works on the identity or the swap matrix (column products 0); afterwards `2 v <= u`
  have hmode : (a * c ≤ 0 ∨ (0 ≤ a * c ∧ (2 : Int) ≤ ((u / v : Nat) : Int))) ∧
      (b * d ≤ 0 ∨ (0 ≤ b * d ∧ (2 : Int) ≤ ((u / v : Nat) : Int))) := by
    rcases hinv.phase with ⟨rfl, rfl, rfl, rfl, _⟩ | ⟨rfl, rfl, rfl, rfl, _⟩ | ⟨_, h2, _⟩
    · exact ⟨Or.inl (by simp), Or.inl (by simp)⟩
    · exact ⟨Or.inl (by simp), Or.inl (by simp)⟩
    · have hq : (2 : Int) ≤ ((u / v : Nat) : Int) := by exact_mod_cast (Nat.le_div_iff_mul_le hvpos).2 h2
      exact ⟨(le_total (a * c) 0).imp_right fun h => ⟨h, hq⟩, (le_total (b * d) 0).imp_right fun h => ⟨h, hq⟩⟩
  exact ⟨by exact_mod_cast hq1, hmode.1, hmode.2, abs_le_max_natAbs_left c d, abs_le_max_natAbs_right c d,
    by exact_mod_cast nobreak_bound hnb, by exact_mod_cast hm⟩

theorem I63_eq : I63 = 2 ^ 63 := by unfold I63; norm_num

theorem mulSub64_of_abs {p c a : Int} (h1 : |p * c| < 2 ^ 36) (h2 : |a| < 2 ^ 36) :
    mulSub64 p c a = some (p * c - a) := by
  obtain ⟨l1, u1⟩ := abs_lt.1 h1
  obtain ⟨l2, u2⟩ := abs_lt.1 h2
  unfold mulSub64
  rw [chkI64_of_range (by rw [I63_eq]; linarith) (by rw [I63_eq]; linarith)]
  exact chkI64_of_range (by rw [I63_eq]; linarith) (by rw [I63_eq]; linarith)

theorem subMul64_of_abs {a q c : Int} (h1 : |q * c| < 2 ^ 36) (h2 : |a| < 2 ^ 36) :
    subMul64 a q c = some (a - q * c) := by
  obtain ⟨l1, u1⟩ := abs_lt.1 h1
  obtain ⟨l2, u2⟩ := abs_lt.1 h2
  unfold subMul64
  rw [chkI64_of_range (by rw [I63_eq]; linarith) (by rw [I63_eq]; linarith)]
  exact chkI64_of_range (by rw [I63_eq]; linarith) (by rw [I63_eq]; linarith)

theorem abs_mul_lt_of_le {k k' c B : Int} (hk : 0 ≤ k) (hkk : k ≤ k') (h : k' * |c| < B) :
    |k * c| < B := by
  rw [abs_mul, abs_of_nonneg hk]
  exact lt_of_le_of_lt (mul_le_mul_of_nonneg_right hkk (abs_nonneg c)) h

/-- one iteration of the loop under the invariant, total: it swaps (`u < v`), breaks on the matrix-size
test, or performs a quotient step; no checked i64 operation and no debug assertion fails -/
theorem reduce64Body_spec {x y : Nat} {a b c d : Int} {u v : Nat}
    (hinv : RInv x y a b c d u v) (hu : u < W) (hv : 2 ^ 24 ≤ v) :
    (u < v ∧ reduce64Body x y a b c d u v = some (.cont c d a b v u)) ∨
    (v ≤ u ∧ bits (u / v + 1) + bits (max c.natAbs d.natAbs) > 36 ∧
      reduce64Body x y a b c d u v = some .brk) ∨
    (v ≤ u ∧ bits (u / v + 1) + bits (max c.natAbs d.natAbs) ≤ 36 ∧
      ∃ e k v', NearQ u v e k v' ∧ (e * (k * c - a)) * x + (e * (k * d - b)) * y = (v' : Int) ∧
        reduce64Body x y a b c d u v = some (.cont c d (e * (k * c - a)) (e * (k * d - b)) v v')) := by
  by_cases huv : u < v
  · left
    unfold reduce64Body
    rw [if_pos huv, if_neg (by rw [hinv.relu, hinv.relv]; simp)]
    exact ⟨huv, rfl⟩
  · right
    have hvu : v ≤ u := Nat.le_of_not_lt huv
    rw [reduce64Body_quot huv hu hv]
    have hc63 : ¬ (c = -I63 ∨ d = -I63) := by
      have hbc := hinv.bc
      have hbd := hinv.bd
      rw [I63_eq]; intro hcd
      rcases hcd with rfl | rfl
      · norm_num at hbc
      · norm_num at hbd
    rw [if_neg hc63]
    by_cases hbrk : bits (u / v + 1) + bits (max c.natAbs d.natAbs) > 36
    · rw [if_pos hbrk]; exact Or.inl ⟨hvu, hbrk, rfl⟩
    · right
      rw [if_neg hbrk]
      refine ⟨hvu, Nat.le_of_not_lt hbrk, ?_⟩
      have hq0 : (0 : Int) ≤ ((u / v : Nat) : Int) := Int.natCast_nonneg _
      -- the matrix-size test bounds `(q + 2) * |c|`, `(q + 2) * |d|` by `2^36`
      have hbndI : (((u / v : Nat) : Int) + 2) * ((max c.natAbs d.natAbs : Nat) : Int) < 2 ^ 36 := by
        exact_mod_cast nobreak_bound (Nat.le_of_not_lt hbrk)
      have hq2 : (0 : Int) ≤ ((u / v : Nat) : Int) + 2 := add_nonneg hq0 zero_le_two
      have h1c : (((u / v : Nat) : Int) + 2) * |c| < 2 ^ 36 :=
        lt_of_le_of_lt (mul_le_mul_of_nonneg_left (abs_le_max_natAbs_left c d) hq2) hbndI
      have h1d : (((u / v : Nat) : Int) + 2) * |d| < 2 ^ 36 :=
        lt_of_le_of_lt (mul_le_mul_of_nonneg_left (abs_le_max_natAbs_right c d) hq2) hbndI
      -- for either rounding: the new row has the new value, and the products `k c`, `k d` are small
      have key : ∀ {e k : Int} {v' : Nat}, NearQ u v e k v' →
          (e * (k * c - a)) * x + (e * (k * d - b)) * y = (v' : Int) ∧ |k * c| < 2 ^ 36 ∧ |k * d| < 2 ^ 36 :=
        fun {e k v'} nq => ⟨by rw [nq.val, ← hinv.relu, ← hinv.relv]; ring,
          abs_mul_lt_of_le (le_trans hq0 nq.klo) (by have := nq.khi; omega) h1c,
          abs_mul_lt_of_le (le_trans hq0 nq.klo) (by have := nq.khi; omega) h1d⟩
      rcases nearQ_cases (x := u) (y := v) (by omega) with ⟨hr, nq⟩ | ⟨hr, nq⟩ <;>
        obtain ⟨e2, kc, kd⟩ := key nq <;> refine ⟨_, _, _, nq, e2, ?_⟩
      · rw [if_pos (by omega), mulSub64_of_abs kc hinv.ba, mulSub64_of_abs kd hinv.bb]
        simp only
        rw [one_mul, one_mul] at e2 ⊢
        rw [if_neg (by rw [hinv.relv, e2]; simp)]
      · rw [if_neg (by omega), subMul64_of_abs kc hinv.ba, subMul64_of_abs kd hinv.bb]
        simp only
        rw [neg_one_mul, neg_one_mul, neg_sub, neg_sub] at e2 ⊢
        rw [if_neg (by rw [hinv.relv, e2]; simp)]

theorem reduce64Body_progress {x y : Nat} {a b c d : Int} {u v : Nat}
    (hinv : RInv x y a b c d u v) (hu : u < W) (hv : 2 ^ 24 ≤ v) :
    ∃ st, reduce64Body x y a b c d u v = some st := by
  rcases reduce64Body_spec hinv hu hv with ⟨_, e⟩ | ⟨_, _, e⟩ | ⟨_, _, _, _, _, _, _, e⟩ <;> exact ⟨_, e⟩

theorem reduce64Body_cont {x y : Nat} {a b c d : Int} {u v : Nat} {a' b' c' d' : Int} {u' v' : Nat}
    (hinv : RInv x y a b c d u v) (hu : u < W) (hv : 2 ^ 24 ≤ v)
    (h : reduce64Body x y a b c d u v = some (.cont a' b' c' d' u' v')) :
    (u < v ∧ a' = c ∧ b' = d ∧ c' = a ∧ d' = b ∧ u' = v ∧ v' = u ∧
      a' * x + b' * y = u' ∧ c' * x + d' * y = v') ∨
    (v ≤ u ∧ a' = c ∧ b' = d ∧ u' = v ∧ a' * x + b' * y = u' ∧ c' * x + d' * y = v' ∧
      bits (u / v + 1) + bits (max c.natAbs d.natAbs) ≤ 36 ∧
      ∃ e k, NearQ u v e k v' ∧ c' = e * (k * c - a) ∧ d' = e * (k * d - b)) := by
  rcases reduce64Body_spec hinv hu hv with ⟨huv, e⟩ | ⟨_, _, e⟩ | ⟨hvu, hnb, e, k, v'', nq, r2, e'⟩
  · rw [e] at h; cases h; exact Or.inl ⟨huv, rfl, rfl, rfl, rfl, rfl, rfl, hinv.relv, hinv.relu⟩
  · rw [e] at h; simp at h
  · rw [e'] at h; cases h; exact Or.inr ⟨hvu, rfl, rfl, rfl, hinv.relv, r2, hnb, e, k, nq, rfl, rfl⟩

theorem reduce64Body_brk {x y : Nat} {a b c d : Int} {u v : Nat}
    (hinv : RInv x y a b c d u v) (hu : u < W) (hv : 2 ^ 24 ≤ v)
    (h : reduce64Body x y a b c d u v = some .brk) :
    v ≤ u ∧ bits (u / v + 1) + bits (max c.natAbs d.natAbs) > 36 := by
  rcases reduce64Body_spec hinv hu hv with ⟨_, e⟩ | ⟨hvu, hb, _⟩ | ⟨_, _, _, _, _, _, _, e⟩
  · rw [e] at h; simp at h
  · exact ⟨hvu, hb⟩
  · rw [e] at h; simp at h

theorem RInv_cont {x y : Nat} {a b c d : Int} {u v : Nat} {a' b' c' d' : Int} {u' v' : Nat}
    (hinv : RInv x y a b c d u v) (hu : u < W) (hv : 2 ^ 24 ≤ v)
    (h : reduce64Body x y a b c d u v = some (.cont a' b' c' d' u' v')) :
    RInv x y a' b' c' d' u' v' := by
  rcases reduce64Body_cont hinv hu hv h with ⟨huv, e1, e2, e3, e4, e5, e6, r1, r2⟩ |
    ⟨hvu, e1, e2, e5, r1, r2, hnb, e, k, nq, f1, f2⟩
  · -- swap: only possible in the initial state
    have e5' := e5.symm; have e6' := e6.symm
    subst e1 e2 e3 e4 e5' e6'
    rcases hinv.phase with ⟨rfl, rfl, rfl, rfl, rfl, rfl⟩ | ⟨_, _, _, _, rfl, rfl, hxy⟩ | ⟨_, h2, _⟩
    · exact ⟨r1, r2, hinv.det.swap, Or.inl (by simp), Or.inr ⟨rfl, by simp⟩,
        by simp, by simp, by simp, by simp, Or.inr (Or.inl ⟨rfl, rfl, rfl, rfl, rfl, rfl, huv⟩)⟩
    · omega
    · omega
  · have e5' := e5.symm
    subst e1 e2 e5' f1 f2
    have hphase : v ≤ min x y := by
      rcases hinv.phase with ⟨_, _, _, _, rfl, rfl⟩ | ⟨_, _, _, _, rfl, rfl, hxy⟩ | ⟨h1, h2, _⟩ <;> omega
    obtain ⟨hq1, hmac, hmbd, hca, hcb, hbnd, _⟩ := hinv.step_facts hv hvu hnb
    have hk1 : (1 : Int) ≤ k := le_trans hq1 nq.klo
    have hk0 : (0 : Int) ≤ k := le_trans zero_le_one hk1
    have hm0 : (0 : Int) ≤ ((max a'.natAbs b'.natAbs : Nat) : Int) := Int.natCast_nonneg _
    have hbnd' : (k + 1) * ((max a'.natAbs b'.natAbs : Nat) : Int) < 2 ^ 36 :=
      lt_of_le_of_lt (mul_le_mul_of_nonneg_right (by have := nq.khi; omega) hm0) hbnd
    obtain ⟨k1, _, k3⟩ := col_step hk1 hinv.colac (hmac.imp_right fun h => ⟨h.1, le_trans h.2 nq.klo⟩)
    obtain ⟨l1, _, l3⟩ := col_step hk1 hinv.colbd (hmbd.imp_right fun h => ⟨h.1, le_trans h.2 nq.klo⟩)
    have h36 : (1 : Int) < 2 ^ 36 := by norm_num
    exact ⟨r1, r2, hinv.det.quot nq.sign, k1.sign nq.sign, l1.sign nq.sign, hinv.bc, hinv.bd,
      by rw [nq.abs_e]; exact col_step_lt hk0 hca hbnd' h36 k3,
      by rw [nq.abs_e]; exact col_step_lt hk0 hcb hbnd' h36 l3,
      Or.inr (Or.inr ⟨hphase, nq.half, hv⟩)⟩

theorem reduce64Body_cont_measure {x y : Nat} {a b c d : Int} {u v : Nat} {a' b' c' d' : Int} {u' v' : Nat}
    (hinv : RInv x y a b c d u v) (hu : u < W) (hv : 2 ^ 24 ≤ v)
    (h : reduce64Body x y a b c d u v = some (.cont a' b' c' d' u' v')) :
    (u < v ∧ u' = v ∧ v' = u) ∨ (v ≤ u ∧ u' = v ∧ 2 * v' ≤ v) := by
  rcases reduce64Body_cont hinv hu hv h with ⟨huv, _, _, _, _, e5, e6, _⟩ | ⟨hvu, _, _, e5, _, _, _, _, _, nq, _⟩
  · exact Or.inl ⟨huv, e5, e6⟩
  · exact Or.inr ⟨hvu, e5, nq.half⟩

/-- exit condition of the `while` loop: the guard fails or the matrix-size test breaks -/
def R64Exit (c d : Int) (u v : Nat) : Prop :=
  ¬ (2 ^ 24 ≤ u ∧ 2 ^ 24 ≤ v) ∨ (v ≤ u ∧ bits (u / v + 1) + bits (max c.natAbs d.natAbs) > 36)

theorem reduce64Exit_of_RInv {x y : Nat} {a b c d : Int} {u v : Nat} (hinv : RInv x y a b c d u v) :
    reduce64Exit a b c d = some (a, b, c, d) := by
  unfold reduce64Exit
  have h1 := hinv.ba; have h2 := hinv.bb; have h3 := hinv.bc; have h4 := hinv.bd
  rw [Int.abs_eq_natAbs] at h1 h2 h3 h4
  have hp : ((2 : Int) ^ 36) = ((2 ^ 36 : Nat) : Int) := by norm_num
  rw [hp] at h1 h2 h3 h4
  have h1' : a.natAbs < 2 ^ 36 := by exact_mod_cast h1
  have h2' : b.natAbs < 2 ^ 36 := by exact_mod_cast h2
  have h3' : c.natAbs < 2 ^ 36 := by exact_mod_cast h3
  have h4' : d.natAbs < 2 ^ 36 := by exact_mod_cast h4
  rw [if_pos ⟨by omega, by omega, by omega, by omega⟩]

/-- one column `(p, s)` of the reduce64 matrix against the reduced vector `(U, V)`:
`|s U - p V| = X` bounds both entries by `2 X / U` -/
theorem col_entry_bound {p s U V X : Int} (hU : 0 ≤ U) (hV : 0 ≤ V) (h2 : 2 * V ≤ U)
    (hcol : Col p s) (hX : |s * U - p * V| = X) (hUX : U ≤ X) :
    |s| * U ≤ 2 * X ∧ |p| * U ≤ 2 * X := by
  have hX0 : 0 ≤ X := by rw [← hX]; exact abs_nonneg _
  rcases hcol with hcol | ⟨rfl, hp1⟩
  · have hs0 := abs_nonneg s
    have hp0 := abs_nonneg p
    have h1 : |s| * U - |p| * V ≤ X := by
      have := abs_sub_abs_le_abs_sub (s * U) (p * V)
      rw [abs_mul, abs_mul, abs_of_nonneg hU, abs_of_nonneg hV, hX] at this
      exact this
    have h3 : |p| * V ≤ |s| * V := mul_le_mul_of_nonneg_right hcol hV
    have h4 : 2 * (|s| * V) ≤ |s| * U := by nlinarith
    have h5 : |s| * U ≤ 2 * X := by linarith
    exact ⟨h5, le_trans (mul_le_mul_of_nonneg_right hcol hU) h5⟩
  · constructor
    · simp; linarith
    · have : |p| * U ≤ 1 * U := mul_le_mul_of_nonneg_right hp1 hU
      linarith

end Ymq.Gcd
