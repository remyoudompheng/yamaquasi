/-
C14 "small", helper lemmas (Mathlib): words as vectors of `GF(2)^n` (`vec`), matrices
(`toMat`), the echelon lemma (rows whose lowest set bits are distinct and below `i` cannot take part
in a combination that vanishes below `i`), span of the rows under the row operations of the model.
-/
import Ymq.Lemmas.Gf2SmallBasic
import Mathlib.LinearAlgebra.Matrix.Rank
import Mathlib.LinearAlgebra.FiniteDimensional.Lemmas
import Mathlib.Algebra.Field.ZMod

namespace Ymq.Gf2Small
open Matrix Module

/-- an `n`-bit word as a vector of `GF(2)^n` -/
def vec (n w : Nat) : Fin n → ZMod 2 := fun j => if w.testBit j then 1 else 0

/-- a list of `n` words as an `n × n` matrix over `GF(2)`: entry `(i, j)` = bit `j` of row `i` -/
def toMat (n : Nat) (m : Mat) : Matrix (Fin n) (Fin n) (ZMod 2) := fun i => vec n (row m i)

theorem vec_apply (n w : Nat) (j : Fin n) : vec n w j = if w.testBit j then 1 else 0 := rfl

theorem vec_xor (n a b : Nat) : vec n (a ^^^ b) = vec n a + vec n b := by
  funext j
  simp only [vec, Pi.add_apply, Nat.testBit_xor]
  cases a.testBit j <;> cases b.testBit j <;> decide

@[simp] theorem vec_zero (n : Nat) : vec n 0 = 0 := by
  funext j; simp [vec]

theorem vec_eq_one_iff {n w : Nat} {j : Fin n} : vec n w j = 1 ↔ w.testBit j = true := by
  simp only [vec]; cases w.testBit j <;> decide

theorem vec_eq_zero_iff {n w : Nat} {j : Fin n} : vec n w j = 0 ↔ w.testBit j = false := by
  simp only [vec]; cases w.testBit j <;> decide

theorem vec_eq_zero_of_lz {n w : Nat} (h : lz n w = n) : vec n w = 0 := by
  funext j
  exact vec_eq_zero_iff.mpr (lz_eq_n_iff.mp h j j.2)

theorem vec_inj {n a b : Nat} (ha : a < 2 ^ n) (hb : b < 2 ^ n) (h : vec n a = vec n b) : a = b := by
  apply Nat.eq_of_testBit_eq
  intro i
  by_cases hi : i < n
  · have := congrFun h ⟨i, hi⟩
    simp only [vec] at this
    revert this
    cases a.testBit i <;> cases b.testBit i <;> simp
  · rw [Nat.testBit_lt_two_pow (Nat.lt_of_lt_of_le ha (Nat.pow_le_pow_right (by omega) (by omega))),
      Nat.testBit_lt_two_pow (Nat.lt_of_lt_of_le hb (Nat.pow_le_pow_right (by omega) (by omega)))]

theorem vec_shiftLeft_one {n i : Nat} (hi : i < n) : vec n (1 <<< i) = Pi.single (⟨i, hi⟩ : Fin n) 1 := by
  funext j
  simp only [vec, Nat.one_shiftLeft, Nat.testBit_two_pow, Pi.single_apply]
  by_cases h : j = ⟨i, hi⟩
  · subst h; simp
  · have h' : ¬ i = j.1 := fun e => h (Fin.ext e.symm)
    rw [if_neg h]
    simp [h']

/-- Echelon lemma. Among the words `r k` the "pivots" have pairwise distinct lowest set bits, all
below `i`; the other words have no bit below `i`. If a combination of the words has no bit below `i`,
no pivot takes part in it. -/
theorem echelon_coeff_zero {ι : Type} [Fintype ι] [DecidableEq ι] {n i : Nat} (hi : i ≤ n) (r : ι → Nat)
    (piv : ι → Prop)
    (h1 : ∀ k, piv k → lz n (r k) < i)
    (h2 : ∀ k k', piv k → piv k' → lz n (r k) = lz n (r k') → k = k')
    (h3 : ∀ k, ¬ piv k → i ≤ lz n (r k))
    (g : ι → ZMod 2)
    (hv : ∀ j : Fin n, j.1 < i → ∑ k, g k * vec n (r k) j = 0) :
    ∀ k, piv k → g k = 0 := by
  have key : ∀ ℓ, ∀ k, piv k → lz n (r k) = ℓ → g k = 0 := by
    intro ℓ
    induction ℓ using Nat.strong_induction_on with
    | _ ℓ ih =>
      intro k hk hl
      have hli : ℓ < i := hl ▸ h1 k hk
      have hsum := hv ⟨ℓ, by omega⟩ hli
      rw [Finset.sum_eq_single k] at hsum
      · have hb : vec n (r k) ⟨ℓ, by omega⟩ = 1 := by
          apply vec_eq_one_iff.mpr
          have := lz_bit (n := n) (w := r k) (by omega)
          simpa [hl] using this
        rw [hb, mul_one] at hsum
        exact hsum
      · intro k' _ hne
        by_cases hp : piv k'
        · rcases Nat.lt_trichotomy (lz n (r k')) ℓ with hlt | heq | hgt
          · rw [ih _ hlt k' hp rfl, zero_mul]
          · exact absurd (h2 k' k hp hk (heq.trans hl.symm)) hne
          · have : vec n (r k') ⟨ℓ, by omega⟩ = 0 := vec_eq_zero_iff.mpr (lz_below (n := n) hgt)
            rw [this, mul_zero]
        · have hge := h3 k' hp
          have : vec n (r k') ⟨ℓ, by omega⟩ = 0 := vec_eq_zero_iff.mpr (lz_below (n := n) (show ℓ < lz n (r k') by omega))
          rw [this, mul_zero]
      · intro h; exact absurd (Finset.mem_univ k) h
  intro k hk
  exact key _ k hk rfl

theorem linearIndependent_of_lz {ι : Type} [Fintype ι] [DecidableEq ι] {n : Nat} (r : ι → Nat)
    (h1 : ∀ k, lz n (r k) < n) (h2 : ∀ k k', lz n (r k) = lz n (r k') → k = k') :
    LinearIndependent (ZMod 2) (fun k => vec n (r k)) := by
  rw [Fintype.linearIndependent_iff]
  intro g hg k
  refine echelon_coeff_zero (Nat.le_refl n) r (fun _ => True) (fun k _ => h1 k) (fun k k' _ _ => h2 k k')
    (fun k hk => absurd trivial hk) g ?_ k trivial
  intro j _
  have := congrFun hg j
  simpa [Finset.sum_apply, Pi.smul_apply, smul_eq_mul] using this

/-- Pivot existence. If some vector of the span of the words has its lowest non-zero coordinate at `i`,
one of the non-pivot words has its lowest set bit at `i`. -/
theorem exists_lz_eq_of_mem_span {ι : Type} [Fintype ι] [DecidableEq ι] {n i : Nat} (hi : i < n) (r : ι → Nat)
    (piv : ι → Prop)
    (h1 : ∀ k, piv k → lz n (r k) < i)
    (h2 : ∀ k k', piv k → piv k' → lz n (r k) = lz n (r k') → k = k')
    (h3 : ∀ k, ¬ piv k → i ≤ lz n (r k))
    (v : Fin n → ZMod 2) (hv : v ∈ Submodule.span (ZMod 2) (Set.range fun k => vec n (r k)))
    (hlow : ∀ j : Fin n, j.1 < i → v j = 0) (hbit : v ⟨i, hi⟩ = 1) :
    ∃ k, ¬ piv k ∧ lz n (r k) = i := by
  obtain ⟨g, hg⟩ := (Submodule.mem_span_range_iff_exists_fun (ZMod 2)).mp hv
  have hcoord : ∀ j : Fin n, ∑ k, g k * vec n (r k) j = v j := by
    intro j
    have := congrFun hg j
    simpa [Finset.sum_apply, Pi.smul_apply, smul_eq_mul] using this
  have hz := echelon_coeff_zero (Nat.le_of_lt hi) r piv h1 h2 h3 g (fun j hj => by rw [hcoord, hlow j hj])
  classical
  by_contra hno
  have : ∑ k, g k * vec n (r k) ⟨i, hi⟩ = 0 := by
    apply Finset.sum_eq_zero
    intro k _
    by_cases hp : piv k
    · rw [hz k hp, zero_mul]
    · have hge := h3 k hp
      have hne : lz n (r k) ≠ i := fun e => hno ⟨k, hp, e⟩
      have : vec n (r k) ⟨i, hi⟩ = 0 := vec_eq_zero_iff.mpr (lz_below (n := n) (show i < lz n (r k) by omega))
      rw [this, mul_zero]
  rw [hcoord, hbit] at this
  exact absurd this (by decide)

/-- the span of the first `n` words of a sequence -/
def spanOf (n : Nat) (r : Nat → Nat) : Submodule (ZMod 2) (Fin n → ZMod 2) :=
  Submodule.span (ZMod 2) (Set.range fun k : Fin n => vec n (r k))

theorem mem_spanOf {n : Nat} (r : Nat → Nat) {k : Nat} (hk : k < n) : vec n (r k) ∈ spanOf n r :=
  Submodule.subset_span ⟨⟨k, hk⟩, rfl⟩

theorem spanOf_le {n : Nat} {r : Nat → Nat} {p : Submodule (ZMod 2) (Fin n → ZMod 2)}
    (h : ∀ k, k < n → vec n (r k) ∈ p) : spanOf n r ≤ p := by
  apply Submodule.span_le.mpr
  rintro _ ⟨k, rfl⟩
  exact h k k.2

theorem spanOf_congr {n : Nat} {r r' : Nat → Nat} (h : ∀ k, k < n → r' k = r k) : spanOf n r' = spanOf n r := by
  apply le_antisymm
  · apply spanOf_le; intro k hk; rw [h k hk]; exact mem_spanOf _ hk
  · apply spanOf_le; intro k hk; rw [← h k hk]; exact mem_spanOf _ hk

theorem spanOf_swap {n : Nat} (r r' : Nat → Nat) {a b : Nat} (ha : a < n) (hb : b < n)
    (h : ∀ k, k < n → r' k = if k = b then r a else if k = a then r b else r k) :
    spanOf n r' = spanOf n r := by
  apply le_antisymm
  · apply spanOf_le
    intro k hk
    rw [h k hk]
    split
    · exact mem_spanOf r ha
    · split
      · exact mem_spanOf r hb
      · exact mem_spanOf r hk
  · apply spanOf_le
    intro k hk
    by_cases h1 : k = a
    · subst h1
      have := mem_spanOf r' hb
      rwa [h b hb, if_pos rfl] at this
    · by_cases h2 : k = b
      · subst h2
        have := mem_spanOf r' ha
        rw [h a ha] at this
        by_cases hab : a = k
        · subst hab; simpa using this
        · simpa [hab] using this
      · have := mem_spanOf r' hk
        rwa [h k hk, if_neg h2, if_neg h1] at this

theorem spanOf_xor {n : Nat} (r r' : Nat → Nat) {p : Nat} (hp : p < n) (c : Nat → Prop) [DecidablePred c]
    (hc : ¬ c p) (h : ∀ k, k < n → r' k = if c k then r k ^^^ r p else r k) :
    spanOf n r' = spanOf n r := by
  have hpp : r' p = r p := by rw [h p hp, if_neg hc]
  apply le_antisymm
  · apply spanOf_le
    intro k hk
    rw [h k hk]
    split
    · rw [vec_xor]; exact Submodule.add_mem _ (mem_spanOf r hk) (mem_spanOf r hp)
    · exact mem_spanOf r hk
  · apply spanOf_le
    intro k hk
    by_cases hck : c k
    · have h1 := mem_spanOf r' hk
      have h2 := mem_spanOf r' hp
      rw [h k hk, if_pos hck, vec_xor] at h1
      rw [hpp] at h2
      have := Submodule.add_mem _ h1 h2
      rwa [add_assoc, ZModModule.add_self, add_zero] at this
    · have := mem_spanOf r' hk
      rwa [h k hk, if_neg hck] at this

end Ymq.Gf2Small
