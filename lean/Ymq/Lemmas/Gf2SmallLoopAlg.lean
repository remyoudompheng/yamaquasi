/-
C14 "small", helper lemmas (Mathlib): matrix forms of the block operations used by the main
loop of `kernel_lanczos` (`Block::muladd`, `&Block * &Block`, `&SmallMat * &SmallMat`, the xor of two
blocks, the masking of a block, the masked identity and the masked matrix), the form `Q x y = xᵗ·A·y` with the
operations read through it (`dot_aab`, `muladd_mul`, `Q_add`, `Q_mask`), then the inductive steps of
block Lanczos on the model:
* `right_inverse_on_support`: a left inverse on the `S × S` block is a right inverse;
* `projStep_checked_ok`: a projection of the checked profile (mask ≠ 0) passes its assertion
  `(A·W_j)ᵗ·next = 0` when `W_j` is masked by `S_j`, `invgs[j]` is the pseudo-inverse of `W_jᵗ A W_j`
  and the earlier projections did not change `W_jᵗ A next` (A-orthogonality of the kept blocks).
-/
import Ymq.Lemmas.Gf2SmallLoopShapes

namespace Ymq.Gf2Small
open Ymq.Gf2 Ymq.Gf2Genblock Ymq.Gf2Lanczos
open scoped Matrix

/-- the projector on the coordinates of `S` -/
def projS (S : Nat) : Matrix (Fin 64) (Fin 64) (ZMod 2) := Matrix.diagonal (fun t => toZ (S.testBit t.1))

theorem toZ_testBit_comb64 (a : Nat) (m : Mat) (hm : m.length = 64) (t : Nat) :
    toZ ((comb a m 0).testBit t) = ∑ j : Fin 64, toZ (a.testBit j.1) * toZ ((row m j.1).testBit t) := by
  rw [testBit_comb, hm, toZ_xsum_range]
  apply Finset.sum_congr rfl
  intro j _
  rw [toZ_and, Nat.zero_add]

/-- `Block::muladd`: `self + b·m` -/
theorem cellMat_blockMulAdd {n : Nat} {self b r : List Nat} {m : Mat} (hs : self.length = n) (hb : b.length = n)
    (hm : m.length = 64) (h : blockMulAdd self m b = some r) :
    cellMat r.toArray n = cellMat self.toArray n + cellMat b.toArray n * toMat 64 m := by
  unfold blockMulAdd at h
  rw [if_pos (by rw [hs, hb])] at h
  injection h with h
  subst h
  funext k t
  rw [Matrix.add_apply, Matrix.mul_apply]
  show toZ ((cell (List.zipWith (fun s w => s ^^^ comb w m 0) self b).toArray k.1).testBit t.1) = _
  have hk1 : k.1 < self.length := by rw [hs]; exact k.2
  have hk2 : k.1 < b.length := by rw [hb]; exact k.2
  rw [cell_getElem _ (by simp [hk1, hk2]), List.getElem_zipWith, Nat.testBit_xor, toZ_xor,
    toZ_testBit_comb64 _ m hm]
  refine congrArg₂ (· + ·) ?_ ?_
  · show _ = toZ ((cell self.toArray k.1).testBit t.1)
    rw [cell_getElem _ hk1]
  · apply Finset.sum_congr rfl
    intro j _
    show _ = toZ ((cell b.toArray k.1).testBit j.1) * vec 64 (row m j.1) t
    rw [cell_getElem _ hk2]
    rfl

/-- `&SmallMat * &SmallMat` -/
theorem toMat_mul {a b : Mat} (ha : a.length = 64) (hb : b.length = 64) :
    toMat 64 (mul a b) = toMat 64 a * toMat 64 b := by
  funext i t
  rw [Matrix.mul_apply]
  show vec 64 (row (mul a b) i.1) t = _
  have hrow : row (mul a b) i.1 = comb (row a i.1) b 0 := by
    unfold mul
    rw [row_map _ _ (by rw [ha]; exact i.2)]
  rw [vec_eq_toZ, hrow, toZ_testBit_comb64 _ b hb]
  rfl

theorem length_mul (a b : Mat) : (mul a b).length = a.length := by simp [mul]

theorem cellMat_zipWith_xor {n : Nat} {x y : List Nat} (hx : x.length = n) (hy : y.length = n) :
    cellMat (List.zipWith (fun a p => a ^^^ p) x y).toArray n = cellMat x.toArray n + cellMat y.toArray n := by
  funext k t
  rw [Matrix.add_apply]
  have hk1 : k.1 < x.length := by rw [hx]; exact k.2
  have hk2 : k.1 < y.length := by rw [hy]; exact k.2
  show toZ ((cell _ k.1).testBit t.1) = toZ ((cell _ k.1).testBit t.1) + toZ ((cell _ k.1).testBit t.1)
  rw [cell_getElem _ (by simp [hk1, hk2]), List.getElem_zipWith, Nat.testBit_xor, toZ_xor,
    cell_getElem _ hk1, cell_getElem _ hk2]

theorem cellMat_mask {n : Nat} {x : List Nat} (hx : x.length = n) (mk : Nat) :
    cellMat (x.map (fun v => v &&& mk)).toArray n = cellMat x.toArray n * projS mk := by
  funext k t
  have hk : k.1 < x.length := by rw [hx]; exact k.2
  rw [projS, Matrix.mul_diagonal]
  show toZ ((cell _ k.1).testBit t.1) = toZ ((cell _ k.1).testBit t.1) * _
  rw [cell_getElem _ (by simp [hk]), List.getElem_map, Nat.testBit_and, toZ_and, cell_getElem _ hk]

theorem toMat_maskedId (S : Nat) : toMat 64 (maskedId 64 S) = projS S := by
  funext i t
  show vec 64 (row (maskedId 64 S) i.1) t = _
  rw [row_maskedId i.2, projS, Matrix.diagonal_apply]
  cases hS : S.testBit i.1 with
  | true =>
    simp only [if_true]
    rw [vec_shiftLeft_one i.2, Pi.single_apply]
    by_cases e : i = t
    · subst e; rw [if_pos rfl, if_pos rfl]; rfl
    · have : ¬ t = i := fun h => e h.symm
      rw [if_neg this, if_neg e]
  | false =>
    simp only [Bool.false_eq_true, if_false, vec_zero]
    by_cases e : i = t
    · subst e; rw [if_pos rfl]; rfl
    · rw [if_neg e]; rfl

theorem toMat_maskRows (G : Mat) (S : Nat) :
    toMat 64 (maskRows 64 G S) = projS S * toMat 64 G * projS S := by
  funext i t
  rw [projS, Matrix.mul_diagonal, Matrix.diagonal_mul]
  show vec 64 (row (maskRows 64 G S) i.1) t = _
  rw [vec_eq_toZ, testBit_maskRows G S i.2 t.1, toZ_and, toZ_and]
  show _ = toZ (S.testBit i.1) * vec 64 (row G i.1) t * toZ (S.testBit t.1)
  rw [vec_eq_toZ]
  ring

/-- over a commutative ring: `W·T = P`, both supported on the idempotent `P` ⇒ `T·W = P` -/
theorem right_inverse_on_support {N : Type} [Fintype N] [DecidableEq N] {R : Type} [CommRing R]
    (P W T : Matrix N N R) (hPP : P * P = P) (hWP : W * P = W) (hPW : P * W = W) (hTP : T * P = T)
    (hPT : P * T = T) (hWT : W * T = P) : T * W = P := by
  have h1 : (W + (1 - P)) * (T + (1 - P)) = 1 := by
    simp only [add_mul, mul_add, mul_sub, sub_mul, mul_one, one_mul, hWT, hWP, hPT, hPP]
    abel
  have h2 := mul_eq_one_comm.mp h1
  simp only [add_mul, mul_add, mul_sub, sub_mul, mul_one, one_mul, hTP, hPW, hPP] at h2
  have : T * W + (1 - P) = 1 := by
    calc T * W + (1 - P) = T * W + (W - W) + (T + (1 - P) - (T + (P - P))) := by abel
      _ = 1 := h2
  calc T * W = T * W + (1 - P) - (1 - P) := by abel
    _ = 1 - (1 - P) := by rw [this]
    _ = P := by abel

theorem projS_idem (S : Nat) : projS S * projS S = projS S := by
  rw [projS, Matrix.diagonal_mul_diagonal]
  congr 1
  funext t
  cases S.testBit t.1 <;> decide

theorem projS_transpose (S : Nat) : (projS S)ᵀ = projS S := Matrix.diagonal_transpose _

theorem gramA_symm (k : Nat) (cols : List (List Nat)) : (gramA k cols)ᵀ = gramA k cols := by
  rw [gramA, Matrix.transpose_mul, Matrix.transpose_transpose]

/-- a 64-row matrix of the model that denotes the null matrix is `SmallMat::default()` -/
theorem eq_zeros64_of_toMat {d : Mat} (hl : d.length = 64) (hlt : ∀ r ∈ d, r < 2 ^ 64)
    (h : toMat 64 d = 0) : d = zeros64 := by
  apply mat_ext hl (by simp only [zeros64, List.length_replicate])
  intro i hi
  have h0 : row zeros64 i = 0 := by
    simp only [row, zeros64, List.getD_eq_getElem?_getD, List.getElem?_replicate, hi, if_true, Option.getD_some]
  rw [h0]
  apply vec_inj (row_lt_of_mem hlt i) (Nat.two_pow_pos 64)
  rw [vec_zero]
  exact congrFun h ⟨i, hi⟩

/-- `mul_aab_opt` as `A·x` -/
theorem cellMat_aab {k : Nat} {cols : List (List Nat)} (hM : MatOK k cols) {x ax : List Nat}
    (h : mulAabOpt (qsOptimize k cols) x = some ax) :
    cellMat ax.toArray cols.length = gramA k cols * cellMat x.toArray cols.length := by
  rw [(cellMat_mulAabOpt k cols x ax hM.hk hM.hn hM.hwf h).2, gramA, Matrix.mul_assoc]

/-- the test `&w * &mul_aab(b, &x) == 0` and its variants, as a matrix identity -/
theorem blockDot_zero_of {n : Nat} {x y : List Nat} (hx : x.length = n) (hy : BlockOK n y)
    (h : (cellMat x.toArray n)ᵀ * cellMat y.toArray n = 0) : blockDot x y = some zeros64 := by
  obtain ⟨d, hd, hl, hlt⟩ := blockDot_ok hx hy
  rw [hd]
  congr 1
  apply eq_zeros64_of_toMat hl hlt
  rw [toMat_blockDot hx hy.1 hd, h]

/-- a block as a matrix -/
abbrev CM (n : Nat) (x : List Nat) : Matrix (Fin n) (Fin 64) (ZMod 2) := cellMat x.toArray n

/-- `xᵗ·A·y` -/
abbrev Q (k : Nat) (cols : List (List Nat)) (x y : List Nat) : Matrix (Fin 64) (Fin 64) (ZMod 2) :=
  (CM cols.length x)ᵀ * gramA k cols * CM cols.length y

theorem Q_transpose (k : Nat) (cols : List (List Nat)) (x y : List Nat) :
    (Q k cols x y)ᵀ = Q k cols y x := by
  simp only [Q, Matrix.transpose_mul, Matrix.transpose_transpose, gramA_symm, Matrix.mul_assoc]

theorem Q_add {k : Nat} {cols : List (List Nat)} {x y z w : List Nat} {T : Matrix (Fin 64) (Fin 64) (ZMod 2)}
    (h : CM cols.length z = CM cols.length y + CM cols.length w * T) :
    Q k cols x z = Q k cols x y + Q k cols x w * T := by
  rw [Q, h, Matrix.mul_add, ← Matrix.mul_assoc]

theorem Q_mask {k : Nat} {cols : List (List Nat)} (x : List Nat) {w : List Nat} (hw : w.length = cols.length) (mk : Nat) :
    Q k cols x (w.map (fun v => v &&& mk)) = Q k cols x w * projS mk := by
  rw [Q, show CM cols.length (w.map (fun v => v &&& mk)) = _ from cellMat_mask hw mk, ← Matrix.mul_assoc]

theorem aab_Q {k : Nat} {cols : List (List Nat)} (hM : MatOK k cols) {x ax : List Nat}
    (h : mulAabOpt (qsOptimize k cols) x = some ax) (w : List Nat) :
    (CM cols.length w)ᵀ * CM cols.length ax = Q k cols w x := by
  have e : CM cols.length ax = gramA k cols * CM cols.length x := cellMat_aab hM h
  rw [e, ← Matrix.mul_assoc]

theorem aab_ok {k : Nat} {cols : List (List Nat)} (hM : MatOK k cols) {x ax : List Nat}
    (hx : BlockOK cols.length x) (h : mulAabOpt (qsOptimize k cols) x = some ax) : BlockOK cols.length ax := by
  obtain ⟨r, hr, hrOK⟩ := mulAabOpt_ok hM hx
  rw [h] at hr; cases hr
  exact hrOK

/-- `&w * &mul_aab(b, &x)` is `wᵗ·A·x` -/
theorem dot_aab {k : Nat} {cols : List (List Nat)} (hM : MatOK k cols) {w x ax : List Nat}
    (hw : w.length = cols.length) (hax : BlockOK cols.length ax) (h : mulAabOpt (qsOptimize k cols) x = some ax) :
    ∃ d, blockDot w ax = some d ∧ d.length = 64 ∧ (∀ r ∈ d, r < 2 ^ 64) ∧ toMat 64 d = Q k cols w x := by
  obtain ⟨d, hd, hl, hlt⟩ := blockDot_ok hw hax
  exact ⟨d, hd, hl, hlt, by rw [toMat_blockDot hw hax.1 hd]; exact aab_Q hM h w⟩

/-- the assertion `&w * &mul_aab(b, &x) == SmallMat::default()` passes when `wᵗ·A·x = 0` -/
theorem dot_aab_zero {k : Nat} {cols : List (List Nat)} (hM : MatOK k cols) {w x ax : List Nat}
    (hw : w.length = cols.length) (hax : BlockOK cols.length ax) (h : mulAabOpt (qsOptimize k cols) x = some ax)
    (h0 : Q k cols w x = 0) : blockDot w ax = some zeros64 := by
  obtain ⟨d, hd, hl, hlt, hdM⟩ := dot_aab hM hw hax h
  rw [hd, eq_zeros64_of_toMat hl hlt (hdM.trans h0)]

/-- `self + b·(ig·d)` as `Block::muladd(self, &(ig * d), b)` computes it -/
theorem muladd_mul {n : Nat} {self b : List Nat} {ig d : Mat} {D : Matrix (Fin 64) (Fin 64) (ZMod 2)}
    (hs : BlockOK n self) (hb : b.length = n) (hig : ig.length = 64) (hdl : d.length = 64)
    (hdlt : ∀ r ∈ d, r < 2 ^ 64) (hD : toMat 64 d = D) :
    ∃ r, blockMulAdd self (mul ig d) b = some r ∧ BlockOK n r ∧ CM n r = CM n self + CM n b * (toMat 64 ig * D) := by
  obtain ⟨r, hr, hrOK⟩ := blockMulAdd_ok (m := mul ig d) hs hb (mul_lt _ d hdlt)
  refine ⟨r, hr, hrOK, ?_⟩
  show cellMat r.toArray n = _
  rw [cellMat_blockMulAdd hs.1 hb (by rw [length_mul]; exact hig) hr, toMat_mul hig hdl, hD]

/-- what is known about a kept block `W_j` and its pseudo-inverse -/
structure KeptOK (k : Nat) (cols : List (List Nat)) (w : List Nat) (ig : Mat) (S : Nat) : Prop where
  wOK : BlockOK cols.length w
  igLen : ig.length = 64
  masked : cellMat w.toArray cols.length * projS S = cellMat w.toArray cols.length
  igP : toMat 64 ig * projS S = toMat 64 ig
  pIg : projS S * toMat 64 ig = toMat 64 ig
  inv : toMat 64 ig * ((cellMat w.toArray cols.length)ᵀ * gramA k cols * cellMat w.toArray cols.length) = projS S

theorem KeptOK.tmasked {k : Nat} {cols : List (List Nat)} {w : List Nat} {ig : Mat} {S : Nat}
    (h : KeptOK k cols w ig S) (x : List Nat) : projS S * Q k cols w x = Q k cols w x := by
  have := congrArg Matrix.transpose h.masked
  rw [Matrix.transpose_mul, projS_transpose] at this
  rw [Q, ← Matrix.mul_assoc, ← Matrix.mul_assoc, this]

theorem KeptOK.right_inv {k : Nat} {cols : List (List Nat)} {w : List Nat} {ig : Mat} {S : Nat}
    (h : KeptOK k cols w ig S) : Q k cols w w * toMat 64 ig = projS S := by
  apply right_inverse_on_support (projS S) (toMat 64 ig) _ (projS_idem S) h.igP h.pIg
  · rw [Q, Matrix.mul_assoc, h.masked]
  · exact h.tmasked w
  · exact h.inv

/-- the projection on a kept block: `z = y + W·(ig·(Wᵗ A x))` is A-orthogonal to `W` when `Wᵗ A y = Wᵗ A x` -/
theorem KeptOK.proj_orth {k : Nat} {cols : List (List Nat)} {w : List Nat} {ig : Mat} {S : Nat}
    (h : KeptOK k cols w ig S) {x y z : List Nat}
    (hz : CM cols.length z = CM cols.length y + CM cols.length w * (toMat 64 ig * Q k cols w x))
    (hxy : Q k cols w y = Q k cols w x) : Q k cols w z = 0 := by
  rw [Q_add hz, ← Matrix.mul_assoc, h.right_inv, h.tmasked, hxy]
  exact ZModModule.add_self _

theorem projStep_checked_ok {k : Nat} {cols : List (List Nat)} (hM : MatOK k cols)
    {next0 av next w : List Nat} {ig : Mat} {S : Nat} {invgs : List Mat} {masks : List Nat} {vlen j m : Nat}
    {vs ws : List (List Nat)}
    (hn0 : BlockOK cols.length next0) (hav : mulAabOpt (qsOptimize k cols) next0 = some av)
    (hnext : BlockOK cols.length next)
    (hw : ws[j]? = some w) (hne : w.isEmpty = false) (hmask : maskFor masks j vlen = some m) (hm0 : m ≠ 0)
    (hig : invgs[j]? = some ig) (hK : KeptOK k cols w ig S) (hcomm : Q k cols w next = Q k cols w next0) :
    ∃ next', projStep true (qsOptimize k cols) av invgs masks vlen (vs, ws, next) j = some (vs, ws, next') ∧
      BlockOK cols.length next' ∧
      CM cols.length next' = CM cols.length next + CM cols.length w * (toMat 64 ig * Q k cols w next0) ∧
      Q k cols w next' = 0 := by
  obtain ⟨d, hd, hdl, hdlt, hdM⟩ := dot_aab hM hK.wOK.1 (aab_ok hM hn0 hav) hav
  obtain ⟨next', hn', hn'OK, hn'M⟩ := muladd_mul hnext hK.wOK.1 hK.igLen hdl hdlt hdM
  have horth : Q k cols w next' = 0 := hK.proj_orth hn'M hcomm
  refine ⟨next', ?_, hn'OK, hn'M, horth⟩
  -- the assertion is `(A·w)ᵗ·next' = 0`
  obtain ⟨aw, haw, hawOK⟩ := mulAabOpt_ok hM hK.wOK
  have hzero : blockDot aw next' = some zeros64 := by
    apply blockDot_zero_of hawOK.1 hn'OK
    rw [cellMat_aab hM haw, Matrix.transpose_mul, gramA_symm]
    exact horth
  unfold projStep
  simp only [hw, hne, Bool.false_eq_true, if_false, hmask, if_neg hm0, hd, hig, hn', haw, hzero, bne_self_eq_false,
    Bool.and_false]

end Ymq.Gf2Small
