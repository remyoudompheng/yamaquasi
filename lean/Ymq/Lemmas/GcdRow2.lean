/- `reduce64`: the product of the sizes of the two rows of the returned matrix is at most
`(11/12) * 2^70`. Reason: in every column `(p, s)` of the matrix (previous / current cofactor) the
previous entry is at most `2/3` of the current one (nearest-integer quotients), so the last step
`s' = k s -+ p` with `k <= q + 1` gives `|s'| <= (q + 5/3) |s| + 1`, and the matrix-size test that was
passed bounds `(q + 2) * max(|c|, |d|) < 2^36` with `max(|c|, |d|) < 2^34`. -/
import Ymq.Lemmas.GcdRow

namespace Ymq.Gcd

/-- column invariant: ratio previous / current cofactor (`|s| <= 1`: the first steps) -/
def ColRatio (p s : Int) : Prop :=
  (0 < p * s → 2 * |p| ≤ |s|) ∧ (p * s ≤ 0 → 3 * |p| ≤ 2 * |s| ∨ |s| ≤ 1)

theorem Col.small {p s : Int} (h : Col p s) (hs : |s| ≤ 1) : |p| ≤ 1 := by
  rcases h with h | ⟨_, h⟩
  · linarith
  · exact h

/-- one column under a quotient step with multiplier `k >= 2` (`k >= 3` when rounding up: the quotient was at
least 2) and sign `e`: the ratio invariant is kept, and the new entry is at most `(k + 2/3) |s| + 1` -/
theorem colRatio_step {p s k e : Int} (he : e = 1 ∨ e = -1) (hk : 2 ≤ k) (hk3 : e = 1 → 3 ≤ k) (hcol : Col p s)
    (hci : ColRatio p s) : ColRatio s (e * (k * s - p)) ∧ 3 * |k * s - p| ≤ (3 * k + 2) * |s| + 3 := by
  have hS := abs_nonneg s
  have hP := abs_nonneg p
  have hkS : 2 * |s| ≤ k * |s| := mul_le_mul_of_nonneg_right hk hS
  obtain ⟨_, hsg, _⟩ := col_step (k := k) (by omega) hcol
    (by rcases le_or_gt (p * s) 0 with h | h
        · exact Or.inl h
        · exact Or.inr ⟨le_of_lt h, hk⟩)
  -- `|k s - p|` is at least `3/2 |s|`, and at least `2 |s|` when the signs differ or `k >= 3`
  have key : 3 * |s| ≤ 2 * |k * s - p| ∧ (e = 1 → 2 * |s| ≤ |k * s - p|) ∧
      3 * |k * s - p| ≤ (3 * k + 2) * |s| + 3 := by
    rcases le_or_gt (p * s) 0 with hps | hps
    · rw [abs_mul_sub_opp (k := k) (by omega) hps]
      have hPb : 3 * |p| ≤ 2 * |s| + 3 := by
        rcases hci.2 hps with h | h
        · linarith
        · have := hcol.small h; linarith
      exact ⟨by linarith, fun _ => by linarith, by linarith⟩
    · have h2 := hci.1 hps
      rw [abs_mul_sub_same (k := k) (le_of_lt hps) (by linarith)]
      exact ⟨by linarith, fun h => by
        have : 3 * |s| ≤ k * |s| := mul_le_mul_of_nonneg_right (hk3 h) hS
        linarith, by linarith⟩
  refine ⟨?_, key.2.2⟩
  -- the new column product has the sign `e`
  rcases he with rfl | rfl
  · rw [one_mul]; exact ⟨fun _ => key.2.1 rfl, fun _ => Or.inl (by linarith [key.2.1 rfl])⟩
  · unfold ColRatio
    rw [neg_one_mul, abs_neg]
    exact ⟨fun h => absurd h (not_lt.2 (by linarith)), fun _ => Or.inl key.1⟩

-- 68719476735 = 2^36 - 1, 17179869184 = 2^34, 68719476736 = 2^36, 3246626956972881084416 = 11 * 2^68 = 3 * (11/12) * 2^70
theorem row_prod_step {mu q e1 e2 : Int} (hmu0 : 0 ≤ mu)
    (hnb : (q + 2) * mu ≤ 68719476735) (hmu : mu ≤ 17179869184)
    (h1 : e1 ≤ mu) (h20 : 0 ≤ e2) (h2 : 3 * e2 ≤ (3 * q + 5) * mu + 3) :
    3 * (e1 * e2) ≤ 3246626956972881084416 := by
  have a1 : 3 * (e1 * e2) ≤ mu * (3 * e2) := by
    have := mul_le_mul_of_nonneg_right h1 (by linarith : (0 : Int) ≤ 3 * e2)
    linarith
  have a2 : mu * (3 * e2) ≤ mu * ((3 * q + 5) * mu + 3) := mul_le_mul_of_nonneg_left h2 hmu0
  have a3 : ((q + 2) * mu) * mu ≤ 68719476735 * mu := mul_le_mul_of_nonneg_right hnb hmu0
  have a4 : 0 ≤ (17179869184 - mu) * (3 * 68719476736 - 17179869184 - mu) :=
    mul_nonneg (by linarith) (by linarith)
  nlinarith

/-- the column ratios, and every product of an entry of the first row by an entry of the second row at most
`(11/12) * 2^70` (`3246626956972881084416 = 11 * 2^68`) -/
structure R2 (a b c d : Int) : Prop where
  ratio_ac : ColRatio a c
  ratio_bd : ColRatio b d
  pac : 3 * (|a| * |c|) ≤ 3246626956972881084416
  pad : 3 * (|a| * |d|) ≤ 3246626956972881084416
  pbc : 3 * (|b| * |c|) ≤ 3246626956972881084416
  pbd : 3 * (|b| * |d|) ≤ 3246626956972881084416

theorem R2_id : R2 1 0 0 1 := by
  refine ⟨⟨?_, ?_⟩, ⟨?_, ?_⟩, ?_, ?_, ?_, ?_⟩ <;> norm_num

theorem R2_small {a b c d : Int} (hac : ColRatio a c) (hbd : ColRatio b d) (ha : |a| ≤ 2) (hb : |b| ≤ 2)
    (hc : |c| ≤ 2) (hd : |d| ≤ 2) : R2 a b c d := by
  have h0a := abs_nonneg a
  have h0b := abs_nonneg b
  have h0c := abs_nonneg c
  have h0d := abs_nonneg d
  refine ⟨hac, hbd, ?_, ?_, ?_, ?_⟩ <;> nlinarith

theorem R2_step {c d c1 d1 q mu : Int} (hq : 0 ≤ q) (hcmu : |c| ≤ mu) (hdmu : |d| ≤ mu)
    (hnb : (q + 2) * mu < 2 ^ 36) (hmu : mu < 2 ^ 34) (k1 : ColRatio c c1) (k2 : ColRatio d d1)
    (u1 : 3 * |c1| ≤ (3 * q + 5) * |c| + 3) (u2 : 3 * |d1| ≤ (3 * q + 5) * |d| + 3) : R2 c d c1 d1 := by
  have hmu0 : 0 ≤ mu := le_trans (abs_nonneg c) hcmu
  replace hnb : (q + 2) * mu ≤ 68719476735 := by norm_num at hnb; omega
  replace hmu : mu ≤ 17179869184 := by norm_num at hmu; omega
  have hc0 := abs_nonneg c
  have hd0 := abs_nonneg d
  have hq0 : 0 ≤ 3 * q + 5 := by linarith
  have u1' : 3 * |c1| ≤ (3 * q + 5) * mu + 3 := by
    have := mul_le_mul_of_nonneg_left hcmu hq0; linarith
  have u2' : 3 * |d1| ≤ (3 * q + 5) * mu + 3 := by
    have := mul_le_mul_of_nonneg_left hdmu hq0; linarith
  exact ⟨k1, k2,
    row_prod_step hmu0 hnb hmu hcmu (abs_nonneg _) u1',
    row_prod_step hmu0 hnb hmu hcmu (abs_nonneg _) u2',
    row_prod_step hmu0 hnb hmu hdmu (abs_nonneg _) u1',
    row_prod_step hmu0 hnb hmu hdmu (abs_nonneg _) u2'⟩

theorem R2_cont {x y : Nat} {a b c d : Int} {u v : Nat} {a' b' c' d' : Int} {u' v' : Nat}
    (hinv : RInv x y a b c d u v) (h2 : R2 a b c d) (hu : u < W) (hv : 2 ^ 24 ≤ v)
    (h : reduce64Body x y a b c d u v = some (.cont a' b' c' d' u' v')) : R2 a' b' c' d' := by
  rcases reduce64Body_cont hinv hu hv h with
    ⟨huv, e1, e2, e3, e4, _, _, _⟩ | ⟨hvu, e1, e2, _, _, _, hnb, e, k, nq, ec, ed⟩
  · -- swap: only from the initial matrix
    rcases hinv.phase with ⟨rfl, rfl, rfl, rfl, _, _⟩ | ⟨_, _, _, _, rfl, rfl, hlt⟩ | ⟨_, h3, _⟩
    · rw [e1, e2, e3, e4]
      refine R2_small ⟨?_, ?_⟩ ⟨?_, ?_⟩ ?_ ?_ ?_ ?_ <;> norm_num
    · omega
    · omega
  · have hvpos : 0 < v := by
      have : 0 < 2 ^ 24 := Nat.pow_pos (by decide)
      omega
    rw [e1, e2, ec, ed]
    by_cases hq2 : 2 ≤ u / v
    · obtain ⟨_, _, _, hcmu, hdmu, hnbm, hm34⟩ := hinv.step_facts hv hvu hnb
      have hq2I : (2 : Int) ≤ ((u / v : Nat) : Int) := by exact_mod_cast hq2
      have hk2 : (2 : Int) ≤ k := le_trans hq2I nq.klo
      have hk3 : e = 1 → (3 : Int) ≤ k := fun he => by have := (nq.up he).2.2; omega
      obtain ⟨k1, u1⟩ := colRatio_step nq.sign hk2 hk3 hinv.colac h2.ratio_ac
      obtain ⟨k2, u2⟩ := colRatio_step nq.sign hk2 hk3 hinv.colbd h2.ratio_bd
      have hmu0 : (0 : Int) ≤ ((max c.natAbs d.natAbs : Nat) : Int) := Int.natCast_nonneg _
      have hkq := nq.khi
      exact R2_step (q := k - 1) (by omega) hcmu hdmu
        (lt_of_le_of_lt (mul_le_mul_of_nonneg_right (by omega) hmu0) hnbm) hm34 k1 k2
        (by rw [nq.abs_e, show 3 * (k - 1) + 5 = 3 * k + 2 by ring]; exact u1)
        (by rw [nq.abs_e, show 3 * (k - 1) + 5 = 3 * k + 2 by ring]; exact u2)
    · -- quotient 1: only in the first regular step (matrix = identity or swap)
      have hq : ((u / v : Nat) : Int) = 1 := by
        have : u / v = 1 := by have := (Nat.le_div_iff_mul_le hvpos).2 (by omega : 1 * v ≤ u); omega
        exact_mod_cast this
      rcases hinv.phase with ⟨rfl, rfl, rfl, rfl, _, _⟩ | ⟨rfl, rfl, rfl, rfl, _, _, _⟩ | ⟨_, h3, _⟩
      · rcases nq.sign with he | he
        · rw [he, (nq.up he).2.2, hq]; refine R2_small ⟨?_, ?_⟩ ⟨?_, ?_⟩ ?_ ?_ ?_ ?_ <;> norm_num
        · rw [he, nq.down he, hq]; refine R2_small ⟨?_, ?_⟩ ⟨?_, ?_⟩ ?_ ?_ ?_ ?_ <;> norm_num
      · rcases nq.sign with he | he
        · rw [he, (nq.up he).2.2, hq]; refine R2_small ⟨?_, ?_⟩ ⟨?_, ?_⟩ ?_ ?_ ?_ ?_ <;> norm_num
        · rw [he, nq.down he, hq]; refine R2_small ⟨?_, ?_⟩ ⟨?_, ?_⟩ ?_ ?_ ?_ ?_ <;> norm_num
      · exfalso
        have : 2 ≤ u / v := (Nat.le_div_iff_mul_le hvpos).2 (by omega)
        omega

/-- everything the loop of `reduce64` keeps: the relations and bounds of `RInv`, the first-row bound
and the row products -/
structure RFull (x y : Nat) (a b c d : Int) (u v : Nat) : Prop extends RInv x y a b c d u v where
  row1 : Row1 a b c d u v
  r2 : R2 a b c d

theorem two_pow_lt_imp {f k : Nat} {u : Nat} (h1 : 2 ^ k ≤ u) (h2 : u < 2 ^ f) : k < f := by
  by_contra hle
  have : 2 ^ f ≤ 2 ^ k := Nat.pow_le_pow_right (by decide) (by omega)
  omega

/-- the fuel: a quotient step halves `v`, which the guard keeps at `2^24` or above, so from `v < 2^64` there are at most
41 of them, and one iteration more for the initial swap (Model: "one swap + at most 41 halvings"; `reduce64Fuel = 70`) -/
theorem reduce64Loop_inv (x y : Nat) : ∀ (f : Nat) (a b c d : Int) (u v : Nat),
    RFull x y a b c d u v → u < W → v < W →
    (1 ≤ f ∧ (if v ≤ u then v < 2 ^ (22 + f) else u < 2 ^ (21 + f))) →
    ∃ a' b' c' d' u' v', reduce64Loop x y f a b c d u v = some (a', b', c', d') ∧
      RFull x y a' b' c' d' u' v' ∧ R64Exit c' d' u' v' := by
  intro f
  induction f with
  | zero => intro a b c d u v _ _ _ hf; omega
  | succ f ih =>
    intro a b c d u v hall hu hv hf
    have hinv := hall.toRInv
    unfold reduce64Loop
    by_cases hg : u / 2 ^ 24 > 0 ∧ v / 2 ^ 24 > 0
    · rw [if_pos hg]
      have hu24 := guard_ge hg.1
      have hv24 := guard_ge hg.2
      obtain ⟨st, hst⟩ := reduce64Body_progress hinv hu hv24
      rw [hst]
      cases st with
      | brk =>
        simp only
        exact ⟨a, b, c, d, u, v, reduce64Exit_of_RInv hinv, hall, Or.inr (reduce64Body_brk hinv hu hv24 hst)⟩
      | cont a' b' c' d' u' v' =>
        simp only
        have hm := reduce64Body_cont_measure hinv hu hv24 hst
        refine ih a' b' c' d' u' v' ⟨RInv_cont hinv hu hv24 hst, Row1_cont hinv hall.row1 hu hv24 hst,
          R2_cont hinv hall.r2 hu hv24 hst⟩ (by omega) (by omega) ?_
        rcases hm with ⟨huv, rfl, rfl⟩ | ⟨hvu, rfl, h2⟩
        · have hnle : ¬ u' ≤ v' := by omega
          rw [if_neg hnle] at hf
          have hk := two_pow_lt_imp hu24 hf.2
          have e : 21 + (f + 1) = 22 + f := by omega
          rw [e] at hf
          exact ⟨by omega, by rw [if_pos (by omega)]; exact hf.2⟩
        · rw [if_pos hvu] at hf
          have hk := two_pow_lt_imp hv24 hf.2
          have e : 22 + (f + 1) = (22 + f) + 1 := by omega
          rw [e, Nat.pow_succ] at hf
          exact ⟨by omega, by rw [if_pos (by omega)]; omega⟩
    · rw [if_neg hg]
      refine ⟨a, b, c, d, u, v, reduce64Exit_of_RInv hinv, hall, Or.inl ?_⟩
      intro h24
      exact hg ⟨Nat.div_pos h24.1 (by decide), Nat.div_pos h24.2 (by decide)⟩

theorem reduce64_spec (x y : Nat) (hx : x < W) (hy : y < W) :
    ∃ a b c d u v, reduce64 x y = some (a, b, c, d) ∧ RFull x y a b c d u v ∧ R64Exit c d u v := by
  unfold reduce64 reduce64Fuel
  refine reduce64Loop_inv x y 70 1 0 0 1 x y
    ⟨RInv_init x y, ⟨by norm_num, by norm_num, fun _ => ⟨by norm_num, by norm_num⟩⟩, R2_id⟩ hx hy
    ⟨by decide, ?_⟩
  unfold W at hx hy
  split <;> omega

theorem reduce64_of_some {x y : Nat} {a b c d : Int} (hx : x < W) (hy : y < W)
    (h : reduce64 x y = some (a, b, c, d)) : ∃ u v, RFull x y a b c d u v ∧ R64Exit c d u v := by
  obtain ⟨a', b', c', d', u, v, hr, hall⟩ := reduce64_spec x y hx hy
  rw [h] at hr
  cases hr
  exact ⟨u, v, hall⟩

end Ymq.Gcd
