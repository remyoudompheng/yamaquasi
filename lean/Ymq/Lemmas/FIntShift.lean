/-
The word-exact `FInt` model: `shl` (bit-shift loop, the three whole-word
branches with their carry-free shortcuts, the `top = 1` case, reduction of the shift amount
modulo `128 N`) and `shr`.
-/
import Ymq.Lemmas.FIntBasic

namespace Ymq.FInt
open Ymq.Limbs

theorem W_eq : W = 2 ^ 64 := by decide

theorem shlBits_spec {n : Nat} {ws : List Nat} (sb : Nat) (h0 : 0 < sb) (h64 : sb < 64) (c : Nat) (hws : Sl n ws)
    (hc : c < 2 ^ sb) :
    ∃ d k, shlBits sb ws c = (d, k) ∧ Sl n d ∧ k < 2 ^ sb ∧ val d + W ^ n * k = val ws * 2 ^ sb + c := by
  have hW : W = 2 ^ (64 - sb) * 2 ^ sb := by rw [← pow_add, W_eq]; congr 1; omega
  have hp : 0 < 2 ^ sb := Nat.pow_pos (by decide)
  have hp2 : 0 < 2 ^ (64 - sb) := Nat.pow_pos (by decide)
  induction ws generalizing n c with
  | nil =>
    obtain rfl : 0 = n := hws.1
    exact ⟨[], c, rfl, hws, hc, by simp⟩
  | cons x xs ih =>
    obtain ⟨n, rfl⟩ : ∃ m, n = m + 1 := ⟨xs.length, hws.1.symm⟩
    have ⟨hx, hxs⟩ := Sl.cons_iff.1 hws
    have hq : x / 2 ^ (64 - sb) < 2 ^ sb := by
      rw [Nat.div_lt_iff_lt_mul hp2, Nat.mul_comm, ← hW]; exact hx
    obtain ⟨d, k, hr, sd, e4, e1⟩ := ih (x / 2 ^ (64 - sb)) hxs hq
    have hdm := Nat.div_add_mod (x * 2 ^ sb) W
    rw [show x * 2 ^ sb / W = x / 2 ^ (64 - sb) by rw [hW, Nat.mul_div_mul_right _ _ hp]] at hdm
    -- the low `sb` bits of the shifted word are zero, so the carry fits below it
    have hlt : x * 2 ^ sb % W + c < W := by
      have := Nat.mul_le_mul_right (2 ^ sb) (Nat.mod_lt x hp2)
      rw [← hW, Nat.succ_mul] at this
      rw [hW, Nat.mul_mod_mul_right, ← hW]
      omega
    refine ⟨_, k, by rw [shlBits, hr], Sl.cons_iff.2 ⟨hlt, sd⟩, e4, ?_⟩
    rw [val_cons, val_cons, pow_succ]
    linear_combination hdm + W * e1

theorem pow_split {N sw : Nat} (h : sw ≤ N) : W ^ sw * W ^ (N - sw) = W ^ N := by
  rw [← pow_add]; congr 1; omega

theorem modEq_neg {B r h a : Nat} (e : r + h ≡ a [MOD B + 1]) : r ≡ a + B * h [MOD B + 1] := by
  have h1 : r ≡ r + h + B * h [MOD B + 1] := modEq_of_eq (k1 := h) (k2 := 0) (by ring)
  exact h1.trans (e.add_right (B * h))

theorem sq_modEq_one (N : Nat) : W ^ N * W ^ N ≡ 1 [MOD Fmod N] := by
  obtain ⟨u, hu⟩ : ∃ u, W ^ N = u + 1 := ⟨W ^ N - 1, by have := Nat.pow_pos (n := N) W_pos; omega⟩
  apply modEq_of_eq (k1 := 0) (k2 := u)
  rw [Fmod, hu]
  ring

theorem val_pred_cons {a : Nat} (l : List Nat) (ha : a ≠ 0) : val ((a - 1) :: l) + 1 = val (a :: l) := by
  rw [val_cons, val_cons]; omega

/-- `z - x` modulo `W^N + 1` as the whole-word branches compute it: `_sub_slices`, then `add_small(1)`
after a borrow, since `W^N ≡ -1` -/
theorem subWrap_spec {N : Nat} {z x : List Nat} (t : Nat) (hN : 0 < N) (sz : Sl N z) (sx : Sl N x)
    (ht : t + 1 < W) :
    ∃ r, (if (subSlices z x 0).2 = 1 then addSmall ⟨(subSlices z x 0).1, t⟩ 1
        else some ⟨(subSlices z x 0).1, t⟩) = some r ∧
      WfN N r ∧ r.top ≤ t + 1 ∧ r.value + val x ≡ val z + W ^ N * t [MOD Fmod N] := by
  obtain ⟨d, b, hr, sd, e4, e1⟩ := subSlices_spec sz sx (c := 0) (by omega)
  rw [hr]
  obtain ⟨r, hr1, hw1, hv1, ht1⟩ := addOneIf_spec (b = 1) ⟨d, t⟩ hN sd ht
  refine ⟨r, hr1, hw1, ht1, ?_⟩
  apply modEq_of_eq (k1 := 0) (k2 := b)
  rw [hv1, ite_one_zero e4, FI.value_mk, sd.1, Fmod]
  linear_combination e1

/-- whole-word shift by `0 < sw < N` words: with `x = L + W^(N-sw)·H` the result is `W^sw·L - H` -/
theorem shlWordsLow_spec {N : Nat} (x : FI) (sw : Nat) (hx : WfN N x) (ht : x.top = 0)
    (h1 : 0 < sw) (h2 : sw < N) :
    ∃ r, shlWordsLow x sw = some r ∧ WfN N r ∧ r.top ≤ 1 ∧
      r.value ≡ x.value * W ^ sw [MOD Fmod N] := by
  obtain ⟨ws, t⟩ := x
  simp only at ht; subst ht
  obtain ⟨slo, shi, hsplit⟩ := (Sl.cast hx (show N = (N - sw) + sw by omega)).split
  obtain ⟨l0, ls, hlo, hl0, sls⟩ := slo.uncons (by omega)
  obtain ⟨h0, hs, hhi, hh0, shs⟩ := shi.uncons h1
  have hW := W_gt
  unfold shlWordsLow
  simp only [hx.1, hlo, hhi]
  rw [hlo] at slo hsplit; rw [hhi] at shi hsplit
  suffices h : ∃ r, (if h0 ≠ 0 ∧ l0 > 0 then some ⟨compl ((h0 - 1) :: hs) ++ (l0 - 1) :: ls, 0⟩
      else if (subSlices (zeros sw ++ l0 :: ls) (h0 :: hs ++ zeros (N - sw)) 0).2 = 1
        then addSmall ⟨(subSlices (zeros sw ++ l0 :: ls) (h0 :: hs ++ zeros (N - sw)) 0).1, 0⟩ 1
        else some ⟨(subSlices (zeros sw ++ l0 :: ls) (h0 :: hs ++ zeros (N - sw)) 0).1, 0⟩) = some r ∧
      WfN N r ∧ r.top ≤ 1 ∧ r.value + val (h0 :: hs) ≡ W ^ sw * val (l0 :: ls) [MOD Fmod N] by
    obtain ⟨r, hr, hw, htop, hv⟩ := h
    refine ⟨r, hr, hw, htop, ?_⟩
    have := modEq_neg hv
    rwa [show (FI.mk ws 0).value * W ^ sw = W ^ sw * val (l0 :: ls) + W ^ N * val (h0 :: hs) by
      rw [FI.value_mk, hsplit, ← pow_split (le_of_lt h2)]; ring]
  by_cases hf : h0 ≠ 0 ∧ l0 > 0
  · -- no borrow: `!(H - 1)` in the low words is `W^sw - H`, the `W^sw` is taken from `L`
    rw [if_pos hf]
    have sh' : Sl sw ((h0 - 1) :: hs) := (Sl.cons_iff.2 ⟨by omega, shs⟩).cast (by omega)
    have sl' : Sl (N - sw) ((l0 - 1) :: ls) := (Sl.cons_iff.2 ⟨by omega, sls⟩).cast (by omega)
    have hcv := compl_val _ sh'.2
    have hH := val_pred_cons hs hf.1
    have hL := val_pred_cons ls (Nat.pos_iff_ne_zero.1 hf.2)
    rw [sh'.1] at hcv
    have hcH : val (compl ((h0 - 1) :: hs)) + val (h0 :: hs) = W ^ sw := by omega
    refine ⟨_, rfl, (sh'.compl.append sl').cast (by omega), by simp, ?_⟩
    apply modEq_of_eq (k1 := 0) (k2 := 0)
    rw [FI.value_mk, val_append, sh'.compl.1]
    linear_combination hcH + W ^ sw * hL
  · rw [if_neg hf]
    obtain ⟨r, hr, hw, htop, hv⟩ := subWrap_spec (N := N) 0 (by omega) (((Sl.zeros sw).append slo).cast (by omega))
      ((shi.append (Sl.zeros (N - sw))).cast (by omega)) (by omega)
    rw [val_append, val_zeros, Nat.mul_zero, Nat.add_zero, val_append, val_zeros, zeros_length, Nat.zero_add,
      Nat.mul_zero, Nat.add_zero] at hv
    exact ⟨r, hr, hw, htop, hv⟩

/-- whole-word shift by exactly `N` words: negation -/
theorem shlNeg_spec {N : Nat} (x : FI) (hN : 0 < N) (hx : WfN N x) (ht : x.top = 0) :
    ∃ r, addSmall ⟨compl x.ws, x.top⟩ 2 = some r ∧ WfN N r ∧ r.top ≤ 1 ∧
      r.value ≡ x.value * W ^ N [MOD Fmod N] := by
  obtain ⟨r, hr, hw, hv, htop⟩ := addSmall_spec' ⟨compl x.ws, x.top⟩ 2 hN (Sl.compl hx) (by decide)
    (by simp only [ht]; decide)
  refine ⟨r, hr, hw, by simpa [ht] using htop, ?_⟩
  apply modEq_of_eq (k1 := val x.ws) (k2 := 1)
  have hcv := compl_val x.ws hx.2
  rw [hx.1] at hcv
  rw [hv]
  simp only [FI.value, compl_length, ht, hx.1, Fmod]
  linear_combination hcv

/-- whole-word shift by `N + swhi` words, `0 < swhi < N`: with `x = L + W^(N-swhi)·H` the result is
`H - W^swhi·L` -/
theorem shlWordsHigh_spec {N : Nat} (x : FI) (swhi : Nat) (hx : WfN N x) (ht : x.top = 0)
    (h1 : 0 < swhi) (h2 : swhi < N) :
    ∃ r, shlWordsHigh x swhi = some r ∧ WfN N r ∧ r.top ≤ 1 ∧
      r.value ≡ x.value * W ^ (N + swhi) [MOD Fmod N] := by
  obtain ⟨ws, t⟩ := x
  simp only at ht; subst ht
  obtain ⟨slo, shi, hsplit⟩ := (Sl.cast hx (show N = (N - swhi) + swhi by omega)).split
  obtain ⟨l0, ls, hlo, hl0, sls⟩ := slo.uncons (by omega)
  obtain ⟨h0, hs, hhi, hh0, shs⟩ := shi.uncons h1
  have hW := W_gt
  unfold shlWordsHigh
  simp only [hx.1, hlo, hhi]
  rw [hlo] at slo hsplit; rw [hhi] at shi hsplit
  suffices h : ∃ r, (if l0 ≠ 0 ∧ h0 ≠ W - 1 then some ⟨(h0 + 1) :: hs ++ compl ((l0 - 1) :: ls), 0⟩
      else if (subSlices (h0 :: hs ++ zeros (N - swhi)) (zeros swhi ++ l0 :: ls) 0).2 = 1
        then addSmall ⟨(subSlices (h0 :: hs ++ zeros (N - swhi)) (zeros swhi ++ l0 :: ls) 0).1, 0⟩ 1
        else some ⟨(subSlices (h0 :: hs ++ zeros (N - swhi)) (zeros swhi ++ l0 :: ls) 0).1, 0⟩) = some r ∧
      WfN N r ∧ r.top ≤ 1 ∧ r.value + W ^ swhi * val (l0 :: ls) ≡ val (h0 :: hs) [MOD Fmod N] by
    obtain ⟨r, hr, hw, htop, hv⟩ := h
    refine ⟨r, hr, hw, htop, (modEq_neg hv).trans ?_⟩
    rw [show (FI.mk ws 0).value * W ^ (N + swhi) =
        W ^ N * W ^ N * val (h0 :: hs) + W ^ N * (W ^ swhi * val (l0 :: ls)) by
      rw [FI.value_mk, hsplit, pow_add, ← pow_split (le_of_lt h2)]; ring]
    have hsq := (sq_modEq_one N).mul_right (val (h0 :: hs))
    rw [one_mul] at hsq
    exact (hsq.add_right _).symm
  by_cases hf : l0 ≠ 0 ∧ h0 ≠ W - 1
  · -- no carry: `!(L - 1)` in the high words is `W^(N-swhi) - L`, and one more in the lowest word makes `W^N + 1`
    rw [if_pos hf]
    have sh' : Sl swhi ((h0 + 1) :: hs) := (Sl.cons_iff.2 ⟨by omega, shs⟩).cast (by omega)
    have sl' : Sl (N - swhi) ((l0 - 1) :: ls) := (Sl.cons_iff.2 ⟨by omega, sls⟩).cast (by omega)
    have hcv := compl_val _ sl'.2
    have hL := val_pred_cons ls hf.1
    have hH : val ((h0 + 1) :: hs) = val (h0 :: hs) + 1 := by rw [val_cons, val_cons]; omega
    rw [sl'.1] at hcv
    have hcL : val (compl ((l0 - 1) :: ls)) + val (l0 :: ls) = W ^ (N - swhi) := by omega
    refine ⟨_, rfl, (sh'.append sl'.compl).cast (by omega), by simp, ?_⟩
    apply modEq_of_eq (k1 := 0) (k2 := 1)
    rw [FI.value_mk, val_append, sh'.1, hH, Fmod, ← pow_split (le_of_lt h2)]
    linear_combination W ^ swhi * hcL
  · rw [if_neg hf]
    obtain ⟨r, hr, hw, htop, hv⟩ := subWrap_spec (N := N) 0 (by omega) ((shi.append (Sl.zeros (N - swhi))).cast (by omega))
      (((Sl.zeros swhi).append slo).cast (by omega)) (by omega)
    rw [val_append, val_zeros, Nat.mul_zero, Nat.add_zero, val_append, val_zeros, zeros_length, Nat.zero_add,
      Nat.mul_zero, Nat.add_zero] at hv
    exact ⟨r, hr, hw, htop, hv⟩

theorem wordStage_spec {N : Nat} (x : FI) (sw : Nat) (hN : 0 < N) (hx : WfN N x) (ht : x.top = 0)
    (hsw : sw < 2 * N) :
    ∃ x1, (if sw = 0 then some x
        else if sw < N then shlWordsLow x sw
        else if sw = N then addSmall ⟨compl x.ws, x.top⟩ 2
        else shlWordsHigh x (sw - N)) = some x1 ∧ WfN N x1 ∧ x1.top ≤ 1 ∧
      x1.value ≡ x.value * W ^ sw [MOD Fmod N] := by
  by_cases h0 : sw = 0
  · rw [if_pos h0]
    exact ⟨x, rfl, hx, by omega, by subst h0; simp [Nat.ModEq]⟩
  · rw [if_neg h0]
    by_cases h1 : sw < N
    · rw [if_pos h1]
      exact shlWordsLow_spec x sw hx ht (by omega) h1
    · rw [if_neg h1]
      by_cases h2 : sw = N
      · rw [if_pos h2]
        subst h2
        exact shlNeg_spec x hN hx ht
      · rw [if_neg h2]
        obtain ⟨r, hr, hw, htop, hv⟩ := shlWordsHigh_spec x (sw - N) hx ht (by omega) (by omega)
        refine ⟨r, hr, hw, htop, ?_⟩
        have : N + (sw - N) = sw := by omega
        rwa [this] at hv

theorem pow_two_split (s : Nat) : 2 ^ s = W ^ (s / 64) * 2 ^ (s % 64) := by
  rw [W_eq, ← pow_mul, ← pow_add]
  congr 1
  have := Nat.div_add_mod s 64
  omega

theorem shlMain_spec {N : Nat} (x : FI) (s : Nat) (hN : 0 < N) (hx : WfN N x) (ht : x.top = 0)
    (hs : s < 128 * N) :
    ∃ r, shlMain x s = some r ∧ WfN N r ∧ Norm r ∧ r.value ≡ x.value * 2 ^ s [MOD Fmod N] := by
  unfold shlMain
  simp only [hx.1]
  by_cases h0 : s = 0
  · rw [if_pos h0]
    exact ⟨x, rfl, hx, Or.inl ht, by subst h0; simp [Nat.ModEq]⟩
  · rw [if_neg h0]
    obtain ⟨x1, h1, hw1, ht1, hv1⟩ := wordStage_spec x (s / 64) hN hx ht (by omega)
    rw [h1]
    simp only
    have hW := W_gt
    by_cases hb : s % 64 > 0
    · rw [if_pos hb]
      have h64 : s % 64 < 64 := Nat.mod_lt _ (by decide)
      have hp : 0 < 2 ^ (s % 64) := Nat.pow_pos (by decide)
      obtain ⟨d, k, hr, sd, e4, e1⟩ := shlBits_spec (s % 64) hb h64 0 hw1 hp
      rw [hr]
      simp only
      have hp2 : 2 ^ (s % 64) * 2 ≤ W := by
        rw [W_eq, ← pow_succ]; exact Nat.pow_le_pow_right (by decide) (by omega)
      have hle : x1.top * 2 ^ (s % 64) ≤ 2 ^ (s % 64) := by
        simpa using Nat.mul_le_mul_right (2 ^ (s % 64)) ht1
      rw [Nat.mod_eq_of_lt (show x1.top * 2 ^ (s % 64) < W by omega)]
      obtain ⟨r, hr, hw, hn, hv⟩ := reduce_spec' ⟨d, x1.top * 2 ^ (s % 64) + k⟩ hN sd (by simp only; omega)
      refine ⟨r, hr, hw, hn, hv.trans ?_⟩
      have hexact : (FI.mk d (x1.top * 2 ^ (s % 64) + k)).value = x1.value * 2 ^ (s % 64) := by
        simp only [FI.value, sd.1, hw1.1]
        linear_combination e1
      rw [hexact, pow_two_split s, ← Nat.mul_assoc]
      exact Nat.ModEq.mul_right _ hv1
    · rw [if_neg hb]
      have hb0 : s % 64 = 0 := by omega
      obtain ⟨r, hr, hw, hn, hv⟩ := reduce_spec' x1 hN hw1 (by omega)
      refine ⟨r, hr, hw, hn, hv.trans ?_⟩
      rw [pow_two_split s, hb0, pow_zero, Nat.mul_one]
      exact hv1


theorem pow_period (N : Nat) : 2 ^ (128 * N) ≡ 1 [MOD Fmod N] := by
  rw [show 2 ^ (128 * N) = W ^ N * W ^ N by rw [W_eq, ← pow_mul, ← pow_add]; congr 1; omega]
  exact sq_modEq_one N

theorem pow_mod_period (N s : Nat) : 2 ^ s ≡ 2 ^ (s % (128 * N)) [MOD Fmod N] := by
  conv_lhs => rw [← Nat.div_add_mod s (128 * N), pow_add, pow_mul]
  have := (pow_period N).pow (s / (128 * N))
  rw [one_pow] at this
  have := this.mul_right (2 ^ (s % (128 * N)))
  rwa [one_mul] at this

theorem shl_spec' {N : Nat} (x : FI) (s : Nat) (hN : 0 < N) (hx : WfN N x) (hn : Norm x) :
    ∃ r, shl x s = some r ∧ WfN N r ∧ Norm r ∧ r.value ≡ x.value * 2 ^ s [MOD Fmod N] := by
  unfold shl
  simp only [hx.1, isReduced_of_norm hn]
  have hN0 : ¬ N = 0 := by omega
  simp only [hN0, if_false, Bool.not_true, Bool.false_eq_true]
  have hs : s % (128 * N) < 128 * N := Nat.mod_lt _ (by omega)
  by_cases h1 : x.top = 1
  · rw [if_pos h1]
    have hv0 : val x.ws = 0 := by rcases hn with h | ⟨_, h⟩; omega; exact h
    have hone : WfN N ⟨1 :: zeros (N - 1), 0⟩ := by
      refine ⟨by simp; omega, Wf_cons.2 ⟨by decide, Wf_zeros _⟩⟩
    obtain ⟨z, hz, hwz, hnz, hvz⟩ := shlMain_spec ⟨1 :: zeros (N - 1), 0⟩ (s % (128 * N)) hN hone rfl hs
    rw [hz]
    simp only
    have hzero : WfN N (zero N) := ⟨by simp [zero], Wf_zeros _⟩
    obtain ⟨r, hr, hwr, hnr, hvr⟩ := sub_spec' (zero N) z hN hzero hwz (Or.inl rfl) hnz
    refine ⟨r, hr, hwr, hnr, ?_⟩
    -- r + z ≡ 0, z ≡ 2^s, x = W^N ≡ -1
    have hzv : z.value ≡ 2 ^ s [MOD Fmod N] := by
      refine hvz.trans ?_
      have : (FI.mk (1 :: zeros (N - 1)) 0).value = 1 := by
        simp [FI.value, val_zeros]
      rw [this, one_mul]
      exact (pow_mod_period N s).symm
    have hxv : x.value = W ^ N := by simp [FI.value, hv0, h1, hx.1]
    have h0 : (zero N).value = 0 := by simp [FI.value, zero, val_zeros]
    rw [h0] at hvr
    -- r ≡ W^N * 2^s  because r + 2^s ≡ 0 and (W^N + 1) * 2^s ≡ 0
    have h2 : r.value + 2 ^ s ≡ 0 [MOD Fmod N] := (Nat.ModEq.add_left _ hzv.symm).trans hvr
    have h3 : x.value * 2 ^ s + 2 ^ s ≡ 0 [MOD Fmod N] := by
      apply modEq_of_eq (k1 := 0) (k2 := 2 ^ s)
      rw [hxv, Fmod]; ring
    exact Nat.ModEq.add_right_cancel' (2 ^ s) (h2.trans h3.symm)
  · rw [if_neg h1]
    have ht : x.top = 0 := by have := norm_top_le hn; omega
    obtain ⟨r, hr, hw, hnr, hv⟩ := shlMain_spec x (s % (128 * N)) hN hx ht hs
    exact ⟨r, hr, hw, hnr, hv.trans ((pow_mod_period N s).symm.mul_left _)⟩

theorem shr_spec' {N : Nat} (x : FI) (s : Nat) (hN : 0 < N) (hx : WfN N x) (hn : Norm x)
    (hs : s ≤ 128 * N) :
    ∃ r, shr x s = some r ∧ WfN N r ∧ Norm r ∧ r.value * 2 ^ s ≡ x.value [MOD Fmod N] := by
  unfold shr
  simp only [hx.1]
  by_cases h0 : s = 0
  · rw [if_pos h0]; subst h0
    exact ⟨x, rfl, hx, hn, by simp [Nat.ModEq]⟩
  · rw [if_neg h0]
    have : ¬ 128 * N < s := by omega
    rw [if_neg this]
    obtain ⟨r, hr, hw, hnr, hv⟩ := shl_spec' x (128 * N - s) hN hx hn
    refine ⟨r, hr, hw, hnr, ?_⟩
    have h1 := hv.mul_right (2 ^ s)
    refine h1.trans ?_
    rw [Nat.mul_assoc, ← pow_add, Nat.sub_add_cancel hs]
    have := (pow_period N).mul_left x.value
    rwa [Nat.mul_one] at this

end Ymq.FInt
