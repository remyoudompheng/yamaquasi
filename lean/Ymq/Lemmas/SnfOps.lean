/-
Row operations of the model of `SmithNormalForm` (Ymq/Model/Snf.lean) on the `i128` path
(`0 < h < 2^63`): `normalize`, `submul_n` (one source row), `eliminate`. Each of them replaces rows
by invertible `Z/h`-combinations: the relation module `rowSpan` is unchanged, `q`, `gens`, `h` are
untouched (`RowEquiv`).
-/
import Ymq.Lemmas.SnfBasic
import Mathlib.Tactic.LinearCombination

namespace Ymq.Snf
open Ymq.Arith (chk128 extendedGcd)

/-- the part of the state that row operations never touch -/
def SameFrame (s s' : St) : Prop :=
  s'.q = s.q ∧ s'.gens = s.gens ∧ s'.h = s.h ∧ s'.qm = s.qm ∧ s'.qe = s.qe ∧ s'.removed = s.removed ∧
    s'.rows.length = s.rows.length

theorem SameFrame.refl (s : St) : SameFrame s s := ⟨rfl, rfl, rfl, rfl, rfl, rfl, rfl⟩

theorem SameFrame.trans {a b c : St} (h1 : SameFrame a b) (h2 : SameFrame b c) : SameFrame a c := by
  obtain ⟨a1, a2, a3, a4, a5, a6, a7⟩ := h1
  obtain ⟨b1, b2, b3, b4, b5, b6, b7⟩ := h2
  exact ⟨by rw [b1, a1], by rw [b2, a2], by rw [b3, a3], by rw [b4, a4], by rw [b5, a5], by rw [b6, a6],
    by rw [b7, a7]⟩

/-- `RowEquiv s s'`: same frame and same relation module (what row operations preserve) -/
def RowEquiv (s s' : St) : Prop :=
  SameFrame s s' ∧ rowSpan s.h s.gens.length s'.rows = rowSpan s.h s.gens.length s.rows

theorem RowEquiv.refl (s : St) : RowEquiv s s := ⟨SameFrame.refl s, rfl⟩

theorem RowEquiv.trans {a b c : St} (h1 : RowEquiv a b) (h2 : RowEquiv b c) : RowEquiv a c := by
  refine ⟨h1.1.trans h2.1, ?_⟩
  have e1 : b.h = a.h := h1.1.2.2.1
  have e2 : b.gens = a.gens := h1.1.2.1
  have := h2.2
  rw [e1, e2] at this
  rw [this, h1.2]

theorem small_of_h_eq {s s' : St} (h : s'.h = s.h) (hs : s.small = true) : s'.small = true := by
  unfold St.small at *
  rw [h]; exact hs

theorem small_of_sameFrame {s s' : St} (h : SameFrame s s') (hs : s.small = true) : s'.small = true :=
  small_of_h_eq h.2.2.1 hs

theorem isUnit_of_gcd_one (x : Int) (h : Nat) (hx : Int.gcd x h = 1) : IsUnit ((x : Int) : ZMod h) := by
  have hc : Nat.Coprime x.natAbs h := by
    simpa [Int.gcd] using hx
  have hu : IsUnit ((x.natAbs : Nat) : ZMod h) := (ZMod.isUnit_iff_coprime _ _).mpr hc
  rcases Int.natAbs_eq x with e | e
  · rw [e]; simpa using hu
  · rw [e]; simpa using hu.neg

theorem rowVec_apply (h n : Nat) (row : List Int) (c : Fin n) (hc : (c : Nat) < row.length) :
    rowVec h n row c = ((row[(c : Nat)] : Int) : ZMod h) := by
  simp [rowVec, List.getD_eq_getElem?_getD, List.getElem?_eq_getElem hc]

theorem rowVec_set (h n : Nat) (row : List Int) (k : Nat) (v : Int) (hk : k < row.length) (c : Fin n) :
    rowVec h n (row.set k v) c = if k = (c : Nat) then ((v : Int) : ZMod h) else rowVec h n row c := by
  unfold rowVec
  rw [List.getD_eq_getElem?_getD, List.getElem?_set, List.getD_eq_getElem?_getD]
  split
  · simp
  · rfl

/-- **normalize** (`0 < h < 2^63`): row `i` is multiplied by a unit of `Z/h`. -/
theorem normalize_spec (s s' : St) (i k : Nat) (hs : s.small = true) (h : s.normalize i k = some s') :
    SameFrame s s' ∧ rowSpan s.h s.gens.length s'.rows = rowSpan s.h s.gens.length s.rows := by
  unfold St.normalize at h
  simp only [] at h
  cases ha : get2 s.rows i k with
  | none => rw [ha] at h; cases h
  | some a =>
  rw [ha] at h; simp only [] at h
  cases heg : extendedGcd a s.h with
  | none => rw [heg] at h; cases h
  | some gxy =>
  obtain ⟨g, x0, y0⟩ := gxy
  rw [heg] at h; simp only [] at h
  by_cases hag : a = g
  · rw [if_pos hag] at h
    obtain rfl := Option.some.inj h
    exact ⟨SameFrame.refl s, rfl⟩
  rw [if_neg hag] at h
  by_cases hg0 : g = 0
  · rw [if_pos hg0] at h; cases h
  rw [if_neg hg0] at h
  by_cases hgc : Int.gcd x0 (Int.tdiv s.h g) ≠ 1
  · rw [if_pos hgc] at h; cases h
  rw [if_neg hgc] at h
  cases hx1 : coprimeLoop g (Int.tdiv s.h g) normFuel x0 with
  | none => rw [hx1] at h; cases h
  | some x1 =>
  rw [hx1] at h; simp only [] at h
  by_cases hh0 : (s.h : Int) = 0
  · rw [if_pos hh0] at h; cases h
  rw [if_neg hh0] at h
  by_cases hgcd : Int.gcd (x1 % (s.h : Int)) (s.h : Int) ≠ 1
  · rw [if_pos hgcd] at h; cases h
  rw [if_neg hgcd] at h
  cases hrow : s.rows[i]? with
  | none => rw [hrow] at h; cases h
  | some row =>
  rw [hrow] at h; simp only [] at h
  cases hrow' : updRange (fun _ vi => s.mulMod vi (x1 % (s.h : Int))) 0 s.gens.length row 0 with
  | none => rw [hrow'] at h; cases h
  | some row' =>
  rw [hrow'] at h
  obtain rfl := Option.some.inj h
  obtain ⟨hi, rfl⟩ := List.getElem?_eq_some_iff.mp hrow
  obtain ⟨hl, hn, hent⟩ := updRange_some _ 0 s.gens.length _ 0 row' hrow'
  refine ⟨⟨rfl, rfl, rfl, rfl, rfl, rfl, by simp⟩, ?_⟩
  refine rowSpan_set_unit _ _ _ i hi row' _ (isUnit_of_gcd_one _ s.h (by simpa using hgcd)) ?_
  funext c
  have hc : (c : Nat) < s.rows[i].length := by have := c.2; omega
  rw [Pi.smul_apply, rowVec_apply _ _ _ _ (by omega), rowVec_apply _ _ _ _ hc, smul_eq_mul,
    mulMod_small s hs _ _ _ ((hent c hc (by omega)).1 ⟨Nat.zero_le _, by have := c.2; omega⟩), mul_comm]

theorem get2_some {M : Mat} {i j : Nat} {v : Int} (h : get2 M i j = some v) :
    ∃ (hi : i < M.length) (hj : j < M[i].length), M[i][j] = v := by
  unfold get2 at h
  cases hr : M[i]? with
  | none => rw [hr] at h; cases h
  | some r =>
    rw [hr] at h
    obtain ⟨hi, rfl⟩ := List.getElem?_eq_some_iff.mp hr
    obtain ⟨hj, hv⟩ := List.getElem?_eq_some_iff.mp h
    exact ⟨hi, hj, hv⟩

theorem subProducts_one {rows : Mat} {j idx : Nat} {mm x0 x : Int}
    (h : subProducts chk128 rows j idx [mm] 0 x0 = some x) :
    ∃ r, get2 rows j idx = some r ∧ x = x0 - mm * r := by
  unfold subProducts at h
  simp only [Nat.add_zero] at h
  split at h
  · exact absurd h (by simp)
  · rename_i r hr
    split at h
    · exact absurd h (by simp)
    · rename_i t ht
      split at h
      · exact absurd h (by simp)
      · rename_i x' hx'
        unfold subProducts at h
        have := Option.some.inj h
        exact ⟨r, hr, by rw [← this, chk128_some hx', chk128_some ht]⟩

/-- the echelon precondition of `submul_n` for one source row: the entries of row `j` left of column
`j` vanish modulo `h` -/
theorem echelonOk_one (s : St) (j : Nat) (h : s.echelonOk j 1 = true) :
    ∀ c, c < j → ∃ v, get2 s.rows j c = some v ∧ (v = 0 ∨ v = (s.h : Int)) := by
  intro c hc
  unfold St.echelonOk at h
  simp only [List.range_one, List.all_cons, List.all_nil, Bool.and_true, Nat.add_zero] at h
  rw [List.all_eq_true] at h
  have := h c (List.mem_range.mpr hc)
  split at this
  · rename_i v hv
    exact ⟨v, hv, by simpa using this⟩
  · exact absurd this (by simp)

/-- **submul_n** with one source row (`0 < h < 2^63`): `row_i -= m · row_j` modulo `h`. -/
theorem submul1_spec (s s' : St) (i j : Nat) (mm : Int) (hs : s.small = true) (hij : i ≠ j)
    (h : s.submulN i j [mm] = some s') :
    SameFrame s s' ∧ rowSpan s.h s.gens.length s'.rows = rowSpan s.h s.gens.length s.rows := by
  unfold St.submulN at h
  have hsm : decide (0 < s.h ∧ s.h < 2 ^ 63 / 1) = true := by
    have := hs
    unfold St.small at this
    simpa using this
  simp only [List.length_singleton, Nat.one_ne_zero, if_false, hsm, if_true] at h
  by_cases hech : (!s.echelonOk j 1) = true
  · rw [if_pos hech] at h; cases h
  rw [if_neg hech] at h
  by_cases hjn : j + 1 > s.gens.length
  · rw [if_pos hjn] at h; cases h
  rw [if_neg hjn] at h
  cases hrow : s.rows[i]? with
  | none => rw [hrow] at h; cases h
  | some row =>
  rw [hrow] at h; simp only [] at h
  split at h
  · cases h
  rename_i row' hrow'
  obtain rfl := Option.some.inj h
  obtain ⟨hi, rfl⟩ := List.getElem?_eq_some_iff.mp hrow
  obtain ⟨hl, hn, hent⟩ := updRange_some _ j s.gens.length _ 0 row' hrow'
  -- what the update computed in column `c ≥ j`
  have hcol : ∀ c (hc : c < s.rows[i].length), j ≤ c → c < s.gens.length →
      ∃ (hj : j < s.rows.length) (hcj : c < s.rows[j].length),
        ((row'[c]'(by omega) : Int) : ZMod s.h) =
          ((s.rows[i][c] : Int) : ZMod s.h) - ((mm : Int) : ZMod s.h) * ((s.rows[j][c] : Int) : ZMod s.h) := by
    intro c hc hjc hcn
    have := (hent c hc (by omega)).1 ⟨by omega, by omega⟩
    simp only [Nat.zero_add] at this
    split at this
    · cases this
    · rename_i x hx
      obtain ⟨r, hr, hxr⟩ := subProducts_one hx
      obtain ⟨hj, hcj, hv⟩ := get2_some hr
      refine ⟨hj, hcj, ?_⟩
      rw [modh128_cast s x _ this, hxr, ← hv]
      push_cast; ring
  -- row `j` exists and reaches the last column
  obtain ⟨hj, hjlen, _⟩ := hcol (s.gens.length - 1) (by omega) (by omega) (by omega)
  refine ⟨⟨rfl, rfl, rfl, rfl, rfl, rfl, by simp⟩, ?_⟩
  refine rowSpan_set_sub _ _ _ i j hi hj hij row' ((mm : Int) : ZMod s.h) ?_
  funext c
  have hc : (c : Nat) < s.rows[i].length := by have := c.2; omega
  have hcj : (c : Nat) < s.rows[j].length := by have := c.2; omega
  rw [Pi.sub_apply, Pi.smul_apply, rowVec_apply _ _ _ _ (show (c : Nat) < row'.length by omega),
    rowVec_apply _ _ _ _ hc, rowVec_apply _ _ _ _ hcj, smul_eq_mul]
  by_cases hcr : j ≤ (c : Nat)
  · exact (hcol c hc hcr c.2).2.2
  · -- left of column `j` the row is untouched and row `j` vanishes modulo `h`
    obtain ⟨v, hv, hv0⟩ := echelonOk_one s j (by simpa using hech) c (by omega)
    obtain ⟨_, _, hv'⟩ := get2_some hv
    have hz : ((s.rows[j][(c : Nat)] : Int) : ZMod s.h) = 0 := by
      rw [hv']
      rcases hv0 with e | e <;> rw [e] <;> simp
    rw [(hent c hc (by omega)).2 (by omega), hz, mul_zero, sub_zero]

theorem lin2_small {p x q y v : Int} {h : Nat} (hv : (lin2 chk128 p x q y).map (· % (h : Int)) = some v) :
    ((v : Int) : ZMod h) = (p : ZMod h) * (x : ZMod h) + (q : ZMod h) * (y : ZMod h) := by
  unfold lin2 at hv
  split at hv
  · rename_i u w hu hw
    cases hc : chk128 (u + w) with
    | none => rw [hc] at hv; exact absurd hv (by simp)
    | some t =>
      rw [hc] at hv
      have e : v = t % (h : Int) := (Option.some.inj hv).symm
      rw [e, chk128_some hc, chk128_some hu, chk128_some hw]
      rw [show (((p * x + q * y) % (h : Int) : Int) : ZMod h) = ((p * x + q * y : Int) : ZMod h) from by
        rw [ZMod.intCast_eq_intCast_iff', Int.emod_emod]]
      push_cast; ring
  · exact absurd hv (by simp)

/-- one entry of the general step of `eliminate` in the `i128` path: `p·x + q·y` modulo `h`, where the
code keeps the entry `z` it is about to replace (`x` or `y`) when both are `0` -/
theorem comb_small {h : Nat} {p q x y z v : Int} (hz : x = 0 ∧ y = 0 → z = 0)
    (hv : (if x = 0 ∧ y = 0 then some z else (lin2 chk128 p x q y).map (· % (h : Int))) = some v) :
    ((v : Int) : ZMod h) = (p : ZMod h) * (x : ZMod h) + (q : ZMod h) * (y : ZMod h) := by
  split at hv
  · rename_i h0
    rw [← Option.some.inj hv, hz h0, h0.1, h0.2]; simp
  · exact lin2_small hv

/-- **eliminate** (`0 < h < 2^63`): either `row_j -= m · row_i`, or the two rows are replaced by
`(a·row_i + b·row_j, c·row_i + d·row_j)` with `a·d - b·c = 1` (Bezout coefficients of the two
entries of column `k`). -/
theorem eliminate_spec (s s' : St) (i j k : Nat) (hs : s.small = true) (h : s.eliminate i j k = some s') :
    SameFrame s s' ∧ rowSpan s.h s.gens.length s'.rows = rowSpan s.h s.gens.length s.rows := by
  unfold St.eliminate at h
  by_cases hij : i = j
  · rw [if_pos hij] at h; cases h
  rw [if_neg hij] at h
  cases hxi : get2 s.rows i k with
  | none => rw [hxi] at h; cases h
  | some xi =>
  cases hxj : get2 s.rows j k with
  | none => rw [hxi, hxj] at h; cases h
  | some xj =>
  rw [hxi, hxj] at h; simp only [] at h
  by_cases hxj0 : xj = 0
  · rw [if_pos hxj0] at h
    obtain rfl := Option.some.inj h
    exact ⟨SameFrame.refl s, rfl⟩
  rw [if_neg hxj0] at h
  by_cases hdiv : xi = 1 ∨ (xi ≠ 0 ∧ Int.tmod xj xi = 0)
  · rw [if_pos hdiv] at h
    exact submul1_spec s s' j i _ hs (Ne.symm hij) h
  rw [if_neg hdiv] at h
  cases hegcd : extendedGcd xi xj with
  | none => rw [hegcd] at h; cases h
  | some gab =>
  obtain ⟨g, a, b⟩ := gab
  rw [hegcd] at h; simp only [] at h
  by_cases hg0 : g = 0
  · rw [if_pos hg0] at h; cases h
  rw [if_neg hg0] at h
  cases hnxj : chk128 (0 - xj) with
  | none => rw [hnxj] at h; cases h
  | some nxj =>
  rw [hnxj] at h; simp only [] at h
  cases hri : s.rows[i]? with
  | none => rw [hri] at h; cases h
  | some ri =>
  cases hrj : s.rows[j]? with
  | none => rw [hri, hrj] at h; cases h
  | some rj =>
  rw [hri, hrj] at h; simp only [hs, if_true] at h
  split at h
  case h_2 => cases h
  rename_i ri' rj' hnewI hnewJ
  obtain rfl := Option.some.inj h
  obtain ⟨hi, rfl⟩ := List.getElem?_eq_some_iff.mp hri
  obtain ⟨hj, rfl⟩ := List.getElem?_eq_some_iff.mp hrj
  -- Bezout data: `xi = g·d`, `-xj = g·c` and `a·d - b·c = 1`
  obtain ⟨hbez, _, ⟨d, hd⟩, ⟨c0, hc0⟩⟩ := extendedGcd_bezout hegcd
  have hdd : Int.tdiv xi g = d := by rw [hd, Int.mul_tdiv_cancel_left _ hg0]
  have hcc : Int.tdiv nxj g = -c0 := by
    rw [chk128_some hnxj, hc0, show (0 : Int) - g * c0 = g * (-c0) by ring, Int.mul_tdiv_cancel_left _ hg0]
  rw [hdd, hcc] at hnewJ
  have hdet : a * d - b * (-c0) = 1 := by
    apply Int.eq_one_of_mul_eq_self_left hg0
    rw [hd, hc0] at hbez
    linear_combination hbez
  obtain ⟨hlI, hnI, hentI⟩ := updRange_some _ 0 s.gens.length _ 0 ri' hnewI
  obtain ⟨hlJ, hnJ, hentJ⟩ := updRange_some _ 0 s.gens.length _ 0 rj' hnewJ
  refine ⟨⟨rfl, rfl, rfl, rfl, rfl, rfl, by simp⟩, ?_⟩
  refine rowSpan_set2_unimod _ _ _ i j hi hj hij ri' rj' ((a : Int) : ZMod s.h) ((b : Int) : ZMod s.h)
    (((-c0 : Int)) : ZMod s.h) ((d : Int) : ZMod s.h) (by exact_mod_cast congrArg (Int.cast (R := ZMod s.h)) hdet) ?_ ?_
  · funext col
    have hc1 : (col : Nat) < s.rows[i].length := by have := col.2; omega
    have hc3 : (col : Nat) < s.rows[j].length := by have := col.2; omega
    have := (hentI col hc1 (by omega)).1 ⟨Nat.zero_le _, by have := col.2; omega⟩
    simp only [Nat.zero_add, List.getElem?_eq_getElem hc3] at this
    rw [Pi.add_apply, Pi.smul_apply, Pi.smul_apply, rowVec_apply _ _ _ _ (by omega),
      rowVec_apply _ _ _ _ hc1, rowVec_apply _ _ _ _ hc3, smul_eq_mul, smul_eq_mul, comb_small (fun h0 => h0.1) this]
  · -- the update of row `j` reads `(x, y)` in the order `(row_i, row_j)`
    funext col
    have hc1 : (col : Nat) < s.rows[j].length := by have := col.2; omega
    have hc3 : (col : Nat) < s.rows[i].length := by have := col.2; omega
    have := (hentJ col hc1 (by omega)).1 ⟨Nat.zero_le _, by have := col.2; omega⟩
    simp only [Nat.zero_add, List.getElem?_eq_getElem hc3] at this
    rw [Pi.add_apply, Pi.smul_apply, Pi.smul_apply, rowVec_apply _ _ _ _ (by omega),
      rowVec_apply _ _ _ _ hc1, rowVec_apply _ _ _ _ hc3, smul_eq_mul, smul_eq_mul, comb_small (fun h0 => h0.2) this]

end Ymq.Snf
