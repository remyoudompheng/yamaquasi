/-
SIQS root tables (C12): exactness of the table entries — the quadratic case (`p ∤ A`), the
linear case (`p ∣ A`), the prime 2 for type 2 polynomials, and exactness of the stored `C`; last the unit polynomial
`A = 1` (`x² − n` resp. `x² + x + (1 − n)/4`) that `Poly::first` builds when `A` has no factor (used by the class group code).
-/
import Ymq.Lemmas.PolySiqs
namespace Ymq.PolySiqs
open Ymq.SiqsPoly Ymq.PolyInv Ymq.PolyBits Ymq.PolyRoots

/-- the value of the polynomial at `y`: `A y² + 2B y + C` (type 1), `A y² + B y + C` (type 2) -/
def polyVal (pol : Poly) (y : Int) : Int :=
  pol.a * y ^ 2 + (if pol.type2 then pol.b else 2 * pol.b) * y + pol.c

/-- the stored coefficients are the exact ones: `a = A` and `C = (B² − n)/A` resp. `(B² − n)/(4A)` -/
def Exact (pol : Poly) (A : Nat) : Prop :=
  pol.a = (A : Int) ∧ polyM pol.type2 A * pol.c = pol.b * pol.b - pol.n

theorem rootInv_modEq {a2a : Nat} {so : Int} {q : Prime} {b : Int} {r12 : Nat × Nat}
    (h : RootInv a2a so q b r12) :
    r12.1 < q.p ∧ r12.2 < q.p ∧
    (a2a : Int) * ((r12.1 : Int) + so) + b ≡ -(q.r : Int) [ZMOD q.p] ∧
    (a2a : Int) * ((r12.2 : Int) + so) + b ≡ (q.r : Int) [ZMOD q.p] := by
  obtain ⟨h1, h2, e1, e2⟩ := h
  exact ⟨h1, h2, zmod_to_modEq (by push_cast; exact e1), zmod_to_modEq (by push_cast; exact e2)⟩

theorem not_dvd_of_mod_ne {a p : Nat} (h : a % p ≠ 0) : ¬ ((p : Int) ∣ (a : Int)) := by
  intro hd
  exact h (Nat.mod_eq_zero_of_dvd (Int.natCast_dvd_natCast.mp hd))

theorem exact_sq {n : Int} {pol : Poly} {A : Nat} (hex : Exact pol A) (ht : pol.type2 = isType2 n) (y : Int) :
    polyM pol.type2 A * polyVal pol y = ((a2aOf n A : Nat) * y + pol.b) ^ 2 - pol.n := by
  obtain ⟨ha, hc⟩ := hex
  unfold polyVal a2aOf
  rw [← ht, ha]
  unfold polyM at hc ⊢
  split
  · rw [if_pos ‹_›] at hc; push_cast; linear_combination hc
  · rw [if_neg ‹_›] at hc; linear_combination hc

theorem not_dvd_polyM {n : Int} {a p : Nat} (hp : Nat.Prime p) (h : a2aOf n a % p ≠ 0) :
    ¬ (p : Int) ∣ polyM (isType2 n) a := by
  have hL := not_dvd_of_mod_ne h
  unfold a2aOf at hL
  unfold polyM
  split
  · rw [if_pos ‹_›] at hL
    intro hd
    rw [show (4 : Int) * (a : Int) = 2 * ((2 * a : Nat) : Int) by push_cast; ring] at hd
    rcases int_prime_dvd_mul hp hd with h2 | h2
    · exact hL (by push_cast; exact Dvd.dvd.mul_right h2 _)
    · exact hL h2
  · rwa [if_neg ‹_›] at hL

theorem exact_generic {n : Int} {fb : List Prime} {pa : APrep} {so : Int} {pol : Poly}
    (hw : WalkInv n fb pa so pol) (hex : Exact pol pa.a)
    (i : Nat) (h1 : i < fb.length) (h2 : i < pol.rs.length) (hprime : Nat.Prime fb[i].p)
    (hp31 : fb[i].p < 2 ^ 31) (hnd : a2aOf n pa.a % fb[i].p ≠ 0)
    (hsq : (fb[i].r : Int) * fb[i].r ≡ n [ZMOD fb[i].p]) (x : Int) :
    (fb[i].p : Int) ∣ polyVal pol (x + so) ↔
      (x ≡ (pol.rs[i].1 : Int) [ZMOD fb[i].p] ∨ x ≡ (pol.rs[i].2 : Int) [ZMOD fb[i].p]) := by
  obtain ⟨_, ht, hn, _, hroot⟩ := hw
  obtain ⟨_, _, e1, e2⟩ := rootInv_modEq (hroot i h1 h2 hprime hp31 hnd)
  exact quad_roots_iff hprime (hn ▸ exact_sq hex ht (x + so)) (ht ▸ not_dvd_polyM hprime hnd)
    (not_dvd_of_mod_ne hnd) hsq e1 e2

theorem polyM_ne_zero {t : Bool} {a : Nat} (ha : a ≠ 0) : polyM t a ≠ 0 := by
  unfold polyM; split <;> omega

theorem Finished.c_eq {s : Sieve} {pa : APrep} {pol : Poly} (hF : Finished s pa pol) (hex : Exact pol pa.a) :
    pol.c = finishC pa pol :=
  mul_left_cancel₀ (polyM_ne_zero hF.a0) (hex.2.trans hF.quot.symm)

theorem dvd_a_of_a2a {n : Int} {a p : Nat} (hp : Nat.Prime p) (hdiv : a2aOf n a % p = 0) (hp2 : p ≠ 2) :
    p ∣ a := by
  have hd : p ∣ a2aOf n a := Nat.dvd_of_mod_eq_zero hdiv
  unfold a2aOf at hd
  split at hd
  · exact ((Nat.Prime.dvd_mul hp).mp hd).resolve_left
      (fun h => hp2 ((Nat.prime_dvd_prime_iff_eq hp Nat.prime_two).mp h))
  · exact hd

theorem exact_div {n : Int} {fb : List Prime} {mm : Nat} {pa : APrep} {B0 : Nat} {ds : List Nat}
    {pol : Poly} (fam : Fam n fb (mkSieve n mm).startOffset pa B0 ds)
    (hF : Finished (mkSieve n mm) pa pol) (hex : Exact pol pa.a)
    (i : Nat) (h1 : i < fb.length) (h2 : i < pol.rs.length) (hprime : Nat.Prime fb[i].p)
    (hdiv : a2aOf n pa.a % fb[i].p = 0) (hp2 : fb[i].p ≠ 2) (x : Int) :
    pol.rs[i].1 = pol.rs[i].2 ∧ pol.rs[i].1 < fb[i].p ∧
    ((fb[i].p : Int) ∣ polyVal pol (x + (mkSieve n mm).startOffset) ↔
      x ≡ (pol.rs[i].1 : Int) [ZMOD fb[i].p]) := by
  have hbN : ((pol.b.toNat : Nat) : Int) = pol.b := Int.toNat_of_nonneg hF.pos.le
  have hipp : i < pa.pps.length := by rw [fam.len]; exact h1
  obtain ⟨_, hpp, _, _, _, _, _, hdivA⟩ := mkPP_some (fam.pp i h1 hipp)
  have hdivA' : pa.pps[i].divA = true := by rw [hdivA]; simp [hdiv, hp2]
  obtain ⟨r, hfin_i⟩ := hF.rs i hipp h2
  obtain ⟨heq, hlt, hroot, hnd⟩ := finishRoot_div (hpp ▸ hprime) hdivA' hfin_i
  rw [hpp] at hlt hroot hnd
  refine ⟨heq, hlt, ?_⟩
  have hpa : (fb[i].p : Int) ∣ (pa.a : Int) := Int.natCast_dvd_natCast.mpr (dvd_a_of_a2a hprime hdiv hp2)
  -- modulo `p` the polynomial is `Lc·y + C` with `Lc = B` (type 2) or `2B` (type 1)
  have hLc : (if pol.type2 then pol.b else 2 * pol.b)
      = (((if pol.type2 = true then 1 else 2) * pol.b.toNat : Nat) : Int) := by
    push_cast; rw [hbN]; split <;> simp
  refine lin_root_iff hprime (Lc := (((if pol.type2 = true then 1 else 2) * pol.b.toNat : Nat) : Int))
    (C := pol.c) (so := (mkSieve n mm).startOffset) ?_ ?_ ?_
  · unfold polyVal
    rw [hLc, hex.1]
    exact Int.modEq_iff_dvd.mpr ⟨-(pa.a / fb[i].p) * (x + (mkSieve n mm).startOffset) ^ 2, by
      rw [← mul_assoc, mul_neg, Int.mul_ediv_cancel' hpa]; ring⟩
  · intro hd; exact hnd (Int.natCast_dvd_natCast.mp hd)
  · apply zmod_to_modEq
    rw [hF.c_eq hex]
    push_cast
    push_cast at hroot
    exact hroot

theorem Finished.exact {s : Sieve} {pa : APrep} {pol : Poly} (hF : Finished s pa pol) (ha : pol.a = (pa.a : Int))
    (hfit : -P255 ≤ (pol.b * pol.b - pol.n) / polyM pol.type2 pa.a ∧
      (pol.b * pol.b - pol.n) / polyM pol.type2 pa.a < P255) : Exact pol pa.a := by
  rw [← hF.quot, Int.mul_ediv_cancel_left _ (polyM_ne_zero hF.a0)] at hfit
  exact ⟨ha, by rw [hF.c, wrap256_eq hfit]; exact hF.quot⟩

theorem finishRoot_two {s : Sieve} {b : Nat} {c : Int} {pp : PP} {r12 : Nat × Nat}
    (hdiv : pp.divA = false) (hp : pp.p = 2) :
    finishRoot s true b c true pp r12 = some (if c.natAbs % 2 = 0 then (0, 1) else r12) := by
  unfold finishRoot
  simp only [hdiv, hp, Bool.false_eq_true, if_false]
  by_cases hc : c.natAbs % 2 = 0 <;> simp [hc]

theorem exact_two {n : Int} {fb : List Prime} {mm : Nat} {pa : APrep} {B0 : Nat} {ds : List Nat}
    {pol : Poly} (fam : Fam n fb (mkSieve n mm).startOffset pa B0 ds)
    (hF : Finished (mkSieve n mm) pa pol) (ht : pol.type2 = true)
    (hex : Exact pol pa.a) (hbodd : pol.b % 2 = 1) (haodd : pa.a % 2 = 1)
    (h1 : 0 < fb.length) (h2 : 0 < pol.rs.length) (hp2 : fb[0].p = 2) (x : Int) :
    (2 : Int) ∣ polyVal pol (x + (mkSieve n mm).startOffset) →
      (x ≡ (pol.rs[0].1 : Int) [ZMOD 2] ∨ x ≡ (pol.rs[0].2 : Int) [ZMOD 2]) := by
  have hipp : 0 < pa.pps.length := by rw [fam.len]; exact h1
  obtain ⟨_, hpp, _, _, _, _, _, hdivA⟩ := mkPP_some (fam.pp 0 h1 hipp)
  have hdivA' : pa.pps[0].divA = false := by rw [hdivA]; simp [hp2]
  obtain ⟨r, hfin_i⟩ := hF.rs 0 hipp h2
  rw [ht, beq_self_eq_true, finishRoot_two hdivA' (by rw [hpp, hp2]), ← hF.c_eq hex] at hfin_i
  intro hdv
  -- `A` and `B` are odd, so `P(y) ≡ C (mod 2)`: a root exists only for even `C`, and then the entry is `(0, 1)`
  have hpar : polyVal pol (x + (mkSieve n mm).startOffset) % 2 = pol.c % 2 := by
    unfold polyVal
    rw [ht, if_pos rfl, hex.1]
    exact quad_parity (by omega) hbodd _ _
  rw [if_pos (by omega)] at hfin_i
  rw [← Option.some.inj hfin_i]
  exact Int.emod_two_eq_zero_or_one x

theorem unit_exact {s : Sieve} {pa : APrep} {pol : Poly} (h : first s pa = some pol)
    (he : pa.factors.isEmpty = true) : Exact pol 1 := by
  obtain ⟨hbits, _, ha, ht, hn, _, h1, h2⟩ := first_unit h he
  have hlt := lt_of_bitlen_lt hbits
  have hw : wrap256 s.n = s.n := by
    apply wrap256_eq
    unfold P255
    have : (2 : Nat) ^ (128 - 1) = 170141183460469231731687303715884105728 := by norm_num
    rw [this] at hlt
    omega
  refine ⟨by rw [ha]; simp, ?_⟩
  rw [ht, hn, polyM]
  by_cases htyp : isType2 s.n = true
  · obtain ⟨hb, hc⟩ := h2 htyp
    rw [if_pos htyp, hb, hc, hw]
    have h4 : s.n % 4 = 1 := by simpa [isType2] using htyp
    have : (4 : Int) ∣ 1 - s.n := by omega
    push_cast
    rw [Int.mul_ediv_cancel' this]
  · have htyp' : isType2 s.n = false := by simpa using htyp
    obtain ⟨hb, hc⟩ := h1 htyp'
    rw [if_neg htyp, hb, hc, hw]; push_cast; ring

theorem unit_two {s : Sieve} {pa : APrep} {pol : Poly} (h : first s pa = some pol)
    (he : pa.factors.isEmpty = true) (ht : isType2 s.n = true)
    (h0 : 0 < pa.pps.length) (hp : pa.pps[0].p = 2) (h0' : 0 < pol.rs.length) (x : Int) :
    x ≡ (pol.rs[0].1 : Int) [ZMOD 2] ∨ x ≡ (pol.rs[0].2 : Int) [ZMOD 2] := by
  obtain ⟨_, _, _, _, _, hrs, _, _⟩ := first_unit h he
  have : pol.rs[0].2 = pol.rs[0].1 + 1 := by
    obtain ⟨pp, rest, hpps⟩ := List.exists_cons_of_length_pos h0
    have e : pol.rs = ((firstRoots pp).1, (firstRoots pp).1 + 1) :: rest.map firstRoots := by
      rw [hrs, hpps, List.map_cons, unitFix_cons, if_pos ⟨ht, by simpa [hpps] using hp⟩]
    simp only [e, List.getElem_cons_zero]
  rw [this]
  push_cast
  unfold Int.ModEq
  omega

end Ymq.PolySiqs
