/-
Number theory of the plain modular Miller test `Ymq.Pseudoprime.millerBase` (C06):
it accepts every prime, and on odd `p` with `p - 1 = d 2^s`, `d` odd, it accepts exactly the
strong probable primes to the base.
-/
import Ymq.Lemmas.Inv2adic
import Ymq.Lemmas.BinPow
import Ymq.Model.Pseudoprime
import Mathlib.FieldTheory.Finite.Basic
import Mathlib.Data.Nat.Factorization.Induction

namespace Ymq.Pseudoprime
open Ymq.Mg64 (le_of_pow_dvd_of_odd_quot)

theorem sqLoopN_step (p t pow : Nat) (ok : Bool) :
    sqLoop p (t + 1) pow ok =
      if pow * pow % p = p - 1 then true else if pow * pow % p = 1 then ok
      else sqLoop p t (pow * pow % p) ok := by
  rw [sqLoop]

theorem powMod_spec (p f res x e : Nat) (he : e < 2 ^ f) (hres : res < p) :
    powMod p f res x e = res * x ^ e % p := by
  obtain ⟨h1, h2⟩ := BinPow.loop_mod p (F := powMod p) (fun _ _ _ => rfl)
    (fun _ _ _ _ => rfl) f e res x he
  rw [← h2 (Nat.mod_eq_of_lt hres)]; exact h1

theorem millerBase_eq (p s d b : Nat) (hp : 1 < p) (hd : d < 2 ^ 1024) :
    millerBase p s d b =
      sqLoop p s (b ^ d % p) (decide (b ^ d % p = 1) || decide (b ^ d % p = p - 1)) := by
  unfold millerBase
  have : powMod p 1024 1 (b % p) d = b ^ d % p := by
    rw [powMod_spec p 1024 1 (b % p) d hd hp, Nat.one_mul, ← Nat.pow_mod]
  simp only [this]

/-- `n` is a strong probable prime to base `b` (Miller–Rabin sense):
`n - 1 = d 2^s` with `d` odd, and `b^d ≡ 1` or `b^(d 2^r) ≡ -1 (mod n)` for some `r < s`. -/
def SPRP (n b : Nat) : Prop :=
  ∃ d s, d % 2 = 1 ∧ n - 1 = d * 2 ^ s ∧
    (b ^ d % n = 1 ∨ ∃ r, r < s ∧ b ^ (d * 2 ^ r) % n = n - 1)

theorem odd_part_unique (d s d' s' : Nat) (hd : d % 2 = 1) (hd' : d' % 2 = 1)
    (h : d * 2 ^ s = d' * 2 ^ s') : d = d' ∧ s = s' := by
  have key : ∀ d s : Nat, d % 2 = 1 → d * 2 ^ s % 2 ^ s = 0 ∧ d * 2 ^ s / 2 ^ s % 2 = 1 :=
    fun d s hd => ⟨Nat.mul_mod_left _ _, by rwa [Nat.mul_div_cancel _ (Nat.pow_pos (by decide))]⟩
  obtain ⟨a1, a2⟩ := key d s hd
  obtain ⟨b1, b2⟩ := key d' s' hd'
  rw [← h] at b1 b2
  obtain rfl : s = s' := le_antisymm (le_of_pow_dvd_of_odd_quot _ s s' a1 b1 b2)
    (le_of_pow_dvd_of_odd_quot _ s' s b1 a1 a2)
  exact ⟨Nat.eq_of_mul_eq_mul_right (Nat.pow_pos (by decide)) h, rfl⟩

theorem pow_two_succ_mod (y p r : Nat) : y ^ 2 ^ (r + 1) % p = (y * y % p) ^ 2 ^ r % p := by
  rw [← Nat.pow_mod]; congr 1
  rw [pow_succ, Nat.mul_comm, pow_mul, pow_two]

theorem exists_succ_range {t : Nat} {P : Nat → Prop} :
    (∃ r, 1 ≤ r ∧ r ≤ t + 1 ∧ P r) ↔ P 1 ∨ ∃ r, 1 ≤ r ∧ r ≤ t ∧ P (r + 1) := by
  constructor
  · rintro ⟨r, h1, h2, h3⟩
    obtain ⟨r', rfl⟩ : ∃ r', r = r' + 1 := ⟨r - 1, by omega⟩
    rcases Nat.eq_zero_or_pos r' with rfl | h0
    · exact Or.inl h3
    · exact Or.inr ⟨r', h0, by omega, h3⟩
  · rintro (h | ⟨r, h1, h2, h3⟩)
    · exact ⟨1, le_refl _, by omega, h⟩
    · exact ⟨r + 1, by omega, by omega, h3⟩

theorem sqLoop_true_iff (p : Nat) (hp : 2 < p) :
    ∀ t y ok, sqLoop p t y ok = true ↔
      ok = true ∨ ∃ r, 1 ≤ r ∧ r ≤ t ∧ y ^ 2 ^ r % p = p - 1 := by
  intro t
  induction t with
  | zero =>
    intro y ok
    simp only [sqLoop]
    exact ⟨Or.inl, fun h => h.elim id fun ⟨r, h1, h2, _⟩ => by omega⟩
  | succ t ih =>
    intro y ok
    have e1 : y ^ 2 ^ 1 % p = y * y % p := by rw [pow_one, pow_two]
    rw [sqLoopN_step, exists_succ_range, e1]
    simp only [pow_two_succ_mod]
    by_cases c1 : y * y % p = p - 1
    · simp only [c1, if_true, true_or, or_true]
    · rw [if_neg c1]
      by_cases c2 : y * y % p = 1
      · -- once a square is 1 all later squares are 1, never `p - 1`
        have : ∀ r, ¬ (1 : Nat) ^ 2 ^ r % p = p - 1 := fun r => by
          rw [one_pow, Nat.mod_eq_of_lt (by omega)]; omega
        have h1 : ¬ 1 = p - 1 := by omega
        simp only [c2, if_true, this, and_false, exists_false, or_false, h1]
      · rw [if_neg c2, ih]
        simp only [c1, false_or]

theorem sq_eq_one_prime (p y : Nat) (hp : Nat.Prime p) (hy : y < p) (h : y * y % p = 1) :
    y = 1 ∨ y = p - 1 := by
  have hp2 := hp.two_le
  rcases y with _ | z
  · simp at h
  · have e : z * (z + 2) + 1 = (z + 1) * (z + 1) := by ring
    have h1 : z * (z + 2) + 1 ≡ 0 + 1 [MOD p] := by
      rw [e]; unfold Nat.ModEq; rw [h, Nat.zero_add, Nat.mod_eq_of_lt (by omega)]
    have h2 : p ∣ z * (z + 2) := (Nat.modEq_zero_iff_dvd).1 (Nat.ModEq.add_right_cancel' 1 h1)
    rcases (Nat.Prime.dvd_mul hp).1 h2 with h3 | h3
    · left
      have := Nat.eq_zero_of_dvd_of_lt h3 (by omega)
      omega
    · right
      have := Nat.le_of_dvd (by omega) h3
      omega

theorem sqLoop_prime (p : Nat) (hp : Nat.Prime p) :
    ∀ t y ok, y < p → y ^ 2 ^ t % p = 1 → (y * y % p = 1 → ok = true) →
      sqLoop p t y ok = true := by
  have hp2 := hp.two_le
  intro t
  induction t with
  | zero =>
    intro y ok hy h1 hok
    simp only [sqLoop]
    rw [pow_zero, pow_one, Nat.mod_eq_of_lt hy] at h1
    subst h1
    exact hok (by rw [Nat.mul_one]; exact Nat.mod_eq_of_lt (by omega))
  | succ t ih =>
    intro y ok hy h1 hok
    rw [sqLoopN_step]
    by_cases c1 : y * y % p = p - 1
    · rw [if_pos c1]
    · rw [if_neg c1]
      by_cases c2 : y * y % p = 1
      · rw [if_pos c2]; exact hok c2
      · rw [if_neg c2]
        refine ih _ _ (Nat.mod_lt _ (by omega)) (by rw [← pow_two_succ_mod]; exact h1) ?_
        intro h
        rcases sq_eq_one_prime p _ hp (Nat.mod_lt _ (by omega)) h with h | h
        · exact absurd h c2
        · exact absurd h c1

/-- Completeness of the Miller test, whatever the split `p - 1 = d 2^s` (`d` need not be odd). -/
theorem millerBase_prime (p s d b : Nat) (hp : Nat.Prime p) (hpd : p - 1 = d * 2 ^ s)
    (hb : ¬ p ∣ b) (hd : d < 2 ^ 1024) : millerBase p s d b = true := by
  have hp2 := hp.two_le
  rw [millerBase_eq p s d b (by omega) hd]
  apply sqLoop_prime p hp _ _ _ (Nat.mod_lt _ (by omega))
  · rw [← Nat.pow_mod, ← pow_mul, ← hpd]
    have hc : Nat.Coprime b p := ((Nat.Prime.coprime_iff_not_dvd hp).2 hb).symm
    have := Nat.ModEq.pow_totient hc
    rw [Nat.totient_prime hp] at this
    rw [this, Nat.mod_eq_of_lt (by omega)]
  · intro h
    rcases sq_eq_one_prime p _ hp (Nat.mod_lt _ (by omega)) h with h | h
    · simp [h]
    · simp [h]

theorem modEq_one_of_prime_factors (M : Nat) :
    ∀ n : Nat, n ≠ 0 → (∀ q, Nat.Prime q → q ∣ n → q ≡ 1 [MOD M]) → n ≡ 1 [MOD M] := by
  intro n
  induction n using Nat.recOnMul with
  | zero => intro h; exact absurd rfl h
  | one => intro _ _; rfl
  | prime q hq => intro _ h; exact h q hq (dvd_refl q)
  | mul a b iha ihb =>
    intro h0 h
    have ha : a ≠ 0 := fun e => h0 (by rw [e, Nat.zero_mul])
    have hb : b ≠ 0 := fun e => h0 (by rw [e, Nat.mul_zero])
    have := (iha ha fun q hq hd => h q hq (dvd_mul_of_dvd_left hd b)).mul
      (ihb hb fun q hq hd => h q hq (dvd_mul_of_dvd_right hd a))
    simpa using this

/-- For odd `p` with `p - 1 = d 2^s`, `d` odd, `b^(p-1)` is never `-1` modulo `p`: the last turn of
the squaring loop of the code (`r = s`) can never be the accepting one. -/
theorem no_neg_one_top (p d s b : Nat) (hp : 2 < p) (hodd : p % 2 = 1) (hd : d % 2 = 1)
    (hpd : p - 1 = d * 2 ^ s) : b ^ (d * 2 ^ s) % p ≠ p - 1 := by
  intro h
  have hall : ∀ q, Nat.Prime q → q ∣ p → q ≡ 1 [MOD 2 ^ (s + 1)] := by
    intro q hq hqp
    have : Fact (Nat.Prime q) := ⟨hq⟩
    have hq2 : 2 < q := by
      rcases Nat.lt_or_ge 2 q with h2 | h2
      · exact h2
      · exfalso
        have : q = 2 := le_antisymm h2 hq.two_le
        subst this
        have := Nat.mod_eq_zero_of_dvd hqp
        omega
    have : Fact (2 < q) := ⟨hq2⟩
    -- in ZMod q: (b^d)^(2^s) = -1
    have hcast : ((b ^ (d * 2 ^ s) : ℕ) : ZMod q) = ((p - 1 : ℕ) : ZMod q) := by
      rw [ZMod.natCast_eq_natCast_iff]
      have : b ^ (d * 2 ^ s) ≡ p - 1 [MOD p] := by
        unfold Nat.ModEq; rw [h, Nat.mod_eq_of_lt (by omega)]
      exact this.of_dvd hqp
    have hp0 : ((p : ℕ) : ZMod q) = 0 := (ZMod.natCast_eq_zero_iff p q).2 hqp
    have hm1 : ((p - 1 : ℕ) : ZMod q) = -1 := by
      rw [Nat.cast_sub (by omega), hp0]; simp
    set c : ZMod q := (b : ZMod q) ^ d with hc
    have hc1 : c ^ 2 ^ s = -1 := by
      rw [hc, ← pow_mul, ← hm1, ← hcast]; push_cast; rfl
    have hne : ¬ c ^ 2 ^ s = 1 := by rw [hc1]; exact ZMod.neg_one_ne_one
    have hc2 : c ^ 2 ^ (s + 1) = 1 := by
      rw [pow_succ, pow_mul, hc1]; norm_num
    have hord : orderOf c = 2 ^ (s + 1) := by
      have : Fact (Nat.Prime 2) := ⟨Nat.prime_two⟩
      exact orderOf_eq_prime_pow hne hc2
    have hc0 : c ≠ 0 := by
      intro e; rw [e, zero_pow (by positivity)] at hc2; exact zero_ne_one hc2
    have hdvd : 2 ^ (s + 1) ∣ q - 1 := by
      rw [← hord]; exact ZMod.orderOf_dvd_card_sub_one hc0
    have hq1 : 1 ≤ q := by omega
    exact ((Nat.modEq_iff_dvd' hq1).2 hdvd).symm
  have hp1 : p ≡ 1 [MOD 2 ^ (s + 1)] := modEq_one_of_prime_factors _ p (by omega) hall
  have hdvd : 2 ^ (s + 1) ∣ p - 1 := (Nat.modEq_iff_dvd' (by omega)).1 hp1.symm
  rw [hpd, pow_succ, Nat.mul_comm d] at hdvd
  have : 2 ∣ d := (Nat.mul_dvd_mul_iff_left (by positivity)).1 hdvd
  omega

theorem millerBase_iff_SPRP (p s d b : Nat) (hp : 2 < p) (hodd : p % 2 = 1) (hd : d % 2 = 1)
    (hpd : p - 1 = d * 2 ^ s) (hd' : d < 2 ^ 1024) : millerBase p s d b = true ↔ SPRP p b := by
  have hs : 1 ≤ s := by
    rcases Nat.eq_zero_or_pos s with h | h
    · subst h; simp at hpd; omega
    · exact h
  rw [millerBase_eq p s d b (by omega) hd', sqLoop_true_iff p hp]
  constructor
  · rintro (h | ⟨r, h1, h2, h3⟩)
    · simp only [Bool.or_eq_true, decide_eq_true_eq] at h
      rcases h with h | h
      · exact ⟨d, s, hd, hpd, Or.inl h⟩
      · exact ⟨d, s, hd, hpd, Or.inr ⟨0, by omega, by simpa using h⟩⟩
    · rw [← Nat.pow_mod, ← pow_mul] at h3
      rcases Nat.lt_or_ge r s with hr | hr
      · exact ⟨d, s, hd, hpd, Or.inr ⟨r, hr, h3⟩⟩
      · exfalso
        have : r = s := le_antisymm h2 hr
        subst this
        exact no_neg_one_top p d r b hp hodd hd hpd h3
  · rintro ⟨d', s', hd1, hpd1, h⟩
    obtain ⟨rfl, rfl⟩ := odd_part_unique d' s' d s hd1 hd (by rw [← hpd1, hpd])
    rcases h with h | ⟨r, hr, h3⟩
    · left; simp [h]
    · rcases Nat.eq_zero_or_pos r with h0 | h0
      · subst h0
        left
        simp only [pow_zero, Nat.mul_one] at h3
        simp [h3]
      · right
        exact ⟨r, h0, by omega, by rw [← Nat.pow_mod, ← pow_mul]; exact h3⟩

end Ymq.Pseudoprime
