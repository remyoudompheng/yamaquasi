/-
C03/qs64, no panic, the block sieve: the `u8` accumulator `interval[off] += logp` cannot overflow
(`sieveAll_ok`; the composed statement is `qsRels_total`, Ymq/Lemmas/Qsieve64Total.lean).

At index `i` the sieve adds `logp = bitlen p` once per root `rt ∈ {r, p − r}` with
`nsqrt + offset + i ≡ rt (mod p)`; then `p` divides `V = (nsqrt + offset + i)² − nk` (both roots
coincide when `p ∣ nk`, so a prime can be counted twice). Hence the byte is at most
`Σ 2·bitlen p` over the DISTINCT factor-base primes `p > 3` dividing `V`. Their product divides
`V ≠ 0`, `|V| < 2^60`, and `2^(bitlen p − 1) ≤ p`, so `Σ (bitlen p − 1) ≤ 59`; with `bitlen p ≥ 3`
this gives `Σ 2·bitlen p ≤ 177 < 256`.
-/
import Ymq.Lemmas.Qsieve64Valid

namespace Ymq.Qsieve64
open Ymq.Relations

theorem coprime_prod_of_primes {p : Nat} (hp : p.Prime) : ∀ (t : List Nat),
    (∀ q ∈ t, q.Prime ∧ q ≠ p) → Nat.Coprime p t.prod := by
  intro t
  induction t with
  | nil => intro _; simp
  | cons q t ih =>
    intro h
    rw [List.prod_cons]
    obtain ⟨hq, hne⟩ := h q List.mem_cons_self
    exact Nat.Coprime.mul_right ((Nat.coprime_primes hp hq).mpr (Ne.symm hne))
      (ih fun q' hq' => h q' (List.mem_cons_of_mem _ hq'))

theorem prod_primes_dvd (m : Nat) : ∀ (ps : List Nat), ps.Nodup → (∀ p ∈ ps, p.Prime) →
    (∀ p ∈ ps, p ∣ m) → ps.prod ∣ m := by
  intro ps
  induction ps with
  | nil => intro _ _ _; simp
  | cons p t ih =>
    intro hnd hpr hdv
    rw [List.nodup_cons] at hnd
    rw [List.prod_cons]
    refine Nat.Coprime.mul_dvd_of_dvd_of_dvd ?_ (hdv p List.mem_cons_self)
      (ih hnd.2 (fun q hq => hpr q (List.mem_cons_of_mem _ hq))
        (fun q hq => hdv q (List.mem_cons_of_mem _ hq)))
    refine coprime_prod_of_primes (hpr p List.mem_cons_self) t ?_
    intro q hq
    exact ⟨hpr q (List.mem_cons_of_mem _ hq), fun h => hnd.1 (h ▸ hq)⟩

theorem pow_log_le_prod : ∀ (ps : List Nat), (∀ p ∈ ps, 4 < p) →
    2 ^ (ps.map Nat.log2).sum ≤ ps.prod ∧
    (ps.map fun p => 2 * Dividers.bitlen p).sum ≤ 3 * (ps.map Nat.log2).sum := by
  intro ps
  induction ps with
  | nil => intro _; simp
  | cons p t ih =>
    intro h
    obtain ⟨h1, h2⟩ := ih fun q hq => h q (List.mem_cons_of_mem _ hq)
    have hp := h p List.mem_cons_self
    have hp0 : p ≠ 0 := by omega
    have hl : 2 ^ p.log2 ≤ p := Nat.log2_self_le hp0
    have hl2 : 2 ≤ p.log2 := (Nat.le_log2 hp0).mpr (by omega)
    simp only [List.map_cons, List.sum_cons, List.prod_cons]
    refine ⟨?_, ?_⟩
    · rw [pow_add]; exact Nat.mul_le_mul hl h1
    · have : Dividers.bitlen p = p.log2 + 1 := by unfold Dividers.bitlen; rw [if_neg hp0]
      rw [this]; omega

/-- the factor-base primes above 3 that divide `v` -/
def hitPrimes (v : Int) (ps : List Nat) : List Nat :=
  ps.filter fun p => decide (3 < p ∧ v % (p : Int) = 0)

/-- the bound on the accumulator byte of a position whose sieved value is `v` -/
def wt (v : Int) (ps : List Nat) : Nat := ((hitPrimes v ps).map fun p => 2 * Dividers.bitlen p).sum

theorem wt_append (v : Int) (a b : List Nat) : wt v (a ++ b) = wt v a + wt v b := by
  simp [wt, hitPrimes, List.filter_append]

theorem wt_single (v : Int) (p : Nat) :
    wt v [p] = if 3 < p ∧ v % (p : Int) = 0 then 2 * Dividers.bitlen p else 0 := by
  unfold wt hitPrimes
  by_cases h : 3 < p ∧ v % (p : Int) = 0
  · simp only [if_pos h, List.filter_cons, List.filter_nil, decide_eq_true h, ite_true,
      List.map_cons, List.map_nil, List.sum_cons, List.sum_nil, Nat.add_zero]
  · simp only [if_neg h, List.filter_cons, List.filter_nil, decide_eq_false h, Bool.false_eq_true,
      ite_false, List.map_nil, List.sum_nil]

/-- `Σ log2 p ≤ 59` over the distinct hit primes (their product divides `|v| < 2^60`), and
`2·bitlen p ≤ 3·log2 p` for `p > 4`: `3·59 = 177` -/
theorem wt_le (v : Int) (ps : List Nat) (hnd : ps.Nodup) (hpr : ∀ p ∈ ps, p.Prime) (hv : v ≠ 0)
    (hlt : v.natAbs < 2 ^ 60) : wt v ps ≤ 177 := by
  have hmem : ∀ p ∈ hitPrimes v ps, p ∈ ps ∧ 3 < p ∧ v % (p : Int) = 0 := by
    intro p hp
    unfold hitPrimes at hp
    rw [List.mem_filter] at hp
    exact ⟨hp.1, by simpa using hp.2⟩
  have hdvd : (hitPrimes v ps).prod ∣ v.natAbs := by
    refine prod_primes_dvd _ _ (hnd.filter _) (fun p hp => hpr p (hmem p hp).1) ?_
    intro p hp
    exact Int.natCast_dvd.mp (Int.dvd_of_emod_eq_zero (hmem p hp).2.2)
  have hpos : 0 < v.natAbs := Int.natAbs_pos.mpr hv
  have hle := Nat.le_of_dvd hpos hdvd
  have h4 : ∀ p ∈ hitPrimes v ps, 4 < p := by
    intro p hp
    have h3 := (hmem p hp).2.1
    have hprime := hpr p (hmem p hp).1
    rcases Nat.lt_or_ge 4 p with h | h
    · exact h
    · have : p = 4 := by omega
      subst this
      exact absurd hprime (by decide)
  obtain ⟨h1, h2⟩ := pow_log_le_prod _ h4
  have h3 : 2 ^ ((hitPrimes v ps).map Nat.log2).sum < 2 ^ 60 := by omega
  have h5 : ((hitPrimes v ps).map Nat.log2).sum < 60 := (Nat.pow_lt_pow_iff_right (by decide)).mp h3
  unfold wt
  omega

theorem getD_set (iv : Array Nat) (off s i : Nat) (h : off < iv.size) :
    (iv.setIfInBounds off s).getD i 0 = if off = i then s else iv.getD i 0 := by
  simp only [Array.getD_eq_getD_getElem?, Array.getElem?_setIfInBounds]
  split
  · simp
  · rfl

theorem hit_shift {p off i : Nat} (hne : off ≠ i) :
    (off + p ≤ i ∧ p ∣ i - (off + p)) ↔ (off ≤ i ∧ p ∣ i - off) := by
  constructor
  · intro ⟨hle, hd⟩
    refine ⟨by omega, ?_⟩
    rw [show i - off = (i - (off + p)) + p by omega]
    exact Nat.dvd_add hd (dvd_refl p)
  · intro ⟨hle, hd⟩
    have hpi : p ≤ i - off := Nat.le_of_dvd (by omega) hd
    refine ⟨by omega, ?_⟩
    rw [← Nat.sub_sub]
    exact Nat.dvd_sub hd (dvd_refl p)

/-- the loop `while off < len { interval[off] += logp; off += p }`: with enough room below 256 at
every position it touches, it returns, and it adds `logp` exactly at `off, off + p, off + 2p, …` -/
theorem addLoop_ok (logp p : Nat) (hp : 0 < p) : ∀ (f off : Nat) (iv : Array Nat),
    iv.size ≤ off + f →
    (∀ i, i < iv.size → off ≤ i → p ∣ i - off → iv.getD i 0 + logp < 256) →
    ∃ iv', addLoop logp p f off iv = .ok iv' ∧ iv'.size = iv.size ∧
      ∀ i, i < iv.size → iv'.getD i 0 = iv.getD i 0 + (if off ≤ i ∧ p ∣ i - off then logp else 0) := by
  intro f
  induction f with
  | zero =>
    intro off iv hsz _
    unfold addLoop
    rw [if_neg (by omega)]
    refine ⟨iv, rfl, rfl, ?_⟩
    intro i hi
    rw [if_neg (by omega)]; rfl
  | succ f ih =>
    intro off iv hsz hroom
    unfold addLoop
    by_cases hlt : off < iv.size
    · rw [if_pos hlt]
      have h0 := hroom off hlt (le_refl _) (by simp)
      simp only
      rw [if_neg (by omega)]
      have hsz' : (iv.setIfInBounds off (iv.getD off 0 + logp)).size = iv.size := by simp
      obtain ⟨iv', h1, h2, h3⟩ := ih (off + p) (iv.setIfInBounds off (iv.getD off 0 + logp))
        (by rw [hsz']; omega) (by
          intro i hi hle hd
          rw [hsz'] at hi
          have hne : off ≠ i := by omega
          rw [getD_set _ _ _ _ hlt, if_neg hne]
          obtain ⟨g1, g2⟩ := (hit_shift hne).mp ⟨hle, hd⟩
          exact hroom i hi g1 g2)
      refine ⟨iv', h1, by rw [h2, hsz'], ?_⟩
      intro i hi
      rw [h3 i (by rw [hsz']; exact hi), getD_set _ _ _ _ hlt]
      by_cases hio : off = i
      · subst hio
        rw [if_pos rfl, if_neg (by omega), if_pos ⟨le_refl _, by simp⟩]; rfl
      · rw [if_neg hio, if_congr (hit_shift hio) rfl rfl]
    · rw [if_neg hlt]
      refine ⟨iv, rfl, rfl, ?_⟩
      intro i hi
      rw [if_neg (by omega)]; rfl

def IsRoot (p nk : Nat) (rt : Int) : Prop := (p : Int) ∣ rt * rt - (nk : Int)

theorem isRoot_of_sqrt {p nk r : Nat} (h : r * r % p = nk % p) : IsRoot p nk (r : Int) := by
  unfold IsRoot
  have : (nk : Int) ≡ ((r * r : Nat) : Int) [ZMOD (p : Int)] := by
    rw [Int.natCast_modEq_iff]; exact h.symm
  have := Int.modEq_iff_dvd.mp this
  push_cast at this
  exact this

theorem isRoot_neg {p nk r : Nat} (h : IsRoot p nk (r : Int)) : IsRoot p nk ((p : Int) - r) := by
  unfold IsRoot at *
  have : ((p : Int) - r) * ((p : Int) - r) - nk = (p : Int) * ((p : Int) - 2 * r) + (r * r - nk) := by
    ring
  rw [this]
  exact Int.dvd_add (Dvd.intro _ rfl) h

/-- a sieve hit is a root: the loop starts at `off ≡ rt − offset − nsqrt (mod p)` and steps by `p`,
so at a hit `nsqrt + offset + i ≡ rt`, and `p` divides `V = (u − rt)(u + rt) + (rt² − nk)` -/
theorem V_emod_of_hit {c : Ctx} {offset rt : Int} {p i off : Nat} (hroot : IsRoot p c.nk rt)
    (hoff : (off : Int) = (rt - offset - (c.nsqrt : Int)) % (p : Int)) (hle : off ≤ i)
    (hd : p ∣ i - off) : V c offset i % (p : Int) = 0 := by
  apply Int.emod_eq_zero_of_dvd
  have hd1 : (p : Int) ∣ (i : Int) - (off : Int) := by
    have := Int.natCast_dvd_natCast.mpr hd
    rwa [Nat.cast_sub hle] at this
  have hd2 : (p : Int) ∣ (rt - offset - (c.nsqrt : Int)) - (off : Int) := by
    rw [hoff]; exact Int.dvd_self_sub_emod
  have hd3 : (p : Int) ∣ ((c.nsqrt : Int) + ((i : Int) + offset)) - rt := by
    have := Int.dvd_sub hd1 hd2
    rwa [show (i : Int) - off - (rt - offset - c.nsqrt - off) =
      (c.nsqrt : Int) + ((i : Int) + offset) - rt by ring] at this
  unfold V
  rw [show ((c.nsqrt : Int) + ((i : Int) + offset)) * ((c.nsqrt : Int) + ((i : Int) + offset)) - (c.nk : Int) =
    (((c.nsqrt : Int) + ((i : Int) + offset)) - rt) * (((c.nsqrt : Int) + ((i : Int) + offset)) + rt) +
      (rt * rt - c.nk) by ring]
  exact Int.dvd_add (Dvd.dvd.mul_right hd3 _) hroot

/-- bounds every block satisfies: `|offset| ≤ 64·16384 = 2^20` (64 blocks of at most 16384) -/
structure Small (c : Ctx) (offset : Int) : Prop where
  off_lo : -(2 ^ 20 : Int) ≤ offset
  off_hi : offset ≤ (2 ^ 20 : Int)
  ns : c.nsqrt < 2 ^ 32

theorem sieveRoot_ok {c : Ctx} {offset : Int} (hs : Small c offset) {e : FbEntry} (he : EntryOK e)
    (hp200 : e.p < 200) (logp rt : Nat) (hrt : rt ≤ e.p) (hroot : IsRoot e.p c.nk (rt : Int))
    (iv : Array Nat)
    (hroom : ∀ i, i < iv.size → V c offset i % (e.p : Int) = 0 → iv.getD i 0 + logp < 256) :
    ∃ iv', sieveRoot c offset e logp rt iv = .ok iv' ∧ iv'.size = iv.size ∧
      ∀ i, i < iv.size →
        iv'.getD i 0 ≤ iv.getD i 0 + (if V c offset i % (e.p : Int) = 0 then logp else 0) := by
  have hI := I63_eq
  have hns : toI64 c.nsqrt = (c.nsqrt : Int) := toI64_small (by
    have : (I63 : Nat) = 2 ^ 63 := by decide
    have := hs.ns; omega)
  have hns' : (c.nsqrt : Int) < 2 ^ 32 := by exact_mod_cast hs.ns
  have hrt' : (rt : Int) < 200 := by exact_mod_cast (lt_of_le_of_lt hrt hp200)
  have h1 := hs.off_lo
  have h2 := hs.off_hi
  obtain ⟨off, hoff, hoffv⟩ := Dividers.modi64_ok e.div he.1 ((rt : Int) - offset - (c.nsqrt : Int))
    (by omega) (by omega)
  rw [he.2] at hoffv
  have hppos : 0 < e.p := by have := he.1.p_pos; rw [he.2] at this; exact this
  have hhit : ∀ i, off ≤ i → e.p ∣ i - off → V c offset i % (e.p : Int) = 0 :=
    fun i => V_emod_of_hit hroot hoffv
  obtain ⟨iv', g1, g2, g3⟩ := addLoop_ok logp e.p hppos iv.size off iv (by omega)
    (fun i hi hle hd => hroom i hi (hhit i hle hd))
  unfold sieveRoot
  rw [hns, chkI64_bind (by omega) (by omega), chkI64_bind (by omega) (by omega), hoff]
  refine ⟨iv', g1, g2, ?_⟩
  · intro i hi
    rw [g3 i hi]
    by_cases hc : off ≤ i ∧ e.p ∣ i - off
    · rw [if_pos hc, if_pos (hhit i hc.1 hc.2)]
    · rw [if_neg hc]; exact Nat.le_add_right _ _

theorem sievePrime_ok {c : Ctx} {offset : Int} (hs : Small c offset) {e : FbEntry}
    (he : FbFact c.nk e) (iv : Array Nat)
    (hroom : ∀ i, i < iv.size → iv.getD i 0 + wt (V c offset i) [e.p] < 256) :
    ∃ iv', sievePrime c offset e iv = .ok iv' ∧ iv'.size = iv.size ∧
      ∀ i, i < iv.size → iv'.getD i 0 ≤ iv.getD i 0 + wt (V c offset i) [e.p] := by
  unfold sievePrime
  by_cases h3 : e.p ≤ 3
  · rw [if_pos h3]
    exact ⟨iv, rfl, rfl, fun i _ => Nat.le_add_right _ _⟩
  · rw [if_neg h3, if_neg (by have := he.rlt; omega)]
    simp only [wt_single, show 3 < e.p by omega, true_and] at hroom ⊢
    have hroot1 : IsRoot e.p c.nk (e.r : Int) := isRoot_of_sqrt he.root
    have hroot2 : IsRoot e.p c.nk ((e.p - e.r : Nat) : Int) := by
      rw [Nat.cast_sub (le_of_lt he.rlt)]; exact isRoot_neg hroot1
    obtain ⟨iv1, g1, g2, g3⟩ := sieveRoot_ok hs he.ok he.lt (Dividers.bitlen e.p) e.r
      (le_of_lt he.rlt) hroot1 iv (fun i hi hv => by have := hroom i hi; rw [if_pos hv] at this; omega)
    obtain ⟨iv2, k1, k2, k3⟩ := sieveRoot_ok hs he.ok he.lt (Dividers.bitlen e.p) (e.p - e.r)
      (Nat.sub_le _ _) hroot2 iv1 (fun i hi hv => by
        rw [g2] at hi
        have := hroom i hi; have := g3 i hi
        rw [if_pos hv] at *; omega)
    refine ⟨iv2, by simp only [g1, bind, Except.bind]; exact k1, by rw [k2, g2], fun i hi => ?_⟩
    have := g3 i hi; have := k3 i (by rw [g2]; exact hi)
    by_cases hv : V c offset i % (e.p : Int) = 0
    · rw [if_pos hv] at *; omega
    · rw [if_neg hv] at *; omega

/-- the invariant of the sieve: with `done` the primes sieved so far, the byte at `i` is at most
`wt (V i) done`, and `wt (V i)` of the whole base is at most 177 (`wt_le`), so no `+=` overflows -/
theorem sieveAll_ok {c : Ctx} {offset : Int} (hs : Small c offset) :
    ∀ (rest : List FbEntry) (done : List Nat) (iv : Array Nat), (∀ e ∈ rest, FbFact c.nk e) →
    (∀ i, i < iv.size → wt (V c offset i) (done ++ rest.map (·.p)) ≤ 177) →
    (∀ i, i < iv.size → iv.getD i 0 ≤ wt (V c offset i) done) →
    ∃ iv', sieveAll c offset rest iv = .ok iv' ∧ iv'.size = iv.size := by
  intro rest
  induction rest with
  | nil => intro done iv _ _ _; exact ⟨iv, rfl, rfl⟩
  | cons e t ih =>
    intro done iv hf hroom hiv
    rw [List.forall_mem_cons] at hf
    obtain ⟨iv1, g1, g2, g3⟩ := sievePrime_ok hs hf.1 iv (fun i hi => by
      have h1 := hroom i hi; have := hiv i hi
      rw [List.map_cons, List.append_cons, wt_append, wt_append] at h1; omega)
    obtain ⟨iv2, k1, k2⟩ := ih (done ++ [e.p]) iv1 hf.2
      (fun i hi => by have := hroom i (g2 ▸ hi); rwa [List.map_cons, List.append_cons] at this)
      (fun i hi => by
        have := g3 i (g2 ▸ hi); have := hiv i (g2 ▸ hi)
        rw [wt_append]; omega)
    exact ⟨iv2, by unfold sieveAll; simp only [g1, bind, Except.bind]; exact k1, by rw [k2, g2]⟩

end Ymq.Qsieve64
