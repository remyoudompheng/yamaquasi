/-
Light curve identities of C15 proved by unfolding the translated formulas (Gen/Curves.lean):
ecm128 formulas = twisted ecm formulas, fused double-add, negation, curve constructors, Suyama
generator. The closure and agreement identities for every `a` live in Curve*Closed / Curve*Add*.
-/
import Ymq.Lemmas.CurveDefs

namespace Ymq.Curve
open Ymq.Gen.Curves
variable {R : Type} [CommRing R]

theorem e128_add_eq (g : Pt R) (d : R) (p q : Ext R) : e128Add g p q = ecmAddext d true p q := by
  simp only [e128Add, ecmAddext, ecmAddextAux, Bool.false_eq_true, ↓reduceIte]

theorem e128_dblext_eq (g : Pt R) (d : R) (p : Pt R) : e128Dblext g p = ecmDblext d true p := by
  simp only [e128Dblext, ecmDblext, ↓reduceIte]

theorem e128_double_eq (g : Pt R) (d : R) (p : Pt R) : e128Double g p = ecmDouble d true p := by
  simp only [e128Double, ecmDouble, ↓reduceIte]

theorem e128_ext_eq (g : Pt R) (d : R) (p : Pt R) : e128Ext g p = ecmToExtended d true p := by
  simp only [e128Ext, ecmToExtended]

/-- `dbladd(p, q) = add(dblext(p), q)` without the last coordinate -/
theorem e128_dbladd_eq (g : Pt R) (p : Pt R) (q : Ext R) :
    e128Dbladd g p q = (e128Add g (e128Dblext g p) q).toProj := by
  simp only [e128Dbladd, e128Add, Ext.toProj]

/-- ecm128's validity test (same quadric as the generator) follows from the curve equation with the
`d` of the generator's curve. -/
theorem e128_is_valid_of (g : Pt R) (d : R) (p : Ext R) (hg : ecmIsValidext d true (e128Ext g g))
    (hp : ecmIsValidext d true p) : e128IsValid g p := by
  obtain ⟨gx, gy, gz⟩ := g
  obtain ⟨x, y, z, t⟩ := p
  simp only [e128IsValid, e128IsValidSides, e128Ext, ecmIsValidext, ecmIsValidextSides, ↓reduceIte] at hg hp ⊢
  linear_combination (t * t) * hg - (gx * gy * (gx * gy)) * hp

theorem negExt_valid (d : R) (tw : Bool) (q : Ext R) (h : ecmIsValidext d tw q) (hq : OnQuadric q) :
    ecmIsValidext d tw (negExt q) ∧ OnQuadric (negExt q) := by
  obtain ⟨x, y, z, t⟩ := q
  cases tw <;>
  · simp only [ecmIsValidext, ecmIsValidextSides, negExt, OnQuadric, Bool.false_eq_true, ↓reduceIte] at h hq ⊢
    exact ⟨by linear_combination h, by linear_combination -hq⟩

theorem toProj_valid (d : R) (tw : Bool) (p : Ext R) (h : ecmIsValidext d tw p) (hq : OnQuadric p) :
    ecmIsValid d tw p.toProj := by
  obtain ⟨x, y, z, t⟩ := p
  cases tw <;>
  · simp only [ecmIsValidext, ecmIsValidextSides, ecmIsValid, ecmIsValidSides, Ext.toProj, OnQuadric,
      Bool.false_eq_true, ↓reduceIte] at h hq ⊢
    linear_combination (z * z) * h + d * (t * z + x * y) * hq

theorem addextproj_eq (d : R) (tw : Bool) (p q : Ext R) :
    ecmAddextproj d tw p q = (ecmAddext d tw p q).toProj := by
  simp only [ecmAddextproj, ecmAddext, ecmAddextAux, Ext.toProj]

/-- the extended addition is not unified: on equal arguments it returns the zero quadruple (a = ±1,
no hypothesis needed). `scalar64_chainmul` therefore returns `(0,0,0)` whenever a double-add step
meets `2 Q = ± i P` — e.g. on points of order 4, or when a chain prefix `m` has `2 m ≡ ± i` modulo the
order of `P`. -/
theorem addext_self (d : R) (tw : Bool) (p : Ext R) : ecmAddext d tw p p = ⟨0, 0, 0, 0⟩ := by
  obtain ⟨x, y, z, t⟩ := p
  cases tw <;>
  · simp only [ecmAddext, ecmAddextAux, Bool.false_eq_true, ↓reduceIte, Ext.mk.injEq]
    exact ⟨by ring, by ring, by ring, by ring⟩

/-- `params`: `(σ + 1)(3x + z) = 72 z` and `r (3x + z)² = 432 y z` when `(3x+z)²` is invertible -/
theorem suyama_params_rel (inv : R → R) (a b gx gy : R) (pt : Pt R)
    (hinv : ((pt.z + pt.x + (pt.x + pt.x)) * (pt.z + pt.x + (pt.x + pt.x))) *
      inv ((pt.z + pt.x + (pt.x + pt.x)) * (pt.z + pt.x + (pt.x + pt.x))) = 1) :
    ((suyamaParams inv a b gx gy pt).1 + 1) * (3 * pt.x + pt.z) = 72 * pt.z ∧
    (suyamaParams inv a b gx gy pt).2 * ((3 * pt.x + pt.z) * (3 * pt.x + pt.z)) = 432 * (pt.y * pt.z) := by
  obtain ⟨x, y, z⟩ := pt
  simp only [suyamaParams] at hinv ⊢
  push_cast
  generalize inv ((z + x + (x + x)) * (z + x + (x + x))) = w at hinv ⊢
  constructor
  · linear_combination (72 * z) * hinv
  · linear_combination (432 * y * z) * hinv

/-- `twisted_from_point`: the generator lies on the curve with the `d` it computes (when `x²y²` is
invertible, i.e. when the constructor does not return an unexpected factor) -/
theorem twisted_from_point_valid (inv : R → R) (d0 : R) (tw0 : Bool) (g : Pt R)
    (hinv : (g.x * g.x * (g.y * g.y)) * inv (g.x * g.x * (g.y * g.y)) = 1) :
    ecmIsValid (ecmTwistedFromPoint inv d0 tw0 g) true g := by
  obtain ⟨x, y, z⟩ := g
  simp only [ecmIsValid, ecmIsValidSides, ecmTwistedFromPoint, ↓reduceIte] at hinv ⊢
  linear_combination (-(z * z * (y * y - x * x - z * z))) * hinv

/-- `from_point(x, y)`: `(x, y, 1)` lies on the a = +1 curve with the `d` it computes -/
theorem from_point_valid (inv : R → R) (x y : R) (h1 : (1 : R) * inv 1 = 1) (hxy : (x * y) * inv (x * y) = 1) :
    ecmIsValid (ecmFromPoint inv x y).1 false (ecmFromPoint inv x y).2 := by
  simp only [ecmIsValid, ecmIsValidSides, ecmFromPoint, Bool.false_eq_true, ↓reduceIte]
  have h1' : inv (1 : R) = 1 := by simpa using h1
  rw [h1']
  linear_combination (-(x * x + y * y - 1) * (x * y * inv (x * y) + 1)) * hxy

/-- the generator (12 - 1/3, 24) of `Suyama11::new` lies on `y² = x³ - 361/3 x + 10582/27` -/
theorem suyama_generator_valid (t : R) (h3 : ((3 : Nat) : R) * t = 1) :
    suyamaIsValid (suyamaConsts t).1 (suyamaConsts t).2.1 (suyamaConsts t).2.2.1 (suyamaConsts t).2.2.2
      ⟨(suyamaConsts t).2.2.1, (suyamaConsts t).2.2.2, 1⟩ := by
  simp only [suyamaIsValid, suyamaIsValidSides, suyamaConsts]
  push_cast at h3 ⊢
  linear_combination (-3527 * t ^ 2 - 1308 * t + 1152 : R) * h3

end Ymq.Curve
