/-
C14 (core Lean only): the rotation trick of `impl Mul<&Block> for &Block`
(`m[r] ^= x & y.rotate_right(r)`, `SmallMat::transpose`, `rotate_left`) computes the bilinear
product: `blockDotRot_eq`.
-/
import Ymq.Lemmas.Gf2Sparse
namespace Ymq.Gf2

theorem testBit_of_lt64 (y i : Nat) (hy : y < 2 ^ 64) (hi : 64 ≤ i) : y.testBit i = false :=
  Nat.testBit_lt_two_pow (Nat.lt_of_lt_of_le hy (Nat.pow_le_pow_right (by omega) hi))

/-- both rotations: a right shift by `a` and a left shift by `b = 64 - a`, truncated to 64 bits -/
theorem testBit_rot (y a b c : Nat) (hy : y < 2 ^ 64) (hab : a + b = 64) (hc : c < 64) :
    (((y >>> a) ||| (y <<< b)) % 2 ^ 64).testBit c = y.testBit ((c + a) % 64) := by
  rw [Nat.testBit_mod_two_pow, Nat.testBit_or, Nat.testBit_shiftRight, Nat.testBit_shiftLeft,
    decide_eq_true hc, Bool.true_and]
  by_cases h : c + a < 64
  · rw [Nat.mod_eq_of_lt h, Nat.add_comm a c, decide_eq_false (by omega), Bool.false_and, Bool.or_false]
  · rw [testBit_of_lt64 y (a + c) hy (by omega), decide_eq_true (by omega), Bool.false_or, Bool.true_and,
      show c - b = (c + a) % 64 by omega]

theorem testBit_rotr64 (y r c : Nat) (hy : y < 2 ^ 64) (hr : r < 64) (hc : c < 64) :
    (rotr64 y r).testBit c = y.testBit ((c + r) % 64) := by
  rw [rotr64, Nat.mod_eq_of_lt hr]
  exact testBit_rot y r (64 - r) c hy (by omega) hc

theorem testBit_rotl64 (y r c : Nat) (hy : y < 2 ^ 64) (hr : r < 64) (hc : c < 64) :
    (rotl64 y r).testBit c = y.testBit ((c + 64 - r) % 64) := by
  rw [rotl64, Nat.mod_eq_of_lt hr, Nat.or_comm, show c + 64 - r = c + (64 - r) by omega]
  exact testBit_rot y (64 - r) r c hy (by omega) hc

theorem rotl64_lt (y r : Nat) : rotl64 y r < 2 ^ 64 := Nat.mod_lt _ (by decide)

theorem testBit_transposeRow_aux (g : Nat → Bool) (n t : Nat) (row : Nat) :
    ((List.range' 0 n).foldl (fun row j => if g j then row ||| (1 <<< j) else row) row).testBit t =
      (row.testBit t || (decide (t < n) && g t)) := by
  induction n generalizing row with
  | zero => simp
  | succ n ih =>
    rw [List.range'_concat, List.foldl_append, List.foldl_cons, List.foldl_nil]
    simp only [Nat.zero_add, Nat.one_mul]
    split
    · rename_i hb
      rw [Nat.testBit_or, ih, testBit_one_shiftLeft]
      by_cases htn : t = n
      · subst htn; simp [hb]
      · have : (n == t) = false := by simp; omega
        by_cases hlt : t < n
        · simp [hlt, this, show t < n + 1 by omega]
        · simp [hlt, this, show ¬ t < n + 1 by omega]
    · rename_i hb
      rw [ih]
      by_cases htn : t = n
      · subst htn; simp [hb]
      · by_cases hlt : t < n
        · simp [hlt, show t < n + 1 by omega]
        · simp [hlt, show ¬ t < n + 1 by omega]

theorem testBit_transposeW (m : List Nat) (i t : Nat) (hi : i < 64) :
    ((transposeW m).getD i 0).testBit t = (decide (t < 64) && (m.getD t 0).testBit i) := by
  have h : (transposeW m).getD i 0 =
      (List.range' 0 64).foldl (fun row j => if (fun j => (m.getD j 0).testBit i) j then row ||| (1 <<< j) else row) 0 := by
    unfold transposeW
    rw [List.getD_eq_getElem?_getD, List.getElem?_map, List.getElem?_range hi, List.range_eq_range']
    simp only [Option.map_some, Option.getD_some]
  rw [h, testBit_transposeRow_aux]
  simp

theorem testBit_foldl_and_rot (l : List (Nat × Nat)) (r c w : Nat) (hr : r < 64) (hc : c < 64)
    (hy : ∀ p ∈ l, p.2 < 2 ^ 64) :
    (l.foldl (fun acc p => acc ^^^ (p.1 &&& rotr64 p.2 r)) w).testBit c =
      (w.testBit c ^^ xsum (l.map (fun p => (p.1.testBit c && p.2.testBit ((c + r) % 64))))) := by
  induction l generalizing w with
  | nil => simp
  | cons p l ih =>
    simp only [List.foldl_cons, List.map_cons, xsum_cons]
    rw [ih _ (fun q hq => hy q (by simp [hq])), Nat.testBit_xor, Nat.testBit_and,
      testBit_rotr64 p.2 r c (hy p (by simp)) hr hc, Bool.xor_assoc]

theorem foldl_sel_lt (l : List (Nat × Nat)) (i w : Nat) (hw : w < 2 ^ 64) (hy : ∀ p ∈ l, p.2 < 2 ^ 64) :
    l.foldl (fun acc p => if p.1.testBit i then acc ^^^ p.2 else acc) w < 2 ^ 64 := by
  induction l generalizing w with
  | nil => simpa using hw
  | cons p l ih =>
    simp only [List.foldl_cons]
    apply ih _ _ (fun q hq => hy q (by simp [hq]))
    split
    · exact Nat.xor_lt_two_pow hw (hy p (by simp))
    · exact hw

/-- The rotation trick computes the bilinear product: on 64-bit words the word-level model of
`&Block * &Block` (rotations, transposition) equals its defining sum. -/
theorem blockDotRot_eq (x y : List Nat) (hy : ∀ w ∈ y, w < 2 ^ 64) : blockDotRot x y = blockDot x y := by
  unfold blockDotRot blockDot
  split
  · rename_i hlen
    dsimp only
    congr 1
    apply List.map_congr_left
    intro c hc
    have hc64 : c < 64 := by simpa using hc
    have hyz : ∀ p ∈ List.zip x y, p.2 < 2 ^ 64 := fun p hp => hy p.2 (List.of_mem_zip hp).2
    apply Nat.eq_of_testBit_eq
    intro j
    by_cases hj : j < 64
    · rw [testBit_rotl64 _ c j ?_ hc64 hj]
      · rw [testBit_transposeW _ c _ hc64]
        have hr : (j + 64 - c) % 64 < 64 := Nat.mod_lt _ (by decide)
        simp only [hr, decide_true, Bool.true_and]
        rw [List.getD_eq_getElem?_getD, List.getElem?_map, List.getElem?_range hr]
        simp only [Option.map_some, Option.getD_some]
        rw [testBit_foldl_and_rot _ _ c 0 hr hc64 hyz, testBit_foldl_sel]
        have : (c + (j + 64 - c) % 64) % 64 = j := by omega
        simp [this]
      · -- the transposed row is a 64-bit word
        apply Nat.lt_pow_two_of_testBit
        intro t ht
        rw [testBit_transposeW _ c _ hc64]
        simp [show ¬ t < 64 by omega]
    · rw [testBit_of_lt64 _ j (rotl64_lt _ _) (by omega),
        testBit_of_lt64 _ j (foldl_sel_lt _ c 0 (by decide) hyz) (by omega)]
  · rfl

end Ymq.Gf2
