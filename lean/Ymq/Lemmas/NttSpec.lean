/-
C10: the in-place number-theoretic transform of `MultiZmodP` (model Ymq/Model/Ntt.lean) is the radix-2
recursion `fftRec` (Ymq/Lemmas/PolyDft.lean) per prime, on the bit-reversed input (`nttInplace_spec`), given the
root tables (`RootsOk`). Scalar facts: `mg_mul64`, the butterfly and `div_pow2` on Montgomery forms
(`mgMul64_mf`, `addsub1_mf`, `divPow2_mf`, on top of `Mg64.mgMul_of_lt`/`mgRedc_of_lt`).
-/
import Ymq.Model.Ntt
import Ymq.Lemmas.Mg64
import Ymq.Lemmas.PolyDft
import Ymq.Lemmas.CrtEstimate
import Ymq.Lemmas.Loops
import Mathlib.Data.ZMod.Basic
import Mathlib.Data.List.GetD
import Mathlib.Tactic.LinearCombination
import Mathlib.Tactic.Ring
import Mathlib.Tactic.Linarith
import Mathlib.Tactic.NormNum

namespace Ymq.Crt
open Ymq.Mg64 (W mgMul mgRedc)

/-- `1/R` in `ℤ/p` -/
noncomputable def uinv (p : Nat) : ZMod p := ((W : Nat) : ZMod p)⁻¹

theorem W_uinv {p : Nat} (h : PrimeOk p) : ((W : Nat) : ZMod p) * uinv p = 1 :=
  Ymq.Mg64.W_mul_inv h.odd

/-- the residue represented by the Montgomery form `x` -/
noncomputable def mf (p x : Nat) : ZMod p := (x : ZMod p) * uinv p

theorem mgRedc_mf {p : Nat} (h : PrimeOk p) (x : Nat) (hx : x < p * W) :
    ∃ r, mgRedc p (p - 2) x = some r ∧ r < p ∧ ((r : Nat) : ZMod p) = mf p x := by
  obtain ⟨r, hr, hlt, hmod⟩ := Ymq.Mg64.mgRedc_of_lt (n := p) (ninv := p - 2) (by have := h.pos; omega) le_rfl h.ltW.le h.inv hx
  exact ⟨r, hr, hlt, Ymq.Mg64.cast_of_redc h.odd hmod⟩

theorem mf_mul_W {p : Nat} (h : PrimeOk p) (x : Nat) : mf p x * ((W : Nat) : ZMod p) = (x : ZMod p) := by
  unfold mf
  rw [mul_assoc, mul_comm (uinv p), W_uinv h, mul_one]

theorem mf_R2 {p : Nat} (h : PrimeOk p) : mf p (W % p * (W % p) % p) = ((W : Nat) : ZMod p) := by
  unfold mf
  rw [ZMod.natCast_mod, Nat.cast_mul, ZMod.natCast_mod]
  linear_combination ((W : Nat) : ZMod p) * W_uinv h

theorem natCast_inj_lt {p a b : Nat} (ha : a < p) (hb : b < p) (h : ((a : Nat) : ZMod p) = ((b : Nat) : ZMod p)) :
    a = b := by
  have := (ZMod.natCast_eq_natCast_iff' _ _ _).1 h
  rwa [Nat.mod_eq_of_lt ha, Nat.mod_eq_of_lt hb] at this

theorem mgMul64_mf {p : Nat} (h : PrimeOk p) (x y : Nat) (hx : x < p) (hy : y < W) :
    ∃ z, mgMul64 p x y = some z ∧ z < p ∧ mf p z = mf p x * mf p y := by
  obtain ⟨r, hr, hlt, hmod⟩ := Ymq.Mg64.mgMul_of_lt (ninv := p - 2) (by have := h.pos; omega) h.ltW h.inv hx hy
  refine ⟨r, hr, hlt, ?_⟩
  unfold mf
  rw [Ymq.Mg64.cast_of_redc h.odd hmod, Nat.cast_mul]
  unfold uinv
  ring

theorem addsub1_mf {p : Nat} (h : PrimeOk p) (x y : Nat) (hx : x < p) (hy : y < p) :
    ∃ a b, addsub1 p x y = some (a, b) ∧ a < p ∧ b < p ∧ mf p a = mf p x + mf p y ∧
      mf p b = mf p x - mf p y := by
  have hp := h.ltW
  have h59 := h.lt
  have e59 : (2 : Nat) ^ 59 = 576460752303423488 := by norm_num
  rw [e59] at h59
  unfold addsub1
  rw [if_neg (by rw [W_val']; omega)]
  have hpz : ((p : Nat) : ZMod p) = 0 := ZMod.natCast_self p
  refine ⟨_, _, rfl, ?_, ?_, ?_, ?_⟩
  · split_ifs <;> omega
  · split_ifs <;> omega
  · unfold mf
    split_ifs with hc
    · have : ((x + y - p : Nat) : ZMod p) = (x : ZMod p) + (y : ZMod p) := by
        rw [Nat.cast_sub hc]; push_cast; rw [hpz]; ring
      rw [this]; ring
    · push_cast; ring
  · unfold mf
    have hxy : ((x + p - y : Nat) : ZMod p) = (x : ZMod p) - (y : ZMod p) := by
      rw [Nat.cast_sub (by omega)]; push_cast; rw [hpz]; ring
    split_ifs with hc
    · have : ((x + p - y - p : Nat) : ZMod p) = (x : ZMod p) - (y : ZMod p) := by
        rw [Nat.cast_sub hc, hxy, hpz]; ring
      rw [this]; ring
    · rw [hxy]; ring

theorem divPow2_mf {p : Nat} (h : PrimeOk p) (x k : Nat) (hx : x < p) (hk : k ≤ 64) :
    ∃ z, mgRedc p (p - 2) (x * 2 ^ (64 - k) % 2 ^ 128) = some z ∧ z < p ∧ mf p z * 2 ^ k = mf p x := by
  have hpow : 2 ^ (64 - k) ≤ W := by
    rw [show W = 2 ^ 64 by decide]; exact Nat.pow_le_pow_right (by decide) (by omega)
  have hX : x * 2 ^ (64 - k) < p * W := by
    calc x * 2 ^ (64 - k) ≤ x * W := Nat.mul_le_mul_left _ hpow
      _ < p * W := Nat.mul_lt_mul_of_pos_right hx (by decide)
  have h128 : x * 2 ^ (64 - k) % 2 ^ 128 = x * 2 ^ (64 - k) := by
    apply Nat.mod_eq_of_lt
    have : p * W < W * W := Nat.mul_lt_mul_of_pos_right h.ltW (by decide)
    have hWW : W * W = 2 ^ 128 := by rw [W_val']; norm_num
    omega
  rw [h128]
  obtain ⟨r, hr, hlt, hrm⟩ := mgRedc_mf h _ hX
  refine ⟨r, hr, hlt, ?_⟩
  unfold mf
  rw [hrm]
  unfold mf
  push_cast
  have hW2 : ((W : Nat) : ZMod p) = 2 ^ (64 - k) * 2 ^ k := by
    rw [← pow_add, show 64 - k + k = 64 by omega, show W = 2 ^ 64 by decide]; push_cast; norm_num
  have hu := W_uinv h
  calc (x : ZMod p) * 2 ^ (64 - k) * uinv p * uinv p * 2 ^ k
      = (x : ZMod p) * uinv p * ((2 ^ (64 - k) * 2 ^ k) * uinv p) := by ring
    _ = (x : ZMod p) * uinv p := by rw [← hW2, hu, mul_one]


/-- the `j`-th prime of the context -/
abbrev P (m : Mzp) (j : Nat) : Nat := m.primes.getD j 0

/-- every modulus of the context meets `PrimeOk` -/
def TabOk (m : Mzp) : Prop := ∀ j, j < m.w → PrimeOk (P m j)

/-- an element: `w` reduced residues -/
def EltOk (m : Mzp) (x : List Nat) : Prop := x.length = m.w ∧ ∀ j, j < m.w → x.getD j 0 < P m j

/-- residue `j` of an element -/
noncomputable def mfe (m : Mzp) (x : List Nat) (j : Nat) : ZMod (P m j) := mf (P m j) (x.getD j 0)

/-- an element computed residue by residue: `w` reduced residues with the property `Q` of what they represent -/
theorem eltM_spec (m : Mzp) (f : Nat → Option Nat) (Q : (j : Nat) → ZMod (P m j) → Prop)
    (hf : ∀ j, j < m.w → ∃ z, f j = some z ∧ z < P m j ∧ Q j (mf (P m j) z)) :
    ∃ z, (List.range m.w).mapM f = some z ∧ EltOk m z ∧ ∀ j, j < m.w → Q j (mfe m z j) := by
  obtain ⟨l, e, ll, hl⟩ := Loops.mapM_range_total (β := Nat) 0
    (Q := fun j r => r < P m j ∧ Q j (mf (P m j) r)) f m.w hf
  exact ⟨l, e, ⟨ll, fun j hj => (hl j hj).1⟩, fun j hj => (hl j hj).2⟩

theorem mulE_spec (m : Mzp) (ht : TabOk m) (x y : List Nat) (hx : EltOk m x) (hy : EltOk m y) :
    ∃ z, mulE m x y = some z ∧ EltOk m z ∧ ∀ j, j < m.w → mfe m z j = mfe m x j * mfe m y j :=
  eltM_spec m _ (fun j r => r = mfe m x j * mfe m y j) fun j hj =>
    mgMul64_mf (ht j hj) _ _ (hx.2 j hj) (lt_trans (hy.2 j hj) (ht j hj).ltW)

theorem getD_unzip_fst (l : List (Nat × Nat)) (j : Nat) : l.unzip.1.getD j 0 = (l.getD j (0, 0)).1 := by
  rw [List.unzip_fst, List.getD_eq_getElem?_getD, List.getD_eq_getElem?_getD, List.getElem?_map]
  cases l[j]? <;> rfl

theorem getD_unzip_snd (l : List (Nat × Nat)) (j : Nat) : l.unzip.2.getD j 0 = (l.getD j (0, 0)).2 := by
  rw [List.unzip_snd, List.getD_eq_getElem?_getD, List.getD_eq_getElem?_getD, List.getElem?_map]
  cases l[j]? <;> rfl

/-- a pair-valued map over the primes, unzipped into two elements with residues `A`, `B` -/
theorem pairE_spec (m : Mzp) (f : Nat → Option (Nat × Nat)) (A B : (j : Nat) → ZMod (P m j))
    (hf : ∀ j, j < m.w → ∃ a b, f j = some (a, b) ∧ a < P m j ∧ b < P m j ∧
      mf (P m j) a = A j ∧ mf (P m j) b = B j) :
    ∃ a b, ((List.range m.w).mapM f).map List.unzip = some (a, b) ∧ EltOk m a ∧ EltOk m b ∧
      ∀ j, j < m.w → mfe m a j = A j ∧ mfe m b j = B j := by
  obtain ⟨l, e, ll, hl⟩ := Loops.mapM_range_total (β := Nat × Nat) (0, 0)
    (Q := fun j ab => ab.1 < P m j ∧ ab.2 < P m j ∧ mf (P m j) ab.1 = A j ∧ mf (P m j) ab.2 = B j) f m.w (by
      intro j hj
      obtain ⟨a, b, g1, g2, g3, g4, g5⟩ := hf j hj
      exact ⟨(a, b), g1, g2, g3, g4, g5⟩)
  refine ⟨l.unzip.1, l.unzip.2, by rw [e]; rfl, ⟨by simp [ll], ?_⟩, ⟨by simp [ll], ?_⟩, ?_⟩
  · intro j hj; rw [getD_unzip_fst]; exact (hl j hj).1
  · intro j hj; rw [getD_unzip_snd]; exact (hl j hj).2.1
  · intro j hj
    unfold mfe
    rw [getD_unzip_fst, getD_unzip_snd]
    exact ⟨(hl j hj).2.2.1, (hl j hj).2.2.2⟩

/-- `muladdsub_inplace` on one element: `(x + r·y, x - r·y)` -/
theorem muladdsubE_spec (m : Mzp) (ht : TabOk m) (x y r : List Nat) (hx : EltOk m x) (hy : EltOk m y)
    (hr : EltOk m r) :
    ∃ a b, muladdsubE m x y r = some (a, b) ∧ EltOk m a ∧ EltOk m b ∧
      ∀ j, j < m.w → mfe m a j = mfe m x j + mfe m r j * mfe m y j ∧
        mfe m b j = mfe m x j - mfe m r j * mfe m y j := by
  apply pairE_spec
  intro j hj
  obtain ⟨z, h1, h2, h3⟩ := mgMul64_mf (ht j hj) _ _ (hy.2 j hj) (lt_trans (hr.2 j hj) (ht j hj).ltW)
  obtain ⟨a, b, g1, g2, g3, g4, g5⟩ := addsub1_mf (ht j hj) (x.getD j 0) z (hx.2 j hj) h2
  refine ⟨a, b, ?_, g2, g3, ?_, ?_⟩
  · unfold muladdsub1; simp only [h1]; exact g1
  · rw [g4, h3]; unfold mfe; ring
  · rw [g5, h3]; unfold mfe; ring

theorem addsubE_spec (m : Mzp) (ht : TabOk m) (x y : List Nat) (hx : EltOk m x) (hy : EltOk m y) :
    ∃ a b, addsubE m x y = some (a, b) ∧ EltOk m a ∧ EltOk m b ∧
      ∀ j, j < m.w → mfe m a j = mfe m x j + mfe m y j ∧ mfe m b j = mfe m x j - mfe m y j := by
  unfold addsubE
  rw [if_neg (by rw [hx.1, hy.1]; simp)]
  exact pairE_spec m _ _ _ fun j hj => addsub1_mf (ht j hj) (x.getD j 0) (y.getD j 0) (hx.2 j hj) (hy.2 j hj)

theorem divPow2E_spec (m : Mzp) (ht : TabOk m) (x : List Nat) (k : Nat) (hx : EltOk m x) (hk : k ≤ 64) :
    ∃ z, divPow2E m x k = some z ∧ EltOk m z ∧ ∀ j, j < m.w → mfe m z j * 2 ^ k = mfe m x j := by
  unfold divPow2E
  rw [if_neg (by omega)]
  exact eltM_spec m _ (fun j r => r * 2 ^ k = mfe m x j) fun j hj => divPow2_mf (ht j hj) (x.getD j 0) k (hx.2 j hj) hk


/-- a vector of `n` elements (`&[u64]` of `w·n` words in the code), each of `w` reduced residues -/
def VecOk (m : Mzp) (v : List (List Nat)) (n : Nat) : Prop := v.length = n ∧ ∀ e ∈ v, EltOk m e

theorem VecOk.getD {m : Mzp} {v : List (List Nat)} {n : Nat} (h : VecOk m v n) (i : Nat) (hi : i < n) :
    EltOk m (v.getD i []) := by
  apply h.2
  rw [List.getD_eq_getElem?_getD, List.getElem?_eq_getElem (by rw [h.1]; exact hi)]
  simp

theorem VecOk.cons_iff {m : Mzp} {a : List Nat} {as : List (List Nat)} {n : Nat} :
    VecOk m (a :: as) (n + 1) ↔ EltOk m a ∧ VecOk m as n := by
  unfold VecOk
  simp only [List.length_cons, Nat.add_right_cancel_iff, List.forall_mem_cons]
  tauto

theorem VecOk.nil {m : Mzp} : VecOk m [] 0 := ⟨rfl, fun _ he => by cases he⟩

theorem VecOk.of_getD {m : Mzp} {v : List (List Nat)} {n : Nat} (hl : v.length = n)
    (h : ∀ i, i < n → EltOk m (v.getD i [])) : VecOk m v n := by
  refine ⟨hl, fun e he => ?_⟩
  obtain ⟨i, hi, rfl⟩ := List.getElem_of_mem he
  rw [← Loops.getD_eq_getElem v [] hi]
  exact h i (hl ▸ hi)

theorem VecOk.split {m : Mzp} {v : List (List Nat)} {a b : Nat} (h : VecOk m v (a + b)) :
    VecOk m (v.take a) a ∧ VecOk m (v.drop a) b :=
  ⟨⟨by rw [List.length_take, h.1]; omega, fun e he => h.2 e (List.mem_of_mem_take he)⟩,
    ⟨by rw [List.length_drop, h.1]; omega, fun e he => h.2 e (List.mem_of_mem_drop he)⟩⟩

theorem VecOk.append {m : Mzp} {u v : List (List Nat)} {a b : Nat} (hu : VecOk m u a) (hv : VecOk m v b) :
    VecOk m (u ++ v) (a + b) :=
  ⟨by rw [List.length_append, hu.1, hv.1], fun e he => (List.mem_append.1 he).elim (hu.2 e) (hv.2 e)⟩

theorem muladdsubV_spec (m : Mzp) (ht : TabOk m) : ∀ (xs ys rs : List (List Nat)) (h : Nat),
    VecOk m xs h → VecOk m ys h → VecOk m rs h →
    ∃ as bs, muladdsubV m xs ys rs = some (as, bs) ∧ VecOk m as h ∧ VecOk m bs h ∧
      ∀ i, i < h → ∀ j, j < m.w →
        mfe m (as.getD i []) j = mfe m (xs.getD i []) j + mfe m (rs.getD i []) j * mfe m (ys.getD i []) j ∧
        mfe m (bs.getD i []) j = mfe m (xs.getD i []) j - mfe m (rs.getD i []) j * mfe m (ys.getD i []) j := by
  intro xs
  induction xs with
  | nil =>
    intro ys rs h hx _ _
    obtain rfl : 0 = h := hx.1
    exact ⟨[], [], by cases ys <;> simp [muladdsubV], .nil, .nil, fun i hi => by omega⟩
  | cons x xs ih =>
    intro ys rs h hx hy hr
    obtain rfl : xs.length + 1 = h := hx.1
    cases ys with
    | nil => exact absurd hy.1 (Nat.succ_ne_zero _).symm
    | cons y ys =>
      cases rs with
      | nil => exact absurd hr.1 (Nat.succ_ne_zero _).symm
      | cons r rs =>
        obtain ⟨hx0, hxs⟩ := VecOk.cons_iff.1 hx
        obtain ⟨hy0, hys⟩ := VecOk.cons_iff.1 hy
        obtain ⟨hr0, hrs⟩ := VecOk.cons_iff.1 hr
        obtain ⟨a, b, e1, ha, hb, hab⟩ := muladdsubE_spec m ht x y r hx0 hy0 hr0
        obtain ⟨as, bs, e2, has, hbs, habs⟩ := ih ys rs xs.length hxs hys hrs
        refine ⟨a :: as, b :: bs, by simp only [muladdsubV, e1, e2], VecOk.cons_iff.2 ⟨ha, has⟩,
          VecOk.cons_iff.2 ⟨hb, hbs⟩, ?_⟩
        intro i hi j hj
        cases i with
        | zero => exact hab j hj
        | succ i => exact habs i (by omega) j hj

theorem bitrev_lt : ∀ (k i : Nat), bitrev k i < 2 ^ k := by
  intro k
  induction k with
  | zero => intro i; simp [bitrev]
  | succ k ih =>
    intro i
    unfold bitrev
    have := ih (i / 2)
    have h2 : i % 2 < 2 := Nat.mod_lt _ (by decide)
    have : i % 2 * 2 ^ k ≤ 1 * 2 ^ k := Nat.mul_le_mul_right _ (by omega)
    rw [pow_succ]; omega

theorem bitrev_even (k t : Nat) : bitrev (k + 1) (2 * t) = bitrev k t := by
  conv_lhs => unfold bitrev
  rw [Nat.mul_mod_right, Nat.zero_mul, Nat.zero_add, Nat.mul_div_cancel_left _ (by decide)]

theorem bitrev_odd (k t : Nat) : bitrev (k + 1) (2 * t + 1) = 2 ^ k + bitrev k t := by
  conv_lhs => unfold bitrev
  rw [show (2 * t + 1) % 2 = 1 by omega, Nat.one_mul, show (2 * t + 1) / 2 = t by omega]


/-- what `ntt_inplace` needs of the root tables: per prime a family of roots `om j k fwd` (level `k`,
direction) with `om(k+1)² = om k`, `om k ^ 2^(k-1) = -1`, forward·backward `= 1`, and the table entries
of level `k`: `2^(k-1)` forward powers followed by `2^(k-1)` backward powers -/
structure RootsOk (m : Mzp) (rts : List (List (List Nat)))
    (om : (j : Nat) → Nat → Bool → ZMod (P m j)) : Prop where
  sq : ∀ j k d, j < m.w → 1 ≤ k → k < m.k → om j (k + 1) d * om j (k + 1) d = om j k d
  half : ∀ j k d, j < m.w → 1 ≤ k → k ≤ m.k → om j k d ^ 2 ^ (k - 1) = -1
  inv : ∀ j k, j < m.w → 1 ≤ k → k ≤ m.k → om j k true * om j k false = 1
  tab : ∀ k, 1 ≤ k → k ≤ m.k → ∃ rk, rts[k]? = some rk ∧ VecOk m rk (2 ^ k) ∧
    ∀ i, i < 2 ^ (k - 1) → ∀ j, j < m.w →
      mfe m (rk.getD i []) j = om j k true ^ i ∧ mfe m (rk.getD (2 ^ (k - 1) + i) []) j = om j k false ^ i

theorem getD_take' {α} (l : List α) (n i : Nat) (d : α) (h : i < n) : (l.take n).getD i d = l.getD i d := by
  simp [List.getD_eq_getElem?_getD, List.getElem?_take_of_lt h]

theorem getD_drop' {α} (l : List α) (n i : Nat) (d : α) : (l.drop n).getD i d = l.getD (n + i) d := by
  simp [List.getD_eq_getElem?_getD, List.getElem?_drop]

open Ymq.Dft

/-- **`ntt_inplace` is the radix-2 recursion `fftRec` per prime**, on the bit-reversed input, forward
and inverse (the inverse divides by `2^(depth+k)`), with no panic site reached and every residue
reduced -/
theorem nttInplace_spec (m : Mzp) (ht : TabOk m) (rts : List (List (List Nat)))
    (om : (j : Nat) → Nat → Bool → ZMod (P m j)) (hr : RootsOk m rts om) (fwd : Bool) :
    ∀ (k : Nat) (v : List (List Nat)) (depth : Nat), 1 ≤ k → k ≤ m.k → VecOk m v (2 ^ k) → depth + k ≤ 64 →
      ∃ out, nttInplace m rts k v depth fwd = some out ∧ VecOk m out (2 ^ k) ∧
        ∀ j, j < m.w → ∀ i, i < 2 ^ k →
          mfe m (out.getD i []) j * (if fwd then 1 else 2 ^ (depth + k)) =
            fftRec k (om j k fwd) (fun t => mfe m (v.getD (bitrev k t) []) j) i := by
  intro k
  induction k with
  | zero => intro v depth h1; omega
  | succ k ih =>
    intro v depth _ hkm hv hdep
    unfold nttInplace
    rw [if_neg (by rw [hv.1]; simp)]
    by_cases hk0 : k = 0
    · subst hk0
      rw [if_pos rfl]
      match v, hv with
      | [v0, v1], hv =>
        obtain ⟨a, b, e, ha, hb, hab⟩ := addsubE_spec m ht v0 v1 (hv.2 v0 List.mem_cons_self)
          (hv.2 v1 (List.mem_cons_of_mem _ List.mem_cons_self))
        simp only [e]
        cases fwd with
        | true =>
          refine ⟨[a, b], rfl, VecOk.cons_iff.2 ⟨ha, VecOk.cons_iff.2 ⟨hb, .nil⟩⟩, ?_⟩
          intro j hj i hi
          have : i = 0 ∨ i = 1 := by simp at hi; omega
          rcases this with rfl | rfl
          · simp [fftRec, bitrev, (hab j hj).1]
          · simp [fftRec, bitrev, (hab j hj).2]
        | false =>
          obtain ⟨a', ea, ha', haa⟩ := divPow2E_spec m ht a (depth + 1) ha (by omega)
          obtain ⟨b', eb, hb', hbb⟩ := divPow2E_spec m ht b (depth + 1) hb (by omega)
          simp only [ea, eb, Bool.false_eq_true, if_false]
          refine ⟨[a', b'], rfl, VecOk.cons_iff.2 ⟨ha', VecOk.cons_iff.2 ⟨hb', .nil⟩⟩, ?_⟩
          intro j hj i hi
          have : i = 0 ∨ i = 1 := by simp at hi; omega
          rcases this with rfl | rfl
          · simp [fftRec, bitrev, haa j hj, (hab j hj).1]
          · simp [fftRec, bitrev, hbb j hj, (hab j hj).2]
    · rw [if_neg hk0]
      simp only
      have hk1 : 1 ≤ k := by omega
      have h2k : 2 ^ (k + 1) = 2 ^ k + 2 ^ k := by rw [pow_succ]; omega
      obtain ⟨rk, erk, hrk, htab⟩ := hr.tab (k + 1) (by omega) hkm
      rw [erk]
      simp only
      obtain ⟨hvt, hvd⟩ := (h2k ▸ hv).split
      obtain ⟨a, ea, ha, hsa⟩ := ih (v.take (2 ^ k)) (depth + 1) hk1 (by omega) hvt (by omega)
      obtain ⟨b, eb, hb, hsb⟩ := ih (v.drop (2 ^ k)) (depth + 1) hk1 (by omega) hvd (by omega)
      rw [ea, eb]
      simp only
      -- the half of the level table for this direction holds the powers of the root
      set rs := (if fwd then rk.take (2 ^ k) else rk.drop (2 ^ k)) with hrs
      obtain ⟨hrsok, hrsv⟩ : VecOk m rs (2 ^ k) ∧
          ∀ i, i < 2 ^ k → ∀ j, j < m.w → mfe m (rs.getD i []) j = om j (k + 1) fwd ^ i := by
        obtain ⟨hrt, hrd⟩ := (h2k ▸ hrk).split
        rw [hrs]
        cases fwd with
        | true => exact ⟨hrt, fun i hi j hj => by rw [if_pos rfl, getD_take' _ _ _ _ hi]; exact (htab i hi j hj).1⟩
        | false =>
          exact ⟨hrd, fun i hi j hj => by
            simp only [Bool.false_eq_true, if_false]; rw [getD_drop']; exact (htab i hi j hj).2⟩
      rw [if_neg (by rw [hrsok.1]; simp)]
      obtain ⟨as, bs, em, has, hbs, hab⟩ := muladdsubV_spec m ht a b rs (2 ^ k) ha hb hrsok
      rw [em]
      refine ⟨as ++ bs, rfl, h2k ▸ has.append hbs, fun j hj i hi => ?_⟩
      -- the even entries of the bit-reversed view are the first half, the odd ones the second
      have he := hsa j hj
      have ho := hsb j hj
      have hE : ∀ t, (v.take (2 ^ k)).getD (bitrev k t) [] = v.getD (bitrev (k + 1) (2 * t)) [] :=
        fun t => by rw [bitrev_even, getD_take' _ _ _ _ (bitrev_lt k t)]
      have hO : ∀ t, (v.drop (2 ^ k)).getD (bitrev k t) [] = v.getD (bitrev (k + 1) (2 * t + 1)) [] :=
        fun t => by rw [bitrev_odd, getD_drop']
      simp only [hE, hO, ← hr.sq j k fwd hj hk1 (by omega)] at he ho
      rw [show depth + (k + 1) = depth + 1 + k by omega]
      exact fftRec_append (fun x => mfe m x j) [] k _ _ _ a b as bs has.1 he ho
        (fun t ht => by rw [(hab t ht j hj).1, (hab t ht j hj).2, hrsv t ht j hj]; exact ⟨rfl, rfl⟩) i hi

end Ymq.Crt
