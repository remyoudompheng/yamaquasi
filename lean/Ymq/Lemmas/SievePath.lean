/-
C13 helper lemmas: the path `new → rounds (sieve the interval, rehash) → blocks → sieve_block`: where the bucket tables
at its end come from (`path_fill`: filled from fresh tables with the hits of the last root table) and what
`sieve_block` then adds (`path_facts`).
-/
import Ymq.Lemmas.SieveTableSum
import Ymq.Lemmas.SieveRounds

namespace Ymq.SieveLog
open Ymq.Sieve

/-- the path `new → rs rounds (sieve the interval, rehash) → b rounds → sieve_block`: the invariant at its end; the
cursors read by `smooths` are those of block `rs.length·nblocks + b` since `new`; the tables are those after the
rounds. -/
theorem path_inv {fb : FB} (hfb : fb.WF) {r1 r2 : Array Nat} (hr : RootsOK fb r1 r2)
    {offset : Int} {nblocks : Nat} {recycled : Option (Array Table × Array LTable)}
    (hrec : RecycledOK recycled) {rs : List (Array Nat × Array Nat)}
    {s0 sb s1 s : State} (h0 : Sieve.new offset nblocks fb r1 r2 recycled = some s0)
    (hb : rehashRounds fb nblocks rs s0 = some sb)
    {b : Nat} (h1 : runBlocks fb b sb = some s1) (h2 : sieveBlock fb s1 = some s)
    {nS : Nat} (hnS : fb.ibl[16]? = some nS) :
    Inv fb nS r1 r2 (lastRoots rs (r1, r2)).1 (lastRoots rs (r1, r2)).2 (rs.length * nblocks + b + 1) s ∧
    CurInv fb r1 r2 s.idxskip nS (rs.length * nblocks + b) s.loPrev ∧ s.blkNo = b ∧
    s.tables = sb.tables ∧ s.ltables = sb.ltables ∧ Inv fb nS r1 r2 r1 r2 0 s0 ∧ s0.nblocks = nblocks := by
  obtain ⟨b0, n0, _, inv0⟩ := new_spec hfb hr hrec hnS h0
  obtain ⟨invb, nb, bkb, hnil, _⟩ := rehashRounds_spec hfb hnS rs (r1, r2) 0 s0 sb inv0 n0 hb
  obtain ⟨inv1, bk1, n1, _, et1, elt1⟩ := runBlocks_spec hfb hnS b _ sb s1 invb h1
  obtain ⟨inv2, hprev, bk2, _, _, et2, elt2, _⟩ := sieveBlock_spec hfb hnS inv1 h2
  have hsb0 : sb.blkNo = 0 := by
    by_cases hrs : rs = []
    · rw [hnil hrs]; exact b0
    · exact bkb hrs
  rw [Nat.zero_add] at inv2 hprev
  exact ⟨inv2, hprev, by rw [bk2, bk1, hsb0, Nat.zero_add], et2.trans et1, elt2.trans elt1, inv0, n0⟩

theorem path_fill {fb : FB} (hfb : fb.WF) {r1 r2 : Array Nat} (hr : RootsOK fb r1 r2) {offset : Int} {nblocks : Nat}
    {recycled : Option (Array Table × Array LTable)} (hrec : RecycledOK recycled) {rs : List (Array Nat × Array Nat)}
    (hrL : RootsOK fb (lastRoots rs (r1, r2)).1 (lastRoots rs (r1, r2)).2)
    (hdL : RootsDistinct fb (lastRoots rs (r1, r2)).1 (lastRoots rs (r1, r2)).2) (hn0 : nblocks ≠ 0)
    {s0 sb : State} (h0 : Sieve.new offset nblocks fb r1 r2 recycled = some s0)
    (hb : rehashRounds fb nblocks rs s0 = some sb) {nS : Nat} (hnS : fb.ibl[16]? = some nS) :
    ∃ OT g T0 L0, OffsFor fb (lastRoots rs (r1, r2)).1 (lastRoots rs (r1, r2)).2 (nblocks * BLOCK) OT ∧
      FilledTL fb (lastRoots rs (r1, r2)).1 (lastRoots rs (r1, r2)).2 (nblocks * BLOCK) OT g fb.primes.size
        T0 sb.tables L0 sb.ltables ∧ Fresh tstore T0 ∧ Fresh lstore L0 := by
  obtain ⟨hLo, hV⟩ := offs_for (interval := nblocks * BLOCK) hrL hdL
  by_cases hrs : rs = []
  · subst hrs
    cases hb
    obtain ⟨maxprime, T0, L0, offs, tables, ltables, hmax, hnt, _, hf, rfl⟩ := new_unfold h0
    obtain ⟨hTs, hLs, _⟩ := newTables_cases hnt
    have hml := hfb.bitlen_back_le hmax
    obtain ⟨fT, fL⟩ := newTables_fresh hrec hnt
    exact ⟨_, _, T0, L0, hLo, newFold_filled hfb hmax (by omega) (by omega) hf, fT, fL⟩
  · obtain ⟨_, n0, _, inv0⟩ := new_spec hfb hr hrec hnS h0
    obtain ⟨rL', B', sa, inva, na, hre⟩ := (rehashRounds_spec hfb hnS rs (r1, r2) 0 s0 sb inv0 n0 hb).2.2.2.2 hrs
    obtain ⟨maxprime, hmax, hts, hlts⟩ := inva.tsize
    have hml := hfb.bitlen_back_le hmax
    have := rehash_filled hfb (by omega) (by omega) (by omega) hre
    rw [na] at this
    exact ⟨_, _, _, _, hV, this, Fresh.reset (S := tstore) fun ti t ht => (inva.tabs.1 ti t ht).1,
      Fresh.reset (S := lstore) fun ti t ht => (inva.tabs.2 ti t ht).1⟩

/-- the state in which `sieve_block` runs on the path
`new → rs rounds (sieve the interval, rehash) → b rounds → sieve_block`: the cursors of the small primes run on from
`new`, the bucket tables hold the entries of the last root table. -/
theorem path_facts {fb : FB} (hfb : fb.WF) {r1 r2 : Array Nat} (hr : RootsOK fb r1 r2)
    {offset : Int} {nblocks : Nat} {recycled : Option (Array Table × Array LTable)}
    (hrec : RecycledOK recycled) {rs : List (Array Nat × Array Nat)}
    (hrL : RootsOK fb (lastRoots rs (r1, r2)).1 (lastRoots rs (r1, r2)).2)
    (hdL : RootsDistinct fb (lastRoots rs (r1, r2)).1 (lastRoots rs (r1, r2)).2) (hn0 : nblocks ≠ 0)
    {s0 sb s1 s : State} (h0 : Sieve.new offset nblocks fb r1 r2 recycled = some s0)
    (hb : rehashRounds fb nblocks rs s0 = some sb)
    {b : Nat} (h1 : runBlocks fb b sb = some s1) (h2 : sieveBlock fb s1 = some s)
    {nS : Nat} (hnS : fb.ibl[16]? = some nS) :
    CurInv fb r1 r2 s.idxskip nS (rs.length * nblocks + b) s.loPrev ∧ s.idxskip % 2 = 0 ∧
    ∀ th, tableHits s = some th → ∀ x, x < 32768 →
      LeEq ((∀ (ti : Nat) (t : Table), s.tables[ti]? = some t → t.nOverflows = 0) ∧
          (∀ (ti : Nat) (t : LTable), s.ltables[ti]? = some t → t.overflows.size = 0))
        (hitSum th x) (rangeSum (tabF fb (lastRoots rs (r1, r2)).1 (lastRoots rs (r1, r2)).2 (nblocks * BLOCK)
          (b * BLOCK + x)) nS (fb.primes.size - nS)) := by
  obtain ⟨inv2, hprev, hblk, et, elt, _⟩ := path_inv hfb hr hrec h0 hb h1 h2 hnS
  obtain ⟨maxprime, hmax, hts, hlts⟩ := inv2.tsize
  obtain ⟨OT, g, T0, L0, hOT, hF, fT, fL⟩ := path_fill hfb hr hrec hrL hdL hn0 h0 hb hnS
  rw [← et, ← elt] at hF
  refine ⟨hprev, inv2.skip_even, fun th hth x hx => ?_⟩
  rw [← hblk]
  exact tableHits_sum hfb hrL hF fT fL hOT (offs_for hrL hdL).2 hnS hmax hts hlts hth hx

/-- the state in which `smooths` runs: cursors of block `b` in `lo_prev`. -/
theorem state_for_block {fb : FB} (hfb : fb.WF) {r1 r2 : Array Nat} (hr : RootsOK fb r1 r2) {offset : Int}
    {nblocks : Nat} {recycled : Option (Array Table × Array LTable)} (hrec : RecycledOK recycled) {s0 s1 s : State}
    (h0 : Sieve.new offset nblocks fb r1 r2 recycled = some s0) {b : Nat} (h1 : runBlocks fb b s0 = some s1)
    (h2 : sieveBlock fb s1 = some s) {nS : Nat} (hnS : fb.ibl[16]? = some nS) :
    CurInv fb r1 r2 s.idxskip nS b s.loPrev ∧ s.idxskip % 2 = 0 := by
  obtain ⟨inv2, hprev, _⟩ := path_inv (rs := []) hfb hr hrec h0 rfl h1 h2 hnS
  rw [List.length_nil, Nat.zero_mul, Nat.zero_add] at hprev
  exact ⟨hprev, inv2.skip_even⟩

end Ymq.SieveLog
