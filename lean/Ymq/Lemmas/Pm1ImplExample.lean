/-
A complete run of the whole-function model of `pm1_impl` evaluated inside the logic (non-vacuity of the
theorems of Props/C16Pm1.lean): `pm1_impl(77, 4, 4)` with every number accepted as a pseudoprime.
Stage 1 consumes 2, 3 and stops at 5 (`g = 2^6 = 64`, `gpows = [1, 63, 63]`); the first gcd check finds 7 and
the cofactor 11 is accepted: `Some(([7], 11))`.  The first sieve block is the one C17 proves.
-/
import Ymq.Lemmas.Pm1Impl
import Ymq.Lemmas.PrimesSmall

namespace Ymq.Pm1Impl
open Ymq.Primes Ymq.ExpModn Ymq.Gen

/-- the `for` loop over a block for any loop body, with the information whether it was left by a `break` -/
def blockB {S : Type} (step : S → Nat → Option (S × Bool)) : List Nat → S → Option (S × Bool)
  | [], s => some (s, false)
  | p :: ps, s =>
    match step s p with
    | none => none
    | some (s', true) => some (s', true)
    | some (s', false) => blockB step ps s'

theorem blockB_append_break {S : Type} (step : S → Nat → Option (S × Bool)) : ∀ (l rest : List Nat) (s s' : S),
    blockB step l s = some (s', true) → blockB step (l ++ rest) s = some (s', true)
  | [], _, s, s', h => by simp [blockB] at h
  | p :: ps, rest, s, s', h => by
    rw [List.cons_append, blockB]
    rw [blockB] at h
    cases hs : step s p with
    | none => rw [hs] at h; simp at h
    | some r =>
      obtain ⟨s1, fl⟩ := r
      rw [hs] at h
      cases fl
      · exact blockB_append_break step ps rest s1 s' h
      · exact h

theorem block_eq_blockB (m b1 : Nat) : ∀ (l : List Nat) (s : S1),
    block m b1 l s = (blockB (step m b1) l s).map Prod.fst
  | [], s => rfl
  | p :: ps, s => by
    rw [block, blockB]
    cases hs : step m b1 s p with
    | none => rfl
    | some r =>
      obtain ⟨s', fl⟩ := r
      cases fl
      · exact block_eq_blockB m b1 ps s'
      · rfl

def exS0 : S1 := { st := Pm1.st0, g := 2 % 77, gpowsRev := [onem 77] }

theorem ex_block_prefix :
    (blockB (step 77 4) [2, 3, 5] exS0).map (fun r => (r.1.g, r.1.gpowsRev, r.1.st.pPrev, r.2)) = some (64, [63, 63, 1], 5, true) := by
  decide +kernel

theorem outer_ret {n b1 f m nred : Nat} {pp : Nat → Bool} {ps : PrimeSieve} {blk factors : List Nat} {s s' : S1}
    {st : CgfState} (hb : block m b1 blk s = some s')
    (hc : checkGcdFactors n pp { factors := factors, nred := nred, vals := s'.gpowsRev.reverse } = some (true, st)) :
    outer n b1 pp (f + 1) ps blk m s factors nred = some (.ret (splitResult st)) := by
  rw [outer, hb]
  simp only
  rw [hc]

theorem pm1Impl_of_ret {n b1 b2 : Nat} {pp : Nat → Bool} {lab d1 d2 : Nat} {ps0 ps1 : PrimeSieve} {blk0 : List Nat}
    {r : Option (List Nat × Nat)} (hsel : Stage2.pm1Stage2Select b2 1 = some (lab, d1, d2)) (hb1 : ¬ b1 ≤ 3)
    (hz : znNewPanics n = false) (hnew : PrimeSieve.new = some ps0) (hnext : ps0.next = some (blk0, ps1))
    (hout : outer n b1 pp 65600 ps1 blk0 n { st := Pm1.st0, g := 2 % n, gpowsRev := [onem n] } [] n = some (.ret r)) :
    pm1Impl n b1 b2 pp = some r := by
  unfold pm1Impl
  rw [hsel]
  simp only
  rw [if_neg hb1, hz]
  simp only [Bool.false_eq_true, if_false]
  rw [hnew]
  simp only
  rw [hnext]
  simp only
  rw [hout]

theorem ex_pm1Impl : pm1Impl 77 4 4 (fun _ => true) = some (some ([7], 11)) := by
  obtain ⟨ps0, ps1, hnew, hnext, _⟩ := new_spec primes_6542
  have hsplit : primesBelow 65536 = [2, 3, 5] ++ (first90.drop 3 ++ primesFrom 464 65072) := by
    rw [show (65536 : Nat) = 464 + 65072 from rfl, primesBelow_append, primesBelow_464, ← List.append_assoc]
    congr 1
  -- the first block ends by `break` at 5
  obtain ⟨s', hb, hgp⟩ : ∃ s', block 77 4 (primesBelow 65536) exS0 = some s' ∧ s'.gpowsRev = [63, 63, 1] := by
    have h := ex_block_prefix
    cases hbb : blockB (step 77 4) [2, 3, 5] exS0 with
    | none => rw [hbb] at h; simp at h
    | some r =>
      obtain ⟨s', fl⟩ := r
      rw [hbb] at h
      simp only [Option.map_some, Option.some.injEq, Prod.mk.injEq] at h
      obtain ⟨-, h2, -, rfl⟩ := h
      exact ⟨s', by rw [hsplit, block_eq_blockB, blockB_append_break _ _ _ _ _ hbb]; rfl, h2⟩
  have hc : checkGcdFactors 77 (fun _ => true) ⟨[], 77, s'.gpowsRev.reverse⟩ = some (true, ⟨[7], 11, [1, 63, 63]⟩) := by
    rw [hgp]; decide +kernel
  exact pm1Impl_of_ret (lab := 30000) (d1 := 120) (d2 := 256) (by decide +kernel) (by decide) (by decide +kernel) hnew hnext
    (outer_ret hb hc)

end Ymq.Pm1Impl
