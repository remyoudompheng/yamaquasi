/-
Lemmas about the model of `ZmodN`: the combined multiply-reduce `_mint_mulmod`
(CIOS, coarsely integrated operand scanning: one multiply row and one reduction row per word of `x`) and `ZmodN::mul`.

Row invariant (window value `A`, `y < n`): `A' · W = A + x_i·y + m·n` and `A < 2n`; after the
`k` rows `A · W^k = x·y + M·n`. Since `A < 2n < 2·W^k` the word above the window is 0 or 1
(the `overflow` flag), and adding `W^k - n` to the low `k` words then yields `A - n < n < W^k`
without carry: the `res[SIZE] = 1` write of the Rust code is unreachable.
-/
import Ymq.Lemmas.ZmodN
import Ymq.Lemmas.MontCore

namespace Ymq.ZmodN
open Ymq.Limbs

/-- Value of the window after one CIOS row. `q` is the row result without its (zero) low word,
`zin`, `d1 + d2` the two words written above it: the top word `top` plus the two row carries
`c1`, `c2`, added one after the other (`hd1`, `hd2`). -/
theorem cios_step {P q v1 c1 c2 top zi zin d1 d2 Alo A xy mN : Nat}
    (e1 : v1 + P * W * c1 = xy + Alo) (e2 : W * q + P * W * c2 = mN + v1)
    (eA : A = Alo + P * W * top) (hd1 : W * d1 + zi = top + c1) (hd2 : W * d2 + zin = zi + c2) :
    (q + P * (zin + W * (d1 + d2))) * W = A + xy + mN := by
  linear_combination (P * W) * hd2 + (P * W) * hd1 + e2 + e1 + eA.symm

theorem flag_val {t : Nat} (ht : t ≤ 1) (P : Nat) :
    (if decide (t ≠ 0) = true then P else 0) = P * t := by
  obtain rfl | rfl : t = 0 ∨ t = 1 := by omega
  · simp
  · simp

/-- The reduction half of a row, shared by `_mint_mulmod` and `redc`: adding `m·n`, `m = w₀·ninv mod W`, to a
window `w` of `k` words clears its low word. -/
theorem montRow_spec {k ninv N : Nat} {n : List Nat} (hk : 1 ≤ k) (hnl : n.length = k) (hnv : val n = N)
    (hninv : (N * ninv + 1) % W = 0) (w : List Nat) (hw : Wf w) (hwl : w.length = k) :
    ∃ m q c, m < W ∧ w.headD 0 * ninv % W = m ∧ macRow m n w 0 = (0 :: q, c) ∧ q.length + 1 = k ∧ Wf q ∧
      W * val q + W ^ k * c = m * N + val w := by
  obtain ⟨k', rfl⟩ : ∃ k', k = k' + 1 := ⟨k - 1, by omega⟩
  have hmc := Mont.low_cancel hninv (val w)
  rw [← headD_mod w hw (fun h => by rw [h] at hwl; cases hwl)] at hmc
  have hmW : w.headD 0 * ninv % W < W := Nat.mod_lt _ W_pos
  generalize w.headD 0 * ninv % W = m at hmc hmW
  obtain ⟨e, l, wf⟩ := macRow_spec m n w 0 (hnl.trans hwl.symm)
  rw [hnl] at e l
  rw [hnv, pow_succ] at e
  simp only [Nat.add_zero] at e
  generalize hrow : macRow m n w 0 = r at e l wf
  obtain ⟨r, c⟩ := r
  cases r with
  | nil => cases l
  | cons a q =>
    obtain ⟨ha, hq⟩ := Wf_cons.1 wf
    rw [val_cons] at e
    -- the low word of the row is `(val w + m·N) mod W = 0`
    obtain rfl : a = 0 := by
      have : (a + W * (val q + W ^ k' * c)) % W = 0 := by
        rw [← hmc, Nat.add_comm (val w)]; congr 1; linear_combination e
      rwa [Nat.add_mul_mod_self_left, Nat.mod_eq_of_lt ha] at this
    exact ⟨m, q, c, hmW, rfl, hrow, l, hq, by rw [pow_succ]; linear_combination e⟩

section Rows
variable {k ninv N : Nat} {n y : List Nat} (hk : 1 ≤ k) (hnl : n.length = k) (hnv : val n = N)
  (hninv : (N * ninv + 1) % W = 0) (hNk : N < W ^ k) (hyl : y.length = k) (hyN : val y < N)
include hk hnl hnv hninv hNk hyl hyN

theorem mulRow_spec (xi : Nat) (acc : List Nat)
    (hxi : xi < W) (hal : acc.length = k + 1) (haN : val acc < 2 * N) :
    ∃ a, mulRow k ninv n y xi acc = some a ∧ a.length = k + 1 ∧ Wf a ∧ val a < 2 * N ∧
      ∃ m, val a * W = val acc + xi * val y + m * N := by
  obtain ⟨k', rfl⟩ : ∃ k', k = k' + 1 := ⟨k - 1, by omega⟩
  have htl : (acc.take (k' + 1)).length = k' + 1 := by rw [List.length_take, hal]; omega
  obtain ⟨e1, l1, w1⟩ := macRow_spec xi y (acc.take (k' + 1)) 0 (by rw [hyl, htl])
  obtain ⟨eacc, _, _⟩ := val_eq_take_add_top (x := acc) (k := k' + 1) (by omega) (by omega)
  unfold mulRow
  simp only []
  rw [hyl] at e1 l1
  generalize macRow xi y (acc.take (k' + 1)) 0 = r1 at *
  obtain ⟨m, q, c2, hmW, hm, hrow, l2, w2, e2⟩ := montRow_spec hk hnl hnv hninv r1.1 w1 l1
  rw [hm, hrow]
  simp only [List.headD_cons, ne_eq, not_true_eq_false, if_false, List.tail_cons]
  have hd1 := Nat.div_add_mod (acc.getD (k' + 1) 0 + r1.2) W
  have hd2 := Nat.div_add_mod ((acc.getD (k' + 1) 0 + r1.2) % W + c2) W
  have hzin := Nat.mod_lt ((acc.getD (k' + 1) 0 + r1.2) % W + c2) W_pos
  generalize (acc.getD (k' + 1) 0 + r1.2) / W = d1 at *
  generalize ((acc.getD (k' + 1) 0 + r1.2) % W + c2) / W = d2 at *
  generalize ((acc.getD (k' + 1) 0 + r1.2) % W + c2) % W = zin at *
  have hlen_tail : q.length = k' := Nat.succ.inj l2
  have hv : val (q ++ [zin, d1 + d2]) = val q + W ^ k' * (zin + W * (d1 + d2)) := by
    rw [val_append, hlen_tail, val_cons, val_cons, val_nil, Nat.mul_zero, Nat.add_zero]
  rw [pow_succ] at e1 e2 eacc hNk
  simp only [Nat.add_zero] at e1
  have hval : val (q ++ [zin, d1 + d2]) * W = val acc + xi * val y + m * N := by
    rw [hv]; exact cios_step e1 e2 eacc hd1 hd2
  have hbound := Mont.cios_lt hval haN hxi hyN.le hmW
  refine ⟨_, rfl, ?_, ?_, hbound, m, hval⟩
  · rw [List.length_append, hlen_tail]; rfl
  -- the top word is 0 or 1 because the value is below `2·W^k`
  refine Wf_append.2 ⟨w2, Wf_cons.2 ⟨hzin, Wf_cons.2 ⟨?_, Wf_nil⟩⟩⟩
  rw [hv] at hbound
  have : d1 + d2 < 2 := Nat.lt_of_mul_lt_mul_left (a := W ^ k' * W) (by
    rw [Nat.mul_add, ← Nat.mul_assoc] at hbound; omega)
  have hW : 2 ≤ W := by decide
  omega

theorem mulRows_spec (xs : List Nat) (hxs : Wf xs) (hne : xs ≠ []) (acc : List Nat)
    (hal : acc.length = k + 1) (haN : val acc < 2 * N) :
    ∃ res ovf, mulRows k ninv n y xs acc = some (res, ovf) ∧ res.length = k ∧ Wf res ∧
      val res + (if ovf then W ^ k else 0) < 2 * N ∧
      ∃ M, (val res + (if ovf then W ^ k else 0)) * W ^ xs.length = val acc + val xs * val y + M * N := by
  induction xs generalizing acc with
  | nil => exact absurd rfl hne
  | cons xi xs ih =>
    have ⟨hxi, hxs'⟩ := Wf_cons.1 hxs
    obtain ⟨a, e1, e2, e3, e4, m, e5⟩ := mulRow_spec hk hnl hnv hninv hNk hyl hyN xi acc hxi hal haN
    cases xs with
    | nil =>
      obtain ⟨ea, htop, _⟩ := val_eq_take_add_top (x := a) (k := k) (by omega) (by omega)
      simp only [mulRows, e1]
      refine ⟨_, _, rfl, by rw [List.length_take, e2]; omega, Wf_take e3 k, ?_, m, ?_⟩
      · rw [flag_val htop, ← ea]; exact e4
      · rw [flag_val htop, ← ea, List.length_singleton, pow_one, val_cons, val_nil, Nat.mul_zero,
          Nat.add_zero]
        exact e5
    | cons xj rest =>
      obtain ⟨res, ovf, f1, f2, f3, f4, M, f5⟩ := ih hxs' (by simp) a e2 e4
      simp only [mulRows, e1]
      refine ⟨res, ovf, f1, f2, f3, f4, m + W * M, ?_⟩
      rw [List.length_cons, pow_succ, val_cons xi (xj :: rest)]
      linear_combination W * f5 + e5

end Rows

theorem mulRows_valid {c : Ctx} (h : Valid c) (x y : List Nat) (hx : Wf x)
    (hlx : x.length = 8) (hly : y.length = 8) (hvy : val y < c.n) :
    ∃ res ovf, mulRows c.k c.ninv (c.nd.take c.k) (y.take c.k) (x.take c.k) (zeros (c.k + 1)) =
        some (res, ovf) ∧ res.length = c.k ∧ Wf res ∧
      val res + (if ovf then W ^ c.k else 0) < 2 * c.n ∧
      ∃ M, (val res + (if ovf then W ^ c.k else 0)) * W ^ c.k =
        val (x.take c.k) * val y + M * c.n := by
  have hk := h.kle
  have hk1 := h.kpos
  have hyk : val (y.take c.k) = val y := val_take_of_lt (lt_trans hvy h.nlt)
  have hxl : (x.take c.k).length = c.k := by rw [List.length_take, hlx]; omega
  obtain ⟨res, ovf, f1, f2, f3, f4, M, f5⟩ := mulRows_spec (k := c.k) (N := c.n)
      (n := c.nd.take c.k) (y := y.take c.k)
    hk1 (by rw [List.length_take, nd_length]; omega) (nd_take_val h c.k (le_refl _) (by omega))
    h.hninv h.nlt (by rw [List.length_take, hly]; omega) (by rw [hyk]; exact hvy)
    (x.take c.k) (Wf_take hx _) (by intro he; rw [he] at hxl; exact absurd hxl (by simp; omega))
    (zeros (c.k + 1)) (by simp)
    (by rw [val_zeros]; have := h.npos; omega)
  rw [val_zeros, hyk, Nat.zero_add, hxl] at f5
  exact ⟨res, ovf, f1, f2, f3, f4, M, f5⟩

/-- Adding `2^(64k) - n = !n + 1` to `k` words that stand for `val res + W^k < 2n`: the sum
`val res + W^k - n` is below `n < W^k`, so it fits in the `k` words without carry. -/
theorem add_compl_n {c : Ctx} (h : Valid c) (res : List Nat) (hl : res.length = c.k)
    (hv : val res + W ^ c.k < 2 * c.n) :
    (addc res (compl (c.nd.take c.k)) 1).2 = 0 ∧
    val (addc res (compl (c.nd.take c.k)) 1).1 + c.n = val res + W ^ c.k ∧
    (addc res (compl (c.nd.take c.k)) 1).1.length = c.k ∧ Wf (addc res (compl (c.nd.take c.k)) 1).1 := by
  have hk := h.kle
  have hn := h.nlt
  have hnwl : (c.nd.take c.k).length = c.k := by rw [List.length_take, nd_length]; omega
  obtain ⟨g1, g2, g3⟩ := addc_spec res (compl (c.nd.take c.k)) 1 (by rw [compl_length, hl, hnwl])
  have hcv := compl_val (c.nd.take c.k) (Wf_take (nd_Wf c) _)
  rw [hnwl, nd_take_val h c.k (le_refl _) (by omega)] at hcv
  rw [hl] at g1 g2
  generalize addc res (compl (c.nd.take c.k)) 1 = r at *
  have hc0 : r.2 = 0 := by
    by_contra hne
    have := Nat.mul_le_mul_left (W ^ c.k) (Nat.pos_of_ne_zero hne)
    omega
  rw [hc0] at g1
  exact ⟨hc0, by omega, g2, g3⟩

theorem mintMulmod_spec {c : Ctx} (h : Valid c) (x y : List Nat) (hx : Wf x)
    (hlx : x.length = 8) (hly : y.length = 8) (hvy : val y < c.n) :
    ∃ m, mintMulmod c x y = some m ∧ m.length = 8 ∧ Wf m ∧ val m < 2 * c.n ∧
      val m * W ^ c.k % c.n = val (x.take c.k) * val y % c.n := by
  have hk := h.kle
  have hk1 := h.kpos
  obtain ⟨res, ovf, f1, f2, f3, f4, M, f5⟩ := mulRows_valid h x y hx hlx hly hvy
  have hkk : ¬ (c.k = 0 ∨ c.k > 8) := by omega
  unfold mintMulmod
  simp only [MW, hkk, if_false, f1]
  cases ovf with
  | true =>
    simp only [if_true] at f4 f5 ⊢
    obtain ⟨g0, g1, g2, g3⟩ := add_compl_n h res f2 f4
    rw [g0, if_neg (by omega)]
    refine ⟨_, rfl, by rw [List.length_append, g2, zeros_length]; omega,
      Wf_append_zeros g3 _, by rw [val_append_zeros]; omega, ?_⟩
    rw [val_append_zeros, ← Nat.add_mul_mod_self_left _ c.n, ← Nat.add_mul, g1]
    exact Mont.mul_mod_of_eq f5
  | false =>
    simp only [Bool.false_eq_true, if_false, Nat.add_zero] at f4 f5 ⊢
    refine ⟨_, rfl, by rw [List.length_append, f2, zeros_length]; omega,
      Wf_append_zeros f3 _, by rw [val_append_zeros]; exact f4, ?_⟩
    rw [val_append_zeros]; exact Mont.mul_mod_of_eq f5

theorem mul_spec' {c : Ctx} (h : Valid c) (x y : List Nat) (hx : Wf x)
    (hlx : x.length = 8) (hly : y.length = 8) (hvx : val x < c.n) (hvy : val y < c.n) :
    ∃ m, mul c x y = some m ∧ val m < c.n ∧ val m * W ^ c.k % c.n = val x * val y % c.n ∧
      m.length = 8 ∧ Wf m := by
  have hn := h.nlt
  have hxk : val (x.take c.k) = val x := val_take_of_lt (lt_trans hvx hn)
  obtain ⟨m, e1, e2, e3, e4, e5⟩ := mintMulmod_spec h x y hx hlx hly hvy
  obtain ⟨m', f1, f2, f3, f4, f5⟩ := condSub_spec h m e3 e2 e4
  unfold mul toUint
  simp only [hvx, hvy, not_true_eq_false, if_false, e1, f1, f2]
  exact ⟨m', rfl, f2, hxk ▸ (f3.mul_right _).trans e5, f4, f5⟩

end Ymq.ZmodN
