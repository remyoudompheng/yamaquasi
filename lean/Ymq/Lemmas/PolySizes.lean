/-
SIQS (C12): size bounds on the parameter domain (`SizeDom`): `A`, `n/A`, the exact `C`, and the bit-length and
rounded-root checks of `_finish_polynomial`.
-/
import Mathlib.Tactic.Ring
import Mathlib.Tactic.Linarith
import Mathlib.Tactic.NormNum
import Ymq.Lemmas.PolyBits
namespace Ymq.PolySizes
open Ymq.SiqsPoly Ymq.PolyBits

set_option exponentiation.threshold 1100

/-- the target of `select_siqs_factors`: `max(2000, isqrt(2n or n/2) / (M/2))` -/
def siqsTarget (n : Int) (mm : Nat) : Nat :=
  max 2000 ((if isType2 n then isqrt (n.natAbs / 2) else isqrt (n.natAbs * 2)) / (mm / 2))

/-- the parameter domain on which the size assertions are proved: `0 < n < 2^448`, interval between one
block and 2^20, `A` within a factor 4 of the target (the widest window of `select_a`), at most 32 factors -/
structure SizeDom (n : Int) (mm A nf : Nat) : Prop where
  npos : 0 < n
  nlt : n < 2 ^ 448
  mlo : 32768 ≤ mm
  mhi : mm < 2 ^ 20
  alo : siqsTarget n mm ≤ 4 * A
  ahi : A ≤ 4 * siqsTarget n mm
  nfhi : nf ≤ 32

theorem window_lo {s h A c : Nat} (hh : 0 < h) (alo : c * max 2000 (s / h) ≤ 4 * A) :
    c * (s + 1) ≤ (4 * A + c) * h ∧ c * 2000 ≤ 4 * A := by
  have hq : c * (s / h) ≤ 4 * A := le_trans (Nat.mul_le_mul_left c (le_max_right _ _)) alo
  refine ⟨?_, le_trans (Nat.mul_le_mul_left c (le_max_left _ _)) alo⟩
  calc c * (s + 1) ≤ c * (h * (s / h + 1)) := Nat.mul_le_mul_left c (Nat.lt_mul_div_succ s hh)
    _ = (c * (s / h) + c) * h := by ring
    _ ≤ (4 * A + c) * h := Nat.mul_le_mul_right h (by omega)

theorem target_facts {n : Int} {mm A nf : Nat} (d : SizeDom n mm A nf) :
    ∃ s h N : Nat, (N : Int) = n ∧ 16384 ≤ h ∧ h < 2 ^ 19 ∧ N < 2 ^ 448 ∧
      s * s ≤ 2 * N ∧ N ≤ 2 * ((s + 1) * (s + 1)) + 1 ∧
      s < (4 * A + 1) * h ∧ A * h ≤ 4 * max (2000 * h) s ∧ 500 ≤ A := by
  obtain ⟨npos, nlt, mlo, mhi, alo, ahi, _⟩ := d
  obtain ⟨N, rfl⟩ := Int.eq_ofNat_of_zero_le npos.le
  have hs : ∀ c : Bool, ∃ s, s = (if c then isqrt (N / 2) else isqrt (N * 2)) ∧
      s * s ≤ 2 * N ∧ N ≤ 2 * ((s + 1) * (s + 1)) + 1 := by
    intro c
    cases c
    · obtain ⟨a1, a2⟩ := isqrt_spec (N * 2)
      exact ⟨isqrt (N * 2), rfl, by omega, by omega⟩
    · obtain ⟨a1, a2⟩ := isqrt_spec (N / 2)
      exact ⟨isqrt (N / 2), rfl, by omega, by omega⟩
  obtain ⟨s, hs, hs1, hs2⟩ := hs (isType2 N)
  simp only [siqsTarget, Int.natAbs_natCast, ← hs] at alo ahi
  have hh : 0 < mm / 2 := by omega
  obtain ⟨h1, h2⟩ := window_lo (c := 1) hh (by rwa [Nat.one_mul])
  refine ⟨s, mm / 2, N, rfl, by omega, by omega, by exact_mod_cast nlt, hs1, hs2, by omega, ?_, by omega⟩
  calc A * (mm / 2) ≤ 4 * max 2000 (s / (mm / 2)) * (mm / 2) := Nat.mul_le_mul_right _ ahi
    _ = 4 * max (2000 * (mm / 2)) (s / (mm / 2) * (mm / 2)) := by rw [Nat.mul_assoc, Nat.mul_max_mul_right]
    _ ≤ 4 * max (2000 * (mm / 2)) s := Nat.mul_le_mul_left 4 (max_le_max_left _ (Nat.div_mul_le_self s _))

theorem dom_A_ge {n : Int} {mm A nf : Nat} (d : SizeDom n mm A nf) : 500 ≤ A := by
  obtain ⟨_, _, _, _, _, _, _, _, _, _, _, hA500⟩ := target_facts d
  exact hA500

theorem dom_s_lt {s N : Nat} (hN : N < 2 ^ 448) (hs1 : s * s ≤ 2 * N) : s < 2 ^ 225 :=
  Nat.mul_self_lt_mul_self_iff.mp (by omega)

theorem dom_A_lt {n : Int} {mm A nf : Nat} (d : SizeDom n mm A nf) : A < 2 ^ 213 := by
  obtain ⟨s, h, N, _, hh1, _, hN, hs1, _, _, hAh, _⟩ := target_facts d
  have hs := dom_s_lt hN hs1
  have h1 : A * 16384 ≤ A * h := Nat.mul_le_mul_left A hh1
  rcases le_total (2000 * h) s with hc | hc
  · rw [max_eq_right hc] at hAh
    omega
  · rw [max_eq_left hc] at hAh
    have : A ≤ 8000 := Nat.le_of_mul_le_mul_right (by omega : A * h ≤ 8000 * h) (by omega)
    omega

theorem dom_n_lt {n : Int} {mm A nf : Nat} (d : SizeDom n mm A nf) : n < 2 ^ 252 * (A : Int) := by
  obtain ⟨s, h, N, rfl, hh1, hh2, hN, hs1, hs2, hsA, hAh, hA500⟩ := target_facts d
  have hs := dom_s_lt hN hs1
  suffices N < 2 ^ 252 * A by exact_mod_cast this
  rcases le_total (2000 * h) s with hc | hc
  · -- `s + 1 ≤ 5Ah` and `Ah ≤ 4s < 2^227`, so `N ≤ 50 A (A h h) + 1` with `A h h < 2^246`
    rw [max_eq_right hc] at hAh
    have h5 : s + 1 ≤ 5 * (A * h) := by
      have e : (4 * A + 1) * h = 4 * (A * h) + h := by ring
      have : h ≤ A * h := Nat.le_mul_of_pos_left h (by omega)
      omega
    have hsq : (s + 1) * (s + 1) ≤ 5 * (A * h) * (5 * (A * h)) := Nat.mul_le_mul h5 h5
    have e : 5 * (A * h) * (5 * (A * h)) = 25 * (A * (A * h * h)) := by ring
    have hAhh : A * h * h ≤ (2 ^ 227 - 1) * (2 ^ 19 - 1) := Nat.mul_le_mul (by omega) (by omega)
    have h3 : A * (A * h * h) ≤ A * ((2 ^ 227 - 1) * (2 ^ 19 - 1)) := Nat.mul_le_mul_left A hAhh
    omega
  · -- `s < 2000·2^19`, so `N < 2^64`
    have hs' : s + 1 ≤ 2000 * 2 ^ 19 := by omega
    have hsq : (s + 1) * (s + 1) ≤ 2000 * 2 ^ 19 * (2000 * 2 ^ 19) := Nat.mul_le_mul hs' hs'
    omega

theorem dom_nfA {n : Int} {mm A nf : Nat} (d : SizeDom n mm A nf) :
    (0 : Int) < A ∧ (A : Int) < 2 ^ 213 ∧ 2 * (nf : Int) * A ≤ 64 * A := by
  have hA0 : (0 : Int) < A := by exact_mod_cast (by have := dom_A_ge d; omega : 0 < A)
  exact ⟨hA0, by exact_mod_cast dom_A_lt d,
    Int.mul_le_mul_of_nonneg_right (by have := d.nfhi; omega) hA0.le⟩

theorem dom_C_lt {n : Int} {mm A nf : Nat} (d : SizeDom n mm A nf) (b : Int) (hb0 : 0 < b)
    (hb : b ≤ 2 * nf * A) (hdvd : polyM (isType2 n) A ∣ b * b - n) :
    -(2 ^ 254 : Int) < (b * b - n) / polyM (isType2 n) A ∧ (b * b - n) / polyM (isType2 n) A < 2 ^ 254 := by
  obtain ⟨hA0, hA, hnf⟩ := dom_nfA d
  have hn := dom_n_lt d
  have hn0 : 0 < n := d.npos
  have hMA : (A : Int) ≤ polyM (isType2 n) A := by rw [polyM]; split <;> omega
  generalize polyM (isType2 n) A = M at hMA hdvd ⊢
  have hM : 0 < M := lt_of_lt_of_le hA0 hMA
  obtain ⟨q, hq⟩ := hdvd
  rw [hq, Int.mul_ediv_cancel_left _ hM.ne']
  -- `b ≤ 64A`, so `0 < b² ≤ 2^12 A² < 2^225 A`, and `0 < n < 2^252 A`, while `A ≤ M`
  have hb64 : b ≤ 64 * (A : Int) := hb.trans hnf
  have hbb : b * b ≤ 64 * (A : Int) * (64 * (A : Int)) := Int.mul_le_mul hb64 hb64 hb0.le (by omega)
  have hAA : (A : Int) * A ≤ 2 ^ 213 * A := Int.mul_le_mul_of_nonneg_right hA.le hA0.le
  have e : 64 * (A : Int) * (64 * (A : Int)) = 4096 * ((A : Int) * A) := by ring
  have hbpos : 0 < b * b := Int.mul_pos hb0 hb0
  exact ⟨lt_of_mul_lt_mul_left (a := M) (by omega) hM.le, lt_of_mul_lt_mul_left (a := M) (by omega) hM.le⟩

/-- `assert!(a.a.bits() + 2 * mlog < 255)` and `assert!(pol.b.bits() + mlog < 255)` on the domain -/
theorem dom_bits {n : Int} {mm A nf : Nat} (d : SizeDom n mm A nf) (b : Int) (hb0 : 0 ≤ b)
    (hb : b ≤ 2 * nf * A) :
    bitlen A + 2 * bitlen mm < 255 ∧ bitlen b.natAbs + bitlen mm < 255 := by
  obtain ⟨_, hA, hnf⟩ := dom_nfA d
  have h1 : bitlen A ≤ 213 := bitlen_le_of_lt (dom_A_lt d)
  have h2 : bitlen mm ≤ 20 := bitlen_le_of_lt d.mhi
  have h3 : bitlen b.natAbs ≤ 219 := bitlen_le_of_lt (by omega)
  omega

/-- the rounded root stays below `k·A·h` (`k = 1, 2`) -/
theorem root_lt {A h s r N k : Nat} (hA1500 : 1500 ≤ A) (h3s : 3 * (s + 1) ≤ (4 * A + 3) * h)
    (hr : r * r ≤ N) (hN : 2 * N < k * k * ((s + 1) * (s + 1))) : r < k * (A * h) := by
  by_contra hc
  have hsq : k * (A * h) * (k * (A * h)) ≤ r * r := Nat.mul_le_mul (not_lt.mp hc) (not_lt.mp hc)
  have e : k * (A * h) * (k * (A * h)) = k * k * (A * h * (A * h)) := by ring
  have hc2 : 2 * (A * h * (A * h)) < (s + 1) * (s + 1) := Nat.lt_of_mul_lt_mul_left (a := k * k)
    (by rw [← Nat.mul_assoc, Nat.mul_comm (k * k) 2, Nat.mul_assoc]; omega)
  have e' : (4 * A + 3) * h = 4 * (A * h) + 3 * h := by ring
  have hX : 1500 * h ≤ A * h := Nat.mul_le_mul_right h hA1500
  generalize A * h = X at *
  -- `3h ≤ X/500`, so `750(s+1) ≤ 1001·X`; squared, this contradicts `2X² < (s+1)²`
  have h750 : 750 * (s + 1) ≤ 1001 * X := by omega
  have hsq' := Nat.mul_le_mul h750 h750
  have e1 : 750 * (s + 1) * (750 * (s + 1)) = 562500 * ((s + 1) * (s + 1)) := by ring
  have e2 : 1001 * X * (1001 * X) = 1002001 * (X * X) := by ring
  omega

/-- `assert!((root as usize) < s.interval_size / 2)`: holds when `A ≥ ¾·target` (tolerance divisor ≥ 4) -/
theorem dom_root {n : Int} {mm A nf : Nat} (d : SizeDom n mm A nf)
    (h34 : 3 * siqsTarget n mm ≤ 4 * A) :
    polyRoot (mkSieve n mm).nsqrt (isType2 n) A < mm / 2 := by
  obtain ⟨npos, _, mlo, _, _, _, _⟩ := d
  obtain ⟨N, rfl⟩ := Int.eq_ofNat_of_zero_le npos.le
  have hh : 0 < mm / 2 := by omega
  obtain ⟨hr, _⟩ := isqrt_spec N
  obtain ⟨h3s, hA⟩ := window_lo hh h34
  have hA0 : 0 < A := by omega
  simp only [polyRoot, mkSieve, if_pos npos, Int.toNat_natCast, Int.natAbs_natCast] at h3s ⊢
  refine lt_of_le_of_lt (Nat.mod_le _ _) ?_
  generalize isType2 (N : Int) = t at h3s ⊢
  cases t
  · obtain ⟨_, hs⟩ := isqrt_spec (N * 2)
    rw [if_neg Bool.false_ne_true] at h3s ⊢
    rw [Nat.div_lt_iff_lt_mul hA0, Nat.mul_comm]
    simpa using root_lt (k := 1) (by omega) h3s hr (by omega)
  · obtain ⟨_, hs⟩ := isqrt_spec (N / 2)
    rw [if_pos rfl] at h3s ⊢
    rw [Nat.div_lt_iff_lt_mul (by omega), Nat.mul_comm, Nat.mul_assoc]
    exact root_lt (k := 2) (by omega) h3s hr (by omega)

end Ymq.PolySizes
