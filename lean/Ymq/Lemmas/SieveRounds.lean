/-
C13 helper lemmas: any number of `rehash` rounds (classical quadratic sieve).
-/
import Ymq.Lemmas.SieveTotalRun

namespace Ymq.Sieve

/-- roots registered in the bucket tables after the rounds `rs` (the last table, or the initial one). -/
def lastRoots (rs : List (Array Nat × Array Nat)) (r : Array Nat × Array Nat) : Array Nat × Array Nat :=
  rs.getLast?.getD r

theorem lastRoots_cons (x : Array Nat × Array Nat) (rs : List (Array Nat × Array Nat)) (r : Array Nat × Array Nat) :
    lastRoots (x :: rs) r = lastRoots rs x := by
  cases rs with
  | nil => simp [lastRoots]
  | cons y ys =>
    simp only [lastRoots, List.getLast?_cons_cons]
    rw [List.getLast?_eq_some_getLast (List.cons_ne_nil y ys)]
    simp

/-- the rounds of the classical quadratic sieve keep the invariant: the cursors run on (`rs.length · n` more blocks), the
bucket tables hold the last root table. After at least one round the block number is 0 again, and the state is what
the last `rehash` returned on a state that satisfied the invariant (all that is needed to know what the tables
contain); without a round nothing has changed. -/
theorem rehashRounds_spec {fb : FB} {nS n : Nat} {rS1 rS2 : Array Nat} (hfb : fb.WF)
    (hnS : fb.ibl[16]? = some nS) :
    ∀ (rs : List (Array Nat × Array Nat)) (rL : Array Nat × Array Nat) (B : Nat) (s s' : State),
      Inv fb nS rS1 rS2 rL.1 rL.2 B s → s.nblocks = n → rehashRounds fb n rs s = some s' →
      Inv fb nS rS1 rS2 (lastRoots rs rL).1 (lastRoots rs rL).2 (B + rs.length * n) s' ∧ s'.nblocks = n ∧
        (rs ≠ [] → s'.blkNo = 0) ∧ (rs = [] → s' = s) ∧
        (rs ≠ [] → ∃ (rL' : Array Nat × Array Nat) (B' : Nat) (sa : State), Inv fb nS rS1 rS2 rL'.1 rL'.2 B' sa ∧
          sa.nblocks = n ∧ rehash fb sa (lastRoots rs rL).1 (lastRoots rs rL).2 = some s') := by
  intro rs
  induction rs with
  | nil =>
    intro rL B s s' hinv hn h
    simp only [rehashRounds, Option.some.injEq] at h
    subst h
    exact ⟨by simpa [lastRoots] using hinv, hn, fun h => absurd rfl h, fun _ => rfl, fun h => absurd rfl h⟩
  | cons x rest ih =>
    intro rL B s s' hinv hn h
    simp only [rehashRounds, Option.bind_eq_bind, Option.bind_eq_some_iff] at h
    obtain ⟨sa, ha, sb, hb, hrest⟩ := h
    obtain ⟨inva, _, na, _⟩ := runBlocks_spec hfb hnS n B s sa hinv ha
    obtain ⟨invb, bkb, nb, _⟩ := rehash_spec hfb inva hb
    obtain ⟨i1, i2, i3, _, i5⟩ := ih x (B + n) sb s' invb (by rw [nb, na, hn]) hrest
    rw [lastRoots_cons]
    have hlast : rest = [] → sb = s' ∧ lastRoots rest x = x := fun hr => by
      subst hr
      simp only [rehashRounds, Option.some.injEq] at hrest
      exact ⟨hrest, rfl⟩
    refine ⟨?_, i2, fun _ => ?_, fun h => by simp at h, fun _ => ?_⟩
    · have e : B + n + rest.length * n = B + (x :: rest).length * n := by
        simp only [List.length_cons]; ring
      rw [← e]; exact i1
    · by_cases hr : rest = []
      · rw [← (hlast hr).1]; exact bkb
      · exact i3 hr
    · by_cases hr : rest = []
      · rw [← (hlast hr).1, (hlast hr).2]; exact ⟨rL, B + n, sa, inva, by rw [na, hn], hb⟩
      · exact i5 hr

theorem rehashRounds_some {fb : FB} {nS n : Nat} {rS1 rS2 : Array Nat} (hfb : fb.WF)
    (hnS : fb.ibl[16]? = some nS) :
    ∀ (rs : List (Array Nat × Array Nat)) (rL : Array Nat × Array Nat) (B : Nat) (s : State),
      (∀ r ∈ rs, RootsOK fb r.1 r.2) →
      Inv fb nS rS1 rS2 rL.1 rL.2 B s → StateSized n s → s.blkNo = 0 →
      s.offset + ((rs.length * n : Nat) : Int) * 32768 < 2 ^ 63 →
      ∃ s', rehashRounds fb n rs s = some s' ∧ StateSized n s' ∧
        s'.offset = s.offset + ((rs.length * n : Nat) : Int) * 32768 ∧ s'.blkNo = 0 := by
  intro rs
  induction rs with
  | nil => intro rL B s _ _ hsz hb _; exact ⟨s, rfl, hsz, by simp, hb⟩
  | cons x rest ih =>
    intro rL B s hrs hinv hsz hb0 hoff
    have hlen : ((x :: rest).length * n : Nat) = n + rest.length * n := by simp only [List.length_cons]; ring
    rw [hlen] at hoff
    push_cast at hoff
    obtain ⟨sa, ha, inva, sza, bka, ofa⟩ := runBlocks_some hfb hnS n B s hinv hsz (by omega)
      (by have : (0:Int) ≤ (rest.length : Int) * (n : Int) := by positivity
          nlinarith)
    obtain ⟨sb, hb, szb⟩ := rehash_some hfb (hrs x List.mem_cons_self) inva sza
    obtain ⟨invb, bkb, _, ofb⟩ := rehash_spec hfb inva hb
    obtain ⟨s', hs', sz', of', bk'⟩ := ih x (B + n) sb (fun r hr => hrs r (List.mem_cons_of_mem _ hr)) invb szb
      bkb (by rw [ofb, ofa]; push_cast; linarith)
    refine ⟨s', ?_, sz', ?_, bk'⟩
    · simp only [rehashRounds, ha, hb, hs', Option.bind_eq_bind, Option.bind_some]
    · rw [of', ofb, ofa, hlen]; push_cast; ring

end Ymq.Sieve
