/-
The product tree (Ymq/Model/PolyTree.lean, property C10): the
merge step `(x^d + a)(x^d + b)` in its three forms, linked layers, the chain of layers, and
`from_roots = ∏ (x - r_i)`.
-/
import Ymq.Model.PolyTree
import Ymq.Lemmas.PolyMiddle

namespace Ymq.PolyMul
open Polynomial Finset

variable {α : Type} {R : Type} [CommRing R]

/-- the monic polynomial `x^d + a` represented by its `d = |a|` low coefficients -/
noncomputable def mon (φ : α → R) (a : List α) : R[X] := poly (a.map φ) + X ^ a.length

/-- the merge `(x^d + a)(x^d + b)` in the three forms of the code: `i = 1`, `i = 2` (`d = 1, 2`) written out coefficient by
coefficient; above, `a·b` by `_longmul` and `x^d·(a + b)` added into its upper half -/
theorem mergeMonic_spec {o : Ops α} {φ : α → R} (h : Hom o φ) (c : Ctx) (i tmplen : Nat) (a b : List α)
    (hi : 1 ≤ i) (ha : a.length = 2 ^ (i - 1)) (hb : b.length = 2 ^ (i - 1)) (hd62 : 2 ^ (i - 1) ≤ 2 ^ 62)
    (ht : 3 * 2 ^ (i - 1) ≤ tmplen) (hfit : Fits c (2 ^ (i - 1))) :
    ∃ m, mergeMonic c o i tmplen a b = some m ∧ m.length = 2 ^ i ∧ mon φ m = mon φ a * mon φ b := by
  unfold mergeMonic
  by_cases h1 : i = 1
  · subst h1
    rw [if_pos rfl]
    simp only [Nat.sub_self, pow_zero] at ha hb
    match a, b, ha, hb with
    | [a0], [b0], _, _ =>
      refine ⟨_, rfl, rfl, ?_⟩
      simp only [mon, List.map_cons, List.map_nil, poly_cons, poly_nil, List.length_cons, List.length_nil,
        List.getD_cons_zero, h.mul, h.add, map_mul, map_add]
      ring
  · rw [if_neg h1]
    by_cases h2 : i = 2
    · subst h2
      rw [if_pos rfl]
      simp only [show 2 - 1 = 1 from rfl, pow_one] at ha hb
      match a, b, ha, hb with
      | [a0, a1], [b0, b1], _, _ =>
        refine ⟨_, rfl, rfl, ?_⟩
        simp only [mon, List.map_cons, List.map_nil, poly_cons, poly_nil, List.length_cons, List.length_nil,
          List.getD_cons_zero, List.getD_cons_succ, h.mul, h.add, map_mul, map_add]
        ring
    · rw [if_neg h2]
      simp only
      rw [← ha] at hd62 ht hfit
      set d := a.length with hd
      have hd1 : 1 ≤ d := by rw [ha]; exact Nat.one_le_two_pow
      have lb : b.length = d := by rw [hb, ← ha]
      obtain ⟨lm, elm, llm, plm⟩ := longmul_spec h c (2 * d) tmplen a b d d d d rfl lb hd1 le_rfl le_rfl hd62
        (by omega) ht hfit (by omega)
      rw [elm]
      simp only
      have ldrop : (lm.drop d).length = d := by rw [List.length_drop, llm]; omega
      have ls1 : (List.zipWith o.add (lm.drop d) a).length = d := by
        rw [List.length_zipWith, ldrop, Nat.min_self]
      rw [zipOp_eq o.add _ _ ldrop]
      simp only
      rw [zipOp_eq o.add _ _ (ls1.trans lb.symm)]
      simp only
      have hpi : 2 ^ i = 2 * d := by
        rw [ha, ← pow_succ']; congr 1; omega
      have hlen : (lm.take d ++ List.zipWith o.add (List.zipWith o.add (lm.drop d) a) b).length = 2 * d := by
        rw [List.length_append, List.length_take, List.length_zipWith, ls1, llm, lb]; omega
      refine ⟨_, rfl, by rw [hlen, hpi], ?_⟩
      -- (x^d + A)(x^d + B) = A·B + x^d·(A + B) + x^(2d), and A·B = lm = lm[..d] + x^d·lm[d..]
      unfold mon
      rw [hlen, lb, ← hd, List.map_append, poly_append, List.length_map, List.length_take_of_le (by omega),
        poly_zipWith_add h _ _ (ls1.trans lb.symm), poly_zipWith_add h _ _ ldrop,
        show (X : R[X]) ^ (2 * d) = X ^ d * X ^ d by rw [← pow_add]; congr 1; omega,
        show (poly (a.map φ) + X ^ d) * (poly (b.map φ) + X ^ d) =
          poly (a.map φ) * poly (b.map φ) + X ^ d * (poly (a.map φ) + poly (b.map φ)) + X ^ d * X ^ d by ring,
        ← plm, poly_take_drop (lm.map φ) d (by rw [List.length_map, llm]; omega), List.map_take, List.map_drop]
      ring


/-- layer `hi` is obtained from layer `lo` (nodes of `d` low coefficients) by multiplying neighbours -/
def Linked (φ : α → R) (lo hi : List (List α)) (d : Nat) : Prop :=
  lo.length = 2 * hi.length ∧ (∀ a ∈ lo, a.length = d) ∧ (∀ a ∈ hi, a.length = 2 * d) ∧
  ∀ j, j < hi.length → mon φ (hi.getD j []) = mon φ (lo.getD (2 * j) []) * mon φ (lo.getD (2 * j + 1) [])

theorem Linked.tail {φ : α → R} {a b m : List α} {rest ms : List (List α)} {d : Nat}
    (hl : Linked φ (a :: b :: rest) (m :: ms) d) :
    mon φ m = mon φ a * mon φ b ∧ Linked φ rest ms d := by
  obtain ⟨h1, h2, h3, h4⟩ := hl
  refine ⟨by simpa using h4 0 (by simp), by simp at h1; omega, fun x hx => h2 x (by simp [hx]),
    fun x hx => h3 x (by simp [hx]), fun j hj => ?_⟩
  simpa [Nat.mul_add, List.getD_cons_succ] using h4 (j + 1) (by simp; omega)

theorem Linked.prod {φ : α → R} : ∀ (lo hi : List (List α)) (d : Nat), Linked φ lo hi d →
    (hi.map (mon φ)).prod = (lo.map (mon φ)).prod := by
  intro lo hi
  induction hi generalizing lo with
  | nil =>
    intro d ⟨h1, _, _, _⟩
    have : lo = [] := List.length_eq_zero_iff.1 (by simpa using h1)
    rw [this]
  | cons m ms ih =>
    intro d hl
    have h1 := hl.1
    rcases lo with _ | ⟨a, _ | ⟨b, rest⟩⟩
    · simp at h1
    · simp at h1; omega
    · obtain ⟨h0, hl'⟩ := hl.tail
      simp only [List.map_cons, List.prod_cons, ih rest d hl', h0]
      ring

theorem mergeLayer_spec {o : Ops α} {φ : α → R} (h : Hom o φ) (c : Ctx) (i tmplen : Nat) (hi : 1 ≤ i)
    (h62 : 2 ^ (i - 1) ≤ 2 ^ 62) (ht : 3 * 2 ^ (i - 1) ≤ tmplen) (hfit : Fits c (2 ^ (i - 1))) :
    ∀ (m : Nat) (l : List (List α)), l.length = 2 * m → (∀ a ∈ l, a.length = 2 ^ (i - 1)) →
      ∃ res, mergeLayer c o i tmplen l = some res ∧ res.length = m ∧ Linked φ l res (2 ^ (i - 1)) := by
  intro m
  induction m with
  | zero =>
    intro l hl _
    have : l = [] := List.length_eq_zero_iff.1 (by simpa using hl)
    subst this
    exact ⟨[], rfl, rfl, rfl, by simp, by simp, by simp⟩
  | succ m ih =>
    intro l hl hall
    match l, hl with
    | a :: b :: rest, hl =>
      have ha := hall a (by simp)
      have hb := hall b (by simp)
      obtain ⟨mm, em, lmm, hmm⟩ := mergeMonic_spec h c i tmplen a b hi ha hb h62 ht hfit
      obtain ⟨res, er, lr, hr⟩ := ih rest (by simp at hl; omega) (fun x hx => hall x (by simp [hx]))
      unfold mergeLayer
      rw [em, er]
      have hpi : 2 ^ i = 2 * 2 ^ (i - 1) := by rw [← pow_succ']; congr 1; omega
      refine ⟨mm :: res, rfl, by simp [lr], by simp [lr]; omega, hall, ?_, ?_⟩
      · intro x hx
        rcases List.mem_cons.1 hx with rfl | hx
        · rw [lmm, hpi]
        · exact hr.2.2.1 x hx
      · intro j hj
        rcases j with _ | j
        · simpa using hmm
        · have := hr.2.2.2 j (by simp at hj; omega)
          simpa [Nat.mul_add, List.getD_cons_succ] using this

/-- a chain of linked layers, the first with nodes of `d` low coefficients -/
def Chain (φ : α → R) : Nat → List (List (List α)) → Prop
  | _, [] => True
  | d, [l] => ∀ a ∈ l, a.length = d
  | d, l1 :: l2 :: rest => Linked φ l1 l2 d ∧ Chain φ (2 * d) (l2 :: rest)

theorem buildLayers_spec {o : Ops α} {φ : α → R} (h : Hom o φ) (c : Ctx) (tmplen : Nat) :
    ∀ (cnt i : Nat) (prev : List (List α)), 1 ≤ i → i - 1 + cnt ≤ 62 → 3 * 2 ^ (i - 1 + cnt) ≤ 2 * tmplen →
      Fits c (2 ^ (i - 1 + cnt)) → prev.length = 2 ^ cnt → (∀ a ∈ prev, a.length = 2 ^ (i - 1)) →
      ∃ ls, buildLayers c o tmplen cnt i prev = some ls ∧ ls.length = cnt ∧
        Chain φ (2 ^ (i - 1)) (prev :: ls) ∧
        ∃ top, (prev :: ls).getLast? = some [top] ∧ top.length = 2 ^ (i - 1 + cnt) ∧
          mon φ top = (prev.map (mon φ)).prod := by
  intro cnt
  induction cnt with
  | zero =>
    intro i prev hi _ _ _ hlen hall
    match prev, hlen with
    | [top], _ =>
      refine ⟨[], rfl, rfl, hall, top, rfl, by simpa using hall top (by simp), by simp⟩
  | succ cnt ih =>
    intro i prev hi h62 ht hfit hlen hall
    have hpow : 2 ^ (cnt + 1) = 2 * 2 ^ cnt := by rw [pow_succ]; ring
    have hle : 2 ^ (i - 1) ≤ 2 ^ (i - 1 + (cnt + 1)) := Nat.pow_le_pow_right (by decide) (by omega)
    have hlt : 2 * 2 ^ (i - 1) ≤ 2 ^ (i - 1 + (cnt + 1)) := by
      rw [← pow_succ']; exact Nat.pow_le_pow_right (by decide) (by omega)
    obtain ⟨cur, ec, lc, hlk⟩ := mergeLayer_spec (φ := φ) h c i tmplen hi
      (Nat.pow_le_pow_right (by decide) (by omega)) (by omega) (hfit.mono hle) (2 ^ cnt) prev
      (by rw [hlen, hpow]) hall
    have hi' : i + 1 - 1 + cnt = i - 1 + (cnt + 1) := by omega
    have hd' : 2 ^ (i + 1 - 1) = 2 * 2 ^ (i - 1) := by
      rw [← pow_succ']; congr 1; omega
    obtain ⟨ls, el, ll, hch, top, htop, ltop, hmon⟩ := ih (i + 1) cur (by omega) (by omega)
      (by rw [hi']; exact ht) (by rw [hi']; exact hfit) lc (by rw [hd']; exact hlk.2.2.1)
    unfold buildLayers
    rw [ec]
    simp only
    rw [el]
    refine ⟨cur :: ls, rfl, by simp [ll], ⟨hlk, by rw [← hd']; exact hch⟩, top, ?_, by rw [ltop, hi'], ?_⟩
    · rw [List.getLast?_cons_cons]; exact htop
    · rw [hmon, hlk.prod]


noncomputable def rootsPoly (φ : α → R) (roots : List α) : R[X] := (roots.map fun r => X - C (φ r)).prod

theorem leaves_prod {o : Ops α} {φ : α → R} (h : Hom o φ) (roots : List α) (n : Nat) :
    (((List.range n).map fun i =>
      if i < roots.length then [o.sub o.zero (roots.getD i o.zero)] else [o.zero]).map (mon φ)).prod =
      rootsPoly φ (roots.take n) * X ^ (n - roots.length) := by
  induction n with
  | zero => simp [rootsPoly]
  | succ n ih =>
    rw [List.range_succ, List.map_append, List.map_append, List.prod_append, ih]
    simp only [List.map_cons, List.map_nil, List.prod_cons, List.prod_nil, mul_one]
    by_cases hn : n < roots.length
    · rw [if_pos hn]
      have htk : roots.take (n + 1) = roots.take n ++ [roots.getD n o.zero] := by
        rw [List.take_add_one, List.getD_eq_getElem?_getD, List.getElem?_eq_getElem hn]; rfl
      have h0 : n - roots.length = 0 := by omega
      have h1 : n + 1 - roots.length = 0 := by omega
      rw [htk, h0, h1]
      simp only [rootsPoly, mon, List.map_append, List.map_cons, List.map_nil, List.prod_append, List.prod_cons,
        List.prod_nil, poly_cons, poly_nil, List.length_cons, List.length_nil, h.sub, h.zero]
      simp only [pow_zero, mul_one, zero_sub, map_neg, mul_zero, add_zero, Nat.zero_add, pow_one]
      ring
    · rw [if_neg hn]
      have htk : roots.take (n + 1) = roots.take n := by
        rw [List.take_of_length_le (by omega), List.take_of_length_le (by omega)]
      have h1 : n + 1 - roots.length = (n - roots.length) + 1 := by omega
      rw [htk, h1, pow_succ]
      simp only [mon, List.map_cons, List.map_nil, poly_cons, poly_nil, List.length_cons, List.length_nil,
        h.zero, map_zero, mul_zero, add_zero, pow_one, zero_add]
      ring

theorem productTree_spec {o : Ops α} {φ : α → R} (h : Hom o φ) (c : Ctx) (roots : List α)
    (h1 : 1 ≤ roots.length) (h62 : Ymq.Checked.bitlen (roots.length - 1) ≤ 62)
    (hfit : Fits c (2 ^ Ymq.Checked.bitlen (roots.length - 1))) :
    ∃ layers, productTree c o roots = some layers ∧
      layers.length = Ymq.Checked.bitlen (roots.length - 1) + 1 ∧ Chain φ 1 layers ∧
      ∃ top, layers.getLast? = some [top] ∧ top.length = 2 ^ Ymq.Checked.bitlen (roots.length - 1) ∧
        mon φ top = rootsPoly φ roots * X ^ (2 ^ Ymq.Checked.bitlen (roots.length - 1) - roots.length) := by
  unfold productTree
  rw [if_neg (by omega)]
  simp only
  set logn := Ymq.Checked.bitlen (roots.length - 1) with hlogn
  set n := 2 ^ logn with hn
  set layer0 := (List.range n).map fun i =>
    if i < roots.length then [o.sub o.zero (roots.getD i o.zero)] else [o.zero] with hl0
  have hnlen : roots.length ≤ n := by
    have := bitlen_lt (roots.length - 1)
    rw [← hlogn, ← hn] at this; omega
  obtain ⟨ls, el, ll, hch, top, htop, ltop, hmon⟩ := buildLayers_spec (φ := φ) h c (6 * n) logn 1 layer0
    (le_refl _) (by omega) (by simp only [Nat.sub_self, Nat.zero_add]; omega)
    (by simpa using hfit) (by simp [hl0, hn]) (by
      intro a ha
      rw [hl0, List.mem_map] at ha
      obtain ⟨i, _, rfl⟩ := ha
      split_ifs <;> rfl)
  rw [el]
  simp only [Nat.sub_self, Nat.zero_add, pow_zero] at hch ltop
  refine ⟨layer0 :: ls, rfl, by simp [ll], hch, top, htop, ltop, ?_⟩
  rw [hmon, hl0, leaves_prod h roots n, List.take_of_length_le hnlen]

theorem fromRoots_spec {o : Ops α} {φ : α → R} (h : Hom o φ) (c : Ctx) (roots : List α)
    (h1 : 1 ≤ roots.length) (h62 : Ymq.Checked.bitlen (roots.length - 1) ≤ 62)
    (hfit : Fits c (2 ^ Ymq.Checked.bitlen (roots.length - 1))) :
    ∃ z, fromRoots c o roots = some z ∧ z.length = roots.length + 1 ∧
      poly (z.map φ) = rootsPoly φ roots := by
  obtain ⟨layers, el, _, _, top, htop, ltop, hmon⟩ := productTree_spec h c roots h1 h62 hfit
  unfold fromRoots
  rw [el]
  simp only
  rw [htop]
  simp only
  set n := 2 ^ Ymq.Checked.bitlen (roots.length - 1) with hn
  have hnlen : roots.length ≤ n := by
    have := bitlen_lt (roots.length - 1)
    rw [← hn] at this; omega
  refine ⟨_, rfl, by rw [List.length_drop, List.length_append, ltop]; simp; omega, ?_⟩
  have hfull : poly ((top ++ [o.one]).map φ) = rootsPoly φ roots * X ^ (n - roots.length) := by
    rw [← hmon, mon, List.map_append, poly_append, List.length_map]
    simp [h.one]
  ext k
  rw [List.map_drop, coeff_poly_drop, hfull, ltop, mul_comm, coeff_X_pow_mul', if_pos (by omega),
    Nat.add_sub_cancel_left]

end Ymq.PolyMul
