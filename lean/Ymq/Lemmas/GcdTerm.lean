/- Termination of the main loop of `gcd_internal`: the product `x * y` shrinks by a factor 3/4 in
every iteration that continues. -/
import Ymq.Lemmas.GcdLoop

namespace Ymq.Gcd

-- 9223372036854775808 = 2^63, 4294967296 = 2^32, 68719476736 = 2^36 (bound of the matrix entries), 274877906944 = 2^38,
-- 412316860416 = 3 * 2^37, 18889465931478580854784 = 2^74
theorem lehmer_measure_arith {X Y u v : Nat} (hX : 9223372036854775808 ≤ X) (hYX : Y ≤ X) (hY : 4294967296 ≤ Y)
    (hu : u ≤ Y) (hv : 2 * v ≤ u) :
    4 * ((u + 68719476736) * (v + 68719476736)) ≤ 3 * (X * Y) := by
  have h1 : 4 * ((u + 68719476736) * (v + 68719476736))
      ≤ (Y + 68719476736) * (2 * Y + 274877906944) := by
    have : 4 * ((u + 68719476736) * (v + 68719476736))
        = (u + 68719476736) * (4 * v + 274877906944) := by ring
    rw [this]
    exact Nat.mul_le_mul (by omega) (by omega)
  have e : (Y + 68719476736) * (2 * Y + 274877906944)
      = 2 * (Y * Y) + 412316860416 * Y + 18889465931478580854784 := by ring
  have hP1 : Y * Y ≤ X * Y := Nat.mul_le_mul_right _ hYX
  have hP2 : 9223372036854775808 * Y ≤ X * Y := Nat.mul_le_mul_right _ hX
  rw [e] at h1
  generalize Y * Y = Q at *
  generalize X * Y = P at *
  linarith

theorem fallbackStep_measure {N K : Nat} {ext : Bool} {s s' : St} (h : fallbackStep N K ext s = some s')
    (hy0 : s.y ≠ 0) (hyx : s.y ≤ s.x) (hxM : s.x < M N) :
    2 * (s'.x * s'.y) ≤ s.x * s.y ∧ s'.x < M N ∧ s'.y < M N := by
  have hypos : 0 < s.y := Nat.pos_of_ne_zero hy0
  have hmod := two_mod_le hypos hyx
  have hmodlt : s.x % s.y < s.y := Nat.mod_lt _ hypos
  obtain ⟨ex, ey⟩ := fallbackStep_xy h hypos hyx hxM
  have h2 : 2 * s'.y ≤ s.x := by rcases ey with e | ⟨hbr, e⟩ <;> omega
  rw [ex]
  refine ⟨?_, by omega, by omega⟩
  calc 2 * (s.y * s'.y) = s.y * (2 * s'.y) := by ring
    _ ≤ s.y * s.x := Nat.mul_le_mul_left _ h2
    _ = s.x * s.y := Nat.mul_comm _ _

theorem max_natAbs_lt {a b : Int} {B : Nat} (ha : |a| < (B : Int)) (hb : |b| < (B : Int)) :
    max a.natAbs b.natAbs < B := by
  rw [Int.abs_eq_natAbs] at ha hb
  exact Nat.max_lt.2 ⟨by exact_mod_cast ha, by exact_mod_cast hb⟩

theorem lehmer_measure {x y k xt yt xl yl u v r1 r2 E1 E2 : Nat} (ex : x = xt * k + xl) (ey : y = yt * k + yl)
    (hxtW : xt < W) (h63 : 2 ^ 63 ≤ xt) (hytx : yt ≤ xt) (h32 : 2 ^ 32 ≤ yt) (huy : u ≤ yt) (hvu : 2 * v ≤ u)
    (hE1 : E1 < 68719476736) (hE2 : E2 < 68719476736) (x1 : r1 < (u + E1) * k) (y1 : r2 < (v + E2) * k) :
    4 * (r1 * r2) ≤ 3 * (x * y) ∧ r1 < 2 ^ 66 * k ∧ r2 < 2 ^ 66 * k := by
  have x1' : r1 ≤ (u + 68719476736) * k := Nat.le_trans (Nat.le_of_lt x1) (Nat.mul_le_mul_right _ (by omega))
  have y1' : r2 ≤ (v + 68719476736) * k := Nat.le_trans (Nat.le_of_lt y1) (Nat.mul_le_mul_right _ (by omega))
  have harith := lehmer_measure_arith (X := xt) (Y := yt) (u := u) (v := v)
    (by norm_num at h63 ⊢; exact h63) hytx (by norm_num at h32 ⊢; exact h32) huy hvu
  have hW : xt < 2 ^ 64 := by rw [← W_eq]; exact hxtW
  refine ⟨?_, Nat.lt_of_lt_of_le x1 (Nat.mul_le_mul_right _ (by omega)),
    Nat.lt_of_lt_of_le y1 (Nat.mul_le_mul_right _ (by omega))⟩
  calc 4 * (r1 * r2) ≤ 4 * (((u + 68719476736) * k) * ((v + 68719476736) * k)) :=
        Nat.mul_le_mul_left _ (Nat.mul_le_mul x1' y1')
    _ = (4 * ((u + 68719476736) * (v + 68719476736))) * (k * k) := by ring
    _ ≤ (3 * (xt * yt)) * (k * k) := Nat.mul_le_mul_right _ harith
    _ = 3 * ((xt * k) * (yt * k)) := by ring
    _ ≤ 3 * (x * y) := Nat.mul_le_mul_left _ (by
        rw [ex, ey]; exact Nat.mul_le_mul (Nat.le_add_right _ _) (Nat.le_add_right _ _))

theorem lehmerStep_measure {N K : Nat} {ext : Bool} {s s' : St} {xt yt xl yl : Nat} (T : Tops N s xt yt xl yl)
    (h : lehmerStep N K ext s (bits s.x) xt yt = some s') :
    4 * (s'.x * s'.y) ≤ 3 * (s.x * s.y) ∧ s'.x < 2 ^ 66 * 2 ^ (bits s.x - 64) ∧
      s'.y < 2 ^ 66 * 2 ^ (bits s.x - 64) := by
  obtain ⟨a, b, c, d, u, v, r1, r2, n1, n2, hr, R, h1, h2, _, _, x1, y1⟩ := lehmer_xy T
  obtain ⟨rfl, rfl, _⟩ := lehmerStep_some hr h1 h2 h
  exact lehmer_measure T.ex T.ey T.hxtW T.h63 T.hytx T.h32 R.huy R.hvu
    (max_natAbs_lt (by exact_mod_cast R.ba) (by exact_mod_cast R.bb))
    (max_natAbs_lt (by exact_mod_cast R.bc) (by exact_mod_cast R.bd)) x1 y1

theorem gcdStep_measure {N K : Nat} {ext : Bool} {s0 s' : St}
    (h : gcdStep N K ext s0 = some (.next s')) :
    4 * (s'.x * s'.y) ≤ 3 * (s0.x * s0.y) ∧ s'.x < M N ∧ s'.y < M N := by
  rw [← (swapSt_facts s0).2.1]
  obtain ⟨hyx, ⟨_, e⟩ | ⟨_, _, e⟩ | ⟨_, _, _, e⟩ | ⟨_, hy0, ⟨_, e⟩ | ⟨hxM, e | ⟨xt, yt, xl, yl, T, e⟩⟩⟩⟩ :=
    gcdStep_cases (N := N) (ext := ext) (s0 := s0) rfl
  · rw [e K] at h; simp at h
  · rw [e K] at h; simp at h
  · rw [e K] at h; exact absurd h smallExit_ne_next
  · rw [e K] at h; simp at h
  all_goals
    rw [e K] at h
    simp only [Option.map_eq_some_iff, Step.next.injEq] at h
    obtain ⟨s'', hst, rfl⟩ := h
  · obtain ⟨h1, h2, h3⟩ := fallbackStep_measure hst hy0 hyx hxM
    exact ⟨by omega, h2, h3⟩
  · obtain ⟨m1, m2, m3⟩ := lehmerStep_measure T hst
    have hpow : 2 ^ 66 * 2 ^ (bits (swapSt s0).x - 64) ≤ M N := by
      unfold M
      rw [← Nat.pow_add]
      exact Nat.pow_le_pow_right (by decide) (by have := T.hb; have := T.h64; omega)
    exact ⟨m1, by omega, by omega⟩

theorem gcdStep_zero {N K : Nat} {ext : Bool} {s0 s' : St} (h : gcdStep N K ext s0 = some (.next s')) :
    s0.x * s0.y ≠ 0 := by
  rw [← (swapSt_facts s0).2.1]
  obtain ⟨_, ⟨_, e⟩ | ⟨_, _, e⟩ | ⟨hx0, hy0, _⟩ | ⟨hx0, hy0, _⟩⟩ :=
    gcdStep_cases (N := N) (ext := ext) (s0 := s0) rfl
  · rw [e K] at h; simp at h
  · rw [e K] at h; simp at h
  · exact Nat.mul_ne_zero hx0 hy0
  · exact Nat.mul_ne_zero hx0 hy0

theorem measure_step {P P' f : Nat} (hm : P * 3 ^ (f + 1) < 4 ^ (f + 1)) (m1 : 4 * P' ≤ 3 * P) :
    P' * 3 ^ f < 4 ^ f := by
  rw [Nat.pow_succ, Nat.pow_succ] at hm
  have : 4 * P' * 3 ^ f ≤ 3 * P * 3 ^ f := Nat.mul_le_mul_right _ m1
  have e5 : 3 * P * 3 ^ f = P * (3 ^ f * 3) := by ring
  have e6 : 4 * P' * 3 ^ f = 4 * (P' * 3 ^ f) := by ring
  omega

/-- induction along the runs of the main loop: a state whose product `x * y` is below `(4/3)^f` may assume the
statement, with less fuel, of every state that an iteration (of either variant, any cofactor width) continues
with; with `f = 0` the product is 0 and no iteration continues -/
theorem gcdLoop_induct {N : Nat} {motive : Nat → St → Prop}
    (step : ∀ f s, (∀ K ext s', gcdStep N K ext s = some (.next s') → ∃ f', f = f' + 1 ∧ motive f' s') →
      motive f s) :
    ∀ (f : Nat) (s : St), s.x * s.y * 3 ^ f < 4 ^ f → motive f s := by
  intro f
  induction f with
  | zero =>
    intro s hm
    have hm0 : s.x * s.y = 0 := by simpa using hm
    exact step 0 s fun K ext s' h => absurd hm0 (gcdStep_zero h)
  | succ f ih =>
    intro s hm
    exact step (f + 1) s fun K ext s' h => ⟨f, rfl, ih s' (measure_step hm (gcdStep_measure h).1)⟩

theorem gcdLoop_total_of_inv {N K : Nat} {ext : Bool} (I : St → Prop) (R : Nat → Int → Int → Prop)
    (hstep : ∀ s, I s → ∃ st, gcdStep N K ext s = some st ∧
      (∀ s', st = .next s' → I s') ∧ (∀ d u v, st = .ret d u v → R d u v)) :
    ∀ (f : Nat) (s : St), s.x * s.y * 3 ^ f < 4 ^ f → I s →
    ∃ d u v, gcdLoop N K ext (f + 1) s = some (d, u, v) ∧ R d u v :=
  gcdLoop_induct fun f s ih hI => by
    obtain ⟨st, hst, hnext, hret⟩ := hstep s hI
    rw [gcdLoop, hst]
    cases st with
    | ret d u v => exact ⟨d, u, v, rfl, hret d u v rfl⟩
    | next s' => obtain ⟨f', rfl, h⟩ := ih K ext s' hst; exact h (hnext s' rfl)

theorem gcdLoop_stable {N K : Nat} {ext : Bool} : ∀ (f : Nat) (s : St),
    s.x * s.y * 3 ^ f < 4 ^ f → ∀ f', f + 1 ≤ f' → gcdLoop N K ext f' s = gcdLoop N K ext (f + 1) s :=
  gcdLoop_induct fun f s ih f' hf' => by
    obtain ⟨f'', rfl⟩ : ∃ f'', f' = f'' + 1 := ⟨f' - 1, by omega⟩
    rw [gcdLoop, gcdLoop]
    cases hst : gcdStep N K ext s with
    | none => rfl
    | some st =>
      cases st with
      | ret d u v => rfl
      | next s' => obtain ⟨f0, rfl, h⟩ := ih K ext s' hst; exact h f'' (by omega)

theorem fuel_arith (n p : Nat) :
    n * p * 3 ^ (3 * (bits n + bits p)) < 4 ^ (3 * (bits n + bits p)) := by
  generalize ht : bits n + bits p = t
  have h1 := lt_two_pow_bits n
  have h2 := lt_two_pow_bits p
  have hnp : n * p < 2 ^ t := by
    rw [← ht, Nat.pow_add]
    rcases Nat.eq_zero_or_pos p with hp | hp
    · subst hp; simp
    · calc n * p < 2 ^ bits n * p := Nat.mul_lt_mul_of_pos_right h1 hp
        _ ≤ 2 ^ bits n * 2 ^ bits p := Nat.mul_le_mul_left _ (Nat.le_of_lt h2)
  have e3 : 3 ^ (3 * t) = 27 ^ t := by rw [Nat.pow_mul]
  have e4 : 4 ^ (3 * t) = 64 ^ t := by rw [Nat.pow_mul]
  rw [e3, e4]
  calc n * p * 27 ^ t < 2 ^ t * 27 ^ t := Nat.mul_lt_mul_of_pos_right hnp (Nat.pow_pos (by decide))
    _ = 54 ^ t := by rw [← Nat.mul_pow]
    _ ≤ 64 ^ t := Nat.pow_le_pow_left (by decide) t

theorem gcdLoop_fuel {N K : Nat} {ext : Bool} {n p : Nat} (f : Nat) (hf : 3 * (bits n + bits p) + 1 ≤ f) :
    gcdLoop N K ext f (initSt n p) = gcdLoop N K ext (3 * (bits n + bits p) + 1) (initSt n p) :=
  gcdLoop_stable (3 * (bits n + bits p)) (initSt n p) (fuel_arith n p) f hf

theorem gcdFuel_ge {N n p : Nat} (hn : n < M N) (hp : p < M N) :
    3 * (bits n + bits p) + 1 ≤ gcdFuel N := by
  have h1 : bits n ≤ 64 * N := bits_le_of_lt hn
  have h2 : bits p ≤ 64 * N := bits_le_of_lt hp
  unfold gcdFuel; omega

theorem gcdLoop_gcdFuel_total {N K : Nat} {ext : Bool} (I : St → Prop) (R : Nat → Int → Int → Prop)
    (hstep : ∀ s, I s → ∃ st, gcdStep N K ext s = some st ∧
      (∀ s', st = .next s' → I s') ∧ (∀ d u v, st = .ret d u v → R d u v))
    {n p : Nat} (hn : n < M N) (hp : p < M N) (h0 : I (initSt n p)) :
    ∃ d u v, gcdLoop N K ext (gcdFuel N) (initSt n p) = some (d, u, v) ∧ R d u v := by
  obtain ⟨d, u, v, hr, hR⟩ := gcdLoop_total_of_inv I R hstep _ _ (fuel_arith n p) h0
  exact ⟨d, u, v, by rw [gcdLoop_fuel _ (gcdFuel_ge hn hp), hr], hR⟩

end Ymq.Gcd
