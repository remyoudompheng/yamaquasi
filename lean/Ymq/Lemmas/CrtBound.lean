/-
C10: the value reconstructed by `_crt` at the call sites of `convolve_modn_ntt` is below `P/2`
(`crt_call_bound`): `w = (2·bits(n) + logsize)/58 + 1` primes above `2^58` (decided on the translated table).
-/
import Ymq.Lemmas.CrtEstimate

namespace Ymq.Crt
open Ymq.Mg64 (W)
open Ymq.Gen.Params Ymq.Checked

theorem pprod_big : ∀ w ∈ List.range 27,
    2 ^ (58 * w) ≤ (NTT_PRIME_VALUES.take w).foldl (· * ·) 1 := by decide +kernel

/-- **`V < P/2` at the `_crt` call sites of `convolve_modn_ntt`**: a coefficient of the cyclic product of
`size ≤ 2^logsize` terms of two operands with entries `< n` is below half the product of the primes
selected by `MultiZmodP::new(zn, logsize)`. -/
theorem crt_call_bound_lt (n logsize : Nat) (m : Mzp) (hm : new n logsize = some m) (size V : Nat)
    (hs : size ≤ 2 ^ logsize) (hV : V ≤ size * (n * n)) : 2 * V < m.pprod := by
  have k := isNew hm
  have hbig := pprod_big m.w (List.mem_range.2 (by have := k.w_le; omega))
  rw [k.hpprod]
  refine lt_of_lt_of_le ?_ hbig
  have hnb : n < 2 ^ Ymq.Checked.bitlen n := lt_pow_bitlen n
  set nb := Ymq.Checked.bitlen n with hnbdef
  have hnn : n * n < 2 ^ nb * 2 ^ nb := Nat.mul_lt_mul'' hnb hnb
  have h58 : 2 * nb + logsize + 1 ≤ 58 * m.w := by rw [k.w_eq]; omega
  calc 2 * V ≤ 2 * (size * (n * n)) := Nat.mul_le_mul_left _ hV
    _ ≤ 2 * (2 ^ logsize * (n * n)) := Nat.mul_le_mul_left _ (Nat.mul_le_mul_right _ hs)
    _ < 2 * (2 ^ logsize * (2 ^ nb * 2 ^ nb)) :=
        Nat.mul_lt_mul_of_pos_left (Nat.mul_lt_mul_of_pos_left hnn (Nat.pow_pos (by decide))) (by decide)
    _ = 2 ^ (2 * nb + logsize + 1) := by
        rw [pow_succ, pow_add, show 2 * nb = nb + nb by omega, pow_add]; ring
    _ ≤ 2 ^ (58 * m.w) := Nat.pow_le_pow_right (by decide) h58

theorem crt_call_bound (n logsize : Nat) (m : Mzp) (hm : new n logsize = some m) (size V : Nat)
    (hs : size ≤ 2 ^ logsize) (hV : V ≤ size * (n * n)) : 2 * V < m.pprod ∨ n = 0 :=
  Or.inl (crt_call_bound_lt n logsize m hm size V hs hV)

end Ymq.Crt
