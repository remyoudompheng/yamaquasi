/- Cofactor bound for the extended variant with the real cofactor width (`K = N`), SHARP: for
operands below `2^(64N-7)` every `BInt<N>` intermediate stays below `2^(64N-1)` (a pair of `64N-6`-bit
operands overflows: `no_panic_ext_domain_sharp` in Props/C09.lean).
Invariant, for the state after the swap (`y <= x`): the cofactors of the larger value times the
smaller value are at most `c * max(n, p)` with `c = 121`, every cofactor is at most
`63 * max(n, p) + 1` and every intermediate at most `64 * max(n, p) + 1`. What makes this possible:
* `RFull.r2` (Ymq/Lemmas/GcdRow2.lean: the products of the entries of the first row by those of the second row of the
  Lehmer matrix are at most `(11/12) * 2^70`): the error term of a Lehmer step is `m * E / xtop <= 118`,
  so `c = 121` is enough;
* `egcdI64_total`: the cofactors of the final i64 `extended_gcd` are at most half the operands, so
  the products of the `<64`-bit exit are at most `(c + 1) / 2 * max(n, p)`; their sum is bounded
  through the determinant identity (`x * (ex*A + ey*C) = A * g -+ ey * p`);
* in a quotient step `|q*C| * y <= x * |C|` (floor; `y = 1` apart) and `2 (q+1) y <= 3 x`, `y >= 3`
  (ceiling). -/
import Ymq.Lemmas.GcdTotal

namespace Ymq.Gcd

/-- the cofactor rows are tied by the determinant: a combination `a*row1 + b*row2` of the rows is
the first row scaled by the combined value, up to a term `b * p` (resp. `b * n`), all divided by `x` -/
theorem cof_identity {A B C D n p x y a b : Int} (hx : x = A * n + B * p) (hy : y = C * n + D * p) :
    x * (a * A + b * C) = A * (a * x + b * y) - (A * D - B * C) * (b * p) ∧
    x * (a * B + b * D) = B * (a * x + b * y) + (A * D - B * C) * (b * n) := by
  subst hx hy; constructor <;> ring

theorem cof_abs_bound {A B C D n p x y a b : Int} (hx : x = A * n + B * p) (hy : y = C * n + D * p)
    (hdet : Unimod A B C D) (hx0 : 0 ≤ x) (hn : 0 ≤ n) (hp : 0 ≤ p) :
    x * |a * A + b * C| ≤ |A| * |a * x + b * y| + |b| * p ∧
    x * |a * B + b * D| ≤ |B| * |a * x + b * y| + |b| * n := by
  obtain ⟨e1, e2⟩ := cof_identity (a := a) (b := b) hx hy
  have hs : |A * D - B * C| = 1 := by rcases hdet with h | h <;> rw [h] <;> simp
  constructor
  · calc x * |a * A + b * C| = |x * (a * A + b * C)| := by rw [abs_mul, abs_of_nonneg hx0]
      _ = |A * (a * x + b * y) - (A * D - B * C) * (b * p)| := by rw [e1]
      _ ≤ |A * (a * x + b * y)| + |(A * D - B * C) * (b * p)| := abs_sub _ _
      _ = |A| * |a * x + b * y| + |b| * p := by
          rw [abs_mul, abs_mul, hs, abs_mul, abs_of_nonneg hp]; ring
  · calc x * |a * B + b * D| = |x * (a * B + b * D)| := by rw [abs_mul, abs_of_nonneg hx0]
      _ = |B * (a * x + b * y) + (A * D - B * C) * (b * n)| := by rw [e2]
      _ ≤ |B * (a * x + b * y)| + |(A * D - B * C) * (b * n)| := abs_add_le _ _
      _ = |B| * |a * x + b * y| + |b| * n := by
          rw [abs_mul, abs_mul, hs, abs_mul, abs_of_nonneg hn]; ring

/-- a product (matrix entry) * (cofactor) in a Lehmer step is tiny: `|e| u <= 2 T`, `u >= 2^24`,
`|A| Y <= Q`, `T <= Y` give `2^23 |e A| <= Q` -/
theorem prod_small {e A u T Y Q : Int} (hu : 16777216 ≤ u) (he : |e| * u ≤ 2 * T)
    (hA : |A| * Y ≤ Q) (hTY : T ≤ Y) (hT : 0 < T) : |e * A| * 8388608 ≤ Q := by
  have he0 := abs_nonneg e
  have hA0 := abs_nonneg A
  have hu0 : (0 : Int) < u := by linarith
  have hQ0 : 0 ≤ Q := le_trans (mul_nonneg hA0 (by linarith)) hA
  have h1 : |A| * T ≤ Q := le_trans (mul_le_mul_of_nonneg_left hTY hA0) hA
  have h2 : (|e| * u) * (|A| * T) ≤ (2 * T) * Q :=
    mul_le_mul he h1 (mul_nonneg hA0 (le_of_lt hT)) (by linarith)
  have h3 : (|e| * |A| * 16777216) * T ≤ (|e| * u) * (|A| * T) := by
    have : |e| * |A| * 16777216 ≤ |e| * |A| * u :=
      mul_le_mul_of_nonneg_left hu (mul_nonneg he0 hA0)
    calc (|e| * |A| * 16777216) * T ≤ (|e| * |A| * u) * T := mul_le_mul_of_nonneg_right this (le_of_lt hT)
      _ = (|e| * u) * (|A| * T) := by ring
  have h4 : T * (|e| * |A| * 16777216) ≤ T * (2 * Q) := by linarith
  have h5 := le_of_mul_le_mul_left h4 hT
  rw [abs_mul]; linarith

/-- the product of two unimodular matrices, its rows multiplied by signs, is unimodular -/
theorem Unimod.mul {a b c d A B C D e1 e2 : Int} (hT : Unimod a b c d) (hM : Unimod A B C D)
    (h1 : e1 = 1 ∨ e1 = -1) (h2 : e2 = 1 ∨ e2 = -1) :
    Unimod (e1 * (a * A + b * C)) (e1 * (a * B + b * D)) (e2 * (c * A + d * C)) (e2 * (c * B + d * D)) := by
  unfold Unimod at *
  have e : (e1 * (a * A + b * C)) * (e2 * (c * B + d * D)) - (e1 * (a * B + b * D)) * (e2 * (c * A + d * C))
      = e1 * e2 * ((a * d - b * c) * (A * D - B * C)) := by ring
  rw [e]
  rcases hT with hT | hT <;> rcases hM with hM | hM <;> rcases h1 with h1 | h1 <;>
    rcases h2 with h2 | h2 <;> rw [hT, hM, h1, h2] <;> simp

theorem lehmerStep_ext_eq {N K : Nat} {s : St} {bts xtop ytop : Nat} {a b c d aa bb cc dd : Int}
    {r1 r2 : Nat} {n1 n2 : Bool} (hr : reduce64 xtop ytop = some (a, b, c, d))
    (h1 : dotProduct N ((bts + 63) / 64) a s.x b s.y = some (r1, n1))
    (h2 : dotProduct N ((bts + 63) / 64) c s.x d s.y = some (r2, n2))
    (l1 : lin2 K a s.A b s.C = some aa) (l2 : lin2 K a s.B b s.D = some bb)
    (l3 : lin2 K c s.A d s.C = some cc) (l4 : lin2 K c s.B d s.D = some dd)
    (g1 : chkB K (-aa) = some (-aa)) (g2 : chkB K (-bb) = some (-bb))
    (g3 : chkB K (-cc) = some (-cc)) (g4 : chkB K (-dd) = some (-dd)) :
    lehmerStep N K true s bts xtop ytop =
      some { A := flipSign n1 * aa, B := flipSign n1 * bb, C := flipSign n2 * cc,
             D := flipSign n2 * dd, x := r1, y := r2 } := by
  unfold lehmerStep
  simp only [hr, h1, h2, if_true, l1, l2, l3, l4]
  cases n1 <;> cases n2 <;> simp [g1, g2, g3, g4, flipSign]

theorem swapSt_of_lt {s : St} (h : s.y < s.x) : swapSt s = s := by
  unfold swapSt; rw [if_neg (by omega)]

/-- arithmetic core of the cofactor invariant across a Lehmer step, constant 121: `w` is the new
smaller value (`r2`, error `Ew = 2^36`, multiplier `m = |b| < 2^34`; or `r1` when the rows are
swapped, error `Ew = 2^34`, multiplier `m = |d| < 2^36`) -/
-- decimal literals: 68719476736 = 2^36, 17179869184 = 2^34, 2147483648 = 2^31, 9223372036854775808 = 2^63,
-- 18446744073709551616 = 2^64, 4294967296 = 2^32, 137438953472 = 2^37, 36893488147419103232 = 2^65,
-- 18889465931478580854784 = 2^74, 39614081257132168796771975168 = 2^95, 3246626956972881084416 = 11 * 2^68
theorem lehmer_Z2 {x y r1 r2 w xtop ytop xl yl K u v m Ew : Nat}
    (hx : x = xtop * K + xl) (hy : y = ytop * K + yl)
    (hr1 : r1 < (u + 68719476736) * K) (hr2 : r2 < (v + 68719476736) * K)
    (hw : w < (u + Ew) * K)
    (hmeas : 4 * (r1 * r2) ≤ 3 * (x * y))
    (hvu : 2 * v ≤ u) (h63 : 9223372036854775808 ≤ xtop) (h64 : xtop < 18446744073709551616)
    (h32 : 4294967296 ≤ ytop) (hmu : m * u ≤ 2 * xtop) (hE : Ew ≤ 68719476736)
    (hmE : 3 * (m * Ew) ≤ 3246626956972881084416) :
    121 * (r1 * r2) + m * y * w ≤ 121 * (x * y) := by
  have hxK : xtop * K ≤ x := by omega
  have hyK : ytop * K ≤ y := by omega
  -- `m w <= (m u + m Ew) K`: with `m u <= 2 xtop` and `m Ew <= c xtop` this is at most `(c + 2) x`
  have key : ∀ c, m * Ew ≤ c * xtop → m * y * w ≤ (c + 2) * (x * y) := fun c hc => by
    have h1 : m * w ≤ (c + 2) * x := by
      calc m * w ≤ m * ((u + Ew) * K) := Nat.mul_le_mul_left m (Nat.le_of_lt hw)
        _ = (m * u + m * Ew) * K := by ring
        _ ≤ ((c + 2) * xtop) * K := Nat.mul_le_mul_right _ (by rw [Nat.add_mul]; omega)
        _ = (c + 2) * (xtop * K) := by ring
        _ ≤ (c + 2) * x := Nat.mul_le_mul_left _ hxK
    calc m * y * w = y * (m * w) := by ring
      _ ≤ y * ((c + 2) * x) := Nat.mul_le_mul_left _ h1
      _ = (c + 2) * (x * y) := by ring
  by_cases hcase : 17179869184 ≤ u
  · -- `u >= 2^34`: `m u <= 2 xtop < 2^65` gives `m < 2^31`, so `m Ew < 2^67 = 16 * 2^63 <= 16 xtop`; with
    -- `121 r1 r2 <= (3/4) 121 x y` the sum is at most `(90.75 + 18) x y`
    have hm : m < 2147483648 := by
      by_contra hge
      have hge : 2147483648 ≤ m := by omega
      have : 2147483648 * 17179869184 ≤ m * u := Nat.mul_le_mul hge hcase
      have e : 2147483648 * 17179869184 = 36893488147419103232 := by norm_num
      omega
    have h2 := key 16 (by
      calc m * Ew ≤ 2147483648 * 68719476736 := Nat.mul_le_mul (Nat.le_of_lt hm) hE
        _ = 16 * 9223372036854775808 := by norm_num
        _ ≤ 16 * xtop := Nat.mul_le_mul_left _ h63)
    omega
  · -- `u < 2^34`: `m Ew <= (11/12) 2^70 < 118 * 2^63 <= 118 xtop` (the row products of `reduce64`), so `m y w <= 120 x y`;
    -- the new operands are below `2^37 K`, their product below `2^74 K^2 <= 2^-21 x y`: `121 r1 r2` is negligible
    have h2 := key 118 (by
      have : 118 * 9223372036854775808 ≤ 118 * xtop := Nat.mul_le_mul_left _ h63
      omega)
    have hx1' : r1 ≤ 137438953472 * K := by
      calc r1 ≤ (u + 68719476736) * K := Nat.le_of_lt hr1
        _ ≤ 137438953472 * K := Nat.mul_le_mul_right _ (by omega)
    have hy1'' : r2 ≤ 137438953472 * K := by
      calc r2 ≤ (v + 68719476736) * K := Nat.le_of_lt hr2
        _ ≤ 137438953472 * K := Nat.mul_le_mul_right _ (by omega)
    have h3 : r1 * r2 ≤ 18889465931478580854784 * (K * K) := by
      calc r1 * r2 ≤ (137438953472 * K) * (137438953472 * K) := Nat.mul_le_mul hx1' hy1''
        _ = 18889465931478580854784 * (K * K) := by ring
    have h4 : 39614081257132168796771975168 * (K * K) ≤ x * y := by
      calc 39614081257132168796771975168 * (K * K)
          = (9223372036854775808 * K) * (4294967296 * K) := by ring
        _ ≤ (xtop * K) * (ytop * K) :=
            Nat.mul_le_mul (Nat.mul_le_mul_right _ h63) (Nat.mul_le_mul_right _ h32)
        _ ≤ x * y := Nat.mul_le_mul hxK hyK
    generalize K * K = KK at *
    generalize r1 * r2 = XY1 at *
    generalize x * y = XY at *
    omega

/-- invariant of the extended loop with the real cofactor width, for a state with `y <= x` -/
structure CInv (N n p P : Nat) (s : St) : Prop where
  xrel : (s.x : Int) = s.A * n + s.B * p
  yrel : (s.y : Int) = s.C * n + s.D * p
  det : Unimod s.A s.B s.C s.D
  hyx : s.y ≤ s.x
  hxM : s.x < M N / 2
  zA : |s.A| * s.y ≤ 121 * P
  zB : |s.B| * s.y ≤ 121 * P
  cA : |s.A| ≤ 63 * P + 1
  cB : |s.B| ≤ 63 * P + 1
  cC : |s.C| ≤ 63 * P + 1
  cD : |s.D| ≤ 63 * P + 1

/-- the domain: `max(n, p) <= P < 2^(64N-7)` -/
structure Dom (N n p P : Nat) : Prop where
  hn : n ≤ P
  hp : p ≤ P
  hP : 64 * P + 64 ≤ M N / 2

theorem Dom.L {N n p P : Nat} (h : Dom N n p P) :
    (64 * (P : Int) + 64) ≤ ((M N / 2 : Nat) : Int) := by exact_mod_cast h.hP

theorem CInv.row2 {N n p P : Nat} {s : St} (h : CInv N n p P s) :
    (s.x : Int) * |s.C| ≤ |s.A| * s.y + p ∧ (s.x : Int) * |s.D| ≤ |s.B| * s.y + n := by
  have := cof_abs_bound (a := 0) (b := 1) h.xrel h.yrel h.det (Int.natCast_nonneg _)
    (Int.natCast_nonneg n) (Int.natCast_nonneg p)
  simpa [abs_of_nonneg (Int.natCast_nonneg s.y)] using this

/-- one column of the invariant as the arithmetic cores use it: `(A, C)` with `m = p`, or `(B, D)` with
`m = n`; `row` is the determinant identity `CInv.row2` -/
structure ColB (x y A C m P : Int) : Prop where
  hP0 : 0 ≤ P
  hm0 : 0 ≤ m
  hm : m ≤ P
  zA : |A| * y ≤ 121 * P
  row : x * |C| ≤ |A| * y + m
  cA : |A| ≤ 63 * P + 1
  cC : |C| ≤ 63 * P + 1

theorem CInv.colA {N n p P : Nat} {s : St} (h : CInv N n p P s) (hd : Dom N n p P) :
    ColB s.x s.y s.A s.C p P :=
  ⟨Int.natCast_nonneg _, Int.natCast_nonneg _, Int.ofNat_le.2 hd.hp, h.zA, h.row2.1, h.cA, h.cC⟩

theorem CInv.colB {N n p P : Nat} {s : St} (h : CInv N n p P s) (hd : Dom N n p P) :
    ColB s.x s.y s.B s.D n P :=
  ⟨Int.natCast_nonneg _, Int.natCast_nonneg _, Int.ofNat_le.2 hd.hn, h.zB, h.row2.2, h.cB, h.cD⟩

theorem two66_le_half {N b : Nat} (hb : b + 36 < 64 * N) (h64 : 64 ≤ b) :
    2 ^ 66 * 2 ^ (b - 64) ≤ M N / 2 := by
  have e : M N / 2 = 2 ^ (64 * N - 1) := by
    unfold M
    have : 64 * N = (64 * N - 1) + 1 := by omega
    rw [this, Nat.pow_succ, Nat.mul_div_cancel _ (by decide), ← this]
  rw [e, ← Nat.pow_add]
  exact Nat.pow_le_pow_right (by decide) (by omega)

/-- one column of the `<64`-bit exit, `(A, C)` with `m = p` or `(B, D)` with `m = n`: the egcd
cofactors `ex`, `ey` are at most half of `y`, `x` (or `x = y`, `|ey| <= 1`), `hE` is the determinant
identity for the combination `ex * row1 + ey * row2` of value `g <= y` -/
theorem exit_col {x y g ex ey A C m P : Int} (k : ColB x y A C m P) (hy1 : 1 ≤ y) (hyx : y ≤ x)
    (hex2 : 2 * |ex| ≤ y) (hey2 : 2 * |ey| ≤ x ∨ (x = y ∧ |ey| ≤ 1)) (hgy : g ≤ y)
    (hE : x * |ex * A + ey * C| ≤ |A| * g + |ey| * m) :
    2 * |ex * A| ≤ 121 * P ∧ |ey * C| ≤ 63 * P + 1 ∧ |ex * A + ey * C| ≤ 64 * P + 1 := by
  obtain ⟨hP0, hm0, hm, zA, r, cA, cC⟩ := k
  have hA0 := abs_nonneg A
  have hC0 := abs_nonneg C
  have hx0 : 0 < x := by linarith
  have h1 : 2 * |ex * A| ≤ 121 * P := by
    rw [abs_mul]
    calc 2 * (|ex| * |A|) = (2 * |ex|) * |A| := by ring
      _ ≤ y * |A| := mul_le_mul_of_nonneg_right hex2 hA0
      _ = |A| * y := mul_comm _ _
      _ ≤ 121 * P := zA
  have a1 : |A| * g ≤ 121 * P := le_trans (mul_le_mul_of_nonneg_left hgy hA0) zA
  refine ⟨h1, ?_⟩
  rcases hey2 with hey2 | ⟨hxy, hey1⟩
  · have h2 : 2 * |ey * C| ≤ 122 * P := by
      rw [abs_mul]
      calc 2 * (|ey| * |C|) = (2 * |ey|) * |C| := by ring
        _ ≤ x * |C| := mul_le_mul_of_nonneg_right hey2 hC0
        _ ≤ 122 * P := by linarith
    refine ⟨by linarith [abs_nonneg (ey * C)], ?_⟩
    by_cases hx2 : 2 ≤ x
    · -- 2 x S <= 2 * 121 P + (2 |ey|) m <= x * 121 P + x * P
      have a2 : (2 * |ey|) * m ≤ x * P := mul_le_mul hey2 hm hm0 hx0.le
      have a3 : 2 * (121 * P) ≤ x * (121 * P) := mul_le_mul_of_nonneg_right hx2 (by linarith)
      have a4 : x * (2 * |ex * A + ey * C|) ≤ x * (122 * P) := by linarith
      linarith [le_of_mul_le_mul_left a4 hx0]
    · -- x = y = 1: both cofactors vanish
      have hex0 : ex = 0 := abs_eq_zero.1 (by have := abs_nonneg ex; omega)
      have hey0 : ey = 0 := abs_eq_zero.1 (by have := abs_nonneg ey; omega)
      rw [hex0, hey0, zero_mul, zero_mul, add_zero, abs_zero]; linarith
  · have h2 : |ey * C| ≤ 63 * P + 1 := by
      rw [abs_mul]
      exact le_trans (mul_le_of_le_one_left hC0 hey1) cC
    refine ⟨h2, ?_⟩
    -- x S <= |A| x + m <= x (|A| + m)
    have a2 : |ey| * m ≤ m := mul_le_of_le_one_left hm0 hey1
    have a3 : |A| * g ≤ |A| * x := mul_le_mul_of_nonneg_left (hgy.trans hyx) hA0
    have a5 : m ≤ x * m := le_mul_of_one_le_left hm0 (by linarith)
    have a4 : x * |ex * A + ey * C| ≤ x * (|A| + m) := by linarith
    linarith [le_of_mul_le_mul_left a4 hx0]

theorem small_cof_total {N n p P : Nat} {s : St} (hd : Dom N n p P) (h : CInv N n p P s)
    {ex ey g : Int} (hex2 : 2 * |ex| ≤ s.y)
    (hey2 : 2 * |ey| ≤ s.x ∨ (s.x = s.y ∧ |ey| ≤ 1)) (hg : ex * s.x + ey * s.y = g)
    (hg0 : 0 ≤ g) (hgy : g ≤ s.y) (hy1 : 1 ≤ s.y) :
    lin2 N ex s.A ey s.C = some (ex * s.A + ey * s.C) ∧ lin2 N ex s.B ey s.D = some (ex * s.B + ey * s.D) ∧
      |ex * s.A + ey * s.C| ≤ 64 * P + 1 ∧ |ex * s.B + ey * s.D| ≤ 64 * P + 1 := by
  have hL := hd.L
  have hP0 : (0 : Int) ≤ P := Int.natCast_nonneg _
  have hyx : (s.y : Int) ≤ s.x := Int.ofNat_le.2 h.hyx
  have hy1I : (1 : Int) ≤ s.y := Int.ofNat_le.2 hy1
  have hey2' : 2 * |ey| ≤ s.x ∨ ((s.x : Int) = s.y ∧ |ey| ≤ 1) :=
    hey2.imp_right fun ⟨e, b⟩ => ⟨congrArg Nat.cast e, b⟩
  obtain ⟨E1, E2⟩ := cof_abs_bound (a := ex) (b := ey) h.xrel h.yrel h.det (Int.natCast_nonneg _)
    (Int.natCast_nonneg n) (Int.natCast_nonneg p)
  rw [hg, abs_of_nonneg hg0] at E1 E2
  obtain ⟨a1, a2, a3⟩ := exit_col (h.colA hd) hy1I hyx hex2 hey2' hgy E1
  obtain ⟨b1, b2, b3⟩ := exit_col (h.colB hd) hy1I hyx hex2 hey2' hgy E2
  have := abs_nonneg (ex * s.A)
  have := abs_nonneg (ex * s.B)
  exact ⟨lin2_of_abs hL (by linarith) (by linarith) (by linarith),
    lin2_of_abs hL (by linarith) (by linarith) (by linarith), a3, b3⟩

/-- the new cofactor `C'` of a quotient step (`hE`: determinant identity): in fact `2 y |C'| <= 125 P` -/
theorem fb_new_cof {x y r' q' P m A C C' : Int} (k : ColB x y A C m P) (hx : 0 < x) (hy : 1 ≤ y)
    (hr0 : 0 ≤ r') (hE : x * |C'| ≤ |A| * r' + q' * m) (hr : 2 * r' ≤ x) (hq : q' * y ≤ 2 * x) :
    2 * |C'| ≤ 125 * P := by
  obtain ⟨hP0, hm0, hm, hz, _, _, _⟩ := k
  have hA0 := abs_nonneg A
  have hC0 := abs_nonneg C'
  -- multiply hE by 2 y
  have h1 : 2 * y * (x * |C'|) ≤ 2 * y * (|A| * r' + q' * m) :=
    mul_le_mul_of_nonneg_left hE (by linarith)
  have h2 : 2 * y * (|A| * r') ≤ 121 * P * x := by
    calc 2 * y * (|A| * r') = (|A| * y) * (2 * r') := by ring
      _ ≤ (121 * P) * (2 * r') := mul_le_mul_of_nonneg_right hz (by linarith)
      _ ≤ (121 * P) * x := mul_le_mul_of_nonneg_left hr (by linarith)
      _ = 121 * P * x := by ring
  have h3 : 2 * y * (q' * m) ≤ 4 * P * x := by
    calc 2 * y * (q' * m) = 2 * m * (q' * y) := by ring
      _ ≤ 2 * m * (2 * x) := mul_le_mul_of_nonneg_left hq (by linarith)
      _ ≤ 2 * P * (2 * x) := mul_le_mul_of_nonneg_right (by linarith) (by linarith)
      _ = 4 * P * x := by ring
  have h4 : x * (2 * y * |C'|) ≤ x * (125 * P) := by
    calc x * (2 * y * |C'|) = 2 * y * (x * |C'|) := by ring
      _ ≤ 2 * y * (|A| * r') + 2 * y * (q' * m) := by rw [← mul_add]; exact h1
      _ ≤ 121 * P * x + 4 * P * x := add_le_add h2 h3
      _ = x * (125 * P) := by ring
  have h5 : 2 * y * |C'| ≤ 125 * P := le_of_mul_le_mul_left h4 hx
  have h6 : 2 * |C'| ≤ 2 * y * |C'| := by
    calc 2 * |C'| = 2 * 1 * |C'| := by ring
      _ ≤ 2 * y * |C'| := mul_le_mul_of_nonneg_right (by linarith) hC0
  linarith

/-- transfer of the invariant `|row| * (other value) <= 121 P` through a step with new values `v1`, `w1` and
multiplier `m` of the second row: what the step has to provide is `121 v1 w1 + m y w1 <= 121 x y` -/
theorem new_z {x y v1 w1 A C R m pp P : Int} (k : ColB x y A C pp P) (hxy : 0 < x * y) (hy0 : 0 ≤ y)
    (hw0 : 0 ≤ w1) (hv0 : 0 ≤ v1) (hm0 : 0 ≤ m) (hE : x * |R| ≤ |A| * v1 + m * pp)
    (hZ : 121 * (v1 * w1) + m * y * w1 ≤ 121 * (x * y)) : |R| * w1 ≤ 121 * P := by
  obtain ⟨hP0, _, hpp, hz, _, _, _⟩ := k
  have hR0 := abs_nonneg R
  have hA0 := abs_nonneg A
  have h1 : (x * |R|) * (y * w1) ≤ (|A| * v1 + m * pp) * (y * w1) :=
    mul_le_mul_of_nonneg_right hE (mul_nonneg hy0 hw0)
  have h2 : (|A| * v1 + m * pp) * (y * w1) ≤ P * (121 * (v1 * w1) + m * y * w1) := by
    have a1 : (|A| * y) * (v1 * w1) ≤ (121 * P) * (v1 * w1) :=
      mul_le_mul_of_nonneg_right hz (mul_nonneg hv0 hw0)
    have a2 : (m * pp) * (y * w1) ≤ (m * P) * (y * w1) :=
      mul_le_mul_of_nonneg_right (mul_le_mul_of_nonneg_left hpp hm0) (mul_nonneg hy0 hw0)
    calc (|A| * v1 + m * pp) * (y * w1) = (|A| * y) * (v1 * w1) + (m * pp) * (y * w1) := by ring
      _ ≤ (121 * P) * (v1 * w1) + (m * P) * (y * w1) := add_le_add a1 a2
      _ = P * (121 * (v1 * w1) + m * y * w1) := by ring
  have h3 : P * (121 * (v1 * w1) + m * y * w1) ≤ P * (121 * (x * y)) :=
    mul_le_mul_of_nonneg_left hZ hP0
  have h4 : (x * y) * (|R| * w1) ≤ (x * y) * (121 * P) := by
    calc (x * y) * (|R| * w1) = (x * |R|) * (y * w1) := by ring
      _ ≤ P * (121 * (x * y)) := le_trans h1 (le_trans h2 h3)
      _ = (x * y) * (121 * P) := by ring
  exact le_of_mul_le_mul_left h4 hxy

/-- one column `(A, C)` of a quotient step with multiplier `k` (`q` or `q + 1`), new value `r'` and new
cofactor `C'` (`hE`: determinant identity), once the product `k * C` is known to fit: both checked
operations stay below `64 P + 64`, and the column satisfies the invariant again -/
theorem fb_col {x y r' k P m A C C' : Int} (c : ColB x y A C m P) (hx : 0 < x) (hy : 1 ≤ y) (hr0 : 0 ≤ r')
    (hE : x * |C'| ≤ |A| * r' + k * m) (hr : 2 * r' ≤ x) (hq : k * y ≤ 2 * x) (hkC : |k * C| ≤ 64 * P + 1) :
    |k * C| < 64 * P + 64 ∧ |C'| < 64 * P + 64 ∧ |C| * r' ≤ 121 * P ∧ |C'| ≤ 63 * P + 1 := by
  have b := fb_new_cof c hx hy hr0 hE hr hq
  have hP0 := c.hP0
  -- the old second row becomes the first: `new_z` with `m = 1`, `v1 = y`, where `122 r' <= 121 x`
  exact ⟨by linarith, by linarith,
    new_z (v1 := y) (m := 1) c (mul_pos hx (by linarith)) (by linarith) hr0 (by linarith) zero_le_one
      (by have := c.row; linarith) (by
        have hy0 : (0 : Int) ≤ y := by linarith
        have := mul_le_mul_of_nonneg_left hr hy0
        have := mul_nonneg hx.le hy0
        linarith),
    by linarith⟩

/-- the product `(q + 1) * C` of a ceiling step: `2 (q + 1) y <= 3 x` and `y >= 3` -/
theorem ceil_prod {x y k P m A C : Int} (c : ColB x y A C m P) (hk : 0 ≤ k) (hy3 : 3 ≤ y)
    (hk3 : 2 * (k * y) ≤ 3 * x) : |k * C| ≤ 64 * P + 1 := by
  obtain ⟨hP0, _, hm, zA, row, _, _⟩ := c
  have hC0 := abs_nonneg C
  rw [abs_mul, abs_of_nonneg hk]
  have k1 : 2 * ((k * |C|) * y) ≤ 3 * (|A| * y + m) := by
    calc 2 * ((k * |C|) * y) = (2 * (k * y)) * |C| := by ring
      _ ≤ (3 * x) * |C| := mul_le_mul_of_nonneg_right hk3 hC0
      _ = 3 * (x * |C|) := by ring
      _ ≤ 3 * (|A| * y + m) := by linarith
  have k2 : (k * |C|) * 3 ≤ (k * |C|) * y := mul_le_mul_of_nonneg_left hy3 (mul_nonneg hk hC0)
  linarith

/-- the product `q * C` of a floor step: `q y <= x`; for `y = 1` only `|q C| <= |A| + m` is left -/
theorem floor_prod {x y k P m A C : Int} (c : ColB x y A C m P) (hk : 0 ≤ k) (hy1 : 1 ≤ y)
    (hkx : k * y ≤ x) : |k * C| ≤ 64 * P + 1 := by
  obtain ⟨_, _, hm, zA, row, cA, _⟩ := c
  have hC0 := abs_nonneg C
  rw [abs_mul, abs_of_nonneg hk]
  have hkC0 : 0 ≤ k * |C| := mul_nonneg hk hC0
  have k1 : k * |C| * y ≤ |A| * y + m := by
    calc k * |C| * y = (k * y) * |C| := by ring
      _ ≤ x * |C| := mul_le_mul_of_nonneg_right hkx hC0
      _ ≤ |A| * y + m := row
  rcases eq_or_lt_of_le hy1 with hy1 | hy2
  · rw [← hy1] at k1; linarith
  · have : k * |C| * 2 ≤ k * |C| * y := mul_le_mul_of_nonneg_left hy2 hkC0
    linarith

theorem fallback_cof_total {N n p P : Nat} {s : St} (hd : Dom N n p P)
    (h : CInv N n p P s) (hy0 : s.y ≠ 0) :
    ∃ s', fallbackStep N N true s = some s' ∧ CInv N n p P s' ∧ s'.y < s'.x := by
  have hL := hd.L
  have cA := h.colA hd
  have cB := h.colB hd
  have hypos : 0 < s.y := Nat.pos_of_ne_zero hy0
  have hxI : (0 : Int) < s.x := Int.ofNat_lt.2 (Nat.lt_of_lt_of_le hypos h.hyx)
  have hyI : (1 : Int) ≤ s.y := Int.ofNat_le.2 hypos
  have hxM := h.hxM
  have hqle : s.x / s.y ≤ s.x := Nat.div_le_self _ _
  obtain ⟨e, k, y', nq, eq⟩ := fallbackStep_nq (K := N) hypos h.hyx
    (Nat.lt_of_lt_of_le hxM (Nat.div_le_self _ _)) (Nat.lt_of_le_of_lt hqle hxM)
  obtain ⟨hk0, hval, hr', hq2, hup, hdn⟩ := nq.facts h.hyx
  have hr0 : (0 : Int) ≤ y' := Int.natCast_nonneg _
  -- the product `k * C`: `2 k y <= 3 x`, `y >= 3` after rounding up, `k y <= x` after rounding down
  have hprod : ∀ {A C m : Int}, ColB s.x s.y A C m P → |k * C| ≤ 64 * P + 1 := fun c => by
    rcases nq.sign with he | he
    · exact ceil_prod c hk0 (hup he).1 (hup he).2
    · exact floor_prod c hk0 hyI (hdn he)
  -- the determinant identity for the new row `e * (k * row2 - row1)`, of value `y'`
  obtain ⟨e1, e2⟩ := cof_abs_bound (a := -1) (b := k) h.xrel h.yrel h.det hxI.le
    (Int.natCast_nonneg n) (Int.natCast_nonneg p)
  rw [show (-1 : Int) * s.x + k * s.y = k * s.y - s.x by ring, hval, nq.abs_e, abs_of_nonneg hr0,
    abs_of_nonneg hk0, neg_one_mul, neg_add_eq_sub] at e1 e2
  obtain ⟨c1, c2, zC, cC⟩ := fb_col cA hxI hyI hr0 e1 hr' hq2 (hprod cA)
  obtain ⟨d1, d2, zD, cD⟩ := fb_col cB hxI hyI hr0 e2 hr' hq2 (hprod cB)
  have hk : (if e = 1 then chkB N k else some k) = some k := by
    split
    · rename_i he
      have := nq.khi
      have hq1M : ((s.x / s.y : Nat) : Int) + 1 < ((M N / 2 : Nat) : Int) := by
        have : s.x / s.y * 2 ≤ s.x / s.y * s.y := Nat.mul_le_mul_left _ (by have := (hup he).1; omega)
        have := Nat.div_mul_le_self s.x s.y
        exact_mod_cast (by omega : s.x / s.y + 1 < M N / 2)
      exact chkB_of_range (by omega) (by omega)
    · rfl
  rw [eq, hk, qrow_of_abs nq.sign hL c1 c2, qrow_of_abs nq.sign hL d1 d2]
  have hy'y : y' < s.y := by have := nq.half; omega
  refine ⟨_, rfl, ⟨h.yrel, ?_, h.det.quot nq.sign, hy'y.le,
    by have := h.hyx; show s.y < M N / 2; omega, zC, zD, h.cC, h.cD,
    by rw [nq.abs_e]; exact cC, by rw [nq.abs_e]; exact cD⟩, hy'y⟩
  show (y' : Int) = _
  rw [nq.val, h.xrel, h.yrel]; ring

theorem lehmer_lin2 {N : Nat} {a b A C P : Int} (hL : 64 * P + 64 ≤ ((M N / 2 : Nat) : Int))
    (hP0 : 0 ≤ P) (p1 : |a * A| * 8388608 ≤ 121 * P) (p2 : |b * C| * 8388608 ≤ 122 * P) :
    lin2 N a A b C = some (a * A + b * C) ∧ chkB N (-(a * A + b * C)) = some (-(a * A + b * C)) ∧
    |a * A + b * C| ≤ 63 * P + 1 := by
  have n1 := abs_nonneg (a * A)
  have n2 := abs_nonneg (b * C)
  have s1 := abs_add_le (a * A) (b * C)
  exact ⟨lin2_of_abs hL (by linarith) (by linarith) (by linarith),
    chkB_of_abs hL (by rw [abs_neg]; linarith), by linarith⟩

/-- one column through a Lehmer step: the four products (matrix entry) * (cofactor) are tiny, so both new
entries `a A + b C`, `c A + d C` fit with their negations and are at most `63 P + 1` -/
theorem lehmer_col {N : Nat} {x y A C m P a b c d u xt yt : Int} (k : ColB x y A C m P)
    (hL : 64 * P + 64 ≤ ((M N / 2 : Nat) : Int)) (hu : 16777216 ≤ u) (ka : |a| * u ≤ 2 * yt)
    (kc : |c| * u ≤ 2 * yt) (kb : |b| * u ≤ 2 * xt) (kd : |d| * u ≤ 2 * xt) (hyt : yt ≤ y) (hyt0 : 0 < yt)
    (hxt : xt ≤ x) (hxt0 : 0 < xt) :
    (lin2 N a A b C = some (a * A + b * C) ∧ chkB N (-(a * A + b * C)) = some (-(a * A + b * C)) ∧
      |a * A + b * C| ≤ 63 * P + 1) ∧
    (lin2 N c A d C = some (c * A + d * C) ∧ chkB N (-(c * A + d * C)) = some (-(c * A + d * C)) ∧
      |c * A + d * C| ≤ 63 * P + 1) := by
  have hC : |C| * x ≤ 122 * P := by
    have := k.row; have := k.zA; have := k.hm; rw [mul_comm]; linarith
  exact ⟨lehmer_lin2 hL k.hP0 (prod_small hu ka k.zA hyt hyt0) (prod_small hu kb hC hxt hxt0),
    lehmer_lin2 hL k.hP0 (prod_small hu kc k.zA hyt hyt0) (prod_small hu kd hC hxt hxt0)⟩

theorem lehmer_Z2_entry {x y r1 r2 w xtop ytop xl yl K u v Ew : Nat} {e : Int}
    (hx : x = xtop * K + xl) (hy : y = ytop * K + yl)
    (hr1 : r1 < (u + 68719476736) * K) (hr2 : r2 < (v + 68719476736) * K) (hw : w < (u + Ew) * K)
    (hmeas : 4 * (r1 * r2) ≤ 3 * (x * y)) (hvu : 2 * v ≤ u) (h63 : 2 ^ 63 ≤ xtop) (h64 : xtop < W)
    (h32 : 2 ^ 32 ≤ ytop) (hmu : |e| * u ≤ 2 * xtop) (hE : Ew ≤ 68719476736)
    (hmE : 3 * (|e| * Ew) ≤ 3246626956972881084416) :
    121 * ((r1 : Int) * r2) + |e| * y * w ≤ 121 * ((x : Int) * y) := by
  rw [Int.abs_eq_natAbs] at hmu hmE ⊢
  exact_mod_cast lehmer_Z2 (m := e.natAbs) hx hy hr1 hr2 hw hmeas hvu (by norm_num at h63 ⊢; exact h63)
    (by unfold W at h64; exact h64) (by norm_num at h32 ⊢; exact h32) (by exact_mod_cast hmu) hE
    (by exact_mod_cast hmE)

theorem R2.row_max {a b c d : Int} (h : R2 a b c d) :
    3 * (|b| * ((max c.natAbs d.natAbs : Nat) : Int)) ≤ 3246626956972881084416 ∧
    3 * (|d| * ((max a.natAbs b.natAbs : Nat) : Int)) ≤ 3246626956972881084416 := by
  constructor
  · rcases Nat.le_total c.natAbs d.natAbs with hle | hle
    · rw [Nat.max_eq_right hle, ← Int.abs_eq_natAbs]; exact h.pbd
    · rw [Nat.max_eq_left hle, ← Int.abs_eq_natAbs]; exact h.pbc
  · rcases Nat.le_total a.natAbs b.natAbs with hle | hle
    · rw [Nat.max_eq_right hle, ← Int.abs_eq_natAbs, mul_comm |d|]; exact h.pbd
    · rw [Nat.max_eq_left hle, ← Int.abs_eq_natAbs, mul_comm |d|]; exact h.pad

theorem lehmer_cof_total {N n p P : Nat} {s : St} {xt yt xl yl : Nat} (hd : Dom N n p P)
    (h : CInv N n p P s) (T : Tops N s xt yt xl yl) :
    ∃ s', lehmerStep N N true s (bits s.x) xt yt = some s' ∧ CInv N n p P (swapSt s') := by
  have cA := h.colA hd
  have cB := h.colB hd
  have hn0 : (0 : Int) ≤ n := Int.natCast_nonneg _
  have hp0 : (0 : Int) ≤ p := Int.natCast_nonneg _
  obtain ⟨a, b, c, d, u, v, r1, r2, n1, n2, hr, R, h1, h2, f1, f2, x1', y1'⟩ := lehmer_xy T
  obtain ⟨ru, rv, huy, hvu, h24, ba, bb, bc, bd, hab, hcd, hdetT, ka, kc, kb, kd, hR2⟩ := R
  obtain ⟨hb, h64, _, ex, ey, hxl, hyl, hxtW, h63, hytx, h32⟩ := T
  have hMhalf : 2 ^ 66 * 2 ^ (bits s.x - 64) ≤ M N / 2 := two66_le_half hb h64
  generalize 2 ^ (bits s.x - 64) = K at *
  have hKpos : 0 < K := by
    rcases Nat.eq_zero_or_pos K with h0 | h0
    · rw [h0] at hxl; omega
    · exact h0
  have hr1 : ((r1 : Nat) : Int) = |a * s.x + b * s.y| := by
    rw [f1, abs_flip, abs_of_nonneg (Int.natCast_nonneg _)]
  have hr2 : ((r2 : Nat) : Int) = |c * s.x + d * s.y| := by
    rw [f2, abs_flip, abs_of_nonneg (Int.natCast_nonneg _)]
  have hE1 := max_natAbs_lt (B := 68719476736) (by exact_mod_cast ba) (by exact_mod_cast bb)
  have hE2 := max_natAbs_lt (B := 68719476736) (by exact_mod_cast bc) (by exact_mod_cast bd)
  obtain ⟨m1, m2, m3⟩ := lehmer_measure ex ey hxtW h63 hytx h32 huy hvu hE1 hE2 x1' y1'
  have x1 : r1 < (u + 68719476736) * K := Nat.lt_of_lt_of_le x1' (Nat.mul_le_mul_right _ (by omega))
  have y1 : r2 < (v + 68719476736) * K := Nat.lt_of_lt_of_le y1' (Nat.mul_le_mul_right _ (by omega))
  have y1u : r2 < (u + max c.natAbs d.natAbs) * K :=
    Nat.lt_of_lt_of_le y1' (Nat.mul_le_mul_right _ (by omega))
  have hxt_x : xt ≤ s.x := le_trans (Nat.le_mul_of_pos_right _ hKpos) (by omega)
  have hyt_y : yt ≤ s.y := le_trans (Nat.le_mul_of_pos_right _ hKpos) (by omega)
  have hytpos : (0 : Int) < yt := by exact_mod_cast (by omega : 0 < yt)
  have hxtpos : (0 : Int) < xt := by exact_mod_cast (by omega : 0 < xt)
  have h24I : (16777216 : Int) ≤ u := by exact_mod_cast (by norm_num at h24 ⊢; exact h24 : 16777216 ≤ u)
  obtain ⟨⟨l1, g1, q1⟩, l3, g3, q3⟩ := lehmer_col (N := N) cA hd.L h24I ka kc kb kd
    (Int.ofNat_le.2 hyt_y) hytpos (Int.ofNat_le.2 hxt_x) hxtpos
  obtain ⟨⟨l2, g2, q2⟩, l4, g4, q4⟩ := lehmer_col (N := N) cB hd.L h24I ka kc kb kd
    (Int.ofNat_le.2 hyt_y) hytpos (Int.ofNat_le.2 hxt_x) hxtpos
  refine ⟨_, lehmerStep_ext_eq (bts := bits s.x) hr h1 h2 l1 l2 l3 l4 g1 g2 g3 g4, ?_⟩
  have relx : (r1 : Int) = flipSign n1 * (a * s.A + b * s.C) * n + flipSign n1 * (a * s.B + b * s.D) * p := by
    have e : (r1 : Int) = flipSign n1 * (a * s.x + b * s.y) := by
      rw [f1, ← mul_assoc, sign_mul_self (flipSign_cases n1), one_mul]
    rw [e, h.xrel, h.yrel]; ring
  have rely : (r2 : Int) = flipSign n2 * (c * s.A + d * s.C) * n + flipSign n2 * (c * s.B + d * s.D) * p := by
    have e : (r2 : Int) = flipSign n2 * (c * s.x + d * s.y) := by
      rw [f2, ← mul_assoc, sign_mul_self (flipSign_cases n2), one_mul]
    rw [e, h.xrel, h.yrel]; ring
  have hdet' := hdetT.mul h.det (flipSign_cases n1) (flipSign_cases n2)
  have hxyI : (0 : Int) < (s.x : Int) * s.y := by
    exact_mod_cast Nat.mul_pos (by omega : 0 < s.x) (by omega : 0 < s.y)
  -- the determinant identity for the two new rows, and the potential for either order of the new values
  obtain ⟨E1a, E1b⟩ := cof_abs_bound (a := a) (b := b) h.xrel h.yrel h.det (Int.natCast_nonneg _) hn0 hp0
  obtain ⟨E2a, E2b⟩ := cof_abs_bound (a := c) (b := d) h.xrel h.yrel h.det (Int.natCast_nonneg _) hn0 hp0
  rw [← hr1] at E1a E1b; rw [← hr2] at E2a E2b
  have Zb := lehmer_Z2_entry (w := r2) (e := b) ex ey x1 y1 y1u m1 hvu h63 hxtW h32 kb (Nat.le_of_lt hE2)
    hR2.row_max.1
  have Zd := lehmer_Z2_entry (w := r1) (e := d) ex ey x1 y1 x1' m1 hvu h63 hxtW h32 kd (Nat.le_of_lt hE1)
    hR2.row_max.2
  rw [mul_comm (r1 : Int) (r2 : Int)] at Zd
  have hr1n : (0 : Int) ≤ r1 := Int.natCast_nonneg _
  have hr2n : (0 : Int) ≤ r2 := Int.natCast_nonneg _
  have hyn : (0 : Int) ≤ s.y := Int.natCast_nonneg _
  unfold swapSt
  simp only
  split
  · -- the second row has the larger value
    rename_i hsw
    refine ⟨rely, relx, hdet'.swap, hsw, Nat.lt_of_lt_of_le m3 hMhalf, ?_, ?_, (abs_flip _ _).le.trans q3,
      (abs_flip _ _).le.trans q4, (abs_flip _ _).le.trans q1, (abs_flip _ _).le.trans q2⟩
    · rw [abs_flip]; exact new_z cA hxyI hyn hr1n hr2n (abs_nonneg d) E2a Zd
    · rw [abs_flip]; exact new_z cB hxyI hyn hr1n hr2n (abs_nonneg d) E2b Zd
  · rename_i hsw
    refine ⟨relx, rely, hdet', Nat.le_of_lt (Nat.lt_of_not_ge hsw), Nat.lt_of_lt_of_le m2 hMhalf, ?_, ?_,
      (abs_flip _ _).le.trans q1, (abs_flip _ _).le.trans q2, (abs_flip _ _).le.trans q3,
      (abs_flip _ _).le.trans q4⟩
    · rw [abs_flip]; exact new_z cA hxyI hyn hr2n hr1n (abs_nonneg b) E1a Zb
    · rw [abs_flip]; exact new_z cB hxyI hyn hr2n hr1n (abs_nonneg b) E1b Zb

theorem gcdStep_cof_total {N n p P : Nat} (hd : Dom N n p P) {s0 : St}
    (h : CInv N n p P (swapSt s0)) :
    ∃ st, gcdStep N N true s0 = some st ∧ (∀ s', st = .next s' → CInv N n p P (swapSt s')) ∧
      (∀ d u v, st = .ret d u v → |u| ≤ 64 * (P : Int) + 1 ∧ |v| ≤ 64 * (P : Int) + 1) := by
  have hP0 : (0 : Int) ≤ P := Int.natCast_nonneg _
  generalize hs : swapSt s0 = s at *
  have hxMN : s.x < M N := Nat.lt_of_lt_of_le h.hxM (Nat.div_le_self _ _)
  obtain ⟨_, ⟨_, e⟩ | ⟨_, _, e⟩ | ⟨_, hy0, hxs, e⟩ | ⟨_, hy0, ⟨hge, _⟩ | ⟨_, e | ⟨xt, yt, xl, yl, T, e⟩⟩⟩⟩ :=
    gcdStep_cases (N := N) (ext := true) hs
  · refine ⟨_, e N, fun s' hs => by simp at hs, fun d u v hs => ?_⟩
    simp at hs; rw [← hs.2.1, ← hs.2.2]
    exact ⟨le_trans h.cC (by linarith), le_trans h.cD (by linarith)⟩
  · refine ⟨_, e N, fun s' hs => by simp at hs, fun d u v hs => ?_⟩
    simp at hs; rw [← hs.2.1, ← hs.2.2]
    exact ⟨le_trans h.cA (by linarith), le_trans h.cB (by linarith)⟩
  · have hypos : 0 < s.y := Nat.pos_of_ne_zero hy0
    obtain ⟨g, ex, ey, he, hg1, hg2, _, _, b3, b4⟩ := egcdI64_total hxs hypos h.hyx
    have hgy : g ≤ s.y := by rw [hg2]; exact_mod_cast Nat.gcd_le_right _ hypos
    obtain ⟨hu, hv, hub, hvb⟩ := small_cof_total hd h b3 b4 hg1.symm
      (by rw [hg2]; exact Int.natCast_nonneg _) hgy hypos
    refine ⟨_, (e N).trans (smallExit_ext_eq he hu hv), fun s' hs => by simp at hs, fun d u' v' hs => ?_⟩
    simp at hs
    rw [← hs.2.1, ← hs.2.2]
    exact ⟨hub, hvb⟩
  · omega
  · obtain ⟨s', hs', hc', hlt⟩ := fallback_cof_total hd h hy0
    have e := e N
    rw [hs'] at e
    refine ⟨_, e, fun s'' hs => ?_, fun d u v hs => by simp at hs⟩
    simp at hs; subst hs
    rw [swapSt_of_lt hlt]; exact hc'
  · obtain ⟨s', hs', hc'⟩ := lehmer_cof_total hd h T
    have e := e N
    rw [hs'] at e
    refine ⟨_, e, fun s'' hs => ?_, fun d u v hs => by simp at hs⟩
    simp at hs; subst hs
    exact hc'

theorem CInv_init {N n p P : Nat} (hd : Dom N n p P) : CInv N n p P (swapSt (initSt n p)) := by
  have hP := hd.hP
  have hnP : (n : Int) ≤ P := by exact_mod_cast hd.hn
  have hpP : (p : Int) ≤ P := by exact_mod_cast hd.hp
  have hP0 : (0 : Int) ≤ P := Int.natCast_nonneg _
  have hn0 : (0 : Int) ≤ n := Int.natCast_nonneg _
  have hp0 : (0 : Int) ≤ p := Int.natCast_nonneg _
  have hn' := hd.hn
  have hp' := hd.hp
  unfold swapSt initSt
  simp only
  split
  · rename_i hsw
    exact { xrel := by simp, yrel := by simp, det := Or.inr (by simp), hyx := hsw,
            hxM := by show p < M N / 2; omega,
            zA := by simp, zB := by simp; linarith,
            cA := by simp; linarith, cB := by simp,
            cC := by simp, cD := by simp; linarith }
  · rename_i hsw
    exact { xrel := by simp, yrel := by simp, det := Or.inl (by simp),
            hyx := by show p ≤ n; omega, hxM := by show n < M N / 2; omega,
            zA := by simp; linarith, zB := by simp,
            cA := by simp, cB := by simp; linarith,
            cC := by simp; linarith, cD := by simp }

theorem Dom_of_lt {N n p : Nat} (hN : 0 < N) (hn : n < 2 ^ (64 * N - 7)) (hp : p < 2 ^ (64 * N - 7)) :
    Dom N n p (max n p) := by
  refine ⟨Nat.le_max_left _ _, Nat.le_max_right _ _, ?_⟩
  have hP : max n p < 2 ^ (64 * N - 7) := Nat.max_lt.2 ⟨hn, hp⟩
  have e : M N / 2 = 64 * 2 ^ (64 * N - 7) := by
    unfold M
    obtain ⟨m, hm⟩ : ∃ m, 64 * N = m + 7 := ⟨64 * N - 7, by omega⟩
    rw [hm, Nat.add_sub_cancel]
    have : 2 ^ (m + 7) = 2 * (64 * 2 ^ m) := by rw [Nat.pow_add]; ring
    rw [this, Nat.mul_div_cancel_left _ (by decide)]
  rw [e]; omega

theorem gcdInternal_ext_total {N n p : Nat} (hN : 0 < N) (hn : n < 2 ^ (64 * N - 7))
    (hp : p < 2 ^ (64 * N - 7)) :
    ∃ d u v, gcdInternal N true n p = some (d, u, v) ∧ |u| ≤ 64 * ((max n p : Nat) : Int) + 1 ∧
      |v| ≤ 64 * ((max n p : Nat) : Int) + 1 := by
  have hd := Dom_of_lt hN hn hp
  have hle : 2 ^ (64 * N - 7) ≤ M N := Nat.pow_le_pow_right (by decide) (by omega)
  exact gcdLoop_gcdFuel_total (fun s => CInv N n p (max n p) (swapSt s))
    (fun _ u v => |u| ≤ 64 * ((max n p : Nat) : Int) + 1 ∧ |v| ≤ 64 * ((max n p : Nat) : Int) + 1)
    (fun _ hc => gcdStep_cof_total hd hc)
    (Nat.lt_of_lt_of_le hn hle) (Nat.lt_of_lt_of_le hp hle) (CInv_init hd)

/-- `inv_mod::<N>(n, p)` returns for a non-zero modulus and operands below `2^(64N-7)`: the negated
cofactor passes its range check -/
theorem invMod_total {N n p : Nat} (hN : 0 < N) (hp0 : p ≠ 0) (hn : n < 2 ^ (64 * N - 7))
    (hp : p < 2 ^ (64 * N - 7)) : ∃ r, invMod N n p = some r := by
  unfold invMod
  rw [if_neg hp0]
  split
  · split <;> exact ⟨_, rfl⟩
  · obtain ⟨d, u, v, hr, hu, _⟩ := gcdInternal_ext_total hN hn hp
    rw [hr]
    simp only
    split
    · exact ⟨_, rfl⟩
    · split
      · have hd := (Dom_of_lt hN hn hp).L
        rw [chkB_of_abs hd (by rw [abs_neg]; linarith)]
        exact ⟨_, rfl⟩
      · exact ⟨_, rfl⟩

end Ymq.Gcd
