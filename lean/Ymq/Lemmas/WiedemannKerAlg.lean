/-
The kernel path over `ZMod p`: the Krylov loop of `ker_pbig` produces the true Krylov sequence
whenever it returns, the Horner loop evaluates the polynomial read from Berlekamp–Massey at `M`,
and for a matrix that is singular modulo `p` the code's two coefficient tests make that polynomial
the reversed characteristic polynomial — so the assert `M v = 0` cannot fail (Cayley–Hamilton).
-/
import Ymq.Lemmas.WiedemannKer
import Ymq.Lemmas.WiedemannBM
import Ymq.Lemmas.BerlekampMasseyMg

namespace Ymq.Wied
open Matrix Polynomial

variable {p : ℕ}

/-- the value of the Horner loop after `k` steps: `Σ_{t ≤ k} cp_t · M^(k-t) · v0` -/
noncomputable def hornerVal (n : ℕ) (M : Matrix (Fin n) (Fin n) (ZMod p))
    (V0 : Matrix (Fin n) (Fin 1) (ZMod p)) (cp : List ℕ) (k : ℕ) : Matrix (Fin n) (Fin 1) (ZMod p) :=
  ∑ t ∈ Finset.range (k + 1), ((cp.getD t 0 : ℕ) : ZMod p) • (M ^ (k - t) * V0)

theorem hornerVal_succ (n : ℕ) (M : Matrix (Fin n) (Fin n) (ZMod p))
    (V0 : Matrix (Fin n) (Fin 1) (ZMod p)) (cp : List ℕ) (k : ℕ) :
    hornerVal n M V0 cp (k + 1) =
      M * hornerVal n M V0 cp k + ((cp.getD (k + 1) 0 : ℕ) : ZMod p) • V0 := by
  unfold hornerVal
  rw [Finset.sum_range_succ, Matrix.mul_sum]
  congr 1
  · apply Finset.sum_congr rfl
    intro t ht
    have : t < k + 1 := Finset.mem_range.mp ht
    rw [Matrix.mul_smul, ← Matrix.mul_assoc, ← pow_succ', show k + 1 - t = k - t + 1 by omega]
  · simp

theorem hornerBig_val (w : ℕ) (m : Mat) (hcols : ∀ r ∈ m, ∀ je ∈ r, je.1 < m.length) (p : ℕ)
    (hp : (p : Int) < 2 ^ (w - 1)) (cp v0 : List ℕ) (hn : 0 < m.length) :
    ∀ (c i : ℕ) (v out : List ℕ), hornerBig w m p cp v0 c (i + 1) v = some out →
      RedVec p m.length v →
      colOf p m.length v = hornerVal m.length (matOf p m.length m) (colOf p m.length v0) cp i →
      colOf p m.length out =
        hornerVal m.length (matOf p m.length m) (colOf p m.length v0) cp (i + c)
  | 0, i, v, out, h, _, hv => by
    simp [hornerBig] at h; subst h; simpa using hv
  | c + 1, i, v, out, h, hred, hv => by
    obtain ⟨u, ci, h1, h2, hp0, h⟩ := hornerBig_succ h
    obtain ⟨_, _, hu⟩ := mulpBig_matrix w m hcols p hp v (hred.cast_lt hp) u h1 hn
    have hci : ci = cp.getD (i + 1) 0 := by
      simp [List.getD_eq_getElem?_getD, h2]
    have hnew : colOf p m.length ((List.range m.length).map
        (fun j => (u.getD j 0 + ci * v0.getD j 0) % p)) =
        hornerVal m.length (matOf p m.length m) (colOf p m.length v0) cp (i + 1) := by
      rw [hornerVal_succ, ← hv, ← hu]
      ext a b
      show ((((List.range m.length).map _).getD a.val 0 : ℕ) : ZMod p) = _
      have ha : a.val < (List.range m.length).length := by simp
      simp only [List.getD_eq_getElem?_getD, List.getElem?_map,
        List.getElem?_range a.isLt, Option.map_some, Option.getD_some]
      rw [ZMod.natCast_mod]
      simp only [Matrix.add_apply, Matrix.smul_apply, smul_eq_mul, colOf, Nat.cast_add,
        Nat.cast_mul, hci, List.getD_eq_getElem?_getD]
    have := hornerBig_val w m hcols p hp cp v0 hn c (i + 1) _ out h (redVec_map_mod hp0 _) hnew
    rw [this, show i + 1 + c = i + (c + 1) by omega]


/-- Cayley–Hamilton for the Horner value: if the coefficients read are those of the reversed
characteristic polynomial of a singular `M`, then `M · (Σ_{t<n} cp_t M^(n-1-t) v0) = 0`. -/
theorem mul_hornerVal_eq_zero (n : ℕ) (hn : 1 ≤ n) [Fact p.Prime]
    (M : Matrix (Fin n) (Fin n) (ZMod p)) (V0 : Matrix (Fin n) (Fin 1) (ZMod p)) (cp : List ℕ)
    (hcp : ∀ t, t ≤ n → ((cp.getD t 0 : ℕ) : ZMod p) = M.charpoly.reverse.coeff t)
    (h0 : M.charpoly.coeff 0 = 0) :
    M * hornerVal n M V0 cp (n - 1) = 0 := by
  have hdeg := charpoly_natDegree_fin M
  have hCH := Matrix.aeval_self_charpoly M
  rw [aeval_eq_sum_range, hdeg, Finset.sum_range_succ', h0, zero_smul, add_zero] at hCH
  unfold hornerVal
  rw [show n - 1 + 1 = n by omega, Matrix.mul_sum]
  have e : ∀ t ∈ Finset.range n,
      M * (((cp.getD t 0 : ℕ) : ZMod p) • (M ^ (n - 1 - t) * V0)) =
        (fun s => (M.charpoly.coeff (s + 1) • M ^ (s + 1)) * V0) (n - 1 - t) := by
    intro t ht
    have ht' := Finset.mem_range.mp ht
    rw [hcp t (by omega), coeff_reverse, hdeg, revAt_le (by omega), Matrix.mul_smul,
      ← Matrix.mul_assoc, ← pow_succ']
    simp only [Matrix.smul_mul]
    rw [show n - 1 - t + 1 = n - t by omega]
  rw [Finset.sum_congr rfl e,
    Finset.sum_range_reflect (fun s => (M.charpoly.coeff (s + 1) • M ^ (s + 1)) * V0) n,
    ← Matrix.sum_mul, hCH, Matrix.zero_mul]

theorem krylovBig_exact (w : ℕ) (hp : (p : Int) < 2 ^ (w - 1)) (hw : (65537 : Int) ≤ 2 ^ (w - 1))
    (hp1 : 1 < p) (m : Mat) (hcols : ∀ r ∈ m, ∀ je ∈ r, je.1 < m.length) (hn : 1 ≤ m.length)
    (seq : List ℕ)
    (h1 : krylovBig w m p (2 * m.length + 1) (startVec m.length 0 1) [] = some seq) :
    seq.length = 2 * m.length ∧ (∀ x ∈ seq, x < p) ∧
      ∀ k, k < 2 * m.length → ((seq.getD k 0 : ℕ) : ZMod p) =
        krylovSeq (matOf p m.length m) (e0 p m.length) (colOf p m.length (startVec m.length 0 1)) k := by
  have hs1 : (startVec m.length 0 1).getD 0 0 < p := by
    obtain ⟨n', hn'⟩ : ∃ n', m.length = n' + 1 := ⟨m.length - 1, by omega⟩
    rw [hn']; simp [startVec]; omega
  obtain ⟨k2, k3, k4⟩ := loop_exact (mul := mulpBig w m p) (K := krylovBig w m p)
    (fun _ _ _ => rfl) hn (matOf p m.length m) (colOf p m.length (startVec m.length 0 1))
    (fun v => v.length = m.length ∧ (∀ j, ((v.getD j 0 : ℕ) : Int) < 2 ^ (w - 1)) ∧ v.getD 0 0 < p)
    (fun v hv => ⟨hv.1, hv.2.2⟩)
    (fun v u hv hu => by
      obtain ⟨_, hr, hc⟩ := mulpBig_matrix w m hcols p hp v hv.2.1 u hu (by omega)
      exact ⟨⟨hr.1, hr.cast_lt hp, hr.2 0⟩, hc⟩)
    _ _ [] seq h1 (by simp) (by simp; omega)
    ⟨startVec_length _ 0 1, fun j => by
      have := startVec_lt m.length 0 1 j
      have h' : (((startVec m.length 0 1).getD j 0 : ℕ) : Int) < 65537 := by exact_mod_cast this
      linarith, hs1⟩
    (by simp) Terms.nil
  exact ⟨k2, k3, fun k hk => by rw [krylovSeq_e0 m.length hn, k4 k (k2 ▸ hk)]⟩

/-- **singular matrices**: Berlekamp–Massey does not panic on the Krylov sequence, the polynomial
it returns has `charpoly[size] = 0` (so `assert!(c0.is_zero())` holds), and when
`charpoly[size - 1] ≠ 0` it is the reversed characteristic polynomial, so that the product `M v`
checked by the first final assert vanishes. -/
theorem kerBig_singular (w : ℕ) [hpf : Fact p.Prime] (hlt : p < 2 ^ 244)
    (hp : (p : Int) < 2 ^ (w - 1)) (hw : (65537 : Int) ≤ 2 ^ (w - 1)) (m : Mat)
    (hcols : ∀ r ∈ m, ∀ je ∈ r, je.1 < m.length) (hn : 1 ≤ m.length)
    (hdet : (matOf p m.length m).det = 0) (seq : List ℕ)
    (h1 : krylovBig w m p (2 * m.length + 1) (startVec m.length 0 1) [] = some seq)
    (h2 : Ymq.BM.TwoTerms seq) :
    ∃ cp, Ymq.BM.bmBig p seq = some cp ∧ cp.length = 2 * m.length ∧ cp.getD m.length 0 = 0 ∧
      (cp.getD (m.length - 1) 0 ≠ 0 → ∀ v0 v z, RedVec p m.length v0 →
        hornerBig w m p cp v0 (m.length - 1) 1 v0 = some v → mulpBig w m p v = some z →
        ∀ x ∈ z, x = 0) := by
  have hprime : p.Prime := hpf.out
  have hp1 : 1 < p := hprime.one_lt
  obtain ⟨k2, k3, hs⟩ := krylovBig_exact w hp hw hp1 m hcols hn seq h1
  obtain ⟨out, A, c1, c2, c3, c4, c5, c6, _⟩ := wied_core (Ymq.BM.bigOps_ok p hlt) hn
    (matOf p m.length m) (e0 p m.length) (colOf p m.length (startVec m.length 0 1)) seq k2 k3 hs h2
  set T := (matOf p m.length m).charpoly.reverse with hT
  have hTn : T.coeff m.length = 0 := by
    have := reverse_charpoly_coeff_top (matOf p m.length m)
    rw [hdet] at this
    have hpow : ((-1 : ZMod p)) ^ m.length ≠ 0 := pow_ne_zero _ (neg_ne_zero.mpr one_ne_zero)
    exact (mul_eq_zero.mp this.symm).resolve_left hpow
  have hTne : T ≠ 0 := by
    intro h; have := reverse_charpoly_coeff_zero (matOf p m.length m); rw [← hT, h] at this
    simp at this
  have hdT : T.natDegree ≤ m.length - 1 := by
    rw [natDegree_le_iff_coeff_eq_zero]
    intro N hN
    by_cases hNn : N = m.length
    · rw [hNn]; exact hTn
    · exact coeff_eq_zero_of_natDegree_lt
        (lt_of_le_of_lt (reverse_charpoly_natDegree_le _) (by omega))
  have hd := natDegree_of_factor hTne c6
  have hred : Ymq.BM.Red p out := Ymq.BM.red_of_mem hprime.pos out c3
  have hcn : out.getD m.length 0 = 0 := by
    have : (Ymq.BM.toPoly p out).coeff m.length = 0 :=
      coeff_eq_zero_of_natDegree_lt (by omega)
    rw [Ymq.BM.coeff_toPoly] at this
    exact (Ymq.BM.cast_eq_zero_of_lt (hred m.length)).mp this
  refine ⟨out, c1, c2, hcn, fun htop v0 v z hv0 hh hm => ?_⟩
  -- full degree n - 1: out = T
  have htop' : (Ymq.BM.toPoly p out).coeff (m.length - 1) ≠ 0 := by
    rw [Ymq.BM.coeff_toPoly]
    intro h; exact htop ((Ymq.BM.cast_eq_zero_of_lt (hred _)).mp h)
  have hdO : m.length - 1 ≤ (Ymq.BM.toPoly p out).natDegree := le_natDegree_of_ne_zero htop'
  have hfull : Ymq.BM.toPoly p out = T := wied_of_const_cofactor _ out A c4 c6 (by omega)
  have hcp : ∀ t, t ≤ m.length → ((out.getD t 0 : ℕ) : ZMod p) = T.coeff t := by
    intro t _; rw [← hfull, Ymq.BM.coeff_toPoly]; rfl
  have hχ0 : (matOf p m.length m).charpoly.coeff 0 = 0 := by
    have := det_eq_sign_charpoly_coeff (matOf p m.length m)
    rw [hdet, Fintype.card_fin] at this
    have hpow : ((-1 : ZMod p)) ^ m.length ≠ 0 := pow_ne_zero _ (neg_ne_zero.mpr one_ne_zero)
    exact (mul_eq_zero.mp this.symm).resolve_left hpow
  have hinit : colOf p m.length v0 =
      hornerVal m.length (matOf p m.length m) (colOf p m.length v0) out 0 := by
    unfold hornerVal
    rw [Finset.sum_range_one, c4]
    simp
  have hval := hornerBig_val w m hcols p hp out v0 (by omega) (m.length - 1) 0 v0 v hh hv0 hinit
  obtain ⟨hp0, zred, zcol⟩ := mulpBig_matrix w m hcols p hp v
    ((hornerBig_red w m p out v0 _ _ _ _ hh hv0).cast_lt hp) z hm (by omega)
  rw [hval, zero_add, mul_hornerVal_eq_zero m.length hn (matOf p m.length m) _ out hcp hχ0] at zcol
  intro x hx
  obtain ⟨i, hi, rfl⟩ := List.getElem_of_mem hx
  have hi' : i < m.length := by rw [← zred.1]; exact hi
  have hzi : z.getD i 0 = z[i] := by
    simp [List.getD_eq_getElem?_getD, List.getElem?_eq_getElem hi]
  have := congrFun (congrFun zcol ⟨i, hi'⟩) 0
  have h' : ((z.getD i 0 : ℕ) : ZMod p) = 0 := this
  rw [← hzi]
  exact (Ymq.BM.cast_eq_zero_of_lt (zred.2 i)).mp h'

end Ymq.Wied
