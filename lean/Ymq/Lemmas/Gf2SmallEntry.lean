/-
C14 "small", helper lemmas (core only): entrywise (`testBit`) descriptions of `identity`,
`symmetric`, `transpose`, `maskRows`/`mask`, `reverseLane`, `reverse`, and the counting facts on
`popcount`.
-/
import Ymq.Lemmas.Gf2SmallBasic
namespace Ymq.Gf2Small

theorem length_map_range (n : Nat) (f : Nat → Nat) : ((List.range n).map f).length = n := by
  simp

theorem mat_ext {n : Nat} {a b : Mat} (ha : a.length = n) (hb : b.length = n)
    (h : ∀ i, i < n → row a i = row b i) : a = b := by
  apply List.ext_getElem (by omega)
  intro i h1 h2
  have := h i (by omega)
  simpa [row, List.getD_eq_getElem?_getD, List.getElem?_eq_getElem h1, List.getElem?_eq_getElem h2] using this

theorem testBit_of_lt_of_ge {w n j : Nat} (hw : w < 2 ^ n) (hj : n ≤ j) : w.testBit j = false :=
  Nat.testBit_lt_two_pow (Nat.lt_of_lt_of_le hw (Nat.pow_le_pow_right (by omega) hj))

theorem length_identity (n : Nat) : (identity n).length = n := by
  simp [identity]

theorem row_identity {n i : Nat} (h : i < n) : row (identity n) i = 1 <<< i := by
  unfold identity
  rw [row_map_range n _ h]

theorem testBit_row_identity {n i : Nat} (h : i < n) (j : Nat) :
    (row (identity n) i).testBit j = decide (i = j) := by
  rw [row_identity h, Nat.one_shiftLeft, Nat.testBit_two_pow]

theorem symmetric_iff (n : Nat) (m : Mat) :
    symmetric n m = true ↔
      ∀ i j, i < n → j < n → (row m i).testBit j = (row m j).testBit i := by
  unfold symmetric
  simp only [List.all_eq_true, List.mem_range, beq_iff_eq]
  constructor
  · intro h i j hi hj
    rcases Nat.lt_trichotomy i j with hlt | heq | hgt
    · exact (h j hj i hlt).symm
    · subst heq; rfl
    · exact h i hi j hgt
  · intro h i hi j hj
    exact h i j hi (by omega)

theorem length_transpose (n : Nat) (m : Mat) : (transpose n m).length = n := by
  simp [transpose]

theorem testBit_transpose {n : Nat} (m : Mat) {i : Nat} (hi : i < n) (j : Nat) :
    (row (transpose n m) i).testBit j = (decide (j < n) && (row m j).testBit i) := by
  unfold transpose
  rw [row_map_range n _ hi, testBit_ofBits]

theorem row_transpose_lt {n : Nat} (m : Mat) (i : Nat) : row (transpose n m) i < 2 ^ n := by
  by_cases hi : i < n
  · unfold transpose
    rw [row_map_range n _ hi]
    exact ofBits_lt _ _
  · rw [row_of_ge (by rw [length_transpose]; omega)]
    exact Nat.two_pow_pos n

theorem transpose_transpose {n : Nat} {m : Mat} (hl : m.length = n)
    (hw : ∀ i, i < n → row m i < 2 ^ n) : transpose n (transpose n m) = m := by
  apply mat_ext (length_transpose _ _) hl
  intro i hi
  apply Nat.eq_of_testBit_eq
  intro j
  rw [testBit_transpose _ hi]
  by_cases hj : j < n
  · rw [testBit_transpose _ hj]
    simp [hi, hj]
  · rw [testBit_of_lt_of_ge (hw i hi) (by omega)]
    simp [hj]

theorem symmetric_iff_transpose {n : Nat} {m : Mat} (hl : m.length = n)
    (hw : ∀ i, i < n → row m i < 2 ^ n) : symmetric n m = true ↔ transpose n m = m := by
  rw [symmetric_iff]
  constructor
  · intro h
    apply mat_ext (length_transpose _ _) hl
    intro i hi
    apply Nat.eq_of_testBit_eq
    intro j
    rw [testBit_transpose _ hi]
    by_cases hj : j < n
    · rw [h i j hi hj]; simp [hj]
    · rw [testBit_of_lt_of_ge (hw i hi) (by omega)]
      simp [hj]
  · intro h i j hi hj
    have := testBit_transpose m hi j
    rw [h] at this
    rw [this]; simp [hj]

theorem length_maskRows (n : Nat) (m : Mat) (mk : Nat) : (maskRows n m mk).length = n := by
  simp [maskRows]

theorem row_maskRows {n : Nat} (m : Mat) (mk : Nat) {i : Nat} (hi : i < n) :
    row (maskRows n m mk) i = if mk.testBit i then row m i &&& mk else 0 := by
  unfold maskRows
  rw [row_map_range n _ hi]

theorem testBit_maskRows {n : Nat} (m : Mat) (mk : Nat) {i : Nat} (hi : i < n) (j : Nat) :
    (row (maskRows n m mk) i).testBit j =
      (mk.testBit i && (mk.testBit j && (row m i).testBit j)) := by
  rw [row_maskRows m mk hi]
  by_cases h : mk.testBit i = true
  · rw [if_pos h, Nat.testBit_and, h, Bool.true_and, Bool.and_comm]
  · simp only [Bool.not_eq_true] at h
    simp [h]

theorem symmetric_maskRows {n : Nat} {m : Mat} (mk : Nat) (h : symmetric n m = true) :
    symmetric n (maskRows n m mk) = true := by
  rw [symmetric_iff] at h ⊢
  intro i j hi hj
  rw [testBit_maskRows m mk hi, testBit_maskRows m mk hj, h i j hi hj]
  cases mk.testBit i <;> cases mk.testBit j <;> simp

/-- `SmallMat::mask` never fails its debug_assert -/
theorem mask_eq (n : Nat) (dbg : Bool) (m : Mat) (mk : Nat) :
    mask n dbg m mk = some (maskRows n m mk) := by
  unfold mask
  by_cases h : symmetric n m = true
  · simp [h, symmetric_maskRows mk h]
  · simp only [Bool.not_eq_true] at h
    simp [h]

theorem testBit_reverseLane (n l j : Nat) :
    (reverseLane n l).testBit j = (decide (j < n) && l.testBit (n - 1 - j)) := by
  unfold reverseLane
  rw [testBit_ofBits]

theorem reverseLane_lt (n l : Nat) : reverseLane n l < 2 ^ n := ofBits_lt _ _

theorem reverseLane_reverseLane {n l : Nat} (h : l < 2 ^ n) :
    reverseLane n (reverseLane n l) = l := by
  apply Nat.eq_of_testBit_eq
  intro j
  rw [testBit_reverseLane, testBit_reverseLane]
  by_cases hj : j < n
  · have h1 : n - 1 - j < n := by omega
    have h2 : n - 1 - (n - 1 - j) = j := by omega
    simp [hj, h1, h2]
  · rw [testBit_of_lt_of_ge (j := j) h (by omega)]
    simp [hj]

theorem length_reverse (n : Nat) (m : Mat) : (reverse n m).length = n := by
  simp [reverse]

theorem row_reverse {n : Nat} (m : Mat) {i : Nat} (hi : i < n) :
    row (reverse n m) i = reverseLane n (row m (n - 1 - i)) := by
  unfold reverse
  rw [row_map_range n _ hi]

theorem testBit_reverse {n : Nat} (m : Mat) {i : Nat} (hi : i < n) (j : Nat) :
    (row (reverse n m) i).testBit j =
      (decide (j < n) && (row m (n - 1 - i)).testBit (n - 1 - j)) := by
  rw [row_reverse m hi, testBit_reverseLane]

theorem reverse_reverse {n : Nat} {m : Mat} (hl : m.length = n)
    (hw : ∀ i, i < n → row m i < 2 ^ n) : reverse n (reverse n m) = m := by
  apply mat_ext (length_reverse _ _) hl
  intro i hi
  have h1 : n - 1 - i < n := by omega
  have h2 : n - 1 - (n - 1 - i) = i := by omega
  rw [row_reverse _ hi, row_reverse _ h1, h2, reverseLane_reverseLane (hw i hi)]

theorem symmetric_reverse {n : Nat} {m : Mat} (h : symmetric n m = true) :
    symmetric n (reverse n m) = true := by
  rw [symmetric_iff] at h ⊢
  intro i j hi hj
  rw [testBit_reverse m hi, testBit_reverse m hj]
  rw [h (n - 1 - i) (n - 1 - j) (by omega) (by omega)]
  simp [hi, hj]

theorem popcount_succ (n w : Nat) :
    popcount (n + 1) w = popcount n w + (if w.testBit n then 1 else 0) := by
  unfold popcount
  rw [List.range_succ, List.filter_append, List.length_append]
  by_cases h : w.testBit n = true
  · simp [h]
  · simp only [Bool.not_eq_true] at h
    simp [h]

theorem popcount_congr {n w w' : Nat} (h : ∀ i, i < n → w.testBit i = w'.testBit i) :
    popcount n w = popcount n w' := by
  induction n with
  | zero => simp [popcount]
  | succ n ih =>
    rw [popcount_succ, popcount_succ, ih (fun i hi => h i (by omega)), h n (by omega)]

theorem popcount_le (n w : Nat) : popcount n w ≤ n := by
  induction n with
  | zero => simp [popcount]
  | succ n ih =>
    rw [popcount_succ]
    split <;> omega

theorem testBit_or_bit (w i j : Nat) :
    (w ||| (1 <<< i)).testBit j = (w.testBit j || decide (i = j)) := by
  rw [Nat.testBit_or, Nat.one_shiftLeft, Nat.testBit_two_pow]

theorem popcount_or_bit {n w i : Nat} (hi : i < n) (h : w.testBit i = false) :
    popcount n (w ||| (1 <<< i)) = popcount n w + 1 := by
  induction n with
  | zero => omega
  | succ n ih =>
    rw [popcount_succ, popcount_succ]
    by_cases hin : i = n
    · subst hin
      have hc : popcount i (w ||| (1 <<< i)) = popcount i w := by
        apply popcount_congr
        intro k hk
        rw [testBit_or_bit]
        have : ¬ i = k := by omega
        simp [this]
      rw [hc, testBit_or_bit, h]
      simp
    · rw [ih (by omega), testBit_or_bit]
      have : ¬ i = n := hin
      simp only [this, decide_false, Bool.or_false]
      omega

theorem popcount_zero (n : Nat) : popcount n 0 = 0 := by
  simp [popcount]

theorem popcount_eq_n_iff_bits (n w : Nat) :
    popcount n w = n ↔ ∀ i, i < n → w.testBit i = true := by
  induction n with
  | zero => simp [popcount]
  | succ n ih =>
    rw [popcount_succ]
    have hle := popcount_le n w
    constructor
    · intro h i hi
      by_cases hb : w.testBit n = true
      · rw [if_pos hb] at h
        by_cases hin : i = n
        · subst hin; exact hb
        · exact ih.mp (by omega) i (by omega)
      · rw [if_neg hb] at h; omega
    · intro h
      rw [if_pos (h n (by omega)), ih.mpr (fun i hi => h i (by omega))]

theorem popcount_eq_n_iff {n w : Nat} (hw : w < 2 ^ n) : popcount n w = n ↔ w = 2 ^ n - 1 := by
  rw [popcount_eq_n_iff_bits]
  constructor
  · intro h
    apply Nat.eq_of_testBit_eq
    intro j
    rw [Nat.testBit_two_pow_sub_one]
    by_cases hj : j < n
    · rw [h j hj]; simp [hj]
    · rw [testBit_of_lt_of_ge hw (by omega)]; simp [hj]
  · intro h i hi
    rw [h, Nat.testBit_two_pow_sub_one]
    simp [hi]

end Ymq.Gf2Small
