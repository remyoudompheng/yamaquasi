/-
C10: the root tables of `MultiZmodP::new` (model `rootsPacked`, Ymq/Model/Ntt.lean) meet `RootsOk`
(`rootsPacked_ok`): `ωs`, the `2^logsize` powers, the packed forward/backward levels, and the roots are
principal (`g^(2^31) = -1` from the translated prime table).
-/
import Ymq.Lemmas.NttSpec
import Ymq.Lemmas.CrtColumns

namespace Ymq.Crt
open Ymq.Mg64 (W mgMul mgRedc)
open Ymq.Gen.Params

theorem new_fields3 (n logsize : Nat) (m : Mzp) (h : new n logsize = some m) :
    m.k = logsize ∧ m.primes = NTT_PRIME_VALUES.take m.w ∧
      (NTT_PRIME_VALUES.take m.w).mapM (rpowersOf m.w) = some m.rpowers :=
  have k := isNew h
  ⟨k.hk, k.hprimes, k.hrpowers⟩

theorem new_ctx (n logsize : Nat) (m : Mzp) (h : new n logsize = some m) (j : Nat) (hj : j < m.w) :
    ∃ g ri, NTT_PRIMES[j]? = some (P m j, g) ∧ RowOk (P m j, g) ∧ m.rpowers[j]? = some ri ∧
      ri[0]? = some (W % P m j) ∧ ri[1]? = some (W % P m j * (W % P m j) % P m j) := by
  obtain ⟨g, b, hrow, hok, hb, hab⟩ := (isNew h).row hj
  unfold rpowersOf at hab
  simp only [Option.map_eq_some_iff] at hab
  obtain ⟨l, _, hl⟩ := hab
  exact ⟨g, b, hrow, hok, hb, by rw [← hl]; rfl, by rw [← hl]; rfl⟩

theorem tabOk_of_new (n logsize : Nat) (m : Mzp) (h : new n logsize = some m) : TabOk m :=
  fun _ hj => (isNew h).primeOk hj

theorem sqTimes_spec (p : Nat) (hp : 0 < p) : ∀ (c x : Nat), 1 ≤ c →
    sqTimes p c x < p ∧ ((sqTimes p c x : Nat) : ZMod p) = ((x : Nat) : ZMod p) ^ 2 ^ c := by
  intro c
  induction c with
  | zero => intro x h; omega
  | succ c ih =>
    intro x _
    unfold sqTimes
    have hsq : (((x * x % p : Nat)) : ZMod p) = ((x : Nat) : ZMod p) ^ 2 := by
      rw [ZMod.natCast_mod]; push_cast; ring
    rcases Nat.eq_zero_or_pos c with h0 | h0
    · subst h0
      simp only [sqTimes]
      exact ⟨Nat.mod_lt _ hp, by rw [hsq]; norm_num⟩
    · obtain ⟨h1, h2⟩ := ih (x * x % p) h0
      refine ⟨h1, ?_⟩
      rw [h2, hsq, ← pow_mul, pow_succ 2 c, Nat.mul_comm]

/-- the root of order `2^K` of prime `j`: `g_j^(2^(32-K))` -/
noncomputable def Om (m : Mzp) (j : Nat) : ZMod (P m j) :=
  (((NTT_PRIMES.getD j (0, 0)).2 : Nat) : ZMod (P m j)) ^ 2 ^ (32 - m.k)

theorem mf_one {p : Nat} (h : PrimeOk p) : mf p (W % p) = 1 := by
  unfold mf
  rw [ZMod.natCast_mod]; exact W_uinv h

theorem omegas_spec (n logsize : Nat) (m : Mzp) (h : new n logsize = some m) (hk : m.k ≤ 31) :
    ∃ ws, omegas m = some ws ∧ EltOk m ws ∧ ∀ j, j < m.w → mfe m ws j = Om m j := by
  refine eltM_spec m (omega1 m) (fun j r => r = Om m j) fun j hj => ?_
  obtain ⟨g, ri, hrow, hok, hri, _, h1⟩ := new_ctx n logsize m h j hj
  have hpo := tabOk_of_new n logsize m h j hj
  obtain ⟨s1, s2⟩ := sqTimes_spec (P m j) (by have := hpo.pos; omega) (32 - m.k) g (by omega)
  obtain ⟨z, e1, e2, e3⟩ := mgMul64_mf hpo _ (W % P m j * (W % P m j) % P m j) s1
    (lt_trans (Nat.mod_lt _ (by have := hpo.pos; omega)) hpo.ltW)
  refine ⟨z, by unfold omega1; simp only [hrow, hri, h1]; exact e1, e2, ?_⟩
  -- the product with `R²` is the Montgomery form of `g^(2^(32-k))`
  rw [e3, mf_R2 hpo, mf_mul_W hpo, s2]
  unfold Om
  rw [List.getD_eq_getElem?_getD, hrow]
  rfl

theorem one_spec (n logsize : Nat) (m : Mzp) (h : new n logsize = some m) :
    ∃ one, (List.range m.w).mapM (one1 m) = some one ∧ EltOk m one ∧ ∀ j, j < m.w → mfe m one j = 1 := by
  refine eltM_spec m (one1 m) (fun _ r => r = 1) fun j hj => ?_
  obtain ⟨g, ri, hrow, hok, hri, h0, _⟩ := new_ctx n logsize m h j hj
  have hpo := tabOk_of_new n logsize m h j hj
  exact ⟨W % P m j, by unfold one1; simp only [hri, h0], Nat.mod_lt _ (by have := hpo.pos; omega), mf_one hpo⟩

theorem rootsIter_eq (m : Mzp) (ws : List Nat) : ∀ c cur acc,
    rootsIter m ws c cur acc = iterM (fun cur => mulE m cur ws) c cur acc := by
  intro c
  induction c with
  | zero => intro _ _; rfl
  | succ c ih =>
    intro cur acc
    unfold rootsIter iterM
    cases mulE m cur ws with
    | none => rfl
    | some nxt => exact ih nxt _

theorem rootsBig_spec (n logsize : Nat) (m : Mzp) (h : new n logsize = some m) (hk : m.k ≤ 31) :
    ∃ big, rootsBig m = some big ∧ big.length = 2 ^ m.k ∧
      ∀ i, i < 2 ^ m.k → EltOk m (big.getD i []) ∧ ∀ j, j < m.w → mfe m (big.getD i []) j = Om m j ^ i := by
  have ht := tabOk_of_new n logsize m h
  obtain ⟨ws, ew, hws, hom⟩ := omegas_spec n logsize m h hk
  obtain ⟨one, eo, hone, hov⟩ := one_spec n logsize m h
  have hp : 0 < 2 ^ m.k := Nat.pow_pos (by decide)
  -- the element pushed at step `t` holds the `t`-th powers
  obtain ⟨l, e, ll, hl⟩ := iterM_inv [] (fun cur => mulE m cur ws)
    (fun t cur => EltOk m cur ∧ ∀ j, j < m.w → mfe m cur j = Om m j ^ t) (fun t cur ⟨hcur, hcv⟩ => by
      obtain ⟨nxt, e, hn, hnv⟩ := mulE_spec m ht cur ws hcur hws
      exact ⟨nxt, e, hn, fun j hj => by rw [hnv j hj, hcv j hj, hom j hj, pow_succ]⟩)
    (2 ^ m.k - 1) one [one] 0 ⟨hone, fun j hj => by rw [hov j hj, pow_zero]⟩
  refine ⟨one :: l, ?_, by simp [ll]; omega, fun i hi => ?_⟩
  · unfold rootsBig
    rw [ew]; simp only; rw [eo]; simp only; rw [rootsIter_eq]; exact e
  · cases i with
    | zero => exact ⟨hone, fun j hj => by rw [List.getD_cons_zero, hov j hj, pow_zero]⟩
    | succ i =>
      have := hl i (by omega)
      rw [Nat.zero_add, Nat.add_comm] at this
      exact this

/-- the root of level `k` and direction `d` of prime `j` -/
noncomputable def omk (m : Mzp) (j k : Nat) (d : Bool) : ZMod (P m j) :=
  if d then Om m j ^ 2 ^ (m.k - k) else (Om m j ^ 2 ^ (m.k - k)) ^ (2 ^ k - 1)

theorem gen_half (n logsize : Nat) (m : Mzp) (h : new n logsize = some m) (j : Nat) (hj : j < m.w) :
    (((NTT_PRIMES.getD j (0, 0)).2 : Nat) : ZMod (P m j)) ^ 2 ^ 31 = -1 := by
  obtain ⟨g, ri, hrow, hok, _⟩ := new_ctx n logsize m h j hj
  have hpo := primeOk_of_row hok
  have hg : (NTT_PRIMES.getD j (0, 0)).2 = g := by rw [List.getD_eq_getElem?_getD, hrow]; rfl
  have h5 := hok.2.2.2.2
  simp only at h5
  rw [sqIter_eq] at h5
  have hc : (((g ^ 2 ^ 31 % P m j : Nat)) : ZMod (P m j)) = ((P m j - 1 : Nat) : ZMod (P m j)) := by rw [h5]
  rw [ZMod.natCast_mod, Nat.cast_sub (by have := hpo.pos; omega), Nat.cast_pow, ZMod.natCast_self] at hc
  rw [hg, hc]; simp

theorem Om_half (n logsize : Nat) (m : Mzp) (h : new n logsize = some m) (j : Nat) (hj : j < m.w)
    (hk1 : 1 ≤ m.k) (hk : m.k ≤ 31) : Om m j ^ 2 ^ (m.k - 1) = -1 := by
  unfold Om
  rw [← pow_mul, ← pow_add, show 32 - m.k + (m.k - 1) = 31 by omega]
  exact gen_half n logsize m h j hj

theorem Om_pow_full (n logsize : Nat) (m : Mzp) (h : new n logsize = some m) (j : Nat) (hj : j < m.w)
    (hk : m.k ≤ 31) : Om m j ^ 2 ^ m.k = 1 := by
  unfold Om
  rw [← pow_mul, ← pow_add, show 32 - m.k + m.k = 31 + 1 by omega, pow_succ 2 31, pow_mul,
    gen_half n logsize m h j hj, neg_one_sq]

/-- the root of level `k`: its `2^(k-1)`-th power is `-1`, its `2^k`-th power `1` -/
theorem Om_level (n logsize : Nat) (m : Mzp) (h : new n logsize = some m) (hK : m.k ≤ 31) (j : Nat)
    (hj : j < m.w) (k : Nat) (h1 : 1 ≤ k) (hk : k ≤ m.k) :
    (Om m j ^ 2 ^ (m.k - k)) ^ 2 ^ (k - 1) = -1 ∧ (Om m j ^ 2 ^ (m.k - k)) ^ 2 ^ k = 1 := by
  constructor
  · rw [← pow_mul, ← pow_add, show m.k - k + (k - 1) = m.k - 1 by omega]
    exact Om_half n logsize m h j hj (by omega) hK
  · rw [← pow_mul, ← pow_add, show m.k - k + k = m.k by omega]
    exact Om_pow_full n logsize m h j hj hK

theorem omk_half (n logsize : Nat) (m : Mzp) (h : new n logsize = some m) (hK : m.k ≤ 31) (j : Nat)
    (hj : j < m.w) (k : Nat) (d : Bool) (h1 : 1 ≤ k) (hk : k ≤ m.k) : omk m j k d ^ 2 ^ (k - 1) = -1 := by
  have ht := (Om_level n logsize m h hK j hj k h1 hk).1
  cases d
  · exact Ymq.Dft.invRoot_half h1 ht
  · exact ht

theorem omk_sq (n logsize : Nat) (m : Mzp) (h : new n logsize = some m) (hK : m.k ≤ 31) (j : Nat)
    (hj : j < m.w) (k : Nat) (d : Bool) (h1 : 1 ≤ k) (hk : k < m.k) :
    omk m j (k + 1) d * omk m j (k + 1) d = omk m j k d := by
  have hsq : Om m j ^ 2 ^ (m.k - (k + 1)) * Om m j ^ 2 ^ (m.k - (k + 1)) = Om m j ^ 2 ^ (m.k - k) := by
    rw [← pow_add, ← Nat.two_mul, ← pow_succ', show m.k - (k + 1) + 1 = m.k - k by omega]
  cases d
  · exact Ymq.Dft.invRoot_sq hsq (Om_level n logsize m h hK j hj k h1 (by omega)).2
  · exact hsq

theorem omk_inv (n logsize : Nat) (m : Mzp) (h : new n logsize = some m) (hK : m.k ≤ 31) (j : Nat)
    (hj : j < m.w) (k : Nat) (h1 : 1 ≤ k) (hk : k ≤ m.k) : omk m j k true * omk m j k false = 1 :=
  Ymq.Dft.mul_invRoot (Om_level n logsize m h hK j hj k h1 hk).2


/-- level `k ≥ 1` of the packed table: `2^(k-1)` forward entries `big[i·2^(K-k)]`, then `2^(k-1)` backward
entries `big[(2^k - i)·2^(K-k)]` (`big[0]` for `i = 0`) -/
theorem packLevel_getD (K : Nat) (big : List (List Nat)) (k : Nat) (h1 : 1 ≤ k) :
    (packLevel K big k).length = 2 ^ (k - 1) + 2 ^ (k - 1) ∧ ∀ i, i < 2 ^ (k - 1) →
      (packLevel K big k).getD i [] = big.getD (i * 2 ^ (K - k)) [] ∧
      (packLevel K big k).getD (2 ^ (k - 1) + i) [] =
        big.getD ((if i = 0 then 0 else 2 ^ k - i) * 2 ^ (K - k)) [] := by
  have hpk : 2 ^ k / 2 = 2 ^ (k - 1) := by
    have : 2 ^ k = 2 * 2 ^ (k - 1) := by rw [← pow_succ']; congr 1; omega
    omega
  unfold packLevel
  simp only [hpk, if_neg (show ¬ k = 0 by omega)]
  refine ⟨by simp, fun i hi => ⟨?_, ?_⟩⟩
  · rw [List.getD_append _ _ _ _ (by simpa using hi), List.getD_eq_getElem?_getD, List.getElem?_map,
      List.getElem?_range hi]
    rfl
  · rw [List.getD_append_right _ _ _ _ (by simp), List.getD_eq_getElem?_getD, List.getElem?_map]
    simp only [List.length_map, List.length_range, Nat.add_sub_cancel_left, List.getElem?_range hi,
      Option.map_some, Option.getD_some]
    split_ifs <;> simp

/-- **the root tables built by `MultiZmodP::new`** (model `rootsPacked`): no panic site, and level `k` holds
`2^(k-1)` forward powers of `ω_k = g^(2^(32-k))` followed by `2^(k-1)` powers of `ω_k⁻¹`, in Montgomery
form, with `ω_k^(2^(k-1)) = -1` -/
theorem rootsPacked_ok (n logsize : Nat) (m : Mzp) (h : new n logsize = some m) (hK : m.k ≤ 31) :
    ∃ rts, rootsPacked m = some rts ∧ RootsOk m rts (omk m) := by
  obtain ⟨big, eb, lb, hb⟩ := rootsBig_spec n logsize m h hK
  obtain ⟨ws, ew, hws, hom⟩ := omegas_spec n logsize m h hK
  have ht := tabOk_of_new n logsize m h
  -- the sanity check passes: ω^(2^logsize) = 1
  have hp2 : 0 < 2 ^ m.k := Nat.pow_pos (by decide)
  obtain ⟨chk, echk, _, _⟩ := Loops.mapM_range_total (β := Unit) () (Q := fun _ _ => True)
    (rootsCheck1 m (big.getD (2 ^ m.k - 1) []) ws) m.w (by
      intro j hj
      have hpo := ht j hj
      obtain ⟨hl, hlv⟩ := hb (2 ^ m.k - 1) (by omega)
      obtain ⟨z, e1, zlt, zmf⟩ := mgMul64_mf hpo _ (ws.getD j 0) (hl.2 j hj) (lt_trans (hws.2 j hj) hpo.ltW)
      obtain ⟨v, e2, vlt, hvm⟩ := mgRedc_mf hpo z (lt_of_lt_of_le zlt (Nat.le_mul_of_pos_right _ (by decide)))
      have hz1 : mf (P m j) z = 1 := by
        have h1 : mfe m (big.getD (2 ^ m.k - 1) []) j = Om m j ^ (2 ^ m.k - 1) := hlv j hj
        have h2 : mfe m ws j = Om m j := hom j hj
        unfold mfe at h1 h2
        rw [zmf, h1, h2, ← pow_succ, Nat.sub_add_cancel hp2, Om_pow_full n logsize m h j hj hK]
      have hv1 : v = 1 := natCast_inj_lt vlt hpo.pos (by rw [hvm, hz1, Nat.cast_one])
      refine ⟨(), ?_, trivial⟩
      unfold rootsCheck1
      show (match mgMul64 (P m j) _ _ with | none => none | some x => _) = _
      rw [e1]
      simp only
      show (match Ymq.Mg64.mgRedc (P m j) (P m j - 2) z with | none => none | some v => _) = _
      rw [e2]
      simp only
      rw [if_pos hv1])
  refine ⟨(List.range (m.k + 1)).map (packLevel m.k big), by
    unfold rootsPacked; rw [ew, eb]; simp only; rw [echk], ?_⟩
  refine ⟨fun j k d hj h1 hk => omk_sq n logsize m h hK j hj k d h1 hk,
    fun j k d hj h1 hk => omk_half n logsize m h hK j hj k d h1 hk,
    fun j k hj h1 hk => omk_inv n logsize m h hK j hj k h1 hk, fun k h1 hk => ?_⟩
  obtain ⟨hlen, hent⟩ := packLevel_getD m.k big k h1
  have h2k : 2 ^ k = 2 ^ (k - 1) + 2 ^ (k - 1) := by
    have : 2 ^ k = 2 * 2 ^ (k - 1) := by rw [← pow_succ']; congr 1; omega
    omega
  have hidx : ∀ idx, idx < 2 ^ k → idx * 2 ^ (m.k - k) < 2 ^ m.k := fun idx hidx =>
    calc idx * 2 ^ (m.k - k) < 2 ^ k * 2 ^ (m.k - k) := Nat.mul_lt_mul_of_pos_right hidx (Nat.pow_pos (by decide))
      _ = 2 ^ m.k := by rw [← pow_add]; congr 1; omega
  -- entry `i` holds `ω_k^i`, entry `2^(k-1) + i` holds `ω_k^(-i)`
  have hfb : ∀ i, i < 2 ^ (k - 1) →
      (EltOk m ((packLevel m.k big k).getD i []) ∧
        ∀ j, j < m.w → mfe m ((packLevel m.k big k).getD i []) j = omk m j k true ^ i) ∧
      (EltOk m ((packLevel m.k big k).getD (2 ^ (k - 1) + i) []) ∧
        ∀ j, j < m.w → mfe m ((packLevel m.k big k).getD (2 ^ (k - 1) + i) []) j = omk m j k false ^ i) := by
    intro i hi
    rw [(hent i hi).1, (hent i hi).2]
    obtain ⟨f1, f2⟩ := hb _ (hidx i (by omega))
    obtain ⟨b1, b2⟩ := hb _ (hidx (if i = 0 then 0 else 2 ^ k - i) (by split_ifs <;> omega))
    refine ⟨⟨f1, fun j hj => ?_⟩, b1, fun j hj => ?_⟩
    · rw [f2 j hj, Nat.mul_comm, pow_mul]; rfl
    · rw [b2 j hj, Nat.mul_comm, pow_mul]
      show _ = Ymq.Dft.invRoot (Om m j ^ 2 ^ (m.k - k)) k ^ i
      split_ifs with h0
      · rw [h0, pow_zero, pow_zero]
      · exact Ymq.Dft.invRoot_pow (Om_level n logsize m h hK j hj k h1 hk).2 i (by omega)
  refine ⟨packLevel m.k big k, by rw [List.getElem?_map, List.getElem?_range (by omega)]; rfl,
    .of_getD (hlen.trans h2k.symm) fun i hi => ?_, fun i hi j hj => ⟨(hfb i hi).1.2 j hj, (hfb i hi).2.2 j hj⟩⟩
  by_cases hlt : i < 2 ^ (k - 1)
  · exact (hfb i hlt).1.1
  · have := (hfb (i - 2 ^ (k - 1)) (by omega)).2.1
    rwa [Nat.add_sub_cancel' (by omega)] at this

end Ymq.Crt
