/-
Second witness of the early termination of `SparseMat::detz`, with `det = advDet` (a literal) proved in Lean.

`advMat2` is `advMat` (Ymq/Lemmas/WiedemannWitness.lean) with the digit column moved to the last
position: column `j ≤ 13` has `-1` in row `j` and `B = 16384` in row `j + 1`, the last column holds
the digits `d_0 … d_14`. Right multiplication by the unit upper triangular matrix `advU` (last
column = the Horner partial sums `c_i = d_i + B c_(i-1)`) gives the lower triangular matrix `advL`
with diagonal `-1, …, -1, T`, hence `det = (-1)^14 T = T = Σ d_i B^(14-i) = 108 · p_0 p_1 p_2 p_3`.
Both matrices are therefore singular modulo every divisor of `advDet` (`adv_singular`,
`adv2_singular`; `advMat` is `advMat2` with its columns rotated, `adv_det`).
The real code returns 0 for this matrix in both profiles (`im_det_sparse`, WITNESS_ZERO_ROT of
props/c19_wied.py).
-/
import Ymq.Lemmas.WiedemannWitness
import Ymq.Lemmas.WiedemannKrylov
import Mathlib.LinearAlgebra.Matrix.Block

namespace Ymq.Wied
open Matrix

def advMat2 : Mat := [
  [(0, -1), (14, 21)],
  [(0, 16384), (1, -1), (14, 5461)],
  [(1, 16384), (2, -1), (14, 5461)],
  [(2, 16384), (3, -1), (14, 4926)],
  [(3, 16384), (4, -1), (14, 8192)],
  [(4, 16384), (5, -1)],
  [(5, 16384), (6, -1), (14, 4645)],
  [(6, 16384), (7, -1), (14, -2432)],
  [(7, 16384), (8, -1), (14, -1)],
  [(8, 16384), (9, -1), (14, 535)],
  [(9, 16384), (10, -1), (14, -1832)],
  [(10, 16384), (11, -1), (14, 684)],
  [(11, 16384), (12, -1), (14, -5528)],
  [(12, 16384), (13, -1), (14, -5929)],
  [(13, 16384), (14, 6260)]]

/-- the true determinant -/
def advDet : Int := 2142584058999773599800257773214217008184610623453022075082868

/-- the Horner partial sums `c_i = d_i + B c_(i-1)`, `i ≤ 13` (`c_14 = advDet`) -/
def advC : List Int := [21, 349525, 5726623061, 93824992236350, 1537228672800366592,
  25185954575161206243328, 412646679759441203090690597, 6760803201178684671437874738816,
  110768999648111569656838139720761343, 1814839290234659957257636081184953844247,
  29734326931204668739709109554134283784141016, 487167212440857292631394050934936105519366406828,
  7981747608631005882472760130517993152829299209464424,
  130772952819810400378433701978406799815955238247865116887]

def advU : Matrix (Fin 15) (Fin 15) ℤ :=
  fun i j => if i = j then 1 else if j = 14 then advC.getD i.val 0 else 0

def advL : Matrix (Fin 15) (Fin 15) ℤ :=
  fun i j =>
    if i = j then (if i = 14 then advDet else -1) else if j.val + 1 = i.val then 16384 else 0

/-- a row list as an integer matrix (duplicate columns add up) -/
def intMatOf (n : ℕ) (m : Mat) : Matrix (Fin n) (Fin n) ℤ :=
  fun i j => ((m.getD i []).map (fun je => if je.1 = j.val then je.2 else 0)).sum

theorem adv2_valid : mkMat advMat2 = some advMat2 := by decide +kernel

/-- moving a column changes neither the norm nor the size, so the moduli are those of `advMat` -/
theorem adv2_primes : selectPrimes Ymq.Mg64.isprime64 advMat2 = some advPrimes := by
  have hn : norm advMat2 = norm advMat := by decide +kernel
  have hl : advMat2.length = advMat.length := by decide
  rw [selectPrimes_congr _ hn hl]
  exact adv_primes

theorem adv2_mul : intMatOf 15 advMat2 * advU = advL := by decide +kernel

theorem adv2_det : (intMatOf 15 advMat2).det = advDet := by
  have hU : advU.det = 1 := by
    have h : advU.BlockTriangular id := fun i j (h : j < i) => by
      have h1 : i ≠ j := (ne_of_lt h).symm
      have h2 : j ≠ 14 := fun e => by subst e; exact absurd h (by decide +revert)
      simp only [advU, h1, h2, if_false]
    rw [Matrix.det_of_upperTriangular h]
    exact Finset.prod_eq_one fun i _ => if_pos rfl
  have hL : advL.det = advDet := by
    have h : ∀ i j : Fin 15, i < j → advL i j = 0 := fun i j h => by
      have h1 : i ≠ j := ne_of_lt h
      have h2 : ¬ j.val + 1 = i.val := by have : i.val < j.val := h; omega
      simp only [advL, h1, h2, if_false]
    rw [Matrix.det_of_lowerTriangular _ h]; decide +kernel
  have := congrArg Matrix.det adv2_mul
  rw [Matrix.det_mul, hU, mul_one, hL] at this
  exact this

theorem advDet_ne_zero : advDet ≠ 0 := by decide

theorem matOf_eq_map (p n : ℕ) (m : Mat) :
    matOf p n m = (intMatOf n m).map (fun x => ((x : Int) : ZMod p)) := by
  ext i j
  simp only [matOf, intMatOf, Matrix.map_apply, Int.cast_list_sum, List.map_map]
  congr 1
  apply List.map_congr_left
  intro je _
  simp only [Function.comp]
  split <;> simp

theorem det_matOf (p n : ℕ) (m : Mat) :
    (matOf p n m).det = (((intMatOf n m).det : Int) : ZMod p) := by
  rw [matOf_eq_map, Int.cast_det]

/-- `advMat` is `advMat2` with the last column moved to the front -/
theorem adv_det : (intMatOf 15 advMat).det =
    Equiv.Perm.sign (Equiv.addRight (14 : Fin 15)) * advDet := by
  have h : intMatOf 15 advMat =
      (intMatOf 15 advMat2).submatrix id (Equiv.addRight (14 : Fin 15)) := by decide +kernel
  rw [h, Matrix.det_permute', adv2_det, Int.cast_id]

theorem adv2_singular (q : ℕ) (h : (q : Int) ∣ advDet) : (matOf q 15 advMat2).det = 0 := by
  rw [det_matOf, adv2_det, ZMod.intCast_zmod_eq_zero_iff_dvd]; exact h

theorem adv_singular (q : ℕ) (h : (q : Int) ∣ advDet) : (matOf q 15 advMat).det = 0 := by
  rw [det_matOf, adv_det, ZMod.intCast_zmod_eq_zero_iff_dvd]; exact Dvd.dvd.mul_left h _

theorem adv_first_block_dvd :
    ∀ q ∈ [375299968947389, 375299968947089, 375299968946789, 375299968946759],
      ((q : ℕ) : Int) ∣ advDet := by decide +kernel

end Ymq.Wied
