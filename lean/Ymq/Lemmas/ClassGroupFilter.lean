/-
Soundness of the relation filter (model of `RelFilterSparse`, Ymq/Model/ClassGroupFilter.lean):
whatever strategy the filter follows (choice of pivots, trimming, overflow exits, removal of
duplicates), every row it keeps is a consequence of the input relations and every saved relation
`p = ∏ l^e` holds: for any assignment `g` of elements of an abelian group to primes that kills the
input relations, the kept rows are killed and `g p = Σ e • g l` for every saved relation.
-/
import Ymq.Model.ClassGroupFilter
import Mathlib.Algebra.Group.Basic
import Mathlib.Algebra.BigOperators.Group.List.Basic
import Mathlib.Algebra.Module.Basic
import Mathlib.Tactic.Abel
import Mathlib.Tactic.Module

namespace Ymq.ClassGroup.Filter
open Ymq.ClassGroup

variable {G : Type*} [AddCommGroup G]

def rowVal (g : Nat → G) (r : Row) : G := (r.map fun pe => pe.2 • g pe.1).sum

@[simp] theorem rowVal_nil (g : Nat → G) : rowVal g [] = 0 := by simp [rowVal]

@[simp] theorem rowVal_cons (g : Nat → G) (x : Nat × Int) (t : Row) :
    rowVal g (x :: t) = x.2 • g x.1 + rowVal g t := by simp [rowVal]

theorem rowVal_append (g : Nat → G) (a b : Row) : rowVal g (a ++ b) = rowVal g a + rowVal g b := by
  simp [rowVal]

theorem rowVal_reverse (g : Nat → G) (a : Row) : rowVal g a.reverse = rowVal g a := by
  induction a with
  | nil => simp
  | cons x t ih => simp [rowVal_append, ih, add_comm]

theorem rowVal_neg (g : Nat → G) (a : Row) :
    rowVal g (a.map fun pe => (pe.1, -pe.2)) = -rowVal g a := by
  induction a with
  | nil => simp
  | cons x t ih => simp [ih, add_comm]

theorem rowVal_insertBy (g : Nat → G) (lt : Nat × Int → Nat × Int → Bool) (x : Nat × Int) (l : Row) :
    rowVal g (insertBy lt x l) = x.2 • g x.1 + rowVal g l := by
  induction l with
  | nil => simp [insertBy]
  | cons y t ih =>
    simp only [insertBy]
    split
    · simp
    · simp only [rowVal_cons, ih]; abel

theorem rowVal_sortBy (g : Nat → G) (lt : Nat × Int → Nat × Int → Bool) (l : Row) :
    rowVal g (sortBy lt l) = rowVal g l := by
  unfold sortBy
  induction l with
  | nil => simp
  | cons x t ih => simp only [List.foldr_cons, rowVal_insertBy, ih, rowVal_cons]

theorem mem_insertBy {α} {lt : α → α → Bool} {x y : α} {l : List α} (h : y ∈ insertBy lt x l) :
    y = x ∨ y ∈ l := by
  induction l with
  | nil => simpa [insertBy] using h
  | cons z t ih =>
    simp only [insertBy] at h
    split_ifs at h <;> simp only [List.mem_cons] at h ⊢
    · exact h
    · exact h.elim (fun h => Or.inr (Or.inl h)) fun h => (ih h).imp_right Or.inr

theorem mem_sortBy {α} {lt : α → α → Bool} {y : α} {l : List α} (h : y ∈ sortBy lt l) : y ∈ l := by
  unfold sortBy at h
  induction l with
  | nil => simp at h
  | cons x t ih =>
    simp only [List.foldr_cons] at h
    rcases mem_insertBy h with h | h
    · exact h ▸ List.mem_cons_self
    · exact List.mem_cons_of_mem _ (ih h)

theorem mem_dedup {α} [BEq α] {y : α} : ∀ {l : List α}, y ∈ dedup l → y ∈ l
  | [], h => by simp [dedup] at h
  | [x], h => by simpa [dedup] using h
  | x :: z :: t, h => by
    simp only [dedup] at h
    split at h
    · exact List.mem_cons_of_mem _ (mem_dedup h)
    · rcases List.mem_cons.1 h with h | h
      · exact h ▸ List.mem_cons_self
      · exact List.mem_cons_of_mem _ (mem_dedup h)

theorem chk32_eq {z e : Int} (h : chk32 z = some e) : e = z := by
  unfold chk32 at h
  split at h
  · exact (Option.some.inj h).symm
  · simp at h

/-- the three moves of the merge on the value `res + ri + nc • rj`: the head of `ri` goes to `res`;
the head of `rj`, scaled, goes to `res`; both heads are combined -/
theorem merge_moveI (x r t j : G) : x + r + t + j = r + (x + t) + j := by abel

theorem merge_moveJ (nc e : Int) (x r i t : G) :
    (e * nc) • x + r + i + nc • t = r + i + nc • (e • x + t) := by module

theorem merge_moveIJ (nc ei ej : Int) (x r i t : G) :
    (ei + ej * nc) • x + r + i + nc • t = r + (ei • x + i) + nc • (ej • x + t) := by module

theorem merge_val (g : Nat → G) (nc : Int) : ∀ (f : Nat) (ri rj res : Row) (added : List Nat) (out : Row)
    (ad : List Nat), ri.length + rj.length < f → merge nc f ri rj res added = .ok out ad →
    rowVal g out = rowVal g res + rowVal g ri + nc • rowVal g rj
  | 0, _, _, _, _, _, _, hf, _ => by omega
  | f + 1, [], [], res, added, out, ad, _, h => by
    simp only [merge, Merge.ok.injEq] at h
    rw [← h.1, rowVal_reverse, rowVal_nil, smul_zero, add_zero, add_zero]
  | f + 1, (pi, ei) :: ti, [], res, added, out, ad, hf, h => by
    rw [merge] at h
    rw [merge_val g nc f ti [] ((pi, ei) :: res) added out ad
      (by simp only [List.length_cons, List.length_nil] at hf ⊢; omega) h, rowVal_cons, rowVal_cons]
    exact merge_moveI _ _ _ _
  | f + 1, [], (pj, ej) :: tj, res, added, out, ad, hf, h => by
    rw [merge] at h
    split at h
    · cases h
    · rename_i e he
      rw [merge_val g nc f [] tj ((pj, e) :: res) (pj :: added) out ad
        (by simp only [List.length_cons, List.length_nil] at hf ⊢; omega) h, chk32_eq he,
        rowVal_cons, rowVal_cons]
      exact merge_moveJ _ _ _ _ _ _
  | f + 1, (pi, ei) :: ti, (pj, ej) :: tj, res, added, out, ad, hf, h => by
    rw [merge] at h
    have hf' : ti.length + tj.length + 1 < f := by simp only [List.length_cons] at hf; omega
    split at h
    · rw [merge_val g nc f ti ((pj, ej) :: tj) ((pi, ei) :: res) added out ad
        (by simp only [List.length_cons]; omega) h, rowVal_cons, rowVal_cons (x := (pi, ei))]
      exact merge_moveI _ _ _ _
    · split at h
      · split at h
        · cases h
        · rename_i e he
          rw [merge_val g nc f ((pi, ei) :: ti) tj ((pj, e) :: res) (pj :: added) out ad
            (by simp only [List.length_cons]; omega) h, chk32_eq he, rowVal_cons,
            rowVal_cons (x := (pj, ej))]
          exact merge_moveJ _ _ _ _ _ _
      · rename_i h1 h2
        have hpp : pj = pi := by omega
        subst hpp
        split at h
        · cases h
        · rename_i m hm
          split at h
          · cases h
          · rename_i e he
            rw [merge_val g nc f ti tj (if e ≠ 0 then (pj, e) :: res else res) added out ad
              (by omega) h]
            have hres : rowVal g (if e ≠ 0 then (pj, e) :: res else res) = e • g pj + rowVal g res := by
              by_cases h0 : e = 0
              · rw [if_neg (not_not.2 h0), h0, zero_smul, zero_add]
              · rw [if_pos h0, rowVal_cons]
            rw [hres, chk32_eq he, chk32_eq hm, rowVal_cons, rowVal_cons]
            exact merge_moveIJ _ _ _ _ _ _ _

/-- every kept row is killed by `g`, every saved relation `p = rel` holds under `g` -/
def FInv (g : Nat → G) (s : FSt) : Prop :=
  (∀ r ∈ s.rows, rowVal g r = 0) ∧ (∀ pr ∈ s.removed, g pr.1 = rowVal g pr.2)

theorem addIndex_inv {g : Nat → G} {s : FSt} (i p : Nat) (h : FInv g s) : FInv g (s.addIndex i p) := h

theorem addIndex_fold_inv {g : Nat → G} (i : Nat) : ∀ (l : List Nat) (s : FSt), FInv g s →
    FInv g (l.foldl (fun s p => s.addIndex i p) s)
  | [], _, h => h
  | p :: t, s, h => addIndex_fold_inv i t (s.addIndex i p) (addIndex_inv i p h)

theorem addIndex_fold_rows (i : Nat) : ∀ (l : List Nat) (s : FSt),
    (l.foldl (fun s p => s.addIndex i p) s).rows = s.rows ∧
    (l.foldl (fun s p => s.addIndex i p) s).removed = s.removed
  | [], _ => ⟨rfl, rfl⟩
  | p :: t, s => by
    have := addIndex_fold_rows i t (s.addIndex i p)
    simpa [FSt.addIndex] using this

theorem set_inv {g : Nat → G} {s : FSt} {i : Nat} {r : Row} (h : FInv g s) (hr : rowVal g r = 0)
    {s' : FSt} (hrows : s'.rows = s.rows.set i r) (hrem : s'.removed = s.removed) : FInv g s' := by
  refine ⟨?_, by rw [hrem]; exact h.2⟩
  intro x hx
  rw [hrows] at hx
  rcases List.mem_or_eq_of_mem_set hx with hx | hx
  · exact h.1 x hx
  · rw [hx]; exact hr

theorem removeRow_inv {g : Nat → G} {s s' : FSt} {idx : Nat} (h : FInv g s)
    (hs : s.removeRow idx = some s') : FInv g s' := by
  unfold FSt.removeRow at hs
  split at hs
  · simp at hs
  · split at hs
    · simp only [Option.some.injEq] at hs; subst hs; exact h
    · split at hs
      · simp at hs
      · split at hs
        · simp at hs
        · simp only [Option.some.injEq] at hs
          subst hs
          exact set_inv h (rowVal_nil g) rfl rfl

/-- `P` holds of the state an `Out` carries, if any -/
def Out.Holds (P : FSt → Prop) : Out → Prop
  | .ok s => P s
  | .ovf s => P s
  | .panic => True

theorem setRow_inv {g : Nat → G} {s : FSt} {i li : Nat} {res : Row} (h : FInv g s)
    (hr : rowVal g res = 0) : (s.setRow i li res).Holds (FInv g) := by
  unfold FSt.setRow
  split
  · trivial
  · split
    · trivial
    · exact set_inv h hr rfl rfl

theorem rowsub_inv {g : Nat → G} {s : FSt} {i j : Nat} {c : Int} (h : FInv g s) :
    (s.rowsub i j c).Holds (FInv g) := by
  unfold FSt.rowsub
  split
  · trivial
  · split
    · rename_i ri rj nc hri hrj hnc
      split
      · exact addIndex_fold_inv i _ _ h
      · rename_i res added hm
        have hval := merge_val g nc _ ri rj [] [] res added (by omega) hm
        rw [h.1 ri (List.mem_of_getElem? hri), h.1 rj (List.mem_of_getElem? hrj), rowVal_nil, smul_zero,
          add_zero, add_zero] at hval
        exact setRow_inv (addIndex_fold_inv (g := g) i added s h) hval
    · trivial

/-- value of a row split at the first entry with prime `p` -/
theorem rowVal_erase (g : Nat → G) (p : Nat) : ∀ rel : Row,
    rowVal g rel = ((rel.lookup p).getD 0) • g p + rowVal g (rel.eraseP fun pe => pe.1 = p)
  | [] => by simp
  | (q, e) :: t => by
    by_cases hq : q = p
    · subst hq
      simp [List.lookup]
    · have hne : (p == q) = false := by simpa using fun h => hq h.symm
      have h1 : ((q, e) :: t).lookup p = t.lookup p := by simp [List.lookup, hne]
      have h2 : ((q, e) :: t).eraseP (fun pe => pe.1 = p) = (q, e) :: t.eraseP (fun pe => pe.1 = p) :=
        List.eraseP_cons_of_neg (by simpa using hq)
      rw [h1, h2, rowVal_cons, rowVal_cons, rowVal_erase g p t]; abel

theorem saveRemoved_inv {g : Nat → G} {s s' : FSt} {p : Nat} {rel : Row} (h : FInv g s)
    (hrel : rowVal g rel = 0) (hs : s.saveRemoved p rel = some s') : FInv g s' := by
  unfold FSt.saveRemoved at hs
  simp only at hs
  split at hs
  · simp at hs
  · rename_i hci
    simp only [Option.some.injEq] at hs
    subst hs
    refine ⟨h.1, ?_⟩
    intro pr hpr
    simp only [List.mem_append, List.mem_singleton] at hpr
    rcases hpr with hpr | hpr
    · exact h.2 pr hpr
    · subst hpr
      have hsplit := rowVal_erase g p rel
      rw [hrel] at hsplit
      simp only
      have hci' : ((rel.lookup p).getD 0) = 1 ∨ ((rel.lookup p).getD 0) = -1 := by
        have : ((rel.lookup p).getD 0).natAbs = 1 := by
          by_contra hne; exact hci hne
        omega
      rcases hci' with h1 | h1
      · rw [if_pos h1, rowVal_neg]
        rw [h1, one_smul] at hsplit
        exact eq_neg_of_add_eq_zero_left hsplit.symm
      · rw [if_neg (by omega)]
        rw [h1, neg_smul, one_smul] at hsplit
        have : -g p + rowVal g (List.eraseP (fun pe => decide (pe.1 = p)) rel) = 0 := hsplit.symm
        exact (neg_add_eq_zero.1 this)

theorem foldl_inv {α β : Type} (Q : β → Prop) (f : β → α → β) (h : ∀ b a, Q b → Q (f b a)) :
    ∀ (l : List α) (b : β), Q b → Q (l.foldl f b)
  | [], _, hb => hb
  | a :: t, b, hb => foldl_inv Q f h t (f b a) (h b a hb)

theorem pivot_inv {g : Nat → G} {s : FSt} {p : Nat} (h : FInv g s) : (s.pivot p).Holds (FInv g) := by
  unfold FSt.pivot
  split
  · trivial
  · rename_i nz _
    dsimp only
    split
    · trivial
    · exact h
    · rename_i idx _
      split
      · trivial
      · rename_i ci _
        generalize hout : List.foldl _ (Out.ok s) nz = out
        have hf : out.Holds (FInv g) := by
          rw [← hout]
          refine foldl_inv (Out.Holds (FInv g)) _ ?_ nz (.ok s) h
          intro acc j hacc
          cases acc with
          | panic => trivial
          | ovf sa => exact hacc
          | ok sa =>
            dsimp only
            split
            · exact hacc
            · split
              · trivial
              · split
                · exact hacc
                · split
                  · trivial
                  · exact rowsub_inv hacc
        cases out with
        | panic => trivial
        | ovf s1 => exact hf
        | ok s1 =>
          dsimp only
          split
          · trivial
          · rename_i ri hri
            split
            · trivial
            · rename_i s2 hs2
              split
              · trivial
              · rename_i s3 hs3
                have hinv2 : FInv g s2 := removeRow_inv hf hs2
                exact saveRemoved_inv (s := { s2 with weight := mErase p s2.weight, nonzero := mErase p s2.nonzero })
                  hinv2 (hf.1 ri (List.mem_of_getElem? hri)) hs3

theorem pivotLoop_inv {g : Nat → G} : ∀ (fuel : Nat) (b : Bool) (s : FSt), FInv g s →
    (FSt.pivotLoop fuel b s).Holds (FInv g)
  | 0, _, _, _ => trivial
  | fuel + 1, false, s, h => by
    rw [FSt.pivotLoop]
    split
    · exact h
    · split
      · exact pivotLoop_inv fuel true _ h
      · exact pivotLoop_inv fuel true _ h
  | fuel + 1, true, s, h => by
    rw [FSt.pivotLoop]
    split
    · exact pivotLoop_inv fuel false _ h
    · dsimp only
      split
      · split
        · trivial
        · split
          · exact pivotLoop_inv fuel true _ h
          · split
            · exact pivot_inv (s := { s with nextelims := s.nextelims.dropLast }) h
            · exact pivotLoop_inv fuel true _ h
      · exact pivotLoop_inv fuel true _ h

theorem trim_inv {g : Nat → G} {s s' : FSt} {count t : Nat} (h : FInv g s)
    (hs : s.trim count = some (s', t)) : FInv g s' := by
  unfold FSt.trim at hs
  simp only at hs
  split at hs
  · simp at hs
  · split at hs
    · simp at hs
    · rename_i s1 hs1
      simp only [Option.some.injEq, Prod.mk.injEq] at hs
      obtain ⟨rfl, _⟩ := hs
      refine foldl_inv (fun acc : Option FSt => ∀ s0, acc = some s0 → FInv g s0) _ ?_ _ (some s)
        (fun s0 hs0 => by cases hs0; exact h) s1 hs1
      intro acc idx hacc s0 hs0
      cases acc with
      | none => cases hs0
      | some sa =>
        dsimp only at hs0
        split at hs0
        · cases hs0
        · split at hs0
          · exact removeRow_inv (hacc sa rfl) hs0
          · cases hs0; exact hacc _ rfl

theorem mem_swapRemove {α} {l : List α} {i : Nat} {x : α} (h : x ∈ swapRemove l i) : x ∈ l := by
  unfold swapRemove at h
  split at h
  · exact h
  · rename_i last hlast
    split at h
    · exact List.mem_of_mem_dropLast h
    · have := List.mem_of_mem_dropLast h
      rcases List.mem_or_eq_of_mem_set this with h1 | h1
      · exact h1
      · rw [h1]; exact List.mem_of_getLast? hlast

theorem mem_dropEmpty : ∀ (fuel i n0 : Nat) (rows : List Row) (x : Row),
    x ∈ dropEmpty fuel i n0 rows → x ∈ rows
  | 0, _, _, _, _, h => by simpa [dropEmpty] using h
  | fuel + 1, i, n0, rows, x, h => by
    rw [dropEmpty] at h
    split at h
    · exact h
    · split at h
      · exact mem_swapRemove (mem_dropEmpty fuel i n0 _ x h)
      · exact mem_dropEmpty fuel (i + 1) n0 rows x h

theorem removeDuplicates_inv {g : Nat → G} {s : FSt} (h : FInv g s) : FInv g s.removeDuplicates.1 := by
  unfold FSt.removeDuplicates
  refine ⟨?_, h.2⟩
  intro r hr
  simp only at hr
  have h1 := mem_sortBy (mem_dedup hr)
  obtain ⟨r0, hr0, rfl⟩ := List.mem_map.1 h1
  have hv : rowVal g r0 = 0 := h.1 r0 (mem_dropEmpty _ _ _ _ _ hr0)
  split
  · split
    · rw [rowVal_neg, hv, neg_zero]
    · exact hv
  · exact hv

theorem maybeTrim_inv {g : Nat → G} {s s' : FSt} (h : FInv g s) (hs : maybeTrim s = some s') :
    FInv g s' := by
  unfold maybeTrim at hs
  split at hs
  · split at hs
    · simp at hs
    · rename_i s2 t hs2
      simp only [Option.some.injEq] at hs
      subst hs
      exact trim_inv h hs2
  · simp only [Option.some.injEq] at hs; subst hs; exact h

theorem filterLoop_inv {g : Nat → G} : ∀ (fuel : Nat) (s s' : FSt), FInv g s →
    filterLoop fuel s = some s' → FInv g s'
  | 0, _, _, _, h => by simp [filterLoop] at h
  | fuel + 1, s, s', hinv, h => by
    rw [filterLoop] at h
    have hp := pivotLoop_inv (g := g) s.pivotFuel false s hinv
    unfold FSt.pivotOne at h
    split at h
    · simp at h
    · rename_i s1 hs1
      rw [hs1] at hp
      cases h
      exact hp
    · rename_i s1 hs1
      rw [hs1] at hp
      split at h
      · simp at h
      · rename_i s2 hs2
        exact filterLoop_inv fuel s2 s' (maybeTrim_inv hp hs2) h

theorem new_inv {g : Nat → G} (rels : List Rel) (hin : ∀ r ∈ rels, rowVal g (relRow r) = 0) :
    FInv g (FSt.new rels) := by
  unfold FSt.new
  refine ⟨?_, by simp⟩
  intro row hrow
  simp only [List.mem_filterMap] at hrow
  obtain ⟨r, hr, hrr⟩ := hrow
  unfold rowOf at hrr
  split at hrr
  · simp at hrr
  · simp only [Option.some.injEq] at hrr
    rw [← hrr, rowVal_sortBy]
    exact hin r hr

end Ymq.ClassGroup.Filter
