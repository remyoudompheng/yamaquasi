/-
The loop invariant of the Berlekamp–Massey model and its preservation by one turn of the loop
(`swapIf`, `stepOne` / `stepTwo`, the trailing degree scan): no panic site is reached and the
measure `df + dg` decreases.
-/
import Ymq.Lemmas.BerlekampMasseyPoly

namespace Ymq.BM
open Polynomial

variable {p : ℕ} {o : Ops} {κ : ZMod p} {n : ℕ} {S : (ZMod p)[X]}

/-- The loop invariant at the head of the loop (before the swap).
`gh` is the comment `u * seq = f mod x^N`, `v * seq = g mod x^N` of the source, with the ghost
cofactors `a`, `b` of `x^n` and the determinant `a v - b u` (a non-zero constant), which is what
makes the returned cofactor primitive. `du`, `dv` are upper bounds of the degrees of `u`, `v`
(`dv` is not always the exact degree: the scan of lines 673/690 never lowers it), `df`, `dg` are
exact unless the vector is zero (then the degree is 0). `b1`, `b2` are the degree bookkeeping of
Euclid's algorithm (`deg t_i + deg r_{i-1} = n`) as inequalities; with `hm` they give
`du ≤ n - n/2` at the return. -/
structure Inv (p n : ℕ) (S : (ZMod p)[X]) (s : St) : Prop where
  lu : s.u.length = n
  lv : s.v.length = n
  lf : s.f.length = n
  lg : s.g.length = n
  ru : Red p s.u
  rv : Red p s.v
  rf : Red p s.f
  rg : Red p s.g
  zu : ∀ i, s.du < i → gd s.u i = 0
  zv : ∀ i, s.dv < i → gd s.v i = 0
  zf : ∀ i, s.df < i → gd s.f i = 0
  zg : ∀ i, s.dg < i → gd s.g i = 0
  dfn : s.df < n
  dgn : s.dg < n
  b1 : s.du + s.dg ≤ n
  b2 : s.dv + s.df ≤ n
  tf : gd s.f s.df ≠ 0 ∨ s.df = 0
  tg : gd s.g s.dg ≠ 0 ∨ s.dg = 0
  hm : n / 2 ≤ s.df ∨ n / 2 ≤ s.dg
  gh : ∃ a b : (ZMod p)[X], ∃ c : ZMod p, c ≠ 0 ∧
    toPoly p s.f = a * X ^ n + toPoly p s.u * S ∧
    toPoly p s.g = b * X ^ n + toPoly p s.v * S ∧
    a * toPoly p s.v - b * toPoly p s.u = C c

theorem inv_swap {s : St} (h : Inv p n S s) : Inv p n S (swapIf s) := by
  unfold swapIf
  split
  · obtain ⟨a, b, c, hc, e1, e2, e3⟩ := h.gh
    exact
      { lu := h.lv, lv := h.lu, lf := h.lg, lg := h.lf, ru := h.rv, rv := h.ru, rf := h.rg,
        rg := h.rf, zu := h.zv, zv := h.zu, zf := h.zg, zg := h.zf, dfn := h.dgn, dgn := h.dfn,
        b1 := h.b2, b2 := h.b1, tf := h.tg, tg := h.tf
        hm := h.hm.symm
        gh := ⟨b, a, -c, neg_ne_zero.mpr hc, e2, e1, by
          rw [map_neg]; linear_combination -e3⟩ }
  · exact h

theorem swap_le (s : St) : (swapIf s).df ≤ (swapIf s).dg := by
  unfold swapIf
  split
  · show s.dg ≤ s.df; omega
  · omega

theorem swap_sum (s : St) : (swapIf s).df + (swapIf s).dg = s.df + s.dg := by
  unfold swapIf
  split
  · show s.dg + s.df = s.df + s.dg; omega
  · rfl

/-- what `stepOne` / `stepTwo` establish about the new `g`, `v`, `dv` (before the trailing scan of
`dg`); the other fields of the state are unchanged -/
structure Mid (p n : ℕ) (s : St) (g' v' : List ℕ) (dv' : ℕ) : Prop where
  lv : v'.length = n
  lg : g'.length = n
  rv : Red p v'
  rg : Red p g'
  zv : ∀ i, dv' < i → gd v' i = 0
  zg : ∀ i, s.dg ≤ i → gd g' i = 0
  bv : dv' + s.df ≤ n
  /-- one quotient `Q` for both pairs: the Euclid step `(g, v) ← (g, v) - Q · (f, u)` -/
  pq : ∃ Q : (ZMod p)[X], toPoly p g' = toPoly p s.g - Q * toPoly p s.f ∧
    toPoly p v' = toPoly p s.v - Q * toPoly p s.u

theorem gd_zero_of_sub (a a' b : List ℕ) (Q : (ZMod p)[X])
    (e : toPoly p a' = toPoly p a - Q * toPoly p b) (ra : Red p a') (i : ℕ)
    (h1 : gd a i = 0) (h2 : (Q * toPoly p b).coeff i = 0) : gd a' i = 0 := by
  have := congrArg (fun P => P.coeff i) e
  simp only [coeff_sub, coeff_toPoly, h2, sub_zero] at this
  rw [← cast_eq_zero_of_lt (ra i)]
  unfold co at this
  rw [this, h1]; simp

theorem co_eq_of_sub (a a' b : List ℕ) (Q : (ZMod p)[X])
    (e : toPoly p a' = toPoly p a - Q * toPoly p b) (i : ℕ) :
    co p a' i = co p a i - (Q * toPoly p b).coeff i := by
  have := congrArg (fun P => P.coeff i) e
  simpa only [coeff_sub, coeff_toPoly] using this

theorem scan_after (v1 : List ℕ) (dv top : ℕ) (hlen : top < v1.length) (hdv : dv ≤ v1.length)
    (hz : ∀ i, dv < i → top < i → gd v1 i = 0) :
    ∃ r, scanDeg v1 (top + 1 - dv) dv dv = some r ∧ r ≤ max dv top ∧ ∀ i, r < i → gd v1 i = 0 := by
  obtain ⟨r, e1, e2⟩ := scanDeg_spec v1 (top + 1 - dv) dv dv (by omega)
  refine ⟨r, e1, ?_, ?_⟩
  · rcases e2 with ⟨h1, _⟩ | ⟨h1, h2, _⟩ <;> omega
  · intro i hi
    rcases e2 with ⟨h1, h2⟩ | ⟨h1, h2, h3⟩
    · by_cases hit : i < dv + (top + 1 - dv)
      · exact h2 i (by omega) hit
      · exact hz i (by omega) (by omega)
    · by_cases hit : i < dv + (top + 1 - dv)
      · exact h3 i hi hit
      · exact hz i (by omega) (by omega)

section step

/-- Lines 679-694. `q = g[dg] / f[df]` (up to the constant `κ` of the representation), the quotient
is `Q = κ q x^(dg - df)`; `cz`: the leading terms cancel, which is `assert_eq!(g[dg], 0)`; `vz`: `v'`
vanishes above `max dv (du + dg - df)`, where the scan of `dv` stops. -/
theorem stepOne_spec (ok : OpsOK o p κ) (hn : 2 ≤ n) {s : St} (h : Inv p n S s)
    (hle : s.df ≤ s.dg) (hdf : n / 2 ≤ s.df) :
    ∃ g' v' dv', stepOne o s = some { s with g := g', v := v', dv := dv' } ∧
      Mid p n s g' v' dv' := by
  have hdf1 : 1 ≤ s.df := by omega
  have fne : gd s.f s.df ≠ 0 := h.tf.resolve_right (by omega)
  have hdfn := h.dfn
  have hdgn := h.dgn
  have hb1 := h.b1
  have hb2 := h.b2
  obtain ⟨i0, a1, a2, a3⟩ := ok.inv (gd s.f s.df) (Nat.pos_of_ne_zero fne) (h.rf _)
  obtain ⟨q, q1, q2, q3⟩ := ok.mul (gd s.g s.dg) i0 (h.rg _) a2
  obtain ⟨g1, c1, c2, c3, c4⟩ := updOne_spec ok s.f s.g h.rf h.rg (s.dg - s.df) s.df q q2
    (by rw [h.lg]; omega) (by rw [h.lf, h.lg]) h.zf
  have cz : ∀ i, s.dg ≤ i → gd g1 i = 0 := by
    intro i hi
    rw [← cast_eq_zero_of_lt (c3 i)]
    have e := co_eq_of_sub s.g g1 s.f _ c4 i
    rw [coeff_shift, if_pos (by omega), coeff_toPoly] at e
    unfold co at e
    rw [e]
    by_cases hid : i = s.dg
    · subst hid
      have : s.dg - (s.dg - s.df) = s.df := by omega
      rw [this, q3]
      linear_combination (-(gd s.g s.dg : ZMod p)) * a3
    · rw [h.zg i (by omega), h.zf (i - (s.dg - s.df)) (by omega)]; simp
  obtain ⟨v1, d1, d2, d3, d4⟩ := updOne_spec ok s.u s.v h.ru h.rv (s.dg - s.df) s.du q q2
    (by rw [h.lv]; omega) (by rw [h.lu, h.lv]) h.zu
  have vz : ∀ i, s.dv < i → s.du + (s.dg - s.df) < i → gd v1 i = 0 := by
    intro i h1 h2
    refine gd_zero_of_sub s.v v1 s.u _ d4 d3 i (h.zv i h1) ?_
    rw [coeff_shift, if_pos (by omega), coeff_toPoly, co_zero (h.zu _ (by omega))]; simp
  obtain ⟨dv', e1, e2, e3⟩ := scan_after v1 s.dv (s.du + (s.dg - s.df)) (by rw [d2, h.lv]; omega)
    (by rw [d2, h.lv]; omega) vz
  refine ⟨g1, v1, dv', ?_, ?_⟩
  · have hg : s.g[s.dg]? = some (gd s.g s.dg) := getElem?_of_lt _ _ (by rw [h.lg]; omega)
    have hf : s.f[s.df]? = some (gd s.f s.df) := getElem?_of_lt _ _ (by rw [h.lf]; omega)
    have hz : g1[s.dg]? = some (gd g1 s.dg) := getElem?_of_lt _ _ (by rw [c2, h.lg]; omega)
    rw [stepOne, bind_of_eq_some hg, bind_of_eq_some hf, bind_of_eq_some a1, bind_of_eq_some q1,
      bind_of_eq_some c1, bind_of_eq_some hz, if_neg (not_not.mpr (cz s.dg (le_refl _))),
      bind_of_eq_some d1, bind_of_eq_some e1]
  · exact
      { lv := by rw [d2, h.lv]
        lg := by rw [c2, h.lg]
        rv := d3, rg := c3, zv := e3, zg := cz
        bv := by omega
        pq := ⟨_, c4, d4⟩ }

/-- Lines 650-677, reached with `dg > df > 1`. The quotient is `Q = (κ q1 x + κ q0) x^(dg - df - 1)`
with `q1 = g[dg] / f[df]` and `q0 = (g[dg-1] - q1 f[df-1]) / f[df]` (up to `κ`): the first two terms of
the division of `g` by `f`; `cz`: the top two coefficients of `g - Q f` cancel, which are the two
`assert_eq!`; the rest as in `stepOne_spec`. -/
theorem stepTwo_spec (ok : OpsOK o p κ) (htwo : o.two = true) {s : St}
    (h : Inv p n S s) (hlt : s.df < s.dg) (hdf : n / 2 ≤ s.df) (hdf2 : 1 < s.df) :
    ∃ g' v' dv', stepTwo o s = some { s with g := g', v := v', dv := dv' } ∧
      Mid p n s g' v' dv' := by
  have fne : gd s.f s.df ≠ 0 := h.tf.resolve_right (by omega)
  have hdfn := h.dfn
  have hdgn := h.dgn
  have hb1 := h.b1
  have hb2 := h.b2
  obtain ⟨i0, a1, a2, a3⟩ := ok.inv (gd s.f s.df) (Nat.pos_of_ne_zero fne) (h.rf _)
  obtain ⟨i1, j1, j2, j3⟩ := ok.mul (gd s.f (s.df - 1)) i0 (h.rf _) a2
  obtain ⟨q1, k1, k2, k3⟩ := ok.mul (gd s.g s.dg) i0 (h.rg _) a2
  obtain ⟨q0a, l1, l2, l3⟩ := ok.mul (gd s.g (s.dg - 1)) i0 (h.rg _) a2
  obtain ⟨t, m1, m2, m3⟩ := ok.mul q1 i1 k2 j2
  obtain ⟨q0, n1, n2, n3⟩ := ok.sub q0a t l2 m2
  have hd : s.dg - s.df - 1 + s.df + 1 = s.dg := by omega
  obtain ⟨g3, c1, c2, c3, c4⟩ := updTwo_spec ok htwo s.f s.g h.rf h.rg (s.dg - s.df - 1) s.df q0 q1
    n2 k2 (by rw [h.lg]; omega) (by rw [h.lf, h.lg]) h.zf
  have cz : ∀ i, s.dg - 1 ≤ i → gd g3 i = 0 := by
    intro i hi
    rw [← cast_eq_zero_of_lt (c3 i)]
    have e := co_eq_of_sub s.g g3 s.f _ c4 i
    rw [coeff_shift2, if_pos (by omega), if_pos (by omega), coeff_toPoly, coeff_toPoly] at e
    unfold co at e
    rw [e]
    by_cases hid : i = s.dg
    · subst hid
      have x1 : s.dg - (s.dg - s.df - 1 + 1) = s.df := by omega
      have x2 : s.dg - (s.dg - s.df - 1) = s.df + 1 := by omega
      rw [x1, x2, h.zf (s.df + 1) (by omega), k3]
      linear_combination (-(gd s.g s.dg : ZMod p)) * a3
    · by_cases hid1 : i = s.dg - 1
      · subst hid1
        have x1 : s.dg - 1 - (s.dg - s.df - 1 + 1) = s.df - 1 := by omega
        have x2 : s.dg - 1 - (s.dg - s.df - 1) = s.df := by omega
        rw [x1, x2, n3, l3, m3, k3, j3]
        linear_combination (-((gd s.g (s.dg - 1) : ZMod p) -
          κ * κ * (gd s.g s.dg : ZMod p) * (gd s.f (s.df - 1) : ZMod p) * (i0 : ZMod p))) * a3
      · rw [h.zg i (by omega), h.zf (i - (s.dg - s.df - 1 + 1)) (by omega),
          h.zf (i - (s.dg - s.df - 1)) (by omega)]; simp
  obtain ⟨v3, d1, d2, d3, d4⟩ := updTwo_spec ok htwo s.u s.v h.ru h.rv (s.dg - s.df - 1) s.du q0 q1
    n2 k2 (by rw [h.lv]; omega) (by rw [h.lu, h.lv]) h.zu
  have vz : ∀ i, s.dv < i → s.du + (s.dg - s.df - 1) + 1 < i → gd v3 i = 0 := by
    intro i h1 h2
    refine gd_zero_of_sub s.v v3 s.u _ d4 d3 i (h.zv i h1) ?_
    rw [coeff_shift2, if_pos (by omega), if_pos (by omega), coeff_toPoly, coeff_toPoly,
      co_zero (h.zu _ (by omega)), co_zero (h.zu _ (by omega))]; simp
  obtain ⟨dv', e1, e2, e3⟩ := scan_after v3 s.dv (s.du + (s.dg - s.df - 1) + 1)
    (by rw [d2, h.lv]; omega) (by rw [d2, h.lv]; omega) vz
  refine ⟨g3, v3, dv', ?_, ?_⟩
  · have hg : s.g[s.dg]? = some (gd s.g s.dg) := getElem?_of_lt _ _ (by rw [h.lg]; omega)
    have hg1 : s.g[s.dg - 1]? = some (gd s.g (s.dg - 1)) :=
      getElem?_of_lt _ _ (by rw [h.lg]; omega)
    have hf : s.f[s.df]? = some (gd s.f s.df) := getElem?_of_lt _ _ (by rw [h.lf]; omega)
    have hf1 : s.f[s.df - 1]? = some (gd s.f (s.df - 1)) :=
      getElem?_of_lt _ _ (by rw [h.lf]; omega)
    have hz : g3[s.dg]? = some (gd g3 s.dg) := getElem?_of_lt _ _ (by rw [c2, h.lg]; omega)
    have hz1 : g3[s.dg - 1]? = some (gd g3 (s.dg - 1)) :=
      getElem?_of_lt _ _ (by rw [c2, h.lg]; omega)
    have ec : s.du + (s.dg - s.df - 1) + 2 - s.dv = s.du + (s.dg - s.df - 1) + 1 + 1 - s.dv := by
      omega
    rw [stepTwo, bind_of_eq_some hf, bind_of_eq_some a1, bind_of_eq_some hf1, bind_of_eq_some j1,
      bind_of_eq_some hg, bind_of_eq_some k1, bind_of_eq_some hg1, bind_of_eq_some l1,
      bind_of_eq_some m1, bind_of_eq_some n1, bind_of_eq_some c1, bind_of_eq_some hz,
      if_neg (not_not.mpr (cz s.dg (by omega))), bind_of_eq_some hz1,
      if_neg (not_not.mpr (cz (s.dg - 1) (le_refl _))), bind_of_eq_some d1, ec, bind_of_eq_some e1]
  · exact
      { lv := by rw [d2, h.lv]
        lg := by rw [c2, h.lg]
        rv := d3, rg := c3, zv := e3
        zg := fun i hi => cz i (by omega)
        bv := by omega
        pq := ⟨_, c4, d4⟩ }

theorem step_spec (ok : OpsOK o p κ) (hn : 2 ≤ n) {s : St} (h : Inv p n S s)
    (hle : s.df ≤ s.dg) (hdf : n / 2 ≤ s.df) :
    ∃ s', step o s = some s' ∧ Inv p n S s' ∧ s'.df = s.df ∧ s'.dg < s.dg := by
  have hmid : ∃ g1 v1 dv1, (if o.two ∧ s.dg > s.df ∧ s.df > 1 then stepTwo o s else stepOne o s) =
      some { s with g := g1, v := v1, dv := dv1 } ∧ Mid p n s g1 v1 dv1 := by
    split
    · rename_i hc
      exact stepTwo_spec ok hc.1 h hc.2.1 hdf hc.2.2
    · exact stepOne_spec ok hn h hle hdf
  obtain ⟨g1, v1, dv1, r1, m⟩ := hmid
  have hdg1 : 1 ≤ s.dg := by omega
  obtain ⟨dg', t1, t2, t3, t4⟩ := lowerDeg_spec g1 s.dg (by rw [m.lg]; exact h.dgn)
  have hlt : dg' < s.dg := by
    rcases t4 with t4 | t4
    · by_contra hc
      have : dg' = s.dg := by omega
      rw [this] at t4
      exact t4 (m.zg s.dg (le_refl _))
    · omega
  obtain ⟨Q, pg, pv⟩ := m.pq
  obtain ⟨a, b, c, hc, g1', g2, g3⟩ := h.gh
  have hb1 := h.b1
  have hbv := m.bv
  have hdgn := h.dgn
  refine ⟨{ s with g := g1, v := v1, dv := dv1, dg := dg' }, ?_, ?_, rfl, hlt⟩
  · by_cases hc : o.two = true ∧ s.dg > s.df ∧ s.df > 1
    · rw [if_pos hc] at r1
      simp [step, hc, r1, t1]
    · rw [if_neg hc] at r1
      simp [step, hc, r1, t1]
  · exact
      { lu := h.lu, lv := m.lv, lf := h.lf, lg := m.lg, ru := h.ru, rv := m.rv, rf := h.rf, rg := m.rg
        zu := h.zu, zv := m.zv, zf := h.zf
        zg := fun i hi => if hid : i ≤ s.dg then t3 i hi hid else m.zg i (by omega)
        dfn := h.dfn
        dgn := by show dg' < n; omega
        b1 := by show s.du + dg' ≤ n; omega
        b2 := m.bv, tf := h.tf, tg := t4, hm := Or.inl hdf
        gh := ⟨a, b - Q * a, c, hc, g1', by
            show toPoly p g1 = (b - Q * a) * X ^ n + toPoly p v1 * S
            rw [pg, pv, g1', g2]; ring, by
            show a * toPoly p v1 - (b - Q * a) * toPoly p s.u = C c
            rw [pv, ← g3]; ring⟩ }

end step

end Ymq.BM
