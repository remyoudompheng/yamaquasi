/-
`Ymq.ClassGroup.legendre` (property C18, src/classgroup.rs `legendre`): after a successful `Dividers::new` the result is read
off the residue `d^(p/2) mod p` (`legendre_of_new`; the square-and-multiply loop goes through the shared `BinPow.loop`), and
Euler's criterion says what that residue is (`euler_residue`).
-/
import Ymq.Model.ClassGroupLegendre
import Ymq.Lemmas.DividersUint
import Ymq.Lemmas.BinPow
import Mathlib.NumberTheory.LegendreSymbol.Basic
import Mathlib.NumberTheory.LucasLehmer

namespace Ymq.ClassGroup
open Ymq.Limbs (W ofNat val Wf)
open Ymq.Dividers (Div Ok)

/-- the square-and-multiply loop: with a divider returned by the constructor and reduced operands
it never panics and returns `pow * sq^k mod p` (fuel: one more than the bit length of `k`). -/
theorem legendreLoop_ok (dv : Div) (h : Ok dv) (fuel k pow sq : Nat) (hk : k < 2 ^ fuel) (hpow : pow < dv.p)
    (hsq : sq < dv.p) : legendreLoop dv (fuel + 1) k pow sq = some (pow * sq ^ k % dv.p) := by
  have hp30 := h.p30
  have hW : W = 2 ^ 64 := Dividers.W_eq
  -- a product of two residues is below `2^60`: no `u64` overflow, and `modu63` applies
  have hmul : ∀ {x y a b : Nat}, (x < dv.p ∧ x = a % dv.p) → (y < dv.p ∧ y = b % dv.p) →
      ∃ z, (if x * y ≥ W then none else Dividers.modu63 dv (x * y)) = some z ∧
        (z < dv.p ∧ z = a * b % dv.p) := by
    rintro x y a b ⟨hx, ex⟩ ⟨hy, ey⟩
    have : x * y < 2 ^ 30 * 2 ^ 30 := Nat.mul_lt_mul'' (by omega) (by omega)
    rw [if_neg (by omega), Dividers.modu63_ok dv h _ (by omega)]
    exact ⟨_, rfl, Nat.mod_lt _ h.p_pos, by rw [ex, ey, ← Nat.mul_mod]⟩
  obtain ⟨_, hz, -, rfl⟩ := BinPow.loop (R := fun x a => x < dv.p ∧ x = a % dv.p)
    (mul := fun x y => if x * y ≥ W then none else Dividers.modu63 dv (x * y)) hmul
    (F := fun f x s e => legendreLoop dv f e x s) (fun _ _ _ => by rw [legendreLoop, if_pos rfl])
    (fun _ _ s _ _ _ h0 h1 h2 => by
      split at h2
      · cases h2
      · rename_i hs; simp only [legendreLoop, if_neg h0, h1, if_neg hs, h2]) fuel k pow sq pow sq hk
    ⟨hpow, (Nat.mod_eq_of_lt hpow).symm⟩ ⟨hsq, (Nat.mod_eq_of_lt hsq).symm⟩
  exact hz

theorem asI32_small (x : Nat) (hx : x < 2 ^ 31) : asI32 x = (x : Int) := by
  unfold asI32
  simp only []
  rw [Nat.mod_eq_of_lt (by omega), if_pos hx]

/-- `legendre` after a successful `Dividers::new`: the residue `d^(p/2) mod p` decides. The only
remaining panic site is the debug assertion `pow == p - 1`. -/
theorem legendre_of_new (d p : Nat) (dv : Div) (hnew : Dividers.new p = some dv)
    (hd : d < 2 ^ 1024) :
    legendre d p =
      if d ^ (p / 2) % p > 1 then
        (if d ^ (p / 2) % p ≠ p - 1 then none else some ((d ^ (p / 2) % p : Nat) - (p : Int)))
      else some ((d ^ (p / 2) % p : Nat) : Int) := by
  obtain ⟨hdp, hok⟩ := Dividers.new_ok p dv hnew
  have hp30 : p < 2 ^ 30 := hdp ▸ hok.p30
  have hp0 : 0 < p := hdp ▸ hok.p_pos
  have hdW : d < W ^ 16 := by
    rw [Dividers.W_eq, ← Nat.pow_mul]
    exact hd
  have hne : ofNat 16 d ≠ [] := by
    intro e
    have := Limbs.ofNat_length 16 d
    rw [e] at this; simp at this
  unfold legendre
  rw [hnew]
  simp only []
  rw [Dividers.modUint_ok dv hok _ hne (Limbs.ofNat_Wf 16 d), Limbs.val_ofNat_of_lt hdW, hdp]
  simp only []
  have hr : d % p < p := Nat.mod_lt _ hp0
  rw [Nat.mod_eq_of_lt (show d % p < 2 ^ 32 by omega)]
  have h1p : 1 < dv.p := by
    rcases hok with e | g
    · rw [e]; decide
    · have := g.p3; omega
  have hloop := legendreLoop_ok dv hok 32 (p / 2) 1 (d % p) (by omega) h1p (by rw [hdp]; exact hr)
  rw [hloop, hdp, Nat.one_mul, ← Nat.pow_mod]
  simp only []
  have hx : d ^ (p / 2) % p < p := Nat.mod_lt _ hp0
  generalize d ^ (p / 2) % p = x at hx
  by_cases h1 : x > 1
  · rw [if_pos h1, if_pos h1, if_neg (by omega)]
    by_cases h2 : x ≠ p - 1
    · rw [if_pos h2, if_pos h2]
    · rw [if_neg h2, if_neg h2, asI32_small x (by omega), asI32_small p (by omega)]
      rw [if_neg (by omega)]
  · rw [if_neg h1, if_neg h1, asI32_small x (by omega)]

theorem new_of_odd_prime (p : Nat) (hp : p.Prime) (h2 : p ≠ 2) (h30 : p < 2 ^ 30) :
    ∃ dv, Dividers.new p = some dv := by
  have h3 : 3 ≤ p := by
    have := hp.two_le
    omega
  apply Dividers.new_some p h3 h30
  intro h0
  have hd : p ∣ 2 ^ 64 := by rw [← Dividers.W_eq]; exact Nat.dvd_of_mod_eq_zero h0
  have := hp.dvd_of_dvd_pow hd
  have := (Nat.prime_dvd_prime_iff_eq hp Nat.prime_two).mp this
  exact h2 this

/-- Euler's criterion read on the least non-negative residue -/
theorem euler_residue (p : Nat) [Fact p.Prime] (h2 : p ≠ 2) (d : Nat) :
    (legendreSym p d = 0 ∧ d ^ (p / 2) % p = 0) ∨
    (legendreSym p d = 1 ∧ d ^ (p / 2) % p = 1) ∨
    (legendreSym p d = -1 ∧ d ^ (p / 2) % p = p - 1) := by
  have hp : p.Prime := Fact.out
  have hp3 : 3 ≤ p := by have := hp.two_le; omega
  have hx : d ^ (p / 2) % p < p := Nat.mod_lt _ (by omega)
  have hcast : ((d ^ (p / 2) % p : Nat) : ZMod p) = (legendreSym p d : ZMod p) := by
    rw [legendreSym.eq_pow, ZMod.natCast_mod]
    push_cast
    rfl
  generalize d ^ (p / 2) % p = x at hx hcast
  by_cases hd0 : ((d : ℤ) : ZMod p) = 0
  · have hl : legendreSym p d = 0 := (legendreSym.eq_zero_iff p d).mpr hd0
    left
    refine ⟨hl, ?_⟩
    rw [hl, Int.cast_zero, ZMod.natCast_eq_zero_iff] at hcast
    exact Nat.eq_zero_of_dvd_of_lt hcast hx
  · rcases legendreSym.eq_one_or_neg_one p hd0 with hl | hl
    · right; left
      refine ⟨hl, ?_⟩
      rw [hl, Int.cast_one, ← Nat.cast_one, ZMod.natCast_eq_natCast_iff'] at hcast
      rw [Nat.mod_eq_of_lt hx, Nat.mod_eq_of_lt (by omega)] at hcast
      exact hcast
    · right; right
      refine ⟨hl, ?_⟩
      rw [hl, Int.cast_neg, Int.cast_one] at hcast
      have h0 : ((x + 1 : Nat) : ZMod p) = 0 := by
        push_cast
        rw [hcast]; ring
      rw [ZMod.natCast_eq_zero_iff] at h0
      have := Nat.le_of_dvd (by omega) h0
      omega

/-- `2^31 - 1` is prime (Lucas–Lehmer) -/
theorem prime_mersenne_31 : Nat.Prime 2147483647 := by
  have h : (mersenne 31).Prime := lucas_lehmer_sufficiency 31 (by norm_num) (by norm_num)
  have e : mersenne 31 = 2147483647 := by norm_num [mersenne]
  rwa [e] at h

end Ymq.ClassGroup
