/-
What `_convolve_modn::<N>` needs from a row of the dispatch table of `convolve_modn` (`ArmOk`), and the corner
argument by which one row serves a whole rectangle of `(nbits, size)` (`ArmOk.of_corner`). The table itself
(translated from the source: `Ymq.Gen.Params`) is checked arm by arm in `C10.dispatch_ok`.
-/
import Ymq.Model.Kronecker
import Mathlib.Tactic.NormNum
import Mathlib.Tactic.SplitIfs
import Mathlib.Tactic.Linarith

namespace Ymq.Kronecker
open Ymq.Gen.Params

theorem bound_aux (size nbits S B e : Nat) (hs : size ≤ S) (hb : nbits ≤ B)
    (h : S * 2 ^ (2 * B) ≤ e) : size * 2 ^ (2 * nbits) ≤ e :=
  le_trans (Nat.mul_le_mul hs (Nat.pow_le_pow_right (by decide) (by omega))) h

/-- what `_convolve_modn::<N>` needs from a row `(fsize, logpack, stride)` of the dispatch table -/
structure ArmOk (nbits size N logpack stride : Nat) : Prop where
  /-- no overlap of the output digits: `size · n² ≤ 2^(64·stride)` for every `n < 2^nbits` -/
  digit : size * 2 ^ (2 * nbits) ≤ W ^ (if stride = 0 then 16 else stride)
  /-- no wrap modulo `F`: `(2A - 1)·stride ≤ N` -/
  fit : (2 * 2 ^ logpack - 1) * stride ≤ N
  /-- the 8 words of the last packed coefficient fit -/
  copy : stride * (2 ^ logpack - 1) + 8 ≤ N
  /-- the transform length is within the precomputed roots: `mulfft` asserts `l ≤ 256 N` -/
  roots : size / 2 ^ logpack ≤ FFT_ROOTS_PER_WORD * N
  /-- `redc_large`: slices shorter than `3·MINT_WORDS` words, at least `k` and at most `k + 16` words -/
  slice : (if stride = 0 then 16 else stride) < 3 * MINT_WORDS ∧
    (nbits + 63) / 64 ≤ (if stride = 0 then 16 else stride) ∧ (if stride = 0 then 16 else stride) ≤ 17
  /-- `xhi < n·R` in `redc_large`: with `size < 2^64 ≤ R` every digit is `< n·R²` -/
  small : size < W
  /-- the rows without packing (`stride = 0`) have `A = 1` and read `.0[..16]` of a 16-word `FInt` -/
  unpacked : stride = 0 → logpack = 0 ∧ N = 16
  /-- the modulus fits an `MInt` (`assert!(zn.n.bits() <= 500)`) -/
  words : (nbits + 63) / 64 ≤ MINT_WORDS
  /-- the packing factor does not exceed the convolution length (rows with `A = 4, 8` are only
  reached by sizes above 4096) -/
  pack : 2 ≤ size → 2 ^ logpack ≤ size

/-- A row `(N, logpack, stride)` serves every `nbits ≤ B` and every `size` with `lo ≤ size ≤ S` as soon as
it meets the conditions at the corner `(B, S)`: each field of `ArmOk` is monotone in `nbits` and `size`. -/
theorem ArmOk.of_corner {nbits size S B lo N logpack stride : Nat} (hs : size ≤ S) (hb : nbits ≤ B)
    (hlo : lo ≤ size)
    (h : S * 2 ^ (2 * B) ≤ W ^ (if stride = 0 then 16 else stride) ∧
      (2 * 2 ^ logpack - 1) * stride ≤ N ∧ stride * (2 ^ logpack - 1) + 8 ≤ N ∧
      S / 2 ^ logpack ≤ FFT_ROOTS_PER_WORD * N ∧
      (if stride = 0 then 16 else stride) < 3 * MINT_WORDS ∧
      (B + 63) / 64 ≤ (if stride = 0 then 16 else stride) ∧ (if stride = 0 then 16 else stride) ≤ 17 ∧
      S < W ∧ (stride = 0 → logpack = 0 ∧ N = 16) ∧ (B + 63) / 64 ≤ MINT_WORDS ∧ 2 ^ logpack ≤ max 2 lo) :
    ArmOk nbits size N logpack stride := by
  obtain ⟨h1, h2, h3, h4, h5, h6, h7, h8, h9, h10, h11⟩ := h
  have hw : (nbits + 63) / 64 ≤ (B + 63) / 64 := Nat.div_le_div_right (by omega)
  exact ⟨bound_aux _ _ S B _ hs hb h1, h2, h3, le_trans (Nat.div_le_div_right hs) h4,
    ⟨h5, le_trans hw h6, h7⟩, lt_of_le_of_lt hs h8, h9, le_trans hw h10,
    fun h2' => le_trans h11 (max_le h2' hlo)⟩

end Ymq.Kronecker
