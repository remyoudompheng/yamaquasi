/-
The divisor-combination loop of `factor_impl` (`for d in divs`, lib.rs; model: `retainPass`,
`retainDivZero`, `splitPass`, `combineDiv`, `combineDivs`).
-/
import Ymq.Lemmas.FactorBasic
import Mathlib.Data.Nat.GCD.Basic
import Mathlib.Algebra.BigOperators.Group.List.Lemmas

namespace Ymq.Factor

/-- key arithmetic fact behind `assert!(residue.is_one())` -/
theorem div_gcd_dvd_of_dvd_mul {f r m : Nat} (hf : 0 < f) (h : r ∣ f * m) :
    r / Nat.gcd f r ∣ m := by
  have hg : 0 < Nat.gcd f r := Nat.gcd_pos_of_pos_left r hf
  have hcop : Nat.Coprime (f / Nat.gcd f r) (r / Nat.gcd f r) := Nat.coprime_div_gcd_div_gcd hg
  have hr : r = Nat.gcd f r * (r / Nat.gcd f r) := (Nat.mul_div_cancel' (Nat.gcd_dvd_right f r)).symm
  have hf' : f = Nat.gcd f r * (f / Nat.gcd f r) := (Nat.mul_div_cancel' (Nat.gcd_dvd_left f r)).symm
  have h2 : Nat.gcd f r * (r / Nat.gcd f r) ∣ Nat.gcd f r * ((f / Nat.gcd f r) * m) := by
    rw [← Nat.mul_assoc, ← hf', ← hr]; exact h
  have h3 : r / Nat.gcd f r ∣ (f / Nat.gcd f r) * m := Nat.dvd_of_mul_dvd_mul_left hg h2
  exact hcop.symm.dvd_of_dvd_mul_left h3

theorem retainPass_cons (f : Nat) (fs : List Nat) (r : Nat) :
    retainPass (f :: fs) r =
      if Nat.gcd f r ≠ f ∧ Nat.gcd f r ≠ 1 then
        ((retainPass fs (r / Nat.gcd f r)).1, f :: (retainPass fs (r / Nat.gcd f r)).2.1,
          (retainPass fs (r / Nat.gcd f r)).2.2)
      else
        (f :: (retainPass fs (r / Nat.gcd f r)).1, (retainPass fs (r / Nat.gcd f r)).2.1,
          (retainPass fs (r / Nat.gcd f r)).2.2) := by
  rw [retainPass]

theorem retainPass_perm (facs : List Nat) (r : Nat) :
    ((retainPass facs r).1 ++ (retainPass facs r).2.1).Perm facs := by
  induction facs generalizing r with
  | nil => simp [retainPass]
  | cons f fs ih =>
    rw [retainPass_cons]
    split
    · exact (List.perm_middle).trans (List.Perm.cons f (ih _))
    · exact List.Perm.cons f (ih _)

theorem retainPass_residue_one (facs : List Nat) (d : Nat) (hpos : ∀ f ∈ facs, 0 < f)
    (hd : d ∣ facs.prod) : (retainPass facs d).2.2 = 1 ∧ retainDivZero facs d = false := by
  induction facs generalizing d with
  | nil =>
    simp only [List.prod_nil, Nat.dvd_one] at hd
    simp [retainPass, retainDivZero, hd]
  | cons f fs ih =>
    have hf : 0 < f := hpos f (by simp)
    have hg : 0 < Nat.gcd f d := Nat.gcd_pos_of_pos_left d hf
    have hd' : d / Nat.gcd f d ∣ fs.prod := by
      rw [List.prod_cons] at hd
      exact div_gcd_dvd_of_dvd_mul hf hd
    obtain ⟨ih1, ih2⟩ := ih (d / Nat.gcd f d) (fun x hx => hpos x (by simp [hx])) hd'
    constructor
    · rw [retainPass_cons]; split <;> exact ih1
    · rw [retainDivZero]
      simp only [Bool.or_eq_false_iff, decide_eq_false_iff_not]
      exact ⟨by omega, ih2⟩

theorem splitPass_prod (l : List Nat) (r : Nat) : (splitPass l r).prod = l.prod := by
  induction l generalizing r with
  | nil => simp [splitPass]
  | cons f fs ih =>
    rw [splitPass]
    split
    · simp only [List.prod_cons, ih]
      rw [← Nat.mul_assoc, Nat.div_mul_cancel (Nat.gcd_dvd_left f r)]
    · simp only [List.prod_cons, ih]

theorem splitPass_mem (l : List Nat) (r : Nat) :
    ∀ x ∈ splitPass l r, ∃ f ∈ l, x ∣ f ∧ (x = 1 → f = 1) := by
  induction l generalizing r with
  | nil => simp [splitPass]
  | cons f fs ih =>
    rw [splitPass]
    split
    · rename_i hsp
      obtain ⟨hgf, hg1⟩ := hsp
      intro x hx
      simp only [List.mem_cons] at hx
      rcases hx with rfl | rfl | hx
      · refine ⟨f, by simp, Nat.div_dvd_of_dvd (Nat.gcd_dvd_left f r), ?_⟩
        intro h1
        have hdvd := Nat.gcd_dvd_left f r
        have := Nat.div_mul_cancel hdvd
        rw [h1, Nat.one_mul] at this
        exact absurd this hgf
      · exact ⟨f, by simp, Nat.gcd_dvd_left f r, fun h => absurd h hg1⟩
      · obtain ⟨f', hf', h1, h2⟩ := ih _ x hx
        exact ⟨f', by simp [hf'], h1, h2⟩
    · intro x hx
      simp only [List.mem_cons] at hx
      rcases hx with rfl | hx
      · exact ⟨x, by simp, Nat.dvd_refl _, id⟩
      · obtain ⟨f', hf', h1, h2⟩ := ih _ x hx
        exact ⟨f', by simp [hf'], h1, h2⟩

theorem combineDiv_eq (facs : List Nat) (d : Nat) :
    combineDiv facs d =
      if retainDivZero facs d then .panic "division by zero in residue /= gcd"
      else if (retainPass facs d).2.2 ≠ 1 then .panic "assert!(residue.is_one())"
      else .ok ((retainPass facs d).1 ++ splitPass (retainPass facs d).2.1 d) := by
  unfold combineDiv
  rfl

theorem combineDiv_ok {facs facs' : List Nat} {d : Nat} (h : combineDiv facs d = .ok facs') :
    facs'.prod = facs.prod ∧ ∀ x ∈ facs', ∃ f ∈ facs, x ∣ f ∧ (x = 1 → f = 1) := by
  rw [combineDiv_eq] at h
  split at h
  · exact absurd h (by simp)
  · split at h
    · exact absurd h (by simp)
    · injection h with h
      subst h
      have hperm := retainPass_perm facs d
      constructor
      · rw [List.prod_append, splitPass_prod, ← List.prod_append]
        exact hperm.prod_eq
      · intro x hx
        rcases List.mem_append.mp hx with hx | hx
        · exact ⟨x, hperm.subset (List.mem_append_left _ hx), Nat.dvd_refl _, id⟩
        · obtain ⟨f, hf, h1, h2⟩ := splitPass_mem _ _ x hx
          exact ⟨f, hperm.subset (List.mem_append_right _ hf), h1, h2⟩

theorem combineDiv_no_panic (facs : List Nat) (d : Nat) (hpos : ∀ f ∈ facs, 0 < f)
    (hd : d ∣ facs.prod) : ∃ facs', combineDiv facs d = .ok facs' := by
  obtain ⟨h1, h2⟩ := retainPass_residue_one facs d hpos hd
  rw [combineDiv_eq]
  simp [h1, h2]

theorem combineDiv_ne_fuel (facs : List Nat) (d : Nat) : combineDiv facs d ≠ .fuel := by
  rw [combineDiv_eq]
  split
  · simp
  · split <;> simp

theorem combineDivs_ne_fuel (facs ds : List Nat) : combineDivs facs ds ≠ .fuel := by
  induction ds generalizing facs with
  | nil => simp [combineDivs]
  | cons d ds ih =>
    rw [combineDivs]
    split
    · exact ih _
    · simp
    · rename_i h; exact absurd h (combineDiv_ne_fuel _ _)

theorem combineDivs_ok {facs facs' ds : List Nat} (h : combineDivs facs ds = .ok facs') :
    facs'.prod = facs.prod ∧ ∀ x ∈ facs', ∃ f ∈ facs, x ∣ f ∧ (x = 1 → f = 1) := by
  induction ds generalizing facs with
  | nil =>
    simp only [combineDivs] at h
    injection h with h; subst h
    exact ⟨rfl, fun x hx => ⟨x, hx, Nat.dvd_refl _, id⟩⟩
  | cons d ds ih =>
    rw [combineDivs] at h
    split at h
    · rename_i facs1 h1
      obtain ⟨hp1, hm1⟩ := combineDiv_ok h1
      obtain ⟨hp2, hm2⟩ := ih h
      refine ⟨hp2.trans hp1, ?_⟩
      intro x hx
      obtain ⟨f1, hf1, hd1, ho1⟩ := hm2 x hx
      obtain ⟨f, hf, hd, ho⟩ := hm1 f1 hf1
      exact ⟨f, hf, Nat.dvd_trans hd1 hd, fun h => ho (ho1 h)⟩
    · exact absurd h (by simp)
    · exact absurd h (by simp)

theorem combineDivs_no_panic (facs ds : List Nat) (hpos : ∀ f ∈ facs, 0 < f)
    (hd : ∀ d ∈ ds, d ∣ facs.prod) : ∃ facs', combineDivs facs ds = .ok facs' := by
  induction ds generalizing facs with
  | nil => exact ⟨facs, by simp [combineDivs]⟩
  | cons d ds ih =>
    obtain ⟨facs1, h1⟩ := combineDiv_no_panic facs d hpos (hd d (by simp))
    obtain ⟨hp1, hm1⟩ := combineDiv_ok h1
    rw [combineDivs, h1]
    refine ih facs1 ?_ ?_
    · intro x hx
      obtain ⟨f, hf, hdv, _⟩ := hm1 x hx
      exact Nat.pos_of_dvd_of_pos hdv (hpos f hf)
    · intro d' hd'
      rw [hp1]; exact hd d' (by simp [hd'])

theorem combineDivs_single {n : Nat} {ds facs : List Nat} (h : combineDivs [n] ds = .ok facs) :
    facs.prod = n ∧ ∀ x ∈ facs, x ∣ n ∧ (x = 1 → n = 1) := by
  obtain ⟨hp, hm⟩ := combineDivs_ok h
  refine ⟨by simpa using hp, ?_⟩
  intro x hx
  obtain ⟨f, hf, h1, h2⟩ := hm x hx
  simp only [List.mem_singleton] at hf
  subst hf
  exact ⟨h1, h2⟩

end Ymq.Factor
