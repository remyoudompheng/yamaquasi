/-
The helpers of src/arith.rs (Ymq/Model/Arith.lean) for C08. `mulmod` / `pow_mod` check their products for overflow, so each
has two readings: `_some` reads a returned value (any width `B`), `_eq` / `_isSome` show that it returns when `(p-1)² < B`.
Then `squfof::isqrt` (a returned value is the floor root), the specification function `nthRoot` (bisection invariant
`lo^k ≤ n < hi^k`), and `perfect_power`: `ppTry_some` lists what one pass over the exponents can do, `ppFuel_spec` and
`ppFuel_total` are the inductions on the recursion depth.
-/
import Ymq.Model.Arith
import Ymq.Lemmas.Bits
import Ymq.Lemmas.BinPow
import Mathlib.Tactic.Ring
import Mathlib.Tactic.Linarith
import Mathlib.Algebra.Order.Ring.Nat
import Mathlib.Data.Nat.ModEq

namespace Ymq.Arith
open Ymq.Limbs (W)

theorem tzAux_dvd (f n : Nat) : 2 ^ tzAux f n ∣ n :=
  (Bits.tz_spec tzAux (fun _ => rfl) (fun _ _ => rfl) f n).1

theorem mulmod_some {B a b p r : Nat} (h : mulmod B a b p = some r) :
    r = a * b % p ∧ 0 < p ∧ a * b < B := by
  unfold mulmod at h
  split_ifs at h with h1 h2
  injection h with h
  exact ⟨h.symm, Nat.pos_of_ne_zero h2, by omega⟩

theorem mulmod_eq {B a b p : Nat} (hp : 0 < p) (hab : a * b < B) :
    mulmod B a b p = some (a * b % p) := by
  unfold mulmod
  rw [if_neg (by omega), if_neg (by omega)]

theorem powLoop_some (B p : Nat) : ∀ (f res nn k r : Nat), powLoop B p f res nn k = some r →
    r = if k = 0 then res else res * nn ^ k % p := by
  intro f
  induction f with
  | zero => intro res nn k r h; cases h
  | succ f ih =>
    intro res nn k r h
    unfold powLoop at h
    by_cases hk : k = 0
    · rw [if_pos hk] at h; cases h; rw [if_pos hk]
    rw [if_neg hk] at h
    rw [if_neg hk]
    cases hm : (if k % 2 = 1 then mulmod B res nn p else some res) with
    | none => rw [hm] at h; cases h
    | some res' =>
      rw [hm] at h; simp only [] at h
      cases hm2 : mulmod B nn nn p with
      | none => rw [hm2] at h; cases h
      | some nn' =>
        rw [hm2] at h; simp only [] at h
        obtain ⟨rfl, _, _⟩ := mulmod_some hm2
        rw [ih _ _ _ _ h, ← BinPow.step res nn k]
        have hsq : (nn * nn % p) ^ (k / 2) ≡ (nn * nn) ^ (k / 2) [MOD p] := (Nat.mod_modEq _ _).pow _
        by_cases hodd : k % 2 = 1
        · rw [if_pos hodd] at hm ⊢
          obtain ⟨rfl, _, _⟩ := mulmod_some hm
          split_ifs with hk2
          · rw [hk2, Nat.pow_zero, Nat.mul_one]
          · exact (Nat.mod_modEq _ _).mul hsq
        · rw [if_neg hodd] at hm ⊢
          cases hm
          rw [if_neg (by omega)]
          exact Nat.ModEq.mul_left _ hsq

theorem powMod_some {B n k p r : Nat} (h : powMod B n k p = some r) :
    0 < p ∧ r = if k = 0 then 1 else n ^ k % p := by
  unfold powMod at h
  split_ifs at h with hp
  have := powLoop_some B p _ _ _ _ _ h
  refine ⟨Nat.pos_of_ne_zero hp, ?_⟩
  rw [this]
  by_cases hk : k = 0
  · simp [hk]
  · simp only [hk, if_false, Nat.one_mul]
    rw [← Nat.pow_mod]

theorem powLoop_isSome (B p : Nat) (hp : 0 < p) (hB : (p - 1) * (p - 1) < B) :
    ∀ (f res nn k : Nat), k < f → nn < p → (res < p ∨ res = 1) →
    ∃ r, powLoop B p f res nn k = some r := by
  intro f
  induction f with
  | zero => intro res nn k hk; omega
  | succ f ih =>
    intro res nn k hkf hnn hres
    unfold powLoop
    by_cases hk : k = 0
    · rw [if_pos hk]; exact ⟨_, rfl⟩
    · rw [if_neg hk]
      have hnn2 : nn * nn < B := by
        calc nn * nn ≤ (p - 1) * (p - 1) := Nat.mul_le_mul (by omega) (by omega)
          _ < B := hB
      have hrn : res * nn < B := by
        rcases hres with hr | hr
        · calc res * nn ≤ (p - 1) * (p - 1) := Nat.mul_le_mul (by omega) (by omega)
            _ < B := hB
        · subst hr
          rw [Nat.one_mul]
          by_cases hp1 : p = 1
          · subst hp1; omega
          · calc nn ≤ (p - 1) * 1 := by omega
              _ ≤ (p - 1) * (p - 1) := Nat.mul_le_mul_left _ (by omega)
              _ < B := hB
      rw [mulmod_eq hp hnn2]
      have hlt : nn * nn % p < p := Nat.mod_lt _ hp
      by_cases hodd : k % 2 = 1
      · rw [if_pos hodd, mulmod_eq hp hrn]
        exact ih _ _ _ (by omega) hlt (Or.inl (Nat.mod_lt _ hp))
      · rw [if_neg hodd]
        exact ih _ _ _ (by omega) hlt hres

theorem powMod_eq {B n k p : Nat} (hp : 0 < p) (hB : (p - 1) * (p - 1) < B) :
    powMod B n k p = some (if k = 0 then 1 else n ^ k % p) := by
  have hs : ∃ r, powMod B n k p = some r := by
    unfold powMod
    rw [if_neg (by omega)]
    exact powLoop_isSome B p hp hB _ _ _ _ (by omega) (Nat.mod_lt _ hp) (Or.inr rfl)
  obtain ⟨r, hr⟩ := hs
  rw [hr, (powMod_some hr).2]

theorem sqrt_of_div {n r q s : Nat} (hr : r ≠ 0) (hq : n / r = q) (hlo : s * s ≤ r * q)
    (hhi : r * (q + 1) ≤ (s + 1) * (s + 1)) : s * s ≤ n ∧ n < (s + 1) * (s + 1) :=
  ⟨hlo.trans (hq ▸ Nat.mul_div_le n r),
    (hq ▸ Nat.lt_mul_div_succ n (Nat.pos_of_ne_zero hr)).trans_le hhi⟩

theorem sqLoop_some (n : Nat) : ∀ (f r0 r : Nat), sqLoop n f r0 = some r →
    r * r ≤ n ∧ n < (r + 1) * (r + 1) := by
  intro f
  induction f with
  | zero => intro r0 r h; simp [sqLoop] at h
  | succ f ih =>
    intro r0 r h
    unfold sqLoop at h
    simp only [] at h
    by_cases h0 : r0 = 0
    · rw [if_pos h0] at h; cases h
    rw [if_neg h0] at h
    by_cases h1 : n / r0 = r0
    · rw [if_pos h1] at h; cases h
      exact sqrt_of_div h0 h1 le_rfl (Nat.mul_le_mul_right _ (Nat.le_succ _))
    rw [if_neg h1] at h
    by_cases h2 : r0 + 1 ≥ W
    · rw [if_pos h2] at h; cases h
    rw [if_neg h2] at h
    by_cases h3 : n / r0 = r0 + 1
    · -- `r0·(r0 + 2) < (r0 + 1)²`
      rw [if_pos h3] at h; cases h
      refine sqrt_of_div h0 h3 (Nat.mul_le_mul_left _ (Nat.le_succ _)) ?_
      rw [Nat.mul_succ r0 (r0 + 1), Nat.succ_mul r0 (r0 + 1)]
      exact Nat.add_le_add_left (Nat.le_succ _) _
    rw [if_neg h3] at h
    by_cases h4 : n / r0 = r0 - 1
    · rw [if_pos h4] at h; cases h
      refine sqrt_of_div h0 h4 (Nat.mul_le_mul_right _ (Nat.sub_le _ _)) ?_
      rw [Nat.sub_add_cancel (Nat.pos_of_ne_zero h0)]
    rw [if_neg h4] at h
    by_cases h5 : r0 + n / r0 ≥ W
    · rw [if_pos h5] at h; cases h
    rw [if_neg h5] at h
    exact ih _ _ h

theorem squfofIsqrt_some (fuel n seed r : Nat) (h : squfofIsqrt fuel n seed = some r) :
    r * r ≤ n ∧ n < (r + 1) * (r + 1) := by
  unfold squfofIsqrt at h
  split_ifs at h with h4
  · injection h with h; subst h
    have : n = 0 ∨ n = 1 ∨ n = 2 ∨ n = 3 := by omega
    rcases this with rfl | rfl | rfl | rfl <;> decide
  · exact sqLoop_some n _ _ _ h

theorem rootAux_spec (n k : Nat) : ∀ (f lo hi : Nat), lo ^ k ≤ n → n < hi ^ k → hi ≤ lo + f + 1 →
    (rootAux n k f lo hi) ^ k ≤ n ∧ n < (rootAux n k f lo hi + 1) ^ k := by
  intro f
  induction f with
  | zero =>
    intro lo hi h1 h2 h3
    unfold rootAux
    refine ⟨h1, lt_of_lt_of_le h2 (Nat.pow_le_pow_left (by omega) k)⟩
  | succ f ih =>
    intro lo hi h1 h2 h3
    unfold rootAux
    by_cases hc : hi ≤ lo + 1
    · rw [if_pos hc]
      exact ⟨h1, lt_of_lt_of_le h2 (Nat.pow_le_pow_left hc k)⟩
    · rw [if_neg hc]
      simp only []
      by_cases hm : ((lo + hi) / 2) ^ k ≤ n
      · rw [if_pos hm]; exact ih _ _ hm h2 (by omega)
      · rw [if_neg hm]; exact ih _ _ h1 (by omega) (by omega)

theorem nthRoot_spec (n k : Nat) (hk : 0 < k) :
    (nthRoot n k) ^ k ≤ n ∧ n < (nthRoot n k + 1) ^ k := by
  unfold nthRoot
  simp only []
  apply rootAux_spec
  · rw [Nat.zero_pow hk]; exact Nat.zero_le _
  · rw [← Nat.pow_mul]
    have e := Nat.div_add_mod (Nat.log2 n) k
    have l := Nat.mod_lt (Nat.log2 n) hk
    have : Nat.log2 n + 1 ≤ (Nat.log2 n / k + 1) * k := by
      have : (Nat.log2 n / k + 1) * k = k * (Nat.log2 n / k) + k := by ring
      omega
    calc n < 2 ^ (Nat.log2 n + 1) := Nat.lt_log2_self
      _ ≤ 2 ^ ((Nat.log2 n / k + 1) * k) := Nat.pow_le_pow_right (by decide) this
  · omega

theorem nthRoot_exact (n k r : Nat) (hk : 0 < k) (h : r ^ k = n) : nthRoot n k = r := by
  subst h
  obtain ⟨h1, h2⟩ := nthRoot_spec (r ^ k) k hk
  have hk0 : k ≠ 0 := by omega
  have a := (Nat.pow_le_pow_iff_left hk0).mp h1
  have b := (Nat.pow_lt_pow_iff_left hk0).mp h2
  omega

theorem isqrt_spec' (n : Nat) : isqrt n * isqrt n ≤ n ∧ n < (isqrt n + 1) * (isqrt n + 1) := by
  have := nthRoot_spec n 2 (by decide)
  unfold isqrt
  simpa [Nat.pow_two] using this

theorem pow_eq_self {x k : Nat} (hx : x ≤ 1) (hk : 0 < k) : x ^ k = x := by
  have : x = 0 ∨ x = 1 := by omega
  rcases this with rfl | rfl
  · exact Nat.zero_pow hk
  · exact Nat.one_pow k

/-- result predicate of `perfect_power` -/
def PPGood (n : Nat) : Option (Nat × Nat) → Prop
  | some (r, k) => r ^ k = n ∧ 2 ≤ k
  | none => ∀ e ∈ ppExps, ¬ ∃ r, r ^ e = n

/-- What the `for k in …` loop of `perfect_power` has done when it returns `res`: no exponent of
the list gave an exact root, or the first that did, `k`, led to one of the three returns. -/
theorem ppTry_some (self : Nat → Option (Option (Nat × Nat))) (n : Nat) :
    ∀ (ks : List Nat) res, ppTry self n ks = some res →
    (res = none ∧ ∀ k ∈ ks, nthRoot n k ^ k ≠ n) ∨
    ∃ k ∈ ks, nthRoot n k ^ k = n ∧
      ((nthRoot n k = n ∧ res = some (nthRoot n k, k)) ∨
       (self (nthRoot n k) = some none ∧ res = some (nthRoot n k, k)) ∨
       (nthRoot n k ≠ n ∧ ∃ rr kk, self (nthRoot n k) = some (some (rr, kk)) ∧
          res = some (rr, k * kk))) := by
  intro ks
  induction ks with
  | nil => intro res h; cases h; exact Or.inl ⟨rfl, fun k hk => absurd hk List.not_mem_nil⟩
  | cons k ks ih =>
    intro res h
    unfold ppTry at h
    simp only [] at h
    by_cases hpow : nthRoot n k ^ k = n
    · rw [if_pos hpow] at h
      refine Or.inr ⟨k, List.mem_cons_self .., hpow, ?_⟩
      by_cases hrn : nthRoot n k = n
      · rw [if_pos hrn] at h; cases h; exact Or.inl ⟨hrn, rfl⟩
      rw [if_neg hrn] at h
      cases hs : self (nthRoot n k) with
      | none => rw [hs] at h; cases h
      | some o =>
        rw [hs] at h
        cases o with
        | none => cases h; exact Or.inr (Or.inl ⟨rfl, rfl⟩)
        | some rk =>
          obtain ⟨rr, kk⟩ := rk
          simp only [] at h
          split_ifs at h
          cases h
          exact Or.inr (Or.inr ⟨hrn, rr, kk, rfl, rfl⟩)
    · rw [if_neg hpow] at h
      rcases ih res h with ⟨hr, hall⟩ | ⟨k', hk', hrest⟩
      · refine Or.inl ⟨hr, fun e he => ?_⟩
        rcases List.mem_cons.mp he with rfl | he
        · exact hpow
        · exact hall e he
      · exact Or.inr ⟨k', List.mem_cons_of_mem _ hk', hrest⟩

theorem ppExps_ge : ∀ k ∈ ppExps, 2 ≤ k ∧ k ≤ 19 := by decide

theorem ppFuel_spec : ∀ (f n : Nat) (res : Option (Nat × Nat)), ppFuel f n = some res →
    PPGood n res ∧ (2 ≤ n → ∀ r k, res = some (r, k) → PPGood r none) := by
  intro f
  induction f with
  | zero => intro n res h; cases h
  | succ f ih =>
    intro n res h
    unfold ppFuel at h
    rcases ppTry_some _ n ppExps res h with
      ⟨rfl, hall⟩ | ⟨k, hk, hpow, ⟨hrn, rfl⟩ | ⟨hs, rfl⟩ | ⟨_, rr, kk, hs, rfl⟩⟩
    · refine ⟨?_, fun _ _ _ h => nomatch h⟩
      rintro e he ⟨r, hr⟩
      exact hall e he (by rw [nthRoot_exact n e r (by have := ppExps_ge e he; omega) hr]; exact hr)
    · refine ⟨⟨hpow, (ppExps_ge k hk).1⟩, fun hn => ?_⟩
      -- `n ^ k = n` is impossible for `n, k ≥ 2`
      have : nthRoot n k ^ 1 < nthRoot n k ^ k :=
        Nat.pow_lt_pow_right (by omega) (by have := ppExps_ge k hk; omega)
      rw [Nat.pow_one, hpow] at this
      omega
    · refine ⟨⟨hpow, (ppExps_ge k hk).1⟩, fun _ r k' he => ?_⟩
      cases he; exact (ih _ _ hs).1
    · obtain ⟨⟨e1, e2⟩, hprim⟩ := ih _ _ hs
      refine ⟨⟨by rw [Nat.mul_comm, Nat.pow_mul, e1, hpow],
        e2.trans (Nat.le_mul_of_pos_left _ (by have := ppExps_ge k hk; omega))⟩, fun hn r k' he => ?_⟩
      cases he
      refine hprim ?_ _ _ rfl
      by_contra hlt
      rw [pow_eq_self (by omega) (by have := ppExps_ge k hk; omega)] at hpow
      omega

theorem ppTry_total (self : Nat → Option (Option (Nat × Nat))) (n : Nat) (hn : n < 2 ^ 1024)
    (hself : ∀ m, m < n → ∃ res, self m = some res ∧ PPGood m res) :
    ∀ (ks : List Nat), (∀ k ∈ ks, 2 ≤ k ∧ k ≤ 19) → ∃ res, ppTry self n ks = some res := by
  intro ks
  induction ks with
  | nil => intro _; exact ⟨_, rfl⟩
  | cons k ks ih =>
    intro hks
    obtain ⟨hk2, hk19⟩ := hks k (List.mem_cons_self ..)
    unfold ppTry
    simp only []
    by_cases hpow : nthRoot n k ^ k = n
    · rw [if_pos hpow]
      by_cases hrn : nthRoot n k = n
      · rw [if_pos hrn]; exact ⟨_, rfl⟩
      · rw [if_neg hrn]
        generalize nthRoot n k = r at *
        have hr2 : 2 ≤ r := by
          by_contra hlt
          exact hrn ((pow_eq_self (by omega) (by omega)).symm.trans hpow)
        have hrn' : r < n := by
          rw [← hpow]
          calc r = r ^ 1 := (Nat.pow_one r).symm
            _ < r ^ k := Nat.pow_lt_pow_right (by omega) (by omega)
        obtain ⟨res, hs, hg⟩ := hself r hrn'
        rw [hs]
        cases res with
        | none => exact ⟨_, rfl⟩
        | some rk =>
          obtain ⟨rr, kk⟩ := rk
          simp only []
          obtain ⟨e1, e2⟩ := hg
          have hrr : 2 ≤ rr := by
            by_contra hlt
            rw [pow_eq_self (by omega) (by omega)] at e1
            omega
          have hkk : kk < 1024 := by
            by_contra hge
            have h1 : 2 ^ 1024 ≤ 2 ^ kk := Nat.pow_le_pow_right (by decide) (by omega)
            have h2 : 2 ^ kk ≤ rr ^ kk := Nat.pow_le_pow_left hrr kk
            omega
          rw [if_neg (by
            have : k * kk ≤ 19 * 1024 := Nat.mul_le_mul hk19 (by omega)
            omega)]
          exact ⟨_, rfl⟩
    · rw [if_neg hpow]
      exact ih (fun k hk => hks k (List.mem_cons_of_mem _ hk))

theorem ppFuel_total : ∀ (f n : Nat), n < f → n < 2 ^ 1024 → ∃ res, ppFuel f n = some res := by
  intro f
  induction f with
  | zero => intro n h; omega
  | succ f ih =>
    intro n hf hn
    unfold ppFuel
    apply ppTry_total (ppFuel f) n hn
    · intro m hm
      obtain ⟨res, hres⟩ := ih m (by omega) (by omega)
      exact ⟨res, hres, (ppFuel_spec f m res hres).1⟩
    · exact ppExps_ge

end Ymq.Arith
