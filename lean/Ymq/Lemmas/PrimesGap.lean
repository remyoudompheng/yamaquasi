/-
`HGap` for the first 258 blocks (C17): every block `[65536·c, 65536·(c+1))`, `c ≤ 257`, contains a
prime (the kernel finds a number coprime to `4112!` in each).
Covers every `B1 ≤ 2^24` in `smoothbase_divides`.
-/
import Ymq.Lemmas.PrimesCount

namespace Ymq.Primes
open Nat

theorem gap_257 (c : Nat) (hc : c ≤ 257) : primesFrom (65536 * c) 65536 ≠ [] := by
  rcases Nat.eq_zero_or_pos c with rfl | h0
  · exact List.ne_nil_of_mem (mem_primesFrom.mpr ⟨⟨by decide, by decide⟩, Nat.prime_two⟩)
  · -- `4113² ≥ 65536·258`; the kernel evaluates each list only up to its first element
    have h : ((List.range' 1 257).all fun c => !(coprimesFrom 4112 ! 1 (65536 * c) 65536).isEmpty)
        = true := by decide +kernel
    rw [primesFrom_eq_coprimesFrom 4112 _ _ (by omega) (by omega)]
    have := List.all_eq_true.mp h c (List.mem_range'_1.mpr ⟨h0, by omega⟩)
    simpa using this

end Ymq.Primes
