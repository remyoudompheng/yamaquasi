/- `inv_mod` for moduli `p >= 2`: with `d = 1` the Bezout identity of the loop reads `n u ≡ 1 (mod p)`; a cofactor
`u >= 0` is returned as `u mod p`, a negative one as `p - (-u mod p)`, which is below `p` because `p` does not divide `u`.
Modulus 1: `gcd_internal(n, 1)` ends in its first or second iteration, and the returned cofactor of `n`
is the `C` entry of the first state (0, or 1 after the swap for `n = 1`): never negative. -/
import Ymq.Lemmas.GcdTerm

namespace Ymq.Gcd

theorem invMod_some_ge2 (N : Nat) (hN : 0 < N) (n p : Nat) (hp : 2 ≤ p) (r : InvRes)
    (h : invMod N n p = some r) :
    match r with
    | .ok x => x < p ∧ n * x % p = 1 % p
    | .err d => d = Nat.gcd n p ∧ d ≠ 1 := by
  have h1p' : 1 % p = 1 := Nat.mod_eq_of_lt (by omega)
  rw [h1p']
  unfold invMod at h
  split at h
  · simp at h
  · split at h
    · rename_i hn
      have hp1 : p ≠ 1 := by omega
      simp [hp1] at h; subst h; subst hn
      simp; omega
    · split at h
      · simp at h
      · rename_i d u v hg
        obtain ⟨hd, hb⟩ := gcdLoop_some hN _ _ d u v hg (GInv_init true n p)
        have hb := hb rfl
        split at h
        · rename_i hd1
          simp at h; subst h
          exact ⟨hd, hd1⟩
        · rename_i hd1
          have hd1 : d = 1 := by omega
          rw [hd1] at hb
          have hpz : (p : Int) ≠ 0 := by omega
          have hmod : (n : Int) * u % p = 1 % p := by
            have : (n : Int) * u = 1 + p * (-v) := by push_cast at hb; linarith
            rw [this, Int.add_mul_emod_self_left]
          have h1p : (1 : Int) % p = 1 := Int.emod_eq_of_lt (by omega) (by omega)
          split at h
          · rename_i hneg
            split at h
            · simp at h
            · rename_i ua hua
              simp at h; subst h
              have hua' := (chkB_some hua).1
              subst hua'
              have hnd : (-u).toNat % p ≠ 0 := by
                intro h0
                have hdvd : (p : Int) ∣ u := by
                  have : p ∣ (-u).toNat := Nat.dvd_of_mod_eq_zero h0
                  have h2 : (p : Int) ∣ ((-u).toNat : Int) := Int.natCast_dvd_natCast.2 this
                  have h3 : ((-u).toNat : Int) = -u := by omega
                  rw [h3] at h2; exact (Int.dvd_neg.1 h2)
                have : (n : Int) * u % p = 0 := Int.emod_eq_zero_of_dvd (Dvd.dvd.mul_left hdvd _)
                rw [this] at hmod; omega
              have hlt : (-u).toNat % p < p := Nat.mod_lt _ (by omega)
              refine ⟨by omega, ?_⟩
              have hx : ((p - (-u).toNat % p : Nat) : Int) = p - (-u) % p := by
                have h3 : ((-u).toNat : Int) = -u := by omega
                rw [Nat.cast_sub (Nat.le_of_lt hlt)]; push_cast; rw [h3]
              have key : ((n * (p - (-u).toNat % p) : Nat) : Int) % p = 1 := by
                push_cast; rw [hx]
                have e : (n : Int) * (p - -u % p) = n * u + p * (n * (1 + (-u) / p)) := by
                  have := Int.emod_add_mul_ediv (-u) p
                  linear_combination (-(n : Int)) * this
                rw [e, Int.add_mul_emod_self_left, hmod, h1p]
              exact_mod_cast key
          · rename_i hneg
            simp at h; subst h
            have hu : (u.toNat : Int) = u := by omega
            refine ⟨Nat.mod_lt _ (by omega), ?_⟩
            have key : ((n * (u.toNat % p) : Nat) : Int) % p = 1 := by
              push_cast; rw [hu, Int.mul_emod, Int.emod_emod_of_dvd _ (dvd_refl _), ← Int.mul_emod, hmod, h1p]
            exact_mod_cast key

theorem gcdLoop_one_nonneg {N K : Nat} {n : Nat} (hn : 0 < n) :
    ∀ (f : Nat) (d : Nat) (u v : Int), gcdLoop N K true f (initSt n 1) = some (d, u, v) → 0 ≤ u := by
  intro f d u v h
  have hs : (swapSt (initSt n 1)).y = 1 ∧ 0 ≤ (swapSt (initSt n 1)).C := by
    unfold swapSt initSt
    dsimp only
    split
    · exact ⟨by show n = 1; omega, by show (0 : Int) ≤ 1; omega⟩
    · exact ⟨rfl, le_refl _⟩
  generalize hsw : swapSt (initSt n 1) = s at hs
  obtain ⟨hy1, hC⟩ := hs
  cases f with
  | zero => simp [gcdLoop] at h
  | succ f =>
    obtain ⟨hyx, ⟨hx0, _⟩ | ⟨_, hy0, _⟩ | ⟨hx0, hy0, hxs, e⟩ |
        ⟨hx0, _, ⟨_, e⟩ | ⟨hxM, e | ⟨xt, yt, xl, yl, T, e⟩⟩⟩⟩ :=
      gcdStep_cases (N := N) (ext := true) hsw
    · omega
    · omega
    · -- `<64`-bit exit: `extended_gcd(x, 1) = (1, 0, 1)`, the result is the second row
      obtain ⟨g, ex, ey, he, hg1, hg2, _, _, b3, _⟩ := egcdI64_total hxs (by omega) hyx
      rw [hy1, Nat.gcd_one_right] at hg2
      have hex : ex = 0 := abs_eq_zero.1 (by have := abs_nonneg ex; rw [hy1] at b3; omega)
      have hey : ey = 1 := by rw [hg2, hex, hy1] at hg1; simpa using hg1.symm
      rcases gcdLoop_succ_some h with h | ⟨s', h, _⟩
      · rw [e] at h
        obtain ⟨_, rfl, _⟩ := smallExit_ext_ret he h
        rw [hex, hey]; simpa using hC
      · rw [e] at h; exact absurd h smallExit_ne_next
    · rw [gcdLoop, e] at h; simp at h
    · -- quotient step by 1: the next state is `(1, 0)` with the old second row first
      rcases gcdLoop_succ_some h with h | ⟨s', h, h'⟩
      · rw [e] at h; simp at h
      rw [e, fallbackStep_ext_eq (by omega) hxM, hy1, Nat.mod_one] at h
      simp only [Nat.zero_mul, Nat.zero_mod, gt_iff_lt, Nat.not_lt_zero, if_false] at h
      split at h
      · rename_i c' d' _ _
        simp only [Option.map_some, Option.some.injEq, Step.next.injEq] at h
        subst h
        cases f with
        | zero => simp [gcdLoop] at h'
        | succ f =>
          have hsw' : swapSt ⟨s.C, s.D, c', d', 1, 0⟩ = ⟨s.C, s.D, c', d', 1, 0⟩ := by
            unfold swapSt; rw [if_neg (by simp)]
          obtain ⟨_, ⟨hx0', _⟩ | ⟨_, _, e'⟩ | ⟨_, hy0', _⟩ | ⟨_, hy0', _⟩⟩ :=
            gcdStep_cases (N := N) (ext := true) hsw'
          · simp at hx0'
          · rcases gcdLoop_succ_some h' with h' | ⟨_, h', _⟩
            · rw [e'] at h'; simp at h'; obtain ⟨_, rfl, _⟩ := h'; exact hC
            · rw [e'] at h'; simp at h'
          · simp at hy0'
          · simp at hy0'
      · simp at h
    · -- no Lehmer step: the top word of 1 is below `2^32`
      have := T.ey; have := T.h32
      have hk : 0 < 2 ^ (bits s.x - 64) := Nat.pow_pos (by decide)
      have : yt ≤ yt * 2 ^ (bits s.x - 64) := Nat.le_mul_of_pos_right _ hk
      omega

end Ymq.Gcd
