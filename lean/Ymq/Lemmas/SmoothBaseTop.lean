/-
`SmoothBase::new` on its two prime sources (C17): `primes(b1/2)` below 65536 and the blocks of the
`PrimeSieve` above.  In both cases the list consumed by the packing loop is strictly increasing,
consists of numbers `≥ 2` and contains every prime below `b1`.
-/
import Ymq.Lemmas.SmoothBaseLoop
import Ymq.Lemmas.PrimesTop

namespace Ymq.SmoothBase
open Ymq.Primes

/-- what the packing theorem needs from the list of primes -/
structure Source (b1 : Nat) (l : List Nat) : Prop where
  ge2 : ∀ p ∈ l, 2 ≤ p
  sorted : l.Pairwise (· < ·)
  complete : ∀ p, p.Prime → p < b1 → p ∈ l

/-- fewer than `m/2 + 1` primes below `m`: apart from 2 they are odd -/
theorem length_primesBelow_odd (j : Nat) : (primesBelow (2 * j + 1)).length ≤ j := by
  induction j with
  | zero => simp [primesBelow, List.range_succ, Nat.not_prime_zero]
  | succ j ih =>
    by_cases hj : j = 0
    · subst hj
      have : primesBelow (2 * (0 + 1) + 1) = [2] := by
        simp [primesBelow, List.range_succ, Nat.not_prime_zero, Nat.not_prime_one, Nat.prime_two]
      rw [this]; simp
    · rw [primesBelow_step j (by omega)]
      split
      · rw [List.length_append]; simp; exact ih
      · omega

theorem length_primesBelow_le (m : Nat) : (primesBelow m).length ≤ m / 2 := by
  rcases Nat.even_or_odd' m with ⟨j, rfl | rfl⟩
  · have h1 := length_primesBelow_odd j
    obtain ⟨X, hX⟩ := primesBelow_add (2 * j) 1
    rw [hX, List.length_append] at h1
    omega
  · have := length_primesBelow_odd j
    omega

theorem bitlen_ge_three {k : Nat} (hk : 4 ≤ k) : 3 ≤ bitlen k := by
  unfold bitlen
  rw [if_neg (by omega)]
  have : 2 ≤ k.log2 := (Nat.le_log2 (by omega)).mpr (by omega)
  omega

theorem bitlen_le_15 {k : Nat} (hk : k < 32768) : bitlen k ≤ 15 :=
  bitlen_le_of_lt (by omega)

/-- below 65536: `primes(b1 / 2)` contains every prime below `b1` -/
theorem sbPrimes_small (b1 : Nat) (hb : b1 < 65536) :
    ∃ l, sbPrimes b1 = some l ∧ Source b1 l := by
  unfold sbPrimes
  rw [if_pos hb, Nat.mod_eq_of_lt (by omega : b1 < 2 ^ 32)]
  set k := b1 / 2 with hk
  have hk15 := bitlen_le_15 (by omega : k < 32768)
  have hmul : k * bitlen k < 2 ^ 32 := by
    have : k * bitlen k ≤ 32768 * 15 := Nat.mul_le_mul (by omega) hk15
    omega
  have hbound : bound k = some (max 100 (k * bitlen k)) := by
    unfold bound; rw [if_pos hmul]
  set bnd := max 100 (k * bitlen k) with hbnd
  refine ⟨_, primes_eq k bnd hbound, ?_⟩
  have hM : b1 ≤ 2 * (bnd / 2) := by
    by_cases h100 : b1 ≤ 100
    · omega
    · have h3 := bitlen_ge_three (by omega : 4 ≤ k)
      have : k * 3 ≤ k * bitlen k := Nat.mul_le_mul_left _ h3
      omega
  obtain ⟨X, hX⟩ := primesBelow_add b1 (2 * (bnd / 2) - b1)
  rw [show b1 + (2 * (bnd / 2) - b1) = 2 * (bnd / 2) by omega] at hX
  have hlen := length_primesBelow_le b1
  refine ⟨?_, ?_, ?_⟩
  · intro p hp
    have := List.mem_of_mem_take hp
    rw [mem_primesBelow] at this
    exact this.2.two_le
  · exact List.Pairwise.sublist (List.take_sublist _ _) (primesBelow_sorted _)
  · intro p hp hpb
    rw [hX, List.take_append]
    apply List.mem_append_left
    rw [List.take_of_length_le (by omega)]
    rw [mem_primesBelow]; exact ⟨hpb, hp⟩

theorem sbPrimesLarge_step {f b32 l : Nat} {ps ps' : PrimeSieve} {acc blk : List Nat}
    (hnext : ps.next = some (blk, ps')) (hl : blk.getLast? = some l) :
    sbPrimesLarge (f + 1) b32 ps acc =
      if l > b32 then some (acc ++ blk) else sbPrimesLarge f b32 ps' (acc ++ blk) := by
  rw [sbPrimesLarge, hnext]
  simp only
  rw [hl]

theorem sbPrimesLarge_block (b1 f : Nat) {c : Nat} {ps : PrimeSieve} (hne : primesFrom (65536 * c) 65536 ≠ [])
    (hc1 : 1 ≤ c) (hc : c < 65536) (hgood : Good ps c) :
    ∃ l ps', Good ps' (c + 1) ∧ 65536 * c ≤ l ∧ l < 65536 * (c + 1) ∧
      sbPrimesLarge (f + 1) b1 ps (primesBelow (65536 * c)) =
        if l > b1 then some (primesBelow (65536 * (c + 1)))
        else sbPrimesLarge f b1 ps' (primesBelow (65536 * (c + 1))) := by
  obtain ⟨ps', hnext, hgood'⟩ := next_spec ps c hgood hc1 hc
  obtain ⟨l, hl⟩ := Option.ne_none_iff_exists'.mp (mt List.getLast?_eq_none_iff.mp hne)
  obtain ⟨hlo, hhi⟩ := (mem_primesFrom.mp (List.mem_of_getLast? hl)).1
  exact ⟨l, ps', hgood', hlo, hhi, by rw [sbPrimesLarge_step hnext hl, Nat.mul_succ, primesBelow_append]⟩

/-- the loop over sieve blocks: it is at block `c`, `acc` holds every prime below `65536·c` -/
theorem sbPrimesLarge_spec (b1 : Nat)
    (HGap : ∀ c, c ≤ b1 / 65536 + 1 → primesFrom (65536 * c) 65536 ≠ [])
    (hb : b1 / 65536 + 1 < 65536) :
    ∀ d c f (ps : PrimeSieve), c + d = b1 / 65536 + 1 → d < f → 1 ≤ c → Good ps c →
      ∃ c', b1 < 65536 * (c' + 1) ∧
        sbPrimesLarge f b1 ps (primesBelow (65536 * c)) = some (primesBelow (65536 * (c' + 1))) := by
  intro d
  induction d using Nat.strong_induction_on with
  | _ d ih =>
  intro c f ps hcd hf hc1 hgood
  obtain ⟨f, rfl⟩ : ∃ f', f = f' + 1 := ⟨f - 1, by omega⟩
  obtain ⟨l, ps', hgood', hlo, hhi, hrun⟩ := sbPrimesLarge_block b1 f (HGap c (by omega)) hc1 (by omega) hgood
  rw [hrun]
  split
  · exact ⟨c, by omega, rfl⟩
  · -- `l ≤ b1` cannot happen at the last block, where `65536·c > b1`
    obtain ⟨d, rfl⟩ : ∃ d', d = d' + 1 := ⟨d - 1, by
      have hdiv := Nat.div_add_mod b1 65536
      have hmodlt := Nat.mod_lt b1 (by decide : 65536 > 0)
      omega⟩
    exact ih d (Nat.lt_succ_self d) (c + 1) f ps' (by omega) (by omega) (by omega) hgood'

/-- from 65536 on: the concatenated sieve blocks contain every prime below `b1` -/
theorem sbPrimes_large (b1 : Nat) (hb1 : 65536 ≤ b1) (hb : b1 < 4294901760)
    (HSmall : primes 6542 = some (primesBelow 65536))
    (HGap : ∀ c, c ≤ b1 / 65536 + 1 → primesFrom (65536 * c) 65536 ≠ []) :
    ∃ l, sbPrimes b1 = some l ∧ Source b1 l := by
  obtain ⟨ps0, ps1, hnew, hnext, hgood⟩ := new_spec HSmall
  have hdiv : b1 / 65536 + 1 < 65536 := by omega
  obtain ⟨c', hc', hrun⟩ := sbPrimesLarge_spec b1 HGap hdiv (b1 / 65536) 1 65536 ps1 (by omega)
    (by omega) (by omega) hgood
  have hlast : (primesBelow 65536).getLast? = some 65521 := by
    rw [primesBelow_65536]; simp
  unfold sbPrimes
  rw [if_neg (by omega), hnew]
  simp only
  rw [Nat.mod_eq_of_lt (by omega : b1 < 2 ^ 32), sbPrimesLarge_step (f := 65536) hnext hlast, if_neg (by omega),
    List.nil_append]
  rw [show 65536 * 1 = 65536 from rfl] at hrun
  refine ⟨_, hrun, ?_, primesBelow_sorted _, ?_⟩
  · intro p hp
    rw [mem_primesBelow] at hp
    exact hp.2.two_le
  · intro p hp hpb
    rw [mem_primesBelow]
    exact ⟨by omega, hp⟩

theorem new_of_source (b1 : Nat) (ul : Bool) (hb : b1 < 2 ^ 32) (l : List Nat)
    (hl : sbPrimes b1 = some l) (hsrc : Source b1 l) :
    ∃ f lg, SmoothBase.new b1 ul = some (f, lg) ∧ (∀ x ∈ f, x < 2 ^ 64) ∧
      (∀ x ∈ lg, x < 2 ^ 1024) ∧
      ∀ p k, p.Prime → p ^ k < b1 → p ^ k ∣ f.prod * lg.prod := by
  obtain ⟨f, lg, hpack, hf, hlg, hall⟩ := pack_spec b1 ul l hb hsrc.ge2 hsrc.sorted
  refine ⟨f, lg, by unfold SmoothBase.new; rw [hl]; exact hpack, hf, hlg, ?_⟩
  intro p k hp hk
  cases k with
  | zero => simp
  | succ k =>
    have hpb : p < b1 := by
      have : p ^ 1 ≤ p ^ (k + 1) := Nat.pow_le_pow_right hp.pos (by omega)
      simp at this; omega
    exact hall p (hsrc.complete p hp hpb) hpb (k + 1) hk

end Ymq.SmoothBase
