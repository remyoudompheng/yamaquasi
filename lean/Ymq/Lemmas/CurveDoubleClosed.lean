/-
Closure of `Curve::double` (ecm.rs) on `a x² + y² = 1 + d x² y²`, for every `a`; the code's two
branches are `a = 1` and `a = -1`.
-/
import Ymq.Lemmas.CurveDefs

namespace Ymq.Curve
open Ymq.Gen.Curves
variable {R : Type} [CommRing R]

/-- The affine doubling `(2xy / (a x² + y²), (y² - a x²) / (2 - a x² - y²))` is on the curve. `x y z`
stand for the squares of the coordinates; `B S M J` for the code's `2XY`, `a X² + Y²`, `a X² - Y²`,
`S - 2 Z²`, and the double is `(B J : S M : S J)`. Since `S² - J² = 4 z (S - z)`, the defect is
`4 M²` times that of the curve equation. -/
theorem double_core (a d x y z B S M J : R) (h : S * z = z * z + d * (x * y)) (hB : B * B = 4 * (x * y))
    (hM : M * M = S * S - 4 * a * (x * y)) (hJ : J = S - 2 * z) :
    S * M * (S * M) + a * (B * J * (B * J)) = J * S * (J * S) + d * (B * M * (B * M)) := by
  subst hJ
  linear_combination (a * ((S - 2 * z) * (S - 2 * z)) - d * (M * M)) * hB + (S * S - 4 * d * (x * y)) * hM
    + (4 * (S * S - 4 * a * (x * y))) * h

theorem double_closed_gen (a d x y z B S M J : R) (h : S * z = z * z + d * (x * y)) (hB : B * B = 4 * (x * y))
    (hM : M * M = S * S - 4 * a * (x * y)) (hJ : J = S - 2 * z) :
    (a * (B * J * (B * J)) + S * M * (S * M)) * (S * J * (S * J)) =
      S * J * (S * J) * (S * J * (S * J)) + d * (B * J * (B * J) * (S * M * (S * M))) := by
  linear_combination (S * J * (S * J)) * double_core a d x y z B S M J h hB hM hJ

end Ymq.Curve
