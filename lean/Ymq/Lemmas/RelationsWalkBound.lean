/-
Iteration bound of the explicit-stack walk (C11): with `L = doubles.len() + doubles_rev.len()`,
a walk started in a store satisfying `Inv` takes at most `1 + 4L·(L − L')` iterations of the
`while` loop, `L'` the value of `L` afterwards; hence `Store.iterFuel` (= 2L²(L+1) + 1)
iterations always suffice. Accounting: one iteration per action of a frame (2k actions, k ≤ L keys)
plus one (pop), and one more for every walk it starts (at most 2k, each charged `1 + 4L·d` for the
`d` entries it removes); the first action of a non-empty frame removes a stored double (for a frame
with reverse keys only this is the mirror invariant), and the `4L ≥ 4k` charged for that entry pay
the frame's own 4k. The same induction gives, without any invariant, that the loop returns what the
recursive walk returns. The model's `Store.iterFuel` is looser than the bound proved: `4L² + 1`
iterations would do. The end of the file draws the consequences for `addStack` and
`runHistoryStack`: inside the validity contract they return what `add` and `runHistory` return,
hence no panic inside the complete contract.
-/
import Ymq.Lemmas.RelationsNoPanic

namespace Ymq.Relations

/-- the measure: stored doubles + reverse index entries -/
def Lm (s : Store) : Nat := s.doubles.length + s.doublesRev.length

/-- the measure after a result (0 after an error) -/
def finalL : M Store → Nat
  | .ok s => Lm s
  | .error _ => 0

theorem actStep_measure {root : Nat} {a : Act} {s : Store} {res : StepRes × Store}
    (h : actStep root a s = .ok res) :
    Lm res.2 ≤ Lm s ∧ ∀ p q, a = .rem p q → dkey s (p, q) → Lm res.2 + 1 ≤ Lm s := by
  cases a with
  | rem p q =>
    have hl := removeStep_len h
    unfold Lm
    exact ⟨by omega, fun _ _ e hd => by cases e; have := hl.2.2 hd; omega⟩
  | go a b => rw [(actStep_go_ok h).2]; exact ⟨Nat.le_refl _, fun _ _ e => by cases e⟩

theorem dkey_pos {s : Store} {k : Nat × Nat} (h : dkey s k) : 1 ≤ Lm s := by
  obtain ⟨b, hb⟩ := h
  unfold Lm
  have := List.length_pos_of_mem hb
  omega

/-- The stack loop started on the frame of `x` computes `w x`, in `c` iterations. From a store that
satisfies the invariant and has measure at most `L0`, `c ≤ 1 + K·d`, `d` the decrease of the
measure: a frame with `k` keys takes `2k + 1` iterations of its own and starts at most `2k` walks;
if `k > 0` its first action removes a stored double, and `K ≥ 4·L0 ≥ 4k` charged for that entry
pays for all of them. -/
def PushSim (L0 K : Nat) (w : Nat → Store → M Store) : Prop :=
  ∀ (x : Nat) (s : Store), ∃ c,
    (∀ (m : Nat) (below : List WalkFrame),
      Le (w x s >>= walkIter m below) (walkFrame x s >>= fun fr => walkIter (c + m) (fr :: below) s)) ∧
    (Good s → Lm s ≤ L0 → ∃ d, finalL (w x s) + d = Lm s ∧ c ≤ 1 + K * d)

/-- the action at `pos` is a removal whose double is still stored: it will shrink the measure -/
def Present (fr : WalkFrame) (pos : Nat) (s : Store) : Prop :=
  ∃ p q, (actsOf fr)[pos]? = some (.rem p q) ∧ dkey s (p, q)

theorem frame_sim {L0 K : Nat} {w : Nat → Store → M Store} (hw : PushSim L0 K w) (hg : WalkKeeps w)
    (fr : WalkFrame) :
    ∀ (n pos : Nat) (s : Store), (actsOf fr).length - pos = n →
      ∃ c, (∀ (m : Nat) (rest : List WalkFrame),
          Le (runActs w fr.root ((actsOf fr).drop pos) s >>= walkIter m rest)
            (walkIter (c + m) ({ fr with pos := pos } :: rest) s)) ∧
        (Good s → Lm s ≤ L0 →
          ∃ d, finalL (runActs w fr.root ((actsOf fr).drop pos) s) + d = Lm s ∧
            c ≤ 2 * n + 1 + K * d ∧ (Present fr pos s → c + K ≤ 2 * n + 1 + K * d)) := by
  intro n
  induction n with
  | zero =>
    intro pos s hn
    have hnone : (actsOf fr)[pos]? = none := List.getElem?_eq_none (by omega)
    rw [List.drop_eq_nil_of_le (by omega)]
    refine ⟨1, fun m rest => ?_, fun _ _ => ⟨0, rfl, by omega, ?_⟩⟩
    · rw [show 1 + m = m + 1 by omega, walkIter_done hnone]; exact Le.refl _
    · rintro ⟨p, q, h, _⟩; rw [hnone] at h; cases h
  | succ n ih =>
    intro pos s hn
    have hlt : pos < (actsOf fr).length := by omega
    obtain ⟨a, ha⟩ : ∃ a, (actsOf fr)[pos]? = some a := ⟨_, List.getElem?_eq_getElem hlt⟩
    rw [drop_of_getElem? ha]
    have hstep := walkIter_act (s := s) ha
    -- a requested walk from x in the store s1, then the rest of the frame
    have hwalk : ∀ (x : Nat) (s1 : Store),
        ∃ c, (∀ (m : Nat) (rest : List WalkFrame),
            Le ((w x s1 >>= runActs w fr.root ((actsOf fr).drop (pos + 1))) >>= walkIter m rest)
              (walkFrame x s1 >>= fun f => walkIter (c + m) (f :: { fr with pos := pos + 1 } :: rest) s1)) ∧
          (Good s1 → Lm s1 ≤ L0 →
            ∃ d, finalL (w x s1 >>= runActs w fr.root ((actsOf fr).drop (pos + 1))) + d = Lm s1 ∧
              c ≤ 2 * n + 2 + K * d) := by
      intro x s1
      obtain ⟨c2, h2, k2⟩ := hw x s1
      cases hW : w x s1 with
      | error e =>
        refine ⟨c2, fun m rest => ?_, fun hg1 hl1 => ?_⟩
        · have := h2 m ({ fr with pos := pos + 1 } :: rest)
          rwa [hW] at this
        · obtain ⟨d2, f1, f2⟩ := k2 hg1 hl1
          rw [hW] at f1
          exact ⟨d2, f1, by omega⟩
      | ok s2 =>
        obtain ⟨c1, h1, k1⟩ := ih (pos + 1) s2 (by omega)
        refine ⟨c2 + c1, fun m rest => ?_, fun hg1 hl1 => ?_⟩
        · have := h2 (c1 + m) ({ fr with pos := pos + 1 } :: rest)
          rw [hW] at this
          rw [show c2 + c1 + m = c2 + (c1 + m) by omega]
          exact (h1 m rest).trans this
        · obtain ⟨d2, f1, f2⟩ := k2 hg1 hl1
          rw [hW] at f1
          simp only [finalL] at f1
          obtain ⟨d1, g1, g2, _⟩ := k1 (hg1.of_keeps (hg hg1 hW)) (by omega)
          refine ⟨d1 + d2, by rw [ok_bind]; omega, ?_⟩
          rw [Nat.mul_add K]; omega
    simp only [runActs, bind_assoc']
    have hpres : Present fr pos s → ∃ p q, a = .rem p q ∧ dkey s (p, q) := by
      rintro ⟨p, q, h1, h2⟩; rw [ha] at h1; cases h1; exact ⟨p, q, rfl, h2⟩
    cases hrs : actStep fr.root a s with
    | error e =>
      refine ⟨1, fun m rest => ?_, fun _ _ => ⟨Lm s, by simp only [error_bind, finalL]; omega, by omega,
        fun hp => ?_⟩⟩
      · rw [show 1 + m = m + 1 by omega, hstep, hrs]; exact Le.refl _
      · obtain ⟨p, q, _, hd⟩ := hpres hp
        have := Nat.mul_le_mul_left K (dkey_pos hd); omega
    | ok res =>
      simp only [ok_bind]
      have hnp := actStep_not_pop hrs
      obtain ⟨hle, hdec⟩ := actStep_measure hrs
      have hg1 : Good s → Good res.2 := fun hgood => hgood.of_keeps (keeps_stepRel.actStep hgood hrs)
      obtain ⟨r, s1⟩ := res
      cases r with
      | pop => exact absurd rfl hnp
      | next nx =>
        simp only at hle hdec hg1
        -- the own decrease `Lm s - Lm s1` is at least 1 when the action removed a stored double
        have hfin : ∀ {c d : Nat}, c ≤ 2 * n + 3 + K * d →
            c ≤ 2 * (n + 1) + 1 + K * (d + (Lm s - Lm s1)) ∧
            (Present fr pos s → c + K ≤ 2 * (n + 1) + 1 + K * (d + (Lm s - Lm s1))) := by
          intro c d hc
          rw [Nat.mul_add K]
          refine ⟨by omega, fun hp => ?_⟩
          obtain ⟨p, q, e, hd⟩ := hpres hp
          have := Nat.mul_le_mul_left K (show 1 ≤ Lm s - Lm s1 by have := hdec p q e hd; omega)
          omega
        cases nx with
        | none =>
          simp only [serve_none, pure_bind']
          obtain ⟨c1, h1, k1⟩ := ih (pos + 1) s1 (by omega)
          refine ⟨c1 + 1, fun m rest => ?_, fun hgood hl => ?_⟩
          · rw [show c1 + 1 + m = (c1 + m) + 1 by omega, hstep]
            simp only [hrs, ok_bind]
            exact h1 m rest
          · obtain ⟨d1, g1, g2, _⟩ := k1 (hg1 hgood) (by omega)
            exact ⟨d1 + (Lm s - Lm s1), by omega, hfin (by omega)⟩
        | some x =>
          simp only [serve_some]
          obtain ⟨c, hc, kc⟩ := hwalk x s1
          refine ⟨c + 1, fun m rest => ?_, fun hgood hl => ?_⟩
          · rw [show c + 1 + m = (c + m) + 1 by omega, hstep]
            simp only [hrs, ok_bind]
            rw [← bind_assoc']
            exact hc m rest
          · obtain ⟨d1, g1, g2⟩ := kc (hg1 hgood) (by omega)
            exact ⟨d1 + (Lm s - Lm s1), by omega, hfin (c := c + 1) (by omega)⟩

theorem actsOf_frame0_length (x : Nat) (s : Store) : (actsOf (frame0 x s)).length ≤ 2 * Lm s := by
  have h1 : (pqsOf s x).length ≤ s.doubles.length := by
    unfold pqsOf; rw [List.length_map]; exact List.length_filter_le _ _
  have h2 : (qpsOf s x).length ≤ s.doublesRev.length := List.length_filter_le _ _
  simp only [actsOf, frame0, List.length_append, List.length_map, Lm]; omega

/-- the first action of a non-empty frame removes a stored double (for a frame with reverse keys
only: by the mirror invariant) -/
theorem present_frame0 (x : Nat) (s : Store) (hi : Inv s) (hne : (actsOf (frame0 x s)).length ≠ 0) :
    Present (frame0 x s) 0 s := by
  unfold Present
  rw [actsOf_frame0] at hne ⊢
  cases hk : keysOf s x with
  | nil =>
    have h0 : pqsOf s x = [] ∧ qpsOf s x = [] := by simpa [keysOf] using hk
    exact absurd (by simp [hk, h0.1, h0.2]) hne
  | cons k t =>
    exact ⟨k.1, k.2, by simp, ((mem_keysOf hi).mp (hk ▸ List.mem_cons_self)).1⟩

theorem pushSim_walkDoubles {L0 K : Nat} (hK : 4 * L0 ≤ K) : ∀ (f : Nat), PushSim L0 K (walkDoubles f) := by
  intro f
  induction f with
  | zero => intro x s; exact ⟨0, fun _ _ => Or.inl rfl, fun _ _ => ⟨Lm s, Nat.zero_add _, by omega⟩⟩
  | succ f ih =>
    intro x s
    rw [walkDoubles_acts, walkFrame_eq]
    by_cases hc : x + 1 ≥ W32
    · rw [if_pos hc, if_pos hc]
      exact ⟨0, fun m below => Le.refl _, fun _ _ => ⟨Lm s, Nat.zero_add _, by omega⟩⟩
    · have hdrop : (actsOf (frame0 x s)).drop 0 = actsOf (frame0 x s) := List.drop_zero
      obtain ⟨c, e1, e2⟩ := frame_sim ih
        (fun hg h => keeps_stepRel.of_walkDoubles f _ hg h) (frame0 x s) _ 0 s rfl
      rw [hdrop] at e1 e2
      rw [if_neg hc, if_neg hc]
      refine ⟨c, fun m below => ?_, fun hgood hl => ?_⟩
      · simp only [pure_bind']
        exact e1 m below
      · obtain ⟨d, g1, g2, g3⟩ := e2 hgood hl
        refine ⟨d, g1, ?_⟩
        have hlen := actsOf_frame0_length x s
        by_cases h0 : (actsOf (frame0 x s)).length = 0
        · rw [h0] at g2; exact g2
        · have := g3 (present_frame0 x s hgood.1 h0)
          omega

theorem walkStack_of_rec (f root : Nat) (s : Store) :
    ∃ c, (∀ k, c ≤ k → Le (walkDoubles f root s) (walkStack k root s)) ∧ (Good s → c ≤ s.iterFuel) := by
  obtain ⟨c, e1, e2⟩ := pushSim_walkDoubles (L0 := Lm s) (Nat.le_refl _) f root s
  refine ⟨c, fun k hk => ?_, fun hg => ?_⟩
  · have := e1 (k - c) []
    rw [show c + (k - c) = k by omega] at this
    have hp : walkIter (k - c) [] = pure := by funext a; cases (k - c) <;> rfl
    rwa [hp, bind_pure'] at this
  · obtain ⟨d, g1, g2⟩ := e2 hg (Nat.le_refl _)
    have hd : d ≤ Lm s := by omega
    rw [show s.iterFuel = 2 * Lm s * Lm s * (Lm s + 1) + 1 from rfl]
    generalize Lm s = L at g2 hd
    have h1 : 4 * L * d ≤ 4 * L * L := Nat.mul_le_mul_left _ hd
    rcases Nat.eq_zero_or_pos L with h0 | h0
    · subst h0; omega
    · have h2 := Nat.mul_le_mul_left (2 * L * L) (show 2 ≤ L + 1 by omega)
      rw [show 2 * L * L * 2 = 4 * L * L by ring] at h2
      omega

theorem walkStack_bound {f root : Nat} {s : Store} {F : Nat} (hg : Good s) (hF : s.iterFuel ≤ F) :
    Le (walkDoubles f root s) (walkStack F root s) := by
  obtain ⟨c, e1, e2⟩ := walkStack_of_rec f root s
  exact e1 F (Nat.le_trans (e2 hg) hF)

theorem addStack_of_add {r : Relation} {pq : Option (Nat × Nat)} {s : Store} (hi : Inv s)
    (hn : s.n ≤ X512) (hin : InputOK s.n r pq) : Le (add r pq s) (addStack r pq s) := by
  rw [add_eq_addWith, addStack_eq_addWith]
  exact Le.bind (Le.refl _) (fun h1 hh => serve_le h1 (fun x _ =>
    walkStack_bound (Good.of_keeps ⟨hi, hn⟩ (head_keeps hh ⟨hi, hn⟩ hin)) (Nat.le_refl _)))

theorem addStack_np_full {r : Relation} {pq : Option (Nat × Nat)} {s : Store} (hi : Inv s)
    (hi2 : Inv2 s) (hn : s.n ≤ X512) (hin : InputOK2 s r pq) : NP (addStack r pq s) := by
  have hnp := add_np hi hi2 hn hin
  rw [(addStack_of_add hi hn hin.base).elim rfl (fun hc => by cases hnp _ hc)]
  exact hnp

theorem runHistoryStack_np_full (ops : List (Relation × Option (Nat × Nat))) (s : Store) (hg : Good s)
    (h2 : Inv2 s) (hok : HistoryOK2 s.n s.maxlarge ops) : NP (runHistoryStack ops s) :=
  isRun_stack.errIn2 isWalk_stack
    (fun hg h2 hin => by rw [← addStack_eq_addWith]; exact addStack_np_full hg.1 h2 hg.2 hin)
    ops s hg h2 hok

theorem runHistoryStack_of_run : ∀ (ops : List (Relation × Option (Nat × Nat))) (s : Store),
    Inv s → s.n ≤ X512 → HistoryOK s.n ops → Le (runHistory ops s) (runHistoryStack ops s) := by
  intro ops
  induction ops with
  | nil => intro s _ _ _; exact Le.refl _
  | cons op t ih =>
    obtain ⟨r, pq⟩ := op
    intro s hi hn hok
    have hin := hok (r, pq) List.mem_cons_self
    refine Le.bind (addStack_of_add hi hn hin) (fun s1 ha => ?_)
    have hk := add_keeps ha hi hn hin
    exact ih s1 hk.2.2 (by rw [hk.1]; exact hn)
      (fun op hop => by rw [hk.1]; exact hok op (List.mem_cons_of_mem _ hop))

end Ymq.Relations
