/-
`squfof::isqrt`: from any seed `r ≥ ⌊√n⌋` the Newton loop returns the floor square root within
`r − ⌊√n⌋ + 2` iterations (`sqLoop_desc`) and meets no panic site (division by zero, `r - 1`,
overflow); the admissible floating point seeds are within 1 of the root.
(`Ymq.Arith.sqLoop_some`, Lemmas/Arith.lean, is the partial-correctness half.)
-/
import Ymq.Model.Squfof
import Ymq.Lemmas.Arith
import Mathlib.Data.Nat.Sqrt

namespace Ymq.Squfof
open Ymq.Arith (sqLoop squfofIsqrt)

/-- the hypothesis on the f64 seed `(m as f64).sqrt() as u64`: within 1 of the floor square root
(the values observed are `⌊√m⌋` and `⌊√m⌋ + 1`; the lower neighbour is allowed as well). -/
def SeedOK (seed : Nat → Nat) : Prop :=
  ∀ m, 4 ≤ m → m < W → Nat.sqrt m ≤ seed m + 1 ∧ seed m ≤ Nat.sqrt m + 1

theorem W_eq : Ymq.Limbs.W = W := rfl

theorem sqLoop_step (n f r : Nat) (hr : 0 < r) (h1 : r + 1 < W) (h2 : r + n / r < W) :
    sqLoop n (f + 1) r =
      if n / r = r then some r
      else if n / r = r + 1 then some r
      else if n / r = r - 1 then some (r - 1)
      else sqLoop n f ((r + n / r) / 2) := by
  rw [sqLoop]
  have a : ¬ r = 0 := by omega
  have b : ¬ r + 1 ≥ Ymq.Limbs.W := by rw [W_eq]; omega
  have c : ¬ r + n / r ≥ Ymq.Limbs.W := by rw [W_eq]; omega
  simp only [if_neg a, if_neg b, if_neg c]

variable {n t : Nat}

theorem newton_ge (ht1 : t * t ≤ n) {r : Nat} (hr : 0 < r) : t ≤ (r + n / r) / 2 := by
  by_contra h
  -- `n < r·(q + 1)` for `q = n / r`, and `4·r·(q + 1) ≤ (r + q + 1)²` (AM-GM)
  have h1 : n < r * (n / r + 1) := Nat.lt_mul_div_succ n hr
  have h2 := four_mul_le_sq_add r (n / r + 1)
  have h3 : (r + (n / r + 1)) ^ 2 ≤ (2 * t) ^ 2 := Nat.pow_le_pow_left (by omega) 2
  have h4 : (2 * t) ^ 2 = 4 * (t * t) := by ring
  rw [Nat.mul_assoc] at h2
  omega

theorem div_le_root (ht2 : n < (t + 1) * (t + 1)) {r : Nat} (hr : t < r) : n / r ≤ t :=
  Nat.le_of_lt_succ ((Nat.div_lt_iff_lt_mul (by omega)).2
    (lt_of_lt_of_le ht2 (Nat.mul_le_mul_left _ hr)))

theorem t_lt (hn : n < W) (ht1 : t * t ≤ n) : t < 4294967296 :=
  Nat.mul_self_lt_mul_self_iff.mp (lt_of_le_of_lt ht1 hn)

/-- at the root the only round that does not leave goes to `t + 1`, which leaves: `n / t = t + 2`
means `t·(t + 2) ≤ n`, so the quotient by `t + 1` is exactly `t` -/
theorem sqLoop_root (hn : n < W) (ht1 : t * t ≤ n) (ht2 : n < (t + 1) * (t + 1)) (ht : 0 < t)
    {F : Nat} (hF : 2 ≤ F) : sqLoop n F t = some t := by
  obtain ⟨f, rfl⟩ : ∃ f, F = f + 2 := ⟨F - 2, by omega⟩
  have hb : t + (t + 3) < W := by have := t_lt hn ht1; unfold W; omega
  have hq1 : t ≤ n / t := (Nat.le_div_iff_mul_le ht).2 ht1
  have hq2 : n / t < t + 3 := by
    rw [Nat.div_lt_iff_lt_mul ht]
    simp only [Nat.add_mul, Nat.mul_add] at ht2 ⊢
    omega
  rw [sqLoop_step n (f + 1) t ht (by omega) (by omega)]
  clear hn
  by_cases h1 : n / t = t
  · rw [if_pos h1]
  by_cases h2 : n / t = t + 1
  · rw [if_neg h1, if_pos h2]
  have hq : n / t = t + 2 := by omega
  have h3 := div_le_root ht2 (Nat.lt_add_one t)
  have h4 : t ≤ n / (t + 1) := by
    rw [Nat.le_div_iff_mul_le t.succ_pos]
    have := Nat.div_mul_le_self n t
    rw [hq, Nat.mul_comm] at this
    exact le_trans (Nat.mul_le_mul_left t (Nat.le_succ (t + 1))) this
  clear ht1 ht2 hq1 hq2 h1 h2
  rw [hq, if_neg (by omega), if_neg (by omega), if_neg (by omega),
    show (t + (t + 2)) / 2 = t + 1 by omega,
    sqLoop_step n f (t + 1) t.succ_pos (by omega) (by omega), if_neg (by omega),
    if_neg (by omega), if_pos (by omega)]
  rfl

/-- Newton's iteration from any seed `r ≥ ⌊√n⌋` returns `⌊√n⌋` within `r − ⌊√n⌋ + 2` rounds:
above the root every round that does not leave goes strictly down and stays at or above the root -/
theorem sqLoop_desc (hn : n < W) (ht1 : t * t ≤ n) (ht2 : n < (t + 1) * (t + 1)) (ht : 0 < t) :
    ∀ r, t ≤ r → 2 * r < W → ∀ F, r - t + 2 ≤ F → sqLoop n F r = some t := by
  intro r
  induction r using Nat.strong_induction_on with
  | _ r ih =>
    intro hr hrW F hF
    rcases Nat.eq_or_lt_of_le hr with rfl | hlt
    · exact sqLoop_root hn ht1 ht2 ht (by omega)
    · obtain ⟨f, rfl⟩ : ∃ f, F = f + 1 := ⟨F - 1, by omega⟩
      have hge := newton_ge ht1 (Nat.lt_of_le_of_lt t.zero_le hlt)
      have hq := div_le_root ht2 hlt
      clear ht1 ht2 hn
      rw [sqLoop_step n f r (by omega) (by omega) (by omega)]
      generalize n / r = q at hge hq ⊢
      rw [if_neg (by omega), if_neg (by omega)]
      by_cases h3 : q = r - 1
      · rw [if_pos h3]; congr 1; omega
      · rw [if_neg h3]
        exact ih _ (by omega) hge (by omega) f (by omega)

/-- from the lower neighbour `s` of the root `s + 1` one round goes to `[s + 1, s + 4]` -/
theorem sqLoop_below {s : Nat} (hn : n < W) (hs1 : (s + 1) * (s + 1) ≤ n)
    (hs2 : n < (s + 1 + 1) * (s + 1 + 1)) (hs : 1 ≤ s) {F : Nat} (hF : 6 ≤ F) :
    sqLoop n F s = some (s + 1) := by
  obtain ⟨f, rfl⟩ : ∃ f, F = f + 1 := ⟨F - 1, by omega⟩
  have hb : s + (s + 11) < W := by have := t_lt hn hs1; unfold W; omega
  have hge := newton_ge hs1 hs
  have h1 : s + 2 ≤ n / s := by
    rw [Nat.le_div_iff_mul_le hs]
    simp only [Nat.add_mul, Nat.mul_add] at hs1 ⊢
    omega
  have h2 : n / s < s + 9 := by
    rw [Nat.div_lt_iff_lt_mul hs]
    simp only [Nat.add_mul, Nat.mul_add] at hs2 ⊢
    omega
  have hd := fun h => sqLoop_desc hn hs1 hs2 s.succ_pos _ hge h f
  clear hs1 hs2 hn
  rw [sqLoop_step n f s hs (by omega) (by omega)]
  generalize n / s = q at hge h1 h2 hd ⊢
  rw [if_neg (by omega), if_neg (by omega), if_neg (by omega)]
  exact hd (by omega) (by omega)

theorem isqrt_eq {seed : Nat → Nat} (hs : SeedOK seed) {m : Nat} (hm : m < W) :
    isqrt seed m = some (Nat.sqrt m) := by
  unfold isqrt squfofIsqrt
  by_cases h4 : m < 4
  · rw [if_pos h4]
    have : m = 0 ∨ m = 1 ∨ m = 2 ∨ m = 3 := by omega
    rcases this with rfl | rfl | rfl | rfl <;>
      exact congrArg some (Nat.eq_sqrt.2 ⟨by decide, by decide⟩)
  · rw [if_neg h4]
    obtain ⟨s1, s2⟩ := hs m (by omega) hm
    have ht1 := Nat.sqrt_le m
    have ht2 : m < (Nat.sqrt m + 1) * (Nat.sqrt m + 1) := Nat.lt_succ_sqrt m
    have ht : 2 ≤ Nat.sqrt m := Nat.le_sqrt.2 (by omega)
    have hb : 2 * (Nat.sqrt m + 1) < W := by have := t_lt hm ht1; unfold W; omega
    unfold isqrtFuel
    rcases Nat.lt_or_ge (seed m) (Nat.sqrt m) with h | h
    · obtain ⟨s, hs⟩ : ∃ s, Nat.sqrt m = s + 1 := ⟨Nat.sqrt m - 1, by omega⟩
      rw [hs] at ht1 ht2 ⊢
      rw [show seed m = s by omega]
      exact sqLoop_below hm ht1 ht2 (by omega) (by omega)
    · exact sqLoop_desc hm ht1 ht2 (by omega) _ h (by omega) _ (by omega)

theorem isqrt_some_spec {seed : Nat → Nat} {m r : Nat} (h : isqrt seed m = some r) :
    r * r ≤ m ∧ m < (r + 1) * (r + 1) :=
  Ymq.Arith.squfofIsqrt_some _ _ _ _ h

end Ymq.Squfof
