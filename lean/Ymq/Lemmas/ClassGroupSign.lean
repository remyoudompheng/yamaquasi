/-
The sign convention of the class group relations (Ymq/Model/ClassGroup.lean):
the normalised root `b` of a prime `p` (`0 ≤ b ≤ p`, `b ≡ D (mod 2)`, `b² ≡ D (mod 4p)`) is unique,
a root of the right parity is it (`isBPlus_of_root`; that `Prime::b_plus` computes it: `bPlus_spec_odd/_even`
in Ymq/Props/C18.lean), and the sign decision of `sieve_block_poly` is total.
-/
import Ymq.Model.ClassGroup
import Mathlib.Data.Nat.Prime.Basic
import Mathlib.RingTheory.Int.Basic
import Mathlib.RingTheory.Coprime.Basic
import Mathlib.Tactic.Linarith
import Mathlib.Tactic.Ring
import Mathlib.Tactic.IntervalCases
import Mathlib.Tactic.LinearCombination

namespace Ymq.ClassGroup

/-- `b` is the normalised root of the prime form of norm `p` for the discriminant `D` -/
def IsBPlus (D : Int) (p b : Nat) : Prop :=
  b ≤ p ∧ (2 : Int) ∣ (b : Int) - D ∧ (4 * (p : Int)) ∣ (b : Int) * b - D

theorem isBPlus_iff (D : Int) (p b : Nat) : isBPlus D p b = true ↔ IsBPlus D p b := by
  unfold isBPlus IsBPlus
  simp only [Bool.and_eq_true, decide_eq_true_eq]
  constructor
  · rintro ⟨⟨h1, h2⟩, h3⟩
    exact ⟨h1, Int.dvd_of_emod_eq_zero h2, Int.dvd_of_emod_eq_zero h3⟩
  · rintro ⟨h1, h2, h3⟩
    exact ⟨⟨h1, Int.emod_eq_zero_of_dvd h2⟩, Int.emod_eq_zero_of_dvd h3⟩

theorem dvd_between {p : Nat} {x : Int} (lo hi : Int) (hp : 0 < p) (hd : (p : Int) ∣ x)
    (h1 : lo * p ≤ x) (h2 : x ≤ hi * p) : ∃ c, lo ≤ c ∧ c ≤ hi ∧ x = c * p := by
  obtain ⟨c, hc⟩ := hd
  have hp' : (0 : Int) < p := by exact_mod_cast hp
  rw [mul_comm] at hc
  subst hc
  exact ⟨c, le_of_mul_le_mul_right h1 hp', le_of_mul_le_mul_right h2 hp', rfl⟩

theorem sq_roots {p x y : Nat} (hp : p.Prime) (hx : x ≤ p) (hy : y ≤ p)
    (h : (p : Int) ∣ (x : Int) * x - y * y) : x = y ∨ x + y = p := by
  have e : (x : Int) * x - y * y = ((x : Int) - y) * (x + y) := by ring
  rw [e] at h
  rcases Int.Prime.dvd_mul' hp h with hd | hd
  · obtain ⟨c, h1, h2, hc⟩ := dvd_between (-1) 1 hp.pos hd (by omega) (by omega)
    interval_cases c <;> omega
  · obtain ⟨c, h1, h2, hc⟩ := dvd_between 0 2 hp.pos hd (by omega) (by omega)
    interval_cases c <;> omega

theorem isBPlus_unique {D : Int} {p b b' : Nat} (hp : p.Prime) (h : IsBPlus D p b)
    (h' : IsBPlus D p b') : b = b' := by
  obtain ⟨hb, h2, h4⟩ := h
  obtain ⟨hb', h2', h4'⟩ := h'
  obtain ⟨k, hk⟩ := Int.dvd_sub h4 h4'
  rcases sq_roots hp hb hb' ⟨4 * k, by linear_combination hk⟩ with h | h
  · exact h
  · -- `b + b' = p` and `4p ∣ (b - b') (b + b')` give `4 ∣ b - b'`, while `b ≡ b' (mod 2)`
    have hp0 : (p : Int) ≠ 0 := by have := hp.pos; omega
    have hs : (b : Int) + b' = p := by exact_mod_cast h
    have h4k : (b : Int) - b' = 4 * k :=
      Int.eq_of_mul_eq_mul_right hp0 (by linear_combination hk + (b' - b) * hs)
    obtain ⟨j, hj⟩ := Int.dvd_sub h2 h2'
    rcases hp.eq_two_or_odd with h2 | h2 <;> omega

/-- `4 ∣ x` and `p ∣ x` give `4p ∣ x` for an odd `p = 2k + 1`, since `p² = 4k(k + 1) + 1` -/
theorem four_mul_dvd {p : Nat} {x : Int} (hodd : p % 2 = 1) (h4 : (4 : Int) ∣ x) (hp : (p : Int) ∣ x) :
    (4 * (p : Int)) ∣ x := by
  obtain ⟨a, ha⟩ := h4
  obtain ⟨b, hb⟩ := hp
  obtain ⟨k, hk⟩ : ∃ k : Int, (p : Int) = 2 * k + 1 := ⟨(p / 2 : Nat), by omega⟩
  exact ⟨a * p - k * (k + 1) * b,
    by linear_combination (p * p : Int) * ha - 4 * k * (k + 1) * hb - x * (p + 2 * k + 1) * hk⟩

theorem isBPlus_of_root {D : Int} {p b : Nat} (hodd : p % 2 = 1) (hD : D % 4 = 0 ∨ D % 4 = 1)
    (hb : b ≤ p) (hpar : (2 : Int) ∣ (b : Int) - D) (hroot : (p : Int) ∣ (b : Int) * b - D) :
    IsBPlus D p b := by
  refine ⟨hb, hpar, four_mul_dvd hodd ?_ hroot⟩
  rcases hD with h | h
  · obtain ⟨k, hk⟩ : ∃ k : Int, (b : Int) = 2 * k := ⟨(b / 2 : Nat), by omega⟩
    obtain ⟨m, hm⟩ : ∃ m : Int, D = 4 * m := ⟨D / 4, by omega⟩
    exact ⟨k * k - m, by rw [hk, hm]; ring⟩
  · obtain ⟨k, hk⟩ : ∃ k : Int, (b : Int) = 2 * k + 1 := ⟨(b / 2 : Nat), by omega⟩
    obtain ⟨m, hm⟩ : ∃ m : Int, D = 4 * m + 1 := ⟨D / 4, by omega⟩
    exact ⟨k * k + k - m, by rw [hk, hm]; ring⟩

theorem root_compl {D : Int} {p b : Nat} (hb : b ≤ p) (h : (p : Int) ∣ (b : Int) * b - D) :
    (p : Int) ∣ ((p - b : Nat) : Int) * (p - b : Nat) - D := by
  obtain ⟨c, hc⟩ := h
  rw [Nat.cast_sub hb]
  exact ⟨p - 2 * b + c, by linear_combination hc⟩

theorem modSigned_eq (bx : Int) {p : Nat} (hp : 0 < p) : (modSigned bx p : Int) = bx % p := by
  unfold modSigned
  dsimp only
  rcases lt_or_ge bx 0 with hb | hb
  · -- `bx = -|bx|`: the quotient is `-(|bx| / p) - 1`, or `-(|bx| / p)` when `p ∣ bx`
    have hdm : (p : Int) * ((bx.natAbs / p : Nat) : Int) + ((bx.natAbs % p : Nat) : Int) = -bx := by
      rw [← Int.ofNat_natAbs_of_nonpos hb.le]
      exact_mod_cast Nat.div_add_mod bx.natAbs p
    have hlt := Nat.mod_lt bx.natAbs hp
    have hp' : (0 : Int) < p := by exact_mod_cast hp
    by_cases h0 : bx.natAbs % p > 0
    · rw [if_pos ⟨hb, h0⟩, Nat.cast_sub hlt.le]
      exact ((Int.ediv_emod_unique (q := -((bx.natAbs / p : Nat) : Int) - 1) hp').2
        ⟨by linear_combination -hdm, by omega, by omega⟩).2.symm
    · have hr : ((bx.natAbs % p : Nat) : Int) = 0 := by omega
      rw [if_neg (fun h => h0 h.2)]
      exact ((Int.ediv_emod_unique (q := -((bx.natAbs / p : Nat) : Int)) hp').2
        ⟨by linear_combination 2 * hr - hdm, by omega, by omega⟩).2.symm
  · rw [if_neg (fun h => absurd h.1 (not_lt.2 hb)), Int.natCast_mod, Int.natAbs_of_nonneg hb]

theorem modSigned_lt {bx : Int} {p : Nat} (hp : 0 < p) : modSigned bx p < p := by
  have := Int.emod_lt_of_pos bx (by exact_mod_cast hp : (0 : Int) < p)
  rw [← modSigned_eq bx hp] at this
  exact_mod_cast this

theorem modSigned_dvd (bx : Int) {p : Nat} (hp : 0 < p) : (p : Int) ∣ bx - (modSigned bx p : Int) :=
  Int.dvd_self_sub_of_emod_eq (modSigned_eq bx hp).symm

theorem modSigned_congr {y y' : Int} {p : Nat} (hp : 0 < p) (h : (p : Int) ∣ y - y') :
    modSigned y p = modSigned y' p := by
  apply Int.ofNat_inj.1
  rw [modSigned_eq y hp, modSigned_eq y' hp]
  exact Int.emod_eq_emod_iff_emod_sub_eq_zero.2 (Int.emod_eq_zero_of_dvd h)

/-- Totality of the sign decision for an odd factor-base prime: whenever `p` divides the
polynomial value (so that `bx² ≡ D (mod p)`), `bx mod p` is `b_plus` or `p - b_plus`. -/
theorem modSigned_cases {D : Int} {p ref : Nat} {bx : Int} (hp : p.Prime) (href : IsBPlus D p ref)
    (hbx : (p : Int) ∣ bx * bx - D) :
    modSigned bx p = ref ∨ modSigned bx p = p - ref := by
  obtain ⟨c, hc⟩ := modSigned_dvd bx hp.pos
  obtain ⟨d, hd⟩ := hbx
  obtain ⟨hr1, _, e, he⟩ := href
  -- `m ≡ bx`, so `m² ≡ D ≡ ref² (mod p)`
  refine (sq_roots hp (modSigned_lt hp.pos).le hr1 ⟨d - 4 * e - c * (bx + modSigned bx p), ?_⟩).imp
    id (by omega)
  linear_combination hd - he - (bx + modSigned bx p) * hc

/-- The parity rule used for large primes is the same convention: the sign is `+`
exactly when `bx mod p` is the normalised root. (`type1` = even discriminant.) -/
theorem largeSign_iff {D : Int} {p ref : Nat} {bx : Int} {type1 : Bool} (hp : p.Prime) (hodd : p % 2 = 1)
    (href : IsBPlus D p ref) (hbx : (p : Int) ∣ bx * bx - D)
    (hty : type1 = true ↔ (2 : Int) ∣ D) :
    largeSign type1 bx p = 1 ↔ modSigned bx p = ref := by
  have hcases := modSigned_cases hp href hbx
  obtain ⟨hr1, hr2, _⟩ := href
  -- the parity tested is that of `ref`, and `ref`, `p - ref` have different parities
  have hre : ref % 2 = (if type1 then 0 else 1) := by
    cases type1
    · have hD : ¬ (2 : Int) ∣ D := fun h => by simpa using hty.2 h
      rw [if_neg Bool.false_ne_true]; omega
    · have hD : (2 : Int) ∣ D := hty.1 rfl
      rw [if_pos rfl]; omega
  unfold largeSign
  dsimp only
  rw [← hre]
  constructor
  · intro h
    by_contra hne
    rw [if_neg (by have := hcases.resolve_left hne; omega)] at h
    exact absurd h (by decide)
  · intro h
    rw [h, if_pos rfl]

end Ymq.ClassGroup
