/-
C14 "small", helper lemmas (Mathlib): the call site of `kernel_lanczos`.
* `Selected n M rk S`: `S` has `rk = rank M` bits and selects linearly independent rows of `M`;
  `rank` and `rank_reverse` both return such a pair (`rank_selected`, `rankReverse_selected`);
* `rank_masked_of_symmetric` (Montgomery's lemma bridged to the model): for a symmetric `G` and a
  `Selected` pair, `rank (G.mask(S)) = (rk, S)`: the masked matrix is in the domain of `pseudoinverse`;
* `select_pinv`: what follows the selection (mask, `pseudoinverse`, the assertion `ginv.rank() == (rk, mask)`);
* `pipeline_total`: the whole sequence reaches no panic site and returns Montgomery's pseudo-inverse.
-/
import Ymq.Lemmas.Gf2SmallDomain
import Ymq.Lemmas.Gf2SmallMontgomery
import Ymq.Model.Gf2Genblock

namespace Ymq.Gf2Small
open Module
open scoped Matrix

/-- what the call site uses of `rank` / `rank_reverse`: `S` has `rk = rank M` bits, all below `n`, and selects linearly
independent rows of `M` -/
structure Selected (n : Nat) (M : Mat) (rk S : Nat) : Prop where
  pc : popcount n S = rk
  lt : S < 2 ^ n
  rank : (toMat n M).rank = rk
  indep : LinearIndependent (ZMod 2) (selRows n M S)

theorem rank_selected {n : Nat} (dbg : Bool) {M : Mat} (hw : ∀ k, k < n → row M k < 2 ^ n) :
    ∃ rk S, rank n dbg M = some (rk, S) ∧ Selected n M rk S := by
  obtain ⟨rk, S, hr, hF⟩ := rank_spec_aux dbg hw
  exact ⟨rk, S, hr, hF.pc, hF.maskLt, hF.matrix_rank, hF.independent⟩

theorem toMat_reverse (n : Nat) (M : Mat) :
    toMat n (reverse n M) = (toMat n M).submatrix Fin.revPerm Fin.revPerm := by
  funext i j
  show vec n (row (reverse n M) i) j = vec n (row M (Fin.rev i)) (Fin.rev j)
  simp only [vec]
  rw [testBit_reverse M i.2 j]
  have h1 : ((Fin.rev i : Fin n) : Nat) = n - 1 - i := by rw [Fin.val_rev]; omega
  have h2 : ((Fin.rev j : Fin n) : Nat) = n - 1 - j := by rw [Fin.val_rev]; omega
  rw [h1, h2]
  simp [j.2]

theorem reverse_lt {n : Nat} (M : Mat) {k : Nat} (hk : k < n) : row (reverse n M) k < 2 ^ n := by
  rw [row_reverse M hk]; exact reverseLane_lt n _

theorem testBit_reverseLane_rev {n : Nat} (mk : Nat) (a : Fin n) :
    (reverseLane n mk).testBit a = mk.testBit (Fin.rev a) := by
  rw [testBit_reverseLane]
  have h1 : ((Fin.rev a : Fin n) : Nat) = n - 1 - a := by rw [Fin.val_rev]; omega
  rw [h1]; simp [a.2]

/-- the rows selected by the reversed mask, seen from the other end -/
def revEquiv (n mk : Nat) :
    {t : Fin n // (reverseLane n mk).testBit t = true} ≃ {t : Fin n // mk.testBit t = true} :=
  Equiv.subtypeEquiv Fin.revPerm (fun a => by rw [testBit_reverseLane_rev]; rfl)

theorem rankReverse_selected {n : Nat} (dbg : Bool) (M : Mat) :
    ∃ rk S, rankReverse n dbg M = some (rk, S) ∧ Selected n M rk S := by
  obtain ⟨rk, mk, hr, hS⟩ := rank_selected dbg (M := reverse n M) (fun k hk => reverse_lt M hk)
  refine ⟨rk, reverseLane n mk, by unfold rankReverse; rw [hr], ?_, reverseLane_lt n mk, ?_, ?_⟩
  · rw [← hS.pc, ← card_subtype_eq_popcount, ← card_subtype_eq_popcount]
    exact Fintype.card_congr (revEquiv n mk)
  · rw [← hS.rank, toMat_reverse, Matrix.rank_submatrix]
  · have h1 := (linearIndependent_equiv (revEquiv n mk)).mpr hS.indep
    apply LinearIndependent.of_comp (LinearMap.funLeft (ZMod 2) (ZMod 2) (Fin.rev : Fin n → Fin n))
    convert h1 using 1
    funext s j
    show toMat n M s.1 (Fin.rev j) = toMat n (reverse n M) (Fin.rev s.1) j
    rw [toMat_reverse]
    show _ = toMat n M (Fin.rev (Fin.rev s.1)) (Fin.rev j)
    rw [Fin.rev_rev]

theorem isSymm_toMat {n : Nat} {G : Mat} (h : symmetric n G = true) : (toMat n G).IsSymm := by
  apply Matrix.IsSymm.ext
  intro i j
  show vec n (row G j) i = vec n (row G i) j
  simp only [vec]
  rw [(symmetric_iff n G).mp h j i j.2 i.2]

theorem maskRows_lt {n : Nat} {G : Mat} (S : Nat) (hw : ∀ k, k < n → row G k < 2 ^ n) {k : Nat} (hk : k < n) :
    row (maskRows n G S) k < 2 ^ n := by
  rw [row_maskRows G S hk]
  split
  · exact Nat.lt_of_le_of_lt Nat.and_le_left (hw k hk)
  · exact Nat.two_pow_pos n

theorem supported_maskRows (n : Nat) (G : Mat) (S : Nat) : Supported n (maskRows n G S) S :=
  ⟨fun k hk hS => by rw [row_maskRows G S hk, hS]; rfl,
   fun k hk t ht => by
    rw [testBit_maskRows G S hk t] at ht
    simp only [Bool.and_eq_true] at ht
    exact ht.2.1⟩

/-- a symmetric matrix masked by a selection of `rank M` independent rows has that selection as its
own rank selection: the principal submatrix is invertible -/
theorem rank_masked_of_symmetric {n : Nat} (dbg : Bool) {G : Mat} {rk S : Nat}
    (hw : ∀ k, k < n → row G k < 2 ^ n) (hsym : symmetric n G = true) (hS : Selected n G rk S) :
    rank n dbg (maskRows n G S) = some (rk, S) := by
  have hmont : LinearIndependent (ZMod 2) (fun (s : {t : Fin n // S.testBit t = true}) (j : Fin n) =>
      if S.testBit j = true then toMat n G s.1 j else 0) :=
    montgomery_masked_independent (toMat n G) (isSymm_toMat hsym)
      (fun t : Fin n => S.testBit t = true) hS.indep
      (by rw [card_subtype_eq_popcount, hS.pc, hS.rank])
  have hfam : selRows n (maskRows n G S) S =
      fun (s : {t : Fin n // S.testBit t = true}) (j : Fin n) =>
        if S.testBit j = true then toMat n G s.1 j else 0 := by
    funext t j
    show vec n (row (maskRows n G S) t.1) j = if S.testBit j = true then vec n (row G t.1) j else 0
    simp only [vec]
    rw [testBit_maskRows G S t.1.2 j, t.2]
    cases S.testBit j <;> simp
  have hli : LinearIndependent (ZMod 2) (selRows n (maskRows n G S) S) := by
    rw [hfam]; exact hmont
  have := rank_of_independent_rows dbg (fun k hk => maskRows_lt S hw hk) hS.lt
    (supported_maskRows n G S).rowsZero hli
  have hpc : popcount n S = rk := hS.pc
  subst hpc
  exact this

/-- after the selection: the masked matrix is in the domain of `pseudoinverse`, whose value `W` has the selection
`(rk, S)` as well (the assertion at the call site) -/
theorem select_pinv {n : Nat} (dbg : Bool) {G : Mat} {rk S : Nat} (hn : n ≤ 256)
    (hw : ∀ k, k < n → row G k < 2 ^ n) (hsym : symmetric n G = true) (hS : Selected n G rk S) :
    ∃ W, pseudoinverse n dbg (maskRows n G S) = some W ∧ rank n dbg (maskRows n G S) = some (rk, S) ∧
      rank n dbg W = some (rk, S) ∧ W.length = n ∧ (∀ k, k < n → row W k < 2 ^ n) ∧ Supported n W S ∧
      toMat n W * toMat n (maskRows n G S) = toMat n (maskedId n S) := by
  have hmask := rank_masked_of_symmetric dbg hw hsym hS
  obtain ⟨W, hp, hl, hlt, hSup, hmul⟩ := pseudoinverse_total dbg hn (fun k hk => maskRows_lt S hw hk) hmask
    (supported_maskRows n G S)
  have hpost := rank_of_left_inverse dbg hS.lt hlt hSup hmul
  rw [hS.pc] at hpost
  exact ⟨W, hp, hmask, hpost, hl, hlt, hSup, hmul⟩

/-- the call site of `kernel_lanczos` on a symmetric Gram matrix: no panic site is reached (either
profile, either direction) and the result is Montgomery's pseudo-inverse -/
theorem pipeline_total {n : Nat} (dbg rev : Bool) {G : Mat} (hn : n ≤ 256)
    (hw : ∀ k, k < n → row G k < 2 ^ n) (hsym : symmetric n G = true) :
    ∃ rk S W, Ymq.Gf2Genblock.pipeline n dbg rev G = some (rk, S, W) ∧ Selected n G rk S ∧
      rank n dbg (maskRows n G S) = some (rk, S) ∧
      W.length = n ∧ (∀ k, k < n → row W k < 2 ^ n) ∧ Supported n W S ∧
      toMat n W * toMat n (maskRows n G S) = toMat n (maskedId n S) := by
  have hsel : ∃ rk S, (if rev then rankReverse n dbg G else rank n dbg G) = some (rk, S) ∧ Selected n G rk S := by
    cases rev with
    | true => simpa using rankReverse_selected dbg G
    | false => simpa using rank_selected dbg hw
  obtain ⟨rk, S, hr, hS⟩ := hsel
  obtain ⟨W, hp, hmask, hpost, hl, hlt, hSup, hmul⟩ := select_pinv dbg hn hw hsym hS
  refine ⟨rk, S, W, ?_, hS, hmask, hl, hlt, hSup, hmul⟩
  unfold Ymq.Gf2Genblock.pipeline
  rw [hr]
  simp only [mask_eq, hp, hpost, bne_self_eq_false, Bool.and_false, Bool.false_eq_true, if_false]

end Ymq.Gf2Small
