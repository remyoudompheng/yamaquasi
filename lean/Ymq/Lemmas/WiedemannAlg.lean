/-
The algebraic heart of Wiedemann's determinant algorithm (`SparseMat::_detp4`), over a field:
Cayley–Hamilton makes the reversed characteristic polynomial a connection polynomial of every
scalar Krylov sequence `s_k = w M^k v`.
-/
import Mathlib.LinearAlgebra.Matrix.Charpoly.Coeff
import Mathlib.Algebra.Polynomial.Reverse
import Mathlib.Algebra.BigOperators.Intervals
import Mathlib.Algebra.BigOperators.NatAntidiagonal

namespace Ymq.Wied
open Polynomial Matrix

variable {F : Type*} [CommRing F] [Nontrivial F] {n : ℕ}

/-- the scalar Krylov sequence `s_k = w · M^k · v` (`w` a row, `v` a column; `_detp4` uses
`w = e_0` and the Fibonacci start vector) -/
def krylovSeq (M : Matrix (Fin n) (Fin n) F) (w : Matrix (Fin 1) (Fin n) F)
    (v : Matrix (Fin n) (Fin 1) F) (k : ℕ) : F := (w * M ^ k * v) 0 0

theorem charpoly_natDegree_fin (M : Matrix (Fin n) (Fin n) F) : M.charpoly.natDegree = n := by
  rw [charpoly_natDegree_eq_dim, Fintype.card_fin]

/-- Cayley–Hamilton on the sequence: `Σ_m χ_m s_{k+m} = 0`. -/
theorem charpoly_annihilates (M : Matrix (Fin n) (Fin n) F) (w : Matrix (Fin 1) (Fin n) F)
    (v : Matrix (Fin n) (Fin 1) F) (k : ℕ) :
    ∑ m ∈ Finset.range (n + 1), M.charpoly.coeff m * krylovSeq M w v (k + m) = 0 := by
  have h := Matrix.aeval_self_charpoly M
  rw [aeval_eq_sum_range, charpoly_natDegree_fin] at h
  have e : w * (M ^ k * ∑ m ∈ Finset.range (n + 1), M.charpoly.coeff m • M ^ m) * v =
      ∑ m ∈ Finset.range (n + 1), M.charpoly.coeff m • (w * M ^ (k + m) * v) := by
    rw [Matrix.mul_sum, Matrix.mul_sum, Matrix.sum_mul]
    apply Finset.sum_congr rfl
    intro m _
    rw [Matrix.mul_smul, Matrix.mul_smul, Matrix.smul_mul, pow_add]
  rw [h, Matrix.mul_zero, Matrix.mul_zero, Matrix.zero_mul] at e
  have e0 := congrFun (congrFun e 0) 0
  rw [Matrix.sum_apply] at e0
  simp only [Matrix.zero_apply, Matrix.smul_apply, smul_eq_mul] at e0
  exact e0.symm

/-- In connection-polynomial form: the reversed characteristic polynomial `T = x^n χ(1/x)`
(`T_0 = 1`, `deg T ≤ n`) annihilates any `S` that carries the first `2n` terms, at every index
`n ≤ i < 2n`. -/
theorem reverse_charpoly_annihilates (M : Matrix (Fin n) (Fin n) F)
    (w : Matrix (Fin 1) (Fin n) F) (v : Matrix (Fin n) (Fin 1) F) (S : F[X])
    (hS : ∀ k, k < 2 * n → S.coeff k = krylovSeq M w v k) (i : ℕ) (h1 : n ≤ i) (h2 : i < 2 * n) :
    (M.charpoly.reverse * S).coeff i = 0 := by
  have hdeg := charpoly_natDegree_fin M
  rw [coeff_mul, Finset.Nat.sum_antidiagonal_eq_sum_range_succ
    (fun a b => M.charpoly.reverse.coeff a * S.coeff b) i]
  have hsplit : Finset.range (i + 1) = Finset.range (n + 1) ∪ Finset.Ico (n + 1) (i + 1) := by
    ext a; simp only [Finset.mem_range, Finset.mem_union, Finset.mem_Ico]; omega
  have hdisj : Disjoint (Finset.range (n + 1)) (Finset.Ico (n + 1) (i + 1)) := by
    rw [Finset.disjoint_left]; intro a ha hb
    simp only [Finset.mem_range, Finset.mem_Ico] at ha hb; omega
  rw [hsplit, Finset.sum_union hdisj]
  have hhi : ∑ a ∈ Finset.Ico (n + 1) (i + 1), M.charpoly.reverse.coeff a * S.coeff (i - a) = 0 := by
    apply Finset.sum_eq_zero
    intro a ha
    simp only [Finset.mem_Ico] at ha
    have : M.charpoly.reverse.coeff a = 0 :=
      coeff_eq_zero_of_natDegree_lt (lt_of_le_of_lt (reverse_natDegree_le _) (by omega))
    rw [this, zero_mul]
  rw [hhi, add_zero]
  have hlo : ∀ a ∈ Finset.range (n + 1),
      M.charpoly.reverse.coeff a * S.coeff (i - a) =
        M.charpoly.coeff (n + 1 - 1 - a) * krylovSeq M w v ((i - n) + (n + 1 - 1 - a)) := by
    intro a ha
    have ha' := Finset.mem_range.mp ha
    rw [coeff_reverse, hdeg, revAt_le (by omega), hS (i - a) (by omega)]
    have e1 : n + 1 - 1 - a = n - a := by omega
    have e2 : i - n + (n - a) = i - a := by omega
    rw [e1, e2]
  rw [Finset.sum_congr rfl hlo,
    Finset.sum_range_reflect (fun m => M.charpoly.coeff m * krylovSeq M w v ((i - n) + m)) (n + 1)]
  exact charpoly_annihilates M w v (i - n)

theorem reverse_charpoly_coeff_zero (M : Matrix (Fin n) (Fin n) F) :
    M.charpoly.reverse.coeff 0 = 1 := by
  rw [coeff_zero_reverse]; exact (charpoly_monic M)

theorem reverse_charpoly_natDegree_le (M : Matrix (Fin n) (Fin n) F) :
    M.charpoly.reverse.natDegree ≤ n := by
  have := reverse_natDegree_le M.charpoly
  rwa [charpoly_natDegree_fin] at this

theorem reverse_charpoly_coeff_top (M : Matrix (Fin n) (Fin n) F) :
    M.det = (-1) ^ n * M.charpoly.reverse.coeff n := by
  have hdeg := charpoly_natDegree_fin M
  rw [coeff_reverse, hdeg, revAt_le (le_refl n), Nat.sub_self, det_eq_sign_charpoly_coeff,
    Fintype.card_fin]

end Ymq.Wied
