/-
The invariant of the square-form cycle and its preservation by the common loop body
(squfof.rs:37-44 / 68-75, `Ymq.Squfof.step`).

With `N = n·k` not a perfect square and `s = ⌊√N⌋`, the state `(p_prev, q_prev, q) = (P, Q', Q)`
satisfies
    P² + Q'·Q = N,   1 ≤ P ≤ s,   s < P + Q'                                   (`Inv`)
(the principal cycle of reduced forms: `0 < P < √N`, `√N − P < Q' `). From it:
`Q ≥ 1` (no division by zero), `Q ≤ s + P` (so `b ≥ 1`), `b·Q > P` (no underflow), every
intermediate value `< N < 2^64` (no overflow), `q_prev − b·(p − p_prev) > 0` (no underflow), and
the next state `(p, Q, qnext)` satisfies `Inv` again.
-/
import Ymq.Model.Squfof
import Mathlib.Tactic.Ring

namespace Ymq.Squfof

/-- `N < 2^64` is not a perfect square and `s` is its floor square root -/
structure Ctx (N s : Nat) : Prop where
  lt : N < W
  lo : s * s < N
  hi : N < (s + 1) * (s + 1)

/-- the loop invariant on `(p_prev, q_prev, q)` -/
structure Inv (N s P Q' Q : Nat) : Prop where
  norm : P * P + Q' * Q = N
  ppos : 1 ≤ P
  ple : P ≤ s
  red : s < P + Q'

theorem Ctx.s_lt {N s : Nat} (c : Ctx N s) : s < 4294967296 :=
  Nat.mul_self_lt_mul_self_iff.mp (lt_trans c.lo c.lt)

theorem Ctx.s_pos {N s : Nat} (c : Ctx N s) : 1 ≤ s := by
  rcases Nat.eq_zero_or_pos s with h | h
  · subst h; have := c.hi; have := c.lo; omega
  · exact h

section
variable {N s P Q' Q : Nat}

theorem Inv.sq_lt (c : Ctx N s) (h : Inv N s P Q' Q) : P * P < N :=
  Nat.lt_of_le_of_lt (Nat.mul_le_mul h.ple h.ple) c.lo

theorem Inv.qpos (c : Ctx N s) (h : Inv N s P Q' Q) : 1 ≤ Q := by
  rcases Nat.eq_zero_or_pos Q with h0 | h0
  · subst h0
    have := h.norm; have := h.sq_lt c
    simp at *; omega
  · exact h0

theorem Inv.qprev_pos (h : Inv N s P Q' Q) : 1 ≤ Q' := by
  have := h.ple; have := h.red; omega

theorem Inv.q_le (c : Ctx N s) (h : Inv N s P Q' Q) : Q ≤ N := by
  have h1 : Q ≤ Q' * Q := Nat.le_mul_of_pos_left Q h.qprev_pos
  have := h.norm; omega

theorem Inv.qprev_le (c : Ctx N s) (h : Inv N s P Q' Q) : Q' ≤ N := by
  have h1 : Q' ≤ Q' * Q := Nat.le_mul_of_pos_right Q' (h.qpos c)
  have := h.norm; omega

/-- `Q < √N + P`: the quotient `b` is at least 1 -/
theorem Inv.q_le_sp (c : Ctx N s) (h : Inv N s P Q' Q) : Q ≤ s + P := by
  by_contra hc
  obtain ⟨d, hd⟩ := Nat.exists_eq_add_of_le h.ple           -- s = P + d
  obtain ⟨a, ha⟩ := Nat.exists_eq_add_of_le (Nat.succ_le_of_lt h.red)   -- P + Q' = s + 1 + a
  obtain ⟨e, he⟩ := Nat.exists_eq_add_of_le (Nat.succ_le_of_lt (Nat.lt_of_not_le hc))
  have hQ' : Q' = d + 1 + a := by omega
  have hQ : Q = 2 * P + d + 1 + e := by omega
  have hn := h.norm
  have hi := c.hi
  subst hd hQ' hQ
  have : (P + d + 1) * (P + d + 1) ≤ P * P + (d + 1 + a) * (2 * P + d + 1 + e) := by
    have e1 : P * P + (d + 1 + a) * (2 * P + d + 1 + e)
        = (P + d + 1) * (P + d + 1) + ((d + 1) * e + a * (2 * P + d + 1 + e)) := by ring
    omega
  omega

end

theorem div_bounds {x q b : Nat} (hq : 0 < q) (hb : b = x / q) : b * q ≤ x ∧ x < b * q + q := by
  subst hb
  refine ⟨Nat.div_mul_le_self _ _, ?_⟩
  have := Nat.lt_mul_div_succ x hq
  rwa [Nat.mul_succ, Nat.mul_comm] at this

theorem step_some_iff {s P Q' Q p qn b : Nat} (hb : b = (s + P) / Q) :
    step s P Q' Q = some (p, qn) ↔
      ¬ s + P ≥ W ∧ ¬ Q = 0 ∧ ¬ b * Q ≥ W ∧ ¬ b * Q < P ∧
        (P > b * Q - P ∧ ¬ b * (P - (b * Q - P)) ≥ W ∧ ¬ Q' + b * (P - (b * Q - P)) ≥ W ∧
            b * Q - P = p ∧ Q' + b * (P - (b * Q - P)) = qn ∨
          ¬ P > b * Q - P ∧ ¬ b * (b * Q - P - P) ≥ W ∧ ¬ Q' < b * (b * Q - P - P) ∧
            b * Q - P = p ∧ Q' - b * (b * Q - P - P) = qn) := by
  subst hb
  unfold step
  simp only [Option.ite_none_left_eq_some]
  rw [ite_eq_iff]
  simp only [Option.ite_none_left_eq_some, Option.some.injEq, Prod.mk.injEq]

/-- the norm after a step down, `P = p + d`: `p² + Q·(Q' + b·d) = P² + Q'·Q` since `b·Q = p + P` -/
theorem norm_down {p d b Q Q' : Nat} (h : b * Q = 2 * p + d) :
    p * p + Q * (Q' + b * d) = (p + d) * (p + d) + Q' * Q := by
  have : Q * (Q' + b * d) = Q' * Q + b * Q * d := by ring
  rw [this, h]; ring

/-- the norm after a step up, `p = P + d`: `p² = P² + Q·(b·d)`, so `p² < N` leaves `b·d < Q'` -/
theorem norm_up {P d b Q Q' N : Nat} (h : b * Q = 2 * P + d) (hN : P * P + Q' * Q = N)
    (hlt : (P + d) * (P + d) < N) :
    b * d < Q' ∧ (P + d) * (P + d) + Q * (Q' - b * d) = N := by
  have e : (P + d) * (P + d) = P * P + Q * (b * d) := by
    have : Q * (b * d) = b * Q * d := by ring
    rw [this, h]; ring
  rw [Nat.mul_comm Q' Q] at hN
  have hlt' : Q * (b * d) < Q * Q' := by omega
  refine ⟨Nat.lt_of_mul_lt_mul_left hlt', ?_⟩
  rw [Nat.mul_sub]; omega

theorem step_ok {N s P Q' Q : Nat} (c : Ctx N s) (h : Inv N s P Q' Q) :
    ∃ p qn, step s P Q' Q = some (p, qn) ∧ Inv N s p Q qn := by
  have hs := c.s_lt
  have hQ := h.qpos c
  have hQle := h.q_le_sp c
  have hple := h.ple
  have hred := h.red
  have hQ'N := h.qprev_le c
  have hNW := c.lt
  obtain ⟨b, hb⟩ : ∃ b, b = (s + P) / Q := ⟨_, rfl⟩
  obtain ⟨hb1, hb2⟩ := div_bounds (x := s + P) hQ hb
  have hbpos : 1 ≤ b := by rw [hb]; exact Nat.div_pos hQle (by omega)
  have hbQ : Q ≤ b * Q := Nat.le_mul_of_pos_left Q hbpos
  have hPlt : P + 1 ≤ b * Q := by
    rcases Nat.lt_or_ge s Q with hq | hq <;> omega
  have g1 : ¬ s + P ≥ W := by unfold W; omega
  have g3 : ¬ b * Q ≥ W := by unfold W; omega
  obtain ⟨p, hp⟩ : ∃ p, p = b * Q - P := ⟨_, rfl⟩
  have hps : p ≤ s := by omega
  have hpp : p * p < N := Nat.lt_of_le_of_lt (Nat.mul_le_mul hps hps) c.lo
  simp only [step_some_iff hb, ← hp]
  by_cases hcase : P > p
  · obtain ⟨d, rfl⟩ := Nat.exists_eq_add_of_le (Nat.le_of_lt hcase)
    have hqn := (norm_down (Q' := Q') (show b * Q = 2 * p + d by omega)).trans h.norm
    rw [Nat.add_sub_cancel_left]
    -- `qnext ≤ Q·qnext ≤ N` fits a `u64`
    have hle : Q' + b * d ≤ Q * (Q' + b * d) := Nat.le_mul_of_pos_left _ hQ
    exact ⟨p, _, ⟨g1, by omega, g3, by omega, Or.inl ⟨hcase, by omega, by omega, rfl, rfl⟩⟩,
      ⟨hqn, by omega, hps, by omega⟩⟩
  · obtain ⟨d, rfl⟩ := Nat.exists_eq_add_of_le (Nat.le_of_not_gt hcase)
    obtain ⟨hlt, hqn⟩ := norm_up (show b * Q = 2 * P + d by omega) h.norm hpp
    rw [Nat.add_sub_cancel_left]
    exact ⟨_, _, ⟨g1, by omega, g3, by omega, Or.inr ⟨hcase, by omega, by omega, rfl, rfl⟩⟩,
      ⟨hqn, by omega, hps, by omega⟩⟩

/-- values produced by the body are `u64`s (needed to apply the seed hypothesis) -/
theorem step_lt {s P Q' Q p qn : Nat} (hQ' : Q' < W) (h : step s P Q' Q = some (p, qn)) :
    p < W ∧ qn < W := by
  obtain ⟨_, _, _, _, ⟨_, _, _, rfl, rfl⟩ | ⟨_, _, _, rfl, rfl⟩⟩ := (step_some_iff rfl).mp h
  · constructor <;> omega
  · constructor <;> omega

end Ymq.Squfof
