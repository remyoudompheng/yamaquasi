/-
The oracle contract of the `Factor` control-flow model with `arith::perfect_power` and `pollard_rho::rho` inside the model as
well: two more premises are "the field IS the model of the whole function" —

  `PerfectPowerModel o`: `(o.pp t n).1 = (Arith.perfectPower n).join`   (Ymq/Model/Arith.lean, C08; ALL answers, `None` included)
  `RhoModel o`:          `(o.rho t n).1 = (PollardRho.rho n).join`      (Ymq/Model/PollardRho.lean over the word-exact `rho64` of
                                                                          C16: the budget table, the nine polynomials, first success)

They imply the exit-level `UsesPerfectPower o`, `UsesRho64 o` of Ymq/Lemmas/FactorClosed.lean (`usesPerfectPower_of_model'`,
`usesRho64_of_model'`); the premises on `qs64` / `squfof` are those of Ymq/Lemmas/FactorClosed2.lean. The guarded oracle is
`guardOracle3 o = guardOracle (guardRho o)`: besides `qs64` / `squfof` outside `Guard` it silences `rho` outside
`RhoGuard n := NoSmall n ∧ n ≠ 1`, which is what `factor_impl` guarantees about every argument of `rho`; `factor_guard3_eq` and
`oracleOK_guard3` are the two halves, both instances of the lemmas of FactorClosed2.

`.join` maps "the real function does not return" (outer `none` of a model) to `None`; the no-panic
theorems (C08 `perfect_power_no_panic`, C03Rho `rho_no_panic_call_site`) show that this case does not
occur for the arguments `factor_impl` passes. Both functions are deterministic, so the premises are
tested on every real run: the follow-up requests of the C01 trace replay re-ask the recorded `pp` and
`rho` answers to the models (`model_followups` of props/c01_rho.py, called from props/c01.py).
-/
import Ymq.Lemmas.FactorClosed2
import Ymq.Props.C03Rho

namespace Ymq.Factor

variable {σ : Type}

/-- the `pp` field IS the model of `arith::perfect_power` (every answer, `None` included) -/
def PerfectPowerModel (o : Oracle σ) : Prop :=
  ∀ t n, (o.pp t n).1 = (Ymq.Arith.perfectPower n).join

/-- the `rho` field IS the model of `pollard_rho::rho` (every answer, `None` included) -/
def RhoModel (o : Oracle σ) : Prop :=
  ∀ t n, (o.rho t n).1 = (Ymq.PollardRho.rho n).join

theorem usesPerfectPower_of_model' {o : Oracle σ} (h : PerfectPowerModel o) : UsesPerfectPower o := by
  intro t n r hr
  rw [h t n] at hr
  exact Option.join_eq_some_iff.mp hr

theorem usesRho64_of_model' {o : Oracle σ} (h : RhoModel o) : UsesRho64 o := by
  intro t n as b hr
  rw [h t n] at hr
  obtain ⟨c, iters, a, h64, has, _⟩ := Ymq.C03Rho.rho_uses_rho64 n as b (Option.join_eq_some_iff.mp hr)
  exact ⟨c, iters, a, h64, has⟩

/-- what holds at every call of `pollard_rho::rho` inside `factor_impl` -/
def RhoGuard (n : Nat) : Prop := NoSmall n ∧ n ≠ 1

instance : DecidablePred RhoGuard := fun n => by unfold RhoGuard NoSmall; infer_instance

/-- `o` with the `rho` field silenced outside `RhoGuard` -/
def guardRho (o : Oracle σ) : Oracle σ :=
  { o with rho := fun t n => if RhoGuard n then o.rho t n else (none, (o.rho t n).2) }

/-- `rho` only inside `RhoGuard`, `qs64` / `squfof` only inside `Guard` -/
def guardOracle3 (o : Oracle σ) : Oracle σ := guardOracle (guardRho o)

theorem factor_guard3_eq (o : Oracle σ) (hok : OracleOK (guardOracle3 o)) (fuel n : Nat) (alg : Algo)
    (os : σ) : factor o fuel n alg os = factor (guardOracle3 o) fuel n alg os :=
  factor_congr (o := o) (o' := guardOracle3 o) rfl
    (factorImpl_congr hok alg fun rec _ s hns => factorStep_fields o _ _ _ rec
      (fun h1 _ => if_pos ⟨hns, h1⟩)
      (fun h1 hb _ => ⟨if_pos (guard_of_noSmall hns h1 hb), if_pos (guard_of_noSmall hns h1 hb)⟩) alg s)
    fuel n os

theorem oracleOK_guard3 {o : Oracle σ} (hpp : PerfectPowerModel o) (hfs : UsesFinalStep o)
    (hqs : Qs64Model o) (hrho : RhoModel o) (hpm1 : UsesPm1 o) (hecm : UsesEcmExits o)
    (hsq : SqufofModel Ymq.Squfof.exactSeed o) (hun : UsesUnexpectedFactor o) (hres : ResidualOK o) :
    OracleOK (guardOracle3 o) :=
  oracleOK_guard (o := guardRho o) Ymq.Squfof.exactSeed_ok (usesPerfectPower_of_model' hpp) hfs hqs
    (fun t n as b h => usesRho64_of_model' hrho t n as b (guarded_eq_some h).2) hpm1 hecm hsq hun
    ⟨hres.unexpectedNotWhole⟩

theorem join_eq_iff_of_some {α} {x : Option (Option α)} (hx : ∃ y, x = some y) (r : Option α) :
    x.join = r ↔ x = some r := by
  obtain ⟨y, rfl⟩ := hx
  simp only [Option.join_some, Option.some.injEq]

end Ymq.Factor
