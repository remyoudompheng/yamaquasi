/-
C13 helper lemmas, arithmetic core: bit lengths, the cursor loops of `sieve_block`
(`advance`, `unrollKp`, `stepSkipped`, `stepPair`, `stepSingle`), the recovery tests of
`smooths`, and the lists of offsets registered in the bucket tables (`arith`, `unrolled`,
`largeOffsets`, `vlargeOffsets`).
-/
import Ymq.Model.Sieve
import Ymq.Lemmas.Bits
import Mathlib.Tactic.Ring
import Mathlib.Tactic.Linarith
import Mathlib.Data.Nat.ModEq

namespace Ymq.Sieve

theorem bitlen_lt_succ_iff (p l : Nat) : bitlen p < l + 1 ↔ p < 2 ^ l :=
  Nat.lt_succ_iff.trans (Bits.bitlen_le_iff bitlen (fun _ => rfl) p l)

theorem bitlen_mono {p q : Nat} (h : p ≤ q) : bitlen p ≤ bitlen q := by
  by_contra hc
  obtain ⟨m, hm⟩ : ∃ m, bitlen p = m + 1 := ⟨bitlen p - 1, by omega⟩
  have h1 : bitlen q < m + 1 := by omega
  have h2 := (bitlen_lt_succ_iff q m).1 h1
  have h3 : bitlen p < m + 1 := (bitlen_lt_succ_iff p m).2 (lt_of_le_of_lt h h2)
  omega

theorem lt_two_pow_bitlen (p : Nat) : p < 2 ^ bitlen p :=
  (bitlen_lt_succ_iff p (bitlen p)).1 (Nat.lt_succ_self _)

theorem two_pow_le_of_bitlen {p l : Nat} (h : l + 1 ≤ bitlen p) : 2 ^ l ≤ p := by
  by_contra hc
  have : bitlen p < l + 1 := (bitlen_lt_succ_iff p l).2 (by omega)
  omega

/-- `c'` is the cursor of the next block: reduced, and `c' + 32768 ≡ c (mod p)`. -/
def Next (p c c' : Nat) : Prop := c' < p ∧ (c' + BLOCK) % p = c

theorem Next.chain {p c c' B o : Nat} (h : Next p c c') (hc : (c + B * BLOCK) % p = o) :
    (c' + (B + 1) * BLOCK) % p = o := by
  obtain ⟨_, h2⟩ := h
  have : c' + (B + 1) * BLOCK = (c' + BLOCK) + B * BLOCK := by ring
  rw [this, Nat.add_mod, h2, ← hc]
  exact (Nat.add_mod _ _ _).symm ▸ by rw [Nat.mod_mod, ← Nat.add_mod]

theorem advance_spec (p : Nat) (hp : 0 < p) :
    ∀ (f off : Nat), BLOCK ≤ f + off →
      ∃ k, advance p (f + 1) off = some (off + k * p) ∧ BLOCK ≤ off + k * p ∧
        (off < BLOCK → off + k * p < BLOCK + p) ∧ (BLOCK ≤ off → k = 0) := by
  intro f
  induction f with
  | zero =>
    intro off h
    refine ⟨0, ?_, by omega, by omega, fun _ => rfl⟩
    have : ¬ off < BLOCK := by omega
    simp [advance, this]
  | succ f ih =>
    intro off h
    by_cases hlt : off < BLOCK
    · obtain ⟨k, h1, h2, h3, h4⟩ := ih (off + p) (by omega)
      by_cases hlt2 : off + p < BLOCK
      · refine ⟨k + 1, ?_, ?_, ?_, by omega⟩
        · rw [advance]; simp only [hlt, if_true]; rw [h1]; congr 1; ring
        · have : off + (k + 1) * p = off + p + k * p := by ring
          omega
        · intro _
          have : off + (k + 1) * p = off + p + k * p := by ring
          have := h3 hlt2
          omega
      · have hk := h4 (by omega)
        subst hk
        refine ⟨1, ?_, by omega, by omega, by omega⟩
        rw [advance]; simp only [hlt, if_true]; rw [h1]; congr 1; ring
    · refine ⟨0, ?_, by omega, by omega, fun _ => rfl⟩
      rw [advance]; simp [hlt]

theorem unrollKp_spec (p ll : Nat) (hp : 0 < p) :
    ∀ (f kp : Nat), ll ≤ f + kp →
      ∃ j, unrollKp p ll (f + 1) kp = some (kp + j * (2 * p)) ∧ ll ≤ kp + j * (2 * p) ∧
        (j = 0 ∨ kp + j * (2 * p) < ll + 2 * p) := by
  intro f
  induction f with
  | zero =>
    intro kp h
    refine ⟨0, ?_, by omega, Or.inl rfl⟩
    have : ¬ kp < ll := by omega
    simp [unrollKp, this]
  | succ f ih =>
    intro kp h
    by_cases hlt : kp < ll
    · obtain ⟨j, h1, h2, h3⟩ := ih (kp + 2 * p) (by omega)
      refine ⟨j + 1, ?_, ?_, Or.inr ?_⟩
      · rw [unrollKp]; simp only [hlt, if_true]; rw [h1]; congr 1; ring
      · have : kp + (j + 1) * (2 * p) = kp + 2 * p + j * (2 * p) := by ring
        omega
      · have : kp + (j + 1) * (2 * p) = kp + 2 * p + j * (2 * p) := by ring
        rcases h3 with h3 | h3
        · subst h3; omega
        · omega
    · refine ⟨0, ?_, by omega, Or.inl rfl⟩
      rw [unrollKp]; simp [hlt]

theorem next_of_landing {p c k : Nat} (hc : c < p) (h1 : BLOCK ≤ c + k * p) (h2 : c + k * p < BLOCK + p)
    (hp : p ≤ BLOCK) : (c + k * p) % BLOCK % 65536 = c + k * p - BLOCK ∧ Next p c (c + k * p - BLOCK) := by
  have e1 : (c + k * p) % BLOCK = c + k * p - BLOCK := by
    simp only [BLOCK] at *; omega
  refine ⟨?_, ?_, ?_⟩
  · rw [e1]; simp only [BLOCK] at *; omega
  · omega
  · have : c + k * p - BLOCK + BLOCK = c + k * p := by omega
    rw [this, Nat.add_mul_mod_self_right, Nat.mod_eq_of_lt hc]

theorem stepSingle_next {p c : Nat} (hp : 0 < p) (hpB : p ≤ BLOCK) (hc : c < p) :
    ∃ c', stepSingle p c = some (some c') ∧ Next p c c' := by
  have hB : BLOCK = 32768 := rfl
  have hne : c ≠ NONE := by unfold NONE; omega
  obtain ⟨k, h1, h2, h3, _⟩ := advance_spec p hp BLOCK c (by omega)
  obtain ⟨e, hn⟩ := next_of_landing hc h2 (h3 (by omega)) hpB
  refine ⟨c + k * p - BLOCK, ?_, hn⟩
  simp only [stepSingle, hne, if_false, h1, Option.map_some, e]

theorem stepSkipped_next {p c : Nat} (hp : 0 < p) (hp16 : p < 65536) (hc : c < p) :
    ∃ c', stepSkipped p c = some c' ∧ Next p c c' := by
  have hb : BLOCK % p < p := Nat.mod_lt _ hp
  have hdm := Nat.div_add_mod BLOCK p
  unfold stepSkipped
  have h0 : ¬ c + p < BLOCK % p := by omega
  simp only [h0, if_false]
  by_cases hge : c + p - BLOCK % p ≥ p
  · simp only [hge, if_true]
    have hlt : c + p - BLOCK % p - p < p := by omega
    refine ⟨_, rfl, ?_, ?_⟩
    · rw [Nat.mod_eq_of_lt (by omega)]; exact hlt
    · rw [Nat.mod_eq_of_lt (by omega : c + p - BLOCK % p - p < 65536)]
      have : c + p - BLOCK % p - p + BLOCK = c + p * (BLOCK / p) := by omega
      rw [this, Nat.add_mul_mod_self_left, Nat.mod_eq_of_lt hc]
  · simp only [hge, if_false]
    have hlt : c + p - BLOCK % p < p := by omega
    refine ⟨_, rfl, ?_, ?_⟩
    · rw [Nat.mod_eq_of_lt (by omega)]; exact hlt
    · rw [Nat.mod_eq_of_lt (by omega : c + p - BLOCK % p < 65536)]
      have : c + p - BLOCK % p + BLOCK = c + p * (BLOCK / p + 1) := by
        have : p * (BLOCK / p + 1) = p * (BLOCK / p) + p := by ring
        omega
      rw [this, Nat.add_mul_mod_self_left, Nat.mod_eq_of_lt hc]

theorem stepSkipped_some {p : Nat} (hp : 0 < p) (c : Nat) : ∃ v, stepSkipped p c = some v := by
  have hb : BLOCK % p < p := Nat.mod_lt _ hp
  unfold stepSkipped
  rw [if_neg (by omega)]
  exact ⟨_, rfl⟩

/-- one cursor of `stepPair` after the common shift `kp`. -/
theorem pair_cursor {p c kp m : Nat} (hp : 0 < p) (hp4 : p ≤ 4096) (hc : c < p) (hcm : c ≤ m) (hm : m < p)
    (j : Nat) (hkp : kp = j * (2 * p)) (hj : j = 0 ∨ kp < BLOCK - p - m + 2 * p) :
    c + kp ≠ NONE ∧ ∃ c', (advance p (BLOCK + 1) (c + kp)).map (fun o => some (o % BLOCK % 65536)) = some (some c') ∧
      Next p c c' := by
  have hB : BLOCK = 32768 := rfl
  have hlt : c + kp < BLOCK + p := by
    rcases hj with hj | hj
    · subst hj; simp at hkp; subst hkp; rw [hB]; omega
    · rw [hB] at *; omega
  refine ⟨by unfold NONE; rw [hB] at hlt; omega, ?_⟩
  obtain ⟨k, h1, h2, h3, h4⟩ := advance_spec p hp BLOCK (c + kp) (by omega)
  have e : c + kp + k * p = c + (2 * j + k) * p := by subst hkp; ring
  have hland : c + (2 * j + k) * p < BLOCK + p := by
    rw [← e]
    by_cases hb : c + kp < BLOCK
    · exact h3 hb
    · have := h4 (by omega); subst this; simpa using hlt
  obtain ⟨e2, hn⟩ := next_of_landing hc (by rw [← e]; exact h2) hland (by rw [hB]; omega)
  refine ⟨c + (2 * j + k) * p - BLOCK, ?_, hn⟩
  rw [h1, Option.map_some, e, e2]

theorem stepPair_two {p c1 c2 : Nat} (hp : 0 < p) (hp4 : p ≤ 4096) (h1 : c1 < p) (h2 : c2 < p) :
    ∃ w1 w2, stepPair p c1 c2 = some (some w1, some w2) ∧ Next p c1 w1 ∧ Next p c2 w2 := by
  have hB : BLOCK = 32768 := rfl
  have n1 : c1 ≠ NONE := by unfold NONE; omega
  have n2 : c2 ≠ NONE := by unfold NONE; omega
  have hm : max c1 c2 < p := by omega
  have hund : ¬ BLOCK < p + max c1 c2 := by rw [hB]; omega
  obtain ⟨j, hk, _, hj⟩ := unrollKp_spec p (BLOCK - p - max c1 c2) hp BLOCK 0 (by omega)
  simp only [Nat.zero_add] at hk hj
  obtain ⟨a1, w1, e1, g1⟩ := pair_cursor hp hp4 h1 (le_max_left c1 c2) hm j rfl hj
  obtain ⟨a2, w2, e2, g2⟩ := pair_cursor hp hp4 h2 (le_max_right c1 c2) hm j rfl hj
  refine ⟨w1, w2, ?_, g1, g2⟩
  unfold stepPair
  simp only [n1, n2, ne_eq, not_false_eq_true, and_self, if_true, hund, if_false, hk, Option.bind_eq_bind,
    Option.bind_some, a1, a2, e1, e2]

theorem stepPair_one {p c1 : Nat} (hp : 0 < p) (hp4 : p ≤ 4096) (h1 : c1 < p) :
    ∃ w1, stepPair p c1 NONE = some (some w1, none) ∧ Next p c1 w1 := by
  have hB : BLOCK = 32768 := rfl
  have n1 : c1 ≠ NONE := by unfold NONE; omega
  obtain ⟨_, w1, e1, g1⟩ := pair_cursor hp hp4 h1 (le_refl c1) h1 0 rfl (Or.inl rfl)
  simp only [Nat.zero_mul, Nat.add_zero] at e1
  refine ⟨w1, ?_, g1⟩
  unfold stepPair
  simp only [n1, ne_eq, not_false_eq_true, not_true_eq_false, and_false, if_false, if_true,
    Option.bind_eq_bind, Option.bind_some, e1]

/-- `modu16(r) == off`: for a reduced cursor `c` of block `B` the test is exact. -/
theorem recover_small {p c B o r : Nat} (hc : c < p) (hinv : (c + B * BLOCK) % p = o) :
    r % p = c ↔ (B * BLOCK + r) % p = o := by
  have hp : 0 < p := by omega
  rw [← hinv]
  constructor
  · intro h
    have h1 : r ≡ c [MOD p] := by unfold Nat.ModEq; rw [h, Nat.mod_eq_of_lt hc]
    have h2 := Nat.ModEq.add_right (B * BLOCK) h1
    unfold Nat.ModEq at h2
    rw [Nat.add_comm (B * BLOCK) r]; exact h2
  · intro h
    have h' : (r + B * BLOCK) ≡ (c + B * BLOCK) [MOD p] := by
      unfold Nat.ModEq; rw [Nat.add_comm r]; exact h
    have := Nat.ModEq.add_right_cancel' _ h'
    unfold Nat.ModEq at this
    rw [this, Nat.mod_eq_of_lt hc]

/-- `r == off || r == off + p` for `BLOCK/2 ≤ p`: exact for positions inside the block. -/
theorem recover_mid {p c B o r : Nat} (hc : c < p) (hp : BLOCK ≤ 2 * p) (hr : r < BLOCK)
    (hinv : (c + B * BLOCK) % p = o) :
    (r = c ∨ r = c + p) ↔ (B * BLOCK + r) % p = o := by
  rw [← recover_small hc hinv]
  constructor
  · rintro (h | h)
    · subst h; exact Nat.mod_eq_of_lt hc
    · subst h; rw [Nat.add_mod_right]; exact Nat.mod_eq_of_lt hc
  · intro h
    have hdm := Nat.div_add_mod r p
    rw [h] at hdm
    generalize r / p = q at hdm
    have hq : q < 2 := by
      by_contra hq
      have h2 : 2 ≤ q := Nat.le_of_not_lt hq
      have : p * 2 ≤ p * q := Nat.mul_le_mul_left p h2
      omega
    have : q = 0 ∨ q = 1 := by omega
    rcases this with h0 | h0
    · left; rw [h0] at hdm; omega
    · right; rw [h0] at hdm; omega

theorem arith_range (p bound : Nat) :
    ∀ (f off : Nat) (l : List Nat), arith p bound f off = some l →
      ∃ k, l = List.range' off k p ∧ ∀ j, j < k ↔ off + j * p < bound := by
  intro f
  induction f with
  | zero => intro off l h; simp [arith] at h
  | succ f ih =>
    intro off l h
    rw [arith] at h
    by_cases hlt : off < bound
    · rw [if_pos hlt, Option.map_eq_some_iff] at h
      obtain ⟨l', hl', rfl⟩ := h
      obtain ⟨k, rfl, hj⟩ := ih _ _ hl'
      refine ⟨k + 1, List.range'_succ.symm, fun j => ?_⟩
      cases j with
      | zero => simpa using hlt
      | succ j => rw [Nat.add_lt_add_iff_right, hj j, Nat.succ_mul, Nat.add_assoc, Nat.add_comm p]
    · rw [if_neg hlt] at h
      cases h
      refine ⟨0, rfl, fun j => ?_⟩
      have : off ≤ off + j * p := Nat.le_add_right _ _
      omega

theorem arith_ok (p bound : Nat) (hp : 0 < p) :
    ∀ (f off : Nat), bound ≤ f + off →
      ∃ k, arith p bound (f + 1) off = some (List.range' off k p) ∧ ∀ j, j < k ↔ off + j * p < bound := by
  have hex : ∀ (f off : Nat), bound ≤ f + off → ∃ l, arith p bound (f + 1) off = some l := by
    intro f
    induction f with
    | zero => intro off h; exact ⟨[], by rw [arith, if_neg (by omega)]⟩
    | succ f ih =>
      intro off h
      by_cases hlt : off < bound
      · obtain ⟨l, hl⟩ := ih (off + p) (by omega)
        exact ⟨off :: l, by rw [arith, if_pos hlt, hl]; rfl⟩
      · exact ⟨[], by rw [arith, if_neg hlt]⟩
  intro f off h
  obtain ⟨l, hl⟩ := hex f off h
  obtain ⟨k, rfl, hk⟩ := arith_range p bound _ _ _ hl
  exact ⟨k, hl, hk⟩

/-- the unrolled loop makes `j` rounds: the first `2j` terms of both progressions from `kp` on, in some order, all of
them (for starts up to `rmax`) below the interval end. -/
theorem unrolled_perm (interval p o1 o2 rmax : Nat) :
    ∀ (f kp : Nat) (l : List Nat) (kp' : Nat), unrolled interval p o1 o2 rmax f kp = some (l, kp') →
      ∃ j, kp' = kp + j * (2 * p) ∧
        l.Perm (List.range' (kp + o1) (2 * j) p ++ List.range' (kp + o2) (2 * j) p) ∧
        ∀ i, i < 2 * j → kp + i * p + rmax < interval := by
  intro f
  induction f with
  | zero => intro kp l kp' h; simp [unrolled] at h
  | succ f ih =>
    intro kp l kp' h
    rw [unrolled] at h
    by_cases hlt : kp + p + rmax < interval
    · rw [if_pos hlt, Option.map_eq_some_iff] at h
      obtain ⟨⟨l', k'⟩, hl', heq⟩ := h
      cases heq
      obtain ⟨j, rfl, hperm, hb⟩ := ih _ _ _ hl'
      refine ⟨j + 1, by rw [Nat.add_mul, Nat.one_mul, Nat.add_assoc, Nat.add_comm (2 * p)], ?_, fun i hi => ?_⟩
      · have e : ∀ o, List.range' (kp + o) (2 * (j + 1)) p =
            (kp + o) :: (kp + p + o) :: List.range' (kp + 2 * p + o) (2 * j) p := fun o => by
          rw [show 2 * (j + 1) = 2 * j + 1 + 1 by omega, List.range'_succ, List.range'_succ, Nat.add_right_comm kp o p,
            show kp + p + o + p = kp + 2 * p + o by omega]
        rw [e o1, e o2]
        refine List.Perm.cons _ ((List.Perm.swap ..).trans (List.Perm.cons _ ?_))
        exact ((hperm.cons _).cons _).trans (List.perm_middle.trans (List.perm_middle.cons _)).symm
      · match i with
        | 0 => omega
        | 1 => omega
        | i + 2 =>
          have := hb i (by omega)
          have e : (i + 2) * p = 2 * p + i * p := by rw [Nat.add_mul, Nat.add_comm]
          omega
    · rw [if_neg hlt] at h
      cases h
      exact ⟨0, by rw [Nat.zero_mul, Nat.add_zero], List.Perm.refl _, fun i hi => by omega⟩

/-- `l` lists, up to order, the two progressions `o1 + k·p` and `o2 + k·p` below `bound`. -/
def Progs (bound p o1 o2 : Nat) (l : List Nat) : Prop :=
  ∃ K1 K2, l.Perm (List.range' o1 K1 p ++ List.range' o2 K2 p) ∧
    (∀ i, i < K1 ↔ o1 + i * p < bound) ∧ (∀ i, i < K2 ↔ o2 + i * p < bound)

theorem Progs.mem {bound p o1 o2 : Nat} {l : List Nat} (h : Progs bound p o1 o2 l) {x : Nat} :
    x ∈ l ↔ x < bound ∧ ∃ k, x = o1 + k * p ∨ x = o2 + k * p := by
  obtain ⟨K1, K2, hperm, h1, h2⟩ := h
  rw [hperm.mem_iff, List.mem_append, List.mem_range', List.mem_range']
  constructor
  · rintro (⟨i, hi, rfl⟩ | ⟨i, hi, rfl⟩)
    · exact ⟨by rw [Nat.mul_comm]; exact (h1 i).1 hi, i, Or.inl (by rw [Nat.mul_comm])⟩
    · exact ⟨by rw [Nat.mul_comm]; exact (h2 i).1 hi, i, Or.inr (by rw [Nat.mul_comm])⟩
  · rintro ⟨hx, k, rfl | rfl⟩
    · exact Or.inl ⟨k, (h1 k).2 hx, by rw [Nat.mul_comm]⟩
    · exact Or.inr ⟨k, (h2 k).2 hx, by rw [Nat.mul_comm]⟩

theorem Progs.nodup {bound p o1 o2 : Nat} {l : List Nat} (h : Progs bound p o1 o2 l) (hp : 0 < p) (h1 : o1 < p)
    (h2 : o2 < p) (hne : o1 ≠ o2) : l.Nodup := by
  obtain ⟨K1, K2, hperm, _, _⟩ := h
  rw [hperm.nodup_iff, List.nodup_append]
  refine ⟨List.nodup_range' p hp, List.nodup_range' p hp, fun a ha b hb e => ?_⟩
  obtain ⟨i, _, rfl⟩ := List.mem_range'.1 ha
  obtain ⟨j, _, rfl⟩ := List.mem_range'.1 hb
  have := congrArg (· % p) e
  simp only [Nat.add_mul_mod_self_left, Nat.mod_eq_of_lt h1, Nat.mod_eq_of_lt h2] at this
  exact hne this

/-- all offsets `Sieve::new` registers for a prime of the second size class: the unrolled rounds give the first `2j`
terms of each progression, the two tail loops the rest. -/
theorem largeOffsets_progs {interval p o1 o2 : Nat} {l : List Nat} (h : largeOffsets interval p o1 o2 = some l) :
    Progs interval p o1 o2 l := by
  unfold largeOffsets at h
  simp only [Option.bind_eq_bind, Option.bind_eq_some_iff, Option.some.injEq] at h
  obtain ⟨⟨l0, kp⟩, hu, t1, ht1, t2, ht2, rfl⟩ := h
  obtain ⟨j, rfl, hperm, hb⟩ := unrolled_perm interval p o1 o2 (max o1 o2) _ _ _ _ hu
  simp only [Nat.zero_add] at hperm hb ht1 ht2
  obtain ⟨k1, rfl, hk1⟩ := arith_range p interval _ _ _ ht1
  obtain ⟨k2, rfl, hk2⟩ := arith_range p interval _ _ _ ht2
  have e : ∀ o, o + j * (2 * p) = o + p * (2 * j) := fun o => by ring
  have hK : ∀ o k, o ≤ max o1 o2 → (∀ i, i < k ↔ o + j * (2 * p) + i * p < interval) →
      ∀ i, i < 2 * j + k ↔ o + i * p < interval := fun o k ho hk i => by
    rcases Nat.lt_or_ge i (2 * j) with hi | hi
    · have := hb i hi
      exact ⟨fun _ => by omega, fun _ => by omega⟩
    · have := hk (i - 2 * j)
      have e2 : o + j * (2 * p) + (i - 2 * j) * p = o + i * p := by
        rw [Nat.add_assoc, Nat.mul_left_comm, ← Nat.mul_assoc, ← Nat.add_mul]; congr 2; omega
      rw [e2] at this
      omega
  refine ⟨2 * j + k1, 2 * j + k2, ?_, hK o1 k1 (le_max_left _ _) hk1, hK o2 k2 (le_max_right _ _) hk2⟩
  rw [← List.range'_append, ← List.range'_append, ← e, ← e, List.append_assoc, List.append_assoc]
  exact (hperm.append_right _).trans (by
    rw [List.append_assoc]; exact List.Perm.append_left _ (List.perm_append_comm_assoc ..))

theorem vlargeOffsets_progs {interval p o1 o2 : Nat} {l : List Nat} (h : vlargeOffsets interval p o1 o2 = some l) :
    Progs interval p o1 o2 l := by
  unfold vlargeOffsets at h
  simp only [Option.bind_eq_bind, Option.bind_eq_some_iff, Option.some.injEq] at h
  obtain ⟨t1, ht1, t2, ht2, rfl⟩ := h
  obtain ⟨k1, rfl, hk1⟩ := arith_range p interval _ _ _ ht1
  obtain ⟨k2, rfl, hk2⟩ := arith_range p interval _ _ _ ht2
  exact ⟨k1, k2, List.Perm.refl _, hk1, hk2⟩

theorem unrolled_some (interval p o1 o2 rmax : Nat) (hp : 0 < p) :
    ∀ (f kp : Nat), interval ≤ f + kp → ∃ r, unrolled interval p o1 o2 rmax (f + 1) kp = some r := by
  intro f
  induction f with
  | zero =>
    intro kp h
    have : ¬ kp + p + rmax < interval := by omega
    exact ⟨([], kp), by simp [unrolled, this]⟩
  | succ f ih =>
    intro kp h
    by_cases hlt : kp + p + rmax < interval
    · obtain ⟨r, hr⟩ := ih (kp + 2 * p) (by omega)
      exact ⟨((kp + o1) :: (kp + o2) :: (kp + p + o1) :: (kp + p + o2) :: r.1, r.2), by rw [unrolled]; simp [hlt, hr]⟩
    · exact ⟨([], kp), by rw [unrolled]; simp [hlt]⟩

theorem largeOffsets_some (interval p o1 o2 : Nat) (hp : 0 < p) : ∃ l, largeOffsets interval p o1 o2 = some l := by
  obtain ⟨⟨l0, kp⟩, h0⟩ := unrolled_some interval p o1 o2 (max o1 o2) hp interval 0 (by omega)
  obtain ⟨k1, h1, _⟩ := arith_ok p interval hp interval (o1 + kp) (by omega)
  obtain ⟨k2, h2, _⟩ := arith_ok p interval hp interval (o2 + kp) (by omega)
  exact ⟨l0 ++ List.range' (o1 + kp) k1 p ++ List.range' (o2 + kp) k2 p,
    by simp only [largeOffsets, h0, h1, h2, Option.bind_eq_bind, Option.bind_some]⟩

theorem vlargeOffsets_some (interval p o1 o2 : Nat) (hp : 0 < p) : ∃ l, vlargeOffsets interval p o1 o2 = some l := by
  obtain ⟨k1, h1, _⟩ := arith_ok p interval hp interval o1 (by omega)
  obtain ⟨k2, h2, _⟩ := arith_ok p interval hp interval o2 (by omega)
  exact ⟨List.range' o1 k1 p ++ List.range' o2 k2 p,
    by simp only [vlargeOffsets, h1, h2, Option.bind_eq_bind, Option.bind_some]⟩

/-- index arithmetic of the loops over pairs of cursors (`idxskip = s` is even): the pair indices
`max s 2a / 2 ≤ i < 2b / 2` are the slots `max s 2a ≤ k < 2b`. -/
theorem pair_range_slots {s a b : Nat} (hs : s % 2 = 0) :
    2 * (max s (2 * a) / 2) = max s (2 * a) ∧ 2 * (2 * b / 2 - max s (2 * a) / 2) = 2 * b - max s (2 * a) := by
  have hm : max s (2 * a) % 2 = 0 := by rw [Nat.max_def]; split <;> omega
  generalize max s (2 * a) = m at hm ⊢
  omega

theorem pair_range_mem {s a b i : Nat} (hs : s % 2 = 0) (h1 : max s (2 * a) / 2 ≤ i)
    (h2 : i < max s (2 * a) / 2 + (2 * b / 2 - max s (2 * a) / 2)) : s ≤ 2 * i ∧ a ≤ i ∧ i < b := by
  omega

/-- the signed form of the cursor invariant: `c = (o - b·32768) mod p`. -/
theorem cursor_int {c b p o : Nat} (hc : c < p) (h : (c + b * BLOCK) % p = o) :
    (c : Int) = ((o : Int) - (b : Int) * 32768) % (p : Int) := by
  have hdm := Nat.div_add_mod (c + b * BLOCK) p
  rw [h] at hdm
  have e : (o : Int) - (b : Int) * 32768 = (c : Int) + (p : Int) * (-(((c + b * BLOCK) / p : Nat) : Int)) := by
    have : ((p * ((c + b * BLOCK) / p) + o : Nat) : Int) = ((c + b * BLOCK : Nat) : Int) := by rw [hdm]
    simp only [BLOCK] at this ⊢
    push_cast at this ⊢
    linarith
  rw [e, Int.add_mul_emod_self_left]
  exact (Int.emod_eq_of_lt (by omega) (by omega)).symm

end Ymq.Sieve
