/-
The long and the middle product (Ymq/Model/PolySeries.lean, property C10): `_longmul` through either path, the scratch
requirement `mmNeed`; for `_middlemul` the NTT shortcuts (no wrap-around on the extracted slice; edge terms for `2^k + 1`)
and the Hanrot–Quercia–Zimmermann recursion, whose recombination is the polynomial identity `hqz`.
-/
import Ymq.Model.PolySeries
import Ymq.Lemmas.PolyKaratsuba
import Ymq.Lemmas.KroneckerSum
import Ymq.Lemmas.Bits

namespace Ymq.PolyMul
open Polynomial Finset

variable {α : Type} {R : Type} [CommRing R]

/-- `Hom` plus what the routines that branch on `==` or call `zn.inv` (power series, multipoint evaluation) need of them. `==` must be sound only: a `true` sends the code
into a shortcut that is right when the images are equal, a `false` into the general branch, which is always right
(completeness is `HomC`, for the code's assertions). `inv` is one-sided: a returned value is an inverse; that `inv`
returns at all is a hypothesis of the theorems (the code `unwrap()`s). -/
structure HomE (o : Ops α) (φ : α → R) : Prop extends Hom o φ where
  eq_sound : ∀ a b, o.eq a b = true → φ a = φ b
  inv_sound : ∀ a i, o.inv a = some i → φ a * φ i = 1

/-- the transforms needed for operands of `m` coefficients fit the NTT context -/
def Fits (c : Ctx) (m : Nat) : Prop := ∀ k, c.mzp = some k → 2 * m ≤ 2 ^ k

theorem Fits.mono {c : Ctx} {m m' : Nat} (h : Fits c m) (hm : m' ≤ m) : Fits c m' :=
  fun k hk => le_trans (by omega) (h k hk)

theorem dot_hom {o : Ops α} {φ : α → R} (h : Hom o φ) (f g : Nat → α) (m : Nat) :
    φ (dot o f g m) = ∑ a ∈ range m, φ (f a) * φ (g a) := by
  unfold dot
  induction m with
  | zero => simp [h.zero]
  | succ m ih => rw [List.range_succ, List.foldl_append, sum_range_succ, ← ih]; simp [h.add, h.mul]

theorem mulCoefO_hom {o : Ops α} {φ : α → R} (h : Hom o φ) (p q : List α) (k : Nat) :
    φ (mulCoefO o p q k) = (poly (p.map φ) * poly (q.map φ)).coeff k := by
  unfold mulCoefO
  rw [dot_hom h, coeff_poly_mul_hom h]

theorem bitlen_lt (x : Nat) : x < 2 ^ Ymq.Checked.bitlen x :=
  (Ymq.Bits.bitlen_le_iff Ymq.Checked.bitlen (fun _ => rfl) x _).1 le_rfl

theorem bitlen_le_of_lt {x k : Nat} (h : x < 2 ^ k) : Ymq.Checked.bitlen x ≤ k :=
  (Ymq.Bits.bitlen_le_iff Ymq.Checked.bitlen (fun _ => rfl) x k).2 h

theorem fftLongmul_spec {o : Ops α} {φ : α → R} (h : Hom o φ) (k zlen : Nat) (p q : List α)
    (hp : 1 ≤ p.length) (hq : 1 ≤ q.length) (hpq : 3 ≤ p.length + q.length)
    (hk : p.length + q.length - 2 < 2 ^ k) :
    ∃ z', fftLongmul k o zlen p q = some z' ∧ z'.length = zlen ∧
      ∀ i, i < zlen → φ (z'.getD i o.zero) = (poly (p.map φ) * poly (q.map φ)).coeff i := by
  unfold fftLongmul
  rw [if_neg (by omega)]
  simp only
  set logsize := Ymq.Checked.bitlen (p.length - 1 + (q.length - 1)) with hls
  have h1 : logsize ≠ 0 := by
    intro h0
    have := bitlen_lt (p.length - 1 + (q.length - 1))
    rw [← hls, h0] at this
    omega
  have h2 : ¬ k < logsize := by
    have := bitlen_le_of_lt (x := p.length - 1 + (q.length - 1)) (k := k) (by omega)
    omega
  rw [if_neg h1, if_neg h2]
  refine ⟨_, rfl, by simp, ?_⟩
  intro i hi
  rw [getD_range_map _ _ _ _ hi]
  split_ifs with hsz
  · exact mulCoefO_hom h p q i
  · rw [h.zero]
    symm
    have := bitlen_lt (p.length - 1 + (q.length - 1))
    rw [← hls] at this
    exact (below_map φ p).mul_coeff (below_map φ q) i (by omega)


omit [CommRing R] in
/-- `_longmul` with an empty first operand writes zeros: the Karatsuba path falls through to `_basic_mul`, whose loop has
no rows (the third product of a Barrett round of `roots_eval` when the tree has a single leaf) -/
theorem longmul_nil (c : Ctx) (o : Ops α) (zlen tmplen : Nat) (q : List α) (hq : 1 ≤ q.length)
    (hz : q.length - 1 ≤ zlen) : longmul c o zlen tmplen [] q = some (List.replicate zlen o.zero) := by
  have hk : (karatsuba o FUEL (List.replicate zlen o.zero) [] q (List.replicate tmplen o.zero)).map (·.1) =
      some (List.replicate zlen o.zero) := by
    show (karatsuba o (63 + 1) _ _ _ _).map _ = _
    unfold karatsuba
    simp only [List.length_nil]
    rw [if_pos (Or.inr (Or.inl (Nat.zero_le _)))]
    unfold basicMul
    rw [if_neg (by simp only [List.length_nil]; omega),
      if_neg (by simp only [List.length_nil, List.length_replicate]; omega)]
    simp only [rowsLoop, List.length_nil, Nat.zero_add, List.length_replicate, Option.map_some, List.take_replicate,
      ← List.replicate_add, Option.some.injEq]
    congr 1; omega
  unfold longmul
  cases c.mzp with
  | none => exact hk
  | some k =>
    simp only
    rw [if_neg (by simp [Ymq.Gen.Params.FFT_THRESHOLD])]
    exact hk

theorem longmul_spec {o : Ops α} {φ : α → R} (h : Hom o φ) (c : Ctx) (zlen tmplen : Nat) (p q : List α)
    (lp lq m f : Nat) (hp : p.length = lp) (hq : q.length = lq) (h1 : 1 ≤ lq) (hpm : lp ≤ m) (hqm : lq ≤ m)
    (hm : m ≤ 2 ^ 62) (hz : lp + lq ≤ zlen) (ht : 3 * m ≤ tmplen) (hfit : Fits c f) (hf : lp + lq ≤ 2 * f + 1) :
    ∃ z', longmul c o zlen tmplen p q = some z' ∧ z'.length = zlen ∧
      poly (z'.map φ) = poly (p.map φ) * poly (q.map φ) := by
  subst hp hq
  rcases Nat.eq_zero_or_pos p.length with h0 | h1p
  · rw [List.length_eq_zero_iff.1 h0] at hz ⊢
    refine ⟨_, longmul_nil c o zlen tmplen q h1 (by simp at hz; omega), List.length_replicate, ?_⟩
    rw [List.map_replicate, h.zero, poly_replicate_zero, List.map_nil, poly_nil, zero_mul]
  have hkara : ∃ z', (karatsuba o FUEL (List.replicate zlen o.zero) p q (List.replicate tmplen o.zero)).map (·.1)
      = some z' ∧ z'.length = zlen ∧ poly (z'.map φ) = poly (p.map φ) * poly (q.map φ) := by
    obtain ⟨z', tmp', e, lz, _, hp⟩ := karatsuba_spec h 64 (List.replicate zlen o.zero) p q
      (List.replicate tmplen o.zero) _ _ _ _ rfl rfl List.length_replicate List.length_replicate
      (karaOk_total 63 _ _ _ _ h1p h1 (le_trans (max_le hpm hqm) (le_trans hm (by norm_num))) hz
        (le_trans (Nat.mul_le_mul_left 3 (max_le hpm hqm)) ht))
    exact ⟨z', by unfold FUEL; rw [e]; rfl, lz, hp⟩
  unfold longmul
  cases hc : c.mzp with
  | none => exact hkara
  | some k =>
    simp only
    split_ifs with hT
    · have hT' : 28 ≤ p.length := hT
      obtain ⟨z', e, lz, hz'⟩ := fftLongmul_spec h k zlen p q h1p h1 (by omega) (by have := hfit k hc; omega)
      refine ⟨z', e, lz, poly_eq_of_coeff _ _ (fun j hj => ?_) (fun j hj => ?_)⟩
      · rw [List.length_map, lz] at hj
        exact (below_map φ p).mul_coeff (below_map φ q) j (by omega)
      · rw [List.length_map, lz] at hj
        rw [getD_map_hom h, hz' j hj]
    · exact hkara

theorem longmul_eq_spec {o : Ops α} {φ : α → R} (h : Hom o φ) (c : Ctx) (zlen tmplen : Nat) (p q : List α) (l : Nat)
    (hp : p.length = l) (hq : q.length = l) (h1 : 1 ≤ l) (h2 : l ≤ 2 ^ 62) (hz : 2 * l ≤ zlen) (ht : 3 * l ≤ tmplen)
    (hfit : Fits c l) :
    ∃ z', longmul c o zlen tmplen p q = some z' ∧ z'.length = zlen ∧
      poly (z'.map φ) = poly (p.map φ) * poly (q.map φ) :=
  longmul_spec h c zlen tmplen p q l l l l hp hq h1 le_rfl le_rfl h2 (by omega) ht hfit (by omega)

theorem mmNeed_small (n : Nat) (h : n ≤ 2) : mmNeed n = 0 := by
  rw [mmNeed]; simp [h]

theorem mmNeed_le (n : Nat) (h : 3 ≤ n) : mmNeed n ≤ 5 * n - 3 := by
  induction n using Nat.strong_induction_on with
  | _ n ih =>
    -- both halves need at most `3n - 2`, whether or not they recurse
    have hsub : ∀ x, x < n → 2 * x ≤ n + 1 → mmNeed x ≤ 3 * n - 2 := by
      intro x hx hxn
      rcases Nat.lt_or_ge x 3 with hlt | hge
      · rw [mmNeed_small _ (by omega)]; omega
      · have := ih x hx hge; omega
    rw [mmNeed, dif_neg (by omega)]
    have hm := max_le (hsub (n - n / 2) (by omega) (by omega)) (hsub (n / 2) (by omega) (by omega))
    exact max_le (by omega) (by omega)

theorem mmNeed_le_of (u x : Nat) (hx : u ≤ 2 ∨ 5 * u ≤ x + 3) : mmNeed u ≤ x := by
  rcases Nat.lt_or_ge u 3 with h | h
  · rw [mmNeed_small u (by omega)]; omega
  · have := mmNeed_le u h; omega

/-- the split of the halving recursions (`_middlemul`, `_inv_mod_xn`, `_div_mod_xn`): `hh = ⌊L/2⌋`, `u = L - hh = ⌈L/2⌉` -/
theorem half_split (L : Nat) (h2 : 2 ≤ L) :
    1 ≤ L / 2 ∧ L / 2 ≤ L - L / 2 ∧ L - L / 2 ≤ L / 2 + 1 ∧ L - L / 2 + L / 2 = L := by
  omega

theorem half_fuel (L f : Nat) (h2 : 2 ≤ L) (hf : L ≤ 2 ^ f) :
    ∃ f', f = f' + 1 ∧ L - L / 2 ≤ 2 ^ f' ∧ L / 2 ≤ 2 ^ f' := by
  cases f with
  | zero => rw [pow_zero] at hf; omega
  | succ f' => rw [pow_succ] at hf; exact ⟨f', rfl, by omega, by omega⟩

theorem isPow2_spec {x : Nat} (h : isPow2 x = true) : x ≠ 0 ∧ x = 2 ^ x.log2 := by
  unfold isPow2 at h
  simp only [Bool.and_eq_true, decide_eq_true_eq, beq_iff_eq, ne_eq] at h
  exact h

/-- `_fft_midmul`: coefficients `n-1 …` of the cyclic product of length `2n` are those of the plain
product (the wrap-around terms vanish) -/
theorem fftMidmul_spec {o : Ops α} {φ : α → R} (h : Hom o φ) (k zlen : Nat) (p q : List α) (n : Nat)
    (hq : q.length = n) (hpow : isPow2 n = true) (hp : p.length = 2 * n - 1) (hk : 2 * n ≤ 2 ^ k) :
    ∃ z', fftMidmul k o zlen p q = some z' ∧ z'.length = zlen ∧
      ∀ t, t < zlen → t < n →
        φ (z'.getD t o.zero) = (poly (p.map φ) * poly (q.map φ)).coeff (n - 1 + t) := by
  subst hq
  obtain ⟨hn0, hn⟩ := isPow2_spec hpow
  unfold fftMidmul
  rw [hpow]
  simp only [Bool.not_true, Bool.false_eq_true, if_false]
  rw [if_neg (by omega)]
  have hklog : ¬ k < q.length.log2 + 1 := by
    intro hcon
    have : 2 ^ k ≤ 2 ^ q.length.log2 := Nat.pow_le_pow_right (by decide) (by omega)
    rw [← hn] at this
    omega
  rw [if_neg hklog]
  refine ⟨_, rfl, by simp, ?_⟩
  intro t ht htn
  rw [getD_range_map _ _ _ _ ht, if_pos (by omega)]
  unfold cycCoefO
  rw [dot_hom h, coeff_poly_mul_hom h]
  set n := q.length with hnn
  set i := n - 1 + t with hi
  have hisz : i < 2 * n := by omega
  rw [← Finset.sum_subset (Finset.range_subset_range.2 (by omega : i + 1 ≤ 2 * n))]
  · apply Finset.sum_congr rfl
    intro a ha
    have ha' : a ≤ i := by simp at ha; omega
    rw [Ymq.Kronecker.sub_mod_cases i a (2 * n) hisz (by omega), if_pos ha']
  · intro a ha hna
    have ha1 : a < 2 * n := by simpa using ha
    have ha2 : i < a := by simp at hna; omega
    rw [Ymq.Kronecker.sub_mod_cases i a (2 * n) hisz ha1, if_neg (by omega),
      List.getD_eq_default q _ (by omega), h.zero, mul_zero]

theorem coeff_shift (A : R[X]) (m d e : Nat) (hd : d = m + e) : (X ^ m * A).coeff d = A.coeff e := by
  rw [coeff_X_pow_mul', if_pos (by omega)]; congr 1; omega

/-- **The Hanrot–Quercia–Zimmermann recombination.** `P = Plow + x^u·D = P2 + x^(2u)·D2`,
`Q = Q0 + x^h·Q1` (`deg Plow < u`, `deg P2 < 2u`, `deg Q0 < h`, `deg Q1 < u`, `1 ≤ h ≤ u`). With
`a = MP((P + D), Q1)`, `b = MP(D, Q1 - x^(u-h)·Q0)`, `c = MP(D + D2, Q0)` (coefficients
`u-1+i` resp. `h-1+i`), the middle coefficients of `P·Q` are `a - b` and `c + b`. -/
theorem hqz (P Plow D P2 D2 Q0 Q1 : R[X]) (u h : Nat) (hh : 1 ≤ h) (hhu : h ≤ u)
    (eP : P = Plow + X ^ u * D) (eP2 : P = P2 + X ^ (2 * u) * D2)
    (vPlow : Below Plow u) (vP2 : Below P2 (2 * u)) (vQ0 : Below Q0 h) (vQ1 : Below Q1 u) :
    (∀ i, i < u → (P * (Q0 + X ^ h * Q1)).coeff (u + h - 1 + i) =
      ((P + D) * Q1).coeff (u - 1 + i) - (D * (Q1 - X ^ (u - h) * Q0)).coeff (u - 1 + i)) ∧
    (∀ i, i < h → (P * (Q0 + X ^ h * Q1)).coeff (u + h - 1 + (u + i)) =
      ((D + D2) * Q0).coeff (h - 1 + i) + (D * (Q1 - X ^ (u - h) * Q0)).coeff (u - 1 + i)) := by
  have eb : ∀ i, (D * (Q1 - X ^ (u - h) * Q0)).coeff (u - 1 + i) =
      (D * Q1).coeff (u - 1 + i) - (D * Q0).coeff (h - 1 + i) := by
    intro i
    have : D * (Q1 - X ^ (u - h) * Q0) = D * Q1 - X ^ (u - h) * (D * Q0) := by ring
    rw [this, coeff_sub, coeff_shift (D * Q0) (u - h) (u - 1 + i) (h - 1 + i) (by omega)]
  constructor
  · intro i hi
    have e1 : P * (Q0 + X ^ h * Q1) = Plow * Q0 + X ^ u * (D * Q0) + X ^ h * (P * Q1) := by
      rw [eP]; ring
    rw [e1, coeff_add, coeff_add, vPlow.mul_coeff vQ0 _ (by omega),
      coeff_shift (D * Q0) u _ (h - 1 + i) (by omega), coeff_shift (P * Q1) h _ (u - 1 + i) (by omega),
      eb i, add_mul, coeff_add]
    ring
  · intro i hi
    have e1 : P * (Q0 + X ^ h * Q1) = P2 * Q0 + X ^ (2 * u) * (D2 * Q0) +
        X ^ h * (Plow * Q1) + X ^ (h + u) * (D * Q1) := by
      conv_lhs => rw [mul_add, eP2]
      rw [pow_add]
      have : X ^ h * ((P2 + X ^ (2 * u) * D2) * Q1) = X ^ h * (P * Q1) := by rw [← eP2]
      rw [mul_comm (P2 + X ^ (2 * u) * D2) (X ^ h * Q1), mul_assoc, mul_comm Q1, this, eP]
      ring
    rw [e1, coeff_add, coeff_add, coeff_add, vP2.mul_coeff vQ0 _ (by omega),
      coeff_shift (D2 * Q0) (2 * u) _ (h - 1 + i) (by omega),
      coeff_shift (Plow * Q1) h _ (2 * u - 1 + i) (by omega),
      vPlow.mul_coeff vQ1 _ (by omega),
      coeff_shift (D * Q1) (h + u) _ (u - 1 + i) (by omega), eb i, add_mul, coeff_add]
    ring


theorem mmMode_cases (c : Ctx) (n : Nat) :
    (mmMode c n = (0, 0)) ∨
    (∃ k, mmMode c n = (1, k) ∧ c.mzp = some k ∧ isPow2 n = true) ∨
    (∃ k, mmMode c n = (2, k) ∧ c.mzp = some k ∧ isPow2 (n - 1) = true ∧ 28 ≤ n) := by
  unfold mmMode
  cases hm : c.mzp with
  | none => left; rfl
  | some k =>
    simp only
    split_ifs with h1 h2 h3
    · right; left; exact ⟨k, rfl, rfl, h2⟩
    · right; right; exact ⟨k, rfl, rfl, h3, h1⟩
    · left; rfl
    · left; rfl

theorem edgeSum_hom {o : Ops α} {φ : α → R} (h : Hom o φ) (p q : List α) (n : Nat) :
    φ (edgeSum o p q n) = (poly (p.map φ) * poly (q.map φ)).coeff n := by
  rw [coeff_poly_mul_hom h, Finset.sum_range_succ', Nat.sub_zero]
  unfold edgeSum
  have : ∀ m, φ ((List.range m).foldl (fun acc i => o.add acc (o.mul (p.getD (i + 1) o.zero)
      (q.getD (n - (i + 1)) o.zero))) (o.mul (p.getD 0 o.zero) (q.getD n o.zero))) =
      ∑ i ∈ range m, φ (p.getD (i + 1) o.zero) * φ (q.getD (n - (i + 1)) o.zero) +
        φ (p.getD 0 o.zero) * φ (q.getD n o.zero) := by
    intro m
    induction m with
    | zero => simp [h.mul]
    | succ m ih =>
      rw [List.range_succ, List.foldl_append, sum_range_succ]
      simp only [List.foldl_cons, List.foldl_nil]
      rw [h.add, h.mul, ih]; ring
  exact this n

theorem mm_pow2 {o : Ops α} {φ : α → R} (h : Hom o φ) (k zlen : Nat) (p q : List α) (n : Nat) (hq : q.length = n)
    (hpow : isPow2 n = true) (hp : p.length = 2 * n - 1) (hz : n ≤ zlen) (hk : 2 * n ≤ 2 ^ k) :
    ∃ m, (fftMidmul k o zlen p q).map (·.take n) = some m ∧ m.length = n ∧
      ∀ i, i < n → φ (m.getD i o.zero) = (poly (p.map φ) * poly (q.map φ)).coeff (n - 1 + i) := by
  obtain ⟨z', e, lz, hz'⟩ := fftMidmul_spec h k zlen p q n hq hpow hp hk
  rw [e]
  refine ⟨z'.take n, rfl, List.length_take_of_le (by omega), fun i hi => ?_⟩
  rw [getD_take _ _ _ _ hi]
  exact hz' i (by omega) hi

/-- `|q| - 1` a power of two: NTT middle product of the inner parts plus the edge terms -/
theorem mm_pow2p1 {o : Ops α} {φ : α → R} (h : Hom o φ) (k zlen : Nat) (p0 q0 : α) (prest qrest : List α)
    (hpow : isPow2 qrest.length = true) (hn : 2 ≤ qrest.length)
    (hp : prest.length = 2 * qrest.length) (hz : qrest.length + 1 ≤ zlen) (hk : 2 * qrest.length ≤ 2 ^ k) :
    ∃ z', fftMidmul k o (zlen - 1) (prest.take (2 * qrest.length - 1)) qrest = some z' ∧
      ∀ i, i < qrest.length + 1 →
        φ ((edgeSum o (p0 :: prest) (q0 :: qrest) qrest.length ::
            (List.range qrest.length).map fun t =>
              o.add (z'.getD t o.zero) (o.mul ((p0 :: prest).getD (qrest.length + t + 1) o.zero)
                ((q0 :: qrest).getD 0 o.zero))).getD i o.zero) =
        (poly ((p0 :: prest).map φ) * poly ((q0 :: qrest).map φ)).coeff (qrest.length + i) := by
  set n := qrest.length with hnn
  obtain ⟨z', e, lz, hz'⟩ := fftMidmul_spec h k (zlen - 1) (prest.take (2 * n - 1)) qrest n rfl hpow
    (by rw [List.length_take]; omega) hk
  refine ⟨z', e, ?_⟩
  intro i hi
  rcases i with _ | t
  · rw [List.getD_cons_zero, edgeSum_hom h, Nat.add_zero]
  · have ht : t < n := by omega
    -- P = p0 + X·P1, Q = q0 + X·Q1: two applications of the head rule
    rw [List.getD_cons_succ, getD_range_map _ _ _ _ ht, h.add, h.mul, hz' t (by omega) ht, List.getD_cons_zero,
      List.map_take, coeff_mul_take_left _ _ _ _ (by omega), List.map_cons, List.map_cons,
      show n + (t + 1) = (n - 1 + t) + 1 + 1 by omega, coeff_cons_mul_succ,
      below_poly (φ q0 :: qrest.map φ) _ (by simp only [List.length_cons, List.length_map]; omega), mul_zero,
      zero_add, coeff_mul_cons_succ, coeff_den h, List.getD_cons_succ,
      show n - 1 + t + 1 = n + t by omega]
    ring

/-- first operand of the products `a` and `c` of the recursion: `p + p[u..]` on the low entries -/
theorem poly_addShifted {o : Ops α} {φ : α → R} (h : Hom o φ) (p : List α) (u : Nat) (hu : u ≤ p.length) :
    (List.zipWith o.add (p.take (p.length - u)) (p.drop u) ++ p.drop (p.length - u)).length = p.length ∧
    poly ((List.zipWith o.add (p.take (p.length - u)) (p.drop u) ++ p.drop (p.length - u)).map φ) =
      poly (p.map φ) + poly ((p.drop u).map φ) := by
  have lD : (p.drop u).length = p.length - u := List.length_drop
  refine ⟨?_, ?_⟩
  · simp only [List.length_append, List.length_zipWith, List.length_take, List.length_drop]; omega
  · rw [← lD]; exact poly_addPrefix h p (p.drop u) (by rw [lD]; omega)

/-- second operand of the product `b` of the recursion: `Q1 - x^(u-h)·Q0` for `q = Q0 + x^h·Q1` -/
theorem poly_subShifted {o : Ops α} {φ : α → R} (h : Hom o φ) (q : List α) (u hh : Nat)
    (hq : q.length = u + hh) (hhu : hh ≤ u) :
    ((q.drop hh).take (u - hh) ++
      List.zipWith o.sub ((q.drop hh).drop (u - hh)) (q.take hh)).length = u ∧
    poly (((q.drop hh).take (u - hh) ++
      List.zipWith o.sub ((q.drop hh).drop (u - hh)) (q.take hh)).map φ) =
      poly ((q.drop hh).map φ) - X ^ (u - hh) * poly ((q.take hh).map φ) := by
  refine ⟨?_, ?_⟩
  · simp only [List.length_append, List.length_zipWith, List.length_take, List.length_drop]; omega
  · rw [List.map_append, poly_append, poly_zipWith_sub h _ _ (by simp; omega),
      List.length_map, List.length_take, List.length_drop,
      poly_take_drop ((q.drop hh).map φ) (u - hh) (by simp; omega)]
    simp only [List.map_take, List.map_drop]
    rw [Nat.min_eq_left (by omega)]
    ring

/-- the recombination `a - b`, `c + b` of the recursion, from `hqz`: `tl`, `t2` are the operands of
`poly_addShifted`, `poly_subShifted`, and `a`, `cc`, `b` the three middle products of the code -/
theorem hqz_recombine {o : Ops α} {φ : α → R} (h : Hom o φ) (p q tl t2 a b cc : List α) (u hh : Nat)
    (hh1 : 1 ≤ hh) (hhu : hh ≤ u) (hq : q.length = u + hh) (hp : p.length = 2 * (u + hh) - 1)
    (ptl : poly (tl.map φ) = poly (p.map φ) + poly ((p.drop u).map φ))
    (pt2 : poly (t2.map φ) = poly ((q.drop hh).map φ) - X ^ (u - hh) * poly ((q.take hh).map φ))
    (la : a.length = u) (lb : b.length = u) (lc : cc.length = hh)
    (ha : ∀ i, i < u → φ (a.getD i o.zero) =
      (poly ((tl.take (2 * u - 1)).map φ) * poly ((q.drop hh).map φ)).coeff (u - 1 + i))
    (hc : ∀ i, i < hh → φ (cc.getD i o.zero) =
      (poly (((tl.drop u).take (p.length - 2 * u)).map φ) * poly ((q.take hh).map φ)).coeff (hh - 1 + i))
    (hb : ∀ i, i < u → φ (b.getD i o.zero) =
      (poly (((p.drop u).take (2 * u - 1)).map φ) * poly (t2.map φ)).coeff (u - 1 + i)) :
    ∀ i, i < u + hh →
      φ ((List.zipWith o.sub a b ++ List.zipWith o.add cc (b.take hh)).getD i o.zero) =
        (poly (p.map φ) * poly (q.map φ)).coeff (u + hh - 1 + i) := by
  set P := poly (p.map φ) with hP
  set Dp := poly ((p.drop u).map φ) with hDp
  set Q0 := poly ((q.take hh).map φ) with hQ0
  set Q1 := poly ((q.drop hh).map φ) with hQ1
  have eQ : poly (q.map φ) = Q0 + X ^ hh * Q1 := by
    rw [poly_take_drop (q.map φ) hh (by rw [List.length_map]; omega), hQ0, hQ1]
    simp only [List.map_take, List.map_drop]
  obtain ⟨H1, H2⟩ := hqz P (poly ((p.take u).map φ)) Dp (poly ((p.take (2 * u)).map φ))
    (poly ((p.drop (2 * u)).map φ)) Q0 Q1 u hh hh1 hhu
    (by rw [hP, poly_take_drop (p.map φ) u (by rw [List.length_map]; omega)]
        simp only [List.map_take, List.map_drop, hDp])
    (by rw [hP, poly_take_drop (p.map φ) (2 * u) (by rw [List.length_map]; omega)]
        simp only [List.map_take, List.map_drop])
    ((below_map φ _).mono (List.length_take_le _ _)) ((below_map φ _).mono (List.length_take_le _ _))
    ((below_map φ _).mono (List.length_take_le _ _)) ((below_map φ _).mono (by rw [List.length_drop]; omega))
  have ha' : ∀ i, i < u → φ (a.getD i o.zero) = ((P + Dp) * Q1).coeff (u - 1 + i) := by
    intro i hi
    rw [ha i hi, List.map_take, coeff_mul_take_left _ _ _ _ (by omega), ptl]
  have hb' : ∀ i, i < u → φ (b.getD i o.zero) =
      (Dp * (Q1 - X ^ (u - hh) * Q0)).coeff (u - 1 + i) := by
    intro i hi
    rw [hb i hi, List.map_take, coeff_mul_take_left _ _ _ _ (by omega), pt2]
  have hc' : ∀ i, i < hh → φ (cc.getD i o.zero) =
      ((Dp + poly ((p.drop (2 * u)).map φ)) * Q0).coeff (hh - 1 + i) := by
    intro i hi
    rw [hc i hi, List.map_take, coeff_mul_take_left _ _ _ _ (by omega)]
    have : poly ((tl.drop u).map φ) = Dp + poly ((p.drop (2 * u)).map φ) := by
      ext j
      rw [List.map_drop, coeff_poly_drop, ptl, coeff_add, coeff_add, hDp, List.map_drop,
        List.map_drop, coeff_poly_drop, coeff_poly_drop, coeff_poly_drop]
      congr 2; omega
    rw [this]
  intro i hi
  rw [eQ]
  rcases Nat.lt_or_ge i u with hiu | hiu
  · rw [List.getD_append _ _ _ _ (by rw [List.length_zipWith, la, lb]; omega),
      getD_zipWith _ _ _ _ _ (by omega) (by omega), h.sub, ha' i hiu, hb' i hiu, H1 i hiu]
  · obtain ⟨i', rfl⟩ : ∃ i', i = u + i' := ⟨i - u, by omega⟩
    have hi' : i' < hh := by omega
    rw [List.getD_append_right _ _ _ _ (by rw [List.length_zipWith, la, lb]; omega),
      List.length_zipWith, la, lb, Nat.min_self, Nat.add_sub_cancel_left,
      getD_zipWith _ _ _ _ _ (by omega) (by rw [List.length_take]; omega), h.add, hc' i' hi',
      getD_take _ _ _ _ hi', hb' i' (by omega), H2 i' hi']

theorem mm_slice_lengths (lp u hh : Nat) (hp : lp = 2 * (u + hh) - 1) (hh1 : 1 ≤ hh) (hhu : hh ≤ u)
    (hu1 : u ≤ hh + 1) :
    min (2 * u - 1) lp = 2 * u - 1 ∧ min (lp - 2 * u) (lp - u) = 2 * hh - 1 ∧
      min (2 * u - 1) (lp - u) = 2 * u - 1 := by
  omega

/-- `_middlemul`: the base cases `n = 1, 2`, the two NTT shortcuts (`n` resp. `n - 1` a power of two) and the
Hanrot–Quercia–Zimmermann recursion with the code's split `half = ⌊n/2⌋`, its operand slices and its
recombination `a - b`, `c + b` -/
theorem middlemul_spec {o : Ops α} {φ : α → R} (h : Hom o φ) (c : Ctx) :
    ∀ (f zlen : Nat) (p q : List α) (tmplen n : Nat), q.length = n → 1 ≤ n → n ≤ 2 ^ f →
      p.length = 2 * n - 1 → n ≤ zlen → mmNeed n ≤ tmplen → Fits c n →
      ∃ m, middlemul c o (f + 1) zlen p q tmplen = some m ∧ m.length = n ∧
        ∀ i, i < n → φ (m.getD i o.zero) = (poly (p.map φ) * poly (q.map φ)).coeff (n - 1 + i) := by
  intro f
  induction f using Nat.strong_induction_on with
  | _ f ih =>
    intro zlen p q tmplen n hq h1 h2 hp hz htmp hfit
    unfold middlemul
    rw [hq, if_neg (by omega), if_neg (by omega), if_neg (by omega)]
    by_cases hn1 : n = 1
    · subst hn1
      rw [if_pos rfl]
      refine ⟨_, rfl, rfl, fun i hi => ?_⟩
      obtain rfl : i = 0 := by omega
      rw [show 1 - 1 + 0 = 0 from rfl, coeff_poly_mul_hom h, Finset.sum_range_one, List.getD_cons_zero, h.mul]
    · rw [if_neg hn1]
      by_cases hn2 : n = 2
      · subst hn2
        rw [if_pos rfl]
        refine ⟨_, rfl, rfl, fun i hi => ?_⟩
        have hq2 : q.getD 2 o.zero = o.zero := List.getD_eq_default q _ (by omega)
        have hi' : i = 0 ∨ i = 1 := by omega
        rcases hi' with rfl | rfl
        · rw [show 2 - 1 + 0 = 1 from rfl, coeff_poly_mul_hom h, Finset.sum_range_succ, Finset.sum_range_one,
            List.getD_cons_zero, h.add, h.mul, h.mul]
          ring
        · rw [show 2 - 1 + 1 = 2 from rfl, coeff_poly_mul_hom h, Finset.sum_range_succ, Finset.sum_range_succ,
            Finset.sum_range_one, List.getD_cons_succ, List.getD_cons_zero, h.add, h.mul, h.mul, hq2, h.zero]
          ring
      · rw [if_neg hn2]
        rcases mmMode_cases c n with h0 | ⟨k, hm, hk, hpow⟩ | ⟨k, hm, hk, hpow, h28⟩
        · -- the recursion
          rw [h0]
          simp only
          rw [mmNeed, dif_neg (by omega)] at htmp
          obtain ⟨htmp1, htmp2⟩ := max_le_iff.1 htmp
          rw [← Nat.le_sub_iff_add_le' (by omega), max_le_iff, ← hp] at htmp2
          rw [if_neg (by omega)]
          -- three or more coefficients, so there is fuel for the recursive calls; of the split only
          -- `n = u + hh`, `1 ≤ hh ≤ u ≤ hh + 1` is used from here on
          obtain ⟨f', rfl, hf, hhf⟩ := half_fuel n f (by omega) h2
          have hs := half_split n (by omega)
          generalize n / 2 = hh at hs hf hhf htmp2 ⊢
          generalize n - hh = u at hs hf htmp2 ⊢
          obtain ⟨hh1, hhu, hu1, rfl⟩ := hs
          clear h2 hn1 hn2 htmp htmp1 h1 h0
          obtain ⟨g1, g2, g3, g4⟩ : u ≤ p.length ∧ q.length - hh = u ∧ 1 ≤ u ∧ hh ≤ q.length := by omega
          obtain ⟨ltl, ptl⟩ := poly_addShifted h p u g1
          obtain ⟨lt2, pt2⟩ := poly_subShifted h q u hh hq hhu
          generalize List.zipWith o.add (p.take (p.length - u)) (p.drop u) ++ p.drop (p.length - u) = tl
            at ltl ptl ⊢
          generalize (q.drop hh).take (u - hh) ++
            List.zipWith o.sub ((q.drop hh).drop (u - hh)) (q.take hh) = t2 at lt2 pt2 ⊢
          obtain ⟨m1, m2, m3⟩ := mm_slice_lengths p.length u hh hp hh1 hhu hu1
          obtain ⟨a, ea, la, ha⟩ := ih f' (Nat.lt_succ_self f') u (tl.take (2 * u - 1)) (q.drop hh) (tmplen - p.length) u
            (List.length_drop.trans g2) g3 hf (by rw [List.length_take, ltl, m1]) le_rfl htmp2.1
            (hfit.mono (Nat.le_add_right u hh))
          obtain ⟨cc, ec, lc, hc⟩ := ih f' (Nat.lt_succ_self f') hh ((tl.drop u).take (p.length - 2 * u)) (q.take hh)
            (tmplen - p.length) hh (List.length_take_of_le g4) hh1 hhf
            (by rw [List.length_take, List.length_drop, ltl, m2]) le_rfl htmp2.2 (hfit.mono (Nat.le_add_left hh u))
          obtain ⟨b, eb, lb, hb⟩ := ih f' (Nat.lt_succ_self f') u ((p.drop u).take (2 * u - 1)) t2 (tmplen - p.length) u
            lt2 g3 hf (by rw [List.length_take, List.length_drop, m3]) le_rfl htmp2.1
            (hfit.mono (Nat.le_add_right u hh))
          rw [ea, ec, eb]
          simp only
          refine ⟨_, rfl, ?_, hqz_recombine h p q tl t2 a b cc u hh hh1 hhu hq hp ptl pt2 la lb lc ha hc hb⟩
          rw [List.length_append, List.length_zipWith, List.length_zipWith, List.length_take, la, lb, lc,
            Nat.min_self, Nat.min_eq_left hhu, Nat.min_self]
        · -- NTT, |q| a power of two
          rw [hm]
          simp only
          exact mm_pow2 h k zlen p q n hq hpow hp hz (hfit k hk)
        · -- NTT, |q| - 1 a power of two
          rw [hm]
          simp only
          obtain ⟨p0, prest, rfl⟩ : ∃ p0 prest, p = p0 :: prest :=
            List.exists_cons_of_ne_nil (by intro hpe; rw [hpe] at hp; simp at hp; omega)
          obtain ⟨q0, qrest, rfl⟩ : ∃ q0 qrest, q = q0 :: qrest :=
            List.exists_cons_of_ne_nil (by intro hqe; rw [hqe] at hq; simp at hq; omega)
          have hn1' : n - 1 = qrest.length := by rw [← hq]; rfl
          rw [hn1'] at hpow
          obtain ⟨z', ez, hz'⟩ := mm_pow2p1 h k zlen p0 q0 prest qrest hpow (by omega)
            (by simp at hp; omega) (by omega) (by have := hfit k hk; omega)
          simp only [List.drop_succ_cons, List.drop_zero, hn1']
          rw [ez]
          simp only
          refine ⟨_, rfl, by simp; omega, fun i hi => ?_⟩
          rw [hz' i (by omega)]

theorem middlemul_fuel {o : Ops α} {φ : α → R} (h : Hom o φ) (c : Ctx) (zlen : Nat) (p q : List α) (tmplen n : Nat)
    (hq : q.length = n) (h1 : 1 ≤ n) (h62 : n ≤ 2 ^ 62) (hp : p.length = 2 * n - 1) (hz : n ≤ zlen)
    (htmp : mmNeed n ≤ tmplen) (hfit : Fits c n) :
    ∃ m, middlemul c o FUEL zlen p q tmplen = some m ∧ m.length = n ∧
      ∀ i, i < n → φ (m.getD i o.zero) = (poly (p.map φ) * poly (q.map φ)).coeff (n - 1 + i) :=
  middlemul_spec h c 63 zlen p q tmplen n hq h1
    (le_trans h62 (Nat.pow_le_pow_right (by decide) (by decide))) hp hz htmp hfit

theorem mmNeed_depth : ∀ (d n : Nat), n ≤ 2 ^ (d + 1) → mmNeed n ≤ 4 * n + d := by
  intro d
  induction d with
  | zero => intro n hn; rw [mmNeed_small n (by simpa using hn)]; omega
  | succ d ih =>
    intro n hn
    rcases Nat.lt_or_ge n 3 with h3 | h3
    · rw [mmNeed_small n (by omega)]; omega
    · rw [mmNeed, dif_neg (by omega)]
      have hpow : 2 ^ (d + 1 + 1) = 2 * 2 ^ (d + 1) := by rw [pow_succ]; ring
      have h1 := ih (n - n / 2) (by omega)
      have h2 := ih (n / 2) (by omega)
      omega

theorem middlemulPub_spec {o : Ops α} {φ : α → R} (h : Hom o φ) (c : Ctx) (p q : List α)
    (h1 : 1 ≤ q.length) (h2 : q.length ≤ 2 ^ 15) (hp : p.length = 2 * q.length - 1) (hfit : Fits c q.length) :
    ∃ m, middlemulPub c o p q = some m ∧ m.length = q.length ∧
      ∀ i, i < q.length → φ (m.getD i o.zero) = (poly (p.map φ) * poly (q.map φ)).coeff (q.length - 1 + i) := by
  unfold middlemulPub
  rw [if_neg (by omega), if_neg (by omega)]
  exact middlemul_spec h c 63 q.length p q (2 * p.length + 16) _ rfl h1
    (le_trans h2 (Nat.pow_le_pow_right (by decide) (by decide))) hp (le_refl _)
    (by have := mmNeed_depth 14 q.length (by simpa using h2); omega) hfit

end Ymq.PolyMul
