/-
Lemmas about the packing loops of `SmoothBase::new` (C17): `powBelow`, the three flush rules, the
loop invariant (no `u64` / `U1024` overflow, the product of everything stored so far grows by
exactly `pow` at every prime).
-/
import Mathlib.Tactic.Linarith
import Mathlib.Tactic.Ring
import Mathlib.Algebra.BigOperators.Group.List.Basic
import Ymq.Model.SmoothBase
import Ymq.Lemmas.Bits

namespace Ymq.SmoothBase
open Ymq.Primes

theorem bitlen_le_iff (n k : Nat) : bitlen n ≤ k ↔ n < 2 ^ k := Bits.bitlen_le_iff bitlen (fun _ => rfl) n k

theorem lt_two_pow_bitlen (n : Nat) : n < 2 ^ bitlen n := (bitlen_le_iff n _).1 (Nat.le_refl _)

theorem bitlen_le_of_lt {n k : Nat} (h : n < 2 ^ k) : bitlen n ≤ k := (bitlen_le_iff n k).2 h

/-- the flush test `1 << lz(buffer) <= pow` failing means that `buffer * pow` fits in 64 bits -/
theorem mul_lt_of_flush_test {buf pow : Nat} (hb : buf < 2 ^ 64)
    (h : ¬ 2 ^ (64 - bitlen buf) ≤ pow) : buf * pow < 2 ^ 64 := by
  have h1 := lt_two_pow_bitlen buf
  have h2 := bitlen_le_of_lt hb
  have h3 : pow < 2 ^ (64 - bitlen buf) := Nat.lt_of_not_le h
  have h4 : buf * pow < 2 ^ bitlen buf * 2 ^ (64 - bitlen buf) :=
    Nat.mul_lt_mul'' h1 h3
  rw [← Nat.pow_add] at h4
  have : bitlen buf + (64 - bitlen buf) = 64 := by omega
  rwa [this] at h4

theorem lt_of_bitlen_le {n k : Nat} (h : bitlen n ≤ k) : n < 2 ^ k := (bitlen_le_iff n k).1 h

/-- `while pow * p < b1 { pow *= p }`: terminates within the fuel, never overflows `u64`, and
returns `pow * p^j`, the largest such value below `b1` (or `pow` itself when `pow * p ≥ b1`). -/
theorem powBelow_spec (p b1 : Nat) (hp : 2 ≤ p) (hp32 : p < 2 ^ 32) (hb : b1 ≤ 2 ^ 32) :
    ∀ f pow, 1 ≤ pow → pow < 2 ^ 32 → b1 ≤ pow * 2 ^ f →
      ∃ j, powBelow (f + 1) pow p b1 = some (pow * p ^ j) ∧ b1 ≤ pow * p ^ j * p ∧
        (j = 0 ∨ pow * p ^ j < b1) := by
  have h64 : ∀ pow, pow < 2 ^ 32 → ¬ pow * p ≥ 2 ^ 64 := fun pow h32 => by
    have : pow * p < 2 ^ 32 * 2 ^ 32 := Nat.mul_lt_mul'' h32 hp32
    omega
  -- the loop is left at `pow` as soon as `pow * p ≥ b1`
  have stop : ∀ f pow, pow < 2 ^ 32 → ¬ pow * p < b1 →
      ∃ j, powBelow (f + 1) pow p b1 = some (pow * p ^ j) ∧ b1 ≤ pow * p ^ j * p ∧ (j = 0 ∨ pow * p ^ j < b1) :=
    fun f pow h32 hlt =>
      ⟨0, by rw [powBelow, if_neg (h64 pow h32), if_neg hlt]; simp, by simpa using Nat.le_of_not_lt hlt, Or.inl rfl⟩
  intro f
  induction f with
  | zero =>
    intro pow h1 h32 hf
    refine stop 0 pow h32 ?_
    have : pow * 2 ≤ pow * p := Nat.mul_le_mul_left _ hp
    omega
  | succ f ih =>
    intro pow h1 h32 hf
    by_cases hlt : pow * p < b1
    · have hf' : b1 ≤ pow * p * 2 ^ f := by
        calc b1 ≤ pow * 2 ^ (f + 1) := hf
          _ = pow * 2 * 2 ^ f := by ring
          _ ≤ pow * p * 2 ^ f := Nat.mul_le_mul_right _ (Nat.mul_le_mul_left _ hp)
      obtain ⟨j, hj, hj2, hj3⟩ := ih (pow * p) (Nat.mul_pos h1 (by omega)) (by omega) hf'
      have e : pow * p ^ (j + 1) = pow * p * p ^ j := by ring
      refine ⟨j + 1, ?_, by rw [e]; exact hj2, Or.inr ?_⟩
      · rw [powBelow, if_neg (h64 pow h32), if_pos hlt, hj, e]
      · rw [e]
        rcases hj3 with rfl | h0
        · simpa using hlt
        · exact h0
    · exact stop _ pow h32 hlt

/-- `powBelow` as called by the code (`pow = p`, fuel 64) for a number `2 ≤ p < 2^32` and a bound `b1 ≤ 2^32`: the value is `p`
itself or a power of `p` below `b1`, and a multiple of every `p^k < b1` -/
theorem powBelow_start (b1 p : Nat) (hb : b1 ≤ 2 ^ 32) (hp : 2 ≤ p) (hp32 : p < 2 ^ 32) :
    ∃ pow, powBelow 64 p p b1 = some pow ∧ 1 ≤ pow ∧ (pow = p ∨ pow < b1) ∧ p ∣ pow ∧ ∀ k, p ^ k < b1 → p ^ k ∣ pow := by
  obtain ⟨j, h1, h2, h3⟩ := powBelow_spec p b1 hp hp32 hb 63 p (by omega) hp32
    (le_trans hb (by rw [show (2 : Nat) ^ 32 = 1 * 2 ^ 32 by norm_num]; exact Nat.mul_le_mul (by omega) (by norm_num)))
  have e : p * p ^ j = p ^ (j + 1) := by ring
  refine ⟨_, h1, ?_, ?_, Dvd.intro _ rfl, fun k hk => ?_⟩
  · rw [e]; exact Nat.one_le_pow _ _ (by omega)
  · rcases h3 with rfl | h
    · left; simp
    · exact Or.inr h
  · -- `p^k < b1 ≤ p^(j+2)`
    rw [e]
    have h4 : p ^ k < p ^ (j + 2) := lt_of_lt_of_le hk (by rw [show p ^ (j + 2) = p * p ^ j * p by ring]; exact h2)
    exact Nat.pow_dvd_pow p (by have := (Nat.pow_lt_pow_iff_right (by omega : 1 < p)).mp h4; omega)

/-- no stored value exceeds its machine type; the 1024-bit buffer has room for one more `u64` -/
structure Inv (st : St) : Prop where
  buf_pos : 1 ≤ st.buffer
  buf_lt : st.buffer < 2 ^ 64
  lg_pos : 1 ≤ st.bufferLg
  lg_lt : st.bufferLg < 2 ^ 960
  f_lt : ∀ x ∈ st.factors, x < 2 ^ 64
  l_lt : ∀ x ∈ st.larges, x < 2 ^ 1024

def total (st : St) : Nat := st.factors.prod * st.larges.prod * (st.buffer * st.bufferLg)

theorem inv_st0 : Inv st0 := by
  constructor
  · exact Nat.le_refl 1
  · show 1 < 2 ^ 64
    exact Nat.one_lt_two_pow (by decide)
  · exact Nat.le_refl 1
  · show 1 < 2 ^ 960
    exact Nat.one_lt_two_pow (by decide)
  · intro x hx; simp [st0] at hx
  · intro x hx; simp [st0] at hx

theorem total_st0 : total st0 = 1 := by simp [total, st0]

theorem flushSmallPrime_spec (p : Nat) (st : St) (h : Inv st) :
    Inv (flushSmallPrime p st) ∧ total (flushSmallPrime p st) = total st := by
  unfold flushSmallPrime
  split
  · refine ⟨⟨by simp, by simp, h.lg_pos, h.lg_lt, ?_, h.l_lt⟩, ?_⟩
    · intro x hx
      simp only [List.mem_cons] at hx
      rcases hx with rfl | hx
      · exact h.buf_lt
      · exact h.f_lt x hx
    · simp only [total, List.prod_cons]; ring
  · exact ⟨h, rfl⟩

theorem two_pow_thr_mul {thr a b : Nat} (hthr : thr + 64 ≤ 1024) (ha : a < 2 ^ thr) (hb : b < 2 ^ 64) : a * b < 2 ^ 1024 := by
  have h : a * b < 2 ^ thr * 2 ^ 64 := Nat.mul_lt_mul'' ha hb
  rw [← Nat.pow_add] at h
  exact lt_of_lt_of_le h (Nat.pow_le_pow_right (by decide) hthr)

/-- rule 2 never overflows; afterwards `buffer * pow` fits in a `u64` -/
theorem flushFull_spec (p pow : Nat) (ul : Bool) (st : St) (h : Inv st) (hpow : pow < 2 ^ 64) :
    ∃ st', flushFull p pow ul st = some st' ∧ total st' = total st ∧
      1 ≤ st'.buffer ∧ st'.buffer * pow < 2 ^ 64 ∧ 1 ≤ st'.bufferLg ∧ st'.bufferLg < 2 ^ 1024 ∧
      (∀ x ∈ st'.factors, x < 2 ^ 64) ∧ (∀ x ∈ st'.larges, x < 2 ^ 1024) := by
  have hb0 : st.buffer ≠ 0 := by have := h.buf_pos; omega
  have hlg1024 : st.bufferLg < 2 ^ 1024 :=
    lt_of_lt_of_le h.lg_lt (Nat.pow_le_pow_right (by decide) (by decide))
  unfold flushFull
  rw [if_neg hb0]
  by_cases hfl : 2 ^ (64 - bitlen st.buffer) ≤ pow
  · rw [if_pos hfl]
    by_cases hsm : p < 4096 ∨ ul = false
    · rw [if_pos hsm]
      refine ⟨_, rfl, ?_, by simp, by simpa using hpow, h.lg_pos, hlg1024, ?_, h.l_lt⟩
      · simp only [total, List.prod_cons]; ring
      · intro x hx
        simp only [List.mem_cons] at hx
        rcases hx with rfl | hx
        · exact h.buf_lt
        · exact h.f_lt x hx
    · rw [if_neg hsm]
      have hmul := two_pow_thr_mul (by decide) h.lg_lt h.buf_lt
      rw [if_pos hmul]
      refine ⟨_, rfl, ?_, by simp, by simpa using hpow, ?_, hmul, h.f_lt, h.l_lt⟩
      · simp only [total]; ring
      · have : 1 * 1 ≤ st.bufferLg * st.buffer := Nat.mul_le_mul h.lg_pos h.buf_pos
        simpa using this
  · rw [if_neg hfl]
    exact ⟨st, rfl, rfl, h.buf_pos, mul_lt_of_flush_test h.buf_lt hfl, h.lg_pos, hlg1024,
      h.f_lt, h.l_lt⟩

theorem flushLarge_spec (st : St) (hlg1 : 1 ≤ st.bufferLg) (hlg : st.bufferLg < 2 ^ 1024)
    (hl : ∀ x ∈ st.larges, x < 2 ^ 1024) :
    total (flushLarge st) = total st ∧ (flushLarge st).buffer = st.buffer ∧
      (flushLarge st).factors = st.factors ∧
      1 ≤ (flushLarge st).bufferLg ∧ (flushLarge st).bufferLg < 2 ^ 960 ∧
      (∀ x ∈ (flushLarge st).larges, x < 2 ^ 1024) := by
  unfold flushLarge
  split
  · refine ⟨?_, rfl, rfl, by simp, ?_, ?_⟩
    · simp only [total, List.prod_cons]; ring
    · show 1 < 2 ^ 960
      exact Nat.one_lt_two_pow (by decide)
    · intro x hx
      simp only [List.mem_cons] at hx
      rcases hx with rfl | hx
      · exact hlg
      · exact hl x hx
  · rename_i hnot
    refine ⟨rfl, rfl, rfl, hlg1, ?_, hl⟩
    exact lt_of_bitlen_le (by omega)

theorem powOf_lt {b1 p pow : Nat} (h : powOf b1 p = some pow) : pow < 2 ^ 64 := by
  unfold powOf at h
  cases hq : powBelow 64 p p b1 with
  | none => simp [hq] at h
  | some q =>
    simp only [hq] at h
    split_ifs at h <;> simp only [Option.some.injEq] at h <;> omega

theorem step_spec (b1 : Nat) (ul : Bool) (st : St) (p pow : Nat) (h : Inv st)
    (hpow : powOf b1 p = some pow) (hpos : 1 ≤ pow) :
    ∃ st', step b1 ul st p = some st' ∧ Inv st' ∧ total st' = total st * pow := by
  have hpow64 : pow < 2 ^ 64 := powOf_lt hpow
  obtain ⟨h1, t1⟩ := flushSmallPrime_spec p st h
  obtain ⟨st2, e2, t2, b2, m2, lg2a, lg2, f2, l2⟩ :=
    flushFull_spec p pow ul (flushSmallPrime p st) h1 hpow64
  obtain ⟨t3, b3, f3, lg3a, lg3, l3⟩ := flushLarge_spec st2 lg2a lg2 l2
  unfold step
  rw [hpow]
  simp only [e2]
  unfold mulBuffer
  rw [b3, if_pos m2]
  refine ⟨_, rfl, ⟨?_, by simpa using m2, lg3a, lg3, by simpa [f3] using f2, l3⟩, ?_⟩
  · show 1 ≤ st2.buffer * pow
    have : 1 * 1 ≤ st2.buffer * pow := Nat.mul_le_mul b2 hpos
    simpa using this
  · simp only [total] at t3 t2 t1 ⊢
    rw [b3] at t3
    have : (flushLarge st2).factors.prod * (flushLarge st2).larges.prod *
        (st2.buffer * pow * (flushLarge st2).bufferLg) =
        (flushLarge st2).factors.prod * (flushLarge st2).larges.prod *
        (st2.buffer * (flushLarge st2).bufferLg) * pow := by ring
    rw [this, t3, t2, t1]

end Ymq.SmoothBase
