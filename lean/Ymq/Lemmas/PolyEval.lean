/-
Multipoint evaluation (Ymq/Model/PolyTree.lean, property C10):
division by monic polynomials, the scaled quotient `sc P M m = ⌊x^m (P mod M)/M⌋` kept in the blocks
of the remainder tree, one tree edge (`sc_split`), the leaves, the reversal argument (`high_of_reflect`) and its use
at the top (`top_quotient`), and `multiEvalTree_spec`: `_multi_eval` returns the values at the leaves.
-/
import Ymq.Lemmas.PolyTree
import Ymq.Lemmas.PolySeries
import Mathlib.Algebra.Polynomial.Div
import Mathlib.Algebra.Polynomial.Eval.Degree
import Mathlib.Algebra.Polynomial.Reverse

namespace Ymq.PolyMul
open Polynomial Finset

variable {α : Type} {R : Type} [CommRing R] [Nontrivial R]

omit [Nontrivial R] in
theorem below_degree {f : R[X]} {m : Nat} (h : Below f m) : f.degree < m :=
  (degree_lt_iff_coeff_zero f m).2 h

theorem div_unique' (f g q r : R[X]) (m : Nat) (hg : g.Monic) (hdeg : g.natDegree = m) (hr : Below r m)
    (h : r + g * q = f) : f /ₘ g = q ∧ f %ₘ g = r := by
  apply div_modByMonic_unique q r hg ⟨h, ?_⟩
  rw [degree_eq_natDegree hg.ne_zero, hdeg]
  exact below_degree hr

theorem below_mod (f g : R[X]) (m : Nat) (hg : g.Monic) (hdeg : g.natDegree = m) : Below (f %ₘ g) m := by
  have := degree_modByMonic_lt f hg
  rw [degree_eq_natDegree hg.ne_zero, hdeg] at this
  exact (degree_lt_iff_coeff_zero _ m).1 this

omit [Nontrivial R] in
theorem below_of_monic_mul (Q D : R[X]) (a m : Nat) (hQ : Q.Monic) (hdeg : Q.natDegree = m) (h : Below (Q * D) a) :
    Below D (a - m) := by
  intro j hj
  by_cases hD : D = 0
  · rw [hD, coeff_zero]
  · apply coeff_eq_zero_of_natDegree_lt
    have hd : (Q * D).natDegree = m + D.natDegree := by rw [hQ.natDegree_mul' hD, hdeg]
    have hne : Q * D ≠ 0 := fun h0 => hD (by rwa [hQ.mul_right_eq_zero_iff] at h0)
    have : (Q * D).natDegree < a := by
      by_contra hc
      exact leadingCoeff_ne_zero.2 hne (h _ (not_lt.1 hc))
    omega

theorem below_div (f g : R[X]) (a m : Nat) (hg : g.Monic) (hdeg : g.natDegree = m) (hf : Below f a) :
    Below (f /ₘ g) (a - m) := by
  have := below_of_monic_mul g (f /ₘ g) (max a m) m hg hdeg (fun j hj => by
    rw [eq_sub_of_add_eq' (modByMonic_add_div f g), coeff_sub, hf j (le_trans (le_max_left a m) hj),
      below_mod f g m hg hdeg j (le_trans (le_max_right a m) hj), sub_zero])
  exact fun j hj => this j (by omega)

omit [Nontrivial R] in
theorem below_mul_X_pow (f : R[X]) (a k : Nat) (hf : Below f a) : Below (X ^ k * f) (k + a) := by
  intro j hj
  rw [coeff_X_pow_mul', if_pos (by omega)]
  exact hf _ (by omega)

/-- the scaled quotient kept in a remainder-tree block for the monic modulus `M` of degree `m`:
`⌊x^m·(P mod M) / M⌋`, i.e. the coefficients of `x^(-1) … x^(-m)` of `P/M` -/
noncomputable def sc (P M : R[X]) (m : Nat) : R[X] := (X ^ m * (P %ₘ M)) /ₘ M

theorem below_sc (P M : R[X]) (m : Nat) (hM : M.Monic) (hdeg : M.natDegree = m) : Below (sc P M m) m := by
  have h1 := below_mul_X_pow (P %ₘ M) m m (below_mod P M m hM hdeg)
  have := below_div _ M (m + m) m hM hdeg h1
  simpa [sc] using this

theorem mod_mod_of_mul (P Q1 Q2 : R[X]) (k : Nat) (h1 : Q1.Monic) (hd1 : Q1.natDegree = k) :
    (P %ₘ (Q1 * Q2)) %ₘ Q1 = P %ₘ Q1 := by
  have e1 := modByMonic_add_div P (Q1 * Q2)
  have e2 := modByMonic_add_div (P %ₘ (Q1 * Q2)) Q1
  refine ((div_unique' P Q1 ((P %ₘ (Q1 * Q2)) /ₘ Q1 + Q2 * (P /ₘ (Q1 * Q2))) ((P %ₘ (Q1 * Q2)) %ₘ Q1) k h1 hd1
    (below_mod _ Q1 k h1 hd1) ?_).2).symm
  calc (P %ₘ (Q1 * Q2)) %ₘ Q1 + Q1 * ((P %ₘ (Q1 * Q2)) /ₘ Q1 + Q2 * (P /ₘ (Q1 * Q2)))
      = ((P %ₘ (Q1 * Q2)) %ₘ Q1 + Q1 * ((P %ₘ (Q1 * Q2)) /ₘ Q1)) + Q1 * Q2 * (P /ₘ (Q1 * Q2)) := by ring
    _ = P := by rw [e2, e1]

/-- **One edge of the scaled remainder tree.** For monic `Q1`, `Q2` of degree `k ≥ 1`: the scaled
quotient of the child `Q1` consists of the coefficients `k … 2k-1` of (scaled quotient of `Q1·Q2`)·`Q2`. -/
theorem sc_split (P Q1 Q2 : R[X]) (k : Nat) (hk : 1 ≤ k) (h1 : Q1.Monic) (h2 : Q2.Monic)
    (hd1 : Q1.natDegree = k) (hd2 : Q2.natDegree = k) :
    ∀ j, j < k → (sc P Q1 k).coeff j = (sc P (Q1 * Q2) (2 * k) * Q2).coeff (k + j) := by
  intro j hj
  have hM : (Q1 * Q2).Monic := h1.mul h2
  have hdM : (Q1 * Q2).natDegree = 2 * k := by rw [h1.natDegree_mul h2, hd1, hd2]; ring
  -- x^(2k)·Rm = S + Q1·Q2·A, Rm = R1 + Q1·T, x^k·R1 = r1 + Q1·C1
  unfold sc
  have eA := eq_sub_of_add_eq' (modByMonic_add_div (X ^ (2 * k) * (P %ₘ (Q1 * Q2))) (Q1 * Q2))
  have eT := eq_sub_of_add_eq' (modByMonic_add_div (P %ₘ (Q1 * Q2)) Q1)
  rw [mod_mod_of_mul P Q1 Q2 k h1 hd1] at eT
  have eC := eq_sub_of_add_eq' (modByMonic_add_div (X ^ k * (P %ₘ Q1)) Q1)
  generalize (X ^ (2 * k) * (P %ₘ (Q1 * Q2))) /ₘ (Q1 * Q2) = A at eA ⊢
  generalize (X ^ k * (P %ₘ Q1)) /ₘ Q1 = C1 at eC ⊢
  generalize (P %ₘ (Q1 * Q2)) /ₘ Q1 = T at eT
  -- D = A·Q2 - x^(2k)·T - x^k·C1 satisfies Q1·D = x^k·r1 - S, which ends below 2k: so D ends below k
  have hD : Below (A * Q2 - X ^ (2 * k) * T - X ^ k * C1) (2 * k - k) := by
    apply below_of_monic_mul Q1 _ (2 * k) k h1 hd1
    have e2 : X ^ (2 * k) = (X ^ k * X ^ k : R[X]) := by rw [← pow_add]; congr 1; omega
    have e : Q1 * (A * Q2 - X ^ (2 * k) * T - X ^ k * C1) =
        X ^ k * ((X ^ k * (P %ₘ Q1)) %ₘ Q1) - (X ^ (2 * k) * (P %ₘ (Q1 * Q2))) %ₘ (Q1 * Q2) := by
      calc Q1 * (A * Q2 - X ^ (2 * k) * T - X ^ k * C1)
          = Q1 * Q2 * A - X ^ (2 * k) * (Q1 * T) - X ^ k * (Q1 * C1) := by ring
        _ = _ := by rw [eA, eT, eC, e2]; ring
    rw [e]
    intro i hi
    rw [coeff_sub, below_mul_X_pow _ k k (below_mod _ _ _ h1 hd1) i (by omega), below_mod _ _ _ hM hdM i hi, sub_zero]
  have := hD (k + j) (by omega)
  rw [coeff_sub, coeff_sub, coeff_X_pow_mul', if_neg (by omega), coeff_X_pow_mul', if_pos (by omega),
    Nat.add_sub_cancel_left, sub_zero, sub_eq_zero] at this
  exact this.symm


theorem sc_leaf (P : R[X]) (a : R) : sc P (X - C a) 1 = C (P.eval a) := by
  unfold sc
  rw [modByMonic_X_sub_C_eq_C_eval, pow_one]
  refine (div_unique' _ (X - C a) (C (P.eval a)) (C (a * P.eval a)) 1 (monic_X_sub_C a)
    (natDegree_X_sub_C a) ?_ ?_).1
  · intro j hj
    rw [coeff_C, if_neg (by omega)]
  · rw [map_mul]; ring

omit [Nontrivial R] in
theorem mon_monic (φ : α → R) (a : List α) : (mon φ a).Monic := by
  unfold mon
  rw [add_comm]
  apply monic_X_pow_add
  refine (degree_lt_iff_coeff_zero _ _).2 ?_
  intro j hj
  exact below_map φ a j hj

theorem mon_natDegree (φ : α → R) (a : List α) : (mon φ a).natDegree = a.length := by
  unfold mon
  rw [add_comm, natDegree_add_eq_left_of_degree_lt, natDegree_X_pow]
  rw [degree_X_pow]
  refine (degree_lt_iff_coeff_zero _ _).2 ?_
  intro j hj
  exact below_map φ a j hj

omit [Nontrivial R] in
theorem middlemulXn_spec {o : Ops α} {φ : α → R} (h : Hom o φ) (c : Ctx) (blk q : List α) (k tmplen : Nat)
    (hk : 1 ≤ k) (hk62 : k ≤ 2 ^ 62) (hq : q.length = k) (hb : blk.length = 2 * k)
    (ht : mmNeed k ≤ tmplen) (hfit : Fits c k) :
    ∃ d, middlemulXn c o k blk q tmplen = some d ∧ d.length = k ∧
      ∀ i, i < k → φ (d.getD i o.zero) = (poly (blk.map φ) * mon φ q).coeff (k + i) := by
  unfold middlemulXn
  rw [if_neg (by omega)]
  obtain ⟨m, em, lm, hm⟩ := middlemul_fuel h c k (blk.drop 1) q tmplen k hq hk hk62
    (by rw [List.length_drop, hb]) le_rfl ht hfit
  rw [em]
  simp only
  rw [if_neg (by omega), hq]
  refine ⟨_, rfl, by rw [List.length_zipWith, lm, List.length_take_of_le (by omega), Nat.min_self], fun i hi => ?_⟩
  rw [getD_zipWith _ _ _ _ _ (by omega) (by rw [List.length_take]; omega), h.add, hm i hi, getD_take _ _ _ _ hi,
    ← coeff_den h]
  cases blk with
  | nil => simp at hb; omega
  | cons b0 brest =>
    -- block·(x^k + q): the shift, and the head rule on `b0 :: brest`
    unfold mon
    rw [List.drop_succ_cons, List.drop_zero, hq, mul_add, coeff_add, coeff_mul_X_pow', if_pos (by omega),
      Nat.add_sub_cancel_left, List.map_cons, show k + i = (k - 1 + i) + 1 by omega, coeff_cons_mul_succ,
      below_map φ q _ (by omega), mul_zero, zero_add]


/-- remainder-tree invariant: block `j` holds the `m` scaled coefficients of `P` modulo node `j` -/
def Blocks (φ : α → R) (P : R[X]) (nodes blocks : List (List α)) (m : Nat) : Prop :=
  blocks.length = nodes.length ∧ ∀ j, j < nodes.length →
    (blocks.getD j []).length = m ∧ poly ((blocks.getD j []).map φ) = sc P (mon φ (nodes.getD j [])) m

/-- one child of a remainder-tree block: `_middlemul_xn` of the block for `qa·qb` by `qb` is the block
for `qa` -/
theorem splitChild_spec {o : Ops α} {φ : α → R} (h : Hom o φ) (c : Ctx) (P : R[X]) (k tmplen : Nat)
    (hk : 1 ≤ k) (hk62 : k ≤ 2 ^ 62) (ht : mmNeed k ≤ tmplen) (hfit : Fits c k) (blk qa qb : List α)
    (lqa : qa.length = k) (lqb : qb.length = k) (lblk : blk.length = 2 * k)
    (pblk : poly (blk.map φ) = sc P (mon φ qa * mon φ qb) (2 * k)) :
    ∃ d, middlemulXn c o k blk qb tmplen = some d ∧ d.length = k ∧ poly (d.map φ) = sc P (mon φ qa) k := by
  obtain ⟨d, e, ld, hd⟩ := middlemulXn_spec h c blk qb k tmplen hk hk62 lqb lblk ht hfit
  refine ⟨d, e, ld, poly_eq_of_coeff _ _ ?_ ?_⟩
  · intro j hj; rw [List.length_map, ld] at hj
    exact below_sc P _ k (mon_monic φ qa) (by rw [mon_natDegree, lqa]) j hj
  · intro j hj; rw [List.length_map, ld] at hj
    rw [getD_map_hom h, hd j hj, pblk]
    exact (sc_split P (mon φ qa) (mon φ qb) k hk (mon_monic φ qa) (mon_monic φ qb)
      (by rw [mon_natDegree, lqa]) (by rw [mon_natDegree, lqb]) j hj).symm

/-- one level of the remainder tree, by induction over the upper layer: the block of `2k` scaled coefficients for a node
`Q1·Q2` yields the blocks of `k` for `Q1` and for `Q2` (`splitChild_spec` twice, the factors swapped the second time) -/
theorem splitLevel_spec {o : Ops α} {φ : α → R} (h : Hom o φ) (c : Ctx) (P : R[X]) (k tmplen : Nat)
    (hk : 1 ≤ k) (hk62 : k ≤ 2 ^ 62) (ht : mmNeed k ≤ tmplen) (hfit : Fits c k) :
    ∀ (hi lo blocks : List (List α)), Linked φ lo hi k → Blocks φ P hi blocks (2 * k) →
      ∃ bl, splitLevel c o tmplen blocks lo = some bl ∧ Blocks φ P lo bl k := by
  intro hi
  induction hi with
  | nil =>
    intro lo blocks hl hb
    have hb0 : blocks = [] := List.length_eq_zero_iff.1 (by simpa using hb.1)
    have hl0 : lo = [] := List.length_eq_zero_iff.1 (by simpa using hl.1)
    subst hb0 hl0
    exact ⟨[], rfl, rfl, fun j hj => by simp at hj⟩
  | cons M Ms ih =>
    intro lo blocks hl hb
    have hl1 := hl.1
    obtain ⟨hb1, hb2⟩ := hb
    rcases lo with _ | ⟨q1, _ | ⟨q2, qs⟩⟩
    · simp at hl1
    · simp at hl1; omega
    rcases blocks with _ | ⟨blk, bs⟩
    · simp at hb1
    · have lq1 : q1.length = k := hl.2.1 q1 (by simp)
      have lq2 : q2.length = k := hl.2.1 q2 (by simp)
      obtain ⟨hM, hl'⟩ := hl.tail
      obtain ⟨lblk, pblk⟩ := hb2 0 (by simp)
      simp only [List.getD_cons_zero] at lblk pblk
      obtain ⟨d1, e1, ld1, p1⟩ := splitChild_spec h c P k tmplen hk hk62 ht hfit blk q1 q2 lq1 lq2 lblk
        (by rw [pblk, hM])
      obtain ⟨d2, e2, ld2, p2⟩ := splitChild_spec h c P k tmplen hk hk62 ht hfit blk q2 q1 lq2 lq1 lblk
        (by rw [pblk, hM, mul_comm])
      obtain ⟨rest, er, hr1, hr2⟩ := ih qs bs hl'
        ⟨by simp at hb1; omega, by
          intro j hj
          have := hb2 (j + 1) (by simp; omega)
          simpa [List.getD_cons_succ] using this⟩
      unfold splitLevel
      rw [lq1, e1, e2, er]
      refine ⟨d1 :: d2 :: rest, rfl, by simp [hr1], ?_⟩
      intro j hj
      rcases j with _ | _ | j
      · exact ⟨by simpa using ld1, by simpa using p1⟩
      · exact ⟨by simpa using ld2, by simpa using p2⟩
      · have := hr2 j (by simp at hj; omega)
        simpa [List.getD_cons_succ] using this

omit [Nontrivial R] in
theorem Chain.head_length {φ : α → R} {d : Nat} {l : List (List α)} {rest : List (List (List α))}
    (hc : Chain φ d (l :: rest)) : ∀ a ∈ l, a.length = d := by
  cases rest with
  | nil => exact hc
  | cons l2 rest' => exact hc.1.2.1

omit [Nontrivial R] in
theorem Chain.snoc {φ : α → R} : ∀ (xs : List (List (List α))) (lo hi : List (List α)) (d : Nat),
    Chain φ d (xs ++ [lo, hi]) → Chain φ d (xs ++ [lo]) ∧ ∃ k, Linked φ lo hi k := by
  intro xs
  induction xs with
  | nil => intro lo hi d hc; exact ⟨hc.1.2.1, d, hc.1⟩
  | cons x xs ih =>
    intro lo hi d hc
    cases xs with
    | nil =>
      obtain ⟨h1, h2⟩ := ih lo hi (2 * d) hc.2
      exact ⟨⟨hc.1, h1⟩, h2⟩
    | cons y ys =>
      obtain ⟨h1, h2⟩ := ih lo hi (2 * d) hc.2
      exact ⟨⟨hc.1, h1⟩, h2⟩


omit [Nontrivial R] in
/-- **The reversal argument**, under the top of the remainder tree and under the Barrett step: `G·Q` and `N` agree from
coefficient `n` on as soon as their reversals agree modulo `x^(m+1)` (`deg Q ≤ n`, `deg G ≤ m`, `deg N ≤ m + n`) -/
theorem high_of_reflect (N Q G : R[X]) (n m : Nat) (hQ : Q.natDegree ≤ n) (hG : G.natDegree ≤ m)
    (hN : Below N (m + n + 1)) (h : Agree (m + 1) (reflect m G * reflect n Q) (reflect (m + n) N)) :
    ∀ e, n ≤ e → (G * Q).coeff e = N.coeff e := by
  intro e he
  by_cases hbig : m + n < e
  · rw [hN e (by omega)]
    exact coeff_eq_zero_of_natDegree_lt (lt_of_le_of_lt (natDegree_mul_le.trans (Nat.add_le_add hG hQ)) hbig)
  · have := h (m + n - e) (by omega)
    rw [← reflect_mul G Q hG hQ, coeff_reflect, coeff_reflect, revAt_le (by omega),
      show m + n - (m + n - e) = e by omega] at this
    exact this

/-- **The top of the remainder tree (reversal).** If `rev(Q)·F ≡ rev(P) (mod t^(degp+1))` for a monic
`Q` of degree `n ≥ degp`, then `G = Σ_{b ≤ degp} F_{degp-b}·x^b` is the quotient `⌊x^n·P / Q⌋`, and its
coefficients below `n` are the scaled quotient `sc P Q n`. -/
theorem top_quotient (P Q : R[X]) (n degp : Nat) (F : Nat → R) (hQ : Q.Monic) (hdQ : Q.natDegree = n)
    (hP : Below P (degp + 1)) (hdeg : degp ≤ n)
    (hF : ∀ m, m ≤ degp → ∑ s ∈ range (m + 1), Q.coeff (n - s) * F (m - s) = P.coeff (degp - m)) :
    ∀ i, i < n → (if i ≤ degp then F (degp - i) else 0) = (sc P Q n).coeff i := by
  set G : R[X] := ∑ b ∈ range (degp + 1), C (F (degp - b)) * X ^ b with hG
  have cG : ∀ b, G.coeff b = if b ≤ degp then F (degp - b) else 0 := by
    intro b
    rw [hG, finsetSum_coeff]
    simp only [coeff_C_mul, coeff_X_pow]
    split_ifs with hb
    · rw [Finset.sum_eq_single b]
      · simp
      · intro x _ hx; rw [if_neg (by omega), mul_zero]
      · intro hx; exact absurd (Finset.mem_range.2 (by omega)) hx
    · apply Finset.sum_eq_zero
      intro x hx
      rw [if_neg (by simp at hx; omega), mul_zero]
  have bG : Below G (degp + 1) := fun j hj => by rw [cG j, if_neg (by omega)]
  -- the coefficients n … of G·Q and x^n·P agree: `rev G · rev Q ≡ rev P` is the hypothesis on `F`
  have hhigh : ∀ e, n ≤ e → (G * Q).coeff e = (X ^ n * P).coeff e := by
    refine high_of_reflect (X ^ n * P) Q G n degp hdQ.le
      (natDegree_le_iff_coeff_eq_zero.2 fun j hj => bG j hj) (fun j hj => ?_) (fun k hk => ?_)
    · rw [coeff_X_pow_mul', if_pos (by omega)]; exact hP _ (by omega)
    · have hk' : k ≤ degp := Nat.lt_succ_iff.1 hk
      rw [coeff_reflect, revAt_le (by omega), coeff_X_pow_mul', if_pos (by omega),
        show degp + n - k - n = degp - k by omega, ← hF k hk', coeff_mul,
        Finset.Nat.sum_antidiagonal_eq_sum_range_succ_mk, ← Finset.sum_range_reflect]
      refine Finset.sum_congr rfl fun s hs => ?_
      have hs' : s < k + 1 := Finset.mem_range.1 hs
      rw [coeff_reflect, coeff_reflect, revAt_le (by omega), revAt_le (by omega), cG, if_pos (by omega), mul_comm]
      congr 2 <;> omega
  -- hence G is the quotient of x^n·P by Q
  have hdiv : (X ^ n * P) /ₘ Q = G := by
    refine (div_unique' _ Q G (X ^ n * P - Q * G) n hQ hdQ ?_ (by ring)).1
    intro j hj
    rw [coeff_sub, mul_comm Q, hhigh j hj, sub_self]
  -- and x^n·P = x^n·(P mod Q) + Q·x^n·(P div Q) with P div Q below 1
  have bc : Below (P /ₘ Q) 1 := by
    have := below_div P Q (degp + 1) n hQ hdQ hP
    intro j hj
    exact this j (by omega)
  have hdiv2 : (X ^ n * P) /ₘ Q = sc P Q n + X ^ n * (P /ₘ Q) := by
    refine (div_unique' _ Q _ ((X ^ n * (P %ₘ Q)) %ₘ Q) n hQ hdQ (below_mod _ _ _ hQ hdQ) ?_).1
    have e1 := modByMonic_add_div P Q
    have e2 := modByMonic_add_div (X ^ n * (P %ₘ Q)) Q
    unfold sc
    calc (X ^ n * (P %ₘ Q)) %ₘ Q + Q * ((X ^ n * (P %ₘ Q)) /ₘ Q + X ^ n * (P /ₘ Q))
        = ((X ^ n * (P %ₘ Q)) %ₘ Q + Q * ((X ^ n * (P %ₘ Q)) /ₘ Q)) + X ^ n * (Q * (P /ₘ Q)) := by ring
      _ = X ^ n * (P %ₘ Q + Q * (P /ₘ Q)) := by rw [e2]; ring
      _ = X ^ n * P := by rw [e1]
  intro i hi
  have := congrArg (fun f => f.coeff i) (hdiv.symm.trans hdiv2)
  simp only [coeff_add] at this
  rw [coeff_X_pow_mul', if_neg (by omega), add_zero, cG] at this
  exact this


/-- the loop down the remainder tree, from the layer `hi` (nodes of `m` coefficients, blocks `blocks`) through the layers
`below` (listed from the top down): the blocks of the bottom layer, whose nodes have one coefficient -/
theorem splitAll_spec {o : Ops α} {φ : α → R} (h : Hom o φ) (c : Ctx) (P : R[X]) (tmplen : Nat) :
    ∀ (below : List (List (List α))) (hi blocks : List (List α)) (m : Nat),
      Chain φ 1 (below.reverse ++ [hi]) → Blocks φ P hi blocks m → 1 ≤ hi.length → (∀ a ∈ hi, a.length = m) →
      1 ≤ m → m ≤ 2 ^ 62 → 5 * m ≤ tmplen → Fits c (m / 2) →
      ∃ bl, splitAll c o tmplen below blocks = some bl ∧
        Blocks φ P ((below.reverse ++ [hi]).head?.getD []) bl 1 := by
  intro below
  induction below with
  | nil =>
    intro hi blocks m hch hb hne hall _ _ _ _
    obtain ⟨a, ha⟩ : ∃ a, a ∈ hi := List.exists_mem_of_length_pos (by omega)
    obtain rfl : m = 1 := by rw [← hall a ha]; exact hch a ha
    exact ⟨blocks, rfl, hb⟩
  | cons lo below' ih =>
    intro hi blocks m hch hb hne hall hm1 hm62 ht hfit
    rw [List.reverse_cons, List.append_assoc, List.singleton_append] at hch ⊢
    obtain ⟨hch', k, hl⟩ := Chain.snoc _ lo hi 1 hch
    -- the node length of `hi` is both `m` and `2k`
    obtain ⟨a, ha⟩ : ∃ a, a ∈ hi := List.exists_mem_of_length_pos (by omega)
    obtain rfl : m = 2 * k := by rw [← hall a ha, hl.2.2.1 a ha]
    obtain ⟨bl1, e1, hb1⟩ := splitLevel_spec h c P k tmplen (by omega) (by omega)
      (mmNeed_le_of k tmplen (by omega)) (hfit.mono (by omega)) hi lo blocks hl hb
    obtain ⟨bl, e2, hbl⟩ := ih lo bl1 k hch' hb1 (by rw [hl.1]; omega) hl.2.1
      (by omega) (by omega) (by omega) (hfit.mono (by omega))
    unfold splitAll
    rw [e1]
    refine ⟨bl, e2, ?_⟩
    rwa [show (below'.reverse ++ [lo, hi]).head? = (below'.reverse ++ [lo]).head? by
      cases below'.reverse <;> rfl]

omit [Nontrivial R] in
theorem getD_top_one {o : Ops α} {φ : α → R} (h : Hom o φ) (top : List α) (e : Nat) :
    φ ((top ++ [o.one]).getD e o.zero) = (mon φ top).coeff e := by
  unfold mon
  rw [coeff_add, coeff_X_pow, coeff_den h]
  rcases Nat.lt_trichotomy e top.length with hlt | heq | hgt
  · rw [List.getD_append _ _ _ _ hlt, if_neg (by omega), add_zero]
  · rw [List.getD_append_right _ _ _ _ (by omega), heq, Nat.sub_self, List.getD_cons_zero, h.one,
      List.getD_eq_default top _ (le_refl _), h.zero, if_pos rfl, zero_add]
  · rw [List.getD_eq_default _ _ (by rw [List.length_append]; simp; omega), List.getD_eq_default top _ (by omega), h.zero,
      if_neg (by omega), add_zero]

/-- `_multi_eval` (Bernstein's scaled remainder tree): the leaves are `x + l_j`, the values `p(-l_j)` -/
theorem multiEvalTree_spec {o : Ops α} {φ : α → R} (h : HomE o φ) (c : Ctx) (p : List α)
    (layers : List (List (List α))) (top : List α) (hch : Chain φ 1 layers)
    (htop : layers.getLast? = some [top]) (n : Nat) (ltop : top.length = n) (hlen : layers.length = n.log2 + 1)
    (hn1 : 1 ≤ n) (hn62 : n ≤ 2 ^ 61) (hp1 : 1 ≤ p.length) (hp2 : p.length ≤ n + 1)
    (hfit : Fits c (n / 2 + 1)) (hinv : ∃ i, o.inv o.one = some i) :
    ∃ vals, multiEvalTree c o p layers = some vals ∧ vals.length = (layers.getD 0 []).length ∧
      ∀ j, j < (layers.getD 0 []).length →
        φ (vals.getD j o.zero) =
          (poly (p.map φ)).eval (-(φ (((layers.getD 0 []).getD j []).getD 0 o.zero))) := by
  subst ltop
  -- what `_div_mod_xn` on `n + 1` coefficients with `10n` entries of scratch needs
  obtain ⟨a1, a2, a3, a4, a5⟩ : 1 ≤ top.length + 1 ∧ top.length + 1 ≤ 2 ^ 62 ∧ 5 * (top.length + 1) ≤ 10 * top.length ∧
      (2 ≤ top.length + 1 → 8 * (top.length + 1 - (top.length + 1) / 2) ≤ 10 * top.length) ∧
      top.length + 1 - (top.length + 1) / 2 ≤ top.length / 2 + 1 := by omega
  obtain ⟨init, hinit⟩ := List.getLast?_eq_some_iff.1 htop
  have hrev : layers.reverse = [top] :: init.reverse := by rw [hinit]; simp
  unfold multiEvalTree
  rw [if_neg (by omega), hrev]
  simp only
  rw [if_neg (by omega)]
  set n := top.length with hn
  set degp := p.length - 1 with hdegp
  set P := poly (p.map φ) with hP
  set q := top ++ [o.one] with hq
  set revp := (List.range (n + 1)).map fun i => if i ≤ degp then p.getD (degp - i) o.zero else o.zero with hrevp
  set revq := (List.range (n + 1)).map fun i => q.getD (n - i) o.zero with hrevq
  have lrevp : revp.length = n + 1 := by simp [hrevp]
  have lrevq : revq.length = n + 1 := by simp [hrevq]
  obtain ⟨dst, ed, ld, hdst⟩ := divModXn_spec h c revp revq (10 * n) (n + 1) lrevp lrevq a1 a2 a3 a4 (hfit.mono a5)
    (by
      obtain ⟨i, hi⟩ := hinv
      refine ⟨i, ?_⟩
      have : revq.getD 0 o.zero = o.one := by
        rw [hrevq, getD_range_map _ _ _ _ (by omega), Nat.sub_zero, hq,
          List.getD_append_right _ _ _ _ (le_refl _), Nat.sub_self, List.getD_cons_zero]
      rw [this]; exact hi)
  rw [ed]
  simp only
  rw [if_neg (by omega)]
  set node := (List.range n).map fun i => if i ≤ degp then dst.getD (degp - i) o.zero else o.zero with hnode
  have lnode : node.length = n := by simp [hnode]
  have hPb : Below P (degp + 1) := (below_map φ p).mono (by omega)
  have htopq := top_quotient P (mon φ top) n degp (fun t => φ (dst.getD t o.zero)) (mon_monic φ top)
    (mon_natDegree φ top) hPb (by omega) (by
      intro m hm
      have := hdst m (by omega)
      rw [coeff_poly_mul_hom h.toHom, coeff_den h.toHom] at this
      rw [hrevp, getD_range_map _ _ _ _ (by omega), if_pos hm] at this
      rw [hP, coeff_den h.toHom, ← this]
      apply Finset.sum_congr rfl
      intro s hs
      have hs' : s < m + 1 := by simpa using hs
      rw [hrevq, getD_range_map _ _ _ _ (by omega), hq, getD_top_one h.toHom])
  have pnode : poly (node.map φ) = sc P (mon φ top) n := by
    apply poly_eq_of_coeff
    · intro j hj; rw [List.length_map, lnode] at hj
      exact below_sc P _ n (mon_monic φ top) (mon_natDegree φ top) j hj
    · intro j hj; rw [List.length_map, lnode] at hj
      rw [getD_map_hom h.toHom, hnode, getD_range_map _ _ _ _ hj, ← htopq j hj]
      split_ifs
      · rfl
      · exact h.zero
  obtain ⟨bl, ebl, hbl⟩ := splitAll_spec h.toHom c P (10 * n) init.reverse [top] [node] n
    (by rw [List.reverse_reverse, ← hinit]; exact hch) ⟨rfl, by
      intro j hj
      have : j = 0 := by simpa using hj
      subst this
      exact ⟨lnode, pnode⟩⟩ (by simp) (by intro a ha; rw [List.mem_singleton.1 ha]) hn1 (by omega) (by omega)
    (hfit.mono (by omega))
  rw [ebl]
  -- the bottom layer is layer 0, with nodes of one coefficient
  rw [List.reverse_reverse, ← hinit] at hbl
  obtain ⟨lo, rest, rfl⟩ := List.exists_cons_of_ne_nil (l := layers) (by rintro rfl; simp at htop)
  have hall := Chain.head_length hch
  rw [List.head?_cons, Option.getD_some] at hbl
  rw [List.getD_cons_zero]
  refine ⟨_, rfl, by rw [List.length_map, hbl.1], ?_⟩
  intro j hj
  obtain ⟨lb, pb⟩ := hbl.2 j hj
  have hleaf := hall (lo.getD j []) (by
    rw [List.getD_eq_getElem?_getD, List.getElem?_eq_getElem hj]; exact List.getElem_mem hj)
  rw [show (bl.map fun b => b.getD 0 o.zero).getD j o.zero = (bl.getD j []).getD 0 o.zero from List.getD_map bl [] _,
    ← coeff_den h.toHom, pb]
  -- the leaf is x + l = x - (-l)
  match hlj : lo.getD j [], hleaf with
  | [l], _ =>
    have hmon : mon φ [l] = X - C (-(φ l)) := by
      simp [mon]; ring
    rw [hmon, sc_leaf, coeff_C_zero, List.getD_cons_zero]

end Ymq.PolyMul
