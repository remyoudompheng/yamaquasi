/-
C14 "small", helper lemmas (Mathlib): one iteration of the main loop of `kernel_lanczos`, both profiles.
The selection (`gram_select`) and the beginning of the iteration are common. Release profile: no panic site is
reached from a well-formed state. CHECKED profile, the inductive step of block Lanczos: from a state satisfying
the invariant `LInv` (with the three-term property of the blocks that are no longer projected as an explicit
hypothesis) one iteration reaches no panic site — every `debug_assert!` on A-orthogonality and on the rank
holds — and re-establishes the invariant.
-/
import Ymq.Lemmas.Gf2SmallLoopProj

namespace Ymq.Gf2Small
open Ymq.Gf2 Ymq.Gf2Genblock Ymq.Gf2Lanczos
open scoped Matrix

theorem supported_mat {G : Mat} {S : Nat} (h : Supported 64 G S) :
    toMat 64 G * projS S = toMat 64 G ∧ projS S * toMat 64 G = toMat 64 G := by
  constructor
  · funext i t
    rw [projS, Matrix.mul_diagonal]
    show vec 64 (row G i.1) t * _ = vec 64 (row G i.1) t
    cases hb : (row G i.1).testBit t.1 with
    | false => rw [vec_eq_toZ, hb]; simp [Gf2.toZ]
    | true => rw [h.colsZero i.1 i.2 t.1 hb]; simp [Gf2.toZ]
  · funext i t
    rw [projS, Matrix.diagonal_mul]
    show _ * vec 64 (row G i.1) t = vec 64 (row G i.1) t
    cases hb : S.testBit i.1 with
    | true => simp [Gf2.toZ]
    | false => rw [h.rowsZero i.1 i.2 hb, vec_zero]; simp

theorem getD_snoc_lt {α} {l : List α} {n j : Nat} (hl : l.length = n) (hj : j < n) (a d : α) :
    (l ++ [a]).getD j d = l.getD j d := by
  rw [List.getD_eq_getElem?_getD, List.getD_eq_getElem?_getD, List.getElem?_append_left (hl ▸ hj)]

theorem getD_snoc_length {α} {l : List α} {n : Nat} (hl : l.length = n) (a d : α) :
    (l ++ [a]).getD n d = a := by
  rw [← hl, List.getD_eq_getElem?_getD, List.getElem?_concat_length]; rfl

/-- the Gram matrix of `B·v` is `vᵗ·A·v` -/
theorem toMat_gram {k : Nat} {cols : List (List Nat)} (hM : MatOK k cols) {v bv gram : List Nat}
    (hbv : optMul (qsOptimize k cols) v = some bv) (hbvl : bv.length = k)
    (hg : blockDot bv bv = some gram) : toMat 64 gram = Q k cols v v := by
  rw [toMat_blockDot hbvl hbvl hg, cellMat_optMul k cols v bv hM.hk hM.hn hM.hwf hbv, Matrix.transpose_mul]
  simp only [gramA, Matrix.mul_assoc]

/-- the invariant of block Lanczos on the model; `hist` lists every selected block (purged or not),
`Ss` their masks, `Y0` is the block returned by `genblock` -/
structure LInv (k : Nat) (cols : List (List Nat)) (Y0 : List Nat) (st : LState) (hist : List (List Nat))
    (Ss : List Nat) : Prop where
  wf : WFL cols.length st
  lenH : hist.length = st.ws.length
  lenS : Ss.length = st.ws.length
  histOK : ∀ j, j < st.ws.length → BlockOK cols.length (hist.getD j [])
  kept : ∀ (j : Nat) (w : List Nat), st.ws[j]? = some w → w.isEmpty = false →
    w = hist.getD j [] ∧ ∃ ig, st.invgs[j]? = some ig ∧ KeptOK k cols w ig (Ss.getD j 0)
  orth : ∀ j l, j < st.ws.length → l < st.ws.length → j ≠ l → Q k cols (hist.getD j []) (hist.getD l []) = 0
  /-- `Y` is A-orthogonal to every selected block -/
  yAll : ∀ j, j < st.ws.length → Q k cols (hist.getD j []) st.y = 0
  /-- `Y + Y0` is a combination of the selected blocks (every update adds `W·T`), said without sums: whatever is
  A-orthogonal to the whole history is A-orthogonal to `Y + Y0` -/
  yOrth : ∀ X, BlockOK cols.length X → (∀ j, j < st.ws.length → Q k cols X (hist.getD j []) = 0) →
    (CM cols.length X)ᵀ * gramA k cols * (CM cols.length st.y + CM cols.length Y0) = 0

/-- the direction computed at the beginning of an iteration: `A·W_last ^ V_last` -/
def Direction (k : Nat) (cols : List (List Nat)) (st : LState) (next0 : List Nat) : Prop :=
  ∃ wl pv nx, st.ws.getLast? = some wl ∧ st.vs.getLast? = some pv ∧
    mulAabOpt (qsOptimize k cols) wl = some nx ∧ next0 = List.zipWith (fun a p => a ^^^ p) nx pv

/-- what an iteration that continues has computed (used to carry the extended invariant) -/
structure StepFacts (k : Nat) (cols : List (List Nat)) (st : LState) (hist : List (List Nat)) (st' : LState)
    (mk : Nat) (w next next0 : List Nat) : Prop where
  dir : Direction k cols st next0
  nextOK : BlockOK cols.length next
  mkLt : mk < 2 ^ 64
  wEq : w = next.map (fun v => v &&& mk)
  vsEq : ∃ vs0, st'.vs = vs0 ++ [next]
  wsEq : ∃ ws0, st'.ws = ws0 ++ [w] ∧ ws0.length = st.ws.length ∧
    ∀ (j : Nat) (x : List Nat), ws0[j]? = some x → x.isEmpty = true →
      (∃ w0, st.ws[j]? = some w0 ∧ w0.isEmpty = true) ∨ maskFor st.masks j st.ws.length = some 0
  masksEq : st'.masks = st.masks ++ [M64 ^^^ mk]
  orthV : ∀ j, j < st.ws.length → Q k cols (hist.getD j []) next = 0
  xform : ∀ X, BlockOK cols.length X → (∀ l, l < st.ws.length → Q k cols X (hist.getD l []) = 0) →
    Q k cols X next = Q k cols X next0

/-- the invariant after one more block `w` (kept with pseudo-inverse `ginv` on `mk`, A-orthogonal to the
history) and the update `y' = y + w·T` made A-orthogonal to `w` -/
theorem LInv.snoc {k : Nat} {cols : List (List Nat)} {Y0 : List Nat} {st : LState} {hist : List (List Nat)}
    {Ss : List Nat} (hInv : LInv k cols Y0 st hist Ss) {vs' ws' : List (List Nat)} {next w y' : List Nat}
    {ginv : Mat} {mk : Nat} {T : Matrix (Fin 64) (Fin 64) (ZMod 2)}
    (hv' : vs'.length = st.ws.length) (hw' : ws'.length = st.ws.length)
    (hwOK' : ∀ x ∈ ws', x = [] ∨ BlockOK cols.length x)
    (hsub : ∀ (j : Nat) (x : List Nat), ws'[j]? = some x → x.isEmpty = false → st.ws[j]? = some x)
    (hnextOK : BlockOK cols.length next) (hKW : KeptOK k cols w ginv mk)
    (hqW : ∀ j, j < st.ws.length → Q k cols (hist.getD j []) w = 0)
    (hy'OK : BlockOK cols.length y')
    (hy'M : CM cols.length y' = CM cols.length st.y + CM cols.length w * T)
    (hyorth : Q k cols w y' = 0) :
    LInv k cols Y0 (LState.mk (vs' ++ [next]) (ws' ++ [w]) (st.invgs ++ [ginv]) (st.masks ++ [M64 ^^^ mk]) y')
      (hist ++ [w]) (Ss ++ [mk]) := by
  have h := hInv.wf
  have hlenH := hInv.lenH
  have hlenS := hInv.lenS
  have hgetH : ∀ j, j < st.ws.length → (hist ++ [w]).getD j [] = hist.getD j [] :=
    fun j hj => getD_snoc_lt hlenH hj _ _
  have hgetHl : (hist ++ [w]).getD st.ws.length [] = w := getD_snoc_length hlenH _ _
  have hlen' : (ws' ++ [w]).length = st.ws.length + 1 := by rw [List.length_append, hw']; rfl
  have hqW' : ∀ j, j < st.ws.length → Q k cols w (hist.getD j []) = 0 := fun j hj => by
    rw [← Q_transpose, hqW j hj, Matrix.transpose_zero]
  have hlast : ∀ {j}, j < (ws' ++ [w]).length → j < st.ws.length ∨ j = st.ws.length := fun hj => by
    rw [hlen'] at hj; exact Nat.lt_or_eq_of_le (Nat.le_of_lt_succ hj)
  exact {
    wf := h.snoc ginv (M64 ^^^ mk) hv' hw' hwOK' hnextOK hKW.wOK hy'OK
    lenH := by simp only [List.length_append, hlenH, hw', List.length_singleton]
    lenS := by simp only [List.length_append, hlenS, hw', List.length_singleton]
    histOK := by
      intro j hj
      rcases hlast hj with h1 | rfl
      · rw [hgetH j h1]; exact hInv.histOK j h1
      · rw [hgetHl]; exact hKW.wOK
    kept := by
      intro j x hjx hxe
      have hjx' : (ws' ++ [w])[j]? = some x := hjx
      rcases Nat.lt_or_ge j ws'.length with hj | hj
      · rw [List.getElem?_append_left hj] at hjx'
        have hj2 : j < st.ws.length := by rw [← hw']; exact hj
        obtain ⟨e1, ig, hig, hK⟩ := hInv.kept j x (hsub j x hjx' hxe) hxe
        refine ⟨by rw [hgetH j hj2]; exact e1, ig, ?_, ?_⟩
        · show (st.invgs ++ [ginv])[j]? = some ig
          rw [List.getElem?_append_left (by rw [h.lenI]; exact hj2)]; exact hig
        · rw [getD_snoc_lt hlenS hj2]; exact hK
      · rw [List.getElem?_append_right hj] at hjx'
        have hjl : j = st.ws.length := by
          have := (List.getElem?_eq_some_iff.mp hjx').1
          rw [List.length_singleton] at this; omega
        rw [List.mem_singleton.mp (List.mem_of_getElem? hjx'), hjl]
        refine ⟨hgetHl.symm, ginv, ?_, ?_⟩
        · show (st.invgs ++ [ginv])[st.ws.length]? = some ginv
          rw [← h.lenI, List.getElem?_concat_length]
        · rw [getD_snoc_length hlenS]; exact hKW
    orth := by
      intro j l hj hl hne
      rcases hlast hj with h1 | rfl <;> rcases hlast hl with h2 | rfl
      · rw [hgetH j h1, hgetH l h2]; exact hInv.orth j l h1 h2 hne
      · rw [hgetH j h1, hgetHl]; exact hqW j h1
      · rw [hgetHl, hgetH l h2]; exact hqW' l h2
      · exact absurd rfl hne
    yAll := by
      intro j hj
      rcases hlast hj with h1 | rfl
      · show Q k cols _ y' = 0
        rw [hgetH j h1, Q_add hy'M, hInv.yAll j h1, hqW j h1, Matrix.zero_mul, add_zero]
      · rw [hgetHl]; exact hyorth
    yOrth := by
      intro X hX hall
      have hall' : ∀ j, j < st.ws.length → Q k cols X (hist.getD j []) = 0 := fun j hj => by
        rw [← hgetH j hj]; exact hall j (by rw [hlen']; exact Nat.lt_succ_of_lt hj)
      have hXW : Q k cols X w = 0 := by
        rw [← hgetHl]; exact hall st.ws.length (by rw [hlen']; exact Nat.lt_succ_self _)
      show (CM cols.length X)ᵀ * gramA k cols * (CM cols.length y' + CM cols.length Y0) = 0
      rw [hy'M, add_right_comm, Matrix.mul_add, hInv.yOrth X hX hall', zero_add, ← Matrix.mul_assoc]
      show Q k cols X w * T = 0
      rw [hXW, Matrix.zero_mul] }

/-- the selection of an iteration, either profile: Gram matrix of `B·next`, `rank`/`rank_reverse`, pseudo-inverse of
the masked Gram matrix; the block `next & mask` is kept with that pseudo-inverse, and the assertion
`ginv.rank() == (rk, mask)` holds -/
theorem gram_select {k : Nat} {cols : List (List Nat)} (hM : MatOK k cols) (dbg odd : Bool) {next : List Nat}
    (hnext : BlockOK cols.length next) :
    ∃ bv gram rk mk ginv, optMul (qsOptimize k cols) next = some bv ∧ blockDot bv bv = some gram ∧
      (if odd = true then rankReverse 64 dbg gram else rank 64 dbg gram) = some (rk, mk) ∧ mk < 2 ^ 64 ∧
      pseudoinverse 64 dbg (maskRows 64 gram mk) = some ginv ∧ rank 64 dbg ginv = some (rk, mk) ∧
      KeptOK k cols (next.map (fun v => v &&& mk)) ginv mk := by
  obtain ⟨bv, hbv, hbvOK⟩ := optMul_ok hM hnext
  obtain ⟨gram, hg, hgl, hglt⟩ := blockDot_ok (x := bv) hbvOK.1 hbvOK
  have hgw : ∀ i, i < 64 → row gram i < 2 ^ 64 := fun i _ => row_lt_of_mem hglt i
  obtain ⟨rk, mk, hr, hS⟩ := selection_ok dbg odd hgw
  obtain ⟨ginv, hp, -, hpost, hgl', -, hSup, hmul⟩ :=
    select_pinv dbg (by decide) hgw (symmetric_blockDot_self bv gram hg) hS
  refine ⟨bv, gram, rk, mk, ginv, hbv, hg, hr, hS.lt, hp, hpost,
    { wOK := hnext.mask mk, igLen := hgl', masked := ?_, igP := (supported_mat hSup).1, pIg := (supported_mat hSup).2,
      inv := ?_ }⟩
  · show CM cols.length (next.map (fun v => v &&& mk)) * projS mk = CM cols.length (next.map (fun v => v &&& mk))
    rw [show CM cols.length (next.map (fun v => v &&& mk)) = _ from cellMat_mask hnext.1 mk, Matrix.mul_assoc, projS_idem]
  · show toMat 64 ginv * Q k cols (next.map (fun v => v &&& mk)) (next.map (fun v => v &&& mk)) = projS mk
    rw [Q_mask _ hnext.1, ← Q_transpose, Q_mask _ hnext.1, Matrix.transpose_mul, projS_transpose, Q_transpose,
      ← toMat_gram hM hbv hbvOK.1 hg, ← toMat_maskRows, hmul, toMat_maskedId]

theorem lanczosStep_release_ok {k : Nat} {cols : List (List Nat)} (hM : MatOK k cols) {ay : List Nat}
    (hay : BlockOK cols.length ay) {st : LState} (h : WFL cols.length st) :
    (∃ st', lanczosStep false (qsOptimize k cols) ay st = .finished st' ∧ st'.y = st.y) ∨
    (∃ st' mk, lanczosStep false (qsOptimize k cols) ay st = .continue st' mk ∧ WFL cols.length st') := by
  obtain ⟨wl, pv, nx, av, hwl, hpv, hnx, hlen, hn1OK, hav, havOK⟩ := h.direction hM
  obtain ⟨⟨vs', ws', next⟩, hfold, hv', hw', hwOK', hnextOK⟩ := Loops.foldlM_some
    (projStep false (qsOptimize k cols) av st.invgs st.masks st.ws.length) (ProjOK st.ws.length cols.length)
    (List.range st.ws.length)
    (fun j hj _ hst => projStep_ok havOK h.lenI h.lenM hst (List.mem_range.mp hj))
    (s := (st.vs, st.ws, List.zipWith (fun a p => a ^^^ p) nx pv)) ⟨h.lenV, rfl, h.wsOK, hn1OK⟩
  simp only at hv' hw' hwOK' hnextOK
  obtain ⟨bv, gram, rk, mk, ginv, hbv, hg, hr, -, hp, -, hK⟩ := gram_select hM false (vs'.length % 2 == 1) hnextOK
  obtain ⟨d, hd, -, hdlt⟩ := blockDot_ok hK.wOK.1 hay
  obtain ⟨y', hy', hy'OK⟩ := blockMulAdd_ok (m := mul ginv d) h.yOK hK.wOK.1 (mul_lt _ d hdlt)
  by_cases hrk : rk = 0
  · refine Or.inl ⟨LState.mk vs' ws' st.invgs st.masks st.y, ?_, rfl⟩
    unfold lanczosStep
    rw [if_neg (by rw [h.lenV]; exact fun hh => hh rfl), hwl, hpv]
    simp only [h.lenV, hnx, if_neg hlen, hav, hfold, hbv, hg, hr, hrk, if_true]
  · refine Or.inr ⟨_, mk, ?_, h.snoc ginv (M64 ^^^ mk) hv' hw' hwOK' hnextOK hK.wOK hy'OK⟩
    unfold lanczosStep
    rw [if_neg (by rw [h.lenV]; exact fun hh => hh rfl), hwl, hpv]
    simp only [h.lenV, hnx, if_neg hlen, hav, hfold, hbv, hg, hr, hrk, if_false, mask_eq, hp, Bool.false_and,
      Bool.false_eq_true, hd, hy']

theorem lanczosStep_checked_ok {k : Nat} {cols : List (List Nat)} (hM : MatOK k cols) {Y0 ay : List Nat}
    (hay : mulAabOpt (qsOptimize k cols) Y0 = some ay) (hayOK : BlockOK cols.length ay)
    {st : LState} {hist : List (List Nat)} {Ss : List Nat} (hInv : LInv k cols Y0 st hist Ss)
    (h3 : ∀ next0, Direction k cols st next0 → ∀ j, j < st.ws.length →
      ¬ Projected st.ws st.masks st.ws.length j → Q k cols (hist.getD j []) next0 = 0) :
    (∃ st', lanczosStep true (qsOptimize k cols) ay st = .finished st' ∧ st'.y = st.y ∧
      ∀ w ∈ st'.ws, w.isEmpty = false → ∃ j : Nat, st.ws[j]? = some w) ∨
    (∃ st' mk w, lanczosStep true (qsOptimize k cols) ay st = .continue st' mk ∧
      LInv k cols Y0 st' (hist ++ [w]) (Ss ++ [mk]) ∧ ∃ next next0, StepFacts k cols st hist st' mk w next next0) := by
  have h := hInv.wf
  obtain ⟨wl, pv, nx, av, hwl, hpv, hnx, hlen, hn1OK, hav, -⟩ := h.direction hM
  have hdir : Direction k cols st (List.zipWith (fun a p => a ^^^ p) nx pv) := ⟨wl, pv, nx, hwl, hpv, hnx, rfl⟩
  have hC : ProjCtx k cols st hist Ss (List.zipWith (fun a p => a ^^^ p) nx pv) :=
    { kept := hInv.kept, orth := hInv.orth, threeTerm := h3 _ hdir }
  obtain ⟨⟨vs', ws', next⟩, hfold, hFI⟩ :=
    Loops.foldlM_range_total (projStep true (qsOptimize k cols) av st.invgs st.masks st.ws.length)
      (FoldInv k cols st hist (List.zipWith (fun a p => a ^^^ p) nx pv)) st.ws.length
      (fun _ _ hj hF => projStep_checked_inv hM hn1OK hav h.lenM hC hj hF)
      (s := (st.vs, st.ws, List.zipWith (fun a p => a ^^^ p) nx pv))
      { ok := ⟨h.lenV, rfl, h.wsOK, hn1OK⟩, same := fun _ _ => rfl, sub := fun _ _ hh _ => hh
        q := fun j hj => by rw [if_neg (by omega)], xform := fun _ _ _ => rfl
        purgeRec := fun j w hjw he => Or.inl ⟨w, hjw, he⟩ }
  obtain ⟨hv', hw', hwOK', hnextOK⟩ := hFI.ok
  have hsub := hFI.sub
  have hq := hFI.q
  have hxf := hFI.xform
  have hpr := hFI.purgeRec
  simp only at hv' hw' hwOK' hnextOK hsub hq hxf hpr
  -- after the projections the direction is A-orthogonal to the whole history
  have hqV : ∀ j, j < st.ws.length → Q k cols (hist.getD j []) next = 0 := by
    intro j hj
    rw [hq j hj]
    by_cases hp : Projected st.ws st.masks st.ws.length j
    · rw [if_pos ⟨hj, hp⟩]
    · rw [if_neg (fun hh => hp hh.2)]
      exact hC.threeTerm j hj hp
  obtain ⟨bv, gram, rk, mk, ginv, hbv, hg, hr, hmk, hp, hpost, hKW⟩ :=
    gram_select hM true (vs'.length % 2 == 1) hnextOK
  by_cases hrk : rk = 0
  · refine Or.inl ⟨LState.mk vs' ws' st.invgs st.masks st.y, ?_, rfl, fun w hw hne => ?_⟩
    · unfold lanczosStep
      rw [if_neg (by rw [h.lenV]; exact fun hh => hh rfl), hwl, hpv]
      simp only [h.lenV, hnx, if_neg hlen, hav, hfold, hbv, hg, hr, hrk, if_true]
    · obtain ⟨j, hj⟩ := List.getElem?_of_mem hw
      exact ⟨j, hsub j w hj hne⟩
  · right
    have hqW : ∀ j, j < st.ws.length → Q k cols (hist.getD j []) (next.map (fun v => v &&& mk)) = 0 := fun j hj => by
      rw [Q_mask _ hnextOK.1, hqV j hj, Matrix.zero_mul]
    -- the update of `Y`: `y' = y + W·(ginv·(Wᵗ A Y0))`, and `Wᵗ A y = Wᵗ A Y0` since `W` is A-orthogonal to the history
    obtain ⟨d, hd, hdl, hdlt, hdM⟩ := dot_aab hM hKW.wOK.1 hayOK hay
    obtain ⟨y', hy', hy'OK, hy'M⟩ := muladd_mul h.yOK hKW.wOK.1 hKW.igLen hdl hdlt hdM
    have hyorth : Q k cols (next.map (fun v => v &&& mk)) y' = 0 := by
      refine hKW.proj_orth hy'M ?_
      have hJ := hInv.yOrth _ hKW.wOK fun j hj => by rw [← Q_transpose, hqW j hj, Matrix.transpose_zero]
      rw [Matrix.mul_add] at hJ
      exact sub_eq_zero.mp (by rw [ZModModule.sub_eq_add]; exact hJ)
    obtain ⟨ayy, hayy, hayyOK⟩ := mulAabOpt_ok hM hy'OK
    have hzero := dot_aab_zero hM hKW.wOK.1 hayyOK hayy hyorth
    refine ⟨LState.mk (vs' ++ [next]) (ws' ++ [next.map (fun v => v &&& mk)]) (st.invgs ++ [ginv])
      (st.masks ++ [M64 ^^^ mk]) y', mk, next.map (fun v => v &&& mk), ?_,
      hInv.snoc hv' hw' hwOK' hsub hnextOK hKW hqW hy'OK hy'M hyorth,
      next, List.zipWith (fun a p => a ^^^ p) nx pv,
      { dir := hdir, nextOK := hnextOK, mkLt := hmk, wEq := rfl
        vsEq := ⟨vs', rfl⟩, wsEq := ⟨ws', rfl, hw', hpr⟩, masksEq := rfl, orthV := hqV, xform := hxf }⟩
    unfold lanczosStep
    rw [if_neg (by rw [h.lenV]; exact fun hh => hh rfl), hwl, hpv]
    simp only [h.lenV, hnx, if_neg hlen, hav, hfold, hbv, hg, hr, hrk, if_false, mask_eq, hp, hpost,
      bne_self_eq_false, Bool.and_false, Bool.false_eq_true, hd, hy', hayy, hzero]

end Ymq.Gf2Small
