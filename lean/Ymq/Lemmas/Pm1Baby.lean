/-
The baby steps of `pm1_stage2_polyeval` (Model/Pm1Impl.lean `babyLoop` / `babySteps`) on residues: the loop never
panics (gap-table index in range, `gap/2 ≥ 1`, fuel), returns `g^r mod m` for exactly the indices `r = 1` and the odd
`1 < r ≤ d1 + 1` with `r % 3 ≠ 0`, `gcd(r, d1) = 1`, in the order of the loop; the last index is what `babyLastExp`
computes, and reduced values stay reduced.
-/
import Ymq.Lemmas.Pm1Walk
import Ymq.Lemmas.Stage2Cover
import Mathlib.Data.List.Forall2

namespace Ymq.Pm1Impl
open Ymq.ExpModn Ymq.Stage2

/-- The loop is entered with the last value pushed, `bg ≡ g^bexp`, at the head of the list (so that `bg` and `bexp` need no
hypotheses of their own); indices most recent first. -/
theorem babyLoop_spec {m g g2 d1 : Nat} (hg2 : g2 ≡ g ^ 2 [MOD m]) :
    ∀ (f b bexp bg : Nat) (gaps vT iT : List Nat), b % 2 = 1 → bexp % 2 = 1 → bexp ≤ b → b ≤ d1 + 1 →
      d1 + 3 ≤ b + 2 * f → GInv m g gaps →
      List.Forall₂ (fun v r => v ≡ g ^ r [MOD m]) (bg :: vT) (bexp :: iT) → (bexp :: iT).Pairwise (· > ·) →
      ∃ vR iR, babyLoop m d1 g2 f b bexp bg gaps (bg :: vT) = some vR.reverse ∧
        List.Forall₂ (fun v r => v ≡ g ^ r [MOD m]) vR iR ∧
        (∀ r, r ∈ iR ↔ r ∈ bexp :: iT ∨ KeptIdx (d1 + 2) d1 b r) ∧ iR.Pairwise (· > ·) ∧
        iR.head? = some (babyLastExp d1 f b bexp) ∧ (0 < m → (∀ v ∈ bg :: vT, v < m) → ∀ v ∈ vR, v < m)
  | 0, b, _, _, _, _, _, _, _, _, hb, hf, _, _, _ => by omega
  | f + 1, b, bexp, bg, gaps, vT, iT, hbo, heo, hle, hb, hf, hgaps, hall, hpw => by
    rw [babyLoop, babyLastExp]
    split
    · rename_i hlt
      have hstep := fun r => keptIdx_step (hi := d1 + 2) (d1 := d1) (b := b) (r := r) (by omega)
      simp only
      split
      · rename_i hskip
        obtain ⟨vR, iR, h1, h2, h3, h4, h5, h6⟩ := babyLoop_spec (d1 := d1) hg2 f (b + 2) bexp bg gaps vT iT (by omega) heo
          (by omega) (by omega) (by omega) hgaps hall hpw
        refine ⟨vR, iR, h1, h2, fun r => ?_, h4, h5, h6⟩
        have hno : ¬ (r = b + 2 ∧ (b + 2) % 3 ≠ 0 ∧ Nat.gcd (b + 2) d1 = 1) :=
          fun ⟨_, a4, a5⟩ => hskip.elim a4 (fun h => h a5)
        rw [h3, hstep, or_iff_right hno]
      · rename_i hpush
        have hpush' : (b + 2) % 3 ≠ 0 ∧ Nat.gcd (b + 2) d1 = 1 := by
          constructor
          · intro h; exact hpush (Or.inl h)
          · by_contra h; exact hpush (Or.inr h)
        obtain ⟨gaps', hext, hlen, hg'⟩ :=
          extendGaps_spec hg2 ((b + 2 - bexp) / 2 + 1) gaps ((b + 2 - bexp) / 2) hgaps (by omega)
        rw [hext]
        simp only
        rw [if_neg (by omega)]
        have hidx : (b + 2 - bexp) / 2 - 1 < gaps'.length := by omega
        rw [List.getElem?_eq_getElem hidx]
        simp only
        have hbg' : mulm m bg gaps'[(b + 2 - bexp) / 2 - 1] ≡ g ^ (b + 2) [MOD m] :=
          mulm_pow (List.forall₂_cons.mp hall).1 (hg'.2 _ _ (List.getElem?_eq_getElem hidx)) (by omega)
        obtain ⟨vR, iR, h1, h2, h3, h4, h5, h6⟩ := babyLoop_spec (d1 := d1) hg2 f (b + 2) (b + 2) _ gaps' (bg :: vT) (bexp :: iT)
          (by omega) (by omega) le_rfl (by omega) (by omega) hg' (List.Forall₂.cons hbg' hall)
          (List.pairwise_cons.mpr ⟨fun r hr => by
            rcases List.mem_cons.mp hr with rfl | hr
            · omega
            · have := (List.pairwise_cons.mp hpw).1 r hr; omega, hpw⟩)
        refine ⟨vR, iR, h1, h2, fun r => ?_, h4, h5, fun hm hv => h6 hm fun v hv' => ?_⟩
        · rw [h3, hstep, List.mem_cons (a := r) (b := b + 2), and_iff_left hpush', or_assoc, or_left_comm]
        · rcases List.mem_cons.mp hv' with rfl | hv'
          · exact Nat.mod_lt _ hm
          · exact hv v hv'
    · rename_i hge
      refine ⟨bg :: vT, bexp :: iT, rfl, hall, fun r => ?_, hpw, rfl, fun _ h => h⟩
      exact (or_iff_left (keptIdx_end (by omega))).symm

theorem babySteps_spec (m g d1 : Nat) :
    ∃ vs idx, babySteps m d1 g = some vs ∧ List.Forall₂ (fun v r => v ≡ g ^ r [MOD m]) vs idx ∧
      (∀ r, r ∈ idx ↔ r = 1 ∨ (1 < r ∧ r ≤ d1 + 1 ∧ r % 2 = 1 ∧ r % 3 ≠ 0 ∧ Nat.gcd r d1 = 1)) ∧
      idx.Pairwise (· < ·) ∧ idx.getLast? = some (babyLastExp d1 (d1 + 2) 1 1) ∧
      (0 < m → g < m → ∀ v ∈ vs, v < m) := by
  obtain ⟨vR, iR, h1, h2, h3, h4, h5, h6⟩ := babyLoop_spec (d1 := d1) (g2_modEq m g) (d1 + 2) 1 1 g [mulm m g g] [] []
    (by decide) (by decide) le_rfl (by omega) (by omega) (ginv_init m g)
    (List.Forall₂.cons (by rw [pow_one]) List.Forall₂.nil) (List.pairwise_singleton _ _)
  refine ⟨vR.reverse, iR.reverse, h1, List.forall₂_reverse_iff.mpr h2, fun r => ?_, List.pairwise_reverse.mpr h4,
    by rw [List.getLast?_reverse, h5], fun hm hg v hv => h6 hm (by simpa using hg) v (List.mem_reverse.mp hv)⟩
  rw [List.mem_reverse, h3, List.mem_singleton, keptIdx_one, show ∀ r, r < d1 + 2 ↔ r ≤ d1 + 1 from fun r => Nat.lt_succ_iff]

end Ymq.Pm1Impl
