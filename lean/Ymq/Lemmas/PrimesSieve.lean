/-
Correctness of `fbase::primes` (C17): the odd-only sieve of Eratosthenes with the `p² > bound`
shortcut and first marked multiple `3p` leaves exactly the odd primes unmarked; the output is the
increasing list of all primes below `2·(bound/2)` truncated to `n` entries.
-/
import Mathlib.Data.Nat.Prime.Basic
import Ymq.Lemmas.PrimesFlags

namespace Ymq.Primes

/-- the increasing list of all primes `< m` -/
def primesBelow (m : Nat) : List Nat := (List.range m).filter (fun x => decide x.Prime)

theorem primesBelow_add (a b : Nat) : ∃ X, primesBelow (a + b) = primesBelow a ++ X := by
  unfold primesBelow
  rw [List.range_add, List.filter_append]
  exact ⟨_, rfl⟩

theorem primesBelow_succ (m : Nat) :
    primesBelow (m + 1) = if m.Prime then primesBelow m ++ [m] else primesBelow m := by
  unfold primesBelow
  rw [List.range_succ, List.filter_append]
  by_cases h : m.Prime
  · simp [h]
  · simp [h]

/-- two more numbers, the second of which is even -/
theorem primesBelow_step (i : Nat) (hi : 1 ≤ i) :
    primesBelow (2 * (i + 1) + 1) =
      if (2 * i + 1).Prime then primesBelow (2 * i + 1) ++ [2 * i + 1] else primesBelow (2 * i + 1) := by
  have h2 : ¬ (2 * i + 2).Prime := fun h => by have := h.eq_two_or_odd; omega
  have e : 2 * (i + 1) + 1 = (2 * i + 1 + 1) + 1 := by ring
  rw [e, primesBelow_succ, if_neg (by simpa using h2), primesBelow_succ]

/-- `2j + 1` is an odd multiple `≥ 3p` of an odd prime `p < 2i+1` with `p² ≤ bnd` -/
abbrev Marked (bnd i j : Nat) : Prop :=
  ∃ p t, p.Prime ∧ p ≠ 2 ∧ p < 2 * i + 1 ∧ p * p ≤ bnd ∧ 2 * j + 1 = (2 * t + 3) * p

/-- the marks present when the outer loop reaches index `i` -/
def MarkInv (bnd : Nat) (s : Array Bool) (i : Nat) : Prop :=
  ∀ j, j < s.size → (flag s j = true ↔ Marked bnd i j)

theorem exists_prime_mul_le {n : Nat} (h2 : 2 ≤ n) (hnp : ¬ n.Prime) :
    ∃ q m, q.Prime ∧ n = q * m ∧ q ≤ m := by
  obtain ⟨m, hm⟩ := Nat.minFac_dvd n
  have hq := Nat.minFac_prime (by omega : n ≠ 1)
  refine ⟨_, m, hq, hm, Nat.le_of_mul_le_mul_left ?_ hq.pos⟩
  rw [← sq]
  exact (Nat.minFac_sq_le_self (by omega) hnp).trans hm.le

theorem unmarked_iff_prime (bnd : Nat) (s : Array Bool) (i : Nat) (h : MarkInv bnd s i)
    (hi1 : 1 ≤ i) (hi : i < s.size) (hb : 2 * s.size ≤ bnd) :
    flag s i = false ↔ (2 * i + 1).Prime := by
  constructor
  · intro hf
    by_contra hnp
    -- `2i + 1 = q·m` with `q` an odd prime and `m ≥ q` odd: marked as `(2t + 3)·q`
    obtain ⟨q, m, hq, hm, hqm⟩ := exists_prime_mul_le (by omega) hnp
    obtain ⟨⟨a, rfl⟩, ⟨c, rfl⟩⟩ := Nat.odd_mul.mp (hm ▸ odd_two_mul_add_one i)
    have h3 := hq.two_le
    have h1 : (2 * a + 1) * 3 ≤ (2 * a + 1) * (2 * c + 1) := Nat.mul_le_mul_left _ (by omega)
    have h2 := Nat.mul_le_mul_left (2 * a + 1) hqm
    have : flag s i = true := (h i hi).mpr ⟨2 * a + 1, c - 1, hq, by omega, by omega, by omega, by
      rw [hm, Nat.mul_comm, show 2 * (c - 1) + 3 = 2 * c + 1 by omega]⟩
    rw [hf] at this
    exact absurd this (by decide)
  · intro hp
    by_contra hf
    obtain ⟨p, t, hpp, _, _, _, he⟩ := (h i hi).mp ((Bool.not_eq_false _).mp hf)
    have hd : p ∣ 2 * i + 1 := ⟨2 * t + 3, by rw [he, Nat.mul_comm]⟩
    rcases Nat.Prime.eq_one_or_self_of_dvd hp p hd with h1 | h1
    · exact absurd h1 hpp.one_lt.ne'
    · rw [← h1] at he
      have : (2 * t + 3) * p = 2 * (t * p) + 3 * p := by ring
      have := hpp.two_le
      omega

theorem markInv_init (bnd len : Nat) : MarkInv bnd (Array.replicate len false) 1 := by
  intro j hj
  rw [flag_replicate len j (by simpa using hj)]
  constructor
  · intro h; exact absurd h (by decide)
  · rintro ⟨p, t, hp, hp2, hlt, _, _⟩
    have := hp.two_le
    omega

/-- What the step from `i` to `i + 1` adds to the marks: nothing, or, when `2i + 1` is a prime with
`(2i+1)² ≤ bnd`, its odd multiples from `3·(2i+1)` on, which sit at the indices `3i + 1 + t·(2i+1)`. -/
theorem marked_succ (bnd i j : Nat) (hi1 : 1 ≤ i) :
    Marked bnd (i + 1) j ↔ Marked bnd i j ∨
    ((2 * i + 1).Prime ∧ (2 * i + 1) * (2 * i + 1) ≤ bnd ∧ ∃ t, j = 3 * i + 1 + t * (2 * i + 1)) := by
  have e (t : Nat) : (2 * t + 3) * (2 * i + 1) = 2 * (3 * i + 1 + t * (2 * i + 1)) + 1 := by ring
  constructor
  · rintro ⟨p, t, hp, hp2, hlt, hb, he⟩
    by_cases hlt' : p < 2 * i + 1
    · exact Or.inl ⟨p, t, hp, hp2, hlt', hb, he⟩
    · obtain rfl : p = 2 * i + 1 := by have := hp.eq_two_or_odd; omega
      exact Or.inr ⟨hp, hb, t, by rw [e] at he; omega⟩
  · rintro (⟨p, t, hp, hp2, hlt, hb, he⟩ | ⟨hp, hb, t, rfl⟩)
    · exact ⟨p, t, hp, hp2, by omega, hb, he⟩
    · exact ⟨2 * i + 1, t, hp, by omega, by omega, hb, (e t).symm⟩

theorem markInv_skip (bnd : Nat) (s : Array Bool) (i : Nat) (h : MarkInv bnd s i) (hi1 : 1 ≤ i)
    (hskip : ¬ (2 * i + 1).Prime ∨ (2 * i + 1) * (2 * i + 1) > bnd) : MarkInv bnd s (i + 1) := by
  intro j hj
  rw [h j hj, marked_succ bnd i j hi1]
  refine (or_iff_left ?_).symm
  rintro ⟨hp, hb, -⟩
  rcases hskip with hs | hs
  · exact hs hp
  · omega

theorem markInv_mark (bnd : Nat) (s : Array Bool) (i : Nat) (h : MarkInv bnd s i)
    (hp : (2 * i + 1).Prime) (hi1 : 1 ≤ i) (hsq : ¬ (2 * i + 1) * (2 * i + 1) > bnd) :
    (markFrom s.size s (2 * i + 1 + (2 * i + 1) / 2) (2 * i + 1)).size = s.size ∧
    MarkInv bnd (markFrom s.size s (2 * i + 1 + (2 * i + 1) / 2) (2 * i + 1)) (i + 1) := by
  have hfuel : s.size ≤ 2 * i + 1 + (2 * i + 1) / 2 + s.size * (2 * i + 1) := by
    have : s.size * 1 ≤ s.size * (2 * i + 1) := Nat.mul_le_mul_left _ (by omega)
    omega
  obtain ⟨hsz, hfl⟩ := markFrom_spec (2 * i + 1) s.size s _ hfuel
  refine ⟨hsz, fun j hj => ?_⟩
  rw [hsz] at hj
  rw [hfl j hj, h j hj, marked_succ bnd i j hi1, show 2 * i + 1 + (2 * i + 1) / 2 = 3 * i + 1 by omega]
  exact or_congr_right ⟨fun ht => ⟨hp, Nat.le_of_not_lt hsq, ht⟩, fun h => h.2.2⟩

theorem primesLoop_spec (n bnd len : Nat) (hlen : 2 * len ≤ bnd) :
    ∀ f i (s : Array Bool) (acc : Array Nat), s.size = len → 1 ≤ i → i ≤ len → len ≤ i + f →
      MarkInv bnd s i → acc.toList = primesBelow (2 * i + 1) →
      (primesLoop n bnd f i s acc).toList.take n = (primesBelow (2 * len + 1)).take n := by
  intro f
  induction f with
  | zero =>
    intro i s acc _ _ hile hfuel _ hacc
    rw [primesLoop, hacc, show i = len by omega]
  | succ f ih =>
    intro i s acc hs hi1 hile hfuel hinv hacc
    rw [primesLoop]
    by_cases hlt : i < s.size
    · rw [if_pos hlt]
      have next := fun s' acc' h1 => ih (i + 1) s' acc' h1 (by omega) (by omega) (by omega)
      have hstep := primesBelow_step i hi1
      have hiff := unmarked_iff_prime bnd s i hinv hi1 hlt (by rw [hs]; exact hlen)
      by_cases hfl : s[i]! = false
      · rw [if_pos hfl]
        have hprime : (2 * i + 1).Prime := hiff.mp hfl
        rw [if_pos hprime] at hstep
        have hacc' : (acc.push (2 * i + 1)).toList = primesBelow (2 * (i + 1) + 1) := by
          rw [hstep, Array.toList_push, hacc]
        simp only
        by_cases hbrk : (acc.push (2 * i + 1)).size = n
        · -- the `break`: the vector is a prefix of the full list and already has `n` entries
          obtain ⟨X, hX⟩ := primesBelow_add (2 * (i + 1) + 1) (2 * len + 1 - (2 * (i + 1) + 1))
          rw [show 2 * (i + 1) + 1 + (2 * len + 1 - (2 * (i + 1) + 1)) = 2 * len + 1 by omega] at hX
          rw [if_pos hbrk, hX, ← hacc', List.take_append_of_le_length (by simpa using hbrk.ge)]
        · rw [if_neg hbrk]
          by_cases hsq : (2 * i + 1) * (2 * i + 1) > bnd
          · rw [if_pos hsq]
            exact next s _ hs (markInv_skip bnd s i hinv hi1 (Or.inr hsq)) hacc'
          · rw [if_neg hsq]
            obtain ⟨hsz, hinv'⟩ := markInv_mark bnd s i hinv hprime hi1 hsq
            exact next _ _ (hsz.trans hs) hinv' hacc'
      · rw [if_neg hfl]
        have hnp : ¬ (2 * i + 1).Prime := fun hp => hfl (hiff.mpr hp)
        rw [if_neg hnp] at hstep
        exact next s acc hs (markInv_skip bnd s i hinv hi1 (Or.inl hnp)) (by rw [hstep, hacc])
    · rw [if_neg hlt, hacc, show i = len by omega]

end Ymq.Primes
