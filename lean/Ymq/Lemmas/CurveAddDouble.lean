/-
`Curve::add P P` agrees projectively with `Curve::double P` (ecm.rs) on the curve
`a x² + y² = 1 + d x² y²`, for every `a`.
-/
import Ymq.Lemmas.CurveDefs

namespace Ymq.Curve
open Ymq.Gen.Curves
variable {R : Type} [CommRing R]

/-- `(A F B : A G N : F G)` is `add P P` and `(B J : S M : S J)` is `double P`, with `x y z` the squares
of the coordinates, `A = Z²`, `B = 2XY`, `S = a X² + Y²`, `M = a X² - Y² = -N`. Each cross product
is a multiple of the curve equation `S z = z² + d x y`. -/
theorem add_self_double_gen (d x y z A F G B N S M J : R) (h : S * z = z * z + d * (x * y)) (hA : A = z)
    (hF : F = A * A - d * (x * y)) (hG : G = A * A + d * (x * y)) (hN : N = -M) (hJ : J = S - 2 * z) :
    A * F * B * (S * M) = A * G * N * (B * J) ∧ A * G * N * (S * J) = F * G * (S * M) ∧
      F * G * (B * J) = A * F * B * (S * J) := by
  subst hA hF hG hN hJ
  refine ⟨?_, ?_, ?_⟩
  · linear_combination (2 * A * (A * B * M)) * h
  · linear_combination (-((A * A + d * (x * y)) * S * M)) * h
  · linear_combination (-((A * A - d * (x * y)) * B * (S - 2 * A))) * h

end Ymq.Curve
