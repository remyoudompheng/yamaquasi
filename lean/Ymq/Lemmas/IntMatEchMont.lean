/-
Montgomery-form building blocks of the production echelon builder `Ech` (Ymq/Model/IntMat.lean):
the modular subtractions, `submul`. Values: `mform p a = a·2^64 mod p` (Ymq/Lemmas/Mg64.lean).
-/
import Ymq.Lemmas.IntMatEchP
import Ymq.Lemmas.Mg64
import Ymq.Lemmas.Loops

namespace Ymq.IntMat
open Ymq.Mg64

/-- a row of residues in Montgomery form -/
def mrow (p : Nat) (l : List Nat) : List Nat := l.map (mform p)

theorem mrow_length (p : Nat) (l : List Nat) : (mrow p l).length = l.length := by simp [mrow]

theorem mrow_getElem? (p : Nat) (l : List Nat) (c : Nat) (hc : c < l.length) :
    (mrow p l)[c]? = some (mform p l[c]) := by
  simp [mrow, List.getElem?_map, List.getElem?_eq_getElem hc]

theorem mrow_set (p : Nat) (l : List Nat) (c t : Nat) : (mrow p l).set c (mform p t) = mrow p (l.set c t) := by
  simp [mrow, List.map_set]

theorem eq_of_cast_eq {p a b : Nat} (ha : a < p) (hb : b < p) (h : ((a : Nat) : ZMod p) = ((b : Nat) : ZMod p)) :
    a = b := by
  have := (ZMod.natCast_eq_natCast_iff' a b p).1 h
  rwa [Nat.mod_eq_of_lt ha, Nat.mod_eq_of_lt hb] at this

theorem R_cancel {p : Nat} (hodd : p % 2 = 1) {x y : ZMod p}
    (h : x * ((W : Nat) : ZMod p) = y * ((W : Nat) : ZMod p)) : x = y := by
  have hu : IsUnit ((W : Nat) : ZMod p) :=
    (ZMod.isUnit_iff_coprime W p).2 (Nat.Coprime.symm (coprime_W p hodd))
  exact hu.mul_left_inj.1 h

theorem eq_mform_of_cast {p y t : Nat} (hp : 0 < p) (hy : y < p)
    (h : ((y : Nat) : ZMod p) = (t : ZMod p) * ((W : Nat) : ZMod p)) : y = mform p t :=
  eq_of_cast_eq hy (mform_lt hp t) (by rw [h, cast_mform])

/-- `subP` and the `+=`/`-=` form `subP'` agree on residues below `p ≤ 2^63` -/
theorem subP_spec {p a b : Nat} (hpW : 2 * p ≤ W) (ha : a < p) (hb : b < p) :
    ∃ y, subP p a b = some y ∧ subP' p a b = some y ∧ y < p ∧
      ((y : Nat) : ZMod p) = (a : ZMod p) - (b : ZMod p) := by
  unfold subP subP'
  by_cases h : a ≥ b
  · rw [if_pos h, if_pos h]; exact ⟨a - b, rfl, rfl, by omega, by rw [Nat.cast_sub h]⟩
  · rw [if_neg h, if_neg h, if_neg (by omega), if_neg (by omega), if_neg (by omega), if_neg (by omega)]
    refine ⟨a + p - b, rfl, by rw [Nat.add_sub_assoc hb.le], by omega, ?_⟩
    rw [Nat.cast_sub (by omega), Nat.cast_add, ZMod.natCast_self]; ring

/-- one entry of `submul` / of the closure `submul`: `a - m·b` on Montgomery forms -/
theorem subMul_entry {p pinv : Nat} (h : MontOk p pinv) (hpW : 2 * p ≤ W) (a m b : Nat) :
    ∃ y, mgMul p pinv (mform p m) (mform p b) = some (mform p (m * b)) ∧
      subP' p (mform p a) (mform p (m * b)) = some y ∧ subP p (mform p a) (mform p (m * b)) = some y ∧
      y = mform p ((a + (p - m * b % p)) % p) := by
  have hp : 0 < p := by have := h.one_lt; omega
  obtain ⟨y, hy1, hy1', hy2, hy3⟩ := subP_spec hpW (mform_lt hp a) (mform_lt hp (m * b))
  refine ⟨y, mgMul_mform h m b, hy1', hy1, ?_⟩
  apply eq_mform_of_cast hp hy2
  rw [hy3, cast_mform, cast_mform, cast_subMul p a m b hp, Nat.cast_mul]
  ring

theorem Ech.submul_mform {p pinv : Nat} (h : MontOk p pinv) (hpW : 2 * p ≤ W) (E : Ech) (hEp : E.p = p)
    (hEi : E.pinv = pinv) (v w : List Nat) (m : Nat) (hl : v.length = w.length)
    (hv : ∀ x ∈ v, x < p) (hw : ∀ x ∈ w, x < p) (hm : m < p) (hm0 : m ≠ 0) :
    E.submul (mrow p v) (mrow p w) (mform p m) = some (mrow p (rowSubMul p v w m)) := by
  have hp : 0 < p := by have := h.one_lt; omega
  unfold Ech.submul
  rw [if_neg (by rw [mform_zero_iff h.odd hm]; exact hm0), hEp, hEi, mrow_length]
  rw [Loops.mapM_eq_map _ (fun i => mform p ((v.getD i 0 + (p - m * w.getD i 0 % p)) % p))]
  · rw [Option.some.injEq]
    apply List.ext_getElem
    · simp [mrow, rowSubMul, hl]
    · intro i h1 h2
      have hi : i < v.length := by simpa using h1
      have hiw : i < w.length := by omega
      simp [mrow, rowSubMul, List.getD_eq_getElem?_getD, List.getElem?_eq_getElem hi, List.getElem?_eq_getElem hiw]
  · intro i hi
    have hi : i < v.length := List.mem_range.mp hi
    have hiw : i < w.length := by omega
    rw [mrow_getElem? p v i hi, mrow_getElem? p w i hiw]
    simp only [List.getD_eq_getElem?_getD, List.getElem?_eq_getElem hi, List.getElem?_eq_getElem hiw, Option.getD_some]
    by_cases hw0 : w[i] = 0
    · rw [if_pos (by rw [hw0]; simp [mform])]
      have : v[i] < p := hv _ (List.getElem_mem hi)
      rw [hw0, Nat.mul_zero, Nat.zero_mod, Nat.sub_zero, Nat.add_mod_right, Nat.mod_eq_of_lt this]
    · rw [if_neg (by rw [mform_zero_iff h.odd (hw _ (List.getElem_mem hiw))]; exact hw0)]
      obtain ⟨y, h1, h2, _, h4⟩ := subMul_entry h hpW v[i] m w[i]
      rw [h1]
      simp only []
      rw [h2, h4]

end Ymq.IntMat
