/-
Specifications of the helper routines of the group-order methods (C16): chebyshev_modn (Lucas
ladder), gcd_factors, the return guards of rho64 (exp_modn: Ymq/Lemmas/Stage2Exp.lean).
Models: Ymq/Model/ExpModn.lean.
-/
import Ymq.Model.ExpModn
import Ymq.Lemmas.Stage2Algebra
import Mathlib.Tactic.IntervalCases

namespace Ymq.ExpModn
open Ymq.Stage2 Ymq.Gen

/-- one step of the Lucas ladder: from `(V_⌊K/2⌋, V_⌊K/2⌋+1)` to `(V_K, V_K+1)` by the parity of `K` -/
theorem cheb_step {R : Type*} [CommRing R] (g : R) (K : Nat) :
    (if K % 2 = 0 then (chebV g (K / 2) * chebV g (K / 2) - 2, chebV g (K / 2) * chebV g (K / 2 + 1) - g)
      else (chebV g (K / 2) * chebV g (K / 2 + 1) - g, chebV g (K / 2 + 1) * chebV g (K / 2 + 1) - 2)) =
      (chebV g K, chebV g (K + 1)) := by
  rcases Nat.mod_two_eq_zero_or_one K with h0 | h1
  · have hK2 : K = 2 * (K / 2) := by omega
    rw [if_pos h0, ← chebV_double, ← chebV_double_add_one, ← hK2]
  · have hK2 : K = 2 * (K / 2) + 1 := by omega
    have hK3 : K + 1 = 2 * (K / 2 + 1) := by omega
    rw [if_neg (by omega), ← chebV_double_add_one, ← chebV_double, ← hK2, ← hK3]

theorem chebLoop_spec {R : Type*} [CommRing R] (g : R) (k expbits : Nat) : ∀ (f j : Nat), j + f + 1 ≤ expbits →
    chebLoop (· * ·) (· - ·) (2 : R) g k expbits f (j + 1)
        (chebV g (k / 2 ^ (expbits - j)), chebV g (k / 2 ^ (expbits - j) + 1)) =
      (chebV g (k / 2 ^ (expbits - (j + f))), chebV g (k / 2 ^ (expbits - (j + f)) + 1))
  | 0, j, _ => by simp [chebLoop]
  | f + 1, j, h => by
    have e1 : expbits - j = (expbits - (j + 1)) + 1 := by omega
    have hdiv : k / 2 ^ (expbits - j) = k / 2 ^ (expbits - (j + 1)) / 2 := by
      rw [e1, pow_succ, Nat.div_div_eq_div_mul]
    have ih := chebLoop_spec g k expbits f (j + 1) (by omega)
    have e2 : j + (f + 1) = j + 1 + f := by omega
    rw [chebLoop, e2, ← ih, hdiv]
    exact congrArg _ (cheb_step g _)

theorem one_lt_of_mul_eq {d q n : Nat} (h : d * q = n) (hd : d < n) : 1 < q := by
  by_contra hc
  have : q = 0 ∨ q = 1 := by omega
  rcases this with rfl | rfl <;> omega

theorem guard_spec {n x a b : Nat} (h : guard n (Nat.gcd n x) = some (a, b)) :
    a * b = n ∧ 1 < a ∧ a < n ∧ 1 < b := by
  unfold guard at h
  split at h
  · rename_i hc
    simp only [Option.some.injEq, Prod.mk.injEq] at h
    obtain ⟨rfl, rfl⟩ := h
    have hd : Nat.gcd n x ∣ n := Nat.gcd_dvd_left n x
    have hmul : Nat.gcd n x * (n / Nat.gcd n x) = n := Nat.mul_div_cancel' hd
    exact ⟨hmul, hc.1, hc.2, one_lt_of_mul_eq hmul hc.2⟩
  · exact absurd h (by simp)

theorem rhoStep_inl {n ninv c e2 : Nat} {s : RhoState} {r : Nat × Nat}
    (h : rhoStep n ninv c s e2 = some (.inl r)) : ∃ x, guard n (Nat.gcd n x) = some r := by
  unfold rhoStep at h
  simp only [Option.bind_eq_bind] at h
  cases hsq : Mg64.mgMul n ninv s.x2 s.x2 with
  | none => simp [hsq] at h
  | some sq =>
    simp only [hsq, Option.bind_some] at h
    split at h
    · exact absurd h (by simp)
    · split at h
      · exact absurd h (by simp)
      · cases hp : Mg64.mgMul n ninv s.prod (absDiff s.x1 (sq + c)) with
        | none => simp [hp] at h
        | some pn =>
          simp only [hp, Option.bind_some] at h
          split at h
          · rename_i r1 hr1
            simp only [Option.some.injEq, Sum.inl.injEq] at h
            subst h
            split at hr1
            · exact ⟨_, hr1⟩
            · exact absurd hr1 (by simp)
          · split at h
            · rename_i r2 hr2
              simp only [Option.some.injEq, Sum.inl.injEq] at h
              subst h
              split at hr2
              · exact ⟨_, hr2⟩
              · exact absurd hr2 (by simp)
            · split at h
              · split at h <;> exact absurd h (by simp)
              · exact absurd h (by simp)

theorem rhoLoop_some {n ninv c iters : Nat} {r : Nat × Nat} : ∀ (f e2 : Nat) (s : RhoState),
    rhoLoop n ninv c iters f e2 s = some (some r) → ∃ x, guard n (Nat.gcd n x) = some r
  | 0, _, s, h => by
    simp only [rhoLoop, Option.some.injEq] at h; exact ⟨_, h⟩
  | f + 1, e2, s, h => by
    rw [rhoLoop] at h
    split at h
    · simp only [Option.some.injEq] at h; exact ⟨_, h⟩
    · split at h
      · exact absurd h (by simp)
      · rename_i r' hstep
        simp only [Option.some.injEq] at h
        subst h
        exact rhoStep_inl hstep
      · exact rhoLoop_some f _ _ h

/-! ### gcd_factors

What a returned list satisfies needs no hypothesis on the values (`*_of_some`: the `debug_assert!` of `find_factors` is
what makes the product telescope); that a list is returned needs the gcds to increase (`findFactors_isSome`). -/

/-- the slice is `vals[lo ..= hi]` (`hi + 1 = lo + len`) -/
theorem findFactors_of_some (G : Nat → Nat) (pp : Nat → Bool) : ∀ (fuel lo len hi : Nat) (acc acc' : List Nat),
    lo ≤ hi → hi + 1 = lo + len → 0 < G lo → findFactors G pp fuel lo len (G lo) (G hi) acc = some acc' →
    ∃ new, acc' = acc ++ new ∧ new.prod * G lo = G hi ∧ (∀ f ∈ new, 1 < f) ∧ 0 < G hi ∧
      ∀ f ∈ new, pp f = true ∨ ∃ j, lo ≤ j ∧ j + 1 ≤ hi ∧ f * G j = G (j + 1)
  | 0, _, _, _, _, _, _, _, _, h => by simp [findFactors] at h
  | f + 1, lo, len, hi, acc, acc', hle, hhi, hg1, h => by
    rw [findFactors] at h
    by_cases heq : G lo = G hi
    · rw [if_pos heq] at h
      obtain rfl := Option.some.inj h
      exact ⟨[], by simp, by simpa using heq, by simp, heq ▸ hg1, by simp⟩
    · rw [if_neg heq, if_neg (by omega)] at h
      by_cases hass : G hi > G lo ∧ G hi = G hi / G lo * G lo
      · simp only [if_neg (not_not.mpr hass)] at h
        have hpgt : 1 < G hi / G lo := one_lt_of_mul_eq ((Nat.mul_comm _ _).trans hass.2.symm) hass.1
        by_cases hstop : (pp (G hi / G lo) || decide (len ≤ 2)) = true
        · rw [if_pos hstop] at h
          obtain rfl := Option.some.inj h
          refine ⟨[G hi / G lo], rfl, by simpa using hass.2.symm, by simpa using hpgt, Nat.lt_trans hg1 hass.1, fun x hx => ?_⟩
          obtain rfl := List.mem_singleton.mp hx
          simp only [Bool.or_eq_true, decide_eq_true_eq] at hstop
          rcases hstop with hpp | h2
          · exact Or.inl hpp
          · -- `len = 1` would make the two ends equal
            have hlen2 : hi = lo + 1 := by
              by_contra hne
              have : hi = lo := by omega
              subst this
              exact heq rfl
            subst hlen2
            exact Or.inr ⟨lo, Nat.le_refl _, Nat.le_refl _, by simpa using hass.2.symm⟩
        · rw [if_neg hstop] at h
          have hlen3 : 3 ≤ len := by
            simp only [Bool.or_eq_true, decide_eq_true_eq, not_or] at hstop; omega
          -- left half `vals[lo ..= lo+mid]`, right half `vals[lo+mid ..= hi]`
          cases h1 : findFactors G pp f lo (len / 2 + 1) (G lo) (G (lo + len / 2)) acc with
          | none => simp [h1] at h
          | some acc1 =>
            simp only [h1] at h
            obtain ⟨new1, a1, p1, gt1, pos1, sep1⟩ := findFactors_of_some G pp f lo (len / 2 + 1) _ acc acc1 (by omega) (by omega) hg1 h1
            obtain ⟨new2, a2, p2, gt2, pos2, sep2⟩ :=
              findFactors_of_some G pp f (lo + len / 2) (len - len / 2) hi acc1 acc' (by omega) (by omega) pos1 h
            refine ⟨new1 ++ new2, by rw [a2, a1, List.append_assoc], ?_, ?_, pos2, ?_⟩
            · rw [List.prod_append, ← p2, ← p1]; ring
            · exact fun x hx => (List.mem_append.mp hx).elim (gt1 x) (gt2 x)
            · intro x hx
              rcases List.mem_append.mp hx with hx | hx
              · exact (sep1 x hx).imp_right fun ⟨j, h1, h2, h3⟩ => ⟨j, h1, by omega, h3⟩
              · exact (sep2 x hx).imp_right fun ⟨j, h1, h2, h3⟩ => ⟨j, by omega, h2, h3⟩
      · simp only [if_pos hass] at h
        exact absurd h (by simp)

theorem findFactors_isSome (G : Nat → Nat) (pp : Nat → Bool) : ∀ (fuel lo len hi : Nat) (acc : List Nat),
    lo ≤ hi → hi + 1 = lo + len → len < fuel →
    (∀ i j, lo ≤ i → i ≤ j → j ≤ hi → G i ∣ G j) → (∀ i, lo ≤ i → i ≤ hi → 0 < G i) →
    ∃ acc', findFactors G pp fuel lo len (G lo) (G hi) acc = some acc'
  | 0, _, _, _, _, _, _, h, _, _ => by omega
  | f + 1, lo, len, hi, acc, hle, hhi, hfuel, hchain, hpos => by
    rw [findFactors]
    by_cases heq : G lo = G hi
    · exact ⟨acc, by rw [if_pos heq]⟩
    · have hp1 : 0 < G lo := hpos lo (Nat.le_refl _) (by omega)
      have hdvd : G lo ∣ G hi := hchain lo hi (Nat.le_refl _) (by omega) (Nat.le_refl _)
      have hp2 : 0 < G hi := hpos _ (by omega) (Nat.le_refl _)
      -- the `debug_assert!` holds
      have hassert : ¬ ¬ (G hi > G lo ∧ G hi = G hi / G lo * G lo) :=
        not_not.mpr ⟨lt_of_le_of_ne (Nat.le_of_dvd hp2 hdvd) heq, (Nat.div_mul_cancel hdvd).symm⟩
      rw [if_neg heq, if_neg (by omega)]
      simp only [if_neg hassert]
      split
      · exact ⟨_, rfl⟩
      · rename_i hstop
        have hlen3 : 3 ≤ len := by
          simp only [Bool.or_eq_true, decide_eq_true_eq, not_or] at hstop; omega
        obtain ⟨acc1, h1⟩ := findFactors_isSome G pp f lo (len / 2 + 1) (lo + len / 2) acc (by omega) (by omega) (by omega)
          (fun i j hi hij hj => hchain i j hi hij (by omega)) (fun i hi hj => hpos i hi (by omega))
        obtain ⟨acc2, h2⟩ := findFactors_isSome G pp f (lo + len / 2) (len - len / 2) hi acc1 (by omega) (by omega) (by omega)
          (fun i j hi hij hj => hchain i j (by omega) hij hj) (fun i hi hj => hpos i (by omega) hj)
        exact ⟨acc2, by simp only [h1, h2]⟩

theorem divAll_of_some : ∀ (facs : List Nat) (n r : Nat), divAll n facs = some r → r = n / facs.prod
  | [], n, r, h => by simp [divAll] at h; simp [h]
  | f :: fs, n, r, h => by
    rw [divAll] at h
    split at h
    · exact absurd h (by simp)
    · rw [divAll_of_some fs (n / f) r h, List.prod_cons, Nat.div_div_eq_div_mul]

theorem divAll_spec : ∀ (facs : List Nat) (n : Nat), (∀ f ∈ facs, 0 < f) → divAll n facs = some (n / facs.prod)
  | [], n, _ => by simp [divAll]
  | f :: fs, n, h => by
    have hf : 0 < f := h f (List.mem_cons_self ..)
    rw [divAll, if_neg (by omega), divAll_spec fs (n / f) (fun x hx => h x (List.mem_cons_of_mem _ hx)),
      List.prod_cons, Nat.div_div_eq_div_mul]

/-- whatever the value list is, a returned `(facs, rest)` splits `n`, telescopes the gcds and keeps steps apart -/
theorem gcdFactors_of_some {n : Nat} {vals : List Nat} {pp : Nat → Bool} {fs : List Nat} {rest : Nat} (hn : 0 < n)
    (h : gcdFactors n vals pp = some (fs, rest)) :
    fs.prod * rest = n ∧ (∀ f ∈ fs, 1 < f) ∧ 0 < rest ∧
      fs.prod * Nat.gcd n (vals.getD 0 0) = Nat.gcd n (vals.getD (vals.length - 1) 0) ∧
      ∀ f ∈ fs, pp f = true ∨ ∃ j, j + 1 < vals.length ∧
        f * Nat.gcd n (vals.getD j 0) = Nat.gcd n (vals.getD (j + 1) 0) := by
  cases vals with
  | nil => simp [gcdFactors] at h
  | cons a t =>
    rw [gcdFactors] at h
    swap
    · exact List.cons_ne_nil _ _
    split at h
    · exact absurd h (by simp)
    · rename_i facs hff
      split at h
      · exact absurd h (by simp)
      · rename_i r hdiv
        obtain ⟨rfl, rfl⟩ := Prod.mk.inj (Option.some.inj h)
        obtain ⟨new, e, hp, hgt, -, hsep⟩ := findFactors_of_some (fun i => Nat.gcd n ((a :: t).getD i 0)) pp _ 0 _ _ [] facs
          (Nat.zero_le _) (by simp) (Nat.gcd_pos_of_pos_left _ hn) hff
        simp only [List.nil_append] at e
        subst e
        have hdvd : facs.prod ∣ n := Dvd.dvd.trans ⟨_, hp.symm⟩ (Nat.gcd_dvd_left n _)
        obtain rfl := divAll_of_some facs n r hdiv
        have hpos : 0 < facs.prod := List.prod_pos (fun x hx => by have := hgt x hx; omega)
        exact ⟨Nat.mul_div_cancel' hdvd, hgt, Nat.div_pos (Nat.le_of_dvd hn hdvd) hpos, hp,
          fun x hx => (hsep x hx).imp_right fun ⟨j, _, h2, h3⟩ => ⟨j, by omega, h3⟩⟩

theorem gcdFactors_spec (n : Nat) (vals : List Nat) (pp : Nat → Bool) (hn : 0 < n) (hne : vals ≠ [])
    (hchain : ∀ i j, i ≤ j → j < vals.length → Nat.gcd n (vals.getD i 0) ∣ Nat.gcd n (vals.getD j 0)) :
    ∃ facs rest, gcdFactors n vals pp = some (facs, rest) ∧
      facs.prod * Nat.gcd n (vals.getD 0 0) = Nat.gcd n (vals.getD (vals.length - 1) 0) ∧
      facs.prod * rest = n ∧ (∀ f ∈ facs, 1 < f) ∧
      ∀ f ∈ facs, pp f = true ∨ ∃ j, j + 1 < vals.length ∧
        f * Nat.gcd n (vals.getD j 0) = Nat.gcd n (vals.getD (j + 1) 0) := by
  have hlen : 1 ≤ vals.length := List.length_pos_iff.mpr hne
  obtain ⟨facs, hf⟩ := findFactors_isSome (fun i => Nat.gcd n (vals.getD i 0)) pp (vals.length + 2) 0
    vals.length (vals.length - 1) [] (Nat.zero_le _) (by omega) (by omega)
    (fun i j _ hij hj => hchain i j hij (by omega)) (fun i _ _ => Nat.gcd_pos_of_pos_left _ hn)
  obtain ⟨new, e, -, hgt, -, -⟩ := findFactors_of_some (fun i => Nat.gcd n (vals.getD i 0)) pp _ 0 _ _ [] facs (Nat.zero_le _) (by omega)
    (Nat.gcd_pos_of_pos_left _ hn) hf
  simp only [List.nil_append] at e
  subst e
  have hg : gcdFactors n vals pp = some (facs, n / facs.prod) := by
    cases vals with
    | nil => exact absurd rfl hne
    | cons a t =>
      rw [gcdFactors, hf]
      · simp only [divAll_spec facs n (fun f hf' => by have := hgt f hf'; omega)]
      · exact List.cons_ne_nil _ _
  obtain ⟨h1, h2, -, h4, h5⟩ := gcdFactors_of_some hn hg
  exact ⟨_, _, hg, h4, h1, h2, h5⟩

end Ymq.ExpModn
