/-
Lemmas about the model of `ZmodN`: the constructor `ZmodN::new`.
Uses `mg2adicInv_odd` (termination and correctness of the 2-adic inverse loop, Ymq/Lemmas/Inv2adic.lean): the loop in `ZmodN::new` is the same code applied to `n.digits()[0]`.
-/
import Ymq.Lemmas.ZmodNOps
import Ymq.Lemmas.Inv2adic

namespace Ymq.ZmodN
open Ymq.Limbs

theorem new_valid' (n : Nat) (hodd : n % 2 = 1) (hlt : n < 2 ^ 512) :
    ∃ c, new n = some c ∧ Valid c ∧ c.n = n ∧ c.k = nwords n := by
  have hW8 : (2 : Nat) ^ 512 = W ^ 8 := by rw [← two_pow_64]
  have hn8 : n < W ^ 8 := by rw [← hW8]; exact hlt
  have hn0 : n ≠ 0 := by omega
  have hnp : 0 < n := by omega
  obtain ⟨v, hv1, hv2, hv3⟩ := Ymq.Mg64.mg2adicInv_odd (n % W) (Ymq.Mg64.low_odd hodd)
  have hw := nwords_le_iff (lt_of_lt_of_le hn8 (Nat.pow_le_pow_right W_pos (by decide)))
  have hk8 : nwords n ≤ 8 := (hw 8).2 hn8
  have hk1 : 1 ≤ nwords n := by
    by_contra hk
    have := (hw 0).1 (by omega)
    rw [pow_zero] at this
    omega
  have hnk : n < W ^ nwords n := (hw _).1 le_rfl
  have hR : 2 ^ (32 * nwords n) * 2 ^ (32 * nwords n) = W ^ nwords n := by
    have e : 32 * nwords n + 32 * nwords n = 64 * nwords n := by ring
    rw [← pow_add, e, two_pow_64]
  have hr8 : W ^ nwords n % n < W ^ 8 := lt_trans (Nat.mod_lt _ hnp) hn8
  have hr28 : W ^ nwords n % n * (W ^ nwords n % n) % n < W ^ 8 := lt_trans (Nat.mod_lt _ hnp) hn8
  unfold new
  have c1 : ¬ (n % 2 ≠ 1) := by omega
  have c2 : ¬ ¬ (n < 2 ^ (64 * MW)) := by
    rw [show 64 * MW = 512 from rfl]; exact not_not.2 hlt
  simp only [c1, c2, if_false, hv1, hR]
  refine ⟨_, rfl, ?_, rfl, rfl⟩
  exact {
    kpos := hk1
    kle := hk8
    nodd := hodd
    nlt := hnk
    hninv := by
      show (n * v + 1) % W = 0
      have h1 : n % W * v + 1 ≡ n * v + 1 [MOD W] := ((Nat.mod_modEq n W).mul_right v).add_right 1
      have h2 : n * v + 1 ≡ 0 [MOD W] := h1.symm.trans hv3
      simpa [Nat.ModEq] using h2
    rlen := fromUint_length _
    rwf := fromUint_Wf _
    rval := fromUint_val hr8
    r2len := fromUint_length _
    r2wf := fromUint_Wf _
    r2val := by
      show val (fromUint _) = _
      rw [fromUint_val hr28, ← Nat.mul_mod]
  }

end Ymq.ZmodN
