/-
`Dividers` on multiword operands (Props/C08 `mod_uint_spec`, `divmod_uint_spec`), digits most significant first. `mod_uint` is
Horner's rule with `2^64 ≡ r64` (`fold64_ok` per digit). `divmod_uint_inplace` equals the schoolbook long division `longDiv`:
through `2^64 = p·⌊2^64/p⌋ + r64` a carry `c` adds `c·⌊2^64/p⌋` to the quotient digit and `c·r64` to what is divided next
(`carry_digit`).
-/
import Ymq.Lemmas.Dividers
import Ymq.Lemmas.Limbs

namespace Ymq.Dividers
open Ymq.Limbs (W val Wf ofNat)

theorem val_reverse_cons (w : Nat) (ws : List Nat) :
    val (w :: ws).reverse = val ws.reverse + W ^ ws.length * w := by
  rw [List.reverse_cons, Limbs.val_append]
  simp

theorem modUintLoop_ok (d : Div) (h : Ok d) : ∀ (ws : List Nat) (pol : Nat), pol < W → Wf ws →
    ∃ r, modUintLoop d pol ws = some r ∧ r < W ∧
      r % d.p = (pol * W ^ ws.length + val ws.reverse) % d.p := by
  intro ws
  induction ws with
  | nil =>
    intro pol hp _
    exact ⟨pol, rfl, hp, by simp⟩
  | cons w ws ih =>
    intro pol hp hw
    obtain ⟨hw1, hw2⟩ := Limbs.Wf_cons.1 hw
    unfold modUintLoop
    rw [val_reverse_cons]
    by_cases h0 : pol = 0
    · rw [if_pos h0]
      obtain ⟨r, hr1, hr2, hr3⟩ := ih w hw1 hw2
      refine ⟨r, hr1, hr2, ?_⟩
      rw [hr3, h0]
      congr 1
      simp only [List.length_cons]; ring
    · rw [if_neg h0]
      obtain ⟨res, hf1, hf2, hf3⟩ := fold64_ok d h pol w hp hw1
      rw [hf1]
      simp only []
      obtain ⟨r, hr1, hr2, hr3⟩ := ih res hf2 hw2
      refine ⟨r, hr1, hr2, ?_⟩
      rw [hr3]
      have hm : res ≡ pol * W + w [MOD d.p] := hf3
      have : res * W ^ ws.length + val ws.reverse ≡ (pol * W + w) * W ^ ws.length + val ws.reverse [MOD d.p] :=
        Nat.ModEq.add_right _ (Nat.ModEq.mul_right _ hm)
      rw [this]
      congr 1
      simp only [List.length_cons]; ring

theorem W_even : 2 ∣ W := by decide

theorem modUint_ok (d : Div) (h : Ok d) (ds : List Nat) (hne : ds ≠ []) (hw : Wf ds) :
    modUint d ds = some (val ds % d.p) := by
  unfold modUint
  have hrev : ds.reverse ≠ [] := by simpa using hne
  cases hr : ds.reverse with
  | nil => exact absurd hr hrev
  | cons top rest =>
    simp only []
    have hds : ds = (top :: rest).reverse := by rw [← hr, List.reverse_reverse]
    have hwr : Wf (top :: rest) := by rw [← hr]; exact Limbs.Wf_reverse.2 hw
    obtain ⟨ht, hrest⟩ := Limbs.Wf_cons.1 hwr
    by_cases hp2 : d.p = 2
    · rw [if_pos hp2, hp2, Limbs.headD_mod ds hw hne, Nat.mod_mod_of_dvd _ W_even]
    · rw [if_neg hp2]
      obtain ⟨r, hr1, hr2, hr3⟩ := modUintLoop_ok d h rest top ht hrest
      rw [hr1]
      simp only []
      rw [divmod64_ok d h r (by rw [W_eq] at hr2; exact hr2)]
      simp only [Option.map_some]
      rw [hr3, hds, val_reverse_cons]
      congr 2; ring

/-- schoolbook long division by `p`, most significant digit first -/
def longDiv (p : Nat) : Nat → List Nat → List Nat × Nat
  | c, [] => ([], c)
  | c, dg :: rest =>
    ((c * W + dg) / p :: (longDiv p ((c * W + dg) % p) rest).1, (longDiv p ((c * W + dg) % p) rest).2)

theorem quot_digit_lt {p c dg : Nat} (hp : 0 < p) (hc : c < p) (hd : dg < W) :
    (c * W + dg) / p < W := by
  rw [Nat.div_lt_iff_lt_mul hp]
  calc c * W + dg < c * W + W := Nat.add_lt_add_left hd _
    _ = (c + 1) * W := (Nat.add_one_mul c W).symm
    _ ≤ p * W := Nat.mul_le_mul_right _ hc
    _ = W * p := Nat.mul_comm _ _

/-- One digit of the long division with a carry, the way `divmod_uint_inplace` computes it: through
`2^64 = p·⌊2^64/p⌋ + 2^64 mod p` the carry contributes `c·⌊2^64/p⌋` to the quotient digit and
`c·(2^64 mod p)` to what is divided next. -/
theorem carry_digit (p c dg : Nat) (hp : 0 < p) :
    (c * W + dg) / p = (c * (W % p) + dg % p) / p + (c * (W / p) + dg / p) ∧
    (c * W + dg) % p = (c * (W % p) + dg % p) % p := by
  have ht : c * W + dg = c * (W % p) + dg % p + p * (c * (W / p) + dg / p) := by
    conv_lhs => rw [← Nat.div_add_mod W p, ← Nat.div_add_mod dg p]
    ring
  rw [ht, Nat.add_mul_div_left _ _ hp, Nat.add_mul_mod_self_left]
  exact ⟨rfl, rfl⟩

theorem longDiv_spec (p : Nat) (hp : 0 < p) : ∀ (ds : List Nat) (c : Nat), c < p → Wf ds →
    (longDiv p c ds).1.length = ds.length ∧ Wf (longDiv p c ds).1 ∧ (longDiv p c ds).2 < p ∧
    val (longDiv p c ds).1.reverse * p + (longDiv p c ds).2 = c * W ^ ds.length + val ds.reverse := by
  intro ds
  induction ds with
  | nil => intro c hc _; simp [longDiv, Limbs.Wf_nil, hc]
  | cons dg rest ih =>
    intro c hc hw
    obtain ⟨hw1, hw2⟩ := Limbs.Wf_cons.1 hw
    have hmod : (c * W + dg) % p < p := Nat.mod_lt _ hp
    obtain ⟨i1, i2, i3, i4⟩ := ih ((c * W + dg) % p) hmod hw2
    unfold longDiv
    simp only []
    refine ⟨by simp [i1], ?_, i3, ?_⟩
    · rw [Limbs.Wf_cons]
      refine ⟨?_, i2⟩
      exact quot_digit_lt hp hc hw1
    · rw [val_reverse_cons, val_reverse_cons, i1]
      have e := Nat.div_add_mod (c * W + dg) p
      generalize (c * W + dg) / p = q at *
      generalize (c * W + dg) % p = m at *
      generalize val (longDiv p m rest).1.reverse = V at *
      generalize (longDiv p m rest).2 = r at *
      simp only [List.length_cons]
      have : (V + W ^ rest.length * q) * p + r = (V * p + r) + W ^ rest.length * (p * q) := by ring
      rw [this, i4]
      have e2 : p * q = c * W + dg - m := by omega
      have e3 : m ≤ c * W + dg := by omega
      rw [e2, Nat.mul_sub, pow_succ]
      have : W ^ rest.length * m ≤ W ^ rest.length * (c * W + dg) := Nat.mul_le_mul_left _ e3
      have e4 : W ^ rest.length * (c * W + dg) = c * (W ^ rest.length * W) + W ^ rest.length * dg := by ring
      rw [Nat.mul_comm m] 
      omega

theorem divmodLoop_eq (d : Div) (g : Good d) : ∀ (ds : List Nat) (carry : Nat), carry < d.p → Wf ds →
    divmodLoop d (W / d.p) carry ds = some (longDiv d.p carry ds) := by
  have hW : W = 2 ^ 64 := W_eq
  have hp3 := g.p3
  have hp30 := g.p30
  have hp0 : 0 < d.p := by omega
  have hr64 := g.r64
  have lW := Nat.mod_lt W hp0
  intro ds
  induction ds with
  | nil => intro c _ _; rfl
  | cons dg rest ih =>
    intro c hc hw
    obtain ⟨hw1, hw2⟩ := Limbs.Wf_cons.1 hw
    unfold divmodLoop longDiv
    by_cases hz : dg = 0 ∧ c = 0
    · rw [if_pos hz]
      obtain ⟨rfl, rfl⟩ := hz
      have := ih 0 hp0 hw2
      simp only [Nat.zero_mul, Nat.add_zero, Nat.zero_div, Nat.zero_mod]
      rw [this]
    · rw [if_neg hz, divmod64_ok d (Or.inr g) dg (by omega)]
      simp only []
      rw [if_neg (by simp)]
      by_cases hc0 : c = 0
      · subst hc0
        rw [if_neg (by simp)]
        simp only [Nat.zero_mul, Nat.zero_add]
        rw [ih (dg % d.p) (Nat.mod_lt _ hp0) hw2]
      · rw [if_pos hc0]
        obtain ⟨htd, htm⟩ := carry_digit d.p c dg hp0
        have htW : (c * W + dg) / d.p < W := quot_digit_lt hp0 hc hw1
        have l1 := Nat.mod_lt dg hp0
        have hcr : c * (W % d.p) < 2 ^ 60 :=
          calc c * (W % d.p) < 2 ^ 30 * 2 ^ 30 := Nat.mul_lt_mul'' (by omega) (by omega)
            _ = 2 ^ 60 := by norm_num
        rw [hr64, divmod64_ok d (Or.inr g) (c * (W % d.p) + dg % d.p) (by omega)]
        rw [htd] at htW
        rw [htd, htm]
        have hcm := Nat.mod_lt (c * (W % d.p) + dg % d.p) hp0
        generalize (c * (W % d.p) + dg % d.p) / d.p = cq at *
        generalize (c * (W % d.p) + dg % d.p) % d.p = cm at *
        generalize c * (W / d.p) = cQ at *
        generalize dg / d.p = q at *
        rw [if_neg (by omega), if_neg (by omega), if_neg (by omega), if_neg (by omega)]
        simp only []
        rw [if_neg (by omega), ih _ hcm hw2, Nat.add_comm cq, Nat.add_comm cQ]

theorem divmodUint_ok (d : Div) (h : Ok d) (ds : List Nat) (hw : Wf ds) :
    ∃ qs r, divmodUint d ds = some (qs, r) ∧ qs.length = ds.length ∧ Wf qs ∧
      val qs = val ds / d.p ∧ r = val ds % d.p := by
  rcases h with rfl | g
  · unfold divmodUint d2
    simp only [if_true]
    have hlt := Limbs.val_lt hw
    refine ⟨_, _, rfl, ?_, Limbs.ofNat_Wf _ _, ?_, ?_⟩
    · exact Limbs.ofNat_length _ _
    · rw [Limbs.val_ofNat_of_lt (lt_of_le_of_lt (Nat.div_le_self _ _) hlt)]
    · cases ds with
      | nil => simp
      | cons a l =>
        rw [Limbs.headD_mod _ hw (by simp), Nat.mod_mod_of_dvd _ W_even]
  · have hp0 : 0 < d.p := by have := g.p3; omega
    have hp2 : d.p ≠ 2 := by have := g.p3; omega
    have hwr : Wf ds.reverse := Limbs.Wf_reverse.2 hw
    obtain ⟨l1, l2, l3, l4⟩ := longDiv_spec d.p hp0 ds.reverse 0 hp0 hwr
    simp only [Nat.zero_mul, Nat.zero_add, List.reverse_reverse, List.length_reverse] at l1 l4
    unfold divmodUint divmodUintInplace
    rw [if_neg hp2, if_neg (by have := g.recip64.2.2.1; omega), if_neg (by have := g.s64; omega), g.mq,
      divmodLoop_eq d g ds.reverse 0 hp0 hwr]
    simp only []
    generalize (longDiv d.p 0 ds.reverse).1 = qs at *
    generalize (longDiv d.p 0 ds.reverse).2 = r at *
    have hdm : val ds / d.p = val qs.reverse ∧ val ds % d.p = r := by
      rw [Nat.div_mod_unique hp0]
      exact ⟨by rw [← l4, Nat.mul_comm]; ring, l3⟩
    have hW : W = 2 ^ 64 := W_eq
    have hp30 := g.p30
    rw [if_neg (by omega), hdm.2, Nat.mod_eq_of_lt (by omega), if_neg (by simp)]
    exact ⟨_, _, rfl, by simp [l1], Limbs.Wf_reverse.2 l2, hdm.1.symm, rfl⟩

end Ymq.Dividers
