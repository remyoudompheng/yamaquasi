/-
C14 "small", helper lemmas (Mathlib only, no model): Montgomery's lemma
([Montgomery 1995, Section 8]) for symmetric matrices over any field: if the rows indexed by `p`
are linearly independent and as many as the rank, the rows of the principal submatrix on `p`
(written as the masked matrix, null outside `p × p`) are linearly independent as well.
-/
import Mathlib.LinearAlgebra.Matrix.Rank
import Mathlib.LinearAlgebra.FiniteDimensional.Lemmas
import Mathlib.LinearAlgebra.Matrix.Symmetric

namespace Ymq.Gf2Small
open Matrix Module

theorem montgomery_masked_independent {K : Type} [Field K] {n : Nat} (T : Matrix (Fin n) (Fin n) K)
    (hT : T.IsSymm) (p : Fin n → Prop) [DecidablePred p]
    (hli : LinearIndependent K (fun s : {i // p i} => T s.1))
    (hcard : Fintype.card {i // p i} = T.rank) :
    LinearIndependent K (fun s : {i // p i} => fun j => if p j then T s.1 j else 0) := by
  -- the selected rows span the row space
  have hspan : Submodule.span K (Set.range fun s : {i // p i} => T s.1) =
      Submodule.span K (Set.range T.row) := by
    apply Submodule.eq_of_le_of_finrank_eq
    · apply Submodule.span_mono
      rintro _ ⟨s, rfl⟩
      exact ⟨s.1, rfl⟩
    · rw [finrank_span_eq_card hli, hcard, Matrix.rank_eq_finrank_span_row]
  rw [Fintype.linearIndependent_iff]
  intro g hg
  have hvS : ∀ j, p j → ∑ s : {i // p i}, g s * T s.1 j = 0 := by
    intro j hj
    have := congrFun hg j
    simp only [Finset.sum_apply, Pi.smul_apply, smul_eq_mul, Pi.zero_apply, if_pos hj] at this
    exact this
  -- the combination of the FULL rows vanishes too: at a coordinate `j`, write row `j` through the selected rows and use
  -- symmetry twice to land on the masked coordinates, where `hvS` applies
  have hv : ∑ s : {i // p i}, g s • T s.1 = 0 := by
    funext j
    simp only [Finset.sum_apply, Pi.smul_apply, smul_eq_mul, Pi.zero_apply]
    have hmem : T j ∈ Submodule.span K (Set.range fun s : {i // p i} => T s.1) := by
      rw [hspan]; exact Submodule.subset_span ⟨j, rfl⟩
    obtain ⟨c, hc⟩ := (Submodule.mem_span_range_iff_exists_fun K).mp hmem
    have hrow : ∀ i, T j i = ∑ s' : {i // p i}, c s' * T s'.1 i := by
      intro i
      have := congrFun hc i
      simp only [Finset.sum_apply, Pi.smul_apply, smul_eq_mul] at this
      exact this.symm
    calc ∑ s : {i // p i}, g s * T s.1 j
        = ∑ s : {i // p i}, g s * T j s.1 := by
          apply Finset.sum_congr rfl; intro s _; rw [hT.apply]
      _ = ∑ s : {i // p i}, ∑ s' : {i // p i}, c s' * (g s * T s'.1 s.1) := by
          apply Finset.sum_congr rfl; intro s _
          rw [hrow, Finset.mul_sum]
          apply Finset.sum_congr rfl; intro s' _; ring
      _ = ∑ s' : {i // p i}, c s' * ∑ s : {i // p i}, g s * T s.1 s'.1 := by
          rw [Finset.sum_comm]
          apply Finset.sum_congr rfl; intro s' _
          rw [Finset.mul_sum]
          apply Finset.sum_congr rfl; intro s _; rw [hT.apply]
      _ = 0 := by
          apply Finset.sum_eq_zero; intro s' _
          rw [hvS s'.1 s'.2, mul_zero]
  exact (Fintype.linearIndependent_iff.mp hli) g hv

end Ymq.Gf2Small
