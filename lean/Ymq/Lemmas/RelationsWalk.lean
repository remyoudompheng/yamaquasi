/-
The shape of `walk_doubles` and `add`, independent of any invariant (C11): the explicit-stack model
(Ymq/Model/RelationsWalk.lean, the code since fix e402536) against the recursive model
(Ymq/Model/Relations.lean). `combine_double` is `combine_double_step` followed by the requested
walk; `add` is its head, which calls no walk, followed by the walk the head asks for (`serve`); a
call of the walk is the list of actions of its frame; what the stack loop returns is what the
recursive walk returns, unless the loop runs out of iterations (`Le`; the converse, with the number
of iterations, is in Ymq/Lemmas/RelationsWalkBound.lean). One induction (`StepRel`) serves every
property of the walk that composes over removal steps.
-/
import Ymq.Lemmas.Relations
import Ymq.Model.RelationsWalk

namespace Ymq.Relations

/-- continuation of `combine_double` after `combine_double_step` -/
def afterStep (walk : Nat → Store → M Store) (res : Bool × Option Nat × Store) : M (Bool × Store) :=
  match res.2.1 with
  | some x => do
    let s1 ← walk x res.2.2
    pure (res.1, s1)
  | none => pure (res.1, res.2.2)

theorem combineDouble_eq_step (walk : Nat → Store → M Store) (r : Relation) (p q : Nat) (s : Store) :
    combineDouble walk r p q s = combineDoubleStep r p q s >>= afterStep walk := by
  unfold combineDouble combineDoubleStep
  by_cases hpq : p = q
  · rw [if_pos hpq, if_pos hpq, bind_assoc']; exact bind_congr' _ (fun _ => rfl)
  · rw [if_neg hpq, if_neg hpq]
    cases alookup p s.partials with
    | none =>
      cases alookup q s.partials with
      | none => rfl
      | some bq =>
        simp only [bind_assoc']
        refine bind_congr' _ (fun rq => bind_congr' _ (fun rp => ?_))
        split
        · rfl
        · rw [bind_assoc']; exact bind_congr' _ (fun _ => rfl)
    | some bp =>
      cases alookup q s.partials with
      | none =>
        simp only [bind_assoc']
        refine bind_congr' _ (fun rp => bind_congr' _ (fun rq => ?_))
        split
        · rfl
        · rw [bind_assoc']; exact bind_congr' _ (fun _ => rfl)
      | some bq =>
        simp only [bind_assoc']
        refine bind_congr' _ (fun rp => bind_congr' _ (fun rq => bind_congr' _ (fun r1 =>
          bind_congr' _ (fun r2 => bind_congr' _ (fun s1 => ?_)))))
        split
        · rw [bind_assoc']
          refine bind_congr' _ (fun rpq => ?_)
          split
          · rfl
          · rw [bind_assoc']; exact bind_congr' _ (fun _ => rfl)
        · split
          · rw [bind_assoc']
            refine bind_congr' _ (fun rqp => ?_)
            split
            · rfl
            · rw [bind_assoc']; exact bind_congr' _ (fun _ => rfl)
          · rfl

/-- the walk a step asks for -/
def StepRes.req : StepRes → Option Nat
  | .next x => x
  | .pop => none

/-- what a step of the store leaves behind: the walk it asks for (if any) and the store; `serve`
runs that walk. The removal steps of a walk, the trailing walks of a frame and the head of `add`
are all such steps. -/
def serve (w : Nat → Store → M Store) (q : StepRes × Store) : M Store :=
  match q.1.req with
  | some x => w x q.2
  | none => pure q.2

theorem serve_ok {w : Nat → Store → M Store} {q : StepRes × Store} {s' : Store}
    (h : serve w q = .ok s') :
    (q.1.req = none ∧ s' = q.2) ∨ ∃ x, q.1.req = some x ∧ w x q.2 = .ok s' := by
  unfold serve at h
  split at h
  · rename_i x hx; exact Or.inr ⟨x, hx, h⟩
  · rename_i hx; exact Or.inl ⟨hx, (pure_eq_ok.mp h).symm⟩

theorem serve_none (w : Nat → Store → M Store) (s : Store) : serve w (.next none, s) = pure s := rfl

theorem serve_some (w : Nat → Store → M Store) (x : Nat) (s : Store) :
    serve w (.next (some x), s) = w x s := rfl

theorem ErrIn.serve {E : Err → Prop} {w : Nat → Store → M Store} {q : StepRes × Store}
    (hw : ∀ x, q.1.req = some x → ErrIn E (w x q.2)) : ErrIn E (serve w q) := by
  unfold Ymq.Relations.serve
  split
  · rename_i x hx; exact hw x hx
  · exact ErrIn.pure _

/-- the store after `doubles.remove(&(p, q)); doubles_rev.remove(&(q, p))` -/
@[reducible] def Store.eraseDouble (s : Store) (p q : Nat) : Store :=
  { s with doubles := aerase (p, q) s.doubles, doublesRev := serase (q, p) s.doublesRev }

/-- `b` packs the combination of `r` with the stored single of `k`, and that combination has
cofactor `k'` -/
def NewSingle (s : Store) (r : Relation) (k k' : Nat) (b : List Nat) : Prop :=
  ∃ bk rk rr, alookup k s.partials = some bk ∧ unpack bk = .ok rk ∧ combine s.n r rk = .ok rr ∧
    rr.cofactor = k' ∧ pack rr = .ok b

/-- everything `combine_double_step` does when it returns (which of the two singles is replaced
depends on the cycle lengths; no property below depends on that choice) -/
theorem combineDoubleStep_ok {r : Relation} {p q : Nat} {s : Store} {res : Bool × Option Nat × Store}
    (h : combineDoubleStep r p q s = .ok res) :
    (p = q ∧ ∃ s1, addCycle { r with cofactor := 1, factors := r.factors ++ [(toI64 p, 2)] } s = .ok s1 ∧
      res = (true, none, s1)) ∨
    (p ≠ q ∧ ∃ bp bq rp rq r1 r2 s1, alookup p s.partials = some bp ∧ alookup q s.partials = some bq ∧
      unpack bp = .ok rp ∧ unpack bq = .ok rq ∧ combine s.n r rp = .ok r1 ∧ combine s.n r1 rq = .ok r2 ∧
      addCycle r2 s = .ok s1 ∧
      (res = (true, none, s1) ∨ ∃ k k' b, (k = p ∧ k' = q ∨ k = q ∧ k' = p) ∧ NewSingle s r k k' b ∧
        res = (true, none, s1.setPartial k' b))) ∨
    (p ≠ q ∧ ∃ k k' b, (k = p ∧ k' = q ∨ k = q ∧ k' = p) ∧ alookup k' s.partials = none ∧
      NewSingle s r k k' b ∧
      res = (true, some (k' % W32), { s with nCombined12 := s.nCombined12 + 1 }.setPartial k' b)) ∨
    (p ≠ q ∧ alookup p s.partials = none ∧ alookup q s.partials = none ∧ res = (false, none, s)) := by
  unfold combineDoubleStep at h
  split at h
  · rename_i hpq
    simp only [bind_eq_ok, pure_eq_ok] at h
    obtain ⟨s1, hs1, h⟩ := h
    exact Or.inl ⟨hpq, s1, hs1, h.symm⟩
  · rename_i hpq
    refine Or.inr ?_
    split at h
    · rename_i bp bq hlp hlq
      simp only [bind_eq_ok] at h
      obtain ⟨rp, hup, rq, huq, r1, hr1, r2, hr2, s1, hs1, h⟩ := h
      refine Or.inl ⟨hpq, bp, bq, rp, rq, r1, r2, s1, hlp, hlq, hup, huq, hr1, hr2, hs1, ?_⟩
      split at h
      · simp only [bind_eq_ok] at h
        obtain ⟨rpq, hrpq, h⟩ := h
        split at h
        · exact (throw_ne_ok.mp h).elim
        · rename_i hcof
          simp only [bind_eq_ok, pure_eq_ok] at h
          obtain ⟨b, hb, h⟩ := h
          exact Or.inr ⟨p, q, b, Or.inl ⟨rfl, rfl⟩, ⟨bp, rp, rpq, hlp, hup, hrpq, not_not.mp hcof, hb⟩, h.symm⟩
      · split at h
        · simp only [bind_eq_ok] at h
          obtain ⟨rqp, hrqp, h⟩ := h
          split at h
          · exact (throw_ne_ok.mp h).elim
          · rename_i hcof
            simp only [bind_eq_ok, pure_eq_ok] at h
            obtain ⟨b, hb, h⟩ := h
            exact Or.inr ⟨q, p, b, Or.inr ⟨rfl, rfl⟩, ⟨bq, rq, rqp, hlq, huq, hrqp, not_not.mp hcof, hb⟩, h.symm⟩
        · exact Or.inl (pure_eq_ok.mp h).symm
    · rename_i bp hlp hlq
      simp only [bind_eq_ok] at h
      obtain ⟨rp, hup, rq, hrq, h⟩ := h
      split at h
      · exact (throw_ne_ok.mp h).elim
      · rename_i hcof
        simp only [bind_eq_ok, pure_eq_ok] at h
        obtain ⟨b, hb, h⟩ := h
        exact Or.inr (Or.inl ⟨hpq, p, q, b, Or.inl ⟨rfl, rfl⟩, hlq,
          ⟨bp, rp, rq, hlp, hup, hrq, not_not.mp hcof, hb⟩, h.symm⟩)
    · rename_i bq hlp hlq
      simp only [bind_eq_ok] at h
      obtain ⟨rq, huq, rp, hrp, h⟩ := h
      split at h
      · exact (throw_ne_ok.mp h).elim
      · rename_i hcof
        simp only [bind_eq_ok, pure_eq_ok] at h
        obtain ⟨b, hb, h⟩ := h
        exact Or.inr (Or.inl ⟨hpq, q, p, b, Or.inr ⟨rfl, rfl⟩, hlp,
          ⟨bq, rq, rp, hlq, huq, hrp, not_not.mp hcof, hb⟩, h.symm⟩)
    · rename_i hlp hlq
      exact Or.inr (Or.inr ⟨hpq, hlp, hlq, (pure_eq_ok.mp h).symm⟩)

theorem combineDoubleStep_declined {r : Relation} {p q : Nat} {s : Store}
    {res : Bool × Option Nat × Store} (h : combineDoubleStep r p q s = .ok res) (hf : res.1 = false) :
    p ≠ q ∧ alookup p s.partials = none ∧ alookup q s.partials = none ∧ res = (false, none, s) := by
  rcases combineDoubleStep_ok h with ⟨_, _, _, rfl⟩ | ⟨_, _, _, _, _, _, _, _, _, _, _, _, _, _, _,
    rfl | ⟨_, _, _, _, _, rfl⟩⟩ | ⟨_, _, _, _, _, _, _, rfl⟩ | h4
  · cases hf
  · cases hf
  · cases hf
  · cases hf
  · exact h4

theorem combineDoubleStep_lists {r : Relation} {p q : Nat} {s : Store} {res : Bool × Option Nat × Store}
    (h : combineDoubleStep r p q s = .ok res) :
    res.2.2.doubles = s.doubles ∧ res.2.2.doublesRev = s.doublesRev := by
  have hc : ∀ {r' : Relation} {s1 : Store}, addCycle r' s = .ok s1 →
      s1.doubles = s.doubles ∧ s1.doublesRev = s.doublesRev := by
    intro r' s1 h1
    unfold addCycle at h1
    split at h1
    · exact (throw_ne_ok.mp h1).elim
    · split at h1
      · exact (throw_ne_ok.mp h1).elim
      · rw [← pure_eq_ok.mp h1]; exact ⟨rfl, rfl⟩
  rcases combineDoubleStep_ok h with ⟨_, _, h1, rfl⟩ | ⟨_, _, _, _, _, _, _, _, _, _, _, _, _, _, h1,
    rfl | ⟨_, _, _, _, _, rfl⟩⟩ | ⟨_, _, _, _, _, _, _, rfl⟩ | ⟨_, _, _, rfl⟩
  · exact hc h1
  · exact hc h1
  · have := hc h1; exact this
  · exact ⟨rfl, rfl⟩
  · exact ⟨rfl, rfl⟩

theorem walkStep_eq_remove (walk : Nat → Store → M Store) (p q : Nat) (s : Store) :
    walkStep walk p q s = removeStep p q s >>= serve walk := by
  unfold walkStep removeStep
  cases alookup (p, q) s.doubles with
  | none => rfl
  | some blob =>
    simp only [bind_assoc']
    refine bind_congr' _ (fun r => ?_)
    rw [combineDouble_eq_step, bind_assoc']
    cases hstep : combineDoubleStep r p q
        { s with doubles := aerase (p, q) s.doubles, doublesRev := serase (q, p) s.doublesRev } with
    | error e => rfl
    | ok res =>
      have hfalse := fun hf => congrArg (·.2.1) (combineDoubleStep_declined hstep hf).2.2.2
      obtain ⟨ok, nx, s1⟩ := res
      rw [bind_of_ok rfl, bind_of_ok rfl]
      cases ok with
      | false =>
        have : nx = none := hfalse rfl
        subst this
        rfl
      | true =>
        cases nx with
        | none => rfl
        | some x =>
          simp only [afterStep]
          cases hw : walk x s1 with
          | error e => simp [serve, StepRes.req, hw, bind, Except.bind, pure, Except.pure]
          | ok s2 => simp [serve, StepRes.req, hw, bind, Except.bind, pure, Except.pure]

theorem removeStep_ok {p q : Nat} {s : Store} {res : StepRes × Store} (h : removeStep p q s = .ok res) :
    (alookup (p, q) s.doubles = none ∧ res = (.next none, s)) ∨
    ∃ blob r st, alookup (p, q) s.doubles = some blob ∧ unpack blob = .ok r ∧
      combineDoubleStep r p q (s.eraseDouble p q) = .ok st ∧ st.1 = true ∧
      res = (.next st.2.1, st.2.2) := by
  unfold removeStep at h
  split at h
  · rename_i hl; exact Or.inl ⟨hl, (pure_eq_ok.mp h).symm⟩
  · rename_i blob hl
    simp only [bind_eq_ok] at h
    obtain ⟨r, hu, st, hst, h⟩ := h
    split at h
    · rename_i hok; exact Or.inr ⟨blob, r, st, hl, hu, hst, hok, (pure_eq_ok.mp h).symm⟩
    · exact (throw_ne_ok.mp h).elim

theorem removeStep_not_pop {p q : Nat} {s : Store} {res : StepRes × Store}
    (h : removeStep p q s = .ok res) : res.1 ≠ .pop := by
  rcases removeStep_ok h with ⟨_, rfl⟩ | ⟨_, _, _, _, _, _, _, rfl⟩ <;> exact fun hc => by cases hc

/-- one step of a call of the recursive `walk_doubles`: a removal (`walkStep`) or a trailing walk -/
inductive Act
  | rem (p q : Nat)
  | go (a b : Nat)

def actsOf (fr : WalkFrame) : List Act :=
  fr.pqs.map (fun k => Act.rem k.1 k.2) ++ (fr.qps.map (fun k => Act.rem k.2 k.1) ++
    (fr.pqs.map (fun k => Act.go k.1 k.2) ++ fr.qps.map (fun k => Act.go k.1 k.2)))

/-- what an action does by itself: the removal step, or the request of a trailing walk -/
def actStep (root : Nat) : Act → Store → M (StepRes × Store)
  | .rem p q, s => removeStep p q s
  | .go a b, s => if a ≠ root then throw .panic else pure (.next (some b), s)

def runActs (walk : Nat → Store → M Store) (root : Nat) : List Act → Store → M Store
  | [], s => pure s
  | a :: t, s => actStep root a s >>= fun res => serve walk res >>= runActs walk root t

theorem actStep_go_ok {root a b : Nat} {s : Store} {res : StepRes × Store}
    (h : actStep root (.go a b) s = .ok res) : a = root ∧ res = (.next (some b), s) := by
  simp only [actStep] at h
  split at h
  · exact (throw_ne_ok.mp h).elim
  · rename_i hr; exact ⟨not_not.mp hr, (pure_eq_ok.mp h).symm⟩

theorem actStep_not_pop {root : Nat} {a : Act} {s : Store} {res : StepRes × Store}
    (h : actStep root a s = .ok res) : res.1 ≠ .pop := by
  cases a with
  | rem p q => exact removeStep_not_pop h
  | go a b => rw [(actStep_go_ok h).2]; exact fun hc => by cases hc

theorem runActs_append (walk : Nat → Store → M Store) (root : Nat) :
    ∀ (a b : List Act) (s : Store),
      runActs walk root (a ++ b) s = runActs walk root a s >>= runActs walk root b := by
  intro a
  induction a with
  | nil => intro b s; rfl
  | cons x t ih =>
    intro b s
    simp only [List.cons_append, runActs, bind_assoc']
    exact bind_congr' _ (fun _ => bind_congr' _ (fun s1 => ih b s1))

theorem runActs_pres {walk : Nat → Store → M Store} {root : Nat} {Q : Store → Prop}
    (hstep : ∀ {a s res s1}, Q s → actStep root a s = .ok res → serve walk res = .ok s1 → Q s1) :
    ∀ (l : List Act) (s s' : Store), runActs walk root l s = .ok s' → Q s → Q s' := by
  intro l
  induction l with
  | nil => intro s s' h hq; rw [← pure_eq_ok.mp h]; exact hq
  | cons a t ih =>
    intro s s' h hq
    simp only [runActs, bind_eq_ok] at h
    obtain ⟨res, hres, s1, hs1, h⟩ := h
    exact ih s1 s' h (hstep hq hres hs1)

/-- a loop over keys whose body is the action `g k` -/
theorem loop_acts {walk : Nat → Store → M Store} {root : Nat}
    {loop : List (Nat × Nat) → Store → M Store} (g : Nat × Nat → Act) (h0 : ∀ s, loop [] s = pure s)
    (hc : ∀ k t s, loop (k :: t) s = (actStep root (g k) s >>= serve walk) >>= loop t) :
    ∀ (l : List (Nat × Nat)) (s : Store), loop l s = runActs walk root (l.map g) s := by
  intro l
  induction l with
  | nil => exact h0
  | cons k t ih =>
    intro s
    rw [hc, List.map_cons, runActs, bind_assoc']
    exact bind_congr' _ (fun _ => bind_congr' _ ih)

theorem walkLoop1_acts (walk : Nat → Store → M Store) (root : Nat) : ∀ (l : List (Nat × Nat)) (s : Store),
    walkLoop1 walk l s = runActs walk root (l.map (fun k => Act.rem k.1 k.2)) s :=
  loop_acts _ (fun _ => rfl)
    (fun ⟨p, q⟩ t s => congrArg (· >>= walkLoop1 walk t) (walkStep_eq_remove walk p q s))

theorem walkLoop2_acts (walk : Nat → Store → M Store) (root : Nat) : ∀ (l : List (Nat × Nat)) (s : Store),
    walkLoop2 walk l s = runActs walk root (l.map (fun k => Act.rem k.2 k.1)) s :=
  loop_acts _ (fun _ => rfl)
    (fun ⟨q, p⟩ t s => congrArg (· >>= walkLoop2 walk t) (walkStep_eq_remove walk p q s))

theorem walkRec_acts (walk : Nat → Store → M Store) (root : Nat) : ∀ (l : List (Nat × Nat)) (s : Store),
    walkRec walk root l s = runActs walk root (l.map (fun k => Act.go k.1 k.2)) s :=
  loop_acts _ (fun _ => rfl) (fun ⟨a, b⟩ t s => by
    simp only [walkRec, actStep]
    split
    · rfl
    · rfl)

/-- the keys `walk_doubles(root)` works on -/
def pqsOf (s : Store) (root : Nat) : List (Nat × Nat) :=
  (s.doubles.filter (fun e => e.1.1 = root)).map (fun e => e.1)

def qpsOf (s : Store) (root : Nat) : List (Nat × Nat) :=
  s.doublesRev.filter (fun e => e.1 = root)

theorem walkDoubles_unfold (fuel root : Nat) (s : Store) :
    walkDoubles (fuel + 1) root s =
      (if root + 1 ≥ W32 then throw .panic
      else do
        let s1 ← walkLoop1 (walkDoubles fuel) (pqsOf s root) s
        let s2 ← walkLoop2 (walkDoubles fuel) (qpsOf s root) s1
        let s3 ← walkRec (walkDoubles fuel) root (pqsOf s root) s2
        walkRec (walkDoubles fuel) root (qpsOf s root) s3) := rfl

/-- the frame `walk_frame(root)` builds in the store `s` -/
def frame0 (root : Nat) (s : Store) : WalkFrame :=
  { root := root, pqs := pqsOf s root, qps := qpsOf s root, pos := 0 }

theorem walkFrame_eq (root : Nat) (s : Store) :
    walkFrame root s = if root + 1 ≥ W32 then throw .panic else pure (frame0 root s) := rfl

theorem walkDoubles_acts (f root : Nat) (s : Store) :
    walkDoubles (f + 1) root s =
      if root + 1 ≥ W32 then throw .panic
      else runActs (walkDoubles f) root (actsOf (frame0 root s)) s := by
  rw [walkDoubles_unfold]
  split
  · rfl
  · unfold actsOf frame0
    simp only
    rw [runActs_append, ← walkLoop1_acts]
    refine bind_congr' _ (fun s1 => ?_)
    rw [runActs_append, ← walkLoop2_acts]
    refine bind_congr' _ (fun s2 => ?_)
    rw [runActs_append, ← walkRec_acts]
    refine bind_congr' _ (fun s3 => ?_)
    rw [← walkRec_acts]

/-- the stored doubles that touch `root`, as keys of `doubles`: what the two removal loops of
`walk_doubles(root)` work on -/
def keysOf (s : Store) (root : Nat) : List (Nat × Nat) :=
  pqsOf s root ++ (qpsOf s root).map Prod.swap

theorem actsOf_frame0 (root : Nat) (s : Store) :
    actsOf (frame0 root s) = (keysOf s root).map (fun k => Act.rem k.1 k.2) ++
      (pqsOf s root ++ qpsOf s root).map (fun k => Act.go k.1 k.2) := by
  simp only [actsOf, frame0, keysOf, List.map_append, List.map_map, List.append_assoc]
  rfl

/-- a call of `walk_doubles(root)`: remove every stored double that touches `root`, then walk from
the other prime of each -/
theorem walkDoubles_frame (f root : Nat) (s : Store) :
    walkDoubles (f + 1) root s =
      if root + 1 ≥ W32 then throw .panic
      else walkLoop1 (walkDoubles f) (keysOf s root) s >>=
        walkRec (walkDoubles f) root (pqsOf s root ++ qpsOf s root) := by
  rw [walkDoubles_acts, actsOf_frame0]
  split
  · rfl
  · rw [runActs_append, ← walkLoop1_acts]
    exact bind_congr' _ (fun s2 => (walkRec_acts _ _ _ _).symm)

/-- A relation `R` between stores that composes, holds of every removal step started in a store
satisfying `P`, and carries `P` along. Such a relation holds of every walk (`StepRel.of_walkDoubles`):
the walk is a sequence of removal steps and nested walks. -/
structure StepRel (P : Store → Prop) (R : Store → Store → Prop) : Prop where
  refl : ∀ s, P s → R s s
  trans : ∀ {s s1 s2}, R s s1 → R s1 s2 → R s s2
  pres : ∀ {s s'}, P s → R s s' → P s'
  step : ∀ {p q s res}, P s → removeStep p q s = .ok res → R s res.2

theorem StepRel.actStep {P : Store → Prop} {R : Store → Store → Prop} (H : StepRel P R) {root : Nat}
    {a : Act} {s : Store} {res : StepRes × Store} (hp : P s)
    (h : Ymq.Relations.actStep root a s = .ok res) : R s res.2 := by
  cases a with
  | rem p q => exact H.step hp h
  | go a b => rw [(actStep_go_ok h).2]; exact H.refl s hp

section StepRel
variable {P : Store → Prop} {R : Store → Store → Prop} (H : StepRel P R)
  {w : Nat → Store → M Store} (hw : ∀ {x s s'}, P s → w x s = .ok s' → R s s')
include H hw

theorem StepRel.serve {s : Store} {q : StepRes × Store} {s' : Store} (hp : P s) (hr : R s q.2)
    (h : Ymq.Relations.serve w q = .ok s') : R s s' := by
  rcases serve_ok h with ⟨_, rfl⟩ | ⟨x, _, hx⟩
  · exact hr
  · exact H.trans hr (hw (H.pres hp hr) hx)

theorem StepRel.of_walkStep {p q : Nat} {s s' : Store} (hp : P s) (h : walkStep w p q s = .ok s') :
    R s s' := by
  rw [walkStep_eq_remove, bind_eq_ok] at h
  obtain ⟨res, hrs, h⟩ := h
  exact H.serve hw hp (H.step hp hrs) h

theorem StepRel.of_runActs (root : Nat) (l : List Act) (s s' : Store) (hp : P s)
    (h : runActs w root l s = .ok s') : R s s' :=
  (runActs_pres (Q := fun s1 => P s1 ∧ R s s1)
    (fun hq hres hs1 =>
      have r1 := H.serve hw hq.1 (H.actStep hq.1 hres) hs1
      ⟨H.pres hq.1 r1, H.trans hq.2 r1⟩) l s s' h ⟨hp, H.refl s hp⟩).2

theorem StepRel.of_walkLoop1 {l : List (Nat × Nat)} {s s' : Store} (hp : P s)
    (h : walkLoop1 w l s = .ok s') : R s s' :=
  -- removal actions do not read the root: any will do
  H.of_runActs hw 0 _ s s' hp (walkLoop1_acts w 0 l s ▸ h)

end StepRel

theorem StepRel.of_walkDoubles {P : Store → Prop} {R : Store → Store → Prop} (H : StepRel P R) :
    ∀ (f x : Nat) {s s' : Store}, P s → walkDoubles f x s = .ok s' → R s s' := by
  intro f
  induction f with
  | zero => intro x s s' _ h; exact (throw_ne_ok.mp h).elim
  | succ f ih =>
    intro x s s' hp h
    rw [walkDoubles_acts] at h
    split at h
    · exact (throw_ne_ok.mp h).elim
    · exact H.of_runActs (fun hp h => ih _ hp h) x _ s s' hp h

/-- a walker (it takes its fuel from the store it starts in) all of whose results are results of
the recursive walk, with some fuel -/
def IsWalk (wk : Nat → Store → M Store) : Prop :=
  ∀ x s s', wk x s = .ok s' → ∃ f, walkDoubles f x s = .ok s'

theorem isWalk_rec : IsWalk (fun x s => walkDoubles s.fuel x s) := fun _ _ _ h => ⟨_, h⟩

theorem walkLoop2_eq_loop1 (walk : Nat → Store → M Store) : ∀ (l : List (Nat × Nat)) (s : Store),
    walkLoop2 walk l s = walkLoop1 walk (l.map Prod.swap) s := by
  intro l
  induction l with
  | nil => intro s; rfl
  | cons k t ih =>
    obtain ⟨q, p⟩ := k
    intro s
    simp only [walkLoop2, List.map_cons, Prod.swap, walkLoop1]
    exact bind_congr' _ (fun s1 => ih s1)

theorem frameStep_acts (fr : WalkFrame) (s : Store) :
    frameStep fr s =
      match (actsOf fr)[fr.pos]? with
      | none => pure (.pop, s)
      | some a => actStep fr.root a s := by
  unfold frameStep actsOf
  simp only
  by_cases h1 : fr.pos < fr.pqs.length
  · rw [if_pos h1, List.getElem?_append_left (by simpa using h1), List.getElem?_map]
    rw [List.getElem?_eq_getElem h1]
    rfl
  · rw [if_neg h1, List.getElem?_append_right (by simpa using h1)]
    simp only [List.length_map]
    by_cases h2 : fr.pos < fr.pqs.length + fr.qps.length
    · rw [if_pos h2, List.getElem?_append_left (by simp; omega), List.getElem?_map]
      rw [List.getElem?_eq_getElem (by omega)]
      rfl
    · rw [if_neg h2, List.getElem?_append_right (by simp; omega)]
      simp only [List.length_map]
      by_cases h3 : fr.pos < 2 * fr.pqs.length + fr.qps.length
      · rw [if_pos h3, List.getElem?_append_left (by simp; omega), List.getElem?_map]
        rw [List.getElem?_eq_getElem (by omega)]
        rfl
      · rw [if_neg h3, List.getElem?_append_right (by simp; omega)]
        simp only [List.length_map]
        by_cases h4 : fr.pos < 2 * fr.pqs.length + 2 * fr.qps.length
        · rw [if_pos h4, List.getElem?_map]
          rw [show fr.pos - fr.pqs.length - fr.qps.length - fr.pqs.length =
            fr.pos - 2 * fr.pqs.length - fr.qps.length by omega]
          rw [List.getElem?_eq_getElem (by omega)]
          rfl
        · rw [if_neg h4, List.getElem?_map, List.getElem?_eq_none (by omega)]
          rfl

/-- `x` is out of fuel, or `x` and `y` are the same result: more fuel (recursion depth, loop
iterations) only moves a result up in this order, and the two formulations of the walk are compared
in it -/
def Le {α : Type} (x y : M α) : Prop := x = .error .fuel ∨ x = y

theorem Le.refl {α : Type} (x : M α) : Le x x := Or.inr rfl

theorem Le.trans {α : Type} {x y z : M α} (h1 : Le x y) (h2 : Le y z) : Le x z := by
  rcases h1 with h1 | rfl
  · exact Or.inl h1
  · exact h2

theorem Le.elim {α : Type} {x y R : M α} (h : Le x y) (hx : x = R) (hR : R ≠ .error .fuel) : y = R := by
  rcases h with h | rfl
  · exact absurd (hx.symm.trans h) hR
  · exact hx

theorem Le.bind {α β : Type} {x x' : M α} {f f' : α → M β} (hx : Le x x')
    (hf : ∀ a, x = .ok a → Le (f a) (f' a)) : Le (x >>= f) (x' >>= f') := by
  rcases hx with rfl | rfl
  · exact Or.inl rfl
  · cases x with
    | error e => exact Or.inr rfl
    | ok a => exact hf a rfl

theorem serve_le {w w' : Nat → Store → M Store} (q : StepRes × Store)
    (hw : ∀ x, q.1.req = some x → Le (w x q.2) (w' x q.2)) : Le (serve w q) (serve w' q) := by
  unfold serve
  cases hq : q.1.req with
  | none => exact Le.refl _
  | some x => exact hw x hq

def Refines (w w' : Nat → Store → M Store) : Prop := ∀ x s, Le (w x s) (w' x s)

theorem runActs_le {w w' : Nat → Store → M Store} (hw : Refines w w') (root : Nat) :
    ∀ (l : List Act) (s : Store), Le (runActs w root l s) (runActs w' root l s) := by
  intro l
  induction l with
  | nil => intro s; exact Le.refl _
  | cons a t ih =>
    intro s
    exact Le.bind (Le.refl _)
      (fun res _ => Le.bind (serve_le res (fun x _ => hw x res.2)) (fun s1 _ => ih s1))

theorem walkDoubles_fuel_succ : ∀ (f : Nat), Refines (walkDoubles f) (walkDoubles (f + 1)) := by
  intro f
  induction f with
  | zero => intro x s; exact Or.inl rfl
  | succ f ih =>
    intro x s
    rw [walkDoubles_acts, walkDoubles_acts]
    split
    · exact Le.refl _
    · exact runActs_le ih x _ s

theorem walkDoubles_fuel_le {f f' : Nat} (hle : f ≤ f') : Refines (walkDoubles f) (walkDoubles f') := by
  induction hle with
  | refl => intro x s; exact Le.refl _
  | step _ ih => intro x s; exact (ih x s).trans (walkDoubles_fuel_succ _ x s)

/-- recursive reading of a stack of frames: finish the top frame, then the ones below -/
def runStack (walk : Nat → Store → M Store) : List WalkFrame → Store → M Store
  | [], s => pure s
  | fr :: rest, s => runActs walk fr.root ((actsOf fr).drop fr.pos) s >>= runStack walk rest

theorem runStack_le {w w' : Nat → Store → M Store} (hw : Refines w w') :
    ∀ (st : List WalkFrame) (s : Store), Le (runStack w st s) (runStack w' st s) := by
  intro st
  induction st with
  | nil => intro s; exact Le.refl _
  | cons fr rest ih => intro s; exact Le.bind (runActs_le hw _ _ _) (fun s1 _ => ih s1)

theorem actsOf_pos (fr : WalkFrame) : actsOf { fr with pos := fr.pos + 1 } = actsOf fr := rfl

theorem drop_of_getElem? {α : Type} {l : List α} {i : Nat} {a : α} (h : l[i]? = some a) :
    l.drop i = a :: l.drop (i + 1) := by
  obtain ⟨hlt, rfl⟩ := List.getElem?_eq_some_iff.mp h
  exact List.drop_eq_getElem_cons hlt

theorem walkIter_succ (k : Nat) (top : WalkFrame) (rest : List WalkFrame) (s : Store) :
    walkIter (k + 1) (top :: rest) s = frameStep top s >>= fun r =>
      match r.1 with
      | .pop => walkIter k rest r.2
      | .next none => walkIter k ({ top with pos := top.pos + 1 } :: rest) r.2
      | .next (some x) => walkFrame x r.2 >>= fun f =>
          walkIter k (f :: { top with pos := top.pos + 1 } :: rest) r.2 := rfl

theorem walkIter_act {fr : WalkFrame} {pos : Nat} {a : Act} {s : Store}
    (ha : (actsOf fr)[pos]? = some a) (k : Nat) (rest : List WalkFrame) :
    walkIter (k + 1) ({ fr with pos := pos } :: rest) s =
      actStep fr.root a s >>= fun r =>
      match r.1 with
      | .pop => walkIter k rest r.2
      | .next none => walkIter k ({ fr with pos := pos + 1 } :: rest) r.2
      | .next (some x) => walkFrame x r.2 >>= fun f =>
          walkIter k (f :: { fr with pos := pos + 1 } :: rest) r.2 := by
  rw [walkIter_succ, frameStep_acts, show (actsOf { fr with pos := pos }) = actsOf fr from rfl]
  simp only
  rw [ha]

/-- one iteration of the loop on a frame with nothing left to do: `stack.pop()` -/
theorem walkIter_done {fr : WalkFrame} {pos : Nat} {s : Store} (ha : (actsOf fr)[pos]? = none)
    (k : Nat) (rest : List WalkFrame) :
    walkIter (k + 1) ({ fr with pos := pos } :: rest) s = walkIter k rest s := by
  rw [walkIter_succ, frameStep_acts, show (actsOf { fr with pos := pos }) = actsOf fr from rfl]
  simp only
  rw [ha]
  rfl

/-- The stack loop with `k` iterations against the recursive reading of the stack with nested walks of
recursion fuel `k`: a walk nested `k` deep has cost the loop more than `k` iterations. -/
theorem walkIter_le_runStack : ∀ (k : Nat) (st : List WalkFrame) (s : Store),
    Le (walkIter k st s) (runStack (walkDoubles k) st s) := by
  intro k
  induction k with
  | zero =>
    intro st s
    cases st with
    | nil => exact Le.refl _
    | cons top rest => exact Or.inl rfl
  | succ k ih =>
    intro st s
    cases st with
    | nil => exact Le.refl _
    | cons top rest =>
      have hw := walkDoubles_fuel_succ k
      have ih' : ∀ st s, Le (walkIter k st s) (runStack (walkDoubles (k + 1)) st s) :=
        fun st s => (ih st s).trans (runStack_le hw st s)
      simp only [runStack]
      -- pushing the frame of `x` = calling the recursive walk on `x`
      have hpush : ∀ (x : Nat) (s1 : Store),
          Le (walkFrame x s1 >>= fun f => walkIter k (f :: { top with pos := top.pos + 1 } :: rest) s1)
            (walkDoubles (k + 1) x s1 >>=
              runStack (walkDoubles (k + 1)) ({ top with pos := top.pos + 1 } :: rest)) := by
        intro x s1
        rw [walkFrame_eq, walkDoubles_acts]
        split
        · exact Le.refl _
        · have h1 := ih (frame0 x s1 :: { top with pos := top.pos + 1 } :: rest) s1
          simp only [runStack, frame0, List.drop_zero] at h1
          exact h1.trans (Le.bind (Le.refl _)
            (fun s2 _ => runStack_le hw ({ top with pos := top.pos + 1 } :: rest) s2))
      cases hact : (actsOf top)[top.pos]? with
      | none =>
        rw [List.drop_eq_nil_of_le (List.getElem?_eq_none_iff.mp hact),
          walkIter_done (fr := top) hact k rest]
        exact ih' rest s
      | some a =>
        rw [walkIter_act (fr := top) hact k rest, drop_of_getElem? hact]
        simp only [runActs, bind_assoc']
        refine Le.bind (Le.refl _) (fun res hrs => ?_)
        have hnp := actStep_not_pop hrs
        obtain ⟨r, s1⟩ := res
        cases r with
        | pop => exact absurd rfl hnp
        | next nx =>
          cases nx with
          | none => exact ih' ({ top with pos := top.pos + 1 } :: rest) s1
          | some x => exact hpush x s1

theorem walkStack_le_rec (k root : Nat) (s : Store) : Le (walkStack k root s) (walkDoubles (k + 1) root s) := by
  unfold walkStack
  rw [walkFrame_eq, walkDoubles_acts]
  split
  · exact Le.refl _
  · have h1 := walkIter_le_runStack k [frame0 root s] s
    simp only [runStack, frame0, List.drop_zero] at h1
    rw [bind_pure'] at h1
    exact h1

/-- the store after `doubles.insert(key, b); doubles_rev.insert((key.1, key.0))`, `key` the pair
in increasing order -/
@[reducible] def Store.insertDouble (s : Store) (p q : Nat) (b : List Nat) : Store :=
  { s with doubles := ainsert ltPair (if p < q then (p, q) else (q, p)) b s.doubles,
           doublesRev := sinsert ((if p < q then (p, q) else (q, p)).2,
             (if p < q then (p, q) else (q, p)).1) s.doublesRev }

/-- `RelationSet::add` up to the point where it starts a walk (`walk_doubles(r.cofactor)` after a
new single, the walk requested by `combine_double_step`) -/
def addHead (r : Relation) (pq : Option (Nat × Nat)) (s : Store) : M (StepRes × Store) :=
  if ¬ r.x < s.n then throw .debug
  else if r.cofactor = 1 then addCycle r s >>= fun s1 => pure (.next none, s1)
  else if r.cofactor < s.maxlarge then do
    let res ← combineSingle r { s with nPartials := s.nPartials + 1 }
    if res.1 then pure (.next none, res.2)
    else do
      let b ← pack r
      if r.cofactor ≥ W32 then throw .panic
      else pure (.next (some r.cofactor), res.2.setPartial r.cofactor b)
  else
    match pq with
    | none => pure (.next none, s)
    | some (p, q) =>
      if p ≥ W32 ∨ q ≥ W32 then throw .panic
      else do
        let st ← combineDoubleStep r p q { s with nDoubles := s.nDoubles + 1 }
        if st.1 then pure (.next st.2.1, st.2.2)
        else do
          let b ← pack r
          pure (.next none, Store.insertDouble st.2.2 p q b)

def addWith (wk : Nat → Store → M Store) (r : Relation) (pq : Option (Nat × Nat)) (s : Store) :
    M Store :=
  addHead r pq s >>= serve wk

theorem addWith_eq_ok {wk : Nat → Store → M Store} {r : Relation} {pq : Option (Nat × Nat)}
    {s s' : Store} : addWith wk r pq s = .ok s' ↔
      ∃ h1, addHead r pq s = .ok h1 ∧ serve wk h1 = .ok s' := bind_eq_ok

/-- the text of `add` and of `addStack`, with the walk (and where it takes its fuel) as a parameter -/
def addCode (wk : Store → Nat → Store → M Store) (r : Relation) (pq : Option (Nat × Nat))
    (s : Store) : M Store :=
  if ¬ r.x < s.n then throw .debug
  else if r.cofactor = 1 then addCycle r s
  else if r.cofactor < s.maxlarge then do
    let res ← combineSingle r { s with nPartials := s.nPartials + 1 }
    if res.1 then pure res.2
    else do
      let b ← pack r
      let s1 := res.2.setPartial r.cofactor b
      if r.cofactor ≥ W32 then throw .panic
      else wk s1 r.cofactor s1
  else
    match pq with
    | none => pure s
    | some (p, q) =>
      if p ≥ W32 ∨ q ≥ W32 then throw .panic
      else do
        let s0 := { s with nDoubles := s.nDoubles + 1 }
        let res ← combineDouble (wk s0) r p q s0
        if res.1 then pure res.2
        else do
          let key := if p < q then (p, q) else (q, p)
          let b ← pack r
          pure { res.2 with doubles := ainsert ltPair key b res.2.doubles,
                            doublesRev := sinsert (key.2, key.1) res.2.doublesRev }

/-- `add` is its head followed by the walk the head asks for. The code computes the walker's fuel
from the store before `combine_double_step`, the head hands over the store after it:
`combine_double_step` leaves `doubles` and `doubles_rev` alone, so the two fuels are the same. -/
theorem addCode_eq_head (wk : Store → Nat → Store → M Store)
    (hfuel : ∀ s s', s'.doubles = s.doubles → s'.doublesRev = s.doublesRev → wk s' = wk s)
    (r : Relation) (pq : Option (Nat × Nat)) (s : Store) :
    addCode wk r pq s = addWith (fun x s1 => wk s1 x s1) r pq s := by
  unfold addCode addWith addHead
  by_cases hx : ¬ r.x < s.n
  · rw [if_pos hx, if_pos hx]; rfl
  · rw [if_neg hx, if_neg hx]
    by_cases hc1 : r.cofactor = 1
    · rw [if_pos hc1, if_pos hc1, bind_assoc']
      exact (bind_pure' _).symm
    · rw [if_neg hc1, if_neg hc1]
      by_cases hlt : r.cofactor < s.maxlarge
      · rw [if_pos hlt, if_pos hlt, bind_assoc']
        refine bind_congr' _ (fun res => ?_)
        split
        · rfl
        · rw [bind_assoc']
          refine bind_congr' _ (fun b => ?_)
          split <;> rfl
      · rw [if_neg hlt, if_neg hlt]
        cases pq with
        | none => rfl
        | some pq =>
          obtain ⟨p, q⟩ := pq
          simp only
          split
          · rfl
          · rw [combineDouble_eq_step, bind_assoc', bind_assoc']
            refine bind_congr_ok _ (fun st hst => ?_)
            obtain ⟨hd, hr⟩ := combineDoubleStep_lists hst
            have hdec := combineDoubleStep_declined hst
            obtain ⟨ok, nx, s1⟩ := st
            cases nx with
            | none =>
              cases ok with
              | true => rfl
              | false =>
                simp only [afterStep, pure_bind', Bool.false_eq_true, if_false, bind_assoc']
                exact bind_congr' _ (fun b => rfl)
            | some x =>
              cases ok with
              | false => have := (hdec rfl).2.2.2; cases this
              | true =>
                simp only [afterStep, pure_bind', bind_assoc', if_true]
                rw [← hfuel _ s1 hd hr]
                exact bind_pure' _

theorem add_eq_addWith (r : Relation) (pq : Option (Nat × Nat)) (s : Store) :
    add r pq s = addWith (fun x s1 => walkDoubles s1.fuel x s1) r pq s :=
  addCode_eq_head (fun s0 => walkDoubles s0.fuel)
    (fun s s' hd _ => by unfold Store.fuel; rw [hd]) r pq s

theorem addStack_eq_addWith (r : Relation) (pq : Option (Nat × Nat)) (s : Store) :
    addStack r pq s = addWith (fun x s1 => walkStack s1.iterFuel x s1) r pq s := by
  rw [← addCode_eq_head (fun s0 => walkStack s0.iterFuel)
    (fun s s' hd hr => by unfold Store.iterFuel; rw [hd, hr])]
  unfold addStack addCode
  simp only [combineDouble_eq_step]
  rfl

/-- `run` folds `add` with the walker `wk` over a history -/
def IsRun (run : List (Relation × Option (Nat × Nat)) → Store → M Store)
    (wk : Nat → Store → M Store) : Prop :=
  (∀ s, run [] s = pure s) ∧ ∀ r pq t s, run ((r, pq) :: t) s = addWith wk r pq s >>= run t

theorem isRun_rec : IsRun runHistory (fun x s => walkDoubles s.fuel x s) :=
  ⟨fun _ => rfl, fun r pq t s => by rw [← add_eq_addWith]; rfl⟩

theorem isRun_stack : IsRun runHistoryStack (fun x s => walkStack s.iterFuel x s) :=
  ⟨fun _ => rfl, fun r pq t s => by rw [← addStack_eq_addWith]; rfl⟩

section History
variable {run : List (Relation × Option (Nat × Nat)) → Store → M Store}
  {wk : Nat → Store → M Store} (hrun : IsRun run wk) {P : Nat → Store → Prop}
  {C : Nat → Nat → Relation × Option (Nat × Nat) → Prop}
  (hstep : ∀ {i s r pq s'}, P i s → C s.n s.maxlarge (r, pq) → addWith wk r pq s = .ok s' →
    P (i + 1) s' ∧ s'.n = s.n ∧ s'.maxlarge = s.maxlarge)
include hrun hstep

/-- induction over a history: `P i` after `i` adds, for a contract `C` that reads only the modulus
and `maxlarge`, which no `add` changes -/
theorem IsRun.ind : ∀ (ops : List (Relation × Option (Nat × Nat))) (i : Nat) (s s' : Store), P i s →
    (∀ op ∈ ops, C s.n s.maxlarge op) → run ops s = .ok s' → P (i + ops.length) s' := by
  intro ops
  induction ops with
  | nil => intro i s s' hp _ h; rw [hrun.1] at h; rw [← pure_eq_ok.mp h]; exact hp
  | cons op t ih =>
    obtain ⟨r, pq⟩ := op
    intro i s s' hp hc h
    rw [hrun.2, bind_eq_ok] at h
    obtain ⟨s1, hs1, h⟩ := h
    obtain ⟨hp1, hn, hm⟩ := hstep hp (hc _ List.mem_cons_self) hs1
    have := ih (i + 1) s1 s' hp1
      (fun op hop => by rw [hn, hm]; exact hc op (List.mem_cons_of_mem _ hop)) h
    rwa [List.length_cons, Nat.add_comm t.length 1, ← Nat.add_assoc]

theorem IsRun.errIn {E : Err → Prop} {N : Nat}
    (herr : ∀ {i s r pq}, i < N → P i s → C s.n s.maxlarge (r, pq) → ErrIn E (addWith wk r pq s)) :
    ∀ (ops : List (Relation × Option (Nat × Nat))) (i : Nat) (s : Store), P i s →
      (∀ op ∈ ops, C s.n s.maxlarge op) → i + ops.length ≤ N → ErrIn E (run ops s) := by
  intro ops
  induction ops with
  | nil => intro i s _ _ _; rw [hrun.1]; exact ErrIn.pure _
  | cons op t ih =>
    obtain ⟨r, pq⟩ := op
    intro i s hp hc hN
    rw [List.length_cons] at hN
    rw [hrun.2]
    refine ErrIn.bind (herr (by omega) hp (hc _ List.mem_cons_self)) (fun s1 hs1 => ?_)
    obtain ⟨hp1, hn, hm⟩ := hstep hp (hc _ List.mem_cons_self) hs1
    exact ih (i + 1) s1 hp1
      (fun op hop => by rw [hn, hm]; exact hc op (List.mem_cons_of_mem _ hop)) (by omega)

end History

theorem addHead_ok {r : Relation} {pq : Option (Nat × Nat)} {s : Store} {h1 : StepRes × Store}
    (h : addHead r pq s = .ok h1) :
    r.x < s.n ∧
    ((r.cofactor = 1 ∧ h1.1 = .next none ∧ addCycle r s = .ok h1.2) ∨
     (r.cofactor ≠ 1 ∧ r.cofactor < s.maxlarge ∧
        ∃ res, combineSingle r { s with nPartials := s.nPartials + 1 } = .ok res ∧
          ((res.1 = true ∧ h1 = (.next none, res.2)) ∨
           (res.1 = false ∧ r.cofactor < W32 ∧ ∃ b, pack r = .ok b ∧
              h1 = (.next (some r.cofactor), res.2.setPartial r.cofactor b)))) ∨
     (r.cofactor ≠ 1 ∧ ¬ r.cofactor < s.maxlarge ∧ pq = none ∧ h1 = (.next none, s)) ∨
     (r.cofactor ≠ 1 ∧ ¬ r.cofactor < s.maxlarge ∧ ∃ p q, pq = some (p, q) ∧ p < W32 ∧ q < W32 ∧
        ((∃ st, combineDoubleStep r p q { s with nDoubles := s.nDoubles + 1 } = .ok st ∧ st.1 = true ∧
            h1 = (.next st.2.1, st.2.2)) ∨
         (p ≠ q ∧ alookup p s.partials = none ∧ alookup q s.partials = none ∧ ∃ b, pack r = .ok b ∧
            h1 = (.next none, Store.insertDouble { s with nDoubles := s.nDoubles + 1 } p q b))))) := by
  unfold addHead at h
  split at h
  · exact (throw_ne_ok.mp h).elim
  · rename_i hx
    refine ⟨not_not.mp hx, ?_⟩
    split at h
    · rename_i hc1
      simp only [bind_eq_ok, pure_eq_ok] at h
      obtain ⟨s1, hs1, rfl⟩ := h
      exact Or.inl ⟨hc1, rfl, hs1⟩
    · rename_i hc1
      refine Or.inr ?_
      split at h
      · rename_i hlt
        simp only [bind_eq_ok] at h
        obtain ⟨res, hres, h⟩ := h
        refine Or.inl ⟨hc1, hlt, res, hres, ?_⟩
        split at h
        · rename_i hd; exact Or.inl ⟨hd, (pure_eq_ok.mp h).symm⟩
        · rename_i hd
          simp only [bind_eq_ok] at h
          obtain ⟨b, hb, h⟩ := h
          split at h
          · exact (throw_ne_ok.mp h).elim
          · exact Or.inr ⟨by simpa using hd, by omega, b, hb, (pure_eq_ok.mp h).symm⟩
      · rename_i hlt
        refine Or.inr ?_
        split at h
        · exact Or.inl ⟨hc1, hlt, rfl, (pure_eq_ok.mp h).symm⟩
        · rename_i p q
          refine Or.inr ⟨hc1, hlt, p, q, rfl, ?_⟩
          split at h
          · exact (throw_ne_ok.mp h).elim
          · refine ⟨by omega, by omega, ?_⟩
            simp only [bind_eq_ok] at h
            obtain ⟨st, hst, h⟩ := h
            split at h
            · rename_i hd; exact Or.inl ⟨st, hst, hd, (pure_eq_ok.mp h).symm⟩
            · rename_i hd
              obtain ⟨hne, hlp, hlq, rfl⟩ := combineDoubleStep_declined hst (by simpa using hd)
              simp only [bind_eq_ok, pure_eq_ok] at h
              obtain ⟨b, hb, h⟩ := h
              exact Or.inr ⟨hne, hlp, hlq, b, hb, h.symm⟩

theorem StepRel.serve_isWalk {P : Store → Prop} {R : Store → Store → Prop} (H : StepRel P R)
    {w : Nat → Store → M Store} (hw : IsWalk w) {s : Store} {q : StepRes × Store} {s' : Store}
    (hp : P s) (hr : R s q.2) (h : Ymq.Relations.serve w q = .ok s') : R s s' :=
  H.serve (fun hp h => let ⟨f, hf⟩ := hw _ _ _ h; H.of_walkDoubles f _ hp hf) hp hr h

theorem isWalk_stack : IsWalk (fun x s => walkStack s.iterFuel x s) :=
  fun _ _ _ h => ⟨_, (walkStack_le_rec _ _ _).elim h (fun hc => by cases hc)⟩

theorem le_iterFuel (s : Store) : s.doubles.length ≤ s.iterFuel := by
  unfold Store.iterFuel
  simp only
  generalize s.doubles.length = a
  generalize s.doublesRev.length = b
  have h1 : a + b ≤ (a + b) * (a + b) * (a + b + 1) := by
    rcases Nat.eq_zero_or_pos (a + b) with h | h
    · rw [h]
    · calc a + b = (a + b) * 1 * 1 := by ring
        _ ≤ (a + b) * (a + b) * (a + b + 1) :=
          Nat.mul_le_mul (Nat.mul_le_mul_left _ h) (by omega)
  have : 2 * (a + b) * (a + b) * (a + b + 1) = 2 * ((a + b) * (a + b) * (a + b + 1)) := by ring
  omega

theorem addStack_eq_add {r : Relation} {pq : Option (Nat × Nat)} {s : Store} {R R' : M Store}
    (h : add r pq s = R) (hR : R ≠ .error .fuel) (h' : addStack r pq s = R')
    (hR' : R' ≠ .error .fuel) : R' = R := by
  rw [add_eq_addWith] at h
  rw [addStack_eq_addWith] at h'
  have big : ∀ s0 : Store, s0.fuel ≤ s0.iterFuel + 1 := fun s0 => by
    have := le_iterFuel s0; unfold Store.fuel; omega
  -- both are below `add` with the recursive walk of fuel `iterFuel + 1`
  have h1 := (Le.bind (f' := serve (fun x s1 => walkDoubles (s1.iterFuel + 1) x s1)) (Le.refl _)
    (fun q _ => serve_le q (fun x _ => walkDoubles_fuel_le (big q.2) x q.2))).elim h hR
  have h2 := (Le.bind (f' := serve (fun x s1 => walkDoubles (s1.iterFuel + 1) x s1)) (Le.refl _)
    (fun q _ => serve_le q (fun x _ => walkStack_le_rec _ x q.2))).elim h' hR'
  rw [← h1, ← h2]

end Ymq.Relations
