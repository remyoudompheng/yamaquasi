/-
`SparseMat::mulp`, one lane: under the bound the code assumes (row weight × entry bound `< 2^63`)
no `i64` operation overflows and the lane computes the sparse row–vector products modulo `p`.
-/
import Ymq.Model.Wiedemann
import Mathlib.Tactic.Ring
import Mathlib.Tactic.Linarith
import Mathlib.Algebra.Order.Ring.Int
import Mathlib.Algebra.Order.BigOperators.Group.List
import Mathlib.Algebra.BigOperators.Ring.List

namespace Ymq.Wied

/-- `Σ_j M_ij v_j` over ℤ for one row -/
def rowDot (col : Nat → Nat) (r : Row) : Int := sumSel (fun _ => true) (fun je => je.2 * (col je.1 : Int)) r

theorem I63_eq : I63 = 2 ^ 63 := by norm_num [I63]

theorem chkI64_some {z : Int} (h1 : -I63 ≤ z) (h2 : z < I63) : chkI64 z = some z := by
  simp [chkI64, h1, h2]

theorem asI64_small {a : Nat} (h : (a : Int) < I63) : asI64 a = a := by simp [asI64, h]

theorem sumSel_eq (sel : Int → Bool) (f : Nat × Int → Int) :
    ∀ r : Row, sumSel sel f r = ((r.filter fun je => sel je.2).map f).sum
  | [] => rfl
  | je :: r => by
    unfold sumSel
    rw [sumSel_eq sel f r, List.filter_cons]
    split <;> simp

theorem sumSel_le (sel : Int → Bool) (f g : Nat × Int → Int) (r : Row)
    (h : ∀ je ∈ r, sel je.2 = true → f je ≤ g je) : sumSel sel f r ≤ sumSel sel g r := by
  rw [sumSel_eq, sumSel_eq]
  exact List.sum_le_sum fun je hje => h je (List.mem_filter.mp hje).1 (List.mem_filter.mp hje).2

theorem sumSel_neg (sel : Int → Bool) (f : Nat × Int → Int) (r : Row) :
    sumSel sel (fun je => -f je) r = -sumSel sel f r := by
  rw [sumSel_eq, sumSel_eq, List.sum_neg, List.map_map]; rfl

theorem sumSel_bounds (sel : Int → Bool) (c wp wn : Nat × Int → Int) (r : Row)
    (h : ∀ je ∈ r, sel je.2 = true → -wn je ≤ c je ∧ c je ≤ wp je) :
    -sumSel sel wn r ≤ sumSel sel c r ∧ sumSel sel c r ≤ sumSel sel wp r :=
  ⟨sumSel_neg sel wn r ▸ sumSel_le sel _ c r fun je hje hs => (h je hje hs).1,
    sumSel_le sel c wp r fun je hje hs => (h je hje hs).2⟩

theorem sumSel_mul (sel : Int → Bool) (f : Nat × Int → Int) (Bd : Int) (r : Row) :
    sumSel sel (fun je => f je * Bd) r = sumSel sel f r * Bd := by
  rw [sumSel_eq, sumSel_eq, List.sum_map_mul_right]

theorem sumSel_nonneg (sel : Int → Bool) (f : Nat × Int → Int) (hf : ∀ je, 0 ≤ f je) (r : Row) :
    0 ≤ sumSel sel f r := by
  rw [sumSel_eq]
  exact List.sum_nonneg fun x hx => by obtain ⟨je, _, rfl⟩ := List.mem_map.mp hx; exact hf je

theorem sumSel_mem_le (sel : Int → Bool) (f : Nat × Int → Int) (hf : ∀ je, 0 ≤ f je) (r : Row)
    (a : Nat × Int) (ha : a ∈ r) (hs : sel a.2 = true) : f a ≤ sumSel sel f r := by
  rw [sumSel_eq]
  exact List.single_le_sum (fun x hx => by obtain ⟨je, _, rfl⟩ := List.mem_map.mp hx; exact hf je) _
    (List.mem_map_of_mem (List.mem_filter.mpr ⟨ha, hs⟩))

/-- generic accumulation pass: no overflow while the running value stays inside the budget -/
theorem accPass_spec (sel : Int → Bool) (term : Nat → Int → Option Int) (col : Nat → Nat)
    (c wp wn : Nat × Int → Int) (hwp : ∀ je, 0 ≤ wp je) (hwn : ∀ je, 0 ≤ wn je) :
    ∀ (r : Row) (x : Int),
      (∀ je ∈ r, sel je.2 = true → term (col je.1) je.2 = some (c je) ∧ -wn je ≤ c je ∧
        c je ≤ wp je) →
      -I63 ≤ x - sumSel sel wn r → x + sumSel sel wp r < I63 →
      accPass sel term col r x = some (x + sumSel sel c r)
  | [], x, _, _, _ => by simp [accPass, sumSel]
  | (j, e) :: r, x, h, h1, h2 => by
    have t1 := sumSel_nonneg sel wp hwp r
    have t2 := sumSel_nonneg sel wn hwn r
    unfold accPass
    by_cases hs : sel e = true
    · obtain ⟨g1, g2, g3⟩ := h (j, e) List.mem_cons_self hs
      have g4 := hwp (j, e)
      have g5 := hwn (j, e)
      simp only [sumSel, hs, if_true] at h1 h2 ⊢
      simp only at g1 g2 g3
      rw [g1]
      simp only
      rw [chkI64_some (by linarith) (by linarith)]
      simp only
      rw [accPass_spec sel term col c wp wn hwp hwn r (x + c (j, e))
        (fun je hje => h je (List.mem_cons_of_mem _ hje)) (by linarith) (by linarith)]
      congr 1; ring
    · simp only [sumSel, hs] at h1 h2 ⊢
      simp only [Bool.false_eq_true, if_false, zero_add] at h1 h2 ⊢
      exact accPass_spec sel term col c wp wn hwp hwn r x
        (fun je hje => h je (List.mem_cons_of_mem _ hje)) h1 h2

/-- The selectors of the three accumulation loops of `mulp` (`+1` entries, `-1` entries, the others),
and the positive / negative part of a coefficient: what it adds to `pos` / `neg` of `norm()`. -/
def selP : Int → Bool := fun e => e == 1
def selM : Int → Bool := fun e => e == -1
def selX : Int → Bool := fun e => e != 1 && e != -1
def pw (e : Int) : Int := if 0 < e then e else 0
def nw (e : Int) : Int := if e < 0 then -e else 0

theorem sel_cases (e : Int) :
    (e = 1 ∧ selP e = true ∧ selM e = false ∧ selX e = false) ∨
    (e = -1 ∧ selP e = false ∧ selM e = true ∧ selX e = false) ∨
    (e ≠ 1 ∧ e ≠ -1 ∧ selP e = false ∧ selM e = false ∧ selX e = true) := by
  by_cases h1 : e = 1
  · left; subst h1; decide
  · by_cases h2 : e = -1
    · right; left; subst h2; decide
    · right; right
      refine ⟨h1, h2, ?_, ?_, ?_⟩ <;> simp [selP, selM, selX, h1, h2]

theorem selP_eq {e : Int} (h : selP e = true) : e = 1 := by simpa [selP] using h
theorem selM_eq {e : Int} (h : selM e = true) : e = -1 := by simpa [selM] using h

/-- the three accumulation loops of a row partition its entries -/
theorem sumSel_split (f : Nat × Int → Int) : ∀ r : Row,
    sumSel (fun _ => true) f r = sumSel selP f r + sumSel selM f r + sumSel selX f r
  | [] => by simp [sumSel]
  | je :: r => by
    unfold sumSel
    rw [sumSel_split f r]
    rcases sel_cases je.2 with ⟨_, a, b, c⟩ | ⟨_, a, b, c⟩ | ⟨_, _, a, b, c⟩ <;>
      simp only [a, b, c, if_true, Bool.false_eq_true, if_false] <;> ring

theorem pw_sub_nw (e : Int) : pw e - nw e = e := by unfold pw nw; split <;> split <;> omega
theorem pw_nonneg (e : Int) : 0 ≤ pw e := by unfold pw; split <;> omega
theorem nw_nonneg (e : Int) : 0 ≤ nw e := by unfold nw; split <;> omega

/-- **one row of `mulp`**: if every entry of the lane's vector is at most `Bd < 2^63` and the
positive and the negative weight of the row times `Bd` stay below `2^63` (the code's assumption
`p * norm < 2^63` with `Bd = p - 1`), no `i64` operation overflows and the row yields
`(Σ_j M_ij v_j) mod p`. -/
theorem rowLane_spec (col : Nat → Nat) (Bd : Int) (hB0 : 0 ≤ Bd) (hcol : ∀ j, (col j : Int) ≤ Bd)
    (p : Nat) (hp0 : 0 < p) (hp : (p : Int) < I63) (r : Row)
    (hpos : posW r * Bd < I63) (hneg : negW r * Bd < I63) :
    rowLane col p r = some (rowDot col r % (p : Int)).toNat := by
  -- every entry contributes `c = e · v_j`, between `-wn` and `wp`
  let c : Nat × Int → Int := fun je => je.2 * (col je.1 : Int)
  let wp : Nat × Int → Int := fun je => pw je.2 * Bd
  let wn : Nat × Int → Int := fun je => nw je.2 * Bd
  have hc0 : ∀ j, (0 : Int) ≤ col j := fun j => Int.natCast_nonneg _
  have hwp : ∀ je, 0 ≤ wp je := fun je => mul_nonneg (pw_nonneg _) hB0
  have hwn : ∀ je, 0 ≤ wn je := fun je => mul_nonneg (nw_nonneg _) hB0
  have hX : ∀ je : Nat × Int, -wn je ≤ c je ∧ c je ≤ wp je := by
    intro je
    have h1 := mul_nonneg (pw_nonneg je.2) (hc0 je.1)
    have h2 := mul_nonneg (nw_nonneg je.2) (hc0 je.1)
    have h3 := mul_le_mul_of_nonneg_left (hcol je.1) (pw_nonneg je.2)
    have h4 := mul_le_mul_of_nonneg_left (hcol je.1) (nw_nonneg je.2)
    have e : je.2 * (col je.1 : Int) = pw je.2 * col je.1 - nw je.2 * col je.1 := by
      rw [← sub_mul, pw_sub_nw]
    show -(nw je.2 * Bd) ≤ je.2 * (col je.1 : Int) ∧ je.2 * (col je.1 : Int) ≤ pw je.2 * Bd
    rw [e]
    constructor <;> linarith
  -- the weights of the three loops add up to `pos · Bd`, `neg · Bd`
  have hP : sumSel selP wp r + sumSel selM wp r + sumSel selX wp r < I63 := by
    rw [← sumSel_split, sumSel_mul]; exact hpos
  have hN : sumSel selP wn r + sumSel selM wn r + sumSel selX wn r < I63 := by
    rw [← sumSel_split, sumSel_mul]; exact hneg
  have nP := sumSel_nonneg selP wp hwp r
  have nM := sumSel_nonneg selM wp hwp r
  have nX := sumSel_nonneg selX wp hwp r
  have nP' := sumSel_nonneg selP wn hwn r
  have nM' := sumSel_nonneg selM wn hwn r
  have nX' := sumSel_nonneg selX wn hwn r
  have b1 := sumSel_bounds selP c wp wn r (fun je _ _ => hX je)
  have b2 := sumSel_bounds selM c wp wn r (fun je _ _ => hX je)
  -- a product `e · v_j` is formed without overflow: a `v_j ≥ 2^63` would need `Bd ≥ 2^63`, and then
  -- the weight of the entry alone exceeds the budget
  have hterm : ∀ je ∈ r, ((col je.1 : Int) < I63 ∨ je.2 = 0) ∧
      chkI64 (je.2 * asI64 (col je.1)) = some (c je) := by
    intro je hje
    have w1 := sumSel_mem_le (fun _ => true) wp hwp r je hje rfl
    have w2 := sumSel_mem_le (fun _ => true) wn hwn r je hje rfl
    rw [sumSel_split] at w1 w2
    obtain ⟨x1, x2⟩ := hX je
    have hcj : (col je.1 : Int) < I63 ∨ je.2 = 0 := by
      by_cases h0 : je.2 = 0
      · right; exact h0
      · left
        by_contra hc
        have hBd : I63 ≤ Bd := le_trans (not_lt.mp hc) (hcol je.1)
        rcases lt_or_gt_of_ne h0 with hn' | hp'
        · have : I63 ≤ wn je := by
            show I63 ≤ nw je.2 * Bd
            unfold nw; rw [if_pos hn']
            exact le_trans hBd (le_mul_of_one_le_left hB0 (by omega))
          linarith
        · have : I63 ≤ wp je := by
            show I63 ≤ pw je.2 * Bd
            unfold pw; rw [if_pos hp']
            exact le_trans hBd (le_mul_of_one_le_left hB0 (by omega))
          linarith
    refine ⟨hcj, ?_⟩
    rcases hcj with hcj | hcj
    · rw [asI64_small hcj]
      exact chkI64_some (by linarith) (by linarith)
    · show chkI64 (je.2 * asI64 (col je.1)) = some (je.2 * (col je.1 : Int))
      rw [hcj, zero_mul, zero_mul]
      exact chkI64_some (by norm_num [I63]) (by norm_num [I63])
  have pass : ∀ (sel : Int → Bool) (term : Nat → Int → Option Int) (x : Int),
      (∀ je ∈ r, sel je.2 = true → term (col je.1) je.2 = some (c je)) →
      -I63 ≤ x - sumSel sel wn r → x + sumSel sel wp r < I63 →
      accPass sel term col r x = some (x + sumSel sel c r) := fun sel term x ht h1 h2 =>
    accPass_spec sel term col c wp wn hwp hwn r x
      (fun je hje hs => ⟨ht je hje hs, (hX je).1, (hX je).2⟩) h1 h2
  have e1 : accP1 col r 0 = some (0 + sumSel selP c r) :=
    pass selP _ 0 (fun je hje hs => by
      have he := selP_eq hs
      have := (hterm je hje).1.resolve_right (by omega)
      show some (asI64 (col je.1)) = some (je.2 * (col je.1 : Int))
      rw [asI64_small this, he, one_mul]) (by linarith) (by linarith)
  have e2 : accM1 col r (0 + sumSel selP c r) = some (0 + sumSel selP c r + sumSel selM c r) :=
    pass selM _ _ (fun je hje hs => by
      have he := selM_eq hs
      have := (hterm je hje).1.resolve_right (by omega)
      show some (-asI64 (col je.1)) = some (je.2 * (col je.1 : Int))
      rw [asI64_small this, he, neg_one_mul]) (by linarith) (by linarith)
  have e3 : accX col r (0 + sumSel selP c r + sumSel selM c r) = some (rowDot col r) := by
    refine (pass selX _ _ (fun je hje _ => (hterm je hje).2) (by linarith) (by linarith)).trans ?_
    rw [rowDot, sumSel_split, zero_add]
  have hrl : rowLane col p r = remEuclid (rowDot col r) p := by
    simp only [rowLane, e1, e2, e3]
  rw [hrl]
  have hq : asI64 p = (p : Int) := asI64_small hp
  have hq1 : ¬ ((p : Int) = -1) := by
    intro h; have := Int.natCast_nonneg p; rw [h] at this; exact absurd this (by norm_num)
  have hp0' : p ≠ 0 := Nat.pos_iff_ne_zero.mp hp0
  unfold remEuclid
  simp only [hq]
  rw [if_neg (by exact_mod_cast hp0'), if_neg (fun h => hq1 h.2)]


theorem foldl_max_ge (f : Row → Nat) : ∀ (m : Mat) (acc : Nat),
    acc ≤ m.foldl (fun a r => max a (f r)) acc ∧
      ∀ r ∈ m, f r ≤ m.foldl (fun a r => max a (f r)) acc
  | [], acc => ⟨le_refl _, fun r hr => by simp at hr⟩
  | r0 :: m, acc => by
    obtain ⟨h1, h2⟩ := foldl_max_ge f m (max acc (f r0))
    simp only [List.foldl_cons]
    refine ⟨le_trans (le_max_left _ _) h1, fun r hr => ?_⟩
    rcases List.mem_cons.mp hr with rfl | hr
    · exact le_trans (le_max_right _ _) h1
    · exact h2 r hr

theorem weight_le_norm (m : Mat) (r : Row) (hr : r ∈ m) :
    posW r ≤ (norm m : Int) ∧ negW r ≤ (norm m : Int) := by
  have h := (foldl_max_ge (fun r => (max (posW r) (negW r)).toNat) m 0).2 r hr
  have h' : ((max (posW r) (negW r)).toNat : Int) ≤ (norm m : Int) := by
    unfold norm; exact_mod_cast h
  have h1 := Int.self_le_toNat (max (posW r) (negW r))
  constructor
  · exact le_trans (le_trans (le_max_left _ _) h1) h'
  · exact le_trans (le_trans (le_max_right _ _) h1) h'

/-- the code's assumption `norm · Bd < 2^63` gives the row-wise hypothesis of `rowLane_spec` -/
theorem weights_of_norm (m : Mat) (Bd : Int) (hB0 : 0 ≤ Bd) (h : (norm m : Int) * Bd < I63) :
    ∀ r ∈ m, posW r * Bd < I63 ∧ negW r * Bd < I63 := by
  intro r hr
  obtain ⟨h1, h2⟩ := weight_le_norm m r hr
  exact ⟨lt_of_le_of_lt (mul_le_mul_of_nonneg_right h1 hB0) h,
    lt_of_le_of_lt (mul_le_mul_of_nonneg_right h2 hB0) h⟩

end Ymq.Wied
