/-
Lemmas about the model of `ZmodN`: `R` is prime to the odd `n`; entering Montgomery form
(`mul` by `r2`, `from_int`), and `inv`.
-/
import Ymq.Lemmas.ZmodNRedc

namespace Ymq.ZmodN
open Ymq.Limbs

theorem Valid.cop {c : Ctx} (h : Valid c) : Nat.Coprime c.n (W ^ c.k) :=
  two_pow_64 c.k ▸ Mont.coprime_two_pow h.nodd (64 * c.k)

theorem fromUint_length (x : Nat) : (fromUint x).length = 8 := by simp [fromUint, MW]
theorem fromUint_Wf (x : Nat) : Wf (fromUint x) := ofNat_Wf _ _
theorem fromUint_val {x : Nat} (h : x < W ^ 8) : val (fromUint x) = x := by
  simp only [fromUint, MW]; exact val_ofNat_of_lt h

theorem mul_r2_spec {c : Ctx} (h : Valid c) (m : List Nat) (hm : Wf m) (hlm : m.length = 8)
    (hvm : val m < c.n) :
    ∃ t, mul c m c.r2 = some t ∧ val t < c.n ∧ val t = val m * W ^ c.k % c.n ∧
      t.length = 8 ∧ Wf t := by
  obtain ⟨t, e1, e2, e3, e4, e5⟩ := mul_spec' h m c.r2 hm hlm h.r2len hvm
    (by rw [h.r2val]; exact Nat.mod_lt _ h.npos)
  rw [h.r2val] at e3
  exact ⟨t, e1, e2, Mont.eq_of_modEq_of_lt (Nat.ModEq.cancel_right_of_coprime h.cop
    (e3.trans (((Nat.mod_modEq _ _).mul_left _).trans (by rw [Nat.mul_assoc])))) e2, e4, e5⟩

theorem fromInt_spec {c : Ctx} (h : Valid c) (x : Nat) (hx : x < c.n) :
    ∃ m, fromInt c x = some m ∧ val m < c.n ∧ val m = x * W ^ c.k % c.n ∧ m.length = 8 ∧ Wf m := by
  have hx8 : x < W ^ 8 := lt_trans hx h.nlt8
  have := mul_r2_spec h (fromUint x) (fromUint_Wf x) (fromUint_length x)
    (by rw [fromUint_val hx8]; exact hx)
  rwa [fromUint_val hx8] at this

/-- `ZmodN::inv`, given what `arith_gcd::inv_mod` answers on this operand: an inverse of `val x`, or
`none` with `gcd(x, n) ≠ 1`. The oracle is consulted at `val x` only. -/
theorem inv_spec_at {c : Ctx} (h : Valid c) (invmod : Nat → Nat → Option Nat) (x : List Nat)
    (hi : match invmod (val x) c.n with
      | some i => i < c.n ∧ i * val x % c.n = 1 % c.n
      | none => Nat.gcd (val x) c.n ≠ 1) :
    (Nat.gcd (val x) c.n ≠ 1 ∧ inv invmod c x = some none) ∨
    (∃ r, inv invmod c x = some (some r) ∧ val r < c.n ∧
      val r * val x % c.n = W ^ c.k * W ^ c.k % c.n ∧ r.length = 8 ∧ Wf r) := by
  unfold inv
  cases hq : invmod (val x) c.n with
  | none => rw [hq] at hi; exact Or.inl ⟨hi, rfl⟩
  | some i =>
    rw [hq] at hi
    simp only [] at hi
    obtain ⟨hi1, hi2⟩ := hi
    obtain ⟨im, e1, e2, e3, e4, e5⟩ := fromInt_spec h i hi1
    obtain ⟨r, f1, f2, f3, f4, f5⟩ := mul_r2_spec h im e5 e4 e2
    right
    simp only [e1, f1]
    refine ⟨r, rfl, f2, ?_, f4, f5⟩
    have hr : val r ≡ i * W ^ c.k * W ^ c.k [MOD c.n] := by
      rw [f3, e3]; exact (Nat.mod_modEq _ _).trans ((Nat.mod_modEq _ _).mul_right _)
    have : i * W ^ c.k * W ^ c.k * val x = (i * val x) * (W ^ c.k * W ^ c.k) := by ring
    exact (hr.mul_right _).trans (this ▸ (Nat.ModEq.mul_right _ hi2).trans (by rw [Nat.one_mul]))

end Ymq.ZmodN
