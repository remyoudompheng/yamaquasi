/-
C14 "small", helper lemmas (Mathlib): base case of the block Lanczos invariant (the state built by `lanczosInit`
from the block returned by `genblock` satisfies `LInv` with history `[A·Y0]`), the loop with fuel by one induction
over the fuel (`lanczosLoop_rule`), and the assertions after the loop under `LInv`.
-/
import Ymq.Lemmas.Gf2SmallLoopIter
import Ymq.Lemmas.Gf2SmallInverse

namespace Ymq.Gf2Small
open Ymq.Gf2 Ymq.Gf2Genblock Ymq.Gf2Lanczos
open scoped Matrix

theorem projS_M64 : projS M64 = 1 := by
  rw [projS, ← Matrix.diagonal_one]
  congr 1
  funext t
  have : M64.testBit t.1 = true := by
    rw [M64, Nat.testBit_two_pow_sub_one]; simp [t.2]
  rw [this]; rfl

theorem lanczosInit_inv {k : Nat} {cols : List (List Nat)} (hM : MatOK k cols) (dbg : Bool) {Y0 ay : List Nat}
    {st : LState} (hY0 : BlockOK cols.length Y0)
    (h : lanczosInit dbg (qsOptimize k cols) Y0 = some (st, ay)) :
    mulAabOpt (qsOptimize k cols) Y0 = some ay ∧ LInv k cols Y0 st [ay] [M64] := by
  obtain ⟨ay', hay', hayOK⟩ := mulAabOpt_ok hM hY0
  obtain ⟨bay, hbay, hbayOK⟩ := optMul_ok hM hayOK
  obtain ⟨g, hg, hgl, hglt⟩ := blockDot_ok (x := bay) hbayOK.1 hbayOK
  obtain ⟨aa, haa, haal, haalt, haaM⟩ := dot_aab hM hayOK.1 hayOK hay'
  unfold lanczosInit at h
  rw [hay'] at h
  simp only [hbay, hg] at h
  split at h
  · rename_i ginv hinv
    simp only [haa] at h
    obtain ⟨hil, -, hiM⟩ := inverse_some (n := 64) (dbg := dbg) (M := g) (fun i _ => row_lt_of_mem hglt i) hinv
    obtain ⟨y, hy, hyOK, hyM⟩ := muladd_mul hY0 hayOK.1 hil haal haalt haaM
    rw [hy] at h
    simp only [Option.some.injEq, Prod.mk.injEq] at h
    obtain ⟨h1, h2⟩ := h
    subst h1; subst h2
    -- the first block is kept with the whole mask: `projS M64 = 1`
    have hK : KeptOK k cols ay' ginv M64 :=
      { wOK := hayOK, igLen := hil
        masked := by rw [projS_M64, Matrix.mul_one]
        igP := by rw [projS_M64, Matrix.mul_one]
        pIg := by rw [projS_M64, Matrix.one_mul]
        inv := by rw [projS_M64, ← hiM, toMat_gram hM hbay hbayOK.1 hg] }
    have hj0 : ∀ {j}, j < [ay'].length → j = 0 := fun hj => Nat.lt_one_iff.mp hj
    refine ⟨hay', ?_⟩
    exact {
      wf := { lenV := rfl, lenI := rfl, lenM := rfl
              wsOK := fun w hw => by rw [List.mem_singleton.mp hw]; exact Or.inr hayOK
              lastW := ⟨_, rfl, hayOK⟩, lastV := ⟨_, rfl, hayOK⟩, yOK := hyOK }
      lenH := rfl
      lenS := rfl
      histOK := fun j hj => by rw [hj0 hj]; exact hayOK
      kept := by
        intro j w hjw hne
        have := hj0 (List.getElem?_eq_some_iff.mp hjw).1
        subst this
        simp only [List.getElem?_cons_zero, Option.some.injEq] at hjw
        subst hjw
        exact ⟨rfl, ginv, rfl, hK⟩
      orth := fun j l hj hl hne => absurd ((hj0 hj).trans (hj0 hl).symm) hne
      yAll := fun j hj => by rw [hj0 hj]; exact hK.proj_orth hyM rfl
      yOrth := by
        intro X hX hall
        have hXa : Q k cols X ay' = 0 := hall 0 Nat.zero_lt_one
        show (CM cols.length X)ᵀ * gramA k cols * (CM cols.length y + CM cols.length Y0) = 0
        rw [hyM, add_right_comm, ZModModule.add_self, zero_add, ← Matrix.mul_assoc]
        show Q k cols X ay' * _ = 0
        rw [hXa, Matrix.zero_mul] }
  · cases h

theorem lanczosInit_wf {k : Nat} {cols : List (List Nat)} (hM : MatOK k cols) (dbg : Bool) {y0 ay : List Nat}
    {st : LState} (hy0 : BlockOK cols.length y0)
    (h : lanczosInit dbg (qsOptimize k cols) y0 = some (st, ay)) :
    WFL cols.length st ∧ BlockOK cols.length ay := by
  obtain ⟨hay, hInv⟩ := lanczosInit_inv hM dbg hy0 h
  obtain ⟨ay', hay', hayOK⟩ := mulAabOpt_ok hM hy0
  rw [hay] at hay'; cases hay'
  exact ⟨hInv.wf, hayOK⟩

/-- `n` iterations of the main loop that all continued -/
inductive IterN (dbg : Bool) (b : SparseOpt) (ay : List Nat) : Nat → LState → LState → Prop
  | zero (st : LState) : IterN dbg b ay 0 st st
  | succ {n : Nat} {st st' st'' : LState} {mk : Nat} :
      lanczosStep dbg b ay st = .continue st' mk → IterN dbg b ay n st' st'' → IterN dbg b ay (n + 1) st st''

/-- The loop rule. `I` is kept by every continuing iteration, and a state of `I` never panics (an iteration that
finishes passes the assertions after the loop): a run that answers `none` ran out of fuel. -/
theorem lanczosLoop_rule {dbg : Bool} {b : SparseOpt} {ay : List Nat} (I : LState → Prop)
    (hstep : ∀ st, I st →
      (∃ st', lanczosStep dbg b ay st = .finished st' ∧ ∀ fuel acc, lanczosLoop dbg b ay (fuel + 1) st acc ≠ none) ∨
      (∃ st' mk, lanczosStep dbg b ay st = .continue st' mk ∧ I st')) (fuel : Nat) :
    ∀ (st : LState) (acc : List (Nat × List Nat × List Nat)), I st → lanczosLoop dbg b ay fuel st acc = none →
    ∃ st', IterN dbg b ay fuel st st' := by
  induction fuel with
  | zero => intro st _ _ _; exact ⟨st, .zero st⟩
  | succ fuel ih =>
    intro st acc hI hnone
    rcases hstep st hI with ⟨st', _, hfin⟩ | ⟨st', mk, hs, hI'⟩
    · exact absurd hnone (hfin fuel acc)
    · unfold lanczosLoop at hnone
      rw [hs] at hnone
      obtain ⟨st'', hit⟩ := ih st' _ hI' hnone
      exact ⟨st'', .succ hs hit⟩

theorem IterN.inv {dbg : Bool} {b : SparseOpt} {ay : List Nat} (I : LState → Prop)
    (hstep : ∀ st st' mk, I st → lanczosStep dbg b ay st = .continue st' mk → I st')
    {n : Nat} {st st' : LState} (hit : IterN dbg b ay n st st') : I st → I st' := by
  induction hit with
  | zero st => exact id
  | succ hs _ ih => exact fun h => ih (hstep _ _ _ h hs)

theorem finished_release {b : SparseOpt} {ay : List Nat} {st st' : LState}
    (hs : lanczosStep false b ay st = .finished st') (fuel : Nat) (acc : List (Nat × List Nat × List Nat)) :
    lanczosLoop false b ay (fuel + 1) st acc ≠ none := by
  unfold lanczosLoop; rw [hs]; simp

theorem lanczosLoop_release {k : Nat} {cols : List (List Nat)} (hM : MatOK k cols) {ay : List Nat}
    (hay : BlockOK cols.length ay) (fuel : Nat) (st : LState) (acc : List (Nat × List Nat × List Nat))
    (hwf : WFL cols.length st) (hnone : lanczosLoop false (qsOptimize k cols) ay fuel st acc = none) :
    ∃ st', IterN false (qsOptimize k cols) ay fuel st st' :=
  lanczosLoop_rule (WFL cols.length) (fun st h => by
    rcases lanczosStep_release_ok hM hay h with ⟨st', hs, _⟩ | ⟨st', mk, hs, hwf'⟩
    · exact Or.inl ⟨st', hs, finished_release hs⟩
    · exact Or.inr ⟨st', mk, hs, hwf'⟩) fuel st acc hwf hnone

/-- every block of the history is still projected: nothing purged, nothing consumed -/
def AllProjected (st : LState) : Prop :=
  ∀ j, j < st.ws.length → Projected st.ws st.masks st.ws.length j

/-- the assertions after the loop (`w * mul_aab(b, y) == 0` for every block not purged) -/
theorem afterLoop_ok {k : Nat} {cols : List (List Nat)} (hM : MatOK k cols) {Y0 : List Nat} {st st' : LState}
    {hist : List (List Nat)} {Ss : List Nat} (hInv : LInv k cols Y0 st hist Ss) (hy : st'.y = st.y)
    (hsub : ∀ w ∈ st'.ws, w.isEmpty = false → ∃ j : Nat, st.ws[j]? = some w) :
    ∃ ayy, mulAabOpt (qsOptimize k cols) st'.y = some ayy ∧
      ∀ w ∈ st'.ws, w.isEmpty = false → blockDot w ayy = some zeros64 := by
  obtain ⟨ayy, hayy, hayyOK⟩ := mulAabOpt_ok hM hInv.wf.yOK
  refine ⟨ayy, by rw [hy]; exact hayy, fun w hw hne => ?_⟩
  obtain ⟨j, hj⟩ := hsub w hw hne
  obtain ⟨e, _, _, hK⟩ := hInv.kept j w hj hne
  exact dot_aab_zero hM hK.wOK.1 hayyOK hayy (e ▸ hInv.yAll j (List.getElem?_eq_some_iff.mp hj).1)

theorem lanczosLoop_finished {k : Nat} {cols : List (List Nat)} (hM : MatOK k cols) {Y0 ay : List Nat}
    {st st' : LState} {hist : List (List Nat)} {Ss : List Nat} (hInv : LInv k cols Y0 st hist Ss)
    (hs : lanczosStep true (qsOptimize k cols) ay st = .finished st') (hy : st'.y = st.y)
    (hsub : ∀ w ∈ st'.ws, w.isEmpty = false → ∃ j : Nat, st.ws[j]? = some w)
    (fuel : Nat) (acc : List (Nat × List Nat × List Nat)) :
    lanczosLoop true (qsOptimize k cols) ay (fuel + 1) st acc ≠ none := by
  intro hnone
  unfold lanczosLoop at hnone
  rw [hs] at hnone
  simp only [] at hnone
  obtain ⟨ayy, hayy, hz⟩ := afterLoop_ok hM hInv hy hsub
  rw [hayy] at hnone
  simp only [] at hnone
  split at hnone
  · rename_i hcond
    simp only [Bool.true_and, List.any_eq_true, Bool.and_eq_true, Bool.not_eq_true', bne_iff_ne, ne_eq] at hcond
    obtain ⟨w, hw, hne, hnz⟩ := hcond
    exact absurd (hz w hw hne) hnz
  · cases hnone

theorem lanczosLoop_release_y {k : Nat} {cols : List (List Nat)} (hM : MatOK k cols) {ay : List Nat}
    (hay : BlockOK cols.length ay) (fuel : Nat) :
    ∀ (st st' : LState) (acc its : List (Nat × List Nat × List Nat)), WFL cols.length st →
    lanczosLoop false (qsOptimize k cols) ay fuel st acc = some (st', its) → BlockOK cols.length st'.y := by
  induction fuel with
  | zero => intro st st' acc its _ h; simp [lanczosLoop] at h
  | succ fuel ih =>
    intro st st' acc its hwf h
    unfold lanczosLoop at h
    rcases lanczosStep_release_ok hM hay hwf with ⟨st1, hs, hy⟩ | ⟨st1, mk, hs, hwf'⟩
    · rw [hs] at h
      simp only [Bool.false_and, Bool.false_eq_true, if_false, Option.some.injEq, Prod.mk.injEq] at h
      rw [← h.1, hy]; exact hwf.yOK
    · rw [hs] at h
      simp only [] at h
      exact ih st1 st' _ its hwf' h

end Ymq.Gf2Small
