/-
C14 (core Lean only): sparse matrices and blocks of 64 vectors. Bit-level specification of
`&Block * &Block` (`blockDot_spec`) and, through `prodBitFrom`, of `impl Mul<&Block> for &SparseMat`
(`spMul_spec`) and of `qs_optimize` followed by `impl Mul<&Block> for &SparseMatOpt` (`optMul_spec`);
the two products are equal and do not depend on the order of the coordinate list.
-/
import Ymq.Lemmas.Gf2Basic
namespace Ymq.Gf2

/-- word `i` of an array, `0` outside (the vocabulary of the bit-level statements about `out[i] ^= rhs[j]`) -/
def cell (a : Array Nat) (i : Nat) : Nat := (a[i]?).getD 0

/-- entry `(i, column)` of the matrix denoted by a sparse column: repeated indices cancel in pairs
(`out[i] ^= row` for every occurrence, `impl Mul<&Block> for &SparseMat`). -/
def colParity (col : List Nat) (i : Nat) : Bool := xsum (col.map (fun a => a == i))

/-- bit `t` of row `i` of the product `B · Y`, columns `cols` against the words `rhs[j], rhs[j+1], …` -/
def prodBitFrom (rhs : Array Nat) (i t : Nat) : Nat → List (List Nat) → Bool
  | _, [] => false
  | j, col :: cols => ((colParity col i && (cell rhs j).testBit t) ^^ prodBitFrom rhs i t (j + 1) cols)

theorem cell_modify (out : Array Nat) (i0 i : Nat) (f : Nat → Nat) (h : i0 < out.size) :
    cell (out.modify i0 f) i = if i0 = i then f (cell out i) else cell out i := by
  unfold cell
  rw [Array.getElem?_modify]
  split
  · rename_i he; subst he
    simp [Array.getElem?_eq_getElem h]
  · rfl

theorem cell_of_ge (out : Array Nat) (i : Nat) (h : out.size ≤ i) : cell out i = 0 := by
  unfold cell; rw [Array.getElem?_eq_none h]; rfl

theorem getD_toList (out : Array Nat) (i : Nat) : out.toList.getD i 0 = cell out i := by
  simp [cell, List.getD]

theorem prodBitFrom_eq (rhs : Array Nat) (i t j : Nat) (cols : List (List Nat)) :
    prodBitFrom rhs i t j cols = xsum ((List.range cols.length).map (fun c =>
      (colParity (cols.getD c []) i && (cell rhs (j + c)).testBit t))) := by
  induction cols generalizing j with
  | nil => rfl
  | cons col cols ih =>
    rw [prodBitFrom, ih, List.length_cons, xsum_range_succ']
    simp only [List.getD_cons_zero, List.getD_cons_succ, Nat.add_zero, Nat.add_assoc, Nat.add_comm 1]

theorem applyCoords_some (rhs : Array Nat) (cs : List (Nat × Nat)) (out : Array Nat)
    (h : ∀ c ∈ cs, c.1 < out.size ∧ c.2 < rhs.size) : ∃ out', applyCoords rhs cs out = some out' := by
  induction cs generalizing out with
  | nil => exact ⟨out, rfl⟩
  | cons c cs ih =>
    obtain ⟨i0, j0⟩ := c
    obtain ⟨h1, h2⟩ := h (i0, j0) (by simp)
    simp only [applyCoords, Array.getElem?_eq_getElem h2, h1, if_true]
    exact ih _ (fun c hc => by simpa using h c (by simp [hc]))

theorem applyCoords_spec (rhs : Array Nat) (cs : List (Nat × Nat)) (out out' : Array Nat)
    (h : applyCoords rhs cs out = some out') :
    out'.size = out.size ∧ ∀ i t, (cell out' i).testBit t =
      ((cell out i).testBit t ^^ xsum (cs.map (fun c => (c.1 == i && (cell rhs c.2).testBit t)))) := by
  induction cs generalizing out with
  | nil =>
    simp only [applyCoords, Option.some.injEq] at h
    subst h; simp
  | cons c cs ih =>
    obtain ⟨i0, j0⟩ := c
    simp only [applyCoords] at h
    split at h
    · simp at h
    · rename_i row hrow
      split at h
      · rename_i hi0
        obtain ⟨hs, hb⟩ := ih _ h
        refine ⟨by simpa using hs, fun i t => ?_⟩
        rw [hb i t, cell_modify _ _ _ _ hi0]
        have hcell : cell rhs j0 = row := by simp [cell, hrow]
        simp only [List.map_cons, xsum_cons, hcell]
        by_cases he : i0 = i
        · subst he
          simp [Nat.testBit_xor]
        · have : (i0 == i) = false := by simpa using he
          simp [he, this]
      · simp at h

theorem xsum_map_beq_and (col : List Nat) (i : Nat) (b : Bool) :
    xsum (col.map (fun a => (a == i && b))) = (colParity col i && b) := by
  unfold colParity
  induction col with
  | nil => simp
  | cons a col ih =>
    simp only [List.map_cons, xsum_cons, ih]
    cases (a == i) <;> cases b <;> simp


theorem spMulAux_some (rhs : Array Nat) (j : Nat) (cols : List (List Nat)) (out : Array Nat)
    (hj : j + cols.length ≤ rhs.size) (hwf : ∀ col ∈ cols, ∀ a ∈ col, a < out.size) :
    ∃ out', spMulAux rhs j cols out = some out' := by
  induction cols generalizing j out with
  | nil => exact ⟨out, rfl⟩
  | cons col cols ih =>
    obtain ⟨o1, h1⟩ := applyCoords_some rhs (col.map (fun i => (i, j))) out (fun c hc => by
      simp only [List.mem_map] at hc
      obtain ⟨a, ha, rfl⟩ := hc
      exact ⟨hwf col (by simp) a ha, by simp at hj ⊢; omega⟩)
    have hs := (applyCoords_spec _ _ _ _ h1).1
    obtain ⟨o2, h2⟩ := ih (j + 1) o1 (by simp at hj ⊢; omega)
      (fun c hc a ha => by rw [hs]; exact hwf c (by simp [hc]) a ha)
    exact ⟨o2, by simp only [spMulAux, h1]; exact h2⟩

theorem spMulAux_spec (rhs : Array Nat) (j : Nat) (cols : List (List Nat)) (out out' : Array Nat)
    (h : spMulAux rhs j cols out = some out') :
    out'.size = out.size ∧ ∀ i t, (cell out' i).testBit t =
      ((cell out i).testBit t ^^ prodBitFrom rhs i t j cols) := by
  induction cols generalizing j out with
  | nil =>
    simp only [spMulAux, Option.some.injEq] at h
    subst h; simp [prodBitFrom]
  | cons col cols ih =>
    simp only [spMulAux] at h
    split at h
    · simp at h
    · rename_i o1 h1
      obtain ⟨hs1, hb1⟩ := applyCoords_spec _ _ _ _ h1
      obtain ⟨hs2, hb2⟩ := ih _ _ h
      refine ⟨by rw [hs2, hs1], fun i t => ?_⟩
      rw [hb2 i t, hb1 i t, prodBitFrom, List.map_map]
      have : xsum (col.map ((fun c : Nat × Nat => (c.1 == i && (cell rhs c.2).testBit t)) ∘ fun a => (a, j))) =
          (colParity col i && (cell rhs j).testBit t) := by
        simpa [Function.comp_def] using xsum_map_beq_and col i ((cell rhs j).testBit t)
      rw [this, Bool.xor_assoc]

theorem testBit_one_shiftLeft (a i : Nat) : (1 <<< a).testBit i = (a == i) := by
  rw [Nat.one_shiftLeft, Nat.testBit_two_pow]
  by_cases h : a = i <;> simp [h]

theorem testBit_denseWord_aux (col : List Nat) (d i : Nat) :
    (col.foldl (fun d a => if a < 64 then d ^^^ (1 <<< a) else d) d).testBit i =
      (d.testBit i ^^ (decide (i < 64) && colParity col i)) := by
  induction col generalizing d with
  | nil => simp [colParity]
  | cons a col ih =>
    simp only [List.foldl_cons, ih]
    have hp : colParity (a :: col) i = ((a == i) ^^ colParity col i) := by simp [colParity]
    rw [hp]
    by_cases ha : a < 64
    · simp only [ha, if_true, Nat.testBit_xor, testBit_one_shiftLeft]
      by_cases hi : i < 64
      · simp [hi]
      · have : (a == i) = false := by simp; omega
        simp [hi, this]
    · simp only [ha, if_false]
      by_cases hi : i < 64
      · have : (a == i) = false := by simp; omega
        simp [hi, this]
      · simp [hi]

theorem testBit_denseWord (col : List Nat) (i : Nat) :
    (denseWord col).testBit i = (decide (i < 64) && colParity col i) := by
  unfold denseWord
  rw [testBit_denseWord_aux]; simp

theorem testBit_foldl_sel {α} (l : List α) (sel : α → Bool) (val : α → Nat) (w t : Nat) :
    (l.foldl (fun acc p => if sel p then acc ^^^ val p else acc) w).testBit t =
      (w.testBit t ^^ xsum (l.map (fun p => (sel p && (val p).testBit t)))) := by
  induction l generalizing w with
  | nil => simp
  | cons p l ih =>
    simp only [List.foldl_cons, ih, List.map_cons, xsum_cons]
    cases sel p <;> simp [Nat.testBit_xor]


theorem blockDot_spec {x y : List Nat} (h : x.length = y.length) :
    ∃ d, blockDot x y = some d ∧ d.length = 64 ∧ ∀ i t, (d.getD i 0).testBit t =
      (decide (i < 64) && xsum ((List.zip x y).map (fun p => (p.1.testBit i && p.2.testBit t)))) := by
  refine ⟨_, if_pos h, by simp, fun i t => ?_⟩
  rw [List.getD_eq_getElem?_getD, List.getElem?_map]
  by_cases hi : i < 64
  · rw [List.getElem?_range hi, Option.map_some, Option.getD_some, testBit_foldl_sel]
    simp [hi]
  · rw [List.getElem?_eq_none (by simpa using hi)]
    simp [hi]

theorem cell_append_zeros (d : List Nat) (n i : Nat) : cell (d ++ List.replicate n 0).toArray i = d.getD i 0 := by
  simp only [cell, List.getElem?_toArray, List.getD_eq_getElem?_getD]
  by_cases h : i < d.length
  · rw [List.getElem?_append_left h]
  · rw [List.getElem?_append_right (by omega), List.getElem?_eq_none (l := d) (by omega), List.getElem?_replicate]
    split <;> rfl

theorem colParity_filter_ge (col : List Nat) (i : Nat) :
    colParity (col.filter (fun a => ¬ a < 64)) i = (decide (64 ≤ i) && colParity col i) := by
  unfold colParity
  induction col with
  | nil => simp
  | cons a col ih =>
    by_cases ha : a < 64
    · simp only [List.filter_cons, ha, not_true_eq_false, decide_false, Bool.false_eq_true, if_false, ih,
        List.map_cons, xsum_cons]
      by_cases hi : 64 ≤ i
      · have : (a == i) = false := by simp; omega
        simp [hi, this]
      · simp [hi]
    · simp only [List.filter_cons, ha, not_false_eq_true, decide_true, if_true, List.map_cons, xsum_cons, ih]
      by_cases hi : 64 ≤ i
      · simp [hi]
      · have : (a == i) = false := by simp; omega
        simp [hi, this]

/-- below `2^32` the coordinates of a column are stored exactly -/
theorem coordsOf_eq (j k : Nat) (col : List Nat) (hk : k ≤ U32) (hj : j < U32) (hwf : ∀ a ∈ col, a < k) :
    coordsOf j col = (col.filter (fun a => ¬ a < 64)).map (fun a => (a, j)) := by
  unfold coordsOf
  apply List.map_congr_left
  intro a ha
  have ha' : a < k := hwf a (List.mem_filter.mp ha).1
  rw [Nat.mod_eq_of_lt hj, Nat.mod_eq_of_lt (show a < U32 by omega)]

theorem xsum_coordsFrom_eq (g : Nat × Nat → Bool) (j k : Nat) (cols : List (List Nat)) (hk : k ≤ U32)
    (hj : j + cols.length ≤ U32) (hwf : ∀ col ∈ cols, ∀ a ∈ col, a < k) :
    xsum ((coordsFrom j cols).map g) = xsum ((List.range cols.length).map (fun c =>
      xsum (((cols.getD c []).filter (fun a => ¬ a < 64)).map (fun a => g (a, j + c))))) := by
  induction cols generalizing j with
  | nil => rfl
  | cons col cols ih =>
    rw [List.length_cons] at hj
    rw [coordsFrom, List.map_append, xsum_append, coordsOf_eq j k col hk (by omega) (hwf col (by simp)),
      ih (j + 1) (by omega) (fun c hc => hwf c (by simp [hc])), List.length_cons, xsum_range_succ', List.map_map]
    simp only [List.getD_cons_zero, List.getD_cons_succ, Nat.add_zero, Nat.add_assoc, Nat.add_comm 1]
    rfl

theorem xsum_coordsFrom (rhs : Array Nat) (i t j k : Nat) (cols : List (List Nat)) (hk : k ≤ U32)
    (hj : j + cols.length ≤ U32) (hwf : ∀ col ∈ cols, ∀ a ∈ col, a < k) :
    xsum ((coordsFrom j cols).map (fun c => (c.1 == i && (cell rhs c.2).testBit t))) =
      (decide (64 ≤ i) && prodBitFrom rhs i t j cols) := by
  rw [xsum_coordsFrom_eq _ j k cols hk hj hwf, prodBitFrom_eq, ← xsum_map_and]
  exact xsum_map_congr (fun c _ =>
    (xsum_map_beq_and ((cols.getD c []).filter fun a => ¬ a < 64) i ((cell rhs (j + c)).testBit t)).trans
      (by rw [colParity_filter_ge, Bool.and_assoc]))

theorem mem_coordsFrom (j k : Nat) (cols : List (List Nat)) (hk : k ≤ U32) (hj : j + cols.length ≤ U32)
    (hwf : ∀ col ∈ cols, ∀ a ∈ col, a < k) (c : Nat × Nat) (hc : c ∈ coordsFrom j cols) :
    c.1 < k ∧ j ≤ c.2 ∧ c.2 < j + cols.length := by
  induction cols generalizing j with
  | nil => simp [coordsFrom] at hc
  | cons col cols ih =>
    simp only [coordsFrom, List.mem_append] at hc
    rcases hc with hc | hc
    · simp only [coordsOf, List.mem_map, List.mem_filter] at hc
      obtain ⟨a, ⟨ha, _⟩, rfl⟩ := hc
      have := hwf col (by simp) a ha
      have hj' : j < U32 := by simp at hj; omega
      simp only [Nat.mod_eq_of_lt hj', Nat.mod_eq_of_lt (show a < U32 by omega), List.length_cons]
      omega
    · obtain ⟨h1, h2, h3⟩ := ih (j + 1) (by simp at hj ⊢; omega) (fun c hc => hwf c (by simp [hc])) hc
      simp only [List.length_cons]; omega

theorem xsum_zip_dense (y : List Nat) (i t j : Nat) (cols : List (List Nat))
    (hj : j + cols.length ≤ y.length) :
    xsum ((List.zip (cols.map denseWord) (y.drop j)).map (fun p => (p.1.testBit i && p.2.testBit t))) =
      (decide (i < 64) && prodBitFrom y.toArray i t j cols) := by
  induction cols generalizing j with
  | nil => simp [prodBitFrom]
  | cons col cols ih =>
    have hjl : j < y.length := by simp at hj; omega
    rw [List.drop_eq_getElem_cons hjl]
    simp only [List.map_cons, List.zip_cons_cons, xsum_cons, prodBitFrom]
    rw [ih (j + 1) (by simp at hj ⊢; omega), testBit_denseWord]
    have : cell y.toArray j = y[j] := by simp [cell, hjl]
    cases decide (i < 64) <;> simp [this]

theorem prodBitFrom_of_ge (rhs : Array Nat) (i t j k : Nat) (cols : List (List Nat))
    (hwf : ∀ col ∈ cols, ∀ a ∈ col, a < k) (hi : k ≤ i) : prodBitFrom rhs i t j cols = false := by
  induction cols generalizing j with
  | nil => rfl
  | cons col cols ih =>
    simp only [prodBitFrom, ih (j + 1) (fun c hc => hwf c (by simp [hc]))]
    have : colParity col i = false := by
      unfold colParity
      apply xsum_eq_false_of_forall
      intro b hb
      simp only [List.mem_map] at hb
      obtain ⟨a, ha, rfl⟩ := hb
      have := hwf col (by simp) a ha
      simp; omega
    simp [this]

theorem list_ext_getD (l l' : List Nat) (hl : l.length = l'.length) (h : ∀ i, l.getD i 0 = l'.getD i 0) :
    l = l' := by
  apply List.ext_getElem hl
  intro i h1 h2
  have := h i
  simpa [List.getD, List.getElem?_eq_getElem h1, List.getElem?_eq_getElem h2] using this

theorem optMul_spec (k : Nat) (cols : List (List Nat)) (y : List Nat) (hk64 : 64 ≤ k) (hk : k ≤ U32)
    (hn : cols.length ≤ U32) (hy : y.length = cols.length) (hwf : ∀ col ∈ cols, ∀ a ∈ col, a < k) :
    ∃ blk, optMul (qsOptimize k cols) y = some blk ∧ blk.length = k ∧
      ∀ i t, (blk.getD i 0).testBit t = (decide (i < k) && prodBitFrom y.toArray i t 0 cols) := by
  obtain ⟨dense, hbd, hdl, hdb⟩ := blockDot_spec (x := cols.map denseWord) (y := y) (by simp [hy])
  obtain ⟨out', ho⟩ := applyCoords_some y.toArray (coordsFrom 0 cols)
    (dense ++ List.replicate (k - 64) 0).toArray (fun c hc => by
      obtain ⟨h1, _, h3⟩ := mem_coordsFrom 0 k cols hk (by omega) hwf c hc
      simp only [List.size_toArray, List.length_append, List.length_replicate, hdl]
      omega)
  obtain ⟨hs, hb⟩ := applyCoords_spec _ _ _ _ ho
  have hsize : out'.size = k := by
    rw [hs]; simp only [List.size_toArray, List.length_append, List.length_replicate, hdl]; omega
  refine ⟨out'.toList, ?_, by simpa using hsize, fun i t => ?_⟩
  · simp only [optMul, qsOptimize, hy, ne_eq, not_true_eq_false, if_false, hbd,
      show ¬ k < 64 by omega, ho]
  · rw [getD_toList]
    by_cases hik : i < k
    · -- rows below 64 come from the dense block, the others from the coordinate list
      have hd := xsum_zip_dense y i t 0 cols (by omega)
      rw [List.drop_zero] at hd
      rw [hb i t, xsum_coordsFrom y.toArray i t 0 k cols hk (by omega) hwf, cell_append_zeros, hdb i t, hd]
      by_cases hi : i < 64
      · simp [hik, hi, show ¬ 64 ≤ i by omega]
      · simp [hik, hi, show 64 ≤ i by omega]
    · rw [cell_of_ge _ _ (by omega)]
      simp [hik]

theorem optMul_some_inv (k : Nat) (cols : List (List Nat)) (y blk : List Nat)
    (h : optMul (qsOptimize k cols) y = some blk) : y.length = cols.length ∧ 64 ≤ k := by
  constructor
  · apply Classical.byContradiction
    intro hy
    have hy' : ¬ cols.length = y.length := fun h => hy h.symm
    simp [optMul, qsOptimize, hy'] at h
  · apply Classical.byContradiction
    intro hk
    have hk' : k < 64 := by omega
    unfold optMul at h
    by_cases hy' : (qsOptimize k cols).ny ≠ y.length
    · rw [if_pos hy'] at h; simp at h
    · rw [if_neg hy'] at h
      cases hb : blockDot (qsOptimize k cols).block y with
      | none => rw [hb] at h; simp at h
      | some d =>
        rw [hb] at h
        have : (qsOptimize k cols).nx < 64 := hk'
        simp only [this, if_true] at h
        simp at h

theorem spMul_spec (k : Nat) (cols : List (List Nat)) (y : List Nat)
    (hy : y.length = cols.length) (hwf : ∀ col ∈ cols, ∀ a ∈ col, a < k) :
    ∃ blk, spMul k cols y = some blk ∧ blk.length = k ∧
      ∀ i t, (blk.getD i 0).testBit t = (decide (i < k) && prodBitFrom y.toArray i t 0 cols) := by
  obtain ⟨out', ho⟩ := spMulAux_some y.toArray 0 cols (List.replicate k 0).toArray (by simp [hy])
    (fun c hc a ha => by simpa using hwf c hc a ha)
  obtain ⟨hs, hb⟩ := spMulAux_spec _ _ _ _ _ ho
  have hsize : out'.size = k := by rw [hs]; simp
  refine ⟨out'.toList, ?_, by simpa using hsize, fun i t => ?_⟩
  · unfold spMul
    rw [if_neg (fun h => h hy.symm), ho]; rfl
  rw [getD_toList]
  by_cases hik : i < k
  · rw [hb i t]
    rw [show cell (List.replicate k 0).toArray i = 0 from cell_append_zeros [] k i]
    simp [hik]
  · rw [cell_of_ge _ _ (by omega)]
    simp [hik]

theorem optMul_eq_spMul (k : Nat) (cols : List (List Nat)) (y : List Nat) (hk64 : 64 ≤ k) (hk : k ≤ U32)
    (hn : cols.length ≤ U32) (hwf : ∀ col ∈ cols, ∀ a ∈ col, a < k) :
    optMul (qsOptimize k cols) y = spMul k cols y := by
  by_cases hy : y.length = cols.length
  · obtain ⟨b1, h1, l1, t1⟩ := optMul_spec k cols y hk64 hk hn hy hwf
    obtain ⟨b2, h2, l2, t2⟩ := spMul_spec k cols y hy hwf
    rw [h1, h2]
    congr 1
    apply list_ext_getD _ _ (by rw [l1, l2])
    intro i
    apply Nat.eq_of_testBit_eq
    intro t
    rw [t1, t2]
  · have hy' : ¬ cols.length = y.length := fun h => hy h.symm
    have h1 : optMul (qsOptimize k cols) y = none := by simp [optMul, qsOptimize, hy']
    have h2 : spMul k cols y = none := by simp [spMul, hy']
    rw [h1, h2]


theorem applyCoords_none (rhs : Array Nat) (cs : List (Nat × Nat)) (out : Array Nat)
    (h : ¬ ∀ c ∈ cs, c.1 < out.size ∧ c.2 < rhs.size) : applyCoords rhs cs out = none := by
  induction cs generalizing out with
  | nil => simp at h
  | cons c cs ih =>
    obtain ⟨i0, j0⟩ := c
    simp only [applyCoords]
    split
    · rfl
    · rename_i row hrow
      split
      · rename_i hi0
        apply ih
        intro hall
        apply h
        intro c hc
        rcases List.mem_cons.mp hc with rfl | hc
        · refine ⟨hi0, ?_⟩
          simp only
          apply Classical.byContradiction
          intro hj
          rw [Array.getElem?_eq_none (by omega)] at hrow
          simp at hrow
        · simpa using hall c hc
      · rfl

theorem array_ext_cell (a b : Array Nat) (hs : a.size = b.size) (h : ∀ i, cell a i = cell b i) : a = b := by
  apply Array.ext hs
  intro i h1 h2
  have := h i
  simpa [cell, Array.getElem?_eq_getElem h1, Array.getElem?_eq_getElem h2] using this

/-- the product does not depend on the order of the coordinate list (`sort_unstable_by_key`) -/
theorem applyCoords_perm (rhs : Array Nat) (cs cs' : List (Nat × Nat)) (out : Array Nat) (hp : cs.Perm cs') :
    applyCoords rhs cs out = applyCoords rhs cs' out := by
  by_cases hok : ∀ c ∈ cs, c.1 < out.size ∧ c.2 < rhs.size
  · have hok' : ∀ c ∈ cs', c.1 < out.size ∧ c.2 < rhs.size := fun c hc => hok c (hp.mem_iff.mpr hc)
    obtain ⟨o1, h1⟩ := applyCoords_some rhs cs out hok
    obtain ⟨o2, h2⟩ := applyCoords_some rhs cs' out hok'
    obtain ⟨s1, b1⟩ := applyCoords_spec _ _ _ _ h1
    obtain ⟨s2, b2⟩ := applyCoords_spec _ _ _ _ h2
    rw [h1, h2]
    congr 1
    apply array_ext_cell _ _ (by rw [s1, s2])
    intro i
    apply Nat.eq_of_testBit_eq
    intro t
    rw [b1, b2, xsum_perm (hp.map _)]
  · have hok' : ¬ ∀ c ∈ cs', c.1 < out.size ∧ c.2 < rhs.size := fun h => hok (fun c hc => h c (hp.mem_iff.mp hc))
    rw [applyCoords_none _ _ _ hok, applyCoords_none _ _ _ hok']

theorem optMul_perm (a : SparseOpt) (xy' : List (Nat × Nat)) (y : List Nat) (hp : a.xy.Perm xy') :
    optMul { a with xy := xy' } y = optMul a y := by
  simp only [optMul]
  split
  · rfl
  · split
    · rfl
    · split
      · rfl
      · rw [applyCoords_perm _ _ _ _ hp]

/-- dense form of a sparse matrix with `k` rows (repeated indices cancel in pairs) -/
def denseOfSparse (k : Nat) (cols : List (List Nat)) : List BVec :=
  cols.map (fun col => (List.range k).map (colParity col))

theorem dotBits_eq (w : Nat) (kv : BVec) :
    dotBits w kv = xsum ((List.range kv.length).map (fun t => (bitAt kv t && w.testBit t))) := by
  induction kv generalizing w with
  | nil => rfl
  | cons b kv ih =>
    rw [dotBits, ih, List.length_cons, xsum_range_succ']
    simp only [bitAt_cons_zero, bitAt_cons_succ, Nat.testBit_add_one, Nat.testBit_zero, Bool.beq_eq_decide_eq]

end Ymq.Gf2
