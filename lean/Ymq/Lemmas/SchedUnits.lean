/- Lemmas on the unit-level protocol model (Ymq/Model/SchedUnits.lean): C05, C04.
The abort bound: give every worker the potential `addsBefore cur`, the adds it still performs before the next poll of its
current unit. Under a schedule whose polls are all answered `true`, `log.length + potU` never increases (`stepU_abort`): an add
moves one unit of potential into the log, a poll ends the unit (potential 0), and a unit taken up next has no add before its
poll (`InvU`, true of programs whose units poll in `pre`: `invU_init`). So the log grows by at most the potential at the moment of the request, which
is at most `B` per worker (`potU_le`).
The history (`runU_spec`): as for `step`, the store replays the log, and what is logged had a property `G` that holds of all
pending adds; `PendU` says "pending" for a worker that keeps its units apart. -/
import Ymq.Model.SchedUnits
import Ymq.Lemmas.SchedShape
namespace Ymq.Sched
open Ymq.Gen.SchedShape
variable {ρ σ : Type}

theorem addsBefore_le (l : List (Act ρ)) : addsBefore l ≤ (pendingAdds l).length := by
  induction l with
  | nil => simp [addsBefore, pendingAdds]
  | cons a l ih => cases a <;> simp [addsBefore, pendingAdds] <;> omega

theorem pendingAdds_tail_le (a : Act ρ) (l : List (Act ρ)) : (pendingAdds l).length ≤ (pendingAdds (a :: l)).length := by
  cases a <;> simp [pendingAdds]

/-- every worker's current unit has at most `B` adds left; every unit still to do has at most `B` adds and none before its poll -/
def InvU (B : Nat) (c : UCfg ρ σ) : Prop :=
  ∀ w ∈ c.ws, (pendingAdds w.cur).length ≤ B ∧ ∀ u ∈ w.rest, addsBefore u = 0 ∧ (pendingAdds u).length ≤ B

/-- adds that the workers still perform before their next polls -/
def potU (c : UCfg ρ σ) : Nat := (c.ws.map (fun w => addsBefore w.cur)).sum

/-- a property of workers that survives performing an action (`htail`), taking the next unit (`hload`) and leaving a
unit or the loop (`hdrop`, `hnil`) holds for every worker after any step -/
theorem stepU_all (Q : UWorker ρ → Prop) (htail : ∀ a l rest, Q ⟨a :: l, rest⟩ → Q ⟨l, rest⟩)
    (hload : ∀ u us, Q ⟨[], u :: us⟩ → Q ⟨u, us⟩) (hdrop : ∀ cur rest, Q ⟨cur, rest⟩ → Q ⟨[], rest⟩) (hnil : Q ⟨[], []⟩)
    (leaves : Bool) (add : σ → ρ → σ) (enough : σ → Bool) (c : UCfg ρ σ) (h : ∀ w ∈ c.ws, Q w) (w : Nat) (st ab : Bool) :
    ∀ x ∈ (stepU leaves add enough c w st ab).ws, Q x := by
  have key : ∀ (old new : UWorker ρ), c.ws[w]? = some old → Q new → ∀ x ∈ c.ws.set w new, Q x := by
    intro old new _ hn x hx
    rcases List.mem_or_eq_of_mem_set hx with hx | hx
    · exact h x hx
    · subst hx; exact hn
  unfold stepU
  split
  · exact h
  · exact h
  · rename_i u us hw
    exact key _ _ hw (hload u us (h _ (List.mem_of_getElem? hw)))
  · rename_i l rest hw
    have hq := h _ (List.mem_of_getElem? hw)
    split
    · cases leaves
      · exact key _ _ hw (hdrop _ _ hq)
      · exact key _ _ hw hnil
    · split
      · exact key _ _ hw hnil
      · exact key _ _ hw (htail _ _ _ hq)
  · rename_i l rest hw
    have hq := h _ (List.mem_of_getElem? hw)
    split
    · exact key _ _ hw hnil
    · exact key _ _ hw (htail _ _ _ hq)
  · rename_i r l rest hw
    exact key _ _ hw (htail _ _ _ (h _ (List.mem_of_getElem? hw)))
  · rename_i l rest hw
    exact key _ _ hw (htail _ _ _ (h _ (List.mem_of_getElem? hw)))

theorem stepU_inv (leaves : Bool) (add : σ → ρ → σ) (enough : σ → Bool) (B : Nat) (c : UCfg ρ σ) (h : InvU B c)
    (w : Nat) (st ab : Bool) :
    InvU B (stepU leaves add enough c w st ab) ∧ (stepU leaves add enough c w st ab).ws.length = c.ws.length :=
  ⟨stepU_all (fun x => (pendingAdds x.cur).length ≤ B ∧ ∀ u ∈ x.rest, addsBefore u = 0 ∧ (pendingAdds u).length ≤ B)
      (fun a l _ hq => ⟨Nat.le_trans (pendingAdds_tail_le a l) hq.1, hq.2⟩)
      (fun u _ hq => ⟨(hq.2 u List.mem_cons_self).2, fun x hx => hq.2 x (List.mem_cons_of_mem _ hx)⟩)
      (fun _ _ hq => ⟨Nat.zero_le _, hq.2⟩) ⟨Nat.zero_le _, fun _ hx => by cases hx⟩ leaves add enough c h w st ab,
    by
      unfold stepU
      split
      · rfl
      · rfl
      · exact List.length_set
      · split
        · exact List.length_set
        · split <;> exact List.length_set
      · split <;> exact List.length_set
      · exact List.length_set
      · exact List.length_set⟩

/-- from `c` to `c'` the invariant is kept and the log grew by no more than the potential fell -/
def StepOk (B : Nat) (c c' : UCfg ρ σ) : Prop :=
  InvU B c' ∧ c'.log.length + potU c' ≤ c.log.length + potU c

theorem potU_set_le {c c' : UCfg ρ σ} {w : Nat} {old new : UWorker ρ} (hw : c.ws[w]? = some old)
    (hc' : c'.ws = c.ws.set w new)
    (hpot : c'.log.length + addsBefore new.cur ≤ c.log.length + addsBefore old.cur) :
    c'.log.length + potU c' ≤ c.log.length + potU c := by
  have := sum_map_set (fun w => addsBefore w.cur) c.ws w old new hw
  unfold potU
  rw [hc']
  omega

/-- one step under an abort request: the log grows only by what the potential pays for -/
theorem stepU_abort (leaves : Bool) (add : σ → ρ → σ) (enough : σ → Bool) (B : Nat) (c : UCfg ρ σ) (h : InvU B c)
    (w : Nat) (st : Bool) : StepOk B c (stepU leaves add enough c w st true) := by
  refine ⟨(stepU_inv leaves add enough B c h w st true).1, ?_⟩
  unfold stepU
  split
  · exact Nat.le_refl _
  · exact Nat.le_refl _
  · rename_i u us hw
    have hu := (h _ (List.mem_of_getElem? hw)).2 u List.mem_cons_self
    exact potU_set_le hw rfl (by simp [addsBefore, hu.1])
  · rename_i l rest hw
    rw [if_pos rfl]
    cases leaves
    · rw [if_neg Bool.false_ne_true]; exact potU_set_le hw rfl (by simp [addsBefore])
    · rw [if_pos rfl]; exact potU_set_le hw rfl (by simp [addsBefore])
  · rename_i l rest hw
    split <;> exact potU_set_le hw rfl (by simp [addsBefore])
  · rename_i r l rest hw
    exact potU_set_le hw rfl (by simp [addsBefore]; omega)
  · rename_i l rest hw
    exact potU_set_le hw rfl (by simp [addsBefore])

theorem runU_abort (leaves : Bool) (add : σ → ρ → σ) (enough : σ → Bool) (B : Nat) :
    ∀ (sched : List (Nat × Bool × Bool)) (c : UCfg ρ σ), InvU B c → allAbort sched →
      StepOk B c (runU leaves add enough c sched) := by
  intro sched
  induction sched with
  | nil => intro c h _; exact ⟨h, Nat.le_refl _⟩
  | cons a sched ih =>
    intro c h hab
    obtain ⟨w, st, ab⟩ := a
    obtain ⟨hab1, hab2⟩ := hab
    subst hab1
    obtain ⟨s1, s2⟩ := stepU_abort leaves add enough B c h w st
    obtain ⟨r1, r2⟩ := ih _ s1 hab2
    exact ⟨r1, by simp only [runU]; omega⟩

theorem runU_inv (leaves : Bool) (add : σ → ρ → σ) (enough : σ → Bool) (B : Nat) :
    ∀ (sched : List (Nat × Bool × Bool)) (c : UCfg ρ σ), InvU B c →
      InvU B (runU leaves add enough c sched) ∧ (runU leaves add enough c sched).ws.length = c.ws.length := by
  intro sched
  induction sched with
  | nil => intro c h; exact ⟨h, rfl⟩
  | cons a sched ih =>
    intro c h
    obtain ⟨w, st, ab⟩ := a
    obtain ⟨s1, s3⟩ := stepU_inv leaves add enough B c h w st ab
    obtain ⟨r1, r3⟩ := ih _ s1
    exact ⟨r1, by simp only [runU]; omega⟩

/-- a unit whose `pre` polls performs no add before that poll (the `pre` of a unit has no polynomial at hand) -/
theorem addsBefore_expand_nil (ks : List K) (tail : List (Act ρ)) (h : ks.contains K.poll = true) :
    addsBefore (expand ks ([] : List ρ) ++ tail) = 0 := by
  induction ks with
  | nil => simp at h
  | cons k ks ih =>
    unfold expand at *
    rw [List.flatMap_cons, List.append_assoc]
    cases k with
    | poll => simp [expandK, addsBefore]
    | _ =>
      have := ih (by simpa using h)
      simpa [expandK, addsBefore] using this

theorem invU_init (sh : Shape) (hp : sh.pre.contains K.poll = true) (s0 : σ) (progs : List (List (List (List ρ)))) (B : Nat)
    (hB : ∀ prog ∈ progs, ∀ u ∈ prog, (pendingAdds (compileUnit sh u)).length ≤ B) :
    InvU B (initU sh s0 progs) := by
  intro w hw
  simp only [initU, List.mem_map] at hw
  obtain ⟨prog, hprog, rfl⟩ := hw
  refine ⟨by simp [pendingAdds], ?_⟩
  intro u hu
  obtain ⟨v, hv, rfl⟩ := List.mem_map.mp hu
  exact ⟨by unfold compileUnit; exact addsBefore_expand_nil _ _ hp, hB prog hprog v hv⟩

theorem potU_le (B : Nat) (c : UCfg ρ σ) (h : InvU B c) : potU c ≤ c.ws.length * B := by
  unfold potU
  apply sum_map_le_length_mul
  intro w hw
  exact Nat.le_trans (addsBefore_le _) (h w hw).1

theorem stepU_log (leaves : Bool) (add : σ → ρ → σ) (enough : σ → Bool) (s0 : σ) (c : UCfg ρ σ)
    (h : c.store = c.log.foldl add s0) (w : Nat) (st ab : Bool) :
    (stepU leaves add enough c w st ab).store = (stepU leaves add enough c w st ab).log.foldl add s0 ∧
    ∀ r ∈ (stepU leaves add enough c w st ab).log, r ∈ c.log ∨ ∃ x ∈ c.ws, r ∈ pendingAdds x.cur := by
  unfold stepU
  split
  · exact ⟨h, fun r hr => Or.inl hr⟩
  · exact ⟨h, fun r hr => Or.inl hr⟩
  · exact ⟨h, fun r hr => Or.inl hr⟩
  · split
    · exact ⟨h, fun r hr => Or.inl hr⟩
    · split <;> exact ⟨h, fun r hr => Or.inl hr⟩
  · split <;> exact ⟨h, fun r hr => Or.inl hr⟩
  · rename_i r l rest hw
    refine ⟨by simp [List.foldl_append, h], ?_⟩
    intro x hx
    simp only [List.mem_append, List.mem_singleton] at hx
    rcases hx with hx | hx
    · exact Or.inl hx
    · subst hx
      exact Or.inr ⟨_, List.mem_of_getElem? hw, by simp [pendingAdds]⟩
  · exact ⟨h, fun r hr => Or.inl hr⟩

/-- `G` holds of everything the worker may still add: in its current unit and in the units it has not begun -/
def PendU (G : ρ → Prop) (x : UWorker ρ) : Prop :=
  (∀ r ∈ pendingAdds x.cur, G r) ∧ ∀ u ∈ x.rest, ∀ r ∈ pendingAdds u, G r

theorem runU_spec (leaves : Bool) (add : σ → ρ → σ) (enough : σ → Bool) (s0 : σ) (G : ρ → Prop) :
    ∀ (sched : List (Nat × Bool × Bool)) (c : UCfg ρ σ), c.store = c.log.foldl add s0 → (∀ r ∈ c.log, G r) →
      (∀ x ∈ c.ws, PendU G x) →
      let c' := runU leaves add enough c sched
      c'.store = c'.log.foldl add s0 ∧ ∀ r ∈ c'.log, G r := by
  intro sched
  induction sched with
  | nil => intro c h1 h2 _; exact ⟨h1, h2⟩
  | cons a sched ih =>
    intro c h1 h2 h3
    obtain ⟨w, st, ab⟩ := a
    obtain ⟨l1, l2⟩ := stepU_log leaves add enough s0 c h1 w st ab
    have h3' := stepU_all (PendU G)
      (by
        intro a l rest hq
        refine ⟨fun r hr => hq.1 r ?_, hq.2⟩
        cases a <;> simp [pendingAdds, hr])
      (by
        intro u us hq
        exact ⟨fun r hr => hq.2 u List.mem_cons_self r hr, fun v hv => hq.2 v (List.mem_cons_of_mem _ hv)⟩)
      (by intro cur rest hq; exact ⟨by simp [pendingAdds], hq.2⟩)
      ⟨by simp [pendingAdds], by simp⟩ leaves add enough c h3 w st ab
    refine ih _ l1 ?_ h3'
    intro r hr
    rcases l2 r hr with hr | ⟨x, hx, hrx⟩
    · exact h2 r hr
    · exact (h3 x hx).1 r hrx

end Ymq.Sched
