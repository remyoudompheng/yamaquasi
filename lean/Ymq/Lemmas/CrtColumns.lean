/-
C10: the column loop of `MultiZmodP::_crt` and the whole routine (model `Ymq.Crt.crt`, `w ≥ 2`):
`crtColumns_spec` (the `u128` column sums never overflow and the words written are the low words of
`qp + Σ_j xs_j·crt_p_modn[j]`), `crt_spec` (no panic site: `mg_mul64` by `Mg64.mgMul_of_lt`, the quotient
estimate by `qEstimate_spec`, `pprods_modn[q]`, `assert!(carry == 0)`), `new_crtOk` (the tables built
by the model of `MultiZmodP::new` meet the requirements; `iterM_inv` is the rule for the push loops of `new`,
`pprodsLoop_closed` the closed form of `pprods_modn`).
-/
import Ymq.Lemmas.CrtEstimate
import Ymq.Lemmas.Mg64
import Mathlib.Data.List.GetD

namespace Ymq.Crt
open Finset
open Ymq.Mg64 (W)

theorem valWords_append (a b : List Nat) : valWords (a ++ b) = valWords a + W ^ a.length * valWords b := by
  induction a with
  | nil => simp [valWords]
  | cons x xs ih => simp only [List.cons_append, valWords, ih, List.length_cons, pow_succ]; ring

theorem mod_pow_succ (x i : Nat) : x % W ^ (i + 1) = x % W ^ i + W ^ i * dig x i := by
  unfold dig
  rw [pow_succ, Nat.mod_mul]

/-- one column of `_crt`: the 128-bit sum does not overflow -/
theorem column_sum (m : Mzp) (xs : List Nat) (hw : m.w ≤ 26) (hxs : ∀ j, j < m.w → xs.getD j 0 < 2 ^ 59)
    (i s0 : Nat) (hs0 : s0 < 2 ^ 66) :
    (List.range m.w).foldlM (fun z j =>
        let t := z + xs.getD j 0 * dig (m.crtPModn.getD j 0) i
        if t ≥ 2 ^ 128 then none else some t) s0 =
      some (s0 + ∑ j ∈ range m.w, xs.getD j 0 * dig (m.crtPModn.getD j 0) i) :=
  foldlM_checked_sum _ (fun j => xs.getD j 0 * dig (m.crtPModn.getD j 0) i) m.w s0 (2 ^ 59 * W)
    (fun z j _ hlt => if_neg (by omega))
    (fun j hj => Nat.mul_le_mul (le_of_lt (hxs j hj)) (le_of_lt (Nat.mod_lt _ (by decide))))
    (by have : m.w * (2 ^ 59 * W) ≤ 26 * (2 ^ 59 * W) := Nat.mul_le_mul_right _ hw
        rw [W_eq] at *; omega)

/-- the truncated sum of column loop `_crt`: `(qp mod W^i) + Σ_j xs_j·(c_j mod W^i)` -/
def truncSum (m : Mzp) (xs : List Nat) (qp i : Nat) : Nat :=
  qp % W ^ i + ∑ j ∈ range m.w, xs.getD j 0 * (m.crtPModn.getD j 0 % W ^ i)

theorem truncSum_succ (m : Mzp) (xs : List Nat) (qp i : Nat) :
    truncSum m xs qp (i + 1) =
      truncSum m xs qp i + W ^ i * (dig qp i + ∑ j ∈ range m.w, xs.getD j 0 * dig (m.crtPModn.getD j 0) i) := by
  unfold truncSum
  rw [mod_pow_succ qp i, Nat.mul_add, Finset.mul_sum, ← Nat.add_assoc]
  have : ∑ j ∈ range m.w, xs.getD j 0 * (m.crtPModn.getD j 0 % W ^ (i + 1)) =
      ∑ j ∈ range m.w, xs.getD j 0 * (m.crtPModn.getD j 0 % W ^ i) +
        ∑ j ∈ range m.w, W ^ i * (xs.getD j 0 * dig (m.crtPModn.getD j 0) i) := by
    rw [← Finset.sum_add_distrib]
    apply Finset.sum_congr rfl
    intro j _
    rw [mod_pow_succ]; ring
  rw [this]; ring

/-- **the column loop of `_crt`** writes the low words of `qp + Σ_j xs_j·crt_p_modn[j]` exactly -/
theorem crtColumns_spec (m : Mzp) (xs : List Nat) (qp : Nat) (hw : m.w ≤ 26)
    (hxs : ∀ j, j < m.w → xs.getD j 0 < 2 ^ 59) :
    ∀ (c i carry : Nat) (acc : List Nat), acc.length = i → carry < 2 ^ 65 →
      valWords acc.reverse + W ^ i * carry = truncSum m xs qp i →
      ∃ ws carry', crtColumns m xs qp c i carry acc = some (ws, carry') ∧ ws.length = i + c ∧
        valWords ws + W ^ (i + c) * carry' = truncSum m xs qp (i + c) := by
  intro c
  induction c with
  | zero =>
    intro i carry acc hl _ hv
    exact ⟨acc.reverse, carry, rfl, by simp [hl], hv⟩
  | succ c ih =>
    intro i carry acc hl hc hv
    have hWpos : 0 < W := by decide
    have hW : W = 18446744073709551616 := rfl
    have hdig : dig qp i < W := Nat.mod_lt _ hWpos
    unfold crtColumns
    rw [column_sum m xs hw hxs i (carry + dig qp i) (by rw [hW] at hdig; norm_num at hc ⊢; omega)]
    simp only
    set z := carry + dig qp i + ∑ j ∈ range m.w, xs.getD j 0 * dig (m.crtPModn.getD j 0) i with hz
    have hzlt : z / W < 2 ^ 65 := by
      have hb := sum_range_le m.w (fun j => xs.getD j 0 * dig (m.crtPModn.getD j 0) i) (2 ^ 59 * W)
        (fun j hj => Nat.mul_le_mul (le_of_lt (hxs j hj)) (le_of_lt (Nat.mod_lt _ hWpos)))
      have h26 : m.w * (2 ^ 59 * W) ≤ 26 * (2 ^ 59 * W) := Nat.mul_le_mul_right _ hw
      have hlit : 26 * (2 ^ 59 * W) = 276479423123262501563991868538311671808 := by rw [hW]; norm_num
      have hb' : ∑ j ∈ range m.w, xs.getD j 0 * dig (m.crtPModn.getD j 0) i ≤
          276479423123262501563991868538311671808 := by rw [← hlit]; exact le_trans hb h26
      rw [Nat.div_lt_iff_lt_mul hWpos, hz]
      have h65 : (2 : Nat) ^ 65 = 36893488147419103232 := by norm_num
      rw [h65] at hc ⊢
      rw [hW] at hdig ⊢
      omega
    obtain ⟨ws, carry', e, lws, vws⟩ := ih (i + 1) (z / W) (z % W :: acc) (by simp [hl]) hzlt (by
      rw [List.reverse_cons, valWords_append, List.length_reverse, hl, truncSum_succ, ← hv]
      simp only [valWords, Nat.mul_zero, Nat.add_zero]
      have := Nat.div_add_mod z W
      rw [pow_succ]
      have hz' : dig qp i + ∑ j ∈ range m.w, xs.getD j 0 * dig (m.crtPModn.getD j 0) i = z - carry := by omega
      have hcz : carry ≤ z := by omega
      rw [hz']
      have : W ^ i * (z % W) + W ^ i * W * (z / W) = W ^ i * z := by
        rw [Nat.mul_assoc, ← Nat.mul_add, Nat.add_comm, this]
      have h2 : W ^ i * carry + W ^ i * (z - carry) = W ^ i * z := by
        rw [← Nat.mul_add]; congr 1; omega
      omega)
    exact ⟨ws, carry', e, by rw [lws]; omega, by rw [show i + (c + 1) = i + 1 + c by omega]; exact vws⟩


/-- what `_crt` needs of the tables of a `MultiZmodP` (beyond `EstOk`) -/
structure CrtOk (m : Mzp) : Prop where
  est : EstOk m
  pr : ∀ j, j < m.w → 0 < m.primes.getD j 0 ∧ m.primes.getD j 0 < 2 ^ 59 ∧
    (m.primes.getD j 0 * (m.primes.getD j 0 - 2) + 1) % W = 0
  pinv : ∀ j, j < m.w → m.crtPinv.getD j 0 < W
  modn_lt : ∀ j, j < m.w → m.crtPModn.getD j 0 < m.n
  n_lt : m.n < W ^ m.kw
  pprods : ∀ q, q < m.w → ∃ qp, m.pprodsModn[q]? = some qp ∧ qp < m.n

/-- the value assembled by `_crt` is below `2^64·n`: at most 26 products of a residue below `2^59` and a
table entry below `n`, and `qp < n` -/
theorem CrtOk.sum_lt {m : Mzp} (ok : CrtOk m) (xs : List Nat) (hxs : ∀ j, j < m.w → xs.getD j 0 < 2 ^ 59)
    (qp : Nat) (hqp : qp < m.n) :
    qp + ∑ j ∈ range m.w, xs.getD j 0 * m.crtPModn.getD j 0 < m.n * W := by
  have hsum := sum_range_le m.w (fun j => xs.getD j 0 * m.crtPModn.getD j 0) (2 ^ 59 * m.n)
    (fun j hj => Nat.mul_le_mul (le_of_lt (hxs j hj)) (le_of_lt (ok.modn_lt j hj)))
  have h26 : m.w * (2 ^ 59 * m.n) ≤ 26 * (2 ^ 59 * m.n) := Nat.mul_le_mul_right _ ok.est.w_le
  rw [show 26 * (2 ^ 59 * m.n) = 14987979559889010688 * m.n by rw [← Nat.mul_assoc]; norm_num] at h26
  rw [show m.n * W = 18446744073709551616 * m.n from Nat.mul_comm _ _]
  omega

/-- **`_crt` (model `Ymq.Crt.crt`), `w ≥ 2`**: for residues `x_j < p_j` the routine reaches no panic site
(`mg_mul64`, the quotient estimate, `pprods_modn[q]`, the `u128` column sums, `assert!(carry == 0)`):
the scaled residues `xs_j = x_j·crt_pinv[j]/R mod p_j` exist, and whenever they reconstruct
`Σ xs_j·(P/p_j) = V + q·P` with `2V < P`, `q < w`, the `kw + 1` words written are exactly
`pprods_modn[q] + Σ_j xs_j·crt_p_modn[j]`. -/
theorem crt_spec (m : Mzp) (ok : CrtOk m) (hw2 : 2 ≤ m.w) (x : List Nat) (hx : x.length = m.w)
    (hxr : ∀ j, j < m.w → x.getD j 0 < m.primes.getD j 0) :
    ∃ xs : List Nat, xs.length = m.w ∧
      (∀ j, j < m.w → xs.getD j 0 < m.primes.getD j 0 ∧
        xs.getD j 0 * W % m.primes.getD j 0 = x.getD j 0 * m.crtPinv.getD j 0 % m.primes.getD j 0) ∧
      ∀ q V, V + q * m.pprod = ∑ j ∈ range m.w, xs.getD j 0 * m.crtP.getD j 0 → 2 * V < m.pprod → q < m.w →
        ∃ ws, crt m x = some ws ∧ ws.length = m.kw + 1 ∧
          valWords ws = m.pprodsModn.getD q 0 + ∑ j ∈ range m.w, xs.getD j 0 * m.crtPModn.getD j 0 := by
  obtain ⟨est, pr, pinv, modn, nlt, pprods⟩ := ok
  have hWv : W = 18446744073709551616 := rfl
  have hw26 := est.w_le
  obtain ⟨xs, exs, lxs, hxs⟩ := Loops.mapM_range_total 0
    (Q := fun j r => r < m.primes.getD j 0 ∧ r * W % m.primes.getD j 0 =
      x.getD j 0 * m.crtPinv.getD j 0 % m.primes.getD j 0)
    (fun i => mgMul64 (m.primes.getD i 0) (x.getD i 0) (m.crtPinv.getD i 0)) m.w (by
      intro i hi
      obtain ⟨p0, p59, pinvk⟩ := pr i hi
      obtain ⟨r, hr, hlt, hmod⟩ := Ymq.Mg64.mgMul_of_lt (ninv := m.primes.getD i 0 - 2) p0 (by
          have h59 : (2 : Nat) ^ 59 = 576460752303423488 := by norm_num
          rw [h59] at p59; rw [hWv]; omega) pinvk (hxr i hi) (pinv i hi)
      exact ⟨r, hr, hlt, hmod⟩)
  refine ⟨xs, lxs, hxs, ?_⟩
  intro q V hS hV hq
  have hxs59 : ∀ j, j < m.w → xs.getD j 0 < 2 ^ 59 := fun j hj =>
    lt_trans (hxs j hj).1 (pr j hj).2.1
  have hqe := qEstimate_spec m est xs hxs59 q V hS hV (by omega)
  obtain ⟨qp, eqp, hqp⟩ := pprods q hq
  have hgetq : m.pprodsModn.getD q 0 = qp := by
    rw [List.getD_eq_getElem?_getD, eqp]; rfl
  obtain ⟨ws, carry, ecol, lws, vws⟩ := crtColumns_spec m xs qp hw26 hxs59 (m.kw + 1) 0 0 [] rfl (by norm_num)
    (by simp [valWords, truncSum, Nat.mod_one])
  rw [Nat.zero_add] at lws vws
  -- the full sum fits kw + 1 words
  have hWpos : 0 < W := by decide
  have hT : truncSum m xs qp (m.kw + 1) = qp + ∑ j ∈ range m.w, xs.getD j 0 * m.crtPModn.getD j 0 := by
    unfold truncSum
    have hpow : W ^ m.kw ≤ W ^ (m.kw + 1) := Nat.pow_le_pow_right hWpos (by omega)
    rw [Nat.mod_eq_of_lt (by omega)]
    congr 1
    apply Finset.sum_congr rfl
    intro j hj
    rw [Nat.mod_eq_of_lt (by have := modn j (by simpa using hj); omega)]
  have hTlt : qp + ∑ j ∈ range m.w, xs.getD j 0 * m.crtPModn.getD j 0 < W ^ (m.kw + 1) :=
    lt_of_lt_of_le (CrtOk.sum_lt ⟨est, pr, pinv, modn, nlt, pprods⟩ xs hxs59 qp hqp)
      (by rw [pow_succ]; exact Nat.mul_le_mul_right _ nlt.le)
  have hcarry : carry = 0 := by
    by_contra hcon
    have : W ^ (m.kw + 1) * 1 ≤ W ^ (m.kw + 1) * carry := Nat.mul_le_mul_left _ (by omega)
    rw [hT] at vws
    omega
  rw [hcarry, Nat.mul_zero, Nat.add_zero, hT] at vws
  refine ⟨ws, ?_, lws, by rw [vws, hgetq]⟩
  unfold crt
  rw [if_neg (by omega), if_neg (by omega), exs]
  simp only
  rw [hqe]
  simp only
  rw [eqp]
  simp only
  rw [ecol, hcarry]
  simp


theorem pprodModn_lt (n P : Nat) (hn : 0 < n) : pprodModn n P < n := by
  unfold pprodModn
  have := Nat.mod_lt P hn
  split_ifs <;> omega

theorem pprodModn_neg (n P : Nat) (hn : 0 < n) : (pprodModn n P + P) % n = 0 := by
  unfold pprodModn
  have hr := Nat.mod_lt P hn
  have hd := Nat.div_add_mod P n
  split_ifs with h
  · have : P % n = 0 := by omega
    rw [Nat.zero_add, this]
  · have : n - P % n + P = n * (P / n + 1) := by rw [Nat.mul_add, Nat.mul_one]; omega
    rw [this, Nat.mul_mod_right]

theorem invMod_lt (x n i : Nat) (hn : 0 < n) (h : Ymq.PolySpec.invMod x n = some i) : i < n := by
  unfold Ymq.PolySpec.invMod at h
  simp only at h
  split_ifs at h
  simp only [Option.some.injEq] at h
  rw [← h]
  have h1 : (0 : Int) ≤ (Ymq.PolySpec.xgcdAux (2 * n.log2 + 4) (↑(x % n)) (↑n) 1 0).2 % (n : Int) :=
    Int.emod_nonneg _ (by omega)
  have h2 : (Ymq.PolySpec.xgcdAux (2 * n.log2 + 4) (↑(x % n)) (↑n) 1 0).2 % (n : Int) < (n : Int) :=
    Int.emod_lt_of_pos _ (by omega)
  omega

/-- the loop `a ← f a; push a`, `c` times (`iterM`): when the start value satisfies `I t` and `f` takes `I t` to
`I (t+1)`, the loop returns and the values pushed satisfy `I (t+1)`, `I (t+2)`, … -/
theorem iterM_inv {α : Type} (d : α) (f : α → Option α) (I : Nat → α → Prop)
    (hf : ∀ t a, I t a → ∃ b, f a = some b ∧ I (t + 1) b) :
    ∀ (c : Nat) (a : α) (acc : List α) (t : Nat), I t a →
      ∃ l, iterM f c a acc = some (acc.reverse ++ l) ∧ l.length = c ∧ ∀ i, i < c → I (t + 1 + i) (l.getD i d) := by
  intro c
  induction c with
  | zero => intro a acc t _; exact ⟨[], by simp [iterM], rfl, fun i hi => by omega⟩
  | succ c ih =>
    intro a acc t ha
    obtain ⟨b, hb, hIb⟩ := hf t a ha
    obtain ⟨l, e, ll, hl⟩ := ih b (b :: acc) (t + 1) hIb
    refine ⟨b :: l, by simp only [iterM, hb, e, List.reverse_cons, List.append_assoc, List.singleton_append],
      by simp [ll], fun i hi => ?_⟩
    cases i with
    | zero => exact hIb
    | succ i => rw [List.getD_cons_succ, show t + 1 + (i + 1) = t + 1 + 1 + i by omega]; exact hl i (by omega)

theorem pprodsLoop_eq (n pm : Nat) : ∀ c pk acc, some (pprodsLoop n pm c pk acc) =
    iterM (fun pk => some (if pk + pm ≥ n then pk + pm - n else pk + pm)) c pk acc := by
  intro c
  induction c with
  | zero => intro _ _; rfl
  | succ c ih => intro pk acc; simp only [pprodsLoop, iterM, ih]

/-- the multiples `2·pm, 3·pm, … mod n` built by the loop of `new` -/
theorem pprodsLoop_closed (n pm : Nat) (hn : 0 < n) (hpm : pm < n) (c : Nat) :
    (pprodsLoop n pm c pm []).length = c ∧
      ∀ i, i < c → (pprodsLoop n pm c pm []).getD i 0 = (i + 2) * pm % n := by
  obtain ⟨l, e, ll, hl⟩ := iterM_inv 0 (fun pk => some (if pk + pm ≥ n then pk + pm - n else pk + pm))
    (fun t pk => pk = t * pm % n) (fun t pk hpk => ⟨_, rfl, by
      have hpkn : pk < n := by rw [hpk]; exact Nat.mod_lt _ hn
      have : (t + 1) * pm % n = (pk + pm) % n := by
        rw [Nat.add_mul, Nat.one_mul, Nat.add_mod, ← hpk, Nat.mod_eq_of_lt hpm]
      rw [this]
      split_ifs with h
      · rw [Nat.mod_eq_sub_mod h, Nat.mod_eq_of_lt (by omega)]
      · rw [Nat.mod_eq_of_lt (by omega)]⟩) c pm [] 1 (by rw [Nat.one_mul, Nat.mod_eq_of_lt hpm])
  rw [← pprodsLoop_eq, List.reverse_nil, List.nil_append, Option.some.injEq] at e
  rw [e]
  exact ⟨ll, fun i hi => by rw [hl i hi]; congr 2; omega⟩

/-- **the tables of `MultiZmodP::new` meet the requirements of `_crt`** (`n > 0`, `w ≥ 2` primes) -/
theorem new_crtOk (n logsize : Nat) (m : Mzp) (h : new n logsize = some m) (hn : 0 < n) (hw2 : 2 ≤ m.w) :
    CrtOk m := by
  have k := isNew h
  have hpm := pprodModn_lt n m.pprod hn
  refine ⟨new_estOk n logsize m h hw2, fun j hj => ?_, fun j hj => ?_, fun j _ => ?_, ?_, fun q hq => ?_⟩
  · have hp := k.primeOk hj
    exact ⟨Nat.zero_lt_of_lt hp.pos, hp.lt, hp.inv⟩
  · have := (Loops.mapM_range_partial 0 k.hpinv).2 j hj
    rw [(k.prime_eq hj 1).1] at this
    have hp := k.primeOk hj
    exact lt_trans (invMod_lt _ _ _ (Nat.zero_lt_of_lt hp.pos) this) hp.ltW
  · rw [k.hmodn, k.hn, List.getD_eq_getElem?_getD, List.getElem?_map]
    cases m.crtP[j]? with
    | none => simpa using hn
    | some v => simpa using Nat.mod_lt v hn
  · rw [k.hn, k.hkw, show W = 2 ^ 64 by decide, ← pow_mul]
    exact lt_of_lt_of_le (lt_pow_bitlen n) (Nat.pow_le_pow_right (by decide) (by omega))
  · obtain ⟨ll, hl⟩ := pprodsLoop_closed n _ hn hpm (m.w - 2)
    have hq' : q < m.pprodsModn.length := by
      rw [k.hpprods]; simp only [List.length_cons, ll]; omega
    refine ⟨m.pprodsModn.getD q 0, by rw [List.getD_eq_getElem?_getD, List.getElem?_eq_getElem hq']; rfl, ?_⟩
    rw [k.hn, k.hpprods]
    match q, hq with
    | 0, _ => exact hn
    | 1, _ => exact hpm
    | q + 2, hq => rw [List.getD_cons_succ, List.getD_cons_succ, hl q (by omega)]; exact Nat.mod_lt _ hn

end Ymq.Crt
