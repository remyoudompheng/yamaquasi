/-
Lemmas about the models of `pollard_rho::rho64` (Ymq/Model/ExpModn.lean), `pollard_rho::rho` and
`pollard_rho::rho_semiprime` (Ymq/Model/PollardRho.lean): no panic site of `rho64` is reachable for an
odd modulus `3 ≤ n ≤ 2^64 - 17` and an increment `c ≤ 9` (loop invariant `RhoInv`), the drivers
return what some `rho64` call returned.

Why `n + 17 ≤ 2^64`: after `x2 += c` the value is only known to be `< n + c` (the code comments
"we tolerate x2==n"), the next `mg_mul(n, ninv, x2, x2)` needs `x2² < n·2^64` (domain of `mg_redc`,
C07 `mgRedc_spec`) and `x2 += c` itself must not overflow: `(n + 8)² < n·2^64` holds exactly up to
`n = 2^64 - 17`. The eight odd values above have a prime factor `≤ 53` (Props/C03Rho.lean
`noSmall_below_top`), so `factor` never hands them over.
-/
import Ymq.Model.PollardRho
import Ymq.Lemmas.Mg64

namespace Ymq.PollardRho
open Ymq.ExpModn Ymq.Mg64

/-- the loop invariant of `rho64`. `x2` is NOT reduced after `x2 += c` (the code: "we tolerate
x2==n"), it is only below `n + c`; `nend + 1` a power of two is the `debug_assert` on `pow2k` -/
structure RhoInv (n c : Nat) (s : RhoState) : Prop where
  x1 : s.x1 < W
  x2 : s.x2 < n + c
  prod : s.prod < n
  nend : ∃ j, s.nend + 1 = 2 ^ j

theorem absDiff_lt {a b : Nat} (ha : a < W) (hb : b < W) : absDiff a b < W := by
  unfold absDiff; split <;> omega

theorem sq_dom {n c x : Nat} (hn : 3 ≤ n) (hnW : n + 17 ≤ W) (hc : c ≤ 9) (hx : x < n + c) :
    x * x < n * W := by
  have hx8 : x ≤ n + 8 := by omega
  have h1 : x * x ≤ (n + 8) * (n + 8) := Nat.mul_le_mul hx8 hx8
  rcases Nat.lt_or_ge n 65 with hs | hs
  · have h2 : (n + 8) * (n + 8) ≤ 73 * 73 := Nat.mul_le_mul (by omega) (by omega)
    have h3 : 3 * W ≤ n * W := Nat.mul_le_mul_right W hn
    rw [W_eq] at h3 ⊢
    omega
  · have h2 : n * (n + 17) ≤ n * W := Nat.mul_le_mul_left n hnW
    have h3 : (n + 8) * (n + 8) < n * (n + 17) := by
      simp only [Nat.add_mul, Nat.mul_add]
      omega
    omega

theorem rhoStep_total {n ninv c : Nat} (hn : 3 ≤ n) (hnW : n + 17 ≤ W) (hc : c ≤ 9)
    (hninv : (n * ninv + 1) % W = 0) {s : RhoState} (hs : RhoInv n c s) (e2 : Nat) :
    ∃ r, rhoStep n ninv c s e2 = some r ∧ ∀ s', r = .inr s' → RhoInv n c s' := by
  obtain ⟨sq, hsq, hsqn, -⟩ := mgRedc_of_lt (x := s.x2 * s.x2) (show 0 < n by omega) le_rfl (by omega) hninv
    (sq_dom hn hnW hc hs.x2)
  have hsq' : mgMul n ninv s.x2 s.x2 = some sq := hsq
  obtain ⟨pn, hpn, hpnn, -⟩ := mgMul_of_lt (y := absDiff s.x1 (sq + c)) (show 0 < n by omega)
    (by omega) hninv hs.prod (absDiff_lt hs.x1 (by omega))
  unfold rhoStep
  simp only [Option.bind_eq_bind, hsq', Option.bind_some]
  rw [if_neg (by omega : ¬ sq + c ≥ W)]
  by_cases h1 : e2 < s.nstart
  · rw [if_pos h1]
    refine ⟨_, rfl, fun s' h => ?_⟩
    injection h with h; subst h
    exact ⟨hs.x1, by simpa using (by omega : sq + c < n + c), hs.prod, hs.nend⟩
  · rw [if_neg h1]
    simp only [hpn, Option.bind_some]
    split
    · exact ⟨_, rfl, fun s' h => by cases h⟩
    · split
      · exact ⟨_, rfl, fun s' h => by cases h⟩
      · by_cases he : e2 = s.nend
        · rw [if_pos he]
          obtain ⟨j, hj⟩ := hs.nend
          have hp : e2 + 1 = 2 ^ j := by omega
          rw [hp, Nat.log2_two_pow]
          simp only [ne_eq, not_true_eq_false, if_false]
          refine ⟨_, rfl, fun s' h => ?_⟩
          injection h with h; subst h
          have hpos : 0 < 2 ^ j := Nat.two_pow_pos j
          exact ⟨by show sq + c < W; omega, by show sq + c < n + c; omega, hpnn,
            ⟨j + 1, by show 2 * 2 ^ j - 1 + 1 = 2 ^ (j + 1); rw [pow_succ]; omega⟩⟩
        · rw [if_neg he]
          refine ⟨_, rfl, fun s' h => ?_⟩
          injection h with h; subst h
          exact ⟨hs.x1, by show sq + c < n + c; omega, hpnn, hs.nend⟩

theorem rhoLoop_total {n ninv c iters : Nat} (hn : 3 ≤ n) (hnW : n + 17 ≤ W) (hc : c ≤ 9)
    (hninv : (n * ninv + 1) % W = 0) : ∀ (f e2 : Nat) (s : RhoState), RhoInv n c s →
    ∃ r, rhoLoop n ninv c iters f e2 s = some r
  | 0, _, s, _ => ⟨_, rfl⟩
  | f + 1, e2, s, hs => by
    rw [rhoLoop]
    split
    · exact ⟨_, rfl⟩
    · obtain ⟨r, hr, hinv⟩ := rhoStep_total hn hnW hc hninv hs e2
      rw [hr]
      cases r with
      | inl r => exact ⟨_, rfl⟩
      | inr s' => exact rhoLoop_total hn hnW hc hninv f (e2 + 1) s' (hinv s' rfl)

theorem rhoTry_total {n0 iters : Nat} : ∀ (cs : List Nat),
    (∀ c ∈ cs, ∃ r, rho64 n0 c iters = some r) → ∃ r, rhoTry n0 iters cs = some r
  | [], _ => ⟨_, rfl⟩
  | c :: cs, h => by
    obtain ⟨r, hr⟩ := h c List.mem_cons_self
    rw [rhoTry, hr]
    cases r with
    | some pq => exact ⟨_, rfl⟩
    | none => exact rhoTry_total cs (fun c' hc' => h c' (List.mem_cons_of_mem _ hc'))

theorem rhoTry_some {n0 iters : Nat} {pq : Nat × Nat} : ∀ (cs : List Nat),
    rhoTry n0 iters cs = some (some pq) → ∃ c ∈ cs, rho64 n0 c iters = some (some pq)
  | [], h => by simp [rhoTry] at h
  | c :: cs, h => by
    rw [rhoTry] at h
    split at h
    · exact absurd h (by simp)
    · rename_i pq' hr
      simp only [Option.some.injEq] at h
      subst h
      exact ⟨c, List.mem_cons_self, hr⟩
    · obtain ⟨c', hc', h'⟩ := rhoTry_some cs h
      exact ⟨c', List.mem_cons_of_mem _ hc', h'⟩

theorem lt_W_of_bits {n : Nat} (h : bits n ≤ 64) : n < W :=
  W_eq ▸ (Bits.bitlen_le_iff bits (fun _ => rfl) n 64).mp h

theorem rhoIters_none {size : Nat} (h : 64 < size) : rhoIters size = none := by
  unfold rhoIters
  repeat (rw [if_neg (by omega)])

theorem rhoIters_some {size iters : Nat} (h : rhoIters size = some iters) : size ≤ 64 := by
  by_contra hc
  rw [rhoIters_none (by omega)] at h
  cases h

theorem ite_some_ex {α : Type} {c : Prop} [Decidable c] {a : α} {x : Option α}
    (h : ¬ c → ∃ r, x = some r) : ∃ r, (if c then some a else x) = some r := by
  by_cases hc : c
  · exact ⟨a, if_pos hc⟩
  · rw [if_neg hc]; exact h hc

theorem rhoIters_of_le {size : Nat} (h : size ≤ 64) : ∃ iters, rhoIters size = some iters := by
  unfold rhoIters
  iterate 7 refine ite_some_ex fun _ => ?_
  exact ite_some_ex fun h8 => absurd h h8

theorem rho_some {n : Nat} {as : List Nat} {b : Nat} (h : rho n = some (some (as, b))) :
    bits n ≤ 64 ∧ ∃ c ∈ rhoCs, ∃ iters a, rhoIters (bits n) = some iters ∧
      rho64 n c iters = some (some (a, b)) ∧ as = [a] := by
  unfold rho at h
  simp only at h
  split at h
  · exact absurd h (by simp)
  · rename_i iters hit
    have hb := rhoIters_some hit
    have hmod : n % W = n := Nat.mod_eq_of_lt (lt_W_of_bits hb)
    rw [hmod] at h
    split at h
    · exact absurd h (by simp)
    · exact absurd h (by simp)
    · rename_i p q htry
      simp only [Option.some.injEq, Prod.mk.injEq] at h
      obtain ⟨c, hc, h64⟩ := rhoTry_some _ htry
      exact ⟨hb, c, hc, iters, p, hit, by rw [← h.2]; exact h64, h.1.symm⟩

end Ymq.PollardRho
