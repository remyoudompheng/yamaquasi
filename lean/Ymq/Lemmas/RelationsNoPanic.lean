/-
`add_no_panic` (C11): inside the callers' contract `InputOK2`, on a store satisfying `Inv` and
`Inv2`, `add` reaches no assertion, no `unwrap`/index failure, no debug assertion, and never runs
out of the recursion fuel the model gives it; the only error left is `.overflow` of a `u64`
exponent / cycle-length counter (excluded on the realistic domain:
`history_no_overflow` in Ymq/Props/C11Total.lean).
-/
import Ymq.Lemmas.RelationsInv2

namespace Ymq.Relations

/-- "no panic": the only possible error is an arithmetic overflow of a counter -/
abbrev NP {α : Type} (x : M α) : Prop := ErrIn (fun e => e = .overflow) x

theorem packFactors_total : ∀ (fs : List (Int × Nat)), FOK fs → ∃ ints, packFactors fs = .ok ints := by
  intro fs
  induction fs with
  | nil => intro _; exact ⟨[], rfl⟩
  | cons f t ih =>
    obtain ⟨p, k⟩ := f
    intro hf
    rw [FOK, List.forall_mem_cons] at hf
    obtain ⟨l, hl⟩ := ih hf.2
    rw [packFactors_cons]
    by_cases hp : p = -1
    · rw [if_pos hp]
      split
      · exact ⟨l, hl⟩
      · rw [hl]; exact ⟨0 :: l, rfl⟩
    · rw [if_neg hp]
      rcases hf.1 with h1 | ⟨h0, h32, hk, hodd⟩
      · exact absurd h1 hp
      · simp only at h0 h32 hk hodd
        rw [if_neg (not_not.mpr ⟨h0, h32, hk⟩)]
        have hpn : (p.toNat : Int) = p := Int.toNat_of_nonneg (le_of_lt h0)
        have : (if p = 2 then 1 else p.toNat) % 2 = 1 := by
          split
          · rfl
          · rcases hodd with hodd | hodd
            · contradiction
            · omega
        rw [if_neg (not_not.mpr this), hl]
        simp only [ok_bind]
        split
        · exact ⟨_, rfl⟩
        · exact ⟨_, rfl⟩

theorem pack_total {r : Relation} (hf : FOK r.factors) : ∃ b, pack r = .ok b := by
  obtain ⟨l, hl⟩ := packFactors_total _ hf
  unfold pack packInts
  rw [hl]
  exact ⟨_, rfl⟩

theorem addCycle_total {r : Relation} (s : Store) (hc : r.cofactor = 1) (hl : 0 < r.cyclelen) :
    ∃ s', addCycle r s = .ok s' := by
  unfold addCycle
  rw [if_neg (by simpa using hc), if_neg (by omega)]
  exact ⟨_, rfl⟩

theorem bump_np (p : Int) (k : Nat) : ∀ (fs : List (Int × Nat)), NP (bump p k fs) := by
  intro fs
  induction fs with
  | nil => exact ErrIn.pure _
  | cons f t ih =>
    obtain ⟨p', k'⟩ := f
    unfold bump
    split
    · split
      · exact ErrIn.pure _
      · exact ErrIn.throw rfl
    · exact ErrIn.bind ih (fun _ _ => ErrIn.pure _)

theorem mergeFactors_np : ∀ (fs acc : List (Int × Nat)), NP (mergeFactors acc fs) := by
  intro fs
  induction fs with
  | nil => intro acc; exact ErrIn.pure _
  | cons f t ih =>
    obtain ⟨p, k⟩ := f
    intro acc
    unfold mergeFactors
    split
    · exact ErrIn.bind (bump_np p k acc) (fun acc' _ => ih acc')
    · exact ih _

theorem combine_np {n : Nat} {r1 r2 : Relation} (hn : 0 < n) (hc : r2.cofactor ≠ 0)
    (hd : r1.cofactor % r2.cofactor = 0) : NP (combine n r1 r2) := by
  unfold combine
  refine ErrIn.bind (mergeFactors_np _ _) (fun fs _ => ?_)
  rw [if_neg hc, if_pos hd, if_neg (by omega)]
  split
  · exact ErrIn.pure _
  · exact ErrIn.throw rfl

theorem verifyLoop_append (n len : Nat) : ∀ (a b : List (Int × Nat)) (prod : Nat),
    verifyLoop n len (a ++ b) prod = verifyLoop n len a prod >>= verifyLoop n len b := by
  intro a
  induction a with
  | nil => intro b prod; rfl
  | cons f t ih =>
    obtain ⟨p, k⟩ := f
    intro b prod
    simp only [List.cons_append, verifyLoop, ite_bind', throw_bind, ih]

theorem verifyLoop_total (n len : Nat) (hn : 0 < n) : ∀ (fs : List (Int × Nat)) (prod : Nat),
    prod ≤ n → (∀ f ∈ fs, f.1 = -1 ∨ 0 < f.1) →
    ∃ out, verifyLoop n len fs prod = .ok out ∧ out ≤ n := by
  intro fs
  induction fs with
  | nil => intro prod hp _; exact ⟨prod, rfl, hp⟩
  | cons f t ih =>
    obtain ⟨p, k⟩ := f
    intro prod hp hpos
    have hpt : ∀ f ∈ t, f.1 = -1 ∨ 0 < f.1 := fun f hf => hpos f (List.mem_cons_of_mem _ hf)
    unfold verifyLoop
    by_cases hm : p = -1
    · rw [if_pos hm]
      split
      · rw [if_neg (by omega)]; exact ih (n - prod) (Nat.sub_le _ _) hpt
      · exact ih prod hp hpt
    · have hp0 : 0 < p := (hpos (p, k) List.mem_cons_self).resolve_left hm
      rw [if_neg hm, if_pos (Or.inl hp0), if_neg (by omega)]
      exact ih _ (le_of_lt (Nat.mod_lt _ hn)) hpt

/-- the sign entry leaves `n - prod`, which is `n` itself for `prod = 0`; only after an entry with
a positive base is the running product known to be reduced -/
theorem verifyLoop_last (n len : Nat) (hn : 0 < n) (fs : List (Int × Nat)) (p : Int) (k prod : Nat)
    (hprod : prod ≤ n) (hpos : ∀ f ∈ fs, f.1 = -1 ∨ 0 < f.1) (hp : 0 < p) :
    ∃ out, verifyLoop n len (fs ++ [(p, k)]) prod = .ok out ∧ out < n := by
  obtain ⟨o, ho, _⟩ := verifyLoop_total n len hn fs prod hprod hpos
  rw [verifyLoop_append, ho]
  refine ⟨o * powMod (toU64 p) k n % n, ?_, Nat.mod_lt _ hn⟩
  show verifyLoop n len [(p, k)] o = _
  simp only [verifyLoop]
  rw [if_neg (by omega), if_pos (Or.inl hp), if_neg (by omega)]
  rfl

theorem verify_complete {n : Nat} {r : Relation} (hn : 0 < n) (hv : Valid n r)
    (hty : TypedF r.factors) (hc : r.cofactor ≤ n) {fs : List (Int × Nat)} {p : Int} {k : Nat}
    (hfs : r.factors = fs ++ [(p, k)]) (hpos : ∀ f ∈ fs, f.1 = -1 ∨ 0 < f.1) (hp : 0 < p) :
    verify n r = .ok true := by
  obtain ⟨out, h1, hlt⟩ := verifyLoop_last n r.factors.length hn fs p k r.cofactor hc hpos hp
  rw [← hfs] at h1
  have hs := verifyLoop_spec n _ _ _ _ hty h1
  unfold verify
  rw [h1]
  simp only [ok_bind]
  rw [if_neg (by omega)]
  have : r.x * r.x % n = out := by
    unfold Valid at hv
    have hz : ((r.x * r.x : Nat) : Int) ≡ (out : Int) [ZMOD n] := by
      push_cast; exact hv.trans hs.symm
    have := Int.natCast_modEq_iff.mp hz
    unfold Nat.ModEq at this
    rw [this, Nat.mod_eq_of_lt hlt]
  rw [this]
  simp [pure, Except.pure]

theorem cof_one_of_mul {c p : Nat} (h : c * p = p) (hp : 0 < p) : c = 1 := by
  have : c * p = 1 * p := by rw [h, one_mul]
  exact Nat.eq_of_mul_eq_mul_right hp this

theorem stored_single {s : Store} (hg : Good s) (h2 : Inv2 s) {k : Nat} {bk : List Nat}
    (hl : alookup k s.partials = some bk) :
    ∃ rk, unpack bk = .ok rk ∧ rk.cofactor = k ∧ RelOK s.n rk ∧ RelOK2 rk ∧ LargeOK k := by
  obtain ⟨rk, hu, _, _, hc, hk⟩ := hg.1.single_ex hl
  obtain ⟨hlk, hgk⟩ := h2.par _ (alookup_mem hl)
  exact ⟨rk, hu, hc, hk, relOK2_of_unpack hu hgk, hlk⟩

theorem combine_key_np {n : Nat} {r rk : Relation} {k : Nat} (hn : 0 < n) (hck : rk.cofactor = k)
    (hdvd : r.cofactor % k = 0) (hlk : LargeOK k) : NP (combine n r rk) :=
  combine_np hn (by rw [hck]; have := hlk.1; omega) (by rw [hck]; exact hdvd)

theorem combineSingle_np {r : Relation} {s : Store} (hg : Good s) (h2 : Inv2 s) (hn : 0 < s.n)
    (hr : RelOK s.n r) (hr2 : RelOK2 r) : NP (combineSingle r s) := by
  unfold combineSingle
  split
  · exact ErrIn.pure _
  · rename_i blob hlook
    obtain ⟨r0, hu, hc0, hk0, hk02, hl⟩ := stored_single hg h2 hlook
    rw [hu]
    simp only [ok_bind]
    refine ErrIn.bind (combine_key_np hn hc0 (Nat.mod_self _) hl) (fun rr hrr => ?_)
    obtain ⟨h3, _, hmul, hkpos⟩ := combine_key hrr hr hk0 hc0 (Nat.mod_self _) hl.ne1 hl.lt32
    obtain ⟨hf, hlen⟩ := combine_stored2 hrr hr2.fok hk02.fok hc0 (Nat.mod_self _) hl
    have hcof : rr.cofactor = 1 := cof_one_of_mul hmul hkpos
    split
    · exact ErrIn.pure _
    · have hver : verify s.n rr = .ok true := by
        obtain ⟨_, _, fs, _, hfs⟩ := combine_divisor hrr
        refine verify_complete hn h3.valid h3.typed.2.2 (by rw [hcof]; exact hn) hfs
          (fun f hf' => (hf f (hfs ▸ List.mem_append_left _ hf')).imp id And.left) ?_
        have hd : divisorCof r r0 = r.cofactor := by
          unfold divisorCof; rw [hc0, if_pos (Nat.mod_self _)]
        rw [hd, toI64_small (W32_lt_I63 hl.lt32)]
        show (0 : Int) < (r.cofactor : Int)
        exact_mod_cast hkpos
      rw [hver]
      simp only
      obtain ⟨s1, hs1⟩ := addCycle_total s hcof (by rw [hlen]; have := hr2.clen; omega)
      rw [hs1]
      simp only [ok_bind]
      split
      · obtain ⟨b, hb⟩ := pack_total hr2.fok
        rw [hb]; exact ErrIn.ok _
      · exact ErrIn.pure _

/-- combining `r` (cofactor `k·k'`) with the stored single `rk` of `k`, checking the cofactor and
packing the result: the tail of three arms of `combine_double_step` -/
theorem newSingle_np {α : Type} {n : Nat} {r rk : Relation} {k k' : Nat} {F : List Nat → M α}
    (hn : 0 < n) (hr : RelOK n r) (hr2 : RelOK2 r) (hk : RelOK n rk) (hk2 : RelOK2 rk)
    (hck : rk.cofactor = k) (hcof : r.cofactor = k * k') (hlk : LargeOK k) (hF : ∀ b, NP (F b)) :
    NP (combine n r rk >>= fun rr =>
      if rr.cofactor ≠ k' then throw .panic else pack rr >>= F) := by
  have hdvd : r.cofactor % k = 0 := by rw [hcof]; exact Nat.mul_mod_right _ _
  refine ErrIn.bind (combine_key_np hn hck hdvd hlk) (fun rr hrr => ?_)
  obtain ⟨_, _, hmul, hk0⟩ := combine_key hrr hr hk hck hdvd hlk.ne1 hlk.lt32
  have hc' : rr.cofactor = k' :=
    Nat.eq_of_mul_eq_mul_right hk0 (by rw [hmul, hcof, Nat.mul_comm])
  obtain ⟨hf, _⟩ := combine_stored2 hrr hr2.fok hk2.fok hck hdvd hlk
  obtain ⟨b, hb⟩ := pack_total hf
  rw [if_neg (not_not.mpr hc'), hb, ok_bind]
  exact hF b

theorem step_np {r : Relation} {p q : Nat} {s : Store} (hg : Good s) (h2 : Inv2 s) (hn0 : 0 < s.n)
    (hr : RelOK s.n r) (hr2 : RelOK2 r) (hc : r.cofactor = p * q) (hp : LargeOK p) (hq : LargeOK q) :
    NP (combineDoubleStep r p q s) := by
  have hc' : r.cofactor = q * p := hc.trans (Nat.mul_comm _ _)
  unfold combineDoubleStep
  split
  · obtain ⟨s1, hs1⟩ := addCycle_total
      (r := { r with cofactor := 1, factors := r.factors ++ [(toI64 p, 2)] }) s rfl hr2.clen
    rw [hs1]; exact ErrIn.ok _
  · split
    · rename_i bp bq hlp hlq
      obtain ⟨rp, hup, hcp, hkp, hkp2, _⟩ := stored_single hg h2 hlp
      obtain ⟨rq, huq, hcq, hkq, hkq2, _⟩ := stored_single hg h2 hlq
      rw [hup, huq]
      simp only [ok_bind]
      have hmodp : r.cofactor % p = 0 := by rw [hc]; exact Nat.mul_mod_right _ _
      refine ErrIn.bind (combine_key_np hn0 hcp hmodp hp) (fun r1 hr1 => ?_)
      obtain ⟨h1, _, h1m, hp0⟩ := combine_key hr1 hr hkp hcp hmodp hp.ne1 hp.lt32
      obtain ⟨h1f, h1l⟩ := combine_stored2 hr1 hr2.fok hkp2.fok hcp hmodp hp
      have hr1c : r1.cofactor = q := Nat.eq_of_mul_eq_mul_right hp0 (by rw [h1m, hc, Nat.mul_comm])
      have hmodq : r1.cofactor % q = 0 := by rw [hr1c]; exact Nat.mod_self _
      refine ErrIn.bind (combine_key_np hn0 hcq hmodq hq) (fun r2 hr2' => ?_)
      obtain ⟨_, _, h2m, hq0⟩ := combine_key hr2' h1 hkq hcq hmodq hq.ne1 hq.lt32
      obtain ⟨_, h2l⟩ := combine_stored2 hr2' h1f hkq2.fok hcq hmodq hq
      obtain ⟨s1, hs1⟩ := addCycle_total s (cof_one_of_mul (hr1c ▸ h2m) hq0)
        (by rw [h2l, h1l]; have := hr2.clen; omega)
      rw [hs1]
      simp only [ok_bind]
      split
      · exact newSingle_np hn0 hr hr2 hkp hkp2 hcp hc hp (fun _ => ErrIn.pure _)
      · split
        · exact newSingle_np hn0 hr hr2 hkq hkq2 hcq hc' hq (fun _ => ErrIn.pure _)
        · exact ErrIn.pure _
    · rename_i bp hlp hlq
      obtain ⟨rp, hup, hcp, hkp, hkp2, _⟩ := stored_single hg h2 hlp
      rw [hup]
      simp only [ok_bind]
      exact newSingle_np hn0 hr hr2 hkp hkp2 hcp hc hp (fun _ => ErrIn.pure _)
    · rename_i bq hlp hlq
      obtain ⟨rq, huq, hcq, hkq, hkq2, _⟩ := stored_single hg h2 hlq
      rw [huq]
      simp only [ok_bind]
      exact newSingle_np hn0 hr hr2 hkq hkq2 hcq hc' hq (fun _ => ErrIn.pure _)
    · exact ErrIn.pure _

/-- a removal step from a double one of whose primes is a key: `assert!(ok)` holds -/
theorem removeStep_np {p q : Nat} {s : Store} (hg : Good s) (h2 : Inv2 s) (hn0 : 0 < s.n)
    (hpk : pkey s p ∨ pkey s q) : NP (removeStep p q s) := by
  unfold removeStep
  split
  · exact ErrIn.pure _
  · rename_i blob hl
    obtain ⟨r, hu, _, _, _, _, hc, hr⟩ := hg.1.double_ex hl
    obtain ⟨hlp, hlq, hgf⟩ := h2.dbl _ (alookup_mem hl)
    rw [hu]
    simp only [ok_bind]
    refine ErrIn.bind (step_np (s := s.eraseDouble p q) ⟨inv_erase_double hg.1 p q, hg.2⟩
      (inv2_erase_double h2 p q) hn0 hr (relOK2_of_unpack hu hgf) hc hlp hlq) (fun st hst => ?_)
    split
    · exact ErrIn.pure _
    · rename_i hok
      obtain ⟨_, hnp, hnq, _⟩ := combineDoubleStep_declined hst (by simpa using hok)
      exact (hpk.elim (not_pkey_of_lookup (s := s.eraseDouble p q) hnp)
        (not_pkey_of_lookup (s := s.eraseDouble p q) hnq)).elim

theorem step_request {r : Relation} {p q x : Nat} {s : Store} {st : Bool × Option Nat × Store}
    (h : combineDoubleStep r p q s = .ok st) (hp32 : p < W32) (hq32 : q < W32)
    (hx : st.2.1 = some x) : pkey st.2.2 x := by
  rcases combineDoubleStep_ok h with ⟨_, _, _, rfl⟩ |
    ⟨_, _, _, _, _, _, _, _, _, _, _, _, _, _, _, rfl | ⟨_, _, _, _, _, rfl⟩⟩ |
    ⟨_, k, k', b, hk, _, _, rfl⟩ | ⟨_, _, _, rfl⟩
  · cases hx
  · cases hx
  · cases hx
  · have hk32 : k' < W32 := by rcases hk with ⟨_, rfl⟩ | ⟨_, rfl⟩ <;> assumption
    cases hx
    rw [Nat.mod_eq_of_lt hk32]
    exact pkey_setPartial.mpr (Or.inl rfl)
  · cases hx

theorem removeStep_request {p q x : Nat} {s : Store} {res : StepRes × Store}
    (h : removeStep p q s = .ok res) (hx : res.1.req = some x) (hi : Inv s) :
    pkey res.2 x ∧ res.2.doubles.length < s.doubles.length := by
  rcases removeStep_ok h with ⟨_, rfl⟩ | ⟨blob, r, st, hl, hu, hst, _, rfl⟩
  · cases hx
  · obtain ⟨hlt, _, _, hq32, _⟩ := hi.double hl hu
    exact ⟨step_request hst (lt_trans hlt hq32) hq32 hx, (removeStep_len h).2.2 ⟨blob, alookup_mem hl⟩⟩

/-- the walk from a key of `partial` cannot panic when its recursion fuel exceeds the number of
stored doubles -/
def WalkNP (f : Nat) : Prop :=
  ∀ root s, Good s → Inv2 s → 0 < s.n → pkey s root → s.doubles.length < f →
    NP (walkDoubles f root s)

section Loops
variable {f : Nat} (ih : WalkNP f)
include ih

theorem walkStep_np {p q : Nat} {s : Store} (hg : Good s) (h2 : Inv2 s) (hn0 : 0 < s.n)
    (hpk : pkey s p ∨ pkey s q) (hlen : s.doubles.length ≤ f) :
    NP (walkStep (walkDoubles f) p q s) := by
  rw [walkStep_eq_remove]
  refine ErrIn.bind (removeStep_np hg h2 hn0 hpk) (fun res hrs => ErrIn.serve (fun x hx => ?_))
  obtain ⟨hk, h21⟩ := inv2_stepRel.step ⟨hg, h2⟩ hrs
  obtain ⟨hpx, hlt⟩ := removeStep_request hrs hx hg.1
  exact ih x res.2 (hg.of_keeps hk) h21 (by rw [hk.1]; exact hn0) hpx (lt_of_lt_of_le hlt hlen)

theorem walkLoop1_np : ∀ (l : List (Nat × Nat)) (s : Store), Good s → Inv2 s → 0 < s.n →
    (∀ k ∈ l, pkey s k.1 ∨ pkey s k.2) → s.doubles.length ≤ f →
    NP (walkLoop1 (walkDoubles f) l s) := by
  intro l
  induction l with
  | nil => intro s _ _ _ _ _; exact ErrIn.pure _
  | cons e t iht =>
    obtain ⟨p, q⟩ := e
    intro s hg h2 hn0 hpk hlen
    unfold walkLoop1
    refine ErrIn.bind (walkStep_np ih hg h2 hn0 (hpk (p, q) List.mem_cons_self) hlen)
      (fun s1 hs1 => ?_)
    obtain ⟨hk, h21⟩ := inv2_stepRel.of_walkStep
      (fun hp h => inv2_stepRel.of_walkDoubles f _ hp h) ⟨hg, h2⟩ hs1
    obtain ⟨hm, _⟩ := walkStep_mono (fun x _ _ h => mono_stepRel.of_walkDoubles f x trivial h) hs1
    exact iht s1 (hg.of_keeps hk) h21 (by rw [hk.1]; exact hn0)
      (fun k hk' => (hpk k (List.mem_cons_of_mem _ hk')).imp (hm.pmono _) (hm.pmono _))
      (Nat.le_trans hm.dlen hlen)

theorem walkRec_np (root : Nat) : ∀ (l : List (Nat × Nat)) (s : Store), Good s → Inv2 s → 0 < s.n →
    (∀ k ∈ l, k.1 = root ∧ pkey s k.2) → s.doubles.length < f →
    NP (walkRec (walkDoubles f) root l s) := by
  intro l
  induction l with
  | nil => intro s _ _ _ _ _; exact ErrIn.pure _
  | cons e t iht =>
    obtain ⟨a, b⟩ := e
    intro s hg h2 hn0 hl hlen
    obtain ⟨ha, hb⟩ := hl (a, b) List.mem_cons_self
    unfold walkRec
    rw [if_neg (not_not.mpr ha)]
    refine ErrIn.bind (ih b s hg h2 hn0 hb hlen) (fun s1 hs1 => ?_)
    obtain ⟨hk, h21⟩ := inv2_stepRel.of_walkDoubles f b ⟨hg, h2⟩ hs1
    have hm := mono_stepRel.of_walkDoubles f b trivial hs1
    exact iht s1 (hg.of_keeps hk) h21 (by rw [hk.1]; exact hn0)
      (fun k hk' => ⟨(hl k (List.mem_cons_of_mem _ hk')).1, hm.pmono _ (hl k (List.mem_cons_of_mem _ hk')).2⟩)
      (lt_of_le_of_lt hm.dlen hlen)

end Loops

theorem walkDoubles_np : ∀ (fuel : Nat), WalkNP fuel := by
  intro fuel
  induction fuel with
  | zero => exact fun _ _ _ _ _ _ h => absurd h (Nat.not_lt_zero _)
  | succ fuel ih =>
    intro root s hg h2 hn0 hroot hlen
    have hlen' : s.doubles.length ≤ fuel := by omega
    have hwf : ∀ {x s s'}, Good s ∧ Inv2 s → walkDoubles fuel x s = .ok s' → Keeps s s' ∧ Inv2 s' :=
      fun hp h => inv2_stepRel.of_walkDoubles fuel _ hp h
    have hmf : ∀ x s s', walkDoubles fuel x s = .ok s' → Mono s s' :=
      fun x _ _ h => mono_stepRel.of_walkDoubles fuel x trivial h
    rw [walkDoubles_frame]
    -- root is a usable key, so `root + 1` fits
    obtain ⟨b0, hb0⟩ := hroot
    have hL := (h2.par _ hb0).1
    rw [if_neg (by have := hL.2.1; simp only at this; omega)]
    have hroot : pkey s root := ⟨b0, hb0⟩
    have hkeys : ∀ k ∈ keysOf s root, pkey s k.1 ∨ pkey s k.2 := fun k hk =>
      ((mem_keysOf hg.1).mp hk).2.imp (fun e => by rw [e]; exact hroot) (fun e => by rw [e]; exact hroot)
    refine ErrIn.bind (walkLoop1_np ih _ s hg h2 hn0 hkeys hlen') (fun s2 hs2 => ?_)
    obtain ⟨k2, j2⟩ := inv2_stepRel.of_walkLoop1 hwf ⟨hg, h2⟩ hs2
    obtain ⟨m, c, d⟩ := walkLoop1_mono hmf _ _ _ hs2
    -- both primes of every removed double are keys now
    have hrem : ∀ k ∈ keysOf s root, pkey s2 k.1 ∧ pkey s2 k.2 := fun k hk => by
      obtain ⟨⟨b, hb⟩, _⟩ := (mem_keysOf hg.1).mp hk
      have hne : k.1 ≠ k.2 := by have := (hg.1.dbl _ hb).1; simp only at this; omega
      exact m.removed k ⟨b, hb⟩ (c k hk) hne
    have hother : ∀ e ∈ pqsOf s root ++ qpsOf s root, e.1 = root ∧ pkey s2 e.2 := fun e he =>
      ⟨(mem_recKeys he).1, (mem_recKeys he).2.elim (fun hk => (hrem _ hk).2) (fun hk => (hrem _ hk).1)⟩
    by_cases h0 : pqsOf s root ++ qpsOf s root = []
    · rw [h0]; exact ErrIn.pure _
    · -- there is something to walk from, so a double has been removed
      obtain ⟨e, he⟩ := List.exists_mem_of_ne_nil _ h0
      have hk : ∃ k ∈ keysOf s root, dkey s k :=
        (mem_recKeys he).2.elim (fun hk => ⟨_, hk, ((mem_keysOf hg.1).mp hk).1⟩)
          (fun hk => ⟨_, hk, ((mem_keysOf hg.1).mp hk).1⟩)
      exact walkRec_np ih root _ s2 (hg.of_keeps k2) j2 (by rw [k2.1]; exact hn0) hother
        (by have := d hk; omega)

theorem head_request {r : Relation} {pq : Option (Nat × Nat)} {s : Store} {h1 : StepRes × Store}
    {x : Nat} (h : addHead r pq s = .ok h1) (hx : h1.1.req = some x) : pkey h1.2 x := by
  rcases (addHead_ok h).2 with ⟨_, hn, _⟩ | ⟨_, _, res, _, ⟨_, rfl⟩ | ⟨_, _, b, _, rfl⟩⟩ | ⟨_, _, _, rfl⟩ |
    ⟨_, _, p, q, _, hp32, hq32, ⟨st, hst, _, rfl⟩ | ⟨_, _, _, b, _, rfl⟩⟩
  · rw [hn] at hx; cases hx
  · cases hx
  · cases hx; exact pkey_setPartial.mpr (Or.inl rfl)
  · cases hx
  · exact step_request hst hp32 hq32 hx
  · cases hx

theorem head_np {r : Relation} {pq : Option (Nat × Nat)} {s : Store} (hg : Good s) (hi2 : Inv2 s)
    (hin : InputOK2 s r pq) : NP (addHead r pq s) := by
  have hr := hin.base.rel
  have hr2 := hin.rel
  have hn0 : 0 < s.n := by have := hin.xlt; omega
  unfold addHead
  rw [if_neg (not_not.mpr hin.xlt)]
  split
  · rename_i hc1
    obtain ⟨s1, hs1⟩ := addCycle_total s hc1 hr2.clen
    rw [hs1]; exact ErrIn.ok _
  · rename_i hc1
    split
    · rename_i hlt
      refine ErrIn.bind (combineSingle_np (hg.counters rfl rfl rfl rfl rfl) ⟨hi2.par, hi2.dbl, hi2.cyc⟩
        hn0 hr hr2) (fun res _ => ?_)
      split
      · exact ErrIn.pure _
      · obtain ⟨b, hb⟩ := pack_total hr2.fok
        rw [hb, ok_bind, if_neg (by have := (hin.single hc1 hlt).lt32; omega)]
        exact ErrIn.pure _
    · split
      · exact ErrIn.pure _
      · rename_i hge p q
        obtain ⟨hp, hq⟩ := hin.pairOK p q rfl (by omega)
        rw [if_neg (by have := hp.lt32; have := hq.lt32; omega)]
        refine ErrIn.bind (step_np (hg.counters rfl rfl rfl rfl rfl) ⟨hi2.par, hi2.dbl, hi2.cyc⟩ hn0
          hr hr2 (hin.base.pair p q rfl).1 hp hq) (fun st _ => ?_)
        split
        · exact ErrIn.pure _
        · obtain ⟨b, hb⟩ := pack_total hr2.fok
          rw [hb]; exact ErrIn.ok _

theorem add_np {r : Relation} {pq : Option (Nat × Nat)} {s : Store} (hi : Inv s) (hi2 : Inv2 s)
    (hn : s.n ≤ X512) (hin : InputOK2 s r pq) : NP (add r pq s) := by
  have hg : Good s := ⟨hi, hn⟩
  rw [add_eq_addWith]
  refine ErrIn.bind (head_np hg hi2 hin) (fun h1 hh => ErrIn.serve (fun x hx => ?_))
  have hk := head_keeps hh hg hin.base
  exact walkDoubles_np _ x _ (hg.of_keeps hk) (head_inv2 hh hg hi2 hin)
    (by rw [hk.1]; have := hin.xlt; omega) (head_request hh hx) (Nat.lt_succ_self _)

theorem IsRun.errIn2 {run : List (Relation × Option (Nat × Nat)) → Store → M Store}
    {wk : Nat → Store → M Store} (hrun : IsRun run wk) (hwk : IsWalk wk) {E : Err → Prop}
    (herr : ∀ {s r pq}, Good s → Inv2 s → InputOK2 s r pq → ErrIn E (addWith wk r pq s))
    (ops : List (Relation × Option (Nat × Nat))) (s : Store) (hg : Good s) (h2 : Inv2 s)
    (hok : HistoryOK2 s.n s.maxlarge ops) : ErrIn E (run ops s) :=
  hrun.errIn (P := fun _ s1 => Good s1 ∧ Inv2 s1)
    (C := fun n m op => ∀ s1 : Store, s1.n = n → s1.maxlarge = m → InputOK2 s1 op.1 op.2)
    (addWith_step2 hwk) (fun _ hp hc => herr hp.1 hp.2 (hc _ rfl rfl)) ops 0 s ⟨hg, h2⟩ hok
    (Nat.le_refl _)

end Ymq.Relations
