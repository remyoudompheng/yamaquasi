/-
C14 "small", helper lemmas (Mathlib): one elimination step on the rows (`elim_rows`, shared with the
forward phase of `pseudoinverse` and `inverse`), the loop invariant of `SmallMat::rank` and its consequences:
no panic, `rk` = number of selected rows = `Matrix.rank`, the selected original rows span the row space.
-/
import Ymq.Lemmas.Gf2SmallLin
import Ymq.Lemmas.Gf2SmallEntry
import Ymq.Lemmas.Loops

namespace Ymq.Gf2Small
open Matrix Module

theorem lz_xor_gt {n i a b : Nat} (hi : i < n) (ha : lz n a = i) (hb : lz n b = i) : i < lz n (a ^^^ b) := by
  apply Nat.lt_of_not_le
  intro hle
  have hbit := lz_bit (n := n) (w := a ^^^ b) (by omega)
  rw [Nat.testBit_xor] at hbit
  rcases Nat.lt_or_eq_of_le hle with h | h
  · rw [lz_below (n := n) (w := a) (by omega), lz_below (n := n) (w := b) (by omega)] at hbit
    cases hbit
  · have h1 := lz_bit (n := n) (w := a) (by omega)
    have h2 := lz_bit (n := n) (w := b) (by omega)
    rw [ha] at h1; rw [hb] at h2
    rw [h, h1, h2] at hbit
    cases hbit

/-- One elimination step on the rows `m`: row `j`, whose leading bit `b` is minimal from row `p` on, is
exchanged with row `p ≤ j` (giving `m1`), then added to the rows below `p` with leading bit `b` (giving `m'`). -/
theorem elim_rows {n b p j : Nat} {m m1 m' : Nat → Nat} (hb : b < n) (hj : j < n) (hpj : p ≤ j)
    (hlt : ∀ k, k < n → m k < 2 ^ n) (hlz : lz n (m j) = b)
    (hrest : ∀ k, p ≤ k → k < n → b ≤ lz n (m k))
    (hm1 : ∀ k, m1 k = if k = j then m p else if k = p then m j else m k)
    (hm' : ∀ k, k < n → m' k = if p < k ∧ lz n (m1 k) = b then m1 k ^^^ m1 p else m1 k) :
    m1 p = m j ∧ (∀ k, k < n → m' k < 2 ^ n) ∧ (∀ k, k < p → m' k = m k) ∧ m' p = m j ∧
      (∀ k, p < k → k < n → b ≤ lz n (m1 k) ∧ b < lz n (m' k)) ∧ spanOf n m' = spanOf n m := by
  have hp : p < n := Nat.lt_of_le_of_lt hpj hj
  have hm1p : m1 p = m j := by
    rw [hm1]
    split
    · rename_i e; rw [e]
    · exact if_pos rfl
  have h1lt : ∀ k, k < n → m1 k < 2 ^ n := fun k hk => by
    rw [hm1]
    split
    · exact hlt p hp
    · split
      · exact hlt j hj
      · exact hlt k hk
  have h1rest : ∀ k, p ≤ k → k < n → b ≤ lz n (m1 k) := fun k hpk hk => by
    rw [hm1]
    split
    · exact hrest p (Nat.le_refl p) hp
    · split
      · exact Nat.le_of_eq hlz.symm
      · exact hrest k hpk hk
  refine ⟨hm1p, fun k hk => ?_, fun k hk => ?_, ?_, fun k hpk hk => ?_, ?_⟩
  · rw [hm' k hk]
    split
    · exact Nat.xor_lt_two_pow (h1lt k hk) (h1lt p hp)
    · exact h1lt k hk
  · rw [hm' k (by omega), if_neg (by omega), hm1, if_neg (by omega), if_neg (by omega)]
  · rw [hm' p hp, if_neg (fun h => Nat.lt_irrefl p h.1), hm1p]
  · have h1 := h1rest k (Nat.le_of_lt hpk) hk
    refine ⟨h1, ?_⟩
    rw [hm' k hk]
    by_cases hc : p < k ∧ lz n (m1 k) = b
    · rw [if_pos hc, hm1p]; exact lz_xor_gt hb hc.2 hlz
    · rw [if_neg hc]; exact Nat.lt_of_le_of_ne h1 (fun e => hc ⟨hpk, e.symm⟩)
  · rw [← spanOf_swap m m1 hp hj (fun k _ => hm1 k)]
    exact spanOf_xor m1 m' hp (fun k => p < k ∧ lz n (m1 k) = b) (fun h => Nat.lt_irrefl p h.1) hm'

/-- span of the original rows selected by `mask` -/
def selSpan (n : Nat) (M : Mat) (mask : Nat) : Submodule (ZMod 2) (Fin n → ZMod 2) :=
  Submodule.span (ZMod 2) {v | ∃ t, t < n ∧ mask.testBit t = true ∧ v = vec n (row M t)}

theorem selSpan_mono {n : Nat} {M : Mat} {m m' : Nat} (h : ∀ t, m.testBit t = true → m'.testBit t = true) :
    selSpan n M m ≤ selSpan n M m' := by
  apply Submodule.span_mono
  rintro v ⟨t, ht, hm, rfl⟩
  exact ⟨t, ht, h t hm, rfl⟩

theorem mem_selSpan {n : Nat} {M : Mat} {m t : Nat} (ht : t < n) (h : m.testBit t = true) :
    vec n (row M t) ∈ selSpan n M m :=
  Submodule.subset_span ⟨t, ht, h, rfl⟩

/-- loop invariant of `rank` on the functions `c k = m.0[k]`, `o k = orig_idx[k]`, before column `i` -/
structure RInv (n : Nat) (M : Mat) (c o : Nat → Nat) (mask rk i : Nat) : Prop where
  rk_le : rk ≤ i
  lt : ∀ k, k < n → c k < 2 ^ n
  origLt : ∀ k, k < n → o k < n
  origInj : ∀ k k', k < n → k' < n → o k = o k' → k = k'
  origSurj : ∀ a, a < n → ∃ k, k < n ∧ o k = a
  maskBit : ∀ t, mask.testBit t = true ↔ ∃ q, q < rk ∧ o q = t
  pivLt : ∀ q, q < rk → lz n (c q) < i
  pivMono : ∀ q q', q < q' → q' < rk → lz n (c q) < lz n (c q')
  rest : ∀ k, rk ≤ k → k < n → i ≤ lz n (c k)
  span : spanOf n c = spanOf n (row M)
  /-- the idea of `rank`: the current row is its original row modulo the rows selected so far -/
  rel : ∀ k, k < n → vec n (c k) + vec n (row M (o k)) ∈ selSpan n M mask
  pc : popcount n mask = rk

theorem RInv.init {n : Nat} {M : Mat} (hw : ∀ k, k < n → row M k < 2 ^ n) :
    RInv n M (row M) (fun k => k) 0 0 0 where
  rk_le := Nat.le_refl _
  lt := hw
  origLt := fun k hk => hk
  origInj := fun _ _ _ _ h => h
  origSurj := fun a ha => ⟨a, ha, rfl⟩
  maskBit := fun t => by simp
  pivLt := fun q hq => by omega
  pivMono := fun q q' _ hq => by omega
  rest := fun k _ _ => Nat.zero_le _
  span := rfl
  rel := fun k _ => by
    rw [ZModModule.add_self]; exact Submodule.zero_mem _
  pc := popcount_zero n

theorem RInv.skip {n : Nat} {M : Mat} {c o : Nat → Nat} {mask rk i : Nat} (h : RInv n M c o mask rk i)
    (hno : ∀ k, k < n → lz n (c k) ≠ i) : RInv n M c o mask rk (i + 1) :=
  { h with
    rk_le := Nat.le_succ_of_le h.rk_le
    pivLt := fun q hq => Nat.lt_succ_of_lt (h.pivLt q hq)
    rest := fun k hk hkn => by
      have := h.rest k hk hkn
      have := hno k hkn
      omega }

/-- A column with a pivot at position `j`. The exchange is read as the transposition `σ` of `j` and `rk`; the new mask
bit `o j` is fresh because `o` is injective, and `rel` survives the elimination because the pivot row itself is, modulo
the old selection, the newly selected original row. -/
theorem RInv.step {n : Nat} {M : Mat} {c o : Nat → Nat} {mask rk i : Nat} (h : RInv n M c o mask rk i)
    (hi : i < n) {j : Nat} (hj : j < n) (hlz : lz n (c j) = i) (c' o' : Nat → Nat)
    (ho' : ∀ k, k < n → o' k = if k = j then o rk else if k = rk then o j else o k)
    (c1 : Nat → Nat) (hc1 : ∀ k, c1 k = if k = j then c rk else if k = rk then c j else c k)
    (hc' : ∀ k, k < n → c' k = if rk < k ∧ lz n (c1 k) = i then c1 k ^^^ c1 rk else c1 k) :
    rk ≤ j ∧ RInv n M c' o' (mask ||| (1 <<< o j)) (rk + 1) (i + 1) := by
  have hrkj : rk ≤ j := by
    apply Nat.le_of_not_lt
    intro hlt
    have := h.pivLt j hlt
    omega
  have hrkn : rk < n := by omega
  refine ⟨hrkj, ?_⟩
  obtain ⟨hc1rk, hlt', hc'low, hc'rk, hrest', hspan⟩ := elim_rows hi hj hrkj h.lt hlz h.rest hc1 hc'
  -- `c1 = c ∘ σ` and, below `n`, `o' = o ∘ σ` with `σ` the transposition of `j` and `rk`
  have hc1σ : ∀ k, c1 k = c (Equiv.swap j rk k) := fun k => by
    rw [hc1, Equiv.swap_apply_def, apply_ite c, apply_ite c]
  have hσ : ∀ k, k < n → o' k = o (Equiv.swap j rk k) := fun k hk => by
    rw [ho' k hk, Equiv.swap_apply_def, apply_ite o, apply_ite o]
  have hσlt : ∀ k, k < n → Equiv.swap j rk k < n := fun k hk => by
    rw [Equiv.swap_apply_def]
    split
    · exact hrkn
    · split
      · exact hj
      · exact hk
  have ho'low : ∀ k, k < rk → o' k = o k := fun k hk => by
    rw [hσ k (by omega), Equiv.swap_apply_of_ne_of_ne (by omega) (by omega)]
  have ho'rk : o' rk = o j := by rw [hσ rk hrkn, Equiv.swap_apply_right]
  have hnew : mask.testBit (o j) = false := by
    cases hb : mask.testBit (o j) with
    | false => rfl
    | true =>
      obtain ⟨q, hq, hoq⟩ := (h.maskBit (o j)).mp hb
      have := h.origInj q j (by omega) hj hoq
      omega
  have hmask' : ∀ t, (mask ||| (1 <<< o j)).testBit t = true ↔ mask.testBit t = true ∨ t = o j := fun t => by
    rw [Nat.testBit_or, Nat.one_shiftLeft, Nat.testBit_two_pow, Bool.or_eq_true, decide_eq_true_eq,
      eq_comm (a := t)]
  have hsel : selSpan n M mask ≤ selSpan n M (mask ||| (1 <<< o j)) :=
    selSpan_mono (fun t ht => (hmask' t).mpr (Or.inl ht))
  have hgen : vec n (row M (o j)) ∈ selSpan n M (mask ||| (1 <<< o j)) :=
    mem_selSpan (h.origLt j hj) ((hmask' _).mpr (Or.inr rfl))
  have hrel1 : ∀ k, k < n → vec n (c1 k) + vec n (row M (o' k)) ∈ selSpan n M mask := fun k hk => by
    rw [hσ k hk, hc1σ]; exact h.rel _ (hσlt k hk)
  have hpiv : vec n (c j) ∈ selSpan n M (mask ||| (1 <<< o j)) := by
    have h1 := hsel (h.rel j hj)
    have := Submodule.add_mem _ h1 hgen
    rwa [add_assoc, ZModModule.add_self, add_zero] at this
  exact {
    rk_le := by have := h.rk_le; omega
    lt := hlt'
    origLt := fun k hk => by rw [hσ k hk]; exact h.origLt _ (hσlt k hk)
    origInj := fun k k' hk hk' he => by
      rw [hσ k hk, hσ k' hk'] at he
      exact (Equiv.swap j rk).injective (h.origInj _ _ (hσlt k hk) (hσlt k' hk') he)
    origSurj := fun a ha => by
      obtain ⟨k, hk, hka⟩ := h.origSurj a ha
      exact ⟨Equiv.swap j rk k, hσlt k hk, by rw [hσ _ (hσlt k hk), Equiv.swap_apply_self, hka]⟩
    maskBit := by
      intro t
      rw [hmask', h.maskBit]
      constructor
      · rintro (⟨q, hq, hqt⟩ | rfl)
        · exact ⟨q, by omega, by rw [ho'low q hq, hqt]⟩
        · exact ⟨rk, by omega, ho'rk⟩
      · rintro ⟨q, hq, hqt⟩
        rcases Nat.lt_or_eq_of_le (Nat.le_of_lt_succ hq) with hlt | heq
        · exact Or.inl ⟨q, hlt, by rw [← ho'low q hlt, hqt]⟩
        · subst heq; exact Or.inr (by rw [← hqt, ho'rk])
    pivLt := by
      intro q hq
      rcases Nat.lt_or_eq_of_le (Nat.le_of_lt_succ hq) with hlt | heq
      · rw [hc'low q hlt]; exact Nat.lt_succ_of_lt (h.pivLt q hlt)
      · subst heq; rw [hc'rk, hlz]; omega
    pivMono := by
      intro q q' hqq hq'
      rcases Nat.lt_or_eq_of_le (Nat.le_of_lt_succ hq') with hlt | heq
      · rw [hc'low q (by omega), hc'low q' hlt]; exact h.pivMono q q' hqq hlt
      · subst heq
        rw [hc'low q hqq, hc'rk, hlz]; exact h.pivLt q hqq
    rest := fun k hk hkn => (hrest' k hk hkn).2
    span := hspan.trans h.span
    rel := by
      intro k hk
      rw [hc' k hk, hc1rk]
      split
      · rw [vec_xor, add_right_comm]
        exact Submodule.add_mem _ (hsel (hrel1 k hk)) hpiv
      · exact hsel (hrel1 k hk)
    pc := by
      rw [popcount_or_bit (h.origLt j hj) hnew, h.pc] }

def fstF (rows : Rows) : Nat → Nat := fun k => (rowAt rows k).1
def sndF (rows : Rows) : Nat → Nat := fun k => (rowAt rows k).2

/-- the invariant on the states of the model -/
def SInv (n : Nat) (M : Mat) (st : RankSt) (i : Nat) : Prop :=
  st.rows.length = n ∧ RInv n M (fstF st.rows) (sndF st.rows) st.mask st.rk i

/-- The exchange of rows `p`, `j` followed by the elimination below `p`, as `rank` (`g a _ = a`: `orig_idx`
is only exchanged) and `elimCol` (`g = xor`: `minv` follows `m`) write it on the list of pairs, read on the two
row functions. -/
theorem swap_elim_rows {n : Nat} (g : Nat → Nat → Nat) {rows : Rows} {p j i : Nat} (hp : p < rows.length)
    (hj : j < rows.length) :
    let rows1 := swapAt rows p j
    let rows2 := rows1.mapIdx (fun k r => if p < k ∧ lz n r.1 = i then
      (r.1 ^^^ (rows1.getD p (0, 0)).1, g r.2 (rows1.getD p (0, 0)).2) else r)
    rows2.length = rows.length ∧
    (∀ k, fstF rows1 k = if k = j then fstF rows p else if k = p then fstF rows j else fstF rows k) ∧
    (∀ k, sndF rows1 k = if k = j then sndF rows p else if k = p then sndF rows j else sndF rows k) ∧
    (∀ k, k < rows.length → fstF rows2 k =
      if p < k ∧ lz n (fstF rows1 k) = i then fstF rows1 k ^^^ fstF rows1 p else fstF rows1 k) ∧
    (∀ k, k < rows.length → sndF rows2 k =
      if p < k ∧ lz n (fstF rows1 k) = i then g (sndF rows1 k) (sndF rows1 p) else sndF rows1 k) := by
  intro rows1 rows2
  have hsw : ∀ k, rowAt rows1 k =
      if k = j then rowAt rows p else if k = p then rowAt rows j else rowAt rows k :=
    fun k => rowAt_swapAt hp hj k
  refine ⟨by simp [rows2, rows1, List.length_mapIdx, length_swapAt], fun k => ?_, fun k => ?_, fun k hk => ?_,
    fun k hk => ?_⟩
  · simp only [fstF]; rw [hsw, apply_ite Prod.fst, apply_ite Prod.fst]
  · simp only [sndF]; rw [hsw, apply_ite Prod.snd, apply_ite Prod.snd]
  · simp only [fstF, rows2]
    rw [rowAt_mapIdx _ (by rw [length_swapAt]; exact hk)]
    exact (apply_ite Prod.fst _ _ _).trans rfl
  · simp only [sndF, fstF, rows2]
    rw [rowAt_mapIdx _ (by rw [length_swapAt]; exact hk)]
    exact (apply_ite Prod.snd _ _ _).trans rfl

theorem rankCol_inv {n : Nat} {M : Mat} {st : RankSt} {i : Nat} (h : SInv n M st i) (hi : i < n) :
    ∃ st', rankCol n st i = some st' ∧ SInv n M st' (i + 1) := by
  obtain ⟨hlen, hI⟩ := h
  unfold rankCol
  cases hp : position n i st.rows with
  | none => exact ⟨st, rfl, hlen, hI.skip fun k hk => position_none hp k (by omega)⟩
  | some j =>
    obtain ⟨hj, hlz, _⟩ := position_some hp
    rw [hlen] at hj
    have hidx : (st.rows.getD j (0, 0)).2 < n := hI.origLt j hj
    simp only [hidx, not_true_eq_false, if_false]
    have hrkj : st.rk ≤ j := Nat.le_of_not_lt fun hlt => by
      have : lz n (rowAt st.rows j).1 < i := hI.pivLt j hlt
      rw [hlz] at this; exact Nat.lt_irrefl _ this
    obtain ⟨hl2, h1, h2, h3, h4⟩ := swap_elim_rows (n := n) (i := i) (fun a _ => a) (show st.rk < st.rows.length by omega)
      (show j < st.rows.length by omega)
    rw [hlen] at h3 h4
    refine ⟨_, rfl, hl2.trans hlen, (hI.step hi hj hlz _ _ (fun k hk => ?_) _ h1 h3).2⟩
    rw [h4 k hk, ite_self, h2]

theorem SInv.init {n : Nat} {M : Mat} (hw : ∀ k, k < n → row M k < 2 ^ n) : SInv n M (rankInit n M) 0 := by
  refine ⟨by simp [rankInit], ?_⟩
  have h0 := RInv.init (M := M) hw
  -- the initial rows are `(row M k, k)` below `n`; the invariant only reads positions below `n`
  have e1 : ∀ k, k < n → fstF (rankInit n M).rows k = row M k := by
    intro k hk; simp only [fstF, rankInit]; rw [rowAt_map_range n _ hk]
  have e2 : ∀ k, k < n → sndF (rankInit n M).rows k = k := by
    intro k hk; simp only [sndF, rankInit]; rw [rowAt_map_range n _ hk]
  exact {
    rk_le := h0.rk_le
    lt := fun k hk => by rw [e1 k hk]; exact hw k hk
    origLt := fun k hk => by rw [e2 k hk]; exact hk
    origInj := fun k k' hk hk' he => by rwa [e2 k hk, e2 k' hk'] at he
    origSurj := fun a ha => ⟨a, ha, e2 a ha⟩
    maskBit := fun t => by simp [rankInit]
    pivLt := fun q hq => by simp [rankInit] at hq
    pivMono := fun q q' _ hq => by simp [rankInit] at hq
    rest := fun k _ _ => Nat.zero_le _
    span := spanOf_congr e1
    rel := fun k hk => by
      rw [e1 k hk, e2 k hk]
      exact h0.rel k hk
    pc := popcount_zero n }

/-- what `rank` establishes (final state of the loop) -/
structure RankFacts (n : Nat) (M : Mat) (rk mask : Nat) : Prop where
  rk_le : rk ≤ n
  pc : popcount n mask = rk
  maskLt : mask < 2 ^ n
  finrank : finrank (ZMod 2) (spanOf n (row M)) = rk
  sel : selSpan n M mask = spanOf n (row M)
  pivots : ∃ c : Nat → Nat, (∀ q, q < rk → c q < 2 ^ n ∧ lz n (c q) < n ∧ vec n (c q) ∈ spanOf n (row M)) ∧
    (∀ q q', q < q' → q' < rk → lz n (c q) < lz n (c q'))

theorem finrank_of_echelon {n rk : Nat} (c : Nat → Nat) (hrk : rk ≤ n)
    (pivLt : ∀ q, q < rk → lz n (c q) < n)
    (pivMono : ∀ q q', q < q' → q' < rk → lz n (c q) < lz n (c q'))
    (rest : ∀ k, rk ≤ k → k < n → lz n (c k) = n) :
    finrank (ZMod 2) (spanOf n c) = rk := by
  have hli : LinearIndependent (ZMod 2) (fun q : Fin rk => vec n (c q)) := by
    apply linearIndependent_of_lz (fun q : Fin rk => c q) (fun q => pivLt q q.2)
    intro q q' he
    rcases Nat.lt_trichotomy q.1 q'.1 with hlt | heq | hgt
    · have := pivMono q q' hlt q'.2; omega
    · exact Fin.ext heq
    · have := pivMono q' q hgt q.2; omega
  have hsp : spanOf n c = Submodule.span (ZMod 2) (Set.range fun q : Fin rk => vec n (c q)) := by
    apply le_antisymm
    · apply spanOf_le
      intro k hk
      by_cases hkr : k < rk
      · exact Submodule.subset_span ⟨⟨k, hkr⟩, rfl⟩
      · rw [vec_eq_zero_of_lz (rest k (by omega) hk)]; exact Submodule.zero_mem _
    · apply Submodule.span_le.mpr
      rintro _ ⟨q, rfl⟩
      exact mem_spanOf c (by omega)
  rw [hsp, finrank_span_eq_card hli, Fintype.card_fin]

theorem rank_spec_aux {n : Nat} (dbg : Bool) {M : Mat} (hw : ∀ k, k < n → row M k < 2 ^ n) :
    ∃ rk mask, rank n dbg M = some (rk, mask) ∧ RankFacts n M rk mask := by
  obtain ⟨st, hfold, hlen, hI⟩ := Loops.foldlM_range_total (rankCol n) (fun i st => SInv n M st i) n
    (fun _ _ hi h => rankCol_inv h hi) (SInv.init hw)
  refine ⟨st.rk, st.mask, ?_, ?_⟩
  · unfold rank
    rw [hfold]
    simp [hI.pc]
  · have hrest : ∀ k, st.rk ≤ k → k < n → lz n (fstF st.rows k) = n := by
      intro k h1 h2
      have := hI.rest k h1 h2
      have := lz_le n (fstF st.rows k)
      omega
    have hrkn : st.rk ≤ n := hI.rk_le
    have hfin : finrank (ZMod 2) (spanOf n (row M)) = st.rk := by
      rw [← hI.span]
      exact finrank_of_echelon _ hrkn (fun q hq => by have := hI.pivLt q hq; omega) hI.pivMono hrest
    refine ⟨hrkn, hI.pc, ?_, hfin, ?_, ?_⟩
    · apply Nat.lt_pow_two_of_testBit
      intro t ht
      cases hb : st.mask.testBit t with
      | false => rfl
      | true =>
        obtain ⟨q, hq, hqt⟩ := (hI.maskBit t).mp hb
        have := hI.origLt q (by omega)
        omega
    · apply le_antisymm
      · apply Submodule.span_le.mpr
        rintro v ⟨t, ht, _, rfl⟩
        exact mem_spanOf _ ht
      · apply spanOf_le
        intro a ha
        obtain ⟨k, hk, hka⟩ := hI.origSurj a ha
        by_cases hkr : k < st.rk
        · exact mem_selSpan ha ((hI.maskBit a).mpr ⟨k, hkr, hka⟩)
        · have h0 : fstF st.rows k = 0 := eq_zero_of_lz (hI.lt k hk) (hrest k (by omega) hk)
          have := hI.rel k hk
          rwa [h0, vec_zero, zero_add, hka] at this
    · refine ⟨fstF st.rows, fun q hq => ⟨hI.lt q (by omega), by have := hI.pivLt q hq; omega, ?_⟩, hI.pivMono⟩
      rw [← hI.span]
      exact mem_spanOf _ (by omega)

theorem card_subtype_eq_popcount (n w : Nat) :
    Fintype.card {t : Fin n // w.testBit t = true} = popcount n w := by
  rw [Fintype.card_subtype, Finset.card_filter, Fin.sum_univ_eq_sum_range (fun t => if w.testBit t = true then 1 else 0) n]
  induction n with
  | zero => simp [popcount]
  | succ n ih => rw [Finset.sum_range_succ, ih, popcount_succ]

theorem spanOf_row_eq (n : Nat) (M : Mat) :
    spanOf n (row M) = Submodule.span (ZMod 2) (Set.range (toMat n M).row) := rfl

theorem RankFacts.matrix_rank {n : Nat} {M : Mat} {rk mask : Nat} (h : RankFacts n M rk mask) :
    (toMat n M).rank = rk := by
  rw [Matrix.rank_eq_finrank_span_row, ← spanOf_row_eq, h.finrank]

theorem selSpan_eq_range (n : Nat) (M : Mat) (mask : Nat) :
    selSpan n M mask = Submodule.span (ZMod 2)
      (Set.range fun t : {t : Fin n // mask.testBit t = true} => toMat n M t.1) := by
  unfold selSpan
  congr 1
  ext v
  constructor
  · rintro ⟨t, ht, hm, rfl⟩
    exact ⟨⟨⟨t, ht⟩, hm⟩, rfl⟩
  · rintro ⟨⟨t, hm⟩, rfl⟩
    exact ⟨t.1, t.2, hm, rfl⟩

theorem RankFacts.independent {n : Nat} {M : Mat} {rk mask : Nat} (h : RankFacts n M rk mask) :
    LinearIndependent (ZMod 2) (fun t : {t : Fin n // mask.testBit t = true} => toMat n M t.1) := by
  rw [linearIndependent_iff_card_eq_finrank_span, card_subtype_eq_popcount, h.pc]
  unfold Set.finrank
  rw [← selSpan_eq_range, h.sel, h.finrank]

end Ymq.Gf2Small
