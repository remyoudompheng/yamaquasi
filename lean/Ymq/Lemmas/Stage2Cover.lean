/-
Coverage arithmetic of the stage-2 grids (C16): soundness/completeness of the executable grid
tests of Ymq/Model/Stage2.lean against their existential specifications, and the cover lemmas
(every l coprime to d1 up to the upper end is a grid value).
-/
import Ymq.Model.Stage2
import Mathlib.Data.Nat.GCD.Basic
import Mathlib.Tactic.Ring
import Mathlib.Tactic.Linarith

namespace Ymq.Stage2
open Ymq.Gen

/-- `m = i·d1 ± b`: the values at which the stage 2 of `ecm_curve` / `pp1` compares a giant step `i` (multiples of `d1`) with a baby
step `b`; `symIsGrid` decides it (`symIsGrid_iff`) -/
def SymGrid (baby : Nat → Bool) (g : Nat × Nat × Nat) (d1 d2 m : Nat) : Prop :=
  ∃ i b, isGiant g d2 i = true ∧ baby b = true ∧ (m = i * d1 + b ∨ m + b = i * d1)

theorem symIsGrid_sound {baby : Nat → Bool} {g : Nat × Nat × Nat} {d1 d2 m : Nat} (hd : 0 < d1)
    (h : symIsGrid baby g d1 d2 m = true) : SymGrid baby g d1 d2 m := by
  unfold symIsGrid at h
  rcases Bool.or_eq_true _ _ |>.mp h with h | h
  · obtain ⟨hb, hg⟩ := Bool.and_eq_true _ _ |>.mp h
    exact ⟨m / d1, m % d1, hg, hb, Or.inl (by rw [Nat.mul_comm]; exact (Nat.div_add_mod m d1).symm)⟩
  · obtain ⟨hb, hg⟩ := Bool.and_eq_true _ _ |>.mp h
    refine ⟨m / d1 + 1, d1 - m % d1, hg, hb, Or.inr ?_⟩
    have h1 := Nat.div_add_mod m d1
    have h2 := Nat.mod_lt m hd
    have h3 : (m / d1 + 1) * d1 = d1 * (m / d1) + d1 := by ring
    omega

theorem symIsGrid_complete {baby : Nat → Bool} {g : Nat × Nat × Nat} {d1 d2 m : Nat}
    (hb : ∀ b, baby b = true → 0 < b ∧ b < d1)
    (h : SymGrid baby g d1 d2 m) : symIsGrid baby g d1 d2 m = true := by
  obtain ⟨i, b, hg, hbb, hm⟩ := h
  obtain ⟨hb0, hb1⟩ := hb b hbb
  have hd : 0 < d1 := by omega
  unfold symIsGrid
  rcases hm with hm | hm
  · have e1 : m % d1 = b := by
      rw [hm, Nat.add_comm, Nat.add_mul_mod_self_right]; exact Nat.mod_eq_of_lt hb1
    have e2 : m / d1 = i := by
      rw [hm, Nat.add_comm, Nat.add_mul_div_right _ _ hd, Nat.div_eq_of_lt hb1, Nat.zero_add]
    rw [e1, e2, hbb, hg]; rfl
  · -- m = (i-1)*d1 + (d1 - b)
    have hi : 0 < i := by
      rcases Nat.eq_zero_or_pos i with h0 | h0
      · subst h0; omega
      · exact h0
    obtain ⟨j, rfl⟩ : ∃ j, i = j + 1 := ⟨i - 1, by omega⟩
    have hm' : m = (d1 - b) + j * d1 := by
      have : (j + 1) * d1 = j * d1 + d1 := by ring
      omega
    have e1 : m % d1 = d1 - b := by
      rw [hm', Nat.add_mul_mod_self_right]; exact Nat.mod_eq_of_lt (by omega)
    have e2 : m / d1 = j := by
      rw [hm', Nat.add_mul_div_right _ _ hd, Nat.div_eq_of_lt (by omega), Nat.zero_add]
    have e3 : d1 - (d1 - b) = b := by omega
    rw [e1, e2, e3, hbb, hg]; simp

theorem symIsGrid_iff {baby : Nat → Bool} {g : Nat × Nat × Nat} {d1 d2 m : Nat}
    (hb : ∀ b, baby b = true → 0 < b ∧ b < d1) (hd : 0 < d1) :
    symIsGrid baby g d1 d2 m = true ↔ SymGrid baby g d1 d2 m :=
  ⟨symIsGrid_sound hd, symIsGrid_complete hb⟩

theorem coprime_mod_facts {d1 l : Nat} (hev : 2 ∣ d1) (h2 : 2 < d1) (hl : Nat.gcd l d1 = 1) :
    Nat.gcd (l % d1) d1 = 1 ∧ l % d1 ≠ 0 ∧ l % d1 ≠ d1 / 2 ∧ l % d1 < d1 := by
  have hd : 0 < d1 := by omega
  have hg : Nat.gcd (l % d1) d1 = 1 := by
    rw [← Nat.gcd_rec, Nat.gcd_comm]; exact hl
  refine ⟨hg, ?_, ?_, Nat.mod_lt _ hd⟩
  · intro h0; rw [h0, Nat.gcd_zero_left] at hg; omega
  · intro hh
    rw [hh] at hg
    have : d1 / 2 ∣ d1 := ⟨2, by omega⟩
    rw [Nat.gcd_eq_left this] at hg
    omega

theorem sym_grid_le {baby : Nat → Bool} {g : Nat × Nat × Nat} {d1 d2 m : Nat}
    (hb : ∀ b, baby b = true → b < d1 / 2) (h : SymGrid baby g d1 d2 m) : m ≤ symEff g d1 d2 := by
  obtain ⟨i, b, hg, hbb, hm⟩ := h
  have hb1 := hb b hbb
  unfold isGiant at hg
  obtain ⟨_, hi⟩ := Bool.and_eq_true _ _ |>.mp hg
  have hi : i < giantHi g d2 := by simpa using hi
  unfold symEff
  have h3 : i * d1 ≤ (giantHi g d2 - 1) * d1 := Nat.mul_le_mul_right _ (by omega)
  omega

/-- what the grids of ECM, ECM128 and P+1 have in common (baby steps the residues below `d1/2` coprime to `d1`, giant steps
`1 ..= d2`), so that each cover, exactness and upper-end statement is proved once -/
structure StdGrid (baby : Nat → Bool) (g : Nat × Nat × Nat) (d1 d2 : Nat) : Prop where
  baby_iff : ∀ b, baby b = true ↔ 0 < b ∧ b < d1 / 2 ∧ Nat.gcd b d1 = 1
  lo : giantLo g = 1
  hi : giantHi g d2 = d2 + 1

section std
variable {baby : Nat → Bool} {g : Nat × Nat × Nat} {d1 d2 : Nat} (S : StdGrid baby g d1 d2)
include S

theorem StdGrid.eff : symEff g d1 d2 = d2 * d1 + d1 / 2 - 1 := by
  unfold symEff; rw [S.hi, Nat.add_sub_cancel]

theorem std_grid_iff (hd : 0 < d1) {m : Nat} :
    symIsGrid baby g d1 d2 m = true ↔
      ∃ i b, 1 ≤ i ∧ i ≤ d2 ∧ 1 ≤ b ∧ b < d1 / 2 ∧ Nat.gcd b d1 = 1 ∧ (m = i * d1 + b ∨ m + b = i * d1) := by
  rw [symIsGrid_iff (fun b hb => by have := (S.baby_iff b).mp hb; omega) hd]
  have hgi : ∀ i, isGiant g d2 i = true ↔ 1 ≤ i ∧ i ≤ d2 := fun i => by
    simp only [isGiant, S.lo, S.hi, Bool.and_eq_true, decide_eq_true_eq, Nat.lt_succ_iff]
  constructor
  · rintro ⟨i, b, hi, hb, hm⟩
    obtain ⟨hb0, hb1, hbg⟩ := (S.baby_iff b).mp hb
    exact ⟨i, b, ((hgi i).mp hi).1, ((hgi i).mp hi).2, hb0, hb1, hbg, hm⟩
  · rintro ⟨i, b, hi1, hi2, hb0, hb1, hbg, hm⟩
    exact ⟨i, b, (hgi i).mpr ⟨hi1, hi2⟩, (S.baby_iff b).mpr ⟨hb0, hb1, hbg⟩, hm⟩

/-- the cover: `l = q·d1 + r` with `r` prime to `d1`, so `r ≠ d1/2`; below `d1/2` the pair is `(q, r)`, above it `(q + 1, d1 − r)` -/
theorem std_cover (h6 : 6 ∣ d1) (hd : 0 < d1) {l : Nat}
    (hg : Nat.gcd l d1 = 1) (hl : d1 / 2 < l) (hu : l ≤ d2 * d1 + d1 / 2 - 1) : symIsGrid baby g d1 d2 l = true := by
  have h6' : 6 ≤ d1 := Nat.le_of_dvd hd h6
  obtain ⟨hgr, h0, hh, hlt⟩ := coprime_mod_facts (Nat.dvd_trans (by decide) h6) (by omega) hg
  have hdm := Nat.div_add_mod l d1
  obtain ⟨c, hc⟩ : 2 ∣ d1 := Nat.dvd_trans (by decide) h6
  unfold symIsGrid isGiant
  rw [S.lo, S.hi]
  generalize l % d1 = r at hgr h0 hh hlt hdm ⊢
  generalize l / d1 = q at hdm ⊢
  have hmul : ∀ k, q = k → d1 * q = d1 * k := fun k h => by rw [h]
  have hq2 : q < d2 + 1 := by
    by_contra hcon
    have h3 : d1 * (d2 + 1) ≤ d1 * q := Nat.mul_le_mul_left _ (by omega)
    rw [Nat.mul_add, Nat.mul_one, Nat.mul_comm] at h3
    omega
  rcases Nat.lt_or_ge r (d1 / 2) with hlt2 | hge2
  · have hq1 : 1 ≤ q := by
      by_contra hcon
      have := hmul 0 (by omega)
      omega
    simp [(S.baby_iff r).mpr ⟨by omega, hlt2, hgr⟩, hq1, hq2]
  · have hq3 : q + 1 < d2 + 1 := by
      by_contra hcon
      have := hmul d2 (by omega)
      rw [Nat.mul_comm d1 d2] at this
      omega
    have hb := (S.baby_iff (d1 - r)).mpr ⟨by omega, by omega, by rw [Nat.gcd_self_sub_left (by omega)]; exact hgr⟩
    simp [hb, hq3]

end std

/-! ### instances: ECM, ECM128, P+1

The loop constants come from `Gen/Stage2Arms.lean`; `delta` exposes their current values, so these
lemmas (and everything built on them) fail to check when the source loops change. -/

theorem ecmBaby_iff {d1 b : Nat} :
    isEcmBabyOf Stage2Arms.ecmBaby d1 b = true ↔ 0 < b ∧ b < d1 / 2 ∧ Nat.gcd b d1 = 1 := by
  delta Stage2Arms.ecmBaby; simp [isEcmBabyOf]; omega

theorem ecm128Baby_iff {d1 b : Nat} :
    isEcmBabyOf Stage2Arms.ecm128Baby d1 b = true ↔ 0 < b ∧ b < d1 / 2 ∧ Nat.gcd b d1 = 1 := by
  delta Stage2Arms.ecm128Baby; simp [isEcmBabyOf]; omega

theorem odd_of_coprime_even {d1 r : Nat} (hev : 2 ∣ d1) (hg : Nat.gcd r d1 = 1) : r % 2 = 1 := by
  by_contra hcon
  have : 2 ∣ Nat.gcd r d1 := Nat.dvd_gcd (by omega) hev
  rw [hg] at this; omega

theorem not3_of_coprime {d1 r : Nat} (h3 : 3 ∣ d1) (hg : Nat.gcd r d1 = 1) : r % 3 ≠ 0 := by
  intro hcon
  have : 3 ∣ Nat.gcd r d1 := Nat.dvd_gcd (by omega) h3
  rw [hg] at this; omega

/-- for `6 ∣ d1` what the baby loops of P+1 and P-1 test besides coprimality (start at 1, step 2, `b % 3 ≠ 0`) follows
from it; `Q` is the loop bound -/
theorem keep_iff {d1 b : Nat} (h6 : 6 ∣ d1) (Q : Prop) :
    (b = 1 ∨ (1 < b ∧ (b - 1) % 2 = 0 ∧ Q ∧ b % 3 ≠ 0 ∧ Nat.gcd b d1 = 1)) ↔
      0 < b ∧ (b = 1 ∨ Q) ∧ Nat.gcd b d1 = 1 := by
  constructor
  · rintro (rfl | ⟨h1, -, hQ, -, hg⟩)
    · exact ⟨Nat.one_pos, Or.inl rfl, Nat.gcd_one_left _⟩
    · exact ⟨by omega, Or.inr hQ, hg⟩
  · rintro ⟨h0, hQ, hg⟩
    by_cases h1 : b = 1
    · exact Or.inl h1
    · have ho := odd_of_coprime_even (Nat.dvd_trans (by decide) h6) hg
      exact Or.inr ⟨by omega, by omega, hQ.resolve_left h1, not3_of_coprime (Nat.dvd_trans (by decide) h6) hg, hg⟩

/-- the indices `b + 2, b + 4, ..` below `hi` that a baby-step loop keeps (`pm1_stage2_polyeval`: `hi = d1 + 2`, `pp1`: `hi = d1 / 2`) -/
def KeptIdx (hi d1 b r : Nat) : Prop := b < r ∧ r < hi ∧ (r - b) % 2 = 0 ∧ r % 3 ≠ 0 ∧ Nat.gcd r d1 = 1

theorem keptIdx_step {hi d1 b r : Nat} (hb : b + 2 < hi) :
    KeptIdx hi d1 b r ↔ (r = b + 2 ∧ (b + 2) % 3 ≠ 0 ∧ Nat.gcd (b + 2) d1 = 1) ∨ KeptIdx hi d1 (b + 2) r := by
  unfold KeptIdx
  constructor
  · rintro ⟨a1, a2, a3, a4, a5⟩
    by_cases hr : r = b + 2
    · subst hr; exact Or.inl ⟨rfl, a4, a5⟩
    · exact Or.inr ⟨by omega, a2, by omega, a4, a5⟩
  · rintro (⟨rfl, a4, a5⟩ | ⟨a1, a2, a3, a4, a5⟩)
    · exact ⟨by omega, hb, by omega, a4, a5⟩
    · exact ⟨by omega, a2, by omega, a4, a5⟩

theorem keptIdx_end {hi d1 b r : Nat} (hb : ¬ b + 2 < hi) : ¬ KeptIdx hi d1 b r := by
  rintro ⟨a1, a2, a3, -, -⟩; omega

theorem keptIdx_one {hi d1 r : Nat} :
    KeptIdx hi d1 1 r ↔ 1 < r ∧ r < hi ∧ r % 2 = 1 ∧ r % 3 ≠ 0 ∧ Nat.gcd r d1 = 1 := by
  unfold KeptIdx
  constructor
  · rintro ⟨a1, a2, a3, a4, a5⟩; exact ⟨a1, a2, by omega, a4, a5⟩
  · rintro ⟨a1, a2, a3, a4, a5⟩; exact ⟨a1, a2, by omega, a4, a5⟩

theorem pp1Baby_iff {d1 b : Nat} (h6 : 6 ∣ d1) (hd : 0 < d1) :
    isPp1BabyOf Stage2Arms.pp1Baby d1 b = true ↔ 0 < b ∧ b < d1 / 2 ∧ Nat.gcd b d1 = 1 := by
  have h6' : 6 ≤ d1 := Nat.le_of_dvd hd h6
  delta Stage2Arms.pp1Baby
  simp only [isPp1BabyOf, Bool.or_eq_true, Bool.and_eq_true, beq_iff_eq, decide_eq_true_eq, bne_iff_ne, ne_eq, and_assoc]
  rw [keep_iff h6]
  constructor <;> rintro ⟨a1, a2, a3⟩ <;> exact ⟨a1, by omega, a3⟩

theorem ecm_std (d1 : Nat) {d2 : Nat} (h : 2 ≤ d2) : StdGrid (isEcmBabyOf Stage2Arms.ecmBaby d1) Stage2Arms.ecmGiant d1 d2 :=
  ⟨fun _ => ecmBaby_iff, by delta Stage2Arms.ecmGiant; rfl,
    by delta Stage2Arms.ecmGiant; simp [giantHi, giantLo, giantCount]; omega⟩

theorem ecm128_std (d1 : Nat) {d2 : Nat} (h : 2 ≤ d2) :
    StdGrid (isEcmBabyOf Stage2Arms.ecm128Baby d1) Stage2Arms.ecm128Giant d1 d2 :=
  ⟨fun _ => ecm128Baby_iff, by delta Stage2Arms.ecm128Giant; rfl,
    by delta Stage2Arms.ecm128Giant; simp [giantHi, giantLo, giantCount]; omega⟩

theorem pp1_std {d1 d2 : Nat} (h6 : 6 ∣ d1) (hd : 0 < d1) (h : 1 ≤ d2) :
    StdGrid (isPp1BabyOf Stage2Arms.pp1Baby d1) Stage2Arms.pp1Giant d1 d2 :=
  ⟨fun _ => pp1Baby_iff h6 hd, by delta Stage2Arms.pp1Giant; rfl,
    by delta Stage2Arms.pp1Giant; simp [giantHi, giantLo, giantCount]; omega⟩

end Ymq.Stage2
