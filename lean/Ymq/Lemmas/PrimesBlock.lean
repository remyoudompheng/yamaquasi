/-
Correctness of one `PrimeSieve::next` step (C17): with the offsets of block `b` (for every small
prime `p` the least `o` with `p ∣ 65536·b + o`), the marking loops mark exactly the multiples of
the small primes inside the block and leave the offsets of block `b + 1`.
-/
import Ymq.Lemmas.PrimesSieve

namespace Ymq.Primes

/-- least `o` with `p ∣ 65536·b + o` -/
def off (b p : Nat) : Nat := (p - 65536 * b % p) % p

theorem offsetsAt_eq (smalls : List Nat) (b : Nat) : offsetsAt smalls b = smalls.map (off b) := rfl

theorem off_lt (b p : Nat) (hp : 0 < p) : off b p < p := Nat.mod_lt _ hp

theorem off_dvd (b p : Nat) (hp : 0 < p) : (65536 * b + off b p) % p = 0 := by
  have hc := Nat.mod_lt (65536 * b) hp
  have e : 65536 * b + (p - 65536 * b % p) = p * (65536 * b / p) + p := by
    have := Nat.div_add_mod (65536 * b) p
    omega
  rw [off, Nat.add_mod_mod, e, Nat.add_mod_right, Nat.mul_mod_right]

theorem dvd_add_iff_progression (x o i p : Nat) (ho : o < p) (hx : (x + o) % p = 0) :
    (x + i) % p = 0 ↔ ∃ t, i = o + t * p := by
  constructor
  · intro hi
    have hd : ∀ a c, (x + a) % p = 0 → (x + c) % p = 0 → p ∣ c - a := fun a c ha hc => by
      have := Nat.dvd_sub (Nat.dvd_of_mod_eq_zero hc) (Nat.dvd_of_mod_eq_zero ha)
      rwa [Nat.add_sub_add_left] at this
    rcases Nat.le_total o i with h | h
    · obtain ⟨t, ht⟩ := hd o i hx hi
      exact ⟨t, by rw [Nat.mul_comm, ← ht]; omega⟩
    · have := Nat.eq_zero_of_dvd_of_lt (hd i o hi hx) (by omega)
      exact ⟨0, by omega⟩
  · rintro ⟨t, rfl⟩
    rw [← Nat.add_assoc, Nat.add_mul_mod_self_right]
    exact hx

theorem off_unique (b p o : Nat) (hp : 0 < p) (ho : o < p) (hd : (65536 * b + o) % p = 0) :
    o = off b p := by
  obtain ⟨t, ht⟩ := (dvd_add_iff_progression (65536 * b) (off b p) o p (off_lt b p hp)
    (off_dvd b p hp)).mp hd
  cases t with
  | zero => simpa using ht
  | succ t =>
    have : p ≤ (t + 1) * p := Nat.le_mul_of_pos_left p (Nat.succ_pos t)
    omega

/-- the offsets with which `PrimeSieve::new` starts are those of block 1 -/
theorem off_init (p : Nat) (hp : 0 < p) : p - 1 - 65535 % p = off 1 p := by
  have hr : 65535 % p < p := Nat.mod_lt _ hp
  apply off_unique 1 p _ hp (by omega)
  have e : 65536 * 1 + (p - 1 - 65535 % p) = (65535 / p + 1) * p := by
    have := Nat.div_add_mod 65535 p
    have e2 : (65535 / p + 1) * p = p * (65535 / p) + p := by ring
    omega
  rw [e, Nat.mul_mod_left]

theorem sievePrime_spec (s : Array Bool) (b p : Nat) (hs : s.size = 65536) (hp : 0 < p)
    (hp16 : p ≤ 65536) :
    let r3 := mark3 s.size s (off b p) p
    let r1 := mark1 r3.1.size r3.1 r3.2 p
    r1.1.size = 65536 ∧
    (∀ i, i < 65536 → (flag r1.1 i = true ↔ (flag s i = true ∨ (65536 * b + i) % p = 0))) ∧
    ¬ r1.2 < 65536 ∧ r1.2 - 65536 = off (b + 1) p := by
  intro r3 r1
  have ho := off_lt b p hp
  obtain ⟨c1, c2, c3, c4, t, c5⟩ := mark31_spec p hp s.size s (off b p) r3 rfl r1 rfl
  rw [hs] at c1 c2 c3 c4
  have hprog (i) := dvd_add_iff_progression (65536 * b) (off b p) i p ho (off_dvd b p hp)
  refine ⟨c1, fun i hi => by rw [c2 i hi, hprog], by omega, ?_⟩
  have hlt := c4 (by omega)
  apply off_unique (b + 1) p _ hp (by omega)
  rw [show 65536 * (b + 1) + (r1.2 - 65536) = 65536 * b + r1.2 by omega, hprog]
  exact ⟨t, c5⟩

theorem sieveStep_spec (b : Nat) :
    ∀ (ps : List Nat) (s : Array Bool), s.size = 65536 → (∀ p ∈ ps, 0 < p ∧ p ≤ 65536) →
      ∃ s', sieveStep s ps (ps.map (off b)) = some (s', ps.map (off (b + 1))) ∧
        s'.size = 65536 ∧
        ∀ i, i < 65536 → (flag s' i = true ↔
          (flag s i = true ∨ ∃ p ∈ ps, (65536 * b + i) % p = 0)) := by
  intro ps
  induction ps with
  | nil =>
    intro s hs _
    -- (`rfl` on the unsimplified goal sends the kernel comparing `off b` with `off (b + 1)` first)
    exact ⟨s, by rw [List.map_nil, List.map_nil]; rfl, hs, fun i _ => by simp⟩
  | cons p ps ih =>
    intro s hs hps
    obtain ⟨hp, hp16⟩ := hps p (by simp)
    obtain ⟨c1, c2, c3, c4⟩ := sievePrime_spec s b p hs hp hp16
    simp only [List.map_cons]
    rw [sieveStep, if_neg c3]
    obtain ⟨s', hs', hsz', hfl'⟩ := ih _ c1 (fun q hq => hps q (by simp [hq]))
    rw [hs']
    simp only
    refine ⟨s', by rw [c4], hsz', fun i hi => ?_⟩
    rw [hfl' i hi, c2 i hi]
    simp only [List.mem_cons, exists_eq_or_imp, or_assoc]

end Ymq.Primes
