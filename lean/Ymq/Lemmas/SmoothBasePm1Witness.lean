/-
Counter-witness for the flush threshold `1024 - 32` that `pm1_impl` used before commit 2a39e49
(C17): with `B1 = 65536` the 1024-bit exponent block overflows at the 90th prime, 463.
-/
import Ymq.Lemmas.SmoothBasePm1Top
import Ymq.Lemmas.PrimesSmall

namespace Ymq.Pm1
open Ymq.Primes Ymq.SmoothBase

theorem block_none_append (thr b1 : Nat) : ∀ (ps rest : List Nat) (st : St),
    block thr b1 ps st = none → block thr b1 (ps ++ rest) st = none := by
  intro ps
  induction ps with
  | nil => intro rest st h; simp [block] at h
  | cons p ps ih =>
    intro rest st h
    rw [List.cons_append, block]
    rw [block] at h
    cases hs : step thr b1 st p with
    | none => rfl
    | some r =>
      obtain ⟨st', fl⟩ := r
      rw [hs] at h
      cases fl with
      | true => simp at h
      | false =>
        simp only at h ⊢
        exact ih rest st' h

/-- with threshold 992 and `B1 = 65536` the model reaches the `U1024` overflow site while
consuming the first 90 primes -/
theorem witness_prefix : block 992 65536 first90 st0 = none := by
  have : (block 992 65536 first90 st0).isNone = true := by decide +kernel
  exact Option.isNone_iff_eq_none.mp this

/-- … whereas threshold 960 (the code after the fix) gets through the same primes -/
theorem witness_prefix_960 : (block 960 65536 first90 st0).isSome = true := by decide +kernel

theorem stage1_992_overflow : stage1 992 65536 = none := by
  obtain ⟨ps0, ps1, hnew, hnext, _⟩ := new_spec primes_6542
  have hsplit : primesBelow 65536 = first90 ++ primesFrom 464 65072 := by
    rw [show (65536 : Nat) = 464 + 65072 from rfl, primesBelow_append, primesBelow_464]
  rw [stage1_eq (by decide) hnew hnext, show (65600 : Nat) = 65599 + 1 from rfl, outer, hsplit,
    block_none_append 992 65536 first90 _ st0 witness_prefix]

end Ymq.Pm1
