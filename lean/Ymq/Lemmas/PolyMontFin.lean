/-
C10: the Montgomery operations on the type of reduced residues (`montFin : Ops (Fin n)`) and the extensional
equality, on every input, of the exact NTT steps of the arith_poly models with the code's `_fft_longmul` /
`_fft_midmul` over the word-level `convolve_modn_ntt` (`fftLongmul_word_eq`, `fftMidmul_word_eq`).
-/
import Ymq.Lemmas.PolyMont

namespace Ymq.PolyMul
open Polynomial Finset

/-- the Montgomery operations on reduced residues (`MInt`s are reduced by construction: the type says so) -/
def montFin (n kw rinv : Nat) (hn : 0 < n) : Ops (Fin n) where
  zero := ⟨0, hn⟩
  one := ⟨2 ^ (64 * kw) % n, Nat.mod_lt _ hn⟩
  add a b := ⟨(a.val + b.val) % n, Nat.mod_lt _ hn⟩
  sub a b := ⟨(a.val + n - b.val % n) % n, Nat.mod_lt _ hn⟩
  mul a b := ⟨a.val * b.val * rinv % n, Nat.mod_lt _ hn⟩
  inv a := (Ymq.PolySpec.invMod a.val n).map fun i =>
    ⟨i * (2 ^ (64 * kw) * 2 ^ (64 * kw) % n) % n, Nat.mod_lt _ hn⟩
  eq a b := a.val % n == b.val % n

variable (n kw rinv : Nat) (hn : 0 < n)

theorem montFin_homC (hR : 2 ^ (64 * kw) * rinv % n = 1 % n) :
    HomC (montFin n kw rinv hn) (fun x => mphi n rinv x.val) := by
  have h := montOps_homC n kw rinv hn hR
  refine ⟨⟨⟨h.zero, h.one, fun a b => h.add a.val b.val, fun a b => h.sub a.val b.val,
    fun a b => h.mul a.val b.val⟩, fun a b hab => h.eq_sound a.val b.val hab, ?_⟩,
    fun a b hab => h.eq_complete a.val b.val hab⟩
  intro a i hi
  have : (montFin n kw rinv hn).inv a = some i := hi
  unfold montFin at this
  simp only [Option.map_eq_some_iff] at this
  obtain ⟨i0, hi0, rfl⟩ := this
  apply h.inv_sound a.val
  show (Ymq.PolySpec.invMod a.val n).map _ = _
  rw [hi0]; rfl

theorem dot_fin (f g : Nat → Fin n) : ∀ m,
    (dot (montFin n kw rinv hn) f g m).val = dot (montOps n kw rinv) (fun a => (f a).val) (fun a => (g a).val) m := by
  intro m
  unfold dot
  induction m with
  | zero => rfl
  | succ m ih =>
    rw [List.range_succ, List.foldl_append, List.foldl_append]
    simp only [List.foldl_cons, List.foldl_nil]
    show (Fin.val (List.foldl _ _ _) + (f m).val * (g m).val * rinv % n) % n = _
    rw [ih]; rfl

theorem getD_map_val (p : List (Fin n)) (a : Nat) :
    (p.map Fin.val).getD a 0 = (p.getD a (montFin n kw rinv hn).zero).val := by
  rw [List.getD_eq_getElem?_getD, List.getD_eq_getElem?_getD, List.getElem?_map]
  cases p[a]? <;> rfl

theorem dot_getD_fin (p q : List (Fin n)) (ia ib : Nat → Nat) (m : Nat) :
    (dot (montFin n kw rinv hn) (fun a => p.getD (ia a) (montFin n kw rinv hn).zero)
      (fun a => q.getD (ib a) (montFin n kw rinv hn).zero) m).val =
    dot (montOps n kw rinv) (fun a => (p.map Fin.val).getD (ia a) 0) (fun a => (q.map Fin.val).getD (ib a) 0) m := by
  rw [dot_fin]
  congr 1 <;> funext a <;> exact (getD_map_val n kw rinv hn _ _).symm

theorem fftLongmul_fin (k zlen : Nat) (p q : List (Fin n)) :
    (fftLongmul k (montFin n kw rinv hn) zlen p q).map (·.map Fin.val) =
      fftLongmul k (montOps n kw rinv) zlen (p.map Fin.val) (q.map Fin.val) := by
  unfold fftLongmul
  simp only [List.length_map]
  split_ifs <;> try rfl
  simp only [Option.map_some, List.map_map]
  congr 1
  apply List.map_congr_left
  intro i _
  simp only [Function.comp]
  split_ifs
  · exact dot_getD_fin n kw rinv hn p q _ _ _
  · rfl

theorem fftMidmul_fin (k zlen : Nat) (p q : List (Fin n)) :
    (fftMidmul k (montFin n kw rinv hn) zlen p q).map (·.map Fin.val) =
      fftMidmul k (montOps n kw rinv) zlen (p.map Fin.val) (q.map Fin.val) := by
  unfold fftMidmul
  simp only [List.length_map]
  split_ifs <;> try rfl
  simp only [Option.map_some, List.map_map]
  congr 1
  apply List.map_congr_left
  intro i _
  simp only [Function.comp]
  split_ifs
  · exact dot_getD_fin n kw rinv hn p q _ _ _
  · rfl

/-- the code's `_fft_longmul` over the word-level `convolve_modn_ntt` -/
def wordLongmul (m : Ymq.Crt.Mzp) (rts : List (List (List Nat))) (rinv zlen : Nat) (p q : List Nat) :
    Option (List Nat) :=
  if p.length = 0 ∨ q.length = 0 then none                  -- p.len() - 1
  else
    Ymq.Crt.convolveNtt m rts rinv (2 ^ Ymq.Checked.bitlen (p.length - 1 + (q.length - 1)))
      (p.map (Ymq.Limbs.ofNat 8)) (q.map (Ymq.Limbs.ofNat 8)) zlen 0

/-- the code's `_fft_midmul` over the word-level `convolve_modn_ntt` -/
def wordMidmul (m : Ymq.Crt.Mzp) (rts : List (List (List Nat))) (rinv zlen : Nat) (p q : List Nat) :
    Option (List Nat) :=
  if !isPow2 q.length then none                             -- assert!(qlen & (qlen - 1) == 0)
  else if p.length ≠ 2 * q.length - 1 then none
  else
    Ymq.Crt.convolveNtt m rts rinv (2 * q.length) (p.map (Ymq.Limbs.ofNat 8)) (q.map (Ymq.Limbs.ofNat 8)) zlen
      (q.length - 1)

theorem log2Exact_big : ∀ (f L : Nat), f ≤ L → Ymq.Crt.log2Exact f (2 ^ L) = none := by
  intro f
  induction f with
  | zero => intro L _; rfl
  | succ f ih =>
    intro L hL
    obtain ⟨L', rfl⟩ : ∃ L', L = L' + 1 := ⟨L - 1, by omega⟩
    unfold Ymq.Crt.log2Exact
    have hp : 0 < 2 ^ L' := Nat.pow_pos (by decide)
    have h1 : ¬ (2 ^ (L' + 1) = 1) := by rw [pow_succ]; omega
    have h2 : ¬ (2 ^ (L' + 1) % 2 = 1 ∨ 2 ^ (L' + 1) = 0) := by rw [pow_succ]; omega
    rw [if_neg h1, if_neg h2, show 2 ^ (L' + 1) / 2 = 2 ^ L' by rw [pow_succ]; omega, ih L' (by omega)]
    rfl

/-- `convolve_modn_ntt` refuses a size above the context's -/
theorem convolveNtt_small (m : Ymq.Crt.Mzp) (rts : List (List (List Nat))) (rinv L : Nat) (p1 p2 : List (List Nat))
    (reslen offset : Nat) (h : m.k < L ∨ L = 0) :
    Ymq.Crt.convolveNtt m rts rinv (2 ^ L) p1 p2 reslen offset = none := by
  unfold Ymq.Crt.convolveNtt
  by_cases hL : L < 64
  · rw [Ymq.Crt.log2Exact_pow' 64 L hL]
    simp only
    rcases h with h | h
    · rw [if_pos h]
    · split_ifs <;> rfl
  · rw [log2Exact_big 64 L (by omega)]

variable {n kw rinv hn}

theorem fin_val_lt (l : List (Fin n)) : ∀ v ∈ l.map Fin.val, v < n := by
  intro v hv
  obtain ⟨x, _, rfl⟩ := List.mem_map.1 hv
  exact x.isLt

open Ymq.Crt in
/-- **the exact product step of the arith_poly models, at the typed Montgomery operations, is the code's
`_fft_longmul` over the word-level `convolve_modn_ntt` — on every input** -/
theorem fftLongmul_word_eq (k : Nat) (m : Mzp) (hm : Ymq.Crt.new n k = some m)
    (hbits : Ymq.Checked.bitlen n ≤ 512) (hk31 : k ≤ 31) (rts : List (List (List Nat)))
    (hrts : rootsPacked m = some rts) (zlen : Nat) (p q : List (Fin n)) :
    (fftLongmul k (montFin n kw rinv hn) zlen p q).map (·.map Fin.val) =
      wordLongmul m rts rinv zlen (p.map Fin.val) (q.map Fin.val) := by
  rw [fftLongmul_fin]
  have hmk : m.k = k := (new_fields3 n k m hm).1
  set P := p.map Fin.val with hP
  set Q := q.map Fin.val with hQ
  unfold wordLongmul
  by_cases h0 : P.length = 0 ∨ Q.length = 0
  · rw [if_pos h0]; unfold fftLongmul; rw [if_pos h0]
  · rw [if_neg h0]
    set L := Ymq.Checked.bitlen (P.length - 1 + (Q.length - 1)) with hL
    by_cases hsmall : k < L ∨ L = 0
    · rw [convolveNtt_small m rts rinv L _ _ zlen 0 (by rw [hmk]; exact hsmall)]
      unfold fftLongmul
      rw [if_neg h0]
      simp only [← hL]
      rcases hsmall with h | h
      · by_cases hz : L = 0
        · rw [if_pos hz]
        · rw [if_neg hz, if_pos h]
      · rw [if_pos h]
    · have hL1 : 1 ≤ L := by omega
      have hx : 1 ≤ P.length - 1 + (Q.length - 1) := by
        by_contra hcon
        have hz : P.length - 1 + (Q.length - 1) = 0 := by omega
        rw [hL, hz] at hL1
        simp [Ymq.Checked.bitlen] at hL1
      obtain ⟨rts', e1, e2⟩ := fftLongmul_refines n k m hm hn hbits hk31 kw rinv zlen P Q (by omega) (by omega)
        (by omega) (by omega) (fin_val_lt p) (fin_val_lt q)
      rw [hrts] at e1
      cases e1
      exact e2.symm

open Ymq.Crt in
/-- **the exact middle-product step of the arith_poly models, at the typed Montgomery operations, is the
code's `_fft_midmul` over the word-level `convolve_modn_ntt` — on every input** -/
theorem fftMidmul_word_eq (k : Nat) (m : Mzp) (hm : Ymq.Crt.new n k = some m)
    (hbits : Ymq.Checked.bitlen n ≤ 512) (hk31 : k ≤ 31) (rts : List (List (List Nat)))
    (hrts : rootsPacked m = some rts) (zlen : Nat) (p q : List (Fin n)) :
    (fftMidmul k (montFin n kw rinv hn) zlen p q).map (·.map Fin.val) =
      wordMidmul m rts rinv zlen (p.map Fin.val) (q.map Fin.val) := by
  rw [fftMidmul_fin]
  have hmk : m.k = k := (new_fields3 n k m hm).1
  set P := p.map Fin.val with hP
  set Q := q.map Fin.val with hQ
  unfold wordMidmul
  by_cases hpow : isPow2 Q.length = true
  · rw [hpow]
    simp only [Bool.not_true, Bool.false_eq_true, if_false]
    by_cases hpl : P.length ≠ 2 * Q.length - 1
    · rw [if_pos hpl]; unfold fftMidmul; rw [hpow]; simp only [Bool.not_true, Bool.false_eq_true, if_false]
      rw [if_pos hpl]
    · rw [if_neg hpl]
      obtain ⟨hne, hq⟩ := isPow2_spec hpow
      set e := Q.length.log2 with he
      have hsize : 2 * Q.length = 2 ^ (e + 1) := by rw [hq, pow_succ]; ring
      by_cases hk : k < e + 1
      · rw [hsize, convolveNtt_small m rts rinv (e + 1) _ _ zlen _ (Or.inl (by rw [hmk]; exact hk))]
        unfold fftMidmul
        rw [hpow]
        simp only [Bool.not_true, Bool.false_eq_true, if_false]
        rw [if_neg hpl, if_pos (by rw [← he]; exact hk)]
      · obtain ⟨rts', e1, e2⟩ := fftMidmul_refines n k m hm hn hbits hk31 kw rinv zlen e P Q hq
          (by omega) (by omega) (fin_val_lt p) (fin_val_lt q)
        rw [hrts] at e1
        cases e1
        exact e2.symm
  · have hpow' : isPow2 Q.length = false := by simpa using hpow
    rw [hpow']
    simp only [Bool.not_false, if_true]
    unfold fftMidmul
    rw [hpow']
    simp

end Ymq.PolyMul
