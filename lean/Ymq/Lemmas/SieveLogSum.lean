/-
C13 helper lemma about the `u8` log accumulators of `sieve_block` (modelled in Ymq/Model/SieveLog.lean;
`log_sum_lt` is used by `accumulator_no_overflow_hits` in Ymq/Props/C13Log.lean): a bound on the sum of the bit lengths of distinct primes dividing one value.
-/
import Ymq.Lemmas.SieveArith
import Mathlib.Algebra.BigOperators.Associated
import Mathlib.Algebra.Order.BigOperators.Group.Finset
import Mathlib.Data.Nat.Prime.Basic

namespace Ymq.Sieve
open Finset

theorem log_sum_lt (s : Finset ℕ) (hs : ∀ p ∈ s, p.Prime) (v : ℕ) (hv : v ≠ 0) (hd : ∀ p ∈ s, p ∣ v) :
    ∑ p ∈ s, bitlen p < bitlen v + s.card := by
  have hprod : ∏ p ∈ s, p ∣ v :=
    Finset.prod_primes_dvd v (fun p hp => Nat.prime_iff.1 (hs p hp)) hd
  have hle : ∏ p ∈ s, p ≤ v := Nat.le_of_dvd (Nat.pos_of_ne_zero hv) hprod
  have h1 : ∀ p ∈ s, 2 ^ (bitlen p - 1) ≤ p := by
    intro p hp
    have h2 := (hs p hp).two_le
    have hb : 1 ≤ bitlen p := by
      by_contra hc
      have := (bitlen_lt_succ_iff p 0).1 (by omega)
      omega
    exact two_pow_le_of_bitlen (by omega)
  have h2 : 2 ^ (∑ p ∈ s, (bitlen p - 1)) ≤ v := by
    rw [← Finset.prod_pow_eq_pow_sum]
    exact le_trans (Finset.prod_le_prod' h1) hle
  have h3 : ∑ p ∈ s, (bitlen p - 1) < bitlen v := by
    have := lt_of_le_of_lt h2 (lt_two_pow_bitlen v)
    exact (Nat.pow_lt_pow_iff_right (by decide)).1 this
  have h4 : ∑ p ∈ s, bitlen p = ∑ p ∈ s, (bitlen p - 1) + s.card := by
    rw [Finset.card_eq_sum_ones, ← Finset.sum_add_distrib]
    apply Finset.sum_congr rfl
    intro p hp
    have h2 := (hs p hp).two_le
    have hb : 1 ≤ bitlen p := by
      by_contra hc
      have := (bitlen_lt_succ_iff p 0).1 (by omega)
      omega
    omega
  omega

end Ymq.Sieve
