/-
SIQS (C12): totality on the parameter domain — `prepare_a`, `Poly::first` and every `Poly::next` of the
Gray walk return (no assertion, overflow or missing inverse is reachable). Namespace `Ymq.PolySizes`, as in
Ymq/Lemmas/PolySizes.lean: the statements are about the domain `SizeDom` defined there.
-/
import Ymq.Lemmas.PolyWalkB
import Mathlib.Data.List.Prime
namespace Ymq.PolySizes
open Ymq.SiqsPoly Ymq.PolyInv Ymq.PolyBits Ymq.PolySiqs Ymq.PolyCrt Ymq.PolyWalkB

set_option exponentiation.threshold 1100

/-- the selected primes do not divide `n` (`select_siqs_factors` skips the primes with root 0) -/
def SelNz (n : Int) (sel : List Prime) : Prop := ∀ q ∈ sel, ¬ ((q.p : Int) ∣ n)

theorem b_facts {n : Int} {sel : List Prime} {f : Factors} {a : Nat} {b : Int} (hs : SelOk n sel) (hz : SelNz n sel)
    (hf : mkFactors n sel = some f) (ha : a = ((afsOf f a).map (·.2.p)).prod)
    (hne : afsOf f a ≠ []) (hdvd : (a : Int) ∣ b * b - n) :
    b ≠ 0 ∧ ∀ p : Nat, Nat.Prime p → p ∣ a → ¬ ((p : Int) ∣ b) := by
  have key : ∀ p : Nat, Nat.Prime p → p ∣ a → ¬ ((p : Int) ∣ b) := by
    intro p hp hpa hpb
    -- a prime dividing `A` is one of the selected primes
    obtain ⟨q, hq, rfl⟩ : ∃ q ∈ sel, q.p = p := by
      rw [ha] at hpa
      obtain ⟨y, hy, hpy⟩ := (Nat.Prime.prime hp).dvd_prod_iff.mp hpa
      obtain ⟨x, hx, rfl⟩ := List.mem_map.mp hy
      have hxs := (afs_mem_sel (a := a) hf).2 x hx
      exact ⟨x.2, hxs, ((Nat.prime_dvd_prime_iff_eq hp (hs.prime _ hxs)).mp hpy).symm⟩
    apply hz q hq
    have h1 : ((q.p : Nat) : Int) ∣ b * b - n := Int.dvd_trans (Int.natCast_dvd_natCast.mpr hpa) hdvd
    have h2 : ((q.p : Nat) : Int) ∣ b * b := Dvd.dvd.mul_right hpb b
    have := Int.dvd_sub h2 h1
    simpa using this
  refine ⟨?_, key⟩
  intro hb0
  obtain ⟨x, hx⟩ := List.exists_mem_of_ne_nil _ hne
  have hxs := (afs_mem_sel (a := a) hf).2 x hx
  have hpa : x.2.p ∣ a := by
    rw [ha]; exact List.dvd_prod (List.mem_map.mpr ⟨x, hx, rfl⟩)
  exact key x.2.p (hs.prime _ hxs) hpa (by rw [hb0]; exact dvd_zero _)

theorem finish_inv_ok {n : Int} {fb : List Prime} {so : Int} {pa : APrep} {B0 : Nat} {ds : List Nat}
    (fam : Fam n fb so pa B0 ds) (hprime : ∀ q ∈ fb, Nat.Prime q.p) {b : Int} {t2 : Bool}
    (hb : ∀ p : Nat, Nat.Prime p → p ∣ pa.a → ¬ ((p : Int) ∣ b)) (hb0 : 0 ≤ b) :
    ∀ pp ∈ pa.pps, pp.divA = true →
      ∃ v, invMod ((if t2 then 1 else 2) * (b.toNat % pp.p)) pp.p = some v := by
  intro pp hpp hdiv
  obtain ⟨i, hi, rfl⟩ := List.mem_iff_getElem.mp hpp
  have hi' : i < fb.length := by rw [← fam.len]; exact hi
  obtain ⟨_, hp, _, _, _, _, _, hdivA⟩ := mkPP_some (fam.pp i hi' hi)
  rw [hdiv] at hdivA
  have hpr := hprime _ (List.getElem_mem hi')
  rw [hp]
  have h2 : a2aOf n pa.a % fb[i].p = 0 ∧ fb[i].p ≠ 2 := by
    have := hdivA.symm
    simp only [Bool.and_eq_true, beq_iff_eq, bne_iff_ne, ne_eq] at this
    exact this
  have hpa : fb[i].p ∣ pa.a := dvd_a_of_a2a hpr h2.1 h2.2
  have hnb := hb _ hpr hpa
  have hbn : ((b.toNat : Nat) : Int) = b := Int.toNat_of_nonneg hb0
  have hnb' : ¬ fb[i].p ∣ b.toNat := by
    intro hd; apply hnb; rw [← hbn]; exact Int.natCast_dvd_natCast.mpr hd
  have hodd : fb[i].p % 2 = 1 := hpr.eq_two_or_odd.resolve_left h2.2
  have hne0 : (if t2 = true then 1 else 2) * (b.toNat % fb[i].p) % fb[i].p ≠ 0 := by
    intro h0
    have hd : fb[i].p ∣ (if t2 = true then 1 else 2) * (b.toNat % fb[i].p) := Nat.dvd_of_mod_eq_zero h0
    rcases (Nat.Prime.dvd_mul hpr).mp hd with h | h
    · have h2' : fb[i].p ∣ 2 := by
        split at h
        · exact Nat.dvd_trans h (by norm_num)
        · exact h
      have : fb[i].p ≤ 2 := Nat.le_of_dvd (by norm_num) h2'
      have := hpr.two_le
      omega
    · exact hnb' ((Nat.dvd_mod_iff (dvd_refl _)).mp h)
  obtain ⟨x, hx, _⟩ := invMod_prime hpr hne0
  exact ⟨x, hx⟩

/-- everything the walk needs to know about the family of `A` for totality -/
structure WalkDom (n : Int) (sel fb : List Prime) (f : Factors) (a mm : Nat) (pa : APrep) : Prop where
  fbprime : ∀ q ∈ fb, Nat.Prime q.p
  selok : SelOk n sel
  nz : SelNz n sel
  hf : mkFactors n sel = some f
  ha : a = ((afsOf f a).map (·.2.p)).prod
  aodd : isType2 n = true → a % 2 = 1
  hpa : prepareA f a fb (-((mm : Int) / 2)) = some pa
  hne : pa.factors.isEmpty = false
  dom : SizeDom n mm a pa.factors.length
  root : pa.factors.length ≥ 5 → 3 * siqsTarget n mm ≤ 4 * a

theorem chk256_isSome {x : Int} (h1 : -(2 ^ 254 : Int) ≤ x) (h2 : x < 2 ^ 254) : chk256 x = some x := by
  unfold chk256 P255
  rw [if_pos]
  have e : (2 : Int) ^ 254 < 57896044618658097711785492504343953926634992332820282019728792003956564819968 := by
    norm_num
  constructor <;> omega

/-- for every choice of roots, `B` passes all the checks that depend on it -/
theorem entry_ok {n : Int} {sel fb : List Prime} {f : Factors} {a mm : Nat} {pa : APrep}
    (w : WalkDom n sel fb f a mm pa) (g : Nat → Bool) :
    0 < bsumZ g 0 pa.roots ∧ bsumZ g 0 pa.roots ≤ 2 * (pa.factors.length : Int) * a ∧
    (isType2 n = true → bsumZ g 0 pa.roots % 2 = 1) ∧
    polyM (isType2 n) a ∣ bsumZ g 0 pa.roots * bsumZ g 0 pa.roots - n ∧
    (∀ p : Nat, Nat.Prime p → p ∣ a → ¬ ((p : Int) ∣ bsumZ g 0 pa.roots)) := by
  obtain ⟨_, _, _, _, _, hfac, _⟩ := prepareA_some w.hpa
  have hbnd := bsumZ_roots_le w.hpa g
  obtain ⟨hA, h4⟩ := bsumZ_sq w.selok w.hf w.ha w.hpa w.hne g
  have hafs : afsOf f a ≠ [] := by
    rintro he
    have := w.hne
    rw [hfac, he] at this
    simp at this
  obtain ⟨hb0, hbp⟩ := b_facts w.selok w.nz w.hf w.ha hafs hA
  have h4n : isType2 n = true → n % 4 = 1 := fun ht => by simpa [isType2] using ht
  refine ⟨lt_of_le_of_ne hbnd.1 (Ne.symm hb0), hbnd.2, fun ht => (h4 (h4n ht) (w.aodd ht)).1, ?_, hbp⟩
  rw [polyM]
  split
  · exact (h4 (h4n ‹_›) (w.aodd ‹_›)).2
  · exact hA

theorem finish_ok {n : Int} {sel fb : List Prime} {f : Factors} {a mm : Nat} {pa : APrep}
    (w : WalkDom n sel fb f a mm pa) (g : Nat → Bool) (pol0 : Poly)
    (hb : pol0.b = bsumZ g 0 pa.roots) (ht : pol0.type2 = isType2 n) (hn : pol0.n = n)
    (hc1 : -(2 ^ 254 : Int) < pol0.c) (hc2 : pol0.c < 2 ^ 254) :
    ∃ pol, finish (mkSieve n mm) pa pol0 = some pol := by
  obtain ⟨B0, ds, fam, hpaa, ha0, _⟩ := prepareA_fam w.hpa
  rw [(afs_mem_sel (a := a) w.hf).1] at fam
  obtain ⟨hb0, hble, _, hdvd, hbp⟩ := entry_ok w g
  rw [← hb] at hb0 hble hdvd hbp
  have hbn : ((pol0.b.toNat : Nat) : Int) = pol0.b := Int.toNat_of_nonneg (le_of_lt hb0)
  obtain ⟨hs1, hs2⟩ := dom_bits w.dom pol0.b (le_of_lt hb0) hble
  apply finish_isSome hb0 (by rw [hpaa]; exact ha0)
  · rw [ht, hn, hpaa]; push_cast; rw [hbn]; exact hdvd
  · exact finish_inv_ok fam w.fbprime (by rw [hpaa]; exact hbp) (le_of_lt hb0)
  · intro h5
    rw [ht, hpaa]
    exact dom_root w.dom (w.root h5)
  · rw [hpaa]; exact hs1
  · exact hs2
  · have : pol0.c.natAbs < 2 ^ 254 := by omega
    have := bitlen_le_of_lt this
    omega

theorem first_isSome {n : Int} {sel fb : List Prime} {f : Factors} {a mm : Nat} {pa : APrep}
    (w : WalkDom n sel fb f a mm pa) : ∃ pol, first (mkSieve n mm) pa = some pol := by
  obtain ⟨hb0, hble, hodd, _, _⟩ := entry_ok w (fun _ => false)
  have hsum : (firstPre (mkSieve n mm) pa).b = bsumZ (fun _ => false) 0 pa.roots := (bsumZ_false pa.roots 0).symm
  obtain ⟨_, hA, hnf⟩ := dom_nfA w.dom
  obtain ⟨pol, hpol⟩ := finish_ok w (fun _ => false) (firstPre (mkSieve n mm) pa) hsum rfl rfl
    (by norm_num [firstPre]) (by norm_num [firstPre])
  exact ⟨pol, (first_iff w.hne).mpr ⟨hsum ▸ chk256_isSome (by omega) (by omega), hsum ▸ hodd, hpol⟩⟩

theorem next_isSome {n : Int} {sel fb : List Prime} {f : Factors} {a mm : Nat} {pa : APrep}
    (w : WalkDom n sel fb f a mm pa) (pol : Poly) (i : Nat) (hat : At (mkSieve n mm) pa i pol)
    (hc1 : -(2 ^ 254 : Int) < pol.c) (hc2 : pol.c < 2 ^ 254)
    (hi : i + 1 < 2 ^ (pa.factors.length - 1)) :
    ∃ pol', next (mkSieve n mm) pa pol = some pol' := by
  obtain ⟨hidx, ht, hn, _, hb, _⟩ := hat
  have hnf32 : pa.factors.length ≤ 32 := w.dom.nfhi
  have h64 : i + 1 < 2 ^ 64 :=
    lt_of_lt_of_le hi (Nat.pow_le_pow_right (by norm_num) (by omega))
  -- the flipped bit `tz(i + 1)` is below `nf − 1`, since `2^tz(i+1) ∣ i + 1 < 2^(nf−1)`
  have hbl : flipBit i < pa.factors.length - 1 := by
    obtain ⟨hbit, _, _, _⟩ := gray_step_aux i h64
    obtain ⟨hd, _⟩ := tzN_pos_spec (i + 1) (by omega)
    rw [flipBit, hbit]
    by_contra hc
    have := Nat.le_of_dvd (by omega) (Nat.dvd_trans (pow_dvd_pow 2 (not_lt.mp hc)) hd)
    omega
  obtain ⟨_, _, fam, hpaa, _, _⟩ := prepareA_fam w.hpa
  have hbr : flipBit i < pa.roots.length := by rw [fam.nf]; omega
  obtain ⟨r0, r1, hr, hr0, hr01, hr1⟩ : ∃ r0 r1 : Int, pa.roots[flipBit i]? = some (r0, r1) ∧ 0 ≤ r0 ∧
      r0 ≤ r1 ∧ r1 ≤ 2 * (a : Int) :=
    ⟨_, _, List.getElem?_eq_getElem hbr, hpaa ▸ fam.bd _ (List.getElem_mem hbr)⟩
  have hstep := b_step pa.roots i h64 r0 r1 hr
  obtain ⟨hb0, hble, _, _, _⟩ := entry_ok w (grayBits i)
  obtain ⟨hb0', hble', hodd', _, _⟩ := entry_ok w (grayBits (i + 1))
  rw [← hb] at hb0 hble hstep
  obtain ⟨_, hA, hnf⟩ := dom_nfA w.dom
  have hbpre : (nextPre pa pol r0 r1).b = bsumZ (grayBits (i + 1)) 0 pa.roots := by
    rw [← hstep, ← hidx]; rfl
  obtain ⟨pol', hpol'⟩ := finish_ok w (grayBits (i + 1)) (nextPre pa pol r0 r1) hbpre ht hn hc1 hc2
  refine ⟨pol', next_iff.mpr ⟨hidx ▸ h64, r0, r1, hidx ▸ hr, ?_, ?_, fun _ htt => ?_, hpol'⟩⟩
  · exact chk256_isSome (by split <;> omega) (by split <;> omega)
  · rw [hbpre]; exact chk256_isSome (by omega) (by omega)
  · rw [hbpre]; exact hodd' (ht ▸ htt)

theorem walk_total_aux {n : Int} {sel fb : List Prime} {f : Factors} {a mm : Nat} {pa : APrep}
    (w : WalkDom n sel fb f a mm pa) :
    ∀ idx, idx < 2 ^ (pa.factors.length - 1) → ∃ pol, polyAt (mkSieve n mm) pa idx = some pol := by
  intro idx
  induction idx with
  | zero => intro _; exact first_isSome w
  | succ i ih =>
    intro hi
    obtain ⟨pol, hpol⟩ := ih (by omega)
    obtain ⟨_, hc1, hc2⟩ := poly_exact_dom w.hpa w.hne hpol w.dom
    obtain ⟨pol', hpol'⟩ := next_isSome w pol i (polyAt_at w.hne i pol hpol) hc1 hc2 hi
    exact ⟨pol', by simp only [polyAt, hpol, hpol']⟩

theorem walk_total {n : Int} {sel fb : List Prime} {f : Factors} {a mm : Nat}
    (hprime : ∀ q ∈ fb, Nat.Prime q.p) (hsmall : ∀ q ∈ fb, q.p < 2 ^ 24)
    (hs : SelOk n sel) (hz : SelNz n sel) (hf : mkFactors n sel = some f)
    (ha : a = ((afsOf f a).map (·.2.p)).prod) (hne : afsOf f a ≠ [])
    (haodd : isType2 n = true → a % 2 = 1) (d : SizeDom n mm a (afsOf f a).length)
    (hroot : (afsOf f a).length ≥ 5 → 3 * siqsTarget n mm ≤ 4 * a) :
    ∃ pa, prepareA f a fb (-((mm : Int) / 2)) = some pa ∧ pa.factors.length = (afsOf f a).length ∧
      ∀ idx, idx < 2 ^ ((afsOf f a).length - 1) → ∃ pol, polyAt (mkSieve n mm) pa idx = some pol := by
  obtain ⟨pa, hpa⟩ := prepareA_isSome (fb := fb) (so := -((mm : Int) / 2)) hs hf ha hne
    (fun q hq => ⟨(hprime q hq).pos.ne', hsmall q hq⟩) (by have := dom_A_ge d; omega)
    (by have := dom_A_lt d; omega) (by have := d.mhi; omega) (by omega)
  obtain ⟨_, _, _, _, _, hfac, _⟩ := prepareA_some hpa
  have hlen : pa.factors.length = (afsOf f a).length := by rw [hfac]; simp
  have hne' : pa.factors.isEmpty = false := by
    rw [List.isEmpty_eq_false_iff, ← List.length_pos_iff, hlen]; exact List.length_pos_iff.mpr hne
  have w : WalkDom n sel fb f a mm pa :=
    ⟨hprime, hs, hz, hf, ha, haodd, hpa, hne', hlen ▸ d, fun h5 => hroot (hlen ▸ h5)⟩
  exact ⟨pa, hpa, hlen, fun idx hidx => walk_total_aux w idx (hlen ▸ hidx)⟩

end Ymq.PolySizes
