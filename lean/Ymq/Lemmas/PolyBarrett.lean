/-
C10: the branch `a.len() >= n` of `Poly::roots_eval` (model: `rootsEvalLong`, `barrettStep` in
Ymq/Model/PolyTree.lean): products of chunks of `x - a_i` reduced modulo `Q = ∏ (x - b_j)` by three
`_longmul`s with a precomputed inverse of the reversed `Q` (Barrett reduction).
`barrett_high` is the reversal argument (`high_of_reflect`, PolyEval.lean), `barrettStep_spec` one round of the loop
including the `debug_assert!` on the high halves, `rootsEvalLong_spec` the chunk loop (model `rootsEvalLong`) up to its call of
`_multi_eval`, `rootsEval_long_spec` the whole branch, for every tree size `n ≥ 1`
(a single evaluation point is `n = 1`).
`HomC` adds completeness of `==` (equal residues compare equal), needed for the code's assertions.
-/
import Ymq.Lemmas.PolyRootsEval
import Ymq.Lemmas.PolyZMod
import Ymq.Lemmas.Loops
import Mathlib.Algebra.Polynomial.Degree.Lemmas

namespace Ymq.PolyMul
open Polynomial Finset

variable {α : Type} {R : Type} [CommRing R]

/-- **Barrett reduction step (reversal argument).** `Q` monic of degree `n ≥ 1`, `P` below `2n - 1`,
`I` an inverse of `rev Q` modulo `x^n`; `H = P div x^n`, `J` the reversed low `n` coefficients of `I`,
`G` the coefficients `n-1 … 2n-3` of `H·J`. Then `G·Q` and `P` agree from coefficient `n` on. -/
theorem barrett_high (P Q I H J G : R[X]) (n : Nat) (hn : 1 ≤ n) (hdQ : Q.natDegree = n)
    (hP : Below P (2 * n - 1)) (hI : Agree n (reflect n Q * I) 1)
    (hH : ∀ i, H.coeff i = P.coeff (n + i))
    (hJ : ∀ j, J.coeff j = if j < n then I.coeff (n - 1 - j) else 0)
    (hG : ∀ t, G.coeff t = if t < n - 1 then (H * J).coeff (n - 1 + t) else 0) :
    ∀ m, n ≤ m → (G * Q).coeff m = P.coeff m := by
  -- for `n = 1` the quotient slice is empty and `P` is a constant
  rcases Nat.lt_or_ge n 2 with h1 | hn
  · have hG0 : G = 0 := by ext t; rw [hG, if_neg (by omega), coeff_zero]
    intro m hm
    rw [hG0, zero_mul, coeff_zero, hP m (by omega)]
  have dH : H.natDegree ≤ n - 2 := by
    rw [natDegree_le_iff_coeff_eq_zero]
    intro i hi
    rw [hH]
    exact hP _ (by omega)
  have dJ : J.natDegree ≤ n - 1 := by
    rw [natDegree_le_iff_coeff_eq_zero]
    intro i hi
    rw [hJ, if_neg (by omega)]
  have dG : G.natDegree ≤ n - 2 := by
    rw [natDegree_le_iff_coeff_eq_zero]
    intro i hi
    rw [hG, if_neg (by omega)]
  have e1 := reflect_mul H J dH dJ
  set Pr := reflect (n - 2 + n) P with hPr
  -- the reflected quotient is `rev P · I`, hence `rev G · rev Q ≡ rev P · (I · rev Q) ≡ rev P`
  have cA : Agree (n - 1) (reflect (n - 2) H) Pr := by
    intro u hu
    rw [coeff_reflect, coeff_reflect, revAt_le (by omega), revAt_le (by omega), hH]
    congr 1; omega
  have cB : Agree n (reflect (n - 1) J) I := by
    intro l hl
    rw [coeff_reflect, revAt_le (by omega), hJ, if_pos (by omega)]
    congr 1; omega
  have cG : Agree (n - 1) (reflect (n - 2) G) (Pr * I) := by
    intro u hu
    rw [coeff_reflect, revAt_le (by omega), hG, if_pos (by omega)]
    have : n - 1 + (n - 2 - u) = revAt (n - 2 + (n - 1)) u := by rw [revAt_le (by omega)]; omega
    rw [this, ← coeff_reflect, e1]
    exact ((cA.mul_right (reflect (n - 1) J)).trans ((cB.mono (Nat.sub_le n 1)).mul_left Pr)) u hu
  have h2 : Agree (n - 1) (Pr * I * reflect n Q) Pr := by
    have := (hI.mono (Nat.sub_le n 1)).mul_left Pr
    rwa [mul_one, mul_comm (reflect n Q), ← mul_assoc] at this
  exact high_of_reflect P Q G n (n - 2) hdQ.le dG (hP.mono (by omega))
    (((cG.mul_right (reflect n Q)).trans h2).mono (by omega))


/-- `HomE` plus completeness of `==`: equal images compare equal (`MInt`s are reduced residues) -/
structure HomC (o : Ops α) (φ : α → R) : Prop extends HomE o φ where
  eq_complete : ∀ a b, φ a = φ b → o.eq a b = true

theorem poly_append_one {o : Ops α} {φ : α → R} (h : Hom o φ) (top : List α) :
    poly ((top ++ [o.one]).map φ) = mon φ top := by
  unfold mon
  rw [List.map_append, poly_append, List.length_map]
  simp [poly, h.one]

/-- `resize(1 + n); if c[n] != 0 { c -= q; assert!(c[n] == 0) }; truncate(n)` for `pc` of at most
`n + 1` coefficients whose coefficient `n` is `0` or `1`, `q = top ++ [1]`: the result has `n`
coefficients and differs from `pc` by a multiple (`0` or `1`) of `Q = mon top`. -/
theorem reduceTop_spec {o : Ops α} {φ : α → R} (h : HomC o φ) (n : Nat) (pc top : List α)
    (hlen : pc.length ≤ n + 1) (htop : top.length = n)
    (hlead : pc.length = n + 1 → φ (pc.getD n o.zero) = 1) :
    ∃ r, reduceTop o n pc (top ++ [o.one]) = some r ∧ r.length = n ∧
      (poly (r.map φ) = poly (pc.map φ) ∨ poly (r.map φ) = poly (pc.map φ) - mon φ top) := by
  unfold reduceTop
  simp only
  set c := pc ++ List.replicate (n + 1 - pc.length) o.zero with hc
  have lc : c.length = n + 1 := by rw [hc, List.length_append, List.length_replicate]; omega
  have pcc : poly (c.map φ) = poly (pc.map φ) := by
    rw [hc]; exact poly_map_append_zeros h.toHom pc _
  rw [if_neg (by omega)]
  have hq : poly ((top ++ [o.one]).map φ) = mon φ top := poly_append_one h.toHom top
  -- a list of `n + 1` entries whose last one maps to `0` may be truncated
  have htrunc : ∀ l : List α, l.length = n + 1 → φ (l.getD n o.zero) = 0 →
      poly ((l.take n).map φ) = poly (l.map φ) := by
    intro l ll h0
    rw [List.map_take]
    refine poly_take_of_below _ n (fun k hk => ?_)
    by_cases hkn : k = n
    · rw [hkn, coeff_den h.toHom, h0]
    · exact below_map φ l k (by omega)
  by_cases hz : o.eq (c.getD n o.zero) o.zero = true
  · rw [hz]
    simp only [Bool.not_true, Bool.false_eq_true, if_false]
    refine ⟨c.take n, rfl, by rw [List.length_take]; omega, Or.inl ?_⟩
    rw [← pcc, htrunc c lc (by rw [h.eq_sound _ _ hz, h.zero])]
  · have hz' : o.eq (c.getD n o.zero) o.zero = false := by simpa using hz
    rw [hz']
    simp only [Bool.not_false, if_true]
    have hne : φ (c.getD n o.zero) ≠ 0 := by
      intro h0
      exact hz (h.eq_complete _ _ (by rw [h0, h.zero]))
    -- so pc has n + 1 coefficients and is monic
    have hpl : pc.length = n + 1 := by
      by_contra hcon
      apply hne
      rw [hc, List.getD_append_right _ _ _ _ (by omega)]
      rw [List.getD_eq_getElem?_getD, List.getElem?_replicate]
      split_ifs <;> simp [h.zero]
    have hcn : φ (c.getD n o.zero) = 1 := by
      rw [hc, List.getD_append _ _ _ _ (by omega)]; exact hlead hpl
    rw [zipOp_eq _ _ _ (by rw [lc, List.length_append, htop]; rfl)]
    simp only
    set c' := List.zipWith o.sub c (top ++ [o.one]) with hc'
    have lc' : c'.length = n + 1 := by
      rw [hc', List.length_zipWith, lc, List.length_append, htop]; simp
    have hc'n : φ (c'.getD n o.zero) = 0 := by
      rw [hc', getD_zipWith _ _ _ _ _ (by omega) (by rw [List.length_append, htop]; simp), h.sub, hcn,
        List.getD_append_right _ _ _ _ (by omega), htop]
      simp [h.one]
    rw [if_pos (h.eq_complete _ _ (by rw [hc'n, h.zero]))]
    refine ⟨c'.take n, rfl, by rw [List.length_take]; omega, Or.inr ?_⟩
    have pc' : poly (c'.map φ) = poly (pc.map φ) - mon φ top := by
      rw [hc', poly_zipWith_sub h.toHom _ _ (by rw [lc, List.length_append, htop]; rfl), pcc, hq]
    rw [← pc', htrunc c' lc' hc'n]


variable [Nontrivial R]

theorem rootsPoly_monic (φ : α → R) (l : List α) : (rootsPoly φ l).Monic ∧ (rootsPoly φ l).natDegree = l.length := by
  unfold rootsPoly
  induction l with
  | nil => simp
  | cons r rs ih =>
    rw [List.map_cons, List.prod_cons]
    have h1 : (X - C (φ r)).Monic := monic_X_sub_C _
    exact ⟨h1.mul ih.1, by rw [h1.natDegree_mul ih.1, natDegree_X_sub_C, ih.2, List.length_cons]; omega⟩

theorem getD_reverse_drop_one (l : List α) (d : α) (n j : Nat) (hl : l.length = n + 1) (hj : j < n) :
    (l.reverse.drop 1).getD j d = l.getD (n - 1 - j) d := by
  rw [List.getD_eq_getElem?_getD, List.getD_eq_getElem?_getD, List.getElem?_drop,
    List.getElem?_reverse (by omega)]
  congr 2; omega

/-- the polynomial of one chunk of `roots_eval`, `1 ≤ |chk| ≤ n = 2^e` roots: `from_roots`, then the reduction of a
product of full degree `n` by the monic `Q = mon top`; the result has `n` coefficients and is `∏ (x - r)` modulo `Q` -/
theorem chunkPoly_spec {o : Ops α} {φ : α → R} (h : HomC o φ) (c : Ctx) (n e : Nat) (hpow : n = 2 ^ e) (he : e ≤ 61)
    (top chk : List α) (htop : top.length = n) (hchk1 : 1 ≤ chk.length) (hchkn : chk.length ≤ n) (hfit : Fits c n) :
    ∃ pi0 pic, fromRoots c o chk = some pi0 ∧ reduceTop o n pi0 (top ++ [o.one]) = some pic ∧ pic.length = n ∧
      mon φ top ∣ poly (pic.map φ) - rootsPoly φ chk := by
  have hble : Ymq.Checked.bitlen (chk.length - 1) ≤ e := bitlen_le_of_lt (by omega)
  obtain ⟨pi0, e1, lpi, ppi⟩ := fromRoots_spec h.toHom c chk hchk1 (by omega)
    (hfit.mono (by rw [hpow]; exact Nat.pow_le_pow_right (by decide) hble))
  obtain ⟨hmon, hdeg⟩ := rootsPoly_monic φ chk
  obtain ⟨pic, e2, lpic, ppic⟩ := reduceTop_spec h n pi0 top (by omega) htop (by
    intro hl
    have : chk.length = n := by omega
    have hc := hmon.coeff_natDegree
    rw [hdeg, this, ← ppi, coeff_den h.toHom] at hc
    exact hc)
  refine ⟨pi0, pic, e1, e2, lpic, ?_⟩
  rcases ppic with hp | hp
  · rw [hp, ppi, sub_self]; exact dvd_zero _
  · rw [hp, ppi]; exact ⟨-1, by ring⟩

omit [Nontrivial R] in
theorem poly_sub_take {o : Ops α} {φ : α → R} (h : Hom o φ) (x y : List α) (n : Nat)
    (lx : n ≤ x.length) (ly : n ≤ y.length)
    (hhigh : ∀ m, n ≤ m → (poly (y.map φ)).coeff m = (poly (x.map φ)).coeff m) :
    (List.zipWith o.sub (x.take n) (y.take n)).length = n ∧
      poly ((List.zipWith o.sub (x.take n) (y.take n)).map φ) = poly (x.map φ) - poly (y.map φ) := by
  have l1 : (x.take n).length = n := List.length_take_of_le lx
  have l2 : (y.take n).length = n := List.length_take_of_le ly
  refine ⟨by rw [List.length_zipWith, l1, l2, Nat.min_self], ?_⟩
  have hd : poly ((y.map φ).drop n) = poly ((x.map φ).drop n) := by
    ext k
    rw [coeff_poly_drop, coeff_poly_drop, hhigh _ (Nat.le_add_right n k)]
  rw [poly_zipWith_sub h _ _ (l1.trans l2.symm), List.map_take, List.map_take,
    poly_take_drop (x.map φ) n (by rw [List.length_map]; exact lx),
    poly_take_drop (y.map φ) n (by rw [List.length_map]; exact ly), hd]
  ring

/-- **one round of the chunk loop of `roots_eval`** (Barrett reduction with the reversed inverse):
no panic site (the `debug_assert!` on the high halves included) and the new `pmodq` is congruent to
`∏_{r ∈ chk} (x - r) · pmodq` modulo `Q = mon top`. -/
theorem barrettStep_spec {o : Ops α} {φ : α → R} (h : HomC o φ) (c : Ctx) (n e : Nat) (hn : 1 ≤ n)
    (hpow : n = 2 ^ e) (he : e ≤ 61)
    (top qinv pmodq chk : List α) (htop : top.length = n) (lqi : qinv.length = n + 1)
    (lpm : pmodq.length = n) (hchk1 : 1 ≤ chk.length) (hchkn : chk.length ≤ n) (hfit : Fits c n)
    (hI : Agree n (reflect n (mon φ top) * poly (qinv.map φ)) 1) :
    ∃ r, barrettStep c o n (top ++ [o.one]) qinv.reverse pmodq chk = some r ∧ r.length = n ∧
      mon φ top ∣ poly (r.map φ) - rootsPoly φ chk * poly (pmodq.map φ) := by
  -- the arithmetic of the slices, while the context is small
  obtain ⟨h36, h2n, hA, hB, hC, hD⟩ : 3 * n ≤ 6 * n ∧ n - 1 + (n + 1) = 2 * n ∧ n - 1 ≤ 2 * n - (n - 1) ∧ n ≤ 2 * n ∧
      3 * (n + 1) ≤ 6 * n ∧ ∀ j, 2 * n - 1 ≤ j → n + n ≤ j + 1 := by
    refine ⟨?_, ?_, ?_, ?_, ?_, fun j hj => ?_⟩ <;> omega
  have hn61 : n ≤ 2 ^ 61 := by rw [hpow]; exact Nat.pow_le_pow_right (by decide) he
  obtain ⟨pi0, pic, e1, e2, lpic, dpic⟩ := chunkPoly_spec h c n e hpow he top chk htop hchk1 hchkn hfit
  clear hpow he hchk1 hchkn
  set Q := mon φ top with hQ
  -- the three products: `pp = pic·pmodq`, `quo = pp[n..]·J`, `pq = quo[n-1 .. 2n-2]·Q`
  set P := poly (pic.map φ) * poly (pmodq.map φ) with hP
  have hn62 : n ≤ 2 ^ 62 := le_trans hn61 (by norm_num)
  obtain ⟨pp, e3, lpp, ppp⟩ := longmul_eq_spec h.toHom c (2 * n) (6 * n) pic pmodq n lpic lpm hn hn62 le_rfl h36 hfit
  rw [← hP] at ppp
  have ld : (pp.drop n).length = n := by rw [List.length_drop, lpp, Nat.two_mul, Nat.add_sub_cancel]
  have lr : (qinv.reverse.drop 1).length = n := by
    rw [List.length_drop, List.length_reverse, lqi, Nat.add_sub_cancel]
  obtain ⟨quo, e4, lquo, pquo⟩ := longmul_eq_spec h.toHom c (2 * n) (6 * n) (pp.drop n) (qinv.reverse.drop 1) n
    ld lr hn hn62 le_rfl h36 hfit
  have lqs : ((quo.drop (n - 1)).take (n - 1)).length = n - 1 :=
    List.length_take_of_le (by rw [List.length_drop, lquo]; exact hA)
  generalize hqs : (quo.drop (n - 1)).take (n - 1) = qs at lqs
  obtain ⟨pq, e5, lpq, ppq⟩ := longmul_spec h.toHom c (2 * n) (6 * n) qs (top ++ [o.one]) (n - 1) (n + 1) (n + 1) n
    lqs (by rw [List.length_append, htop]; rfl) (Nat.le_add_left 1 n) (le_trans (Nat.sub_le n 1) (Nat.le_succ n)) le_rfl
    (le_trans (Nat.succ_le_succ hn61) (by norm_num)) h2n.le hC hfit (h2n.le.trans (Nat.le_succ _))
  rw [poly_append_one h.toHom] at ppq
  have bP : Below P (2 * n - 1) := fun j hj =>
    (below_map φ pic).mul_coeff (below_map φ pmodq) j (by rw [lpic, lpm]; exact hD j hj)
  have cH : ∀ i, (poly ((pp.drop n).map φ)).coeff i = P.coeff (n + i) := fun i => by
    rw [List.map_drop, coeff_poly_drop, ppp]
  have cJ : ∀ j, (poly ((qinv.reverse.drop 1).map φ)).coeff j =
      if j < n then (poly (qinv.map φ)).coeff (n - 1 - j) else 0 := by
    intro j
    split_ifs with hj
    · rw [coeff_den h.toHom, getD_reverse_drop_one qinv _ n j lqi hj, coeff_den h.toHom]
    · exact below_map φ _ j (lr.le.trans (Nat.le_of_not_lt hj))
  have cG : ∀ t, (poly (qs.map φ)).coeff t = if t < n - 1 then
      (poly ((pp.drop n).map φ) * poly ((qinv.reverse.drop 1).map φ)).coeff (n - 1 + t) else 0 := by
    intro t
    rw [← hqs, List.map_take, List.map_drop, coeff_poly_take, coeff_poly_drop, pquo]
  have hhigh := barrett_high P Q (poly (qinv.map φ)) _ _ _ n hn (by rw [hQ, mon_natDegree, htop]) bP hI cH cJ cG
  -- the assertion on the high halves
  have hall : ((List.range n).all fun i => o.eq (pp.getD (n + i) o.zero) (pq.getD (n + i) o.zero)) = true := by
    rw [List.all_eq_true]
    intro i hi
    apply h.eq_complete
    rw [← coeff_den h.toHom, ← coeff_den h.toHom, ppp, ppq, hhigh _ (Nat.le_add_right n i)]
  obtain ⟨lr', hr⟩ := poly_sub_take h.toHom pp pq n (by rw [lpp]; exact hB) (by rw [lpq]; exact hB)
    (fun m hm => by rw [ppq, ppp]; exact hhigh m hm)
  refine ⟨List.zipWith o.sub (pp.take n) (pq.take n), ?_, lr', ?_⟩
  · unfold barrettStep
    simp only [e1, e2, e3, e4, hqs, e5, hall, Bool.not_true, Bool.false_eq_true, if_false]
    exact zipOp_eq _ _ _ (by
      rw [List.length_take_of_le (by rw [lpp]; exact hB), List.length_take_of_le (by rw [lpq]; exact hB)])
  · -- `P - G·Q - ∏(x - r)·pmodq = (pic - ∏(x - r))·pmodq - G·Q`
    rw [hr, ppp, ppq, hP, show poly (pic.map φ) * poly (pmodq.map φ) - poly (qs.map φ) * Q -
      rootsPoly φ chk * poly (pmodq.map φ) = (poly (pic.map φ) - rootsPoly φ chk) * poly (pmodq.map φ) -
        poly (qs.map φ) * Q by ring]
    exact dvd_sub (Dvd.dvd.mul_right dpic _) (dvd_mul_left Q _)


omit [Nontrivial R] in
theorem rootsPoly_append (φ : α → R) (l1 l2 : List α) :
    rootsPoly φ (l1 ++ l2) = rootsPoly φ l1 * rootsPoly φ l2 := by
  unfold rootsPoly
  rw [List.map_append, List.prod_append]

theorem barrettFold_spec {o : Ops α} {φ : α → R} (h : HomC o φ) (c : Ctx) (n e : Nat) (hn : 1 ≤ n)
    (hpow : n = 2 ^ e) (he : e ≤ 61) (top qinv : List α) (htop : top.length = n) (lqi : qinv.length = n + 1)
    (hfit : Fits c n)
    (hI : Agree n (reflect n (mon φ top) * poly (qinv.map φ)) 1) :
    ∀ (cs : List (List α)) (pm : List α) (A : R[X]), pm.length = n →
      (∀ chk ∈ cs, 1 ≤ chk.length ∧ chk.length ≤ n) → mon φ top ∣ poly (pm.map φ) - A →
      ∃ r, cs.foldlM (barrettStep c o n (top ++ [o.one]) qinv.reverse) pm = some r ∧ r.length = n ∧
        mon φ top ∣ poly (r.map φ) - A * rootsPoly φ cs.flatten := by
  intro cs pm A lpm hall hdiv
  refine Loops.foldlM_total _
    (fun pre (r : List α) => r.length = n ∧ mon φ top ∣ poly (r.map φ) - A * rootsPoly φ pre.flatten) cs ?_
    ⟨lpm, by simpa [rootsPoly] using hdiv⟩
  rintro pre chk post pm rfl ⟨lpm, hdiv⟩
  obtain ⟨h1, h2⟩ := hall chk List.mem_append_cons_self
  obtain ⟨r1, e1, lr1, d1⟩ := barrettStep_spec h c n e hn hpow he top qinv pm chk htop lqi lpm h1 h2 hfit hI
  refine ⟨r1, e1, lr1, ?_⟩
  have : poly (r1.map φ) - A * rootsPoly φ (pre ++ [chk]).flatten =
      (poly (r1.map φ) - rootsPoly φ chk * poly (pm.map φ)) +
        rootsPoly φ chk * (poly (pm.map φ) - A * rootsPoly φ pre.flatten) := by
    rw [List.flatten_append, rootsPoly_append, List.flatten_singleton]; ring
  rw [this]
  exact dvd_add d1 (Dvd.dvd.mul_left hdiv _)

omit [Nontrivial R] in
theorem revTop_getD (o : Ops α) (n : Nat) (q : List α) (j : Nat) (hj : j < n) :
    (revTop o n q).getD j o.zero = q.getD (n - j) o.zero := by
  unfold revTop
  rw [getD_range_map _ _ _ _ (by omega), if_pos hj]

/-- **the chunk loop of `roots_eval`** (model `rootsEvalLong`: inverse of the reversed top node, `from_roots` of the first
chunk, one Barrett round per further chunk): for a top node of `n = 2^e` low coefficients and `|a| ≥ n` no panic site is
reached before `_multi_eval`, which receives `pmodq` of `n` coefficients, `pmodq ≡ ∏ (x - a_i)` modulo `Q = mon top` -/
theorem rootsEvalLong_spec {o : Ops α} {φ : α → R} (h : HomC o φ) (c : Ctx) (tree : List (List (List α)))
    (top a : List α) (n e : Nat) (hn : n = 2 ^ e) (he : e ≤ 61) (ltop : top.length = n) (hfit : Fits c n)
    (hab : n ≤ a.length) (hinv : ∃ i, o.inv o.one = some i) :
    ∃ pmodq, pmodq.length = n ∧ mon φ top ∣ poly (pmodq.map φ) - rootsPoly φ a ∧
      rootsEvalLong c o tree top a = multiEvalTree c o pmodq tree := by
  have hn1 : 1 ≤ n := hn ▸ Nat.one_le_two_pow
  have hn62 : n ≤ 2 ^ 61 := hn ▸ Nat.pow_le_pow_right (by decide) he
  set q := top ++ [o.one] with hq
  have pq : poly (q.map φ) = mon φ top := poly_append_one h.toHom top
  -- the inverse of the reversed top node
  set revq := revTop o n q with hrevq
  have lrev : revq.length = n + 1 := by rw [hrevq]; unfold revTop; simp
  have hrev0 : revq.getD 0 o.zero = o.one := by
    rw [hrevq, revTop_getD o n q 0 (by omega), hq, List.getD_append_right _ _ _ _ (by omega), ltop]
    simp
  obtain ⟨qinv, ei, lqi, hinvq⟩ := invModXn_spec h.toHomE c 63 revq (6 * n) (n + 1) lrev (Nat.le_add_left 1 n)
    (le_trans (Nat.succ_le_succ hn62) (by norm_num)) (le_trans (Nat.succ_le_succ hn62) (by norm_num))
    (by
      -- `6n` entries of scratch are fewer than `4(n + 1)` for `n = 1`, where `_inv_mod_xn` returns by its length-2 shortcut
      rw [hrev0]
      rcases Nat.lt_or_ge n 2 with h1 | h2
      · exact Or.inr (Or.inl ⟨h.eq_complete _ _ rfl, by omega⟩)
      · exact Or.inr (Or.inr (by omega))) (hfit.mono (by omega)) (by rw [hrev0]; exact hinv)
  have hI : Agree n (reflect n (mon φ top) * poly (qinv.map φ)) 1 := by
    refine Agree.trans (Agree.mul_right (fun j hj => ?_) _) (hinvq.mono (Nat.le_succ n))
    rw [coeff_reflect, revAt_le (by omega), ← pq, coeff_den h.toHom, coeff_den h.toHom, hrevq,
      revTop_getD o n q j hj]
  -- the chunks: the first one has `n` roots
  obtain ⟨hflat, hchk⟩ := chunks_spec a.length n a hn1 le_rfl
  obtain ⟨c0, cs, ecs, lc0⟩ : ∃ c0 cs, chunks a.length n a = c0 :: cs ∧ c0.length = n := by
    cases a with
    | nil => simp at hab; omega
    | cons x xs =>
      refine ⟨(x :: xs).take n, chunks xs.length n ((x :: xs).drop n), by simp only [List.length_cons, chunks],
        List.length_take_of_le hab⟩
  rw [ecs] at hflat hchk
  obtain ⟨p0, pm0, ep0, epm0, lpm0, d0⟩ := chunkPoly_spec h c n e hn he top c0 ltop (by omega) lc0.le hfit
  obtain ⟨pmodq, ef, lpmq, dq⟩ := barrettFold_spec h c n e hn1 hn he top qinv ltop lqi hfit hI cs pm0
    (rootsPoly φ c0) lpm0 (fun x hx => hchk x (List.mem_cons_of_mem _ hx)) d0
  rw [← rootsPoly_append, ← List.flatten_cons, hflat] at dq
  refine ⟨pmodq, lpmq, dq, ?_⟩
  unfold rootsEvalLong
  simp only
  rw [ltop, ← hq, ← hrevq, show invModXn c o FUEL revq (6 * n) = some qinv from ei]
  simp only
  rw [hrev0, h.eq_complete _ _ rfl]
  simp only [Bool.not_true, Bool.false_eq_true, if_false]
  rw [ecs]
  simp only
  rw [ep0]
  simp only
  rw [epm0]
  simp only
  rw [ef]

/-- **`Poly::roots_eval`, branch `|a| ≥ n`**: no panic site and `vals[j] = ∏_i (b_j - a_i)`: the values of `pmodq` at
the `b_j`, where `Q = ∏ (x - b_j)·x^(n - |b|)` vanishes. -/
theorem rootsEval_long_spec {o : Ops α} {φ : α → R} (h : HomC o φ) (a b : List α)
    (hb1 : 1 ≤ b.length) (hb61 : Ymq.Checked.bitlen (b.length - 1) ≤ 61)
    (hab : 2 ^ Ymq.Checked.bitlen (b.length - 1) ≤ a.length) (hinv : ∃ i, o.inv o.one = some i) :
    ∃ vals, rootsEval o a b = some vals ∧ vals.length = b.length ∧
      ∀ j, j < b.length →
        φ (vals.getD j o.zero) = (a.map fun r => φ (b.getD j o.zero) - φ r).prod := by
  set logn := Ymq.Checked.bitlen (b.length - 1) with hlogn
  set n := 2 ^ logn with hn
  set c := Ctx.new b.length with hc
  have hbn : b.length ≤ n := by
    have := bitlen_lt (b.length - 1); rw [← hlogn, ← hn] at this; omega
  have hn1 : 1 ≤ n := Nat.one_le_two_pow
  have hhalf : n / 2 + 1 ≤ n := by omega
  obtain ⟨layers, el, llen, hch, top, htop, ltop, hmon⟩ := productTree_spec h.toHom c b (by omega) (by omega)
    (fits_new _ _ (le_refl _))
  have hfitn : Fits c n := fits_new _ _ (le_refl _)
  obtain ⟨pmodq, lpmq, ⟨K, hK⟩, elong⟩ := rootsEvalLong_spec h c layers top a n logn hn hb61 ltop hfitn hab hinv
  obtain ⟨vals, ev, hlv, hv⟩ := multiEvalTree_points h.toHomE c pmodq b layers top el llen hch htop ltop hb61
    (by rw [lpmq]; exact hn1) (by rw [lpmq]; exact Nat.le_succ n) (hfitn.mono hhalf) hinv
  refine ⟨vals.take b.length, ?_, List.length_take_of_le (by rw [hlv]; exact hbn), fun j hj => ?_⟩
  · unfold rootsEval
    simp only
    rw [el]
    simp only
    rw [htop]
    simp only
    rw [if_neg (by rw [ltop]; exact Nat.not_lt.2 hab), elong, ev]
    simp only
    rw [if_neg (by rw [hlv]; exact Nat.not_lt.2 hbn)]
  · have hQ0 : (mon φ top).eval (φ (b.getD j o.zero)) = 0 := by
      rw [hmon, eval_mul, eval_rootsPoly, List.prod_eq_zero, zero_mul]
      exact List.mem_map.2 ⟨b.getD j o.zero, by
        rw [List.getD_eq_getElem?_getD, List.getElem?_eq_getElem hj]; exact List.getElem_mem hj, sub_self _⟩
    rw [getD_take _ _ _ _ hj, hv j hj, show poly (pmodq.map φ) = rootsPoly φ a + mon φ top * K by rw [← hK]; ring,
      eval_add, eval_mul, eval_rootsPoly, hQ0, zero_mul, add_zero]

theorem rootsEval_spec {o : Ops α} {φ : α → R} (h : HomC o φ) (a b : List α) (ha1 : 1 ≤ a.length)
    (hb1 : 1 ≤ b.length) (hb61 : Ymq.Checked.bitlen (b.length - 1) ≤ 61) (hinv : ∃ i, o.inv o.one = some i) :
    ∃ vals, rootsEval o a b = some vals ∧ vals.length = b.length ∧
      ∀ j, j < b.length →
        φ (vals.getD j o.zero) = (a.map fun r => φ (b.getD j o.zero) - φ r).prod := by
  rcases Nat.lt_or_ge a.length (2 ^ Ymq.Checked.bitlen (b.length - 1)) with hab | hab
  · exact rootsEval_direct_spec h.toHomE a b hb1 ha1 hb61 hab hinv
  · exact rootsEval_long_spec h a b hb1 hb61 hab hinv

omit [Nontrivial R] in
theorem natOps_homC (n : Nat) (hn : 0 < n) : HomC (natOps n) (Nat.cast : ℕ → ZMod n) where
  toHomE := natOps_homE n hn
  eq_complete a b hab := natOps_eq_complete n a b hab

end Ymq.PolyMul
