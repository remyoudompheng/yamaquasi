/-
Lemmas for the residue number system `MultiZmodP` (property C10): uniqueness of the CRT
reconstruction quotient, the value assembled by `_crt` modulo `n`, and the error analysis of the
truncated quotient estimate. These are statements about numbers (`Fin w`-indexed families); the
identification of the words read by `Ymq.Crt.qEstimate` with the quantities below is `qEstimate_spec`
(Ymq/Lemmas/CrtEstimate.lean). Also the facts decided on the translated table `NTT_PRIMES` (`rows_ok`,
`primes_coprime`).
-/
import Ymq.Gen.Params
import Mathlib.Data.Nat.ChineseRemainder
import Mathlib.Algebra.BigOperators.Fin
import Mathlib.Algebra.Order.BigOperators.Group.Finset
import Mathlib.Algebra.Order.BigOperators.GroupWithZero.List
import Mathlib.Tactic.Ring
import Mathlib.Tactic.Linarith

namespace Ymq.Crt
open Finset

theorem dvd_prod_div (ps : List Nat) (hco : ps.Pairwise Nat.Coprime) (hpos : ∀ p ∈ ps, 0 < p)
    (i j : Fin ps.length) (hij : i ≠ j) : ps.get j ∣ ps.prod / ps.get i := by
  have hi : ps.get i ∣ ps.prod := List.dvd_prod (List.get_mem _ _)
  have hj : ps.get j ∣ ps.prod := List.dvd_prod (List.get_mem _ _)
  have hcop : Nat.Coprime (ps.get j) (ps.get i) := by
    rcases lt_or_gt_of_ne hij with h | h
    · exact (List.pairwise_iff_get.1 hco i j h).symm
    · exact List.pairwise_iff_get.1 hco j i h
  obtain ⟨c, hc⟩ := hi
  rw [hc, Nat.mul_div_cancel_left _ (hpos _ (List.get_mem _ _))]
  rw [hc] at hj
  exact hcop.dvd_of_dvd_mul_left hj

/-- **CRT reconstruction**: if `0 ≤ V < P = ∏ p_i` (pairwise coprime) and `V ≡ xs_i · (P/p_i) (mod p_i)`
with `xs_i < p_i` (this is `xs_i = x_i · (P/p_i)⁻¹ mod p_i` for the residues `x_i` of `V`), then
`V = Σ xs_i · (P/p_i) - q·P` for exactly one `q`, and `q < w`. -/
theorem crt_unique' (ps : List Nat) (hw : 0 < ps.length) (hco : ps.Pairwise Nat.Coprime)
    (hpos : ∀ p ∈ ps, 0 < p) (xs : Fin ps.length → Nat) (hxs : ∀ i, xs i < ps.get i) (V : Nat)
    (hV : V < ps.prod) (hc : ∀ i, V ≡ xs i * (ps.prod / ps.get i) [MOD ps.get i]) :
    ∃! q, q < ps.length ∧ V + q * ps.prod = ∑ i, xs i * (ps.prod / ps.get i) := by
  set P := ps.prod with hP
  set S := ∑ i, xs i * (P / ps.get i) with hS
  have hPpos : 0 < P := List.prod_pos (fun p hp => hpos p hp)
  -- S ≡ V modulo every p_j
  have h1 : ∀ j, S ≡ V [MOD ps.get j] := by
    intro j
    refine Nat.ModEq.trans ?_ (hc j).symm
    rw [hS, ← Finset.add_sum_erase _ _ (Finset.mem_univ j)]
    have : ∑ i ∈ Finset.univ.erase j, xs i * (P / ps.get i) ≡ 0 [MOD ps.get j] := by
      rw [Nat.modEq_zero_iff_dvd]
      apply Finset.dvd_sum
      intro i hi
      exact Dvd.dvd.mul_left (dvd_prod_div ps hco hpos i j (Finset.ne_of_mem_erase hi)) _
    have := Nat.ModEq.add_left (xs j * (P / ps.get j)) this
    simpa using this
  have h2 : S ≡ V [MOD P] := (Nat.modEq_list_prod_iff hco).2 h1
  -- S < w * P
  have h3 : S < ps.length * P := by
    have hterm : ∀ i ∈ (Finset.univ : Finset (Fin ps.length)), xs i * (P / ps.get i) < P := by
      intro i _
      have hi : ps.get i ∣ P := List.dvd_prod (List.get_mem _ _)
      have hpi := hpos _ (List.get_mem ps i)
      have hq : 0 < P / ps.get i := Nat.div_pos (Nat.le_of_dvd hPpos hi) hpi
      calc xs i * (P / ps.get i) < ps.get i * (P / ps.get i) := Nat.mul_lt_mul_of_pos_right (hxs i) hq
        _ = P := Nat.mul_div_cancel' hi
    have hne : (Finset.univ : Finset (Fin ps.length)).Nonempty := ⟨⟨0, hw⟩, Finset.mem_univ _⟩
    have := Finset.sum_lt_sum_of_nonempty hne hterm
    simpa [hS] using this
  have hVmod : S % P = V := by
    have := h2
    unfold Nat.ModEq at this
    rw [this, Nat.mod_eq_of_lt hV]
  refine ⟨S / P, ⟨Nat.div_lt_of_lt_mul (by rwa [Nat.mul_comm] at h3), ?_⟩, ?_⟩
  · have := Nat.div_add_mod S P
    rw [hVmod] at this
    rw [Nat.mul_comm (S / P) P]; omega
  · rintro q ⟨_, hq⟩
    have : S = V + q * P := hq.symm
    rw [this, Nat.add_mul_div_right _ _ hPpos, Nat.div_eq_of_lt hV, Nat.zero_add]

/-- the value assembled by `_crt` is congruent to `V` modulo `n` when `q` is the right quotient:
`T = qp + Σ xs_j · c_j` with `c_j ≡ P/p_j`, `qp ≡ -q·P (mod n)`. -/
theorem crt_value' {w : Nat} (n P q V : Nat) (xs cp c : Fin w → Nat) (qp : Nat)
    (hrec : V + q * P = ∑ i, xs i * cp i) (hcn : ∀ i, c i ≡ cp i [MOD n])
    (hqp : qp + q * P ≡ 0 [MOD n]) :
    qp + ∑ i, xs i * c i ≡ V [MOD n] := by
  have h1 : ∑ i, xs i * c i ≡ ∑ i, xs i * cp i [MOD n] := by
    unfold Nat.ModEq
    rw [Finset.sum_nat_mod, Finset.sum_nat_mod (f := fun i => xs i * cp i)]
    congr 1
    apply Finset.sum_congr rfl
    intro i _
    exact (hcn i).mul_left (xs i)
  have h2 : qp + ∑ i, xs i * c i + q * P ≡ V + q * P [MOD n] := by
    rw [hrec]
    have := Nat.ModEq.add hqp h1
    rw [Nat.zero_add] at this
    refine Nat.ModEq.trans ?_ this
    rw [Nat.add_right_comm]
  exact Nat.ModEq.add_right_cancel' _ h2


/-- **Quotient estimate of `_crt`** (error analysis shared by its three precision branches).
`S = Σ xs_i·c_i = q·P + V` with `V < P/2`; the code keeps of every `c_i = P/p_i` only the word(s)
above a scale `M` (`M = W^(plen-2)`, `2^32·W^(plen-2)` or `2^32·W^(plen-3)` depending on the
branch), rounds up (`c_i / M + 1`), sums `top = Σ xs_i·(c_i/M + 1)` and returns
`(top >> 64) / hi` where `hi = ⌊P / (2^64·M)⌋` is the truncated top of `P`. If `Σ xs_i ≤ 2^64`
and `2q + 3 ≤ hi`, that is exactly `q`. -/
theorem q_estimate' {w : Nat} (P q V M hi Wd : Nat) (xs c : Fin w → Nat)
    (hM : 0 < M) (hWd : 0 < Wd) (hhi : 0 < hi)
    (hS : V + q * P = ∑ i, xs i * c i) (hV : 2 * V < P)
    (hlo : hi * Wd * M ≤ P) (hup : P < (hi + 1) * Wd * M)
    (hxs : ∑ i, xs i ≤ Wd) (hq : 2 * q + 3 ≤ hi) :
    (∑ i, xs i * (c i / M + 1)) / Wd / hi = q := by
  set top := ∑ i, xs i * (c i / M + 1) with htop
  have ha : ∑ i, xs i * c i ≤ top * M := by
    rw [htop, Finset.sum_mul]
    apply Finset.sum_le_sum
    intro i _
    have : c i ≤ (c i / M + 1) * M := by
      rw [Nat.mul_comm]; exact le_of_lt (Nat.lt_mul_div_succ _ hM)
    calc xs i * c i ≤ xs i * ((c i / M + 1) * M) := Nat.mul_le_mul_left _ this
      _ = xs i * (c i / M + 1) * M := by ring
  have hb : top * M ≤ ∑ i, xs i * c i + M * ∑ i, xs i := by
    rw [htop, Finset.sum_mul, Finset.mul_sum, ← Finset.sum_add_distrib]
    apply Finset.sum_le_sum
    intro i _
    have : c i / M * M ≤ c i := Nat.div_mul_le_self _ _
    calc xs i * (c i / M + 1) * M = xs i * (c i / M * M) + M * xs i := by ring
      _ ≤ xs i * c i + M * xs i := by
        have := Nat.mul_le_mul_left (xs i) this
        omega
  rw [Nat.div_div_eq_div_mul]
  have hpos : 0 < Wd * hi := Nat.mul_pos hWd hhi
  apply Nat.div_eq_of_lt_le
  · -- q * (Wd * hi) ≤ top
    have : q * (Wd * hi) * M ≤ top * M := by
      calc q * (Wd * hi) * M = q * (hi * Wd * M) := by ring
        _ ≤ q * P := Nat.mul_le_mul_left _ hlo
        _ ≤ V + q * P := Nat.le_add_left _ _
        _ = ∑ i, xs i * c i := hS
        _ ≤ top * M := ha
    exact Nat.le_of_mul_le_mul_right this hM
  · -- top < (q + 1) * (Wd * hi)
    have h1 : 2 * (top * M) < 2 * ((q + 1) * (Wd * hi) * M) := by
      have hMW : M * ∑ i, xs i ≤ M * Wd := Nat.mul_le_mul_left _ hxs
      have hP : (2 * q + 1) * P < (2 * q + 1) * ((hi + 1) * Wd * M) :=
        Nat.mul_lt_mul_of_pos_left hup (by omega)
      have hkey : (2 * q + 1) * ((hi + 1) * Wd * M) + 2 * (M * Wd) ≤ 2 * ((q + 1) * (Wd * hi) * M) := by
        have : (2 * q + 1) * (hi + 1) + 2 ≤ 2 * (q + 1) * hi := by
          rw [show (2 * q + 1) * (hi + 1) + 2 = 2 * (q * hi) + hi + (2 * q + 3) by ring,
            show 2 * (q + 1) * hi = 2 * (q * hi) + 2 * hi by ring]
          omega
        calc (2 * q + 1) * ((hi + 1) * Wd * M) + 2 * (M * Wd)
            = ((2 * q + 1) * (hi + 1) + 2) * (Wd * M) := by ring
          _ ≤ 2 * (q + 1) * hi * (Wd * M) := Nat.mul_le_mul_right _ this
          _ = 2 * ((q + 1) * (Wd * hi) * M) := by ring
      have hrw : (2 * q + 1) * P = 2 * (q * P) + P := by ring
      omega
    have h2 : top * M < (q + 1) * (Wd * hi) * M := by omega
    exact Nat.lt_of_mul_lt_mul_right h2


open Ymq.Gen.Params

/-- `t` modular squarings -/
def sqIter (p : Nat) : Nat → Nat → Nat
  | 0, x => x % p
  | t + 1, x => sqIter p t (x * x % p)

theorem sqIter_eq (p t x : Nat) : sqIter p t x = x ^ 2 ^ t % p := by
  induction t generalizing x with
  | zero => simp [sqIter]
  | succ t ih =>
    rw [sqIter, ih, pow_succ, Nat.mul_comm (2 ^ t) 2, pow_mul, pow_two, ← Nat.pow_mod]

/-- facts about one row `(p, g)` of `NTT_PRIMES`: `p ≡ 1 (mod 2^49)`, `2^58 < p < 2^59`,
`p·(p-2) ≡ -1 (mod 2^64)` (the Montgomery constant used by `mg_mul64`), and `g^(2^31) ≡ -1 (mod p)`
(so `g` has order exactly `2^32` and every `g^(2^(32-k))` is a principal `2^k`-th root of unity) -/
def RowOk (r : Nat × Nat) : Prop :=
  r.1 % 2 ^ 49 = 1 ∧ 2 ^ 58 < r.1 ∧ r.1 < 2 ^ 59 ∧ (r.1 * (r.1 - 2) + 1) % 2 ^ 64 = 0 ∧
  sqIter r.1 31 r.2 = r.1 - 1

instance (r : Nat × Nat) : Decidable (RowOk r) := by unfold RowOk; infer_instance

theorem rows_ok : ∀ r ∈ NTT_PRIMES, RowOk r := by decide +kernel

theorem primes_coprime : NTT_PRIME_VALUES.Pairwise Nat.Coprime := by decide +kernel

end Ymq.Crt
