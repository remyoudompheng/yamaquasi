/-
The 64-bit addition-chain builder `mk64Loop` (Model/Chain.lean): each round makes a `Step` of the signed-window
recoding with window 4 on `kk` itself, so `recode_loop` gives value, well-formedness and the sharp length 33.
-/
import Ymq.Lemmas.Recode
import Ymq.Lemmas.Bits

namespace Ymq.Chain
open Ymq.Recode

theorem tzAux_spec (f n : Nat) (h0 : 0 < n) (hn : n < 2 ^ f) :
    ∃ m, n = 2 ^ tzAux f n * m ∧ m % 2 = 1 ∧ tzAux f n < f := by
  obtain ⟨hd, hr⟩ := Bits.tz_spec tzAux (fun _ => rfl) (fun _ _ => rfl) f n
  exact ⟨_, (Nat.mul_div_cancel' hd).symm, (hr h0 hn).2, (hr h0 hn).1⟩

theorem asI8_small (x : Nat) (h : x < 128) : asI8 x = (x : Int) := by
  unfold asI8
  have : x % 256 = x := by omega
  simp [this, h]

theorem i8_small (v : Int) (h1 : -128 ≤ v) (h2 : v ≤ 127) : i8 v = some v := by
  unfold i8; simp [h1, h2]

/-- the opcode `2 * tz as i8` of a shift below 64 -/
theorem i8_shift {t : Nat} (h : t < 64) : i8 (2 * asI8 t) = some (2 * (t : Int)) := by
  rw [asI8_small _ (by omega)]
  exact i8_small _ (by omega) (by omega)

/-- the opcode `-(r as i8)` of a subtraction -/
theorem i8_neg {r : Nat} (h : r ≤ 127) : i8 (-(asI8 r)) = some (-(r : Int)) := by
  rw [asI8_small _ (by omega)]
  exact i8_small _ (by omega) (by omega)

theorem W_eq : W = 2 ^ 64 := by decide

theorem mk64_even (cap f l kk : Nat) (h0 : 0 < kk) (hW : kk < W) (he : kk % 2 = 0) (hl : l < cap) :
    ∃ t m : Nat, 1 ≤ t ∧ t < 64 ∧ kk = 2 ^ t * m ∧ m % 2 = 1 ∧
      mk64Loop cap (f + 1) l kk =
        (mk64Loop cap f (l + 1) m).bind (fun r => some ((2 * (t : Int)) :: r)) := by
  obtain ⟨m, hm, hmo, hlt⟩ := tzAux_spec 64 kk h0 (by rw [← W_eq]; exact hW)
  have htz : tz64 kk = tzAux 64 kk := by unfold tz64; simp; omega
  refine ⟨tzAux 64 kk, m, ?_, hlt, hm, hmo, ?_⟩
  · by_contra hc
    have : tzAux 64 kk = 0 := by omega
    rw [this] at hm; simp at hm; omega
  · have hdiv : kk / 2 ^ tzAux 64 kk = m :=
      Nat.div_eq_of_eq_mul_right (Nat.pow_pos (by decide : 0 < 2)) hm
    have hi8 := i8_shift hlt
    have h1 : ¬ (l ≥ cap) := by omega
    have h2 : ¬ (tzAux 64 kk ≥ 64) := by omega
    rw [mk64Loop]
    simp only [he, if_true, htz, hdiv, hi8, h1, h2, if_false]
    simp

/-- One odd opcode `x ≡ kk (mod 16)` with `|x| ≤ 7` leaves `(kk - x) / 2 = 8 q`: `x = kk % 16`,
`q = kk / 16` when that is below 8, else `x = kk % 16 - 16`, `q = kk / 16 + 1`. -/
theorem mk64_odd_step (cap f l kk : Nat) (hodd : kk % 2 = 1) (h7 : 7 < kk) (hW : kk < W) (hl : l < cap) :
    ∃ (x : Int) (q : Nat), x % 2 = 1 ∧ -7 ≤ x ∧ x ≤ 7 ∧ (kk : Int) = 2 * ((8 * q : Nat) : Int) + x ∧
      0 < q ∧ q ≤ kk / 16 + 1 ∧
      mk64Loop cap (f + 1) l kk = (mk64Loop cap f (l + 1) (8 * q)).bind (fun c => some (x :: c)) := by
  have h1 : ¬ (kk % 2 = 0) := by omega
  have h2 : ¬ (kk ≤ 7) := by omega
  have h3 : ¬ (l ≥ cap) := by omega
  by_cases hr : kk % 16 < 8
  · have hk1 : (kk - kk % 16) / 2 = 8 * (kk / 16) := by omega
    refine ⟨((kk % 16 : Nat) : Int), kk / 16, by omega, by omega, by omega, by omega, by omega, by omega, ?_⟩
    rw [mk64Loop]
    simp only [h1, h2, hr, h3, if_true, if_false, hk1, asI8_small _ (Nat.lt_trans hr (by decide))]
    rfl
  · have hk1 : kk / 2 + (16 - kk % 16) / 2 + 1 = 8 * (kk / 16 + 1) := by omega
    have h4 : ¬ (8 * (kk / 16 + 1) ≥ W) := by rw [W_eq] at *; omega
    have hi8 := i8_neg (r := 16 - kk % 16) (by omega)
    refine ⟨-((16 - kk % 16 : Nat) : Int), kk / 16 + 1, by omega, by omega, by omega, by omega, by omega,
      by omega, ?_⟩
    rw [mk64Loop]
    simp only [h1, h2, hr, h3, if_false, hk1, h4, hi8]
    rfl

theorem mk64_step (cap f : Nat) (s : Nat × Nat) (hW : s.2 < W) (h0 : 0 < s.2) (hl : s.1 < cap) :
    (∃ x : Nat, mk64Loop cap (f + 1) s.1 s.2 = some [(x : Int)] ∧ x % 2 = 1 ∧ x < 8 ∧ s.2 = x) ∨
    (∃ op, ∃ s' : Nat × Nat, ∃ sh, mk64Loop cap (f + 1) s.1 s.2 =
        (mk64Loop cap f s'.1 s'.2).bind (fun c => some (op :: c)) ∧
      Step 4 8 s.2 op s'.2 sh ∧ s'.2 < W ∧ s'.1 = s.1 + 1) := by
  obtain ⟨l, kk⟩ := s
  simp only at *
  by_cases hev : kk % 2 = 0
  · obtain ⟨t, m, ht1, ht, hm, hmo, hstep⟩ := mk64_even cap f l kk h0 hW hev hl
    refine Or.inr ⟨_, (l + 1, m), t, hstep, .even t m ht1 (by omega) hm (Or.inr hmo) ?_, ?_, rfl⟩
    · -- `m` is odd: a multiple of 8 has `t ≥ 3`
      intro h8
      by_contra hc
      have : t = 1 ∨ t = 2 := by omega
      rcases this with h | h <;> subst h <;> omega
    · have : m ≤ 2 ^ t * m := Nat.le_mul_of_pos_left m (Nat.pow_pos (by decide))
      omega
  · by_cases h7 : kk ≤ 7
    · refine Or.inl ⟨kk, ?_, by omega, by omega, rfl⟩
      have h3 : ¬ (l ≥ cap) := by omega
      rw [mk64Loop]
      simp only [hev, h7, h3, if_true, if_false, asI8_small kk (by omega)]
    · obtain ⟨x, q, hx2, hx7, hx7', hkk, hq0, hq, hstep⟩ :=
        mk64_odd_step cap f l kk (by omega) (by omega) hW hl
      refine Or.inr ⟨x, (l + 1, 8 * q), 1, hstep,
        .odd x (8 * q) hx2 (by omega) (by omega) hkk ⟨q, rfl⟩ (by omega), ?_, rfl⟩
      rw [W_eq] at *; omega

/-- `make_addition_chain` on a non-zero word: the potential of a 64-bit scalar is at most `2·65 + 4`, four units per
opcode, so at most 33 opcodes, the buffer its callers allocate. -/
theorem makeChain_spec (k : Nat) (h0 : 0 < k) (hk : k < 2 ^ 64) :
    ∃ c, makeChain k = some c ∧ evalChain c = (k : Int) ∧ c.length ≤ 33 ∧ WF 7 c := by
  have hcap : 33 ≤ Ymq.Gen.Curves.chainCap := by decide
  unfold makeChain makeChainCap
  generalize Ymq.Gen.Curves.chainCap = cap at hcap
  rw [if_neg (by omega)]
  have hb : bitLen k ≤ 64 := bitLen_le hk
  have hw := wOf_le (u := 4) (h := 8) (R := k) (by decide)
  obtain ⟨c, h1, h2, h3, h4⟩ := recode_loop (u := 4) (h := 8) (cap := cap) (by decide) (by decide)
    (fun f s => mk64Loop cap f s.1 s.2) (fun _ s => s.2 < W) (·.2) (·.1)
    (fun f s _ hW hb hl => mk64_step cap f s hW hb.pos hl) (cap + 1) (0, k) (bitLen k) (by rw [W_eq]; exact hk)
    (bitLen_br h0) (by unfold pot; simp only; omega) (by unfold pot; simp only; omega)
  unfold pot at h4
  exact ⟨c, h1, h2, by simp only at h4; omega, h3⟩

end Ymq.Chain
