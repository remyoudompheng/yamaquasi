/-
The sequential loop of `SparseMat::detz`: CRT over blocks of four moduli with termination as soon
as two consecutive reconstructions agree. `detp_of_lanes`: a block is its four lanes;
`detzLoop_block`: one turn of the loop in terms of the integer the residues belong to.
-/
import Ymq.Lemmas.WiedemannKrylov
import Ymq.Props.C19

namespace Ymq.Wied
open Ymq.IntMat

theorem detz_of_selected {isprime : ℕ → Option Bool} {m : Mat} {ps : List ℕ}
    (h : selectPrimes isprime m = some ps) (inv : Inv) :
    detz isprime inv m = detzLoop inv m (ps.length + 1) ps [] [] 0 := by
  simp only [detz, h, Option.bind_eq_bind, Option.bind_some]

theorem detzLoop_step (inv : Inv) (m : Mat) (f p0 p1 p2 p3 : ℕ) (rest modp ps r : List ℕ)
    (det det' : Int) (hb : detp m [p0, p1, p2, p3] = some r)
    (hc : crtSparse inv (modp ++ r) (ps ++ [p0, p1, p2, p3]) = some det') :
    detzLoop inv m (f + 1) (p0 :: p1 :: p2 :: p3 :: rest) modp ps det =
      if det ≠ det' then detzLoop inv m f rest (modp ++ r) (ps ++ [p0, p1, p2, p3]) det'
      else some det := by
  simp only [detzLoop, hb, hc]

theorem zip_map_self {α β} (g : α → β) : ∀ l : List α, l.zip (l.map g) = l.map (fun a => (a, g a))
  | [] => rfl
  | a :: l => by simp [zip_map_self g l]

/-- `detp4` lane by lane: the lanes do not interact -/
theorem detp_of_lanes (m : Mat) (r : ℕ → ℕ) (ps : List ℕ)
    (h : ∀ p ∈ ps, ∃ seq, krylov m p (2 * m.length + 1) (startVec m.length 0 1) [] = some seq ∧
      laneDet m.length p seq = some (r p)) :
    detp m ps = some (ps.map r) := by
  choose! g hg using h
  unfold detp
  rw [Loops.mapM_eq_map _ g ps (fun p hp => (hg p hp).1)]
  simp only [Option.bind_eq_bind, Option.bind_some, zip_map_self]
  rw [Loops.mapM_eq_map _ (fun x => r x.1) _ (fun x hx => by
    obtain ⟨a, ha, rfl⟩ := List.mem_map.mp hx
    exact (hg a ha).2)]
  simp [List.map_map, Function.comp_def]

/-- One block of the loop when the residues gathered so far, this block's included, are those of
an integer `d'` in the symmetric range of the product of the moduli so far: the reconstruction is
`d'`. -/
theorem detzLoop_block (inv : Inv) (hinv : InvSpec inv) (m : Mat) (d' : Int) (f p0 p1 p2 p3 : ℕ)
    (rest modp ps r : List ℕ) (det : Int) (hb : detp m [p0, p1, p2, p3] = some r)
    (hq : ∀ q ∈ ps ++ [p0, p1, p2, p3], 1 < q ∧ q < U64)
    (hcop : (ps ++ [p0, p1, p2, p3]).Pairwise Nat.Coprime)
    (hres : List.Forall₂ (fun (p r : ℕ) => (p : Int) ∣ (r : Int) - d')
      (ps ++ [p0, p1, p2, p3]) (modp ++ r))
    (hd1 : -(((ps ++ [p0, p1, p2, p3]).prod : ℕ) : Int) < 2 * d')
    (hd2 : 2 * d' ≤ (((ps ++ [p0, p1, p2, p3]).prod : ℕ) : Int)) :
    detzLoop inv m (f + 1) (p0 :: p1 :: p2 :: p3 :: rest) modp ps det =
      if det ≠ d' then detzLoop inv m f rest (modp ++ r) (ps ++ [p0, p1, p2, p3]) d'
      else some det :=
  detzLoop_step inv m f p0 p1 p2 p3 rest modp ps r det d' hb
    (Ymq.C19.crt_sparse_symmetric inv hinv _ _ d' hres.length_eq.symm
      (by rw [← hres.length_eq]; simp) (fun q h => (hq q h).1) (fun q h => (hq q h).2) hcop
      (fun i hr hp => hres.get hp hr) hd1 hd2)

theorem detzLoop_first_block (inv : Inv) (hinv : InvSpec inv) (m : Mat) (d : Int)
    (p0 p1 p2 p3 p4 p5 p6 p7 : ℕ) (rest : List ℕ) (r0 r1 r2 r3 r4 r5 r6 r7 : ℕ) (f : ℕ)
    (hb1 : detp m [p0, p1, p2, p3] = some [r0, r1, r2, r3])
    (hb2 : detp m [p4, p5, p6, p7] = some [r4, r5, r6, r7])
    (hp : ∀ q ∈ [p0, p1, p2, p3, p4, p5, p6, p7], 1 < q ∧ q < U64)
    (hcop : [p0, p1, p2, p3, p4, p5, p6, p7].Pairwise Nat.Coprime)
    (h0 : (p0 : Int) ∣ (r0 : Int) - d) (h1 : (p1 : Int) ∣ (r1 : Int) - d)
    (h2 : (p2 : Int) ∣ (r2 : Int) - d) (h3 : (p3 : Int) ∣ (r3 : Int) - d)
    (h4 : (p4 : Int) ∣ (r4 : Int) - d) (h5 : (p5 : Int) ∣ (r5 : Int) - d)
    (h6 : (p6 : Int) ∣ (r6 : Int) - d) (h7 : (p7 : Int) ∣ (r7 : Int) - d)
    (hd1 : -((p0 * p1 * p2 * p3 : ℕ) : Int) < 2 * d) (hd2 : 2 * d < ((p0 * p1 * p2 * p3 : ℕ) : Int)) :
    detzLoop inv m (f + 2) (p0 :: p1 :: p2 :: p3 :: p4 :: p5 :: p6 :: p7 :: rest) [] [] 0 =
      some d := by
  have hres : List.Forall₂ (fun (p r : ℕ) => (p : Int) ∣ (r : Int) - d)
      [p0, p1, p2, p3, p4, p5, p6, p7] [r0, r1, r2, r3, r4, r5, r6, r7] :=
    .cons h0 (.cons h1 (.cons h2 (.cons h3 (.cons h4 (.cons h5 (.cons h6 (.cons h7 .nil)))))))
  have hsub : [p0, p1, p2, p3].Sublist [p0, p1, p2, p3, p4, p5, p6, p7] := List.take_sublist 4 [p0, p1, p2, p3, p4, p5, p6, p7]
  have e4 : [p0, p1, p2, p3].prod = p0 * p1 * p2 * p3 := by
    simp only [List.prod_cons, List.prod_nil]; ring
  have hP8 : ((p0 * p1 * p2 * p3 : ℕ) : Int) ≤
      ((([p0, p1, p2, p3] ++ [p4, p5, p6, p7]).prod : ℕ) : Int) := by
    have hq : 1 ≤ [p4, p5, p6, p7].prod :=
      list_prod_pos _ fun q hq => le_of_lt (hp q ((List.drop_sublist 4 [p0, p1, p2, p3, p4, p5, p6, p7]).subset hq)).1
    rw [List.prod_append, e4]
    exact_mod_cast Nat.le_mul_of_pos_right _ hq
  have hd1' : -((([] ++ [p0, p1, p2, p3]).prod : ℕ) : Int) < 2 * d := by
    rw [List.nil_append, e4]; exact hd1
  have hd2' : 2 * d ≤ ((([] ++ [p0, p1, p2, p3]).prod : ℕ) : Int) := by
    rw [List.nil_append, e4]; exact le_of_lt hd2
  rw [detzLoop_block inv hinv m d (f + 1) p0 p1 p2 p3 _ [] [] [r0, r1, r2, r3] 0 hb1
    (fun q hq => hp q (hsub.subset hq)) (hcop.sublist hsub) (List.forall₂_take 4 hres) hd1' hd2']
  by_cases hd0 : (0 : Int) = d
  · rw [if_neg (not_not.mpr hd0), hd0]
  · rw [if_pos hd0, List.nil_append, List.nil_append,
      detzLoop_block inv hinv m d f p4 p5 p6 p7 rest [r0, r1, r2, r3]
      [p0, p1, p2, p3] [r4, r5, r6, r7] d hb2 hp hcop hres
      (lt_of_le_of_lt (neg_le_neg hP8) hd1) (le_trans (le_of_lt hd2) hP8), if_neg (not_not.mpr rfl)]

end Ymq.Wied
