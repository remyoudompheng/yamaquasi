/-
Algebra of the second stages (C16): why "l divides a grid value" makes the accumulated product
vanish modulo the prime factor.  Pure algebra; no model is involved.
-/
import Mathlib.Data.ZMod.Basic
import Mathlib.FieldTheory.Finite.Basic
import Mathlib.Algebra.BigOperators.Group.List.Basic
import Mathlib.Tactic.Ring
import Mathlib.Tactic.LinearCombination

namespace Ymq.Stage2

theorem pow_eq_one_of_dvd {p : Nat} [Fact p.Prime] {g : ZMod p} (hg : g ≠ 0) {e : Nat} (h : p - 1 ∣ e) :
    g ^ e = 1 := by
  obtain ⟨c, rfl⟩ := h
  rw [pow_mul, ZMod.pow_card_sub_one_eq_one hg, one_pow]

theorem pm1_step_eq {p : Nat} [Fact p.Prime] {g : ZMod p} (hg : g ≠ 0) {E m q d1 r : Nat}
    (hE : p - 1 ∣ E * m) (hm : m + r = q * d1 ∨ m + q * d1 = r) :
    (g ^ E) ^ (q * d1) = (g ^ E) ^ r := by
  have h1 : (g ^ E) ^ m = 1 := by rw [← pow_mul]; exact pow_eq_one_of_dvd hg hE
  rcases hm with hm | hm
  · rw [← hm, pow_add, h1, one_mul]
  · rw [← hm, pow_add, h1, one_mul]

theorem pm1_factor_dvd {p : Nat} (hp : p.Prime) {g : ℤ} (hg : ¬ (p : ℤ) ∣ g) {E m q d1 r : Nat}
    (hE : p - 1 ∣ E * m) (hm : m + r = q * d1 ∨ m + q * d1 = r) :
    (p : ℤ) ∣ g ^ (E * (q * d1)) - g ^ (E * r) := by
  have := Fact.mk hp
  have hg' : ((g : ℤ) : ZMod p) ≠ 0 := by
    intro h; exact hg ((ZMod.intCast_zmod_eq_zero_iff_dvd g p).mp h)
  rw [← ZMod.intCast_zmod_eq_zero_iff_dvd]
  have key := pm1_step_eq hg' hE hm
  rw [← pow_mul, ← pow_mul] at key
  push_cast
  rw [key, sub_self]

/-! ### the chirp-z exponents of `pm1_stage2_polyeval`

`p[i]` is multiplied by `negsteps[i] = h^(d2² - (d2-1-i)²)` and `q[j] = gsteps[j] = h^(j²)` with
`h = g^(d1/2)`; the coefficient `k` of the product collects `i + j = k`. -/

theorem chirpz_exponent {d2 k i : Nat} (hk : k + 1 ≤ d2) (hi : i ≤ k) :
    (d2 * d2 - (d2 - 1 - i) * (d2 - 1 - i)) + (k - i) * (k - i) =
      (d2 * d2 + k * k - (d2 - 1) * (d2 - 1)) + i * (2 * (d2 - 1 - k)) := by
  obtain ⟨a, rfl⟩ : ∃ a, d2 = k + 1 + a := ⟨d2 - (k + 1), by omega⟩
  obtain ⟨b, rfl⟩ : ∃ b, k = i + b := ⟨k - i, by omega⟩
  have e1 : i + b + 1 + a - 1 - i = b + a := by omega
  have e2 : i + b - i = b := by omega
  have e3 : i + b + 1 + a - 1 = i + b + a := by omega
  rw [e1, e2, e3, show i + b + a - (i + b) = a from by omega]
  have h1 : (b + a) * (b + a) ≤ (i + b + 1 + a) * (i + b + 1 + a) := Nat.mul_le_mul (by omega) (by omega)
  have h2 : (i + b + a) * (i + b + a) ≤ (i + b + 1 + a) * (i + b + 1 + a) + (i + b) * (i + b) :=
    le_trans (Nat.mul_le_mul (by omega) (by omega)) (Nat.le_add_right _ _)
  zify [h1, h2]
  ring

/-- `chirpz_coeff`: coefficient `k ∈ [deg, d2)` of the convolution is a power of `h` times
`P(h^(2*(d2-1-k)))`, i.e. `P` evaluated at `g^((d2-1-k)*d1)`. -/
theorem chirpz_coeff {R : Type*} [CommRing R] (h : R) (P : Nat → R) {d2 k deg : Nat}
    (hk : k + 1 ≤ d2) (hdeg : deg ≤ k) :
    (Finset.range (deg + 1)).sum (fun i => P i * h ^ (d2 * d2 - (d2 - 1 - i) * (d2 - 1 - i)) * h ^ ((k - i) * (k - i))) =
      h ^ (d2 * d2 + k * k - (d2 - 1) * (d2 - 1)) *
        (Finset.range (deg + 1)).sum (fun i => P i * (h ^ (2 * (d2 - 1 - k))) ^ i) := by
  rw [Finset.mul_sum]
  apply Finset.sum_congr rfl
  intro i hi
  have hi' : i ≤ k := by have := Finset.mem_range.mp hi; omega
  rw [mul_assoc, ← pow_add, chirpz_exponent hk hi', pow_add, ← pow_mul, Nat.mul_comm i]
  ring

/-- the Lucas sequence `V_n(a, 1)` (`V_n(x + 1/x) = x^n + 1/x^n`: `chebV_eq_pow`), which `chebyshev_modn(a, n)` computes and the
baby and giant steps of `pp1` hold -/
def chebV {R : Type*} [CommRing R] (a : R) : Nat → R
  | 0 => 2
  | 1 => a
  | n + 2 => a * chebV a (n + 1) - chebV a n

/-- `V_{m+n} = V_m V_n - V_{m-n}` written without subtraction of indices (`m = n + d`). -/
theorem chebV_add {R : Type*} [CommRing R] (a : R) : ∀ (n d : Nat),
    chebV a (n + d + n) = chebV a (n + d) * chebV a n - chebV a d
  | 0, d => by simp [chebV]; ring
  | 1, d => by
    have : 1 + d + 1 = d + 2 := by omega
    rw [this, Nat.add_comm 1 d]; simp [chebV]; ring
  | n + 2, d => by
    have h1 := chebV_add a (n + 1) (d + 1)
    have h2 := chebV_add a n (d + 2)
    have e1 : n + 2 + d + (n + 2) = (n + (d + 2) + n) + 2 := by omega
    have e2 : n + 1 + (d + 1) + (n + 1) = (n + (d + 2) + n) + 1 := by omega
    have e3 : n + 1 + (d + 1) = n + d + 2 := by omega
    have e4 : n + (d + 2) = n + d + 2 := by omega
    have e5 : n + 2 + d = n + d + 2 := by omega
    have key : chebV a ((n + (d + 2) + n) + 2) =
        a * chebV a ((n + (d + 2) + n) + 1) - chebV a (n + (d + 2) + n) := rfl
    have k2 : chebV a (n + 2) = a * chebV a (n + 1) - chebV a n := rfl
    have k3 : chebV a (d + 2) = a * chebV a (d + 1) - chebV a d := rfl
    rw [e1, key, ← e2, h1, h2, e3, e4, e5, k2, k3]
    ring

theorem chebV_double {R : Type*} [CommRing R] (a : R) (n : Nat) : chebV a (2 * n) = chebV a n * chebV a n - 2 := by
  have := chebV_add a n 0
  simp only [Nat.add_zero] at this
  rw [two_mul, this]; simp [chebV]

theorem chebV_double_add_one {R : Type*} [CommRing R] (a : R) (n : Nat) :
    chebV a (2 * n + 1) = chebV a n * chebV a (n + 1) - a := by
  have := chebV_add a n 1
  have e : 2 * n + 1 = n + 1 + n := by omega
  rw [e, this]; simp [chebV]; ring

theorem chebV_eq_pow {R : Type*} [CommRing R] {x y : R} (hxy : x * y = 1) : ∀ n, chebV (x + y) n = x ^ n + y ^ n
  | 0 => by simp [chebV]; ring
  | 1 => by simp [chebV]
  | n + 2 => by
    rw [chebV, chebV_eq_pow hxy (n + 1), chebV_eq_pow hxy n]
    linear_combination (x ^ n + y ^ n) * hxy

/-- composition `V_n(V_m(a)) = V_{m*n}(a)`: what stage 1 of P+1 accumulates prime power by prime power. -/
theorem chebV_comp {R : Type*} [CommRing R] (a : R) (m : Nat) : ∀ n, chebV (chebV a m) n = chebV a (m * n)
  | 0 => by simp [chebV]
  | 1 => by simp [chebV]
  | n + 2 => by
    rw [chebV, chebV_comp a m (n + 1), chebV_comp a m n]
    have e : m * (n + 2) = m + m * n + m := by ring
    have e2 : m * (n + 1) = m + m * n := by ring
    rw [e, chebV_add a m (m * n), e2]; ring

theorem pp1_step_eq {R : Type*} [CommRing R] {x y : R} (hxy : x * y = 1) {E m i d1 b : Nat}
    (hm1 : x ^ (E * m) = 1) (hm : m = i * d1 + b ∨ m + b = i * d1) :
    chebV (chebV (x + y) E) (i * d1) = chebV (chebV (x + y) E) b := by
  rw [chebV_comp, chebV_comp, chebV_eq_pow hxy, chebV_eq_pow hxy]
  have hy1 : y ^ (E * m) = 1 := by
    have : (x * y) ^ (E * m) = 1 := by rw [hxy, one_pow]
    rw [mul_pow, hm1, one_mul] at this; exact this
  have hinv : ∀ k, x ^ k * y ^ k = 1 := fun k => by rw [← mul_pow, hxy, one_pow]
  rcases hm with hm | hm
  · -- x^(E i d1) * x^(E b) = 1, so x^(E i d1) = y^(E b) and symmetrically
    have hx : x ^ (E * (i * d1)) * x ^ (E * b) = 1 := by rw [← pow_add, ← Nat.mul_add, ← hm]; exact hm1
    have hy : y ^ (E * (i * d1)) * y ^ (E * b) = 1 := by rw [← pow_add, ← Nat.mul_add, ← hm]; exact hy1
    have h1 : x ^ (E * (i * d1)) = y ^ (E * b) := left_inv_eq_right_inv hx (hinv _)
    have h2 : y ^ (E * (i * d1)) = x ^ (E * b) := left_inv_eq_right_inv hy (by rw [mul_comm]; exact hinv _)
    rw [h1, h2]; ring
  · have hx : x ^ (E * (i * d1)) = x ^ (E * b) := by
      rw [← hm, Nat.mul_add, pow_add, hm1, one_mul]
    have hy : y ^ (E * (i * d1)) = y ^ (E * b) := by
      rw [← hm, Nat.mul_add, pow_add, hy1, one_mul]
    rw [hx, hy]

end Ymq.Stage2
