/-
The initial state of the Berlekamp–Massey model (`initSt`, lines 602-627 of intsparse.rs): exact
case analysis on the shape of the sequence, and the loop invariant at the head of the loop.
-/
import Ymq.Lemmas.BerlekampMasseyLoop

namespace Ymq.BM
open Polynomial

variable {p : ℕ}

theorem gd_replicate (n i : ℕ) : gd (List.replicate n 0) i = 0 := by
  unfold gd
  rw [List.getD_eq_getElem?_getD, List.getElem?_replicate]
  split <;> simp

theorem gd_unit (n k i : ℕ) (hk : k < n) :
    gd ((List.replicate n 0).set k 1) i = if i = k then 1 else 0 := by
  rw [getD_set, gd_replicate]
  simp [hk]

theorem gd_take (l : List ℕ) (d j : ℕ) : gd (l.take d) j = if j < d then gd l j else 0 := by
  unfold gd
  rw [List.getD_eq_getElem?_getD, List.getD_eq_getElem?_getD, List.getElem?_take]
  split <;> simp

theorem gd_shift (l : List ℕ) (m d i : ℕ) :
    gd (List.replicate m 0 ++ l.take d) i =
      if i < m then 0 else if i - m < d then gd l (i - m) else 0 := by
  by_cases h : i < m
  · rw [if_pos h]
    unfold gd
    rw [List.getD_eq_getElem?_getD, List.getElem?_append_left (by simpa using h),
      List.getElem?_replicate]
    simp [h]
  · rw [if_neg h, ← gd_take]
    unfold gd
    rw [List.getD_eq_getElem?_getD, List.getD_eq_getElem?_getD,
      List.getElem?_append_right (by simpa using h)]
    simp

theorem toPoly_unit (n k : ℕ) (hk : k < n) :
    toPoly p ((List.replicate n 0).set k 1) = X ^ k := by
  ext i
  rw [coeff_toPoly, coeff_X_pow]
  unfold co
  rw [gd_unit n k i hk]
  split <;> simp


/-- The four shapes of an input sequence (all residues reduced) and what `initSt` does on each:
empty → panic; zero → `return vec![]`; exactly one non-zero term `s_k` → panic when `k = 0`
(`v[n]`), `return vec![]` when `k > 0` ("not supposed to happen"); at least two non-zero terms →
the loop is entered with the invariant. -/
theorem init_cases [Fact p.Prime] (seq : List ℕ) (hr : Red p seq) :
    (seq.length = 0 ∧ initSt seq = none) ∨
    (0 < seq.length ∧ (∀ i, gd seq i = 0) ∧ initSt seq = some none) ∨
    (∃ k, gd seq k ≠ 0 ∧ (∀ i, i ≠ k → gd seq i = 0) ∧
      ((k = 0 ∧ initSt seq = none) ∨ (0 < k ∧ initSt seq = some none))) ∨
    (∃ i j s, i < j ∧ gd seq i ≠ 0 ∧ gd seq j ≠ 0 ∧ initSt seq = some (some s) ∧
      Inv p seq.length (toPoly p seq) s ∧ s.df + s.dg + 2 ≤ 2 * seq.length ∧ 2 ≤ seq.length) := by
  have hp1 : 1 < p := (Fact.out : p.Prime).one_lt
  by_cases hn0 : seq.length = 0
  · left; exact ⟨hn0, by simp [initSt, hn0]⟩
  obtain ⟨df, t1, t2, t3, t4⟩ := lowerDeg_spec seq (seq.length - 1) (by omega)
  have zf : ∀ i, df < i → gd seq i = 0 := fun i hi =>
    if h : i ≤ seq.length - 1 then t3 i hi h else gd_of_le _ _ (by omega)
  have hfdf : seq[df]? = some (gd seq df) := getElem?_of_lt _ _ (by omega)
  by_cases hf0 : gd seq df = 0
  · have hdf0 : df = 0 := t4.resolve_left (not_not.mpr hf0)
    right; left
    refine ⟨by omega, fun i => ?_, ?_⟩
    · by_cases hi : i = 0
      · subst hi; rw [hdf0] at hf0; exact hf0
      · exact zf i (by omega)
    · simp only [initSt]
      rw [if_neg hn0, bind_of_eq_some t1, bind_of_eq_some hfdf, if_pos hf0]
  by_cases hdf0 : df = 0
  · right; right; left
    subst hdf0
    refine ⟨0, hf0, fun i hi => zf i (by omega), Or.inl ⟨rfl, ?_⟩⟩
    simp only [initSt]
    rw [if_neg hn0, bind_of_eq_some t1, bind_of_eq_some hfdf, if_neg hf0, if_pos (Nat.sub_zero _).ge]
  have lg : (List.replicate (seq.length - df) 0 ++ seq.take df).length = seq.length := by
    simp; omega
  obtain ⟨dg, s1, s2, s3, s4⟩ := lowerDeg_spec (List.replicate (seq.length - df) 0 ++ seq.take df)
    (seq.length - 1) (by omega)
  have hgdg : (List.replicate (seq.length - df) 0 ++ seq.take df)[dg]? =
      some (gd (List.replicate (seq.length - df) 0 ++ seq.take df) dg) :=
    getElem?_of_lt _ _ (by omega)
  have hidx : ¬ seq.length ≤ seq.length - df := by omega
  by_cases hg0 : gd (List.replicate (seq.length - df) 0 ++ seq.take df) dg = 0
  · have hdg0 : dg = 0 := s4.resolve_left (not_not.mpr hg0)
    right; right; left
    refine ⟨df, hf0, fun i hi => ?_, Or.inr ⟨by omega, ?_⟩⟩
    · by_cases hid : df < i
      · exact zf i hid
      · have hz : gd (List.replicate (seq.length - df) 0 ++ seq.take df) (i + (seq.length - df)) = 0 := by
          by_cases h0 : i + (seq.length - df) = 0
          · rw [hdg0] at hg0; rw [h0]; exact hg0
          · exact s3 _ (by omega) (by omega)
        rw [gd_shift, if_neg (by omega), if_pos (by omega)] at hz
        rwa [Nat.add_sub_cancel] at hz
    · simp only [initSt]
      rw [if_neg hn0, bind_of_eq_some t1, bind_of_eq_some hfdf, if_neg hf0, if_neg hidx,
        bind_of_eq_some s1, bind_of_eq_some hgdg, if_pos hg0]
  · right; right; right
    have hgs := gd_shift seq (seq.length - df) df dg
    have hdglo : ¬ dg < seq.length - df := by
      intro hc; rw [if_pos hc] at hgs; exact hg0 hgs
    rw [if_neg hdglo] at hgs
    have hdghi : dg - (seq.length - df) < df := by
      by_contra hc; rw [if_neg hc] at hgs; exact hg0 hgs
    rw [if_pos hdghi] at hgs
    have zg : ∀ i, dg < i → gd (List.replicate (seq.length - df) 0 ++ seq.take df) i = 0 :=
      fun i hi => if h : i ≤ seq.length - 1 then s3 i hi h else gd_of_le _ _ (by omega)
    refine ⟨dg - (seq.length - df), df,
      { u := (List.replicate seq.length 0).set 0 1, v := (List.replicate seq.length 0).set (seq.length - df) 1,
        f := seq, g := List.replicate (seq.length - df) 0 ++ seq.take df, du := 0,
        dv := seq.length - df, df := df, dg := dg }, hdghi, by rw [← hgs]; exact hg0, hf0, ?_, ?_,
      by show df + dg + 2 ≤ 2 * seq.length; omega, by omega⟩
    · simp only [initSt]
      rw [if_neg hn0, bind_of_eq_some t1, bind_of_eq_some hfdf, if_neg hf0, if_neg hidx,
        bind_of_eq_some s1, bind_of_eq_some hgdg, if_neg hg0]
    · exact
        { lu := by simp
          lv := by simp
          lf := rfl
          lg := lg
          ru := fun i => by
            show gd ((List.replicate seq.length 0).set 0 1) i < p
            rw [gd_unit _ _ _ (by omega)]; split <;> omega
          rv := fun i => by
            show gd ((List.replicate seq.length 0).set (seq.length - df) 1) i < p
            rw [gd_unit _ _ _ (by omega)]; split <;> omega
          rf := hr
          rg := fun i => by
            show gd (List.replicate (seq.length - df) 0 ++ seq.take df) i < p
            rw [gd_shift]
            split
            · omega
            · split
              · exact hr _
              · omega
          zu := fun i hi => by
            show gd ((List.replicate seq.length 0).set 0 1) i = 0
            rw [gd_unit _ _ _ (by omega), if_neg (by change 0 < i at hi; omega)]
          zv := fun i hi => by
            show gd ((List.replicate seq.length 0).set (seq.length - df) 1) i = 0
            rw [gd_unit _ _ _ (by omega), if_neg (by change seq.length - df < i at hi; omega)]
          zf := zf
          zg := zg
          dfn := by show df < seq.length; omega
          dgn := by show dg < seq.length; omega
          b1 := by show 0 + dg ≤ seq.length; omega
          b2 := by show seq.length - df + df ≤ seq.length; omega
          tf := Or.inl hf0
          tg := Or.inl hg0
          hm := by show seq.length / 2 ≤ df ∨ seq.length / 2 ≤ dg; omega
          gh := by
            refine ⟨0, -C (co p seq df), co p seq df, ?_, ?_, ?_, ?_⟩
            · unfold co; rw [Ne, cast_eq_zero_of_lt (hr df)]; exact hf0
            · show toPoly p seq = 0 * X ^ seq.length + toPoly p ((List.replicate seq.length 0).set 0 1) * toPoly p seq
              rw [toPoly_unit _ _ (by omega)]; ring
            · show toPoly p (List.replicate (seq.length - df) 0 ++ seq.take df) =
                -C (co p seq df) * X ^ seq.length +
                  toPoly p ((List.replicate seq.length 0).set (seq.length - df) 1) * toPoly p seq
              rw [toPoly_unit _ _ (by omega)]
              ext k
              rw [coeff_add, neg_mul, coeff_neg, coeff_C_mul_X_pow, coeff_X_pow_mul', coeff_toPoly,
                coeff_toPoly]
              unfold co
              rw [gd_shift]
              by_cases h1 : k < seq.length - df
              · rw [if_pos h1, if_neg (show ¬ k = seq.length by omega),
                  if_neg (show ¬ seq.length - df ≤ k by omega)]; simp
              · rw [if_neg h1, if_pos (show seq.length - df ≤ k by omega)]
                by_cases h2 : k - (seq.length - df) < df
                · rw [if_pos h2, if_neg (show ¬ k = seq.length by omega)]; simp
                · rw [if_neg h2]
                  by_cases h3 : k = seq.length
                  · rw [if_pos h3]
                    have : k - (seq.length - df) = df := by omega
                    rw [this]; simp
                  · rw [if_neg h3, zf _ (by omega)]; simp
            · show 0 * toPoly p ((List.replicate seq.length 0).set (seq.length - df) 1) -
                -C (co p seq df) * toPoly p ((List.replicate seq.length 0).set 0 1) = C (co p seq df)
              rw [toPoly_unit _ 0 (by omega)]; ring }

end Ymq.BM
