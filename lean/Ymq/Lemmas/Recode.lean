/-
Signed-window recoding, apart from the machine loops that compute it (`make_addition_chain`: window 4, digits
`|x| ≤ 7`; `make_addition_chain_long`: window 7, `|x| ≤ 63`). What a chain denotes, that it is well formed and how long
it is are facts about the sequence of remainders `R ↦ R'` alone: `Step`, the bracket `Br`, the potential `pot`, and the
rule `recode_loop` for a fuel loop whose rounds are `Step`s. Lemmas/Chain.lean and Lemmas/ChainLong.lean are its two uses.
-/
import Ymq.Model.Chain
import Mathlib.Tactic.Ring
import Mathlib.Tactic.Linarith

namespace Ymq.Chain

theorem WF_ne_nil {m c} (h : WF m c) : c ≠ [] := by
  intro h0; subst h0; exact h

theorem evalChain_cons {c : List Int} (op : Int) (h : c ≠ []) :
    evalChain (op :: c) =
      if op % 2 = 0 then 2 ^ (op / 2).toNat * evalChain c else 2 * evalChain c + op := by
  cases c with
  | nil => exact absurd rfl h
  | cons a r => rfl

theorem WF_cons {m : Int} {c : List Int} (op : Int) (h : c ≠ []) :
    WF m (op :: c) ↔ OpOk m op ∧ WF m c := by
  cases c with
  | nil => exact absurd rfl h
  | cons a r => exact Iff.rfl

theorem lt_two_pow_bitLen (n : Nat) : n < 2 ^ bitLen n := by
  unfold bitLen
  by_cases h : n = 0
  · simp [h]
  · simp only [h, if_false]; exact Nat.lt_log2_self

theorem bitLen_le {n k : Nat} (h : n < 2 ^ k) : bitLen n ≤ k := by
  unfold bitLen
  by_cases h0 : n = 0
  · simp [h0]
  · simp only [h0, if_false]
    have := (Nat.log2_lt h0).mpr h
    omega

theorem lt_bitLen {n k : Nat} (h : 2 ^ k ≤ n) : k < bitLen n := by
  have h3 := lt_two_pow_bitLen n
  have : 2 ^ k < 2 ^ bitLen n := lt_of_le_of_lt h h3
  exact (Nat.pow_lt_pow_iff_right (by decide)).mp this

end Ymq.Chain

namespace Ymq.Recode
open Ymq.Chain

/-- `R` has `b` bits, or is `2^b` (a carry out of the top digit). Rounding to the nearest multiple of a power of two keeps
such a bracket (`Step.br`), so along a recoding of `n` the number `b` of bits left is `bitLen n` minus the bits
consumed: this is what bounds the length, and what the long builder's exit test `nbits - bits ≤ 6` reads. -/
def Br (b R : Nat) : Prop := 2 ^ b ≤ 2 * R ∧ R ≤ 2 ^ b

/-- One opcode of a signed-window recoding with window `u`, `h = 2^(u-1)`: `Step u h R op R' sh` says that `op` takes the
remainder `R` to `R'` and consumes `sh` bits. An even opcode `2t` divides by `2^t`; the shift is left open, it only has
to be long (`3u ≤ 2t + 2`) or exhaust the trailing zeros, and cover the `u - 1` zeros an odd step leaves. An odd opcode
`x`, `|x| < h`, is the digit that makes `(R - x) / 2` a multiple of `h` (no remainder modulo `2h` is needed to say so). -/
inductive Step (u h R : Nat) : Int → Nat → Nat → Prop
  | even (t R' : Nat) : 1 ≤ t → t ≤ 63 → R = 2 ^ t * R' → (3 * u ≤ 2 * t + 2 ∨ R' % 2 = 1) →
      (h ∣ R → u ≤ t + 1) → Step u h R (2 * (t : Int)) R' t
  | odd (x : Int) (R' : Nat) : x % 2 = 1 → -(h : Int) < x → x < h → (R : Int) = 2 * (R' : Int) + x → h ∣ R' →
      0 < R' → Step u h R x R' 1

/-- weight of the opcodes owed: an odd remainder an add, a multiple of `h` nothing before its long shift,
any other even one a short shift and an add -/
def wOf (u h R : Nat) : Nat := if R % 2 = 1 then u - 2 else if h ∣ R then 0 else 2 * u - 4

/-- potential of a remainder `R` with `b` bits left: every opcode lowers it by at least `u` (`Step.drop`), an add and the
shift after it consume `u` bits -/
def pot (u h b R : Nat) : Nat := 2 * (b + 1) + wOf u h R

theorem Br.pos {b R : Nat} (h : Br b R) : 0 < R := by
  have := Nat.pow_pos (n := b) (by decide : 0 < 2); have := h.1; omega

theorem bitLen_br {n : Nat} (h0 : 0 < n) : Br (bitLen n) n := by
  unfold bitLen
  have hn : n ≠ 0 := by omega
  simp only [hn, if_false]
  exact ⟨by rw [Nat.pow_succ]; have := Nat.log2_self_le hn; omega, Nat.le_of_lt Nat.lt_log2_self⟩

section
variable {u h R R' sh b : Nat} {op : Int}

theorem Step.val (hs : Step u h R op R' sh) :
    (R : Int) = if op % 2 = 0 then 2 ^ (op / 2).toNat * (R' : Int) else 2 * (R' : Int) + op := by
  cases hs with
  | even t R' _ _ hR _ _ =>
    rw [if_pos (by omega), show (2 * (sh : Int) / 2).toNat = sh by omega, hR]; push_cast; ring
  | odd x R' hx _ _ hR _ _ => rw [if_neg (by omega)]; exact hR

theorem Step.opOk (hs : Step u h R op R' sh) : OpOk ((h : Int) - 1) op := by
  cases hs with
  | even t R' h1 h2 _ _ _ => exact Or.inr ⟨by omega, by omega, by omega⟩
  | odd x R' hx h1 h2 _ _ _ => exact Or.inl ⟨hx, by omega, by omega⟩

theorem Step.br (hu : 2 ≤ u) (hh : h = 2 ^ (u - 1)) (hs : Step u h R op R' sh) (hb : Br b R) :
    sh ≤ b ∧ Br (b - sh) R' := by
  obtain ⟨hlo, hhi⟩ := hb
  cases hs with
  | even t R' h1 _ hR _ _ =>
    have hpos : 0 < R' := by
      rcases Nat.eq_zero_or_pos R' with h0 | h0
      · subst h0; have := Nat.pow_pos (n := b) (by decide : 0 < 2); omega
      · exact h0
    have htb : sh ≤ b := by
      have : 2 ^ sh ≤ 2 ^ b := (Nat.le_mul_of_pos_right _ hpos).trans (hR ▸ hhi)
      exact (Nat.pow_le_pow_iff_right (by decide)).mp this
    have e : 2 ^ b = 2 ^ sh * 2 ^ (b - sh) := by rw [← Nat.pow_add]; congr 1; omega
    have p : 0 < 2 ^ sh := Nat.pow_pos (by decide)
    rw [e, hR] at hlo hhi
    exact ⟨htb, Nat.le_of_mul_le_mul_left (by rw [Nat.mul_left_comm] at hlo; exact hlo) p,
      Nat.le_of_mul_le_mul_left hhi p⟩
  | odd x R' hx h1 h2 hR hd hpos =>
    obtain ⟨a, rfl⟩ := hd
    have ha : h * 1 ≤ h * a := Nat.mul_le_mul_left h (Nat.pos_of_mul_pos_left hpos)
    have hRlo : 2 * (h * a) < R + h := by omega
    have hRhi : R < 2 * (h * a) + h := by omega
    -- `h < R ≤ 2^b`, so `2^(b-1) = h K`; `R' = h a` lies within `h / 2` of `R / 2`, so `K ≤ 2 a` and `a ≤ K`
    have hub : u ≤ b := by
      by_contra hc
      have : 2 ^ b ≤ 2 ^ (u - 1) := Nat.pow_le_pow_right (by decide) (by omega)
      omega
    obtain ⟨K, hK⟩ : ∃ K, 2 ^ (b - 1) = h * K := ⟨2 ^ (b - u), by rw [hh, ← Nat.pow_add]; congr 1; omega⟩
    have hb2 : 2 ^ b = 2 * 2 ^ (b - 1) := by rw [← Nat.pow_succ']; congr 1; omega
    have k1 : h * K < h * (2 * a + 1) := by rw [Nat.mul_add, Nat.mul_one, ← hK, Nat.mul_left_comm]; omega
    have k2 : h * (2 * a) < h * (2 * K + 1) := by
      rw [Nat.mul_add, Nat.mul_one, Nat.mul_left_comm, Nat.mul_left_comm h 2 K, ← hK]; omega
    have k1' := Nat.lt_of_mul_lt_mul_left k1
    have k2' := Nat.lt_of_mul_lt_mul_left k2
    refine ⟨by omega, ?_, ?_⟩
    · rw [hK, ← Nat.mul_assoc, Nat.mul_comm 2 h, Nat.mul_assoc]; exact Nat.mul_le_mul_left h (by omega)
    · rw [hK]; exact Nat.mul_le_mul_left h (by omega)

theorem wOf_le (hu : 2 ≤ u) : wOf u h R ≤ 2 * u - 4 := by unfold wOf; split_ifs <;> omega

theorem Step.drop (hu : 2 ≤ u) (hh : h = 2 ^ (u - 1)) (hs : Step u h R op R' sh) (hsb : sh ≤ b) :
    pot u h (b - sh) R' + u ≤ pot u h b R := by
  unfold pot
  cases hs with
  | even t R' h1 _ hR hta htb =>
    have hw := wOf_le (h := h) (R := R') hu
    rcases hta with h3 | hodd
    · omega
    · have hRe : ¬ (R % 2 = 1) := by
        have : 2 ∣ R := hR ▸ Dvd.dvd.mul_right (dvd_pow_self 2 (by omega)) R'
        omega
      have hw' : wOf u h R' = u - 2 := by unfold wOf; simp [hodd]
      rw [hw']; unfold wOf; rw [if_neg hRe]
      split_ifs with hd
      · have := htb hd; omega
      · omega
  | odd x R' hx _ _ hR hd _ =>
    have h2 : 2 ∣ h := hh ▸ dvd_pow_self 2 (by omega)
    have hRe : ¬ (R' % 2 = 1) := by have := h2.trans hd; omega
    have hRo : R % 2 = 1 := by omega
    unfold wOf; rw [if_neg hRe, if_pos hd, if_pos hRo]; omega

theorem pot_ge (hu : 2 ≤ u) (hh : h = 2 ^ (u - 1)) (hb : Br b R) : u ≤ pot u h b R := by
  unfold pot wOf
  split_ifs with h1 h2
  · omega
  · have : 2 ^ (u - 1) ≤ 2 ^ b := hh ▸ (Nat.le_of_dvd hb.pos h2).trans hb.2
    have := (Nat.pow_le_pow_iff_right (by decide)).mp this
    omega
  · omega

end

/-- The rule for a fuel loop that writes one opcode per round (`idx` = opcodes written, `val` = what is left to
encode, `I b` = what else the loop keeps when `b` bits are left): if every round ends with the last digit or makes a
`Step`, the loop returns a well-formed chain denoting `val s`, one opcode per `u` units of potential. Fuel and buffer
are enough as soon as they cover the potential. -/
theorem recode_loop {σ : Type} {u h cap : Nat} (hu : 2 ≤ u) (hh : h = 2 ^ (u - 1))
    (loop : Nat → σ → Option (List Int)) (I : Nat → σ → Prop) (val idx : σ → Nat)
    (hstep : ∀ f s b, I b s → Br b (val s) → idx s < cap →
      (∃ x : Nat, loop (f + 1) s = some [(x : Int)] ∧ x % 2 = 1 ∧ x < h ∧ val s = x) ∨
      (∃ op s' sh, loop (f + 1) s = (loop f s').bind (fun c => some (op :: c)) ∧
        Step u h (val s) op (val s') sh ∧ I (b - sh) s' ∧ idx s' = idx s + 1)) :
    ∀ f s b, I b s → Br b (val s) → pot u h b (val s) < u * f →
      pot u h b (val s) + u * idx s < u * (cap + 1) →
      ∃ c, loop f s = some c ∧ evalChain c = (val s : Int) ∧ WF ((h : Int) - 1) c ∧
        u * c.length ≤ pot u h b (val s) := by
  intro f
  induction f with
  | zero => intro s b _ _ h; omega
  | succ f ih =>
    intro s b hI hb hf hc
    have hge := pot_ge hu hh hb
    rw [Nat.mul_succ] at hf hc
    have hidx : idx s < cap := by
      by_contra hn
      have : u * cap ≤ u * idx s := Nat.mul_le_mul_left u (by omega)
      omega
    rcases hstep f s b hI hb hidx with ⟨x, hl, hx1, hx2, hv⟩ | ⟨op, s', sh, hl, hs, hI', hi'⟩
    · refine ⟨_, hl, ?_, ⟨by omega, by omega, by omega⟩, by simpa using hge⟩
      rw [hv]; unfold evalChain; omega
    · obtain ⟨hsb, hb'⟩ := hs.br hu hh hb
      have hd := hs.drop hu hh hsb
      obtain ⟨c, hc1, hc2, hc3, hc4⟩ := ih s' (b - sh) hI' hb' (by omega)
        (by rw [hi', Nat.mul_succ, Nat.mul_succ]; omega)
      have hne := WF_ne_nil hc3
      refine ⟨op :: c, by rw [hl, hc1]; rfl, ?_, (WF_cons op hne).mpr ⟨hs.opOk, hc3⟩,
        by rw [List.length_cons, Nat.mul_succ]; omega⟩
      rw [evalChain_cons _ hne, hc2]; exact hs.val.symm

end Ymq.Recode
