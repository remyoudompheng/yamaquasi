/- `reduce64`: the FIRST row `(a, b)` of the returned matrix is below `2^34` in absolute value.
Reason: it is the second row of the state before the last continuing iteration, which passed the
matrix-size test `bits(q+1) + bits(max |c| |d|) <= 36` with `q + 1 >= 2`. -/
import Ymq.Lemmas.GcdReduceInv

namespace Ymq.Gcd

/-- loop invariant: the first row is below `2^34`; so is the second while the loop has not made its
first regular step (`u < v`: the next iteration swaps the rows) -/
def Row1 (a b c d : Int) (u v : Nat) : Prop :=
  |a| < 2 ^ 34 ∧ |b| < 2 ^ 34 ∧ (u < v → |c| < 2 ^ 34 ∧ |d| < 2 ^ 34)

theorem Row1_cont {x y : Nat} {a b c d : Int} {u v : Nat} {a' b' c' d' : Int} {u' v' : Nat}
    (hinv : RInv x y a b c d u v) (hJ : Row1 a b c d u v) (hu : u < W) (hv24 : 2 ^ 24 ≤ v)
    (hst : reduce64Body x y a b c d u v = some (.cont a' b' c' d' u' v')) : Row1 a' b' c' d' u' v' := by
  rcases reduce64Body_cont hinv hu hv24 hst with
    ⟨huv, e1, e2, e3, e4, e5, e6, _⟩ | ⟨hvu, e1, e2, e5, _, _, hnb, _, _, nq, _⟩
  · rw [e1, e2, e3, e4, e5, e6]
    obtain ⟨hc', hd'⟩ := hJ.2.2 huv
    exact ⟨hc', hd', fun hlt' => by omega⟩
  · rw [e1, e2, e5]
    obtain ⟨_, _, _, hc', hd', _, hm⟩ := hinv.step_facts hv24 hvu hnb
    refine ⟨lt_of_le_of_lt hc' hm, lt_of_le_of_lt hd' hm, fun hlt' => ?_⟩
    have := nq.half
    omega

end Ymq.Gcd
