/- No panic: the non-extended loop on all of `BUint<N>`; the extended loop for every sufficiently large
width of the cofactors: which way an iteration goes and what it returns do not depend on the width, a run meets
finitely many integers, and every width that holds them all will do. -/
import Ymq.Lemmas.GcdTerm

namespace Ymq.Gcd

theorem gcdStep_noext_total {N K : Nat} {s0 : St} (hx : s0.x < M N) (hy : s0.y < M N) :
    ∃ st, gcdStep N K false s0 = some st := by
  obtain ⟨hxM, _⟩ := (swapSt_facts s0).2.2 (M N) hx hy
  obtain ⟨hyx, ⟨_, e⟩ | ⟨_, _, e⟩ | ⟨_, _, _, e⟩ | ⟨_, _, ⟨hge, _⟩ | ⟨_, e | ⟨xt, yt, xl, yl, T, e⟩⟩⟩⟩ :=
    gcdStep_cases (N := N) (ext := false) (s0 := s0) rfl
  · exact ⟨_, e K⟩
  · exact ⟨_, e K⟩
  · exact ⟨_, e K⟩
  · omega
  · rw [e K]; simp [fallbackStep]
  · obtain ⟨a, b, c, d, _, _, r1, r2, n1, n2, hr, _, h1, h2, _⟩ := lehmer_xy T
    rw [e K]; simp [lehmerStep, hr, h1, h2]

theorem gcdInternal_noext_total {N : Nat} {n p : Nat} (hn : n < M N) (hp : p < M N) :
    ∃ r, gcdInternal N false n p = some r := by
  obtain ⟨d, u, v, hr, _⟩ := gcdLoop_gcdFuel_total (N := N) (K := N) (ext := false)
    (fun s => s.x < M N ∧ s.y < M N) (fun _ _ _ => True)
    (fun s h => by
      obtain ⟨st, hst⟩ := gcdStep_noext_total (K := N) h.1 h.2
      exact ⟨st, hst, fun s' hs => (gcdStep_measure (hs ▸ hst)).2, fun _ _ _ _ => trivial⟩)
    hn hp ⟨hn, hp⟩
  exact ⟨_, hr⟩

theorem chkB_of_abs {K : Nat} {z L : Int} (hL : L ≤ ((M K / 2 : Nat) : Int)) (h : |z| < L) :
    chkB K z = some z := by
  have := abs_lt.1 h
  exact chkB_of_range (by omega) (by omega)

theorem subMul_of_abs {K : Nat} {A q C L : Int} (hL : L ≤ ((M K / 2 : Nat) : Int))
    (h1 : |q * C| < L) (h2 : |A - q * C| < L) : subMul K A q C = some (A - q * C) := by
  unfold subMul; rw [chkB_of_abs hL h1]; exact chkB_of_abs hL h2

theorem mulSub_of_abs {K : Nat} {A q C L : Int} (hL : L ≤ ((M K / 2 : Nat) : Int))
    (h1 : |q * C| < L) (h2 : |q * C - A| < L) : mulSub K q C A = some (q * C - A) := by
  unfold mulSub; rw [chkB_of_abs hL h1]; exact chkB_of_abs hL h2

theorem qrow_of_abs {K : Nat} {e k C A L : Int} (he : e = 1 ∨ e = -1) (hL : L ≤ ((M K / 2 : Nat) : Int))
    (h1 : |k * C| < L) (h2 : |k * C - A| < L) : qrow K e k C A = some (e * (k * C - A)) := by
  unfold qrow
  rcases he with rfl | rfl
  · rw [if_pos rfl, one_mul]; exact mulSub_of_abs hL h1 h2
  · rw [if_neg (by decide), neg_one_mul, neg_sub]; exact subMul_of_abs hL h1 (by rwa [abs_sub_comm])

theorem lin2_of_abs {K : Nat} {p A q C L : Int} (hL : L ≤ ((M K / 2 : Nat) : Int))
    (h1 : |p * A| < L) (h2 : |q * C| < L) (h3 : |p * A + q * C| < L) :
    lin2 K p A q C = some (p * A + q * C) := by
  unfold lin2; rw [chkB_of_abs hL h1, chkB_of_abs hL h2]; exact chkB_of_abs hL h3

/-- holds for every sufficiently large cofactor width. The extended loop returns for SOME width as soon as each
of its finitely many `BInt` range checks passes for every large width: no bound on the cofactors is needed. -/
def Ev (P : Nat → Prop) : Prop := ∃ K0, ∀ K, K0 ≤ K → P K

theorem Ev.and {P Q : Nat → Prop} (hp : Ev P) (hq : Ev Q) : Ev fun K => P K ∧ Q K := by
  obtain ⟨K1, h1⟩ := hp
  obtain ⟨K2, h2⟩ := hq
  exact ⟨max K1 K2, fun K hK =>
    ⟨h1 K (le_trans (le_max_left _ _) hK), h2 K (le_trans (le_max_right _ _) hK)⟩⟩

theorem Ev.mono {P Q : Nat → Prop} (hp : Ev P) (h : ∀ K, P K → Q K) : Ev Q :=
  let ⟨K0, h0⟩ := hp
  ⟨K0, fun K hK => h K (h0 K hK)⟩

theorem Ev.of_all {P : Nat → Prop} (h : ∀ K, P K) : Ev P := ⟨0, fun K _ => h K⟩

theorem chkB_ev (z : Int) : Ev fun K => chkB K z = some z := by
  refine ⟨z.natAbs + 1, fun K hK => chkB_of_range ?_ ?_⟩ <;>
  · have h1 : z.natAbs < 2 ^ z.natAbs := Nat.lt_two_pow_self
    have h2 : 2 ^ z.natAbs ≤ 2 ^ (64 * K - 1) := Nat.pow_le_pow_right (by decide) (by omega)
    have e : M K / 2 = 2 ^ (64 * K - 1) := by
      unfold M
      rw [show 64 * K = (64 * K - 1) + 1 by omega, Nat.pow_succ, Nat.mul_div_cancel _ (by decide),
        Nat.add_sub_cancel]
    rw [e]; omega

theorem lin2_ev (p A q C : Int) : Ev fun K => lin2 K p A q C = some (p * A + q * C) :=
  ((chkB_ev (p * A)).and ((chkB_ev (q * C)).and (chkB_ev (p * A + q * C)))).mono
    fun K ⟨h1, h2, h3⟩ => by unfold lin2; rw [h1, h2]; exact h3

theorem subMul_ev (A q C : Int) : Ev fun K => subMul K A q C = some (A - q * C) :=
  ((chkB_ev (q * C)).and (chkB_ev (A - q * C))).mono fun K ⟨h1, h2⟩ => by unfold subMul; rw [h1]; exact h2

theorem mulSub_ev (A q C : Int) : Ev fun K => mulSub K q C A = some (q * C - A) :=
  ((chkB_ev (q * C)).and (chkB_ev (q * C - A))).mono fun K ⟨h1, h2⟩ => by unfold mulSub; rw [h1]; exact h2

theorem negIf_ev (neg : Bool) (z : Int) :
    Ev fun K => (if neg = true then chkB K (-z) else some z) = some (if neg then -z else z) := by
  cases neg
  · exact Ev.of_all fun K => by simp
  · exact (chkB_ev (-z)).mono fun K h => by simpa using h

theorem fallbackStep_ev {N : Nat} {s : St} (hy : 0 < s.y) (hxM : s.x < M N) :
    ∃ s', Ev fun K => fallbackStep N K true s = some s' := by
  by_cases hbr : s.x % s.y * 2 % M N > s.y
  · exact ⟨_, ((chkB_ev (castB N (s.x / s.y) + 1)).and ((mulSub_ev s.A (castB N (s.x / s.y) + 1) s.C).and
        (mulSub_ev s.B (castB N (s.x / s.y) + 1) s.D))).mono
      fun K ⟨h0, h1, h2⟩ => by rw [fallbackStep_ext_eq hy hxM, if_pos hbr, h0]; simp only [h1, h2]; rfl⟩
  · exact ⟨_, ((subMul_ev s.A (castB N (s.x / s.y)) s.C).and (subMul_ev s.B (castB N (s.x / s.y)) s.D)).mono
      fun K ⟨h1, h2⟩ => by rw [fallbackStep_ext_eq hy hxM, if_neg hbr]; simp only [h1, h2]; rfl⟩

theorem lehmerStep_ev {N : Nat} {s : St} {xt yt xl yl : Nat} (T : Tops N s xt yt xl yl) :
    ∃ s', Ev fun K => lehmerStep N K true s (bits s.x) xt yt = some s' := by
  obtain ⟨a, b, c, d, _, _, r1, r2, n1, n2, hr, _, h1, h2, _⟩ := lehmer_xy T
  refine ⟨⟨if n1 then -(a * s.A + b * s.C) else a * s.A + b * s.C,
      if n1 then -(a * s.B + b * s.D) else a * s.B + b * s.D,
      if n2 then -(c * s.A + d * s.C) else c * s.A + d * s.C,
      if n2 then -(c * s.B + d * s.D) else c * s.B + d * s.D, r1, r2⟩,
    ((((lin2_ev a s.A b s.C).and (lin2_ev a s.B b s.D)).and
      ((lin2_ev c s.A d s.C).and (lin2_ev c s.B d s.D))).and
    (((negIf_ev n1 (a * s.A + b * s.C)).and (negIf_ev n1 (a * s.B + b * s.D))).and
      ((negIf_ev n2 (c * s.A + d * s.C)).and (negIf_ev n2 (c * s.B + d * s.D))))).mono
    fun K ⟨⟨⟨l1, l2⟩, l3, l4⟩, ⟨g1, g2⟩, g3, g4⟩ => ?_⟩
  unfold lehmerStep
  simp only [hr, h1, h2, if_true, l1, l2, l3, l4, g1, g2, g3, g4]

theorem smallExit_ev {s : St} (hy0 : s.y ≠ 0) (hyx : s.y ≤ s.x) (hxs : s.x < 9223372036854775808) :
    ∃ st, Ev fun K => smallExit K true s = some st := by
  obtain ⟨g, ex, ey, he, _⟩ := egcdI64_total hxs (Nat.pos_of_ne_zero hy0) hyx
  exact ⟨_, ((lin2_ev ex s.A ey s.C).and (lin2_ev ex s.B ey s.D)).mono
    fun K ⟨l1, l2⟩ => smallExit_ext_eq he l1 l2⟩

theorem gcdStep_ev {N : Nat} {s0 : St} (hx : s0.x < M N) (hy : s0.y < M N) :
    ∃ st, Ev fun K => gcdStep N K true s0 = some st := by
  obtain ⟨hxM', _⟩ := (swapSt_facts s0).2.2 (M N) hx hy
  obtain ⟨hyx, ⟨_, e⟩ | ⟨_, _, e⟩ | ⟨_, hy0, hxs, e⟩ | ⟨_, hy0, ⟨hge, _⟩ | ⟨hxM, e | ⟨xt, yt, xl, yl, T, e⟩⟩⟩⟩ :=
    gcdStep_cases (N := N) (ext := true) (s0 := s0) rfl
  · exact ⟨_, Ev.of_all e⟩
  · exact ⟨_, Ev.of_all e⟩
  · obtain ⟨st, h⟩ := smallExit_ev hy0 hyx hxs
    exact ⟨st, h.mono fun K h => (e K).trans h⟩
  · omega
  · obtain ⟨s', h⟩ := fallbackStep_ev (Nat.pos_of_ne_zero hy0) hxM
    exact ⟨_, h.mono fun K h => by rw [e K, h]; rfl⟩
  · obtain ⟨s', h⟩ := lehmerStep_ev T
    exact ⟨_, h.mono fun K h => by rw [e K, h]; rfl⟩

theorem gcdLoop_ev {N : Nat} : ∀ (f : Nat) (s : St), s.x * s.y * 3 ^ f < 4 ^ f → s.x < M N → s.y < M N →
    ∃ r, Ev fun K => gcdLoop N K true (f + 1) s = some r :=
  gcdLoop_induct fun f s ih hx hy => by
    obtain ⟨st, hst⟩ := gcdStep_ev hx hy
    cases st with
    | ret d u v => exact ⟨_, hst.mono fun K h => by rw [gcdLoop, h]⟩
    | next s' =>
      obtain ⟨K0, h0⟩ := hst
      obtain ⟨f', rfl, h⟩ := ih K0 true s' (h0 K0 le_rfl)
      obtain ⟨_, m2, m3⟩ := gcdStep_measure (h0 K0 le_rfl)
      obtain ⟨r, hr⟩ := h m2 m3
      exact ⟨r, (Ev.and ⟨K0, h0⟩ hr).mono fun K ⟨h1, h2⟩ => by rw [gcdLoop, h1]; exact h2⟩

/-- for every pair of `BUint<N>` operands there is a cofactor width for which the extended loop
returns: no panic site other than the `BInt` range checks is reachable -/
theorem gcdLoop_ext_exists {N : Nat} {n p : Nat} (hn : n < M N) (hp : p < M N) :
    ∃ K r, gcdLoop N K true (gcdFuel N) (initSt n p) = some r := by
  obtain ⟨r, K0, h⟩ := gcdLoop_ev (N := N) _ (initSt n p) (fuel_arith n p) hn hp
  exact ⟨K0, r, by rw [gcdLoop_fuel _ (gcdFuel_ge hn hp)]; exact h K0 le_rfl⟩

end Ymq.Gcd
