/-
`exp_modn_large(g, e) = g^e` for every exponent below 2^1024 (C16): 6-bit windows from the top.
Model: Ymq/Model/ExpModn.lean.  Relational like `expModn_rel` (Lemmas/Stage2Exp.lean).
-/
import Ymq.Lemmas.Stage2Exp

namespace Ymq.ExpModn

/-- trailing zeros of a non-zero 6-bit block: `b = (2j+1) * 2^tz` with `j = b >> (tz+1) < 32` -/
theorem tz6_spec : ∀ b, b < 64 → 0 < b →
    tz6 6 b ≤ 5 ∧ b = (2 * (b / 2 ^ (tz6 6 b + 1)) + 1) * 2 ^ tz6 6 b ∧ b / 2 ^ (tz6 6 b + 1) < 32 := by
  decide

section
variable {α M : Type*} [CommMonoid M] {mul : α → α → α} {R : α → M → Prop} (hR : Hom mul R)
include hR

theorem sqN_rel : ∀ (n : Nat) {x : α} {ξ : M}, R x ξ → R (sqN mul n x) (ξ ^ (2 ^ n))
  | 0, _, _, h => by simpa [sqN] using h
  | n + 1, _, _, h => by
    rw [sqN, pow_succ, Nat.mul_comm, pow_mul, pow_two]
    exact sqN_rel n (hR.mul h h)

theorem smallPows_rel {g2 : α} {γ2 : M} (h2 : R g2 γ2) : ∀ (n : Nat) {gk : α} {κ : M}, R gk κ → ∀ j, j < n →
    ∃ s, (smallPows mul g2 n gk)[j]? = some s ∧ R s (κ * γ2 ^ j)
  | 0, _, _, _, _, h => by omega
  | n + 1, gk, _, hk, 0, _ => ⟨gk, by simp [smallPows], by simpa using hk⟩
  | n + 1, _, _, hk, j + 1, h => by
    obtain ⟨s, hs, hr⟩ := smallPows_rel h2 n (hR.mul hk h2) j (by omega)
    exact ⟨s, by rw [smallPows, List.getElem?_cons_succ, hs], by rwa [pow_succ', ← mul_assoc]⟩

/-- the table entry for a non-zero 6-bit block `blk = (2j+1)·2^tz`, squared `tz` times, is `g^blk`; one window of the loop:
`(gk^(2^(6-tz)) * g^(2j+1))^(2^tz) = gk^64 * g^blk` -/
theorem window6_rel {g : α} {γ : M} (hg : R g γ) {blk : Nat} (hb : blk < 64) (hb0 : 0 < blk) :
    ∃ s, (smallPows mul (mul g g) 32 g)[blk / 2 ^ (tz6 6 blk + 1)]? = some s ∧ R (sqN mul (tz6 6 blk) s) (γ ^ blk) ∧
      ∀ {gk : α} {κ : M}, R gk κ → R (sqN mul (tz6 6 blk) (mul (sqN mul (6 - tz6 6 blk) gk) s)) (κ ^ 64 * γ ^ blk) := by
  obtain ⟨h1, h2, h3⟩ := tz6_spec blk hb hb0
  obtain ⟨s, hs, hr⟩ := smallPows_rel hR (hR.mul hg hg) 32 hg _ h3
  set j := blk / 2 ^ (tz6 6 blk + 1) with hj
  set t := tz6 6 blk with ht
  have e1 : γ * (γ * γ) ^ j = γ ^ (2 * j + 1) := by
    rw [← pow_two, ← pow_mul, pow_succ, mul_comm]
  rw [e1] at hr
  refine ⟨s, hs, ?_, fun {gk κ} hk => ?_⟩
  · have := sqN_rel hR t hr
    rwa [← pow_mul, ← h2] at this
  · have := sqN_rel hR t (hR.mul (sqN_rel hR (6 - t) hk) hr)
    rwa [mul_pow, ← pow_mul, ← pow_mul, ← pow_add 2, show 6 - t + t = 6 from by omega, ← h2] at this

theorem largeLoop_rel {g : α} {γ : M} (hg : R g γ) (exp : Nat) : ∀ (rem : Nat) {gk : α} {κ : M} (fuel : Nat), R gk κ → rem < fuel →
    ∃ r, largeLoop mul g (smallPows mul (mul g g) 32 g) exp fuel rem gk = some r ∧ R r (κ ^ (2 ^ rem) * γ ^ (exp % 2 ^ rem)) := by
  intro rem
  induction rem using Nat.strong_induction_on with
  | _ rem ih =>
    intro gk κ fuel hk hf
    obtain ⟨f, rfl⟩ : ∃ f, fuel = f + 1 := ⟨fuel - 1, by omega⟩
    rw [largeLoop]
    by_cases h0 : rem = 0
    · subst h0; exact ⟨gk, by simp, by simpa [Nat.mod_one] using hk⟩
    · rw [if_neg h0]
      obtain ⟨r, rfl⟩ : ∃ r, rem = r + 1 := ⟨rem - 1, by omega⟩
      have hstep := ladder_step κ γ exp r 1
      rw [pow_one] at hstep
      simp only [Nat.add_sub_cancel]
      by_cases hbit : exp / 2 ^ r % 2 = 0
      · rw [if_pos hbit]
        obtain ⟨o, ho, hr⟩ := ih r (by omega) f (hR.mul hk hk) (by omega)
        exact ⟨o, ho, by rwa [← hstep, hbit, pow_zero, mul_one, pow_two]⟩
      · rw [if_neg hbit]
        have hbit1 : exp / 2 ^ r % 2 = 1 := by omega
        by_cases h6 : r + 1 ≥ 6
        · rw [if_pos h6]
          obtain ⟨a, ha⟩ : ∃ a, r + 1 = a + 6 := ⟨r + 1 - 6, by omega⟩
          have hra : r + 1 - 6 = a := by omega
          have hblk : expBlock exp a < 64 := Nat.mod_lt _ (by decide)
          have hblk0 : 0 < expBlock exp a := by
            -- bit r of exp is bit 5 of the block
            unfold expBlock
            have : r = a + 5 := by omega
            rw [this, pow_add, ← Nat.div_div_eq_div_mul] at hbit1
            have := Nat.div_add_mod (exp / 2 ^ a) 64
            omega
          rw [hra]
          obtain ⟨s, hs, -, hw⟩ := window6_rel hR hg hblk hblk0
          obtain ⟨o, ho, hr⟩ := ih a (by omega) f (hw hk) (by omega)
          simp only [hs]
          exact ⟨o, ho, by rw [ha, ← ladder_step κ γ exp a 6]; exact hr⟩
        · rw [if_neg h6]
          obtain ⟨o, ho, hr⟩ := ih r (by omega) f (hR.mul (hR.mul hk hk) hg) (by omega)
          exact ⟨o, ho, by rwa [← hstep, hbit1, pow_one, pow_two]⟩

theorem expModnLarge_rel {one g : α} {γ : M} (h1 : R one 1) (hg : R g γ) (e : Nat) (h1024 : e < 2 ^ 1024) :
    ∃ r, expModnLarge mul one g e = some r ∧ R r (γ ^ e) := by
  unfold expModnLarge
  by_cases he : e = 0
  · subst he; exact ⟨one, by simp [bitlen], by simpa using h1⟩
  · obtain ⟨hlo, hhi, hb⟩ := bitlen_bounds he
    set bl := bitlen e with hbl
    simp only
    rw [if_neg (by omega)]
    by_cases hb1 : bl = 1
    · rw [if_pos hb1]
      rw [hb1] at hlo hhi
      have : e = 1 := by simp at hlo hhi; omega
      exact ⟨g, rfl, by rwa [this, pow_one]⟩
    · rw [if_neg hb1]
      by_cases hb64 : bl ≤ 64
      · rw [if_pos hb64]
        have hlt : e < 2 ^ 64 := lt_of_lt_of_le hhi (Nat.pow_le_pow_right (by decide) hb64)
        rw [Nat.mod_eq_of_lt hlt]
        exact expModn_rel hR h1 hg e hlt
      · rw [if_neg hb64]
        obtain ⟨a, ha⟩ : ∃ a, bl = a + 6 := ⟨bl - 6, by omega⟩
        have hra : bl - 6 = a := by omega
        have hbl1024 : bl - 1 < 1024 := (Nat.pow_lt_pow_iff_right (by decide : 1 < 2)).mp (lt_of_le_of_lt hlo h1024)
        have hdivlt : e / 2 ^ a < 64 := by
          rw [Nat.div_lt_iff_lt_mul (by positivity), Nat.mul_comm]
          rw [ha, pow_add] at hhi
          exact hhi
        have hblk : expBlock e a = e / 2 ^ a := Nat.mod_eq_of_lt hdivlt
        have hblk0 : 0 < e / 2 ^ a :=
          Nat.div_pos (le_trans (Nat.pow_le_pow_right (by decide) (by omega)) hlo) (by positivity)
        rw [hra, hblk]
        obtain ⟨s, hs, hw, -⟩ := window6_rel hR hg hdivlt hblk0
        obtain ⟨o, ho, hr⟩ := largeLoop_rel hR hg e a 1025 hw (by omega)
        simp only [hs]
        exact ⟨o, ho, by rwa [← pow_mul, ← pow_add, Nat.div_add_mod'] at hr⟩

end
end Ymq.ExpModn
