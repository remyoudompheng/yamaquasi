/-
`Poly::_basic_mul` and `Poly::karatsuba` (Ymq/Model/PolyMul.lean, property C10), through a map `φ` from the coefficient
operations into a commutative ring (`Hom`). The first section is what all the arith_poly lemma files rest on: a list of
residues as a polynomial (`poly`), `Below f m` (no coefficient from `m` on), `Agree n A B` (congruence modulo `x^n`) and
the head rule for `(a + x·L)·B`.
-/
import Ymq.Model.PolyMul
import Mathlib.Algebra.Polynomial.Coeff
import Mathlib.Data.List.GetD
import Mathlib.Algebra.Polynomial.Degree.Operations
import Mathlib.Tactic.Ring
import Mathlib.Tactic.Linarith

namespace Ymq.PolyMul
open Polynomial Finset

variable {α : Type} {R : Type} [CommRing R]

/-- `φ` maps the coefficient operations `o` (`ZmodN` on `MInt`s) to the operations of a commutative ring: all that the
routines without a branch on `==` and without `zn.inv` need. Instances: `natOps_hom`, `montOps_homC`, `montFin_homC`. -/
structure Hom (o : Ops α) (φ : α → R) : Prop where
  zero : φ o.zero = 0
  one : φ o.one = 1
  add : ∀ a b, φ (o.add a b) = φ a + φ b
  sub : ∀ a b, φ (o.sub a b) = φ a - φ b
  mul : ∀ a b, φ (o.mul a b) = φ a * φ b

theorem getD_set {β : Type} (l : List β) (i k : Nat) (a d : β) (hi : i < l.length) :
    (l.set i a).getD k d = if k = i then a else l.getD k d := by
  rw [List.getD_eq_getElem?_getD, List.getD_eq_getElem?_getD, List.getElem?_set]
  by_cases h : i = k
  · subst h; simp [hi]
  · rw [if_neg h, if_neg (Ne.symm h)]

theorem getD_take {β : Type} (l : List β) (m i : Nat) (d : β) (hi : i < m) : (l.take m).getD i d = l.getD i d := by
  rw [List.getD_eq_getElem?_getD, List.getD_eq_getElem?_getD, List.getElem?_take_of_lt hi]

theorem getD_drop {β : Type} (l : List β) (m i : Nat) (d : β) : (l.drop m).getD i d = l.getD (m + i) d := by
  rw [List.getD_eq_getElem?_getD, List.getD_eq_getElem?_getD, List.getElem?_drop]

theorem getD_zipWith {β : Type} (f : β → β → β) (a b : List β) (i : Nat) (d : β) (ha : i < a.length)
    (hb : i < b.length) : (List.zipWith f a b).getD i d = f (a.getD i d) (b.getD i d) := by
  simp [List.getD_eq_getElem?_getD, List.getElem?_zipWith, List.getElem?_eq_getElem ha,
    List.getElem?_eq_getElem hb]

theorem getD_range_map {β : Type} (g : Nat → β) (n i : Nat) (d : β) (hi : i < n) :
    ((List.range n).map g).getD i d = g i := by
  rw [List.getD_eq_getElem?_getD, List.getElem?_map, List.getElem?_range hi]; rfl

theorem getD_take_cons_zero (x d : α) (l : List α) (u : Nat) (hu : 1 ≤ u) :
    ((x :: l).take u).getD 0 d = x := by
  rw [getD_take _ _ _ _ hu, List.getD_cons_zero]

/-- a list of `m + k` entries is a list of `m` followed by a list of `k` -/
theorem exists_append {β : Type} (l : List β) (m k : Nat) (h : l.length = m + k) :
    ∃ x y, l = x ++ y ∧ x.length = m ∧ y.length = k :=
  ⟨l.take m, l.drop m, (List.take_append_drop m l).symm, List.length_take_of_le (by omega), by
    rw [List.length_drop, h, Nat.add_sub_cancel_left]⟩

noncomputable def poly : List R → R[X]
  | [] => 0
  | a :: l => C a + X * poly l

@[simp] theorem poly_nil : poly ([] : List R) = 0 := rfl
@[simp] theorem poly_cons (a : R) (l : List R) : poly (a :: l) = C a + X * poly l := rfl

theorem poly_append (a b : List R) : poly (a ++ b) = poly a + X ^ a.length * poly b := by
  induction a with
  | nil => simp
  | cons x xs ih => simp [ih, pow_succ]; ring

theorem poly_replicate_zero (m : Nat) : poly (List.replicate m (0 : R)) = 0 := by
  induction m with
  | zero => simp
  | succ m ih => simp [List.replicate_succ, ih]

theorem coeff_poly (l : List R) (k : Nat) : (poly l).coeff k = l.getD k 0 := by
  induction l generalizing k with
  | nil => simp
  | cons a l ih =>
    cases k with
    | zero => simp
    | succ k => simp [ih, coeff_C_succ]

theorem poly_take_drop (l : List R) (h : Nat) (hl : h ≤ l.length) :
    poly l = poly (l.take h) + X ^ h * poly (l.drop h) := by
  conv_lhs => rw [← List.take_append_drop h l]
  rw [poly_append, List.length_take, Nat.min_eq_left hl]

theorem coeff_poly_take (l : List R) (m k : Nat) :
    (poly (l.take m)).coeff k = if k < m then (poly l).coeff k else 0 := by
  rw [coeff_poly, coeff_poly]
  split_ifs with h
  · exact getD_take _ _ _ _ h
  · rw [List.getD_eq_default _ _ (by rw [List.length_take]; omega)]

theorem coeff_poly_drop (l : List R) (m k : Nat) :
    (poly (l.drop m)).coeff k = (poly l).coeff (m + k) := by
  rw [coeff_poly, coeff_poly, getD_drop]

theorem coeff_poly_mul (a b : List R) (k : Nat) :
    (poly a * poly b).coeff k = ∑ i ∈ range (k + 1), a.getD i 0 * b.getD (k - i) 0 := by
  rw [coeff_mul, Finset.Nat.sum_antidiagonal_eq_sum_range_succ_mk]
  simp [coeff_poly]

theorem coeff_cons_mul_succ (a : R) (l : List R) (B : R[X]) (k : Nat) :
    (poly (a :: l) * B).coeff (k + 1) = a * B.coeff (k + 1) + (poly l * B).coeff k := by
  rw [poly_cons, add_mul, coeff_add, coeff_C_mul, mul_assoc, coeff_X_mul]

theorem coeff_mul_cons_succ (a : R) (l : List R) (B : R[X]) (k : Nat) :
    (B * poly (a :: l)).coeff (k + 1) = a * B.coeff (k + 1) + (B * poly l).coeff k := by
  rw [mul_comm, coeff_cons_mul_succ, mul_comm B]

/-- `f` has no coefficient from `m` on -/
def Below (f : R[X]) (m : Nat) : Prop := ∀ j, m ≤ j → f.coeff j = 0

theorem below_poly (l : List R) : Below (poly l) l.length := fun j hj => by
  rw [coeff_poly, List.getD_eq_default _ _ hj]

theorem Below.mono {f : R[X]} {m n : Nat} (h : Below f m) (hmn : m ≤ n) : Below f n :=
  fun j hj => h j (le_trans hmn hj)

theorem Below.mul_coeff {A B : R[X]} {a b : Nat} (hA : Below A a) (hB : Below B b) (k : Nat)
    (hk : a + b ≤ k + 1) : (A * B).coeff k = 0 := by
  rw [coeff_mul]
  apply Finset.sum_eq_zero
  intro x hx
  have hs : x.1 + x.2 = k := Finset.mem_antidiagonal.1 hx
  by_cases h1 : a ≤ x.1
  · rw [hA _ h1, zero_mul]
  · rw [hB _ (by omega), mul_zero]

theorem poly_take_of_below (l : List R) (t : Nat) (hz : Below (poly l) t) : poly (l.take t) = poly l := by
  ext k
  rw [coeff_poly_take]
  split_ifs with hk
  · rfl
  · exact (hz k (by omega)).symm

theorem poly_eq_of_coeff (l : List R) (G : R[X]) (hG : Below G l.length)
    (h : ∀ k, k < l.length → l.getD k 0 = G.coeff k) : poly l = G := by
  ext k
  rw [coeff_poly]
  by_cases hk : k < l.length
  · exact h k hk
  · rw [List.getD_eq_default _ _ (by omega), hG k (by omega)]

/-- `A ≡ B (mod X^n)` -/
def Agree (n : Nat) (A B : R[X]) : Prop := ∀ k, k < n → A.coeff k = B.coeff k

theorem Agree.symm {n : Nat} {A B : R[X]} (h : Agree n A B) : Agree n B A := fun k hk => (h k hk).symm

theorem Agree.trans {n : Nat} {A B C : R[X]} (h1 : Agree n A B) (h2 : Agree n B C) : Agree n A C :=
  fun k hk => (h1 k hk).trans (h2 k hk)

theorem Agree.mono {n m : Nat} {A B : R[X]} (h : Agree n A B) (hm : m ≤ n) : Agree m A B :=
  fun k hk => h k (lt_of_lt_of_le hk hm)

theorem Agree.mul_left {n : Nat} {A A' : R[X]} (h : Agree n A A') (B : R[X]) : Agree n (B * A) (B * A') := by
  intro k hk
  rw [coeff_mul, coeff_mul]
  apply Finset.sum_congr rfl
  intro x hx
  have h2 : x.1 + x.2 = k := Finset.mem_antidiagonal.1 hx
  rw [h x.2 (by omega)]

theorem Agree.mul_right {n : Nat} {A A' : R[X]} (h : Agree n A A') (B : R[X]) : Agree n (A * B) (A' * B) := by
  rw [mul_comm A, mul_comm A']; exact h.mul_left B

theorem agree_take (l : List R) (m : Nat) : Agree m (poly (l.take m)) (poly l) :=
  fun k hk => by rw [coeff_poly_take, if_pos hk]

theorem coeff_mul_take_left (l : List R) (B : R[X]) (m k : Nat) (hk : k < m) :
    (poly (l.take m) * B).coeff k = (poly l * B).coeff k := (agree_take l m).mul_right B k hk

theorem getD_map_hom {o : Ops α} {φ : α → R} (h : Hom o φ) (l : List α) (k : Nat) :
    (l.map φ).getD k 0 = φ (l.getD k o.zero) := by
  rw [← h.zero, List.getD_map]

theorem coeff_den {o : Ops α} {φ : α → R} (h : Hom o φ) (l : List α) (k : Nat) :
    (poly (l.map φ)).coeff k = φ (l.getD k o.zero) := by
  rw [coeff_poly, getD_map_hom h]

theorem below_map (φ : α → R) (l : List α) : Below (poly (l.map φ)) l.length := by
  have := below_poly (l.map φ)
  rwa [List.length_map] at this

theorem coeff_poly_mul_hom {o : Ops α} {φ : α → R} (h : Hom o φ) (p q : List α) (k : Nat) :
    (poly (p.map φ) * poly (q.map φ)).coeff k =
      ∑ i ∈ range (k + 1), φ (p.getD i o.zero) * φ (q.getD (k - i) o.zero) := by
  rw [coeff_poly_mul]; simp only [getD_map_hom h]

theorem poly_map_append_zeros {o : Ops α} {φ : α → R} (h : Hom o φ) (l : List α) (pad : Nat) :
    poly ((l ++ List.replicate pad o.zero).map φ) = poly (l.map φ) := by
  rw [List.map_append, poly_append, List.map_replicate, h.zero, poly_replicate_zero, mul_zero, add_zero]

theorem getD_map_take (f : α → α) (l : List α) (m i : Nat) (d : α) (hi : i < m) (hl : m ≤ l.length) :
    ((l.take m).map f).getD i d = f (l.getD i d) := by
  rw [List.getD_eq_getElem?_getD, List.getD_eq_getElem?_getD, List.getElem?_map,
    List.getElem?_take_of_lt hi, List.getElem?_eq_getElem (by omega)]
  rfl

/-- one row of `_basic_mul`, entry by entry: inside the window `i + j ≤ k < i + j + |qs|` of the row an entry is
overwritten where the code applies its "first term" rule (first row `i = 0`, or last column `k - i + 1 = lq`) and
accumulated elsewhere; outside the window it is untouched -/
theorem rowLoop_spec (o : Ops α) (i lq : Nat) (pi : α) (qs : List α) (j : Nat) (z : List α)
    (hlen : i + j + qs.length ≤ z.length) :
    (rowLoop o i lq pi qs j z).length = z.length ∧
    ∀ k, (rowLoop o i lq pi qs j z).getD k o.zero =
      if i + j ≤ k ∧ k < i + j + qs.length then
        (if i = 0 ∨ k - i + 1 = lq then o.mul pi (qs.getD (k - i - j) o.zero)
         else o.add (z.getD k o.zero) (o.mul pi (qs.getD (k - i - j) o.zero)))
      else z.getD k o.zero := by
  induction qs generalizing j z with
  | nil => simp [rowLoop]
  | cons qj qs ih =>
    simp only [List.length_cons] at hlen
    unfold rowLoop
    simp only
    set z' := (if i = 0 ∨ j + 1 = lq then z.set (i + j) (o.mul pi qj)
      else z.set (i + j) (o.add (z.getD (i + j) o.zero) (o.mul pi qj))) with hz'
    have hzl : z'.length = z.length := by rw [hz']; split_ifs <;> simp
    obtain ⟨h1, h2⟩ := ih (j + 1) z' (by rw [hzl]; omega)
    refine ⟨by rw [h1, hzl], ?_⟩
    intro k
    rw [h2 k]
    have hz'k : z'.getD k o.zero = if k = i + j then
        (if i = 0 ∨ j + 1 = lq then o.mul pi qj else o.add (z.getD (i + j) o.zero) (o.mul pi qj))
        else z.getD k o.zero := by
      rw [hz']
      split_ifs with hc hk hk
      · rw [getD_set _ _ _ _ _ (by omega), if_pos hk]
      · rw [getD_set _ _ _ _ _ (by omega), if_neg hk]
      · rw [getD_set _ _ _ _ _ (by omega), if_pos hk]
      · rw [getD_set _ _ _ _ _ (by omega), if_neg hk]
    simp only [List.length_cons]
    by_cases hk1 : i + (j + 1) ≤ k ∧ k < i + (j + 1) + qs.length
    · have hc : i + j ≤ k ∧ k < i + j + (qs.length + 1) := by omega
      rw [if_pos hk1, if_pos hc]
      have hne : ¬ k = i + j := by omega
      rw [hz'k, if_neg hne]
      have hidx : k - i - j = (k - i - (j + 1)) + 1 := by omega
      rw [hidx, List.getD_cons_succ]
    · rw [if_neg hk1]
      by_cases hk : k = i + j
      · have hc : i + j ≤ k ∧ k < i + j + (qs.length + 1) := by omega
        rw [hz'k, if_pos hk, if_pos hc]
        have h0 : k - i - j = 0 := by omega
        have h1' : k - i + 1 = j + 1 := by omega
        rw [h0, List.getD_cons_zero, h1', hk]
      · have hc : ¬ (i + j ≤ k ∧ k < i + j + (qs.length + 1)) := by omega
        rw [hz'k, if_neg hk, if_neg hc]


/-- the rows of `_basic_mul`: with the rows `pre` done, `z` holds the coefficients of `pre·q` that no later row touches
with the "first term" rule (those below `|pre| + |q| - 1`; none before the first row) and zeros from the end of the
product on; the loop over the remaining rows `ps` completes the product -/
theorem rowsLoop_spec {o : Ops α} {φ : α → R} (h : Hom o φ) (q : List α) (hq : 1 ≤ q.length) :
    ∀ (ps pre z : List α), 1 ≤ pre.length + ps.length → pre.length + ps.length + q.length - 1 ≤ z.length →
    (∀ k, 1 ≤ pre.length → k < pre.length + q.length - 1 →
      φ (z.getD k o.zero) = (poly (pre.map φ) * poly (q.map φ)).coeff k) →
    (∀ k, pre.length + ps.length + q.length - 1 ≤ k → φ (z.getD k o.zero) = 0) →
    (rowsLoop o q ps pre.length z).length = z.length ∧
    (∀ k, k < pre.length + ps.length + q.length - 1 → φ ((rowsLoop o q ps pre.length z).getD k o.zero) =
      (poly ((pre ++ ps).map φ) * poly (q.map φ)).coeff k) ∧
    (∀ k, pre.length + ps.length + q.length - 1 ≤ k → φ ((rowsLoop o q ps pre.length z).getD k o.zero) = 0) := by
  intro ps
  induction ps with
  | nil =>
    intro pre z hp hz inv1 inv2
    rw [List.length_nil, Nat.add_zero] at hp inv2 ⊢
    rw [List.append_nil]
    exact ⟨rfl, fun k hk => inv1 k hp hk, inv2⟩
  | cons pi ps' ih =>
    intro pre z hp hz inv1 inv2
    rw [List.length_cons] at hz inv2 ⊢
    have hlen : (pre ++ [pi]).length = pre.length + 1 := by rw [List.length_append]; rfl
    unfold rowsLoop
    obtain ⟨r1, r2⟩ := rowLoop_spec o pre.length q.length pi q 0 z (by omega)
    have := ih (pre ++ [pi]) (rowLoop o pre.length q.length pi q 0 z) (by omega) (by rw [r1, hlen]; omega) ?_ ?_
    · rw [hlen, List.append_assoc, List.singleton_append, r1] at this
      exact ⟨this.1, fun k hk => this.2.1 k (by omega), fun k hk => this.2.2 k (by omega)⟩
    · -- the new row: `(pre + x^i·pi)·q`, where `pre·q` has no coefficient at a position written with the "first term" rule
      clear ih inv2 hz hp r1
      intro k _ hk
      rw [hlen] at hk
      rw [r2 k, List.map_append, poly_append, List.length_map, show poly ([pi].map φ) = C (φ pi) by simp, add_mul,
        coeff_add, mul_assoc, coeff_X_pow_mul', coeff_C_mul, coeff_den h]
      by_cases hrange : pre.length + 0 ≤ k ∧ k < pre.length + 0 + q.length
      · rw [if_pos hrange, if_pos (show pre.length ≤ k by omega), show k - pre.length - 0 = k - pre.length by omega]
        by_cases hfirst : pre.length = 0 ∨ k - pre.length + 1 = q.length
        · have hz0 : (poly (pre.map φ) * poly (q.map φ)).coeff k = 0 := by
            rcases hfirst with h0 | h1
            · rw [List.length_eq_zero_iff.1 h0, List.map_nil, poly_nil, zero_mul, coeff_zero]
            · exact (below_map φ pre).mul_coeff (below_map φ q) k (by omega)
          rw [if_pos hfirst, h.mul, hz0, zero_add]
        · rw [if_neg hfirst, h.add, h.mul, inv1 k (by omega) (by omega)]
      · rw [if_neg hrange, if_neg (show ¬ pre.length ≤ k by omega), add_zero]
        exact inv1 k (by omega) (by omega)
    · intro k hk
      rw [hlen] at hk
      rw [r2 k, if_neg (by omega)]
      exact inv2 k (by omega)

theorem basicMul_spec {o : Ops α} {φ : α → R} (h : Hom o φ) (z p q : List α) (hp : 1 ≤ p.length)
    (hq : 1 ≤ q.length) (hz : p.length + q.length - 1 ≤ z.length) :
    ∃ z', basicMul o z p q = some z' ∧ z'.length = z.length ∧
      poly (z'.map φ) = poly (p.map φ) * poly (q.map φ) := by
  unfold basicMul
  rw [if_neg (by omega), if_neg (by omega)]
  simp only
  set m := p.length + q.length - 1 with hm
  set z0 := z.take m ++ List.replicate (z.length - m) o.zero with hz0
  have hz0l : z0.length = z.length := by
    rw [hz0, List.length_append, List.length_take, List.length_replicate]; omega
  have inv2 : ∀ k, m ≤ k → φ (z0.getD k o.zero) = 0 := by
    intro k hk
    have : z0.getD k o.zero = o.zero := by
      rw [hz0, List.getD_eq_getElem?_getD, List.getElem?_append_right (by rw [List.length_take]; omega)]
      rw [List.getElem?_replicate]
      split_ifs <;> rfl
    rw [this, h.zero]
  obtain ⟨r1, r2, r3⟩ := rowsLoop_spec h q hq p [] z0 (by rw [List.length_nil, Nat.zero_add]; exact hp)
    (by rw [List.length_nil, Nat.zero_add, hz0l]; exact hz) (fun k hk _ => absurd hk (Nat.not_succ_le_zero 0))
    (by rw [List.length_nil, Nat.zero_add]; exact inv2)
  simp only [List.length_nil, Nat.zero_add, List.nil_append] at r1 r2 r3
  refine ⟨_, rfl, by rw [r1, hz0l], ?_⟩
  ext k
  rw [coeff_den h]
  by_cases hk : k < m
  · exact r2 k hk
  · rw [r3 k (by omega), (below_map φ p).mul_coeff (below_map φ q) k (by omega)]


theorem zipOp_eq (f : α → α → α) (z x : List α) (h : z.length = x.length) :
    zipOp f z x = some (List.zipWith f z x) := by
  unfold zipOp; rw [if_neg (by omega)]

theorem length_setSlice (z vals : List α) (off : Nat) (h : off + vals.length ≤ z.length) :
    (setSlice z off vals).length = z.length := by
  simp only [setSlice, List.length_append, List.length_take, List.length_drop]
  omega

/-- `zipWith f` for an operation that `φ` turns into `x + s·y`: `s = 1` for `add`, `s = -1` for `sub` -/
theorem poly_map_zipWith {φ : α → R} (f : α → α → α) (s : R) (hf : ∀ x y, φ (f x y) = φ x + s * φ y)
    (a b : List α) (h : a.length = b.length) :
    poly ((List.zipWith f a b).map φ) = poly (a.map φ) + C s * poly (b.map φ) := by
  induction a generalizing b with
  | nil => cases b <;> simp_all
  | cons x xs ih =>
    cases b with
    | nil => simp at h
    | cons y ys =>
      simp only [List.length_cons, Nat.add_right_cancel_iff] at h
      simp only [List.zipWith_cons_cons, List.map_cons, poly_cons, hf, ih ys h, map_add, map_mul]; ring

theorem poly_map_zipPrefix {φ : α → R} (f : α → α → α) (s : R) (hf : ∀ x y, φ (f x y) = φ x + s * φ y)
    (a b : List α) (hl : b.length ≤ a.length) :
    poly ((List.zipWith f (a.take b.length) b ++ a.drop b.length).map φ) =
      poly (a.map φ) + C s * poly (b.map φ) := by
  have lt : (a.take b.length).length = b.length := List.length_take_of_le hl
  rw [List.map_append, poly_append, poly_map_zipWith f s hf _ _ lt, List.length_map, List.length_zipWith, lt,
    Nat.min_self, poly_take_drop (a.map φ) b.length (by rw [List.length_map]; exact hl), List.map_take,
    List.map_drop]
  ring

theorem Hom.add_lin {o : Ops α} {φ : α → R} (h : Hom o φ) (x y : α) : φ (o.add x y) = φ x + 1 * φ y := by
  rw [h.add, one_mul]

theorem Hom.sub_lin {o : Ops α} {φ : α → R} (h : Hom o φ) (x y : α) : φ (o.sub x y) = φ x + -1 * φ y := by
  rw [h.sub]; ring

theorem poly_zipWith_add {o : Ops α} {φ : α → R} (h : Hom o φ) (a b : List α) (hl : a.length = b.length) :
    poly ((List.zipWith o.add a b).map φ) = poly (a.map φ) + poly (b.map φ) := by
  rw [poly_map_zipWith o.add 1 h.add_lin a b hl, map_one, one_mul]

theorem poly_zipWith_sub {o : Ops α} {φ : α → R} (h : Hom o φ) (a b : List α) (hl : a.length = b.length) :
    poly ((List.zipWith o.sub a b).map φ) = poly (a.map φ) - poly (b.map φ) := by
  rw [poly_map_zipWith o.sub (-1) h.sub_lin a b hl, map_neg, map_one, neg_one_mul, sub_eq_add_neg]

theorem poly_addPrefix {o : Ops α} {φ : α → R} (h : Hom o φ) (a b : List α) (hl : b.length ≤ a.length) :
    poly ((List.zipWith o.add (a.take b.length) b ++ a.drop b.length).map φ) =
      poly (a.map φ) + poly (b.map φ) := by
  rw [poly_map_zipPrefix o.add 1 h.add_lin a b hl, map_one, one_mul]

theorem poly_subPrefix {o : Ops α} {φ : α → R} (h : Hom o φ) (a b : List α) (hl : b.length ≤ a.length) :
    poly ((List.zipWith o.sub (a.take b.length) b ++ a.drop b.length).map φ) =
      poly (a.map φ) - poly (b.map φ) := by
  rw [poly_map_zipPrefix o.sub (-1) h.sub_lin a b hl, map_neg, map_one, neg_one_mul, sub_eq_add_neg]

theorem poly_addAt {o : Ops α} {φ : α → R} (h : Hom o φ) (zz m : List α) (off : Nat)
    (hl : off + m.length ≤ zz.length) :
    poly ((setSlice zz off (List.zipWith o.add ((zz.drop off).take m.length) m)).map φ) =
      poly (zz.map φ) + X ^ off * poly (m.map φ) := by
  have hzl : (List.zipWith o.add ((zz.drop off).take m.length) m).length = m.length := by
    rw [List.length_zipWith, List.length_take, List.length_drop]; omega
  rw [setSlice, hzl, List.append_assoc, ← List.drop_drop, List.map_append, poly_append,
    poly_addPrefix h (zz.drop off) m (by rw [List.length_drop]; omega), List.length_map,
    List.length_take_of_le (by omega), poly_take_drop (zz.map φ) off (by rw [List.length_map]; omega),
    List.map_take, List.map_drop]
  ring

/-- the operand of the middle product: the high part added into a copy of the low part -/
theorem poly_addInto {o : Ops α} {φ : α → R} (h : Hom o φ) (lo hi : List α) (hl : hi.length ≤ lo.length) :
    ∃ sp, zipOp o.add (lo.take hi.length) hi = some sp ∧ (sp ++ lo.drop hi.length).length = lo.length ∧
      poly ((sp ++ lo.drop hi.length).map φ) = poly (lo.map φ) + poly (hi.map φ) := by
  refine ⟨_, zipOp_eq o.add _ _ (List.length_take_of_le hl), ?_, poly_addPrefix h _ _ hl⟩
  rw [List.length_append, List.length_zipWith, List.length_take_of_le hl, Nat.min_self, List.length_drop,
    Nat.add_sub_cancel' hl]

/-- the recombination at the end of `karatsuba`: `lo ++ hi` holds the low and the high product (the
latter with `n` significant coefficients), `mid` the middle one; `mid - lo - hi` goes to offset `half` -/
theorem poly_recombine {o : Ops α} {φ : α → R} (h : Hom o φ) (mid lo hi : List α) (half n : Nat)
    (lmid : mid.length = 2 * half) (llo : lo.length = 2 * half) (hn : n ≤ 2 * half)
    (hn' : n ≤ hi.length) (hhi : half ≤ hi.length)
    (hz : Below (poly (hi.map φ)) n) (m2 : List α)
    (hm2 : m2 = List.zipWith o.sub ((List.zipWith o.sub mid lo).take n) (hi.take n) ++
      (List.zipWith o.sub mid lo).drop n) :
    m2.length = 2 * half ∧
    poly ((setSlice (lo ++ hi) half
        (List.zipWith o.add (((lo ++ hi).drop half).take (2 * half)) m2)).map φ) =
      poly (lo.map φ) + X ^ (2 * half) * poly (hi.map φ) +
        X ^ half * (poly (mid.map φ) - poly (lo.map φ) - poly (hi.map φ)) := by
  have lm1 : (List.zipWith o.sub mid lo).length = 2 * half := by
    rw [List.length_zipWith, lmid, llo, Nat.min_self]
  have lhit : (hi.take n).length = n := by rw [List.length_take]; omega
  have lm2 : m2.length = 2 * half := by
    rw [hm2, List.length_append, List.length_zipWith, List.length_take, lhit, List.length_drop, lm1]
    omega
  refine ⟨lm2, ?_⟩
  have pm2 := poly_subPrefix h (List.zipWith o.sub mid lo) (hi.take n) (by rw [lhit, lm1]; exact hn)
  rw [lhit, ← hm2, poly_zipWith_sub h _ _ (by rw [lmid, llo]),
    List.map_take, poly_take_of_below _ n hz] at pm2
  have hfin := poly_addAt h (lo ++ hi) m2 half (by rw [List.length_append, lm2, llo]; omega)
  rw [lm2] at hfin
  rw [hfin, List.map_append, poly_append, List.length_map, llo, pm2]

/-- `Poly::karatsuba` on the domain `karaOk` (the operand and buffer lengths for which the code neither reaches a panic
site nor forms a product with an empty operand): both buffers keep their lengths and `z` holds the product, whatever the
buffers held before -/
theorem karatsuba_spec {o : Ops α} {φ : α → R} (h : Hom o φ) : ∀ (f : Nat) (z p q tmp : List α) (lp lq lz lt : Nat),
    p.length = lp → q.length = lq → z.length = lz → tmp.length = lt → karaOk f lp lq lz lt = true →
    ∃ z' tmp', karatsuba o f z p q tmp = some (z', tmp') ∧ z'.length = lz ∧
      tmp'.length = lt ∧ poly (z'.map φ) = poly (p.map φ) * poly (q.map φ) := by
  intro f
  induction f with
  | zero => intro z p q tmp lp lq lz lt _ _ _ _ hok; simp [karaOk] at hok
  | succ f ih =>
    intro z p q tmp lp lq lz lt hp hq hz ht hok
    unfold karaOk at hok
    unfold karatsuba
    simp only [hp, hq, hz, ht] at hok ⊢
    by_cases hbase : (lp ≤ 20 ∧ lq ≤ 20) ∨ lp ≤ (max lp lq + 1) / 2 ∨ lq ≤ (max lp lq + 1) / 2
    · rw [if_pos hbase] at hok ⊢
      simp only [decide_eq_true_eq] at hok
      obtain ⟨z', hz', hl, hpoly⟩ := basicMul_spec h z p q (hp ▸ hok.1) (hq ▸ hok.2.1)
        (by rw [hp, hq, hz]; exact hok.2.2)
      exact ⟨z', tmp, by rw [hz']; rfl, hl.trans hz, ht, hpoly⟩
    · rw [if_neg hbase] at hok ⊢
      simp only [Bool.and_eq_true, decide_eq_true_eq] at hok
      obtain ⟨⟨⟨⟨hz1, ht1, hz3⟩, ok1⟩, ok2⟩, ok3⟩ := hok
      generalize hhalf : (max lp lq + 1) / 2 = half at *
      -- lengths in additive form and, below, every slice replaced by its parts: no `take`, `drop` or `-` is left for `omega`
      obtain ⟨a, b, zr, tr, rfl, rfl, rfl, rfl, ha1, hb1, hah, hbh⟩ : ∃ a b zr tr, lp = half + a ∧ lq = half + b ∧
          lz = 2 * half + zr ∧ lt = 2 * half + (2 * half + tr) ∧ 1 ≤ a ∧ 1 ≤ b ∧ a ≤ half ∧ b ≤ half :=
        ⟨lp - half, lq - half, lz - 2 * half, lt - 4 * half, by omega⟩
      clear hhalf hbase
      rw [if_neg (by omega), if_neg (by omega), if_neg (by omega)]
      simp only [Nat.add_sub_cancel_left] at ok1 ok2 ok3 ⊢
      obtain ⟨plo, phi, rfl, lplo, lphi⟩ := exists_append p half a hp
      obtain ⟨qlo, qhi, rfl, lqlo, lqhi⟩ := exists_append q half b hq
      obtain ⟨tmplo, tmphi, rfl, ltlo, lthi⟩ := exists_append tmp (2 * half) (2 * half + tr) ht
      simp only [List.take_left' lplo, List.drop_left' lplo, List.take_left' lqlo, List.drop_left' lqlo,
        List.take_left' ltlo, List.drop_left' ltlo]
      clear hp hq ht
      obtain ⟨sp, esp, lps, pps⟩ := poly_addInto h plo phi (by rw [lplo, lphi]; exact hah)
      obtain ⟨sq, esq, lqs, pqs⟩ := poly_addInto h qlo qhi (by rw [lqlo, lqhi]; exact hbh)
      rw [esp, esq]
      simp only
      generalize sp ++ plo.drop phi.length = ps at lps pps ⊢
      generalize sq ++ qlo.drop qhi.length = qs at lqs pqs ⊢
      clear esp esq
      rw [lplo] at lps
      rw [lqlo] at lqs
      have ltmphi1 : (ps ++ qs ++ tmphi.drop (2 * half)).length = 2 * half + tr := by
        rw [List.length_append, List.length_append, lps, lqs, List.length_drop, lthi, Nat.add_sub_cancel_left, Nat.two_mul]
      generalize ps ++ qs ++ tmphi.drop (2 * half) = tmphi1 at ltmphi1 ⊢
      obtain ⟨mid, z1, e1, lmid, lz1, pmid⟩ := ih tmplo ps qs z half half (2 * half) (2 * half + zr) lps lqs ltlo hz ok1
      rw [e1]; simp only
      obtain ⟨zlo, zhi, rfl, lzlo, lzhi⟩ := exists_append z1 (2 * half) zr lz1
      simp only [List.take_left' lzlo, List.drop_left' lzlo]
      obtain ⟨lo, tmphi2, e2, llo, ltmphi2, plo'⟩ := ih zlo plo qlo tmphi1 half half (2 * half) (2 * half + tr)
        lplo lqlo lzlo ltmphi1 ok2
      rw [e2]; simp only
      obtain ⟨hi, tmphi3, e3, lhi, ltmphi3, phi'⟩ := ih zhi phi qhi tmphi2 a b zr (2 * half + tr) lphi lqhi lzhi ltmphi2 ok3
      rw [e3]; simp only
      clear e1 e2 e3 ok1 ok2 ok3 ltmphi2 ltmphi1 lz1 lps lqs ih
      rw [lphi, lqhi, lhi]
      obtain ⟨g1, g2, g3, g4, g5, g6⟩ : ¬ (a + b = 0) ∧ ¬ (a + b - 1 > 2 * half ∨ a + b - 1 > zr) ∧ a + b - 1 ≤ 2 * half ∧
          a + b - 1 ≤ zr ∧ half ≤ zr ∧ ¬ (2 * half + zr < 3 * half) := by omega
      rw [if_neg g1, if_neg g2, zipOp_eq o.sub mid lo (lmid.trans llo.symm)]
      simp only
      obtain ⟨lm2, hfin⟩ := poly_recombine h mid lo hi half (a + b - 1) lmid llo g3 (lhi ▸ g4) (lhi ▸ g5)
        (fun k hk => by
          rw [phi']
          exact (below_map φ _).mul_coeff (below_map φ _) k (by rw [lphi, lqhi]; omega))
        _ rfl
      have ltk : (((lo ++ hi).drop half).take (2 * half)).length = 2 * half :=
        List.length_take_of_le (by rw [List.length_drop, List.length_append, llo, lhi]; omega)
      rw [zipOp_eq o.sub _ _ (by
        rw [List.length_take_of_le (by rw [List.length_zipWith, lmid, llo, Nat.min_self]; exact g3),
          List.length_take_of_le (lhi ▸ g4)])]
      simp only
      rw [List.length_append, llo, lhi, if_neg g6, zipOp_eq o.add _ _ (ltk.trans lm2.symm)]
      refine ⟨_, _, rfl, ?_, ?_, ?_⟩
      · rw [length_setSlice _ _ _ (by
          rw [List.length_zipWith, ltk, lm2, Nat.min_self, List.length_append, llo, lhi]; omega),
          List.length_append, llo, lhi]
      · rw [List.length_append, lm2, ltmphi3]
      · rw [hfin, pmid, plo', phi', pps, pqs, List.map_append, List.map_append, poly_append, poly_append,
          List.length_map, List.length_map, lplo, lqlo]
        ring

/-- after the fix of `Poly::karatsuba` every pair of operand lengths is in the domain -/
theorem karaOk_total : ∀ (f lp lq zl tl : Nat), 1 ≤ lp → 1 ≤ lq → max lp lq ≤ 20 * 2 ^ f → lp + lq ≤ zl →
    3 * max lp lq ≤ tl → karaOk (f + 1) lp lq zl tl = true := by
  intro f
  induction f with
  | zero =>
    intro lp lq zl tl h1 h2 h3 h4 h5
    obtain ⟨hlp, hlq⟩ := max_le_iff.1 h3
    unfold karaOk
    simp only
    rw [if_pos (Or.inl (by omega))]
    simp only [decide_eq_true_eq]; omega
  | succ f ih =>
    intro lp lq zl tl h1 h2 h3 h4 h5
    unfold karaOk
    simp only
    generalize hhalf : (max lp lq + 1) / 2 = half
    -- only `lp, lq ≤ m ≤ 2 * half ≤ m + 1` is used of `m = max lp lq ∈ {lp, lq}` and of the split point
    obtain ⟨hlp, hlq⟩ := max_le_iff.1 (le_refl (max lp lq))
    have hMx := max_choice lp lq
    generalize max lp lq = m at h3 h5 hhalf hlp hlq hMx
    have hm : m ≤ 2 * half ∧ 2 * half ≤ m + 1 := by omega
    clear hhalf
    rw [pow_succ] at h3
    split_ifs with hb
    · simp only [decide_eq_true_eq]; omega
    · simp only [Bool.and_eq_true, decide_eq_true_eq]
      have hlt : 10 ≤ half ∧ half < lp ∧ half < lq ∧ 3 * half ≤ lp + lq := by omega
      clear hb hMx
      have hM3 : max (lp - half) (lq - half) ≤ half := max_le (by omega) (by omega)
      refine ⟨⟨⟨by omega, ?_⟩, ?_⟩, ?_⟩
      · exact ih _ _ _ _ (by omega) (by omega) (by rw [max_self]; omega) (by omega) (by rw [max_self]; omega)
      · exact ih _ _ _ _ (by omega) (by omega) (by rw [max_self]; omega) (by omega) (by rw [max_self]; omega)
      · exact ih _ _ _ _ (by omega) (by omega) (by omega) (by omega) (by omega)

end Ymq.PolyMul
