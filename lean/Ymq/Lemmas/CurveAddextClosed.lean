/-
Closure of `Curve::addext` (ecm.rs), the dedicated addition in extended coordinates
`((x₁y₁ + x₂y₂)/(y₁y₂ + a x₁x₂), (x₁y₁ - x₂y₂)/(x₁y₂ - y₁x₂))`, for every `a`; the `a = -1` branch of
the code computes every intermediate value doubled (`k = 2`).
-/
import Ymq.Lemmas.CurveDefs

namespace Ymq.Curve
open Ymq.Gen.Curves
variable {R : Type} [CommRing R]

/-- The sum is `(e f : g h : f g : e h)`. With `S = (a X₁² + Y₁²)(a X₂² + Y₂²)`, the norm of both
`g + √-a f` and `Z₁Z₂ - d T₁T₂ + √-d e`, the defect of the extended curve equation reduces to
`(h M)² - (f N)²`, where `M = Z₁Z₂ - d T₁T₂`, `N = Y₁Y₂ - a X₁X₂` and `h M = f N` is the agreement of
the `y` coordinate with the unified law. -/
theorem addext_closed_gen (a d k X1 Y1 Z1 T1 X2 Y2 Z2 T2 e f g h : R)
    (h1 : a * (X1 * X1) + Y1 * Y1 = Z1 * Z1 + d * (T1 * T1)) (q1 : T1 * Z1 = X1 * Y1)
    (h2 : a * (X2 * X2) + Y2 * Y2 = Z2 * Z2 + d * (T2 * T2)) (q2 : T2 * Z2 = X2 * Y2)
    (he : e = k * (T1 * Z2 + Z1 * T2)) (hf : f = k * (X1 * Y2 - Y1 * X2))
    (hg : g = k * (Y1 * Y2 + a * (X1 * X2))) (hh : h = k * (T1 * Z2 - Z1 * T2)) :
    g * h * (g * h) + a * (e * f * (e * f)) = f * g * (f * g) + d * (e * h * (e * h)) ∧
      e * h * (f * g) = e * f * (g * h) := by
  refine ⟨?_, by ring⟩
  have hμ : Z1 * Z2 * (T1 * T2) = X1 * Y1 * (X2 * Y2) := by
    linear_combination (T2 * Z2) * q1 + (X1 * Y1) * q2
  have hS : (a * (X1 * X1) + Y1 * Y1) * (a * (X2 * X2) + Y2 * Y2) =
      (Z1 * Z1 + d * (T1 * T1)) * (Z2 * Z2 + d * (T2 * T2)) := by rw [h1, h2]
  have hy : (T1 * Z2 - Z1 * T2) * (Z1 * Z2 - d * (T1 * T2)) =
      (X1 * Y2 - Y1 * X2) * (Y1 * Y2 - a * (X1 * X2)) := by
    linear_combination (X2 * Y2) * h1 + (a * (X2 * X2) + Y2 * Y2) * q1 - (T1 * Z1) * h2
      - (d * (T1 * T1) + Z1 * Z1) * q2
  subst he hf hg hh
  linear_combination (k ^ 4 * (4 * a * (X1 * Y2 - Y1 * X2) ^ 2)) * hμ + (k ^ 4 * (T1 * Z2 - Z1 * T2) ^ 2) * hS
    + (k ^ 4 * ((T1 * Z2 - Z1 * T2) * (Z1 * Z2 - d * (T1 * T2))
        + (X1 * Y2 - Y1 * X2) * (Y1 * Y2 - a * (X1 * X2)))) * hy

end Ymq.Curve
