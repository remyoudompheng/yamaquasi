/-
Three helpers that the model repeats, under the same text, in several namespaces (`tzAux` in Arith, Chain,
Inverter, Mg64, SiqsPoly; `bitlen` in Checked, Dividers, ExpModn, Primes, Relations, Sieve, SiqsPoly; `isqrtAux`
in Checked, SiqsPoly). Each has its specification here, over any function with the defining equations; a copy
supplies them by `rfl` (`Dividers.bitlen_bounds` reads its two bounds off `Nat.log2` directly). No import.
-/

namespace Ymq.Bits

theorem tz_spec (tz : Nat → Nat → Nat) (h0 : ∀ n, tz 0 n = 0)
    (hs : ∀ f n, tz (f + 1) n = if n % 2 = 1 then 0 else 1 + tz f (n / 2)) :
    ∀ f n, 2 ^ tz f n ∣ n ∧ (0 < n → n < 2 ^ f → tz f n < f ∧ n / 2 ^ tz f n % 2 = 1) := by
  intro f
  induction f with
  | zero => intro n; rw [h0]; exact ⟨Nat.one_dvd n, fun h1 h2 => by omega⟩
  | succ f ih =>
    intro n
    rw [hs]
    split
    · exact ⟨Nat.one_dvd n, fun _ _ => ⟨Nat.succ_pos f, by simpa⟩⟩
    · obtain ⟨hd, hr⟩ := ih (n / 2)
      have e : 2 * (n / 2) = n := by omega
      rw [Nat.add_comm, Nat.pow_succ, Nat.mul_comm]
      refine ⟨by have := Nat.mul_dvd_mul_left 2 hd; rwa [e] at this, fun h1 h2 => ?_⟩
      obtain ⟨a, b⟩ := hr (by omega) (by rw [Nat.pow_succ] at h2; omega)
      exact ⟨by omega, by rw [← Nat.div_div_eq_div_mul]; exact b⟩

theorem bitlen_le_iff (bitlen : Nat → Nat) (hb : ∀ n, bitlen n = if n = 0 then 0 else Nat.log2 n + 1)
    (n k : Nat) : bitlen n ≤ k ↔ n < 2 ^ k := by
  rw [hb]
  split
  · subst_vars; simp [Nat.pow_pos]
  · next h => exact Nat.log2_lt h

theorem isqrtAux_spec (aux : Nat → Nat → Nat → Nat) (h0 : ∀ r n, aux 0 r n = r)
    (hs : ∀ k r n, aux (k + 1) r n = if (r + 2 ^ k) * (r + 2 ^ k) ≤ n then aux k (r + 2 ^ k) n else aux k r n) :
    ∀ k r n, r * r ≤ n → n < (r + 2 ^ k) * (r + 2 ^ k) →
      aux k r n * aux k r n ≤ n ∧ n < (aux k r n + 1) * (aux k r n + 1) := by
  intro k
  induction k with
  | zero => intro r n h1 h2; rw [h0]; exact ⟨h1, h2⟩
  | succ k ih =>
    intro r n h1 h2
    rw [hs]
    have e : r + 2 ^ k + 2 ^ k = r + 2 ^ (k + 1) := by rw [Nat.pow_succ]; omega
    split
    · next h => exact ih _ n h (e ▸ h2)
    · next h => exact ih r n h1 (Nat.lt_of_not_le h)

end Ymq.Bits
