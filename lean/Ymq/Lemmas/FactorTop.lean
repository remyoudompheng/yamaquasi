/-
The entry point `factor`: trial division, the inner run, `check_factors` and sort.
-/
import Ymq.Lemmas.FactorInv
import Mathlib.Tactic.NormNum.Prime

namespace Ymq.Factor

open Ymq.Gen.Primality

variable {σ : Type}

/-- the inner loop of trial division divides by `p` exactly `j` times: as long as it can, or
until the fuel is used up -/
theorem trialGo_eq (p : Nat) : ∀ (k nred : Nat) (fs : List Nat), ∃ j, j ≤ k ∧ p ^ j ∣ nred ∧
    trialDivideBy.go p k nred fs = (nred / p ^ j, fs ++ List.replicate j p) ∧
    (j < k → ¬ p ∣ nred / p ^ j) := by
  intro k
  induction k with
  | zero => intro nred fs; exact ⟨0, le_rfl, by simp, by rw [trialDivideBy.go]; simp, by omega⟩
  | succ k ih =>
    intro nred fs
    rw [trialDivideBy.go]
    split
    · rename_i hmod
      obtain ⟨j, hj, hd, he, hn⟩ := ih (nred / p) (fs ++ [p])
      refine ⟨j + 1, by omega, ?_, ?_, fun h => ?_⟩
      · rw [pow_succ']; exact Nat.mul_dvd_of_dvd_div (Nat.dvd_of_mod_eq_zero hmod) hd
      · rw [he, Nat.div_div_eq_div_mul, ← pow_succ', List.append_assoc, List.replicate_succ]; rfl
      · rw [pow_succ', ← Nat.div_div_eq_div_mul]; exact hn (by omega)
    · rename_i hmod
      exact ⟨0, by omega, by simp, by simp, fun _ => by simpa using fun hd => hmod (Nat.mod_eq_zero_of_dvd hd)⟩

/-- what is appended comes from `ps` and multiplies with the cofactor back to the input; with
enough fuel no `p ∈ ps` divides the cofactor -/
theorem trialDivideBy_eq (fuel : Nat) : ∀ (ps : List Nat) (nred : Nat) (fs : List Nat), ∃ ext,
    (trialDivideBy fuel ps nred fs).2 = fs ++ ext ∧ (∀ x ∈ ext, x ∈ ps) ∧
    ext.prod * (trialDivideBy fuel ps nred fs).1 = nred ∧
    ((∀ p ∈ ps, 2 ≤ p) → nred ≠ 0 → nred < 2 ^ fuel → ∀ p ∈ ps, ¬ p ∣ (trialDivideBy fuel ps nred fs).1) := by
  intro ps
  induction ps with
  | nil => intro nred fs; rw [trialDivideBy]; exact ⟨[], by simp, by simp, by simp, by simp⟩
  | cons p ps ih =>
    intro nred fs
    rw [trialDivideBy]
    obtain ⟨j, hj, hd, he, hn⟩ := trialGo_eq p fuel nred fs
    rw [he]
    obtain ⟨ext, h1, h2, h3, h4⟩ := ih (nred / p ^ j) (fs ++ List.replicate j p)
    refine ⟨List.replicate j p ++ ext, by rw [h1, List.append_assoc], ?_, ?_, ?_⟩
    · intro x hx
      rcases List.mem_append.mp hx with hx | hx
      · rw [List.eq_of_mem_replicate hx]; exact List.mem_cons_self
      · exact List.mem_cons_of_mem _ (h2 x hx)
    · rw [List.prod_append, List.prod_replicate, Nat.mul_assoc, h3, Nat.mul_div_cancel' hd]
    · intro hps h0 hlt q hq
      have hp2 := hps p List.mem_cons_self
      have hle : p ^ j ≤ nred := Nat.le_of_dvd (by omega) hd
      have hq0 : nred / p ^ j ≠ 0 := by
        have := Nat.div_pos hle (Nat.pow_pos (by omega)); omega
      have hjf : j < fuel := by
        by_contra hge
        have : 2 ^ fuel ≤ p ^ j :=
          (Nat.pow_le_pow_right (by omega) (by omega)).trans (Nat.pow_le_pow_left hp2 j)
        omega
      have hdv : (trialDivideBy fuel ps (nred / p ^ j) (fs ++ List.replicate j p)).1 ∣ nred / p ^ j :=
        ⟨ext.prod, by rw [Nat.mul_comm]; exact h3.symm⟩
      rcases List.mem_cons.mp hq with rfl | hq
      · exact fun hd' => hn hjf (Nat.dvd_trans hd' hdv)
      · exact h4 (fun r hr => hps r (List.mem_cons_of_mem _ hr)) hq0
          (lt_of_le_of_lt (Nat.div_le_self _ _) hlt) q hq

/-- the trial-division step of `factor`; `.1` is the value handed to `factor_impl`: `n` with the 46
small primes divided out -/
def trialDiv (n : Nat) : Nat × List Nat := trialDivideBy 1100 smallPrimes n []

theorem trialDiv_def (n : Nat) : trialDiv n = trialDivideBy 1100 smallPrimes n [] := rfl

theorem trialDiv_spec (n : Nat) :
    (trialDiv n).2.prod * (trialDiv n).1 = n ∧ ∀ x ∈ (trialDiv n).2, x ∈ smallPrimes := by
  obtain ⟨ext, h1, h2, h3, _⟩ := trialDivideBy_eq 1100 smallPrimes n []
  unfold trialDiv
  rw [h1, List.nil_append]
  exact ⟨h3, h2⟩

theorem smallPrimes_prime : ∀ p ∈ smallPrimes, Nat.Prime p := by
  intro p hp
  simp only [smallPrimes, List.mem_cons, List.not_mem_nil, or_false] at hp
  rcases hp with h | h | h | h | h | h | h | h | h | h | h | h | h | h | h | h | h | h | h | h | h |
    h | h | h | h | h | h | h | h | h | h | h | h | h | h | h | h | h | h | h | h | h | h | h | h | h <;>
    (subst h; norm_num)

theorem smallPrimes_ge_two : ∀ p ∈ smallPrimes, 2 ≤ p :=
  fun p hp => (smallPrimes_prime p hp).two_le

theorem trialDiv_cofactor_pos {n : Nat} (hn : n ≠ 0) : 1 ≤ (trialDiv n).1 := by
  have h := (trialDiv_spec n).1
  rcases Nat.eq_zero_or_pos (trialDiv n).1 with h0 | h0
  · rw [h0, Nat.mul_zero] at h; exact absurd h.symm hn
  · exact h0

theorem trialDiv_cofactor_le {n : Nat} (hn : n ≠ 0) : (trialDiv n).1 ≤ n := by
  have h := (trialDiv_spec n).1
  exact Nat.le_of_dvd (by omega) ⟨(trialDiv n).2.prod, by rw [Nat.mul_comm]; exact h.symm⟩

set_option exponentiation.threshold 1100 in
theorem lt_U_of_lt_two_pow {n k : Nat} (h : n < 2 ^ k) (hk : k ≤ 1024) : n < U := by
  have h2 : ∀ m : Nat, k ≤ m → n < 2 ^ m := fun m hm =>
    Nat.lt_of_lt_of_le h (Nat.pow_le_pow_right (Nat.succ_pos 1) hm)
  exact h2 1024 hk

def initSt (os : σ) (fs : List Nat) : St σ :=
  { os := os, factors := fs, pm1done := false, giveups := [] }

/-- the `factor_impl` call made by `factor` (after trial division) -/
def factorRun (o : Oracle σ) (fuel n : Nat) (alg : Algo) (os : σ) : Res (St σ) :=
  factorImpl o fuel (trialDiv n).1 alg (initSt os (trialDiv n).2)

/-- the give-up log of the `factor_impl` call made by `factor` (empty if it did not succeed) -/
def factorGiveups (o : Oracle σ) (fuel n : Nat) (alg : Algo) (os : σ) : List Nat :=
  match factorRun o fuel n alg os with
  | .ok s => s.giveups
  | _ => []

theorem factor_eq (o : Oracle σ) (fuel n : Nat) (alg : Algo) (os : σ) :
    factor o fuel n alg os =
      if n = 0 then .ok [0]
      else if bits n > 500 then .failure
      else match factorRun o fuel n alg os with
        | .panic e => .panic e
        | .fuel => .fuel
        | .ok s => checkFactors o s.os n s.factors := by
  unfold factor factorRun trialDiv initSt
  generalize trialDivideBy 1100 smallPrimes n [] = td
  obtain ⟨a, b⟩ := td
  rfl

theorem checkProduct_ok {n : Nat} {fs l : List Nat} (h : checkProduct n fs = .ok l) :
    l = sortNat fs ∧ n % U = fs.prod % U := by
  unfold checkProduct at h
  split at h
  · exact absurd h (by simp)
  · rename_i hp
    injection h with h
    exact ⟨h.symm, by simpa using hp⟩

theorem checkFactors_ok {o : Oracle σ} {os : σ} {n : Nat} {fs l : List Nat}
    (h : checkFactors o os n fs = .ok l) : l = sortNat fs ∧ n % U = fs.prod % U := by
  unfold checkFactors at h
  split at h
  · split at h
    · exact absurd h (by simp)
    · split at h
      · exact absurd h (by simp)
      · exact checkProduct_ok h
  · exact checkProduct_ok h

/- from here on `trialDiv` is used only through `trialDiv_spec` (unfolding it on an open term is
costly: 46 primes × fuel 1100) -/
attribute [irreducible] trialDiv

/-- `factor(1)`: trial division finds nothing and `factor_impl(1)` returns at once -/
theorem factorRun_one {o : Oracle σ} {fuel : Nat} {alg : Algo} {os : σ} {s' : St σ}
    (hrun : factorRun o fuel 1 alg os = .ok s') : s'.factors = [] := by
  have hspec := trialDiv_spec 1
  have hc : (trialDiv 1).1 = 1 := Nat.eq_one_of_mul_eq_one_left hspec.1
  have hfs : (trialDiv 1).2 = [] := by
    have hp : (trialDiv 1).2.prod = 1 := Nat.eq_one_of_mul_eq_one_right hspec.1
    cases hl : (trialDiv 1).2 with
    | nil => rfl
    | cons x xs =>
      have hx : x ∈ (trialDiv 1).2 := by rw [hl]; simp
      have h2 := smallPrimes_ge_two x (hspec.2 x hx)
      have hd : x ∣ 1 := hp ▸ List.dvd_prod hx
      have := Nat.le_of_dvd (by omega) hd
      omega
  unfold factorRun at hrun
  rw [hc, hfs] at hrun
  cases fuel with
  | zero => rw [factorImpl_zero] at hrun; exact absurd hrun (by simp)
  | succ fuel =>
    rw [factorImpl_succ, factorStep_one] at hrun
    injection hrun with hrun
    subst hrun
    rfl

theorem checkFactors_of_prod (o : Oracle σ) (os : σ) (n : Nat) (fs : List Nat) (h : fs.prod = n) :
    checkFactors o os n fs = .ok (sortNat fs) ∨ checkFactors o os n fs = .failure := by
  have hcp : checkProduct n fs = .ok (sortNat fs) := by
    unfold checkProduct; simp [h]
  unfold checkFactors
  split
  · rename_i p
    have : n = p := by simpa using h.symm
    subst this
    simp only [ne_eq, not_true_eq_false, if_false]
    split
    · exact Or.inr rfl
    · exact Or.inl hcp
  · exact Or.inl hcp

theorem factorRun_prod {o : Oracle σ} (hok : OracleOK o) {fuel n : Nat} {alg : Algo} {os : σ}
    {s' : St σ} (h0 : n ≠ 0) (hrun : factorRun o fuel n alg os = .ok s') : s'.factors.prod = n := by
  obtain ⟨new, _, happ, hp⟩ := factorImpl_appended o alg fuel _ _ s' hrun
  rw [happ.factors, List.prod_append, hp ⟨hok, trialDiv_cofactor_pos h0⟩]
  exact (trialDiv_spec n).1

/-- The selector precondition and the fuel bound are on the value AFTER trial division — the one
lib.rs asserts on (`assert!(n.bits() <= 64)` sits in `factor_impl`). -/
theorem factor_total_aux {o : Oracle σ} (hok : OracleOK o) (fuel n : Nat) (alg : Algo) (os : σ)
    (hsel : SelectorPre alg (trialDiv n).1) (hfuel : bits (trialDiv n).1 ≤ fuel) :
    (∃ l, factor o fuel n alg os = .ok l ∧ l.prod = n) ∨ factor o fuel n alg os = .failure := by
  rw [factor_eq]
  split
  · rename_i h0; exact Or.inl ⟨[0], rfl, by simp [h0]⟩
  · rename_i h0
    split
    · exact Or.inr rfl
    · obtain ⟨s', hs'⟩ := factorImpl_total_aux hok alg fuel (trialDiv n).1
        (initSt os (trialDiv n).2) (trialDiv_cofactor_pos h0) hfuel hsel
      have hrun : factorRun o fuel n alg os = .ok s' := hs'
      rw [hrun]
      have hprod := factorRun_prod hok h0 hrun
      rcases checkFactors_of_prod o s'.os n s'.factors hprod with h | h
      · exact Or.inl ⟨_, h, by rw [sortNat_prod, hprod]⟩
      · exact Or.inr h

theorem pre_of_input {alg : Algo} {n fuel : Nat} (hsel : SelectorPre alg n) (hfuel : bits n ≤ fuel) :
    SelectorPre alg (trialDiv n).1 ∧ bits (trialDiv n).1 ≤ fuel := by
  have hle : (trialDiv n).1 ≤ n := by
    by_cases h0 : n = 0
    · subst h0
      have h := (trialDiv_spec 0).1
      rcases Nat.mul_eq_zero.mp h with h1 | h1
      · have hmem : (0 : Nat) ∈ (trialDiv 0).2 := List.prod_eq_zero_iff.mp h1
        have := smallPrimes_ge_two 0 ((trialDiv_spec 0).2 0 hmem)
        omega
      · omega
    · exact trialDiv_cofactor_le h0
  exact ⟨hsel.mono hle, Nat.le_trans (bits_le_of_le hle) hfuel⟩

theorem factor_ok {o : Oracle σ} {fuel n : Nat} {alg : Algo} {os : σ} {l : List Nat}
    (h : factor o fuel n alg os = .ok l) :
    (n = 0 ∧ l = [0]) ∨
    (n ≠ 0 ∧ ∃ s', factorRun o fuel n alg os = .ok s' ∧ l = sortNat s'.factors ∧
      n % U = s'.factors.prod % U) := by
  rw [factor_eq] at h
  split at h
  · rename_i h0
    injection h with h
    exact Or.inl ⟨h0, h.symm⟩
  · rename_i h0
    split at h
    · exact absurd h (by simp)
    · split at h
      · exact absurd h (by simp)
      · exact absurd h (by simp)
      · rename_i s' hs'
        exact Or.inr ⟨h0, s', hs', checkFactors_ok h⟩

end Ymq.Factor
