/- The shared-store scheduling model (C04, C05) as a transition system: what one step does (`step_eq`), the rule for
invariants and the rule for measures along a schedule, the two measures, the completion flag, and the history of adds. -/
import Ymq.Model.Sched
import Mathlib.Tactic.Linarith
import Mathlib.Data.List.Basic

namespace Ymq.Sched
variable {ρ σ : Type}

/-- a scheduling choice is effective when the chosen worker still has an action to perform -/
def effective (c : Cfg ρ σ) (w : Nat) : Prop := ∃ a rest, c.pcs[w]? = some (a :: rest)

/-- where a worker standing before `a :: rest` goes on: it leaves at a poll answered `true` and at a flag read that
sees `done` set -/
def next (seen ab : Bool) : Act ρ → List (Act ρ) → List (Act ρ)
  | .poll, rest => if ab || seen then [] else rest
  | .check, rest => if seen then [] else rest
  | _, rest => rest

/-- what performing `a` does to the store, the history and the flag -/
def act (add : σ → ρ → σ) (enough : σ → Bool) (c : Cfg ρ σ) : Act ρ → Cfg ρ σ
  | .add r => { c with store := add c.store r, log := c.log ++ [r] }
  | .publish => { c with done := c.done || enough c.store }
  | _ => c

theorem step_eq (add : σ → ρ → σ) (enough : σ → Bool) {c : Cfg ρ σ} {w : Nat} {a : Act ρ} {rest : List (Act ρ)}
    (h : c.pcs[w]? = some (a :: rest)) (st ab : Bool) :
    step add enough c w st ab =
      { act add enough c a with pcs := setPc c.pcs w (next (c.done && !st) ab a rest) } := by
  unfold step
  rw [h]
  cases a <;> simp only [next, act] <;> split <;> rfl

theorem step_idle (add : σ → ρ → σ) (enough : σ → Bool) {c : Cfg ρ σ} {w : Nat} (h : ¬ effective c w) (st ab : Bool) :
    step add enough c w st ab = c := by
  unfold step
  split <;> first | rfl | exact absurd ⟨_, _, ‹_›⟩ h

theorem next_cases (seen ab : Bool) (a : Act ρ) (rest : List (Act ρ)) :
    next seen ab a rest = rest ∨ next seen ab a rest = [] := by
  cases a <;> simp only [next] <;> (try split) <;> simp

theorem next_suffix (seen ab : Bool) (a : Act ρ) (rest : List (Act ρ)) : next seen ab a rest <:+ a :: rest := by
  rcases next_cases seen ab a rest with h | h <;> rw [h]
  · exact List.suffix_cons _ _
  · exact List.nil_suffix

theorem length_next_lt (seen ab : Bool) (a : Act ρ) (rest : List (Act ρ)) :
    (next seen ab a rest).length < (a :: rest).length := by
  rcases next_cases seen ab a rest with h | h <;> rw [h] <;> simp

theorem untilPoll_next_lt (seen : Bool) (a : Act ρ) (rest : List (Act ρ)) :
    untilPoll (next seen true a rest) < untilPoll (a :: rest) := by
  cases a <;> simp only [next, untilPoll, Bool.true_or, if_true] <;> try split
  all_goals simp [untilPoll]

theorem run_induction (add : σ → ρ → σ) (enough : σ → Bool) (P : Cfg ρ σ → Prop)
    (hstep : ∀ c w st ab, P c → P (step add enough c w st ab)) :
    ∀ (sched : List (Nat × Bool × Bool)) (c : Cfg ρ σ), P c → P (run add enough c sched)
  | [], _, h => h
  | (w, st, ab) :: sched, c, h => run_induction add enough P hstep sched _ (hstep c w st ab h)

def allEffective (add : σ → ρ → σ) (enough : σ → Bool) : Cfg ρ σ → List (Nat × Bool × Bool) → Prop
  | _, [] => True
  | c, (w, st, ab) :: sched => effective c w ∧ allEffective add enough (step add enough c w st ab) sched

theorem run_measure (add : σ → ρ → σ) (enough : σ → Bool) (μ : Cfg ρ σ → Nat) (ok : Bool → Prop)
    (hstep : ∀ c w st ab, ok ab → effective c w → μ (step add enough c w st ab) < μ c) :
    ∀ (sched : List (Nat × Bool × Bool)) (c : Cfg ρ σ), allEffective add enough c sched → (∀ x ∈ sched, ok x.2.2) →
      sched.length + μ (run add enough c sched) ≤ μ c
  | [], _, _, _ => by simp [run]
  | (w, st, ab) :: sched, c, h, hok => by
    have := run_measure add enough μ ok hstep sched _ h.2 (fun x hx => hok x (List.mem_cons_of_mem _ hx))
    have := hstep c w st ab (hok _ List.mem_cons_self) h.1
    simp only [run, List.length_cons]
    omega

theorem sum_map_set {α : Type} (f : α → Nat) : ∀ (l : List α) (i : Nat) (a x : α), l[i]? = some a →
    ((l.set i x).map f).sum + f a = (l.map f).sum + f x
  | [], i, a, x, h => by simp at h
  | y :: ys, 0, a, x, h => by
    simp only [List.getElem?_cons_zero, Option.some.injEq] at h; subst h
    simp only [List.set_cons_zero, List.map_cons, List.sum_cons]; omega
  | y :: ys, i + 1, a, x, h => by
    have := sum_map_set f ys i a x (by simpa using h)
    simp only [List.set_cons_succ, List.map_cons, List.sum_cons]; omega

theorem sum_map_le_length_mul {α : Type} (f : α → Nat) (B : Nat) :
    ∀ xs : List α, (∀ x ∈ xs, f x ≤ B) → (xs.map f).sum ≤ xs.length * B
  | [], _ => by simp
  | x :: xs, h => by
    have h1 := h x List.mem_cons_self
    have h2 := sum_map_le_length_mul f B xs (fun y hy => h y (List.mem_cons_of_mem _ hy))
    simp only [List.map_cons, List.sum_cons, List.length_cons, Nat.add_mul]
    omega

theorem sum_setPc_lt (f : List (Act ρ) → Nat) {pcs : List (List (Act ρ))} {w : Nat}
    {old v : List (Act ρ)} (h : pcs[w]? = some old) (hv : f v < f old) :
    ((setPc pcs w v).map f).sum < (pcs.map f).sum := by
  have := sum_map_set f pcs w _ v h
  unfold setPc
  omega

theorem step_remaining (add : σ → ρ → σ) (enough : σ → Bool) (c : Cfg ρ σ) (w : Nat) (st ab : Bool) :
    remaining (step add enough c w st ab) ≤ remaining c ∧
    (effective c w → remaining (step add enough c w st ab) < remaining c) := by
  by_cases he : effective c w
  · obtain ⟨a, rest, h⟩ := he
    have : remaining (step add enough c w st ab) < remaining c := by
      rw [step_eq add enough h]
      exact sum_setPc_lt List.length h (length_next_lt _ _ _ _)
    exact ⟨Nat.le_of_lt this, fun _ => this⟩
  · rw [step_idle add enough he]; exact ⟨Nat.le_refl _, fun h => absurd h he⟩

/-- progress: unless every worker has finished, some worker can take an effective step
(no action ever blocks on another worker) -/
theorem progress (c : Cfg ρ σ) (h : finished c = false) : ∃ w, effective c w := by
  unfold finished at h
  rw [List.all_eq_false] at h
  obtain ⟨l, hl, hne⟩ := h
  obtain ⟨w, hw, rfl⟩ := List.getElem_of_mem hl
  refine ⟨w, ?_⟩
  cases hcw : c.pcs[w] with
  | nil => simp [hcw] at hne
  | cons a rest => exact ⟨a, rest, by rw [List.getElem?_eq_getElem hw, hcw]⟩

theorem step_abortBudget (add : σ → ρ → σ) (enough : σ → Bool) (c : Cfg ρ σ) (w : Nat) (st : Bool)
    (h : effective c w) :
    abortBudget (step add enough c w st true) < abortBudget c := by
  obtain ⟨a, rest, ha⟩ := h
  rw [step_eq add enough ha]
  exact sum_setPc_lt untilPoll ha (untilPoll_next_lt _ _ _)

def allAbort : List (Nat × Bool × Bool) → Prop
  | [] => True
  | (_, _, ab) :: sched => ab = true ∧ allAbort sched

theorem allAbort_iff : ∀ sched : List (Nat × Bool × Bool), allAbort sched ↔ ∀ x ∈ sched, x.2.2 = true
  | [] => by simp [allAbort]
  | (_, _, ab) :: sched => by simp [allAbort, allAbort_iff sched]

theorem abort_steps_bounded (add : σ → ρ → σ) (enough : σ → Bool) (sched : List (Nat × Bool × Bool)) (c : Cfg ρ σ)
    (heff : allEffective add enough c sched) (hab : allAbort sched) :
    sched.length + abortBudget (run add enough c sched) ≤ abortBudget c :=
  run_measure add enough abortBudget (· = true) (fun c w st _ hab he => hab ▸ step_abortBudget add enough c w st he)
    sched c heff ((allAbort_iff sched).1 hab)

theorem untilPoll_append_le (a b : List (Act ρ)) : untilPoll (a ++ b) ≤ a.length + untilPoll b := by
  induction a with
  | nil => simp
  | cons x xs ih => cases x <;> simp [untilPoll] <;> omega

theorem untilPoll_le_length (l : List (Act ρ)) : untilPoll l ≤ l.length := by
  simpa [untilPoll] using untilPoll_append_le l []

theorem abortBudget_init_le (s0 : σ) (progs : List (List (List ρ))) :
    abortBudget (init s0 progs) ≤ progs.length := by
  have := sum_map_le_length_mul untilPoll 1 (progs.map compile) (by
    intro l hl
    obtain ⟨p, _, rfl⟩ := List.mem_map.1 hl
    cases p <;> simp [compile, untilPoll])
  simpa [abortBudget, init] using this

/-- the completion flag is only ever set after the store was seen complete: if completeness survives adds,
a set flag implies a complete store -/
theorem run_done_enough (add : σ → ρ → σ) (enough : σ → Bool)
    (hmono : ∀ s r, enough s = true → enough (add s r) = true) (sched : List (Nat × Bool × Bool)) (c : Cfg ρ σ)
    (h : c.done = true → enough c.store = true) :
    (run add enough c sched).done = true → enough (run add enough c sched).store = true :=
  run_induction add enough (fun c => c.done = true → enough c.store = true) (fun c w st ab h => by
    by_cases he : effective c w
    · obtain ⟨a, rest, ha⟩ := he
      rw [step_eq add enough ha]
      cases a <;> simp only [act] <;> try exact h
      · exact fun hd => hmono _ _ (h hd)
      · intro hd; rcases Bool.or_eq_true _ _ ▸ hd with hd | hd
        · exact h hd
        · exact hd
    · rw [step_idle add enough he]; exact h) sched c h

theorem mem_pendingAdds {r : ρ} : ∀ {l : List (Act ρ)}, r ∈ pendingAdds l ↔ Act.add r ∈ l
  | [] => by simp [pendingAdds]
  | a :: l => by cases a <;> simp [pendingAdds, mem_pendingAdds (l := l)]

/-- The store is the sequential replay of the linearised history, and everything in the history has a property `G`
that holds of all the workers may still add — for EVERY schedule and every pattern of stale flag reads. Where a
relation comes from is one such `G`. -/
theorem run_log (add : σ → ρ → σ) (enough : σ → Bool) (s0 : σ) (G : ρ → Prop) (sched : List (Nat × Bool × Bool))
    (c : Cfg ρ σ) (h1 : c.store = c.log.foldl add s0) (h2 : ∀ r ∈ c.log, G r)
    (h3 : ∀ l ∈ c.pcs, ∀ r ∈ pendingAdds l, G r) :
    (run add enough c sched).store = (run add enough c sched).log.foldl add s0 ∧
      ∀ r ∈ (run add enough c sched).log, G r := by
  have := run_induction add enough
    (fun c => c.store = c.log.foldl add s0 ∧ (∀ r ∈ c.log, G r) ∧ ∀ l ∈ c.pcs, ∀ r ∈ pendingAdds l, G r)
    (fun c w st ab ⟨h1, h2, h3⟩ => by
      by_cases he : effective c w
      · obtain ⟨a, rest, h⟩ := he
        rw [step_eq add enough h]
        have hl := h3 _ (List.mem_of_getElem? h)
        refine ⟨?_, ?_, ?_⟩
        · cases a <;> simp [act, h1, List.foldl_append]
        · cases a <;> simp only [act] <;> try exact h2
          intro r hr
          rcases List.mem_append.1 hr with hr | hr
          · exact h2 r hr
          · exact hl r (by simp [pendingAdds, List.mem_singleton.1 hr])
        · intro l hl' r hr
          rcases List.mem_or_eq_of_mem_set hl' with hl' | rfl
          · exact h3 l hl' r hr
          · exact hl r (mem_pendingAdds.2 ((next_suffix _ _ _ _).subset (mem_pendingAdds.1 hr)))
      · rw [step_idle add enough he]; exact ⟨h1, h2, h3⟩) sched c ⟨h1, h2, h3⟩
  exact ⟨this.1, this.2.1⟩

theorem foldl_inv (add : σ → ρ → σ) (Inv : σ → Prop) (Good : ρ → Prop) (hadd : ∀ s r, Inv s → Good r → Inv (add s r)) :
    ∀ (l : List ρ) (s : σ), Inv s → (∀ r ∈ l, Good r) → Inv (l.foldl add s)
  | [], _, h, _ => h
  | x :: xs, s, h, hg =>
    foldl_inv add Inv Good hadd xs _ (hadd s x h (hg x List.mem_cons_self)) (fun r hr => hg r (List.mem_cons_of_mem _ hr))

/-- From an empty history: `Good` is what `add` needs to keep `Inv`; `G` is any further fact about the pending relations
(where they come from), which plays no part in `Inv` and is only carried into the history. -/
theorem run_fresh (add : σ → ρ → σ) (enough : σ → Bool) (Inv : σ → Prop) (Good : ρ → Prop)
    (hadd : ∀ s r, Inv s → Good r → Inv (add s r)) (G : ρ → Prop) (c : Cfg ρ σ) (hlog : c.log = []) (h0 : Inv c.store)
    (hG : ∀ l ∈ c.pcs, ∀ r ∈ pendingAdds l, Good r ∧ G r) (sched : List (Nat × Bool × Bool)) :
    let c' := run add enough c sched
    c'.store = c'.log.foldl add c.store ∧ Inv c'.store ∧ (∀ r ∈ c'.log, Good r) ∧ ∀ r ∈ c'.log, G r := by
  obtain ⟨h1, h2⟩ := run_log add enough c.store (fun r => Good r ∧ G r) sched c (by simp [hlog]) (by simp [hlog]) hG
  exact ⟨h1, h1 ▸ foldl_inv add Inv Good hadd _ _ h0 (fun r hr => (h2 r hr).1), fun r hr => (h2 r hr).1,
    fun r hr => (h2 r hr).2⟩

theorem pendingAdds_append (a b : List (Act ρ)) :
    pendingAdds (a ++ b) = pendingAdds a ++ pendingAdds b := by
  induction a with
  | nil => rfl
  | cons x xs ih => cases x <;> simp [pendingAdds, ih]

theorem pendingAdds_map_add (rs : List ρ) : pendingAdds (rs.map Act.add) = rs := by
  induction rs with
  | nil => rfl
  | cons x xs ih => simp [pendingAdds, ih]

theorem pendingAdds_compile (prog : List (List ρ)) : pendingAdds (compile prog) = prog.flatten := by
  induction prog with
  | nil => rfl
  | cons u us ih => simp [compile, pendingAdds, pendingAdds_append, pendingAdds_map_add, ih]

theorem foldl_snoc (l : List ρ) : ∀ s : List ρ, l.foldl (fun s r => s ++ [r]) s = s ++ l := by
  induction l with
  | nil => intro s; simp
  | cons x xs ih => intro s; simp [List.foldl_cons, ih]

end Ymq.Sched
