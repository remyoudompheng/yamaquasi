/-
C14: the final stage of `kernel_lanczos` (`lanczosFinal_spec`): for every
block `Y`, every vector kept by the final stage is non-zero and annihilated by `B`, because
`B·(Y·k) = (B·Y)·k` (`mul_assoc_bit`) and `k` is in the kernel of the bit columns of `B·Y` (`kernelGauss_mem`).
-/
import Ymq.Lemmas.Gf2Gauss
import Ymq.Lemmas.Gf2Sparse
namespace Ymq.Gf2

theorem rect_byBits (blk : List Nat) : Rect blk.length (byBits blk) := by
  intro c hc
  simp only [byBits, List.mem_map] at hc
  obtain ⟨j, _, rfl⟩ := hc
  simp

theorem length_byBits (blk : List Nat) : (byBits blk).length = 64 := by simp [byBits]

theorem mem_swapRemove {α} (l : List α) (i : Nat) (a : α) (h : a ∈ swapRemove l i) : a ∈ l := by
  unfold swapRemove at h
  cases hl : l.getLast? with
  | none => rw [hl] at h; exact h
  | some last =>
    rw [hl] at h
    rcases List.mem_or_eq_of_mem_set h with h | rfl
    · exact List.dropLast_subset l h
    · exact List.mem_of_getLast? hl

theorem length_swapRemove {α} (l : List α) (i : Nat) (h : l ≠ []) : (swapRemove l i).length = l.length - 1 := by
  unfold swapRemove
  cases hl : l.getLast? with
  | none => simp [List.getLast?_eq_none_iff] at hl; exact absurd hl h
  | some last => simp

theorem getElem_swapRemove {α} (l : List α) (i idx : Nat) (hidx : idx < l.length - 1)
    (h2 : idx < (swapRemove l i).length) :
    (swapRemove l i)[idx] = if idx = i then l[l.length - 1]'(by omega) else l[idx]'(by omega) := by
  have hne : l ≠ [] := by intro h; subst h; simp at hidx
  have hlast : l.getLast? = some (l[l.length - 1]'(by omega)) := by
    rw [List.getLast?_eq_getElem?]
    exact List.getElem?_eq_getElem (by omega)
  simp only [swapRemove, hlast] at h2 ⊢
  rw [List.getElem_set]
  split
  · rename_i he; simp [he]
  · rename_i he
    have : ¬ idx = i := fun h => he h.symm
    simp [this]

theorem popNull_spec (n : Nat) (basis : List BVec) (hn : n ≤ basis.length)
    (h : ∀ idx (hi : idx < basis.length), n ≤ idx → isZero basis[idx] = false) :
    ∀ v ∈ popNull n basis, v ∈ basis ∧ isZero v = false := by
  induction n generalizing basis with
  | zero =>
    intro v hv
    simp only [popNull] at hv
    obtain ⟨idx, hi, rfl⟩ := List.getElem_of_mem hv
    exact ⟨hv, h idx hi (by omega)⟩
  | succ n ih =>
    intro v hv
    have hnl : n < basis.length := by omega
    simp only [popNull, List.getElem?_eq_getElem hnl] at hv
    split at hv
    · rename_i hz
      have hne : basis ≠ [] := by intro h; subst h; simp at hnl
      have hlen := length_swapRemove basis n hne
      have := ih (swapRemove basis n) (by omega) (fun idx hi hge => by
        rw [hlen] at hi
        rw [getElem_swapRemove basis n idx hi (by omega)]
        split
        · exact h _ (by omega) (by omega)
        · exact h idx (by omega) (by omega)) v hv
      exact ⟨mem_swapRemove _ _ _ this.1, this.2⟩
    · rename_i hz
      exact ih basis (by omega) (fun idx hi hge => by
        by_cases he : idx = n
        · subst he; simpa using hz
        · exact h idx hi (by omega)) v hv


theorem rect_denseOfSparse (k : Nat) (cols : List (List Nat)) : Rect k (denseOfSparse k cols) := by
  intro c hc
  simp only [denseOfSparse, List.mem_map] at hc
  obtain ⟨col, _, rfl⟩ := hc
  simp

/-- `B·(Y·kv) = (B·Y)·kv`, row `i`: both are the double sum over the columns `j` and the bits `t` of
`kv[t]·B[i,j]·Y[j][t]` -/
theorem mul_assoc_bit (k : Nat) (cols : List (List Nat)) (y : List Nat) (kv : BVec) (i : Nat)
    (hy : y.length = cols.length) :
    bitAt (mulVec k (denseOfSparse k cols) (y.map (fun w => dotBits w kv))) i =
      (decide (i < k) && xsum ((List.range kv.length).map (fun t =>
        (bitAt kv t && prodBitFrom y.toArray i t 0 cols)))) := by
  rw [bitAt_mulVec _ _ _ (rect_denseOfSparse k cols), ← xsum_map_and]
  simp only [prodBitFrom_eq, ← xsum_map_and, Nat.zero_add]
  rw [xsum_comm]
  simp only [denseOfSparse, List.length_map]
  apply xsum_map_congr
  intro j hj
  have hj' : j < cols.length := List.mem_range.mp hj
  have hc : cell y.toArray j = y.getD j 0 := by simp [cell, List.getD]
  have hd : (cols.map (fun col => (List.range k).map (colParity col))).getD j [] =
      (List.range k).map (colParity (cols.getD j [])) := by
    simp [List.getD, hj']
  rw [bitAt_map y _ 0 j (by omega), dotBits_eq, hd, bitAt_map_range, hc, Bool.and_comm, ← xsum_map_and]
  apply xsum_map_congr
  intro t _
  cases decide (i < k) <;> cases bitAt kv t <;> cases (y.getD j 0).testBit t <;> simp

theorem bitAt_mulVec_byBits (blk : List Nat) (kv : BVec) (i : Nat) (hkv : kv.length = 64) :
    bitAt (mulVec blk.length (byBits blk) kv) i =
      xsum ((List.range kv.length).map (fun t => (bitAt kv t && (blk.getD i 0).testBit t))) := by
  rw [bitAt_mulVec _ _ _ (rect_byBits blk), length_byBits, hkv]
  apply xsum_map_congr
  intro t ht
  have ht' : t < 64 := List.mem_range.mp ht
  congr 1
  simp only [byBits, List.getD_eq_getElem?_getD, List.getElem?_map, List.getElem?_range ht', Option.map_some,
    Option.getD_some, bitAt]
  cases blk[i]? <;> simp

/-- Final stage of `kernel_lanczos`, for every block `y`. -/
theorem lanczosFinal_spec (k : Nat) (cols : List (List Nat)) (y : List Nat) (basis : List BVec)
    (hk : k ≤ U32) (hn : cols.length ≤ U32) (hwf : ∀ col ∈ cols, ∀ a ∈ col, a < k)
    (h : lanczosFinal k cols y = some basis) :
    ∀ v ∈ basis, v.length = cols.length ∧ isZero v = false ∧
      mulVec k (denseOfSparse k cols) v = List.replicate k false := by
  unfold lanczosFinal at h
  cases ho : optMul (qsOptimize k cols) y with
  | none => simp [ho] at h
  | some blk =>
    obtain ⟨hy, hk64⟩ := optMul_some_inv k cols y blk ho
    obtain ⟨blk', ho', hlen, hbits⟩ := optMul_spec k cols y hk64 hk hn hy hwf
    rw [ho] at ho'
    injection ho' with ho'
    subst ho'
    cases hg : kernelGauss (byBits blk) with
    | none => simp [ho, hg] at h
    | some ker =>
      simp only [ho, hg, Option.some.injEq] at h
      subst h
      intro v hv
      obtain ⟨hvm, hvz⟩ := popNull_spec ker.length (ker.map (fun kv => y.map (fun w => dotBits w kv)))
        (by simp) (fun idx hi hge => by simp at hi; omega) v hv
      obtain ⟨kv, hkv, rfl⟩ := List.mem_map.mp hvm
      refine ⟨by simp [hy], hvz, ?_⟩
      obtain ⟨hkl, hker, _⟩ := kernelGauss_mem (rect_byBits blk) hg kv hkv
      rw [length_byBits] at hkl
      apply bvec_ext
      · rw [length_mulVec _ _ _ (rect_denseOfSparse k cols)]; simp
      · intro i
        rw [bitAt_replicate_false, mul_assoc_bit k cols y kv i hy]
        by_cases hik : i < k
        · -- row `i` of `B·Y` is orthogonal to `kv`
          have := bitAt_mulVec_byBits blk kv i hkl
          rw [hker, bitAt_replicate_false] at this
          rw [this, decide_eq_true hik, Bool.true_and]
          exact xsum_map_congr (fun t _ => by rw [hbits i t, decide_eq_true hik, Bool.true_and])
        · simp [hik]

end Ymq.Gf2
