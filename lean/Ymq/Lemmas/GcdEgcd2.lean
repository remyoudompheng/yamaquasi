/- `Integer::extended_gcd` on i64 never overflows for `0 < Y <= X < 2^63`, and returns the gcd with Bezout
cofactors bounded by the operands, with the classical half-size bound (`2 |s| <= Y`, `2 |t| <= X` unless
`X = Y`) from the last quotient being at least 2. -/
import Ymq.Lemmas.GcdReduceInv

namespace Ymq.Gcd

theorem egcdLoop_exit (f : Nat) (r1 s0 s1 t0 t1 : Int) (h : 0 ≤ r1) :
    egcdLoop (f + 1) 0 r1 s0 s1 t0 t1 = some (r1, s1, t1) := by
  simp [egcdLoop, h]

theorem egcdLoop_step (f : Nat) (r0 r1 s0 s1 t0 t1 q : Int) (h0 : r0 ≠ 0)
    (hq : chkI64 (r1.tdiv r0) = some q)
    (h1 : chkI64 (q * r0) = some (q * r0)) (h2 : chkI64 (q * s0) = some (q * s0))
    (h3 : chkI64 (q * t0) = some (q * t0)) (h4 : chkI64 (r1 - q * r0) = some (r1 - q * r0))
    (h5 : chkI64 (s1 - q * s0) = some (s1 - q * s0)) (h6 : chkI64 (t1 - q * t0) = some (t1 - q * t0)) :
    egcdLoop (f + 1) r0 r1 s0 s1 t0 t1 = egcdLoop f (r1 - q * r0) r0 (s1 - q * s0) s0 (t1 - q * t0) t0 := by
  simp [egcdLoop, h0, hq, h1, h2, h3, h4, h5, h6]

/-- one column of cofactors in a Euclid step: signs alternate, `|s0| r1 + |s1| r0` is invariant -/
theorem egcd_col {s0 s1 : Int} {a r q Z : Nat} {b : Int} (hb : b = a * q + r) (ha : 0 < a)
    (hs : s0 * s1 ≤ 0) (es : |s0| * b + |s1| * a = Z) :
    (s1 - q * s0) * s0 ≤ 0 ∧ |s1 - q * s0| * a + |s0| * r = Z ∧ |s1 - q * s0| ≤ Z ∧
    |(q : Int) * s0| ≤ Z ∧ |s1 - q * s0| = q * |s0| + |s1| := by
  have hqI : (0 : Int) ≤ q := Int.natCast_nonneg _
  have hrI : (0 : Int) ≤ r := Int.natCast_nonneg _
  have haI : (1 : Int) ≤ a := by exact_mod_cast ha
  have es' : |s1 - q * s0| = q * |s0| + |s1| := by
    rw [abs_sub_comm]; exact abs_mul_sub_opp hqI (by linarith [mul_comm s0 s1])
  have hs0n := abs_nonneg s0
  have hs1n := abs_nonneg s1
  have ids : |s1 - q * s0| * a + |s0| * r = Z := by
    rw [es', ← es, hb]; ring
  have h1 : 0 ≤ |s0| * r := mul_nonneg hs0n hrI
  have h2 : |s1 - q * s0| ≤ |s1 - q * s0| * a := le_mul_of_one_le_right (abs_nonneg _) haI
  have bs' : |s1 - q * s0| ≤ Z := by linarith
  have hsign : (s1 - q * s0) * s0 ≤ 0 := by
    have : 0 ≤ q * (s0 * s0) := mul_nonneg hqI (mul_self_nonneg s0)
    linarith [mul_comm s0 s1]
  refine ⟨hsign, ids, bs', ?_, es'⟩
  rw [abs_mul, abs_of_nonneg hqI]; linarith

-- 9223372036854775808 = 2^63
theorem chkI64_of_abs {z : Int} {X : Nat} (hX : X < 9223372036854775808) (h : |z| ≤ X) :
    chkI64 z = some z := by
  have hI : I63 = 9223372036854775808 := rfl
  have := abs_le.1 h
  exact chkI64_of_range (by rw [hI]; omega) (by rw [hI]; omega)

/-- the loop from the state `(r0, r1) = (a, b)`, cofactors `(s0, s1)`, `(t0, t1)`. Beside the classical column facts
(signs alternate, `|s0| b + |s1| a = Y`, `|t0| b + |t1| a = X`) two hypotheses carry the half-size bound: `a < b` except
in the start state of `X = Y` (the only state with `a = b`), so that the last quotient is at least 2; and `a = 0 → ..`
states the bound as it will hold when the loop stops. Fuel: `a * b < 2^f` halves with every step. -/
theorem egcdLoop_total (X Y : Nat) (hX : X < 9223372036854775808) (hYX : Y ≤ X) :
    ∀ (f a b : Nat) (s0 s1 t0 t1 : Int), a ≤ b → b ≤ X →
    s0 * s1 ≤ 0 → t0 * t1 ≤ 0 → |s0| * b + |s1| * a = Y → |t0| * b + |t1| * a = X →
    |s0| ≤ Y → |s1| ≤ Y → |t0| ≤ X → |t1| ≤ X → a * b < 2 ^ f →
    (a < b ∨ (|s0| ≤ |s1| ∧ X = Y ∧ |t0| ≤ 1)) →
    (a = 0 → 2 * |s1| ≤ |s0| ∧ (2 * |t1| ≤ |t0| ∨ (X = Y ∧ |t1| ≤ 1))) →
    (a : Int) = s0 * X + t0 * Y → (b : Int) = s1 * X + t1 * Y →
    ∃ g s t, egcdLoop (f + 1) a b s0 s1 t0 t1 = some (g, s, t) ∧ g = s * X + t * Y ∧
      g = (Nat.gcd a b : Int) ∧ |s| ≤ Y ∧ |t| ≤ X ∧
      2 * |s| ≤ Y ∧ (2 * |t| ≤ X ∨ (X = Y ∧ |t| ≤ 1)) := by
  intro f
  induction f with
  | zero =>
    intro a b s0 s1 t0 t1 hab hbX _ _ _ _ bs0 hs1 bt0 ht1 hm _ hfin _ e1
    have ha : a = 0 := by
      have : a * b = 0 := by simpa using hm
      rcases Nat.mul_eq_zero.1 this with h | h <;> omega
    obtain ⟨f1, f2⟩ := hfin ha
    subst ha
    refine ⟨_, _, _, egcdLoop_exit 0 _ _ _ _ _ (Int.natCast_nonneg b), e1, by rw [Nat.gcd_zero_left], hs1, ht1, by linarith, ?_⟩
    rcases f2 with f2 | f2
    · left; linarith
    · right; exact f2
  | succ f ih =>
    intro a b s0 s1 t0 t1 hab hbX hs ht es et bs0 bs1 bt0 bt1 hm hK hfin
    by_cases ha : a = 0
    · obtain ⟨f1, f2⟩ := hfin ha
      subst ha
      refine fun _ e1 => ⟨_, _, _, egcdLoop_exit _ _ _ _ _ _ (Int.natCast_nonneg b), e1, by rw [Nat.gcd_zero_left], bs1, bt1, by linarith, ?_⟩
      rcases f2 with f2 | f2
      · left; linarith
      · right; exact f2
    · have hapos : 0 < a := Nat.pos_of_ne_zero ha
      have hdm := Nat.div_add_mod b a
      have hmod := two_mod_le hapos hab
      have hrlt : b % a < a := Nat.mod_lt _ hapos
      have hqle : b / a ≤ b := Nat.div_le_self _ _
      have hq1 : 1 ≤ b / a := (Nat.le_div_iff_mul_le hapos).2 (by omega)
      have hq2 : a < b → b % a = 0 → 2 ≤ b / a := by
        intro hlt hr0
        by_contra hq
        have : b / a = 1 := by omega
        rw [this, hr0] at hdm
        omega
      have etd : (b : Int).tdiv a = ((b / a : Nat) : Int) := (Int.ofNat_tdiv b a).symm
      generalize b / a = q at *
      generalize b % a = r at *
      have hbI : (b : Int) = a * q + r := by exact_mod_cast hdm.symm
      obtain ⟨k1, k2, k3, k4, k5⟩ := egcd_col hbI hapos hs es
      obtain ⟨l1, l2, l3, l4, l5⟩ := egcd_col hbI hapos ht et
      have hYI : (Y : Int) ≤ X := by omega
      have hrem : (b : Int) - q * a = r := by rw [hbI]; ring
      have hqaN : q * a ≤ b := by rw [Nat.mul_comm]; omega
      have c0 : chkI64 ((b : Int).tdiv a) = some (q : Int) := by
        rw [etd]; exact chkI64_of_abs hX (by rw [abs_of_nonneg (Int.natCast_nonneg q)]; omega)
      have c1 : chkI64 ((q : Int) * a) = some ((q : Int) * a) := by
        have e : (q : Int) * a = ((q * a : Nat) : Int) := by push_cast; ring
        rw [e]; exact chkI64_of_abs hX (by rw [abs_of_nonneg (Int.natCast_nonneg _)]; omega)
      have c2 := chkI64_of_abs hX (le_trans k4 hYI)
      have c3 := chkI64_of_abs hX l4
      have c4 : chkI64 ((b : Int) - q * a) = some ((b : Int) - q * a) := by
        rw [hrem]; exact chkI64_of_abs hX (by rw [abs_of_nonneg (Int.natCast_nonneg r)]; omega)
      have c5 := chkI64_of_abs hX (le_trans k3 hYI)
      have c6 := chkI64_of_abs hX l3
      have ha0 : (a : Int) ≠ 0 := by omega
      have hg : Nat.gcd r a = Nat.gcd a b := by rw [← hdm, Nat.gcd_comm a, Nat.gcd_mul_left_add_left]
      rw [egcdLoop_step (f + 1) a b s0 s1 t0 t1 q ha0 c0 c1 c2 c3 c4 c5 c6, hrem, ← hg]
      clear hg
      refine fun e0 e1 => ih r a (s1 - q * s0) s0 (t1 - q * t0) t0 (by omega) (by omega)
        k1 l1 k2 l2 k3 bs0 l3 bt0 ?_ (Or.inl hrlt) ?_ (by rw [← hrem, e0, e1]; ring) e0
      · have e : 2 ^ (f + 1) = 2 ^ f * 2 := Nat.pow_succ _ _
        rw [e] at hm
        have : 2 * (r * a) ≤ a * b := by
          calc 2 * (r * a) = a * (2 * r) := by ring
            _ ≤ a * b := Nat.mul_le_mul_left _ hmod
        omega
      · intro hr0
        have hs0n := abs_nonneg s0
        have hs1n := abs_nonneg s1
        have ht0n := abs_nonneg t0
        have ht1n := abs_nonneg t1
        rw [k5, l5]
        rcases hK with hlt | ⟨hss, hXY, ht01⟩
        · have hq2' : (2 : Int) ≤ q := by exact_mod_cast hq2 hlt hr0
          exact ⟨le_add_of_le_of_nonneg (mul_le_mul_of_nonneg_right hq2' hs0n) hs1n,
            Or.inl (le_add_of_le_of_nonneg (mul_le_mul_of_nonneg_right hq2' ht0n) ht1n)⟩
        · have hq1' : (1 : Int) ≤ q := by exact_mod_cast hq1
          rw [two_mul]
          exact ⟨add_le_add (le_mul_of_one_le_left hs0n hq1') hss, Or.inr ⟨hXY, ht01⟩⟩

theorem egcdI64_total {X Y : Nat} (hX : X < 9223372036854775808) (hY : 0 < Y) (hYX : Y ≤ X) :
    ∃ g s t, egcdI64 X Y = some (g, s, t) ∧ g = s * X + t * Y ∧ g = (Nat.gcd X Y : Int) ∧
      |s| ≤ Y ∧ |t| ≤ X ∧ 2 * |s| ≤ Y ∧ (2 * |t| ≤ X ∨ (X = Y ∧ |t| ≤ 1)) := by
  -- `egcdFuel = 200`: the product of the two remainders, below `2^126` at the start, at least halves with every step
  have hm : Y * X < 2 ^ 199 := by
    have h1 : Y * X < 2 ^ 63 * 2 ^ 63 :=
      Nat.mul_lt_mul_of_lt_of_le (by omega) (by omega) (by norm_num)
    have h2 : (2 : Nat) ^ 63 * 2 ^ 63 ≤ 2 ^ 199 := by norm_num
    omega
  rw [Nat.gcd_comm]
  exact egcdLoop_total X Y hX hYX 199 Y X 0 1 1 0 hYX (Nat.le_refl _) (by simp) (by simp)
    (by simp) (by simp) (by simp) (by simp; omega) (by simp; omega) (by simp) hm
    (by rcases Nat.lt_or_ge Y X with h | h
        · exact Or.inl h
        · exact Or.inr ⟨by simp, by omega, by simp⟩)
    (fun h0 => by omega) (by simp) (by simp)

end Ymq.Gcd
