/-
C14 "small", helper lemmas (Mathlib): base case of `VInv` and the unconditional loop-level
statements for the checked profile, over `Reach` (`LInv` and `VInv` with their ghost histories hidden).
-/
import Ymq.Lemmas.Gf2SmallVStep

namespace Ymq.Gf2Small
open Ymq.Gf2 Ymq.Gf2Genblock Ymq.Gf2Lanczos
open scoped Matrix

theorem lanczosInit_shape {dbg : Bool} {b : SparseOpt} {Y0 ay : List Nat} {st : LState}
    (h : lanczosInit dbg b Y0 = some (st, ay)) :
    ∃ ginv y, st = LState.mk [ay] [ay] [ginv] [M64] y := by
  unfold lanczosInit at h
  split at h
  · cases h
  split at h
  · cases h
  split at h
  · cases h
  split at h
  · rename_i ginv _
    split at h
    · cases h
    split at h
    · cases h
    · rename_i y _
      simp only [Option.some.injEq, Prod.mk.injEq] at h
      obtain ⟨h1, h2⟩ := h
      subst h2
      exact ⟨ginv, y, h1.symm⟩
  · cases h

theorem lanczosInit_vinv {k : Nat} {cols : List (List Nat)} (hM : MatOK k cols) (hn0 : 0 < cols.length)
    (dbg : Bool) {Y0 ay : List Nat} {st : LState} (hY0 : BlockOK cols.length Y0)
    (h : lanczosInit dbg (qsOptimize k cols) Y0 = some (st, ay)) :
    VInv k cols st [ay] [ay] [M64] := by
  have hayOK := (lanczosInit_wf hM dbg hY0 h).2
  obtain ⟨ginv, y, rfl⟩ := lanczosInit_shape h
  exact {
    lenVh := rfl
    lastW := rfl
    lastV := rfl
    wvLast := by
      show CM cols.length ay = CM cols.length ay * projS M64
      rw [projS_M64, Matrix.mul_one]
    vOrth := fun l hl => by simp at hl
    recur := fun j hj => by simp at hj
    cc := fun m hm X _ _ => by
      have : m = 0 := by simp at hm; omega
      subst this; rfl
    dd := fun m hm X _ _ => by
      have : m = 0 := by simp at hm; omega
      subst this
      show _ * (1 - projS (pc [M64] 0 0)) = 0
      rw [pc_self, projS_M64, sub_self, Matrix.mul_zero]
    masksRel := fun l h1 h2 => by simp at h2; omega
    purged := fun j w hjw he => by
      exfalso
      have hj0 : j = 0 := by
        have := (List.getElem?_eq_some_iff.mp hjw).1
        simp at this; omega
      subst hj0
      simp only [List.getElem?_cons_zero, Option.some.injEq] at hjw
      subst hjw
      have := hayOK.1
      cases hw : ay with
      | nil => rw [hw] at this; simp at this; omega
      | cons a l => rw [hw] at he; simp at he }

/-- the invariants `LInv` and `VInv` with their ghost histories hidden -/
def Reach (k : Nat) (cols : List (List Nat)) (Y0 : List Nat) (st : LState) : Prop :=
  ∃ hist vhist Ss, LInv k cols Y0 st hist Ss ∧ VInv k cols st hist vhist Ss

theorem lanczosInit_reach {k : Nat} {cols : List (List Nat)} (hM : MatOK k cols) (hn0 : 0 < cols.length)
    (dbg : Bool) {Y0 ay : List Nat} {st : LState} (hY0 : BlockOK cols.length Y0)
    (h : lanczosInit dbg (qsOptimize k cols) Y0 = some (st, ay)) : Reach k cols Y0 st :=
  ⟨_, _, _, (lanczosInit_inv hM dbg hY0 h).2, lanczosInit_vinv hM hn0 dbg hY0 h⟩

theorem Reach.linv {k : Nat} {cols : List (List Nat)} {Y0 : List Nat} {st : LState} (h : Reach k cols Y0 st) :
    ∃ hist Ss, LInv k cols Y0 st hist Ss :=
  let ⟨hist, _, Ss, hI, _⟩ := h
  ⟨hist, Ss, hI⟩

theorem Reach.step {k : Nat} {cols : List (List Nat)} (hM : MatOK k cols) (hn0 : 0 < cols.length)
    {Y0 ay : List Nat} (hay : mulAabOpt (qsOptimize k cols) Y0 = some ay) (hayOK : BlockOK cols.length ay)
    {st : LState} (h : Reach k cols Y0 st) :
    (∃ st', lanczosStep true (qsOptimize k cols) ay st = .finished st' ∧
      ∀ fuel acc, lanczosLoop true (qsOptimize k cols) ay (fuel + 1) st acc ≠ none) ∨
    (∃ st' mk, lanczosStep true (qsOptimize k cols) ay st = .continue st' mk ∧ Reach k cols Y0 st') := by
  obtain ⟨hist, vhist, Ss, hInv, hV⟩ := h
  rcases lanczosStep_checked_of_VInv hM hay hayOK hInv hV with
    ⟨st', hs, hy, hsub⟩ | ⟨st', mk, w, hs, hInv', next, next0, hF⟩
  · exact Or.inl ⟨st', hs, lanczosLoop_finished hM hInv hs hy hsub⟩
  · exact Or.inr ⟨st', mk, hs, _, _, _, hInv', VInv_step hM hn0 hInv hV hF⟩

theorem lanczosLoop_checked {k : Nat} {cols : List (List Nat)} (hM : MatOK k cols) (hn0 : 0 < cols.length)
    {Y0 ay : List Nat} (hay : mulAabOpt (qsOptimize k cols) Y0 = some ay) (hayOK : BlockOK cols.length ay)
    (fuel : Nat) (st : LState) (acc : List (Nat × List Nat × List Nat)) (h : Reach k cols Y0 st)
    (hnone : lanczosLoop true (qsOptimize k cols) ay fuel st acc = none) :
    ∃ st', IterN true (qsOptimize k cols) ay fuel st st' :=
  lanczosLoop_rule (Reach k cols Y0) (fun _ h => h.step hM hn0 hay hayOK) fuel st acc h hnone

theorem IterN_reach {k : Nat} {cols : List (List Nat)} (hM : MatOK k cols) (hn0 : 0 < cols.length)
    {Y0 ay : List Nat} (hay : mulAabOpt (qsOptimize k cols) Y0 = some ay) (hayOK : BlockOK cols.length ay)
    {n : Nat} {st st' : LState} (hit : IterN true (qsOptimize k cols) ay n st st') (h : Reach k cols Y0 st) :
    Reach k cols Y0 st' :=
  hit.inv (Reach k cols Y0) (fun st st1 mk h hs => by
    rcases h.step hM hn0 hay hayOK with ⟨st2, hs2, _⟩ | ⟨st2, mk2, hs2, h2⟩
    · rw [hs2] at hs; cases hs
    · rw [hs2] at hs; cases hs; exact h2) h

end Ymq.Gf2Small
