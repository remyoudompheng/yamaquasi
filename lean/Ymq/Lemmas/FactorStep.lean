/-
One level of `factorImpl` (Model/Factor.lean) cut into named phases, with the recursive call a
parameter `rec`. Nothing here changes the model: `factorImpl_succ` holds by `rfl`.
-/
import Ymq.Lemmas.FactorBasic

namespace Ymq.Factor

variable {σ : Type}

/-- `for a in a_s { factor_impl(a) }; factor_impl(b)` -/
def splitManyR (rec : Nat → St σ → Res (St σ)) (s : St σ) (as : List Nat) (b : Nat) : Res (St σ) :=
  match bindList (fun s m => rec m s) as s with
  | .ok s' => rec b s'
  | e => e

/-- `factor_impl(a); factor_impl(b)` -/
def splitTwoR (rec : Nat → St σ → Res (St σ)) (s : St σ) (a b : Nat) : Res (St σ) :=
  match rec a s with
  | .ok s' => rec b s'
  | e => e

/-- Auto: Pollard rho below 52 bits (`if n.bits() < 52`, lib.rs) -/
def autoRho (o : Oracle σ) (rec : Nat → St σ → Res (St σ)) (n : Nat) (s : St σ) :
    Res (St σ) ⊕ St σ :=
  if bits n < 52 then
    match (o.rho s.os n).1 with
    | some (as, b) => .inl (splitManyR rec { s with os := (o.rho s.os n).2 } as b)
    | none => .inr { s with os := (o.rho s.os n).2 }
  else .inr s

/-- Auto: P-1 once, above 64 bits (`if n.bits() > 64 && !prefs.pm1_done.load(…)`, lib.rs) -/
def autoPm1 (o : Oracle σ) (rec : Nat → St σ → Res (St σ)) (n : Nat) (s : St σ) :
    Res (St σ) ⊕ St σ :=
  if bits n > 64 ∧ !s.pm1done then
    match (o.pm1q s.os n).1 with
    | some (as, b) => .inl (splitManyR rec { s with os := (o.pm1q s.os n).2, pm1done := true } as b)
    | none => .inr { s with os := (o.pm1q s.os n).2, pm1done := true }
  else .inr s

/-- Auto: ECM, then the fallback selector (`ecm128::ecm128(n, false, prefs)` / `ecm::ecm_auto`, lib.rs) -/
def autoEcm (o : Oracle σ) (rec : Nat → St σ → Res (St σ)) (n : Nat) (s : St σ) :
    Res (St σ) ⊕ (Algo × St σ) :=
  match (o.ecmauto s.os n).1 with
  | some (a, b) => .inl (splitTwoR rec { s with os := (o.ecmauto s.os n).2 } a b)
  | none => .inr (if bits n ≤ 80 then Algo.ecm128 else Algo.siqs, { s with os := (o.ecmauto s.os n).2 })

/-- the `Algo::Auto` strategy (first arm of `let alg_real = match alg`, lib.rs) -/
def autoPhase (o : Oracle σ) (rec : Nat → St σ → Res (St σ)) (n : Nat) (alg : Algo) (s : St σ) :
    Res (St σ) ⊕ (Algo × St σ) :=
  if alg = .auto then
    match autoRho o rec n s with
    | .inl r => .inl r
    | .inr s =>
    match autoPm1 o rec n s with
    | .inl r => .inl r
    | .inr s => autoEcm o rec n s
  else .inr (alg, s)

/-- arms returning `(a_s, b)` -/
def armMany (rec : Nat → St σ → Res (St σ)) (n : Nat) (s : St σ)
    (r : Option (List Nat × Nat) × σ) : Res (St σ) ⊕ St σ :=
  match r.1 with
  | some (as, b) => .inl (splitManyR rec { s with os := r.2 } as b)
  | none => .inl (.ok ({ s with os := r.2 }.giveup n))

/-- arms returning `(a, b)` -/
def armTwo (rec : Nat → St σ → Res (St σ)) (n : Nat) (s : St σ)
    (r : Option (Nat × Nat) × σ) : Res (St σ) ⊕ St σ :=
  match r.1 with
  | some (a, b) => .inl (splitTwoR rec { s with os := r.2 } a b)
  | none => .inl (.ok ({ s with os := r.2 }.giveup n))

/-- the `match alg_real` arms (lib.rs) -/
def armPhase (o : Oracle σ) (rec : Nat → St σ → Res (St σ)) (n : Nat) (algReal : Algo) (s : St σ) :
    Res (St σ) ⊕ St σ :=
  match algReal with
  | .auto => .inl (.panic "unreachable!(impossible)")
  | .pm1 => armMany rec n s (o.pm1 s.os n)
  | .ecm => armTwo rec n s (o.ecm s.os n)
  | .ecm128 => armTwo rec n s (o.ecm128 s.os n)
  | .qs64 =>
    if bits n > 64 then .inl (.panic "assert!(n.bits() <= 64)")
    else armTwo rec n s (o.qs64 s.os n)
  | .rho =>
    if bits n > 64 then .inl (.panic "assert!(n.bits() <= 64)")
    else armMany rec n s (o.rho s.os n)
  | .squfof =>
    if bits n > 64 then .inl (.panic "assert!(n.bits() <= 64)")
    else armTwo rec n s (o.squfof s.os n)
  | .qs | .mpqs | .siqs => .inr s

/-- body of the final `for f in facs` loop (lib.rs) -/
def finalStep (o : Oracle σ) (rec : Nat → St σ → Res (St σ)) (n : Nat) (s : St σ) (f : Nat) :
    Res (St σ) :=
  if f = n then .ok (s.giveup f)
  else if !(o.prime s.os f).1 then rec f { s with os := (o.prime s.os f).2 }
  else .ok ({ s with os := (o.prime s.os f).2 }.push f)

/-- after the sieve returned (from `let divs = match divs`, lib.rs) -/
def sieveResult (o : Oracle σ) (rec : Nat → St σ → Res (St σ)) (n : Nat) (s : St σ) :
    SieveRes → Res (St σ)
  | .unexpected d =>
    if d = 0 then .panic "division by zero (n / d)"
    else splitTwoR rec s d (n / d)
  | .divs [] => .ok (s.giveup n)
  | .divs ds =>
    match combineDivs [n] ds with
    | .panic e => .panic e
    | .fuel => .fuel
    | .ok facs => bindList (finalStep o rec n) facs s

/-- from the abort poll `if prefs.abort()` to the end (lib.rs) -/
def sievePhase (o : Oracle σ) (rec : Nat → St σ → Res (St σ)) (n : Nat) (algReal : Algo) (s : St σ) :
    Res (St σ) :=
  if (o.abort s.os n).1 then .ok ({ s with os := (o.abort s.os n).2 }.giveup n)
  else
  if algReal ≠ .qs ∧ algReal ≠ .mpqs ∧ algReal ≠ .siqs then .panic "unreachable!(impossible)"
  else
  sieveResult o rec n { s with os := (o.sieve (o.abort s.os n).2 algReal n).2 }
    (o.sieve (o.abort s.os n).2 algReal n).1

/-- everything after the pseudoprime test said "composite" -/
def compositePhase (o : Oracle σ) (rec : Nat → St σ → Res (St σ)) (n : Nat) (alg : Algo) (s : St σ) :
    Res (St σ) :=
  match autoPhase o rec n alg s with
  | .inl r => r
  | .inr (algReal, s) =>
    match armPhase o rec n algReal s with
    | .inl r => r
    | .inr s => sievePhase o rec n algReal s

/-- the perfect-power branch: `facs` of the recursive call appended `k` times -/
def ppResult (s : St σ) (k : Nat) : Res (St σ) → Res (St σ)
  | .ok s' => .ok { s' with factors := s.factors ++ replicateAppend k s'.factors }
  | e => e

def factorStep (o : Oracle σ) (rec : Nat → St σ → Res (St σ)) (n : Nat) (alg : Algo) (s : St σ) :
    Res (St σ) :=
  if n = 1 then .ok s
  else
  match (o.pp s.os n).1 with
  | some (p, k) => ppResult s k (rec p { s with os := (o.pp s.os n).2, factors := [] })
  | none =>
  if (o.prime (o.pp s.os n).2 n).1 then
    .ok ({ s with os := (o.prime (o.pp s.os n).2 n).2 }.push n)
  else compositePhase o rec n alg { s with os := (o.prime (o.pp s.os n).2 n).2 }

theorem factorImpl_succ (o : Oracle σ) (fuel n : Nat) (alg : Algo) (s : St σ) :
    factorImpl o (fuel + 1) n alg s = factorStep o (fun m s => factorImpl o fuel m alg s) n alg s := by
  rw [factorImpl]
  rfl

theorem factorImpl_zero (o : Oracle σ) (n : Nat) (alg : Algo) (s : St σ) :
    factorImpl o 0 n alg s = .fuel := by
  rw [factorImpl]

end Ymq.Factor
