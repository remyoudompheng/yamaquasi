/-
Bit-level facts used by `Poly::next` (C12): the `u32` min trick and the Gray-code step; `isqrt` is the floor
square root (`isqrt_spec`).
-/
import Mathlib.Tactic.Ring
import Mathlib.Tactic.Linarith
import Mathlib.Data.Nat.Bitwise
import Ymq.Model.SiqsPoly
import Ymq.Lemmas.Bits
namespace Ymq.PolyBits
open Ymq.SiqsPoly

theorem stepUp_eq (r d p : Nat) (hr : r < p) (hd : d < p) (hp : p < 2 ^ 31) :
    stepUp p d r = (r + d) % p := by
  unfold stepUp W32
  dsimp only
  by_cases h : r + d < p
  · rw [Nat.mod_eq_of_lt h]; omega
  · have : (r + d) % p = r + d - p := by
      rw [Nat.mod_eq_sub_mod (by omega), Nat.mod_eq_of_lt (by omega)]
    rw [this]; omega

theorem stepDown_eq (r d p : Nat) (hr : r < p) (hd : d < p) (hp : p < 2 ^ 31) :
    stepDown p d r = (r + p - d) % p := by
  unfold stepDown W32
  dsimp only
  by_cases h : d ≤ r
  · have : (r + p - d) % p = r - d := by
      have : r + p - d = (r - d) + p := by omega
      rw [this, Nat.add_mod_right, Nat.mod_eq_of_lt (by omega)]
    rw [this]; omega
  · rw [Nat.mod_eq_of_lt (a := r + p - d) (by omega)]; omega

def gray (n : Nat) : Nat := n ^^^ (n >>> 1)

/-- number of trailing zero bits of a non-zero number (0 for 0) -/
def tzN : Nat → Nat
  | 0 => 0
  | n + 1 => if (n + 1) % 2 = 1 then 0 else 1 + tzN ((n + 1) / 2)
decreasing_by omega

theorem gray_xor_succ (n : Nat) : gray n ^^^ gray (n + 1) = 2 ^ tzN (n + 1) := by
  induction n using Nat.strong_induction_on with
  | _ n ih =>
    have hX : ∀ X : Nat, X = 2 * (X / 2) + X % 2 := fun X => by omega
    simp only [gray, Nat.shiftRight_eq_div_pow, pow_one]
    rw [hX (n ^^^ n / 2 ^^^ (n + 1 ^^^ (n + 1) / 2))]
    rw [Nat.xor_div_two, Nat.xor_div_two, Nat.xor_div_two, Nat.xor_mod_two_eq, Nat.add_mod,
      Nat.xor_mod_two_eq (m := n), Nat.xor_mod_two_eq (m := n + 1)]
    rcases Nat.even_or_odd' n with ⟨k, rfl | rfl⟩
    · have h1 : (2 * k + 1) / 2 = k := by omega
      have h2 : 2 * k / 2 = k := by omega
      rw [h1, h2, Nat.xor_self]
      unfold tzN
      simp
      omega
    · have h1 : (2 * k + 1 + 1) / 2 = k + 1 := by omega
      have h2 : (2 * k + 1) / 2 = k := by omega
      have := ih k (by omega)
      simp only [gray, Nat.shiftRight_eq_div_pow, pow_one] at this
      rw [h1, h2, this]
      have : tzN (2 * k + 1 + 1) = 1 + tzN (k + 1) := by
        rw [tzN]; simp [h1]; omega
      rw [this, pow_add]; omega

theorem tzN_pos_spec : ∀ m : Nat, 0 < m → 2 ^ tzN m ∣ m ∧ ¬ 2 ^ (tzN m + 1) ∣ m := by
  intro m
  induction m using Nat.strong_induction_on with
  | _ m ih =>
    intro hm
    obtain ⟨k, rfl⟩ : ∃ k, m = k + 1 := ⟨m - 1, by omega⟩
    rw [tzN]
    by_cases hodd : (k + 1) % 2 = 1
    · simp only [hodd, if_true, pow_zero, one_dvd, zero_add, pow_one, true_and]
      omega
    · simp only [hodd, if_false]
      obtain ⟨q, hq⟩ : ∃ q, (k + 1) / 2 = q := ⟨_, rfl⟩
      rw [hq]
      have hk : k + 1 = 2 * q := by omega
      obtain ⟨h1, h2⟩ := ih q (by omega) (by omega)
      rw [hk]
      constructor
      · rw [Nat.add_comm 1, pow_succ, Nat.mul_comm]
        exact Nat.mul_dvd_mul_left 2 h1
      · intro hd
        apply h2
        have e : 2 ^ (1 + tzN q + 1) = 2 * 2 ^ (tzN q + 1) := by
          rw [Nat.add_comm 1, pow_succ (2) (tzN q + 1)]; ring
        rw [e] at hd
        exact (Nat.mul_dvd_mul_iff_left (by norm_num)).mp hd

theorem tzAux_eq_tzN : ∀ (f m : Nat), 0 < m → m < 2 ^ f → tzAux f m = tzN m := by
  intro f
  induction f with
  | zero => intro m h0 h1; simp at h1; omega
  | succ f ih =>
    intro m h0 h1
    obtain ⟨k, rfl⟩ : ∃ k, m = k + 1 := ⟨m - 1, by omega⟩
    rw [tzAux, tzN]
    by_cases hodd : (k + 1) % 2 = 1
    · simp [hodd]
    · simp only [hodd, if_false]
      rw [ih ((k + 1) / 2) (by omega) (by rw [pow_succ] at h1; omega)]

theorem tz64_eq_tzN (m : Nat) (h0 : 0 < m) (h1 : m < 2 ^ 64) : tz64 m = tzN m := by
  unfold tz64
  rw [if_neg (by omega)]
  exact tzAux_eq_tzN 64 m h0 h1

theorem tzN_two_pow (t : Nat) : tzN (2 ^ t) = t := by
  induction t with
  | zero => show tzN (0 + 1) = 0; rw [tzN]; simp
  | succ t ih =>
    have hpos : 0 < 2 ^ t := Nat.pos_of_ne_zero (by positivity)
    obtain ⟨k, hk⟩ : ∃ k, 2 ^ (t + 1) = k + 1 := ⟨2 ^ (t + 1) - 1, by have : 0 < 2 ^ (t+1) := by positivity
                                                                      omega⟩
    rw [hk, tzN, ← hk]
    have h1 : 2 ^ (t + 1) % 2 = 0 := by rw [pow_succ]; omega
    have h2 : 2 ^ (t + 1) / 2 = 2 ^ t := by rw [pow_succ]; omega
    simp [h1, h2, ih]; omega

/-- `Poly::next`: the Gray codes of `idx` and `idx + 1` differ exactly in bit `tz(idx + 1)`;
the value computed by the code is that bit and the assertion of the code holds. -/
theorem gray_step_aux (idx : Nat) (h : idx + 1 < 2 ^ 64) :
    let pg := idx ^^^ (idx >>> 1)
    let ng := (idx + 1) ^^^ ((idx + 1) >>> 1)
    let bit := tz64 (pg ^^^ ng)
    bit = tzN (idx + 1) ∧ bit < 64 ∧ ng = pg ^^^ (1 <<< bit) ∧
      (∀ i, ng.testBit i = (pg.testBit i ^^ decide (bit = i))) := by
  intro pg ng bit
  have hx : pg ^^^ ng = 2 ^ tzN (idx + 1) := gray_xor_succ idx
  obtain ⟨hd, _⟩ := tzN_pos_spec (idx + 1) (by omega)
  have ht : tzN (idx + 1) < 64 := by
    by_contra hc
    have : 2 ^ 64 ∣ idx + 1 := Nat.dvd_trans (pow_dvd_pow 2 (by omega)) hd
    have := Nat.le_of_dvd (by omega) this
    omega
  have hbit : bit = tzN (idx + 1) := by
    show tz64 (pg ^^^ ng) = _
    rw [hx, tz64_eq_tzN _ (by positivity) (Nat.pow_lt_pow_right (by norm_num) ht), tzN_two_pow]
  have hng : ng = pg ^^^ (1 <<< bit) := by
    rw [Nat.one_shiftLeft, hbit, ← hx, ← Nat.xor_assoc, Nat.xor_self, Nat.zero_xor]
  refine ⟨hbit, hbit ▸ ht, hng, ?_⟩
  intro i
  rw [hng, Nat.testBit_xor, Nat.one_shiftLeft, Nat.testBit_two_pow]

theorem isqrtAux_spec : ∀ (k r n : Nat), r * r ≤ n → n < (r + 2 ^ k) * (r + 2 ^ k) →
    isqrtAux k r n * isqrtAux k r n ≤ n ∧ n < (isqrtAux k r n + 1) * (isqrtAux k r n + 1) :=
  Bits.isqrtAux_spec isqrtAux (fun _ _ => rfl) (fun _ _ _ => rfl)

theorem bitlen_le_iff (n k : Nat) : bitlen n ≤ k ↔ n < 2 ^ k :=
  Bits.bitlen_le_iff bitlen (fun _ => rfl) n k

theorem bitlen_le_of_lt {m k : Nat} (h : m < 2 ^ k) : bitlen m ≤ k := (bitlen_le_iff m k).mpr h

theorem lt_of_bitlen_lt {m k : Nat} (h : bitlen m < k) : m < 2 ^ (k - 1) :=
  (bitlen_le_iff m (k - 1)).mp (by omega)

theorem wrap256_eq {x : Int} (h : -P255 ≤ x ∧ x < P255) : wrap256 x = x := by
  unfold wrap256 P256; unfold P255 at *; omega

theorem isqrt_spec (n : Nat) : isqrt n * isqrt n ≤ n ∧ n < (isqrt n + 1) * (isqrt n + 1) := by
  unfold isqrt
  apply isqrtAux_spec
  · simp
  · have h := Nat.lt_log2_self (n := n)
    have : 2 ^ (n.log2 + 1) ≤ 2 ^ (n.log2 / 2 + 1) * 2 ^ (n.log2 / 2 + 1) := by
      rw [← pow_add]; exact Nat.pow_le_pow_right (by norm_num) (by omega)
    simp only [Nat.zero_add]
    omega

end Ymq.PolyBits
