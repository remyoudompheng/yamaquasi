/-
`PM1Base::new` (C17): the compact `u32` blocks hold, for every prime `p < 500` of the input list,
the largest power of `p` below 1024; nothing overflows.
-/
import Ymq.Lemmas.SmoothBaseTop
import Ymq.Lemmas.PrimesTop

namespace Ymq.PM1Base
open Ymq.Primes Ymq.SmoothBase

/-- the pending block and every stored block fit a `u32` (the code stores `buffer as u32`) -/
structure Inv (st : St) : Prop where
  buf_pos : 1 ≤ st.buffer
  buf_lt : st.buffer < 2 ^ 32
  f_lt : ∀ x ∈ st.factors, x < 2 ^ 32

/-- the product of the small-prime blocks, the pending one included (`larges` holds single primes and is left out) -/
def total (st : St) : Nat := st.factors.prod * st.buffer

theorem step_spec (st : St) (p : Nat) (h : Inv st) (hp : 2 ≤ p) (hp32 : p < 2 ^ 32) :
    ∃ st', step st p = some st' ∧ Inv st' ∧ total st ∣ total st' ∧
      (p < 500 → ∀ k, p ^ k < 1024 → p ^ k ∣ total st') := by
  unfold step
  by_cases h500 : p < 500
  · rw [if_pos h500]
    obtain ⟨pow, hj, hpos, hlt, -, hdvd⟩ := powBelow_start 1024 p (by norm_num) hp hp32
    rw [hj]
    simp only
    have hpow : pow < 1024 := by omega
    have hmul : st.buffer * pow < 2 ^ 64 := by
      have : st.buffer * pow < 2 ^ 32 * 1024 := Nat.mul_lt_mul'' h.buf_lt hpow
      omega
    rw [if_neg (by omega)]
    by_cases hfl : st.buffer * pow ≥ 2 ^ 32
    · rw [if_pos hfl]
      refine ⟨_, rfl, ⟨?_, ?_, ?_⟩, ?_, ?_⟩
      · show 1 ≤ 1 * pow; omega
      · show 1 * pow < 2 ^ 32; omega
      · intro x hx
        simp only [List.mem_cons] at hx
        rcases hx with rfl | hx
        · exact Nat.mod_lt _ (by norm_num)
        · exact h.f_lt x hx
      · simp only [total, List.prod_cons, Nat.mod_eq_of_lt h.buf_lt]
        exact ⟨pow, by ring⟩
      · intro _ k hk
        simp only [total, List.prod_cons]
        exact Dvd.dvd.mul_left (Dvd.dvd.mul_left (hdvd k hk) 1) _
    · rw [if_neg hfl]
      refine ⟨_, rfl, ⟨?_, by show st.buffer * pow < 2 ^ 32; omega, h.f_lt⟩, ?_, ?_⟩
      · show 1 ≤ st.buffer * pow
        have : 1 * 1 ≤ st.buffer * pow := Nat.mul_le_mul h.buf_pos hpos
        simpa using this
      · simp only [total]
        exact ⟨pow, by ring⟩
      · intro _ k hk
        simp only [total]
        exact Dvd.dvd.mul_left (Dvd.dvd.mul_left (hdvd k hk) _) _
  · rw [if_neg h500]
    split
    · exact ⟨_, rfl, ⟨h.buf_pos, h.buf_lt, h.f_lt⟩, dvd_refl _, fun hc => absurd hc h500⟩
    · exact ⟨_, rfl, h, dvd_refl _, fun hc => absurd hc h500⟩

theorem loop_spec : ∀ (ps : List Nat) (st : St), Inv st → (∀ p ∈ ps, 2 ≤ p ∧ p < 2 ^ 32) →
    ∃ st', loop ps st = some st' ∧ Inv st' ∧ total st ∣ total st' ∧
      ∀ p ∈ ps, p < 500 → ∀ k, p ^ k < 1024 → p ^ k ∣ total st' := by
  intro ps
  induction ps with
  | nil => intro st h _; exact ⟨st, rfl, h, dvd_refl _, by simp⟩
  | cons p ps ih =>
    intro st h hps
    obtain ⟨st1, hs1, hi1, hd1, hp1⟩ := step_spec st p h (hps p (by simp)).1 (hps p (by simp)).2
    obtain ⟨st', hs', hi', hd', hall⟩ := ih st1 hi1 (fun q hq => hps q (by simp [hq]))
    rw [loop, hs1]
    simp only
    refine ⟨st', hs', hi', dvd_trans hd1 hd', ?_⟩
    intro q hq hq500 k hk
    simp only [List.mem_cons] at hq
    rcases hq with rfl | hq
    · exact dvd_trans (hp1 hq500 k hk) hd'
    · exact hall q hq hq500 k hk

theorem pack_spec (ps : List Nat) (hps : ∀ p ∈ ps, 2 ≤ p ∧ p < 2 ^ 32) :
    ∃ f l, pack ps = some (f, l) ∧ (∀ x ∈ f, x < 2 ^ 32) ∧
      ∀ p ∈ ps, p < 500 → ∀ k, p ^ k < 1024 → p ^ k ∣ f.prod := by
  obtain ⟨st, hs, hi, _, hall⟩ := loop_spec ps { factors := [], larges := [], nl := 0, buffer := 1 }
    ⟨Nat.le_refl 1, by norm_num, by simp⟩ hps
  unfold pack
  rw [hs]
  simp only
  refine ⟨_, _, rfl, ?_, ?_⟩
  · intro x hx
    have hx := List.mem_reverse.mp hx
    split at hx
    · simp only [List.mem_cons] at hx
      rcases hx with rfl | hx
      · exact Nat.mod_lt _ (by norm_num)
      · exact hi.f_lt x hx
    · exact hi.f_lt x hx
  · intro p hp h500 k hk
    have := hall p hp h500 k hk
    rw [List.prod_reverse]
    split
    · rw [List.prod_cons, Nat.mod_eq_of_lt hi.buf_lt, Nat.mul_comm]; exact this
    · have hb : st.buffer = 1 := by have := hi.buf_pos; omega
      simpa [total, hb] using this

/-- **`PM1Base::new()`**: no panic, every block fits a `u32`, and for every prime `p < 500` each
power `p^k < 1024` divides the product of the blocks. -/
theorem new_spec :
    ∃ f l, PM1Base.new = some (f, l) ∧ (∀ x ∈ f, x < 2 ^ 32) ∧
      ∀ p k, p.Prime → p < 500 → p ^ k < 1024 → p ^ k ∣ f.prod := by
  have hb : bound 70000 = some 1190000 := by decide +kernel
  have hpr := primes_eq 70000 1190000 hb
  have hsrc : ∀ p ∈ (primesBelow (2 * (1190000 / 2))).take 70000, 2 ≤ p ∧ p < 2 ^ 32 := by
    intro p hp
    have := List.mem_of_mem_take hp
    rw [mem_primesBelow] at this
    exact ⟨this.2.two_le, by omega⟩
  obtain ⟨f, l, hpack, hf, hall⟩ := pack_spec _ hsrc
  refine ⟨f, l, by unfold PM1Base.new; rw [hpr]; exact hpack, hf, ?_⟩
  intro p k hp h500 hk
  apply hall p _ h500 k hk
  -- p is among the first 70000 primes below the bound
  rw [show 2 * (1190000 / 2) = 500 + 1189500 from rfl, primesBelow_append, List.take_append]
  apply List.mem_append_left
  have hlen := length_primesBelow_le 500
  rw [List.take_of_length_le (by omega), mem_primesBelow]
  exact ⟨h500, hp⟩

end Ymq.PM1Base
