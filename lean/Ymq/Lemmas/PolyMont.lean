/-
C10: the Montgomery operations of `ZmodN` as an instance of the coefficient operations of the arith_poly models
(`montOps_homC`), and the refinement of the models' exact NTT step by the word-level `convolve_modn_ntt`
(`fftLongmul_refines`, `fftMidmul_refines`, on top of `convolveNtt_spec`).
-/
import Ymq.Lemmas.PolyBarrett
import Ymq.Lemmas.NttConvolve

namespace Ymq.PolyMul
open Polynomial Finset

/-- the residue a Montgomery form stands for -/
noncomputable def mphi (n rinv : Nat) (x : Nat) : ZMod n := (x : ZMod n) * (rinv : ZMod n)

theorem R_rinv (n kw rinv : Nat) (hR : 2 ^ (64 * kw) * rinv % n = 1 % n) :
    (((2 ^ (64 * kw) : Nat)) : ZMod n) * (rinv : ZMod n) = 1 := by
  have := (ZMod.natCast_eq_natCast_iff' (2 ^ (64 * kw) * rinv) 1 n).2 hR
  push_cast at this
  exact_mod_cast this

/-- **the Montgomery operations of `ZmodN` map to `ZMod n`** (`x ↦ x·R⁻¹`), with sound and complete `==` and
sound `inv`: every ring-generic theorem of C10 applies to them -/
theorem montOps_homC (n kw rinv : Nat) (hn : 0 < n) (hR : 2 ^ (64 * kw) * rinv % n = 1 % n) :
    HomC (montOps n kw rinv) (mphi n rinv) where
  zero := by simp [montOps, mphi]
  one := by
    show mphi n rinv (2 ^ (64 * kw) % n) = 1
    unfold mphi; rw [ZMod.natCast_mod]; exact R_rinv n kw rinv hR
  add a b := by
    show mphi n rinv ((a + b) % n) = _
    unfold mphi; rw [ZMod.natCast_mod]; push_cast; ring
  sub a b := by
    show mphi n rinv ((a + n - b % n) % n) = _
    unfold mphi
    rw [ZMod.natCast_mod, Nat.cast_sub (by have := Nat.mod_lt b hn; omega)]
    push_cast
    rw [ZMod.natCast_mod, ZMod.natCast_self]; ring
  mul a b := by
    show mphi n rinv (a * b * rinv % n) = _
    unfold mphi; rw [ZMod.natCast_mod]; push_cast; ring
  eq_sound a b h := by
    have : a % n = b % n := by simpa [montOps] using h
    unfold mphi
    rw [(ZMod.natCast_eq_natCast_iff' a b n).2 this]
  inv_sound a i h := by
    have hinv : (Ymq.PolySpec.invMod a n).map (fun i => i * (2 ^ (64 * kw) * 2 ^ (64 * kw) % n) % n) = some i := h
    rw [Option.map_eq_some_iff] at hinv
    obtain ⟨i0, hi0, rfl⟩ := hinv
    have hs := invMod_sound a n i0 hn hi0
    have hRr := R_rinv n kw rinv hR
    unfold mphi
    rw [ZMod.natCast_mod]
    push_cast
    rw [ZMod.natCast_mod]
    push_cast
    set Rz := ((2 : ZMod n) ^ (64 * kw)) with hRz
    have hRr' : Rz * (rinv : ZMod n) = 1 := by rw [hRz]; exact_mod_cast hRr
    calc (a : ZMod n) * (rinv : ZMod n) * ((i0 : ZMod n) * (Rz * Rz) * (rinv : ZMod n))
        = ((a : ZMod n) * (i0 : ZMod n)) * (Rz * (rinv : ZMod n)) * (Rz * (rinv : ZMod n)) := by ring
      _ = 1 := by rw [hs, hRr', mul_one, mul_one]
  eq_complete a b h := by
    unfold mphi at h
    have hRr := R_rinv n kw rinv hR
    have hab : (a : ZMod n) = (b : ZMod n) := by
      calc (a : ZMod n) = (a : ZMod n) * (rinv : ZMod n) * ((2 ^ (64 * kw) : Nat) : ZMod n) := by
            rw [mul_assoc, mul_comm (rinv : ZMod n), hRr, mul_one]
        _ = (b : ZMod n) * (rinv : ZMod n) * ((2 ^ (64 * kw) : Nat) : ZMod n) := by rw [h]
        _ = _ := by rw [mul_assoc, mul_comm (rinv : ZMod n), hRr, mul_one]
    have : a % n = b % n := (ZMod.natCast_eq_natCast_iff' a b n).1 hab
    simp [montOps, this]


theorem dot_mont (n kw rinv : Nat) (f g : Nat → Nat) : ∀ m,
    dot (montOps n kw rinv) f g m = (∑ a ∈ range m, f a * g a) * rinv % n := by
  intro m
  unfold dot
  induction m with
  | zero => simp [montOps]
  | succ m ih =>
    rw [List.range_succ, List.foldl_append, ih, sum_range_succ]
    show ((∑ a ∈ range m, f a * g a) * rinv % n + f m * g m * rinv % n) % n = _
    rw [← Nat.add_mod, ← Nat.add_mul]

/-- without wrap-around the plain product coefficient is the cyclic one -/
theorem mulCoef_eq_cyc (size : Nat) (p q : List Nat) (hsz : p.length + q.length ≤ size + 1) (i : Nat)
    (hi : i < size) :
    ∑ a ∈ range (i + 1), p.getD a 0 * q.getD (i - a) 0 =
      Ymq.Kronecker.cycSum size (fun a => p.getD a 0) (fun a => q.getD a 0) i := by
  simp only [Ymq.Kronecker.cycSum]
  rw [← Finset.sum_subset (s₁ := range (i + 1)) (s₂ := range size)]
  · apply Finset.sum_congr rfl
    intro a ha
    have ha' : a ≤ i := by simp at ha; omega
    congr 2
    rw [show i + size - a = size + (i - a) by omega, Nat.add_mod_left, Nat.mod_eq_of_lt (by omega)]
  · intro a ha; simp at ha ⊢; omega
  · intro a ha hna
    simp only [mem_range, not_lt] at ha hna
    have hidx : (i + size - a) % size = i + size - a := Nat.mod_eq_of_lt (by omega)
    rw [hidx]
    by_cases hap : a < p.length
    · rw [List.getD_eq_getElem?_getD (l := q), List.getElem?_eq_none (by omega)]; simp
    · rw [List.getD_eq_getElem?_getD (l := p), List.getElem?_eq_none (by omega)]; simp

theorem list_eq_map_range {l : List Nat} {m : Nat} {f : Nat → Nat} (hl : l.length = m)
    (h : ∀ t < m, l.getD t 0 = f t) : l = (List.range m).map f := by
  apply List.ext_getElem
  · simp [hl]
  · intro i h1 h2
    rw [List.getElem_map, List.getElem_range, ← h i (hl ▸ h1), List.getD_eq_getElem?_getD,
      List.getElem?_eq_getElem h1, Option.getD_some]

open Ymq.Crt in
/-- **the NTT branch of `_middlemul` (`_fft_midmul`) in the arith_poly models is the word-level
`convolve_modn_ntt`**: under the Montgomery operations the exact cyclic coefficients the model writes are,
entry by entry, the output of the word-level model (root tables, `from_mint`, transforms, `_crt`, `zn.redc`) -/
theorem fftMidmul_refines (n k : Nat) (m : Mzp) (hm : Ymq.Crt.new n k = some m) (hn : 0 < n)
    (hbits : Ymq.Checked.bitlen n ≤ 512) (hk31 : k ≤ 31) (kw rinv zlen e : Nat) (p q : List Nat)
    (hq : q.length = 2 ^ e) (hp : p.length = 2 * q.length - 1) (he : e + 1 ≤ k)
    (hpn : ∀ v ∈ p, v < n) (hqn : ∀ v ∈ q, v < n) :
    ∃ rts, rootsPacked m = some rts ∧
      convolveNtt m rts rinv (2 * q.length) (p.map (Ymq.Limbs.ofNat 8)) (q.map (Ymq.Limbs.ofNat 8)) zlen
        (q.length - 1) = fftMidmul k (montOps n kw rinv) zlen p q := by
  have hpq : 0 < 2 ^ e := Nat.pow_pos (by decide)
  have hsize : 2 * q.length = 2 ^ (e + 1) := by rw [hq, pow_succ]; ring
  obtain ⟨rts, res, e1, e2, e3, e4⟩ := convolveNtt_spec n k m hm hn hbits hk31 (e + 1) (by omega) he p q hpn hqn
    (by rw [hp, hq, pow_succ]; omega) (by rw [hq, pow_succ]; omega) rinv zlen (q.length - 1)
  refine ⟨rts, e1, ?_⟩
  rw [hsize, e2]
  unfold fftMidmul
  have hpow : isPow2 q.length = true := by
    unfold isPow2
    rw [hq, Nat.log2_two_pow]
    simp
  rw [hpow]
  simp only [Bool.not_true, Bool.false_eq_true, if_false]
  rw [if_neg (by omega), if_neg (by rw [hq, Nat.log2_two_pow]; omega)]
  congr 1
  refine list_eq_map_range e3 fun t ht => ?_
  rw [e4 t ht, hsize]
  unfold cycCoefO
  rw [dot_mont]
  rfl

open Ymq.Crt in
/-- **the NTT branch of `_longmul` (`_fft_longmul`) in the arith_poly models is the word-level
`convolve_modn_ntt`** (size `2^bitlen(deg p + deg q)`, no wrap-around) -/
theorem fftLongmul_refines (n k : Nat) (m : Mzp) (hm : Ymq.Crt.new n k = some m) (hn : 0 < n)
    (hbits : Ymq.Checked.bitlen n ≤ 512) (hk31 : k ≤ 31) (kw rinv zlen : Nat) (p q : List Nat)
    (hp1 : 1 ≤ p.length) (hq1 : 1 ≤ q.length) (hpq : 3 ≤ p.length + q.length)
    (hk : Ymq.Checked.bitlen (p.length - 1 + (q.length - 1)) ≤ k)
    (hpn : ∀ v ∈ p, v < n) (hqn : ∀ v ∈ q, v < n) :
    ∃ rts, rootsPacked m = some rts ∧
      convolveNtt m rts rinv (2 ^ Ymq.Checked.bitlen (p.length - 1 + (q.length - 1)))
        (p.map (Ymq.Limbs.ofNat 8)) (q.map (Ymq.Limbs.ofNat 8)) zlen 0 =
      fftLongmul k (montOps n kw rinv) zlen p q := by
  set L := Ymq.Checked.bitlen (p.length - 1 + (q.length - 1)) with hL
  have hlt := bitlen_lt (p.length - 1 + (q.length - 1))
  rw [← hL] at hlt
  have hL1 : 1 ≤ L := by
    by_contra hcon
    have : L = 0 := by omega
    rw [this] at hlt; omega
  obtain ⟨rts, res, e1, e2, e3, e4⟩ := convolveNtt_spec n k m hm hn hbits hk31 L hL1 hk p q hpn hqn
    (by omega) (by omega) rinv zlen 0
  refine ⟨rts, e1, ?_⟩
  rw [e2]
  unfold fftLongmul
  rw [if_neg (by omega)]
  simp only [← hL]
  rw [if_neg (by omega), if_neg (by omega)]
  congr 1
  refine list_eq_map_range e3 fun t ht => ?_
  rw [e4 t ht, Nat.zero_add]
  by_cases hts : t < 2 ^ L
  · rw [if_pos hts, if_pos hts]
    unfold mulCoefO
    rw [dot_mont, ← mulCoef_eq_cyc (2 ^ L) p q (by omega) t hts]
    rfl
  · rw [if_neg hts, if_neg hts]; rfl

end Ymq.PolyMul
