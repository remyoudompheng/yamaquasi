/-
SIQS (C12): the two branches of `select_a` — the exhaustive one returns products of `nfacs` selected primes with
distinct indices (`selectSmall_sound`); the sampling loop returns `closest` of a set of such products, each inside one
of the tolerance windows (`sampleLoop_some`). They are joined in `selectA_sound`; `afsOf` recovers the chosen primes
from such a product (`isProd_afs`).
-/
import Ymq.Lemmas.PolySelect
namespace Ymq.PolySelect
open Ymq.SiqsPoly Ymq.SiqsSelect Ymq.PolySizes Ymq.PolyCrt

/-- `A` is the product of `k` entries of `ps` with distinct indices -/
def IsProd (ps : List Nat) (k A : Nat) : Prop :=
  ∃ idxs : List Nat, idxs.Nodup ∧ idxs.length = k ∧ (∀ i ∈ idxs, i < ps.length) ∧
    A = (idxs.map fun i => ps.getD i 0).prod

/-- by induction on the primes still to come, `l = ps.drop off`: every product the nested loops emit is `acc` times the
entries of `k` distinct indices `≥ off` (an overflowing `checked_mul` only drops combinations) -/
theorem combos_mem (ps : List Nat) : ∀ (l : List Nat) (k depth acc off : Nat), l = ps.drop off →
    ∀ x ∈ combos k depth acc l, ∃ idxs : List Nat, idxs.Nodup ∧ idxs.length = k ∧
      (∀ i ∈ idxs, off ≤ i ∧ i < ps.length) ∧ x = acc * (idxs.map fun i => ps.getD i 0).prod := by
  intro l
  induction l with
  | nil =>
    intro k depth acc off _ x hx
    cases k with
    | zero =>
      simp only [combos, List.mem_singleton] at hx
      exact ⟨[], List.nodup_nil, rfl, by simp, by simp [hx]⟩
    | succ k => simp [combos] at hx
  | cons p rest ih =>
    intro k depth acc off hl x hx
    cases k with
    | zero =>
      simp only [combos, List.mem_singleton] at hx
      exact ⟨[], List.nodup_nil, rfl, by simp, by simp [hx]⟩
    | succ k =>
      have hoff : off < ps.length := by
        by_contra hc
        rw [List.drop_eq_nil_of_le (by omega)] at hl; cases hl
      have hp : p = ps.getD off 0 := by
        have : (ps.drop off)[0]? = some p := by rw [← hl]; rfl
        rw [List.getElem?_drop] at this
        simp only [Nat.add_zero] at this
        rw [List.getD_eq_getElem?_getD, this]; rfl
      have hrest : rest = ps.drop (off + 1) := by
        have : (ps.drop off).drop 1 = rest := by rw [← hl]; rfl
        rw [← this, List.drop_drop]
      simp only [combos, List.mem_append] at hx
      rcases hx with hx | hx
      · split at hx
        · simp at hx
        · obtain ⟨idxs, h1, h2, h3, h4⟩ := ih k (depth + 1) (acc * p) (off + 1) hrest x hx
          refine ⟨off :: idxs, ?_, by simp [h2], ?_, ?_⟩
          · refine List.nodup_cons.mpr ⟨?_, h1⟩
            intro hm; have := (h3 off hm).1; omega
          · intro i hi
            rcases List.mem_cons.mp hi with rfl | hi
            · exact ⟨le_refl _, hoff⟩
            · have := h3 i hi; omega
          · rw [h4, hp]; simp only [List.map_cons, List.prod_cons]; ring
      · obtain ⟨idxs, h1, h2, h3, h4⟩ := ih (k + 1) depth acc (off + 1) hrest x hx
        exact ⟨idxs, h1, h2, fun i hi => by have := h3 i hi; omega, h4⟩

theorem dedup_mem : ∀ (n : Nat) (l : List Nat), l.length ≤ n → ∀ x, x ∈ dedup l → x ∈ l := by
  intro n
  induction n with
  | zero =>
    intro l hl x hx
    have : l = [] := List.length_eq_zero_iff.mp (by omega)
    subst this; simp [dedup] at hx
  | succ n ih =>
    intro l hl x hx
    match l, hl, hx with
    | [], _, hx => simp [dedup] at hx
    | [y], _, hx => simpa [dedup] using hx
    | y :: z :: rest, hl, hx =>
      rw [dedup] at hx
      split at hx
      · exact List.mem_cons_of_mem _ (ih (z :: rest) (by simp at hl ⊢; omega) x hx)
      · rcases List.mem_cons.mp hx with rfl | hx
        · exact List.mem_cons_self
        · exact List.mem_cons_of_mem _ (ih (z :: rest) (by simp at hl ⊢; omega) x hx)

theorem mergeF_mem (le : Nat → Nat → Bool) : ∀ (f : Nat) (a b : List Nat) (x : Nat),
    x ∈ mergeF le f a b → x ∈ a ∨ x ∈ b := by
  intro f
  induction f with
  | zero => intro a b x hx; simpa [mergeF] using hx
  | succ f ih =>
    intro a b x hx
    match a, b, hx with
    | [], b, hx => right; simpa [mergeF] using hx
    | a :: as, [], hx => left; simpa [mergeF] using hx
    | a :: as, b :: bs, hx =>
      rw [mergeF] at hx
      split at hx
      · rcases List.mem_cons.mp hx with rfl | hx
        · left; exact List.mem_cons_self
        · rcases ih _ _ _ hx with h | h
          · left; exact List.mem_cons_of_mem _ h
          · right; exact h
      · rcases List.mem_cons.mp hx with rfl | hx
        · right; exact List.mem_cons_self
        · rcases ih _ _ _ hx with h | h
          · left; exact h
          · right; exact List.mem_cons_of_mem _ h

theorem sortF_mem (le : Nat → Nat → Bool) : ∀ (f : Nat) (l : List Nat) (x : Nat), x ∈ sortF le f l → x ∈ l := by
  intro f
  induction f with
  | zero => intro l x hx; simpa [sortF] using hx
  | succ f ih =>
    intro l x hx
    rw [sortF] at hx
    split at hx
    · exact hx
    · rcases mergeF_mem _ _ _ _ _ hx with h | h
      · exact List.mem_of_mem_take (ih _ _ h)
      · exact List.mem_of_mem_drop (ih _ _ h)

theorem closest_mem (tgt want : Nat) (c : List Nat) (x : Nat) (h : x ∈ closest tgt want c) : x ∈ c := by
  unfold closest stableSort at h
  have h1 := sortF_mem _ _ _ _ h
  have h2 := List.mem_of_mem_take h1
  have h3 := dedup_mem _ _ (le_refl _) _ h2
  exact sortF_mem _ _ _ _ h3

theorem selectSmall_sound {tgt nfacs want : Nat} {ps as : List Nat} (h : selectSmall tgt nfacs want ps = some as) :
    ∀ A ∈ as, IsProd ps nfacs A := by
  unfold selectSmall at h
  split at h
  · cases h
  · rename_i ps p0 tl
    simp only [Option.ite_none_left_eq_some] at h
    obtain ⟨_, _, h⟩ := h
    split at h <;> cases h
    · intro A hA; cases hA
    · intro A hA
      obtain ⟨idxs, h1, h2, h3, h4⟩ :=
        combos_mem (p0 :: tl) (p0 :: tl) nfacs 0 1 0 (by simp) A (closest_mem _ _ _ _ hA)
      exact ⟨idxs, h1, h2, fun i hi => (h3 i hi).2, by rw [h4, Nat.one_mul]⟩

/-- invariant of the inner draw loop: the marked indices are distinct and in range, `prod` is their product -/
def MaskOk (ps : List Nat) (mask : List Nat) (prod : Nat) : Prop :=
  mask.Nodup ∧ (∀ i ∈ mask, i < ps.length) ∧ prod = (mask.map fun i => ps.getD i 0).prod

theorem drawLoop_ok (ps : List Nat) : ∀ (fuel need rng : Nat) (mask : List Nat) (prod : Nat)
    (r : Nat × List Nat × Nat), MaskOk ps mask prod → drawLoop ps fuel need rng mask prod = some r →
    MaskOk ps r.2.1 r.2.2 ∧ r.2.1.length = mask.length + need := by
  intro fuel
  induction fuel with
  | zero => intro need rng mask prod r _ h; simp [drawLoop] at h
  | succ fuel ih =>
    intro need rng mask prod r hok h
    rw [drawLoop] at h
    split at h
    · rename_i h0
      injection h with h; subst h
      exact ⟨hok, by simp [h0]⟩
    · rename_i h0
      simp only [Option.ite_none_left_eq_some, ge_iff_le, not_le] at h
      obtain ⟨hlen, _, h⟩ := h
      split at h
      · exact ih need _ mask prod r hok h
      · rename_i hnc
        simp only [Option.ite_none_left_eq_some] at h
        have hg : xorshift rng % ps.length < ps.length := Nat.mod_lt _ (Nat.pos_of_ne_zero hlen)
        obtain ⟨h1, h2, h3⟩ := hok
        have hok' : MaskOk ps (xorshift rng % ps.length :: mask)
            (prod * ps.getD (xorshift rng % ps.length) 0) := by
          refine ⟨List.nodup_cons.mpr ⟨by simpa using hnc, h1⟩, ?_, ?_⟩
          · intro i hi
            rcases List.mem_cons.mp hi with rfl | hi
            · exact hg
            · exact h2 i hi
          · simp only [List.map_cons, List.prod_cons]; rw [h3]; ring
        obtain ⟨a1, a2⟩ := ih (need - 1) _ _ _ r hok' h.2
        refine ⟨a1, ?_⟩
        rw [a2]; simp only [List.length_cons]; omega

theorem insertSorted_mem (x : Nat) : ∀ (l : List Nat) (y : Nat), y ∈ insertSorted x l → y = x ∨ y ∈ l := by
  intro l
  induction l with
  | nil => intro y hy; simp [insertSorted] at hy; exact Or.inl hy
  | cons z zs ih =>
    intro y hy
    rw [insertSorted] at hy
    split at hy
    · rcases List.mem_cons.mp hy with rfl | hy
      · exact Or.inl rfl
      · exact Or.inr hy
    · split at hy
      · exact Or.inr hy
      · rcases List.mem_cons.mp hy with rfl | hy
        · exact Or.inr List.mem_cons_self
        · rcases ih y hy with h | h
          · exact Or.inl h
          · exact Or.inr (List.mem_cons_of_mem _ h)

theorem insertSorted_sorted (x : Nat) : ∀ (l : List Nat), l.Pairwise (· < ·) → (insertSorted x l).Pairwise (· < ·) := by
  intro l
  induction l with
  | nil => intro _; simp [insertSorted]
  | cons y ys ih =>
    intro h
    rw [insertSorted]
    obtain ⟨h1, h2⟩ := List.pairwise_cons.mp h
    split
    · rename_i hlt
      refine List.pairwise_cons.mpr ⟨?_, h⟩
      intro z hz
      rcases List.mem_cons.mp hz with rfl | hz
      · exact hlt
      · exact lt_trans hlt (h1 z hz)
    · split
      · exact h
      · rename_i hnlt hne
        refine List.pairwise_cons.mpr ⟨?_, ih h2⟩
        intro z hz
        rcases insertSorted_mem _ _ _ hz with rfl | hz
        · omega
        · exact h1 z hz

/-- what is known about every candidate: a product of `k` distinct selected primes inside one of the windows -/
def CandOk (ps : List Nat) (k tgt div0 : Nat) (A : Nat) : Prop :=
  IsProd ps k A ∧ ∃ d, d ≤ div0 ∧ (tolWindow tgt d).1 < A ∧ A < (tolWindow tgt d).2

/-- invariant of the candidate set (a `BTreeSet`): strictly increasing, every element a candidate -/
def CandsOk (ps : List Nat) (k tgt div0 : Nat) (cands : List Nat) : Prop :=
  cands.Pairwise (· < ·) ∧ ∀ A ∈ cands, CandOk ps k tgt div0 A

theorem tryJ_ok (ps : List Nat) (k tgt div0 d : Nat) (mask : List Nat) (prod : Nat) (hd : d ≤ div0)
    (hm : MaskOk ps mask prod) (hk : mask.length + 1 = k) :
    ∀ (js cands r : List Nat), (∀ j ∈ js, j < ps.length) → CandsOk ps k tgt div0 cands →
      tryJ ps mask prod (tolWindow tgt d).1 (tolWindow tgt d).2 js cands = some r → CandsOk ps k tgt div0 r := by
  intro js
  induction js with
  | nil => intro cands r _ hc h; simp [tryJ] at h; subst h; exact hc
  | cons j js ih =>
    intro cands r hjs hc h
    rw [tryJ] at h
    have hjs' : ∀ j ∈ js, j < ps.length := fun x hx => hjs x (List.mem_cons_of_mem _ hx)
    split at h
    · exact ih cands r hjs' hc h
    · rename_i hnc
      simp only [Option.ite_none_left_eq_some] at h
      refine ih _ r hjs' ?_ h.2
      split
      · rename_i hwin
        refine ⟨insertSorted_sorted _ _ hc.1, fun A hA => ?_⟩
        rcases insertSorted_mem _ _ _ hA with rfl | hA
        · obtain ⟨h1, h2, h3⟩ := hm
          refine ⟨⟨j :: mask, List.nodup_cons.mpr ⟨by simpa using hnc, h1⟩, by simp [hk], ?_, ?_⟩,
            d, hd, hwin.1, hwin.2⟩
          · intro i hi
            rcases List.mem_cons.mp hi with rfl | hi
            · exact hjs _ List.mem_cons_self
            · exact h2 i hi
          · simp only [List.map_cons, List.prod_cons]; rw [h3]; ring
        · exact hc.2 A hA
      · exact hc

open Ymq.Gen.SiqsSel in
/-- one iteration of the sampling loop that is not stopped by the loop condition: the divisor is widened or kept, the
inner loop draws `nfacs − 1` primes, `tryJ` extends the candidate set, and then either the early exit returns or the loop
goes on with the new state -/
theorem sampleLoop_succ {tgt nfacs want : Nat} {ps : List Nat} {fuel iters rng div : Nat} {cands as : List Nat}
    (hgo : iters < loopIters * want ∨ cands.length < want)
    (h : sampleLoop tgt nfacs want ps (fuel + 1) iters rng div cands = some as) :
    ∃ div' rng' mask prod js cands', (div' = div ∨ div' = max div 1 - 1) ∧ (∀ j ∈ js, j < ps.length) ∧
      drawLoop ps (64 * 64 * 64) (nfacs - 1) rng [] 1 = some (rng', mask, prod) ∧
      tryJ ps mask prod (tolWindow tgt div').1 (tolWindow tgt div').2 js cands = some cands' ∧
      ((earlyMult * want < cands'.length ∧ as = closest tgt want cands') ∨
        sampleLoop tgt nfacs want ps fuel (iters + 1) rng' div' cands' = some as) := by
  rw [sampleLoop, if_neg (not_not.mpr hgo)] at h
  dsimp only at h
  simp only [Option.ite_none_left_eq_some] at h
  obtain ⟨_, h⟩ := h
  generalize hd' : (if (iters + 1) % (widenEvery * want) = 0 ∧ cands.length < want then max div 1 - 1 else div) = div'
    at h
  obtain ⟨_, h⟩ := h
  split at h
  · cases h
  · rename_i rng' mask prod hdraw
    simp only [Option.ite_none_left_eq_some] at h
    obtain ⟨_, _, h⟩ := h
    split at h
    · cases h
    · rename_i idx _
      split at h
      · cases h
      · rename_i cands' htry
        refine ⟨div', rng', mask, prod, _, cands', ?_, ?_, hdraw, htry, ?_⟩
        · rw [← hd']; split <;> simp
        · intro j hj
          split at hj
          · have := List.mem_range.mp (List.mem_of_mem_drop hj)
            omega
          · exact List.mem_range.mp hj
        · split at h
          · exact Or.inl ⟨‹_ ∧ _›.1, (Option.some.inj h).symm⟩
          · exact Or.inr h

/-- whatever the sampling loop returns is `closest` of a candidate set that satisfies the invariant and has reached
`want` elements (both exits: the loop condition, and the early exit at more than `2·want`) -/
theorem sampleLoop_some (tgt nfacs want div0 : Nat) (ps : List Nat) (hnf : 0 < nfacs) :
    ∀ (fuel iters rng div : Nat) (cands as : List Nat), div ≤ div0 → CandsOk ps nfacs tgt div0 cands →
      sampleLoop tgt nfacs want ps fuel iters rng div cands = some as →
      ∃ c, CandsOk ps nfacs tgt div0 c ∧ want ≤ c.length ∧ as = closest tgt want c := by
  intro fuel
  induction fuel with
  | zero => intro iters rng div cands as _ _ h; simp [sampleLoop] at h
  | succ fuel ih =>
    intro iters rng div cands as hdiv hc h
    by_cases hgo : iters < Ymq.Gen.SiqsSel.loopIters * want ∨ cands.length < want
    · obtain ⟨div', rng', mask, prod, js, cands', hd', hjs, hdraw, htry, hout⟩ := sampleLoop_succ hgo h
      have hdiv' : div' ≤ div0 := by rcases hd' with rfl | rfl <;> omega
      obtain ⟨hm, hml⟩ := drawLoop_ok ps _ _ _ _ _ _ ⟨List.nodup_nil, by simp, by simp⟩ hdraw
      simp only [List.length_nil, Nat.zero_add] at hml
      have hc' := tryJ_ok ps nfacs tgt div0 div' mask prod hdiv' hm (by omega) js cands cands' hjs hc htry
      rcases hout with ⟨hlen, rfl⟩ | hnext
      · have : Ymq.Gen.SiqsSel.earlyMult * want = 2 * want := rfl
        exact ⟨cands', hc', by omega, rfl⟩
      · exact ih _ _ _ _ as hdiv' hc' hnext
    · rw [sampleLoop, if_pos hgo] at h
      exact ⟨cands, hc, by omega, (Option.some.inj h).symm⟩

theorem prime_dvd_idx_prod {ps : List Nat} (hnd : ps.Nodup) (hpr : ∀ p ∈ ps, Nat.Prime p) {idxs : List Nat}
    (hlt : ∀ j ∈ idxs, j < ps.length) {i : Nat} (hi : i < ps.length) :
    ps[i] ∣ (idxs.map fun j => ps.getD j 0).prod ↔ i ∈ idxs := by
  have hget : ∀ j (hj : j < ps.length), ps.getD j 0 = ps[j] := fun j hj => by
    rw [List.getD_eq_getElem?_getD, List.getElem?_eq_getElem hj]; rfl
  constructor
  · intro hd
    obtain ⟨y, hy, hpy⟩ := (hpr _ (List.getElem_mem hi)).prime.dvd_prod_iff.mp hd
    obtain ⟨j, hj, rfl⟩ := List.mem_map.mp hy
    rw [hget j (hlt j hj)] at hpy
    have := (Nat.prime_dvd_prime_iff_eq (hpr _ (List.getElem_mem hi)) (hpr _ (List.getElem_mem (hlt j hj)))).mp hpy
    exact (hnd.getElem_inj_iff.mp this) ▸ hj
  · intro hm
    exact List.dvd_prod (List.mem_map.mpr ⟨i, hm, hget i hi⟩)

/-- a product of `k` selected primes with distinct indices determines its factors: `afsOf` recovers them -/
theorem isProd_afs {n : Int} {sel : List Prime} {f : Factors} {k A : Nat} (hs : SelOk n sel)
    (hf : mkFactors n sel = some f) (hA : IsProd (sel.map (·.p)) k A) :
    A = ((afsOf f A).map (·.2.p)).prod ∧ (afsOf f A).length = k := by
  obtain ⟨idxs, hnd, hlen, hlt, rfl⟩ := hA
  obtain ⟨tbl, _, rfl⟩ := mkFactors_iff.mp hf
  have hpr : ∀ p ∈ sel.map (·.p), Nat.Prime p := fun p hp => by
    obtain ⟨q, hq, rfl⟩ := List.mem_map.mp hp; exact hs.prime q hq
  set A := (idxs.map fun j => (sel.map (·.p)).getD j 0).prod with hAdef
  -- `afsOf` keeps the positions of `idxs`, each with its own prime
  have hperm : ((afsOf ⟨n, sel, tbl⟩ A).map (·.1)).Perm idxs := by
    refine (List.perm_ext_iff_of_nodup (afsOf_fst_nodup _ _) hnd).mpr fun i => ⟨fun hi => ?_, fun hi => ?_⟩
    · obtain ⟨⟨j, q⟩, hx, rfl⟩ := List.mem_map.mp hi
      obtain ⟨hj, rfl, _, hd⟩ := mem_afsOf.mp hx
      exact (prime_dvd_idx_prod hs.nodup hpr hlt (by simpa using hj)).mp (by rw [List.getElem_map]; exact hd)
    · have hj : i < sel.length := by simpa using hlt i hi
      have hd := (prime_dvd_idx_prod hs.nodup hpr hlt (hlt i hi)).mpr hi
      rw [List.getElem_map] at hd
      exact List.mem_map.mpr ⟨(i, sel[i]), mem_afsOf.mpr ⟨hj, rfl, (hs.prime _ (List.getElem_mem hj)).pos.ne', hd⟩, rfl⟩
  have hmap : (afsOf ⟨n, sel, tbl⟩ A).map (·.2.p)
      = ((afsOf ⟨n, sel, tbl⟩ A).map (·.1)).map fun j => (sel.map (·.p)).getD j 0 := by
    rw [List.map_map]
    refine List.map_congr_left fun x hx => ?_
    obtain ⟨hj, hq, _⟩ := (mem_afsOf (j := x.1) (q := x.2)).mp hx
    simp [hq, hj]
  exact ⟨by rw [hmap, (hperm.map _).prod_eq], by rw [← hlen, ← hperm.length_eq, List.length_map]⟩

theorem selectA_sound {n : Int} {tgt nfacs want fuel : Nat} {ps as : List Nat} (hnf : 0 < nfacs)
    (h : selectA n tgt nfacs want ps fuel = some as) :
    ∀ A ∈ as, IsProd ps nfacs A ∧
      (¬ (nfacs ≤ Ymq.Gen.SiqsSel.smallNf ∧ bitlen tgt ≤ Ymq.Gen.SiqsSel.smallBits) →
        ∃ d, (tolWindow tgt d).1 < A ∧ A < (tolWindow tgt d).2) := by
  unfold selectA at h
  rw [if_neg (by omega)] at h
  split at h
  · cases h
  · rename_i div hdiv
    split at h
    · cases h
    · split at h
      · rename_i hsmall
        intro A hA
        exact ⟨selectSmall_sound h A hA, fun hns => absurd hsmall hns⟩
      · intro A hA
        obtain ⟨c, hc, _, rfl⟩ := sampleLoop_some tgt nfacs want div ps hnf fuel 0 _ div [] as (le_refl _)
          ⟨List.Pairwise.nil, by simp⟩ h
        obtain ⟨h1, d, _, h2, h3⟩ := hc.2 A (closest_mem _ _ _ _ hA)
        exact ⟨h1, fun _ => ⟨d, h2, h3⟩⟩

theorem tolWindow_bounds {tgt d A : Nat} (h1 : (tolWindow tgt d).1 < A) (h2 : A < (tolWindow tgt d).2) :
    A ≤ 4 * tgt ∧ (d ≠ 1 → tgt ≤ 4 * A) ∧ (4 ≤ d → 3 * tgt ≤ 4 * A) := by
  unfold tolWindow at h1 h2
  split at h1
  · rename_i h0
    simp only [h0, if_true] at h2
    simp only at h1 h2
    exact ⟨by omega, fun _ => by omega, fun h4 => by omega⟩
  · rename_i h0
    simp only [h0, if_false] at h2
    simp only at h1 h2
    have hdle : tgt / d ≤ tgt := Nat.div_le_self _ _
    refine ⟨by omega, ?_, ?_⟩
    · intro hd1
      have : tgt / d ≤ tgt / 2 := Nat.div_le_div_left (by omega) (by norm_num)
      omega
    · intro h4
      have : tgt / d ≤ tgt / 4 := Nat.div_le_div_left h4 (by norm_num)
      omega

end Ymq.PolySelect
