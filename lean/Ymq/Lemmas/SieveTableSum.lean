/-
C13 helper lemmas: the logs `sieve_block` reads back from ALL bucket tables (size classes 16..18 and the large
tables), for tables that were filled from fresh ones (`Filled`, `Fresh`): at every position at most the bit lengths of
the primes ≥ 32768 with a root there (`tabF`), exactly those when no table has lost an entry (`tableHits_sum`).
-/
import Ymq.Lemmas.SieveLogTables

namespace Ymq.SieveLog
open Ymq.Sieve

theorem hitSum_sublist {a b : List (Nat × Nat)} (h : a.Sublist b) (x : Nat) : hitSum a x ≤ hitSum b x := by
  induction h with
  | slnil => exact le_refl _
  | cons c _ ih => rw [hitSum_cons]; omega
  | cons_cons c _ ih => rw [hitSum_cons, hitSum_cons]; omega

theorem hitSum_flatMap_map {α} (P : α → List (Nat × Nat)) (m : Nat × Nat → Nat × Nat) (x : Nat) :
    ∀ (L : List α), hitSum ((L.flatMap P).map m) x = (L.map fun i => hitSum ((P i).map m) x).sum := by
  intro L
  induction L with
  | nil => rfl
  | cons a t ih => rw [List.flatMap_cons, List.map_append, hitSum_append, ih, List.map_cons, List.sum_cons]

theorem sum_single (f : Nat → Nat) (j : Nat) :
    ∀ (n s : Nat), s ≤ j → j < s + n → (∀ i, i ≠ j → f i = 0) → ((List.range' s n).map f).sum = f j := by
  intro n
  induction n with
  | zero => intro s h1 h2 _; omega
  | succ n ih =>
    intro s h1 h2 h0
    rw [List.range'_succ, List.map_cons, List.sum_cons]
    by_cases hs : s = j
    · subst hs
      have : ((List.range' (s + 1) n).map f).sum = 0 := by
        apply List.sum_eq_zero
        intro v hv
        obtain ⟨i, hi, rfl⟩ := List.mem_map.1 hv
        have := List.mem_range'_1.1 hi
        exact h0 i (by omega)
      omega
    · rw [h0 s hs, Nat.zero_add]
      exact ih (s + 1) (by omega) (by omega) h0

/-- the entries of one bucket (`P`), mapped to positions of the block by a map `g` that is injective on the bucket
and hits `x` exactly at the offset `X`: they add `lg` at `x` exactly when `X` is a registered offset of the bucket. -/
theorem part_sum {O : List Nat} (hnd : O.Nodup) (P : Nat → Bool) (g : Nat → Nat) {x X lg : Nat}
    (hinj : ∀ a b, P a = true → P b = true → g a = g b → a = b)
    (hx : ∀ off, P off = true → (g off = x ↔ off = X)) :
    hitSum (((O.filter P).map g).map fun y => (y, lg)) x = if P X = true ∧ X ∈ O then lg else 0 := by
  rw [hitSum_map_nodup lg x _ (List.Nodup.map_on
    (fun a ha b hb e => hinj a b (List.mem_filter.1 ha).2 (List.mem_filter.1 hb).2 e) (hnd.filter _))]
  congr 1
  apply propext
  rw [List.mem_map]
  constructor
  · rintro ⟨off, hm, he⟩
    obtain ⟨hm1, hm2⟩ := List.mem_filter.1 hm
    have := (hx off hm2).1 he
    subst this
    exact ⟨hm2, hm1⟩
  · rintro ⟨hp, hm⟩
    exact ⟨X, List.mem_filter.2 ⟨hm, hp⟩, (hx X hp).2 rfl⟩

/-- the bucket entries of one prime, read back as hits of bucket `b` of block `blkNo`, add its log exactly when `b` is
the bucket of `x` and `blkNo·32768 + x` is one of its registered offsets. -/
theorem _root_.Ymq.Sieve.BStore.part_hit {T : Type} (S : BStore T) {O : Nat → List Nat} {red : Nat → Nat}
    {pidx blkNo b x lg : Nat} (hnd : (O pidx).Nodup) (hb : b < S.nb) (hx : x < BLOCK) :
    hitSum ((S.part O red (blkNo * S.nb + b) pidx).map fun e => (S.pos b e, lg)) x =
      if b = x / S.W then (if blkNo * BLOCK + x ∈ O pidx then lg else 0) else 0 := by
  have hmap : (S.part O red (blkNo * S.nb + b) pidx).map (fun e => (S.pos b e, lg)) =
      ((((O pidx).filter fun off => off / S.W = blkNo * S.nb + b).map
        fun off => S.pos b (S.ent (off, red pidx)))).map fun y => (y, lg) := by
    unfold BStore.part; rw [List.map_map, List.map_map]; rfl
  -- inside the bucket, the position read back is the offset within the block
  have hpe : ∀ off, decide (off / S.W = blkNo * S.nb + b) = true →
      S.pos b (S.ent (off, red pidx)) + blkNo * BLOCK = off := fun off ho =>
    S.pos_ent blkNo b off _ hb (of_decide_eq_true ho)
  obtain ⟨hq, _⟩ := S.bucket_of blkNo x hx
  rw [hmap, part_sum hnd _ _ (X := blkNo * BLOCK + x)
    (fun a c ha hc e => by rw [← hpe a ha, ← hpe c hc, e])
    (fun off ho => by have := hpe off ho; omega)]
  rw [ite_and]
  refine if_congr ?_ rfl rfl
  rw [decide_eq_true_eq, hq]
  omega

/-- the entries of a range of primes read back from one bucket: nothing unless the bucket is the one of `x` (`q`). -/
theorem hitSum_flatMap_if (part : Nat → List (Nat × Nat)) (m : Nat × Nat → Nat × Nat) (x : Nat) (q : Prop) [Decidable q]
    (c : Nat → Nat) (L : List Nat) (h : ∀ pidx ∈ L, hitSum ((part pidx).map m) x = if q then c pidx else 0) :
    hitSum ((L.flatMap part).map m) x = if q then (L.map c).sum else 0 := by
  rw [hitSum_flatMap_map]
  by_cases hq : q
  · rw [if_pos hq]
    congr 1
    exact List.map_congr_left (fun pidx hm => by rw [h pidx hm, if_pos hq])
  · rw [if_neg hq]
    apply List.sum_eq_zero
    intro v hv
    obtain ⟨pidx, hm, rfl⟩ := List.mem_map.1 hv
    rw [h pidx hm, if_neg hq]

/-- the read loops of `sieve_block` over one family of tables, `for bucket in 0..nb { for tidx in 0..ntab { .. } }`:
only the bucket `pos` of `x` contributes, one class term per table. -/
theorem rows_rel (R : Nat → Nat → Prop) (hR0 : R 0 0) (hRadd : ∀ a b c d, R a b → R c d → R (a + c) (b + d))
    {x : Nat} (cell : Nat → Nat → Option (List (Nat × Nat))) (nb ntab pos : Nat) (cls : Nat → Nat) (hpos : pos < nb)
    (hcell : ∀ b, b < nb → ∀ tidx l, cell b tidx = some l → R (hitSum l x) (if b = pos then cls tidx else 0))
    {h1 : List (List (Nat × Nat))}
    (hh : (List.range' 0 nb).mapM (fun b => do
      let ls ← (List.range' 0 ntab).mapM (cell b)
      some ls.flatten) = some h1) :
    R (hitSum h1.flatten x) ((List.range' 0 ntab).map cls).sum := by
  have hrow := mapM_flatten_rel R hR0 hRadd _ (fun b => if b = pos then ((List.range' 0 ntab).map cls).sum else 0)
    x _ _ hh (by
      intro b hbm l hl
      have hb : b < nb := by have := List.mem_range'_1.1 hbm; omega
      simp only [Option.bind_eq_bind, Option.bind_eq_some_iff, Option.some.injEq] at hl
      obtain ⟨ls, hls, rfl⟩ := hl
      have := mapM_flatten_rel R hR0 hRadd _ (fun tidx => if b = pos then cls tidx else 0) x _ _ hls
        (fun tidx _ l hl => hcell b hb tidx l hl)
      by_cases hq : b = pos
      · simpa [hq] using this
      · simpa [hq] using this)
  rw [sum_single _ pos nb 0 (by omega) (by omega) (fun i hi => by simp [hi])] at hrow
  simpa using hrow

/-- bucket `b` of table `tidx` for block `blkNo`, as hits (`tableBucketHits`, `ltableBucketHits`). -/
def _root_.Ymq.Sieve.BStore.cell {T : Type} (S : BStore T) (tabs : Array T) (blkNo base b tidx : Nat) :
    Option (List (Nat × Nat)) := do
  let t ← tabs[tidx]?
  let es ← S.bucket t (blkNo * S.nb + b)
  some (es.map fun e => (S.pos b e, (base + tidx) % 256))

theorem tableBucketHits_eq (s : State) (b : Nat) : tableBucketHits s b = tstore.cell s.tables s.blkNo 16 b := by
  funext tidx
  have e : s.blkNo * 4096 + b * 32 = (s.blkNo * 128 + b) * 32 := by ring
  unfold tableBucketHits BStore.cell
  show _ = (s.tables[tidx]?).bind fun t => (Table.bucket t (s.blkNo * 128 + b)).bind fun es =>
    some (es.map fun e => (b * 256 + e.1, (16 + tidx) % 256))
  unfold Table.bucket
  simp only [N_BUCKETS, N_ENTRIES, BUCKET_SIZE, BUCKET_WIDTH, LARGE_LOG, e, Option.bind_eq_bind]
  cases s.tables[tidx]? with
  | none => rfl
  | some t =>
    simp only [Option.bind_some]
    cases t.blens[s.blkNo * 128 + b]? <;> rfl

theorem ltableBucketHits_eq (s : State) (b : Nat) : ltableBucketHits s b = lstore.cell s.ltables s.blkNo 19 b := by
  funext tidx
  unfold ltableBucketHits BStore.cell
  rw [Nat.mul_comm 2 s.blkNo]
  rfl

/-- `a ≤ c`, and `a = c` when `Z` (no table has lost an entry): a bucket shows a sublist of what was registered for it, and
all of it when its table counted no overflow, so the read loops are walked once for both. -/
def LeEq (Z : Prop) (a c : Nat) : Prop := a ≤ c ∧ (Z → a = c)

theorem LeEq.zero (Z : Prop) : LeEq Z 0 0 := ⟨le_refl 0, fun _ => rfl⟩

theorem LeEq.add {Z : Prop} {a b c d : Nat} (h1 : LeEq Z a b) (h2 : LeEq Z c d) : LeEq Z (a + c) (b + d) :=
  ⟨Nat.add_le_add h1.1 h2.1, fun z => by rw [h1.2 z, h2.2 z]⟩

theorem _root_.Ymq.Sieve.BStore.cell_sum {T : Type} (S : BStore T) {fb : FB} (hfb : fb.WF) {base : Nat}
    {O : Nat → List Nat} {red : Nat → Nat} {Q : Nat → Prop} {T0 tabs : Array T}
    (hF : Filled (fun t a => S.add t a.1 a.2) fb base O red Q fb.primes.size T0 tabs) (h0 : Fresh S T0)
    {Z : Prop} (hZ : Z → ∀ (i : Nat) (t : T), tabs[i]? = some t → S.cnt t = 0) (F : Nat → Nat)
    {blkNo x : Nat} (hx : x < BLOCK)
    (hFO : ∀ tidx pidx p, fb.primes[pidx]? = some p → bitlen p = tidx + base →
      (O pidx).Nodup ∧ (if blkNo * BLOCK + x ∈ O pidx then (base + tidx) % 256 else 0) = F pidx)
    {b tidx : Nat} (hb : b < S.nb) {l : List (Nat × Nat)} (hl : S.cell tabs blkNo base b tidx = some l) :
    LeEq Z (hitSum l x) (if b = x / S.W then
      rangeSum F (iblAt fb (tidx + base)) (iblAt fb (tidx + base + 1) - iblAt fb (tidx + base)) else 0) := by
  unfold BStore.cell at hl
  simp only [Option.bind_eq_bind, Option.bind_eq_some_iff, Option.some.injEq] at hl
  obtain ⟨t, ht, es, hes, rfl⟩ := hl
  obtain ⟨t0, idx1, idx2, ht0, hi1, hi2, hfold, _⟩ := hF.done hfb ht
  obtain ⟨hw, hc, hnil⟩ := h0 tidx t0 ht0
  obtain ⟨hsub, heq⟩ := S.read_filled hw hc hnil hfold hes
  rw [iblAt_eq hi1, iblAt_eq hi2]
  have key : hitSum ((S.sel (classAdds O red idx1 idx2) (blkNo * S.nb + b)).map
      fun e => (S.pos b e, (base + tidx) % 256)) x = if b = x / S.W then rangeSum F idx1 (idx2 - idx1) else 0 := by
    rw [S.sel_classAdds]
    refine hitSum_flatMap_if _ _ x (b = x / S.W) F _ (fun pidx hm => ?_)
    obtain ⟨m1, m2⟩ := List.mem_range'_1.1 hm
    obtain ⟨p, hp⟩ := hfb.prime_at (i := pidx) (by have := hfb.ibl_le _ _ hi2; omega)
    obtain ⟨hnd, hF'⟩ := hFO tidx pidx p hp ((hfb.class_of hp hi1 hi2).1 ⟨m1, by omega⟩)
    rw [S.part_hit hnd hb hx, hF']
  rw [← key]
  exact ⟨hitSum_sublist (hsub.map _) x, fun z => by rw [heq (hZ z tidx t ht)]⟩

theorem map_shift_range' (R : Nat → Nat) (a n s : Nat) :
    (List.range' s n).map (fun t => R (t + a)) = (List.range' (s + a) n).map R := by
  rw [Nat.add_comm s a, ← List.map_add_range', List.map_map]
  exact List.map_congr_left (fun t _ => by rw [Function.comp_apply, Nat.add_comm])

theorem classRanges_sum {fb : FB} (hfb : fb.WF) (F : Nat → Nat) (base size : Nat) (hbs : base + size ≤ 25) :
    ((List.range' 0 size).map fun tidx =>
      rangeSum F (iblAt fb (tidx + base)) (iblAt fb (tidx + base + 1) - iblAt fb (tidx + base))).sum =
      rangeSum F (iblAt fb base) (iblAt fb (base + size) - iblAt fb base) := by
  have := rangeSum_chain F 0 (iblAt fb) size base (fun l h1 h2 => iblAt_mono hfb (Nat.le_succ l) (by omega))
  simp only [Nat.zero_max] at this
  rw [← this, map_shift_range' (fun l => rangeSum F (iblAt fb l) (iblAt fb (l + 1) - iblAt fb l)) base size 0,
    Nat.zero_add]

/-- the read loops of `sieve_block` over one family of tables. -/
theorem _root_.Ymq.Sieve.BStore.family_sum {T : Type} (S : BStore T) {fb : FB} (hfb : fb.WF) {base : Nat}
    {O : Nat → List Nat} {red : Nat → Nat} {Q : Nat → Prop} {T0 tabs : Array T}
    (hF : Filled (fun t a => S.add t a.1 a.2) fb base O red Q fb.primes.size T0 tabs) (h0 : Fresh S T0)
    {Z : Prop} (hZ : Z → ∀ (i : Nat) (t : T), tabs[i]? = some t → S.cnt t = 0) (F : Nat → Nat)
    {blkNo x : Nat} (hx : x < BLOCK) (hbs : base + tabs.size ≤ 25)
    (hFO : ∀ tidx pidx p, fb.primes[pidx]? = some p → bitlen p = tidx + base →
      (O pidx).Nodup ∧ (if blkNo * BLOCK + x ∈ O pidx then (base + tidx) % 256 else 0) = F pidx)
    {h1 : List (List (Nat × Nat))}
    (hh : (List.range' 0 S.nb).mapM (fun b => do
      let ls ← (List.range' 0 tabs.size).mapM (S.cell tabs blkNo base b)
      some ls.flatten) = some h1) :
    LeEq Z (hitSum h1.flatten x) (rangeSum F (iblAt fb base) (iblAt fb (base + tabs.size) - iblAt fb base)) := by
  rw [← classRanges_sum hfb F base tabs.size hbs]
  exact rows_rel (LeEq Z) (LeEq.zero Z) (fun _ _ _ _ => LeEq.add) (S.cell tabs blkNo base) S.nb tabs.size (x / S.W) _
    (S.bucket_of blkNo x hx).2 (fun b hb tidx l hl => S.cell_sum hfb hF h0 hZ F hx hFO hb hl) hh

theorem OffsFor.term {fb : FB} (hfb : fb.WF) {r1 r2 : Array Nat} (hr : RootsOK fb r1 r2) {interval : Nat}
    {O : Nat → List Nat} (hO : OffsFor fb r1 r2 interval O) {base tidx pidx p : Nat} (X : Nat) (h16 : 16 ≤ base)
    (hp : fb.primes[pidx]? = some p) (hb : bitlen p = tidx + base) :
    (O pidx).Nodup ∧ (if X ∈ O pidx then (base + tidx) % 256 else 0) = tabF fb r1 r2 interval X pidx := by
  have hbig : 32768 ≤ p := two_pow_le_of_bitlen (l := 15) (by omega)
  have h24 := (bitlen_lt_succ_iff p 24).2 (hfb.lt24 _ _ hp)
  obtain ⟨o1, o2, h1, h2, _⟩ := hr _ _ hp
  obtain ⟨hnd, hmem⟩ := hO hp hbig h1 h2
  refine ⟨hnd, ?_⟩
  unfold tabF
  simp only [hp, h1, h2]
  rw [show (base + tidx) % 256 = bitlen p by omega]
  exact if_congr (hmem X) rfl rfl

theorem tabRange_join {fb : FB} (hfb : fb.WF) (F : Nat → Nat) {nS maxprime sT sL : Nat} (hnS : fb.ibl[16]? = some nS)
    (hmax : fb.primes.back? = some maxprime) (hsT : sT = min 18 (bitlen maxprime) + 1 - 16)
    (hsL : sL = bitlen maxprime + 1 - 19) :
    rangeSum F (iblAt fb 16) (iblAt fb (16 + sT) - iblAt fb 16) +
      rangeSum F (iblAt fb 19) (iblAt fb (19 + sL) - iblAt fb 19) = rangeSum F nS (fb.primes.size - nS) := by
  have hml := hfb.bitlen_back_le hmax
  rw [iblAt_eq hnS]
  by_cases h19 : 19 ≤ bitlen maxprime
  · obtain ⟨rfl, rfl⟩ : sT = 3 ∧ sL = bitlen maxprime + 1 - 19 := ⟨by omega, hsL⟩
    have m1 : nS ≤ iblAt fb 19 := by rw [← iblAt_eq hnS]; exact iblAt_mono hfb (by omega) (by omega)
    have m2 := iblAt_le hfb (l := 19) (by omega)
    rw [Nat.add_sub_of_le (by omega : 19 ≤ bitlen maxprime + 1), iblAt_top hfb hmax (Nat.lt_succ_self _) (by omega),
      ← Nat.sub_add_sub_cancel m2 m1, Nat.add_comm (fb.primes.size - _), rangeSum_append, Nat.add_sub_of_le m1]
  · obtain ⟨rfl, e⟩ : sL = 0 ∧ 16 + sT = max 16 (bitlen maxprime + 1) := by omega
    rw [Nat.add_zero, Nat.sub_self, rangeSum_zero, Nat.add_zero, e, iblAt_top hfb hmax (by omega) (by omega)]

/-- what the table loops of `sieve_block` add at `x`, for tables filled from fresh ones with offsets that enumerate the
hits: at most the bit lengths of the primes ≥ 32768 with a root there, exactly those when no table has lost an entry. -/
theorem tableHits_sum {fb : FB} (hfb : fb.WF) {rL1 rL2 : Array Nat} (hr : RootsOK fb rL1 rL2) {OT : Nat → List Nat}
    {g : Nat → Nat → Nat → Nat → Option (List Nat)} {T0 : Array Table} {L0 : Array LTable}
    {interval nS maxprime : Nat} {s : State}
    (hF : FilledTL fb rL1 rL2 interval OT g fb.primes.size T0 s.tables L0 s.ltables)
    (h0 : Fresh tstore T0) (h0L : Fresh lstore L0) (hOT : OffsFor fb rL1 rL2 interval OT)
    (hOV : OffsFor fb rL1 rL2 interval (offsV fb rL1 rL2 interval))
    (hnS : fb.ibl[16]? = some nS) (hmax : fb.primes.back? = some maxprime)
    (hts : s.tables.size = min 18 (bitlen maxprime) + 1 - 16) (hlts : s.ltables.size = bitlen maxprime + 1 - 19)
    {th : List (Nat × Nat)} (hth : tableHits s = some th) {x : Nat} (hx : x < 32768) :
    LeEq ((∀ (ti : Nat) (t : Table), s.tables[ti]? = some t → t.nOverflows = 0) ∧
        (∀ (ti : Nat) (t : LTable), s.ltables[ti]? = some t → t.overflows.size = 0))
      (hitSum th x) (rangeSum (tabF fb rL1 rL2 interval (s.blkNo * BLOCK + x)) nS (fb.primes.size - nS)) := by
  have hml := hfb.bitlen_back_le hmax
  rw [← tabRange_join hfb _ hnS hmax hts hlts]
  unfold tableHits at hth
  by_cases hz : s.tables.size = 0
  · simp only [hz, if_true, Option.some.injEq] at hth
    subst hth
    have hzl : s.ltables.size = 0 := by omega
    rw [hz, hzl, Nat.add_zero, Nat.add_zero, Nat.sub_self, Nat.sub_self, rangeSum_zero, hitSum_nil]
    exact LeEq.zero _
  simp only [hz, if_false, Option.bind_eq_bind, Option.bind_eq_some_iff, Option.some.injEq] at hth
  obtain ⟨h1, hh1, h2, hh2, rfl⟩ := hth
  rw [hitSum_append]
  simp only [tableBucketHits_eq, ltableBucketHits_eq] at hh1 hh2
  exact LeEq.add
    (tstore.family_sum hfb hF.1 h0 (fun z => z.1) _ hx (by omega)
      (fun tidx pidx p hp hb => hOT.term hfb hr _ (le_refl 16) hp hb) hh1)
    (lstore.family_sum hfb hF.2 h0L (fun z => z.2) _ hx (by omega)
      (fun tidx pidx p hp hb => hOV.term hfb hr _ (by omega) hp hb) hh2)

end Ymq.SieveLog
