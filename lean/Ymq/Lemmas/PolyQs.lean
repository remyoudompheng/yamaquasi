/-
Classical quadratic sieve (C12): exactness of the forward / backward root tables (also in
"only odds" mode) and the shift of the roots between large blocks (`next_lgblock`).
-/
import Ymq.Lemmas.PolyBits
import Ymq.Lemmas.PolyRoots
import Ymq.Model.QsRoots
import Ymq.Gen.QsShift
open Ymq.SiqsPoly (Prime bitlen)
namespace Ymq.PolyQs
open Ymq.PolyRoots Ymq.QsRoots

/-- the multiplier of the position: 2 in "only odds" mode -/
def stride (q : QS) : Int := if q.onlyOdds then 2 else 1

/-- forward sieve: position `x` is the candidate `(R + m·x)² − n` -/
def fwdVal (q : QS) (x : Int) : Int := ((q.nsqrt : Int) + stride q * x) ^ 2 - (q.n : Int)

/-- backward sieve: position `x` is the candidate `(R − m·(x + 1))² − n` -/
def bckVal (q : QS) (x : Int) : Int := ((q.nsqrt : Int) - stride q * (x + 1)) ^ 2 - (q.n : Int)

theorem stride_cast {q : QS} {p s1 s2 : Nat} (hp : Nat.Prime p) (hodd : q.onlyOdds = true → p ≠ 2)
    (hpar : s1 % 2 = s2 % 2) :
    ¬ ((p : Int) ∣ stride q) ∧
    ((stride q : Int) : ZMod p) * (((if q.onlyOdds then halve p s1 s2 else (s1, s2)).1 : Nat) : ZMod p) = s1 ∧
    ((stride q : Int) : ZMod p) * (((if q.onlyOdds then halve p s1 s2 else (s1, s2)).2 : Nat) : ZMod p) = s2 := by
  unfold stride
  by_cases hoo : q.onlyOdds = true
  · have hpodd : p % 2 = 1 := hp.eq_two_or_odd.resolve_left (hodd hoo)
    simp only [hoo, if_true]
    refine ⟨not_dvd_two hp (hodd hoo), ?_⟩
    unfold halve
    push_cast
    split
    · exact ⟨two_mul_cast (Or.inl (by omega)), two_mul_cast (Or.inl (by omega))⟩
    · exact ⟨two_mul_cast (Or.inr (by omega)), two_mul_cast (Or.inr (by omega))⟩
  · simp only [hoo, Bool.false_eq_true, if_false]
    exact ⟨not_dvd_one hp, by simp, by simp⟩

theorem qs_fwd_exact {q : QS} {pr : Prime} {r1 r2 : Nat} (hp : Nat.Prime pr.p) (hr : pr.r < pr.p)
    (hsq : (pr.r : Int) * pr.r ≡ (q.n : Int) [ZMOD pr.p])
    (hodd : q.onlyOdds = true → pr.p ≠ 2)
    (h : prepareFwd q pr = some (r1, r2)) (x : Int) :
    r1 < pr.p ∧ r2 < pr.p ∧
    ((pr.p : Int) ∣ fwdVal q x ↔ (x ≡ (r1 : Int) [ZMOD pr.p] ∨ x ≡ (r2 : Int) [ZMOD pr.p])) := by
  have hppos : 0 < pr.p := hp.pos
  unfold prepareFwd at h
  simp only [hppos.ne', if_false, Option.ite_none_left_eq_some, not_lt] at h
  obtain ⟨hu1, hu2, h⟩ := h
  rw [if_neg (fun hc => hodd hc.1 hc.2)] at h
  simp only [Option.some.injEq, Prod.mk.injEq] at h
  obtain ⟨rfl, rfl⟩ := h
  have hbase : nsqrtMod q pr.p < pr.p := Nat.mod_lt _ hppos
  have hbz : ((nsqrtMod q pr.p : Nat) : ZMod pr.p) = (q.nsqrt : ZMod pr.p) := ZMod.natCast_mod _ _
  -- `s1 ≡ r − R`, `s2 ≡ −r − R`
  have hs1 : ((2 * pr.p + pr.r - nsqrtMod q pr.p : Nat) : ZMod pr.p)
      = (pr.r : ZMod pr.p) - (q.nsqrt : ZMod pr.p) := by
    rw [Nat.cast_sub (by omega), Nat.cast_add, Nat.cast_mul, ZMod.natCast_self, hbz]; ring
  have hs2 : ((2 * pr.p - pr.r - nsqrtMod q pr.p : Nat) : ZMod pr.p)
      = -(pr.r : ZMod pr.p) - (q.nsqrt : ZMod pr.p) := by
    rw [Nat.cast_sub (by omega), Nat.cast_sub (by omega), Nat.cast_mul, ZMod.natCast_self, hbz]; ring
  obtain ⟨hm, e1, e2⟩ := stride_cast (q := q) (s1 := 2 * pr.p + pr.r - nsqrtMod q pr.p)
    (s2 := 2 * pr.p - pr.r - nsqrtMod q pr.p) hp hodd (by omega)
  rw [hs1] at e1
  rw [hs2] at e2
  refine ⟨Nat.mod_lt _ hppos, Nat.mod_lt _ hppos,
    quad_roots_iff hp (L := stride q) (M := 1) (so := 0) (b := (q.nsqrt : Int)) (r := -(pr.r : Int))
      (n := (q.n : Int)) (Pv := fwdVal q x) (x := x) (by unfold fwdVal; ring) (not_dvd_one hp) hm (by rwa [neg_mul_neg]) (zmod_to_modEq ?_) (zmod_to_modEq ?_)⟩
  · push_cast; linear_combination e1
  · push_cast; linear_combination e2

theorem qs_bck_exact {q : QS} {pr : Prime} {r1 r2 : Nat} (hp : Nat.Prime pr.p)
    (hsq : (pr.r : Int) * pr.r ≡ (q.n : Int) [ZMOD pr.p])
    (hodd : q.onlyOdds = true → pr.p ≠ 2)
    (h : prepareBck q pr = some (r1, r2)) (x : Int) :
    r1 < pr.p ∧ r2 < pr.p ∧
    ((pr.p : Int) ∣ bckVal q x ↔ (x ≡ (r1 : Int) [ZMOD pr.p] ∨ x ≡ (r2 : Int) [ZMOD pr.p])) := by
  have hppos : 0 < pr.p := hp.pos
  unfold prepareBck at h
  simp only [hppos.ne', if_false, Option.ite_none_left_eq_some, not_lt] at h
  obtain ⟨hu1, h⟩ := h
  rw [if_neg (fun hc => hodd hc.1 hc.2)] at h
  simp only [Option.some.injEq, Prod.mk.injEq] at h
  obtain ⟨rfl, rfl⟩ := h
  have hbase : nsqrtMod q pr.p < pr.p := Nat.mod_lt _ hppos
  have hbz : ((nsqrtMod q pr.p : Nat) : ZMod pr.p) = (q.nsqrt : ZMod pr.p) := ZMod.natCast_mod _ _
  -- `s1 ≡ R − r`, `s2 ≡ R + r`; the stored entry is `s − 1`
  have hs1 : ((2 * pr.p + nsqrtMod q pr.p - pr.r : Nat) : ZMod pr.p)
      = (q.nsqrt : ZMod pr.p) - (pr.r : ZMod pr.p) := by
    rw [Nat.cast_sub (by omega), Nat.cast_add, Nat.cast_mul, ZMod.natCast_self, hbz]; ring
  have hs2 : ((2 * pr.p + nsqrtMod q pr.p + pr.r : Nat) : ZMod pr.p)
      = (q.nsqrt : ZMod pr.p) + (pr.r : ZMod pr.p) := by
    rw [Nat.cast_add, Nat.cast_add, Nat.cast_mul, ZMod.natCast_self, hbz]; ring
  have hp1 : ((pr.p - 1 : Nat) : ZMod pr.p) = -1 := by
    rw [Nat.cast_sub hppos, ZMod.natCast_self, Nat.cast_one, zero_sub]
  obtain ⟨hm, e1, e2⟩ := stride_cast (q := q) (s1 := 2 * pr.p + nsqrtMod q pr.p - pr.r)
    (s2 := 2 * pr.p + nsqrtMod q pr.p + pr.r) hp hodd (by omega)
  rw [hs1] at e1
  rw [hs2] at e2
  refine ⟨Nat.mod_lt _ hppos, Nat.mod_lt _ hppos,
    quad_roots_iff hp (L := -stride q) (M := 1) (so := 1) (b := (q.nsqrt : Int)) (r := -(pr.r : Int))
      (n := (q.n : Int)) (Pv := bckVal q x) (x := x) (by unfold bckVal; ring) (not_dvd_one hp) (fun hd => hm (Int.dvd_neg.mp hd)) (by rwa [neg_mul_neg])
      (zmod_to_modEq ?_) (zmod_to_modEq ?_)⟩
  · push_cast; linear_combination -e1 - ((stride q : Int) : ZMod pr.p) * hp1
  · push_cast; linear_combination -e2 - ((stride q : Int) : ZMod pr.p) * hp1

theorem qs_two {q : QS} {r : Nat} (hoo : q.onlyOdds = true) (hr : r < 2) :
    prepareFwd q ⟨2, r⟩ = some (0, 1) ∧ prepareBck q ⟨2, r⟩ = some (0, 1) := by
  have hb : nsqrtMod q 2 < 2 := Nat.mod_lt _ (by norm_num)
  constructor
  · unfold prepareFwd; simp only [hoo]
    rw [if_neg (by norm_num), if_neg (by omega), if_neg (by omega)]; simp
  · unfold prepareBck; simp only [hoo]
    rw [if_neg (by norm_num), if_neg (by omega)]; simp

open Ymq.Gen.QsShift in
/-- the translated body of `next_lgblock`: both roots move by `−o` modulo `p` -/
theorem shiftPair_eq (o p r1 r2 : Nat) (ho : o < p) (h1 : r1 < p) (h2 : r2 < p) (hp : p < 2 ^ 31) :
    shiftPair o p r1 r2 = ((r1 + p - o) % p, (r2 + p - o) % p) := by
  -- the same `u32` trick as the downward step of `Poly::next`
  show (Ymq.SiqsPoly.stepDown p o r1, Ymq.SiqsPoly.stepDown p o r2) = _
  rw [Ymq.PolyBits.stepDown_eq r1 o p h1 ho hp, Ymq.PolyBits.stepDown_eq r2 o p h2 ho hp]

open Ymq.Gen.QsShift in
/-- after the shift by one large block of `L = nblocks·BLOCK_SIZE` positions, position `x` of the new
block is position `x + L` of the old one: `x + L ≡ r ⟺ x ≡ r'` -/
theorem shift_root_iff (nb p r : Nat) (hp : 0 < p) (x : Int) :
    (x + (largeBlockSize nb : Int) ≡ (r : Int) [ZMOD p]) ↔
      (x ≡ (((r + p - blkszModp nb p) % p : Nat) : Int) [ZMOD p]) := by
  have ho : blkszModp nb p < p := Nat.mod_lt _ hp
  have e : (((r + p - blkszModp nb p) % p : Nat) : Int) ≡ (r : Int) - (largeBlockSize nb : Int) [ZMOD p] := by
    apply zmod_to_modEq
    push_cast
    rw [Nat.cast_sub (by omega), Nat.cast_add, ZMod.natCast_self]
    unfold blkszModp
    rw [ZMod.natCast_mod]; ring
  constructor
  · intro h
    have : x ≡ (r : Int) - (largeBlockSize nb : Int) [ZMOD p] := by
      have := h.sub_right (largeBlockSize nb : Int)
      simpa using this
    exact this.trans e.symm
  · intro h
    have := (h.trans e).add_right (largeBlockSize nb : Int)
    simpa using this

end Ymq.PolyQs
