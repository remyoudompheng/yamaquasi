/-
Flag arrays of the sieves of src/fbase.rs (C17): reading a flag, the marking loops
`markFrom`, `mark1`, `mark3` mark exactly the indices `k, k + p, k + 2p, …` below the array size.
-/
import Mathlib.Tactic.Linarith
import Mathlib.Tactic.Ring
import Ymq.Model.Primes

namespace Ymq.Primes

/-- the flag at index `i` (`false` outside the array) -/
def flag (s : Array Bool) (i : Nat) : Bool := s[i]!

theorem flag_set (s : Array Bool) (k i : Nat) (hi : i < s.size) :
    flag (s.setIfInBounds k true) i = true ↔ (k = i ∨ flag s i = true) := by
  unfold flag
  rw [getElem!_pos (s.setIfInBounds k true) i (by simpa using hi), getElem!_pos s i hi,
    Array.getElem_setIfInBounds hi]
  by_cases h : k = i
  · simp [h]
  · simp [h]

theorem flag_replicate (n i : Nat) (hi : i < n) : flag (Array.replicate n false) i = false := by
  unfold flag
  rw [getElem!_pos (Array.replicate n false) i (by simpa using hi)]
  simp

theorem not_progression_of_lt {i k p : Nat} (h : i < k) : ¬ ∃ t, i = k + t * p := by
  rintro ⟨t, rfl⟩
  omega

theorem progression_succ (i k p : Nat) :
    (∃ t, i = k + t * p) ↔ k = i ∨ ∃ t, i = k + p + t * p := by
  constructor
  · rintro ⟨_ | t, rfl⟩
    · exact Or.inl (by simp)
    · exact Or.inr ⟨t, by ring⟩
  · rintro (rfl | ⟨t, rfl⟩)
    · exact ⟨0, by simp⟩
    · exact ⟨t + 1, by ring⟩

theorem markFrom_spec (p : Nat) :
    ∀ f (s : Array Bool) k, s.size ≤ k + f * p →
      (markFrom f s k p).size = s.size ∧
      ∀ i, i < s.size → (flag (markFrom f s k p) i = true ↔
        (flag s i = true ∨ ∃ t, i = k + t * p)) := by
  intro f
  induction f with
  | zero =>
    intro s k hf
    exact ⟨rfl, fun i hi => (or_iff_left (not_progression_of_lt (by omega))).symm⟩
  | succ f ih =>
    intro s k hf
    rw [markFrom]
    by_cases hk : k < s.size
    · rw [if_pos hk]
      have hsz : (s.setIfInBounds k true).size = s.size := Array.size_setIfInBounds
      obtain ⟨h1, h2⟩ := ih (s.setIfInBounds k true) (k + p)
        (by rw [hsz]; have := Nat.add_one_mul f p; omega)
      refine ⟨h1.trans hsz, fun i hi => ?_⟩
      rw [h2 i (hsz ▸ hi), flag_set s k i hi, progression_succ i k p, or_assoc, or_left_comm]
    · rw [if_neg hk]
      exact ⟨rfl, fun i hi => (or_iff_left (not_progression_of_lt (by omega))).symm⟩

theorem mark1_fst (p : Nat) : ∀ f (s : Array Bool) o, (mark1 f s o p).1 = markFrom f s o p := by
  intro f
  induction f with
  | zero => intro s o; rfl
  | succ f ih =>
    intro s o
    rw [mark1, markFrom]
    split
    · exact ih _ _
    · rfl

theorem mark1_snd (p : Nat) :
    ∀ f (s : Array Bool) o, s.size ≤ o + f * p →
      s.size ≤ (mark1 f s o p).2 ∧ (o < s.size → (mark1 f s o p).2 < s.size + p) ∧
      (s.size ≤ o → (mark1 f s o p).2 = o) ∧ ∃ t, (mark1 f s o p).2 = o + t * p := by
  intro f
  induction f with
  | zero =>
    intro s o hf
    rw [show mark1 0 s o p = (s, o) from rfl]
    exact ⟨by omega, by omega, fun _ => rfl, 0, by simp⟩
  | succ f ih =>
    intro s o hf
    rw [mark1]
    by_cases hk : o < s.size
    · rw [if_pos hk]
      have hsz : (s.setIfInBounds o true).size = s.size := Array.size_setIfInBounds
      obtain ⟨h3, h4, h4', t0, h5⟩ := ih (s.setIfInBounds o true) (o + p)
        (by rw [hsz]; have := Nat.add_one_mul f p; omega)
      rw [hsz] at h3 h4 h4'
      refine ⟨h3, fun _ => ?_, by omega, t0 + 1, by rw [h5]; ring⟩
      by_cases hop : o + p < s.size
      · exact h4 hop
      · rw [h4' (by omega)]; omega
    · rw [if_neg hk]
      exact ⟨by omega, by omega, fun _ => rfl, 0, by simp⟩

/-- the unrolled loop followed by the plain one, as `PrimeSieve::next` runs them; the fuel of the
unrolled loop does not matter, the plain loop finishes what it leaves -/
theorem mark31_spec (p : Nat) (hp : 0 < p) : ∀ f (s : Array Bool) (o : Nat)
    (r3 : Array Bool × Nat), mark3 f s o p = r3 →
    ∀ r1 : Array Bool × Nat, mark1 r3.1.size r3.1 r3.2 p = r1 →
    r1.1.size = s.size ∧
    (∀ i, i < s.size → (flag r1.1 i = true ↔ (flag s i = true ∨ ∃ t, i = o + t * p))) ∧
    s.size ≤ r1.2 ∧ (o < s.size → r1.2 < s.size + p) ∧ ∃ t, r1.2 = o + t * p := by
  have base : ∀ (s : Array Bool) (o : Nat) (r1 : Array Bool × Nat), mark1 s.size s o p = r1 →
      r1.1.size = s.size ∧
      (∀ i, i < s.size → (flag r1.1 i = true ↔ (flag s i = true ∨ ∃ t, i = o + t * p))) ∧
      s.size ≤ r1.2 ∧ (o < s.size → r1.2 < s.size + p) ∧ ∃ t, r1.2 = o + t * p := by
    rintro s o r1 rfl
    have hf : s.size ≤ o + s.size * p := Nat.le_add_left_of_le (Nat.le_mul_of_pos_right _ hp)
    obtain ⟨b3, b4, _, b6⟩ := mark1_snd p s.size s o hf
    rw [mark1_fst]
    exact ⟨(markFrom_spec p s.size s o hf).1, (markFrom_spec p s.size s o hf).2, b3, b4, b6⟩
  intro f
  induction f with
  | zero => rintro s o r3 rfl r1 h1; exact base s o r1 h1
  | succ f ih =>
    intro s o r3 h3 r1 h1
    rw [mark3] at h3
    by_cases hk : o + 3 * p ≥ s.size
    · rw [if_pos hk] at h3
      subst h3
      exact base s o r1 h1
    · rw [if_neg hk, show o + 2 * p = o + p + p by omega, show o + 3 * p = o + p + p + p by omega]
        at h3
      obtain ⟨c1, c2, c3, c4, t, c5⟩ := ih _ _ r3 h3 r1 h1
      simp only [Array.size_setIfInBounds] at c1 c2 c3 c4
      refine ⟨c1, fun i hi => ?_, c3, fun _ => c4 (by omega), t + 3, by rw [c5]; ring⟩
      rw [c2 i hi, flag_set _ _ i (by simpa using hi), flag_set _ _ i (by simpa using hi),
        flag_set s o i hi, progression_succ i o p, progression_succ i (o + p) p,
        progression_succ i (o + p + p) p]
      simp only [or_assoc, or_left_comm]

end Ymq.Primes
