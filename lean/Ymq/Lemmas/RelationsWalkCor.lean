/-
Three store theorems in the form a user of the explicit-stack formulation (`addStack`,
`runHistoryStack`: Ymq/Model/RelationsWalk.lean, the code since fix e402536) reaches for, beside
those of Ymq/Props/C11Walk.lean: keys of `partial` only grow, `Inv2` survives a history, a history
ends in no error but overflow or fuel (`runHistoryStack_np_full` excludes fuel as well). Nothing
else in the development rests on them. Every result of the stack walk is a result of the recursive
walk (`isWalk_stack`), so `addStack` inherits what is proved of `addWith` for any such walker.
-/
import Ymq.Lemmas.RelationsWalkBound
import Ymq.Lemmas.RelationsDisjoint

namespace Ymq.Relations

theorem addStack_mono {r : Relation} {pq : Option (Nat × Nat)} {s s' : Store}
    (h : addStack r pq s = .ok s') : ∀ k, pkey s k → pkey s' k :=
  addWith_mono isWalk_stack (addStack_eq_addWith r pq s ▸ h)

theorem runHistoryStack_inv2 : ∀ (ops : List (Relation × Option (Nat × Nat))) (s s' : Store),
    runHistoryStack ops s = .ok s' → Inv s → Inv2 s → s.n ≤ X512 → HistoryOK2 s.n s.maxlarge ops →
    Inv2 s' :=
  fun ops s s' h hi hi2 hn hok => isRun_stack.inv2 isWalk_stack ops s s' h ⟨hi, hn⟩ hi2 hok

theorem runHistoryStack_np : ∀ (ops : List (Relation × Option (Nat × Nat))) (s : Store),
    Inv s → Inv2 s → s.n ≤ X512 → HistoryOK2 s.n s.maxlarge ops →
    ∀ e, runHistoryStack ops s = .error e → e = .overflow ∨ e = .fuel :=
  fun ops s hi hi2 hn hok e he => Or.inl (runHistoryStack_np_full ops s ⟨hi, hn⟩ hi2 hok e he)

end Ymq.Relations
