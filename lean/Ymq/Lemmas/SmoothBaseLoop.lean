/-
The loop of `SmoothBase::new` over a list of numbers (C17): on every strictly increasing list of
numbers `2 ≤ p < 2^32` no panic site is reached, every block fits its machine type, and for every
list element `p < b1` each power `p^k < b1` divides the product of all blocks.
-/
import Ymq.Lemmas.SmoothBasePack

namespace Ymq.SmoothBase
open Ymq.Primes

theorem powOf_spec (b1 p : Nat) (hb : b1 ≤ 2 ^ 32) (hp : 2 ≤ p) (hpb : p < b1) :
    ∃ pow, powOf b1 p = some pow ∧ 1 ≤ pow ∧ ∀ k, p ^ k < b1 → p ^ k ∣ pow := by
  obtain ⟨pow, hj, hpos, hlt, -, hdvd⟩ := powBelow_start b1 p hb hp (lt_of_lt_of_le hpb hb)
  have h32 : pow < 2 ^ 32 := by omega
  unfold powOf
  rw [hj]
  simp only
  by_cases h2 : p = 2
  · rw [if_pos h2, if_pos (by omega : pow * 16 < 2 ^ 64)]
    exact ⟨_, rfl, by omega, fun k hk => Dvd.dvd.mul_right (hdvd k hk) 16⟩
  · rw [if_neg h2]
    by_cases h3 : p = 3
    · rw [if_pos h3, if_pos (by omega : pow * 3 < 2 ^ 64)]
      exact ⟨_, rfl, by omega, fun k hk => Dvd.dvd.mul_right (hdvd k hk) 3⟩
    · rw [if_neg h3, if_pos (by omega : pow < 2 ^ 64)]
      exact ⟨_, rfl, hpos, hdvd⟩

theorem packLoop_spec (b1 : Nat) (ul : Bool) (hb : b1 < 2 ^ 32) :
    ∀ ps st, Inv st → (∀ p ∈ ps, 2 ≤ p) → ps.Pairwise (· < ·) →
      ∃ st', packLoop b1 ul ps st = some st' ∧ Inv st' ∧ total st ∣ total st' ∧
        ∀ p ∈ ps, p < b1 → ∀ k, p ^ k < b1 → p ^ k ∣ total st' := by
  have hmod : b1 % 2 ^ 32 = b1 := Nat.mod_eq_of_lt hb
  intro ps
  induction ps with
  | nil =>
    intro st h _ _
    exact ⟨st, rfl, h, dvd_refl _, by simp⟩
  | cons p ps ih =>
    intro st h hps hsort
    rw [List.pairwise_cons] at hsort
    unfold packLoop
    rw [hmod]
    by_cases hge : p ≥ b1
    · rw [if_pos hge]
      refine ⟨st, rfl, h, dvd_refl _, ?_⟩
      intro q hq hqb
      simp only [List.mem_cons] at hq
      rcases hq with rfl | hq
      · omega
      · have := hsort.1 q hq; omega
    · rw [if_neg hge]
      have hpb : p < b1 := Nat.lt_of_not_le hge
      have hp2 : 2 ≤ p := hps p (by simp)
      obtain ⟨pow, hpow, hpos, hdvd⟩ := powOf_spec b1 p (Nat.le_of_lt hb) hp2 hpb
      obtain ⟨st1, hs1, hi1, ht1⟩ := step_spec b1 ul st p pow h hpow hpos
      rw [hs1]
      simp only
      obtain ⟨st', hs', hi', hd', hall⟩ :=
        ih st1 hi1 (fun q hq => hps q (by simp [hq])) hsort.2
      refine ⟨st', hs', hi', ?_, ?_⟩
      · exact dvd_trans (by rw [ht1]; exact Dvd.intro _ rfl) hd'
      · intro q hq hqb k hk
        simp only [List.mem_cons] at hq
        rcases hq with rfl | hq
        · exact dvd_trans (dvd_trans (hdvd k hk) (by rw [ht1]; exact Dvd.intro_left _ rfl)) hd'
        · exact hall q hq hqb k hk

theorem finish_spec (b1 : Nat) (ul : Bool) (st : St) (h : Inv st) :
    ∃ f l, finish b1 ul st = some (f, l) ∧ (∀ x ∈ f, x < 2 ^ 64) ∧ (∀ x ∈ l, x < 2 ^ 1024) ∧
      f.prod * l.prod = total st := by
  have hlg1024 : st.bufferLg < 2 ^ 1024 :=
    lt_of_lt_of_le h.lg_lt (Nat.pow_le_pow_right (by decide) (by decide))
  -- the state after the first `if`
  have key : ∀ st1 : St, (∀ x ∈ st1.factors, x < 2 ^ 64) → (∀ x ∈ st1.larges, x < 2 ^ 1024) →
      1 ≤ st1.bufferLg → st1.bufferLg < 2 ^ 1024 →
      ∃ f l, (f, l) = (st1.factors.reverse,
          (if st1.bufferLg > 1 then st1.bufferLg :: st1.larges else st1.larges).reverse) ∧
        (∀ x ∈ f, x < 2 ^ 64) ∧ (∀ x ∈ l, x < 2 ^ 1024) ∧
        f.prod * l.prod = st1.factors.prod * st1.larges.prod * st1.bufferLg := by
    intro st1 hf hl h1 hlt
    refine ⟨_, _, rfl, ?_, ?_, ?_⟩
    · intro x hx; exact hf x (List.mem_reverse.mp hx)
    · intro x hx
      have hx := List.mem_reverse.mp hx
      split at hx
      · simp only [List.mem_cons] at hx
        rcases hx with rfl | hx
        · exact hlt
        · exact hl x hx
      · exact hl x hx
    · rw [List.prod_reverse, List.prod_reverse]
      split
      · rw [List.prod_cons]; ring
      · have : st1.bufferLg = 1 := by omega
        rw [this]; ring
  unfold finish
  by_cases hb : st.buffer > 1
  · rw [if_pos hb]
    by_cases hsm : b1 < 4096 ∨ ul = false
    · rw [if_pos hsm]
      simp only
      obtain ⟨f, l, e, hf, hl, hp⟩ := key { st with factors := st.buffer :: st.factors }
        (by
          intro x hx
          simp only [List.mem_cons] at hx
          rcases hx with rfl | hx
          · exact h.buf_lt
          · exact h.f_lt x hx) h.l_lt h.lg_pos hlg1024
      refine ⟨f, l, by rw [e], hf, hl, ?_⟩
      rw [hp]; simp only [total, List.prod_cons]; ring
    · rw [if_neg hsm]
      have hmul := two_pow_thr_mul (by decide) h.lg_lt h.buf_lt
      rw [if_pos hmul]
      simp only
      obtain ⟨f, l, e, hf, hl, hp⟩ := key { st with bufferLg := st.bufferLg * st.buffer }
        h.f_lt h.l_lt (by
          have : 1 * 1 ≤ st.bufferLg * st.buffer := Nat.mul_le_mul h.lg_pos h.buf_pos
          simpa using this) hmul
      refine ⟨f, l, by rw [e], hf, hl, ?_⟩
      rw [hp]; simp only [total]; ring
  · rw [if_neg hb]
    simp only
    obtain ⟨f, l, e, hf, hl, hp⟩ := key st h.f_lt h.l_lt h.lg_pos hlg1024
    refine ⟨f, l, by rw [e], hf, hl, ?_⟩
    have : st.buffer = 1 := by have := h.buf_pos; omega
    rw [hp]; simp only [total, this]; ring

/-- **Packing theorem.** For `b1 < 2^32` and every strictly increasing list `ps` of numbers `≥ 2`,
`SmoothBase::new`'s packing reaches no panic site (no `u64`/`U1024` overflow), every `u64` block is
`< 2^64`, every large block `< 2^1024`, and for every list element `p < b1` each power `p^k < b1`
divides the product of all blocks. -/
theorem pack_spec (b1 : Nat) (ul : Bool) (ps : List Nat) (hb : b1 < 2 ^ 32)
    (hps : ∀ p ∈ ps, 2 ≤ p) (hsort : ps.Pairwise (· < ·)) :
    ∃ f l, pack b1 ul ps = some (f, l) ∧ (∀ x ∈ f, x < 2 ^ 64) ∧ (∀ x ∈ l, x < 2 ^ 1024) ∧
      ∀ p ∈ ps, p < b1 → ∀ k, p ^ k < b1 → p ^ k ∣ f.prod * l.prod := by
  obtain ⟨st, hs, hi, _, hall⟩ := packLoop_spec b1 ul hb ps st0 inv_st0 hps hsort
  obtain ⟨f, l, hf, hf64, hl1024, hprod⟩ := finish_spec b1 ul st hi
  refine ⟨f, l, ?_, hf64, hl1024, ?_⟩
  · unfold pack; rw [hs]; exact hf
  · intro p hp hpb k hk
    rw [hprod]; exact hall p hp hpb k hk

/-! ### below 4096 the flag `use_large` is never read: every prime consumed and `b1` itself pass the test `< 4096` -/

theorem packLoop_flag {b1 : Nat} (hb : b1 < 4096) (ul ul' : Bool) : ∀ (ps : List Nat) (st : St),
    packLoop b1 ul ps st = packLoop b1 ul' ps st
  | [], _ => rfl
  | p :: ps, st => by
    rw [packLoop, packLoop]
    split
    · rfl
    · rename_i hp
      have hp' : p < 4096 := by omega
      have hstep : step b1 ul st p = step b1 ul' st p := by
        unfold step flushFull
        simp only [hp', true_or, if_true]
      rw [hstep]
      cases step b1 ul' st p with
      | none => rfl
      | some st' => exact packLoop_flag hb ul ul' ps st'

theorem new_flag {b1 : Nat} (hb : b1 < 4096) (ul ul' : Bool) : SmoothBase.new b1 ul = SmoothBase.new b1 ul' := by
  unfold SmoothBase.new pack finish
  simp only [packLoop_flag hb ul ul', hb, true_or, if_true]

/-- the model evaluated on one input (both flags: `new_flag`) -/
theorem new_100 : SmoothBase.new 100 true = some ([43589145600, 10131543907, 25828479029, 293391909323], []) := by
  decide +kernel

end Ymq.SmoothBase
