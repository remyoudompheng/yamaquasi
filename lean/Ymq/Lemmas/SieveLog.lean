/-
C13 helper lemmas: the `u8` accumulation of `sieve_block` (`accumulate_eq`: both build profiles in one statement), the
threshold scan of `smooths`, and the lists of positions the loops visit: `Enum l S` says that `l` names the numbers
with property `S`, each once, so a prime's log is added at `x` exactly when `S x` (`Enum.hitSum`); the offset lists
`arith`, `largeOffsets`, `vlargeOffsets` (from their closed form `Progs`, SieveArith) and the hit lists `pairHits`,
`singleHits` enumerate residue classes.
-/
import Ymq.Model.SieveLog
import Ymq.Lemmas.SieveState

namespace Ymq.SieveLog
open Ymq.Sieve

/-- total of the logs added at position `x` by a list of hits. -/
def hitSum (hits : List (Nat × Nat)) (x : Nat) : Nat := (hits.map fun h => if h.1 = x then h.2 else 0).sum

theorem hitSum_nil (x : Nat) : hitSum [] x = 0 := rfl

theorem hitSum_cons (h : Nat × Nat) (t : List (Nat × Nat)) (x : Nat) :
    hitSum (h :: t) x = (if h.1 = x then h.2 else 0) + hitSum t x := by simp [hitSum]

theorem hitSum_append (a b : List (Nat × Nat)) (x : Nat) : hitSum (a ++ b) x = hitSum a x + hitSum b x := by
  simp [hitSum]

theorem hitSum_flatten (ls : List (List (Nat × Nat))) (x : Nat) :
    hitSum ls.flatten x = (ls.map fun l => hitSum l x).sum := by
  induction ls with
  | nil => rfl
  | cons l t ih => simp [hitSum_append, ih]

/-- value of byte `x` (0 outside the array). -/
def byteAt (b : Array Nat) (x : Nat) : Nat := (b[x]?).getD 0

theorem byteAt_of_get {b : Array Nat} {x v : Nat} (h : b[x]? = some v) : byteAt b x = v := by
  simp [byteAt, h]

theorem byteAt_replicate_zero (n x : Nat) : byteAt (Array.replicate n 0) x = 0 := by
  unfold byteAt; rw [Array.getElem?_replicate]; split <;> rfl

theorem byteAt_set (b : Array Nat) (i v x : Nat) (hi : i < b.size) :
    byteAt (b.setIfInBounds i v) x = if i = x then v else byteAt b x := by
  unfold byteAt
  rw [Array.getElem?_setIfInBounds]
  by_cases h : i = x
  · subst h; rw [if_pos rfl, if_pos hi, if_pos rfl]; rfl
  · rw [if_neg h, if_neg h]

theorem addU8_eq (dbg : Bool) (v lg : Nat) :
    addU8 dbg v lg = if dbg = true ∧ 256 ≤ v + lg then none else some (if 256 ≤ v + lg then (v + lg) % 256 else v + lg) := by
  unfold addU8
  by_cases hge : v + lg ≥ 256
  · have : 256 ≤ v + lg := hge
    cases dbg <;> simp [this]
  · have : ¬ 256 ≤ v + lg := hge
    simp [this]

theorem hitStep_eq (dbg : Bool) {b : Array Nat} {h : Nat × Nat} (hi : h.1 < b.size) :
    hitStep dbg b h = (addU8 dbg (byteAt b h.1) h.2).map (b.setIfInBounds h.1) := by
  have hv : b[h.1]? = some b[h.1] := Array.getElem?_eq_getElem hi
  rw [byteAt_of_get hv]
  unfold hitStep
  rw [hv, Option.bind_eq_bind, Option.bind_some]
  cases addU8 dbg b[h.1] h.2 <;> rfl

theorem accumulate_inb (dbg : Bool) : ∀ (hits : List (Nat × Nat)) (b b' : Array Nat),
    accumulate dbg b hits = some b' → b'.size = b.size ∧ ∀ h ∈ hits, h.1 < b.size := by
  intro hits
  induction hits with
  | nil => intro b b' h; cases h; exact ⟨rfl, by simp⟩
  | cons h t ih =>
    intro b b' hacc
    simp only [accumulate, List.foldlM_cons, bind, Option.bind_eq_some_iff] at hacc
    obtain ⟨b1, h1, h2⟩ := hacc
    have hi : h.1 < b.size := by
      unfold hitStep at h1
      simp only [Option.bind_eq_bind, Option.bind_eq_some_iff] at h1
      obtain ⟨v, hv, _⟩ := h1
      exact (Array.getElem?_eq_some_iff.1 hv).1
    have hsz : b1.size = b.size := by
      rw [hitStep_eq dbg hi, Option.map_eq_some_iff] at h1
      obtain ⟨_, _, rfl⟩ := h1
      simp
    obtain ⟨s2, r2⟩ := ih b1 b' h2
    exact ⟨s2.trans hsz, fun g hg => by
      rcases List.mem_cons.1 hg with rfl | hg
      · exact hi
      · rw [← hsz]; exact r2 g hg⟩

/-- the accumulation of a list of hits that lie inside the array, both profiles at once: release returns, and its bytes
are the old bytes plus the totals `hitSum hits x` modulo 256; checked either panics or returns the same array, and then the
bytes are those sums exactly; with bytes below 256 at the start, checked panics exactly when some total reaches 256. -/
theorem accumulate_eq : ∀ (hits : List (Nat × Nat)) (b : Array Nat), (∀ h ∈ hits, h.1 < b.size) →
    ∃ b', accumulate false b hits = some b' ∧ (∀ x, byteAt b' x % 256 = (byteAt b x + hitSum hits x) % 256) ∧
      (accumulate true b hits = none ∨
        (accumulate true b hits = some b' ∧ ∀ x, byteAt b' x = byteAt b x + hitSum hits x)) ∧
      ((∀ x, byteAt b x < 256) →
        (accumulate true b hits = none ↔ ∃ x, x < b.size ∧ 256 ≤ byteAt b x + hitSum hits x)) := by
  intro hits
  induction hits with
  | nil =>
    intro b _
    refine ⟨b, rfl, fun x => by rw [hitSum_nil, Nat.add_zero], Or.inr ⟨rfl, fun x => by rw [hitSum_nil, Nat.add_zero]⟩,
      fun hb => ⟨fun h => absurd h (by simp [accumulate]), ?_⟩⟩
    rintro ⟨x, _, h⟩
    have := hb x
    rw [hitSum_nil] at h; omega
  | cons h t ih =>
    intro b hin
    have hi := hin h List.mem_cons_self
    have hstep : ∀ dbg, accumulate dbg b (h :: t) = (hitStep dbg b h).bind fun b1 => accumulate dbg b1 t := fun dbg => by
      simp [accumulate, List.foldlM_cons, bind]
    -- the array after the first hit in the release profile
    generalize hw : (if 256 ≤ byteAt b h.1 + h.2 then (byteAt b h.1 + h.2) % 256 else byteAt b h.1 + h.2) = w
    have hb1 : ∀ x, byteAt (b.setIfInBounds h.1 w) x = if h.1 = x then w else byteAt b x :=
      fun x => byteAt_set _ _ _ _ hi
    have hwm : w % 256 = (byteAt b h.1 + h.2) % 256 := by rw [← hw]; split <;> simp
    obtain ⟨b', e1, e2, e3, e4⟩ := ih (b.setIfInBounds h.1 w)
      (fun g hg => by simpa using hin g (List.mem_cons_of_mem _ hg))
    have hrel : accumulate false b (h :: t) = some b' := by
      rw [hstep, hitStep_eq false hi, addU8_eq false, hw]
      simpa using e1
    have hmod : ∀ x, byteAt b' x % 256 = (byteAt b x + hitSum (h :: t) x) % 256 := fun x => by
      rw [e2 x, hb1 x, hitSum_cons]
      by_cases hx : h.1 = x
      · rw [if_pos hx, if_pos hx, Nat.add_mod, hwm, ← hx, ← Nat.add_mod, Nat.add_assoc]
      · rw [if_neg hx, if_neg hx, Nat.zero_add]
    refine ⟨b', hrel, hmod, ?_⟩
    rw [hstep, hitStep_eq true hi, addU8_eq true, hw]
    by_cases hov : 256 ≤ byteAt b h.1 + h.2
    · rw [if_pos ⟨rfl, hov⟩]
      exact ⟨Or.inl rfl, fun _ => ⟨fun _ => ⟨h.1, hi, by rw [hitSum_cons, if_pos rfl]; omega⟩, fun _ => rfl⟩⟩
    · rw [if_neg (fun q => hov q.2)]
      simp only [Option.map_some, Option.bind_some]
      -- the first hit did not wrap, so the totals are those of the remaining hits on the new array
      have hwe : w = byteAt b h.1 + h.2 := by rw [← hw, if_neg hov]
      have hno : ∀ x, byteAt (b.setIfInBounds h.1 w) x + hitSum t x = byteAt b x + hitSum (h :: t) x := fun x => by
        rw [hb1, hitSum_cons]
        by_cases hx : h.1 = x
        · rw [if_pos hx, if_pos hx, hwe, ← hx]; omega
        · rw [if_neg hx, if_neg hx]; omega
      simp only [hno, Array.size_setIfInBounds] at e3 e4
      refine ⟨e3, fun hb => e4 (fun x => ?_)⟩
      rw [hb1]
      split
      · omega
      · exact hb x

theorem allHits_eq_some {fb : FB} {s : State} {hits : List (Nat × Nat)} (h : allHits fb s = some hits) :
    ∃ l th, smallHits fb s.idxskip s.loPrev = some l ∧ tableHits s = some th ∧ hits = l ++ th := by
  unfold allHits at h
  simp only [Option.bind_eq_bind, Option.bind_eq_some_iff, Option.some.injEq] at h
  obtain ⟨l, hl, th, hth, rfl⟩ := h
  exact ⟨l, th, hl, hth, rfl⟩

/-- no `SieveTable`: `sieve_block` returns before the table loops. -/
theorem tableHits_nil {s : State} {th : List (Nat × Nat)} (h0 : s.tables.size = 0) (h : tableHits s = some th) :
    th = [] := by
  unfold tableHits at h
  simp only [h0, if_true, Option.some.injEq] at h
  exact h.symm

theorem scanElem_some_iff {dbg : Bool} {fb : FB} {s : State} {threshold threshold2 mzeros : Nat} {root : Option Nat}
    {blk : Array Nat} {ij y : Nat} :
    scanElem dbg fb s threshold threshold2 mzeros root blk ij = some (some y) ↔
      y = ij ∧ ∃ t0 t1 t2, blk[ij]? = some t0 ∧ threshold2 < t0 ∧ addSkipped dbg fb s ij t0 = some t1 ∧
        rootComp dbg s mzeros root ij t1 = some t2 ∧ threshold ≤ t2 := by
  unfold scanElem
  constructor
  · intro h
    simp only [Option.bind_eq_bind, Option.bind_eq_some_iff] at h
    obtain ⟨t0, h0, h⟩ := h
    by_cases hle : t0 ≤ threshold2
    · simp [hle] at h
    · simp only [hle, if_false, Option.bind_eq_some_iff, Option.some.injEq] at h
      obtain ⟨t1, h1, t2, h2, h⟩ := h
      by_cases hge : t2 ≥ threshold
      · simp only [hge, if_true, Option.some.injEq] at h
        exact ⟨h.symm, t0, t1, t2, h0, by omega, h1, h2, hge⟩
      · simp [hge] at h
  · rintro ⟨rfl, t0, t1, t2, h0, hlt, h1, h2, hge⟩
    have : ¬ t0 ≤ threshold2 := by omega
    simp [h0, this, h1, h2, hge]

theorem scanChunk_mem {dbg : Bool} {fb : FB} {s : State} {threshold threshold2 thr mzeros : Nat} {root : Option Nat}
    {blk : Array Nat} {c : Nat} {l : List Nat} (hthr : thr < threshold2)
    (h : scanChunk dbg fb s threshold threshold2 thr mzeros root blk c = some l) (x : Nat) :
    x ∈ l ↔ (16 * c ≤ x ∧ x < 16 * c + 16 ∧
      scanElem dbg fb s threshold threshold2 mzeros root blk x = some (some x)) := by
  unfold scanChunk at h
  simp only [Option.bind_eq_bind, Option.bind_eq_some_iff] at h
  obtain ⟨bytes, hb, h⟩ := h
  by_cases hany : bytes.any (fun b => decide (b > thr)) = true
  · simp only [hany, if_true, Option.bind_eq_some_iff, Option.some.injEq] at h
    obtain ⟨r, hr, rfl⟩ := h
    rw [List.mem_filterMap]
    constructor
    · rintro ⟨o, ho, hid⟩
      simp only [id_eq] at hid
      subst hid
      obtain ⟨j, hj, hg⟩ := (mapM_range'_mem _ _ _ _ hr (some x)).1 ho
      have := (scanElem_some_iff.1 hg).1
      exact ⟨by omega, by omega, by rw [this] at hg ⊢; exact hg⟩
    · rintro ⟨h1, h2, hg⟩
      refine ⟨some x, ?_, rfl⟩
      refine (mapM_range'_mem _ _ _ _ hr (some x)).2 ⟨x - 16 * c, by omega, ?_⟩
      have : 16 * c + (x - 16 * c) = x := by omega
      rw [this]; exact hg
  · simp only [hany, Bool.false_eq_true, if_false, Option.some.injEq] at h
    subst h
    simp only [List.not_mem_nil, false_iff]
    rintro ⟨h1, h2, hg⟩
    obtain ⟨_, t0, _, _, h0, hlt, _⟩ := scanElem_some_iff.1 hg
    have hmem : t0 ∈ bytes := (mapM_range'_mem _ _ _ _ hb t0).2 ⟨x - 16 * c, by omega, by
      have : 16 * c + (x - 16 * c) = x := by omega
      rw [this]; exact h0⟩
    apply hany
    rw [List.any_eq_true]
    exact ⟨t0, hmem, by simp; omega⟩

/-- the threshold actually compared with the bytes: `threshold - (min(skipbits (+ 15 with a root hint), threshold/2) as u8)`. -/
def threshold2Of (fb : FB) (s : State) (threshold : Nat) (root : Option Nat) : Option Nat :=
  (skipbits fb s.idxskip).map fun sb =>
    threshold - (min (sb + (if root.isSome then 15 else 0)) (threshold / 2)) % 256

/-- `mzeros` of `smooths` -/
def mzerosOf (s : State) : Nat := lz32 ((s.nblocks % 2 ^ 32) * BLOCK % 2 ^ 32 / 2)

theorem mulU32_some {dbg : Bool} {M m : Nat} (h : mulU32 dbg M = some m) : m = M % 2 ^ 32 := by
  unfold mulU32 at h
  by_cases hge : M ≥ 2 ^ 32
  · cases dbg <;> simp_all
  · simp only [hge, if_false, Option.some.injEq] at h
    rw [← h, Nat.mod_eq_of_lt (Nat.lt_of_not_ge hge)]

theorem thrOf_pos (dbg : Bool) {t : Nat} (h : 1 ≤ t) : thrOf dbg t = some (t - 1) := by
  unfold thrOf
  rw [if_neg (by omega)]

theorem reportScan_mem {dbg : Bool} {fb : FB} {s : State} {blk : Array Nat} {threshold : Nat} {root : Option Nat}
    {res : List Nat} (hthr : 1 ≤ threshold) (h : reportScan dbg fb s blk threshold root = some res) :
    ∃ threshold2, threshold2Of fb s threshold root = some threshold2 ∧ 1 ≤ threshold2 ∧
      ∀ x, x ∈ res ↔ (x < BLOCK ∧
        scanElem dbg fb s threshold threshold2 (mzerosOf s) root blk x = some (some x)) := by
  unfold reportScan at h
  simp only [Option.bind_eq_bind, Option.bind_eq_some_iff] at h
  obtain ⟨sb, hsb, m, hm, thr, hthr', rs, hrs, hres⟩ := h
  simp only [Option.some.injEq] at hres
  subst hres
  generalize ht2 : threshold - (min (sb + (if root.isSome then 15 else 0)) (threshold / 2)) % 256 = threshold2 at *
  have h1 : 1 ≤ threshold2 := by
    have : min (sb + (if root.isSome then 15 else 0)) (threshold / 2) ≤ threshold / 2 := Nat.min_le_right _ _
    have : (min (sb + (if root.isSome then 15 else 0)) (threshold / 2)) % 256 ≤ threshold / 2 :=
      le_trans (Nat.mod_le _ _) this
    omega
  have hthr2 : thr = threshold2 - 1 := by
    rw [thrOf_pos dbg h1] at hthr'
    exact (Option.some.inj hthr').symm
  have hmz : lz32 (m / 2) = mzerosOf s := by rw [mulU32_some hm]; rfl
  rw [hmz] at hrs
  refine ⟨threshold2, by simp [threshold2Of, hsb, ht2], h1, ?_⟩
  intro x
  rw [List.mem_flatten]
  constructor
  · rintro ⟨l, hl, hx⟩
    obtain ⟨c, hc, hg⟩ := (mapM_range'_mem _ _ _ _ hrs l).1 hl
    simp only [Nat.zero_add] at hg
    have := (scanChunk_mem (by omega) hg x).1 hx
    simp only [BLOCK] at hc ⊢
    exact ⟨by omega, this.2.2⟩
  · rintro ⟨hx, hg⟩
    have hc : x / 16 < BLOCK / 16 := by simp only [BLOCK] at hx ⊢; omega
    -- `mapM` returned, so the chunk of `x` was scanned
    obtain ⟨hlen, hget⟩ := Loops.mapM_getElem hrs
    rw [List.length_range'] at hlen
    have hl := hget (x / 16) (by rw [List.length_range']; exact hc) (by rw [hlen]; exact hc)
    rw [List.getElem_range', Nat.one_mul, Nat.zero_add] at hl
    refine ⟨rs[x / 16]'(by rw [hlen]; exact hc), List.getElem_mem _, ?_⟩
    exact (scanChunk_mem (by omega) hl x).2 ⟨by omega, by omega, hg⟩

/-- `factorsAt` pairs every reported position with the list `factorsOf` computes for it. -/
theorem factorsAt_zip {fb : FB} {s : State} {r1 r2 : Array Nat} :
    ∀ (res : List Nat) (facs : List (List Nat)), factorsAt fb s r1 r2 res = some facs →
      (∀ xf ∈ res.zip facs, factorsOf fb s r1 r2 xf.1 = some xf.2) ∧ (∀ x ∈ res, ∃ f, (x, f) ∈ res.zip facs) := by
  intro res
  induction res with
  | nil => intro facs _; simp
  | cons a t ih =>
    intro facs h
    unfold factorsAt at h
    rw [List.mapM_cons] at h
    simp only [bind, Option.bind_eq_some_iff, pure, Option.some.injEq] at h
    obtain ⟨f, hf, fs, hfs, rfl⟩ := h
    obtain ⟨i1, i2⟩ := ih fs hfs
    constructor
    · intro xf hxf
      simp only [List.zip_cons_cons, List.mem_cons] at hxf
      rcases hxf with rfl | hxf
      · exact hf
      · exact i1 xf hxf
    · intro x hx
      rcases List.mem_cons.1 hx with rfl | hx
      · exact ⟨f, by simp⟩
      · obtain ⟨g, hg⟩ := i2 x hx
        exact ⟨g, by simp only [List.zip_cons_cons, List.mem_cons]; exact Or.inr hg⟩

theorem hitSum_map_nodup (lg x : Nat) : ∀ (l : List Nat), l.Nodup →
    hitSum (l.map fun y => (y, lg)) x = if x ∈ l then lg else 0 := by
  intro l
  induction l with
  | nil => intro _; simp [hitSum]
  | cons y t ih =>
    intro hn
    rw [List.nodup_cons] at hn
    rw [List.map_cons, hitSum_cons, ih hn.2]
    by_cases hy : y = x
    · subst hy; simp [hn.1]
    · have : ¬ x = y := fun e => hy e.symm
      simp [hy, this]

/-- `l` lists the numbers with property `S`, each once. -/
def Enum (l : List Nat) (S : Nat → Prop) : Prop := l.Nodup ∧ ∀ x, x ∈ l ↔ S x

theorem Enum.congr {l : List Nat} {S S' : Nat → Prop} (h : Enum l S) (hs : ∀ x, S x ↔ S' x) : Enum l S' :=
  ⟨h.1, fun x => (h.2 x).trans (hs x)⟩

theorem Enum.hitSum {l : List Nat} {S : Nat → Prop} [DecidablePred S] (h : Enum l S) (lg x : Nat) :
    hitSum (l.map fun y => (y, lg)) x = if S x then lg else 0 := by
  rw [hitSum_map_nodup lg x l h.1]
  exact if_congr (h.2 x) rfl rfl

theorem arith_enum {p bound c f off : Nat} {l : List Nat} (hp : 0 < p) (hf : bound ≤ f + off) (hc : off % p = c)
    (h : arith p bound (f + 1) off = some l) : Enum l (fun x => off ≤ x ∧ x < bound ∧ x % p = c) := by
  obtain ⟨k, hk, hj⟩ := arith_ok p bound hp f off hf
  rw [hk] at h
  cases h
  refine ⟨List.nodup_range' (step := p) (by omega), fun x => ?_⟩
  rw [List.mem_range']
  constructor
  · rintro ⟨i, hi, rfl⟩
    refine ⟨Nat.le_add_right _ _, by rw [Nat.mul_comm]; exact (hj i).1 hi, ?_⟩
    rw [Nat.add_mul_mod_self_left, hc]
  · rintro ⟨h1, h2, h3⟩
    have hd : p ∣ x - off := (Nat.modEq_iff_dvd' h1).1 (hc.trans h3.symm)
    obtain ⟨i, hi⟩ := hd
    have e : x = off + p * i := by omega
    exact ⟨i, (hj i).2 (by rw [Nat.mul_comm, ← e]; exact h2), e⟩

/-- two progressions with reduced, different starts enumerate the positions congruent to one of the starts. -/
theorem Enum.of_progs {bound p o1 o2 : Nat} {l : List Nat} (h : Progs bound p o1 o2 l) (hp : 0 < p) (h1 : o1 < p)
    (h2 : o2 < p) (hne : o1 ≠ o2) : Enum l (fun x => x < bound ∧ (x % p = o1 ∨ x % p = o2)) := by
  refine ⟨h.nodup hp h1 h2 hne, fun x => h.mem.trans (and_congr_right fun _ => ?_)⟩
  have key : ∀ o, o < p → ((∃ k, x = o + k * p) ↔ x % p = o) := fun o ho =>
    ⟨fun ⟨k, e⟩ => by rw [e, Nat.add_mul_mod_self_right, Nat.mod_eq_of_lt ho],
     fun e => ⟨x / p, by have := Nat.div_add_mod x p; rw [e, Nat.mul_comm] at this; omega⟩⟩
  rw [← key o1 h1, ← key o2 h2, exists_or]

theorem largeOffsets_enum {interval p o1 o2 : Nat} {l : List Nat} (hp : 0 < p) (h1 : o1 < p) (h2 : o2 < p)
    (hne : o1 ≠ o2) (h : largeOffsets interval p o1 o2 = some l) :
    Enum l (fun x => x < interval ∧ (x % p = o1 ∨ x % p = o2)) :=
  Enum.of_progs (largeOffsets_progs h) hp h1 h2 hne

theorem vlargeOffsets_enum {interval p o1 o2 : Nat} {l : List Nat} (hp : 0 < p) (h1 : o1 < p) (h2 : o2 < p)
    (hne : o1 ≠ o2) (h : vlargeOffsets interval p o1 o2 = some l) :
    Enum l (fun x => x < interval ∧ (x % p = o1 ∨ x % p = o2)) :=
  Enum.of_progs (vlargeOffsets_progs h) hp h1 h2 hne

theorem singleHits_enum {p c : Nat} {l : List Nat} (hp : 0 < p) (hc : c < p) (hcn : c ≠ NONE)
    (h : singleHits p c = some l) : Enum l (fun x => x < BLOCK ∧ x % p = c) := by
  unfold singleHits at h
  rw [if_neg hcn] at h
  refine (arith_enum hp (Nat.le_add_right _ _) (Nat.mod_eq_of_lt hc) h).congr (fun x => ?_)
  exact ⟨fun q => q.2, fun q => ⟨by rw [← q.2]; exact Nat.mod_le _ _, q⟩⟩

/-- with both cursors, the loops of `sieve_block` for a prime of the classes `log ≤ 12` are those of `largeOffsets` on the
block (the cursors shifted by the unrolled rounds stay below the marker). -/
theorem pairHits_eq_largeOffsets {p c1 c2 : Nat} (hp : 0 < p) (hp4 : p ≤ 4096) (h1 : c1 < p) (h2 : c2 < p) :
    pairHits p c1 c2 = largeOffsets BLOCK p c1 c2 := by
  have hB : BLOCK = 32768 := rfl
  have n1 : c1 ≠ NONE := by unfold NONE; omega
  have n2 : c2 ≠ NONE := by unfold NONE; omega
  obtain ⟨⟨l, kp⟩, hu⟩ := unrolled_some BLOCK p c1 c2 (max c1 c2) hp BLOCK 0 (by omega)
  obtain ⟨j, rfl, _, hb⟩ := unrolled_perm _ _ _ _ _ _ _ _ _ hu
  simp only [Nat.zero_add] at hu hb
  have m : ∀ c, c < p → c + j * (2 * p) ≠ NONE := fun c hc => by
    unfold NONE
    rcases Nat.eq_zero_or_pos j with rfl | hj
    · omega
    · have := hb (2 * j - 1) (by omega)
      have e : j * (2 * p) = (2 * j - 1) * p + p := by
        rw [Nat.mul_left_comm, ← Nat.mul_assoc, ← Nat.succ_mul]; congr 1; omega
      omega
  unfold pairHits pairShift largeOffsets tailHits
  rw [if_pos ⟨n1, n2⟩, if_neg (by rw [hB]; omega), hu]
  simp only [Option.map_some, Option.bind_eq_bind, Option.bind_some, if_pos (m c1 h1), if_pos (m c2 h2)]

/-- one prime of the classes `log ≤ 12`: the unrolled loop and the two tails visit the positions of the block
congruent to one of its (one or two, different) cursors, each once. -/
theorem pairHits_enum {p c1 c2 : Nat} {l : List Nat} (hp : 0 < p) (hp4 : p ≤ 4096) (h1 : c1 < p)
    (h2 : (c2 < p ∧ c2 ≠ c1) ∨ c2 = NONE) (h : pairHits p c1 c2 = some l) :
    Enum l (fun x => x < BLOCK ∧ (x % p = c1 ∨ (c2 ≠ NONE ∧ x % p = c2))) := by
  have n1 : c1 ≠ NONE := by unfold NONE; omega
  rcases h2 with ⟨h2, hne⟩ | rfl
  · have n2 : c2 ≠ NONE := by unfold NONE; omega
    rw [pairHits_eq_largeOffsets hp hp4 h1 h2] at h
    exact (largeOffsets_enum hp h1 h2 (fun e => hne e.symm) h).congr
      (fun x => by simp only [n2, ne_eq, not_false_eq_true, true_and])
  · -- one cursor
    unfold pairHits pairShift at h
    rw [if_neg (fun q => q.2 rfl)] at h
    simp only [Option.bind_eq_bind, Option.bind_some, tailHits, n1, ne_eq, not_false_eq_true, if_true,
      not_true_eq_false, if_false, List.nil_append, List.append_nil, Option.bind_eq_some_iff,
      Option.some.injEq] at h
    obtain ⟨t1, ht1, rfl⟩ := h
    refine (singleHits_enum hp h1 n1 (by simp [singleHits, n1, ht1])).congr (fun x => ?_)
    simp

theorem pairHits_sum {p c1 c2 lg x : Nat} {l : List Nat} (hp : 0 < p) (hp4 : p ≤ 4096) (h1 : c1 < p)
    (h2 : (c2 < p ∧ c2 ≠ c1) ∨ c2 = NONE) (hx : x < BLOCK) (h : pairHits p c1 c2 = some l) :
    hitSum (l.map fun y => (y, lg)) x =
      (if x % p = c1 then lg else 0) + (if c2 ≠ NONE ∧ x % p = c2 then lg else 0) := by
  rw [(pairHits_enum hp hp4 h1 h2 h).hitSum]
  have hne : x % p = c1 → ¬ (c2 ≠ NONE ∧ x % p = c2) := fun e q => by
    rcases h2 with h2 | h2
    · exact h2.2 (q.2.symm.trans e)
    · exact q.1 h2
  by_cases e1 : x % p = c1
  · rw [if_pos ⟨hx, Or.inl e1⟩, if_pos e1, if_neg (hne e1), Nat.add_zero]
  · simp only [hx, e1, true_and, false_or, if_false, Nat.zero_add]

theorem singleHits_sum {p c lg x : Nat} {l : List Nat} (hp : 0 < p) (hc : c < p) (hcn : c ≠ NONE) (hx : x < BLOCK)
    (h : singleHits p c = some l) :
    hitSum (l.map fun y => (y, lg)) x = if x % p = c then lg else 0 := by
  rw [(singleHits_enum hp hc hcn h).hitSum]
  simp [hx]

end Ymq.SieveLog
