/-
C10: the hypothesis `ExactCyc` of the Kronecker model (Ymq/Lemmas/KroneckerModel.lean) is met by the
word-level model of `mulfft` (Ymq/Model/FInt.lean) for every transform word count of the dispatch
table of `convolve_modn` (`N = 2^a ≤ 256`).
-/
import Ymq.Lemmas.FIntFft
import Ymq.Lemmas.KroneckerModel

namespace Ymq.Kronecker
open Ymq.PolySpec Ymq.FInt Finset

theorem value_lt {N : Nat} (x : FI) (hw : WfN N x) (hn : Norm x) : x.value < Fmod N := by
  unfold FI.value Fmod
  have h := Ymq.Limbs.val_lt hw.2
  rw [hw.1] at h ⊢
  rcases hn with h0 | ⟨h1, h0⟩
  · rw [h0]; omega
  · rw [h1, h0]; omega

/-- **the word-level `mulfft` is an exact cyclic product** (hypothesis `ExactCyc` of the Kronecker
model) for every `N = 2^a ≤ 256` -/
theorem cycFft_exact (N a : Nat) (hNa : N = 2 ^ a) (hN : N ≤ 256) : ExactCyc N (cycFft N) := by
  intro x y hxy hpos hle ⟨m, hm⟩ hx hy
  have hN0 : 0 < N := by rw [hNa]; exact Nat.pow_pos (by decide)
  set p1 := x.toList.map fun v => FI.mk (Ymq.Limbs.ofNat N v) 0 with hp1
  set p2 := y.toList.map fun v => FI.mk (Ymq.Limbs.ofNat N v) 0 with hp2
  have l1 : p1.length = 2 ^ m := by rw [hp1, List.length_map, Array.length_toList, hm]
  have l2 : p2.length = 2 ^ m := by rw [hp2, List.length_map, Array.length_toList, ← hxy, hm]
  have hgood : ∀ (r : Array Nat), Good N (r.toList.map fun v => FI.mk (Ymq.Limbs.ofNat N v) 0) := by
    intro r e he
    obtain ⟨v, _, rfl⟩ := List.mem_map.1 he
    exact ⟨⟨Ymq.Limbs.ofNat_length N v, Ymq.Limbs.ofNat_Wf N v⟩, Or.inl rfl⟩
  have hm16 : m ≤ 16 := by
    have : 2 ^ m ≤ 2 ^ 16 := by rw [← hm]; omega
    exact (Nat.pow_le_pow_iff_right (by decide)).1 this
  have hb : 128 * 2 ^ m * N < 2 ^ 32 := by
    have h1 : 2 ^ m ≤ 256 * 256 := by rw [← hm]; omega
    have h2 : 128 * 2 ^ m * N ≤ 128 * (256 * 256) * 256 :=
      Nat.mul_le_mul (Nat.mul_le_mul_left _ h1) hN
    omega
  have hdiv : 2 ^ m ∣ 128 * N ∨ 2 ^ m = 256 * N := by
    have h256 : 256 * N = 2 ^ (a + 8) := by rw [hNa, pow_add]; ring
    have h128 : 128 * N = 2 ^ (a + 7) := by rw [hNa, pow_add]; ring
    have hma : m ≤ a + 8 := by
      have : 2 ^ m ≤ 2 ^ (a + 8) := by rw [← hm, ← h256]; exact hle
      exact (Nat.pow_le_pow_iff_right (by decide)).1 this
    by_cases h : m = a + 8
    · right; rw [h, h256]
    · left; rw [h128]; exact pow_dvd_pow 2 (by omega)
  have hkk : kOk KFUEL N = true := by
    rw [hNa]
    exact kOk_mono (a + 1) KFUEL _ (by
      have : 2 ^ a ≤ 2 ^ 8 := by rw [← hNa]; exact hN
      have := (Nat.pow_le_pow_iff_right (by decide : 1 < 2)).1 this
      unfold KFUEL; omega) (kOk_pow2 a)
  obtain ⟨out, e, lo, go, ho⟩ := mulfft_spec hN0 hkk default m p1 p2 l1 l2 (hgood x) (hgood y) (by omega) hb hdiv
  refine ⟨(out.map FI.value).toArray, ?_, by simp [lo, hm], ?_⟩
  · unfold cycFft
    rw [← hp1, ← hp2, e]; rfl
  · intro i hi
    have hi' : i < 2 ^ m := by rw [← hm]; exact hi
    have hci : coef (out.map FI.value).toArray i = (out.getD i default).value := by
      unfold coef
      simp [Array.getD, lo, hi', List.getD_eq_getElem?_getD]
    rw [hci]
    obtain ⟨hwo, hno⟩ := go (out.getD i default) (by
      rw [List.getD_eq_getElem?_getD, List.getElem?_eq_getElem (by rw [lo]; exact hi')]
      simp)
    have hlt := value_lt _ hwo hno
    have hval : ∀ (r : Array Nat), r.size = 2 ^ m → (∀ j, coef r j < W ^ N) → ∀ j, j < 2 ^ m →
        vz N ((r.toList.map fun v => FI.mk (Ymq.Limbs.ofNat N v) 0).getD j default) =
          ((coef r j : ℕ) : ZMod (Fmod N)) := by
      intro r hr hb j hj
      have hjr : j < r.size := by rw [hr]; exact hj
      have : (r.toList.map fun v => FI.mk (Ymq.Limbs.ofNat N v) 0).getD j default =
          FI.mk (Ymq.Limbs.ofNat N (coef r j)) 0 := by
        unfold coef
        simp [List.getD_eq_getElem?_getD, Array.getD, hjr]
      rw [this]
      unfold vz FI.value
      simp only [Nat.mul_zero, Nat.add_zero]
      rw [Ymq.Limbs.val_ofNat_of_lt (hb j)]
    have hv := ho i hi'
    have hcast : ((cycCoef x.size (coef x) (coef y) i : ℕ) : ZMod (Fmod N)) =
        Ymq.Dft.cyc (2 ^ m) (fun j => vz N (p1.getD j default)) (fun j => vz N (p2.getD j default)) i := by
      rw [cycCoef_eq, hm, Ymq.Dft.cast_cycSum]
      exact (Ymq.Dft.cyc_congr _ (hval x hm hx) (hval y (by rw [← hxy, hm]) hy) i).symm
    rw [← hcast] at hv
    have hmod := (ZMod.natCast_eq_natCast_iff _ _ _).1 hv
    unfold Nat.ModEq at hmod
    rw [Nat.mod_eq_of_lt hlt] at hmod
    rw [hmod]
    rfl

theorem mem_of_lookup (k v : Nat) : ∀ l : List (Nat × Nat), l.lookup k = some v → (k, v) ∈ l
  | [], h => by simp [List.lookup] at h
  | (k', v') :: l, h => by
    rw [List.lookup_cons] at h
    by_cases hk : k == k'
    · rw [hk] at h
      simp only [Option.some.injEq] at h
      have : k = k' := by simpa using hk
      rw [this, ← h]; exact List.mem_cons_self
    · have hk' : (k == k') = false := by simpa using hk
      rw [hk'] at h
      exact List.mem_cons_of_mem _ (mem_of_lookup k v l h)

/-- every `FInt` word count of the dispatch table (regenerated from the source) is a power of two `≤ 256` -/
theorem fsize_table_ok (fsize N : Nat) (h : Ymq.Gen.Params.CONVOLVE_FSIZE_N.lookup fsize = some N) :
    (∃ a, N = 2 ^ a) ∧ N ≤ 256 := by
  have hall : ∀ r ∈ Ymq.Gen.Params.CONVOLVE_FSIZE_N, r.2 = 2 ^ r.2.log2 ∧ r.2 ≤ 256 := by decide
  obtain ⟨h1, h2⟩ := hall _ (mem_of_lookup fsize N _ h)
  exact ⟨⟨_, h1⟩, h2⟩

end Ymq.Kronecker
