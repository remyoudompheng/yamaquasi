/-
Lemmas about the whole-function model of `pp1::pp1` (Model/Pp1Impl.lean): the invariant of `check_gcd_factors`
threaded through every exit, the index range of the giant steps, the index set of the baby steps (sound and complete,
whatever the ring operations are), the values of both step lists over a commutative ring, and the panic sites of the
stage-1 loop over a sieve block (overflow of `pow * p` in the checked profile, fuel of the power loop) that are never
reached for `2 ≤ p < 2^32`, `b1 ≤ 2^32`, the domain `factor()` passes.
-/
import Ymq.Lemmas.Pm1Impl
import Ymq.Lemmas.Stage2Algebra
import Ymq.Lemmas.Stage2Cover
import Ymq.Lemmas.SmoothBasePack
import Ymq.Model.Pp1Impl

namespace Ymq.Pp1Impl
open Ymq.Primes Ymq.ExpModn Ymq.Gen Ymq.Stage2
open Ymq.Pm1Impl (Proper proper_splitResult proper_none checkGcdFactors_inv_of_some)

theorem outer_inv (n b1 : Nat) (pp : Nat → Bool) : ∀ (fuel : Nat) (ps : PrimeSieve) (blk : List Nat) (m : Nat) (s : S1)
    (factors : List Nat) (nred : Nat) (out : S1Out),
    CgfInv n ⟨factors, nred, []⟩ → outer n b1 pp fuel ps blk m s factors nred = some out →
    match out with
    | .ret r => Proper n r
    | .stage2 _ _ factors' nred' => CgfInv n ⟨factors', nred', []⟩
  | 0, _, _, _, _, _, _, _, _, h => by simp [outer] at h
  | f + 1, ps, blk, m, s, factors, nred, out, hinv, h => by
    rw [outer] at h
    split at h
    · exact absurd h (by simp)
    · rename_i s' _
      split at h
      · exact absurd h (by simp)
      · rename_i st hc
        simp only [Option.some.injEq] at h
        subst h
        refine proper_splitResult (checkGcdFactors_inv_of_some ?_ hc)
        exact hinv
      · rename_i st hc
        have hst : CgfInv n st := by
          refine checkGcdFactors_inv_of_some ?_ hc
          exact hinv
        have hst' : CgfInv n ⟨st.factors, st.nred, []⟩ := hst
        split at h
        · exact absurd h (by simp)
        · dsimp only at h
          split at h
          · simp only [Option.some.injEq] at h
            subst h
            exact hst'
          · split at h
            · exact absurd h (by simp)
            · exact outer_inv n b1 pp f _ _ _ _ _ _ out hst' h

theorem stage2_proper {n : Nat} {pp : Nat → Bool} {m g d1 d2 : Nat} {factors : List Nat} {nred : Nat}
    {r : Option (List Nat × Nat)} (hinv : CgfInv n ⟨factors, nred, []⟩)
    (h : stage2 n pp m g d1 d2 factors nred = some r) : Proper n r := by
  unfold stage2 at h
  split at h
  · exact absurd h (by simp)
  · split at h
    · exact absurd h (by simp)
    · rename_i st hc
      simp only [Option.some.injEq] at h
      subst h
      refine proper_splitResult (checkGcdFactors_inv_of_some ?_ hc)
      exact hinv

theorem pp1_proper' {n seed b1 b2 : Nat} {pp : Nat → Bool} {r : Option (List Nat × Nat)} (hn : 0 < n)
    (h : pp1 n seed b1 b2 pp = some r) : Proper n r := by
  have hinv0 : CgfInv n ⟨[], n, []⟩ := ⟨by simp, by simp, hn, by simp⟩
  unfold pp1 at h
  split at h
  · exact absurd h (by simp)
  · split at h
    · exact absurd h (by simp)
    · split at h
      · exact absurd h (by simp)
      · split at h
        · exact absurd h (by simp)
        · split at h
          · exact absurd h (by simp)
          · split at h
            · exact absurd h (by simp)
            · split at h
              · exact absurd h (by simp)
              · rename_i r' ho
                simp only [Option.some.injEq] at h
                subst h
                exact outer_inv n b1 pp _ _ _ _ _ _ _ _ hinv0 ho
              · rename_i m g factors nred ho
                exact stage2_proper (outer_inv n b1 pp _ _ _ _ _ _ _ _ hinv0 ho) h

theorem giantLoop_idx {α} (mul sub : α → α → α) (step : α) : ∀ (k i : Nat) (dgprev dg : α) (acc : List (Nat × α)),
    (giantLoop mul sub step k i dgprev dg acc).map (·.1) = (List.range' (i + 1) k).reverse ++ acc.map (·.1)
  | 0, _, _, _, _ => by simp [giantLoop]
  | k + 1, i, dgprev, dg, acc => by
    rw [giantLoop, giantLoop_idx mul sub step k (i + 1)]
    simp [List.range'_succ]

theorem giantSteps_idx {α} (mul sub : α → α → α) (two dg : α) (d2 : Nat) (hd2 : 1 ≤ d2) :
    (giantSteps mul sub two dg d2).map (·.1) = List.range' 1 d2 := by
  unfold giantSteps
  rw [List.map_reverse, giantLoop_idx]
  simp only [List.map_cons, List.map_nil, List.reverse_append, List.reverse_cons, List.reverse_nil, List.nil_append,
    List.reverse_reverse]
  obtain ⟨k, rfl⟩ : ∃ k, d2 = k + 1 := ⟨d2 - 1, by omega⟩
  simp [List.range'_succ]

theorem babyLoop_idx {α} (mul sub : α → α → α) (g2 : α) (d1 : Nat) :
    ∀ (f exp : Nat) (bprev b : α) (acc : List (Nat × α)) (r : Nat), d1 / 2 ≤ exp + 2 * f + 2 →
      (r ∈ (babyLoop mul sub g2 d1 f exp bprev b acc).map (·.1) ↔ r ∈ acc.map (·.1) ∨ KeptIdx (d1 / 2) d1 exp r)
  | 0, exp, _, _, acc, r, hf => by
    rw [babyLoop, or_iff_left (keptIdx_end (by omega))]
  | f + 1, exp, bprev, b, acc, r, hf => by
    rw [babyLoop]
    split
    · rename_i hlt
      rw [babyLoop_idx mul sub g2 d1 f (exp + 2) _ _ _ r (by omega), keptIdx_step hlt]
      split
      · rename_i hk
        rw [List.map_cons, List.mem_cons, and_iff_left hk, or_assoc, or_left_comm]
      · rename_i hk
        rw [or_iff_right (fun h : r = exp + 2 ∧ _ => hk h.2)]
    · rename_i hge
      rw [or_iff_left (keptIdx_end hge)]

theorem babySteps_idx {α} (mul sub : α → α → α) (g g2 : α) (d1 r : Nat) :
    r ∈ (babySteps mul sub g g2 d1).map (·.1) ↔
      r = 1 ∨ (r % 2 = 1 ∧ r < d1 / 2 ∧ r % 3 ≠ 0 ∧ Nat.gcd r d1 = 1) := by
  unfold babySteps
  rw [List.map_reverse, List.mem_reverse, babyLoop_idx mul sub g2 d1 d1 1 g g _ r (by omega)]
  simp only [List.map_cons, List.map_nil, List.mem_singleton, keptIdx_one]
  constructor
  · rintro (h | ⟨-, a2, a3, a4, a5⟩)
    · exact Or.inl h
    · exact Or.inr ⟨a3, a2, a4, a5⟩
  · rintro (h | ⟨a1, a2, a3, a4⟩)
    · exact Or.inl h
    · by_cases h1 : r = 1
      · exact Or.inl h1
      · exact Or.inr ⟨by omega, a2, a1, a3, a4⟩

section ring
variable {R : Type*} [CommRing R]

theorem chebV_step (g : R) (d i : Nat) :
    chebV g ((i + 2) * d) = chebV g ((i + 1) * d) * chebV g d - chebV g (i * d) := by
  have := chebV_add g d (i * d)
  rw [show (i + 2) * d = d + i * d + d by ring, show (i + 1) * d = d + i * d by ring]
  exact this

theorem giantLoop_vals (g : R) (d1 : Nat) : ∀ (k i : Nat) (dgprev dg : R) (acc : List (Nat × R)),
    dgprev = chebV g (i * d1) → dg = chebV g ((i + 1) * d1) →
    giantLoop (· * ·) (· - ·) (chebV g d1) k (i + 1) dgprev dg acc =
      ((List.range' (i + 2) k).map (fun j => (j, chebV g (j * d1)))).reverse ++ acc
  | 0, _, _, _, _, _, _ => by simp [giantLoop]
  | k + 1, i, dgprev, dg, acc, hp, hd => by
    rw [giantLoop]
    have hn : dg * chebV g d1 - dgprev = chebV g ((i + 1 + 1) * d1) := by
      rw [hp, hd]; exact (chebV_step g d1 i).symm
    rw [giantLoop_vals g d1 k (i + 1) dg _ _ hd hn]
    simp [List.range'_succ, hn]

theorem giantSteps_vals (g : R) (d1 d2 : Nat) (hd2 : 1 ≤ d2) :
    giantSteps (· * ·) (· - ·) (2 : R) (chebV g d1) d2 = (List.range' 1 d2).map (fun i => (i, chebV g (i * d1))) := by
  unfold giantSteps
  rw [giantLoop_vals g d1 (d2 - 1) 0 2 (chebV g d1) _ (by simp [chebV]) (by simp)]
  obtain ⟨k, rfl⟩ : ∃ k, d2 = k + 1 := ⟨d2 - 1, by omega⟩
  simp [List.range'_succ]

theorem chebV_step2 (g : R) (e : Nat) : chebV g (e + 4) = chebV g (e + 2) * chebV g 2 - chebV g e := by
  have := chebV_add g 2 e
  rw [show e + 4 = 2 + e + 2 by ring, show e + 2 = 2 + e by ring]
  exact this

theorem babyLoop_vals (g : R) (d1 : Nat) : ∀ (f e : Nat) (bprev b : R) (acc : List (Nat × R)),
    bprev = (if e = 0 then chebV g 1 else chebV g (2 * e - 1)) → b = chebV g (2 * e + 1) →
    (∀ x ∈ acc, x.2 = chebV g x.1) →
    ∀ x ∈ babyLoop (· * ·) (· - ·) (chebV g 2) d1 f (2 * e + 1) bprev b acc, x.2 = chebV g x.1
  | 0, _, _, _, acc, _, _, hacc => by simpa [babyLoop] using hacc
  | f + 1, e, bprev, b, acc, hp, hb, hacc => by
    rw [babyLoop]
    split
    · have hval : b * chebV g 2 - bprev = chebV g (2 * (e + 1) + 1) := by
        rw [hp, hb]
        by_cases he : e = 0
        · subst he; simp [chebV]
        · rw [if_neg he]
          obtain ⟨k, rfl⟩ : ∃ k, e = k + 1 := ⟨e - 1, by omega⟩
          have := chebV_step2 g (2 * k + 1)
          rw [show 2 * (k + 1 + 1) + 1 = 2 * k + 1 + 4 by ring, show 2 * (k + 1) + 1 = 2 * k + 1 + 2 by ring,
            show 2 * (k + 1) - 1 = 2 * k + 1 by omega]
          exact this.symm
      have hprev : b = (if e + 1 = 0 then chebV g 1 else chebV g (2 * (e + 1) - 1)) := by
        rw [if_neg (by omega), hb]; congr 1
      have he2 : 2 * e + 1 + 2 = 2 * (e + 1) + 1 := by ring
      simp only [he2]
      apply babyLoop_vals g d1 f (e + 1) b _ _ hprev hval
      intro x hx
      split at hx
      · rcases List.mem_cons.mp hx with rfl | hx
        · exact hval
        · exact hacc x hx
      · exact hacc x hx
    · exact hacc

end ring

/-- `pp1` has the power loop of `SmoothBase::new` and `pm1_impl` -/
theorem powLoop_eq_powBelow (p b1 : Nat) : ∀ f pow, powLoop p b1 f pow = SmoothBase.powBelow f pow p b1
  | 0, _ => rfl
  | f + 1, pow => by rw [powLoop, SmoothBase.powBelow, powLoop_eq_powBelow p b1 f]

theorem step_some (m : Nat) {b1 p : Nat} (s : S1) (hp2 : 2 ≤ p) (hp : p < 2 ^ 32) (hb : b1 ≤ 2 ^ 32) :
    ∃ r, step m b1 s p = some r := by
  obtain ⟨j, hpow, -⟩ := SmoothBase.powBelow_spec p b1 hp2 hp hb 64 p (by omega) hp
    (le_trans hb (Nat.le_trans (Nat.pow_le_pow_right (by decide) (by decide : 32 ≤ 64)) (Nat.le_mul_of_pos_left _ (by omega))))
  unfold step
  rw [powLoop_eq_powBelow, hpow]
  simp only
  split <;> exact ⟨_, rfl⟩

theorem block_some (m : Nat) {b1 : Nat} (hb : b1 ≤ 2 ^ 32) : ∀ (blk : List Nat) (s : S1),
    (∀ p ∈ blk, 2 ≤ p ∧ p < 2 ^ 32) → ∃ s', block m b1 blk s = some s'
  | [], s, _ => ⟨s, rfl⟩
  | p :: ps, s, h => by
    obtain ⟨⟨s1, fl⟩, hs⟩ := step_some m s (h p List.mem_cons_self).1 (h p List.mem_cons_self).2 hb
    rw [block, hs]
    cases fl
    · exact block_some m hb ps s1 (fun q hq => h q (List.mem_cons_of_mem _ hq))
    · exact ⟨s1, rfl⟩

end Ymq.Pp1Impl
