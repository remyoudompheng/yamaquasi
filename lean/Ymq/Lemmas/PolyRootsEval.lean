/-
C10: the public evaluation entry points of src/arith_poly.rs (model: Ymq/Model/PolyTree.lean).
`multiEval_spec`: `Poly::multi_eval` (chunking, padding of a short chunk, tree, remainder tree,
truncation) returns the values of the polynomial at all the points, in order.
`rootsEval_direct_spec`: the branch `a.len() < n` of `Poly::roots_eval`.
-/
import Ymq.Lemmas.PolyEval
import Ymq.Lemmas.Loops

namespace Ymq.PolyMul
open Polynomial Finset

variable {α : Type} {R : Type} [CommRing R] [Nontrivial R]

omit [Nontrivial R] in
theorem fits_new (size m : Nat) (hm : m ≤ 2 ^ Ymq.Checked.bitlen (size - 1)) : Fits (Ctx.new size) m := by
  intro k hk
  unfold Ctx.new at hk
  split_ifs at hk with h
  · simp only [Option.some.injEq] at hk
    rw [← hk, pow_succ]; omega

omit [Nontrivial R] in
theorem productTree_leaves {o : Ops α} (c : Ctx) (roots : List α) (layers : List (List (List α)))
    (h : productTree c o roots = some layers) :
    layers.getD 0 [] = (List.range (2 ^ Ymq.Checked.bitlen (roots.length - 1))).map fun i =>
      if i < roots.length then [o.sub o.zero (roots.getD i o.zero)] else [o.zero] := by
  unfold productTree at h
  split_ifs at h with h0
  simp only at h
  cases hb : buildLayers c o (6 * 2 ^ Ymq.Checked.bitlen (roots.length - 1))
      (Ymq.Checked.bitlen (roots.length - 1)) 1 _ with
  | none => rw [hb] at h; simp at h
  | some ls =>
    rw [hb] at h
    simp only [Option.map_some, Option.some.injEq] at h
    rw [← h, List.getD_cons_zero]

omit [Nontrivial R] in
theorem eval_rootsPoly (φ : α → R) (a : List α) (x : R) :
    (rootsPoly φ a).eval x = (a.map fun r => x - φ r).prod := by
  unfold rootsPoly
  induction a with
  | nil => simp
  | cons r rs ih => simp [ih]

/-- the remainder tree over the product tree of `pts` returns the values of `p` at the points (the
leaves hold `x - pts[j]` as `[-pts[j]]`) -/
theorem multiEvalTree_points {o : Ops α} {φ : α → R} (h : HomE o φ) (c : Ctx) (p pts : List α)
    (layers : List (List (List α))) (top : List α) (el : productTree c o pts = some layers)
    (llen : layers.length = Ymq.Checked.bitlen (pts.length - 1) + 1) (hch : Chain φ 1 layers)
    (htop : layers.getLast? = some [top]) (ltop : top.length = 2 ^ Ymq.Checked.bitlen (pts.length - 1))
    (h61 : Ymq.Checked.bitlen (pts.length - 1) ≤ 61) (hp1 : 1 ≤ p.length)
    (hp2 : p.length ≤ 2 ^ Ymq.Checked.bitlen (pts.length - 1) + 1)
    (hfit : Fits c (2 ^ Ymq.Checked.bitlen (pts.length - 1) / 2 + 1)) (hinv : ∃ i, o.inv o.one = some i) :
    ∃ vals, multiEvalTree c o p layers = some vals ∧
      vals.length = 2 ^ Ymq.Checked.bitlen (pts.length - 1) ∧
      ∀ j, j < pts.length → φ (vals.getD j o.zero) = (poly (p.map φ)).eval (φ (pts.getD j o.zero)) := by
  have hleaves := productTree_leaves c pts layers el
  obtain ⟨vals, ev, lv, hv⟩ := multiEvalTree_spec h c p layers top hch htop _ ltop
    (by rw [llen, Nat.log2_two_pow]) Nat.one_le_two_pow (Nat.pow_le_pow_right (by decide) h61) hp1 hp2 hfit hinv
  rw [hleaves, List.length_map, List.length_range] at lv hv
  refine ⟨vals, ev, lv, fun j hj => ?_⟩
  have hjn : j < 2 ^ Ymq.Checked.bitlen (pts.length - 1) := by
    have := bitlen_lt (pts.length - 1); omega
  rw [hv j hjn, getD_range_map _ _ _ _ hjn, if_pos hj, List.getD_cons_zero, h.sub, h.zero, zero_sub, neg_neg]

theorem rootsEval_direct_spec {o : Ops α} {φ : α → R} (h : HomE o φ) (a b : List α)
    (hb1 : 1 ≤ b.length) (ha1 : 1 ≤ a.length) (hb61 : Ymq.Checked.bitlen (b.length - 1) ≤ 61)
    (hab : a.length < 2 ^ Ymq.Checked.bitlen (b.length - 1)) (hinv : ∃ i, o.inv o.one = some i) :
    ∃ vals, rootsEval o a b = some vals ∧ vals.length = b.length ∧
      ∀ j, j < b.length →
        φ (vals.getD j o.zero) = (a.map fun r => φ (b.getD j o.zero) - φ r).prod := by
  set logn := Ymq.Checked.bitlen (b.length - 1) with hlogn
  set n := 2 ^ logn with hn
  set c := Ctx.new b.length with hc
  have hbn : b.length ≤ n := by
    have := bitlen_lt (b.length - 1); rw [← hlogn, ← hn] at this; omega
  obtain ⟨layers, el, llen, hch, top, htop, ltop, _⟩ := productTree_spec h.toHom c b hb1 (by omega)
    (fits_new _ _ (le_refl _))
  have hla : Ymq.Checked.bitlen (a.length - 1) ≤ logn := bitlen_le_of_lt (by omega)
  obtain ⟨p, ep, lp, pp⟩ := fromRoots_spec h.toHom c a ha1 (by omega)
    (fits_new _ _ (Nat.pow_le_pow_right (by decide) hla))
  obtain ⟨vals, ev, hlv, hv⟩ := multiEvalTree_points h c p b layers top el llen hch htop ltop hb61 (by omega)
    (by rw [lp]; exact Nat.succ_le_succ (le_of_lt hab)) (fits_new _ _ (by show n / 2 + 1 ≤ n; omega)) hinv
  unfold rootsEval
  simp only
  rw [el]
  simp only
  rw [htop]
  simp only
  rw [if_pos (by rw [ltop]; exact hab), ep]
  simp only
  rw [ev]
  simp only
  rw [if_neg (by rw [hlv]; exact Nat.not_lt.2 hbn)]
  refine ⟨_, rfl, List.length_take_of_le (by rw [hlv]; exact hbn), ?_⟩
  intro j hj
  rw [getD_take _ _ _ _ hj, hv j hj, pp,
    eval_rootsPoly]


/-- one chunk of `multi_eval`: the points are padded with zero points up to `max |chk| (deg p)`, so that `|p| ≤ n + 1` for
the tree size `n`; product tree and remainder tree give the values at all `n` leaves (`multiEvalTree_points`), of which
the first `|chk|` are kept -/
theorem multiEvalChunk_spec {o : Ops α} {φ : α → R} (h : HomE o φ) (c : Ctx) (p chk : List α)
    (hp1 : 1 ≤ p.length) (hc1 : 1 ≤ chk.length) (h61 : max chk.length (p.length - 1) ≤ 2 ^ 60)
    (hfit : ∀ m, m ≤ 2 * max chk.length (p.length - 1) → Fits c m) (hinv : ∃ i, o.inv o.one = some i) :
    ∃ v, multiEvalChunk c o p chk = some v ∧ v.length = chk.length ∧
      ∀ j, j < chk.length → φ (v.getD j o.zero) = (poly (p.map φ)).eval (φ (chk.getD j o.zero)) := by
  unfold multiEvalChunk
  simp only
  set pts := (if chk.length + 1 < p.length then chk ++ List.replicate (p.length - 1 - chk.length) o.zero else chk)
    with hpts
  have lpts : pts.length = max chk.length (p.length - 1) := by
    rw [hpts]; split_ifs with hc
    · rw [List.length_append, List.length_replicate]; omega
    · omega
  have hM1 := le_max_left chk.length (p.length - 1)
  have hM2 := le_max_right chk.length (p.length - 1)
  have hpj : ∀ j, j < chk.length → pts.getD j o.zero = chk.getD j o.zero := by
    intro j hj
    rw [hpts]; split_ifs
    · exact List.getD_append _ _ _ _ hj
    · rfl
  set logn := Ymq.Checked.bitlen (pts.length - 1) with hlogn
  set n := 2 ^ logn with hn
  have hptn : pts.length ≤ n := by
    have := bitlen_lt (pts.length - 1); rw [← hlogn, ← hn] at this; omega
  have hlog61 : logn ≤ 60 := bitlen_le_of_lt (by omega)
  have hn2 : n ≤ 2 * pts.length := by
    rw [hn, hlogn]
    unfold Ymq.Checked.bitlen
    split_ifs with h0
    · omega
    · rw [pow_succ]; have := Nat.log2_self_le h0; omega
  obtain ⟨layers, el, llen, hch, top, htop, ltop, _⟩ := productTree_spec h.toHom c pts (by omega) (by omega)
    (hfit _ (by rw [← lpts]; exact hn2))
  rw [el]
  simp only
  obtain ⟨vals, ev, hlv, hv⟩ := multiEvalTree_points h c p pts layers top el llen hch htop ltop (by omega) hp1
    (by show p.length ≤ n + 1; omega) (hfit _ (by show n / 2 + 1 ≤ _; omega)) hinv
  rw [ev]
  simp only
  refine ⟨_, rfl, List.length_take_of_le (by rw [hlv]; exact le_trans (by omega) hptn), ?_⟩
  intro j hj
  rw [getD_take _ _ _ _ hj,
    hv j (by omega), hpj j hj]

omit [Nontrivial R] in
theorem chunks_spec : ∀ (f k : Nat) (l : List α), 1 ≤ k → l.length ≤ f →
    (chunks f k l).flatten = l ∧ ∀ chk ∈ chunks f k l, 1 ≤ chk.length ∧ chk.length ≤ k := by
  intro f
  induction f with
  | zero =>
    intro k l _ hl
    have : l = [] := List.length_eq_zero_iff.1 (by omega)
    subst this
    exact ⟨rfl, fun chk hc => by simp [chunks] at hc⟩
  | succ f ih =>
    intro k l hk hl
    cases l with
    | nil => exact ⟨rfl, fun chk hc => by simp [chunks] at hc⟩
    | cons x xs =>
      unfold chunks
      obtain ⟨h1, h2⟩ := ih k ((x :: xs).drop k) hk (by rw [List.length_drop]; simp at hl ⊢; omega)
      refine ⟨by rw [List.flatten_cons, h1, List.take_append_drop], ?_⟩
      intro chk hc
      rcases List.mem_cons.1 hc with rfl | hc
      · rw [List.length_take]; simp; omega
      · exact h2 chk hc


omit [Nontrivial R] in
theorem foldlM_chunks {o : Ops α} {φ : α → R} (P : R[X]) (G : List α → Option (List α)) (l : List (List α))
    (hall : ∀ chk ∈ l, ∃ v, G chk = some v ∧ v.length = chk.length ∧
      ∀ j, j < chk.length → φ (v.getD j o.zero) = P.eval (φ (chk.getD j o.zero))) :
    ∃ out, l.foldlM (fun (vals : List α) chk => (G chk).map fun vs => vals ++ vs) [] = some out ∧
      out.length = l.flatten.length ∧
      ∀ j, j < out.length → φ (out.getD j o.zero) = P.eval (φ (l.flatten.getD j o.zero)) := by
  refine Loops.foldlM_total _ (fun pre (out : List α) => out.length = pre.flatten.length ∧
    ∀ j, j < out.length → φ (out.getD j o.zero) = P.eval (φ (pre.flatten.getD j o.zero))) l ?_
    ⟨rfl, fun j hj => by simp at hj⟩
  rintro pre chk post out rfl ⟨lo, ho⟩
  obtain ⟨v, ev, lv, hv⟩ := hall chk List.mem_append_cons_self
  refine ⟨out ++ v, by rw [ev]; rfl, ?_, fun j hj => ?_⟩
  · rw [List.length_append, List.flatten_append, List.length_append, List.flatten_singleton, lo, lv]
  · rw [List.flatten_append, List.flatten_singleton]
    by_cases hjv : j < out.length
    · rw [List.getD_append _ _ _ _ hjv, List.getD_append _ _ _ _ (by omega)]
      exact ho j hjv
    · rw [List.getD_append_right _ _ _ _ (by omega), List.getD_append_right _ _ _ _ (by omega), lo]
      rw [List.length_append] at hj
      exact hv _ (by omega)

theorem multiEval_spec {o : Ops α} {φ : α → R} (h : HomE o φ) (c : Ctx) (p a : List α)
    (hp1 : 1 ≤ p.length) (ha1 : 1 ≤ a.length) (h61 : max a.length (p.length - 1) ≤ 2 ^ 60)
    (hfit : Fits c (2 * max a.length (p.length - 1))) (hinv : ∃ i, o.inv o.one = some i) :
    ∃ v, multiEval c o p a = some v ∧ v.length = a.length ∧
      ∀ j, j < a.length → φ (v.getD j o.zero) = (poly (p.map φ)).eval (φ (a.getD j o.zero)) := by
  unfold multiEval
  rw [if_neg (by omega)]
  simp only
  set n := 2 ^ Ymq.Checked.bitlen (p.length - 1) with hn
  set nchunks := (a.length - 1) / n + 1 with hnc
  set chunklen := (a.length - 1) / nchunks + 1 with hcl
  have hnc1 : 1 ≤ nchunks := Nat.le_add_left 1 _
  have hassert : a.length ≤ nchunks * chunklen := by
    have h1 := Nat.div_add_mod (a.length - 1) nchunks
    have h2 := Nat.mod_lt (a.length - 1) (show nchunks > 0 by omega)
    rw [hcl, Nat.mul_add, Nat.mul_one]
    generalize nchunks * ((a.length - 1) / nchunks) = e at h1 ⊢
    generalize (a.length - 1) % nchunks = r at h1 h2
    omega
  rw [if_neg (by omega)]
  have hcla : chunklen ≤ a.length := by
    have := Nat.div_le_self (a.length - 1) nchunks
    rw [hcl]
    generalize (a.length - 1) / nchunks = e at this ⊢
    omega
  obtain ⟨hflat, hchk⟩ := chunks_spec a.length chunklen a (Nat.le_add_left 1 _) le_rfl
  obtain ⟨out, eo, lo, ho⟩ := foldlM_chunks (o := o) (φ := φ) (poly (p.map φ)) (multiEvalChunk c o p)
    (chunks a.length chunklen a) (by
      intro chk hc
      obtain ⟨h1, h2⟩ := hchk chk hc
      have hmax : max chk.length (p.length - 1) ≤ max a.length (p.length - 1) :=
        max_le_max (by omega) le_rfl
      exact multiEvalChunk_spec h c p chk hp1 h1 (le_trans hmax h61)
        (fun m hm => hfit.mono (by omega)) hinv)
  rw [hflat] at lo ho
  exact ⟨out, eo, lo, lo ▸ ho⟩

end Ymq.PolyMul
