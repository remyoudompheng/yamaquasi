/- Basic lemmas for the gcd model: range checks, unimodular steps. -/
import Ymq.Model.Gcd
import Mathlib.Tactic.Ring
import Mathlib.Tactic.Linarith

namespace Ymq.Gcd

theorem chkI64_some {z w : Int} (h : chkI64 z = some w) : w = z ∧ -I63 ≤ z ∧ z < I63 := by
  unfold chkI64 at h
  split at h
  · rename_i hr; simp at h; exact ⟨h.symm, hr⟩
  · simp at h

theorem chkI64_of_range {z : Int} (h1 : -I63 ≤ z) (h2 : z < I63) : chkI64 z = some z := by
  unfold chkI64; rw [if_pos ⟨h1, h2⟩]

theorem chkB_some {N : Nat} {z w : Int} (h : chkB N z = some w) :
    w = z ∧ -((M N / 2 : Nat) : Int) ≤ z ∧ z < ((M N / 2 : Nat) : Int) := by
  unfold chkB at h
  split at h
  · rename_i hr; simp at h; exact ⟨h.symm, hr⟩
  · simp at h

theorem chkB_of_range {N : Nat} {z : Int} (h1 : -((M N / 2 : Nat) : Int) ≤ z)
    (h2 : z < ((M N / 2 : Nat) : Int)) : chkB N z = some z := by
  unfold chkB; rw [if_pos ⟨h1, h2⟩]

theorem chkU_some {N : Nat} {z w : Nat} (h : chkU N z = some w) : w = z ∧ z < M N := by
  unfold chkU at h
  split at h
  · rename_i hr; simp at h; exact ⟨h.symm, hr⟩
  · simp at h

theorem lin2_some {N : Nat} {p A q C r : Int} (h : lin2 N p A q C = some r) : r = p * A + q * C := by
  unfold lin2 at h
  split at h
  · rename_i pa qc h1 h2
    rw [(chkB_some h).1, (chkB_some h1).1, (chkB_some h2).1]
  · simp at h

theorem subMul_some {N : Nat} {A q C r : Int} (h : subMul N A q C = some r) : r = A - q * C := by
  unfold subMul at h
  split at h
  · rename_i qc h1
    rw [(chkB_some h).1, (chkB_some h1).1]
  · simp at h

theorem mulSub_some {N : Nat} {A q C r : Int} (h : mulSub N q C A = some r) : r = q * C - A := by
  unfold mulSub at h
  split at h
  · rename_i qc h1
    rw [(chkB_some h).1, (chkB_some h1).1]
  · simp at h

/-- the matrix `(a b; c d)` has determinant `±1` -/
def Unimod (a b c d : Int) : Prop := a * d - b * c = 1 ∨ a * d - b * c = -1

theorem Unimod.swap {a b c d : Int} (h : Unimod a b c d) : Unimod c d a b := by
  unfold Unimod at *; rcases h with h | h
  · right; linarith
  · left; linarith

theorem int_gcd_unimodular (a b c d X Y : Int) (h : Unimod a b c d) :
    Int.gcd (a * X + b * Y) (c * X + d * Y) = Int.gcd X Y := by
  apply Nat.dvd_antisymm
  · have h1 := Int.gcd_dvd_left (a * X + b * Y) (c * X + d * Y)
    have h2 := Int.gcd_dvd_right (a * X + b * Y) (c * X + d * Y)
    have hX : (Int.gcd (a * X + b * Y) (c * X + d * Y) : Int) ∣ (a * d - b * c) * X := by
      have : (a * d - b * c) * X = d * (a * X + b * Y) - b * (c * X + d * Y) := by ring
      rw [this]; exact Int.dvd_sub (Dvd.dvd.mul_left h1 d) (Dvd.dvd.mul_left h2 b)
    have hY : (Int.gcd (a * X + b * Y) (c * X + d * Y) : Int) ∣ (a * d - b * c) * Y := by
      have : (a * d - b * c) * Y = a * (c * X + d * Y) - c * (a * X + b * Y) := by ring
      rw [this]; exact Int.dvd_sub (Dvd.dvd.mul_left h2 a) (Dvd.dvd.mul_left h1 c)
    apply Int.dvd_gcd
    · rcases h with h | h <;> rw [h] at hX
      · simpa using hX
      · simpa using hX
    · rcases h with h | h <;> rw [h] at hY
      · simpa using hY
      · simpa using hY
  · apply Int.dvd_gcd
    · exact Int.dvd_add (Dvd.dvd.mul_left (Int.gcd_dvd_left X Y) a) (Dvd.dvd.mul_left (Int.gcd_dvd_right X Y) b)
    · exact Int.dvd_add (Dvd.dvd.mul_left (Int.gcd_dvd_left X Y) c) (Dvd.dvd.mul_left (Int.gcd_dvd_right X Y) d)

theorem nat_gcd_unimodular (a b c d : Int) (x y : Nat) (h : Unimod a b c d) :
    Nat.gcd (a * x + b * y).natAbs (c * x + d * y).natAbs = Nat.gcd x y := by
  have := int_gcd_unimodular a b c d x y h
  rw [Int.gcd_eq_natAbs_gcd_natAbs, Int.gcd_eq_natAbs_gcd_natAbs] at this
  simpa using this

theorem nat_gcd_unimodular' (a b c d : Int) (x y x' y' : Nat)
    (h : Unimod a b c d)
    (hx : (x' : Int) = a * x + b * y ∨ (x' : Int) = -(a * x + b * y))
    (hy : (y' : Int) = c * x + d * y ∨ (y' : Int) = -(c * x + d * y)) :
    Nat.gcd x' y' = Nat.gcd x y := by
  rw [← nat_gcd_unimodular a b c d x y h]
  have e1 : x' = (a * x + b * y).natAbs := by rcases hx with hx | hx <;> omega
  have e2 : y' = (c * x + d * y).natAbs := by rcases hy with hy | hy <;> omega
  rw [e1, e2]

theorem two_mod_le {x y : Nat} (hy : 0 < y) (hyx : y ≤ x) : 2 * (x % y) ≤ x := by
  have h1 := Nat.div_add_mod x y
  have h2 : x % y < y := Nat.mod_lt _ hy
  have h3 : 1 ≤ x / y := Nat.div_pos hyx hy
  have h4 : y ≤ y * (x / y) := Nat.le_mul_of_pos_right _ h3
  omega

end Ymq.Gcd
