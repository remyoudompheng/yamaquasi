/-
Totality of the model of `ecm128::ecm_curve` under an invariant of the point operations, and the invariant for the
translated formulas `e128*` over a commutative ring (they are the a = -1 formulas of ecm.rs: `C15.e128_eq_ecm`).
-/
import Ymq.Lemmas.Ecm128CurveGroup
import Ymq.Props.C15Stage2

namespace Ymq.Ecm128Curve
open Ymq.Chain Ymq.EcmCurve

section Inv
variable {P E X : Type} {o : Ops128 P E} {IP : P → Prop} {IE : E → Prop}

/-- **`ecm128::ecm_curve` returns.** If the operations preserve invariants that hold for the generator, the double-add is
the fused one, `is_valid` accepts the extended form of every point satisfying the invariant, the blocks are `u64` and
`d1` is even, at least 4 and a `u64`: no assertion fails, no index is out of range, nothing underflows. -/
theorem ecmCurve_total (env : Env P E X) (hf : Fused env.ops) (hi : OpsInv env.ops.asOps IP IE)
    (hvalid : ∀ p, IP p → env.valid (env.ops.ext p) = true) (factors : List Nat) (hfs : ∀ f ∈ factors, f < 2 ^ 64)
    {d1 : Nat} (hev : 2 ∣ d1) (h4 : 4 ≤ d1) (hd : d1 < 2 ^ 64) (d2 : Nat) (g : P) (hg : IP g) :
    ecmCurve env factors d1 d2 g ≠ none := by
  obtain ⟨h2, h1, _⟩ := stage1_sim hf hi.sim env.n env.xv factors g PUnit.unit hfs hg
  unfold ecmCurve
  cases hs : stage1 env.ops env.n env.xv factors g with
  | panic => rw [hs] at h1; exact absurd h1 id
  | ret r => simp
  | go g1 =>
    rw [hs] at h2
    have hg1 : IP g1 := h2
    simp only [hvalid g1 hg1, Bool.not_true, Bool.false_eq_true, if_false]
    obtain ⟨bt, eb, _⟩ := babySteps_sim hi.sim (y := PUnit.unit) hg1 hev h4
    obtain ⟨q, eg, _⟩ := mul_sim hf hi.sim d1 hd (x := PUnit.unit) hg1
    unfold stage2 giantSteps
    simp [eb, eg]

end Inv

section Ring
open Ymq.Gen.Curves Ymq.Curve
variable {R : Type} [CommRing R]

/-- `gap.0 = n - gap.0; gap.3 = n - gap.3` over a ring -/
def negExt (e : Ext R) : Ext R := ⟨-e.x, e.y, e.z, -e.t⟩

theorem curveOps128_fused (g : Pt R) : Fused (curveOps128 g (negExt (R := R))) := by
  intro p q
  show e128Dbladd g p q = (e128Add g (e128Dblext g p) q).toProj
  exact Ymq.Curve.e128_dbladd_eq g p q

/-- the `e128*` formulas preserve "on the curve" / "on the curve and on the quadric" for the curve `-x² + y² = 1 + d x² y²` -/
theorem curveOps128_closed (g : Pt R) (d : R) :
    OpsInv (curveOps128 g (negExt (R := R))).asOps (ecmIsValid d true)
      (fun e => ecmIsValidext d true e ∧ OnQuadric e) := by
  have hc := Ymq.C15.curve_ops_closed d true
  have ea : ∀ p q, e128Add g p q = ecmAddext d true p q := e128_add_eq g d
  refine ⟨?_, ?_, ?_, ?_, ?_, ?_, ?_, ?_⟩
  · exact hc.zero
  · intro p hp; show _ ∧ OnQuadric (e128Ext g p); rw [e128_ext_eq g d]; exact hc.toExt p hp
  · intro e he; exact hc.toProj e he
  · intro p hp; show ecmIsValid d true (e128Double g p); rw [e128_double_eq g d]; exact hc.double p hp
  · intro p hp; show _ ∧ OnQuadric (e128Dblext g p); rw [e128_dblext_eq g d]; exact hc.dblext p hp
  · intro a b ha hb; show _ ∧ OnQuadric (e128Add g a b); rw [ea]; exact hc.addext a b ha hb
  · intro a b ha hb
    show ecmIsValid d true (e128Add g a b).toProj
    rw [ea]; exact hc.toProj _ (hc.addext a b ha hb)
  · intro a b ha hb
    show ecmIsValid d true (e128Add g a (negExt b)).toProj
    rw [ea]; exact hc.toProj _ (hc.addext a _ ha (negExt_valid d true b hb.1 hb.2))

end Ring

end Ymq.Ecm128Curve
