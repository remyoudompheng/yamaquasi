/- C20: the number of NTT primes chosen by `MultiZmodP::new`, evaluated once per value of
`2 * bits + logsize`; `mzp_new_ok` of Ymq/Props/C20.lean is the rectangle `bits ≤ 512`, `logsize ≤ 32`. -/
import Ymq.Lemmas.Params
import Ymq.Lemmas.ParamsDefs

namespace Ymq.C20.Dec
open Ymq.Checked Ymq.Gen Ymq.Gen.Params Ymq.C20

/-- `MultiZmodP::new` looks at `bits` and `logsize` only through `need = 2 * bits + logsize`, so
one evaluation per value of `need` is enough. -/
theorem mzp_w_eq (bits logsize : Nat) (h : 2 * bits + logsize < 2 ^ 32) :
    arith_fft.mzp_w bits logsize = arith_fft.mzp_w 0 (2 * bits + logsize) := by
  have h0 : 2 * 0 + (2 * bits + logsize) < 2 ^ 32 := by omega
  simp only [arith_fft.mzp_w, cmul_some (by omega : 2 * bits < 2 ^ 32), cadd_some h,
    cmul_some (by omega : 2 * 0 < 2 ^ 32), cadd_some h0, Option.bind_some, Nat.mul_zero, Nat.zero_add]

theorem mzp_need : ∀ need, need ≤ 58 * NTT_PRIMES_LEN - 1 →
    Holds (arith_fft.mzp_w 0 need) fun w => 1 ≤ w ∧ w ≤ NTT_PRIMES_LEN ∧ need < 58 * w := by
  decide +kernel

/-- `MultiZmodP::new` succeeds as long as the listed primes suffice, 58 bits each. -/
theorem mzp_w_ok (bits logsize : Nat) (h : 2 * bits + logsize < 58 * NTT_PRIMES_LEN) :
    Holds (arith_fft.mzp_w bits logsize) fun w =>
      1 ≤ w ∧ w ≤ NTT_PRIMES_LEN ∧ 2 * bits + logsize < 58 * w := by
  rw [mzp_w_eq bits logsize (Nat.lt_trans h (by decide))]
  exact mzp_need _ (Nat.le_sub_one_of_lt h)

end Ymq.C20.Dec
