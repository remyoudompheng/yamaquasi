/-
Assembly of `relation_genuine` (property C18): what `relationOf` (the model of the relation
construction of `classgroup::sieve_block_poly`) returns, read as a list of prime forms, composes to
the principal form.
The conversion loop, `Poly::factors` and the large prime rule all multiply an exponent by one sign `sg D y p`
(`posSign`): on their domain they have closed forms (`convFactors_eq`, `polyFactors_eq`, `largeSign_eq`; at the
arguments `relationOf` passes: `convFactors_trial`, `polyFactors_of_dvd`). A produced relation is then a factorization
of `A · P(x)` into primes with these signs (`SFact`, `relationOf_sfact`), and any such factorization of `n` with
`y² - 4n = D` composes to the principal form (`primes_product`, `SFact.genuine`).
Signs: `signedExp`, `largeSign` (model) are what the code computes; `resSign D y p` (`±1` by comparing `y mod p` with `theRoot D p`)
is their closed form at odd primes; `posSign` / `sg` (Bool / `±1`) are the rule of `sieve_block_poly` for every prime: bit 1 of `y`
at `p = 2`, `resSign` elsewhere (`sg_of_ne_two`); `SignOk (posSign ..)` is what the rule asks of an exponent.
-/
import Ymq.Lemmas.ClassGroupCompose
import Ymq.Lemmas.ClassGroupRel
import Mathlib.Algebra.BigOperators.Group.List.Basic
import Mathlib.Data.List.Perm.Basic

namespace Ymq.ClassGroup

/-- the primes of an exponent vector, each repeated `|e|` times -/
def expN (l : List (Nat × Int)) : List Nat := l.flatMap fun pe => List.replicate pe.2.natAbs pe.1

theorem expN_nil : expN [] = [] := rfl
theorem expN_cons (pe : Nat × Int) (l : List (Nat × Int)) :
    expN (pe :: l) = List.replicate pe.2.natAbs pe.1 ++ expN l := by simp [expN]
theorem expN_append (l l' : List (Nat × Int)) : expN (l ++ l') = expN l ++ expN l' := by
  simp [expN]

theorem mem_expN {l : List (Nat × Int)} {q : Nat} (h : q ∈ expN l) : ∃ pe ∈ l, pe.2 ≠ 0 ∧ q = pe.1 := by
  unfold expN at h
  simp only [List.mem_flatMap, List.mem_replicate] at h
  obtain ⟨pe, hpe, h0, rfl⟩ := h
  exact ⟨pe, hpe, by omega, rfl⟩

theorem expN_prod (l : List (Nat × Int)) : (expN l).prod = (l.map fun pe => pe.1 ^ pe.2.natAbs).prod := by
  induction l with
  | nil => rfl
  | cons pe t ih => rw [expN_cons, List.prod_append, List.prod_replicate, ih, List.map_cons, List.prod_cons]

/-- sign discipline: the exponent of `p` is `≥ 0` when `pos p`, `≤ 0` otherwise -/
def SignOk (pos : Nat → Bool) (pe : Nat × Int) : Prop :=
  (pos pe.1 = true → 0 ≤ pe.2) ∧ (pos pe.1 = false → pe.2 ≤ 0)

theorem signOk_add {pos : Nat → Bool} {p : Nat} {x e : Int} (h1 : SignOk pos (p, x))
    (h2 : SignOk pos (p, e)) : (x + e).natAbs = x.natAbs + e.natAbs ∧ SignOk pos (p, x + e) := by
  cases h : pos p
  · have a1 : x ≤ 0 := h1.2 h
    have a2 : e ≤ 0 := h2.2 h
    exact ⟨Int.natAbs_add_of_nonpos a1 a2,
      And.intro (fun hh => by rw [h] at hh; cases hh) (fun _ => Int.add_nonpos a1 a2)⟩
  · have a1 : 0 ≤ x := h1.1 h
    have a2 : 0 ≤ e := h2.1 h
    exact ⟨Int.natAbs_add_of_nonneg a1 a2,
      And.intro (fun _ => Int.add_nonneg a1 a2) (fun hh => by rw [h] at hh; cases hh)⟩

theorem upd_expN {pos : Nat → Bool} (f : Nat) (e : Int) (he : SignOk pos (f, e)) :
    ∀ fs : List (Nat × Int), fs.any (fun x => x.1 = f) = true → (∀ pe ∈ fs, SignOk pos pe) →
    (expN (mergeQ.upd f e fs)).Perm (expN fs ++ List.replicate e.natAbs f) ∧
      ∀ pe ∈ mergeQ.upd f e fs, SignOk pos pe
  | [], h, _ => by simp at h
  | (p, x) :: t, h, hs => by
    simp only [mergeQ.upd]
    by_cases hp : p = f
    · subst hp
      rw [if_pos rfl]
      obtain ⟨hn, hok⟩ := signOk_add (hs (p, x) List.mem_cons_self) he
      refine ⟨?_, ?_⟩
      · rw [expN_cons, expN_cons]
        simp only
        rw [hn, List.replicate_add, List.append_assoc, List.append_assoc]
        exact List.Perm.append_left _ List.perm_append_comm
      · exact List.forall_mem_cons.2 ⟨hok, fun pe hpe => hs pe (List.mem_cons_of_mem _ hpe)⟩
    · rw [if_neg hp]
      have h' : t.any (fun x => x.1 = f) = true := by
        simp only [List.any_cons, Bool.or_eq_true, decide_eq_true_eq] at h
        rcases h with h | h
        · exact absurd h hp
        · exact h
      obtain ⟨ih1, ih2⟩ := upd_expN f e he t h' (fun pe hpe => hs pe (List.mem_cons_of_mem _ hpe))
      refine ⟨?_, ?_⟩
      · rw [expN_cons, expN_cons, List.append_assoc]
        exact List.Perm.append_left _ ih1
      · exact List.forall_mem_cons.2 ⟨hs _ List.mem_cons_self, ih2⟩

/-- the merge loop of `sieve_block_poly` adds multiplicities when the signs agree -/
theorem mergeQ_expN {pos : Nat → Bool} : ∀ (qf fs : List (Nat × Int)),
    (∀ pe ∈ fs, SignOk pos pe) → (∀ pe ∈ qf, SignOk pos pe) →
    (expN (mergeQ fs qf)).Perm (expN fs ++ expN qf) ∧ ∀ pe ∈ mergeQ fs qf, SignOk pos pe
  | [], fs, hs, _ => by
    simp only [mergeQ, expN_nil, List.append_nil]
    exact ⟨List.Perm.refl _, hs⟩
  | (f, e) :: qs, fs, hs, hq => by
    have he : SignOk pos (f, e) := hq _ List.mem_cons_self
    have hq' : ∀ pe ∈ qs, SignOk pos pe := fun pe hpe => hq pe (List.mem_cons_of_mem _ hpe)
    rw [mergeQ]
    split
    · rename_i hany
      obtain ⟨u1, u2⟩ := upd_expN f e he fs hany hs
      obtain ⟨ih1, ih2⟩ := mergeQ_expN qs (mergeQ.upd f e fs) u2 hq'
      refine ⟨?_, ih2⟩
      rw [expN_cons, ← List.append_assoc]
      exact ih1.trans (List.Perm.append_right _ u1)
    · have hs' : ∀ pe ∈ fs ++ [(f, e)], SignOk pos pe := by
        intro pe hpe
        rcases List.mem_append.1 hpe with h | h
        · exact hs pe h
        · simp only [List.mem_singleton] at h; subst h; exact he
      obtain ⟨ih1, ih2⟩ := mergeQ_expN qs (fs ++ [(f, e)]) hs' hq'
      refine ⟨?_, ih2⟩
      rw [expN_cons, ← List.append_assoc]
      refine ih1.trans ?_
      rw [expN_append, expN_cons, expN_nil, List.append_nil]

/-- the normalised root of `p` for the discriminant `D` (unique for a prime `p`: `isBPlus_unique`);
`0` when there is none -/
noncomputable def theRoot (D : Int) (p : Nat) : Nat :=
  open Classical in if h : ∃ b, IsBPlus D p b then Classical.choose h else 0

theorem theRoot_spec {D : Int} {p : Nat} (h : ∃ b, IsBPlus D p b) : IsBPlus D p (theRoot D p) := by
  unfold theRoot
  rw [dif_pos h]
  exact Classical.choose_spec h

theorem theRoot_eq {D : Int} {p b : Nat} (hp : p.Prime) (h : IsBPlus D p b) : theRoot D p = b :=
  isBPlus_unique hp (theRoot_spec ⟨b, h⟩) h

/-- sign of the exponent of `p` read off the residue: `+1` iff `y mod p` is the normalised root -/
noncomputable def resSign (D y : Int) (p : Nat) : Int := if modSigned y p = theRoot D p then 1 else -1

/-- the sign of the exponent of `p` decided by `sieve_block_poly` from `y = bx`:
bit 1 of `y` for `p = 2`, the comparison of `y mod p` with the normalised root otherwise -/
def posSign (y : Int) (root : Nat → Nat) (p : Nat) : Bool :=
  if p = 2 then !bit1 y else decide (modSigned y p = root p)

/-- the same, with the normalised root `theRoot D`, as a factor `±1` of the exponent -/
noncomputable def sg (D y : Int) (p : Nat) : Int := if posSign y (theRoot D) p then 1 else -1

theorem resSign_abs (D y : Int) (p : Nat) : resSign D y p = 1 ∨ resSign D y p = -1 := by
  unfold resSign; split
  · exact Or.inl rfl
  · exact Or.inr rfl

theorem sg_abs (D y : Int) (p : Nat) : sg D y p = 1 ∨ sg D y p = -1 := by
  unfold sg; split
  · exact Or.inl rfl
  · exact Or.inr rfl

theorem sg_two (D y : Int) : sg D y 2 = if bit1 y then -1 else 1 := by
  unfold sg posSign
  rw [if_pos rfl]
  cases bit1 y <;> rfl

theorem sg_of_ne_two (D y : Int) {p : Nat} (h2 : p ≠ 2) : sg D y p = resSign D y p := by
  unfold sg posSign resSign
  rw [if_neg h2]
  by_cases hm : modSigned y p = theRoot D p
  · rw [if_pos hm, decide_eq_true hm, if_pos rfl]
  · rw [if_neg hm, decide_eq_false hm, if_neg Bool.false_ne_true]

theorem signOk_sg (D y : Int) (p k : Nat) : SignOk (posSign y (theRoot D)) (p, sg D y p * k) := by
  unfold SignOk sg
  constructor <;> intro h <;> dsimp only at h ⊢ <;> rw [h]
  · rw [if_pos rfl, one_mul]; exact Int.natCast_nonneg k
  · rw [if_neg Bool.false_ne_true, neg_one_mul]; exact neg_nonpos.2 (Int.natCast_nonneg k)

/-- the comparison with `b_plus` in closed form: on a prime dividing `y² - D` the `debug_assert!` holds and the
exponent gets the sign of the residue -/
theorem signedExp_eq {D : Int} {p ref : Nat} {y : Int} (e : Nat) (hp : p.Prime) (href : IsBPlus D p ref)
    (hy : (p : Int) ∣ y * y - D) : signedExp p ref y e = some (resSign D y p * e) := by
  unfold signedExp resSign
  rw [theRoot_eq hp href]
  dsimp only
  by_cases hm : modSigned y p = ref
  · rw [if_pos hm, if_pos hm, one_mul]
  · rw [if_neg hm, if_neg hm, if_pos ((modSigned_cases hp href hy).resolve_left hm), neg_one_mul]

/-- `Poly::factors` in closed form (`B ≥ 0`): every prime of `A` with the sign of the residue of `2B` resp. `B` -/
theorem polyFactors_eq {D : Int} {type1 : Bool} {b : Int} (hb : 0 ≤ b) : ∀ afs : List (Nat × Nat),
    (∀ pr ∈ afs, pr.1.Prime ∧ (∃ ref, bPlus pr.1 pr.2 type1 = some ref ∧ IsBPlus D pr.1 ref) ∧
      ((pr.1 : Int) ∣ (if type1 then 2 * b else b) * (if type1 then 2 * b else b) - D)) →
    polyFactors type1 b afs = some (afs.map fun pr => (pr.1, resSign D (if type1 then 2 * b else b) pr.1))
  | [], _ => rfl
  | (p, r) :: fs, h => by
    obtain ⟨hp, ⟨ref, href, hB⟩, hbp⟩ := h (p, r) List.mem_cons_self
    dsimp only at hp href hB hbp
    have hlt := modSigned_lt (bx := if type1 then 2 * b else b) hp.pos
    have hle : ref ≤ p := hB.1
    rw [polyFactors_cons hb, href, polyFactors_eq hb fs (fun pr hpr => h pr (List.mem_cons_of_mem _ hpr)),
      Option.bind_some, Option.bind_some, List.map_cons]
    unfold resSign
    rw [theRoot_eq hp hB]
    by_cases hc : modSigned (if type1 then 2 * b else b) p = ref
    · rw [if_pos hc, if_pos hc]
    · rw [if_neg hc, if_neg hc, if_pos (by have := (modSigned_cases hp hB hbp).resolve_left hc; omega)]

/-- the conversion loop in closed form: on candidates that are 2, conductor primes or factor-base primes with a
correct root, all dividing `y² - D`, it rejects when an odd conductor prime occurs and otherwise returns every
prime with its exponent signed by `sg` -/
theorem convFactors_eq {D : Int} {type1 : Bool} {y : Int} {conductor : List Nat} {fb : List (Nat × Nat)} :
    ∀ l : List (Nat × Nat),
    (∀ pe ∈ l, FbOk D type1 conductor fb pe.1 ∧ ((pe.1 : Int) ∣ y * y - D)) →
    convFactors type1 y conductor fb l =
      if ∃ pe ∈ l, pe.1 ≠ 2 ∧ pe.1 ∈ conductor then .reject
      else .ok (l.map fun pe => (pe.1, sg D y pe.1 * pe.2))
  | [], _ => by simp [convFactors]
  | (p, e) :: rest, h => by
    obtain ⟨hfb, hdvd⟩ := h (p, e) List.mem_cons_self
    dsimp only at hfb hdvd
    -- once the entry `x` of `p` is made, the outcome is that of the rest
    have cont : ∀ x : Nat × Int, ¬ (p ≠ 2 ∧ p ∈ conductor) → x = (p, sg D y p * e) →
        (match convFactors type1 y conductor fb rest with | .ok fs => Conv.ok (x :: fs) | o => o) =
          if ∃ pe ∈ (p, e) :: rest, pe.1 ≠ 2 ∧ pe.1 ∈ conductor then .reject
          else .ok (((p, e) :: rest).map fun pe => (pe.1, sg D y pe.1 * pe.2)) := by
      intro x hnc hx
      rw [convFactors_eq rest (fun pe hpe => h pe (List.mem_cons_of_mem _ hpe))]
      by_cases hr : ∃ pe ∈ rest, pe.1 ≠ 2 ∧ pe.1 ∈ conductor
      · obtain ⟨pe, hpe, hh⟩ := hr
        rw [if_pos ⟨pe, hpe, hh⟩, if_pos ⟨pe, List.mem_cons_of_mem _ hpe, hh⟩]
      · have hn : ¬ ∃ pe ∈ (p, e) :: rest, pe.1 ≠ 2 ∧ pe.1 ∈ conductor := by
          rintro ⟨pe, hpe, hh⟩
          rcases List.mem_cons.1 hpe with rfl | hm
          · exact hnc hh
          · exact hr ⟨pe, hm, hh⟩
        rw [if_neg hr, if_neg hn, List.map_cons, hx]
    rw [convFactors]
    by_cases h2 : p = 2
    · rw [if_pos h2]
      refine cont _ (fun hh => hh.1 h2) ?_
      rw [h2, sg_two]
      cases bit1 y <;> simp
    rw [if_neg h2]
    by_cases hc : conductor.contains p = true
    · rw [if_pos hc, if_pos ⟨(p, e), List.mem_cons_self, h2, List.contains_iff_mem.1 hc⟩]
    rw [if_neg hc]
    rcases hfb with hfb | hfb | ⟨hp, r, ref, hl, hbp, hB⟩
    · exact absurd hfb h2
    · exact absurd (List.contains_iff_mem.2 hfb) hc
    · rw [hl]; dsimp only
      rw [hbp]; dsimp only
      rw [signedExp_eq e hp hB hdvd]; dsimp only
      exact cont _ (fun hh => hc (List.contains_iff_mem.2 hh.2)) (by rw [sg_of_ne_two D y h2])


theorem polyDisc_yB (type1 : Bool) (a b c : Int) :
    (if type1 then 2 * b else b) * (if type1 then 2 * b else b) - polyDisc type1 a b c = 4 * a * c := by
  unfold polyDisc
  cases type1
  · simp
  · simp only [if_true]; ring

/-- `Poly::factors` at primes of `A`: they divide `y² - D = 4 A C` for `y = 2B` resp. `B` -/
theorem polyFactors_of_dvd {D : Int} {type1 : Bool} {a b c : Int} (hb : 0 ≤ b) (hdisc : polyDisc type1 a b c = D)
    (afs : List (Nat × Nat)) (hafs : ∀ pr ∈ afs, pr.1.Prime ∧ ((pr.1 : Int) ∣ a) ∧
      ∃ ref, bPlus pr.1 pr.2 type1 = some ref ∧ IsBPlus D pr.1 ref) :
    polyFactors type1 b afs = some (afs.map fun pr => (pr.1, resSign D (if type1 then 2 * b else b) pr.1)) :=
  polyFactors_eq hb afs fun pr hpr => by
    obtain ⟨hp, hpa, href⟩ := hafs pr hpr
    refine ⟨hp, href, ?_⟩
    rw [← hdisc, polyDisc_yB]
    exact Dvd.dvd.mul_right (Dvd.dvd.mul_left hpa _) _

/-- the conversion loop at the candidates `fbase::cofactor` finds in a value `v > 0` with `y² - 4 A v = D`: they divide
`v`, hence `y² - D` -/
theorem convFactors_trial {D : Int} {type1 : Bool} {y a v : Int} {conductor : List Nat} {fb : List (Nat × Nat)}
    {facs : List Nat} (hv : 0 < v) (hid : y * y - 4 * a * v = D) (hfacs : ∀ p ∈ facs, FbOk D type1 conductor fb p) :
    convFactors type1 y conductor fb (trialDivide facs v.toNat).1 =
      if ∃ pe ∈ (trialDivide facs v.toNat).1, pe.1 ≠ 2 ∧ pe.1 ∈ conductor then .reject
      else .ok ((trialDivide facs v.toNat).1.map fun pe => (pe.1, sg D y pe.1 * pe.2)) :=
  convFactors_eq _ fun pe hpe => by
    obtain ⟨h1, h2⟩ := (trialDivide_spec facs v.toNat).1 pe hpe
    refine ⟨hfacs _ h1, ?_⟩
    rw [show y * y - D = 4 * a * v by linarith, ← Int.toNat_of_nonneg hv.le]
    exact Dvd.dvd.mul_left (Int.natCast_dvd_natCast.2 h2) _

theorem chainCoprime_of_primes {b : Int} : ∀ (qs : List Nat), (∀ q ∈ qs, q.Prime) →
    (∀ p : Nat, p.Prime → (p : Int) ∣ b → ¬ (p * p ∣ qs.prod)) →
    ChainCoprime b (qs.map fun q : Nat => (q : Int))
  | [], _, _ => trivial
  | q :: rest, hpr, hsq => by
    have hq : q.Prime := hpr q List.mem_cons_self
    refine ⟨?_, chainCoprime_of_primes rest (fun x hx => hpr x (List.mem_cons_of_mem _ hx)) ?_⟩
    · unfold gcd3
      rw [← Nat.cast_list_prod, Int.natAbs_natCast, Int.natAbs_natCast]
      by_contra hne
      have hg : Nat.gcd (Nat.gcd q rest.prod) b.natAbs ∣ q :=
        (Nat.gcd_dvd_left _ _).trans (Nat.gcd_dvd_left _ _)
      rcases (Nat.dvd_prime hq).1 hg with h1 | h1
      · exact hne h1
      · have d1 : q ∣ rest.prod := by
          have := (Nat.gcd_dvd_left (Nat.gcd q rest.prod) b.natAbs).trans (Nat.gcd_dvd_right q rest.prod)
          rwa [h1] at this
        have d2 : q ∣ b.natAbs := by
          have := Nat.gcd_dvd_right (Nat.gcd q rest.prod) b.natAbs
          rwa [h1] at this
        refine hsq q hq (Int.natCast_dvd.2 d2) ?_
        rw [List.prod_cons]
        exact Nat.mul_dvd_mul_left q d1
    · intro p hp hpb hdv
      refine hsq p hp hpb ?_
      rw [List.prod_cons]
      exact Dvd.dvd.mul_left hdv q

/-- the prime form `[p]` for a nonnegative exponent, its conjugate `[p]⁻¹` for a negative one -/
def signedForm (D : Int) (root : Nat → Nat) (pe : Nat × Int) : Form :=
  if pe.2 < 0 then (primeForm D pe.1 (root pe.1)).conj else primeForm D pe.1 (root pe.1)

/-- an exponent vector as a list of forms: `|e|` copies of `[p]` resp. `[p]⁻¹` -/
def expand (D : Int) (root : Nat → Nat) (l : List (Nat × Int)) : List Form :=
  l.flatMap fun pe => List.replicate pe.2.natAbs (signedForm D root pe)

def Rel.entries (r : Rel) : List (Nat × Int) := r.factors ++ (r.large1.toList ++ r.large2.toList)

/-- the form attached to a prime by the sign rule -/
def signForm (D : Int) (root : Nat → Nat) (pos : Nat → Bool) (p : Nat) : Form :=
  if pos p then primeForm D p (root p) else (primeForm D p (root p)).conj

theorem expand_eq {D : Int} {root : Nat → Nat} {pos : Nat → Bool} : ∀ l : List (Nat × Int),
    (∀ pe ∈ l, SignOk pos pe) → expand D root l = (expN l).map (signForm D root pos)
  | [], _ => rfl
  | pe :: t, h => by
    have ih := expand_eq (D := D) (root := root) t (fun x hx => h x (List.mem_cons_of_mem _ hx))
    unfold expand at ih ⊢
    rw [List.flatMap_cons, ih, expN_cons, List.map_append, List.map_replicate]
    congr 1
    obtain ⟨h1, h2⟩ := h pe List.mem_cons_self
    by_cases h0 : pe.2 = 0
    · simp [h0]
    · congr 1
      unfold signedForm signForm
      cases hp : pos pe.1
      · have := h2 hp
        rw [if_pos (by omega)]; simp
      · have := h1 hp
        rw [if_neg (by omega)]; simp

theorem forall₂_map_of_forall {α β : Type} {R : β → β → Prop} (f g : α → β) : ∀ l : List α,
    (∀ x ∈ l, R (f x) (g x)) → List.Forall₂ R (l.map f) (l.map g)
  | [], _ => .nil
  | x :: t, h => .cons (h x List.mem_cons_self)
      (forall₂_map_of_forall f g t fun y hy => h y (List.mem_cons_of_mem _ hy))

theorem mem_expN_of_mem {l : List (Nat × Int)} {pe : Nat × Int} (h : pe ∈ l) (h0 : pe.2 ≠ 0) :
    pe.1 ∈ expN l := by
  unfold expN
  simp only [List.mem_flatMap, List.mem_replicate]
  exact ⟨pe, h, by omega, rfl⟩

theorem polyDisc_mod4 (type1 : Bool) (a b c : Int) :
    polyDisc type1 a b c % 4 = 0 ∨ polyDisc type1 a b c % 4 = 1 := by
  unfold polyDisc
  cases type1
  · have := sq_emod_four b
    have e : b * b - 4 * a * c = b * b - 4 * (a * c) := by ring
    rw [if_neg Bool.false_ne_true, e]; omega
  · rw [if_pos rfl]; left; omega

theorem largeSign_abs (type1 : Bool) (y : Int) (p : Nat) :
    largeSign type1 y p = 1 ∨ largeSign type1 y p = -1 := by
  unfold largeSign; simp only; split <;> split <;> simp

theorem pequiv_signForm {D : Int} {y : Int} {n : Nat} (hn : n.Prime)
    (hdv : (4 * (n : Int)) ∣ y * y - D) :
    PEquiv (formQB D n y) (signForm D (theRoot D) (posSign y (theRoot D)) n) := by
  have hroot : IsBPlus D n (theRoot D n) := theRoot_spec (exists_isBPlus hn.pos hdv)
  unfold signForm posSign
  by_cases h2 : n = 2
  · subst h2
    simp only [if_true]
    have := primeForm_of_bit1 hroot hdv
    cases hb : bit1 y
    · simpa using this.1 hb
    · simpa using this.2 hb
  · have hodd : n % 2 = 1 := by
      rcases hn.eq_two_or_odd with h | h
      · exact absurd h h2
      · exact h
    simp only [if_neg h2]
    have := primeForm_of_modSigned hn hodd hroot hdv
    by_cases hm : modSigned y n = theRoot D n
    · simpa [hm] using this.1 hm
    · simpa [hm] using this.2 hm

/-- Primes `qs` with `∏ qs = n` and `y² - 4n = D`, no prime dividing `y` with its square dividing `n`: every
`q` has a normalised root, and the forms `[q]^{±1}` with the signs of the code compose to the principal form —
the chain of Dirichlet compositions of the forms `(q, y, ·)` is `(n, y, 1) ~ (1, -y, n)`. -/
theorem primes_product {D y n : Int} (hD4 : D % 4 = 0 ∨ D % 4 = 1) (hid : y * y - 4 * n = D) (qs : List Nat)
    (hprime : ∀ q ∈ qs, q.Prime) (hprod : ((qs.prod : Nat) : Int) = n)
    (hprim : ∀ p : Nat, p.Prime → (p : Int) ∣ y → ¬ ((p : Int) * p ∣ n)) :
    (∀ q ∈ qs, IsBPlus D q (theRoot D q)) ∧
      IsProduct D (qs.map (signForm D (theRoot D) (posSign y (theRoot D)))) (principal D) := by
  have hdvd : ∀ q ∈ qs, (4 * (q : Int)) ∣ y * y - D := by
    intro q hq
    rw [show y * y - D = 4 * n by linear_combination hid, ← hprod]
    exact mul_dvd_mul_left 4 (Int.natCast_dvd_natCast.2 (List.dvd_prod hq))
  refine ⟨fun q hq => theRoot_spec (exists_isBPlus (hprime q hq).pos (hdvd q hq)), ?_⟩
  have hchain := dirichlet_chain (D := D) (b := y) hD4 (qs.map fun q : Nat => (q : Int)) 1
    (by
      intro z hz
      obtain ⟨q, hq, rfl⟩ := List.mem_map.1 hz
      have := (hprime q hq).pos
      omega)
    (chainCoprime_of_primes qs hprime (by
      intro p hp hpy hsq
      apply hprim p hp hpy
      rw [← hprod]
      exact_mod_cast Int.natCast_dvd_natCast.2 hsq))
    (by rw [← Nat.cast_list_prod, hprod]; linear_combination hid)
  rw [← Nat.cast_list_prod, hprod, List.map_map] at hchain
  have hprinc : PEquiv (⟨n, y, 1⟩ : Form) (principal D) :=
    (pequiv_swap n y 1).trans (pequiv_principal (b := -y) (c := n) hD4 (by linear_combination hid)).symm
  exact (IsProduct.equiv hchain hprinc).congr _
    (forall₂_map_of_forall _ _ qs (fun q hq => pequiv_signForm (hprime q hq) (hdvd q hq)))


theorem nat_prime_dvd_list_prod {p : Nat} (hp : p.Prime) : ∀ l : List Nat, p ∣ l.prod → ∃ q ∈ l, p ∣ q
  | [], h => by simp at h; exact absurd h hp.one_lt.ne'
  | q :: t, h => by
    rw [List.prod_cons] at h
    rcases (Nat.Prime.dvd_mul hp).1 h with h | h
    · exact ⟨q, List.mem_cons_self, h⟩
    · obtain ⟨q', hq', hd⟩ := nat_prime_dvd_list_prod hp t h
      exact ⟨q', List.mem_cons_of_mem _ hq', hd⟩

/-- `l` is a factorization of `n` into numbers satisfying `P` (primes, with what is known of where they come from),
every exponent carrying the sign `sieve_block_poly` derives from `y`. The three sources of a relation (converted
candidates, primes of `A`, large primes) each give one; merging and appending multiply them. -/
structure SFact (D y : Int) (P : Nat → Prop) (l : List (Nat × Int)) (n : Nat) : Prop where
  prod : (expN l).prod = n
  sign : ∀ pe ∈ l, SignOk (posSign y (theRoot D)) pe
  mem : ∀ q ∈ expN l, P q

namespace SFact
variable {D y : Int} {P : Nat → Prop} {l l' : List (Nat × Int)} {n n' : Nat}

theorem mono {P' : Nat → Prop} (h : SFact D y P l n) (hP : ∀ q, P q → P' q) : SFact D y P' l n :=
  ⟨h.prod, h.sign, fun q hq => hP q (h.mem q hq)⟩

theorem append (h : SFact D y P l n) (h' : SFact D y P l' n') : SFact D y P (l ++ l') (n * n') := by
  refine ⟨by rw [expN_append, List.prod_append, h.prod, h'.prod], fun pe hpe => ?_, fun q hq => ?_⟩
  · exact (List.mem_append.1 hpe).elim (h.sign pe) (h'.sign pe)
  · rw [expN_append] at hq
    exact (List.mem_append.1 hq).elim (h.mem q) (h'.mem q)

theorem mergeQ (h : SFact D y P l n) (h' : SFact D y P l' n') : SFact D y P (mergeQ l l') (n * n') := by
  obtain ⟨m1, m2⟩ := mergeQ_expN l' l h.sign h'.sign
  have := h.append h'
  rw [← expN_append] at m1
  exact ⟨by rw [m1.prod_eq]; exact this.prod, m2, fun q hq => this.mem q (m1.subset hq)⟩

theorem genuine (h : SFact D y Nat.Prime l n) (hD4 : D % 4 = 0 ∨ D % 4 = 1)
    (hid : y * y - 4 * (n : Int) = D) (hprim : ∀ p : Nat, p.Prime → (p : Int) ∣ y → ¬ ((p : Int) * p ∣ n)) :
    (∀ pe ∈ l, pe.2 ≠ 0 → pe.1.Prime ∧ IsBPlus D pe.1 (theRoot D pe.1)) ∧
    ∃ L, L.Perm (expand D (theRoot D) l) ∧ IsProduct D L (principal D) := by
  obtain ⟨hroots, hfin⟩ := primes_product hD4 hid (expN l) h.mem (by rw [h.prod]) hprim
  refine ⟨fun pe hpe h0 => ?_, _, ?_, hfin⟩
  · have hm := mem_expN_of_mem hpe h0
    exact ⟨h.mem _ hm, hroots _ hm⟩
  · rw [expand_eq l h.sign]

/-- `h16`: `D` is odd or `D/4 ≡ 2, 3 (mod 4)` -/
theorem prim (h : SFact D y (fun q => q.Prime ∧ (q ≠ 2 → ¬ ((q : Int) * q ∣ D))) l n)
    (hid : y * y - 4 * (n : Int) = D) (h16 : D % 2 = 1 ∨ D % 16 = 8 ∨ D % 16 = 12) :
    ∀ p : Nat, p.Prime → (p : Int) ∣ y → ¬ ((p : Int) * p ∣ n) := by
  intro p hp hpy hsq
  have hD := sq_dvd_disc hid hpy hsq
  by_cases hp2 : p = 2
  · subst hp2
    have := disc_emod_16 hid (by exact_mod_cast hpy) (by exact_mod_cast hsq)
    omega
  · -- `p` divides `n`, a product of primes: it is one of them
    have hpn : p ∣ (expN l).prod := by
      rw [h.prod]; exact Int.natCast_dvd_natCast.1 (Dvd.dvd.trans (Dvd.intro _ rfl) hsq)
    obtain ⟨q, hq, hpq⟩ := nat_prime_dvd_list_prod hp _ hpn
    obtain ⟨hqp, hqD⟩ := h.mem q hq
    have := (Nat.prime_dvd_prime_iff_eq hp hqp).1 hpq
    subst this
    exact hqD hp2 hD

end SFact

theorem sfact_conv (D y : Int) {P : Nat → Prop} (l : List (Nat × Nat)) (hp : ∀ pe ∈ l, P pe.1) :
    SFact D y P (l.map fun pe => (pe.1, sg D y pe.1 * pe.2)) (l.map fun pe => pe.1 ^ pe.2).prod := by
  refine ⟨?_, fun pe hpe => ?_, fun q hq => ?_⟩
  · rw [expN_prod, List.map_map]
    congr 1
    refine List.map_congr_left fun pe _ => ?_
    rcases sg_abs D y pe.1 with h | h <;> simp [h]
  · obtain ⟨x, -, rfl⟩ := List.mem_map.1 hpe
    exact signOk_sg D y x.1 x.2
  · obtain ⟨pe, hpe, -, rfl⟩ := mem_expN hq
    obtain ⟨x, hx, rfl⟩ := List.mem_map.1 hpe
    exact hp x hx

/-- the primes of `A` as `Poly::factors` signs them, by the residue of `y' = 2B` resp. `B`: they are odd and
`y ≡ y'` modulo each, so the sign is that of `y` -/
theorem sfact_poly (D y y' : Int) {P : Nat → Prop} (qs : List Nat)
    (hp : ∀ q ∈ qs, P q ∧ 0 < q ∧ q ≠ 2 ∧ (q : Int) ∣ y - y') :
    SFact D y P (qs.map fun q => (q, resSign D y' q)) qs.prod := by
  have he : ∀ q ∈ qs, (q, resSign D y' q) = (q, sg D y q * ((1 : Nat) : Int)) := fun q hq => by
    obtain ⟨-, hq1, hq2, hq3⟩ := hp q hq
    rw [sg_of_ne_two D y hq2, Nat.cast_one, mul_one]
    unfold resSign
    rw [modSigned_congr hq1 hq3]
  have := sfact_conv D y (P := P) (qs.map fun q => (q, 1)) (fun pe hpe => by
    obtain ⟨q, hq, rfl⟩ := List.mem_map.1 hpe
    exact (hp q hq).1)
  rw [List.map_map, List.map_map] at this
  rw [List.map_congr_left he]
  simpa [Function.comp_def] using this

/-- the parity rule for a large prime is the sign by residue -/
theorem largeSign_eq {D : Int} {type1 : Bool} {y : Int} {n : Nat} (hty : type1 = true ↔ (2 : Int) ∣ D)
    (hn : n.Prime) (h2 : n ≠ 2) (hy : (4 * (n : Int)) ∣ y * y - D) : largeSign type1 y n = sg D y n := by
  have hiff := largeSign_iff (type1 := type1) hn (hn.eq_two_or_odd.resolve_left h2)
    (theRoot_spec (exists_isBPlus hn.pos hy)) (Dvd.dvd.trans (Dvd.intro_left 4 rfl) hy) hty
  rw [sg_of_ne_two D y h2]
  unfold resSign
  by_cases hm : modSigned y n = theRoot D n
  · rw [if_pos hm, hiff.2 hm]
  · rw [if_neg hm]
    exact (largeSign_abs type1 y n).resolve_left fun h => hm (hiff.1 h)

/-- an optional large prime entry `n^k` (`n = 1`: no entry) -/
theorem sfact_opt {D : Int} {type1 : Bool} {y : Int} {P : Nat → Prop} (n k : Nat) (hn0 : 0 < n)
    (hty : type1 = true ↔ (2 : Int) ∣ D)
    (hpr : ∀ pe, (if n > 1 then some (n, (k : Int) * largeSign type1 y n) else none) = some pe →
      P pe.1 ∧ pe.1.Prime ∧ pe.1 ≠ 2)
    (hy : (4 * (n : Int)) ∣ y * y - D) :
    SFact D y P (if n > 1 then some (n, (k : Int) * largeSign type1 y n) else none).toList (n ^ k) := by
  by_cases h1 : n > 1
  · obtain ⟨hP, hn, h2⟩ := hpr _ (if_pos h1)
    rw [if_pos h1, largeSign_eq hty hn h2 hy, mul_comm]
    have := sfact_conv D y (P := P) [(n, k)] (fun pe hpe => by rw [List.mem_singleton.1 hpe]; exact hP)
    simpa using this
  · rw [if_neg h1, show n = 1 by omega, one_pow]
    exact ⟨rfl, nofun, nofun⟩

/-- the large prime entries for the pair `p q = cofactor`; what is asked of the large primes is asked of the entries,
as the hypothesis `hlarge` of `relation_genuine` does -/
theorem sfact_large {D : Int} {type1 : Bool} {y : Int} {p q : Nat} {P : Nat → Prop}
    (hpq : 0 < p * q) (hty : type1 = true ↔ (2 : Int) ∣ D)
    (hpr : ∀ pe, ((if p > 1 then some (p, (if q = p then 2 else 1) * largeSign type1 y p) else none) = some pe ∨
      (if q > 1 ∧ q ≠ p then some (q, largeSign type1 y q) else none) = some pe) → P pe.1 ∧ pe.1.Prime ∧ pe.1 ≠ 2)
    (hy : (4 * ((p * q : Nat) : Int)) ∣ y * y - D) :
    SFact D y P ((if p > 1 then some (p, (if q = p then 2 else 1) * largeSign type1 y p) else none).toList
      ++ (if q > 1 ∧ q ≠ p then some (q, largeSign type1 y q) else none).toList) (p * q) := by
  have hp0 := Nat.pos_of_mul_pos_right hpq
  have hq0 := Nat.pos_of_mul_pos_left hpq
  have hyp : (4 * (p : Int)) ∣ y * y - D :=
    (mul_dvd_mul_left 4 (Int.natCast_dvd_natCast.2 (Dvd.intro _ rfl))).trans hy
  have hyq : (4 * (q : Int)) ∣ y * y - D :=
    (mul_dvd_mul_left 4 (Int.natCast_dvd_natCast.2 (Dvd.intro_left _ rfl))).trans hy
  by_cases hqp : q = p
  · -- one entry with exponent `±2`
    subst hqp
    rw [if_pos rfl] at hpr
    have := sfact_opt (type1 := type1) (P := P) q 2 hq0 hty (fun pe hpe => hpr pe (Or.inl hpe)) hyq
    simpa [pow_two] using this
  · -- an entry `±1` for each of `p`, `q` that is not 1
    rw [if_neg hqp] at hpr
    have := (sfact_opt (type1 := type1) (P := P) p 1 hp0 hty
        (fun pe hpe => hpr pe (Or.inl (by simpa using hpe))) hyp).append
      (sfact_opt (type1 := type1) q 1 hq0 hty (fun pe hpe => hpr pe (Or.inr (by simpa [hqp] using hpe))) hyq)
    simpa [hqp] using this

/-- where a prime of a relation comes from: 2, a candidate outside the conductor list, a prime of `A`, a large prime -/
def Src (conductor facs : List Nat) (afs : List (Nat × Nat)) (r : Rel) (n : Nat) : Prop :=
  n.Prime ∧ (n = 2 ∨ (n ∈ facs ∧ n ∉ conductor) ∨ n ∈ afs.map Prod.fst ∨
    ∃ pe, (r.large1 = some pe ∨ r.large2 = some pe) ∧ pe.1 = n)

/-- A relation built by `relationOf` is a factorization of `A · P(x)` into primes, with the signs derived from
`y = 2(Ax + B)` resp. `2Ax + B`. -/
theorem relationOf_sfact (D : Int) (type1 : Bool) (a b c x : Int) (maxprime maxlarge : Nat)
    (double : Bool) (conductor : List Nat) (fb : List (Nat × Nat)) (facs : List Nat)
    (afs : List (Nat × Nat)) (lp lq : Nat) (r : Rel)
    (hb : 0 ≤ b) (hdisc : polyDisc type1 a b c = D) (hty : type1 = true ↔ (2 : Int) ∣ D)
    (hfacs : ∀ p ∈ facs, FbOk D type1 conductor fb p)
    (hafs : ∀ pr ∈ afs, pr.1.Prime ∧ pr.1 ≠ 2 ∧
      ∃ ref, bPlus pr.1 pr.2 type1 = some ref ∧ IsBPlus D pr.1 ref)
    (haprod : a = ((afs.map Prod.fst).prod : Nat))
    (hrel : relationOf type1 a b c x maxprime maxlarge double conductor fb facs afs lp lq = .rel r)
    (hlarge : ∀ pe, (r.large1 = some pe ∨ r.large2 = some pe) → pe.1.Prime ∧ pe.1 ≠ 2) :
    ∃ n : Nat, (n : Int) = a * (polyEval type1 a b c x).1 ∧
      SFact D (polyEval type1 a b c x).2 (Src conductor facs afs r) r.entries n := by
  obtain ⟨p, q, fs, qf, hv, hpq, hcv, hpf, hr⟩ := relationOf_rel_inv hrel
  have hadv : ∀ pr ∈ afs, (pr.1 : Int) ∣ a := fun pr hpr => by
    rw [haprod]
    exact Int.natCast_dvd_natCast.2 (List.dvd_prod (List.mem_map_of_mem hpr))
  have hid := polyEval_disc type1 a b c x
  have hyB := polyEval_snd_mod type1 a b c x
  rw [hdisc] at hid
  generalize (polyEval type1 a b c x).1 = v at *
  generalize (polyEval type1 a b c x).2 = y at *
  rw [polyFactors_of_dvd hb hdisc afs fun pr hpr => ⟨(hafs pr hpr).1, hadv pr hpr, (hafs pr hpr).2.2⟩] at hpf
  have hnc := convFactors_ok_not_conductor _ fs hcv
  rw [convFactors_trial hv hid hfacs, if_neg fun ⟨pe, hpe, h2, hm⟩ => hnc pe hpe h2 hm] at hcv
  obtain ⟨td1, td2, td3⟩ := trialDivide_spec facs v.toNat
  generalize trialDivide facs v.toNat = td at *
  obtain ⟨intfacs, cof⟩ := td
  dsimp only at td1 td2 td3 hpq hnc hcv
  have hvn : ((v.toNat : Nat) : Int) = v := Int.toNat_of_nonneg hv.le
  have s1 := sfact_conv D y (P := Src conductor facs afs r) intfacs (fun pe hpe => by
    obtain ⟨h1, -⟩ := td1 pe hpe
    by_cases h2 : pe.1 = 2
    · exact ⟨h2 ▸ Nat.prime_two, Or.inl h2⟩
    · have hc := hnc pe hpe h2
      rcases hfacs _ h1 with h2' | hc' | ⟨hp, -⟩
      · exact absurd h2' h2
      · exact absurd hc' hc
      · exact ⟨hp, Or.inr (Or.inl ⟨h1, hc⟩)⟩)
  have s2 := sfact_poly D y (if type1 then 2 * b else b) (P := Src conductor facs afs r) (afs.map Prod.fst)
    (fun q hq => by
      obtain ⟨pr, hpr, rfl⟩ := List.mem_map.1 hq
      exact ⟨⟨(hafs pr hpr).1, Or.inr (Or.inr (Or.inl hq))⟩, (hafs pr hpr).1.pos, (hafs pr hpr).2.1,
        (hadv pr hpr).trans hyB⟩)
  rw [List.map_map] at s2
  -- the large primes: their product is the cofactor, which divides `v`
  have hpq0 : 0 < p * q := by
    rw [hpq]
    rcases Nat.eq_zero_or_pos cof with h0 | h0
    · rw [h0] at td3; omega
    · exact h0
  have s3 := sfact_large (P := Src conductor facs afs r) (type1 := type1) (y := y) hpq0 hty
    (fun pe hm => by
      have hm' : r.large1 = some pe ∨ r.large2 = some pe := by rw [hr]; exact hm
      exact ⟨⟨(hlarge pe hm').1, Or.inr (Or.inr (Or.inr ⟨pe, hm', rfl⟩))⟩, hlarge pe hm'⟩)
    (by
      rw [show y * y - D = 4 * (a * v) by linarith, ← hvn, hpq]
      exact mul_dvd_mul_left 4 (Dvd.dvd.mul_left (Int.natCast_dvd_natCast.2 td2) _))
  cases hcv
  cases hpf
  subst hr
  refine ⟨_, ?_, (s1.mergeQ s2).append s3⟩
  rw [haprod, ← hvn, td3, ← hpq]
  push_cast
  ring

end Ymq.ClassGroup
