/-
C10: the word-level Fermat transform computes the cyclic convolution modulo `F = 2^(64N)+1`.
`mul_spec'` (`FInt::mul` on top of `kmul_spec`, the Karatsuba product of the word vectors), `fft_spec` (the recursive
`fft` of Ymq/Model/FInt.lean = the algebraic radix-2 recursion `fftRec` of Ymq/Lemmas/PolyDft.lean with
the root `√2^(256N/2^k)`, forward and inverse, word-exact, no panic site), `mulfft_spec` (forward
transforms, pointwise products, inverse transform = cyclic convolution; instantiates `fft_mul_eq_cyc`).
-/
import Ymq.Lemmas.FIntRoot
import Ymq.Lemmas.FIntKara
import Ymq.Lemmas.PolyDft
import Mathlib.Data.ZMod.Basic
import Mathlib.Data.List.GetD
import Mathlib.Tactic.LinearCombination
import Mathlib.Tactic.Ring
import Mathlib.Tactic.Linarith

namespace Ymq.FInt
open Ymq.Limbs

/-- the residue of an `FInt` in `ℤ/F` -/
def vz (N : Nat) (x : FI) : ZMod (Fmod N) := (x.value : ZMod (Fmod N))

theorem modEq_iff_cast {N a b : Nat} : a ≡ b [MOD Fmod N] ↔ ((a : ZMod (Fmod N)) = (b : ZMod (Fmod N))) :=
  (ZMod.natCast_eq_natCast_iff a b (Fmod N)).symm

theorem WN_cast (N : Nat) : ((W ^ N : Nat) : ZMod (Fmod N)) = -1 := by
  have h : ((W ^ N + 1 : Nat) : ZMod (Fmod N)) = 0 := ZMod.natCast_self (Fmod N)
  push_cast at h ⊢
  exact eq_neg_of_add_eq_zero_left h

theorem vz_of_modEq {N : Nat} {r : FI} {e : Nat} (h : r.value ≡ e [MOD Fmod N]) :
    vz N r = (e : ZMod (Fmod N)) :=
  modEq_iff_cast.1 h

theorem vz_sub_of_modEq {N : Nat} {r x y : FI} (h : r.value + y.value ≡ x.value [MOD Fmod N]) :
    vz N r = vz N x - vz N y := by
  have := modEq_iff_cast.1 h
  push_cast at this
  exact eq_sub_of_add_eq this

theorem vz_top_one {N : Nat} {x : FI} (hx : WfN N x) (hn : Norm x) (h1 : x.top = 1) : vz N x = -1 := by
  rcases hn with h0 | ⟨_, h0⟩
  · omega
  · unfold vz FI.value; rw [h0, h1, hx.1]; simpa using WN_cast N

theorem zero_wf (N : Nat) : WfN N (zero N) ∧ Norm (zero N) ∧ vz N (zero N) = 0 :=
  ⟨⟨by simp [zero], Wf_zeros N⟩, Or.inl rfl, by simp [vz, zero, FI.value, val_zeros]⟩

theorem neg_z {N : Nat} (hN : 0 < N) (y : FI) (hy : WfN N y) (hny : Norm y) :
    ∃ r, sub (zero N) y = some r ∧ WfN N r ∧ Norm r ∧ vz N r = -vz N y := by
  obtain ⟨hz, hzn, hzv⟩ := zero_wf N
  obtain ⟨r, hr, hw, hn, hv⟩ := sub_spec' (zero N) y hN hz hy hzn hny
  exact ⟨r, hr, hw, hn, by rw [vz_sub_of_modEq hv, hzv, zero_sub]⟩

theorem mul_spec' {N : Nat} (x y : FI) (hN : 0 < N) (hk : kOk KFUEL N = true) (hx : WfN N x) (hy : WfN N y)
    (hnx : Norm x) (hny : Norm y) :
    ∃ r, mul x y = some r ∧ WfN N r ∧ Norm r ∧ vz N r = vz N x * vz N y := by
  unfold mul
  simp only [isReduced_of_norm hnx, isReduced_of_norm hny, Bool.not_true, Bool.or_self, Bool.false_eq_true,
    if_false, hx.1]
  by_cases h1 : x.top = 1
  · rw [if_pos h1]
    obtain ⟨r, hr, hw, hn, hv⟩ := neg_z hN y hy hny
    exact ⟨r, hr, hw, hn, by rw [hv, vz_top_one hx hnx h1]; ring⟩
  · rw [if_neg h1]
    have hx0 : x.top = 0 := by have := norm_top_le hnx; omega
    by_cases h2 : y.top = 1
    · rw [if_pos h2]
      obtain ⟨r, hr, hw, hn, hv⟩ := neg_z hN x hx hnx
      exact ⟨r, hr, hw, hn, by rw [hv, vz_top_one hy hny h2]; ring⟩
    · rw [if_neg h2]
      have hy0 : y.top = 0 := by have := norm_top_le hny; omega
      obtain ⟨z, ez, lz, wz, vzz⟩ := kmul_spec KFUEL (4 * N) x.ws y.ws (by rw [hx.1]; exact hk)
        (by rw [hx.1, hy.1]) (by rw [hx.1]) hx.2 hy.2
      rw [ez]
      simp only
      rw [hx.1] at lz
      have ha : WfN N ⟨z.take N, 0⟩ := ⟨by simp only [List.length_take, lz]; omega, Wf_take wz _⟩
      have hb : WfN N ⟨z.drop N, 0⟩ := ⟨by simp only [List.length_drop, lz]; omega, Wf_drop wz _⟩
      obtain ⟨r, hr, hw, hn, hv⟩ := sub_spec' _ _ hN ha hb (Or.inl rfl) (Or.inl rfl)
      refine ⟨r, hr, hw, hn, ?_⟩
      -- the product `lo + W^N·hi` of the word vectors is `lo - hi` modulo `F`
      have hsplit : ((val x.ws * val y.ws : Nat) : ZMod (Fmod N)) =
          ((val (z.take N) : Nat) : ZMod (Fmod N)) +
            ((W ^ N : Nat) : ZMod (Fmod N)) * ((val (z.drop N) : Nat) : ZMod (Fmod N)) := by
        rw [← vzz, val_take_drop z N]; push_cast; ring
      rw [vz_sub_of_modEq hv]
      unfold vz FI.value
      rw [hx0, hy0]
      simp only [Nat.mul_zero, Nat.add_zero]
      rw [Nat.cast_mul] at hsplit
      rw [hsplit, WN_cast]; ring


/-- `ω_k = √2^(256N/2^k)` in `ℤ/F` -/
def rootz (N k : Nat) : ZMod (Fmod N) := (root N k : ZMod (Fmod N))

theorem rootz_sq (N k : Nat) (hdvd : 2 ^ (k + 1) ∣ 256 * N) : rootz N (k + 1) * rootz N (k + 1) = rootz N k := by
  unfold rootz root
  obtain ⟨c, hc⟩ := hdvd
  have hp : 0 < 2 ^ (k + 1) := Nat.pow_pos (by decide)
  have hp' : 0 < 2 ^ k := Nat.pow_pos (by decide)
  have h1 : 256 * N / 2 ^ (k + 1) = c := by rw [hc, Nat.mul_div_cancel_left _ hp]
  have h2 : 256 * N / 2 ^ k = 2 * c := by
    rw [hc, pow_succ, Nat.mul_assoc, Nat.mul_div_cancel_left _ hp']
  rw [h1, h2, Nat.two_mul, pow_add]
  push_cast; ring

theorem rootz_pow (N k : Nat) (hdvd : 2 ^ k ∣ 256 * N) : rootz N k ^ 2 ^ k = 1 := by
  have := modEq_iff_cast.1 (root_pow' N k hdvd)
  unfold rootz
  push_cast at this
  exact this

theorem rootz_half (N k : Nat) (hk : 0 < k) (hdvd : 2 ^ k ∣ 256 * N) : rootz N k ^ 2 ^ (k - 1) = -1 := by
  have := modEq_iff_cast.1 (root_half' N k hk hdvd)
  unfold rootz
  push_cast at this
  exact eq_neg_of_add_eq_zero_left this

/-- the root used by direction `fwd` at level `k`: `ω_k`, or its inverse `ω_k^(2^k - 1)` -/
def rt (N k : Nat) (fwd : Bool) : ZMod (Fmod N) := if fwd then rootz N k else rootz N k ^ (2 ^ k - 1)

theorem rt_sq (N k : Nat) (fwd : Bool) (hdvd : 2 ^ (k + 1) ∣ 256 * N) :
    rt N (k + 1) fwd * rt N (k + 1) fwd = rt N k fwd := by
  cases fwd
  · exact Ymq.Dft.invRoot_sq (rootz_sq N k hdvd) (rootz_pow N k ((pow_dvd_pow 2 (Nat.le_succ k)).trans hdvd))
  · exact rootz_sq N k hdvd

theorem tw_eq (N k : Nat) (fwd : Bool) (idx : Nat) (hi : idx ≤ 2 ^ k) (hdvd : 2 ^ k ∣ 256 * N) :
    rootz N k ^ (if fwd then idx else 2 ^ k - idx) = rt N k fwd ^ idx := by
  cases fwd
  · exact Ymq.Dft.invRoot_pow (rootz_pow N k hdvd) idx hi
  · rfl

theorem rt_half (N k : Nat) (fwd : Bool) (hk : 0 < k) (hdvd : 2 ^ k ∣ 256 * N) : rt N k fwd ^ 2 ^ (k - 1) = -1 := by
  cases fwd
  · exact Ymq.Dft.invRoot_half hk (rootz_half N k hk hdvd)
  · exact rootz_half N k hk hdvd

theorem rt_inv (N k : Nat) (hdvd : 2 ^ k ∣ 256 * N) : rt N k true * rt N k false = 1 :=
  Ymq.Dft.mul_invRoot (rootz_pow N k hdvd)

/-- every entry is an `N`-word `FInt` in normal form -/
def Good (N : Nat) (xs : List FI) : Prop := ∀ x ∈ xs, WfN N x ∧ Norm x

theorem Good.cons_iff {N : Nat} {a : FI} {as : List FI} : Good N (a :: as) ↔ (WfN N a ∧ Norm a) ∧ Good N as :=
  List.forall_mem_cons

theorem Good.nil {N : Nat} : Good N [] := fun _ h => by cases h

theorem evens_getD {α} (d : α) : ∀ (xs : List α) (i : Nat), (evens xs).getD i d = xs.getD (2 * i) d
  | [], i => by simp [evens]
  | [a], i => by cases i <;> simp [evens]
  | a :: b :: l, i => by
    cases i with
    | zero => simp [evens]
    | succ i =>
      have := evens_getD d l i
      simp only [evens, List.getD_cons_succ, Nat.mul_succ] at this ⊢
      exact this

theorem odds_getD {α} (d : α) : ∀ (xs : List α) (i : Nat), (odds xs).getD i d = xs.getD (2 * i + 1) d
  | [], i => by simp [odds]
  | [a], i => by simp [odds]
  | a :: b :: l, i => by
    cases i with
    | zero => simp [odds]
    | succ i =>
      have := odds_getD d l i
      simp only [odds, List.getD_cons_succ, Nat.mul_succ] at this ⊢
      exact this

theorem evens_length {α} : ∀ (xs : List α) (m : Nat), xs.length = 2 * m → (evens xs).length = m
  | [], m, h => by simp at h; simp [evens]; omega
  | [a], m, h => by simp at h; omega
  | a :: b :: l, m, h => by
    cases m with
    | zero => simp at h
    | succ m =>
      simp only [evens, List.length_cons] at h ⊢
      rw [evens_length l m (by omega)]

theorem odds_length {α} : ∀ (xs : List α) (m : Nat), xs.length = 2 * m → (odds xs).length = m
  | [], m, h => by simp at h; simp [odds]; omega
  | [a], m, h => by simp at h; omega
  | a :: b :: l, m, h => by
    cases m with
    | zero => simp at h
    | succ m =>
      simp only [odds, List.length_cons] at h ⊢
      rw [odds_length l m (by omega)]

theorem evens_mem {α} : ∀ (xs : List α) (x : α), x ∈ evens xs → x ∈ xs
  | [], x, h => by simp [evens] at h
  | [a], x, h => by simpa [evens] using h
  | a :: b :: l, x, h => by
    simp only [evens, List.mem_cons] at h ⊢
    rcases h with h | h
    · exact Or.inl h
    · exact Or.inr (Or.inr (evens_mem l x h))

theorem odds_mem {α} : ∀ (xs : List α) (x : α), x ∈ odds xs → x ∈ xs
  | [], x, h => by simp [odds] at h
  | [a], x, h => by simp [odds] at h
  | a :: b :: l, x, h => by
    simp only [odds, List.mem_cons] at h ⊢
    rcases h with h | h
    · exact Or.inr (Or.inl h)
    · exact Or.inr (Or.inr (odds_mem l x h))

theorem twiddle_z {N : Nat} (x : FI) (i k : Nat) (hN : 0 < N) (hx : WfN N x) (hn : Norm x)
    (hk : k < 32) (hi : 128 * i * N < 2 ^ 32) (hdiv : 2 ^ k ∣ 128 * N ∨ 2 ^ k = 256 * N) :
    ∃ r, twiddle x i k = some r ∧ WfN N r ∧ Norm r ∧ vz N r = vz N x * rootz N k ^ i := by
  obtain ⟨r, h1, h2, h3, h4⟩ := twiddle_spec' x i k hN hx hn hk hi hdiv
  exact ⟨r, h1, h2, h3, by rw [vz_of_modEq h4]; unfold vz rootz; push_cast; rfl⟩

theorem butterfly_z {N : Nat} (x y : FI) (hN : 0 < N) (hx : WfN N x) (hy : WfN N y)
    (hnx : Norm x) (hny : Norm y) :
    ∃ a b, butterfly x y = some (a, b) ∧ WfN N a ∧ WfN N b ∧ Norm a ∧ Norm b ∧
      vz N a = vz N x + vz N y ∧ vz N b = vz N x - vz N y := by
  obtain ⟨a, b, h1, h2, h3, h4, h5, h6, h7⟩ := butterfly_spec' x y hN hx hy hnx hny
  exact ⟨a, b, h1, h2, h3, h4, h5, by rw [vz_of_modEq h6]; unfold vz; push_cast; rfl, vz_sub_of_modEq h7⟩

theorem dvd256 {N k : Nat} (hdiv : 2 ^ k ∣ 128 * N ∨ 2 ^ k = 256 * N) : 2 ^ k ∣ 256 * N := by
  rcases hdiv with h | h
  · exact Dvd.dvd.trans h ⟨2, by ring⟩
  · rw [h]

/-- the twiddle + butterfly loop from index `idx` on: entry `t` of the two outputs is `as[t] ± ω^(idx+t)·bs[t]`
(`twiddle` is called with `idx`, resp. `2^k - idx`, which `tw_eq` turns into a power of the direction's root) -/
theorem combine_spec {N : Nat} (hN : 0 < N) (k : Nat) (fwd : Bool) (hk : k < 32) (hb : 128 * 2 ^ k * N < 2 ^ 32)
    (hdiv : 2 ^ k ∣ 128 * N ∨ 2 ^ k = 256 * N) (d : FI) :
    ∀ (as bs : List FI) (idx : Nat), as.length = bs.length → idx + as.length ≤ 2 ^ k → Good N as → Good N bs →
    ∃ us vs, combine k fwd idx as bs = some (us, vs) ∧ us.length = as.length ∧ vs.length = as.length ∧
      Good N us ∧ Good N vs ∧
      ∀ t, t < as.length →
        vz N (us.getD t d) = vz N (as.getD t d) + rt N k fwd ^ (idx + t) * vz N (bs.getD t d) ∧
        vz N (vs.getD t d) = vz N (as.getD t d) - rt N k fwd ^ (idx + t) * vz N (bs.getD t d) := by
  intro as
  induction as with
  | nil =>
    intro bs idx _ _ _ _
    exact ⟨[], [], by simp [combine], rfl, rfl, .nil, .nil, fun t ht => by simp at ht⟩
  | cons a as ih =>
    intro bs idx hlen hidx hga hgb
    cases bs with
    | nil => simp at hlen
    | cons b bs =>
      simp only [List.length_cons] at hlen hidx
      have hidx' : idx ≤ 2 ^ k := by omega
      have hei : (if fwd then idx else 2 ^ k - idx) ≤ 2 ^ k := by split_ifs <;> omega
      obtain ⟨⟨hwa, hna⟩, hgas⟩ := Good.cons_iff.1 hga
      obtain ⟨⟨hwb, hnb⟩, hgbs⟩ := Good.cons_iff.1 hgb
      obtain ⟨b', e1, hwb', hnb', hvb'⟩ := twiddle_z b (if fwd then idx else 2 ^ k - idx) k hN hwb hnb hk
        (by
          have : 128 * (if fwd then idx else 2 ^ k - idx) * N ≤ 128 * 2 ^ k * N :=
            Nat.mul_le_mul_right _ (Nat.mul_le_mul_left _ hei)
          omega) hdiv
      rw [tw_eq N k fwd idx hidx' (dvd256 hdiv)] at hvb'
      obtain ⟨u, v, e2, hwu, hwv, hnu, hnv, hvu, hvv⟩ := butterfly_z a b' hN hwa hwb' hna hnb'
      obtain ⟨us, vs, e3, lu, lv, gu, gv, hrec⟩ := ih bs (idx + 1) (by omega) (by omega) hgas hgbs
      refine ⟨u :: us, v :: vs, by simp only [combine, e1, e2, e3], by simp [lu], by simp [lv],
        Good.cons_iff.2 ⟨⟨hwu, hnu⟩, gu⟩, Good.cons_iff.2 ⟨⟨hwv, hnv⟩, gv⟩, ?_⟩
      · intro t ht
        cases t with
        | zero =>
          simp only [List.getD_cons_zero, Nat.add_zero]
          rw [hvu, hvv, hvb']
          constructor <;> ring
        | succ t =>
          simp only [List.getD_cons_succ]
          have := hrec t (by simp at ht; omega)
          rw [show idx + (t + 1) = idx + 1 + t by omega]
          exact this


open Ymq.Dft in
/-- **the word-level `fft` computes the radix-2 recursion `fftRec`** with the root `ω_k` (forward) or
`ω_k⁻¹` (inverse, result divided by `2^(depth+k)`), without reaching a panic site. `d` is only the default of
`getD`: every index read is in range. -/
theorem fft_spec {N : Nat} (hN : 0 < N) (d : FI) (fwd : Bool) :
    ∀ (k : Nat) (xs : List FI) (depth : Nat), xs.length = 2 ^ k → Good N xs → k < 32 →
      128 * 2 ^ k * N < 2 ^ 32 → (2 ^ k ∣ 128 * N ∨ 2 ^ k = 256 * N) → depth + k ≤ 128 * N →
    ∃ ys, fft k xs depth fwd = some ys ∧ ys.length = 2 ^ k ∧ Good N ys ∧
      ∀ j, j < 2 ^ k →
        vz N (ys.getD j d) * (if fwd then 1 else 2 ^ (depth + k)) =
          fftRec k (rt N k fwd) (fun i => vz N (xs.getD i d)) j := by
  intro k
  induction k with
  | zero =>
    intro xs depth hlen hg _ _ _ hdep
    match xs, hlen with
    | [x], _ =>
      obtain ⟨hw, hn⟩ := hg x (List.mem_cons_self)
      cases fwd with
      | true =>
        refine ⟨[x], by simp [fft], rfl, hg, ?_⟩
        intro j hj
        obtain rfl : j = 0 := by simpa using hj
        simp [fftRec]
      | false =>
        obtain ⟨r, e, hwr, hnr, hvr⟩ := shr_spec' x depth hN hw hn (by omega)
        refine ⟨[r], by simp [fft, e], rfl, Good.cons_iff.2 ⟨⟨hwr, hnr⟩, .nil⟩, ?_⟩
        intro j hj
        obtain rfl : j = 0 := by simpa using hj
        simpa [fftRec, vz] using modEq_iff_cast.1 hvr
  | succ k ih =>
    intro xs depth hlen hg hk hb hdiv hdep
    by_cases hk0 : k = 0
    · subst hk0
      match xs, hlen with
      | [x0, x1], _ =>
        obtain ⟨hw0, hn0⟩ := hg x0 (List.mem_cons_self)
        obtain ⟨hw1, hn1⟩ := hg x1 (List.mem_cons_of_mem _ List.mem_cons_self)
        have := norm_top_le hn0; have := norm_top_le hn1; have := W_gt
        obtain ⟨a, ea, hwa, hna, hva⟩ := addAssign_spec' x0 x1 hN hw0 hw1 (by omega)
        obtain ⟨b, eb, hwb, hnb, hvb⟩ := subAssign_spec' x0 x1 hN hw0 hw1 hn1 (by omega)
        have hva' : vz N a = vz N x0 + vz N x1 := by rw [vz_of_modEq hva]; unfold vz; push_cast; rfl
        have hvb' := vz_sub_of_modEq hvb
        cases fwd with
        | true =>
          refine ⟨[a, b], by simp [fft, ea, eb], rfl,
            Good.cons_iff.2 ⟨⟨hwa, hna⟩, Good.cons_iff.2 ⟨⟨hwb, hnb⟩, .nil⟩⟩, ?_⟩
          intro j hj
          obtain rfl | rfl : j = 0 ∨ j = 1 := by simp at hj; omega
          · simp [fftRec, hva']
          · simp [fftRec, hvb']
        | false =>
          obtain ⟨a', ea', hwa', hna', hva''⟩ := shr_spec' a (depth + 1) hN hwa hna (by omega)
          obtain ⟨b', eb', hwb', hnb', hvb''⟩ := shr_spec' b (depth + 1) hN hwb hnb (by omega)
          refine ⟨[a', b'], by simp [fft, ea, eb, ea', eb'], rfl,
            Good.cons_iff.2 ⟨⟨hwa', hna'⟩, Good.cons_iff.2 ⟨⟨hwb', hnb'⟩, .nil⟩⟩, ?_⟩
          intro j hj
          have ha2 : vz N a' * 2 ^ (depth + 1) = vz N a := by simpa [vz] using modEq_iff_cast.1 hva''
          have hb2 : vz N b' * 2 ^ (depth + 1) = vz N b := by simpa [vz] using modEq_iff_cast.1 hvb''
          obtain rfl | rfl : j = 0 ∨ j = 1 := by simp at hj; omega
          · simp [fftRec, ha2, hva']
          · simp [fftRec, hb2, hvb']
    · have hp : 0 < 2 ^ k := Nat.pow_pos (by decide)
      have hlen2 : xs.length = 2 * 2 ^ k := by rw [hlen, pow_succ]; ring
      have hdvd := dvd256 hdiv
      have hdiv' : 2 ^ k ∣ 128 * N ∨ 2 ^ k = 256 * N := by
        left
        rcases hdiv with h | h
        · exact Dvd.dvd.trans (pow_dvd_pow 2 (Nat.le_succ k)) h
        · exact ⟨1, by rw [pow_succ] at h; omega⟩
      have hb' : 128 * 2 ^ k * N < 2 ^ 32 := by
        have : 128 * 2 ^ k * N ≤ 128 * 2 ^ (k + 1) * N :=
          Nat.mul_le_mul_right _ (Nat.mul_le_mul_left _ (Nat.pow_le_pow_right (by decide) (Nat.le_succ k)))
        omega
      obtain ⟨e, ee, le, ge, he⟩ := ih (evens xs) (depth + 1) (evens_length xs _ hlen2)
        (fun x hx => hg x (evens_mem xs x hx)) (by omega) hb' hdiv' (by omega)
      obtain ⟨o, eo, lo, go, ho⟩ := ih (odds xs) (depth + 1) (odds_length xs _ hlen2)
        (fun x hx => hg x (odds_mem xs x hx)) (by omega) hb' hdiv' (by omega)
      obtain ⟨us, vs, ec, lu, lv, gu, gv, hc⟩ := combine_spec hN (k + 1) fwd hk hb hdiv d e o 0
        (by rw [le, lo]) (by rw [le, pow_succ]; omega) ge go
      refine ⟨us ++ vs, ?_, by rw [List.length_append, lu, lv, le, pow_succ]; ring,
        fun y hy => (List.mem_append.1 hy).elim (gu y) (gv y), ?_⟩
      · simp only [fft, if_neg hk0, hlen, ne_eq, not_true_eq_false, if_false, ee, eo, ec]
      · simp only [evens_getD, odds_getD, ← rt_sq N k fwd hdvd] at he ho
        rw [show depth + (k + 1) = depth + 1 + k by omega]
        exact fftRec_append (vz N) d k _ _ _ e o us vs (lu.trans le) he ho
          (fun t ht => by simpa using hc t (le ▸ ht))


theorem log2Exact_pow : ∀ (f k : Nat), k < f → log2Exact f (2 ^ k) = some k := by
  intro f
  induction f with
  | zero => intro k hk; omega
  | succ f ih =>
    intro k hk
    unfold log2Exact
    cases k with
    | zero => simp
    | succ k =>
      have hp : 0 < 2 ^ k := Nat.pow_pos (by decide)
      have h1 : ¬ (2 ^ (k + 1) = 1) := by rw [pow_succ]; omega
      have h2 : ¬ (2 ^ (k + 1) % 2 = 1 ∨ 2 ^ (k + 1) = 0) := by rw [pow_succ]; omega
      rw [if_neg h1, if_neg h2, show 2 ^ (k + 1) / 2 = 2 ^ k by rw [pow_succ]; omega, ih k (by omega)]
      rfl

theorem mulAll_spec {N : Nat} (hN : 0 < N) (hk : kOk KFUEL N = true) (d : FI) :
    ∀ (as bs : List FI), as.length = bs.length → Good N as → Good N bs →
    ∃ cs, mulAll as bs = some cs ∧ cs.length = as.length ∧ Good N cs ∧
      ∀ t, t < as.length → vz N (cs.getD t d) = vz N (as.getD t d) * vz N (bs.getD t d) := by
  intro as
  induction as with
  | nil =>
    intro bs _ _ _
    exact ⟨[], by cases bs <;> simp [mulAll], rfl, .nil, (fun t ht => by simp at ht)⟩
  | cons a as ih =>
    intro bs hlen hga hgb
    cases bs with
    | nil => simp at hlen
    | cons b bs =>
      obtain ⟨⟨hwa, hna⟩, hgas⟩ := Good.cons_iff.1 hga
      obtain ⟨⟨hwb, hnb⟩, hgbs⟩ := Good.cons_iff.1 hgb
      obtain ⟨c, e1, hwc, hnc, hvc⟩ := mul_spec' a b hN hk hwa hwb hna hnb
      obtain ⟨cs, e2, lc, gc, hrec⟩ := ih bs (by simpa using hlen) hgas hgbs
      refine ⟨c :: cs, by simp only [mulAll, e1, e2], by simp [lc], Good.cons_iff.2 ⟨⟨hwc, hnc⟩, gc⟩, ?_⟩
      intro t ht
      cases t with
      | zero => exact hvc
      | succ t => exact hrec t (by simp at ht; omega)

theorem two_pow_period (N : Nat) : (2 : ZMod (Fmod N)) ^ (128 * N) = 1 := by
  have := modEq_iff_cast.1 (pow_period N)
  push_cast at this
  exact this

open Ymq.Dft in
/-- **`mulfft` is the cyclic convolution modulo `F`** (word-level model, around the exact products
of `FInt::mul`): for `2^k` entries in normal form, `N` in the Karatsuba domain, `2^k ∣ 128N` or `2^k = 256N`, no panic site is
reached and entry `m` of the result is the residue of `Σ_{a+b ≡ m (mod 2^k)} p1[a]·p2[b]`. -/
theorem mulfft_spec {N : Nat} (hN : 0 < N) (hkk : kOk KFUEL N = true) (d : FI) (k : Nat) (p1 p2 : List FI)
    (h1 : p1.length = 2 ^ k) (h2 : p2.length = 2 ^ k) (g1 : Good N p1) (g2 : Good N p2)
    (hk : k < 32) (hb : 128 * 2 ^ k * N < 2 ^ 32) (hdiv : 2 ^ k ∣ 128 * N ∨ 2 ^ k = 256 * N) :
    ∃ out, mulfft N p1 p2 = some out ∧ out.length = 2 ^ k ∧ Good N out ∧
      ∀ m, m < 2 ^ k → vz N (out.getD m d) =
        cyc (2 ^ k) (fun i => vz N (p1.getD i d)) (fun i => vz N (p2.getD i d)) m := by
  have hdvd := dvd256 hdiv
  have hle : 2 ^ k ≤ 256 * N := Nat.le_of_dvd (by omega) hdvd
  have hkN : k ≤ 128 * N := by omega
  obtain ⟨f1, e1, l1, gf1, hf1⟩ := fft_spec hN d true k p1 0 h1 g1 hk hb hdiv (by omega)
  obtain ⟨f2, e2, l2, gf2, hf2⟩ := fft_spec hN d true k p2 0 h2 g2 hk hb hdiv (by omega)
  obtain ⟨f, e3, l3, gf, hf⟩ := mulAll_spec hN hkk d f1 f2 (by rw [l1, l2]) gf1 gf2
  obtain ⟨out, e4, l4, go, ho⟩ := fft_spec hN d false k f 0 (by rw [l3, l1]) gf hk hb hdiv (by omega)
  refine ⟨out, ?_, l4, go, fun m hm => ?_⟩
  · unfold mulfft
    simp only [h1, h2, ne_eq, not_true_eq_false, if_false, if_neg (show ¬ 2 ^ k > 256 * N by omega),
      log2Exact_pow 64 k (by omega), e1, e2, e3, e4]
  · have hω : k = 0 ∨ rt N k true ^ 2 ^ (k - 1) = -1 :=
      (Nat.eq_zero_or_pos k).imp_right fun h => rt_half N k true h hdvd
    -- `2^k` is a unit: `2^(128N) = 1`
    refine conv_of_transforms k _ _ (2 ^ (128 * N - k)) hω (fun hk0 => ?_) (rt_inv N k hdvd)
      (by rw [← pow_add, Nat.sub_add_cancel hkN, two_pow_period]) _ _ (fun j => vz N (f1.getD j d))
      (fun j => vz N (f2.getD j d)) (fun j => vz N (f.getD j d)) (fun j => vz N (out.getD j d))
      (fun j hj => by simpa using hf1 j hj) (fun j hj => by simpa using hf2 j hj)
      (fun j hj => hf j (by rw [l1]; exact hj)) m hm (by simpa using ho m hm)
    subst hk0
    simpa [rt] using rootz_pow N 0 hdvd

end Ymq.FInt
