/-
C14 "small", helper lemmas (Mathlib): the back substitution shared by `pseudoinverse` and `inverse` (invariant
`BInv`; `backRow`: one row, given the list of the reduced rows above it), the second phase of `pseudoinverse` (the
selected rows, from the last one up) and the assembly of its two phases (`pinv_core`).
-/
import Ymq.Lemmas.Gf2SmallElim

namespace Ymq.Gf2Small
open Matrix Module

/-- a `foldlM` whose only failure is an assertion that holds on every element is the plain `foldl` -/
theorem foldlM_asserted {α β : Type} (l : List β) (bad c : β → Bool) (f : α → β → α) (h : ∀ x ∈ l, bad x = false) :
    ∀ a : α, l.foldlM (fun acc x => if bad x then none else if c x then some (f acc x) else some acc) a =
      some (l.foldl (fun acc x => if c x then f acc x else acc) a) := by
  induction l with
  | nil => intro a; rfl
  | cons x l ih =>
    intro a
    rw [List.foldlM_cons, List.foldl_cons, h x (by simp)]
    cases c x
    · exact ih (fun y hy => h y (by simp [hy])) a
    · exact ih (fun y hy => h y (by simp [hy])) (f a x)

/-- the listed rows `j` (unit words `1 << j`, pairwise distinct, different from `i`) are xored into row `i`: their
bits are flipped there -/
theorem xorFold_spec {n : Nat} {T : Mat} {S : Nat → Prop} (i : Nat) (js : List Nat) :
    ∀ (rows : Rows), rows.length = n → i < n → js.Nodup →
    (∀ j, j ∈ js → j ≠ i ∧ j < n ∧ fstF rows j = 1 <<< j ∧ RowOK n T S (fstF rows j) (sndF rows j)) →
    RowOK n T S (fstF rows i) (sndF rows i) →
    ∃ rows', js.foldl (fun (acc : Rows) j => xorRow acc i j) rows = rows' ∧
      rows'.length = n ∧ (∀ k, k ≠ i → rowAt rows' k = rowAt rows k) ∧
      RowOK n T S (fstF rows' i) (sndF rows' i) ∧
      ∀ t, (fstF rows' i).testBit t = ((fstF rows i).testBit t ^^ decide (t ∈ js)) := by
  induction js with
  | nil =>
    intro rows hlen _ _ _ hok
    exact ⟨rows, rfl, hlen, fun _ _ => rfl, hok, fun t => by simp⟩
  | cons j js ih =>
    intro rows hlen hi hnd hjs hok
    obtain ⟨hij, hjn, hmj, hokj⟩ := hjs j (by simp)
    have hjnot : j ∉ js := (List.nodup_cons.mp hnd).1
    have hrow : ∀ k, rowAt (xorRow rows i j) k =
        if k = i then ((rowAt rows i).1 ^^^ (rowAt rows j).1, (rowAt rows i).2 ^^^ (rowAt rows j).2)
        else rowAt rows k := fun k => rowAt_xorRow (by omega) j k
    have hi' : fstF (xorRow rows i j) i = fstF rows i ^^^ fstF rows j ∧
        sndF (xorRow rows i j) i = sndF rows i ^^^ sndF rows j := by
      constructor <;> simp [fstF, sndF, hrow]
    have hother : ∀ k, k ≠ i → rowAt (xorRow rows i j) k = rowAt rows k := by
      intro k hk; rw [hrow, if_neg hk]
    obtain ⟨rows', hf, hl, hoth, hok', hbits⟩ := ih (xorRow rows i j) (by rw [length_xorRow]; exact hlen) hi
      (List.nodup_cons.mp hnd).2
      (fun j' hj' => by
        obtain ⟨h1, h2, h3, h4⟩ := hjs j' (by simp [hj'])
        simp only [fstF, sndF, hother j' h1]
        exact ⟨h1, h2, h3, h4⟩)
      (by rw [hi'.1, hi'.2]; exact hok.xor hokj)
    refine ⟨rows', by rw [List.foldl_cons]; exact hf, hl, fun k hk => by rw [hoth k hk, hother k hk], hok', ?_⟩
    intro t
    rw [hbits t, hi'.1, Nat.testBit_xor, hmj, Nat.one_shiftLeft, Nat.testBit_two_pow]
    by_cases htj : t = j
    · subst htj
      have : decide (t ∈ js) = false := by simpa using hjnot
      simp [this]
    · have h1 : ¬ j = t := fun e => htj e.symm
      simp [h1, htj]

/-- invariant of the second phase: the rows of `R` are reduced to `1 << s` -/
structure BInv (n : Nat) (T : Mat) (S : Nat → Prop) (rows : Rows) (R : Nat → Prop) : Prop where
  len : rows.length = n
  ok : ∀ k, k < n → RowOK n T S (fstF rows k) (sndF rows k)
  zero : ∀ k, k < n → ¬ S k → fstF rows k = 0 ∧ sndF rows k = 0
  piv : ∀ s, s < n → S s → lz n (fstF rows s) = s
  red : ∀ s, s < n → S s → R s → fstF rows s = 1 <<< s

theorem BInv.ofFInv {n : Nat} {T : Mat} {S : Nat → Prop} {rows : Rows} (hlen : rows.length = n)
    (h : FInv n T S (fstF rows) (sndF rows) n) : BInv n T S rows (fun _ => False) where
  len := hlen
  ok := fun _ hk => h.rowOK hk
  zero := h.zero
  piv := fun s hs hS => h.piv s hs hs hS
  red := fun _ _ _ hf => absurd hf id

theorem BInv.mono {n : Nat} {T : Mat} {S : Nat → Prop} {rows : Rows} {R R' : Nat → Prop}
    (h : BInv n T S rows R) (hR : ∀ x, x < n → S x → R' x → R x) : BInv n T S rows R' :=
  { h with red := fun s hs hSs hs' => h.red s hs hSs (hR s hs hSs hs') }

/-- one row of a back substitution: `js` lists the rows of `S` above `i`, all reduced to unit words; xoring into
row `i` those whose bit is set in `m[i]` (read before the loop) reduces row `i` -/
theorem backRow {n : Nat} {T : Mat} {S : Nat → Prop} {i : Nat} (hi : i < n) (hSi : S i) (js : List Nat)
    (hnd : js.Nodup) (hjs : ∀ j ∈ js, i < j ∧ j < n ∧ S j) (hall : ∀ x, i < x → x < n → S x → x ∈ js)
    (rows : Rows) (h : BInv n T S rows (· ∈ js)) :
    ∃ rows', js.foldl (fun (acc : Rows) j => if (fstF rows i).testBit j then xorRow acc i j else acc) rows = rows' ∧
      fstF rows' i = 1 <<< i ∧ BInv n T S rows' (fun x => x = i ∨ x ∈ js) := by
  have hlzi := h.piv _ hi hSi
  have hbit : (fstF rows i).testBit i = true := by
    have := lz_bit (n := n) (w := fstF rows i) (by rw [hlzi]; exact hi)
    rwa [hlzi] at this
  -- the loop xors the rows `j ∈ js` whose bit is set in `m[i]`
  obtain ⟨rows', hf, hl, hoth, hok', hbits⟩ := xorFold_spec (T := T) (S := S) i
    (js.filter fun j => (fstF rows i).testBit j) rows h.len hi (hnd.filter _) (fun j hj => by
      obtain ⟨h1, h2, h3⟩ := hjs j (List.mem_of_mem_filter hj)
      exact ⟨Nat.ne_of_gt h1, h2, h.red j h2 h3 (List.mem_of_mem_filter hj), h.ok j h2⟩) (h.ok _ hi)
  rw [List.foldl_filter] at hf
  have hred : fstF rows' i = 1 <<< i := by
    apply Nat.eq_of_testBit_eq
    intro t
    rw [hbits t, testBit_unit]
    by_cases hti : t = i
    · subst hti
      have hnot : ¬ t ∈ js.filter fun j => (fstF rows t).testBit j := fun hm =>
        Nat.lt_irrefl _ (hjs _ (List.mem_of_mem_filter hm)).1
      rw [hbit, decide_eq_false hnot, decide_eq_true rfl]; rfl
    · have hne : ¬ i = t := fun e' => hti e'.symm
      cases hr : (fstF rows i).testBit t with
      | false =>
        rw [decide_eq_false hne, decide_eq_false fun hm => Bool.false_ne_true (hr ▸ (List.mem_filter.mp hm).2)]; rfl
      | true =>
        -- a set bit other than the pivot is at a column of `S` above the pivot
        have hSt := (h.ok _ hi).suba t hr
        have htn : t < n := by
          apply Nat.lt_of_not_le
          intro hge
          rw [testBit_of_lt_of_ge (h.ok _ hi).lta hge] at hr
          cases hr
        have hge : i ≤ t := by
          apply Nat.le_of_not_lt
          intro hlt
          rw [lz_below (n := n) (by rw [hlzi]; exact hlt)] at hr
          cases hr
        rw [decide_eq_true (List.mem_filter.mpr ⟨hall t (Nat.lt_of_le_of_ne hge hne) htn hSt, hr⟩),
          decide_eq_false hne]; rfl
  have hsame : ∀ k, k ≠ i → fstF rows' k = fstF rows k ∧ sndF rows' k = sndF rows k := by
    intro k hk
    constructor <;> simp only [fstF, sndF, hoth k hk]
  refine ⟨rows', hf, hred, ?_⟩
  exact {
    len := hl
    ok := by
      intro k hk
      by_cases e' : k = i
      · subst e'; exact hok'
      · rw [(hsame k e').1, (hsame k e').2]; exact h.ok k hk
    zero := by
      intro k hk hSk
      have e' : k ≠ i := fun e' => hSk (e' ▸ hSi)
      rw [(hsame k e').1, (hsame k e').2]; exact h.zero k hk hSk
    piv := by
      intro s hs hSs
      by_cases e' : s = i
      · subst e'; rw [hred]; exact lz_one_shiftLeft hs
      · rw [(hsame s e').1]; exact h.piv s hs hSs
    red := by
      intro s hs hSs hR
      by_cases e' : s = i
      · subst e'; exact hred
      · rw [(hsame s e').1]
        exact h.red s hs hSs (hR.resolve_left e') }


/-- one row of the second phase of `pseudoinverse`: `e 0 > e 1 > …` lists `S` from its last element -/
theorem pinvBack_core {n : Nat} {T : Mat} {S : Nat → Prop} (dbg : Bool) (e : Nat → Nat) (rk : Nat)
    (hS : ∀ a, a < rk → S (e a) ∧ e a < n) (hanti : ∀ a b, a < b → b < rk → e b < e a)
    (hall : ∀ x, x < n → S x → ∃ a, a < rk ∧ e a = x)
    (c : Nat) (hc : c < rk) (rows : Rows) (h : BInv n T S rows (fun x => ∃ a, a < c ∧ e a = x)) :
    ∃ rows', (List.range c).foldlM (fun (acc : Rows) a =>
        if dbg && !decide (e c < e a) then none
        else if (fstF rows (e c)).testBit (e a) then some (xorRow acc (e c) (e a)) else some acc) rows = some rows' ∧
      fstF rows' (e c) = 1 <<< e c ∧ BInv n T S rows' (fun x => ∃ a, a < c + 1 ∧ e a = x) := by
  obtain ⟨hSi, hin⟩ := hS c hc
  have hmem : ∀ {x}, x ∈ (List.range c).map e ↔ ∃ a, a < c ∧ e a = x := by
    intro x; simp only [List.mem_map, List.mem_range]
  have hnd : ((List.range c).map e).Nodup := by
    apply List.Nodup.map_on _ List.nodup_range
    intro a ha b hb he
    rw [List.mem_range] at ha hb
    rcases Nat.lt_trichotomy a b with hlt | heq | hgt
    · exact absurd he (Nat.ne_of_gt (hanti a b hlt (Nat.lt_trans hb hc)))
    · exact heq
    · exact absurd he (Nat.ne_of_lt (hanti b a hgt (Nat.lt_trans ha hc)))
  obtain ⟨rows', hf, hred, hB⟩ := backRow hin hSi ((List.range c).map e) hnd
    (fun j hj => by
      obtain ⟨a, ha, rfl⟩ := hmem.mp hj
      exact ⟨hanti a c ha hc, (hS a (Nat.lt_trans ha hc)).2, (hS a (Nat.lt_trans ha hc)).1⟩)
    (fun x hix hx hSx => by
      obtain ⟨a, ha, hax⟩ := hall x hx hSx
      refine hmem.mpr ⟨a, Nat.lt_of_not_le fun hle => ?_, hax⟩
      rcases Nat.lt_or_eq_of_le hle with h3 | h3
      · exact Nat.lt_asymm hix (hax ▸ hanti c a h3 ha)
      · exact Nat.lt_irrefl _ (hax ▸ h3 ▸ hix))
    rows (h.mono fun x _ _ hx => hmem.mp hx)
  refine ⟨rows', ?_, hred, hB.mono fun x _ _ hx => ?_⟩
  · rw [foldlM_asserted (List.range c) (fun a => dbg && !decide (e c < e a))
      (fun a => (fstF rows (e c)).testBit (e a)) (fun acc a => xorRow acc (e c) (e a))
      (fun a ha => by simp [hanti a c (List.mem_range.mp ha) hc]), ← List.foldl_map (f := e)
        (g := fun acc j => if (fstF rows (e c)).testBit j then xorRow acc (e c) j else acc), hf]
  · obtain ⟨a, ha, hax⟩ := hx
    rcases Nat.lt_or_eq_of_le (Nat.le_of_lt_succ ha) with h4 | h4
    · exact Or.inr (hmem.mpr ⟨a, h4, hax⟩)
    · exact Or.inl (by rw [← hax, h4])

theorem rev_rev {rk t : Nat} (h : t < rk) : rk - 1 - (rk - 1 - t) = t := by omega

theorem rev_lt {rk t : Nat} (h : t < rk) : rk - 1 - t < rk := by omega

theorem rev_anti {rk a b : Nat} (hab : a < b) (hb : b < rk) : rk - 1 - b < rk - 1 - a := by omega

theorem rev_mem {rk c t : Nat} (hc : c ≤ rk) (ht : t < rk) : rk - c ≤ t ↔ rk - 1 - t < c := by omega

/-- one row of the second phase of `pseudoinverse`; `idx` lists `S` increasingly, the loop goes down from
`idx[rk - 1]` -/
theorem pinvBackStep_inv {n : Nat} {T : Mat} {S : Nat → Prop} (dbg : Bool) (idx : List Nat) (rk : Nat)
    (hS : ∀ t, t < rk → S (idx.getD t 0) ∧ idx.getD t 0 < n)
    (hmono : ∀ t t', t < t' → t' < rk → idx.getD t 0 < idx.getD t' 0)
    (hall : ∀ x, x < n → S x → ∃ t, t < rk ∧ idx.getD t 0 = x)
    (idx1 : Nat) (h1 : idx1 < rk) (rows : Rows)
    (h : BInv n T S rows (fun x => ∃ t, rk - idx1 ≤ t ∧ t < rk ∧ idx.getD t 0 = x)) :
    ∃ rows', pinvBackStep n dbg idx rk rows idx1 = some rows' ∧
      BInv n T S rows' (fun x => ∃ t, rk - (idx1 + 1) ≤ t ∧ t < rk ∧ idx.getD t 0 = x) := by
  -- the last `c` positions of `idx`, counted from the end
  have hconv : ∀ c, c ≤ rk → ∀ x, (∃ t, rk - c ≤ t ∧ t < rk ∧ idx.getD t 0 = x) ↔
      ∃ a, a < c ∧ idx.getD (rk - 1 - a) 0 = x := by
    intro c hc x
    constructor
    · rintro ⟨t, h1, h2, h3⟩
      exact ⟨rk - 1 - t, (rev_mem hc h2).mp h1, by rw [rev_rev h2]; exact h3⟩
    · rintro ⟨a, h1, h2⟩
      have ha : a < rk := Nat.lt_of_lt_of_le h1 hc
      exact ⟨rk - 1 - a, (rev_mem hc (rev_lt ha)).mpr (by rw [rev_rev ha]; exact h1), rev_lt ha, h2⟩
  obtain ⟨hSi, hin⟩ := hS (rk - 1 - idx1) (rev_lt h1)
  have hlzi := h.piv _ hin hSi
  obtain ⟨rows', hf, hred, hB⟩ := pinvBack_core (T := T) (S := S) dbg (fun a => idx.getD (rk - 1 - a) 0) rk
    (fun a ha => hS _ (rev_lt ha)) (fun a b hab hb => hmono _ _ (rev_anti hab hb) (rev_lt (Nat.lt_trans hab hb)))
    (fun x hx hSx => by
      obtain ⟨t, ht, he⟩ := hall x hx hSx
      exact ⟨rk - 1 - t, rev_lt ht, by rw [rev_rev ht]; exact he⟩)
    idx1 h1 rows (h.mono fun x _ _ hx => (hconv idx1 (Nat.le_of_lt h1) x).mpr hx)
  refine ⟨rows', ?_, hB.mono fun x _ _ hx => (hconv (idx1 + 1) h1 x).mp hx⟩
  unfold pinvBackStep
  have e1 : (rows.getD (idx.getD (rk - 1 - idx1) 0) (0, 0)).1 = fstF rows (idx.getD (rk - 1 - idx1) 0) := rfl
  have hd1 : (dbg && (lz n (fstF rows (idx.getD (rk - 1 - idx1) 0)) != idx.getD (rk - 1 - idx1) 0)) = false := by
    rw [hlzi]; simp
  simp only [e1, hd1, Bool.false_eq_true, if_false]
  rw [hf]
  have e2 : (rows'.getD (idx.getD (rk - 1 - idx1) 0) (0, 0)).1 = fstF rows' (idx.getD (rk - 1 - idx1) 0) := rfl
  simp only [e2, hred, bne_self_eq_false, Bool.and_false, Bool.false_eq_true, if_false]

/-- the first phase returns when every column of the mask has a pivot (`hpiv`; on the documented domain this is
`pivot_exists`): the `unwrap` of `position` does not fail -/
theorem pinvForward_inv {n : Nat} {T : Mat} (mk : Nat) (dbg : Bool)
    (hpiv : ∀ b rows, b < n → mk.testBit b = true → rows.length = n →
      FInv n T (fun t => mk.testBit t = true) (fstF rows) (sndF rows) b → ∃ k, k < n ∧ lz n (fstF rows k) = b)
    (len : Nat) : ∀ (b : Nat) (rows : Rows), b + len ≤ n → rows.length = n →
    FInv n T (fun t => mk.testBit t = true) (fstF rows) (sndF rows) b →
    ∃ rows', pinvForward n dbg ((List.range' b len).filter (fun j => mk.testBit j)) rows = some rows' ∧
      rows'.length = n ∧ FInv n T (fun t => mk.testBit t = true) (fstF rows') (sndF rows') (b + len) := by
  induction len with
  | zero => intro b rows _ hlen h; exact ⟨rows, rfl, hlen, h⟩
  | succ len ih =>
    intro b rows hle hlen h
    rw [List.range'_succ, List.filter_cons, show b + (len + 1) = b + 1 + len by omega]
    by_cases hb : mk.testBit b = true
    · rw [if_pos hb]
      obtain ⟨k, hk, hlzk⟩ := hpiv b rows (by omega) hb hlen h
      obtain ⟨j, hp⟩ := position_isSome (rows := rows) (k := k) (by omega) hlzk
      obtain ⟨hj, hlz, _⟩ := position_some hp
      obtain ⟨rows1, he, hl1, hF1⟩ := elimCol_inv dbg hlen h (by omega) hb (by omega) hlz
      obtain ⟨rows', h', hr'⟩ := ih (b + 1) rows1 (by omega) hl1 hF1
      exact ⟨rows', by simp only [pinvForward, hp, he, h'], hr'⟩
    · rw [if_neg hb]
      exact ih (b + 1) rows (by omega) hlen (h.skip (by omega) hb)

theorem idx_facts (n mk : Nat) :
    let sel := (List.range n).filter (fun j => mk.testBit j)
    let idx := sel ++ List.replicate (256 - sel.length) 0
    idx.take (popcount n mk) = sel ∧
    (∀ t, t < popcount n mk → mk.testBit (idx.getD t 0) = true ∧ idx.getD t 0 < n) ∧
    (∀ t t', t < t' → t' < popcount n mk → idx.getD t 0 < idx.getD t' 0) ∧
    (∀ x, x < n → mk.testBit x = true → ∃ t, t < popcount n mk ∧ idx.getD t 0 = x) := by
  intro sel idx
  have hlen : sel.length = popcount n mk := rfl
  have hget : ∀ t, (ht : t < popcount n mk) → idx.getD t 0 = sel[t]'(by rw [hlen]; exact ht) := by
    intro t ht
    simp only [idx, List.getD_eq_getElem?_getD]
    rw [List.getElem?_append_left (by rw [hlen]; exact ht), List.getElem?_eq_getElem (by rw [hlen]; exact ht)]
    rfl
  have hsorted : sel.Pairwise (· < ·) := List.Pairwise.filter _ List.pairwise_lt_range
  refine ⟨List.take_left' hlen, ?_, ?_, ?_⟩
  · intro t ht
    rw [hget t ht]
    have hm : sel[t]'(by rw [hlen]; exact ht) ∈ sel := List.getElem_mem _
    rw [List.mem_filter, List.mem_range] at hm
    exact ⟨hm.2, hm.1⟩
  · intro t t' htt ht'
    rw [hget t (by omega), hget t' ht']
    exact (List.pairwise_iff_getElem.mp hsorted) t t' _ _ htt
  · intro x hx hmx
    have hm : x ∈ sel := List.mem_filter.mpr ⟨List.mem_range.mpr hx, hmx⟩
    obtain ⟨t, ht, he⟩ := List.getElem_of_mem hm
    exact ⟨t, by rw [← hlen]; exact ht, by rw [hget t (by rw [← hlen]; exact ht)]; exact he⟩

theorem row_map (f : Nat → Nat) (l : Mat) {k : Nat} (hk : k < l.length) : row (l.map f) k = f (row l k) := by
  simp [row, List.getD_eq_getElem?_getD, List.getElem?_map, List.getElem?_eq_getElem hk]

theorem shiftLeft_and_mask (k mk : Nat) : (1 <<< k) &&& mk = if mk.testBit k then 1 <<< k else 0 := by
  apply Nat.eq_of_testBit_eq
  intro t
  rw [Nat.testBit_and, Nat.one_shiftLeft, Nat.testBit_two_pow]
  by_cases hkt : k = t
  · subst hkt
    cases h : mk.testBit k <;> simp
  · cases h : mk.testBit k <;> simp [hkt]

/-- the matrix `minv` starts from: the identity on the mask -/
def maskedId (n mk : Nat) : Mat := (identity n).map (fun r => r &&& mk)

theorem row_maskedId {n mk k : Nat} (hk : k < n) :
    row (maskedId n mk) k = if mk.testBit k then 1 <<< k else 0 := by
  unfold maskedId
  rw [row_map _ _ (by rw [length_identity]; exact hk), row_identity hk, shiftLeft_and_mask]

/-- the documented domain of `pseudoinverse`: null coefficients outside the index set `mk` -/
structure Supported (n : Nat) (T : Mat) (mk : Nat) : Prop where
  rowsZero : ∀ k, k < n → mk.testBit k = false → row T k = 0
  colsZero : ∀ k, k < n → ∀ t, (row T k).testBit t = true → mk.testBit t = true

theorem FInv.initPinv {n : Nat} {T : Mat} {mk : Nat} (hw : ∀ k, k < n → row T k < 2 ^ n)
    (hD : Supported n T mk) :
    FInv n T (fun t => mk.testBit t = true)
      (fstF ((List.range n).map (fun k => (row T k, row (maskedId n mk) k))))
      (sndF ((List.range n).map (fun k => (row T k, row (maskedId n mk) k)))) 0 := by
  have e1 : ∀ k, k < n → fstF ((List.range n).map (fun k => (row T k, row (maskedId n mk) k))) k = row T k := by
    intro k hk; simp only [fstF]; rw [rowAt_map_range n _ hk]
  have e2 : ∀ k, k < n → sndF ((List.range n).map (fun k => (row T k, row (maskedId n mk) k))) k =
      if mk.testBit k then 1 <<< k else 0 := by
    intro k hk; simp only [sndF]; rw [rowAt_map_range n _ hk]; exact row_maskedId hk
  exact {
    ltm := fun k hk => by rw [e1 k hk]; exact hw k hk
    ltc := fun k hk => by
      rw [e2 k hk]
      split
      · exact one_shiftLeft_lt hk
      · exact Nat.two_pow_pos n
    coef := fun k hk => by
      rw [e1 k hk, e2 k hk]
      cases h : mk.testBit k with
      | true => simp only [if_true]; exact vecMul_unit T hk
      | false =>
        simp only [Bool.false_eq_true, if_false]
        rw [hD.rowsZero k hk h, vec_zero, Matrix.zero_vecMul]
    zero := fun k hk hS => by
      have h : mk.testBit k = false := by simpa using hS
      rw [e1 k hk, e2 k hk, hD.rowsZero k hk h, h]
      exact ⟨rfl, rfl⟩
    subm := fun k hk t ht => by rw [e1 k hk] at ht; exact hD.colsZero k hk t ht
    subc := fun k hk t ht => by
      rw [e2 k hk] at ht
      cases h : mk.testBit k with
      | true =>
        rw [h] at ht
        simp only [if_true, Nat.one_shiftLeft, Nat.testBit_two_pow, decide_eq_true_eq] at ht
        rw [← ht]; exact h
      | false => rw [h] at ht; simp at ht
    piv := fun s hs _ _ => by omega
    rest := fun k _ _ => Nat.zero_le _
    span := spanOf_congr e1 }

/-- what the two phases of `pseudoinverse` produce from a supported matrix in which every column of the mask
has a pivot -/
theorem pinv_core {n : Nat} {T : Mat} {mk : Nat} (dbg : Bool) (hw : ∀ k, k < n → row T k < 2 ^ n)
    (hD : Supported n T mk)
    (hpiv : ∀ b rows, b < n → mk.testBit b = true → rows.length = n →
      FInv n T (fun t => mk.testBit t = true) (fstF rows) (sndF rows) b → ∃ k, k < n ∧ lz n (fstF rows k) = b) :
    let sel := (List.range n).filter (fun j => mk.testBit j)
    let idx := sel ++ List.replicate (256 - sel.length) 0
    let rows0 : Rows := (List.range n).map (fun k => (row T k, row (maskedId n mk) k))
    ∃ rows1 rows2, pinvForward n dbg (idx.take (popcount n mk)) rows0 = some rows1 ∧
      (List.range (popcount n mk)).foldlM (pinvBackStep n dbg idx (popcount n mk)) rows1 = some rows2 ∧
      BInv n T (fun t => mk.testBit t = true) rows2 (fun x => mk.testBit x = true ∧ x < n) := by
  intro sel idx rows0
  obtain ⟨htake, hS, hmono, hall⟩ := idx_facts n mk
  obtain ⟨rows1, h1, hl1, hF1⟩ := pinvForward_inv (T := T) mk dbg hpiv n 0 rows0 (by omega) (by simp [rows0])
    (FInv.initPinv hw hD)
  rw [← List.range_eq_range'] at h1
  rw [Nat.zero_add] at hF1
  obtain ⟨rows2, h2, hB2⟩ := Loops.foldlM_range_total (pinvBackStep n dbg idx (popcount n mk))
    (fun c rows => BInv n T (fun t => mk.testBit t = true) rows
      (fun x => ∃ t, popcount n mk - c ≤ t ∧ t < popcount n mk ∧ idx.getD t 0 = x)) (popcount n mk)
    (fun c rows hc h => pinvBackStep_inv dbg idx _ hS hmono hall c hc rows h)
    ((BInv.ofFInv hl1 hF1).mono fun s _ _ hR => by obtain ⟨t, ht1, ht2, _⟩ := hR; omega)
  refine ⟨rows1, rows2, by rw [htake]; exact h1, h2, hB2.mono fun s _ _ hs => ?_⟩
  obtain ⟨t, ht, he⟩ := hall s hs.2 hs.1
  exact ⟨t, by omega, ht, he⟩

end Ymq.Gf2Small
