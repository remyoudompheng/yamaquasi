/-
Witness of the early termination of `SparseMat::detz`: the matrix, the moduli `select_crtprimes`
picks for it (kernel evaluation of the selection), and the primality of the first four of them.

`advMat` is the 15 × 15 matrix with first column `d_0 … d_14`, diagonal `B = 16384` (rows ≥ 1) and
superdiagonal `-1`; its determinant is `Σ d_i B^(14-i) = 108 · p_0 p_1 p_2 p_3` where `p_0 … p_3`
are the first four moduli `select_crtprimes` picks for its norm 24576
(= 2142584058999773599800257773214217008184610623453022075082868 = `advDet`; that the determinant is
`± advDet` is proved in Ymq/Lemmas/WiedemannWitnessDet.lean, `adv_det`, through `advMat2`).
So the matrix is singular modulo each of `p_0 … p_3`, the four lanes of the first block return 0,
the first CRT reconstruction is 0 = the initial value of `res.det`, and `detz` returns 0
(`detz_zero_of_first_block`, Ymq/Props/C19Wied.lean).
-/
import Ymq.Lemmas.WiedemannPrimes
import Ymq.Lemmas.Stage2Pratt
import Ymq.Model.Arith

namespace Ymq.Wied

def advMat : Mat := [
  [(0, 21), (1, -1)],
  [(0, 5461), (1, 16384), (2, -1)],
  [(0, 5461), (2, 16384), (3, -1)],
  [(0, 4926), (3, 16384), (4, -1)],
  [(0, 8192), (4, 16384), (5, -1)],
  [(5, 16384), (6, -1)],
  [(0, 4645), (6, 16384), (7, -1)],
  [(0, -2432), (7, 16384), (8, -1)],
  [(0, -1), (8, 16384), (9, -1)],
  [(0, 535), (9, 16384), (10, -1)],
  [(0, -1832), (10, 16384), (11, -1)],
  [(0, 684), (11, 16384), (12, -1)],
  [(0, -5528), (12, 16384), (13, -1)],
  [(0, -5929), (13, 16384), (14, -1)],
  [(0, 6260), (14, 16384)]]

def advPrimes : List Nat := [375299968947389, 375299968947089, 375299968946789, 375299968946759, 375299968946729, 375299968946699, 375299968946579, 375299968946519, 375299968946489, 375299968946159, 375299968945859, 375299968945679, 375299968945379, 375299968945199, 375299968945079]

theorem adv_valid : mkMat advMat = some advMat := by decide +kernel

theorem adv_primes : selectPrimes Ymq.Mg64.isprime64 advMat = some advPrimes := by
  rw [selectPrimes_plain]; decide +kernel

/-- Pratt certificates (a primitive root and the factorisation of `q - 1`, dependencies first) for
the moduli of the first block -/
theorem adv_first_block_prime :
    ∀ q ∈ [375299968947389, 375299968947089, 375299968946789, 375299968946759], q.Prime := by
  have h : Ymq.Stage2.prattTable [] [
      (569111, 7, [(2, 1), (5, 1), (56911, 1)]),
      (537011, 2, [(2, 1), (5, 1), (83, 1), (647, 1)]),
      (375299968947389, 2, [(2, 2), (307, 1), (537011, 1), (569111, 1)]),
      (245039, 7, [(2, 1), (17, 1), (7207, 1)]),
      (453322151, 7, [(2, 1), (5, 2), (37, 1), (245039, 1)]),
      (375299968947089, 3, [(2, 4), (59, 1), (877, 1), (453322151, 1)]),
      (139999, 3, [(2, 1), (3, 1), (23333, 1)]),
      (2670053, 2, [(2, 2), (7, 1), (11, 1), (8669, 1)]),
      (375299968946789, 2, [(2, 2), (251, 1), (139999, 1), (2670053, 1)]),
      (111301, 6, [(2, 2), (3, 1), (5, 2), (7, 1), (53, 1)]),
      (66097211861, 2, [(2, 2), (5, 1), (23, 1), (1291, 1), (111301, 1)]),
      (375299968946759, 19, [(2, 1), (17, 1), (167, 1), (66097211861, 1)])] =
      some [375299968946759, 66097211861, 111301, 375299968946789, 2670053, 139999,
        375299968947089, 453322151, 245039, 375299968947389, 537011, 569111] := by
    decide +kernel
  intro q hq
  refine Ymq.Stage2.prattTable_sound _ [] _ (by simp) h q ?_
  simp only [List.mem_cons, List.mem_nil_iff, or_false] at hq ⊢
  rcases hq with rfl | rfl | rfl | rfl <;> simp

/-- the residues of the true determinant `108 · p_0 p_1 p_2 p_3` modulo `p_0` and `p_3` (first block)
vanish, modulo the fifth modulus they do not -/
theorem adv_det_residues :
    (2142584058999773599800257773214217008184610623453022075082868 : Int) % 375299968947389 = 0 ∧ (2142584058999773599800257773214217008184610623453022075082868 : Int) % 375299968946759 = 0 ∧
    (2142584058999773599800257773214217008184610623453022075082868 : Int) % 375299968946729 ≠ 0 := by decide +kernel

end Ymq.Wied
