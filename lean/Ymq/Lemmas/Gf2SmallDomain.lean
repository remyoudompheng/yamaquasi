/-
C14 "small", helper lemmas (Mathlib): the documented domain of `pseudoinverse`.
* `rank_of_independent_rows`: a matrix whose non-null rows are exactly the rows of `S` and are
  linearly independent has `rank = (|S|, S)` (this discharges the `minv.rank() == self.rank()`
  assertions and the assertion at the call site);
* pivot existence for every column of `S` (the `unwrap` of `position`);
* `pseudoinverse_eq`: on the domain the only panic site that can be reached is the slice `idx[..rk]`, and the
  value is the inverse on `S`; `pseudoinverse_total`: none is reached for `n ≤ 256`.
-/
import Ymq.Lemmas.Gf2SmallPinv

namespace Ymq.Gf2Small
open Matrix Module

theorem popcount_mono {n a b : Nat} (h : ∀ t, t < n → a.testBit t = true → b.testBit t = true) :
    popcount n a ≤ popcount n b := by
  induction n with
  | zero => simp [popcount]
  | succ n ih =>
    rw [popcount_succ, popcount_succ]
    have h1 := ih (fun t ht => h t (by omega))
    have h2 := h n (by omega)
    cases ha : a.testBit n with
    | false => simp; omega
    | true => rw [h2 ha]; simp; omega

theorem popcount_subset_eq {n a b : Nat} (h : ∀ t, t < n → a.testBit t = true → b.testBit t = true)
    (he : popcount n a = popcount n b) : ∀ t, t < n → a.testBit t = b.testBit t := by
  induction n with
  | zero => intro t ht; omega
  | succ n ih =>
    rw [popcount_succ, popcount_succ] at he
    have h1 := popcount_mono (n := n) (a := a) (b := b) (fun t ht => h t (by omega))
    have h2 := h n (by omega)
    have hn : a.testBit n = b.testBit n := by
      cases ha : a.testBit n with
      | true => rw [h2 ha]
      | false =>
        cases hb : b.testBit n with
        | false => rfl
        | true => rw [ha, hb] at he; simp at he; omega
    have he' : popcount n a = popcount n b := by
      rw [hn] at he; omega
    intro t ht
    rcases Nat.lt_or_eq_of_le (Nat.le_of_lt_succ ht) with h3 | h3
    · exact ih (fun t ht => h t (by omega)) he' t h3
    · rw [h3]; exact hn

theorem eq_of_testBit_below {n a b : Nat} (ha : a < 2 ^ n) (hb : b < 2 ^ n)
    (h : ∀ t, t < n → a.testBit t = b.testBit t) : a = b := by
  apply Nat.eq_of_testBit_eq
  intro t
  by_cases ht : t < n
  · exact h t ht
  · rw [testBit_of_lt_of_ge ha (by omega), testBit_of_lt_of_ge hb (by omega)]

/-- the rows of `M` indexed by the set bits of `S` -/
def selRows (n : Nat) (M : Mat) (S : Nat) : {t : Fin n // S.testBit t = true} → Fin n → ZMod 2 :=
  fun t => toMat n M t.1

theorem vec_ne_zero_of {n w : Nat} (h : vec n w ≠ 0) : w ≠ 0 := by
  rintro rfl; exact h (vec_zero n)

/-- `rank` of a matrix whose rows outside `S` are null and whose rows in `S` are independent -/
theorem rank_of_independent_rows {n : Nat} (dbg : Bool) {M : Mat} {S : Nat}
    (hw : ∀ k, k < n → row M k < 2 ^ n) (hS : S < 2 ^ n)
    (hz : ∀ k, k < n → S.testBit k = false → row M k = 0)
    (hli : LinearIndependent (ZMod 2) (selRows n M S)) :
    rank n dbg M = some (popcount n S, S) := by
  obtain ⟨rk, mask, hr, hF⟩ := rank_spec_aux dbg hw
  -- the row space is spanned by the rows of S
  have hspan : spanOf n (row M) = Submodule.span (ZMod 2) (Set.range (selRows n M S)) := by
    apply le_antisymm
    · apply spanOf_le
      intro k hk
      cases hb : S.testBit k with
      | true => exact Submodule.subset_span ⟨⟨⟨k, hk⟩, hb⟩, rfl⟩
      | false => rw [hz k hk hb, vec_zero]; exact Submodule.zero_mem _
    · apply Submodule.span_le.mpr
      rintro _ ⟨t, rfl⟩
      exact mem_spanOf (row M) t.1.2
  have hfin : rk = popcount n S := by
    rw [← hF.finrank, hspan, finrank_span_eq_card hli, card_subtype_eq_popcount]
  -- the selected rows are non-null, hence in S
  have hsub : ∀ t, t < n → mask.testBit t = true → S.testBit t = true := by
    intro t ht hm
    have hne := hF.independent.ne_zero ⟨⟨t, ht⟩, hm⟩
    cases hb : S.testBit t with
    | true => rfl
    | false =>
      exfalso; apply hne
      show vec n (row M t) = 0
      rw [hz t ht hb, vec_zero]
  have hmask : mask = S := eq_of_testBit_below hF.maskLt hS
    (popcount_subset_eq hsub (by rw [hF.pc, hfin]))
  rw [hr, hfin, hmask]

theorem linearIndependent_units (n S : Nat) :
    LinearIndependent (ZMod 2) (fun t : {t : Fin n // S.testBit t = true} => vec n (1 <<< t.1.1)) := by
  apply linearIndependent_of_lz (fun t : {t : Fin n // S.testBit t = true} => 1 <<< t.1.1)
  · intro t; rw [lz_one_shiftLeft t.1.2]; exact t.1.2
  · intro t t' h
    rw [lz_one_shiftLeft t.1.2, lz_one_shiftLeft t'.1.2] at h
    exact Subtype.ext (Fin.ext h)

theorem maskedId_lt {n S k : Nat} (hk : k < n) : row (maskedId n S) k < 2 ^ n := by
  rw [row_maskedId hk]
  split
  · rw [Nat.one_shiftLeft]; exact Nat.pow_lt_pow_right (by omega) hk
  · exact Nat.two_pow_pos n

/-- first assertion of `pseudoinverse`: `minv.rank()` of the identity on `S` -/
theorem rank_maskedId {n : Nat} (dbg : Bool) {S : Nat} (hS : S < 2 ^ n) :
    rank n dbg (maskedId n S) = some (popcount n S, S) := by
  apply rank_of_independent_rows dbg (fun k hk => maskedId_lt hk) hS
  · intro k hk hb; rw [row_maskedId hk, hb]; rfl
  · have := linearIndependent_units n S
    convert this using 2 with t
    show vec n (row (maskedId n S) t.1) = _
    rw [row_maskedId t.1.2, t.2]; rfl

/-- what the final state of `pseudoinverse` says about `minv` -/
theorem BInv.result {n : Nat} {T : Mat} {S : Nat} {rows2 : Rows}
    (hB : BInv n T (fun t => S.testBit t = true) rows2 (fun x => S.testBit x = true ∧ x < n)) :
    (rows2.map (·.2)).length = n ∧ (∀ k, k < n → row (rows2.map (·.2)) k < 2 ^ n) ∧
    Supported n (rows2.map (·.2)) S ∧
    toMat n (rows2.map (·.2)) * toMat n T = toMat n (maskedId n S) := by
  have hrow : ∀ k, row (rows2.map (·.2)) k = sndF rows2 k := fun k => row_map_snd rows2 k
  refine ⟨by rw [List.length_map]; exact hB.len, fun k hk => by rw [hrow]; exact (hB.ok k hk).ltd,
    ⟨fun k hk hS => ?_, fun k hk t ht => ?_⟩, ?_⟩
  · rw [hrow]; exact (hB.zero k hk (by simp [hS])).2
  · rw [hrow] at ht; exact (hB.ok k hk).subd t ht
  · funext i
    rw [Matrix.mul_apply_eq_vecMul]
    show vec n (row (rows2.map (·.2)) i) ᵥ* toMat n T = vec n (row (maskedId n S) i)
    rw [hrow, (hB.ok i i.2).coef, row_maskedId i.2]
    cases hS : S.testBit i with
    | true => rw [hB.red i i.2 hS ⟨hS, i.2⟩]; rfl
    | false => rw [(hB.zero i i.2 (by simp [hS])).1]; rfl

/-- a left inverse on `S` has independent rows: second assertion of `pseudoinverse` and the
assertion at the call site -/
theorem rank_of_left_inverse {n : Nat} (dbg : Bool) {T W : Mat} {S : Nat} (hS : S < 2 ^ n)
    (hw : ∀ k, k < n → row W k < 2 ^ n) (hD : Supported n W S)
    (hmul : toMat n W * toMat n T = toMat n (maskedId n S)) :
    rank n dbg W = some (popcount n S, S) := by
  apply rank_of_independent_rows dbg hw hS hD.rowsZero
  apply LinearIndependent.of_comp (Matrix.vecMulLinear (toMat n T))
  have := linearIndependent_units n S
  convert this using 2 with t
  show selRows n W S t ᵥ* toMat n T = _
  have h1 : (toMat n W * toMat n T) t.1 = toMat n (maskedId n S) t.1 := by rw [hmul]
  rw [Matrix.mul_apply_eq_vecMul] at h1
  show toMat n W t.1 ᵥ* toMat n T = _
  rw [h1]
  show vec n (row (maskedId n S) t.1) = _
  rw [row_maskedId t.1.2, t.2]; rfl

/-- on the domain the row space is the whole coordinate space of `S` -/
theorem unit_mem_rowspace {n : Nat} {T : Mat} {rk S : Nat} (hF : RankFacts n T rk S)
    (hD : Supported n T S) {b : Nat} (hb : b < n) (hSb : S.testBit b = true) :
    vec n (1 <<< b) ∈ spanOf n (row T) := by
  let U := Submodule.span (ZMod 2) (Set.range fun t : {t : Fin n // S.testBit t = true} => vec n (1 <<< t.1.1))
  have hUfin : finrank (ZMod 2) U = popcount n S := by
    rw [finrank_span_eq_card (linearIndependent_units n S), card_subtype_eq_popcount]
  have hle : spanOf n (row T) ≤ U := by
    apply spanOf_le
    intro k hk
    rw [pi_eq_sum_univ (vec n (row T k))]
    apply Submodule.sum_mem
    intro j _
    cases hj : S.testBit j with
    | true =>
      apply Submodule.smul_mem
      apply Submodule.subset_span
      refine ⟨⟨j, hj⟩, ?_⟩
      show vec n (1 <<< j.1) = _
      rw [vec_shiftLeft_one j.2]
      funext x
      simp [Pi.single_apply, eq_comm]
    | false =>
      have : vec n (row T k) j = 0 := by
        apply vec_eq_zero_iff.mpr
        cases hbit : (row T k).testBit j with
        | false => rfl
        | true => rw [hD.colsZero k hk j hbit] at hj; cases hj
      rw [this, zero_smul]
      exact Submodule.zero_mem _
  have heq : spanOf n (row T) = U :=
    Submodule.eq_of_le_of_finrank_eq hle (by rw [hF.finrank, hUfin, hF.pc])
  rw [heq]
  exact Submodule.subset_span ⟨⟨⟨b, hb⟩, hSb⟩, rfl⟩

/-- the `unwrap` of `position` cannot fail on the domain -/
theorem pivot_exists {n : Nat} {T : Mat} {rk S : Nat} (hF : RankFacts n T rk S) (hD : Supported n T S)
    {rows : Rows} {b : Nat} (hb : b < n) (hSb : S.testBit b = true)
    (h : FInv n T (fun t => S.testBit t = true) (fstF rows) (sndF rows) b) :
    ∃ k, k < n ∧ lz n (fstF rows k) = b :=
  h.exists_pivot hb (unit_mem_rowspace hF hD hb hSb)
    (fun j hj => by
      apply vec_eq_zero_iff.mpr
      rw [Nat.one_shiftLeft, Nat.testBit_two_pow]
      have : ¬ b = j.1 := by omega
      simp [this])
    (by apply vec_eq_one_iff.mpr; rw [Nat.one_shiftLeft, Nat.testBit_two_pow]; simp)

/-- `pseudoinverse` on its domain, both profiles: the only panic site that can be reached is the slice
`idx[..rk]` of the 256-entry array; the value is the inverse on `S`. -/
theorem pseudoinverse_eq {n : Nat} (dbg : Bool) {T : Mat} {rk S : Nat}
    (hw : ∀ k, k < n → row T k < 2 ^ n) (hr : rank n dbg T = some (rk, S)) (hD : Supported n T S) :
    ∃ W, (W.length = n ∧ (∀ k, k < n → row W k < 2 ^ n) ∧ Supported n W S ∧
        toMat n W * toMat n T = toMat n (maskedId n S)) ∧
      pseudoinverse n dbg T = if rk ≤ 256 then some W else none := by
  obtain ⟨rk', mask', hr', hF⟩ := rank_spec_aux dbg hw
  rw [hr] at hr'
  injection hr' with hr'
  injection hr' with h1 h2
  subst h1; subst h2
  obtain ⟨rows1, rows2, h1, h2, hB⟩ := pinv_core dbg hw hD fun b rows hb hSb _ hF' => pivot_exists hF hD hb hSb hF'
  rw [hF.pc] at h1 h2
  unfold maskedId at h1
  have hpre : rank n dbg (List.map (fun r => r &&& S) (identity n)) = some (rk, S) := by
    have := rank_maskedId dbg (n := n) hF.maskLt
    rw [hF.pc] at this
    exact this
  obtain ⟨_, hlt, hSup, hmul⟩ := hB.result
  have hpost := rank_of_left_inverse dbg hF.maskLt hlt hSup hmul
  rw [hF.pc] at hpost
  refine ⟨rows2.map (·.2), hB.result, ?_⟩
  unfold pseudoinverse
  rw [hr]
  simp only [hpre, bne_self_eq_false, Bool.and_false, Bool.false_eq_true, if_false]
  by_cases hrk : rk ≤ 256
  · simp only [hrk, not_true_eq_false, if_false, if_true, h1, h2, hpost, bne_self_eq_false, Bool.and_false,
      Bool.false_eq_true]
  · simp only [hrk, not_false_eq_true, if_true, if_false]

/-- `pseudoinverse` reaches no panic site on its domain (both profiles). `n ≤ 256`: the slice
`idx[..rk]` of the 256-entry array (the code has `n = 64`). -/
theorem pseudoinverse_total {n : Nat} (dbg : Bool) {T : Mat} {rk S : Nat} (hn : n ≤ 256)
    (hw : ∀ k, k < n → row T k < 2 ^ n) (hr : rank n dbg T = some (rk, S)) (hD : Supported n T S) :
    ∃ W, pseudoinverse n dbg T = some W ∧ W.length = n ∧ (∀ k, k < n → row W k < 2 ^ n) ∧ Supported n W S ∧
      toMat n W * toMat n T = toMat n (maskedId n S) := by
  obtain ⟨W, hW, hp⟩ := pseudoinverse_eq dbg hw hr hD
  obtain ⟨rk', S', hr', hF⟩ := rank_spec_aux dbg hw
  rw [hr] at hr'; cases hr'
  exact ⟨W, by rw [hp, if_pos (Nat.le_trans hF.rk_le hn)], hW⟩

end Ymq.Gf2Small
