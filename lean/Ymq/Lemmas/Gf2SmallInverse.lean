/-
C14 "small", helper lemmas (Mathlib): specification of `SmallMat::inverse` (`invForward`, `invBackStep`,
`inverse`).  Forward phase: the invariant `FInv` of `Gf2SmallElim` with `S = everything`; a missing
pivot means that the matrix is singular.  Backward phase: the invariant `BInv` of `Gf2SmallPinv` on every index
(`backRow` with the rows `i < j < n`).
-/
import Ymq.Lemmas.Gf2SmallPinv

namespace Ymq.Gf2Small
open Matrix Module

theorem FInv.init {n : Nat} {M : Mat} (hw : ∀ k, k < n → row M k < 2 ^ n) :
    FInv n M (fun _ => True) (fstF ((List.range n).map (fun k => (row M k, 1 <<< k))))
      (sndF ((List.range n).map (fun k => (row M k, 1 <<< k)))) 0 := by
  have e1 : ∀ k, k < n → fstF ((List.range n).map (fun k => (row M k, 1 <<< k))) k = row M k := by
    intro k hk; simp only [fstF]; rw [rowAt_map_range n _ hk]
  have e2 : ∀ k, k < n → sndF ((List.range n).map (fun k => (row M k, 1 <<< k))) k = 1 <<< k := by
    intro k hk; simp only [sndF]; rw [rowAt_map_range n _ hk]
  exact {
    ltm := fun k hk => by rw [e1 k hk]; exact hw k hk
    ltc := fun k hk => by rw [e2 k hk]; exact one_shiftLeft_lt hk
    coef := fun k hk => by rw [e1 k hk, e2 k hk]; exact vecMul_unit M hk
    zero := fun k _ hS => absurd trivial hS
    subm := fun _ _ _ _ => trivial
    subc := fun _ _ _ _ => trivial
    piv := fun s hs => by omega
    rest := fun k _ _ => Nat.zero_le _
    span := spanOf_congr e1 }

/-- no pivot for column `b`: the matrix is singular -/
theorem FInv.singular {n : Nat} {M : Mat} {rows : Rows} {b : Nat} (hlen : rows.length = n)
    (h : FInv n M (fun _ => True) (fstF rows) (sndF rows) b) (hb : b < n)
    (hpos : position n b rows = none) : ¬ IsUnit (toMat n M) := by
  intro hU
  obtain ⟨B, hB⟩ := hU.exists_left_inv
  have hmem : (Pi.single (⟨b, hb⟩ : Fin n) 1 : Fin n → ZMod 2) ∈ spanOf n (row M) := by
    have e : (Pi.single (⟨b, hb⟩ : Fin n) 1 : Fin n → ZMod 2) =
        (Pi.single (⟨b, hb⟩ : Fin n) 1 ᵥ* B) ᵥ* toMat n M := by
      rw [Matrix.vecMul_vecMul, hB, Matrix.vecMul_one]
    rw [e, Matrix.vecMul_eq_sum]
    apply Submodule.sum_mem
    intro k _
    exact Submodule.smul_mem _ _ (mem_spanOf (row M) k.2)
  obtain ⟨k, hk1, hk2⟩ := h.exists_pivot hb hmem
    (fun j hj => by
      rw [Pi.single_apply, if_neg]
      intro e; rw [e] at hj; exact Nat.lt_irrefl _ hj)
    (by rw [Pi.single_apply, if_pos rfl])
  exact position_none hpos k (by rw [hlen]; exact hk1) hk2

theorem invForward_inv {n : Nat} {M : Mat} (dbg : Bool) (len : Nat) : ∀ (b : Nat) (rows : Rows),
    rows.length = n → FInv n M (fun _ => True) (fstF rows) (sndF rows) b → b + len ≤ n →
    (∃ rows', invForward n dbg (List.range' b len) rows = some (some rows') ∧ rows'.length = n ∧
      FInv n M (fun _ => True) (fstF rows') (sndF rows') (b + len)) ∨
    (invForward n dbg (List.range' b len) rows = some none ∧ ¬ IsUnit (toMat n M)) := by
  induction len with
  | zero => intro b rows hlen h _; exact Or.inl ⟨rows, rfl, hlen, h⟩
  | succ len ih =>
    intro b rows hlen h hle
    have hb : b < n := by omega
    rw [List.range'_succ]
    cases hpos : position n b rows with
    | none =>
      refine Or.inr ⟨?_, h.singular hlen hb hpos⟩
      simp only [invForward, hpos]
    | some j =>
      obtain ⟨hj, hlz, _⟩ := position_some hpos
      obtain ⟨rows1, h1, hlen1, hF1⟩ := elimCol_inv dbg hlen h hb trivial (by omega) hlz
      rcases ih (b + 1) rows1 hlen1 hF1 (by omega) with ⟨rows2, h2, hlen2, hF2⟩ | ⟨h2, hs⟩
      · refine Or.inl ⟨rows2, ?_, hlen2, by rw [show b + (len + 1) = b + 1 + len by omega]; exact hF2⟩
        simp only [invForward, hpos, h1]
        exact h2
      · refine Or.inr ⟨?_, hs⟩
        simp only [invForward, hpos, h1]
        exact h2

/-- row `i = n - 1 - i'` of the second loop of `inverse` -/
theorem invBackStep_inv {n : Nat} {M : Mat} {rows0 : Rows} (dbg : Bool) {i' : Nat} (hi' : i' < n)
    (h : BInv n M (fun _ => True) rows0 (fun s => n - i' ≤ s)) :
    ∃ rows', invBackStep n dbg rows0 i' = some rows' ∧ BInv n M (fun _ => True) rows' (fun s => n - (i' + 1) ≤ s) := by
  have hi : n - 1 - i' < n := by omega
  have hmem : ∀ {x}, x ∈ (List.range n).filter (fun j => decide (n - 1 - i' < j)) ↔ n - 1 - i' < x ∧ x < n := by
    intro x; simp only [List.mem_filter, List.mem_range, decide_eq_true_eq]; exact and_comm
  obtain ⟨rows', hf, hred, hB⟩ := backRow hi trivial ((List.range n).filter (fun j => decide (n - 1 - i' < j)))
    (List.nodup_range.filter _) (fun j hj => ⟨(hmem.mp hj).1, (hmem.mp hj).2, trivial⟩)
    (fun x h1 h2 _ => hmem.mpr ⟨h1, h2⟩) rows0 (h.mono fun x _ _ hx => by have := (hmem.mp hx).1; omega)
  refine ⟨rows', ?_, hB.mono fun x hx _ hle => ?_⟩
  · rw [List.foldl_filter] at hf
    unfold invBackStep
    have e1 : (rows0.getD (n - 1 - i') (0, 0)).1 = fstF rows0 (n - 1 - i') := rfl
    simp only [e1, ← ite_and, decide_eq_true_eq] at hf ⊢
    rw [hf]
    have e2 : (rows'.getD (n - 1 - i') (0, 0)).1 = fstF rows' (n - 1 - i') := rfl
    simp only [e2, hred, bne_self_eq_false, Bool.and_false, Bool.false_eq_true, if_false]
  · rcases Nat.lt_or_eq_of_le (show n - 1 - i' ≤ x by omega) with h3 | h3
    · exact Or.inr (hmem.mpr ⟨h3, hx⟩)
    · exact Or.inl h3.symm


theorem BInv.final {n : Nat} {M : Mat} {rows : Rows} {R : Nat → Prop} (h : BInv n M (fun _ => True) rows R)
    (hR : ∀ s, s < n → R s) :
    (rows.map (·.2)).length = n ∧ (∀ k, k < n → row (rows.map (·.2)) k < 2 ^ n) ∧
      toMat n (rows.map (·.2)) * toMat n M = 1 := by
  refine ⟨by rw [List.length_map]; exact h.len, fun k hk => by rw [row_map_snd]; exact (h.ok k hk).ltd, ?_⟩
  funext i
  rw [Matrix.mul_apply_eq_vecMul]
  have : toMat n (rows.map (·.2)) i = vec n (sndF rows i) := by
    simp only [toMat, sndF]; rw [row_map_snd]
  rw [this, (h.ok i i.2).coef, h.red i i.2 trivial (hR i i.2), vec_shiftLeft_one i.2]
  funext j
  rw [Matrix.one_eq_pi_single]

/-- `inverse` reaches no panic site (no `debug_assert!` of either phase fails): it returns a left inverse, or
`None` on a singular matrix -/
theorem inverse_cases {n : Nat} (dbg : Bool) {M : Mat} (hw : ∀ k, k < n → row M k < 2 ^ n) :
    (∃ W, inverse n dbg M = some (some W) ∧ W.length = n ∧ (∀ k, k < n → row W k < 2 ^ n) ∧
      toMat n W * toMat n M = 1) ∨
    (inverse n dbg M = some none ∧ ¬ IsUnit (toMat n M)) := by
  have hf := invForward_inv (M := M) dbg n 0 _ (by simp) (FInv.init hw) (by omega)
  rw [← List.range_eq_range', Nat.zero_add] at hf
  rcases hf with ⟨rows1, h1, hlen1, hF1⟩ | ⟨h1, hs⟩
  · obtain ⟨rows2, h2, hB2⟩ := Loops.foldlM_range_total (invBackStep n dbg)
      (fun t rows => BInv n M (fun _ => True) rows (fun s => n - t ≤ s)) n
      (fun _ _ ht h => invBackStep_inv dbg ht h)
      ((BInv.ofFInv hlen1 hF1).mono fun s hs _ hle => Nat.not_lt.mpr hle hs)
    refine Or.inl ⟨rows2.map (·.2), ?_, hB2.final fun s _ => ?_⟩
    · simp only [inverse, h1, h2]
    · rw [Nat.sub_self]; exact Nat.zero_le s
  · refine Or.inr ⟨?_, hs⟩
    simp only [inverse, h1]

variable {n : Nat} {dbg : Bool} {M : Mat}

theorem inverse_some (hw : ∀ k, k < n → row M k < 2 ^ n) {W : Mat} (h : inverse n dbg M = some (some W)) :
    W.length = n ∧ (∀ k, k < n → row W k < 2 ^ n) ∧ toMat n W * toMat n M = 1 := by
  rcases inverse_cases dbg hw with ⟨W', h1, hW'⟩ | ⟨h1, _⟩
  · rw [h1] at h
    injection h with h; injection h with h
    subst h
    exact hW'
  · rw [h1] at h; injection h with h; cases h

theorem inverse_none (hw : ∀ k, k < n → row M k < 2 ^ n) (h : inverse n dbg M = some none) :
    ¬ IsUnit (toMat n M) := by
  rcases inverse_cases dbg hw with ⟨W, h1, _⟩ | ⟨_, hs⟩
  · rw [h1] at h; injection h with h; cases h
  · exact hs

theorem inverse_spec (hw : ∀ k, k < n → row M k < 2 ^ n) :
    (∃ W, inverse n dbg M = some (some W) ∧ toMat n W * toMat n M = 1 ∧ toMat n M * toMat n W = 1) ∨
    (inverse n dbg M = some none ∧ ¬ IsUnit (toMat n M)) := by
  rcases inverse_cases dbg hw with ⟨W, h1, _, _, hWM⟩ | ⟨h1, hs⟩
  · exact Or.inl ⟨W, h1, hWM, mul_eq_one_comm.mp hWM⟩
  · exact Or.inr ⟨h1, hs⟩

/-- checked and release profile return the same value: both compute the inverse, which is unique -/
theorem inverse_dbg_irrelevant (hw : ∀ k, k < n → row M k < 2 ^ n) : inverse n true M = inverse n false M := by
  rcases inverse_spec (dbg := true) hw with ⟨W, h1, hWM, hMW⟩ | ⟨h1, hs⟩ <;>
    rcases inverse_spec (dbg := false) hw with ⟨W', h2, hWM', hMW'⟩ | ⟨h2, hs'⟩
  · obtain ⟨hl, hlt, _⟩ := inverse_some hw h1
    obtain ⟨hl', hlt', _⟩ := inverse_some hw h2
    have hWW : toMat n W = toMat n W' := by
      calc toMat n W = toMat n W * (toMat n M * toMat n W') := by rw [hMW', Matrix.mul_one]
        _ = toMat n W' := by rw [← Matrix.mul_assoc, hWM, Matrix.one_mul]
    rw [h1, h2, mat_ext hl hl' fun i hi => vec_inj (hlt i hi) (hlt' i hi) (congrFun hWW ⟨i, hi⟩)]
  · exact absurd ⟨⟨toMat n M, toMat n W, hMW, hWM⟩, rfl⟩ hs'
  · exact absurd ⟨⟨toMat n M, toMat n W', hMW', hWM'⟩, rfl⟩ hs
  · rw [h1, h2]

/-! both outcomes occur (the hypothesis `hw` holds for these inputs by evaluation) -/
example : inverse 3 true [3, 2, 7] = some (some [3, 2, 5]) := by decide
example : inverse 3 true [3, 3, 7] = some none := by decide

end Ymq.Gf2Small
