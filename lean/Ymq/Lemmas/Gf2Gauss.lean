/-
C14: `kernel_gauss`. Independence is the list notion `Indep` (flags attached to the vectors, `combZ`),
invariant under permutations and transvections. The loop invariant `Inv` is invariant under reordering
the open columns and under one elimination pass (`Inv.perm`, `Inv.pivot`), which is all `gaussStep`
does; `kernelGauss_spec` is the result of the whole routine.
-/
import Ymq.Lemmas.Gf2Basic
namespace Ymq.Gf2

/-- coordinate `i` of the xor of the vectors whose flag is set -/
def combZ (Z : List (BVec × Bool)) (i : Nat) : Bool := xsum (Z.map (fun z => (z.2 && bitAt z.1 i)))

/-- linear independence over GF(2): the only vanishing combination is the trivial one -/
def Indep (F : List BVec) : Prop :=
  ∀ Z : List (BVec × Bool), Z.map Prod.fst = F → (∀ i, combZ Z i = false) → ∀ z ∈ Z, z.2 = false

theorem combZ_append (A B : List (BVec × Bool)) (i : Nat) :
    combZ (A ++ B) i = (combZ A i ^^ combZ B i) := by
  simp [combZ, xsum_append]

theorem combZ_cons (z : BVec × Bool) (B : List (BVec × Bool)) (i : Nat) :
    combZ (z :: B) i = ((z.2 && bitAt z.1 i) ^^ combZ B i) := by
  simp [combZ]

theorem combZ_flags_false (Z : List (BVec × Bool)) (h : ∀ z ∈ Z, z.2 = false) (i : Nat) :
    combZ Z i = false := by
  apply xsum_eq_false_of_forall
  intro b hb
  simp only [List.mem_map] at hb
  obtain ⟨z, hz, rfl⟩ := hb
  simp [h z hz]

theorem combZ_perm {Z Z' : List (BVec × Bool)} (h : Z.Perm Z') (i : Nat) : combZ Z i = combZ Z' i :=
  xsum_perm (h.map _)

theorem combZ_zip (F : List BVec) (c : BVec) (i : Nat) :
    combZ (F.zip c) i = xsum ((List.range F.length).map (fun j => (bitAt c j && bitAt (F.getD j []) i))) := by
  induction F generalizing c with
  | nil => rfl
  | cons v F ih =>
    rw [List.length_cons, xsum_range_succ']
    cases c with
    | nil => simp only [List.zip_nil_right, bitAt_nil, Bool.false_and, xsum_map_false]; rfl
    | cons b c =>
      rw [List.zip_cons_cons, combZ_cons, ih]
      simp only [bitAt_cons_zero, bitAt_cons_succ, List.getD_cons_zero, List.getD_cons_succ]

theorem exists_perm_map_fst {F F' : List BVec} (h : F'.Perm F) :
    ∀ Z' : List (BVec × Bool), Z'.map Prod.fst = F' → ∃ Z : List (BVec × Bool), Z.Perm Z' ∧ Z.map Prod.fst = F := by
  induction h with
  | nil => intro Z' hZ; exact ⟨Z', List.Perm.refl _, hZ⟩
  | cons x _ ih =>
    intro Z' hZ
    obtain ⟨z, Z1, rfl, hz, hZ1⟩ := List.map_eq_cons_iff.mp hZ
    obtain ⟨Z2, hp, hm⟩ := ih Z1 hZ1
    exact ⟨z :: Z2, hp.cons z, by simp [hz, hm]⟩
  | swap x y l =>
    intro Z' hZ
    obtain ⟨z1, Z1, rfl, hz1, hZ1⟩ := List.map_eq_cons_iff.mp hZ
    obtain ⟨z2, Z2, rfl, hz2, hZ2⟩ := List.map_eq_cons_iff.mp hZ1
    exact ⟨z2 :: z1 :: Z2, List.Perm.swap z1 z2 Z2, by simp [hz1, hz2, hZ2]⟩
  | trans _ _ ih1 ih2 =>
    intro Z' hZ
    obtain ⟨Z2, hp2, hm2⟩ := ih1 Z' hZ
    obtain ⟨Z3, hp3, hm3⟩ := ih2 Z2 hm2
    exact ⟨Z3, hp3.trans hp2, hm3⟩

theorem Indep.perm {F F' : List BVec} (hF : Indep F) (h : F'.Perm F) : Indep F' := by
  intro Z' hZ' hc z hz
  obtain ⟨Z, hp, hm⟩ := exists_perm_map_fst h Z' hZ'
  exact hF Z hm (fun i => by rw [combZ_perm hp]; exact hc i) z (hp.mem_iff.mpr hz)

theorem Indep.suffix {A B : List BVec} (h : Indep (A ++ B)) : Indep B := by
  intro ZB hZB hc z hz
  have hA : ∀ z ∈ A.map (fun a => (a, false)), z.2 = false := by
    intro z hz; simp only [List.mem_map] at hz; obtain ⟨a, _, rfl⟩ := hz; rfl
  refine h (A.map (fun a => (a, false)) ++ ZB) ?_ ?_ z (by simp [hz])
  · simp [hZB, Function.comp_def]
  · intro i
    rw [combZ_append, combZ_flags_false _ hA, hc i]; rfl

theorem Indep.ne_zero {F : List BVec} (h : Indep F) (v : BVec) (hv : v ∈ F) : ∃ i, bitAt v i = true := by
  apply Classical.byContradiction
  intro hne
  have hzero : ∀ i, bitAt v i = false := fun i => by
    cases hb : bitAt v i with
    | false => rfl
    | true => exact absurd ⟨i, hb⟩ hne
  obtain ⟨A, B, rfl⟩ := List.append_of_mem hv
  have hA : ∀ (L : List BVec), ∀ z ∈ L.map (fun a => (a, false)), z.2 = false := by
    intro L z hz; simp only [List.mem_map] at hz; obtain ⟨a, _, rfl⟩ := hz; rfl
  have := h (A.map (fun a => (a, false)) ++ (v, true) :: B.map (fun a => (a, false)))
    (by simp [Function.comp_def]) (fun i => by
      rw [combZ_append, combZ_cons, combZ_flags_false _ (hA A), combZ_flags_false _ (hA B)]
      simp [hzero i]) (v, true) (by simp)
  simp at this


/-- `g'` is `g` or `g xor p` (one elimination step on a coefficient row) -/
def XorRel (p g g' : BVec) : Prop := g' = g ∨ ∀ i, bitAt g' i = (bitAt g i ^^ bitAt p i)

/-- a combination `ZG'` of the rows after the step is the combination of the rows before it with the same flags, plus
`d` times the pivot row, `d` being the parity of the flags of the rows that were changed -/
theorem transvection_aux {α} (p : BVec) (f f' : α → BVec) (G : List α) (h : ∀ a ∈ G, XorRel p (f a) (f' a)) :
    ∀ ZG' : List (BVec × Bool), ZG'.map Prod.fst = G.map f' →
      ∃ (ZG : List (BVec × Bool)) (d : Bool), ZG.map Prod.fst = G.map f ∧ ZG.map Prod.snd = ZG'.map Prod.snd ∧
        (∀ i, combZ ZG' i = (combZ ZG i ^^ (d && bitAt p i))) ∧
        ((∀ z ∈ ZG', z.2 = false) → d = false) := by
  induction G with
  | nil =>
    intro ZG' hZ
    have : ZG' = [] := by simpa using hZ
    subst this
    exact ⟨[], false, rfl, rfl, fun i => by simp [combZ], fun _ => rfl⟩
  | cons a G ih =>
    intro ZG' hZ
    obtain ⟨z, Z1, rfl, hz, hZ1⟩ := List.map_eq_cons_iff.mp hZ
    obtain ⟨ZG0, d0, hm0, hs0, hc0, hd0⟩ := ih (fun b hb => h b (by simp [hb])) Z1 hZ1
    rcases h a (by simp) with heq | hx
    · refine ⟨(f a, z.2) :: ZG0, d0, by simp [hm0], by simp [hs0], fun i => ?_, fun hall => ?_⟩
      · rw [combZ_cons, combZ_cons, hc0 i, hz, heq]
        simp only [Bool.xor_assoc]
      · exact hd0 (fun w hw => hall w (by simp [hw]))
    · refine ⟨(f a, z.2) :: ZG0, (d0 ^^ z.2), by simp [hm0], by simp [hs0], fun i => ?_, fun hall => ?_⟩
      · rw [combZ_cons, combZ_cons, hc0 i, hz, hx i]
        simp only
        cases z.2 <;> cases bitAt (f a) i <;> cases bitAt p i <;> cases combZ ZG0 i <;> cases d0 <;> rfl
      · rw [hd0 (fun w hw => hall w (by simp [hw])), hall z (by simp)]; rfl

theorem Indep.transvection {α} {A : List BVec} {G : List α} {f f' : α → BVec} {p : BVec}
    (hF : Indep (A ++ p :: G.map f)) (h : ∀ a ∈ G, XorRel p (f a) (f' a)) : Indep (A ++ p :: G.map f') := by
  intro Z' hZ' hc
  obtain ⟨ZA, Zr, rfl, hZA, hZr⟩ := List.map_eq_append_iff.mp hZ'
  obtain ⟨zp, ZG', rfl, hzp, hZG'⟩ := List.map_eq_cons_iff.mp hZr
  obtain ⟨ZG, d, hm, hs, hcomb, hd⟩ := transvection_aux p f f' G h ZG' hZG'
  have hall := hF (ZA ++ (p, (zp.2 ^^ d)) :: ZG) (by simp [hZA, hm]) (fun i => by
    have := hc i
    rw [combZ_append, combZ_cons, hcomb i, hzp] at this
    rw [combZ_append, combZ_cons, ← this]
    simp only
    cases zp.2 <;> cases d <;> cases bitAt p i <;> cases combZ ZA i <;> cases combZ ZG i <;> rfl)
  have hG' : ∀ z ∈ ZG', z.2 = false := by
    intro z hz
    have : z.2 ∈ ZG.map Prod.snd := by rw [hs]; exact List.mem_map_of_mem hz
    obtain ⟨w, hw, hwz⟩ := List.mem_map.mp this
    rw [← hwz]; exact hall w (by simp [hw])
  have hd' := hd hG'
  intro z hz
  rcases List.mem_append.mp hz with hzA | hz
  · exact hall z (by simp [hzA])
  · rcases List.mem_cons.mp hz with rfl | hz
    · have := hall (p, (z.2 ^^ d)) (by simp)
      simpa [hd'] using this
    · exact hG' z hz


theorem firstMin_spec (l : List Nat) (h : l ≠ []) :
    (firstMin l).1 < l.length ∧ l[(firstMin l).1]? = some (firstMin l).2 ∧ ∀ x ∈ l, (firstMin l).2 ≤ x := by
  induction l with
  | nil => exact absurd rfl h
  | cons x t ih =>
    cases t with
    | nil => simp [firstMin]
    | cons y t =>
      obtain ⟨h1, h2, h3⟩ := ih (by simp)
      simp only [firstMin]
      split
      · rename_i hle
        refine ⟨by simp, by simp, ?_⟩
        intro a ha
        rcases List.mem_cons.mp ha with rfl | ha
        · exact Nat.le_refl _
        · exact Nat.le_trans hle (h3 a ha)
      · rename_i hle
        refine ⟨by simp at h1 ⊢; omega, by simpa using h2, ?_⟩
        intro a ha
        rcases List.mem_cons.mp ha with rfl | ha
        · simp only; omega
        · exact h3 a ha

theorem swapHead_spec (x : Col) (t : List Col) (p : Nat) (hp : p < (x :: t).length) :
    (swapHead x t p).1 = (x :: t)[p] ∧ ((swapHead x t p).1 :: (swapHead x t p).2).Perm (x :: t) ∧
      (swapHead x t p).2.length = t.length := by
  cases p with
  | zero => simp [swapHead]
  | succ q =>
    have hq : q < t.length := by simpa using hp
    simp only [swapHead, List.getElem?_eq_getElem hq, List.getElem_cons_succ, List.length_set, and_true, true_and]
    have h1 : t = t.take q ++ t[q] :: t.drop (q + 1) := by simp
    have h2 : t.set q x = t.take q ++ x :: t.drop (q + 1) := by
      rw [List.set_eq_take_append_cons_drop]; simp [hq]
    rw [h2]
    conv => rhs; rw [h1]
    have p1 : (t[q] :: (t.take q ++ x :: t.drop (q + 1))).Perm (t[q] :: x :: (t.take q ++ t.drop (q + 1))) :=
      (List.perm_middle).cons _
    have p2 : (x :: (t.take q ++ t[q] :: t.drop (q + 1))).Perm (x :: t[q] :: (t.take q ++ t.drop (q + 1))) :=
      (List.perm_middle).cons _
    exact p1.trans ((List.Perm.swap _ _ _).trans p2.symm)

theorem mulVec_vxor (size : Nat) (M : List BVec) (a b : BVec) (hR : Rect size M) (hl : a.length = b.length) :
    mulVec size M (vxor a b) = vxor (mulVec size M a) (mulVec size M b) := by
  have hlen : (mulVec size M a).length = (mulVec size M b).length := by
    rw [length_mulVec _ _ _ hR, length_mulVec _ _ _ hR]
  apply bvec_ext
  · rw [length_mulVec _ _ _ hR, length_vxor _ _ hlen, length_mulVec _ _ _ hR]
  · intro i
    rw [bitAt_vxor _ _ hlen, bitAt_mulVec _ _ _ hR, bitAt_mulVec _ _ _ hR, bitAt_mulVec _ _ _ hR, ← xsum_map_xor]
    exact xsum_map_congr (fun j _ => by rw [bitAt_vxor _ _ hl, Bool.and_xor_distrib_right])

/-- what is known of every position of the three vectors: the coefficient row reproduces the column -/
structure EntryOk (size ncols : Nat) (M : List BVec) (e : Col) : Prop where
  hcoef : e.coef.length = ncols
  hcol : e.col.length = size
  hz : e.z = lzTop e.col
  hmul : mulVec size M e.coef = e.col

/-- `elim` where the length checks of `xor_inplace` hold -/
def elimT (pivot e : Col) : Col :=
  if e.z = pivot.z then
    { z := lzTop (vxor e.col pivot.col), coef := vxor e.coef pivot.coef, col := vxor e.col pivot.col }
  else e

theorem elim_eq (pivot e : Col) :
    elim pivot e = if e.z = pivot.z → e.col.length = pivot.col.length ∧ e.coef.length = pivot.coef.length
      then some (elimT pivot e) else none := by
  unfold elim elimT
  by_cases hz : e.z = pivot.z
  · by_cases hl : e.col.length = pivot.col.length ∧ e.coef.length = pivot.coef.length <;> simp [hz, hl]
  · simp [hz]

theorem elimAll_eq (pivot : Col) (es : List Col) :
    elimAll pivot es =
      if ∀ e ∈ es, e.z = pivot.z → e.col.length = pivot.col.length ∧ e.coef.length = pivot.coef.length
      then some (es.map (elimT pivot)) else none := by
  induction es with
  | nil => simp [elimAll]
  | cons e es ih =>
    rw [elimAll, elim_eq, ih]
    by_cases h1 : e.z = pivot.z → e.col.length = pivot.col.length ∧ e.coef.length = pivot.coef.length
    · by_cases h2 : ∀ e ∈ es, e.z = pivot.z → e.col.length = pivot.col.length ∧ e.coef.length = pivot.coef.length
      · rw [if_pos h1, if_pos h2, if_pos (List.forall_mem_cons.mpr ⟨h1, h2⟩)]; rfl
      · rw [if_pos h1, if_neg h2, if_neg (fun h => h2 (List.forall_mem_cons.mp h).2)]
    · rw [if_neg h1, if_neg (fun h => h1 (List.forall_mem_cons.mp h).1)]

theorem elimT_ok {size ncols : Nat} {M : List BVec} {pivot e : Col} (hR : Rect size M)
    (hp : EntryOk size ncols M pivot) (he : EntryOk size ncols M e) :
    EntryOk size ncols M (elimT pivot e) ∧ (e.z ≠ pivot.z → elimT pivot e = e) ∧
      (e.z = pivot.z → pivot.z < size → pivot.z < (elimT pivot e).z) ∧
      XorRel pivot.coef e.coef (elimT pivot e).coef := by
  unfold elimT
  by_cases hz : e.z = pivot.z
  · have hl1 : e.col.length = pivot.col.length := by rw [he.hcol, hp.hcol]
    have hl2 : e.coef.length = pivot.coef.length := by rw [he.hcoef, hp.hcoef]
    rw [if_pos hz]
    refine ⟨⟨?_, ?_, rfl, ?_⟩, fun h => absurd hz h, fun _ hlt => ?_, Or.inr (fun i => bitAt_vxor _ _ hl2 i)⟩
    · show (vxor _ _).length = _; rw [length_vxor _ _ hl2, he.hcoef]
    · show (vxor _ _).length = _; rw [length_vxor _ _ hl1, he.hcol]
    · show mulVec _ _ (vxor _ _) = vxor _ _; rw [mulVec_vxor _ _ _ _ hR hl2, he.hmul, hp.hmul]
    · show _ < lzTop (vxor _ _)
      have h1 : lzTop e.col = lzTop pivot.col := by rw [← he.hz, ← hp.hz, hz]
      have := lzTop_vxor_gt e.col pivot.col hl1 h1 (by rw [← he.hz, hz, he.hcol]; exact hlt)
      rw [← he.hz, hz] at this; exact this
  · rw [if_neg hz]
    exact ⟨he, fun _ => rfl, fun h => absurd h hz, Or.inl rfl⟩

theorem maxZ_le_iff (pre : List Col) (b : Nat) : maxZ pre ≤ b ↔ ∀ e ∈ pre, e.z ≤ b := by
  unfold maxZ
  suffices h : ∀ (m : Nat), pre.foldl (fun m e => max m e.z) m ≤ b ↔ (m ≤ b ∧ ∀ e ∈ pre, e.z ≤ b) by
    simpa using h 0
  induction pre with
  | nil => intro m; simp
  | cons x pre ih =>
    intro m
    simp only [List.foldl_cons, ih, List.mem_cons, forall_eq_or_imp]
    constructor
    · rintro ⟨h1, h2⟩; exact ⟨by omega, by omega, h2⟩
    · rintro ⟨h1, h2, h3⟩; exact ⟨by omega, h3⟩


/-- Loop invariant of `kernel_gauss` (`pre = [..done]`, `rest = [done..]`). -/
structure Inv (size : Nat) (M : List BVec) (pre rest : List Col) : Prop where
  entries : ∀ e ∈ pre ++ rest, EntryOk size M.length M e
  len : pre.length + rest.length = M.length
  preLt : ∀ e ∈ pre, e.z < size
  preSorted : pre.Pairwise (fun a b => a.z < b.z)
  preRest : ∀ e ∈ pre, ∀ r ∈ rest, e.z < r.z
  indep : Indep ((pre ++ rest).map (·.coef))

theorem Inv.perm {size : Nat} {M : List BVec} {pre rest rest' : List Col} (hI : Inv size M pre rest)
    (hp : rest'.Perm rest) : Inv size M pre rest' where
  entries e he := hI.entries e (by
    rcases List.mem_append.mp he with h | h
    · exact List.mem_append_left _ h
    · exact List.mem_append_right _ (hp.mem_iff.mp h))
  len := by rw [hp.length_eq]; exact hI.len
  preLt := hI.preLt
  preSorted := hI.preSorted
  preRest e he r hr := hI.preRest e he r (hp.mem_iff.mp hr)
  indep := hI.indep.perm ((hp.append_left pre).map _)

/-- One pass of the elimination: when the first of the columns still to process has the smallest
`z`, and it is not a null column, it joins the processed ones and is added to the others of the same `z`. -/
theorem Inv.pivot {size : Nat} {M : List BVec} {pre others : List Col} {pivot : Col} (hR : Rect size M)
    (hI : Inv size M pre (pivot :: others)) (hlt : pivot.z < size) (hmin : ∀ e ∈ others, pivot.z ≤ e.z) :
    Inv size M (pre ++ [pivot]) (others.map (elimT pivot)) := by
  have hok : ∀ e ∈ pivot :: others, EntryOk size M.length M e := fun e he =>
    hI.entries e (List.mem_append_right _ he)
  have hT : ∀ e ∈ others, _ := fun e he => elimT_ok hR (hok pivot (by simp)) (hok e (by simp [he]))
  have hgt : ∀ e' ∈ others.map (elimT pivot), pivot.z < e'.z := by
    intro e' he'
    obtain ⟨e, he, rfl⟩ := List.mem_map.mp he'
    obtain ⟨_, h3, h4, _⟩ := hT e he
    by_cases hz : e.z = pivot.z
    · exact h4 hz hlt
    · rw [h3 hz]; exact Nat.lt_of_le_of_ne (hmin e he) (fun h => hz h.symm)
  refine ⟨fun e he => ?_, ?_, fun e he => ?_, ?_, fun e he r' hr' => ?_, ?_⟩
  · simp only [List.mem_append, List.mem_singleton, List.mem_map] at he
    rcases he with (he | rfl) | ⟨e0, he0, rfl⟩
    · exact hI.entries e (List.mem_append_left _ he)
    · exact hok e (by simp)
    · exact (hT e0 he0).1
  · have := hI.len
    simp only [List.length_append, List.length_cons, List.length_nil, List.length_map] at *
    omega
  · rcases List.mem_append.mp he with he | he
    · exact hI.preLt e he
    · rw [List.mem_singleton.mp he]; exact hlt
  · rw [List.pairwise_append]
    refine ⟨hI.preSorted, by simp, fun a ha b hb => ?_⟩
    rw [List.mem_singleton.mp hb]
    exact hI.preRest a ha pivot (by simp)
  · rcases List.mem_append.mp he with he | he
    · exact Nat.lt_trans (hI.preRest e he pivot (by simp)) (hgt r' hr')
    · rw [List.mem_singleton.mp he]; exact hgt r' hr'
  · have h1 := hI.indep
    rw [List.map_append, List.map_cons] at h1
    have h2 := Indep.transvection (f' := fun e => (elimT pivot e).coef) h1 (fun e he => (hT e he).2.2.2)
    simpa [Function.comp_def] using h2

theorem gaussStep_spec {size : Nat} {M : List BVec} {pre rest : List Col} (hR : Rect size M)
    (hI : Inv size M pre rest) :
    (∃ pre' rest', gaussStep size pre rest = .next pre' rest' ∧ Inv size M pre' rest' ∧
        rest'.length + 1 = rest.length) ∨
    (gaussStep size pre rest = .done (rest.map (·.coef)) ∧ ∀ r ∈ rest, r.z = size) := by
  cases rest with
  | nil =>
    right
    refine ⟨?_, by simp⟩
    simp only [gaussStep, List.map_nil]
    cases hl : pre.getLast? with
    | none => rfl
    | some e =>
      have := hI.preLt e (List.mem_of_getLast? hl)
      simp only [show ¬ e.z = size by omega, if_false]
  | cons x t =>
    have hzle : ∀ e ∈ x :: t, e.z ≤ size := fun e he => by
      have h := hI.entries e (List.mem_append_right _ he)
      rw [h.hz, ← h.hcol]; exact lzTop_le _
    obtain ⟨h1, h2, h3⟩ := firstMin_spec ((x :: t).map (·.z)) (by simp)
    generalize hr : firstMin ((x :: t).map (·.z)) = r at h1 h2 h3
    have hr1 : r.1 < (x :: t).length := by simpa using h1
    have hrz : ((x :: t)[r.1]).z = r.2 := by
      rw [List.getElem?_map, List.getElem?_eq_getElem hr1] at h2
      simpa using h2
    have hmin : ∀ e ∈ x :: t, r.2 ≤ e.z := fun e he => h3 e.z (List.mem_map_of_mem he)
    -- the two `debug_assert!`s hold
    have hd1 : maxZ pre ≤ r.2 := (maxZ_le_iff pre r.2).mpr (fun p hp =>
      hrz ▸ Nat.le_of_lt (hI.preRest p hp (x :: t)[r.1] (List.getElem_mem hr1)))
    have hd2 : x.z = lzTop x.col := (hI.entries x (by simp)).hz
    by_cases hsz : r.2 = size
    · right
      refine ⟨?_, fun e he => Nat.le_antisymm (hzle e he) (hsz ▸ hmin e he)⟩
      have hd1' : maxZ pre ≤ size := hsz ▸ hd1
      simp only [gaussStep, hr, hd1', not_true_eq_false, if_false, hd2, ne_eq, hsz, if_true]
    · left
      obtain ⟨hs1, hs2, hs3⟩ := swapHead_spec x t r.1 hr1
      generalize hsw : swapHead x t r.1 = sw at hs1 hs2 hs3
      obtain ⟨pivot, others⟩ := sw
      simp only at hs1 hs2 hs3
      have hpz : pivot.z = r.2 := by rw [hs1]; exact hrz
      have hI' := hI.perm hs2
      have hel : elimAll pivot others = some (others.map (elimT pivot)) := by
        rw [elimAll_eq, if_pos (fun e he _ => ?_)]
        have hp := hI'.entries pivot (by simp)
        have h := hI'.entries e (by simp [he])
        exact ⟨by rw [h.hcol, hp.hcol], by rw [h.hcoef, hp.hcoef]⟩
      refine ⟨pre ++ [pivot], others.map (elimT pivot), ?_, hI'.pivot hR ?_ (fun e he => ?_), ?_⟩
      · simp only [gaussStep, hr, hd1, not_true_eq_false, if_false, hd2, ne_eq, hsz, hsw, hel]
      · have := hzle _ (List.getElem_mem hr1); omega
      · rw [hpz]; exact hmin e (hs2.mem_iff.mp (List.mem_cons_of_mem _ he))
      · simp only [List.length_map, List.length_cons]; omega

theorem initCols_length (n i : Nat) (cs : List BVec) : (initCols n i cs).length = cs.length := by
  induction cs generalizing i with
  | nil => rfl
  | cons c cs ih => simp [initCols, ih]

theorem initCols_mem (n i : Nat) (cs : List BVec) (e : Col) (he : e ∈ initCols n i cs) :
    ∃ (t : Nat) (ht : t < cs.length), e.z = lzTop cs[t] ∧ e.coef = unitVec n (i + t) ∧ e.col = cs[t] := by
  induction cs generalizing i with
  | nil => simp [initCols] at he
  | cons c cs ih =>
    simp only [initCols, List.mem_cons] at he
    rcases he with rfl | he
    · exact ⟨0, by simp, rfl, rfl, rfl⟩
    · obtain ⟨t, ht, h1, h2, h3⟩ := ih (i + 1) he
      exact ⟨t + 1, by simp; omega, by simpa using h1, by rw [h2]; congr 1; omega, by simpa using h3⟩

theorem initCols_coefs (n i : Nat) (cs : List BVec) :
    (initCols n i cs).map (·.coef) = (List.range' i cs.length).map (unitVec n) := by
  induction cs generalizing i with
  | nil => rfl
  | cons c cs ih => simp [initCols, ih, List.range'_succ]

theorem indep_units (n : Nat) : Indep ((List.range' 0 n).map (unitVec n)) := by
  intro Z hZ hc z hz
  have hlen : Z.length = n := by simpa using congrArg List.length hZ
  obtain ⟨t, ht, rfl⟩ := List.getElem_of_mem hz
  have hct : combZ (((List.range' 0 n).map (unitVec n)).zip (Z.map Prod.snd)) t = false := by
    rw [← List.zip_of_prod hZ rfl]; exact hc t
  -- only the term `j = t` of the sum is left
  rw [combZ_zip, xsum_map_congr (g := fun j => (j == t && bitAt (Z.map Prod.snd) j)) (fun j hj => by
    have hj' : j < n := by simpa using List.mem_range.mp hj
    have : ((List.range' 0 n).map (unitVec n)).getD j [] = unitVec n j := by simp [List.getD, hj']
    rw [this, bitAt_unitVec, decide_eq_true (show t < n by omega), Bool.true_and, Bool.and_comm,
      BEq.comm]), xsum_range_single] at hct
  simpa [bitAt, List.getD, ht, hlen ▸ ht] using hct

theorem inv_init (size : Nat) (M : List BVec) (hR : Rect size M) :
    Inv size M [] (initCols M.length 0 M) := by
  refine ⟨fun e he => ?_, by simp [initCols_length], by simp, by simp, by simp, ?_⟩
  · simp only [List.nil_append] at he
    obtain ⟨t, ht, h1, h2, h3⟩ := initCols_mem _ _ _ e he
    refine ⟨by rw [h2, length_unitVec], by rw [h3]; exact hR _ (List.getElem_mem ht), by rw [h1, h3], ?_⟩
    rw [h2, h3, Nat.zero_add]
    exact mulVec_unitVec size M hR t ht
  · simp only [List.nil_append, initCols_coefs]
    exact indep_units M.length

theorem gaussLoop_spec {size : Nat} {M : List BVec} (hR : Rect size M) (fuel : Nat) (pre rest : List Col)
    (hI : Inv size M pre rest) (hf : rest.length < fuel) :
    ∃ pre' rest', gaussLoop size fuel pre rest = some (rest'.map (·.coef)) ∧ Inv size M pre' rest' ∧
      ∀ r ∈ rest', r.z = size := by
  induction fuel generalizing pre rest with
  | zero => omega
  | succ fuel ih =>
    rcases gaussStep_spec hR hI with ⟨pre', rest', hs, hI', hl⟩ | ⟨hs, hz⟩
    · obtain ⟨p2, r2, h1, h2, h3⟩ := ih pre' rest' hI' (by omega)
      exact ⟨p2, r2, by simp only [gaussLoop, hs]; exact h1, h2, h3⟩
    · exact ⟨pre, rest, by simp only [gaussLoop, hs], hI, hz⟩

theorem kernelGauss_spec (size : Nat) (M : List BVec) (hR : Rect size M) :
    ∃ pre rest, kernelGauss M = some (rest.map (·.coef)) ∧ Inv size M pre rest ∧ ∀ r ∈ rest, r.z = size := by
  cases M with
  | nil =>
    refine ⟨[], [], rfl, ⟨by simp, rfl, by simp, by simp, by simp, ?_⟩, by simp⟩
    intro Z hZ _ z hz
    have : Z = [] := by simpa using hZ
    subst this; simp at hz
  | cons c0 M' =>
    have hc0 : c0.length = size := hR c0 (by simp)
    subst hc0
    have hall : (c0 :: M').all (fun c => c.length == c0.length) = true := by
      rw [List.all_eq_true]
      intro c hc
      simp [hR c hc]
    simp only [kernelGauss, hall, if_true]
    exact gaussLoop_spec hR _ _ _ (inv_init c0.length (c0 :: M') hR) (by simp [initCols_length])

theorem kernelGauss_eq {size : Nat} {M : List BVec} (hR : Rect size M) {K : List BVec}
    (h : kernelGauss M = some K) :
    ∃ pre rest, K = rest.map (·.coef) ∧ Inv size M pre rest ∧ ∀ r ∈ rest, r.z = size := by
  obtain ⟨pre, rest, hk, hI, hz⟩ := kernelGauss_spec size M hR
  exact ⟨pre, rest, Option.some.inj (h.symm.trans hk), hI, hz⟩

/-- states visited by the loop of `kernel_gauss` on input `M` -/
inductive Reach (size : Nat) (M : List BVec) : List Col → List Col → Prop
  | init : Reach size M [] (initCols M.length 0 M)
  | step {pre rest pre' rest'} : Reach size M pre rest → gaussStep size pre rest = .next pre' rest' →
      Reach size M pre' rest'

theorem Reach.inv {size : Nat} {M : List BVec} (hR : Rect size M) {pre rest : List Col}
    (h : Reach size M pre rest) : Inv size M pre rest := by
  induction h with
  | init => exact inv_init size M hR
  | step _ hs ih =>
    rcases gaussStep_spec hR ih with ⟨p, r, h1, h2, _⟩ | ⟨h1, _⟩
    · rw [hs] at h1
      injection h1 with ha hb
      subst ha; subst hb; exact h2
    · rw [hs] at h1; cases h1


theorem kernelGauss_mem {size : Nat} {M : List BVec} (hR : Rect size M) {K : List BVec}
    (h : kernelGauss M = some K) (v : BVec) (hv : v ∈ K) :
    v.length = M.length ∧ mulVec size M v = List.replicate size false ∧ ∃ i, bitAt v i = true := by
  obtain ⟨pre, rest, rfl, hI, hz⟩ := kernelGauss_eq hR h
  obtain ⟨r, hr, rfl⟩ := List.mem_map.mp hv
  have hok := hI.entries r (by simp [hr])
  refine ⟨hok.hcoef, ?_, ?_⟩
  · rw [hok.hmul]
    apply bvec_ext
    · simp [hok.hcol]
    · intro i
      rw [bitAt_replicate_false]
      exact (lzTop_eq_length_iff r.col).mp (by rw [← hok.hz, hz r hr, hok.hcol]) i
  · have hind := hI.indep
    rw [List.map_append] at hind
    exact hind.suffix.ne_zero r.coef (List.mem_map_of_mem hr)

theorem kernelGauss_indep {size : Nat} {M : List BVec} (hR : Rect size M) {K : List BVec}
    (h : kernelGauss M = some K) : Indep K := by
  obtain ⟨pre, rest, rfl, hI, _⟩ := kernelGauss_eq hR h
  have := hI.indep
  rw [List.map_append] at this
  exact this.suffix

end Ymq.Gf2
