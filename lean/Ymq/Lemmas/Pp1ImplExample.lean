/-
A complete run of the whole-function model of `pp1::pp1` evaluated inside the logic (non-vacuity of `pp1_proper`):
`pp1(77, seed = 5, b1 = 4, b2 = 4)` with every number accepted as a pseudoprime.  Stage 1 consumes 2 (`g = V_2(5) = 23`),
3 (`g = V_3(23) = 9 mod 77`) and stops at 5 (`gpows = [1, 21, 7]`); `5 ≡ −2 mod 7` has `V_k ≡ ±2`, so the first gcd
check finds 7 and the cofactor 11 is accepted: `Some(([7], 11))`.  The first sieve block is the one C17 proves.
-/
import Ymq.Lemmas.Pp1Impl
import Ymq.Lemmas.Pm1ImplExample

namespace Ymq.Pp1Impl
open Ymq.Primes Ymq.ExpModn Ymq.Gen Ymq.Pm1 Ymq.SmoothBase
open Ymq.Pm1Impl (onem znNewPanics blockB blockB_append_break)

theorem block_eq_blockB (m b1 : Nat) : ∀ (l : List Nat) (s : S1),
    block m b1 l s = (blockB (step m b1) l s).map Prod.fst
  | [], s => rfl
  | p :: ps, s => by
    rw [block, blockB]
    cases hs : step m b1 s p with
    | none => rfl
    | some r =>
      obtain ⟨s', fl⟩ := r
      cases fl
      · exact block_eq_blockB m b1 ps s'
      · rfl

def exS0 : S1 := { g := 5 % 77, gpowsRev := [onem 77], pPrev := 1 }

theorem ex_block_prefix :
    (blockB (step 77 4) [2, 3, 5] exS0).map (fun r => (r.1.g, r.1.gpowsRev, r.1.pPrev, r.2)) = some (9, [7, 21, 1], 5, true) := by
  decide +kernel

theorem outer_ret {n b1 f m nred : Nat} {pp : Nat → Bool} {ps : PrimeSieve} {blk factors : List Nat} {s s' : S1}
    {st : CgfState} (hb : block m b1 blk s = some s')
    (hc : checkGcdFactors n pp { factors := factors, nred := nred, vals := s'.gpowsRev.reverse } = some (true, st)) :
    outer n b1 pp (f + 1) ps blk m s factors nred = some (.ret (splitResult st)) := by
  rw [outer, hb]
  simp only
  rw [hc]

theorem pp1_of_ret {n seed b1 b2 : Nat} {pp : Nat → Bool} {lab d1 d2 : Nat} {ps0 ps1 : PrimeSieve} {blk0 : List Nat}
    {r : Option (List Nat × Nat)} (hsel : Stage2.stage2Select b2 1 = some (lab, d1, d2)) (hb1 : ¬ b1 ≤ 3)
    (hz : znNewPanics n = false) (hseed : ¬ seed ≥ n) (hnew : PrimeSieve.new = some ps0)
    (hnext : ps0.next = some (blk0, ps1))
    (hout : outer n b1 pp 65600 ps1 blk0 n { g := seed % n, gpowsRev := [onem n], pPrev := 1 } [] n = some (.ret r)) :
    pp1 n seed b1 b2 pp = some r := by
  unfold pp1
  rw [hsel]
  simp only
  rw [if_neg hb1, hz]
  simp only [Bool.false_eq_true, if_false]
  rw [if_neg hseed, hnew]
  simp only
  rw [hnext]
  simp only
  rw [hout]

theorem ex_pp1 : pp1 77 5 4 4 (fun _ => true) = some (some ([7], 11)) := by
  obtain ⟨ps0, ps1, hnew, hnext, _⟩ := new_spec primes_6542
  have hsplit : primesBelow 65536 = [2, 3, 5] ++ (first90.drop 3 ++ primesFrom 464 65072) := by
    rw [show (65536 : Nat) = 464 + 65072 from rfl, primesBelow_append, primesBelow_464, ← List.append_assoc]
    congr 1
  -- the first block ends by `break` at 5
  obtain ⟨s', hb, hgp⟩ : ∃ s', block 77 4 (primesBelow 65536) exS0 = some s' ∧ s'.gpowsRev = [7, 21, 1] := by
    have h := ex_block_prefix
    cases hbb : blockB (step 77 4) [2, 3, 5] exS0 with
    | none => rw [hbb] at h; simp at h
    | some r =>
      obtain ⟨s', fl⟩ := r
      rw [hbb] at h
      simp only [Option.map_some, Option.some.injEq, Prod.mk.injEq] at h
      obtain ⟨-, h2, -, rfl⟩ := h
      exact ⟨s', by rw [hsplit, block_eq_blockB, blockB_append_break _ _ _ _ _ hbb]; rfl, h2⟩
  have hc : checkGcdFactors 77 (fun _ => true) ⟨[], 77, s'.gpowsRev.reverse⟩ = some (true, ⟨[7], 11, [1, 21, 7]⟩) := by
    rw [hgp]; decide +kernel
  obtain ⟨⟨lab, d1, d2⟩, hsel⟩ := Option.isSome_iff_exists.mp (show (Stage2.stage2Select 4 1).isSome = true by decide +kernel)
  exact pp1_of_ret hsel (by decide) (by decide +kernel) (by decide) hnew hnext (outer_ret hb hc)

end Ymq.Pp1Impl
