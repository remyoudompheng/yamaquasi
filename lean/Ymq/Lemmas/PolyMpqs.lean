/-
MPQS polynomials (C12): Hensel lift, exactness of `make_poly`, the three branches of `prepare_prime`.
-/
import Ymq.Lemmas.PolyInv
import Ymq.Lemmas.PolyBits
import Ymq.Lemmas.PolyRoots
import Ymq.Model.MpqsPoly
open Ymq.SiqsPoly (invMod wrap256 bitlen P255 chk256)
namespace Ymq.PolyMpqs
open Ymq.PolyInv Ymq.PolyRoots Ymq.MpqsPoly

theorem hensel_int {N R d k c i h : Int} (hk : N - R * R = d * k) (hc : d ∣ c - k) (hi : d ∣ 2 * R * i - 1)
    (hh : d ∣ h - c * i) : d * d ∣ N - (R + h * d) * (R + h * d) := by
  obtain ⟨u, hu⟩ := hc
  obtain ⟨v, hv⟩ := hi
  obtain ⟨w, hw⟩ := hh
  exact ⟨-(u + c * v + 2 * R * w) - h * h, by linear_combination hk - d * hu - d * c * hv - 2 * R * d * hw⟩

/-- the arithmetic of `make_poly` for any `c ≡ (n − r²)/d (mod d)`: `b = r + (c·i mod d)·d` squares to `n` modulo `d²` -/
theorem hensel_sq {n d r i c : Nat} {k : Int} (hk : (n : Int) - r * r = d * k) (hc : (d : Int) ∣ c - k)
    (hi : 2 * r * i % d = 1 % d) :
    (r + c * i % d * d) * (r + c * i % d * d) % (d * d) = n % (d * d) := by
  have h1 : (d : Int) ∣ 2 * (r : Int) * i - 1 := by
    simpa using (Nat.modEq_iff_dvd.mp hi.symm : (d : Int) ∣ ((2 * r * i : Nat) : Int) - (1 : Nat))
  have h2 : (d : Int) ∣ ((c * i % d : Nat) : Int) - c * i := by
    simpa using Int.modEq_iff_dvd.mp (Int.mod_modEq ((c : Int) * i) d).symm
  refine Nat.modEq_iff_dvd.mpr ?_
  simpa using hensel_int hk hc h1 h2

/-- Hensel lift of a square root of `n` modulo `d` to a square root modulo `d²`
(the arithmetic of `make_poly`): `h1 = r`, `c = ((n − r²)/d) mod d`, `h2 = c·(2r)⁻¹ mod d`,
`b = h1 + h2·d` satisfies `b² ≡ n (mod d²)`. -/
theorem hensel (n d r i : Nat) (hd : 0 < d) (hr : r * r % d = n % d) (hle : r * r ≤ n)
    (hi : 2 * r * i % d = 1 % d) :
    (r + (n - r * r) / d % d * i % d * d) * (r + (n - r * r) / d % d * i % d * d) % (d * d)
      = n % (d * d) := by
  obtain ⟨k, hk⟩ : d ∣ n - r * r := (Nat.modEq_iff_dvd' hle).mp hr
  rw [hk, Nat.mul_div_cancel_left _ hd]
  refine hensel_sq (k := k) ?_ ?_ hi
  · have : ((n - r * r : Nat) : Int) = d * k := by rw [hk]; push_cast; rfl
    rw [Nat.cast_sub hle] at this
    exact_mod_cast this
  · simpa using Int.modEq_iff_dvd.mp (Int.mod_modEq (k : Int) d).symm

theorem chkU_some {x y : Nat} (h : chkU x = some y) : y = x := by
  unfold chkU at h; split at h
  · injection h with h; exact h.symm
  · cases h

/-- the lift when `r² > n` (tiny `n`): `c = (D − ((r² − n)/D mod D)) mod D` plays the part of `(n − r²)/D mod D` -/
theorem hensel_neg (n d r i : Nat) (hd : 0 < d) (hr : r * r % d = n % d) (hlt : n < r * r)
    (hi : 2 * r * i % d = 1 % d) :
    (r + (d - (r * r - n) / d % d) % d * i % d * d) * (r + (d - (r * r - n) / d % d) % d * i % d * d) % (d * d)
      = n % (d * d) := by
  obtain ⟨k, hk⟩ : d ∣ r * r - n := (Nat.modEq_iff_dvd' hlt.le).mp hr.symm
  rw [hk, Nat.mul_div_cancel_left _ hd]
  refine hensel_sq (k := -(k : Int)) ?_ ?_ hi
  · have : ((r * r - n : Nat) : Int) = d * k := by rw [hk]; push_cast; rfl
    rw [Nat.cast_sub hlt.le] at this
    push_cast at this
    linarith
  · -- `(d − k mod d) mod d ≡ −k`
    have h1 := Int.modEq_iff_dvd.mp (Int.mod_modEq ((d : Int) - (k : Int) % d) d).symm
    have h2 := Int.modEq_iff_dvd.mp (Int.mod_modEq (k : Int) d).symm
    have e : (((d - k % d) % d : Nat) : Int) = ((d : Int) - (k : Int) % d) % d := by
      rw [Int.natCast_mod, Nat.cast_sub (Nat.mod_lt _ hd).le, Int.natCast_mod]
    rw [e]
    obtain ⟨u, hu⟩ := h1
    obtain ⟨v, hv⟩ := h2
    exact ⟨u + 1 - v, by linear_combination hu - hv⟩

theorem henselB_some {n d r b : Nat} (h : henselB n d r = some b) :
    0 < d ∧ r * r % d = n % d ∧
    ∃ i, invMod (2 * r) d = some i ∧
      b = r + (if r * r ≤ n then (n - r * r) / d % d else (d - (r * r - n) / d % d) % d) * i % d * d := by
  unfold henselB at h
  simp only [Option.ite_none_left_eq_some, ne_eq, not_not] at h
  obtain ⟨hd, hr, h⟩ := h
  split at h
  · cases h
  · rename_i hh hhh
    cases chkU_some hhh
    split at h
    · cases h
    · rename_i i hi
      exact ⟨Nat.pos_of_ne_zero hd, hr, i, hi, chkU_some h⟩

theorem henselB_sq {n d r b : Nat} (h : henselB n d r = some b) : b * b % (d * d) = n % (d * d) := by
  obtain ⟨hd, hr, i, hi, hb⟩ := henselB_some h
  obtain ⟨_, hinv, _⟩ := invMod_some hd hi
  rw [hb]
  by_cases hle : r * r ≤ n
  · rw [if_pos hle]; exact hensel n d r i hd hr hle hinv
  · rw [if_neg hle]; exact hensel_neg n d r i hd hr (by omega) hinv

/-- the polynomial of `make_poly` is exact -/
structure MpqsOk (n : Nat) (pol : Poly) : Prop where
  da : pol.a = pol.d * pol.d
  odd : n % 4 = 1 → pol.b % 2 = 1 ∧
    (4 * (pol.a : Int)) * pol.c = (pol.b : Int) * pol.b - n ∧ 2 * pol.bb = n + pol.b
  even : n % 4 ≠ 1 → pol.b = 2 * pol.bb ∧ (pol.a : Int) * pol.c = (pol.bb : Int) * pol.bb - n

theorem sq_lt_254 {d : Nat} (h : d < 2 ^ 127) : d * d < 2 ^ 254 :=
  calc d * d < 2 ^ 127 * 2 ^ 127 := Nat.mul_lt_mul'' h h
    _ = 2 ^ 254 := by norm_num

/-- `assert!(c.bits() < 256)`: the cast to `I256` keeps `c` -/
theorem wrap256_of_bitlen {c : Int} (h : bitlen c.natAbs < 256) : wrap256 c = c := by
  apply Ymq.PolyBits.wrap256_eq
  have hlt := Ymq.PolyBits.lt_of_bitlen_lt h
  have e : (2 : Nat) ^ (256 - 1) = 57896044618658097711785492504343953926634992332820282019728792003956564819968 := by
    norm_num
  rw [e] at hlt
  unfold P255
  omega

theorem tdiv_of_sq_mod {b n m : Nat} (h : b * b % m = n % m) :
    (m : Int) * Int.tdiv (((b * b : Nat) : Int) - (n : Int)) (m : Int) = (b : Int) * b - n := by
  have hdvd : (m : Int) ∣ ((b * b : Nat) : Int) - (n : Int) := (Nat.modEq_iff_dvd.mp (Eq.symm h))
  rw [Int.mul_tdiv_cancel' hdvd]; push_cast; rfl

theorem flip_sq {m b : Nat} (h : b ≤ m) : (m - b) * (m - b) % m = b * b % m :=
  Nat.modEq_iff_dvd.mpr ⟨2 * (b : Int) - m, by push_cast [Nat.cast_sub h]; ring⟩

set_option exponentiation.threshold 1100 in
theorem chkU_isSome {x : Nat} (h : x < 2 ^ 1024) : chkU x = some x := by
  have e : (2 : Nat) ^ 1024 = U1024 := by unfold U1024; norm_num
  unfold chkU
  rw [if_pos (by rw [← e]; exact h)]

/-- the parity fix for `n ≡ 1 (mod 4)`: `4` and `D²` are coprime, so the congruences modulo `4` and `D²` combine -/
theorem oddB_sq {n d b0 : Nat} (hdodd : d % 2 = 1) (hpos : 0 < b0) (hlt : b0 < d * d)
    (hsq : b0 * b0 % (d * d) = n % (d * d)) (hn4 : n % 4 = 1) :
    oddB d b0 < d * d ∧ oddB d b0 * oddB d b0 % (4 * (d * d)) = n % (4 * (d * d)) := by
  have hddodd : d * d % 2 = 1 := by rw [Nat.mul_mod, hdodd]
  have hob : oddB d b0 < d * d ∧ oddB d b0 % 2 = 1 := by unfold oddB; split <;> omega
  have hobsq : oddB d b0 * oddB d b0 % (d * d) = n % (d * d) := by
    unfold oddB
    split
    · rw [flip_sq hlt.le]; exact hsq
    · exact hsq
  refine ⟨hob.1, (Nat.modEq_iff_dvd.mpr ?_ : _ ≡ n [MOD 4 * (d * d)])⟩
  have h := odd_sq_crt (B := (oddB d b0 : Nat)) (n := n) (M := (d * d : Nat)) (by omega) (by omega) (by omega)
    (by simpa using Nat.modEq_iff_dvd.mp (Eq.symm hobsq : n ≡ _ [MOD d * d]))
  rw [← dvd_neg]
  simpa using h

theorem mkOdd_ok {n d b0 dinv : Nat} {pol : Poly} (hdb : d < 2 ^ 127) (hb : b0 < 2 ^ 255)
    (h : mkOdd n d b0 dinv = some pol) (hn : n % 4 = 1) : MpqsOk n pol ∧ pol.d = d ∧ pol.dinv = dinv := by
  unfold mkOdd at h
  simp only [Option.ite_none_left_eq_some, not_and, not_not, ne_eq, Option.some.injEq] at h
  obtain ⟨hlt, hsq, hc, rfl⟩ := h
  have hdd := sq_lt_254 hdb
  have hbl : oddB d b0 < 2 ^ 256 := by unfold oddB; split <;> omega
  -- `b² ≡ n ≡ 1 (mod 4)`, so `b` is odd
  have hbodd : oddB d b0 % 2 = 1 := by
    have h4 : oddB d b0 * oddB d b0 % 4 = n % 4 := Nat.ModEq.of_mul_right (d * d) hsq
    by_contra hb0
    obtain ⟨m, hm⟩ : ∃ m, oddB d b0 = 2 * m := ⟨oddB d b0 / 2, by omega⟩
    rw [hm, show 2 * m * (2 * m) = 4 * (m * m) by ring] at h4
    omega
  have hq := tdiv_of_sq_mod hsq
  refine ⟨⟨?_, ?_, fun hne => absurd hn hne⟩, rfl, rfl⟩
  · exact Nat.mod_eq_of_lt (by omega)
  · intro _
    simp only
    rw [Nat.mod_eq_of_lt hbl, Nat.mod_eq_of_lt (by omega : d * d < 2 ^ 256), wrap256_of_bitlen hc]
    exact ⟨hbodd, by push_cast at hq ⊢; exact hq, by omega⟩

theorem mkEven_ok {n d b0 dinv : Nat} {pol : Poly} (hdb : d < 2 ^ 127) (hb : b0 < 2 ^ 255)
    (hb0 : b0 * b0 % (d * d) = n % (d * d))
    (h : mkEven n d b0 dinv = some pol) (hn : n % 4 ≠ 1) :
    MpqsOk n pol ∧ pol.d = d ∧ pol.dinv = dinv := by
  unfold mkEven at h
  simp only [Option.ite_none_left_eq_some, not_and, not_not, Option.some.injEq] at h
  obtain ⟨hlt, hc, rfl⟩ := h
  have hdd := sq_lt_254 hdb
  have hbl : evenB d b0 < 2 ^ 255 := by unfold evenB; split <;> omega
  -- `b² ≡ n (mod d²)` also after the flip `b ↦ d² − b`
  have hsq : evenB d b0 * evenB d b0 % (d * d) = n % (d * d) := by
    unfold evenB
    split
    · rename_i hodd
      have hle : b0 ≤ d * d := by
        by_contra hc'; exact absurd hodd (by have := hlt (by omega); omega)
      rw [flip_sq hle]; exact hb0
    · exact hb0
  have hq := tdiv_of_sq_mod hsq
  refine ⟨⟨?_, fun h1 => absurd h1 hn, ?_⟩, rfl, rfl⟩
  · exact Nat.mod_eq_of_lt (by omega)
  · intro _
    simp only
    rw [Nat.mod_eq_of_lt (by omega : 2 * evenB d b0 < 2 ^ 256), Nat.mod_eq_of_lt (by omega : d * d < 2 ^ 256),
      wrap256_of_bitlen hc]
    exact ⟨rfl, by push_cast at hq ⊢; exact hq⟩

theorem makePoly_ok {n d r : Nat} {pol : Poly} (h : makePoly n d r = some pol) :
    MpqsOk n pol ∧ pol.d = d ∧ pol.dinv < n ∧ d * pol.dinv % n = 1 % n := by
  unfold makePoly at h
  split at h
  · cases h
  · rename_i b hb
    split at h
    · cases h
    · rename_i dinv hdinv
      simp only [Option.ite_none_left_eq_some, ne_eq, not_not] at h hdinv
      obtain ⟨hdbits, hbbits, hsq, h⟩ := h
      have hdb : d < 2 ^ 127 := Ymq.PolyBits.lt_of_bitlen_lt hdbits
      have hbb : b < 2 ^ 255 := Ymq.PolyBits.lt_of_bitlen_lt hbbits
      obtain ⟨hi1, hi2, _⟩ := invMod_some (Nat.pos_of_ne_zero hdinv.1) hdinv.2
      obtain ⟨ok, hd', hdi⟩ : MpqsOk n pol ∧ pol.d = d ∧ pol.dinv = dinv := by
        split at h
        · exact mkOdd_ok hdb hbb h ‹_›
        · exact mkEven_ok hdb hbb hsq h ‹_›
      exact ⟨ok, hd', by rw [hdi]; exact hi1, by rw [hdi]; exact hi2⟩

/-- the value of the MPQS polynomial at `y`: `A y² + B y + C` -/
def mpqsVal (pol : Poly) (y : Int) : Int := (pol.a : Int) * y ^ 2 + (pol.b : Int) * y + pol.c

/-- a table entry of `prepare_prime`: for `ainv` an inverse of `L` modulo `p`, the shifted position of
`t·ainv mod p` solves `L·(x + offset) ≡ t` -/
theorem shift_root {p : Nat} (hp : 0 < p) {L : Int} {ainv : Nat} (hL : (L : ZMod p) * (ainv : ZMod p) = 1)
    (t : Nat) (offset : Int) :
    shift p (offset % (p : Int)).toNat (t * ainv % p) < p ∧
    (L : ZMod p) * (((shift p (offset % (p : Int)).toNat (t * ainv % p) : Nat) : ZMod p) + (offset : ZMod p))
      = (t : ZMod p) := by
  obtain ⟨hofflt, hoffz⟩ := emod_toNat_spec hp offset
  have ht := Nat.mod_lt (t * ainv) hp
  have hz : ((shift p (offset % (p : Int)).toNat (t * ainv % p) : Nat) : ZMod p)
      = ((t * ainv % p : Nat) : ZMod p) - (offset : ZMod p) := by
    rw [← hoffz]
    unfold shift
    split
    · rw [Nat.cast_sub (by omega), Nat.cast_add, ZMod.natCast_self, add_zero]
    · rw [Nat.cast_sub (by omega)]
  refine ⟨by unfold shift; split <;> omega, ?_⟩
  rw [hz, ZMod.natCast_mod, Nat.cast_mul]
  linear_combination (t : ZMod p) * hL

/-- generic branch: `p` odd, `p ∤ D` -/
theorem preparePrime_generic {n : Nat} {pol : Poly} {p r dinv : Nat} {offset : Int} {r1 r2 : Nat}
    (ok : MpqsOk n pol) (hp : Nat.Prime p) (hp2 : p ≠ 2)
    (hsq : (r : Int) * r ≡ n [ZMOD p]) (hdinv0 : dinv ≠ 0) (hdinv : pol.d * dinv % p = 1)
    (h : preparePrime pol p r dinv offset = some (r1, r2)) (x : Int) :
    r1 < p ∧ r2 < p ∧
    ((p : Int) ∣ mpqsVal pol (x + offset) ↔ (x ≡ (r1 : Int) [ZMOD p] ∨ x ≡ (r2 : Int) [ZMOD p])) := by
  have hppos : 0 < p := hp.pos
  -- `dinv² mod p` inverts `A = D²`
  have hdz : (pol.d : ZMod p) * (dinv : ZMod p) = 1 :=
    zmod_mul_eq_one (by rw [hdinv, Nat.mod_eq_of_lt hp.one_lt])
  have haz : (pol.a : ZMod p) * ((dinv * dinv % p : Nat) : ZMod p) = 1 := by
    rw [ok.da, ZMod.natCast_mod]; push_cast
    linear_combination ((pol.d : ZMod p) * (dinv : ZMod p) + 1) * hdz
  -- either parity of `B`: the completed square `M·P(y) = (L·y + bz)² − n`, the inverse of `L` and the residue of `bz`
  obtain ⟨L, M, bz, hid, hML, hLinv, hbz⟩ : ∃ L M bz : Int,
      (M * mpqsVal pol (x + offset) = (L * (x + offset) + bz) ^ 2 - n) ∧ (M = L ∨ M = 2 * L) ∧
      (L : ZMod p) * (((if pol.b % 2 = 1 then (halfMod p (dinv * dinv % p), pol.b % p)
        else (dinv * dinv % p, pol.bb % p)).1 : Nat) : ZMod p) = 1 ∧
      ((((if pol.b % 2 = 1 then (halfMod p (dinv * dinv % p), pol.b % p)
        else (dinv * dinv % p, pol.bb % p)).2 : Nat)) : ZMod p) = (bz : ZMod p) := by
    by_cases hbodd : pol.b % 2 = 1
    · -- odd `B`: `n ≡ 1 (mod 4)`, `L = 2A`, `M = 4A`, and `ainv` is half of `D⁻²`
      have hn4 : n % 4 = 1 := by
        by_contra hne
        have := (ok.even hne).1; omega
      obtain ⟨_, hc, _⟩ := ok.odd hn4
      have hpodd : p % 2 = 1 := hp.eq_two_or_odd.resolve_left hp2
      have hhalf : 2 * halfMod p (dinv * dinv % p) = dinv * dinv % p ∨
          2 * halfMod p (dinv * dinv % p) = dinv * dinv % p + p := by
        have := Nat.mod_lt (dinv * dinv) hppos
        unfold halfMod; split <;> omega
      have hainv2 := two_mul_cast hhalf
      refine ⟨2 * pol.a, 4 * pol.a, pol.b, ?_, Or.inr (by ring), ?_, ?_⟩
      · unfold mpqsVal; linear_combination hc
      · rw [if_pos hbodd]; push_cast
        linear_combination (pol.a : ZMod p) * hainv2 + haz
      · rw [if_pos hbodd, ZMod.natCast_mod, Int.cast_natCast]
    · -- even `B = 2·bb`: `L = M = A`
      have hn4 : n % 4 ≠ 1 := fun h4 => hbodd (ok.odd h4).1
      obtain ⟨hb2, hc⟩ := ok.even hn4
      refine ⟨pol.a, pol.a, pol.bb, ?_, Or.inl rfl, ?_, ?_⟩
      · unfold mpqsVal; rw [hb2]; push_cast; linear_combination hc
      · rw [if_neg hbodd, Int.cast_natCast]; exact haz
      · rw [if_neg hbodd, ZMod.natCast_mod, Int.cast_natCast]
  have hblt : (if pol.b % 2 = 1 then (halfMod p (dinv * dinv % p), pol.b % p)
      else (dinv * dinv % p, pol.bb % p)).2 < p := by split <;> exact Nat.mod_lt _ hppos
  unfold preparePrime at h
  simp only [hppos.ne', if_false, hp2, hdinv0, Option.ite_none_left_eq_some, Option.some.injEq, Prod.mk.injEq] at h
  generalize (if pol.b % 2 = 1 then (halfMod p (dinv * dinv % p), pol.b % p)
    else (dinv * dinv % p, pol.bb % p)) = ab at h hLinv hbz hblt
  obtain ⟨hund, rfl, rfl⟩ := h
  obtain ⟨hs1, hz1⟩ := shift_root hppos hLinv (p + r - ab.2) offset
  obtain ⟨hs2, hz2⟩ := shift_root hppos hLinv (2 * p - r - ab.2) offset
  refine ⟨hs1, hs2, ?_⟩
  have hpL : ¬ (p : Int) ∣ L := not_dvd_of_zmod_inv hp hLinv
  have hpM : ¬ (p : Int) ∣ M := by
    rcases hML with rfl | rfl
    · exact hpL
    · exact fun hd => (int_prime_dvd_mul hp hd).elim (not_dvd_two hp hp2) hpL
  rw [quad_roots_iff hp hid hpM hpL hsq (r1 := (shift p (offset % (p : Int)).toNat ((2 * p - r - ab.2) * ab.1 % p) : Nat))
    (r2 := (shift p (offset % (p : Int)).toNat ((p + r - ab.2) * ab.1 % p) : Nat)) ?_ ?_]
  · exact Or.comm
  · apply zmod_to_modEq; push_cast
    rw [hz2, Nat.cast_sub (by omega), Nat.cast_sub (by omega), ← hbz]; push_cast
    rw [ZMod.natCast_self]; ring
  · apply zmod_to_modEq; push_cast
    rw [hz1, Nat.cast_sub (by omega), ← hbz]; push_cast
    rw [ZMod.natCast_self]; ring

/-- `p = 2`: the pair `(0, 1)` covers every position -/
theorem preparePrime_two {pol : Poly} {r dinv : Nat} {offset : Int} :
    preparePrime pol 2 r dinv offset = some (0, 1) ∧
      ∀ x : Int, x ≡ ((0 : Nat) : Int) [ZMOD (2 : Nat)] ∨ x ≡ ((1 : Nat) : Int) [ZMOD (2 : Nat)] :=
  ⟨by simp [preparePrime], fun x => Int.emod_two_eq_zero_or_one x⟩

/-- `p` odd, `p ∣ D` (`dinv = 0`): the polynomial is `Bx + C` modulo `p`; one root, for either sign of `C` -/
theorem preparePrime_div {n : Nat} {pol : Poly} {p r : Nat} {offset : Int} {r1 r2 : Nat}
    (ok : MpqsOk n pol) (hp : Nat.Prime p) (hp2 : p ≠ 2) (hpd : p ∣ pol.d)
    (h : preparePrime pol p r 0 offset = some (r1, r2)) (x : Int) :
    r1 = r2 ∧ r1 < p ∧ ((p : Int) ∣ mpqsVal pol (x + offset) ↔ x ≡ (r1 : Int) [ZMOD p]) := by
  have hppos : 0 < p := hp.pos
  unfold preparePrime at h
  simp only [hppos.ne', if_false, hp2, if_true, Option.ite_none_left_eq_some] at h
  obtain ⟨_, h⟩ := h
  split at h
  · cases h
  · rename_i binv hbinv
    obtain ⟨_, hb2, _⟩ := invMod_some hppos hbinv
    have hbz : ((pol.b : Int) : ZMod p) * (binv : ZMod p) = 1 := by
      rw [Int.cast_natCast]
      exact zmod_mul_eq_one (by rw [← hb2, Nat.mod_mul_mod])
    obtain ⟨hs, hz⟩ := shift_root hppos hbz
      (if pol.c < 0 ∨ pol.c.natAbs % p = 0 then pol.c.natAbs % p else p - pol.c.natAbs % p) offset
    have hcz : ((if pol.c < 0 ∨ pol.c.natAbs % p = 0 then pol.c.natAbs % p else p - pol.c.natAbs % p : Nat) : ZMod p)
        = -(pol.c : ZMod p) := by
      refine neg_residue hppos ?_
      split
      · exact Or.inl ⟨rfl, ‹_›⟩
      · exact Or.inr ⟨rfl, fun hn => ‹¬ _› (Or.inl hn)⟩
    rw [hcz] at hz
    simp only [Option.some.injEq, Prod.mk.injEq] at h
    obtain ⟨rfl, rfl⟩ := h
    refine ⟨rfl, hs, lin_root_iff hp (Lc := (pol.b : Int)) (C := pol.c) (so := offset) ?_
      (not_dvd_of_zmod_inv hp hbz) (zmod_to_modEq (by push_cast; push_cast at hz; rw [hz]; ring))⟩
    -- `p ∣ D`, so `A = D²` vanishes modulo `p`
    unfold mpqsVal
    rw [ok.da]
    obtain ⟨e, he⟩ := hpd
    exact Int.modEq_iff_dvd.mpr ⟨-(e * pol.d) * (x + offset) ^ 2, by rw [he]; push_cast; ring⟩

end Ymq.PolyMpqs
