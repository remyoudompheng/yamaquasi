/-
The arithmetic of one Montgomery reduction, over plain numbers: base `W`, modulus `n`, `ninv` with
`n·ninv ≡ -1 (mod W)`, input `x`. With `m = (x mod W)·ninv mod W` the sum `x + m·n` is a multiple
of `W`, the quotient `t` satisfies `t·W ≡ x (mod n)`, and `t < 2n` when `x < n·W`. The one-word
(`W = 2^64`), two-word (`W = 2^128`) and limb-row (`W = 2^64`, `x` a window value) routines all
instantiate these statements.
-/
import Mathlib.Data.Nat.ModEq
import Mathlib.Tactic.Ring
import Mathlib.Tactic.Linarith

namespace Ymq.Mont

variable {W n ninv x : Nat}

theorem low_cancel (h : (n * ninv + 1) % W = 0) (x : Nat) :
    (x + x % W * ninv % W * n) % W = 0 := by
  have h1 : x % W * ninv % W ≡ x * ninv [MOD W] :=
    (Nat.mod_modEq _ _).trans ((Nat.mod_modEq x W).mul_right ninv)
  have h2 : x + x % W * ninv % W * n ≡ x * (n * ninv + 1) [MOD W] := by
    rw [show x * (n * ninv + 1) = x + x * ninv * n by ring]
    exact Nat.ModEq.add_left x (h1.mul_right n)
  have h3 : x * (n * ninv + 1) ≡ x * 0 [MOD W] := Nat.ModEq.mul_left x h
  simpa [Nat.ModEq] using h2.trans h3

/-- A non-zero low word and the low word of `m·n` add up to exactly `W`: the carry out of the
low half is 1, which is what the word routines add without computing the sum. -/
theorem low_add (hW : 0 < W) (h : (n * ninv + 1) % W = 0) (hlo : x % W ≠ 0) :
    x % W + x % W * ninv % W * n % W = W := by
  have h0 : (x % W + x % W * ninv % W * n % W) % W = 0 := by
    rw [Nat.add_mod, Nat.mod_mod, Nat.mod_mod, ← Nat.add_mod]; exact low_cancel h x
  have h1 := Nat.mod_lt x hW
  have h2 := Nat.mod_lt (x % W * ninv % W * n) hW
  exact Nat.eq_of_dvd_of_lt_two_mul (by omega) (Nat.dvd_of_mod_eq_zero h0) (by omega)

theorem hi_add (hW : 0 < W) (h : (n * ninv + 1) % W = 0) (hlo : x % W ≠ 0) :
    (x / W + x % W * ninv % W * n / W + 1) * W = x + x % W * ninv % W * n := by
  have e0 := low_add hW h hlo
  generalize x % W * ninv % W * n = mn at e0 ⊢
  have e1 := Nat.div_add_mod x W
  have e2 := Nat.div_add_mod mn W
  rw [Nat.add_mul, Nat.add_mul, Nat.one_mul, Nat.mul_comm (x / W), Nat.mul_comm (mn / W)]
  omega

theorem mhi_lt {m : Nat} (hW : 0 < W) (hn : 0 < n) (hm : m < W) : m * n / W < n :=
  (Nat.div_lt_iff_lt_mul hW).2 (Nat.mul_comm n W ▸ Nat.mul_lt_mul_of_pos_right hm hn)

theorem quot_lt {t m c : Nat} (ht : t * W = x + m * n) (hm : m < W) (hx : x < c * W) : t < c + n := by
  have : m * n ≤ W * n := Nat.mul_le_mul_right n hm.le
  have : t * W < (c + n) * W := by rw [ht, Nat.add_mul, Nat.mul_comm n W]; omega
  exact Nat.lt_of_mul_lt_mul_right this

theorem cios_lt {t a xi y m : Nat} (ht : t * W = a + xi * y + m * n) (ha : a < 2 * n) (hxi : xi < W)
    (hy : y ≤ n) (hm : m < W) : t < 2 * n := by
  have h1 : xi * y ≤ (W - 1) * n := Nat.mul_le_mul (Nat.le_pred_of_lt hxi) hy
  have h2 : m * n ≤ (W - 1) * n := Nat.mul_le_mul_right n (Nat.le_pred_of_lt hm)
  have h3 : (W - 1) * n + n = W * n := by
    rw [← Nat.succ_mul, Nat.succ_eq_add_one, Nat.sub_add_cancel (by omega)]
  have : t * W < 2 * n * W := by rw [ht, Nat.mul_assoc, Nat.mul_comm n W]; omega
  exact Nat.lt_of_mul_lt_mul_right this

theorem mul_mod_of_eq {t m : Nat} (ht : t * W = x + m * n) : t * W % n = x % n := by
  rw [ht, Nat.add_mul_mod_self_right]

theorem sub_mul_mod {t : Nat} (hn : n ≤ t) (W : Nat) : (t - n) * W % n = t * W % n := by
  rw [Nat.sub_mul]; exact Nat.sub_mul_mod (Nat.mul_le_mul_right W hn)

/-- The high half of a reduction as the one- and two-word routines compute it for `x mod W ≠ 0`:
`t = x/W + m·n/W + 1`, less `n` when `t ≥ n`; `c` is any bound `n ≤ c ≤ W` on `x/W`. -/
theorem redc_tail {c : Nat} (hW : 0 < W) (hn : 0 < n) (hnc : n ≤ c) (hcW : c ≤ W)
    (h : (n * ninv + 1) % W = 0) (hx : x < c * W) (hlo : x % W ≠ 0) :
    ∃ r, (if n < x % W * ninv % W * n / W + 1 then none
        else if x / W ≥ n - x % W * ninv % W * n / W - 1 then
          some (x / W - (n - x % W * ninv % W * n / W - 1))
        else if x / W + x % W * ninv % W * n / W + 1 ≥ W then none
        else some (x / W + x % W * ninv % W * n / W + 1)) = some r ∧ r < c ∧ r * W % n = x % n := by
  have hsum := hi_add hW h hlo
  have hmW : x % W * ninv % W < W := Nat.mod_lt _ hW
  generalize x % W * ninv % W = m at hsum hmW ⊢
  have hmhi := mhi_lt hW hn hmW
  have ht := quot_lt hsum hmW hx
  have hmod := mul_mod_of_eq hsum
  generalize m * n / W = mhi at *
  generalize x / W = hi at *
  rw [if_neg (by omega)]
  by_cases hge : hi ≥ n - mhi - 1
  · rw [if_pos hge]
    refine ⟨_, rfl, by omega, ?_⟩
    rw [show hi - (n - mhi - 1) = hi + mhi + 1 - n by omega, sub_mul_mod (by omega), hmod]
  · rw [if_neg hge, if_neg (by omega)]
    exact ⟨_, rfl, by omega, hmod⟩

theorem coprime_two_pow {n : Nat} (h : n % 2 = 1) (k : Nat) : Nat.Coprime n (2 ^ k) := by
  refine Nat.Coprime.pow_right k ?_
  rw [Nat.Coprime, Nat.gcd_comm, Nat.gcd_rec, h, Nat.gcd_one_left]

/-! Montgomery form: `x ≡ a·R (mod n)` with `R` prime to `n`. The lemmas take the congruences in which the
reduction and multiplication specifications state their results and give the residue that a word stands for. -/

theorem form_mul {n R r x y a b : Nat} (hc : Nat.Coprime n R) (h : r * R ≡ x * y [MOD n])
    (hx : x ≡ a * R [MOD n]) (hy : y ≡ b * R [MOD n]) : r ≡ a * b * R [MOD n] :=
  Nat.ModEq.cancel_right_of_coprime hc
    (h.trans ((hx.mul hy).trans (by rw [Nat.mul_mul_mul_comm, ← Nat.mul_assoc])))

theorem form_redc {n R r x a : Nat} (hc : Nat.Coprime n R) (h : r * R ≡ x [MOD n])
    (hx : x ≡ a * R [MOD n]) : r ≡ a [MOD n] :=
  Nat.ModEq.cancel_right_of_coprime hc (h.trans hx)

theorem form_inj {n R a b : Nat} (hc : Nat.Coprime n R) : a * R ≡ b * R [MOD n] ↔ a ≡ b [MOD n] :=
  ⟨Nat.ModEq.cancel_right_of_coprime hc, Nat.ModEq.mul_right R⟩

/-- what added to the form of `1` gives `0` is the form of `n - 1` -/
theorem form_neg_one {n R r o : Nat} (hn : 0 < n) (h : r + o ≡ 0 [MOD n]) (ho : o ≡ 1 * R [MOD n]) :
    r ≡ (n - 1) * R [MOD n] := by
  have e : (n - 1) * R + 1 * R = n * R := by rw [← Nat.add_mul, Nat.sub_add_cancel hn]
  have h2 : (n - 1) * R + o ≡ 0 [MOD n] :=
    ((Nat.ModEq.refl _).add ho).trans (e ▸ (Nat.modEq_zero_iff_dvd.2 (Nat.dvd_mul_right n R)))
  exact Nat.ModEq.add_right_cancel' o (h.trans h2.symm)

theorem eq_of_modEq_of_lt {n a b : Nat} (h : a ≡ b [MOD n]) (ha : a < n) : a = b % n :=
  (Nat.mod_eq_of_lt ha).symm.trans h

end Ymq.Mont
