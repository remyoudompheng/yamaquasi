/-
The two closure records of the Berlekamp-Massey model satisfy `OpsOK`: the 64-bit Montgomery closures
`mgOps` for an odd prime `p < 2^63`, with `κ = 1/R`, `R = 2^64` (the bound is `dotp`'s: the `u128` sum
`a*b + c*d` overflows for a 64-bit prime, `mgDotp_overflow_64bit_prime`), and the `%`-closures
`bigOps` over `U256`/`U512` with `inv_mod::<4>` for a prime `p < 2^244`, with `κ = 1`.
The word-level facts come from C07 and C09.
-/
import Ymq.Lemmas.BerlekampMasseyOps
import Ymq.Props.C07
import Ymq.Props.C09
import Ymq.Lemmas.Mg64
import Mathlib.Data.ZMod.Basic
import Mathlib.Algebra.Field.ZMod
import Mathlib.Tactic.Ring
import Mathlib.Tactic.Linarith
import Mathlib.Tactic.FieldSimp

namespace Ymq.BM
open Ymq.Mg64

private theorem W_eq : W = 2 ^ 64 := by decide

private theorem two_lt_of_odd_prime (p : ℕ) [hp : Fact p.Prime] (hodd : p % 2 = 1) : 2 < p := by
  have := hp.out.two_le
  omega

private theorem W_ne_zero (p : ℕ) [hp : Fact p.Prime] (hodd : p % 2 = 1) : (W : ZMod p) ≠ 0 := by
  intro h
  rw [ZMod.natCast_eq_zero_iff, W_eq] at h
  have h2 : p ∣ 2 := hp.out.dvd_of_dvd_pow h
  have := Nat.le_of_dvd (by decide) h2
  have := two_lt_of_odd_prime p hodd
  omega

private theorem redc_cast {p r x : ℕ} (hodd : p % 2 = 1) (h : r * W % p = x % p) :
    (r : ZMod p) = (W : ZMod p)⁻¹ * x := by
  rw [cast_of_redc hodd h, mul_comm]

private theorem coprime_of_pos_lt {p a : ℕ} [hp : Fact p.Prime] (h0 : 0 < a) (ha : a < p) :
    Nat.gcd a p = 1 := by
  rw [Nat.gcd_comm]
  exact (Nat.Prime.coprime_iff_not_dvd hp.out).2 (Nat.not_dvd_of_pos_of_lt h0 ha)

private theorem mgInvp_spec (p pinv : ℕ) [Fact p.Prime] (hodd : p % 2 = 1) (hpW : p < W)
    (hpinv : (p * pinv + 1) % W = 0) (a : ℕ) (h0 : 0 < a) (ha : a < p) :
    ∃ r, mgInvp p pinv (W % p * (W % p) % p) a = some r ∧ r < p ∧
      (r : ZMod p) * a = (W : ZMod p) * W := by
  have hp0 : 0 < p := by omega
  have hr2 : W % p * (W % p) % p < W := lt_trans (Nat.mod_lt _ hp0) hpW
  obtain ⟨r, e1, e2, e3⟩ := (Ymq.C07.mgInv_spec p pinv _ a hodd hpW hpinv hr2 (lt_trans ha hpW)).1
    (coprime_of_pos_lt h0 ha)
  refine ⟨r, by simp only [mgInvp, e1], e2, ?_⟩
  have h1 : ((r * a : ℕ) : ZMod p) = ((W % p * (W % p) % p : ℕ) : ZMod p) :=
    (ZMod.natCast_eq_natCast_iff' _ _ _).2 e3
  rw [ZMod.natCast_mod, Nat.cast_mul, Nat.cast_mul, ZMod.natCast_mod] at h1
  exact h1

/-- Field by field, C07's word-level facts read in `ZMod p`: `mg_redc(x) = x / R`, so `mulp` and `dotp`
carry the factor `κ = 1/R`; `mg_inv(a) = R² / a`, so `κ² · invp(a) · a = 1`; `p < 2^63` keeps `dotp`'s sum
`a*b + c*d < 2p² ≤ p · 2^64` in the domain of `mg_redc` and `subp`'s `a + (p - b)` below `2^64`. -/
theorem mgOps_ok (p pinv : ℕ) [Fact p.Prime] (hodd : p % 2 = 1) (hp : p < 2 ^ 63)
    (hpinv : (p * pinv + 1) % Ymq.Mg64.W = 0) :
    OpsOK (mgOps p pinv (Ymq.Mg64.W % p * (Ymq.Mg64.W % p) % p)) p ((Ymq.Mg64.W : ZMod p)⁻¹) := by
  have hp0 : 0 < p := by omega
  have hpW : p < W := by rw [W_eq]; omega
  have h2pW : 2 * p ≤ W := by rw [W_eq]; omega
  have hW : (W : ZMod p) ≠ 0 := W_ne_zero p hodd
  constructor
  · intro a b ha hb
    obtain ⟨r, e1, e2, e3⟩ := Ymq.C07.mgMul_spec p pinv a b hp0 hpW hpinv ha (lt_trans hb hpW)
    refine ⟨r, e1, e2, ?_⟩
    rw [redc_cast hodd e3, Nat.cast_mul, mul_assoc]
  · intro _ a b c d ha hb hc hd
    have hab : a * b < p * p := Nat.mul_lt_mul_of_lt_of_lt ha hb
    have hcd : c * d < p * p := Nat.mul_lt_mul_of_lt_of_lt hc hd
    have hs : a * b + c * d < p * W := by
      have : p * p + p * p ≤ p * W := by
        rw [← Nat.mul_add, ← Nat.two_mul]; exact Nat.mul_le_mul_left p h2pW
      omega
    have hs128 : ¬ (a * b + c * d ≥ U128) := by
      have : p * W < W * W := Nat.mul_lt_mul_of_pos_right hpW (by decide)
      have hU : W * W = U128 := by decide
      omega
    obtain ⟨r, e1, e2, e3⟩ := Ymq.C07.mgRedc_spec p pinv (a * b + c * d) hp0 hpW hpinv hs
    refine ⟨r, ?_, e2, ?_⟩
    · show mgDotp p pinv a b c d = some r
      unfold mgDotp
      simp only [hs128, if_false, e1]
    · rw [redc_cast hodd e3]; push_cast; rfl
  · intro a h0 ha
    obtain ⟨r, e1, e2, e3⟩ := mgInvp_spec p pinv hodd hpW hpinv a h0 ha
    refine ⟨r, e1, e2, ?_⟩
    rw [mul_assoc, e3]
    field_simp
  · intro a b ha hb
    show ∃ r, mgSubp p a b = some r ∧ _
    unfold mgSubp
    by_cases hba : b ≤ a
    · rw [if_pos hba]
      exact ⟨a - b, rfl, by omega, Nat.cast_sub hba⟩
    · rw [if_neg hba, if_neg (by omega), if_neg (by omega)]
      refine ⟨a + (p - b), rfl, by omega, ?_⟩
      rw [Nat.cast_add, Nat.cast_sub (le_of_lt hb), ZMod.natCast_self]
      ring
  · intro a h0 ha
    obtain ⟨i, e1, e2, e3⟩ := mgInvp_spec p pinv hodd hpW hpinv a h0 ha
    obtain ⟨q, f1, f2, f3⟩ := Ymq.C07.mgRedc_spec p pinv i hp0 hpW hpinv
      (lt_of_lt_of_le e2 (Nat.le_mul_of_pos_right p (by decide)))
    refine ⟨q, ?_, f2, ?_⟩
    · show (do let i ← mgInvp p pinv _ a; mgRedc p pinv i) = some q
      rw [e1]; exact f1
    · rw [redc_cast hodd f3, mul_assoc, mul_assoc, e3]
      field_simp

/-- the prelude of `berlekamp_massey` (lines 582-591) does not panic for an odd prime `p < 2^63`:
`mg_2adic_inv(p)` returns a valid `pinv`, `p ≠ 0`, and the `debug_assert!(mulp(2, invp(2)) == r)`
holds; the loop then runs with the closures `mgOps p pinv (R² mod p)`. -/
theorem bm_prelude (p : ℕ) [Fact p.Prime] (hodd : p % 2 = 1) (hp : p < 2 ^ 63) (seq : List ℕ) :
    ∃ pinv, (p * pinv + 1) % Ymq.Mg64.W = 0 ∧
      bm p seq = core (mgOps p pinv (Ymq.Mg64.W % p * (Ymq.Mg64.W % p) % p)) seq := by
  obtain ⟨pinv, e1, _, e3⟩ := Ymq.C07.mg2adicInv_spec p hodd
  refine ⟨pinv, e3, ?_⟩
  have ok := mgOps_ok p pinv hodd hp e3
  have h2 := two_lt_of_odd_prime p hodd
  have hp0 : p ≠ 0 := by omega
  have hW := W_ne_zero p hodd
  obtain ⟨i2, f1, f2, f3⟩ := ok.inv 2 (by decide) h2
  obtain ⟨m2, g1, g2, g3⟩ := ok.mul 2 i2 h2 f2
  have hm : m2 = W % p := by
    have h : (m2 : ZMod p) = (W : ZMod p) := by
      rw [g3]
      calc (W : ZMod p)⁻¹ * ((2 : ℕ) : ZMod p) * (i2 : ZMod p)
          = ((W : ZMod p) * (W : ZMod p)⁻¹) * ((W : ZMod p)⁻¹ * ((2 : ℕ) : ZMod p) * (i2 : ZMod p)) := by
            rw [mul_inv_cancel₀ hW, one_mul]
        _ = (W : ZMod p) * ((W : ZMod p)⁻¹ * (W : ZMod p)⁻¹ * (i2 : ZMod p) * ((2 : ℕ) : ZMod p)) := by
            ring
        _ = (W : ZMod p) := by rw [f3, mul_one]
    have := (ZMod.natCast_eq_natCast_iff' m2 W p).1 h
    rwa [Nat.mod_eq_of_lt g2] at this
  have f1' : mgInvp p pinv (W % p * (W % p) % p) 2 = some i2 := f1
  have g1' : mgMul p pinv 2 i2 = some m2 := g1
  unfold bm
  rw [e1]
  simp only [Option.bind_eq_bind, Option.bind_some, if_neg hp0]
  show (do
    let i2 ← mgInvp p pinv (W % p * (W % p) % p) 2
    let m2 ← mgMul p pinv 2 i2
    if m2 ≠ W % p then none else core (mgOps p pinv (W % p * (W % p) % p)) seq) = _
  rw [f1']
  simp only [Option.bind_eq_bind, Option.bind_some, g1', hm, ne_eq, not_true_eq_false, if_false]

/-- `inv_mod::<4>(a, p).unwrap()` on a non-zero residue of a prime `p < 2^244` -/
private theorem bigInvp_spec (p : ℕ) [Fact p.Prime] (hp : p < 2 ^ 244) (a : ℕ) (h0 : 0 < a)
    (ha : a < p) : ∃ r, bigInvp p a = some r ∧ r < p ∧ (r : ZMod p) * a = 1 := by
  have hp0 : p ≠ 0 := (Fact.out : p.Prime).ne_zero
  obtain ⟨r, hr⟩ := Ymq.C09.inv_mod_no_panic 4 (by decide) a p hp0 (lt_trans ha hp) hp
  have hs := Ymq.C09.inv_mod_spec 4 (by decide) a p r hr
  cases r with
  | ok x =>
    obtain ⟨h1, h2⟩ := hs
    refine ⟨x, by simp only [bigInvp, hr], h1, ?_⟩
    have h3 : ((a * x : ℕ) : ZMod p) = ((1 : ℕ) : ZMod p) :=
      (ZMod.natCast_eq_natCast_iff' _ _ _).2 h2
    rw [Nat.cast_mul, Nat.cast_one] at h3
    rw [mul_comm]; exact h3
  | err d =>
    obtain ⟨h1, h2⟩ := hs
    exact absurd (h1.trans (coprime_of_pos_lt h0 ha)) h2

theorem bigOps_ok (p : ℕ) [Fact p.Prime] (hp : p < 2 ^ 244) : OpsOK (bigOps p) p (1 : ZMod p) := by
  have hp0 : p ≠ 0 := (Fact.out : p.Prime).ne_zero
  have hpos : 0 < p := Nat.pos_of_ne_zero hp0
  constructor
  · intro a b _ _
    refine ⟨a * b % p, ?_, Nat.mod_lt _ hpos, ?_⟩
    · show (if p = 0 then none else some (a * b % p)) = _
      rw [if_neg hp0]
    · rw [ZMod.natCast_mod, Nat.cast_mul, one_mul]
  · -- dot: the two-term step does not exist
    intro h
    exact absurd (h : false = true) Bool.false_ne_true
  · intro a h0 ha
    obtain ⟨r, e1, e2, e3⟩ := bigInvp_spec p hp a h0 ha
    exact ⟨r, e1, e2, by rw [one_mul, one_mul]; exact e3⟩
  · intro a b ha hb
    show ∃ r, bigSubp p a b = some r ∧ _
    unfold bigSubp
    by_cases hba : a ≥ b
    · rw [if_pos hba]
      exact ⟨a - b, rfl, by omega, Nat.cast_sub hba⟩
    · have hU : U256 = 2 ^ 256 := rfl
      rw [if_neg hba, if_neg (by omega)]
      refine ⟨a + p - b, rfl, by omega, ?_⟩
      rw [Nat.cast_sub (by omega), Nat.cast_add, ZMod.natCast_self, add_zero]
  · intro a h0 ha
    obtain ⟨r, e1, e2, e3⟩ := bigInvp_spec p hp a h0 ha
    exact ⟨r, e1, e2, by rw [one_mul]; exact e3⟩

theorem bmBig_eq (p : ℕ) (seq : List ℕ) : bmBig p seq = core (bigOps p) seq := rfl

/-- The bound `p < 2^63` of `mgOps_ok` matters. For `P = 2^64 - 59 = 18446744073709551557` (the
largest 64-bit prime; its primality is not proved here), which is odd, `< 2^64`, and comes with the
valid `pinv` that `mg_2adic_inv` returns, the `u128` sum `a*b + c*d` of `dotp` overflows on the
reduced operands `a = b = c = d = P - 1`: a panic in the checked profile (the release profile wraps
and returns a wrong residue). -/
theorem mgDotp_overflow_64bit_prime :
    18446744073709551557 % 2 = 1 ∧ 18446744073709551557 < W ∧ 2 ^ 63 < 18446744073709551557 ∧
    mg2adicInv 18446744073709551557 = some 14694863923124558067 ∧
    (18446744073709551557 * 14694863923124558067 + 1) % W = 0 ∧
    mgDotp 18446744073709551557 14694863923124558067 18446744073709551556 18446744073709551556
      18446744073709551556 18446744073709551556 = none := by
  decide +kernel

/-- non-vacuity of `mgOps_ok`/`bm_prelude` hypotheses and a concrete run: `p = 7`. -/
example : (7 : ℕ) % 2 = 1 ∧ (7 : ℕ) < 2 ^ 63 ∧ (7 * 10540996613548315209 + 1) % W = 0 ∧
    mg2adicInv 7 = some 10540996613548315209 := by decide +kernel

end Ymq.BM
