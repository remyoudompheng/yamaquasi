/-
C14 "small", helper lemmas (Mathlib): matrix semantics of `mul_aab_opt` (`mulAabOpt`):
its output is `Bᵗ·(B·y)` (dense 64-row part through `comb`, the other rows through the transposed
coordinate list); hence the Gram matrix of `genblock` is `yᵗ (BᵗB)³ y`, its rank is at most
`rank (BᵗB)³ ≤ rank B`, and below 64 `genblock` refuses every block: it never ends.
-/
import Ymq.Lemmas.Gf2SmallBlockMat

namespace Ymq.Gf2Small
open Ymq.Gf2 Ymq.Gf2Genblock
open scoped Matrix

/-- bit `t` of `comb a B k0`: the rows of `B` selected by the bits `k0, k0 + 1, …` of `a` -/
theorem testBit_comb (a : Nat) (B : Mat) (t : Nat) : ∀ k0,
    (comb a B k0).testBit t = xsum ((List.range B.length).map (fun r => (a.testBit (k0 + r) && (row B r).testBit t))) := by
  induction B with
  | nil => intro k0; simp [comb]
  | cons b B ih =>
    intro k0
    rw [comb, Nat.testBit_xor, ih (k0 + 1), List.length_cons, xsum_range_succ']
    congr 1
    · cases h : a.testBit k0 <;> simp [row]
    · apply xsum_map_congr
      intro r _
      rw [show k0 + 1 + r = k0 + (r + 1) by omega]
      rfl

theorem xsum_filter {α} (l : List α) (p f : α → Bool) :
    xsum ((l.filter p).map f) = xsum (l.map (fun a => (p a && f a))) := by
  induction l with
  | nil => rfl
  | cons a l ih =>
    rw [List.filter_cons]
    cases hp : p a
    · simp [ih, hp]
    · simp [ih, hp]

theorem testBit_comb_denseWord (col : List Nat) (B : Mat) (t : Nat) :
    (comb (denseWord col) B 0).testBit t =
      xsum ((col.filter (fun a => a < 64)).map (fun a => (row B a).testBit t)) := by
  rw [testBit_comb, xsum_filter]
  -- both sides are the sum over the pairs `(r, a)`, `r < B.length`, `a ∈ col`, `a = r < 64`
  have h1 : ∀ r, ((denseWord col).testBit (0 + r) && (row B r).testBit t) =
      xsum (col.map (fun a => (a == r && (decide (r < 64) && (row B r).testBit t)))) := by
    intro r
    rw [xsum_map_beq_and, Nat.zero_add, testBit_denseWord]
    cases decide (r < 64) <;> simp
  rw [xsum_map_congr (fun r _ => h1 r), xsum_comm]
  apply xsum_map_congr
  intro a _
  have h2 : ∀ r, (a == r && (decide (r < 64) && (row B r).testBit t)) =
      (r == a && (decide (a < 64) && (row B a).testBit t)) := by
    intro r
    by_cases e : a = r
    · subst e; rfl
    · have e' : ¬ r = a := fun h => e h.symm
      rw [beq_false_of_ne e, beq_false_of_ne e']; rfl
  rw [xsum_map_congr (fun r _ => h2 r), xsum_range_single]
  by_cases ha : a < B.length
  · simp [ha]
  · rw [row_of_ge (Nat.le_of_not_lt ha)]; simp

theorem xsum_filter_split (l : List Nat) (f : Nat → Bool) :
    (xsum ((l.filter (fun a => a < 64)).map f) ^^ xsum ((l.filter (fun a => ¬ a < 64)).map f)) = xsum (l.map f) := by
  induction l with
  | nil => rfl
  | cons a l ih =>
    by_cases ha : a < 64
    · simp only [List.filter_cons, ha, decide_true, if_true, not_true_eq_false, decide_false, Bool.false_eq_true,
        if_false, List.map_cons, xsum_cons, ← ih, Bool.xor_assoc]
    · simp only [List.filter_cons, ha, decide_false, Bool.false_eq_true, if_false, not_false_eq_true, decide_true,
        if_true, List.map_cons, xsum_cons, ← ih]
      cases f a <;> cases xsum ((l.filter (fun a => a < 64)).map f) <;> simp

/-- the coordinate list read by columns: the words `tmp[a]` over the row indices `a ≥ 64` of column `c` -/
theorem xsum_coords_col (tmp : Array Nat) (c t k : Nat) (cols : List (List Nat)) (hk : k ≤ U32)
    (hn : cols.length ≤ U32) (hwf : ∀ col ∈ cols, ∀ a ∈ col, a < k) (hc : c < cols.length) :
    xsum ((coordsFrom 0 cols).map (fun p => (p.2 == c && (cell tmp p.1).testBit t))) =
      xsum (((cols.getD c []).filter (fun a => ¬ a < 64)).map (fun a => (cell tmp a).testBit t)) := by
  rw [xsum_coordsFrom_eq _ 0 k cols hk (by omega) hwf]
  simp only [Nat.zero_add, xsum_map_and]
  rw [xsum_range_single, decide_eq_true hc, Bool.true_and]

theorem getD_take64 (l : List Nat) {a : Nat} (ha : a < 64) : (l.take 64).getD a 0 = l.getD a 0 := by
  simp [List.getD_eq_getElem?_getD, ha]

/-- bit `t` of word `c` of `mul_aab_opt(B, y)`: the xor of the words `tmp[a]`, `tmp = B·y`, over the
row indices `a` listed in column `c` (with repetitions) -/
theorem mulAabOpt_bits (k : Nat) (cols : List (List Nat)) (y tmp ay : List Nat)
    (hk : k ≤ U32) (hn : cols.length ≤ U32) (hwf : ∀ col ∈ cols, ∀ a ∈ col, a < k)
    (ht : optMul (qsOptimize k cols) y = some tmp) (h : mulAabOpt (qsOptimize k cols) y = some ay) :
    ay.length = cols.length ∧ ∀ c, c < cols.length → ∀ t,
      (ay.getD c 0).testBit t = xsum ((cols.getD c []).map (fun a => (tmp.getD a 0).testBit t)) := by
  unfold mulAabOpt at h
  rw [ht] at h
  simp only [] at h
  cases ha : applyCoords tmp.toArray (List.map (fun p => (p.2, p.1)) (qsOptimize k cols).xy)
      (List.map (fun r => comb r (List.take 64 tmp) 0) (qsOptimize k cols).block).toArray with
  | none => rw [ha] at h; cases h
  | some out' =>
    rw [ha] at h
    simp only [Option.map_some, Option.some.injEq] at h
    subst h
    obtain ⟨hsize, hbits⟩ := applyCoords_spec _ _ _ _ ha
    refine ⟨by simp [hsize, qsOptimize], ?_⟩
    intro c hc t
    have e1 : out'.toList.getD c 0 = cell out' c := by
      simp [cell, List.getD_eq_getElem?_getD]
    rw [e1, hbits c t, cell_toArray]
    have hd : ((List.map (fun r => comb r (List.take 64 tmp) 0) (qsOptimize k cols).block).getD c 0).testBit t =
        xsum (((cols.getD c []).filter (fun a => a < 64)).map (fun a => (tmp.getD a 0).testBit t)) := by
      have hget : (List.map (fun r => comb r (List.take 64 tmp) 0) (qsOptimize k cols).block).getD c 0 =
          comb (denseWord (cols.getD c [])) (List.take 64 tmp) 0 := by
        simp [qsOptimize, List.getD_eq_getElem?_getD, List.getElem?_map, List.getElem?_eq_getElem hc]
      rw [hget, testBit_comb_denseWord]
      congr 1
      apply List.map_congr_left
      intro a ha'
      have : a < 64 := by simpa using (List.mem_filter.mp ha').2
      exact congrArg (Nat.testBit · t) (getD_take64 tmp this)
    have hcoord : xsum (List.map (fun c' : Nat × Nat => (c'.1 == c && (cell tmp.toArray c'.2).testBit t))
        (List.map (fun p => (p.2, p.1)) (qsOptimize k cols).xy)) =
        xsum (((cols.getD c []).filter (fun a => ¬ a < 64)).map (fun a => (tmp.getD a 0).testBit t)) := by
      rw [List.map_map]
      have := xsum_coords_col tmp.toArray c t k cols hk hn hwf hc
      simp only [Function.comp_def, qsOptimize]
      rw [this]
      congr 1
      apply List.map_congr_left
      intro a _
      rw [cell_toArray]
    rw [hd, hcoord, xsum_filter_split]

theorem mulAabOpt_lt (k : Nat) (cols : List (List Nat)) (y ay : List Nat)
    (hk : k ≤ U32) (hn : cols.length ≤ U32) (hwf : ∀ col ∈ cols, ∀ a ∈ col, a < k)
    (hy : ∀ w ∈ y, w < 2 ^ 64) (h : mulAabOpt (qsOptimize k cols) y = some ay) :
    ∀ w ∈ ay, w < 2 ^ 64 := by
  cases ht : optMul (qsOptimize k cols) y with
  | none => unfold mulAabOpt at h; rw [ht] at h; cases h
  | some tmp =>
    obtain ⟨hl, hbits⟩ := mulAabOpt_bits k cols y tmp ay hk hn hwf ht h
    have htmp := optMul_lt k cols y tmp hk hn hwf hy ht
    intro w hw
    obtain ⟨c, hc, rfl⟩ := List.getElem_of_mem hw
    apply Nat.lt_pow_two_of_testBit
    intro t ht64
    have := hbits c (hl ▸ hc) t
    rw [List.getD_eq_getElem?_getD, List.getElem?_eq_getElem hc] at this
    simp only [Option.getD_some] at this
    rw [this]
    apply xsum_eq_false_of_forall
    intro b hb
    obtain ⟨a, _, rfl⟩ := List.mem_map.mp hb
    rw [← cell_toArray]
    exact testBit_of_lt_of_ge (cell_lt_of tmp htmp a) ht64

theorem colParity_cons (a : Nat) (col : List Nat) (i : Nat) :
    colParity (a :: col) i = ((a == i) ^^ colParity col i) := by simp [colParity]

/-- histogram identity: a sum over the listed indices is the sum over all rows weighted by the parity -/
theorem toZ_xsum_col (k : Nat) (col : List Nat) (f : Nat → Bool) (hwf : ∀ a ∈ col, a < k) :
    toZ (xsum (col.map f)) = ∑ i : Fin k, toZ (colParity col i.1) * toZ (f i.1) := by
  induction col with
  | nil => simp [colParity]
  | cons a col ih =>
    rw [List.map_cons, xsum_cons, toZ_xor, ih (fun a' h => hwf a' (by simp [h]))]
    have ha : a < k := hwf a (by simp)
    have hsplit : ∀ i : Fin k, toZ (colParity (a :: col) i.1) * toZ (f i.1) =
        toZ (a == i.1) * toZ (f i.1) + toZ (colParity col i.1) * toZ (f i.1) := by
      intro i; rw [colParity_cons, toZ_xor, add_mul]
    rw [Finset.sum_congr rfl (fun i _ => hsplit i), Finset.sum_add_distrib]
    congr 1
    rw [Finset.sum_eq_single (⟨a, ha⟩ : Fin k)]
    · simp
    · intro i _ hne
      have : (a == i.1) = false := by
        simp only [beq_eq_false_iff_ne, ne_eq]
        intro e; exact hne (Fin.ext e.symm)
      rw [this]; simp
    · intro h; exact absurd (Finset.mem_univ _) h

/-- `B·y` of the model as a matrix product -/
theorem cellMat_optMul (k : Nat) (cols : List (List Nat)) (y tmp : List Nat)
    (hk : k ≤ U32) (hn : cols.length ≤ U32) (hwf : ∀ col ∈ cols, ∀ a ∈ col, a < k)
    (h : optMul (qsOptimize k cols) y = some tmp) :
    cellMat tmp.toArray k = sparseMat k cols * cellMat y.toArray cols.length := by
  obtain ⟨hy, hk64⟩ := optMul_some_inv k cols y tmp h
  obtain ⟨blk, hb, _, hbits⟩ := optMul_spec k cols y hk64 hk hn hy hwf
  rw [h] at hb
  injection hb with hb
  subst hb
  funext r t
  rw [Matrix.mul_apply]
  show toZ ((cell tmp.toArray r.1).testBit t.1) = _
  rw [cell_toArray, hbits r.1 t.1]
  simp only [r.2, decide_true, Bool.true_and]
  rw [toZ_prodBitFrom]
  apply Finset.sum_congr rfl
  intro j _
  rw [Nat.zero_add]
  rfl

/-- `mul_aab_opt(B, y) = Bᵗ·(B·y)` -/
theorem cellMat_mulAabOpt (k : Nat) (cols : List (List Nat)) (y ay : List Nat)
    (hk : k ≤ U32) (hn : cols.length ≤ U32) (hwf : ∀ col ∈ cols, ∀ a ∈ col, a < k)
    (h : mulAabOpt (qsOptimize k cols) y = some ay) :
    ay.length = cols.length ∧
    cellMat ay.toArray cols.length =
      (sparseMat k cols)ᵀ * (sparseMat k cols * cellMat y.toArray cols.length) := by
  cases ht : optMul (qsOptimize k cols) y with
  | none => unfold mulAabOpt at h; rw [ht] at h; cases h
  | some tmp =>
    obtain ⟨hl, hbits⟩ := mulAabOpt_bits k cols y tmp ay hk hn hwf ht h
    refine ⟨hl, ?_⟩
    rw [← cellMat_optMul k cols y tmp hk hn hwf ht]
    funext c t
    rw [Matrix.mul_apply]
    show toZ ((cell ay.toArray c.1).testBit t.1) = _
    rw [cell_toArray, hbits c.1 c.2 t.1,
      toZ_xsum_col k (cols.getD c.1 []) (fun a => (tmp.getD a 0).testBit t.1) (by
        intro a ha
        have hm : cols.getD c.1 [] ∈ cols := by
          simp [List.getD_eq_getElem?_getD]
        exact hwf _ hm a ha)]
    apply Finset.sum_congr rfl
    intro i _
    show _ = toZ (colParity cols[c.1] i.1) * toZ ((cell tmp.toArray i.1).testBit t.1)
    rw [cell_toArray]
    congr 3
    simp [List.getD_eq_getElem?_getD]

theorem mulAabOpt_total (k : Nat) (cols : List (List Nat)) (y : List Nat) (hk64 : 64 ≤ k)
    (hk : k ≤ U32) (hn : cols.length ≤ U32) (hwf : ∀ col ∈ cols, ∀ a ∈ col, a < k)
    (hy : y.length = cols.length) : ∃ ay, mulAabOpt (qsOptimize k cols) y = some ay ∧ ay.length = cols.length := by
  obtain ⟨tmp, ht, htl, _⟩ := optMul_spec k cols y hk64 hk hn hy hwf
  obtain ⟨out', ha⟩ := applyCoords_some tmp.toArray (List.map (fun p => (p.2, p.1)) (qsOptimize k cols).xy)
    (List.map (fun r => comb r (List.take 64 tmp) 0) (qsOptimize k cols).block).toArray (by
      intro c hc
      obtain ⟨p, hp, rfl⟩ := List.mem_map.mp hc
      have := mem_coordsFrom 0 k cols hk (by omega) hwf p hp
      simp only [qsOptimize, List.size_toArray, List.length_map, htl]
      omega)
  have hay : mulAabOpt (qsOptimize k cols) y = some out'.toList := by
    unfold mulAabOpt; rw [ht]; simp only []; rw [ha]; rfl
  exact ⟨_, hay, (cellMat_mulAabOpt k cols y _ hk hn hwf hay).1⟩

theorem gramOf_total (k : Nat) (cols : List (List Nat)) (y : List Nat) (hk64 : 64 ≤ k)
    (hk : k ≤ U32) (hn : cols.length ≤ U32) (hwf : ∀ col ∈ cols, ∀ a ∈ col, a < k)
    (hy : y.length = cols.length) : ∃ g, gramOf (qsOptimize k cols) y = some g := by
  obtain ⟨ay, hay, hayl⟩ := mulAabOpt_total k cols y hk64 hk hn hwf hy
  obtain ⟨bay, hb, _, _⟩ := optMul_spec k cols ay hk64 hk hn hayl hwf
  unfold gramOf
  rw [hay]; simp only []; rw [hb]; simp only [blockDot, if_true]
  exact ⟨_, rfl⟩

/-- `A = BᵗB` -/
def gramA (k : Nat) (cols : List (List Nat)) : Matrix (Fin cols.length) (Fin cols.length) (ZMod 2) :=
  (sparseMat k cols)ᵀ * sparseMat k cols

/-- the Gram matrix tested by `genblock` is `yᵗ (BᵗB)³ y` -/
theorem gram_eq_cube (k : Nat) (cols : List (List Nat)) (y g : List Nat)
    (hk : k ≤ U32) (hn : cols.length ≤ U32) (hwf : ∀ col ∈ cols, ∀ a ∈ col, a < k)
    (h : gramOf (qsOptimize k cols) y = some g) :
    toMat 64 g = (cellMat y.toArray cols.length)ᵀ *
      ((gramA k cols * gramA k cols * gramA k cols) * cellMat y.toArray cols.length) := by
  unfold gramOf at h
  cases h1 : mulAabOpt (qsOptimize k cols) y with
  | none => rw [h1] at h; cases h
  | some ay =>
    rw [h1] at h
    simp only [] at h
    cases h2 : optMul (qsOptimize k cols) ay with
    | none => rw [h2] at h; cases h
    | some bay =>
      rw [h2] at h
      simp only [] at h
      obtain ⟨_, hay⟩ := cellMat_mulAabOpt k cols y ay hk hn hwf h1
      obtain ⟨hy', hk64⟩ := optMul_some_inv k cols ay bay h2
      obtain ⟨blk, hb, hlen, _⟩ := optMul_spec k cols ay hk64 hk hn hy' hwf
      rw [h2] at hb; cases hb
      rw [toMat_blockDot hlen hlen h, cellMat_optMul k cols ay bay hk hn hwf h2, hay]
      simp only [gramA, Matrix.transpose_mul, Matrix.transpose_transpose, Matrix.mul_assoc]

/-- `rank(Gram) ≤ rank (BᵗB)³`: the oracle's exact hang rule -/
theorem gram_rank_le_cube (k : Nat) (cols : List (List Nat)) (y g : List Nat)
    (hk : k ≤ U32) (hn : cols.length ≤ U32) (hwf : ∀ col ∈ cols, ∀ a ∈ col, a < k)
    (h : gramOf (qsOptimize k cols) y = some g) :
    (toMat 64 g).rank ≤ (gramA k cols * gramA k cols * gramA k cols).rank := by
  rw [gram_eq_cube k cols y g hk hn hwf h]
  exact Nat.le_trans (Matrix.rank_mul_le_right _ _) (Matrix.rank_mul_le_left _ _)

/-- `(BᵗB)³ = Bᵗ·(B·BᵗB·BᵗB)`: its rank is at most `rank B` -/
theorem rank_cube_le (k : Nat) (cols : List (List Nat)) :
    (gramA k cols * gramA k cols * gramA k cols).rank ≤ (sparseMat k cols).rank := by
  rw [gramA, Matrix.mul_assoc, Matrix.mul_assoc]
  exact Nat.le_trans (Matrix.rank_mul_le_right _ _) (Matrix.rank_mul_le_left _ _)

theorem gramOf_lt (k : Nat) (cols : List (List Nat)) (y g : List Nat)
    (hk : k ≤ U32) (hn : cols.length ≤ U32) (hwf : ∀ col ∈ cols, ∀ a ∈ col, a < k)
    (hy : ∀ w ∈ y, w < 2 ^ 64) (h : gramOf (qsOptimize k cols) y = some g) : ∀ i, i < 64 → row g i < 2 ^ 64 := by
  unfold gramOf at h
  cases h1 : mulAabOpt (qsOptimize k cols) y with
  | none => rw [h1] at h; cases h
  | some ay =>
    rw [h1] at h
    simp only [] at h
    cases h2 : optMul (qsOptimize k cols) ay with
    | none => rw [h2] at h; cases h
    | some bay =>
      rw [h2] at h
      simp only [] at h
      have hbay := optMul_lt k cols ay bay hk hn hwf (mulAabOpt_lt k cols y ay hk hn hwf hy h1) h2
      exact fun i _ => row_lt_of_mem (blockDot_lt hbay h).2 i

/-- The hang: when `rank (BᵗB)³ < 64` (in particular when `rank B < 64`, `rank_cube_le`) the model of `genblock`
refuses every block of every stream of 64-bit words -/
theorem genblock_refuses_all_cube (dbg : Bool) (k : Nat) (cols : List (List Nat)) (ys : List (List Nat))
    (hk64 : 64 ≤ k) (hk : k ≤ U32) (hn : cols.length ≤ U32) (hwf : ∀ col ∈ cols, ∀ a ∈ col, a < k)
    (hrank : (gramA k cols * gramA k cols * gramA k cols).rank < 64)
    (hys : ∀ y ∈ ys, y.length = cols.length ∧ ∀ w ∈ y, w < 2 ^ 64) :
    ∀ y ∈ ys, ∃ g rk mk, gramOf (qsOptimize k cols) y = some g ∧ rank 64 dbg g = some (rk, mk) ∧ rk ≠ 64 := by
  intro y hy
  obtain ⟨hyl, hy64⟩ := hys y hy
  obtain ⟨g, hg⟩ := gramOf_total k cols y hk64 hk hn hwf hyl
  have hle := gram_rank_le_cube k cols y g hk hn hwf hg
  obtain ⟨rk, mk, hr, hF⟩ := rank_spec_aux dbg (gramOf_lt k cols y g hk hn hwf hy64 hg)
  refine ⟨g, rk, mk, hg, hr, ?_⟩
  have := hF.matrix_rank
  omega

end Ymq.Gf2Small
