/-
The 64-bit Montgomery routines (Ymq/Model/Mg64.lean): `mg_redc` / `mg_mul` on their domain, and the
Montgomery form `mform p a = a·2^64 mod p` through which every user of `mg_mul` reasons (products,
powers, equality of forms is equality of residues).
-/
import Ymq.Model.Mg64
import Ymq.Lemmas.MontCore
import Ymq.Lemmas.Inv2adic
import Ymq.Lemmas.BinPow
import Mathlib.Data.ZMod.Basic

namespace Ymq.Mg64

/-- `c` is any bound `n ≤ c ≤ 2^64` on the high word of `x`, and the result is below `c`: `c = n` is the documented domain of
`mg_redc` (result fully reduced); C19Dense runs it on the wide form `c = 2n`. -/
theorem mgRedc_of_lt {n ninv x c : Nat} (hn : 0 < n) (hnc : n ≤ c) (hcW : c ≤ W)
    (hninv : (n * ninv + 1) % W = 0) (hx : x < c * W) :
    ∃ r, mgRedc n ninv x = some r ∧ r < c ∧ r * W % n = x % n := by
  have hW0 := W_pos
  have hhi : x / W < c := (Nat.div_lt_iff_lt_mul hW0).2 hx
  unfold mgRedc
  simp only [Nat.mod_eq_of_lt (lt_of_lt_of_le hhi hcW)]
  by_cases hlo : x % W = 0
  · rw [if_pos hlo]
    exact ⟨x / W, rfl, hhi, by rw [Nat.div_mul_cancel (Nat.dvd_of_mod_eq_zero hlo)]⟩
  · rw [if_neg hlo, Mont.low_add hW0 hninv hlo, Nat.mod_self, if_neg (by simp), Nat.mod_eq_of_lt
      (lt_of_lt_of_le (Mont.mhi_lt hW0 hn (Nat.mod_lt _ hW0)) (hnc.trans hcW))]
    exact Mont.redc_tail hW0 hn hnc hcW hninv hx hlo

theorem mgMul_of_lt {n ninv x y : Nat} (hn : 0 < n) (hnW : n < W) (hninv : (n * ninv + 1) % W = 0)
    (hx : x < n) (hy : y < W) : ∃ r, mgMul n ninv x y = some r ∧ r < n ∧ r * W % n = x * y % n :=
  mgRedc_of_lt hn le_rfl hnW.le hninv (Nat.mul_lt_mul_of_lt_of_lt hx hy)

/-- Montgomery form of the residue `a` modulo `p` (R = 2^64). -/
def mform (p a : Nat) : Nat := a * W % p

/-- the set-up of a 64-bit Montgomery context is valid -/
structure MontOk (p pinv : Nat) : Prop where
  one_lt : 1 < p
  odd : p % 2 = 1
  lt : p < W
  inv : (p * pinv + 1) % W = 0

theorem coprime_W (p : Nat) (hodd : p % 2 = 1) : Nat.gcd p W = 1 :=
  W_eq ▸ Mont.coprime_two_pow hodd 64

theorem mform_lt {p : Nat} (hp : 0 < p) (a : Nat) : mform p a < p := Nat.mod_lt _ hp

theorem mform_inj {p : Nat} (hodd : p % 2 = 1) (a b : Nat) :
    mform p a = mform p b ↔ a % p = b % p :=
  Mont.form_inj (coprime_W p hodd)

theorem mform_mod (p a : Nat) : mform p (a % p) = mform p a := by
  unfold mform; exact Nat.ModEq.mul_right W (Nat.mod_modEq a p)

theorem mform_zero_iff {p : Nat} (hodd : p % 2 = 1) {a : Nat} (ha : a < p) : mform p a = 0 ↔ a = 0 := by
  have h0 : mform p 0 = 0 := by simp [mform]
  have := mform_inj hodd a 0
  rwa [h0, Nat.mod_eq_of_lt ha, Nat.zero_mod] at this

theorem mform_one_pos {p : Nat} (h1 : 1 < p) (hodd : p % 2 = 1) : 0 < mform p 1 :=
  Nat.pos_of_ne_zero fun h => Nat.one_ne_zero ((mform_zero_iff hodd h1).1 h)

theorem eq_mform_of_modEq {p y t : Nat} (hy : y < p) (h : y ≡ t * W [MOD p]) : y = mform p t :=
  Mont.eq_of_modEq_of_lt h hy

/-- forms in `ZMod p`; `cast_of_redc` below does the same for a reduction result -/
theorem cast_mform (p a : Nat) : ((mform p a : Nat) : ZMod p) = (a : ZMod p) * ((W : Nat) : ZMod p) := by
  unfold mform; rw [ZMod.natCast_mod, Nat.cast_mul]

/-- the Montgomery form of `-1` is `p - R mod p`, the `pm1` of `isprime64`. -/
theorem mform_pm1 {p : Nat} (h1 : 1 < p) (hodd : p % 2 = 1) : p - mform p 1 = mform p (p - 1) := by
  have hv := mform_one_pos h1 hodd
  have hv' := mform_lt (by omega : 0 < p) 1
  refine eq_mform_of_modEq (by omega) (Mont.form_neg_one (o := mform p 1) (by omega) ?_ (Nat.mod_modEq _ _))
  rw [Nat.sub_add_cancel hv'.le]; exact Nat.mod_self p

theorem mgMul_eq {p pinv x y : Nat} (h : MontOk p pinv) (hx : x < p) (hy : y < W) (z : Nat)
    (hz : x * y % p = z * W % p) : mgMul p pinv x y = some (z % p) := by
  obtain ⟨r, hr, hlt, hmod⟩ := mgMul_of_lt (by have := h.one_lt; omega) h.lt h.inv hx hy
  rw [hr, Mont.eq_of_modEq_of_lt (Mont.form_redc (coprime_W p h.odd) hmod hz) hlt]

theorem mgMul_mform {p pinv : Nat} (h : MontOk p pinv) (a b : Nat) :
    mgMul p pinv (mform p a) (mform p b) = some (mform p (a * b)) := by
  have hp : 0 < p := by have := h.one_lt; omega
  obtain ⟨r, hr, hlt, hmod⟩ := mgMul_of_lt hp h.lt h.inv (mform_lt hp a) (lt_trans (mform_lt hp b) h.lt)
  rw [hr, eq_mform_of_modEq hlt (Mont.form_mul (coprime_W p h.odd) hmod (Nat.mod_modEq _ _)
    (Nat.mod_modEq _ _))]

/-- `r1 = 0.wrapping_sub(p) % p` is the Montgomery form of 1 -/
theorem r1_eq {p : Nat} (hlt : p < W) : (W - p) % p = mform p 1 := by
  unfold mform
  rw [Nat.one_mul, Nat.mod_eq_sub_mod (Nat.le_of_lt hlt)]

/-- entering Montgomery form: `mul(b, r2)` -/
theorem mgMul_r2 {p pinv : Nat} (h : MontOk p pinv) (b : Nat) (hb : b < p) :
    mgMul p pinv b ((W - p) % p * ((W - p) % p) % p) = some (mform p b) := by
  have hp : 0 < p := by have := h.one_lt; omega
  have := mgMul_eq (y := (W - p) % p * ((W - p) % p) % p) h hb
    (lt_trans (Nat.mod_lt _ hp) h.lt) (b * W) ?_
  · rw [this]; rfl
  · rw [r1_eq h.lt, mform, Nat.one_mul, Nat.mul_assoc b W W]
    exact (Nat.ModEq.refl b).mul
      ((Nat.mod_modEq _ _).trans ((Nat.mod_modEq W p).mul (Nat.mod_modEq W p)))

theorem powLoop_mform {p pinv : Nat} (h : MontOk p pinv) (f X S e : Nat) (he : e < 2 ^ f) :
    powLoop p pinv (f + 1) (mform p X) (mform p S) e = some (mform p (X * S ^ e)) := by
  obtain ⟨_, hz, rfl⟩ := BinPow.loop (R := fun x a => x = mform p a) (mul := mgMul p pinv)
    (fun {_ _ a b} hx hy => by subst hx hy; exact ⟨_, mgMul_mform h a b, rfl⟩) (F := powLoop p pinv)
    (fun _ _ _ => by rw [powLoop, if_pos rfl])
    (fun _ _ _ _ _ _ h0 h1 h2 => by
      rw [powLoop, if_neg h0]
      split at h1 <;> rename_i ho
      · simp only [if_pos ho, h1, h2]; rfl
      · cases h1; simp only [if_neg ho, h2]; rfl) f e _ _ X S he rfl rfl
  exact hz

theorem W_mul_inv {p : Nat} (hodd : p % 2 = 1) : ((W : Nat) : ZMod p) * ((W : Nat) : ZMod p)⁻¹ = 1 :=
  ZMod.coe_mul_inv_eq_one _ (W_eq ▸ (Mont.coprime_two_pow hodd 64).symm)

theorem cast_of_redc {p r x : Nat} (hodd : p % 2 = 1) (h : r * W % p = x % p) :
    (r : ZMod p) = (x : ZMod p) * ((W : Nat) : ZMod p)⁻¹ := by
  have hc : ((r * W : Nat) : ZMod p) = (x : ZMod p) := (ZMod.natCast_eq_natCast_iff' _ _ _).2 h
  rw [← hc, Nat.cast_mul, mul_assoc, W_mul_inv hodd, mul_one]

end Ymq.Mg64
