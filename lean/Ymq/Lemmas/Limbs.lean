/-
Lemmas of the shared limb library (Ymq/Model/Limbs.lean): the value of a little-endian word
list and the exact arithmetic meaning of the carry rows. Everything is stated with `val`
so that a word-level routine is proved by (1) rewriting each row with its `_spec` equation and
(2) a `Nat` argument about the values. `compl_val` is why `subc` computes `x - y + W^len` (read off in `ZmodN.mintSub_spec`).
-/
import Ymq.Model.Limbs
import Mathlib.Tactic.Ring
import Mathlib.Tactic.Linarith
import Mathlib.Tactic.LinearCombination

namespace Ymq.Limbs

theorem W_pos : 0 < W := by decide

@[simp] theorem val_nil : val [] = 0 := rfl
@[simp] theorem val_cons (a : Nat) (l : List Nat) : val (a :: l) = a + W * val l := rfl

theorem val_append (a b : List Nat) : val (a ++ b) = val a + W ^ a.length * val b := by
  induction a with
  | nil => simp
  | cons x xs ih => simp [ih, pow_succ]; ring

theorem Wf_nil : Wf [] := by intro a h; cases h
theorem Wf_cons {a : Nat} {l : List Nat} : Wf (a :: l) ↔ a < W ∧ Wf l := by
  unfold Wf; simp

theorem Wf_append {a b : List Nat} : Wf (a ++ b) ↔ Wf a ∧ Wf b := by
  unfold Wf; simp [or_imp, forall_and]

theorem Wf_reverse {l : List Nat} : Wf l.reverse ↔ Wf l := by unfold Wf; simp

theorem Wf_take {l : List Nat} (h : Wf l) (k : Nat) : Wf (l.take k) :=
  fun a ha => h a (List.mem_of_mem_take ha)
theorem Wf_drop {l : List Nat} (h : Wf l) (k : Nat) : Wf (l.drop k) :=
  fun a ha => h a (List.mem_of_mem_drop ha)
theorem Wf_tail {l : List Nat} (h : Wf l) : Wf l.tail :=
  fun a ha => h a (List.mem_of_mem_tail ha)

theorem val_lt {l : List Nat} (h : Wf l) : val l < W ^ l.length := by
  induction l with
  | nil => simp
  | cons a l ih =>
    have ⟨ha, hl⟩ := Wf_cons.1 h
    have := ih hl
    simp only [val_cons, List.length_cons, pow_succ]
    nlinarith

theorem val_zeros (k : Nat) : val (zeros k) = 0 := by
  induction k with
  | zero => rfl
  | succ k ih => simp [zeros, List.replicate_succ] at *; exact Or.inr ih

theorem Wf_zeros (k : Nat) : Wf (zeros k) := by
  intro a ha; simp [zeros] at ha; rw [ha.2]; exact W_pos

theorem val_append_zeros (l : List Nat) (k : Nat) : val (l ++ zeros k) = val l := by
  rw [val_append, val_zeros, Nat.mul_zero, Nat.add_zero]

theorem Wf_append_zeros {l : List Nat} (h : Wf l) (k : Nat) : Wf (l ++ zeros k) :=
  Wf_append.2 ⟨h, Wf_zeros k⟩

@[simp] theorem zeros_length (k : Nat) : (zeros k).length = k := by simp [zeros]

@[simp] theorem ofNat_length (k x : Nat) : (ofNat k x).length = k := by
  induction k generalizing x with
  | zero => rfl
  | succ k ih => simp [ofNat, ih]

theorem ofNat_Wf (k x : Nat) : Wf (ofNat k x) := by
  induction k generalizing x with
  | zero => exact Wf_nil
  | succ k ih => exact Wf_cons.2 ⟨Nat.mod_lt _ W_pos, ih _⟩

theorem val_ofNat (k x : Nat) : val (ofNat k x) = x % W ^ k := by
  induction k generalizing x with
  | zero => simp [ofNat, Nat.mod_one]
  | succ k ih =>
    simp only [ofNat, val_cons, ih]
    rw [pow_succ, Nat.mul_comm (W ^ k) W, Nat.mod_mul]

theorem val_ofNat_of_lt {k x : Nat} (h : x < W ^ k) : val (ofNat k x) = x := by
  rw [val_ofNat, Nat.mod_eq_of_lt h]

theorem ofNat_take (m k x : Nat) (h : k ≤ m) : (ofNat m x).take k = ofNat k x := by
  induction k generalizing m x with
  | zero => simp [ofNat]
  | succ k ih =>
    cases m with
    | zero => omega
    | succ m => simp [ofNat, ih m (x / W) (by omega)]

theorem ofNat_val {l : List Nat} (h : Wf l) : ofNat l.length (val l) = l := by
  induction l with
  | nil => rfl
  | cons a l ih =>
    have ⟨ha, hl⟩ := Wf_cons.1 h
    simp only [List.length_cons, ofNat, val_cons]
    rw [Nat.add_mul_mod_self_left, Nat.mod_eq_of_lt ha, Nat.add_mul_div_left _ _ W_pos,
      Nat.div_eq_of_lt ha, Nat.zero_add, ih hl]

theorem eq_of_val_eq {x y : List Nat} (hx : Wf x) (hy : Wf y) (hl : x.length = y.length)
    (hv : val x = val y) : x = y := by
  rw [← ofNat_val hx, ← ofNat_val hy, hl, hv]

theorem ofNat_drop (m k x : Nat) (h : k ≤ m) : (ofNat m x).drop k = ofNat (m - k) (x / W ^ k) := by
  induction k generalizing m x with
  | zero => simp
  | succ k ih =>
    cases m with
    | zero => omega
    | succ m =>
      simp only [ofNat, List.drop_succ_cons]
      rw [ih m (x / W) (by omega), Nat.div_div_eq_div_mul, pow_succ, Nat.mul_comm W]
      congr 1; omega

theorem nwordsAux_le_iff : ∀ f x j, x < W ^ f → (nwordsAux f x ≤ j ↔ x < W ^ j) := by
  intro f
  induction f with
  | zero =>
    intro x j h
    rw [pow_zero, Nat.lt_one_iff] at h
    simp [nwordsAux, h, Nat.pow_pos W_pos]
  | succ f ih =>
    intro x j h
    unfold nwordsAux
    by_cases h0 : x = 0
    · simp [h0, Nat.pow_pos W_pos]
    · rw [if_neg h0]
      cases j with
      | zero => simp; omega
      | succ j =>
        rw [Nat.add_comm, Nat.succ_le_succ_iff,
          ih _ j ((Nat.div_lt_iff_lt_mul W_pos).2 (pow_succ W f ▸ h)), Nat.div_lt_iff_lt_mul W_pos,
          pow_succ]

/-- 200 is the fuel `nwords` gives `nwordsAux` -/
theorem nwords_le_iff {x : Nat} (h : x < W ^ 200) (j : Nat) : nwords x ≤ j ↔ x < W ^ j :=
  nwordsAux_le_iff 200 x j h

theorem nwords_eq_succ_iff {x : Nat} (h : x < W ^ 200) (j : Nat) :
    nwords x = j + 1 ↔ W ^ j ≤ x ∧ x < W ^ (j + 1) := by
  rw [← nwords_le_iff h (j + 1), ← Nat.not_lt, ← nwords_le_iff h j]
  omega

theorem headD_mod (l : List Nat) (h : Wf l) (hl : l ≠ []) : l.headD 0 = val l % W := by
  cases l with
  | nil => exact absurd rfl hl
  | cons a l =>
    have ⟨ha, _⟩ := Wf_cons.1 h
    simp [Nat.add_mul_mod_self_left, Nat.mod_eq_of_lt ha]

theorem val_tail (l : List Nat) (h : Wf l) : val l.tail = val l / W := by
  cases l with
  | nil => simp
  | cons a l =>
    have ⟨ha, _⟩ := Wf_cons.1 h
    simp [Nat.add_mul_div_left _ _ W_pos, Nat.div_eq_of_lt ha]

theorem macRow_spec (a : Nat) (ys zs : List Nat) (c : Nat) (h : ys.length = zs.length) :
    val (macRow a ys zs c).1 + W ^ ys.length * (macRow a ys zs c).2 = a * val ys + val zs + c ∧
    (macRow a ys zs c).1.length = ys.length ∧ Wf (macRow a ys zs c).1 := by
  induction ys generalizing zs c with
  | nil => cases zs with
    | nil => simp [macRow, Wf_nil]
    | cons z zs => simp at h
  | cons y ys ih => cases zs with
    | nil => simp at h
    | cons z zs =>
      obtain ⟨h1, h2, h3⟩ := ih zs ((a * y + z + c) / W) (Nat.succ.inj h)
      refine ⟨?_, congrArg (· + 1) h2, Wf_cons.2 ⟨Nat.mod_lt _ W_pos, h3⟩⟩
      simp only [macRow, val_cons, List.length_cons, pow_succ]
      -- the column word `t` leaves `t % W` in place and hands `t / W` to the columns above (`h1`)
      linear_combination W * h1 + Nat.div_add_mod (a * y + z + c) W

theorem addc_eq_macRow (xs ys : List Nat) (c : Nat) : addc xs ys c = macRow 1 xs ys c := by
  induction xs generalizing ys c with
  | nil => rfl
  | cons x xs ih => cases ys with
    | nil => rfl
    | cons y ys => simp only [addc, macRow, ih, Nat.one_mul]

theorem addc_spec (xs ys : List Nat) (c : Nat) (h : xs.length = ys.length) :
    val (addc xs ys c).1 + W ^ xs.length * (addc xs ys c).2 = val xs + val ys + c ∧
    (addc xs ys c).1.length = xs.length ∧ Wf (addc xs ys c).1 := by
  rw [addc_eq_macRow, ← Nat.one_mul (val xs)]
  exact macRow_spec 1 xs ys c h

theorem compl_length (l : List Nat) : (compl l).length = l.length := by simp [compl]

theorem compl_val (l : List Nat) (h : Wf l) : val (compl l) + val l + 1 = W ^ l.length := by
  induction l with
  | nil => simp [compl]
  | cons a l ih =>
    have ⟨ha, hl⟩ := Wf_cons.1 h
    have := ih hl
    have e : W - 1 - a + a + 1 = W := by omega
    simp only [compl, List.map_cons, val_cons, List.length_cons, pow_succ] at this ⊢
    linear_combination e + W * this

theorem compl_Wf (l : List Nat) : Wf (compl l) := by
  intro a ha
  simp only [compl, List.mem_map] at ha
  obtain ⟨y, _, rfl⟩ := ha
  have := W_pos
  omega

theorem addWord_zero (l : List Nat) : addWord l 0 = some l := by
  cases l <;> rfl

theorem addWord_spec (l : List Nat) (c : Nat) (h : Wf l) :
    (∀ r, addWord l c = some r → val r = val l + c ∧ r.length = l.length ∧ Wf r) ∧
    (val l + c < W ^ l.length → ∃ r, addWord l c = some r) := by
  induction l generalizing c with
  | nil =>
    cases c with
    | zero => simp [addWord, Wf_nil]
    | succ c => simp [addWord]
  | cons a as ih =>
    have ⟨ha, hl⟩ := Wf_cons.1 h
    cases c with
    | zero =>
      rw [addWord_zero]
      exact ⟨fun r hr => by cases hr; exact ⟨rfl, rfl, h⟩, fun _ => ⟨_, rfl⟩⟩
    | succ c =>
      obtain ⟨ih1, ih2⟩ := ih ((a + (c + 1)) / W) hl
      have hdm := Nat.div_add_mod (a + (c + 1)) W
      constructor
      · intro r hr
        simp only [addWord] at hr
        cases hq : addWord as ((a + (c + 1)) / W) with
        | none => rw [hq] at hr; cases hr
        | some r' =>
          rw [hq] at hr
          cases hr
          obtain ⟨e1, e2, e3⟩ := ih1 r' hq
          refine ⟨?_, by simp [e2], Wf_cons.2 ⟨Nat.mod_lt _ W_pos, e3⟩⟩
          simp only [val_cons, e1]
          linear_combination hdm
      · intro hlt
        simp only [val_cons, List.length_cons, pow_succ] at hlt
        have : val as + (a + (c + 1)) / W < W ^ as.length := by
          have h2 : (a + (c + 1) + W * val as) / W < W ^ as.length :=
            Nat.div_lt_of_lt_mul (by rw [Nat.mul_comm W (W ^ as.length)]; omega)
          rw [Nat.add_mul_div_left _ _ W_pos] at h2
          omega
        obtain ⟨r', hr'⟩ := ih2 this
        exact ⟨(a + (c + 1)) % W :: r', by simp only [addWord, hr']⟩

theorem lex_lt {P A B x n : Nat} (hA : A < P) (hB : B < P) :
    A + P * x < B + P * n ↔ x < n ∨ x = n ∧ A < B := by
  rcases Nat.lt_trichotomy x n with h | rfl | h
  · have := Nat.mul_le_mul_left P (Nat.succ_le_of_lt h)
    rw [Nat.mul_succ] at this
    exact ⟨fun _ => Or.inl h, fun _ => by omega⟩
  · exact ⟨fun h => Or.inr ⟨rfl, by omega⟩, fun h => by omega⟩
  · have := Nat.mul_le_mul_left P (Nat.succ_le_of_lt h)
    rw [Nat.mul_succ] at this
    exact ⟨fun h' => by omega, fun h' => by omega⟩

theorem ltBE_spec (xs ns : List Nat) (hlen : xs.length = ns.length) (hx : Wf xs) (hn : Wf ns) :
    ltBE xs ns = decide (val xs.reverse < val ns.reverse) := by
  induction xs generalizing ns with
  | nil => cases ns with
    | nil => simp [ltBE]
    | cons n ns => simp at hlen
  | cons x xs ih => cases ns with
    | nil => simp at hlen
    | cons n ns =>
      have hlen' := Nat.succ.inj hlen
      have hA := val_lt (Wf_reverse.2 (Wf_cons.1 hx).2)
      have hB := val_lt (Wf_reverse.2 (Wf_cons.1 hn).2)
      rw [List.length_reverse] at hA hB
      rw [← hlen'] at hB
      simp only [ltBE, List.reverse_cons, val_append, val_cons, val_nil, List.length_reverse,
        Nat.mul_zero, Nat.add_zero, ← hlen', ih ns hlen' (Wf_cons.1 hx).2 (Wf_cons.1 hn).2]
      split_ifs with hxn
      · exact decide_eq_decide.2 (by rw [lex_lt hA hB]; omega)
      · exact decide_eq_decide.2 (by rw [lex_lt hA hB]; omega)

theorem ltWords_spec (xs ns : List Nat) (hlen : xs.length = ns.length) (hx : Wf xs) (hn : Wf ns) :
    ltWords xs ns = decide (val xs < val ns) := by
  unfold ltWords
  rw [ltBE_spec _ _ (by simp [hlen]) (Wf_reverse.2 hx) (Wf_reverse.2 hn)]
  simp

theorem val_take_drop (x : List Nat) (k : Nat) : val x = val (x.take k) + W ^ k * val (x.drop k) := by
  by_cases h : k ≤ x.length
  · conv_lhs => rw [← List.take_append_drop k x]
    rw [val_append, List.length_take, Nat.min_eq_left h]
  · simp [List.take_of_length_le (show x.length ≤ k by omega), List.drop_eq_nil_of_le (show x.length ≤ k by omega)]

theorem allZero_of_val_eq_zero (l : List Nat) (h : val l = 0) : allZero l = true := by
  induction l with
  | nil => rfl
  | cons a l ih =>
    simp only [val_cons] at h
    have ha : a = 0 := by omega
    have hl : val l = 0 := by
      have : W * val l = 0 := by omega
      rcases Nat.mul_eq_zero.1 this with h | h
      · exact absurd h (by decide)
      · exact h
    simp only [allZero, List.all_cons, ha, beq_self_eq_true, Bool.true_and]
    exact ih hl

theorem val_take_lt {x : List Nat} (h : Wf x) (k : Nat) : val (x.take k) < W ^ k := by
  have h1 := val_lt (Wf_take h k)
  have h2 : (x.take k).length ≤ k := by rw [List.length_take]; exact Nat.min_le_left _ _
  exact lt_of_lt_of_le h1 (Nat.pow_le_pow_right W_pos h2)

theorem val_drop_eq_zero {x : List Nat} {k : Nat} (hv : val x < W ^ k) : val (x.drop k) = 0 := by
  have e := val_take_drop x k
  by_contra hne
  have : 1 ≤ val (x.drop k) := Nat.pos_of_ne_zero hne
  have : W ^ k * 1 ≤ W ^ k * val (x.drop k) := Nat.mul_le_mul_left _ this
  omega

theorem val_take_of_lt {x : List Nat} {k : Nat} (hv : val x < W ^ k) : val (x.take k) = val x := by
  rw [val_take_drop x k, val_drop_eq_zero hv, Nat.mul_zero, Nat.add_zero]

theorem ofNat_zero (m : Nat) : ofNat m 0 = zeros m := by
  induction m with
  | zero => rfl
  | succ m ih => simp [ofNat, ih, zeros, List.replicate_succ]

theorem allZero_zeros (m : Nat) : allZero (zeros m) = true := by
  simp [allZero, zeros]

end Ymq.Limbs
