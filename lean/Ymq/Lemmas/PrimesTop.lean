/-
`fbase::primes` as a whole (C17) and its relation with `Nat.nth Nat.Prime`; the `n`-th block of the
`PrimeSieve` model.
-/
import Mathlib.Data.Nat.Nth
import Mathlib.Data.Nat.PrimeFin
import Ymq.Lemmas.PrimesStream

namespace Ymq.Primes

theorem primes_eq (n bnd : Nat) (h : bound n = some bnd) :
    primes n = some ((primesBelow (2 * (bnd / 2))).take n) := by
  have h100 : 100 ≤ bnd := by
    unfold bound at h
    split at h
    · simp only [Option.some.injEq] at h; omega
    · exact absurd h (by simp)
  have hloop := primesLoop_spec n bnd (bnd / 2) (by omega) (bnd / 2) 1
    (Array.replicate (bnd / 2) false) #[2] (by simp) (by omega) (by omega) (by omega)
    (markInv_init bnd (bnd / 2))
    (by simp [primesBelow, List.range_succ, Nat.not_prime_zero, Nat.not_prime_one, Nat.prime_two])
  have heven : ¬ (2 * (bnd / 2)).Prime := fun hp => by have := hp.eq_two_or_odd; omega
  unfold primes
  rw [h]
  simp only
  rw [hloop, primesBelow_succ, if_neg heven]

theorem primesBelow_eq_map_nth (m : Nat) :
    primesBelow m = (List.range (Nat.count Nat.Prime m)).map (Nat.nth Nat.Prime) := by
  induction m with
  | zero => simp [primesBelow]
  | succ m ih =>
    rw [primesBelow_succ, Nat.count_succ]
    by_cases hp : m.Prime
    · rw [if_pos hp, if_pos hp, List.range_succ, List.map_append, ← ih]
      simp [Nat.nth_count hp]
    · rw [if_neg hp, if_neg hp, Nat.add_zero, ih]

theorem take_primesBelow (m k : Nat) (h : k = 0 ∨ Nat.nth Nat.Prime (k - 1) < m) :
    (primesBelow m).take k = (List.range k).map (Nat.nth Nat.Prime) := by
  rw [primesBelow_eq_map_nth, ← List.map_take]
  congr 1
  rcases h with rfl | h
  · simp
  · have : k - 1 < Nat.count Nat.Prime m :=
      (Nat.lt_nth_iff_count_lt Nat.infinite_setOfPred_prime).mpr h
    rw [List.take_range]
    congr 1
    omega

theorem nth_spec (k : Nat) : ∀ (c : Nat) (ps : PrimeSieve), Good ps c → 1 ≤ c → c + k < 65536 →
    ∃ ps', PrimeSieve.nth k ps = some (primesFrom (65536 * (c + k)) 65536, ps') ∧
      Good ps' (c + k + 1) := by
  induction k with
  | zero =>
    intro c ps h h1 hc
    exact next_spec ps c h h1 hc
  | succ k ih =>
    intro c ps h h1 hc
    obtain ⟨ps1, hn, hg⟩ := next_spec ps c h h1 (by omega)
    obtain ⟨ps', hn', hg'⟩ := ih (c + 1) ps1 hg (by omega) (by omega)
    refine ⟨ps', ?_, by rw [show c + (k + 1) + 1 = c + 1 + k + 1 by omega]; exact hg'⟩
    rw [PrimeSieve.nth, hn]
    simp only
    rw [hn', show c + 1 + k = c + (k + 1) by omega]

theorem nth_add (a : Nat) : ∀ (ps : PrimeSieve) blk ps', PrimeSieve.nth a ps = some (blk, ps') →
    ∀ k, PrimeSieve.nth (a + 1 + k) ps = PrimeSieve.nth k ps' := by
  induction a with
  | zero =>
    intro ps blk ps' h k
    rw [PrimeSieve.nth] at h
    rw [show 0 + 1 + k = k + 1 by omega, PrimeSieve.nth, h]
  | succ a ih =>
    intro ps blk ps' h k
    rw [PrimeSieve.nth] at h
    rw [show a + 1 + 1 + k = (a + 1 + k) + 1 by omega, PrimeSieve.nth]
    cases hnx : ps.next with
    | none => rw [hnx] at h; exact absurd h (by simp)
    | some r =>
      rw [hnx] at h
      exact ih r.2 blk ps' h k

theorem nth_end (k : Nat) (ps : PrimeSieve) (h : ps.bc = 65536) :
    PrimeSieve.nth k ps = some ([], ps) := by
  induction k with
  | zero => exact next_end ps h
  | succ k ih =>
    rw [PrimeSieve.nth, next_end ps h]
    exact ih

theorem primesBelow_eq_primesFrom_zero (n : Nat) : primesBelow n = primesFrom 0 n := by
  have h := primesBelow_append 0 n
  rw [Nat.zero_add] at h
  rw [h]
  simp [primesBelow]

end Ymq.Primes
