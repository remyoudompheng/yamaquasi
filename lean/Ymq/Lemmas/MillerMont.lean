/-
The Montgomery-form Miller test of `isprime64` computes the same Boolean as the plain modular
Miller test `Ymq.Pseudoprime.millerBase` (C06).
-/
import Ymq.Lemmas.Mg64
import Ymq.Lemmas.MillerSpec

namespace Ymq.Mg64
open Ymq.Pseudoprime (sqLoopN_step millerBase_eq)

/-- one turn of the squaring loop, stated on opaque words (keeps the kernel away from `W`). -/
theorem sqLoop_step (n ninv one pm1 t pow pow' : Nat) (ok : Bool)
    (h : mgMul n ninv pow pow = some pow') :
    sqLoop n ninv one pm1 (t + 1) pow ok =
      if pow' = pm1 then some true else if pow' = one then some ok
      else sqLoop n ninv one pm1 t pow' ok := by
  rw [sqLoop, h]; rfl

theorem sqLoop_mform {p pinv : Nat} (h : MontOk p pinv) :
    ∀ t y ok, y < p →
      sqLoop p pinv (mform p 1) (mform p (p - 1)) t (mform p y) ok =
        some (Ymq.Pseudoprime.sqLoop p t y ok) := by
  intro t
  induction t with
  | zero => intro y ok _; simp [sqLoop, Ymq.Pseudoprime.sqLoop]
  | succ t ih =>
    intro y ok hy
    have hp : 0 < p := by have := h.one_lt; omega
    rw [sqLoop_step _ _ _ _ _ _ _ _ (mgMul_mform h y y), sqLoopN_step]
    have hpm : (p - 1) % p = p - 1 := Nat.mod_eq_of_lt (by omega)
    have h1m : 1 % p = 1 := Nat.mod_eq_of_lt h.one_lt
    have i1 : mform p (y * y) = mform p (p - 1) ↔ y * y % p = p - 1 := by
      rw [mform_inj h.odd, hpm]
    have i2 : mform p (y * y) = mform p 1 ↔ y * y % p = 1 := by
      rw [mform_inj h.odd, h1m]
    have ih' := ih (y * y % p) ok (Nat.mod_lt _ hp)
    rw [mform_mod] at ih'
    rw [if_congr i1 rfl (if_congr i2 rfl ih')]
    simp only [apply_ite some]

theorem miller_step (c : Ctx) (b bm pow : Nat) (h1 : mgMul c.p c.pinv b c.r2 = some bm)
    (h2 : powLoop c.p c.pinv 65 c.r1 bm c.podd = some pow) :
    miller c b = sqLoop c.p c.pinv c.r1 (c.p - c.r1) c.tz pow (pow = c.r1 || pow = c.p - c.r1) := by
  simp [miller, h1, h2]

theorem miller_eq_millerBase {p pinv : Nat} (h : MontOk p pinv) (s d b : Nat) (hd : d < 2 ^ 64)
    (hb : b < p) :
    miller { p := p, pinv := pinv, r1 := (W - p) % p, r2 := (W - p) % p * ((W - p) % p) % p,
             tz := s, podd := d } b = some (Ymq.Pseudoprime.millerBase p s d b) := by
  have hp : 0 < p := by have := h.one_lt; omega
  have h2 : powLoop p pinv 65 ((W - p) % p) (mform p b) d = some (mform p (1 * b ^ d)) := by
    rw [r1_eq h.lt]; exact powLoop_mform h 64 1 b d hd
  rw [miller_step _ b _ _ (mgMul_r2 h b hb) h2]
  simp only
  rw [millerBase_eq p s d b h.one_lt (lt_trans hd (Nat.pow_lt_pow_right (by decide) (by decide))), Nat.one_mul, r1_eq h.lt,
    mform_pm1 h.one_lt h.odd, ← mform_mod p (b ^ d), sqLoop_mform h _ _ _ (Nat.mod_lt _ hp)]
  have hpm : (p - 1) % p = p - 1 := Nat.mod_eq_of_lt (by omega)
  have h1m : 1 % p = 1 := Nat.mod_eq_of_lt h.one_lt
  have i1 : mform p (b ^ d % p) = mform p (p - 1) ↔ b ^ d % p = p - 1 := by
    rw [mform_inj h.odd, hpm, Nat.mod_mod]
  have i2 : mform p (b ^ d % p) = mform p 1 ↔ b ^ d % p = 1 := by
    rw [mform_inj h.odd, h1m, Nat.mod_mod]
  congr 2
  rw [decide_eq_decide.2 i1, decide_eq_decide.2 i2]

/-- decomposition `p - 1 = d 2^s` computed by `isprime64` -/
theorem tz_podd_spec (p : Nat) (h3 : 2 < p) (hodd : p % 2 = 1) (hlt : p < W) :
    1 ≤ tz64 (p - 1) ∧ tz64 (p - 1) < 64 ∧ p - 1 = p / 2 ^ tz64 (p - 1) * 2 ^ tz64 (p - 1) ∧
      p / 2 ^ tz64 (p - 1) % 2 = 1 ∧ p / 2 ^ tz64 (p - 1) < 2 ^ 64 := by
  obtain ⟨a, b, c⟩ := tz64_spec (p - 1) (by omega) (by omega)
  generalize tz64 (p - 1) = s at *
  have hs : 1 ≤ s := le_of_pow_dvd_of_odd_quot (p - 1) 1 s (by simp; omega) b c
  have hsplit := shift_split p s (by omega) hs b
  have hle : p / 2 ^ s * 1 ≤ p / 2 ^ s * 2 ^ s := Nat.mul_le_mul_left _ (Nat.pow_pos (by decide))
  refine ⟨hs, a, hsplit, ?_, by rw [← W_eq]; omega⟩
  rw [hsplit, Nat.mul_div_cancel _ (Nat.pow_pos (by decide))] at c
  exact c

/-- the context `isprime64` builds for `p` -/
def ctxOf (p pinv : Nat) : Ctx :=
  { p := p, pinv := pinv, r1 := (W - p) % p, r2 := (W - p) % p * ((W - p) % p) % p,
    tz := tz64 (p - 1), podd := p / 2 ^ tz64 (p - 1) }

theorem mkCtx_spec (p : Nat) (h3 : 2 < p) (hodd : p % 2 = 1) (hlt : p < W) :
    ∃ pinv, MontOk p pinv ∧ mkCtx p = some (ctxOf p pinv) := by
  obtain ⟨v, hv, _, hinv⟩ := mg2adicInv_odd p hodd
  refine ⟨v, ⟨by omega, hodd, hlt, hinv⟩, ?_⟩
  simp [mkCtx, hv, ctxOf]

end Ymq.Mg64
