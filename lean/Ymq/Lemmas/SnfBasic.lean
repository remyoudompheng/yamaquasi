/-
Basic lemmas about the model of `SmithNormalForm` (Ymq/Model/Snf.lean): the reductions modulo `h`,
the list update helpers, the relation module `rowSpan` generated by the rows modulo `h`, and the
three row operations that leave it unchanged.
-/
import Ymq.Model.Snf
import Ymq.Lemmas.SnfEgcd
import Mathlib.Data.ZMod.Basic
import Mathlib.LinearAlgebra.Span.Basic
import Mathlib.Algebra.Module.Pi
import Mathlib.Tactic.Ring
import Mathlib.Tactic.Linarith
import Mathlib.Tactic.LinearCombination

namespace Ymq.Snf
open Ymq.Arith (chk128)

/-- `modh128` returns the residue of `x` in `[0, h)` (whatever the precomputed reciprocal is: the
approximate quotient only has to keep `x - q·h` inside `i128`). -/
theorem modh128_spec (s : St) (x r : Int) (h : s.modh128 x = some r) :
    0 < s.h ∧ r = x % (s.h : Int) := by
  unfold St.modh128 at h
  simp only [] at h
  split at h
  · exact absurd h (by simp)
  · rename_i qh hq
    split at h
    · exact absurd h (by simp)
    · rename_i rem hr
      split at h
      · exact absurd h (by simp)
      · rename_i h0
        have e1 := chk128_some hq
        have e2 := chk128_some hr
        have hr' : r = rem % (s.h : Int) := (Option.some.inj h).symm
        refine ⟨Nat.pos_of_ne_zero h0, ?_⟩
        rw [hr', e2, e1]
        rw [Int.sub_emod, Int.mul_emod_left, sub_zero, Int.emod_emod]

theorem modh128_cast (s : St) (x r : Int) (h : s.modh128 x = some r) :
    ((r : Int) : ZMod s.h) = ((x : Int) : ZMod s.h) := by
  obtain ⟨_, hr⟩ := modh128_spec s x r h
  rw [ZMod.intCast_eq_intCast_iff', hr, Int.emod_emod]

theorem mulMod_small (s : St) (hs : s.small = true) (a b r : Int) (h : s.mulMod a b = some r) :
    ((r : Int) : ZMod s.h) = (a : ZMod s.h) * (b : ZMod s.h) := by
  unfold St.mulMod at h
  rw [if_pos hs] at h
  split at h
  · exact absurd h (by simp)
  · rename_i p hp
    rw [modh128_cast s p r h, chk128_some hp]
    push_cast; ring

theorem subMulMod_small (s : St) (hs : s.small = true) (a k b r : Int) (h : s.subMulMod a k b = some r) :
    ((r : Int) : ZMod s.h) = (a : ZMod s.h) - (k : ZMod s.h) * (b : ZMod s.h) := by
  unfold St.subMulMod at h
  rw [if_pos hs] at h
  split at h
  · exact absurd h (by simp)
  · rename_i t ht
    split at h
    · exact absurd h (by simp)
    · rename_i d hd
      rw [modh128_cast s d r h, chk128_some hd, chk128_some ht]
      push_cast; ring

theorem mapOpt_eq_mapM {α β} (f : α → Option β) : ∀ l : List α, mapOpt f l = l.mapM f
  | [] => by simp [mapOpt]
  | a :: as => by
    rw [List.mapM_cons, mapOpt, mapOpt_eq_mapM f as]
    cases f a with
    | none => rfl
    | some b => cases as.mapM f <;> rfl

theorem updRange_some {α} (f : Nat → α → Option α) (lo hi : Nat) :
    ∀ (l : List α) (idx : Nat) (l' : List α), updRange f lo hi l idx = some l' →
      l'.length = l.length ∧ hi ≤ idx + l.length ∧
      ∀ k (h1 : k < l.length) (h2 : k < l'.length),
        (lo ≤ idx + k ∧ idx + k < hi → f (idx + k) l[k] = some l'[k]) ∧
        (¬ (lo ≤ idx + k ∧ idx + k < hi) → l'[k] = l[k])
  | [], idx, l', h => by
    unfold updRange at h
    split at h
    · exact absurd h (by simp)
    · rename_i hidx
      have := (Option.some.inj h).symm
      subst this
      refine ⟨rfl, by simp; omega, ?_⟩
      intro k h1; simp at h1
  | v :: vs, idx, l', h => by
    unfold updRange at h
    split at h
    · exact absurd h (by simp)
    · rename_i v' hv
      split at h
      · exact absurd h (by simp)
      · rename_i vs' hvs
        have := (Option.some.inj h).symm
        subst this
        obtain ⟨ih1, ih2, ih3⟩ := updRange_some f lo hi vs (idx + 1) vs' hvs
        refine ⟨by simp [ih1], by simp; omega, ?_⟩
        intro k h1 h2
        cases k with
        | zero =>
          simp only [List.getElem_cons_zero, Nat.add_zero]
          constructor
          · intro hc; rw [if_pos hc] at hv; exact hv
          · intro hc; rw [if_neg hc] at hv; exact (Option.some.inj hv).symm
        | succ k =>
          simp only [List.getElem_cons_succ]
          have := ih3 k (by simpa using h1) (by simpa using h2)
          have e : idx + 1 + k = idx + (k + 1) := by omega
          rw [e] at this
          exact this

theorem mem_set_self' {α} (l : List α) (i : Nat) (hi : i < l.length) (x : α) : x ∈ l.set i x :=
  List.mem_iff_getElem.mpr ⟨i, by simpa using hi, by simp⟩

theorem mem_set_set {α} (l : List α) (i j : Nat) (hi : i < l.length) (hij : i ≠ j) (x y : α) :
    x ∈ (l.set i x).set j y :=
  List.mem_iff_getElem.mpr ⟨i, by simpa using hi, by rw [List.getElem_set_of_ne (Ne.symm hij)]; simp⟩

/-- a row as a vector over `Z/h` (`n` columns; missing entries count as 0) -/
def rowVec (h n : Nat) (row : List Int) : Fin n → ZMod h := fun c => ((row.getD c 0 : Int) : ZMod h)

/-- the module generated by the rows modulo `h`: the relation lattice `L + hZ^n` seen in `(Z/h)^n` -/
def rowSpan (h n : Nat) (M : Mat) : Submodule (ZMod h) (Fin n → ZMod h) :=
  Submodule.span (ZMod h) {v | ∃ row ∈ M, v = rowVec h n row}

theorem rowVec_mem_rowSpan (h n : Nat) (M : Mat) (row : List Int) (hr : row ∈ M) :
    rowVec h n row ∈ rowSpan h n M :=
  Submodule.subset_span ⟨row, hr, rfl⟩

theorem rowSpan_le (h n : Nat) (M : Mat) (S : Submodule (ZMod h) (Fin n → ZMod h))
    (hS : ∀ row ∈ M, rowVec h n row ∈ S) : rowSpan h n M ≤ S := by
  apply Submodule.span_le.mpr
  rintro v ⟨row, hr, rfl⟩
  exact hS row hr

theorem rowSpan_set (h n : Nat) (M : Mat) (i : Nat) (hi : i < M.length) (r' : List Int)
    (h1 : rowVec h n r' ∈ rowSpan h n M)
    (h2 : rowVec h n M[i] ∈ rowSpan h n (M.set i r')) :
    rowSpan h n (M.set i r') = rowSpan h n M := by
  apply le_antisymm
  · apply rowSpan_le
    intro row hr
    rcases List.mem_or_eq_of_mem_set hr with hr | hr
    · exact rowVec_mem_rowSpan h n M row hr
    · rw [hr]; exact h1
  · apply rowSpan_le
    intro row hr
    obtain ⟨k, hk, rfl⟩ := List.getElem_of_mem hr
    by_cases hki : k = i
    · subst hki; exact h2
    · apply rowVec_mem_rowSpan
      have : M[k] = (M.set i r')[k]'(by simpa using hk) := by
        rw [List.getElem_set_of_ne (Ne.symm hki)]
      rw [this]
      exact List.getElem_mem _

theorem rowSpan_set2 (h n : Nat) (M : Mat) (i j : Nat) (hi : i < M.length) (hj : j < M.length) (hij : i ≠ j)
    (ri' rj' : List Int)
    (h1 : rowVec h n ri' ∈ rowSpan h n M) (h2 : rowVec h n rj' ∈ rowSpan h n M)
    (h3 : rowVec h n M[i] ∈ rowSpan h n ((M.set i ri').set j rj'))
    (h4 : rowVec h n M[j] ∈ rowSpan h n ((M.set i ri').set j rj')) :
    rowSpan h n ((M.set i ri').set j rj') = rowSpan h n M := by
  apply le_antisymm
  · apply rowSpan_le
    intro row hr
    rcases List.mem_or_eq_of_mem_set hr with hr | hr
    · rcases List.mem_or_eq_of_mem_set hr with hr | hr
      · exact rowVec_mem_rowSpan h n M row hr
      · rw [hr]; exact h1
    · rw [hr]; exact h2
  · apply rowSpan_le
    intro row hr
    obtain ⟨k, hk, rfl⟩ := List.getElem_of_mem hr
    by_cases hki : k = i
    · subst hki; exact h3
    · by_cases hkj : k = j
      · subst hkj; exact h4
      · apply rowVec_mem_rowSpan
        have : M[k] = ((M.set i ri').set j rj')[k]'(by simpa using hk) := by
          rw [List.getElem_set_of_ne (Ne.symm hkj), List.getElem_set_of_ne (Ne.symm hki)]
        rw [this]
        exact List.getElem_mem _

theorem rowSpan_set_unit (h n : Nat) (M : Mat) (i : Nat) (hi : i < M.length) (r' : List Int) (u : ZMod h)
    (hu : IsUnit u) (hv : rowVec h n r' = u • rowVec h n M[i]) :
    rowSpan h n (M.set i r') = rowSpan h n M := by
  apply rowSpan_set h n M i hi
  · rw [hv]
    exact Submodule.smul_mem _ _ (rowVec_mem_rowSpan _ _ _ _ (List.getElem_mem _))
  · obtain ⟨w, rfl⟩ := hu
    have : rowVec h n M[i] = (↑w⁻¹ : ZMod h) • rowVec h n r' := by rw [hv, smul_smul]; simp
    rw [this]
    exact Submodule.smul_mem _ _ (rowVec_mem_rowSpan _ _ _ _ (mem_set_self' _ _ hi _))

theorem rowSpan_set_sub (h n : Nat) (M : Mat) (i j : Nat) (hi : i < M.length) (hj : j < M.length) (hij : i ≠ j)
    (r' : List Int) (m : ZMod h) (hv : rowVec h n r' = rowVec h n M[i] - m • rowVec h n M[j]) :
    rowSpan h n (M.set i r') = rowSpan h n M := by
  have hmemJ : rowVec h n M[j] ∈ rowSpan h n (M.set i r') := by
    apply rowVec_mem_rowSpan
    rw [← List.getElem_set_of_ne hij r' (by simpa using hj)]
    exact List.getElem_mem _
  apply rowSpan_set h n M i hi
  · rw [hv]
    exact Submodule.sub_mem _ (rowVec_mem_rowSpan _ _ _ _ (List.getElem_mem _))
      (Submodule.smul_mem _ _ (rowVec_mem_rowSpan _ _ _ _ (List.getElem_mem _)))
  · rw [show rowVec h n M[i] = rowVec h n r' + m • rowVec h n M[j] by rw [hv, sub_add_cancel]]
    exact Submodule.add_mem _ (rowVec_mem_rowSpan _ _ _ _ (mem_set_self' _ _ hi _))
      (Submodule.smul_mem _ _ hmemJ)

theorem rowSpan_set2_unimod (h n : Nat) (M : Mat) (i j : Nat) (hi : i < M.length) (hj : j < M.length)
    (hij : i ≠ j) (ri' rj' : List Int) (a b c d : ZMod h) (hdet : a * d - b * c = 1)
    (hI : rowVec h n ri' = a • rowVec h n M[i] + b • rowVec h n M[j])
    (hJ : rowVec h n rj' = c • rowVec h n M[i] + d • rowVec h n M[j]) :
    rowSpan h n ((M.set i ri').set j rj') = rowSpan h n M := by
  have hmemI := rowVec_mem_rowSpan h n M M[i] (List.getElem_mem _)
  have hmemJ := rowVec_mem_rowSpan h n M M[j] (List.getElem_mem _)
  have hmemI' := rowVec_mem_rowSpan h n _ ri' (mem_set_set M i j hi hij ri' rj')
  have hmemJ' := rowVec_mem_rowSpan h n _ rj' (mem_set_self' (M.set i ri') j (by simpa using hj) rj')
  apply rowSpan_set2 h n M i j hi hj hij
  · rw [hI]; exact Submodule.add_mem _ (Submodule.smul_mem _ _ hmemI) (Submodule.smul_mem _ _ hmemJ)
  · rw [hJ]; exact Submodule.add_mem _ (Submodule.smul_mem _ _ hmemI) (Submodule.smul_mem _ _ hmemJ)
  · -- the inverse matrix is `(d, -b; -c, a)`
    have : rowVec h n M[i] = d • rowVec h n ri' - b • rowVec h n rj' := by
      rw [hI, hJ]; funext col
      simp only [Pi.add_apply, Pi.sub_apply, Pi.smul_apply, smul_eq_mul]
      linear_combination (-(rowVec h n M[i] col)) * hdet
    rw [this]
    exact Submodule.sub_mem _ (Submodule.smul_mem _ _ hmemI') (Submodule.smul_mem _ _ hmemJ')
  · have : rowVec h n M[j] = a • rowVec h n rj' - c • rowVec h n ri' := by
      rw [hI, hJ]; funext col
      simp only [Pi.add_apply, Pi.sub_apply, Pi.smul_apply, smul_eq_mul]
      linear_combination (-(rowVec h n M[j] col)) * hdet
    rw [this]
    exact Submodule.sub_mem _ (Submodule.smul_mem _ _ hmemJ') (Submodule.smul_mem _ _ hmemI')

end Ymq.Snf
