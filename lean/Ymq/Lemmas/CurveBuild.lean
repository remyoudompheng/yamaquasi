/-
Lemmas about the curve constructors (Model/Suyama.lean) for C15: the laws of the arithmetic context, their model in
`ZMod n`, the contract `Res.Sound` of a constructor (no panic, a good value, an error that is a divisor) and how `?`
composes it, `UnexpectedLargeFactor::new`, the ladder of `element`, the value of `from_point`.
-/
import Ymq.Model.Suyama
import Ymq.Lemmas.CurveSuyama
import Ymq.Lemmas.CurveMisc
import Mathlib.Data.ZMod.Basic

namespace Ymq.Suyama
open Ymq.Gen.Curves Ymq.Curve

set_option linter.unusedSectionVars false
variable {R : Type} [CommRing R]

/-- What `ZmodN` guarantees (C07, C09 `zmodn_inv_spec` / `zmodn_gcd_spec`): `inv` returns an inverse or fails
on a non-unit, the reported gcd divides the modulus and is 1 only for units, `==` is equality of residues,
`from_int` is the canonical map from the integers. -/
structure Ctx.Lawful (ctx : Ctx R) : Prop where
  inv_some : ∀ x i, ctx.inv x = some i → x * i = 1
  inv_none : ∀ x, ctx.inv x = none → ¬ IsUnit x
  gcd_dvd : ∀ x, ctx.gcd x ∣ ctx.n
  gcd_one : ∀ x, ctx.gcd x = 1 → IsUnit x
  gcd_ofNat : ∀ k, ctx.gcd (ctx.ofNat k) = Nat.gcd ctx.n k
  eq_iff : ∀ x y, ctx.eq x y = true ↔ x = y
  ofNat_cast : ∀ k, ctx.ofNat k = (k : R)

noncomputable def zmodCtx (n : Nat) : Ctx (ZMod n) where
  n := n
  inv := fun x => by classical exact if IsUnit x then some x⁻¹ else none
  gcd := fun x => Nat.gcd n x.val
  eq := fun x y => by classical exact decide (x = y)
  ofNat := fun k => (k : ZMod n)

theorem zmodCtx_lawful (n : Nat) [NeZero n] : (zmodCtx n).Lawful where
  inv_some := by
    intro x i h
    simp only [zmodCtx] at h
    split at h
    · rename_i hu
      cases h
      exact ZMod.mul_inv_of_unit x hu
    · cases h
  inv_none := by
    intro x h
    simp only [zmodCtx] at h
    split at h
    · cases h
    · assumption
  gcd_dvd := fun x => Nat.gcd_dvd_left _ _
  gcd_one := by
    intro x h
    have := (ZMod.isUnit_iff_coprime x.val n).mpr (by
      simp only [zmodCtx] at h
      exact (Nat.coprime_comm.mp h))
    rwa [ZMod.natCast_zmod_val] at this
  gcd_ofNat := by
    intro k
    simp only [zmodCtx, ZMod.val_natCast]
    rw [Nat.gcd_comm n (k % n), ← Nat.gcd_rec]
  eq_iff := by
    intro x y
    simp [zmodCtx]
  ofNat_cast := fun _ => rfl

/-- the three-way contract of the constructors: no panic, a value satisfying `G`, an error satisfying `E` -/
abbrev Res.Sound {α : Type} (r : Res α) (G : α → Prop) (E : Nat → Prop) : Prop :=
  r ≠ .panic ∧ (∀ a, r = .ok a → G a) ∧ ∀ d, r = .err d → E d

/-- `?` composes the contracts -/
theorem Res.bind_sound {α β : Type} {r : Res α} {f : α → Res β} {Ga : α → Prop} {Gb : β → Prop} {E : Nat → Prop}
    (hr : r.Sound Ga E) (hf : ∀ a, Ga a → (f a).Sound Gb E) : (r.bind f).Sound Gb E := by
  obtain ⟨h1, h2, h3⟩ := hr
  cases r with
  | panic => exact absurd rfl h1
  | ok a => exact hf a (h2 a rfl)
  | err d0 =>
    refine ⟨by simp [Res.bind], fun b h => by simp [Res.bind] at h, fun d h => ?_⟩
    simp only [Res.bind, Res.err.injEq] at h
    exact h ▸ h3 d0 rfl

theorem Res.Sound.eq_ok {α : Type} {r : Res α} {v : α} (h : r.Sound (· = v) (fun _ => False)) : r = .ok v := by
  obtain ⟨h1, h2, h3⟩ := h
  cases r with
  | panic => exact absurd rfl h1
  | ok a => rw [h2 a rfl]
  | err d => exact (h3 d rfl).elim

section
variable (ctx : Ctx R)

theorem invT_of_some {x i : R} (h : ctx.inv x = some i) : ctx.invT x = i := by
  simp [Ctx.invT, h]

theorem mul_invT (hl : ctx.Lawful) {x i : R} (h : ctx.inv x = some i) : x * ctx.invT x = 1 := by
  rw [invT_of_some ctx h]; exact hl.inv_some x i h

theorem mul_invT_of_isUnit (hl : ctx.Lawful) {x : R} (hx : IsUnit x) : x * ctx.invT x = 1 := by
  cases h : ctx.inv x with
  | none => exact absurd hx (hl.inv_none x h)
  | some i => exact mul_invT ctx hl h

theorem largeFactor_sound {α : Type} (hl : ctx.Lawful) {x : R} (hx : ¬ IsUnit x) (G : α → Prop) :
    (largeFactor ctx x : Res α).Sound G (fun d => d ∣ ctx.n ∧ d ≠ 1) := by
  unfold largeFactor
  by_cases h1 : ctx.gcd x = 1
  · exact absurd (hl.gcd_one x h1) hx
  · simp only [h1, if_false]
    exact ⟨by simp, fun a h => (by cases h), fun d h => by cases h; exact ⟨hl.gcd_dvd x, h1⟩⟩

/-- `match zn.inv(den) { Some(_) => Ok(v), None => Err(UnexpectedLargeFactor::new(zn, x)) }`, where `v` is computed with
the inverse of `den` and `x` is a unit only if `den` is: the shape of `params` and `twisted_from_point` -/
theorem invOr_sound {α : Type} (hl : ctx.Lawful) {den x : R} {v : α} {G : α → Prop} (hx : ¬ IsUnit den → ¬ IsUnit x)
    (hG : den * ctx.invT den = 1 → G v) :
    (match ctx.inv den with | some _ => Res.ok v | none => largeFactor ctx x).Sound G (fun d => d ∣ ctx.n ∧ d ≠ 1) := by
  cases hi : ctx.inv den with
  | some i => exact ⟨by simp, fun a h => (by cases h; exact hG (mul_invT ctx hl hi)), fun d h => by cases h⟩
  | none => exact largeFactor_sound ctx hl (hx (hl.inv_none _ hi)) G

theorem elementCheck_some (hl : ctx.Lawful) (res res2 : Pt R) (d : Nat)
    (h : elementCheck ctx res res2 = some d) : d ∣ ctx.n ∧ d ≠ 1 := by
  simp only [elementCheck] at h
  split at h
  · split at h
    · rename_i hc
      cases h
      exact ⟨hl.gcd_dvd _, hc.1⟩
    · split at h
      · rename_i hc
        cases h
        exact ⟨hl.gcd_dvd _, hc⟩
      · cases h
  · cases h

/-- The ladder of `element` over operations that simulate doubling and the addition of `g` in a group `G` along `R`,
entered with `res` standing for `(seed >> bit) g`: it does not panic (the `u32` decrement of `bit`), a point it returns
stands for `seed g` (left-to-right double-and-add), a factor it returns comes from the test after a doubling. -/
theorem ladder_sound {P G : Type} [AddCommGroup G] (dbl addG : P → P) (check : P → P → Option Nat) (Rel : P → G → Prop)
    (g : G) (good : Nat → Prop) (hd : ∀ p x, Rel p x → Rel (dbl p) (x + x)) (ha : ∀ p x, Rel p x → Rel (addG p) (x + g))
    (hc : ∀ p q d, check p q = some d → good d) (seed : Nat) :
    ∀ bit res, 0 < bit → Rel res ((seed >>> bit) • g) →
      (ladder dbl addG check seed bit res).Sound (Rel · (seed • g)) good := by
  intro bit
  induction bit with
  | zero => intro res h; omega
  | succ b ih =>
    intro res _ hres
    have hstep : seed >>> b = 2 * (seed >>> (b + 1)) + (seed >>> b) % 2 := by
      rw [Nat.shiftRight_succ]; omega
    have hnew : Rel (if (seed >>> b) % 2 = 1 then addG (dbl res) else dbl res) ((seed >>> b) • g) := by
      have h2 := hd _ _ hres
      rw [← two_nsmul, ← mul_nsmul'] at h2
      rcases Nat.mod_two_eq_zero_or_one (seed >>> b) with h0 | h1
      · rw [if_neg (by omega), hstep, h0, add_zero]; exact h2
      · rw [if_pos h1, hstep, h1, add_nsmul, one_nsmul]; exact ha _ _ h2
    simp only [ladder]
    cases hchk : check res (dbl res) with
    | some d => exact ⟨by simp, fun p h => (by cases h), fun d' h => by cases h; exact hc _ _ _ hchk⟩
    | none =>
      by_cases hb : b = 0
      · subst hb
        exact ⟨by simp, fun p h => (by cases h; exact hnew), fun d h => by cases h⟩
      · simp only [hb, if_false]
        exact ih _ (Nat.pos_of_ne_zero hb) hnew

theorem log2_pos {seed : Nat} (h2 : 2 ≤ seed) : 0 < Nat.log2 seed := by
  have : 1 ≤ Nat.log2 seed := (Nat.le_log2 (by omega)).mpr (by omega)
  omega

theorem element_eq (a b gx gy : R) (seed : Nat) (h2 : 2 ≤ seed) :
    element ctx a b gx gy seed = elementLoop ctx a b gx gy seed (Nat.log2 seed) ⟨gx, gy, 1⟩ := by
  unfold element
  have h1 : (1 < seed) := by omega
  simp only [h1, not_true_eq_false, if_false, Nat.add_sub_cancel, log2_pos h2]

theorem paramsDen_eq (pt : Pt R) : paramsDen pt = pt.z + pt.x + (pt.x + pt.x) := rfl

theorem not_isUnit_of_sq {x : R} (h : ¬ IsUnit (x * x)) : ¬ IsUnit x := fun hx => h (hx.mul hx)

/-- `Curve::from_point(zn, x, y)` for `x, y < 2^31` over a lawful context: `1` is always invertible, so the only error
is the truncated gcd of `x y` with `n` -/
theorem fromPoint_eq (hl : ctx.Lawful) (chk : Bool) {x y : Nat} (hx31 : x < 2 ^ 31) (hy31 : y < 2 ^ 31) :
    fromPoint chk ctx x y =
      if chk && (x * x + y * y == 0) then .panic else
      match ctx.inv (ctx.ofNat (x * y)) with
      | none => .err (Nat.gcd ctx.n (x * y) % 2 ^ 64)
      | some _ => .ok ⟨false, (ecmFromPoint ctx.invT (x : R) (y : R)).1, (ecmFromPoint ctx.invT (x : R) (y : R)).2⟩ := by
  unfold fromPoint
  simp only [hx31, hy31, and_self, not_true_eq_false, if_false]
  cases h1 : ctx.inv (ctx.ofNat 1) with
  | none => exact absurd (by rw [hl.ofNat_cast]; simp) (hl.inv_none _ h1)
  | some i1 =>
    simp only [fractionErr, hl.gcd_ofNat, hl.ofNat_cast x, hl.ofNat_cast y]
    rfl

end

end Ymq.Suyama
