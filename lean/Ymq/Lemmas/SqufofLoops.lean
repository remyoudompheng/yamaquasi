/-
The two loops of squfof.rs and the code between / after them, on a reduced state (`Inv`):
no panic site is reached, the first loop either gives up or stops on a state whose `q` is the
square `q_sqrt²`, the inverse square root form `(p0, q_sqrt, (N − p0²)/q_sqrt)` is reduced again,
the second loop gives up or stops with `1 ≤ p_prev ≤ ⌊√N⌋`.
-/
import Ymq.Lemmas.SqufofIsqrt
import Ymq.Lemmas.SqufofStep

namespace Ymq.Squfof

/-- `maybe_square` cannot overflow on a `u64`: `n + 1` is evaluated only when `n & 6 == 0` or
`n & 7 == 4`, which `2^64 − 1` does not satisfy. -/
theorem maybeSquare_some {n : Nat} (h : n < W) : ∃ b, maybeSquare n = some b := by
  unfold maybeSquare
  unfold W at *
  split_ifs with h1 h2
  · exfalso; omega
  · exact ⟨_, rfl⟩
  · exact ⟨_, rfl⟩

theorem step_q0 (s P Q' : Nat) : step s P Q' 0 = none := by
  unfold step
  by_cases h : s + P ≥ W
  · rw [if_pos h]
  · rw [if_neg h, if_pos rfl]

variable {seed : Nat → Nat} {N s : Nat}

theorem fwdLoop_ok (hs : SeedOK seed) (c : Ctx N s) (iters : Nat) :
    ∀ (f i P Q' Q : Nat), Inv N s P Q' Q → i ≤ iters → f + i = iters + 1 →
      fwdLoop seed s iters f i P Q' Q = some none ∨
      ∃ qs p Qb, fwdLoop seed s iters f i P Q' Q = some (some (qs, p)) ∧ Inv N s p Qb (qs * qs) := by
  intro f
  induction f with
  | zero => intro i P Q' Q _ h1 h2; omega
  | succ f ih =>
    intro i P Q' Q hinv h1 h2
    rw [fwdLoop]
    by_cases hi : i = iters
    · left; rw [if_pos hi]
    · rw [if_neg hi]
      obtain ⟨p, qn, hst, hinv'⟩ := step_ok c hinv
      rw [hst]
      simp only []
      have hqnN : qn ≤ N := by
        have h1 : qn ≤ Q * qn := Nat.le_mul_of_pos_left qn (hinv.qpos c)
        have := hinv'.norm; omega
      have hqnW : qn < W := Nat.lt_of_le_of_lt hqnN c.lt
      obtain ⟨ms, hms⟩ := maybeSquare_some hqnW
      rw [hms]
      have hrec := ih (i + 1) p Q qn hinv' (by omega) (by omega)
      cases ms with
      | false => exact hrec
      | true =>
        simp only []
        rw [isqrt_eq hs hqnW]
        simp only []
        have hsq : Nat.sqrt qn * Nat.sqrt qn ≤ qn := Nat.sqrt_le qn
        rw [if_neg (by omega)]
        by_cases hc : qn = Nat.sqrt qn * Nat.sqrt qn ∧ i % 2 = 1
        · rw [if_pos hc]
          right
          refine ⟨Nat.sqrt qn, p, Q, rfl, ?_⟩
          rw [← hc.1]; exact hinv'
        · rw [if_neg hc]; exact hrec

theorem invLoop_ok (c : Ctx N s) (iters : Nat) :
    ∀ (f i P Q' Q : Nat), Inv N s P Q' Q →
      invLoop s iters f i P Q' Q = some none ∨
      ∃ pf, invLoop s iters f i P Q' Q = some (some pf) ∧ 1 ≤ pf ∧ pf ≤ s := by
  intro f
  induction f with
  | zero =>
    intro i P Q' Q hinv
    right; exact ⟨P, rfl, hinv.ppos, hinv.ple⟩
  | succ f ih =>
    intro i P Q' Q hinv
    rw [invLoop]
    by_cases hi : i = iters
    · left; rw [if_pos hi]
    · rw [if_neg hi]
      obtain ⟨p, qn, hst, hinv'⟩ := step_ok c hinv
      rw [hst]
      simp only []
      by_cases hp : p = P
      · rw [if_pos hp]; right; exact ⟨P, rfl, hinv.ppos, hinv.ple⟩
      · rw [if_neg hp]; exact ih _ _ _ _ hinv'

/-- every way a round on the product `N = n·k` can end under the seed hypothesis -/
inductive Round (n N : Nat) : Step → Prop
  | stop : W ≤ N → Round n N .stop
  | next : Round n N .next
  | square (s : Nat) : s * s = n → Round n N (.ret s s)
  | gcd (pf : Nat) : 1 ≤ pf → pf * pf ≤ N → 1 < Nat.gcd n pf →
      Round n N (.ret (Nat.gcd n pf) (n / Nat.gcd n pf))

theorem finish_ok (c : Ctx N s) (n iters : Nat) {qs p Qb : Nat} (hinv : Inv N s p Qb (qs * qs)) :
    ∃ r, finish n N s iters qs p = some r ∧ Round n N r := by
  have hs := c.s_lt
  have hNW := c.lt
  have hqq := hinv.qpos c
  have hqs : 1 ≤ qs := by
    rcases Nat.eq_zero_or_pos qs with h | h
    · subst h; omega
    · exact h
  have hple := hinv.ple
  have hnorm := hinv.norm
  obtain ⟨b, hb⟩ : ∃ b, b = (s - p) / qs := ⟨_, rfl⟩
  obtain ⟨hb1, hb2⟩ := div_bounds (x := s - p) hqs hb
  obtain ⟨p0, hp0⟩ : ∃ p0, p0 = b * qs + p := ⟨_, rfl⟩
  have hp0s : p0 ≤ s := by omega
  have hp0sq : p0 * p0 < N := Nat.lt_of_le_of_lt (Nat.mul_le_mul hp0s hp0s) c.lo
  -- exact division
  have hdiv : N - p0 * p0 = qs * (Qb * qs - b * (b * qs + 2 * p)) := by
    rw [Nat.mul_sub]
    have e1 : N = p * p + qs * (Qb * qs) := by rw [← hnorm]; ring
    have e2 : p0 * p0 = p * p + qs * (b * (b * qs + 2 * p)) := by rw [hp0]; ring
    omega
  obtain ⟨q1, hq1⟩ : ∃ q1, q1 = (N - p0 * p0) / qs := ⟨_, rfl⟩
  have hq1' : qs * q1 = N - p0 * p0 := by
    rw [hq1, hdiv, Nat.mul_div_cancel_left _ (show 0 < qs by omega)]
  have hinv0 : Inv N s p0 qs q1 := ⟨by omega, by have := hinv.ppos; omega, hp0s, by omega⟩
  unfold finish
  simp only []
  rw [← hb, ← hp0, ← hq1]
  rw [if_neg (by omega), if_neg (by omega), if_neg (by unfold W; omega),
    if_neg (by unfold W; omega), if_neg (by omega), if_neg (by omega)]
  rcases invLoop_ok c iters iters 1 p0 qs q1 hinv0 with h | ⟨pf, h, h1, h2⟩
  · rw [h]; exact ⟨_, rfl, .next⟩
  · rw [h]
    simp only []
    by_cases hg : Nat.gcd n pf > 1
    · rw [if_pos hg]
      have : n % Nat.gcd n pf = 0 := Nat.mod_eq_zero_of_dvd (Nat.gcd_dvd_left n pf)
      rw [if_neg (by omega)]
      exact ⟨_, rfl, .gcd pf h1 (le_trans (Nat.mul_le_mul h2 h2) (le_of_lt c.lo)) hg⟩
    · rw [if_neg hg]; exact ⟨_, rfl, .next⟩

theorem finish_ret {n nk s iters qs p a b : Nat} (h : finish n nk s iters qs p = some (.ret a b)) :
    a * b = n ∧ 1 < a := by
  unfold finish at h
  simp only [Option.ite_none_left_eq_some] at h
  obtain ⟨_, _, _, _, _, _, h⟩ := h
  split at h
  · cases h
  · cases h
  · rw [ite_eq_iff] at h
    obtain ⟨hg, h⟩ | ⟨_, h⟩ := h
    · obtain ⟨_, h⟩ := Option.ite_none_left_eq_some.mp h
      obtain ⟨rfl, rfl⟩ := Step.ret.inj (Option.some.inj h)
      exact ⟨Nat.mul_div_cancel' (Nat.gcd_dvd_left _ _), hg⟩
    · cases h

theorem attempt_ret {seed : Nat → Nat} {n k a b : Nat} (h : attempt seed n k = some (.ret a b)) :
    a * b = n ∧ ((a = b ∧ a * a = n) ∨ 1 < a) := by
  unfold attempt at h
  simp only at h
  obtain ⟨_, h⟩ | ⟨_, h⟩ := ite_eq_iff.mp h
  · cases h
  split at h
  · cases h
  obtain ⟨_, h⟩ := Option.ite_none_left_eq_some.mp h
  obtain ⟨hsq, h⟩ | ⟨_, h⟩ := ite_eq_iff.mp h
  · obtain ⟨rfl, rfl⟩ := Step.ret.inj (Option.some.inj h)
    exact ⟨hsq, Or.inl ⟨rfl, hsq⟩⟩
  split at h
  · cases h
  simp only [Option.ite_none_left_eq_some] at h
  obtain ⟨_, _, h⟩ := h
  obtain ⟨_, h⟩ | ⟨_, h⟩ := ite_eq_iff.mp h
  · cases h
  unfold afterFwd at h
  split at h
  · cases h
  · cases h
  · obtain ⟨e, g⟩ := finish_ret h
    exact ⟨e, Or.inr g⟩

/-- normal form of a round under the seed hypothesis: both `isqrt` calls are the floor roots and
the three arithmetic panic sites before the first loop are discharged (the `q == 0` skip stays) -/
theorem attempt_eq {seed : Nat → Nat} (hs : SeedOK seed) {n k s : Nat} (hlt : n * k < W)
    (hr : Nat.sqrt (n * k) = s) :
    attempt seed n k =
      if s * s = n then some (.ret s s)
      else if n * k - s * s = 0 then some .next
      else afterFwd n (n * k) s (3 * Nat.sqrt s)
        (fwdLoop seed s (3 * Nat.sqrt s) (3 * Nat.sqrt s) 1 s 1 (n * k - s * s)) := by
  have h1 := Nat.sqrt_le (n * k)
  have h2 := Nat.sqrt_le_self (n * k)
  have hW : W = 4294967296 * 4294967296 := rfl
  unfold attempt
  rw [if_neg (by omega)]
  dsimp only
  rw [isqrt_eq hs hlt]
  dsimp only
  rw [isqrt_eq hs (by omega), hr] at *
  dsimp only
  have h3 := Nat.sqrt_le_self s
  have h4 : s < 4294967296 := Nat.mul_self_lt_mul_self_iff.mp (lt_of_le_of_lt h1 hlt)
  rw [if_neg (by omega)]
  by_cases hsq : s * s = n
  · rw [if_pos hsq, if_pos hsq]
  · rw [if_neg hsq, if_neg hsq, if_neg (by omega), if_neg (by omega)]

end Ymq.Squfof
