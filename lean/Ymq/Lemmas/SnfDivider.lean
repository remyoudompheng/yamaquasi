/-
The precomputed reciprocal of `SmithNormalForm` (`divider`, model in Ymq/Model/Snf.lean): what
`divider(h)` returns is `2^255/h` rounded to 127 bits (`divider_spec`).
A finished lemma that no property theorem uses yet: it is what a proof of the reciprocal reduction `modh256`
(the `I256` path, `h ≥ 2^63`) would start from, and there is none; on the `i128` path `modh128_spec`
(SnfBasic) needs nothing about the reciprocal.
-/
import Ymq.Model.Snf
import Mathlib.Tactic.Ring
import Mathlib.Tactic.Linarith

namespace Ymq.Snf

theorem round_shift (q s : Nat) :
    (q / 2 ^ (s + 1) + q / 2 ^ s % 2) * 2 ^ (s + 1) ≤ q + 2 ^ s ∧
      q ≤ (q / 2 ^ (s + 1) + q / 2 ^ s % 2) * 2 ^ (s + 1) + 2 ^ s := by
  have hq := Nat.div_add_mod q (2 ^ s)
  have hr := Nat.mod_lt q (Nat.two_pow_pos s)
  rw [Nat.pow_succ, ← Nat.div_div_eq_div_mul]
  generalize q / 2 ^ s = c at *
  generalize 2 ^ s = P at *
  have hc := Nat.div_add_mod c 2
  have : (c / 2 + c % 2) * (P * 2) = P * (2 * (c / 2) + c % 2) + c % 2 * P := by ring
  rw [this, hc]
  rcases Nat.mod_two_eq_zero_or_one c with h | h <;> rw [h] <;> omega

/-- The reciprocal `q = ⌊2^255 / h⌋`, of `s + 128` bits, rounded to 127 bits. -/
theorem recip_round {h q s : Nat} (hpos : 0 < h) (hq : q = 2 ^ 255 / h)
    (hlo : 2 ^ (s + 127) ≤ q) (hhi : q < 2 ^ (s + 128)) :
    q / 2 ^ (s + 1) + q / 2 ^ s % 2 ≤ 2 ^ 127 ∧
      (q / 2 ^ (s + 1) + q / 2 ^ s % 2) * 2 ^ (s + 1) ≤ 2 ^ 255 ∧
      (q / 2 ^ (s + 1) + q / 2 ^ s % 2) * 2 ^ (s + 1) * h ≤ 2 ^ 255 + 2 ^ s * h ∧
      2 ^ 255 < (q / 2 ^ (s + 1) + q / 2 ^ s % 2) * 2 ^ (s + 1) * h + h + 2 ^ s * h ∧
      h * 2 ^ s ≤ 2 ^ 128 := by
  obtain ⟨hup, hdn⟩ := round_shift q s
  have hqh : h * q ≤ 2 ^ 255 := by rw [hq]; exact Nat.mul_div_le _ h
  have hqh' : 2 ^ 255 < h * (q + 1) := by rw [hq]; exact Nat.lt_mul_div_succ _ hpos
  have hm : q / 2 ^ (s + 1) + q / 2 ^ s % 2 ≤ 2 ^ 127 := by
    have : q / 2 ^ (s + 1) < 2 ^ 127 := by
      rwa [Nat.div_lt_iff_lt_mul (Nat.two_pow_pos _), ← Nat.pow_add, Nat.add_comm 127 (s + 1)]
    have := Nat.mod_lt (q / 2 ^ s) Nat.two_pos
    omega
  have hle : (q / 2 ^ (s + 1) + q / 2 ^ s % 2) * 2 ^ (s + 1) ≤ 2 ^ 255 := by
    rcases Nat.lt_or_ge s 128 with hs | hs
    · calc _ ≤ 2 ^ 127 * 2 ^ 128 := Nat.mul_le_mul hm (Nat.pow_le_pow_right Nat.two_pos hs)
        _ = 2 ^ 255 := by norm_num
    · -- `2^255 ≤ 2^(s+127) ≤ q ≤ h·q ≤ 2^255`: the reciprocal is `2^255` itself and `s = 128`
      have h1 : 2 ^ 255 ≤ 2 ^ (s + 127) := Nat.pow_le_pow_right Nat.two_pos (by omega)
      have h2 : q ≤ h * q := Nat.le_mul_of_pos_left q hpos
      have hq' : q = 2 ^ 255 := by omega
      have hs' : s = 128 := by
        rw [hq'] at hlo
        have := (Nat.pow_le_pow_iff_right (by decide : 1 < 2)).mp hlo
        omega
      rw [hq', hs']; norm_num
  generalize q / 2 ^ (s + 1) + q / 2 ^ s % 2 = m at *
  refine ⟨hm, hle, ?_, ?_, ?_⟩
  · calc m * 2 ^ (s + 1) * h ≤ (q + 2 ^ s) * h := Nat.mul_le_mul_right _ hup
      _ = h * q + 2 ^ s * h := by ring
      _ ≤ 2 ^ 255 + 2 ^ s * h := Nat.add_le_add_right hqh _
  · calc 2 ^ 255 < h * (q + 1) := hqh'
      _ ≤ h * (m * 2 ^ (s + 1) + 2 ^ s + 1) := Nat.mul_le_mul_left _ (by omega)
      _ = m * 2 ^ (s + 1) * h + h + 2 ^ s * h := by ring
  · -- `2^s · 2^127 ≤ q` and `h · q ≤ 2^255 = 2^128 · 2^127`
    have : h * 2 ^ s * 2 ^ 127 ≤ 2 ^ 128 * 2 ^ 127 := by
      rw [Nat.mul_assoc, ← Nat.pow_add]
      exact le_trans (Nat.mul_le_mul_left _ hlo) hqh
    exact Nat.le_of_mul_le_mul_right this (Nat.two_pow_pos _)

/-- what `divider(h)` returns: `qe = sd - 255` and `qm·2^sd` is `2^255/h` rounded to 127 bits -/
theorem divider_spec {h qm : Nat} {qe : Int} (hd : divider h = some (qm, qe)) :
    0 < h ∧ h < 2 ^ 125 ∧ ∃ sd : Nat, 4 ≤ sd ∧ sd ≤ 129 ∧ qe = (sd : Int) - 255 ∧
      qm ≤ 2 ^ 127 ∧
      qm * 2 ^ sd ≤ 2 ^ 255 ∧
      qm * 2 ^ sd * h ≤ 2 ^ 255 + 2 ^ (sd - 1) * h ∧
      2 ^ 255 < qm * 2 ^ sd * h + h + 2 ^ (sd - 1) * h ∧
      h * 2 ^ (sd - 1) ≤ 2 ^ 128 := by
  unfold divider at hd
  split at hd
  · exact absurd hd (by simp)
  · rename_i hlt
    split at hd
    · exact absurd hd (by simp)
    · rename_i h0
      have hpos : 0 < h := Nat.pos_of_ne_zero h0
      have hlt' : h < 2 ^ 125 := Nat.lt_of_not_le hlt
      -- `h < 2^125` gives the reciprocal at least 131 bits, so the rounding branch is taken
      have hq130 : 2 ^ 130 ≤ 2 ^ 255 / h := by
        rw [Nat.le_div_iff_mul_le hpos]
        calc 2 ^ 130 * h ≤ 2 ^ 130 * 2 ^ 125 := Nat.mul_le_mul_left _ hlt'.le
          _ = 2 ^ 255 := by norm_num
      have hq0 : 2 ^ 255 / h ≠ 0 := Nat.ne_of_gt (lt_of_lt_of_le (Nat.two_pow_pos _) hq130)
      have hL := (Nat.le_log2 hq0).mpr hq130
      have hlo := Nat.log2_self_le hq0
      have hhi := Nat.lt_log2_self (n := 2 ^ 255 / h)
      have hL' := (Nat.pow_le_pow_iff_right (by decide : 1 < 2)).mp
        (le_trans hlo (Nat.div_le_self _ _))
      obtain ⟨s, hs⟩ : ∃ s, Nat.log2 (2 ^ 255 / h) = s + 127 :=
        ⟨Nat.log2 (2 ^ 255 / h) - 127, by omega⟩
      rw [hs] at hlo hhi hL hL'
      simp only [bits, if_neg hq0, hs] at hd
      rw [if_neg (by omega), show s + 127 + 1 - 127 = s + 1 by omega, Nat.add_sub_cancel] at hd
      obtain ⟨rfl, rfl⟩ := Prod.mk.inj (Option.some.inj hd)
      refine ⟨hpos, hlt', s + 1, by omega, by omega, rfl, ?_⟩
      rw [Nat.add_sub_cancel]
      exact recip_round hpos rfl hlo hhi

end Ymq.Snf
