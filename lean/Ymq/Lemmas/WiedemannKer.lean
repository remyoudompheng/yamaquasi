/-
The kernel path (`mulpbig`, `ker_pbig`): whatever vector is returned is a non-zero kernel vector.
-/
import Ymq.Model.WiedemannKer
import Ymq.Lemmas.WiedemannKrylov
import Ymq.Lemmas.BerlekampMasseySpec

namespace Ymq.Wied
open Matrix

variable {p : ℕ}

theorem chkI_eq {w : ℕ} {z y : Int} (h : chkI w z = some y) : y = z := by
  unfold chkI at h; split at h
  · exact (Option.some.inj h).symm
  · simp at h

/-- whatever an accumulation pass returns is the exact integer sum (the checks only refuse) -/
theorem accPassW_exact (w : ℕ) (sel : Int → Bool) (term : ℕ → Int → Option Int) (col : ℕ → ℕ)
    (c : ℕ × Int → Int) :
    ∀ (r : Row) (x y : Int), accPassW w sel term col r x = some y →
      (∀ je ∈ r, sel je.2 = true → ∀ t, term (col je.1) je.2 = some t → t = c je) →
      y = x + sumSel sel c r
  | [], x, y, h, _ => by simp [accPassW] at h; simp [sumSel, h]
  | (j, e) :: r, x, y, h, hc => by
    unfold accPassW at h
    unfold sumSel
    by_cases hs : sel e = true
    · simp only [hs, if_true] at h ⊢
      cases ht : term (col j) e with
      | none => rw [ht] at h; simp at h
      | some t =>
        rw [ht] at h; simp only at h
        cases hx : chkI w (x + t) with
        | none => rw [hx] at h; simp at h
        | some x' =>
          rw [hx] at h; simp only at h
          have e1 := chkI_eq hx
          have e2 := hc (j, e) List.mem_cons_self hs t ht
          have := accPassW_exact w sel term col c r x' y h
            (fun je hje => hc je (List.mem_cons_of_mem _ hje))
          rw [this, e1, e2]; ring
    · simp only [hs, Bool.false_eq_true, if_false, zero_add] at h ⊢
      exact accPassW_exact w sel term col c r x y h (fun je hje => hc je (List.mem_cons_of_mem _ hje))

theorem asI_small {w a : ℕ} (h : (a : Int) < 2 ^ (w - 1)) : asI w a = a := by simp [asI, h]

theorem rowBig_exact (w : ℕ) (col : ℕ → ℕ) (hcol : ∀ j, (col j : Int) < 2 ^ (w - 1)) (p : ℕ)
    (hp : (p : Int) < 2 ^ (w - 1)) (r : Row) (o : ℕ) (h : rowBig w col p r = some o) :
    o = (rowDot col r % (p : Int)).toNat ∧ p ≠ 0 := by
  unfold rowBig at h
  split at h; · simp at h
  rename_i x1 h1
  split at h; · simp at h
  rename_i x2 h2
  split at h; · simp at h
  rename_i x3 h3
  have e1 := accPassW_exact w selP _ col (fun je => je.2 * (col je.1 : Int)) r 0 x1 h1
    (fun je _ hs t ht => by
      rw [← Option.some.inj ht, asI_small (hcol je.1), selP_eq hs, one_mul])
  have e2 := accPassW_exact w selM _ col (fun je => je.2 * (col je.1 : Int)) r x1 x2 h2
    (fun je _ hs t ht => by
      rw [← Option.some.inj ht, asI_small (hcol je.1), selM_eq hs, neg_one_mul])
  have e3 := accPassW_exact w selX _ col (fun je => je.2 * (col je.1 : Int)) r x2 x3 h3
    (fun je _ _ t ht => by
      have := chkI_eq ht; rw [this, asI_small (hcol je.1)])
  have hx3 : x3 = rowDot col r := by rw [rowDot, sumSel_split, e3, e2, e1]; ring
  unfold remEuclidW at h
  simp only [asI_small hp] at h
  by_cases hp0 : (p : Int) = 0
  · rw [if_pos hp0] at h; simp at h
  · rw [if_neg hp0] at h
    split at h
    · simp at h
    · refine ⟨by rw [← hx3]; exact (Option.some.inj h).symm, ?_⟩
      intro h0; apply hp0; rw [h0]; rfl

theorem mapM_some_getD {α} (f : α → Option ℕ) (d : α) (l : List α) (out : List ℕ)
    (h : l.mapM f = some out) :
    out.length = l.length ∧ ∀ i, i < l.length → f (l.getD i d) = some (out.getD i 0) := by
  obtain ⟨hlen, hf⟩ := Loops.mapM_getElem h
  refine ⟨hlen, fun i hi => ?_⟩
  rw [Loops.getD_eq_getElem l d hi, Loops.getD_eq_getElem out 0 (hlen ▸ hi)]
  exact hf i hi (hlen ▸ hi)

/-- state of the Horner loop: a vector of `size` reduced residues -/
def RedVec (p n : ℕ) (v : List ℕ) : Prop := v.length = n ∧ ∀ j, v.getD j 0 < p

theorem RedVec.cast_lt {p n w : ℕ} {v : List ℕ} (h : RedVec p n v) (hp : (p : Int) < 2 ^ (w - 1))
    (j : ℕ) : ((v.getD j 0 : ℕ) : Int) < 2 ^ (w - 1) :=
  lt_trans (by exact_mod_cast h.2 j) hp

theorem redVec_map_mod {p n : ℕ} (hp0 : p ≠ 0) (f : ℕ → ℕ) :
    RedVec p n ((List.range n).map (fun j => f j % p)) := by
  refine ⟨by simp, fun j => ?_⟩
  by_cases hj : j < n
  · simp only [List.getD_eq_getElem?_getD, List.getElem?_map, List.getElem?_range hj,
      Option.map_some, Option.getD_some]
    exact Nat.mod_lt _ (Nat.pos_of_ne_zero hp0)
  · rw [List.getD_eq_default _ _ (by simp; omega)]
    exact Nat.pos_of_ne_zero hp0

theorem hornerBig_succ {w : ℕ} {m : Mat} {p : ℕ} {cp v0 : List ℕ} {c i : ℕ} {v out : List ℕ}
    (h : hornerBig w m p cp v0 (c + 1) i v = some out) :
    ∃ u ci, mulpBig w m p v = some u ∧ cp[i]? = some ci ∧ p ≠ 0 ∧
      hornerBig w m p cp v0 c (i + 1)
        ((List.range m.length).map (fun j => (u.getD j 0 + ci * v0.getD j 0) % p)) = some out := by
  unfold hornerBig at h
  split at h; · simp at h
  rename_i u h1
  split at h; · simp at h
  rename_i ci h2
  split at h; · simp at h
  rename_i hp0
  exact ⟨u, ci, h1, h2, hp0, h⟩

theorem hornerBig_red (w : ℕ) (m : Mat) (p : ℕ) (cp v0 : List ℕ) :
    ∀ (c i : ℕ) (v out : List ℕ), hornerBig w m p cp v0 c i v = some out →
      RedVec p m.length v → RedVec p m.length out
  | 0, _, v, out, h, hv => by
    simp [hornerBig] at h; rw [← h]; exact hv
  | c + 1, i, v, out, h, _ => by
    obtain ⟨_, _, _, _, hp0, h'⟩ := hornerBig_succ h
    exact hornerBig_red w m p cp v0 c (i + 1) _ out h' (redVec_map_mod hp0 _)

theorem kerBig_some (w : ℕ) (m : Mat) (p : ℕ) (v0 : List ℕ) (r : Option (List ℕ))
    (h : kerBig w m p v0 = some r) :
    ∃ seq cp c1, krylovBig w m p (2 * m.length + 1) (startVec m.length 0 1) [] = some seq ∧
      Ymq.BM.bmBig p seq = some cp ∧ cp[m.length]? = some 0 ∧ cp[m.length - 1]? = some c1 ∧
      ((c1 = 0 ∧ r = none) ∨ (c1 ≠ 0 ∧ v0.length = m.length ∧ ∃ v z,
        hornerBig w m p cp v0 (m.length - 1) 1 v0 = some v ∧ mulpBig w m p v = some z ∧
        z.all (· == 0) = true ∧ v.any (· != 0) = true ∧ r = some v)) := by
  unfold kerBig at h
  split at h; · simp at h
  rename_i seq h1
  split at h; · simp at h
  rename_i cp h2
  split at h; · simp at h
  rename_i c0 h3
  split at h; · simp at h
  rename_i hc0
  split at h; · simp at h
  rename_i c1 h4
  refine ⟨seq, cp, c1, h1, h2, by rw [h3, not_not.mp hc0], h4, ?_⟩
  split at h
  · rename_i hc1; exact Or.inl ⟨hc1, (Option.some.inj h).symm⟩
  rename_i hc1
  split at h; · simp at h
  rename_i hl
  split at h; · simp at h
  rename_i v h5
  split at h; · simp at h
  rename_i z h6
  split at h; · simp at h
  rename_i hz
  split at h; · simp at h
  rename_i hany
  exact Or.inr ⟨hc1, not_not.mp hl, v, z, h5, h6, not_not.mp hz, not_not.mp hany,
    (Option.some.inj h).symm⟩

theorem mulpBig_matrix (w : ℕ) (m : Mat) (hcols : ∀ r ∈ m, ∀ je ∈ r, je.1 < m.length) (p : ℕ)
    (hp : (p : Int) < 2 ^ (w - 1)) (v : List ℕ) (hv : ∀ j, ((v.getD j 0 : ℕ) : Int) < 2 ^ (w - 1))
    (z : List ℕ) (h : mulpBig w m p v = some z) (hn : 0 < m.length) :
    0 < p ∧ RedVec p m.length z ∧ colOf p m.length z = matOf p m.length m * colOf p m.length v := by
  unfold mulpBig at h
  split at h
  · simp at h
  obtain ⟨z1, hz⟩ := mapM_some_getD _ [] m z h
  have z2 := fun i hi => (rowBig_exact w _ hv p hp _ _ (hz i hi)).1
  have hp0 : 0 < p := Nat.pos_of_ne_zero (rowBig_exact w _ hv p hp _ _ (hz 0 hn)).2
  have hp' : (0 : Int) < p := by exact_mod_cast hp0
  refine ⟨hp0, ⟨z1, fun j => ?_⟩, ?_⟩
  · by_cases hj : j < m.length
    · rw [z2 j hj]
      have h1 := Int.emod_lt_of_pos (rowDot (fun j => v.getD j 0) (m.getD j [])) hp'
      have h2 := Int.emod_nonneg (rowDot (fun j => v.getD j 0) (m.getD j [])) (ne_of_gt hp')
      omega
    · rw [List.getD_eq_default _ _ (by omega)]; exact hp0
  · rw [← mulp_matrix m.length m hcols v hp0]
    ext i k
    have g0 : (rowDot (fun j => v.getD j 0) [] % (p : Int)).toNat = 0 := by simp [rowDot, sumSel]
    show ((z.getD i.val 0 : ℕ) : ZMod p) = (((m.map _).getD i.val 0 : ℕ) : ZMod p)
    rw [getD_map_zero _ g0, z2 i.val i.isLt]

theorem kerBig_sound (w : ℕ) (m : Mat) (hcols : ∀ r ∈ m, ∀ je ∈ r, je.1 < m.length) (p : ℕ)
    (hp : (p : Int) < 2 ^ (w - 1)) (v0 : List ℕ) (hv0 : ∀ x ∈ v0, x < p) (v : List ℕ)
    (h : kerBig w m p v0 = some (some v)) :
    RedVec p m.length v ∧ (∃ x ∈ v, x ≠ 0) ∧
      matOf p m.length m * colOf p m.length v = 0 := by
  obtain ⟨_, cp, _, _, _, _, _, ⟨_, hr⟩ | ⟨_, hlen0, v', z, h5, h6, hall, hany, hr⟩⟩ :=
    kerBig_some w m p v0 _ h
  · simp at hr
  obtain rfl : v = v' := Option.some.inj hr
  have hn : 0 < m.length := by
    by_contra hc
    have hm0 : m.length = 0 := by omega
    have : v0 = [] := List.length_eq_zero_iff.mp (by omega)
    subst this
    rw [hm0] at h5
    simp [hornerBig] at h5
    subst h5
    simp at hany
  have hp0 : 0 < p := by
    have : 0 < v0.length := by omega
    have hx := hv0 (v0[0]) (List.getElem_mem this)
    omega
  have hred0 : RedVec p m.length v0 := ⟨hlen0, Ymq.BM.red_of_mem hp0 v0 hv0⟩
  have hred := hornerBig_red w m p cp v0 _ _ _ _ h5 hred0
  obtain ⟨_, z1, zc⟩ := mulpBig_matrix w m hcols p hp v (hred.cast_lt hp) z h6 hn
  refine ⟨hred, ?_, ?_⟩
  · rw [List.any_eq_true] at hany
    obtain ⟨x, hx, hx'⟩ := hany
    exact ⟨x, hx, by simpa using hx'⟩
  · rw [List.all_eq_true] at hall
    rw [← zc]
    ext i k
    show ((z.getD i.val 0 : ℕ) : ZMod p) = 0
    have hi : i.val < z.length := by rw [z1.1]; exact i.isLt
    have hzi : z.getD i.val 0 = z[i.val] := by
      simp [List.getD_eq_getElem?_getD, List.getElem?_eq_getElem hi]
    have := hall _ (List.getElem_mem hi)
    rw [hzi]
    simp at this
    rw [this]; simp


theorem bitLen_lt (p k : ℕ) (h : bitLen p < k + 1) : p < 2 ^ k := by
  unfold bitLen at h
  by_cases hp : p = 0
  · subst hp; exact Nat.two_pow_pos k
  · rw [if_neg hp] at h
    exact (Nat.log2_lt hp).mp (by omega)

/-- the dispatch of `ker_p256` always picks a signed type in which `p` is positive, provided
`p < 2^255` -/
theorem kerWidth_bound (m : Mat) (p : ℕ) (h : p < 2 ^ 255) :
    (p : Int) < 2 ^ (kerWidth m p - 1) := by
  unfold kerWidth
  simp only
  split
  · rename_i hc
    have := bitLen_lt p 55 hc.1
    have h2 : (2 : ℕ) ^ 55 ≤ 2 ^ 63 := Nat.pow_le_pow_right (by norm_num) (by norm_num)
    exact_mod_cast lt_of_lt_of_le this h2
  · split
    · rename_i hc
      have := bitLen_lt p 119 hc.1
      have h2 : (2 : ℕ) ^ 119 ≤ 2 ^ 127 := Nat.pow_le_pow_right (by norm_num) (by norm_num)
      exact_mod_cast lt_of_lt_of_le this h2
    · split
      · rename_i hc
        have := bitLen_lt p 181 hc.1
        have h2 : (2 : ℕ) ^ 181 ≤ 2 ^ 191 := Nat.pow_le_pow_right (by norm_num) (by norm_num)
        exact_mod_cast lt_of_lt_of_le this h2
      · exact_mod_cast h

theorem kerBig_none_iff (w : ℕ) (m : Mat) (p : ℕ) (v0 : List ℕ) :
    kerBig w m p v0 = some none ↔
      ∃ seq cp, krylovBig w m p (2 * m.length + 1) (startVec m.length 0 1) [] = some seq ∧
        Ymq.BM.bmBig p seq = some cp ∧ cp[m.length]? = some 0 ∧ cp[m.length - 1]? = some 0 := by
  constructor
  · intro h
    obtain ⟨seq, cp, c1, h1, h2, h3, h4, ⟨hc1, _⟩ | ⟨_, _, _, _, _, _, _, _, hr⟩⟩ :=
      kerBig_some w m p v0 _ h
    · exact ⟨seq, cp, h1, h2, h3, by rw [h4, hc1]⟩
    · simp at hr
  · rintro ⟨seq, cp, h1, h2, h3, h4⟩
    simp [kerBig, h1, h2, h3, h4]

/-- a nonsingular matrix (the polynomial read has `charpoly[size] ≠ 0`) makes `ker_pbig` panic:
`assert!(c0.is_zero())` -/
theorem kerBig_panic_of_c0 (w : ℕ) (m : Mat) (p : ℕ) (v0 seq cp : List ℕ) (c0 : ℕ)
    (h1 : krylovBig w m p (2 * m.length + 1) (startVec m.length 0 1) [] = some seq)
    (h2 : Ymq.BM.bmBig p seq = some cp) (h3 : cp[m.length]? = some c0) (hc : c0 ≠ 0) :
    kerBig w m p v0 = none := by
  simp [kerBig, h1, h2, h3, hc]

/-- a panic of Berlekamp–Massey (in particular the degenerate Krylov sequence `[1,0,...,0]`:
`bm_big_no_panic_iff`) is a panic of `ker_pbig` -/
theorem kerBig_panic_of_bm (w : ℕ) (m : Mat) (p : ℕ) (v0 seq : List ℕ)
    (h1 : krylovBig w m p (2 * m.length + 1) (startVec m.length 0 1) [] = some seq)
    (h2 : Ymq.BM.bmBig p seq = none) : kerBig w m p v0 = none := by
  simp [kerBig, h1, h2]

end Ymq.Wied
