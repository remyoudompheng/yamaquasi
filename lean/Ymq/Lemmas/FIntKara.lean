/-
C10: the Karatsuba routine inside `FInt::mul` (model `kmul`, `mulBasicRows`, `macRowChk`, `midCarry`,
`karaCombine` in Ymq/Model/FInt.lean) computes the exact product of the word vectors and reaches no
panic site (`kmul_spec`), on the domain `kOk` (every power of two, every length `≤ 16`, …).
-/
import Ymq.Lemmas.FIntBasic
import Mathlib.Tactic.Ring
import Mathlib.Tactic.Linarith
import Mathlib.Tactic.NormNum

namespace Ymq.FInt
open Ymq.Limbs

theorem W_val : W = 18446744073709551616 := rfl

theorem macRowChk_eq (a : Nat) (ha : a < W) : ∀ (ys zs : List Nat) (c : Nat), Wf ys → Wf zs → c < W →
    macRowChk a ys zs c = some (macRow a ys zs c) := by
  intro ys
  induction ys with
  | nil => intro zs c _ _ _; cases zs <;> simp [macRowChk, macRow]
  | cons y ys ih =>
    intro zs c hy hz hc
    cases zs with
    | nil => simp [macRowChk, macRow]
    | cons z zs =>
      obtain ⟨hy0, hys⟩ := Wf_cons.1 hy
      obtain ⟨hz0, hzs⟩ := Wf_cons.1 hz
      have hay : a * y ≤ (W - 1) * (W - 1) := Nat.mul_le_mul (by omega) (by omega)
      rw [W_val] at ha hy0 hz0 hc hay
      have hay' : a * y ≤ 340282366920938463426481119284349108225 := by norm_num at hay; exact hay
      unfold macRowChk macRow
      simp only
      generalize a * y = P at hay' ⊢
      have h128 : (2 : Nat) ^ 128 = 340282366920938463463374607431768211456 := by norm_num
      rw [if_neg (by rw [h128]; omega)]
      have hcarry : (P + c) / W + (z + (P + c) % W) / W = (P + z + c) / W := by rw [W_val]; omega
      have hlow : (z + (P + c) % W) % W = (P + z + c) % W := by rw [W_val]; omega
      have hclt : (P + z + c) / W < W := by rw [W_val]; omega
      rw [hcarry, hlow, if_neg (by omega), ih zs _ hys hzs hclt]

theorem zeros_drop (k j : Nat) : (zeros k).drop j = zeros (k - j) := by
  unfold zeros; simp

theorem val_zeros_append (k : Nat) (l : List Nat) : val (zeros k ++ l) = W ^ k * val l := by
  rw [val_append, val_zeros, zeros_length, Nat.zero_add]

/-- the carry out of a multiply-accumulate row is a word: `a·q + s < (a + 1)·P ≤ W·P` -/
theorem macRow_carry_lt {P a q s r c : Nat} (ha : a < W) (hq : q < P) (hs : s < P)
    (e : r + P * c = a * q + s + 0) : c < W := by
  by_contra hcon
  have hA : a * q ≤ P * a := by rw [Nat.mul_comm P]; exact Nat.mul_le_mul_left _ (le_of_lt hq)
  have hB := Nat.mul_le_mul_left P (show a + 1 ≤ W from ha)
  have hC : P * W ≤ P * c := Nat.mul_le_mul_left _ (by omega)
  rw [Nat.mul_succ] at hB
  omega

/-- the rows of `mulbasic` from row `i` on add `W^i·ps·q` to `z`, whose words from `i + |q|` on are still zero -/
theorem mulBasicRows_spec {nq nz : Nat} : ∀ (ps q : List Nat) (i : Nat) (z : List Nat), Wf ps → Sl nq q → Sl nz z →
    i + ps.length + nq ≤ nz → z.drop (i + nq) = zeros (nz - (i + nq)) →
    ∃ z', mulBasicRows ps q i z = some z' ∧ Sl nz z' ∧ val z' = val z + W ^ i * (val ps * val q) := by
  intro ps
  induction ps with
  | nil => intro q i z _ _ hz _ _; exact ⟨z, rfl, hz, by simp [val]⟩
  | cons a ps ih =>
    intro q i z hp hq hz hlen hzero
    obtain ⟨ha, hps⟩ := Wf_cons.1 hp
    simp only [List.length_cons] at hlen
    unfold mulBasicRows
    rw [hz.1, hq.1, if_neg (by omega)]
    set seg := (z.drop i).take nq with hseg
    have sseg : Sl nq seg := (hz.drop i).take (by omega)
    rw [macRowChk_eq a ha q seg 0 hq.2 sseg.2 W_pos]
    simp only
    obtain ⟨m1, m2, m3⟩ := macRow_spec a q seg 0 (hq.1.trans sseg.1.symm)
    rw [hq.1] at m1 m2
    set r := (macRow a q seg 0).1 with hr
    set c := (macRow a q seg 0).2 with hc
    have hcW : c < W := macRow_carry_lt ha hq.lt sseg.lt m1
    set z1 := z.take i ++ r ++ [c] ++ z.drop (i + nq + 1) with hz1
    have l1 : (z.take i ++ r ++ [c]).length = i + 1 + nq := by
      simp only [List.length_append, (hz.take (k := i) (by omega)).1, List.length_cons, List.length_nil, m2]; omega
    have sz1 : Sl nz z1 :=
      ((((hz.take (by omega)).append ⟨m2, m3⟩).append (Sl.single hcW)).append (hz.drop (i + nq + 1))).cast (by omega)
    have htail : z.drop (i + nq + 1) = zeros (nz - (i + nq) - 1) := by
      rw [← List.drop_drop, hzero, zeros_drop]
    have hzero1 : z1.drop (i + 1 + nq) = zeros (nz - (i + 1 + nq)) := by
      have : z1.drop (i + 1 + nq) = z.drop (i + nq + 1) := by rw [hz1, ← l1, List.drop_left]
      rw [this, htail]
      congr 1; omega
    obtain ⟨z', e, sz', vz'⟩ := ih q (i + 1) z1 hps hq sz1 (by omega) hzero1
    refine ⟨z', e, sz', ?_⟩
    rw [vz']
    have hv : val z = val (z.take i) + W ^ i * val seg := by
      rw [val_take_drop z i, val_take_drop (z.drop i) nq, ← hseg, List.drop_drop, hzero, val_zeros,
        Nat.mul_zero, Nat.add_zero]
    have hv1 : val z1 = val (z.take i) + W ^ i * (val r + W ^ nq * c) := by
      rw [hz1, val_append, val_append, val_append, htail, val_zeros]
      simp only [List.length_append, (hz.take (k := i) (by omega)).1, List.length_cons, List.length_nil, m2, val,
        Nat.mul_zero, Nat.add_zero]
      ring
    rw [hv1, hv, m1, val_cons, pow_succ]
    ring


/-- domain of `kmul`: halving stays even down to at most 16 words (`if n <= 16 { mulbasic … }` in `karatsuba`), within
recursion depth `f` (the model's `KFUEL = 64` is far above `log2` of any `N`) -/
def kOk : Nat → Nat → Bool
  | 0, _ => false
  | f + 1, n => decide (n ≤ 16) || (decide (n % 2 = 0) && kOk f (n / 2))

/-- `_add_slices(&mut x[half..], y)` for `|x| = 2·half`, `|y| = half` -/
theorem add_upper {x y : List Nat} {half : Nat} (hx : Sl (2 * half) x) (hy : Sl half y) :
    val (x.take half ++ (addc (x.drop half) y 0).1) + W ^ half * W ^ half * (addc (x.drop half) y 0).2 =
        val x + W ^ half * val y ∧
      Sl (2 * half) (x.take half ++ (addc (x.drop half) y 0).1) ∧ (addc (x.drop half) y 0).2 ≤ 1 := by
  obtain ⟨st, sd, hv⟩ := hx.halves
  obtain ⟨d, k, hr, sdd, hk, e1⟩ := addc_words sd hy (c := 0) (by omega)
  rw [hr]
  refine ⟨?_, (st.append sdd).cast (Nat.two_mul half).symm, hk⟩
  rw [val_append, st.1, hv]
  linear_combination W ^ half * e1


/-- the middle product with its carries: `(sp1 + cp·B)(sq1 + cq·B)` from `zmid = sp1·sq1` -/
theorem mid_carry {sp1 sq1 zmid : List Nat} (cp cq : Nat) {half : Nat} (sp : Sl half sp1) (sq : Sl half sq1)
    (sz : Sl (2 * half) zmid) (hcp : cp ≤ 1) (hcq : cq ≤ 1) (hv : val zmid = val sp1 * val sq1) :
    val (midCarry zmid sp1 sq1 cp cq half).1 + W ^ half * W ^ half * (midCarry zmid sp1 sq1 cp cq half).2 =
        (val sp1 + W ^ half * cp) * (val sq1 + W ^ half * cq) ∧
      Sl (2 * half) (midCarry zmid sp1 sq1 cp cq half).1 := by
  unfold midCarry
  simp only
  obtain rfl | rfl : cp = 0 ∨ cp = 1 := by omega
  all_goals obtain rfl | rfl : cq = 0 ∨ cq = 1 := by omega
  · simp only [zero_ne_one, false_and, if_false, Nat.mul_zero, Nat.add_zero]
    exact ⟨hv, sz⟩
  · simp only [zero_ne_one, false_and, if_false, if_true, Nat.mul_zero, Nat.add_zero, Nat.zero_add, Nat.mul_one]
    obtain ⟨a1, a2, -⟩ := add_upper sz sp
    exact ⟨by rw [a1, hv]; ring, a2⟩
  · simp only [zero_ne_one, and_false, if_false, if_true, Nat.mul_zero, Nat.add_zero, Nat.zero_add, Nat.mul_one]
    obtain ⟨a1, a2, -⟩ := add_upper sz sq
    exact ⟨by rw [a1, hv]; ring, a2⟩
  · simp only [and_self, if_true, Nat.mul_one]
    obtain ⟨a1, a2, -⟩ := add_upper sz sp
    obtain ⟨b1, b2, -⟩ := add_upper a2 sq
    rw [hv] at a1
    exact ⟨by linear_combination a1 + b1, b2⟩


/-- the word above the middle term: `carrymid - (carrylo + carryhi)` does not underflow and is `0` or `1` -/
theorem kara_top (B P0 P1 Q0 Q1 m2v m2c s2v c1 c2 : Nat) (hP0 : P0 < B) (hP1 : P1 < B) (hQ0 : Q0 < B)
    (hQ1 : Q1 < B) (hs : s2v < B * B)
    (em : m2v + B * B * m2c = (P0 + P1) * (Q0 + Q1))
    (es : s2v + P0 * Q0 + P1 * Q1 = m2v + B * B * (c1 + c2)) :
    c1 + c2 ≤ m2c ∧ m2c - (c1 + c2) ≤ 1 ∧ s2v + B * B * (m2c - (c1 + c2)) = P0 * Q1 + P1 * Q0 := by
  have h1 : s2v + B * B * m2c = P0 * Q1 + P1 * Q0 + B * B * (c1 + c2) := by
    linear_combination em + es
  have hX : P0 * Q1 + P1 * Q0 < 2 * (B * B) := by
    have a := Nat.mul_lt_mul'' hP0 hQ1
    have b := Nat.mul_lt_mul'' hP1 hQ0
    omega
  have hle : c1 + c2 ≤ m2c := by
    by_contra hcon
    have : B * B * (m2c + 1) ≤ B * B * (c1 + c2) := Nat.mul_le_mul_left _ (by omega)
    rw [Nat.mul_add, Nat.mul_one] at this
    omega
  obtain ⟨t, ht⟩ : ∃ t, m2c = c1 + c2 + t := ⟨m2c - (c1 + c2), by omega⟩
  have hsub : m2c - (c1 + c2) = t := by omega
  rw [hsub]
  rw [ht, Nat.mul_add] at h1
  have h2 : s2v + B * B * t = P0 * Q1 + P1 * Q0 := by omega
  refine ⟨hle, ?_, h2⟩
  by_contra hcon
  have : B * B * 2 ≤ B * B * t := Nat.mul_le_mul_left _ (by omega)
  omega

/-- the final recombination: no carry leaves the `2n` words -/
theorem kara_final (B P0 P1 Q0 Q1 zlo zhi a1v a1c hiv hic : Nat) (hP0 : P0 < B) (hP1 : P1 < B) (hQ0 : Q0 < B)
    (hQ1 : Q1 < B)
    (ez : zlo + B * B * zhi = B * (P0 * Q1 + P1 * Q0))
    (e1 : a1v + B * B * a1c = zlo + P0 * Q0)
    (e2 : hiv + B * B * hic = zhi + P1 * Q1 + a1c) :
    hic = 0 ∧ a1v + B * B * hiv = (P0 + B * P1) * (Q0 + B * Q1) := by
  have htot : a1v + B * B * hiv + B * B * (B * B) * hic = (P0 + B * P1) * (Q0 + B * Q1) := by
    linear_combination e1 + B * B * e2 + ez
  have two : ∀ p0 p1, p0 < B → p1 < B → p0 + B * p1 < B * B := by
    intro p0 p1 h0 h1
    have := Nat.mul_le_mul_left B (show p1 + 1 ≤ B from h1)
    rw [Nat.mul_succ] at this
    omega
  have hP := two P0 P1 hP0 hP1
  have hQ := two Q0 Q1 hQ0 hQ1
  have hPQ : (P0 + B * P1) * (Q0 + B * Q1) < B * B * (B * B) := Nat.mul_lt_mul'' hP hQ
  have h0 : hic = 0 := by
    by_contra hcon
    have : B * B * (B * B) * 1 ≤ B * B * (B * B) * hic := Nat.mul_le_mul_left _ (by omega)
    omega
  rw [h0, Nat.mul_zero, Nat.add_zero] at htot
  exact ⟨h0, htot⟩


theorem karaCombine_spec (m2 : List Nat × Nat) (blo bhi : List Nat) (half : Nat) (P0 P1 Q0 Q1 : Nat)
    (hh : 1 ≤ half) (sm : Sl (2 * half) m2.1) (sb : Sl (2 * half) blo) (sh : Sl (2 * half) bhi)
    (hP0 : P0 < W ^ half) (hP1 : P1 < W ^ half) (hQ0 : Q0 < W ^ half) (hQ1 : Q1 < W ^ half)
    (em : val m2.1 + W ^ half * W ^ half * m2.2 = (P0 + P1) * (Q0 + Q1))
    (eb : val blo = P0 * Q0) (eh : val bhi = P1 * Q1) :
    ∃ z, karaCombine m2 blo bhi half (2 * half) = some z ∧ Sl (2 * half + 2 * half) z ∧
      val z = (P0 + W ^ half * P1) * (Q0 + W ^ half * Q1) := by
  have hBB : W ^ (2 * half) = W ^ half * W ^ half := by rw [← pow_add]; congr 1; omega
  unfold karaCombine
  obtain ⟨d1, c1, hs1, sd1, -, s11⟩ := subSlices_spec sm sb (c := 0) (by omega)
  obtain ⟨d2, c2, hs2, sd2, -, s21⟩ := subSlices_spec sd1 sh (c := 0) (by omega)
  simp only [hs1, hs2]
  rw [hBB] at s11 s21
  obtain ⟨t1, t2, t3⟩ := kara_top (W ^ half) P0 P1 Q0 Q1 (val m2.1) m2.2 (val d2) c1 c2 hP0 hP1 hQ0 hQ1
    (hBB ▸ sd2.lt) em (by rw [← eb, ← eh]; linear_combination s11 + s21)
  rw [if_neg (Nat.not_lt.2 t1), if_neg (Nat.not_lt.2 t2)]
  generalize m2.2 - (c1 + c2) = top at t2 t3 ⊢
  -- the middle term in place: `z = W^half · (P0·Q1 + P1·Q0)`
  obtain ⟨z, hz⟩ : ∃ z, z = zeros half ++ d2 ++ [top] ++ zeros (half - 1) := ⟨_, rfl⟩
  rw [← hz]
  have sz : Sl (2 * half + 2 * half) z := hz ▸
    ((((Sl.zeros half).append sd2).append (Sl.single (by have := W_gt; omega))).append (Sl.zeros (half - 1))).cast
      (by omega)
  have vz : val z = W ^ half * (P0 * Q1 + P1 * Q0) := by
    rw [hz, val_append, val_append, val_zeros_append, val_zeros, ← t3]
    simp only [List.length_append, zeros_length, sd2.1, List.length_cons, List.length_nil, val, Nat.mul_zero,
      Nat.add_zero]
    rw [pow_add, hBB]
    ring
  obtain ⟨st, sd, vsplit⟩ := sz.split
  rw [vz, hBB] at vsplit
  obtain ⟨a1, k1, ha1, sa1, k1le, a11⟩ := addc_words st sb (c := 0) (by omega)
  obtain ⟨a2, k2, ha2, sa2, -, a21⟩ := addc_words sd sh (c := 0) (by omega)
  obtain ⟨r, kr, hr, sr, -, r1⟩ := addRipple_spec 1 sa2 (by decide)
  simp only [ha1, ha2, hr]
  rw [hBB] at a11 a21 r1
  -- the high half after the carry `k1` of the low half has been propagated
  obtain ⟨hl, hc, ehi, shl, eqh⟩ : ∃ hl hc, (if k1 = 1 then (r, k2 + kr) else (a2, k2)) = (hl, hc) ∧
      Sl (2 * half) hl ∧ val hl + W ^ half * W ^ half * hc = val (z.drop (2 * half)) + val bhi + k1 := by
    obtain rfl | rfl := Nat.le_one_iff_eq_zero_or_eq_one.1 k1le
    · exact ⟨_, _, if_neg (by decide), sa2, by linear_combination a21⟩
    · exact ⟨_, _, if_pos rfl, sr, by linear_combination r1 + a21⟩
  rw [ehi]
  simp only
  obtain ⟨f1, f2⟩ := kara_final (W ^ half) P0 P1 Q0 Q1 (val (z.take (2 * half))) (val (z.drop (2 * half)))
    (val a1) k1 (val hl) hc hP0 hP1 hQ0 hQ1 vsplit.symm (by rw [← eb]; linear_combination a11)
    (by rw [← eh]; exact eqh)
  rw [if_neg (not_not.2 f1)]
  exact ⟨a1 ++ hl, rfl, sa1.append shl, by rw [val_append, sa1.1, hBB, f2]⟩

/-- **the Karatsuba routine inside `FInt::mul` is the exact product of the word vectors**: for operands of
`n` words each in the domain `kOk` (halving stays even down to `≤ 16` words; every power of two, every
`n ≤ 16`), scratch of at least `4n` words: no panic site is reached (slice splits, the overflow checks of
`mulbasic`, `carrymid - (carrylo + carryhi)` and its `debug_assert!`, `debug_assert!(carry2 == 0)`) and
the `2n` result words are the product. -/
theorem kmul_sl : ∀ (f tl n : Nat) (p q : List Nat), kOk f n = true → Sl n p → Sl n q → 4 * n ≤ tl →
    ∃ z, kmul f tl p q = some z ∧ Sl (2 * n) z ∧ val z = val p * val q := by
  intro f
  induction f with
  | zero => intro tl n p q hk; simp [kOk] at hk
  | succ f ih =>
    intro tl n p q hk sp sq htl
    unfold kmul
    simp only [sp.1, sq.1, ne_eq, not_true_eq_false, if_false]
    by_cases h16 : n ≤ 16
    · rw [if_pos h16]
      obtain ⟨z, e, sz, vz⟩ := mulBasicRows_spec p q 0 (zeros (2 * n)) sp.2 sq (Sl.zeros _) (by rw [sp.1]; omega)
        (by rw [zeros_drop])
      exact ⟨z, e, sz, by rw [vz, val_zeros, pow_zero]; ring⟩
    · rw [if_neg h16]
      unfold kOk at hk
      simp only [Bool.or_eq_true, Bool.and_eq_true, decide_eq_true_eq] at hk
      obtain ⟨heven, hk'⟩ : n % 2 = 0 ∧ kOk f (n / 2) = true := hk.resolve_left h16
      obtain ⟨half, rfl⟩ : ∃ half, n = 2 * half := ⟨n / 2, by omega⟩
      rw [Nat.mul_div_cancel_left _ (by decide : 0 < 2)] at hk' ⊢
      rw [if_neg (by omega), if_neg (by omega)]
      obtain ⟨sp0, sp1, vp⟩ := sp.halves
      obtain ⟨sq0, sq1, vq⟩ := sq.halves
      obtain ⟨sP, cp, hsp, ssp, cpl, esp⟩ := addc_words sp0 sp1 (c := 0) (by omega)
      obtain ⟨sQ, cq, hsq, ssq, cql, esq⟩ := addc_words sq0 sq1 (c := 0) (by omega)
      obtain ⟨zmid, em, szm, vzm⟩ := ih tl half sP sQ hk' ssp ssq (by omega)
      obtain ⟨blo, elo, slo, vlo⟩ := ih (tl - 2 * (2 * half)) half _ _ hk' sp0 sq0 (by omega)
      obtain ⟨bhi, ehi, shi, vhi⟩ := ih (tl - 2 * (2 * half)) half _ _ hk' sp1 sq1 (by omega)
      simp only [hsp, hsq, em, elo, ehi]
      obtain ⟨mv, sm⟩ := mid_carry cp cq ssp ssq szm cpl cql vzm
      obtain ⟨z, ez, sz, vz⟩ := karaCombine_spec (midCarry zmid sP sQ cp cq half) blo bhi half
        (val (p.take half)) (val (p.drop half)) (val (q.take half)) (val (q.drop half)) (by omega) sm
        slo shi sp0.lt sp1.lt sq0.lt sq1.lt (by rw [mv, esp, esq]; ring) vlo vhi
      exact ⟨z, ez, sz.cast (by omega), by rw [vz, vp, vq]⟩

theorem kmul_spec (f tl : Nat) (p q : List Nat) (hk : kOk f p.length = true) (hl : q.length = p.length)
    (ht : 4 * p.length ≤ tl) (wp : Wf p) (wq : Wf q) :
    ∃ z, kmul f tl p q = some z ∧ z.length = 2 * p.length ∧ Wf z ∧ val z = val p * val q := by
  obtain ⟨z, e, sz, vz⟩ := kmul_sl f tl p.length p q hk ⟨rfl, wp⟩ ⟨hl, wq⟩ ht
  exact ⟨z, e, sz.1, sz.2, vz⟩

theorem kOk_pow2 (a : Nat) : kOk (a + 1) (2 ^ a) = true := by
  induction a with
  | zero => decide
  | succ a ih =>
    unfold kOk
    have hp : 0 < 2 ^ a := Nat.pow_pos (by decide)
    have h1 : 2 ^ (a + 1) % 2 = 0 := by rw [pow_succ]; omega
    have h2 : 2 ^ (a + 1) / 2 = 2 ^ a := by rw [pow_succ]; omega
    simp [h1, h2, ih]

theorem kOk_mono : ∀ (f g n : Nat), f ≤ g → kOk f n = true → kOk g n = true := by
  intro f
  induction f with
  | zero => intro g n _ h; simp [kOk] at h
  | succ f ih =>
    intro g n hfg h
    cases g with
    | zero => omega
    | succ g =>
      unfold kOk at h ⊢
      simp only [Bool.or_eq_true, Bool.and_eq_true, decide_eq_true_eq] at h ⊢
      rcases h with h | ⟨h1, h2⟩
      · exact Or.inl h
      · exact Or.inr ⟨h1, ih g _ (by omega) h2⟩

end Ymq.FInt
