/-
C03/qs64, validity: every relation `qsieve64::qsieve` hands to `relations::final_step` is a true
congruence modulo `n` with cofactor 1 (`FinalRel`). The proof does not look at the sieve at all:
whatever the interval contains, the candidate at ANY index yields a valid relation (trial division
is exact by C08 `divmod64`), and `combine` (C11) keeps validity.
Also here: `FBase::new64` returns for every `nk`, with what its entries satisfy (`new64_spec`), and
`setup` read as its guards (`setup_ok_iff`).
-/
import Ymq.Model.Qsieve64
import Ymq.Lemmas.RelationsFinal
import Ymq.Lemmas.RelationsStore
import Ymq.Props.C08
import Ymq.Lemmas.FactorTop

namespace Ymq.Qsieve64
open Ymq.Relations
open Ymq.Gen.Primality (smallPrimes)

theorem liftO_ok {α : Type} {o : Option α} {a : α} : liftO o = .ok a ↔ o = some a := by
  cases o with
  | none => simp [liftO, throw_ne_ok]
  | some b => simp [liftO, pure_eq_ok]

theorem chkI64_ok {x y : Int} : chkI64 x = .ok y ↔ y = x ∧ -(I63 : Int) ≤ x ∧ x < (I63 : Int) := by
  unfold chkI64
  split
  · rename_i h
    rw [pure_eq_ok]
    exact ⟨fun e => ⟨e.symm, h⟩, fun e => e.1.symm⟩
  · rename_i h
    rw [throw_ne_ok]
    exact ⟨False.elim, fun e => h e.2⟩

theorem chkI64_bind {α : Type} {x : Int} {f : Int → M α} (h1 : -(I63 : Int) ≤ x)
    (h2 : x < (I63 : Int)) : (chkI64 x >>= f) = f x := by
  rw [chkI64_ok.mpr ⟨rfl, h1, h2⟩]; rfl

theorem ite_throw_ok {α : Type} {c : Prop} [Decidable c] {e : Err} {x : M α} {r : α} :
    (if c then throw e else x) = .ok r ↔ ¬ c ∧ x = .ok r := by
  by_cases h : c
  · rw [if_pos h, throw_ne_ok]; exact ⟨False.elim, fun g => g.1 h⟩
  · rw [if_neg h]; exact ⟨fun g => ⟨h, g⟩, fun g => g.2⟩

theorem ite_pure_ok {α : Type} {c : Prop} [Decidable c] {a : α} {x : M α} {r : α} :
    (if c then pure a else x) = .ok r ↔ (c ∧ a = r) ∨ (¬ c ∧ x = .ok r) := by
  by_cases h : c
  · rw [if_pos h, pure_eq_ok]
    exact ⟨fun g => Or.inl ⟨h, g⟩, fun g => g.elim (·.2) (fun g => (g.1 h).elim)⟩
  · rw [if_neg h]
    exact ⟨fun g => Or.inr ⟨h, g⟩, fun g => g.elim (fun g => (h g.1).elim) (·.2)⟩

theorem toU64_lt {a : Int} (h0 : 0 ≤ a) (h : a < (W64 : Int)) : toU64 a < 2 ^ 64 := by
  have h1 := toU64_nonneg h0 h
  have hW : (W64 : Int) = 2 ^ 64 := by decide
  omega

/-- a factor-base entry as `new64` builds it: the divider is what `Dividers::new(p)` returns -/
def EntryOK (e : FbEntry) : Prop := Dividers.Ok e.div ∧ e.div.p = e.p

theorem W64_eq : (W64 : Nat) = 2 ^ 64 := by decide

theorem I63_eq : (I63 : Int) = 2 ^ 63 := by decide

theorem smallPrimes_lt : ∀ p ∈ Ymq.Gen.Primality.smallPrimes, p < 200 := by decide

/-- the precondition of `Dividers::new` on the table (`Dividers.new_two`, `Dividers.new_some`) -/
theorem smallPrimes_new : ∀ p ∈ smallPrimes, p = 2 ∨ (3 ≤ p ∧ Ymq.Limbs.W % p ≠ 0) := by
  decide

theorem smallPrimes_nodup : smallPrimes.Nodup := by decide +kernel

theorem sqrtMod_two (nk : Nat) : ∃ r, Ymq.Arith.sqrtMod W64 nk 2 = some (some r) := by
  rcases Ymq.C08.sqrt_mod_exact W64 nk 2 Nat.prime_two (by decide) (Or.inr (by decide)) with
    ⟨r, h, _⟩ | ⟨_, h⟩
  · exact ⟨r, h⟩
  · refine absurd ⟨nk, ?_⟩ h
    rcases Nat.mod_two_eq_zero_or_one nk with h2 | h2 <;> rw [Nat.mul_mod, h2]

/-- what `new64` guarantees about an entry -/
structure FbFact (nk : Nat) (e : FbEntry) : Prop where
  ok : EntryOK e
  prime : e.p.Prime
  lt : e.p < 200
  rlt : e.r < e.p
  root : e.r * e.r % e.p = nk % e.p

/-- what `new64` guarantees about the factor base as a whole; 46 = `SMALL_PRIMES.len()` -/
structure FbOK (nk : Nat) (fb : List FbEntry) : Prop where
  fact : ∀ e ∈ fb, FbFact nk e
  nodup : (fb.map (·.p)).Nodup
  len : fb.length ≤ 46

/-- a table entry `new64` can handle: `sqrt_mod` and `Dividers::new` return on it (C08). The
largest table prime is 199; `p < 200` gives `(p − 1)² < 2^64`, the domain of `sqrt_mod_no_panic` -/
def PrimeOK (p : Nat) : Prop :=
  p.Prime ∧ p < 200 ∧ (p = 2 ∨ (3 ≤ p ∧ Ymq.Limbs.W % p ≠ 0))

theorem new64Loop_spec (nk : Nat) : ∀ (ps : List Nat), (∀ p ∈ ps, PrimeOK p) →
    ∃ fb, new64Loop nk ps = .ok fb ∧ (∀ e ∈ fb, FbFact nk e) ∧ List.Sublist (fb.map (·.p)) ps ∧
      ∀ p ∈ ps, (∃ r, Ymq.Arith.sqrtMod W64 nk p = some (some r)) → p ∈ fb.map (·.p) := by
  intro ps
  induction ps with
  | nil =>
    intro _
    exact ⟨[], rfl, fun e he => (nomatch he), List.Sublist.refl _, fun p hp => (nomatch hp)⟩
  | cons p ps ih =>
    intro hps
    obtain ⟨fb', hfb', h1, h2, h3⟩ := ih fun q hq => hps q (List.mem_cons_of_mem _ hq)
    obtain ⟨hpp, hp200, hnew⟩ := hps p List.mem_cons_self
    obtain ⟨res, hres⟩ := Ymq.C08.sqrt_mod_no_panic W64 nk p hpp (by
      rw [W64_eq]
      have : p - 1 < 2 ^ 8 := by omega
      calc (p - 1) * (p - 1) < 2 ^ 8 * 2 ^ 8 := Nat.mul_lt_mul'' this this
        _ < 2 ^ 64 := by norm_num) (Or.inr (by omega))
    unfold new64Loop
    rw [hres]
    cases res with
    | none =>
      refine ⟨fb', hfb', h1, List.Sublist.cons _ h2, fun q hq hr => ?_⟩
      rcases List.mem_cons.mp hq with rfl | hq
      · obtain ⟨r, hr⟩ := hr; rw [hres] at hr; cases hr
      · exact h3 q hq hr
    | some r =>
      have hW : (W32 : Nat) = 4294967296 := rfl
      obtain ⟨hrlt, hroot⟩ := Ymq.C08.sqrt_mod_sound _ nk p r hpp hres
      have hp32 : p % W32 = p := Nat.mod_eq_of_lt (by rw [hW]; omega)
      have hr32 : r % W32 = r := Nat.mod_eq_of_lt (by rw [hW]; omega)
      obtain ⟨d, hd⟩ : ∃ d, Dividers.new p = some d := by
        rcases hnew with rfl | ⟨h3, hw⟩
        · exact ⟨_, Dividers.new_two⟩
        · exact Dividers.new_some p h3 (by omega) hw
      obtain ⟨hdp, hok⟩ := Dividers.new_ok _ d hd
      rw [hp32, hd, hfb']
      refine ⟨_, rfl, List.forall_mem_cons.mpr ⟨⟨⟨hok, hdp⟩, hpp, hp200, hr32.symm ▸ hrlt,
        hr32.symm ▸ hroot⟩, h1⟩, List.Sublist.cons_cons _ h2, fun q hq hr => ?_⟩
      rcases List.mem_cons.mp hq with rfl | hq
      · exact List.mem_cons_self
      · exact List.mem_cons_of_mem _ (h3 q hq hr)

theorem new64_spec (nk : Nat) : ∃ fb, new64 nk = .ok fb ∧ FbOK nk fb := by
  obtain ⟨fb, hfb, hf, hsub, hmem⟩ := new64Loop_spec nk smallPrimes fun p hp =>
    ⟨Ymq.Factor.smallPrimes_prime p hp, smallPrimes_lt p hp, smallPrimes_new p hp⟩
  -- the base is not empty: 2 is in the table and everything is a square modulo 2
  have h2 := hmem 2 (by decide) (sqrtMod_two nk)
  unfold new64
  rw [hfb]
  simp only [bind, Except.bind]
  cases hl : fb.getLast? with
  | none => rw [List.getLast?_eq_none_iff.mp hl] at h2; cases h2
  | some e =>
    have := (hf e (List.mem_of_getLast? hl)).lt
    simp only
    rw [if_pos (by omega)]
    refine ⟨fb, rfl, hf, hsub.nodup smallPrimes_nodup, ?_⟩
    have := hsub.length_le
    rw [List.length_map] at this
    exact le_trans this (by decide)

theorem new64_ok {nk : Nat} {fb : List FbEntry} (h : new64 nk = .ok fb) : FbOK nk fb := by
  obtain ⟨fb', h', hf⟩ := new64_spec nk
  cases h'.symm.trans h
  exact hf

theorem divLoop_spec {d : Dividers.Div} (hd : Dividers.Ok d) : ∀ (f v e v' e' : Nat), v < 2 ^ 64 →
    divLoop d f v e = .ok (v', e') → v = v' * d.p ^ (e' - e) ∧ e ≤ e' ∧ v' ≤ v ∧ e' ≤ e + f := by
  intro f
  induction f with
  | zero => intro v e v' e' _ h; simp [divLoop, throw_ne_ok] at h
  | succ f ih =>
    intro v e v' e' hv h
    unfold divLoop at h
    simp only [bind_eq_ok, liftO_ok] at h
    obtain ⟨qr, hqr, h⟩ := h
    rw [Dividers.divmod64_ok d hd v hv] at hqr
    injection hqr with hqr
    subst hqr
    simp only at h
    have hp := hd.p_pos
    split at h
    · rename_i hr
      have hq : v / d.p < 2 ^ 64 := lt_of_le_of_lt (Nat.div_le_self _ _) hv
      obtain ⟨h1, h2, h3, h4⟩ := ih _ _ _ _ hq h
      refine ⟨?_, by omega, le_trans h3 (Nat.div_le_self _ _), by omega⟩
      have hv' : v = d.p * (v / d.p) := by
        have := Nat.div_add_mod v d.p; omega
      have he : e' - e = (e' - (e + 1)) + 1 := by omega
      rw [he, pow_succ, hv']
      conv_lhs => rw [h1]
      ring
    · rw [pure_eq_ok] at h
      injection h with h1 h2
      subst h1; subst h2
      simp

/-- the primes of a factor list: the sign, or non-negative and below 2^63 (needed by C11 `FinalRel`) -/
def BasesOK (fs : List (Int × Nat)) : Prop := ∀ f ∈ fs, f.1 = -1 ∨ (0 ≤ f.1 ∧ f.1 < (I63 : Int))

theorem BasesOK_append {a b : List (Int × Nat)} : BasesOK (a ++ b) ↔ BasesOK a ∧ BasesOK b :=
  List.forall_mem_append

theorem trialLoop_spec : ∀ (fb : List FbEntry), (∀ e ∈ fb, EntryOK e ∧ e.p < I63) →
    ∀ (v : Nat) (fs : List (Int × Nat)) (cof : Nat) (fs' : List (Int × Nat)), v < 2 ^ 64 →
    trialLoop fb v fs = .ok (cof, fs') →
    (v : Int) * fprod fs = (cof : Int) * fprod fs' ∧ cof ≤ v ∧ (BasesOK fs → BasesOK fs') := by
  intro fb
  induction fb with
  | nil =>
    intro _ v fs cof fs' _ h
    cases pure_eq_ok.mp h
    exact ⟨rfl, le_refl _, id⟩
  | cons e t ih =>
    intro hfb v fs cof fs' hv h
    unfold trialLoop at h
    obtain ⟨⟨v1, e1⟩, hve, h⟩ := bind_eq_ok.mp h
    obtain ⟨hE, hp⟩ := hfb e List.mem_cons_self
    obtain ⟨h1, _, h3, _⟩ := divLoop_spec hE.1 65 v 0 v1 e1 hv hve
    obtain ⟨h4, h5, h6⟩ := ih (fun e' he' => hfb e' (List.mem_cons_of_mem _ he')) v1 _ cof fs'
      (lt_of_le_of_lt h3 hv) h
    refine ⟨?_, le_trans h5 h3, fun hb => h6 ?_⟩
    · rw [← h4, h1, hE.2]
      simp only [Nat.sub_zero]
      split
      · rw [fprod_append, fprod_cons, fprod_nil]; push_cast; ring
      · rename_i he0
        have : e1 = 0 := by omega
        subst this
        simp
    · split
      · exact BasesOK_append.mpr ⟨hb, List.forall_mem_singleton.mpr
          (Or.inr ⟨Int.natCast_nonneg _, by show (e.p : Int) < I63; exact_mod_cast hp⟩)⟩
      · exact hb

/-- what `setup` establishes about the polynomial: `(nsqrt + x)² − nk = x² + b·x − c`, `n ∣ nk`,
all constants small enough for the `as i64` casts to be exact -/
structure CtxOK (c : Ctx) : Prop where
  dvd : c.n ∣ c.nk
  b_eq : c.b = 2 * c.nsqrt
  c_eq : c.c + c.nsqrt * c.nsqrt = c.nk
  ns63 : c.nsqrt < I63
  b63 : c.b < I63
  c63 : c.c < I63
  fb : FbOK c.nk c.fb

/-- the value sieved at index `i` of the block at `offset`: `(nsqrt + offset + i)² − nk` -/
def V (c : Ctx) (offset : Int) (i : Nat) : Int :=
  ((c.nsqrt : Int) + ((i : Int) + offset)) * ((c.nsqrt : Int) + ((i : Int) + offset)) - (c.nk : Int)

theorem poly_eq_V {c : Ctx} (hc : CtxOK c) (offset : Int) (i : Nat) :
    ((i : Int) + offset + (c.b : Int)) * ((i : Int) + offset) - (c.c : Int) = V c offset i := by
  have hb : (c.b : Int) = 2 * (c.nsqrt : Int) := by exact_mod_cast hc.b_eq
  have hcc : (c.c : Int) + (c.nsqrt : Int) * (c.nsqrt : Int) = (c.nk : Int) := by
    exact_mod_cast hc.c_eq
  unfold V; rw [hb, ← hcc]; ring

theorem sq_modEq_V {c : Ctx} (hc : CtxOK c) (offset : Int) (i : Nat) :
    ((c.nsqrt : Int) + ((i : Int) + offset)) * ((c.nsqrt : Int) + ((i : Int) + offset)) ≡
      V c offset i [ZMOD c.n] := by
  refine Int.modEq_iff_dvd.mpr ?_
  rw [show V c offset i - ((c.nsqrt : Int) + ((i : Int) + offset)) *
    ((c.nsqrt : Int) + ((i : Int) + offset)) = -(c.nk : Int) by unfold V; ring]
  exact Int.dvd_neg.mpr (Int.natCast_dvd_natCast.mpr hc.dvd)

theorem absI64_ok_iff {v va : Int} :
    absI64 v = .ok va ↔ va = |v| ∧ (v < 0 → -(I63 : Int) ≤ -v ∧ -v < (I63 : Int)) := by
  unfold absI64
  split
  · rename_i h
    rw [chkI64_ok, abs_of_neg h]
    exact ⟨fun g => ⟨g.1, fun _ => g.2⟩, fun g => ⟨g.1, g.2 h⟩⟩
  · rename_i h
    rw [pure_eq_ok, abs_of_nonneg (by omega)]
    exact ⟨fun g => ⟨g.symm, fun h' => absurd h' h⟩, fun g => g.1.symm⟩

/-- the sign entry `candidate` starts the factor list with -/
theorem abs_mul_sign (v : Int) : |v| * fprod (if v < 0 then [((-1 : Int), 1)] else []) = v := by
  split
  · rename_i hn; rw [fprod_cons, fprod_nil, abs_of_neg hn]; ring
  · rename_i hn; rw [fprod_nil, abs_of_nonneg (by omega)]; ring

theorem candidate_valid {c : Ctx} (hc : CtxOK c) {offset : Int} {i : Nat} {rel : Relation}
    (h : candidate c offset i = .ok (some rel)) :
    Valid c.n rel ∧ rel.cofactor < maxlarge ∧ rel.cyclelen = 1 ∧ BasesOK rel.factors := by
  unfold candidate at h
  rw [toI64_small hc.ns63, toI64_small hc.b63, toI64_small hc.c63] at h
  simp only [bind_eq_ok, chkI64_ok, absI64_ok_iff] at h
  obtain ⟨x, ⟨rfl, _⟩, u, ⟨rfl, _⟩, xb, ⟨rfl, _⟩, m, ⟨rfl, _⟩, v, ⟨rfl, _, hvhi⟩, va, ⟨rfl, hneg⟩,
    ⟨cof, fs⟩, hcf, h⟩ := h
  rw [poly_eq_V hc] at hvhi hneg hcf
  split at h
  · cases pure_eq_ok.mp h
  rename_i hcof
  cases pure_eq_ok.mp h
  have hI63 : (I63 : Int) < (W64 : Int) := by decide
  have hva0 := abs_nonneg (V c offset i)
  have hva : |V c offset i| < (I63 : Int) := by
    rcases lt_or_ge (V c offset i) 0 with hn | hn
    · rw [abs_of_neg hn]; exact (hneg hn).2
    · rw [abs_of_nonneg hn]; exact hvhi
  obtain ⟨hprod, _, hbases⟩ := trialLoop_spec c.fb (fun e he => ⟨(hc.fb.fact e he).ok, by
    have := (hc.fb.fact e he).lt
    have h63 : (200 : Nat) < I63 := by decide
    omega⟩) _ _ cof fs (toU64_lt hva0 (by omega)) hcf
  refine ⟨?_, Nat.lt_of_not_ge hcof, rfl, hbases (by
    split
    · exact List.forall_mem_singleton.mpr (Or.inl rfl)
    · exact fun _ hf => (nomatch hf))⟩
  unfold Valid
  simp only
  rw [← hprod, toU64_nonneg hva0 (by omega), abs_mul_sign, Int.natAbs_mul_self']
  exact sq_modEq_V hc offset i

theorem mergeFactors_bases {acc fs out : List (Int × Nat)} (h : mergeFactors acc fs = .ok out)
    (ha : BasesOK acc) (hf : BasesOK fs) : BasesOK out :=
  mergeFactors_forall (P := fun f => f.1 = -1 ∨ (0 ≤ f.1 ∧ f.1 < (I63 : Int)))
    (fun _ _ _ h _ => h) fs acc out h ha hf

/-- `dummy_rset.combine(&rel, r0)` for two valid relations with the same cofactor below `maxlarge` -/
theorem combine_same {n : Nat} {r1 r2 r : Relation} (h : combine n r1 r2 = .ok r)
    (hc : r1.cofactor = r2.cofactor) (hlt : r1.cofactor < maxlarge) (h1 : Valid n r1)
    (h2 : Valid n r2) (hb1 : BasesOK r1.factors) (hb2 : BasesOK r2.factors) : FinalRel n r := by
  have hd : divisorCof r1 r2 = r1.cofactor := by
    unfold divisorCof; rw [hc]; simp
  have hI : r1.cofactor < I63 := by
    have : maxlarge < I63 := by decide
    omega
  obtain ⟨hne, hmul, fs, hfs, hf⟩ := combine_divisor h
  rw [hd] at hne hmul hf
  refine ⟨?_, combine_valid' h h1 h2 (by rw [hd]; exact hI), ?_⟩
  · rw [← hc] at hmul
    have hpos : 0 < r1.cofactor := Nat.pos_of_ne_zero hne
    have : r.cofactor * r1.cofactor * r1.cofactor = 1 * r1.cofactor * r1.cofactor := by
      rw [hmul]; ring
    exact Nat.eq_of_mul_eq_mul_right hpos (Nat.eq_of_mul_eq_mul_right hpos this)
  · have hb := mergeFactors_bases hfs hb1 hb2
    rw [hf, toI64_small hI]
    exact BasesOK_append.mpr ⟨hb, List.forall_mem_singleton.mpr
      (Or.inr ⟨Int.natCast_nonneg _, by show (r1.cofactor : Int) < I63; exact_mod_cast hI⟩)⟩

/-- the invariant of `process`: finished relations satisfy `FinalRel`, pending ones are valid and
filed under their own cofactor, which is below `maxlarge` -/
structure StOK (n : Nat) (st : St) : Prop where
  rels : ∀ r ∈ st.rels, FinalRel n r
  larges : ∀ kr ∈ st.larges, kr.2.cofactor = kr.1 ∧ Valid n kr.2 ∧ kr.1 < maxlarge ∧
    BasesOK kr.2.factors

theorem process_ok {c : Ctx} {rel : Relation} {st st' : St} (h : process c rel st = .ok st')
    (hst : StOK c.n st) (hv : Valid c.n rel) (hcof : rel.cofactor < maxlarge)
    (hb : BasesOK rel.factors) : StOK c.n st' := by
  unfold process at h
  split at h
  · rename_i h1
    rw [pure_eq_ok] at h; subst h
    exact ⟨List.forall_mem_append.mpr ⟨hst.rels, List.forall_mem_singleton.mpr ⟨h1, hv, hb⟩⟩,
      hst.larges⟩
  · split at h
    · rename_i r0 hlook
      simp only [bind_eq_ok, pure_eq_ok] at h
      obtain ⟨rr, hrr, h⟩ := h
      subst h
      obtain ⟨g1, g2, g3, g4⟩ := hst.larges _ (alookup_mem hlook)
      exact ⟨List.forall_mem_append.mpr ⟨hst.rels,
        List.forall_mem_singleton.mpr (combine_same hrr g1.symm hcof hv g2 hb g4)⟩, hst.larges⟩
    · rw [pure_eq_ok] at h; subst h
      exact ⟨hst.rels, List.forall_mem_cons.mpr ⟨⟨rfl, hv, hcof, hb⟩, hst.larges⟩⟩

theorem scanLoop_ok {c : Ctx} (hc : CtxOK c) (offset : Int) (target : Nat) :
    ∀ (l : List Nat) (i : Nat) (st st' : St), scanLoop c offset target l i st = .ok st' →
    StOK c.n st → StOK c.n st' := by
  intro l
  induction l with
  | nil => intro i st st' h hst; simp only [scanLoop, pure_eq_ok] at h; subst h; exact hst
  | cons sz t ih =>
    intro i st st' h hst
    unfold scanLoop at h
    split at h
    · simp only [bind_eq_ok] at h
      obtain ⟨r, hr, h⟩ := h
      cases r with
      | none => exact ih _ _ _ h hst
      | some rel =>
        simp only [bind_eq_ok] at h
        obtain ⟨st1, hp, h⟩ := h
        obtain ⟨g1, g2, _, g4⟩ := candidate_valid hc hr
        exact ih _ _ _ h (process_ok hp hst g1 g2 g4)
    · exact ih _ _ _ h hst

theorem runBlock_ok {c : Ctx} (hc : CtxOK c) {blk : Nat} {st st' : St}
    (h : runBlock c blk st = .ok st') (hst : StOK c.n st) : StOK c.n st' := by
  unfold runBlock at h
  simp only [bind_eq_ok] at h
  obtain ⟨iv, _, target, _, h⟩ := h
  exact scanLoop_ok hc _ _ _ _ _ _ h hst

theorem blockLoop_ok {c : Ctx} (hc : CtxOK c) : ∀ (l : List Nat) (st st' : St),
    blockLoop c l st = .ok st' → StOK c.n st → StOK c.n st' := by
  intro l
  induction l with
  | nil => intro st st' h hst; simp only [blockLoop, pure_eq_ok] at h; subst h; exact hst
  | cons blk t ih =>
    intro st st' h hst
    unfold blockLoop at h
    simp only [bind_eq_ok] at h
    obtain ⟨st1, h1, h⟩ := h
    have hst1 := runBlock_ok hc h1 hst
    split at h
    · rw [pure_eq_ok] at h; subst h; exact hst1
    · exact ih _ _ h hst1

/-- the context `setup` hands to the sieve -/
def runCtx (n k : Nat) (fb : List FbEntry) : Ctx :=
  let s := Arith.isqrt (n * k)
  { n := n, nk := n * k, nsqrt := s, b := 2 * s, c := n * k - s * s,
    bsize := if bitlen n ≤ 50 then 4096 else 16384, fb := fb }

/-- `setup` read as its guards, in program order. `s0 = isqrt n` and `s = isqrt (n·k)` are
parameters only to keep the statement short: every use passes `rfl rfl` -/
theorem setup_ok_iff {n k s0 s : Nat} {r : Setup} (h0 : s0 = Arith.isqrt n)
    (hs : s = Arith.isqrt (n * k)) : setup n k = .ok r ↔
    ¬ s0 * s0 ≥ W64 ∧
    (n = s0 * s0 ∧ .early s0 s0 = r ∨
      ¬ n = s0 * s0 ∧ ¬ n * k ≥ W64 ∧ ∃ fb, new64 (n * k) = .ok fb ∧
        ¬ s * s ≥ W64 ∧ ¬ (n * k = s * s ∧ k = 0) ∧ ¬ (n * k = s * s ∧ s / k * s ≥ W64) ∧
        ((n * k = s * s ∧ n = s / k * s) ∧ .early (s / k) s = r ∨
          ¬ (n * k = s * s ∧ n = s / k * s) ∧ ¬ 2 * s ≥ W64 ∧ ¬ n * k < s * s ∧
            .run (runCtx n k fb) = r)) := by
  subst h0 hs
  unfold setup runCtx
  simp only [ite_throw_ok, ite_pure_ok, bind_eq_ok, pure_eq_ok]

theorem setup_early {n k a b : Nat} (h : setup n k = .ok (.early a b)) :
    (a = b ∧ n = a * a) ∨ (n * k = b * b ∧ n = a * b ∧ a = b / k) := by
  obtain ⟨_, ⟨hsq, h⟩ | ⟨_, _, _, _, _, _, _, ⟨hex, h⟩ | ⟨_, _, _, h⟩⟩⟩ := (setup_ok_iff rfl rfl).mp h
  · obtain ⟨rfl, rfl⟩ := Setup.early.inj h
    exact Or.inl ⟨rfl, hsq⟩
  · obtain ⟨rfl, rfl⟩ := Setup.early.inj h
    exact Or.inr ⟨hex.1, hex.2, rfl⟩
  · cases h

theorem setup_run {n k : Nat} {c : Ctx} (h : setup n k = .ok (.run c)) :
    n * k < W64 ∧ ∃ fb, new64 (n * k) = .ok fb ∧ c = runCtx n k fb := by
  obtain ⟨_, ⟨_, h⟩ | ⟨_, h64, fb, hfb, _, _, _, ⟨_, h⟩ | ⟨_, _, _, h⟩⟩⟩ := (setup_ok_iff rfl rfl).mp h
  · cases h
  · cases h
  · exact ⟨Nat.lt_of_not_ge h64, fb, hfb, (Setup.run.inj h).symm⟩

theorem isqrt_lt32 {m : Nat} (h : m < W64) : Arith.isqrt m < 2 ^ 32 :=
  Nat.mul_self_lt_mul_self_iff.mp (lt_of_le_of_lt (Arith.isqrt_spec' m).1 h)

theorem runCtx_ok {n k : Nat} {fb : List FbEntry} (h64 : n * k < W64)
    (hfb : new64 (n * k) = .ok fb) : CtxOK (runCtx n k fb) := by
  have h32 := isqrt_lt32 h64
  obtain ⟨hlo, hhi⟩ := Arith.isqrt_spec' (n * k)
  simp only [Nat.add_mul, Nat.mul_add] at hhi
  have hI : (I63 : Nat) = 2 ^ 63 := by decide
  refine ⟨Dvd.intro _ rfl, rfl, ?_, ?_, ?_, ?_, new64_ok hfb⟩
  all_goals dsimp only [runCtx]; omega

theorem qsRels_valid {n k : Nat} {fb : List FbEntry} {rels : List Relation}
    (h : qsRels n k = .ok (.rels fb rels)) : ∀ r ∈ rels, FinalRel n r := by
  unfold qsRels at h
  simp only [bind_eq_ok] at h
  obtain ⟨s, hs, h⟩ := h
  cases s with
  | early a b => simp [pure_eq_ok] at h
  | run c =>
    simp only [bind_eq_ok, pure_eq_ok, Outcome.rels.injEq] at h
    obtain ⟨st, hst, _, rfl⟩ := h
    obtain ⟨h64, fb, hfb, rfl⟩ := setup_run hs
    exact (blockLoop_ok (runCtx_ok h64 hfb) _ _ _ hst ⟨fun _ hr => (nomatch hr), fun _ hr => (nomatch hr)⟩).rels

/-- a returned pair comes from an early exit of `setup` or from the head of the list `final_step`
returns -/
theorem qsieve_some {n k a b : Nat} {kernel : List (List Nat)} {isPrime : Nat → Bool}
    (h : qsieve n k kernel isPrime = .ok (some (a, b))) :
    setup n k = .ok (.early a b) ∨
    ∃ fb rels slots cnt ds d, qsRels n k = .ok (.rels fb rels) ∧
      finalStep n (fb.map (·.p)) rels kernel isPrime = .ok (slots, cnt, ds) ∧ ds.head? = some d ∧
      a = d % W64 ∧ b = n / (d % W64) := by
  unfold qsieve at h
  obtain ⟨o, ho, h⟩ := bind_eq_ok.mp h
  cases o with
  | early a' b' =>
    obtain ⟨rfl, rfl⟩ := Prod.mk.inj (Option.some.inj (pure_eq_ok.mp h))
    unfold qsRels at ho
    obtain ⟨s, hs, ho⟩ := bind_eq_ok.mp ho
    cases s with
    | early a' b' => cases pure_eq_ok.mp ho; exact Or.inl hs
    | run c =>
      obtain ⟨_, _, ho⟩ := bind_eq_ok.mp ho
      cases pure_eq_ok.mp ho
  | rels fb rels =>
    obtain ⟨⟨slots, cnt, ds⟩, hfs, h⟩ := bind_eq_ok.mp h
    cases hd : ds.head? with
    | none => simp only [hd, pure_eq_ok] at h; cases h
    | some d =>
      simp only [hd, ite_throw_ok, pure_eq_ok, Option.some.injEq, Prod.mk.injEq] at h
      exact Or.inr ⟨fb, rels, slots, cnt, ds, d, ho, hfs, hd, h.2.2.1.symm, h.2.2.2.symm⟩
end Ymq.Qsieve64
