/-
Primality by one gcd (C17): for `m < n < (m+1)²`, `n` is prime iff it is coprime to `m!`.  This makes
the primes of an interval computable by the kernel at one `Nat.gcd` per number, and is used to
*compute* facts about `primesBelow` inside Lean: the list of the primes below 464, and
π(65536) = 6542, hence (`primes_6542`, Ymq/Lemmas/PrimesSmall.lean) the model's `primes(6542)` is the
list of all primes below 2^16.
-/
import Mathlib.Data.Nat.Prime.Factorial
import Ymq.Lemmas.PrimesStream

namespace Ymq.Primes
open Nat

/-- the least prime factor of a composite `n` is at most `√n`, hence divides `m!` -/
theorem prime_iff_coprime_factorial {m n : Nat} (hm : m < n) (hn : n < (m + 1) * (m + 1)) :
    n.Prime ↔ Nat.gcd n m ! = 1 := by
  have h1 : n ≠ 1 := by
    rintro rfl
    obtain rfl : m = 0 := by omega
    omega
  rw [← Nat.Coprime, Nat.coprime_factorial_iff h1]
  constructor
  · intro hp
    rwa [hp.minFac_eq]
  · intro h
    by_contra hp
    have h2 := Nat.minFac_sq_le_self (by omega) hp
    rw [sq] at h2
    exact Nat.not_le.mpr hn ((Nat.mul_self_le_mul_self h).trans h2)

/-- the `n ∈ {a, a + d, …, a + (f-1)·d}` coprime to `P` -/
def coprimesFrom (P d : Nat) : Nat → Nat → List Nat
  | _, 0 => []
  | a, f + 1 =>
    bif Nat.beq (Nat.gcd a P) 1 then a :: coprimesFrom P d (a + d) f else coprimesFrom P d (a + d) f

theorem primesFrom_eq_coprimesFrom (m : Nat) : ∀ f a, m < a → a + f ≤ (m + 1) * (m + 1) →
    primesFrom a f = coprimesFrom m ! 1 a f := by
  intro f
  induction f with
  | zero => intro a _ _; rfl
  | succ f ih =>
    intro a ha hf
    rw [primesFrom_succ, coprimesFrom, ih (a + 1) (by omega) (by omega), Bool.cond_eq_ite]
    exact if_congr ((prime_iff_coprime_factorial ha (by omega)).trans (Iff.of_eq Nat.beq_eq.symm))
      rfl rfl

theorem coprimesFrom_even {P : Nat} (hP : 2 ∣ P) : ∀ f a, 2 ∣ a →
    coprimesFrom P 1 a (2 * f) = coprimesFrom P 2 (a + 1) f := by
  intro f
  induction f with
  | zero => intro a _; rfl
  | succ f ih =>
    intro a ha
    have hg : Nat.beq (Nat.gcd a P) 1 = false := Bool.eq_false_iff.mpr fun h => by
      have := Nat.dvd_gcd ha hP
      rw [Nat.eq_of_beq_eq_true h] at this
      omega
    rw [Nat.mul_succ, coprimesFrom, hg, cond_false, coprimesFrom, ih (a + 1 + 1) (by omega)]
    rfl

/-- the primes below 464 (the first 90 primes) -/
def first90 : List Nat := [2, 3, 5, 7, 11, 13, 17, 19, 23, 29, 31, 37, 41, 43, 47, 53, 59, 61, 67, 71, 73, 79, 83, 89, 97, 101, 103, 107, 109, 113, 127, 131, 137, 139, 149, 151, 157, 163, 167, 173, 179, 181, 191, 193, 197, 199, 211, 223, 227, 229, 233, 239, 241, 251, 257, 263, 269, 271, 277, 281, 283, 293, 307, 311, 313, 317, 331, 337, 347, 349, 353, 359, 367, 373, 379, 383, 389, 397, 401, 409, 419, 421, 431, 433, 439, 443, 449, 457, 461, 463]

theorem primesBelow_464 : primesBelow 464 = first90 := by
  have h22 : primesBelow 22 = [2, 3, 5, 7, 11, 13, 17, 19] := by decide +kernel
  have h : [2, 3, 5, 7, 11, 13, 17, 19] ++ coprimesFrom 21 ! 1 22 442 = first90 := by decide +kernel
  rw [primesBelow_append 22 442, h22, primesFrom_eq_coprimesFrom 21 _ _ (by decide) (by decide), h]

theorem length_primesBelow_65536 : (primesBelow 65536).length = 6542 := by
  -- `464 + 1` as the rewrite below leaves it: the kernel is slow to identify it with `465` here
  have h : (coprimesFrom 255 ! 2 (464 + 1) 32536).length = 6452 := by decide +kernel
  rw [primesBelow_append 464 (2 * 32536), primesBelow_464,
    primesFrom_eq_coprimesFrom 255 _ _ (by decide) (by decide),
    coprimesFrom_even (Nat.dvd_factorial (by decide) (by decide)) 32536 464 (by decide),
    List.length_append, h]
  rfl

end Ymq.Primes
