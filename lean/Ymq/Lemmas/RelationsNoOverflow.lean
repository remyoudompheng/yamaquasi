/-
The `u64` counters of the relation store cannot overflow on realistic histories (C11).
Potential: `t ≥ (cycle length of any pending single) + (sum of the cycle lengths of the pending
doubles)`; a walk moves the cycle length of a consumed double from the sum into a single, so the
potential does not grow inside walks, and an `add` raises it by at most the cycle length of its
input. Exponents: `total r.factors + 2 ≤ M · r.cyclelen` (`RelB`), additive under `combine` (which
adds the squared cofactor, exponent 2). Unlike the files before, this one speaks of the recursive
`add` and `runHistory` only, not of an arbitrary walker: the explicit-stack history returns the same
store (`C11.history_stack_eq_rec`), which is how `C11.history_total_stack` comes by it. No-overflow
does not rest on no-panic: the two meet in Ymq/Props/C11Total.lean.
-/
import Ymq.Lemmas.RelationsMono

namespace Ymq.Relations

/-- sum of all exponents of a factor list -/
def total : List (Int × Nat) → Nat
  | [] => 0
  | (_, k) :: t => k + total t

theorem total_append (a b : List (Int × Nat)) : total (a ++ b) = total a + total b := by
  induction a with
  | nil => simp [total]
  | cons h t ih => obtain ⟨p, k⟩ := h; simp only [List.cons_append, total, ih]; omega

theorem bump_total (p : Int) (k : Nat) (fs fs' : List (Int × Nat)) (h : bump p k fs = .ok fs')
    (hp : hasPrime p fs = true) : total fs' = total fs + k := by
  rcases bump_ok h with ⟨hn, _⟩ | ⟨a, k', b, rfl, _, _, rfl⟩
  · rw [hn] at hp; cases hp
  · simp only [total_append, total]; omega

theorem mergeFactors_total : ∀ (fs acc out : List (Int × Nat)),
    mergeFactors acc fs = .ok out → total out = total acc + total fs := by
  intro fs
  induction fs with
  | nil => intro acc out h; simp only [mergeFactors, pure_eq_ok] at h; subst h; simp [total]
  | cons f t ih =>
    obtain ⟨p, k⟩ := f
    intro acc out h
    unfold mergeFactors at h
    split at h
    · rename_i hp
      simp only [bind_eq_ok] at h
      obtain ⟨acc', hb, h⟩ := h
      rw [ih acc' out h, bump_total p k acc acc' hb hp]; simp only [total]; omega
    · rw [ih _ out h, total_append]; simp only [total]; omega

theorem bump_returns (p : Int) (k : Nat) : ∀ (fs : List (Int × Nat)), total fs + k < W64 →
    ∃ fs', bump p k fs = .ok fs' := by
  intro fs
  induction fs with
  | nil => intro _; exact ⟨[], rfl⟩
  | cons f t ih =>
    obtain ⟨p', k'⟩ := f
    intro h
    simp only [total] at h
    unfold bump
    split
    · rw [if_pos (by omega)]; exact ⟨_, rfl⟩
    · obtain ⟨t', ht'⟩ := ih (by omega)
      rw [ht']; exact ⟨_, rfl⟩

theorem mergeFactors_returns : ∀ (fs acc : List (Int × Nat)), total acc + total fs < W64 →
    ∃ out, mergeFactors acc fs = .ok out := by
  intro fs
  induction fs with
  | nil => intro acc _; exact ⟨acc, rfl⟩
  | cons f t ih =>
    obtain ⟨p, k⟩ := f
    intro acc h
    simp only [total] at h
    unfold mergeFactors
    split
    · rename_i hp
      obtain ⟨acc', hb⟩ := bump_returns p k acc (by omega)
      rw [hb]
      simp only [ok_bind]
      exact ih acc' (by rw [bump_total p k acc acc' hb hp]; omega)
    · exact ih _ (by rw [total_append]; simp only [total]; omega)

theorem normFactors_total (fs : List (Int × Nat)) : total (normFactors fs) ≤ total fs := by
  induction fs with
  | nil => exact Nat.le_refl _
  | cons f t ih =>
    obtain ⟨p, k⟩ := f
    rw [normFactors_cons]
    split
    · split
      · simp only [total]; omega
      · simp only [total]; omega
    · simp only [total]; omega

/-- exponent bound of one relation -/
def RelB (M : Nat) (r : Relation) : Prop := total r.factors + 2 ≤ M * r.cyclelen

theorem combine_total {n : Nat} {r1 r2 rr : Relation} (h : combine n r1 r2 = .ok rr) :
    total rr.factors = total r1.factors + total r2.factors + 2 ∧
      rr.cyclelen = r1.cyclelen + r2.cyclelen := by
  obtain ⟨_, _, fs, hfs, hf⟩ := combine_divisor h
  obtain ⟨_, _, _, _, hlen, _⟩ := combine_ok h
  refine ⟨?_, hlen⟩
  rw [hf, total_append, mergeFactors_total _ _ _ hfs]
  simp [total]

theorem combine_relB {n M : Nat} {r1 r2 rr : Relation} (h : combine n r1 r2 = .ok rr)
    (h1 : RelB M r1) (h2 : RelB M r2) : RelB M rr := by
  obtain ⟨ht, hl⟩ := combine_total h
  unfold RelB at *
  rw [ht, hl, Nat.mul_add]
  omega

theorem combine_ne_overflow {n : Nat} {r1 r2 : Relation}
    (ht : total r1.factors + total r2.factors < W64) (hl : r1.cyclelen + r2.cyclelen < W64) :
    combine n r1 r2 ≠ .error .overflow := by
  unfold combine
  obtain ⟨fs, hfs⟩ := mergeFactors_returns _ _ ht
  rw [hfs]
  simp only [ok_bind]
  repeat' split
  all_goals (intro hc; cases hc)

theorem relB_pack {M : Nat} {r : Relation} {b : List Nat} (h : pack r = .ok b) (hty : Typed r)
    (hno : NoOne r.factors) (hb : RelB M r) :
    ∃ r', unpack b = .ok r' ∧ r'.cyclelen = r.cyclelen ∧ RelB M r' := by
  refine ⟨_, unpack_pack' h hty hno, rfl, ?_⟩
  unfold RelB at *
  have := normFactors_total r.factors
  simp only
  omega

def blobLen (b : List Nat) : Nat :=
  match unpack b with
  | .ok r => r.cyclelen
  | .error _ => 0

def dsum : List ((Nat × Nat) × List Nat) → Nat
  | [] => 0
  | e :: t => blobLen e.2 + dsum t

theorem blobLen_le_dsum {e : (Nat × Nat) × List Nat} : ∀ {l : List ((Nat × Nat) × List Nat)},
    e ∈ l → blobLen e.2 ≤ dsum l := by
  intro l
  induction l with
  | nil => intro h; cases h
  | cons x t ih =>
    intro h
    rcases List.mem_cons.mp h with h | h
    · subst h; simp only [dsum]; omega
    · have := ih h; simp only [dsum]; omega

theorem aerase_cons' (k : Nat × Nat) (x : (Nat × Nat) × List Nat) (t : List ((Nat × Nat) × List Nat)) :
    aerase k (x :: t) = if x.1 ≠ k then x :: aerase k t else aerase k t := by
  unfold aerase
  rw [List.filter_cons]
  by_cases h : x.1 = k <;> simp [h]

theorem dsum_erase_le (k : Nat × Nat) : ∀ (l : List ((Nat × Nat) × List Nat)),
    dsum (aerase k l) ≤ dsum l := by
  intro l
  induction l with
  | nil => exact Nat.le_refl _
  | cons x t ih =>
    rw [aerase_cons']
    split
    · simp only [dsum]; omega
    · simp only [dsum]; omega

theorem dsum_erase {k : Nat × Nat} {b : List Nat} : ∀ {l : List ((Nat × Nat) × List Nat)},
    (k, b) ∈ l → dsum (aerase k l) + blobLen b ≤ dsum l := by
  intro l
  induction l with
  | nil => intro h; cases h
  | cons x t ih =>
    intro h
    have hle := dsum_erase_le k t
    rw [aerase_cons']
    rcases List.mem_cons.mp h with h | h
    · subst h
      rw [if_neg (by simp)]
      simp only [dsum]
      omega
    · have := ih h
      split
      · simp only [dsum]; omega
      · simp only [dsum]; omega

theorem dsum_insertOrd (k : Nat × Nat) (b : List Nat) : ∀ (l : List ((Nat × Nat) × List Nat)),
    dsum (ainsertOrd ltPair k b l) = blobLen b + dsum l := by
  intro l
  induction l with
  | nil => simp [ainsertOrd, dsum]
  | cons x t ih =>
    obtain ⟨k', v'⟩ := x
    unfold ainsertOrd
    split
    · simp only [dsum]
    · simp only [dsum, ih]; omega

theorem dsum_insert (k : Nat × Nat) (b : List Nat) (l : List ((Nat × Nat) × List Nat)) :
    dsum (ainsert ltPair k b l) ≤ dsum l + blobLen b := by
  unfold ainsert
  rw [dsum_insertOrd]
  have := dsum_erase_le k l
  omega

/-- the third store invariant (after `Inv`, `Inv2`), the potential: `t` bounds (cycle length of any pending single) + (sum over the
pending doubles); every pending relation satisfies the exponent bound -/
structure Inv3 (M t : Nat) (s : Store) : Prop where
  ds : dsum s.doubles ≤ t
  par : ∀ e ∈ s.partials, ∃ r, unpack e.2 = .ok r ∧ r.cyclelen + dsum s.doubles ≤ t ∧ RelB M r
  dbl : ∀ e ∈ s.doubles, ∃ r, unpack e.2 = .ok r ∧ RelB M r

theorem inv3_new (M t n fbsize maxlarge : Nat) : Inv3 M t (Store.new n fbsize maxlarge) := by
  refine ⟨Nat.zero_le _, ?_, ?_⟩
  · intro e he; cases he
  · intro e he; cases he

theorem inv3_mono {M t0 t : Nat} {s : Store} (h : Inv3 M t0 s) (ht : t0 ≤ t) : Inv3 M t s := by
  refine ⟨Nat.le_trans h.ds ht, ?_, h.dbl⟩
  intro e he
  obtain ⟨r, h1, h2, h3⟩ := h.par e he
  exact ⟨r, h1, by omega, h3⟩

theorem inv3_of_lists {M t : Nat} {s s' : Store} (h : Inv3 M t s) (hp : s'.partials = s.partials)
    (hd : s'.doubles = s.doubles) : Inv3 M t s' := by
  refine ⟨by rw [hd]; exact h.ds, ?_, by rw [hd]; exact h.dbl⟩
  rw [hp, hd]; exact h.par

theorem inv3_setPartial {M t : Nat} {s : Store} (h : Inv3 M t s) (p : Nat) {b : List Nat}
    (hb : ∃ r, unpack b = .ok r ∧ r.cyclelen + dsum s.doubles ≤ t ∧ RelB M r) :
    Inv3 M t (s.setPartial p b) := by
  refine ⟨h.ds, ?_, h.dbl⟩
  intro e he
  simp only [Store.setPartial] at he
  rw [mem_ainsert] at he
  rcases he with he | ⟨he, _⟩
  · subst he; exact hb
  · exact h.par e he

theorem blobLen_of {b : List Nat} {r : Relation} (h : unpack b = .ok r) : blobLen b = r.cyclelen := by
  unfold blobLen; rw [h]

theorem inv3_erase {M t : Nat} {s : Store} (h : Inv3 M t s) {p q : Nat} {blob : List Nat}
    (hm : ((p, q), blob) ∈ s.doubles) :
    blobLen blob ≤ t ∧ Inv3 M (t - blobLen blob) (s.eraseDouble p q) := by
  have h1 := dsum_erase hm
  have h2 := h.ds
  refine ⟨by omega, ⟨by simp only; omega, ?_, ?_⟩⟩
  · intro e he
    obtain ⟨r, e1, e2, e3⟩ := h.par e he
    exact ⟨r, e1, by simp only; omega, e3⟩
  · intro e he
    exact h.dbl e (mem_aerase.mp he).1

/-- the new single of `combine_double_step`: its cycle length is that of the stored single plus
that of `r`, which is not (any more) counted in `t0` -/
theorem NewSingle.inv3 {M t0 t : Nat} {s : Store} {r : Relation} {k k' : Nat} {b : List Nat}
    (h : NewSingle s r k k' b) (hg : Good s) (h3 : Inv3 M t0 s) (hr : RelOK s.n r) (hb : RelB M r)
    (hdvd : r.cofactor % k = 0) (ht : t0 + r.cyclelen ≤ t) :
    ∃ r', unpack b = .ok r' ∧ r'.cyclelen + dsum s.doubles ≤ t ∧ RelB M r' := by
  obtain ⟨bk, rk, rr, hl, hu, hcomb, _, hpk⟩ := h
  obtain ⟨h1, h32, hck, hk⟩ := hg.1.single hl hu
  obtain ⟨rk3, hu3, hl3, hb3⟩ := h3.par _ (alookup_mem hl)
  rw [show unpack bk = .ok rk from hu] at hu3
  cases hu3
  obtain ⟨hrr, _⟩ := combine_key hcomb hr hk hck hdvd h1 h32
  obtain ⟨r', e1, e2, e3⟩ := relB_pack hpk hrr.typed hrr.noOne (combine_relB hcomb hb hb3)
  exact ⟨r', e1, by rw [e2, (combine_total hcomb).2]; omega, e3⟩

/-- `combine_double_step` keeps the potential: the double `r` is not (any more) counted in `t0` -/
theorem step_inv3 {M t0 t : Nat} {r : Relation} {p q : Nat} {s : Store}
    {st : Bool × Option Nat × Store} (h : combineDoubleStep r p q s = .ok st) (hg : Good s)
    (hr : RelOK s.n r) (hpq : PairOK r p q) (h3 : Inv3 M t0 s) (hb : RelB M r)
    (ht : t0 + r.cyclelen ≤ t) : Inv3 M t st.2.2 := by
  have h3t : Inv3 M t s := inv3_mono h3 (by omega)
  rcases combineDoubleStep_ok h with ⟨_, s1, hs1, rfl⟩ |
    ⟨_, _, _, _, _, _, _, s1, _, _, _, _, _, _, hs1, hres⟩ |
    ⟨_, k, k', b, hk, _, hns, rfl⟩ | ⟨_, _, _, rfl⟩
  · obtain ⟨_, hp, hd, _⟩ := addCycle_mono hs1
    exact inv3_of_lists h3t hp hd
  · obtain ⟨_, hp, hd, _⟩ := addCycle_mono hs1
    have h31 : Inv3 M t s1 := inv3_of_lists h3t hp hd
    rcases hres with rfl | ⟨k, k', b, hk, hns, rfl⟩
    · exact h31
    · exact inv3_setPartial h31 k' (by rw [hd]; exact hns.inv3 hg h3 hr hb (hpq.perm hk).dvd ht)
  · exact inv3_setPartial (s := { s with nCombined12 := s.nCombined12 + 1 })
      (inv3_of_lists h3t rfl rfl) k' (hns.inv3 hg h3 hr hb (hpq.perm hk).dvd ht)
  · exact h3t

theorem single_inv3 {M t : Nat} {r : Relation} {s : Store} {res : Bool × Store}
    (h : combineSingle r s = .ok res) (h3 : Inv3 M t s) (hrt : Typed r)
    (hrn : NoOne r.factors) (hb : RelB M r) : Inv3 M t res.2 := by
  rcases combineSingle_ok h with ⟨_, rfl⟩ | ⟨blob, r0, rr, hl, hu, _, rfl | ⟨s1, _, hs1, hres⟩⟩
  · exact h3
  · exact h3
  · obtain ⟨_, hp, hd, _⟩ := addCycle_mono hs1
    have h31 : Inv3 M t s1 := inv3_of_lists h3 hp hd
    rcases hres with rfl | ⟨b, hlt, hb', rfl⟩
    · exact h31
    · -- the stored single is replaced by a shorter one
      obtain ⟨r0', hu0, hl0, _⟩ := h3.par _ (alookup_mem hl)
      rw [show unpack blob = .ok r0 from hu] at hu0
      cases hu0
      obtain ⟨r', e1, e2, e3⟩ := relB_pack hb' hrt hrn hb
      exact inv3_setPartial h31 _ ⟨r', e1, by rw [e2, hd]; omega, e3⟩

theorem removeStep_inv3 {M t : Nat} {p q : Nat} {s : Store} {res : StepRes × Store}
    (h : removeStep p q s = .ok res) (hg : Good s) (h3 : Inv3 M t s) : Inv3 M t res.2 := by
  rcases removeStep_ok h with ⟨_, rfl⟩ | ⟨blob, r, st, hl, hu, hst, _, rfl⟩
  · exact h3
  · have hm := alookup_mem hl
    obtain ⟨hlt, hp1, hq1, hq32, hc, hr⟩ := hg.1.double hl hu
    obtain ⟨r3, hu3, hb3⟩ := h3.dbl _ hm
    rw [show unpack blob = .ok r from hu] at hu3
    cases hu3
    obtain ⟨hle, h3e⟩ := inv3_erase h3 hm
    rw [blobLen_of hu] at hle h3e
    exact step_inv3 hst ⟨inv_erase_double hg.1 p q, hg.2⟩ hr ⟨hc, hp1, hq1, lt_trans hlt hq32, hq32⟩
      h3e hb3 (by omega)

theorem inv3_stepRel (M t : Nat) :
    StepRel (fun s => Good s ∧ Inv3 M t s) (fun s s' => Keeps s s' ∧ Inv3 M t s') :=
  ⟨fun _ h => ⟨Keeps.refl h.1.1, h.2⟩, fun h1 h2 => ⟨h1.1.trans h2.1, h2.2⟩,
    fun h r => ⟨h.1.of_keeps r.1, r.2⟩,
    fun h hrs => ⟨removeStep_keeps h.1 hrs, removeStep_inv3 hrs h.1 h.2⟩⟩

theorem inv3_insertDouble {M t : Nat} {s : Store} (h3 : Inv3 M t s) {r : Relation} {p q : Nat}
    {b : List Nat} (hpk : pack r = .ok b) (hrt : Typed r) (hrn : NoOne r.factors) (hb : RelB M r) :
    Inv3 M (t + r.cyclelen) (s.insertDouble p q b) := by
  obtain ⟨r', e1, e2, e3⟩ := relB_pack hpk hrt hrn hb
  have hbl : blobLen b = r.cyclelen := by rw [blobLen_of e1, e2]
  have hins := dsum_insert (if p < q then (p, q) else (q, p)) b s.doubles
  rw [hbl] at hins
  have hds := h3.ds
  refine ⟨by simp only; omega, ?_, ?_⟩
  · intro e he
    obtain ⟨r0, f1, f2, f3⟩ := h3.par e he
    exact ⟨r0, f1, by simp only; omega, f3⟩
  · intro e he
    rcases mem_ainsert.mp he with he | ⟨he, _⟩
    · subst he; exact ⟨r', e1, e3⟩
    · exact h3.dbl e he

theorem head_inv3 {M t : Nat} {r : Relation} {pq : Option (Nat × Nat)} {s : Store}
    {h1 : StepRes × Store} (h : addHead r pq s = .ok h1) (hg : Good s) (hin : InputOK s.n r pq)
    (h3 : Inv3 M t s) (hb : RelB M r) : Inv3 M (t + r.cyclelen) h1.2 := by
  have hr := hin.rel
  have h3t : Inv3 M (t + r.cyclelen) s := inv3_mono h3 (by omega)
  rcases (addHead_ok h).2 with ⟨_, _, h1'⟩ | ⟨_, _, res, hres, hcs⟩ | ⟨_, _, _, rfl⟩ |
    ⟨_, _, p, q, rfl, hp32, hq32, hdd⟩
  · obtain ⟨_, hp, hd, _⟩ := addCycle_mono h1'
    exact inv3_of_lists h3t hp hd
  · have h31 := single_inv3 (s := { s with nPartials := s.nPartials + 1 }) hres
      (inv3_of_lists h3 rfl rfl) hr.typed hr.noOne hb
    rcases hcs with ⟨_, rfl⟩ | ⟨_, _, b, hpk, rfl⟩
    · exact inv3_mono h31 (by omega)
    · obtain ⟨r', e1, e2, e3⟩ := relB_pack hpk hr.typed hr.noOne hb
      exact inv3_setPartial (inv3_mono h31 (by omega)) _
        ⟨r', e1, by rw [e2]; have := h31.ds; omega, e3⟩
  · exact h3t
  · have h30 : Inv3 M t { s with nDoubles := s.nDoubles + 1 } := inv3_of_lists h3 rfl rfl
    obtain ⟨hc, hp1, hq1⟩ := hin.pair p q rfl
    rcases hdd with ⟨st, hst, _, rfl⟩ | ⟨_, _, _, b, hpk, rfl⟩
    · exact step_inv3 hst (hg.counters rfl rfl rfl rfl rfl) hr ⟨hc, hp1, hq1, hp32, hq32⟩ h30 hb
        (Nat.le_refl _)
    · exact inv3_insertDouble h30 hpk hr.typed hr.noOne hb

theorem add_inv3 {M t : Nat} {r : Relation} {pq : Option (Nat × Nat)} {s s' : Store}
    (h : add r pq s = .ok s') (hi : Inv s) (hn : s.n ≤ X512) (hin : InputOK s.n r pq)
    (h3 : Inv3 M t s) (hb : RelB M r) : Inv3 M (t + r.cyclelen) s' := by
  rw [add_eq_addWith] at h
  obtain ⟨h1, hh, hs⟩ := addWith_eq_ok.mp h
  exact ((inv3_stepRel M _).serve_isWalk isWalk_rec (s := h1.2)
    ⟨Good.of_keeps ⟨hi, hn⟩ (head_keeps hh ⟨hi, hn⟩ hin), head_inv3 hh ⟨hi, hn⟩ hin h3 hb⟩
    ⟨Keeps.refl (head_keeps hh ⟨hi, hn⟩ hin).2.2, head_inv3 hh ⟨hi, hn⟩ hin h3 hb⟩ hs).2

theorem add_step3 {M t : Nat} {i : Nat} {s s' : Store} {r : Relation} {pq : Option (Nat × Nat)}
    (hp : Good s ∧ Inv3 M (t + i) s)
    (hc : InputOK s.n r pq ∧ RelB M r ∧ r.cyclelen = 1)
    (h : addWith (fun x s1 => walkDoubles s1.fuel x s1) r pq s = .ok s') :
    (Good s' ∧ Inv3 M (t + (i + 1)) s') ∧ s'.n = s.n ∧ s'.maxlarge = s.maxlarge := by
  rw [← add_eq_addWith] at h
  have hk := add_keeps h hp.1.1 hp.1.2 hc.1
  have h3 := add_inv3 h hp.1.1 hp.1.2 hc.1 hp.2 hc.2.1
  rw [hc.2.2] at h3
  exact ⟨⟨hp.1.of_keeps hk, h3⟩, hk.1, hk.2.1⟩

theorem runHistory_inv3 {M : Nat} (ops : List (Relation × Option (Nat × Nat))) (s s' : Store) (t : Nat)
    (h : runHistory ops s = .ok s') (hg : Good s)
    (hok : ∀ op ∈ ops, InputOK s.n op.1 op.2 ∧ RelB M op.1 ∧ op.1.cyclelen = 1) (h3 : Inv3 M t s) :
    Inv3 M (t + ops.length) s' := by
  have := (isRun_rec.ind (P := fun i s1 => Good s1 ∧ Inv3 M (t + i) s1)
    (C := fun n _ op => InputOK n op.1 op.2 ∧ RelB M op.1 ∧ op.1.cyclelen = 1) add_step3
    ops 0 s s' ⟨hg, h3⟩ hok h).2
  rwa [Nat.zero_add] at this

/-- "does not end in a counter overflow" -/
abbrev NOv {α : Type} (x : Except Err α) : Prop := ErrIn (fun e => e ≠ .overflow) x

theorem nov_panic {α : Type} : NOv (throw .panic : Except Err α) := ErrIn.throw (fun h => by cases h)
theorem nov_debug {α : Type} : NOv (throw .debug : Except Err α) := ErrIn.throw (fun h => by cases h)

theorem addCycle_nov (r : Relation) (s : Store) : NOv (addCycle r s) := by
  unfold addCycle
  split
  · exact nov_panic
  · split
    · exact nov_panic
    · exact ErrIn.pure _

theorem packFactors_nov : ∀ (fs : List (Int × Nat)), NOv (packFactors fs) := by
  intro fs
  induction fs with
  | nil => exact ErrIn.pure _
  | cons f t ih =>
    obtain ⟨p, k⟩ := f
    rw [packFactors_cons]
    by_cases hp : p = -1
    · rw [if_pos hp]
      split
      · exact ih
      · exact ErrIn.bind ih (fun _ _ => ErrIn.pure _)
    · rw [if_neg hp]
      by_cases hd : ¬ (p > 0 ∧ p < (W32 : Int) ∧ k > 0)
      · rw [if_pos hd]; exact nov_panic
      · rw [if_neg hd]
        by_cases ho : (if p = 2 then 1 else p.toNat) % 2 ≠ 1
        · rw [if_pos ho]; exact nov_panic
        · rw [if_neg ho]
          refine ErrIn.bind ih (fun _ _ => ?_)
          by_cases hk : k > 1
          · rw [if_pos hk]; exact ErrIn.pure _
          · rw [if_neg hk]; exact ErrIn.pure _

theorem pack_nov (r : Relation) : NOv (pack r) := by
  unfold pack packInts
  exact ErrIn.bind (ErrIn.bind (packFactors_nov _) (fun _ _ => ErrIn.pure _)) (fun _ _ => ErrIn.pure _)

/-- the numeric side condition: with stored cycle lengths up to `T` and exponent sums up to
`M·len`, no sum `combine` forms reaches 2^64. `3 * T`: the longest combination is the relation at
hand with two stored singles (the arm of `combine_double_step` where both primes are known). -/
structure Cap (M T : Nat) : Prop where
  h1 : M * (3 * T) < W64
  h2 : 3 * T < W64

theorem Cap.mono {M T T' : Nat} (h : Cap M T) (hle : T' ≤ T) : Cap M T' :=
  ⟨lt_of_le_of_lt (Nat.mul_le_mul_left M (by omega)) h.h1, by have := h.h2; omega⟩

theorem combine_nov_of {M T n : Nat} {r1 r2 : Relation} (hc : Cap M T) (h1 : RelB M r1)
    (h2 : RelB M r2) (hl : r1.cyclelen + r2.cyclelen ≤ 3 * T) : NOv (combine n r1 r2) := by
  unfold RelB at h1 h2
  have := Nat.mul_le_mul_left M hl
  rw [Nat.mul_add] at this
  have := hc.h1
  have := hc.h2
  exact fun e he hov => combine_ne_overflow (n := n) (r1 := r1) (r2 := r2) (by omega) (by omega)
    (hov ▸ he)

theorem newSingle_nov {α : Type} {M T n : Nat} {r rk : Relation} {k' : Nat} {F : List Nat → Except Err α}
    (hc : Cap M T) (hb : RelB M r) (hbk : RelB M rk) (hl : r.cyclelen + rk.cyclelen ≤ 3 * T)
    (hF : ∀ b, NOv (F b)) :
    NOv (combine n r rk >>= fun rr =>
      if rr.cofactor ≠ k' then throw .panic else pack rr >>= F) := by
  refine ErrIn.bind (combine_nov_of hc hb hbk hl) (fun rr _ => ?_)
  split
  · exact nov_panic
  · exact ErrIn.bind (pack_nov _) (fun b _ => hF b)

theorem step_nov {M t0 T : Nat} {r : Relation} {p q : Nat} {s : Store} (hc : Cap M T)
    (h3 : Inv3 M t0 s) (hb : RelB M r) (hT : t0 ≤ T) (hr : r.cyclelen ≤ T) :
    NOv (combineDoubleStep r p q s) := by
  -- a stored single: decodes, bounded
  have hpar : ∀ {key bk}, alookup key s.partials = some bk →
      ∃ rk, unpack bk = .ok rk ∧ rk.cyclelen ≤ T ∧ RelB M rk := by
    intro key bk hl
    obtain ⟨rk, hu, hl3, hb3⟩ := h3.par _ (alookup_mem hl)
    exact ⟨rk, hu, by omega, hb3⟩
  unfold combineDoubleStep
  split
  · exact ErrIn.bind (addCycle_nov _ _) (fun _ _ => ErrIn.pure _)
  · split
    · rename_i bp bq hlp hlq
      obtain ⟨rp, hup, hlp', hbp⟩ := hpar hlp
      obtain ⟨rq, huq, hlq', hbq⟩ := hpar hlq
      simp only [hup, huq, ok_bind]
      refine ErrIn.bind (combine_nov_of hc hb hbp (by omega)) (fun r1 hr1 => ?_)
      have hb1 := combine_relB hr1 hb hbp
      have hl1 := (combine_total hr1).2
      refine ErrIn.bind (combine_nov_of hc hb1 hbq (by omega)) (fun r2 _ => ?_)
      refine ErrIn.bind (addCycle_nov _ _) (fun s1 _ => ?_)
      split
      · exact newSingle_nov hc hb hbp (by omega) (fun _ => ErrIn.pure _)
      · split
        · exact newSingle_nov hc hb hbq (by omega) (fun _ => ErrIn.pure _)
        · exact ErrIn.pure _
    · rename_i bp hlp hlq
      obtain ⟨rp, hup, hlp', hbp⟩ := hpar hlp
      simp only [hup, ok_bind]
      exact newSingle_nov hc hb hbp (by omega) (fun _ => ErrIn.pure _)
    · rename_i bq hlp hlq
      obtain ⟨rq, huq, hlq', hbq⟩ := hpar hlq
      simp only [huq, ok_bind]
      exact newSingle_nov hc hb hbq (by omega) (fun _ => ErrIn.pure _)
    · exact ErrIn.pure _

theorem combineSingle_nov {M t T : Nat} {r : Relation} {s : Store} (hc : Cap M T) (h3 : Inv3 M t s)
    (hb : RelB M r) (hT : t ≤ T) (hr : r.cyclelen ≤ T) : NOv (combineSingle r s) := by
  unfold combineSingle
  cases hl : alookup r.cofactor s.partials with
  | none => exact ErrIn.pure _
  | some blob =>
    obtain ⟨r0, hu, hl3, hb3⟩ := h3.par _ (alookup_mem hl)
    simp only at hu
    simp only [hu, ok_bind]
    refine ErrIn.bind (combine_nov_of hc hb hb3 (by omega)) (fun rr _ => ?_)
    split
    · exact ErrIn.pure _
    · split
      · refine ErrIn.bind (addCycle_nov _ _) (fun s1 _ => ?_)
        split
        · exact ErrIn.bind (pack_nov _) (fun _ _ => ErrIn.pure _)
        · exact ErrIn.pure _
      · exact nov_debug

theorem removeStep_nov {M t T : Nat} {p q : Nat} {s : Store} (hc : Cap M T) (hi : Inv s)
    (h3 : Inv3 M t s) (hT : t ≤ T) : NOv (removeStep p q s) := by
  unfold removeStep
  cases hlook : alookup (p, q) s.doubles with
  | none => exact ErrIn.pure _
  | some blob =>
    have hm := alookup_mem hlook
    obtain ⟨r, hu, _⟩ := hi.double_ex hlook
    obtain ⟨r3, hu3, hb3⟩ := h3.dbl _ hm
    rw [show unpack blob = .ok r from hu] at hu3
    cases hu3
    obtain ⟨hle, h3e⟩ := inv3_erase h3 hm
    rw [blobLen_of hu] at hle h3e
    simp only [hu, ok_bind]
    refine ErrIn.bind (step_nov hc h3e hb3 (by omega) (by omega)) (fun res _ => ?_)
    split
    · exact ErrIn.pure _
    · exact nov_panic

theorem runActs_nov {M t T : Nat} {w : Nat → Store → Except Err Store} (hc : Cap M T) (hT : t ≤ T)
    (hwn : ∀ x s, Good s ∧ Inv3 M t s → NOv (w x s))
    (hw3 : ∀ {x s s'}, Good s ∧ Inv3 M t s → w x s = .ok s' → Keeps s s' ∧ Inv3 M t s')
    (root : Nat) : ∀ (l : List Act) (s : Store), Good s ∧ Inv3 M t s → NOv (runActs w root l s) := by
  have H := inv3_stepRel M t
  intro l
  induction l with
  | nil => intro s _; exact ErrIn.pure _
  | cons a rest ih =>
    intro s hp
    have hstep : NOv (actStep root a s) := by
      cases a with
      | rem p q => exact removeStep_nov hc hp.1.1 hp.2 hT
      | go a' b' =>
        simp only [actStep]
        split
        · exact nov_panic
        · exact ErrIn.pure _
    refine ErrIn.bind hstep (fun res hrs => ?_)
    have hp1 := H.pres hp (H.actStep hp hrs)
    exact ErrIn.bind (ErrIn.serve (fun x _ => hwn x _ hp1))
      (fun s1 hs1 => ih _ (H.pres hp1 (H.serve hw3 hp1 (H.refl _ hp1) hs1)))

theorem walkDoubles_nov {M t T : Nat} (hc : Cap M T) (hT : t ≤ T) : ∀ (f x : Nat) (s : Store),
    Good s ∧ Inv3 M t s → NOv (walkDoubles f x s) := by
  intro f
  induction f with
  | zero => intro x s _; exact ErrIn.throw (fun h => by cases h)
  | succ f ih =>
    intro x s hp
    rw [walkDoubles_acts]
    split
    · exact nov_panic
    · exact runActs_nov hc hT ih (fun hp h => (inv3_stepRel M t).of_walkDoubles f _ hp h) x _ s hp

theorem head_nov {M t T : Nat} {r : Relation} {pq : Option (Nat × Nat)} {s : Store} (hc : Cap M T)
    (h3 : Inv3 M t s) (hb : RelB M r) (hT : t + r.cyclelen ≤ T) : NOv (addHead r pq s) := by
  unfold addHead
  split
  · exact nov_debug
  · split
    · exact ErrIn.bind (addCycle_nov _ _) (fun _ _ => ErrIn.pure _)
    · split
      · refine ErrIn.bind (combineSingle_nov hc (inv3_of_lists h3 rfl rfl) hb (by omega) (by omega))
          (fun res _ => ?_)
        split
        · exact ErrIn.pure _
        · refine ErrIn.bind (pack_nov _) (fun b _ => ?_)
          split
          · exact nov_panic
          · exact ErrIn.pure _
      · split
        · exact ErrIn.pure _
        · split
          · exact nov_panic
          · refine ErrIn.bind (step_nov hc (inv3_of_lists h3 rfl rfl) hb (by omega) (by omega))
              (fun st _ => ?_)
            split
            · exact ErrIn.pure _
            · exact ErrIn.bind (pack_nov _) (fun _ _ => ErrIn.pure _)

theorem add_nov {M t T : Nat} {r : Relation} {pq : Option (Nat × Nat)} {s : Store} (hc : Cap M T)
    (hi : Inv s) (hn : s.n ≤ X512) (hin : InputOK s.n r pq) (h3 : Inv3 M t s) (hb : RelB M r)
    (hT : t + r.cyclelen ≤ T) : NOv (add r pq s) := by
  rw [add_eq_addWith]
  refine ErrIn.bind (head_nov hc h3 hb hT) (fun h1 hh => ErrIn.serve (fun x _ => ?_))
  exact walkDoubles_nov hc hT _ _ _
    ⟨Good.of_keeps ⟨hi, hn⟩ (head_keeps hh ⟨hi, hn⟩ hin), head_inv3 hh ⟨hi, hn⟩ hin h3 hb⟩

theorem runHistory_nov {M T : Nat} (hc : Cap M T) (ops : List (Relation × Option (Nat × Nat)))
    (s : Store) (t : Nat) (hg : Good s)
    (hok : ∀ op ∈ ops, InputOK s.n op.1 op.2 ∧ RelB M op.1 ∧ op.1.cyclelen = 1) (h3 : Inv3 M t s)
    (hT : t + ops.length ≤ T) : NOv (runHistory ops s) :=
  isRun_rec.errIn (P := fun i s1 => Good s1 ∧ Inv3 M (t + i) s1)
    (C := fun n _ op => InputOK n op.1 op.2 ∧ RelB M op.1 ∧ op.1.cyclelen = 1) (N := ops.length)
    add_step3 (fun hi hp hc' => by
      rw [← add_eq_addWith]
      exact add_nov hc hp.1.1 hp.1.2 hc'.1 hp.2 hc'.2.1 (by rw [hc'.2.2]; omega))
    ops 0 s ⟨hg, h3⟩ hok (by omega)

end Ymq.Relations
