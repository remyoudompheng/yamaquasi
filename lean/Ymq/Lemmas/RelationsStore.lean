/-
The store invariant of `RelationSet` (C11) and its preservation by every operation:
`add_cycle`, `combine_single`, `combine_double_step`, a removal step of `walk_doubles` (hence every
walk: `StepRel`), `add` with either formulation of the walk, and by induction every finite history.
-/
import Ymq.Lemmas.RelationsPack
import Ymq.Lemmas.RelationsWalk

namespace Ymq.Relations

section AList
variable {κ β : Type} [DecidableEq κ]

theorem alookup_mem {k : κ} {v : β} : ∀ {l : List (κ × β)}, alookup k l = some v → (k, v) ∈ l := by
  intro l
  induction l with
  | nil => intro h; simp [alookup] at h
  | cons e t ih =>
    obtain ⟨k', v'⟩ := e
    intro h
    unfold alookup at h
    split at h
    · rename_i hk
      simp only [Option.some.injEq] at h
      subst hk; subst h
      exact List.mem_cons_self
    · exact List.mem_cons_of_mem _ (ih h)

theorem alookup_none {k : κ} : ∀ {l : List (κ × β)}, alookup k l = none → ∀ v, (k, v) ∉ l := by
  intro l
  induction l with
  | nil => intro _ v hv; cases hv
  | cons e t ih =>
    obtain ⟨k', v'⟩ := e
    intro h v hv
    unfold alookup at h
    split at h
    · simp at h
    · rename_i hk
      rcases List.mem_cons.mp hv with hv | hv
      · simp only [Prod.mk.injEq] at hv
        exact hk hv.1.symm
      · exact ih h v hv

theorem mem_aerase {k : κ} {l : List (κ × β)} {e : κ × β} :
    e ∈ aerase k l ↔ e ∈ l ∧ e.1 ≠ k := by
  simp [aerase, List.mem_filter]

omit [DecidableEq κ] in
theorem mem_ainsertOrd {lt : κ → κ → Bool} {k : κ} {v : β} {e : κ × β} :
    ∀ {l : List (κ × β)}, e ∈ ainsertOrd lt k v l ↔ e = (k, v) ∨ e ∈ l := by
  intro l
  induction l with
  | nil => simp [ainsertOrd]
  | cons h t ih =>
    obtain ⟨k', v'⟩ := h
    unfold ainsertOrd
    split
    · exact List.mem_cons
    · rw [List.mem_cons, ih, List.mem_cons]; exact or_left_comm

theorem mem_ainsert {lt : κ → κ → Bool} {k : κ} {v : β} {l : List (κ × β)} {e : κ × β} :
    e ∈ ainsert lt k v l ↔ e = (k, v) ∨ (e ∈ l ∧ e.1 ≠ k) := by
  unfold ainsert
  rw [mem_ainsertOrd, mem_aerase]

end AList

theorem mem_sinsertOrd {a e : Nat × Nat} :
    ∀ {l : List (Nat × Nat)}, e ∈ sinsertOrd a l ↔ e = a ∨ e ∈ l := by
  intro l
  induction l with
  | nil => simp [sinsertOrd]
  | cons h t ih =>
    unfold sinsertOrd
    split
    · exact List.mem_cons
    · rw [List.mem_cons, ih, List.mem_cons]; exact or_left_comm

theorem mem_sinsert {a e : Nat × Nat} {l : List (Nat × Nat)} :
    e ∈ sinsert a l ↔ e = a ∨ e ∈ l := by
  unfold sinsert
  rw [mem_sinsertOrd, List.mem_filter]
  by_cases h : e = a
  · simp [h]
  · simp [h]

theorem mem_serase {a e : Nat × Nat} {l : List (Nat × Nat)} :
    e ∈ serase a l ↔ e ∈ l ∧ e ≠ a := by
  simp [serase, List.mem_filter]

/-- a packed pending relation with a single large prime `p` -/
def GoodP (n p : Nat) (b : List Nat) : Prop :=
  ∃ r, unpack b = .ok r ∧ r.cofactor = p ∧ Valid n r

/-- a packed pending relation with two large primes -/
def GoodD (n : Nat) (k : Nat × Nat) (b : List Nat) : Prop :=
  ∃ r, unpack b = .ok r ∧ r.cofactor = k.1 * k.2 ∧ Valid n r

/-- The invariant the code maintains on a `RelationSet`: every published cycle has cofactor 1 and
is a congruence; `partial[p]` decodes to a valid relation with cofactor `p`; `doubles[(p, q)]`
decodes to a valid relation with cofactor `p·q`, `p < q`; `doubles_rev` mirrors `doubles`. (Large
primes are below 2^32 and different from 1: the packed code of 2 is 1.) -/
structure Inv (s : Store) : Prop where
  cyc : ∀ r ∈ s.cycles, r.cofactor = 1 ∧ Valid s.n r
  par : ∀ e ∈ s.partials, e.1 ≠ 1 ∧ e.1 < W32 ∧ GoodP s.n e.1 e.2
  dbl : ∀ e ∈ s.doubles, e.1.1 < e.1.2 ∧ e.1.1 ≠ 1 ∧ e.1.2 ≠ 1 ∧ e.1.2 < W32 ∧ GoodD s.n e.1 e.2
  rev : ∀ p q, (q, p) ∈ s.doublesRev ↔ ∃ b, ((p, q), b) ∈ s.doubles

/-- what every store operation guarantees of the store it returns: `n` and `maxlarge` are those of
the store it started from, and the invariant holds (nothing is said of the contents) -/
def Keeps (s s' : Store) : Prop := s'.n = s.n ∧ s'.maxlarge = s.maxlarge ∧ Inv s'

theorem Keeps.refl {s : Store} (h : Inv s) : Keeps s s := ⟨rfl, rfl, h⟩

theorem Keeps.trans {s s1 s2 : Store} (h1 : Keeps s s1) (h2 : Keeps s1 s2) : Keeps s s2 :=
  ⟨h2.1.trans h1.1, h2.2.1.trans h1.2.1, h2.2.2⟩

theorem inv_new (n fbsize maxlarge : Nat) : Inv (Store.new n fbsize maxlarge) := by
  refine ⟨?_, ?_, ?_, ?_⟩
  · intro r hr; cases hr
  · intro e he; cases he
  · intro e he; cases he
  · intro p q
    constructor
    · intro h; cases h
    · rintro ⟨b, h⟩; cases h

theorem Inv.cycles_congr {s : Store} (hi : Inv s) {n : Nat} (hn : s.n = n) :
    ∀ r ∈ s.cycles, r.cofactor = 1 ∧ (r.x : Int) * r.x ≡ fprod r.factors [ZMOD n] := by
  intro r hr
  obtain ⟨h1, h2⟩ := hi.cyc r hr
  refine ⟨h1, ?_⟩
  unfold Valid at h2
  rw [h1, hn] at h2
  simpa using h2

theorem W32_lt_I63 {p : Nat} (h : p < W32) : p < I63 :=
  lt_trans h (by decide)

theorem toI64_ne_one {p : Nat} (h : p < W32) (h1 : p ≠ 1) : toI64 p ≠ 1 := by
  rw [toI64_small (W32_lt_I63 h)]
  intro hc
  exact h1 (by exact_mod_cast hc)

theorem inv_setPartial {s : Store} (h : Inv s) {p : Nat} {b : List Nat} (hp1 : p ≠ 1)
    (hp32 : p < W32) (hg : GoodP s.n p b) : Inv (s.setPartial p b) := by
  refine ⟨h.cyc, ?_, h.dbl, h.rev⟩
  intro e he
  simp only [Store.setPartial] at he
  rw [mem_ainsert] at he
  rcases he with he | ⟨he, _⟩
  · subst he; exact ⟨hp1, hp32, hg⟩
  · exact h.par e he

theorem keeps_setPartial {s : Store} (h : Inv s) {p : Nat} {b : List Nat} (hp1 : p ≠ 1)
    (hp32 : p < W32) (hg : GoodP s.n p b) : Keeps s (s.setPartial p b) :=
  ⟨rfl, rfl, inv_setPartial h hp1 hp32 hg⟩

theorem addCycle_ok {r : Relation} {s s' : Store} (h : addCycle r s = .ok s') :
    r.cofactor = 1 ∧ 0 < r.cyclelen ∧
    s' = { s with nCycles := bumpAt (min 8 r.cyclelen - 1) s.nCycles, cycles := s.cycles ++ [r] } := by
  unfold addCycle at h
  split at h
  · simp [throw_ne_ok] at h
  · rename_i hc
    split at h
    · simp [throw_ne_ok] at h
    · rename_i hl
      simp only [pure_eq_ok] at h
      exact ⟨by simpa using hc, Nat.pos_of_ne_zero hl, h.symm⟩

theorem addCycle_keeps {r : Relation} {s s' : Store} (h : addCycle r s = .ok s') (hi : Inv s)
    (hv : Valid s.n r) : Keeps s s' ∧ s'.partials = s.partials ∧ s'.doubles = s.doubles ∧
      s'.doublesRev = s.doublesRev ∧ s'.cycles = s.cycles ++ [r] := by
  obtain ⟨hc, _, hs⟩ := addCycle_ok h
  subst hs
  refine ⟨⟨rfl, rfl, ⟨?_, hi.par, hi.dbl, hi.rev⟩⟩, rfl, rfl, rfl, rfl⟩
  intro r' hr'
  simp only [List.mem_append, List.mem_singleton] at hr'
  rcases hr' with hr' | hr'
  · exact hi.cyc r' hr'
  · subst hr'; exact ⟨hc, hv⟩

theorem valid_square {n : Nat} {r : Relation} {p : Nat} (hv : Valid n r) (hc : r.cofactor = p * p)
    (hp : p < W32) :
    Valid n { r with cofactor := 1, factors := r.factors ++ [(toI64 p, 2)] } := by
  unfold Valid at *
  simp only [fprod_append, fprod_cons, fprod_nil, toI64_small (W32_lt_I63 hp)]
  rw [hc] at hv
  refine hv.trans ?_
  push_cast
  ring_nf
  rfl

theorem inv_erase_double {s : Store} (hi : Inv s) (p q : Nat) :
    Inv { s with doubles := aerase (p, q) s.doubles, doublesRev := serase (q, p) s.doublesRev } := by
  refine ⟨hi.cyc, hi.par, ?_, ?_⟩
  · intro e he
    exact hi.dbl e (mem_aerase.mp he).1
  · intro p' q'
    simp only [mem_serase, mem_aerase, hi.rev p' q']
    constructor
    · rintro ⟨⟨b, hb⟩, hne⟩
      refine ⟨b, hb, ?_⟩
      intro heq
      simp only [Prod.mk.injEq] at heq
      exact hne (by rw [heq.1, heq.2])
    · rintro ⟨b, hb, hne⟩
      refine ⟨⟨b, hb⟩, ?_⟩
      intro heq
      simp only [Prod.mk.injEq] at heq
      exact hne (by rw [heq.1, heq.2])

/-- the invariant, and a modulus of at most 512 bits: the packed form keeps 8 words of `x`, so only
below that bound does a stored relation decode to the congruence that was packed
(`GoodP.of_pack`; `C11.above_512_bits_counterexample`) -/
def Good (s : Store) : Prop := Inv s ∧ s.n ≤ X512

theorem Good.of_keeps {s s' : Store} (hg : Good s) (hk : Keeps s s') : Good s' :=
  ⟨hk.2.2, by rw [hk.1]; exact hg.2⟩

/-- what `Inv` needs of a relation that is combined or stored: Rust types and no base 1 (then the
packed form decodes again, `unpack_pack'`), and the congruence -/
structure RelOK (n : Nat) (r : Relation) : Prop where
  typed : Typed r
  noOne : NoOne r.factors
  valid : Valid n r

theorem Inv.single_ex {s : Store} (hi : Inv s) {k : Nat} {bk : List Nat}
    (hl : alookup k s.partials = some bk) :
    ∃ rk, unpack bk = .ok rk ∧ k ≠ 1 ∧ k < W32 ∧ rk.cofactor = k ∧ RelOK s.n rk := by
  obtain ⟨h1, h32, rk, hu, hc, hv⟩ := hi.par _ (alookup_mem hl)
  obtain ⟨ht, hn, _⟩ := unpack_facts hu
  exact ⟨rk, hu, h1, h32, hc, ht, hn, hv⟩

theorem Inv.single {s : Store} (hi : Inv s) {k : Nat} {bk : List Nat} {rk : Relation}
    (hl : alookup k s.partials = some bk) (hu : unpack bk = .ok rk) :
    k ≠ 1 ∧ k < W32 ∧ rk.cofactor = k ∧ RelOK s.n rk := by
  obtain ⟨r', hu', h⟩ := hi.single_ex hl
  rw [hu] at hu'; cases hu'; exact h

theorem Inv.double_ex {s : Store} (hi : Inv s) {p q : Nat} {blob : List Nat}
    (hl : alookup (p, q) s.doubles = some blob) :
    ∃ r, unpack blob = .ok r ∧ p < q ∧ p ≠ 1 ∧ q ≠ 1 ∧ q < W32 ∧ r.cofactor = p * q ∧ RelOK s.n r := by
  obtain ⟨hlt, h1, h2, h32, r, hu, hc, hv⟩ := hi.dbl _ (alookup_mem hl)
  obtain ⟨ht, hn, _⟩ := unpack_facts hu
  exact ⟨r, hu, hlt, h1, h2, h32, hc, ht, hn, hv⟩

theorem Inv.double {s : Store} (hi : Inv s) {p q : Nat} {blob : List Nat} {r : Relation}
    (hl : alookup (p, q) s.doubles = some blob) (hu : unpack blob = .ok r) :
    p < q ∧ p ≠ 1 ∧ q ≠ 1 ∧ q < W32 ∧ r.cofactor = p * q ∧ RelOK s.n r := by
  obtain ⟨r', hu', h⟩ := hi.double_ex hl
  rw [hu] at hu'; cases hu'; exact h

theorem combine_key {n : Nat} {r rp rr : Relation} {p : Nat} (h : combine n r rp = .ok rr)
    (hr : RelOK n r) (hp : RelOK n rp) (hc : rp.cofactor = p) (hdvd : r.cofactor % p = 0)
    (hp1 : p ≠ 1) (hp32 : p < W32) :
    RelOK n rr ∧ rr.x < n ∧ rr.cofactor * p = r.cofactor ∧ 0 < p := by
  have hd : divisorCof r rp = p := by unfold divisorCof; rw [hc, if_pos hdvd]
  refine ⟨⟨combine_typed h hr.typed hp.typed,
    combine_noOne h hr.noOne hp.noOne (by rw [hd]; exact toI64_ne_one hp32 hp1),
    combine_valid' h hr.valid hp.valid (by rw [hd]; exact W32_lt_I63 hp32)⟩, combine_x_lt h, ?_⟩
  obtain ⟨_, _, _, _, _, _, hcase⟩ := combine_ok h
  rcases hcase with ⟨h0, _, hcof, _⟩ | ⟨_, h0, hmod, _⟩
  · rw [hcof, hc]
    exact ⟨Nat.div_mul_cancel (Nat.dvd_of_mod_eq_zero hdvd), Nat.pos_of_ne_zero (hc ▸ h0)⟩
  · rw [hc] at hmod; exact absurd hdvd hmod

theorem GoodP.of_pack {n : Nat} {r : Relation} {b : List Nat} (h : pack r = .ok b) (hr : RelOK n r)
    (hx : r.x < X512) : GoodP n r.cofactor b := by
  refine ⟨_, unpack_pack' h hr.typed hr.noOne, rfl, ?_⟩
  have hv := hr.valid
  unfold Valid at *
  simp only [Nat.mod_eq_of_lt hx, fprod_norm]
  exact hv

/-- the pair handed to `combine_double`: `r.cofactor = p·q`, both primes usable as keys -/
structure PairOK (r : Relation) (p q : Nat) : Prop where
  cof : r.cofactor = p * q
  p1 : p ≠ 1
  q1 : q ≠ 1
  p32 : p < W32
  q32 : q < W32

theorem PairOK.perm {r : Relation} {p q k k' : Nat} (h : PairOK r p q)
    (hk : k = p ∧ k' = q ∨ k = q ∧ k' = p) : PairOK r k k' := by
  rcases hk with ⟨rfl, rfl⟩ | ⟨rfl, rfl⟩
  · exact h
  · exact ⟨by rw [h.cof, Nat.mul_comm], h.q1, h.p1, h.q32, h.p32⟩

theorem PairOK.dvd {r : Relation} {p q : Nat} (h : PairOK r p q) : r.cofactor % p = 0 := by
  rw [h.cof]; exact Nat.mul_mod_right _ _

theorem NewSingle.goodP {s : Store} {r : Relation} {k k' : Nat} {b : List Nat}
    (h : NewSingle s r k k' b) (hg : Good s) (hr : RelOK s.n r) (hdvd : r.cofactor % k = 0) :
    GoodP s.n k' b := by
  obtain ⟨bk, rk, rr, hl, hu, hcomb, hcof, hb⟩ := h
  obtain ⟨h1, h32, hc, hk⟩ := hg.1.single hl hu
  obtain ⟨hrr, hx, _⟩ := combine_key hcomb hr hk hc hdvd h1 h32
  rw [← hcof]; exact GoodP.of_pack hb hrr (lt_of_lt_of_le hx hg.2)

theorem step_keeps {r : Relation} {p q : Nat} {s : Store} {st : Bool × Option Nat × Store}
    (h : combineDoubleStep r p q s = .ok st) (hg : Good s) (hr : RelOK s.n r) (hpq : PairOK r p q) :
    Keeps s st.2.2 := by
  rcases combineDoubleStep_ok h with ⟨rfl, s1, hs1, rfl⟩ |
    ⟨_, bp, bq, rp, rq, r1, r2, s1, hlp, hlq, hup, huq, hr1, hr2, hs1, hres⟩ |
    ⟨_, k, k', b, hk, _, hns, rfl⟩ | ⟨_, _, _, rfl⟩
  · exact (addCycle_keeps hs1 hg.1 (valid_square hr.valid hpq.cof hpq.p32)).1
  · obtain ⟨_, _, hcp, hkp⟩ := hg.1.single hlp hup
    obtain ⟨_, _, hcq, hkq⟩ := hg.1.single hlq huq
    obtain ⟨h1, _, h1c, hp0⟩ := combine_key hr1 hr hkp hcp hpq.dvd hpq.p1 hpq.p32
    have hq : r1.cofactor = q :=
      Nat.eq_of_mul_eq_mul_right hp0 (by rw [h1c, hpq.cof, Nat.mul_comm])
    obtain ⟨h2, _⟩ := combine_key hr2 h1 hkq hcq (by rw [hq]; exact Nat.mod_self _) hpq.q1 hpq.q32
    obtain ⟨hk, _⟩ := addCycle_keeps hs1 hg.1 h2.valid
    rcases hres with rfl | ⟨k, k', b, hk', hns, rfl⟩
    · exact hk
    · have hp' := hpq.perm hk'
      refine hk.trans (keeps_setPartial hk.2.2 hp'.q1 hp'.q32 ?_)
      rw [hk.1]; exact hns.goodP hg hr hp'.dvd
  · have hp' := hpq.perm hk
    exact ⟨rfl, rfl, inv_setPartial (s := { s with nCombined12 := s.nCombined12 + 1 })
      ⟨hg.1.cyc, hg.1.par, hg.1.dbl, hg.1.rev⟩ hp'.q1 hp'.q32 (hns.goodP hg hr hp'.dvd)⟩
  · exact Keeps.refl hg.1

theorem removeStep_keeps {p q : Nat} {s : Store} {res : StepRes × Store} (hg : Good s)
    (h : removeStep p q s = .ok res) : Keeps s res.2 := by
  rcases removeStep_ok h with ⟨_, rfl⟩ | ⟨blob, r, st, hl, hu, hst, _, rfl⟩
  · exact Keeps.refl hg.1
  · obtain ⟨hlt, hp1, hq1, hq32, hc, hr⟩ := hg.1.double hl hu
    have hi0 : Inv (s.eraseDouble p q) := inv_erase_double hg.1 p q
    have hk0 : Keeps s (s.eraseDouble p q) := ⟨rfl, rfl, hi0⟩
    exact hk0.trans (step_keeps hst ⟨hi0, hg.2⟩ hr ⟨hc, hp1, hq1, lt_trans hlt hq32, hq32⟩)

/-- a walk, given as a function, keeps the invariant of every good store it returns from -/
def WalkKeeps (walk : Nat → Store → M Store) : Prop :=
  ∀ {root s s'}, Good s → walk root s = .ok s' → Keeps s s'

theorem keeps_stepRel : StepRel Good Keeps :=
  ⟨fun _ hg => Keeps.refl hg.1, Keeps.trans, Good.of_keeps, removeStep_keeps⟩

theorem combineSingle_ok {r : Relation} {s : Store} {res : Bool × Store}
    (h : combineSingle r s = .ok res) :
    (alookup r.cofactor s.partials = none ∧ res = (false, s)) ∨
    ∃ blob r0 rr, alookup r.cofactor s.partials = some blob ∧ unpack blob = .ok r0 ∧
      combine s.n r r0 = .ok rr ∧
      (res = (false, s) ∨ ∃ s1, verify s.n rr = .ok true ∧ addCycle rr s = .ok s1 ∧
        (res = (true, s1) ∨ ∃ b, r.cyclelen < r0.cyclelen ∧ pack r = .ok b ∧
          res = (true, s1.setPartial r.cofactor b))) := by
  unfold combineSingle at h
  split at h
  · rename_i hl; exact Or.inl ⟨hl, (pure_eq_ok.mp h).symm⟩
  · rename_i blob hl
    simp only [bind_eq_ok] at h
    obtain ⟨r0, hu, rr, hcomb, h⟩ := h
    refine Or.inr ⟨blob, r0, rr, hl, hu, hcomb, ?_⟩
    split at h
    · exact Or.inl (pure_eq_ok.mp h).symm
    · split at h
      · rename_i hver
        simp only [bind_eq_ok] at h
        obtain ⟨s1, hs1, h⟩ := h
        refine Or.inr ⟨s1, hver, hs1, ?_⟩
        split at h
        · rename_i hlt
          simp only [bind_eq_ok, pure_eq_ok] at h
          obtain ⟨b, hb, h⟩ := h
          exact Or.inr ⟨b, hlt, hb, h.symm⟩
        · exact Or.inl (pure_eq_ok.mp h).symm
      · exact (throw_ne_ok.mp h).elim

theorem single_keeps {r : Relation} {s : Store} {res : Bool × Store}
    (h : combineSingle r s = .ok res) (hg : Good s) (hr : RelOK s.n r) (hx : r.x < s.n) :
    Keeps s res.2 := by
  rcases combineSingle_ok h with ⟨_, rfl⟩ | ⟨blob, r0, rr, hl, hu, hcomb, rfl | ⟨s1, _, hs1, hres⟩⟩
  · exact Keeps.refl hg.1
  · exact Keeps.refl hg.1
  · obtain ⟨h1, h32, hc, hk⟩ := hg.1.single hl hu
    obtain ⟨hrr, _⟩ := combine_key hcomb hr hk hc (Nat.mod_self _) h1 h32
    obtain ⟨hk1, _⟩ := addCycle_keeps hs1 hg.1 hrr.valid
    rcases hres with rfl | ⟨b, _, hb, rfl⟩
    · exact hk1
    · refine hk1.trans (keeps_setPartial hk1.2.2 h1 h32 ?_)
      rw [hk1.1]; exact GoodP.of_pack hb hr (lt_of_lt_of_le hx hg.2)

theorem inv_insertDouble {s : Store} (hi : Inv s) {p q : Nat} {b : List Nat} (hne : p ≠ q)
    (hp1 : p ≠ 1) (hq1 : q ≠ 1) (hp32 : p < W32) (hq32 : q < W32)
    (hg : ∃ r, unpack b = .ok r ∧ r.cofactor = p * q ∧ Valid s.n r) :
    Inv (s.insertDouble p q b) := by
  obtain ⟨r', hu', hc', hv'⟩ := hg
  refine ⟨hi.cyc, hi.par, ?_, ?_⟩
  · intro e he
    rw [mem_ainsert] at he
    rcases he with he | ⟨he, _⟩
    · subst he
      by_cases hlt : p < q
      · simp only [if_pos hlt]
        exact ⟨hlt, hp1, hq1, hq32, r', hu', hc', hv'⟩
      · simp only [if_neg hlt]
        exact ⟨by omega, hq1, hp1, hp32, r', hu', by rw [hc', Nat.mul_comm], hv'⟩
    · exact hi.dbl e he
  · intro p' q'
    rw [mem_sinsert, hi.rev p' q']
    constructor
    · rintro (heq | ⟨b', hb'⟩)
      · refine ⟨b, ?_⟩
        rw [mem_ainsert]
        left
        simp only [Prod.mk.injEq] at heq
        rw [heq.1, heq.2]
      · by_cases hk : (p', q') = (if p < q then (p, q) else (q, p))
        · refine ⟨b, ?_⟩
          rw [mem_ainsert]; left; rw [hk]
        · refine ⟨b', ?_⟩
          rw [mem_ainsert]; right; exact ⟨hb', hk⟩
    · rintro ⟨b', hb'⟩
      rw [mem_ainsert] at hb'
      rcases hb' with hb' | ⟨hb', _⟩
      · left
        simp only [Prod.mk.injEq] at hb'
        rw [← hb'.1]
      · right; exact ⟨b', hb'⟩

/-- what the callers of `add` guarantee about the relation they hand over (validity part):
Rust types, a true congruence, no factor entry with base 1, and — when a pair is supplied — the
cofactor is the product of the pair, neither element being 1. -/
structure InputOK (n : Nat) (r : Relation) (pq : Option (Nat × Nat)) : Prop where
  typed : Typed r
  valid : Valid n r
  noOne : NoOne r.factors
  pair : ∀ p q, pq = some (p, q) → r.cofactor = p * q ∧ p ≠ 1 ∧ q ≠ 1

/-- `InputOK` in a form that `decide` evaluates on a concrete relation -/
theorem InputOK.of_dec {n : Nat} {r : Relation} {pq : Option (Nat × Nat)}
    (h : Typed r ∧ Valid n r ∧ NoOne r.factors ∧
      ∀ k ∈ pq, r.cofactor = k.1 * k.2 ∧ k.1 ≠ 1 ∧ k.2 ≠ 1) : InputOK n r pq :=
  ⟨h.1, h.2.1, h.2.2.1, fun p q e => h.2.2.2 (p, q) e⟩

theorem InputOK.rel {n : Nat} {r : Relation} {pq : Option (Nat × Nat)} (h : InputOK n r pq) :
    RelOK n r := ⟨h.typed, h.noOne, h.valid⟩

/-- the invariants do not read the statistics counters -/
theorem Good.counters {s s0 : Store} (hg : Good s) (hn : s0.n = s.n) (hc : s0.cycles = s.cycles)
    (hp : s0.partials = s.partials) (hd : s0.doubles = s.doubles) (hr : s0.doublesRev = s.doublesRev) :
    Good s0 :=
  ⟨⟨by rw [hn, hc]; exact hg.1.cyc, by rw [hn, hp]; exact hg.1.par, by rw [hn, hd]; exact hg.1.dbl,
    by rw [hd, hr]; exact hg.1.rev⟩, by rw [hn]; exact hg.2⟩

theorem Good.setPartial_pack {s : Store} {r : Relation} {b : List Nat} (hg : Good s)
    (hb : pack r = .ok b) (hr : RelOK s.n r) (hx : r.x < s.n) (h1 : r.cofactor ≠ 1)
    (h32 : r.cofactor < W32) : Good (s.setPartial r.cofactor b) :=
  hg.of_keeps (keeps_setPartial hg.1 h1 h32 (GoodP.of_pack hb hr (lt_of_lt_of_le hx hg.2)))

theorem head_keeps {r : Relation} {pq : Option (Nat × Nat)} {s : Store} {h1 : StepRes × Store}
    (h : addHead r pq s = .ok h1) (hg : Good s) (hin : InputOK s.n r pq) : Keeps s h1.2 := by
  have hr := hin.rel
  obtain ⟨hx, hcase⟩ := addHead_ok h
  rcases hcase with ⟨_, _, h1'⟩ | ⟨hc1, _, res, hres, hcs⟩ | ⟨_, _, _, rfl⟩ |
    ⟨_, _, p, q, rfl, hp32, hq32, hd⟩
  · exact (addCycle_keeps h1' hg.1 hr.valid).1
  · have hg0 : Good { s with nPartials := s.nPartials + 1 } := hg.counters rfl rfl rfl rfl rfl
    have hk1 : Keeps s res.2 := Keeps.trans (s1 := { s with nPartials := s.nPartials + 1 })
      ⟨rfl, rfl, hg0.1⟩ (single_keeps hres hg0 hr hx)
    rcases hcs with ⟨_, rfl⟩ | ⟨_, h32, b, hb, rfl⟩
    · exact hk1
    · exact ⟨hk1.1, hk1.2.1,
        ((hg.of_keeps hk1).setPartial_pack hb (hk1.1 ▸ hr) (hk1.1 ▸ hx) hc1 h32).1⟩
  · exact Keeps.refl hg.1
  · obtain ⟨hc, hp1, hq1⟩ := hin.pair p q rfl
    have hg0 : Good { s with nDoubles := s.nDoubles + 1 } := hg.counters rfl rfl rfl rfl rfl
    rcases hd with ⟨st, hst, _, rfl⟩ | ⟨hne, _, _, b, hb, rfl⟩
    · exact Keeps.trans (s1 := { s with nDoubles := s.nDoubles + 1 })
        ⟨rfl, rfl, hg0.1⟩ (step_keeps hst hg0 hr ⟨hc, hp1, hq1, hp32, hq32⟩)
    · obtain ⟨r', hu', hc', hv'⟩ := GoodP.of_pack (n := s.n) hb hr (lt_of_lt_of_le hx hg.2)
      exact ⟨rfl, rfl, inv_insertDouble hg0.1 hne hp1 hq1 hp32 hq32 ⟨r', hu', hc'.trans hc, hv'⟩⟩

theorem addWith_keeps {wk : Nat → Store → M Store} (hwk : IsWalk wk) {r : Relation}
    {pq : Option (Nat × Nat)} {s s' : Store} (h : addWith wk r pq s = .ok s') (hg : Good s)
    (hin : InputOK s.n r pq) : Keeps s s' := by
  obtain ⟨h1, hh, hs⟩ := addWith_eq_ok.mp h
  exact keeps_stepRel.serve_isWalk hwk hg (head_keeps hh hg hin) hs

theorem add_keeps {r : Relation} {pq : Option (Nat × Nat)} {s s' : Store}
    (h : add r pq s = .ok s') (hi : Inv s) (hn : s.n ≤ X512) (hin : InputOK s.n r pq) :
    Keeps s s' :=
  addWith_keeps isWalk_rec (add_eq_addWith r pq s ▸ h) ⟨hi, hn⟩ hin

/-- contract of a whole history: every relation handed to `add` is valid for the modulus -/
def HistoryOK (n : Nat) (ops : List (Relation × Option (Nat × Nat))) : Prop :=
  ∀ op ∈ ops, InputOK n op.1 op.2

theorem IsRun.keeps {run : List (Relation × Option (Nat × Nat)) → Store → M Store}
    {wk : Nat → Store → M Store} (hrun : IsRun run wk) (hwk : IsWalk wk)
    (ops : List (Relation × Option (Nat × Nat))) (s s' : Store) (h : run ops s = .ok s') (hg : Good s)
    (hok : HistoryOK s.n ops) : Keeps s s' :=
  hrun.ind (P := fun _ s1 => Keeps s s1) (C := fun n _ op => InputOK n op.1 op.2)
    (fun hk hc h1 => by
      have hk1 := addWith_keeps hwk h1 (hg.of_keeps hk) hc
      exact ⟨hk.trans hk1, hk1.1, hk1.2.1⟩) ops 0 s s' (Keeps.refl hg.1) hok h

end Ymq.Relations
