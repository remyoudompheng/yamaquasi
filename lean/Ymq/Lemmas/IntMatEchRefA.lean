/-
The first half of a refinement that is not completed, from the production echelon builder `Ech` (Montgomery
form, 8-row blocks) to the reference builder `EchP`: the state correspondence `EchP.toEch`, and the triangular
update of the 8 block multipliers (`blockVs`) as the recursion `VsEqn` on plain residues (`blockVs_spec`).
No property theorem uses this file (Props/C19Dense names it in a docstring). The fields `hσ`, `one`, `zero`
of `EchCtx` are for the missing half ("a block is 8 sequential steps") and are not read here.
-/
import Ymq.Lemmas.IntMatEchMont
import Ymq.Lemmas.Loops
namespace Ymq.IntMat
open Ymq.Mg64

theorem forM_eq_foldlM {σ α} (f : σ → α → Option σ) : ∀ (l : List α) (s : σ), forM l s f = l.foldlM f s
  | [], _ => rfl
  | a :: as, s => by
    rw [List.foldlM_cons, forM]
    cases f s a with
    | none => rfl
    | some s' => exact forM_eq_foldlM f as s'

/-- the range rule in continuation form: whatever holds of every state satisfying `P m` holds of the result -/
theorem forM_range_cont {σ} (f : σ → Nat → Option σ) (P : Nat → σ → Prop) (s0 : σ) (h0 : P 0 s0) (m : Nat)
    (hstep : ∀ a s, a < m → P a s → ∃ s', f s a = some s' ∧ P (a + 1) s')
    (Q : Option σ → Prop) (hQ : ∀ s', P m s' → Q (some s')) : Q (forM (List.range m) s0 f) := by
  obtain ⟨s', h1, h2⟩ := Loops.foldlM_range_total f P m hstep h0
  rw [forM_eq_foldlM, h1]; exact hQ s' h2

/-- the production state that represents the reference state `e` -/
def EchP.toEch (pinv : Nat) (e : EchP) : Ech :=
  { p := e.p, pinv := pinv, r := W % e.p, r2 := (W % e.p) * (W % e.p) % e.p,
    indices := e.indices, basis := e.basis.map (mrow e.p), factors := e.factors.map (mform e.p) }

/-- entry `c` of the basis row `t` -/
def EchP.ent (e : EchP) (t c : Nat) : Nat := (e.basis.getD t []).getD c 0

/-- the facts about the reference state used by the refinement: Montgomery set-up, `p ≤ 2^63`, the
column order is `σ`, the basis is reduced and in echelon form (`p < 2^63`) -/
structure EchCtx (p n pinv : Nat) (e : EchP) (σ : Equiv.Perm (Fin n)) : Prop where
  mont : MontOk p pinv
  p63 : 2 * p ≤ W
  hp : e.p = p
  hσ : e.indices = permList σ
  k_le : e.basis.length ≤ n
  row_len : ∀ r ∈ e.basis, r.length = n
  row_red : ∀ r ∈ e.basis, ∀ x ∈ r, x < p
  one : ∀ t (_ : t < e.basis.length) (htn : t < n), vecN p n (e.basis.getD t []) (σ ⟨t, htn⟩) = 1
  zero : ∀ t s (hst : s < t) (_ : t < e.basis.length) (htn : t < n),
    vecN p n (e.basis.getD t []) (σ ⟨s, by omega⟩) = 0

variable {p n pinv : Nat} {e : EchP} {σ : Equiv.Perm (Fin n)}

theorem EchCtx.ent_lt (C : EchCtx p n pinv e σ) (t c : Nat) : e.ent t c < p := by
  have hp : 0 < p := by have := C.mont.one_lt; omega
  unfold EchP.ent
  by_cases ht : t < e.basis.length
  · rw [List.getD_eq_getElem _ _ ht]
    by_cases hc : c < e.basis[t].length
    · rw [List.getD_eq_getElem _ _ hc]
      exact C.row_red _ (List.getElem_mem ht) _ (List.getElem_mem hc)
    · rw [List.getD_eq_default _ _ (by omega)]; exact hp
  · rw [List.getD_eq_default e.basis [] (by omega)]; simpa using hp

theorem EchCtx.row_length (C : EchCtx p n pinv e σ) (t : Nat) (ht : t < e.basis.length) :
    (e.basis.getD t []).length = n := by
  rw [List.getD_eq_getElem _ _ ht]
  exact C.row_len _ (List.getElem_mem ht)

theorem EchCtx.basis_get (C : EchCtx p n pinv e σ) (t : Nat) (ht : t < e.basis.length) :
    (e.toEch pinv).basis[t]? = some (mrow p (e.basis.getD t [])) := by
  rw [List.getD_eq_getElem _ _ ht]
  simp [EchP.toEch, C.hp, List.getElem?_map, List.getElem?_eq_getElem ht]

theorem EchCtx.row_get (C : EchCtx p n pinv e σ) (t c : Nat) (ht : t < e.basis.length) (hc : c < n) :
    (mrow p (e.basis.getD t []))[c]? = some (mform p (e.ent t c)) := by
  have hl := C.row_length t ht
  rw [mrow_getElem? p _ c (by omega)]
  unfold EchP.ent
  rw [List.getD_eq_getElem _ _ (show c < (e.basis.getD t []).length by omega)]

theorem toEch_subMulC (e : EchP) (pinv a b c : Nat) :
    (e.toEch pinv).subMulC a b c =
      (match mgMul e.p pinv b c with | none => none | some bc => subP e.p a bc) := rfl

theorem EchCtx.subMulC_eq (C : EchCtx p n pinv e σ) (a m b : Nat) :
    (e.toEch pinv).subMulC (mform p a) (mform p m) (mform p b) = some (mform p ((a + (p - m * b % p)) % p)) := by
  have hpW : 2 * p ≤ W := C.p63
  rw [toEch_subMulC, C.hp]
  obtain ⟨y, hy1, _, hy3, hy4⟩ := subMul_entry C.mont hpW a m b
  rw [hy1]
  subst hy4
  exact hy3

/-- pivot column of basis row `t` as a number -/
def colOf (σ : Equiv.Perm (Fin n)) (t : Nat) : Nat := (permList σ).getD t 0

theorem colOf_eq (σ : Equiv.Perm (Fin n)) (t : Nat) (ht : t < n) : colOf σ t = (σ ⟨t, ht⟩ : Nat) := by
  unfold colOf
  rw [List.getD_eq_getElem?_getD, permList_getElem? σ t ht, Option.getD_some]

theorem idxs_get (σ : Equiv.Perm (Fin n)) (i a : Nat) (ha : a < 8) (hia : i + a < n) :
    (((permList σ).drop i).take 8)[a]? = some (colOf σ (i + a)) := by
  rw [List.getElem?_take_of_lt ha, List.getElem?_drop, permList_getElem? σ _ hia, colOf_eq σ _ hia]

/-- the defining recursion of the block multipliers: `us[a] = xs[a] - Σ_{b<a} us[b]·basis[i+b][col(i+a)]` -/
def VsEqn (p : Nat) (e : EchP) (σ : Equiv.Perm (Fin n)) (i : Nat) (xs us : List Nat) (a : Nat) : Prop :=
  ((us.getD a 0 : Nat) : ZMod p) = ((xs.getD a 0 : Nat) : ZMod p) -
    ∑ b ∈ Finset.range a, ((us.getD b 0 : Nat) : ZMod p) * ((e.ent (i + b) (colOf σ (i + a)) : Nat) : ZMod p)

theorem getD_set_ne {α} (l : List α) (a b : Nat) (v d : α) (h : a ≠ b) : (l.set a v).getD b d = l.getD b d := by
  simp [List.getD_eq_getElem?_getD, List.getElem?_set_ne h]

theorem getD_set_eq {α} (l : List α) (a : Nat) (v d : α) (h : a < l.length) : (l.set a v).getD a d = v := by
  simp [List.getD_eq_getElem?_getD, List.getElem?_set_self h]

theorem mem_set_lt {l : List Nat} {a t B : Nat} (hl : ∀ x ∈ l, x < B) (ht : t < B) : ∀ x ∈ l.set a t, x < B := by
  intro x hx
  rcases List.mem_or_eq_of_mem_set hx with h | h
  · exact hl x h
  · rw [h]; exact ht

theorem blockVs_spec (C : EchCtx p n pinv e σ) (i : Nat) (hi : i + 8 ≤ e.basis.length)
    (xs : List Nat) (hxl : xs.length = 8) (hxr : ∀ x ∈ xs, x < p) :
    ∃ us : List Nat, us.length = 8 ∧ (∀ x ∈ us, x < p) ∧
      (e.toEch pinv).blockVs i (((permList σ).drop i).take 8) (mrow p xs) = some (mrow p us) ∧
      ∀ a, a < 8 → VsEqn p e σ i xs us a := by
  have hp : 0 < p := by have := C.mont.one_lt; omega
  have hpW : 2 * p ≤ W := C.p63
  have hk := C.k_le
  unfold Ech.blockVs
  refine forM_range_cont _
    (fun a (vs : List Nat) => ∃ us : List Nat, vs = mrow p us ∧ us.length = 8 ∧ (∀ x ∈ us, x < p) ∧
      (∀ a', a ≤ a' → us.getD a' 0 = xs.getD a' 0) ∧ ∀ a', a' < a → VsEqn p e σ i xs us a')
    (mrow p xs) ⟨xs, rfl, hxl, hxr, fun _ _ => rfl, fun a' h => absurd h (Nat.not_lt_zero _)⟩ 8 ?_
    (fun r => ∃ us : List Nat, us.length = 8 ∧ (∀ x ∈ us, x < p) ∧ r = some (mrow p us) ∧
      ∀ a, a < 8 → VsEqn p e σ i xs us a) ?_
  · rintro a vs ha ⟨us, rfl, hul, hur, hge, hlt⟩
    refine forM_range_cont _
      (fun b (vs' : List Nat) => ∃ us' : List Nat, vs' = mrow p us' ∧ us'.length = 8 ∧ (∀ x ∈ us', x < p) ∧
        (∀ a', a' ≠ a → us'.getD a' 0 = us.getD a' 0) ∧
        ((us'.getD a 0 : Nat) : ZMod p) = ((xs.getD a 0 : Nat) : ZMod p) -
          ∑ b' ∈ Finset.range b, ((us.getD b' 0 : Nat) : ZMod p) * ((e.ent (i + b') (colOf σ (i + a)) : Nat) : ZMod p))
      (mrow p us) ⟨us, rfl, hul, hur, fun _ _ => rfl, by rw [hge a (le_refl _)]; simp⟩ a ?_
      (fun r => ∃ s', r = some s' ∧ ∃ us : List Nat, s' = mrow p us ∧ us.length = 8 ∧ (∀ x ∈ us, x < p) ∧
      (∀ a', a + 1 ≤ a' → us.getD a' 0 = xs.getD a' 0) ∧ ∀ a', a' < a + 1 → VsEqn p e σ i xs us a') ?_
    · rintro b vs' hb ⟨us', rfl, hul', hur', hne, hsum⟩
      rw [mrow_getElem? p us' a (by omega), mrow_getElem? p us' b (by omega), idxs_get σ i a ha (by omega),
        C.basis_get (i + b) (by omega)]
      simp only []
      have hcol : colOf σ (i + a) < n := by
        rw [colOf_eq σ (i + a) (by omega)]; exact (σ ⟨i + a, by omega⟩).2
      rw [C.row_get (i + b) _ (by omega) hcol]
      simp only []
      rw [C.subMulC_eq]
      simp only [Option.map_some]
      rw [mrow_set]
      refine ⟨_, rfl, _, rfl, by simp [hul'], mem_set_lt hur' (Nat.mod_lt _ hp), ?_, ?_⟩
      · intro a' ha'
        rw [getD_set_ne _ _ _ _ _ (Ne.symm ha')]; exact hne a' ha'
      · rw [getD_set_eq _ _ _ _ (by omega), cast_subMul _ _ _ _ hp, Finset.sum_range_succ]
        have e1 : us'[a]'(by omega) = us'.getD a 0 := (List.getD_eq_getElem _ _ _).symm
        have e2 : us'[b]'(by omega) = us.getD b 0 := by
          rw [← hne b (by omega)]; exact (List.getD_eq_getElem _ _ _).symm
        rw [e1, e2, hsum]
        ring
    · rintro vs' ⟨us', rfl, hul', hur', hne, hsum⟩
      refine ⟨_, rfl, us', rfl, hul', hur', ?_, ?_⟩
      · intro a' ha'
        rw [hne a' (by omega)]; exact hge a' (by omega)
      · intro a' ha'
        unfold VsEqn
        by_cases hEq : a' = a
        · subst hEq
          rw [hsum]
          congr 1
          apply Finset.sum_congr rfl
          intro b hb
          rw [hne b (by have := Finset.mem_range.mp hb; omega)]
        · have := hlt a' (by omega)
          unfold VsEqn at this
          rw [hne a' hEq, this]
          congr 1
          apply Finset.sum_congr rfl
          intro b hb
          rw [hne b (by have := Finset.mem_range.mp hb; omega)]
  · rintro vs ⟨us, rfl, hul, hur, hge, hlt⟩
    exact ⟨us, hul, hur, rfl, hlt⟩

end Ymq.IntMat
