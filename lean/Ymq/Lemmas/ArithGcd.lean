/-
`inv_mod64` (Props/C08 `inv_mod64_spec`; also under `mg_inv` in C07): the `i128` extended Euclid of `num_integer` never
overflows on `u64` operands. A pair of Bézout coefficients keeps alternating signs and `|c1|·a0 + |c0|·a1` constant (`CI`),
so each coefficient and each product `q·c0` is bounded by the other operand; `EInv` adds the Bézout equations and the gcd.
-/
import Ymq.Lemmas.Arith
import Mathlib.Data.Int.GCD
import Mathlib.Data.Nat.GCD.Basic
import Mathlib.Tactic.LinearCombination

namespace Ymq.Arith

/-- 2^64, the bound of every operand -/
def M64 : Int := 18446744073709551616

theorem chk128_of_bound {x : Int} (h1 : -M64 ≤ x) (h2 : x ≤ M64) : chk128 x = some x := by
  unfold chk128 I128MIN I128MAX
  unfold M64 at h1 h2
  rw [if_pos (by constructor <;> omega)]

/-- invariant of one Bézout coefficient pair `(c0, c1)` against remainders `(a0, a1)`:
alternating signs and `|c1|·a0 + |c0|·a1 = m`. -/
def CI (c0 c1 : Int) (a0 a1 m : Nat) : Prop :=
  ∃ ε : Int, (ε = 1 ∨ ε = -1) ∧ 0 ≤ ε * c1 ∧ ε * c0 ≤ 0 ∧ ε * (c1 * a0 - c0 * a1) = m

/-- One Euclid step on the absolute values `d0 = |c0|`, `d1 = |c1|`: from
`d1·a0 + d0·(a0·q + r) = m` the new coefficient `d1 + q·d0` satisfies
`(d1 + q·d0)·a0 + d0·r = m`, hence is at most `m` when `a0 ≥ 1`. -/
theorem ci_core {d0 d1 q r A0 mm : Int} (h0 : 0 ≤ d0) (h1 : 0 ≤ d1) (hq : 0 ≤ q) (hr : 0 ≤ r)
    (ha : 1 ≤ A0) (hm : d1 * A0 + d0 * (A0 * q + r) = mm) : 0 ≤ q * d0 ∧ d1 + q * d0 ≤ mm := by
  have hqd : 0 ≤ q * d0 := mul_nonneg hq h0
  refine ⟨hqd, ?_⟩
  calc d1 + q * d0 ≤ (d1 + q * d0) * A0 := le_mul_of_one_le_right (add_nonneg h1 hqd) ha
    _ ≤ (d1 + q * d0) * A0 + d0 * r := le_add_of_nonneg_right (mul_nonneg h0 hr)
    _ = mm := by rw [← hm]; ring

theorem CI.step {c0 c1 : Int} {a0 a1 m : Nat} (h : CI c0 c1 a0 a1 m) (ha0 : 1 ≤ a0) :
    CI (c1 - ((a1 / a0 : Nat) : Int) * c0) c0 (a1 % a0) a0 m ∧
    -(m : Int) ≤ ((a1 / a0 : Nat) : Int) * c0 ∧ ((a1 / a0 : Nat) : Int) * c0 ≤ m ∧
    -(m : Int) ≤ c1 - ((a1 / a0 : Nat) : Int) * c0 ∧ c1 - ((a1 / a0 : Nat) : Int) * c0 ≤ m := by
  obtain ⟨ε, hε, h1, h0, hm⟩ := h
  unfold CI
  have hdm : (a1 : Int) = (a0 : Int) * ((a1 / a0 : Nat) : Int) + ((a1 % a0 : Nat) : Int) := by
    exact_mod_cast (Nat.div_add_mod a1 a0).symm
  have hq : (0 : Int) ≤ ((a1 / a0 : Nat) : Int) := Int.natCast_nonneg _
  have hr : (0 : Int) ≤ ((a1 % a0 : Nat) : Int) := Int.natCast_nonneg _
  have ha : (1 : Int) ≤ (a0 : Int) := by exact_mod_cast ha0
  generalize ((a1 / a0 : Nat) : Int) = q at *
  generalize ((a1 % a0 : Nat) : Int) = r at *
  generalize (a0 : Int) = A0 at *
  generalize (a1 : Int) = A1 at *
  generalize (m : Int) = mm at *
  subst hdm
  rcases hε with rfl | rfl
  · obtain ⟨k1, k2⟩ := ci_core (d0 := -c0) (d1 := c1) (mm := mm) (by omega) (by omega) hq hr ha
      (by rw [← hm]; ring)
    rw [mul_neg] at k1 k2
    exact ⟨⟨-1, Or.inr rfl, by omega, by omega, by rw [← hm]; ring⟩, by omega, by omega, by omega,
      by omega⟩
  · obtain ⟨k1, k2⟩ := ci_core (d0 := c0) (d1 := -c1) (mm := mm) (by omega) (by omega) hq hr ha
      (by rw [← hm]; ring)
    exact ⟨⟨1, Or.inl rfl, by omega, by omega, by rw [← hm]; ring⟩, by omega, by omega, by omega,
      by omega⟩

theorem CI.bound1 {c0 c1 : Int} {a0 a1 m : Nat} (h : CI c0 c1 a0 a1 m) (ha0 : 1 ≤ a0) :
    -(m : Int) ≤ c1 ∧ c1 ≤ m := by
  obtain ⟨ε, hε, h1, h0, hm⟩ := h
  have ha : (1 : Int) ≤ (a0 : Int) := by exact_mod_cast ha0
  have ha1 : (0 : Int) ≤ (a1 : Int) := Int.natCast_nonneg _
  generalize (a0 : Int) = A0 at *
  generalize (a1 : Int) = A1 at *
  generalize (m : Int) = mm at *
  rcases hε with rfl | rfl
  · have := (ci_core (d0 := -c0) (d1 := c1) (mm := mm) (q := 0) (by omega) (by omega) le_rfl ha1 ha
      (by rw [← hm]; ring)).2
    omega
  · have := (ci_core (d0 := c0) (d1 := -c1) (mm := mm) (q := 0) (by omega) (by omega) le_rfl ha1 ha
      (by rw [← hm]; ring)).2
    omega

/-- invariant of `egcdLoop` on the operands `n`, `p`: the Bézout equations of both remainders (`e0`, `e1`), their gcd (`g`),
the column invariants of the `s` and `t` coefficients (`cs`, `ct`: bounded by `p` resp. `n`), and the bounds under which every
checked `i128` operation of the next turn stays in range -/
structure EInv (n p : Nat) (s0 s1 t0 t1 : Int) (a0 a1 : Nat) : Prop where
  e0 : (a0 : Int) = s0 * n + t0 * p
  e1 : (a1 : Int) = s1 * n + t1 * p
  g : Nat.gcd a0 a1 = Nat.gcd n p
  cs : CI s0 s1 a0 a1 p
  ct : CI t0 t1 a0 a1 n
  b0 : a0 < 2 ^ 64
  b1 : a1 < 2 ^ 64
  bs0 : -(p : Int) ≤ s0 ∧ s0 ≤ p
  bs1 : -(p : Int) ≤ s1 ∧ s1 ≤ p

theorem subMul_eq {a q b : Int} {m : Nat} (hm : (m : Int) < M64) (h1 : -(m : Int) ≤ q * b)
    (h2 : q * b ≤ m) (h3 : -(m : Int) ≤ a - q * b) (h4 : a - q * b ≤ m) :
    subMul a q b = some (a - q * b) := by
  unfold subMul
  rw [chk128_of_bound (by omega) (by omega)]
  simp only []
  exact chk128_of_bound (by omega) (by omega)

theorem egcdLoop_spec (n p : Nat) (hn : n < 2 ^ 64) (hp : p < 2 ^ 64) :
    ∀ (f : Nat) (s0 s1 t0 t1 : Int) (a0 a1 : Nat), EInv n p s0 s1 t0 t1 a0 a1 → a0 + 1 ≤ f →
    ∃ x y : Int, egcdLoop f s0 s1 t0 t1 a0 a1 = some (((Nat.gcd n p : Nat) : Int), x, y) ∧
      ((Nat.gcd n p : Nat) : Int) = x * n + y * p ∧ -(p : Int) ≤ x ∧ x ≤ p := by
  have hnM : (n : Int) < M64 := by unfold M64; exact_mod_cast hn
  have hpM : (p : Int) < M64 := by unfold M64; exact_mod_cast hp
  intro f
  induction f with
  | zero => intro s0 s1 t0 t1 a0 a1 _ hf; omega
  | succ f ih =>
    intro s0 s1 t0 t1 a0 a1 h hf
    unfold egcdLoop
    by_cases h0 : a0 = 0
    · subst h0
      rw [if_pos (by simp)]
      have hg := h.g
      rw [Nat.gcd_zero_left] at hg
      refine ⟨s1, t1, by rw [hg], by rw [← hg]; exact h.e1, h.bs1.1, h.bs1.2⟩
    · rw [if_neg (by exact_mod_cast h0)]
      have ha0 : 1 ≤ a0 := by omega
      rw [if_neg (by
        rintro ⟨_, h2⟩
        have : (0 : Int) ≤ (a0 : Int) := Int.natCast_nonneg _
        omega)]
      simp only []
      rw [Int.natCast_tdiv_eq_ediv, ← Int.natCast_ediv]
      obtain ⟨cs', s1a, s1b, s2a, s2b⟩ := h.cs.step ha0
      obtain ⟨ct', t1a, t1b, t2a, t2b⟩ := h.ct.step ha0
      have hrem : (a1 : Int) - ((a1 / a0 : Nat) : Int) * (a0 : Int) = ((a1 % a0 : Nat) : Int) := by
        rw [Int.natCast_mod, Int.natCast_div, Int.emod_def, Int.mul_comm]
      have hmodle : a1 % a0 ≤ a1 := Nat.mod_le _ _
      have ha1M : (a1 : Int) < M64 := by unfold M64; exact_mod_cast h.b1
      have hq : (0 : Int) ≤ ((a1 / a0 : Nat) : Int) * (a0 : Int) :=
        mul_nonneg (Int.natCast_nonneg _) (Int.natCast_nonneg _)
      rw [subMul_eq ha1M (by omega) (by omega) (by omega) (by omega),
        subMul_eq hpM s1a s1b s2a s2b, subMul_eq hnM t1a t1b t2a t2b]
      simp only []
      rw [hrem]
      apply ih
      · exact
          { e0 := by rw [← hrem, h.e1, h.e0]; ring
            e1 := h.e0
            g := by rw [← h.g]; exact (Nat.gcd_rec a0 a1).symm
            cs := cs', ct := ct'
            b0 := (Nat.mod_lt _ ha0).trans h.b0
            b1 := h.b0
            bs0 := ⟨s2a, s2b⟩
            bs1 := h.bs0 }
      · have := Nat.mod_lt a1 ha0; omega

theorem extendedGcd_spec (n p : Nat) (hn : n < 2 ^ 64) (hp : p < 2 ^ 64) (hp0 : 0 < p) :
    ∃ x y : Int, extendedGcd (n : Int) (p : Int) = some (((Nat.gcd n p : Nat) : Int), x, y) ∧
      ((Nat.gcd n p : Nat) : Int) = x * n + y * p ∧ -(p : Int) ≤ x ∧ x ≤ p := by
  have hinit : EInv n p 0 1 1 0 p n := by
    constructor
    · ring
    · ring
    · exact Nat.gcd_comm _ _
    · exact ⟨1, Or.inl rfl, by norm_num, by norm_num, by ring⟩
    · exact ⟨-1, Or.inr rfl, by norm_num, by norm_num, by ring⟩
    · exact hp
    · exact hn
    · constructor <;> omega
    · constructor <;> omega
  obtain ⟨x, y, h1, h2, h3, h4⟩ := egcdLoop_spec n p hn hp (p + 2) 0 1 1 0 p n hinit (by omega)
  refine ⟨x, y, ?_, h2, h3, h4⟩
  unfold extendedGcd
  rw [Int.natAbs_natCast, h1]
  simp only []
  rw [if_pos (Int.natCast_nonneg _)]

theorem invMod64_spec (n p : Nat) (hn : n < 2 ^ 64) (hp : p < 2 ^ 64) (hp0 : 0 < p) :
    (Nat.gcd n p = 1 → ∃ r, invMod64 n p = some (some r) ∧ r < p ∧ n * r % p = 1 % p) ∧
    (Nat.gcd n p ≠ 1 → invMod64 n p = some none) := by
  obtain ⟨x, y, h1, h2, h3, h4⟩ := extendedGcd_spec n p hn hp hp0
  constructor
  · intro hg
    unfold invMod64
    rw [h1]
    simp only []
    rw [hg] at h2 ⊢
    rw [if_pos Nat.cast_one]
    have hpM : (p : Int) < M64 := by unfold M64; exact_mod_cast hp
    obtain ⟨x', hx', hx0, hxp, k, hk⟩ : ∃ x' : Int,
        (if x < 0 then chk128 (x + (p : Int)) else some x) = some x' ∧ 0 ≤ x' ∧ x' ≤ p ∧
        ∃ k : Int, x' = x + k * p := by
      by_cases hneg : x < 0
      · rw [if_pos hneg, chk128_of_bound (by omega) (by omega)]
        exact ⟨_, rfl, by omega, by omega, 1, by ring⟩
      · rw [if_neg hneg]
        exact ⟨_, rfl, by omega, h4, 0, by ring⟩
    rw [hx']
    simp only []
    rw [if_neg (by omega), if_neg (by omega)]
    have hlt : x'.toNat % p < p := Nat.mod_lt _ hp0
    have htn : x'.toNat < 2 ^ 128 := by
      unfold M64 at hpM
      omega
    have hres : x'.toNat % 2 ^ 128 % p % 2 ^ 64 = x'.toNat % p := by
      rw [Nat.mod_eq_of_lt htn, Nat.mod_eq_of_lt (by omega : x'.toNat % p < 2 ^ 64)]
    rw [hres]
    refine ⟨_, rfl, hlt, ?_⟩
    -- n * r ≡ 1 (mod p), computed in Int
    have hcast : (((n * (x'.toNat % p) % p : Nat)) : Int) = ((1 % p : Nat) : Int) := by
      push_cast
      rw [Int.toNat_of_nonneg hx0, Int.mul_emod, Int.emod_emod_of_dvd _ (dvd_refl _), ← Int.mul_emod]
      have : (n : Int) * x' = 1 + (p : Int) * (n * k - y) := by
        rw [hk]
        have : (1 : Int) = x * n + y * p := by exact_mod_cast h2
        linear_combination (-1 : Int) * this
      rw [this, Int.add_mul_emod_self_left]
    exact_mod_cast hcast
  · intro hg
    unfold invMod64
    rw [h1]
    simp only []
    rw [if_neg (by exact_mod_cast hg)]

end Ymq.Arith
