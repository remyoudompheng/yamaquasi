/-
Lemmas for the CRT reconstruction of src/matrix/intdense.rs (`crt`) and src/matrix/intsparse.rs
(`_crt`): model in Ymq/Model/IntMat.lean.
-/
import Ymq.Model.IntMat
import Ymq.Lemmas.Loops
import Mathlib.Data.Nat.ModEq
import Mathlib.Data.Int.ModEq
import Mathlib.Data.Nat.GCD.BigOperators
import Mathlib.Algebra.BigOperators.Group.List.Basic
import Mathlib.Algebra.BigOperators.Ring.List
import Mathlib.Algebra.Order.BigOperators.Group.List
import Mathlib.Algebra.Order.BigOperators.GroupWithZero.List
import Mathlib.Algebra.Ring.Divisibility.Basic
import Mathlib.Tactic.Ring
import Mathlib.Tactic.Linarith

namespace Ymq.IntMat

/-- 2^64 -/
def U64 : Nat := 18446744073709551616

/-- Specification of `arith::inv_mod64` used by the CRT theorems (property C08): for `u64` arguments, a modulus
`p > 1` and `a` coprime to `p` the routine returns `Some(i)` with `i < p` and `a·i ≡ 1 (mod p)`. -/
def InvSpec (inv : Inv) : Prop :=
  ∀ a p : Nat, a < U64 → p < U64 → 1 < p → Nat.Coprime a p →
    ∃ i, inv a p = some (some i) ∧ i < p ∧ a * i % p = 1

theorem prodSkip_pos (i : Nat) : ∀ (ps : List Nat) (j : Nat), (∀ p ∈ ps, 1 ≤ p) → 1 ≤ prodSkip i ps j
  | [], _, _ => by simp [prodSkip]
  | p :: ps, j, h => by
    have hp : 1 ≤ p := h p (by simp)
    have ih := prodSkip_pos i ps (j + 1) (fun q hq => h q (by simp [hq]))
    unfold prodSkip
    split
    · exact ih
    · exact Nat.mul_pos hp ih

theorem prodSkip_out (i : Nat) : ∀ (ps : List Nat) (j : Nat), (i < j ∨ j + ps.length ≤ i) →
    prodSkip i ps j = ps.prod
  | [], _, _ => by simp [prodSkip]
  | p :: ps, j, h => by
    have hlen : (p :: ps).length = ps.length + 1 := by simp
    rw [hlen] at h
    have hij : i ≠ j := by omega
    have h' : i < j + 1 ∨ j + 1 + ps.length ≤ i := by omega
    unfold prodSkip
    rw [if_neg hij, prodSkip_out i ps (j + 1) h', List.prod_cons]

theorem prodSkip_eraseIdx (i : Nat) : ∀ (ps : List Nat) (j : Nat), j ≤ i →
    prodSkip i ps j = (ps.eraseIdx (i - j)).prod
  | [], _, _ => by simp [prodSkip]
  | p :: ps, j, h => by
    unfold prodSkip
    by_cases hij : i = j
    · subst hij
      rw [if_pos rfl, prodSkip_out i ps (i + 1) (Or.inl (Nat.lt_succ_self i)), Nat.sub_self,
        List.eraseIdx_cons_zero]
    · rw [if_neg hij, prodSkip_eraseIdx i ps (j + 1) (by omega), show i - j = (i - (j + 1)) + 1 by omega,
        List.eraseIdx_cons_succ, List.prod_cons]

theorem dvd_prodSkip (i : Nat) (ps : List Nat) (k : Nat) (hk : k < ps.length) (hne : k ≠ i) :
    ps[k] ∣ prodSkip i ps 0 := by
  rw [prodSkip_eraseIdx i ps 0 (Nat.zero_le _)]
  exact List.dvd_prod (List.mem_eraseIdx_iff_getElem.mpr ⟨k, hk, hne, rfl⟩)

theorem I4096LIM_ge : (2 : Int) ^ 256 ≤ I4096LIM := by
  unfold I4096LIM
  exact pow_le_pow_right₀ (by norm_num) (by norm_num)

theorem fit4096_of_lt {x : Int} (h0 : 0 ≤ x) (h : x < I4096LIM) : fit4096 x = some x := by
  unfold fit4096
  have : -I4096LIM ≤ x := by
    have : (0 : Int) ≤ I4096LIM := by unfold I4096LIM; positivity
    linarith
  simp [this, h]

/-- the inner loop of `crt`: value of the product, and the running inverse stays an inverse -/
theorem crtBasisLoop_spec (inv : Inv) (hinv : InvSpec inv) (i pi : Nat) (hpi : 1 < pi) (hpiU : pi < U64) :
    ∀ (ps : List Nat) (j : Nat) (b : Int) (a : Nat), 0 ≤ b → (∀ p ∈ ps, 1 ≤ p ∧ p < U64) →
      b * (prodSkip i ps j : Int) < I4096LIM →
      (∀ t (ht : t < ps.length), j + t ≠ i → Nat.Coprime ps[t] pi) → a < pi →
      ∃ a', crtBasisLoop inv i pi ps j b a = some (b * (prodSkip i ps j : Int), a') ∧ a' < pi ∧
        a' * prodSkip i ps j % pi = a % pi
  | [], j, b, a, _, _, _, _, ha => by
    refine ⟨a, ?_, ha, ?_⟩ <;> simp [crtBasisLoop, prodSkip]
  | pj :: ps, j, b, a, hb, hpos, hfit, hcop, ha => by
    have hpos' : ∀ p ∈ ps, 1 ≤ p ∧ p < U64 := fun q hq => hpos q (by simp [hq])
    have hpos1 : ∀ p ∈ ps, 1 ≤ p := fun q hq => (hpos' q hq).1
    have hcop' : ∀ t (ht : t < ps.length), (j + 1) + t ≠ i → Nat.Coprime ps[t] pi :=
      fun t ht hne => hcop (t + 1) (Nat.succ_lt_succ ht) (by omega)
    unfold crtBasisLoop
    by_cases hij : i = j
    · rw [if_pos hij]
      have e : prodSkip i (pj :: ps) j = prodSkip i ps (j + 1) := by
        rw [prodSkip, if_pos hij]
      rw [e] at hfit ⊢
      exact crtBasisLoop_spec inv hinv i pi hpi hpiU ps (j + 1) b a hb hpos' hfit hcop' ha
    · rw [if_neg hij]
      have e : prodSkip i (pj :: ps) j = pj * prodSkip i ps (j + 1) := by
        rw [prodSkip, if_neg hij]
      rw [e] at hfit ⊢
      have hpj : 1 ≤ pj := (hpos pj (by simp)).1
      have hpjU : pj < U64 := (hpos pj (by simp)).2
      have hrest : 1 ≤ prodSkip i ps (j + 1) := prodSkip_pos i ps (j + 1) hpos1
      have hb' : (0 : Int) ≤ b * pj := mul_nonneg hb (Int.natCast_nonneg _)
      rw [Nat.cast_mul, ← mul_assoc] at hfit
      have hfit1 : b * (pj : Int) < I4096LIM :=
        lt_of_le_of_lt (le_mul_of_one_le_right hb' (by exact_mod_cast hrest)) hfit
      rw [fit4096_of_lt hb' hfit1]
      have hc : Nat.Coprime pj pi := hcop 0 (Nat.succ_pos _) (by omega)
      obtain ⟨ij, hij1, hij2, hij3⟩ := hinv pj pi hpjU hpiU hpi hc
      simp only [hij1]
      have hpi0 : pi ≠ 0 := by omega
      rw [if_neg hpi0]
      have ha' : a * ij % pi < pi := Nat.mod_lt _ (by omega)
      obtain ⟨a', h1, h2, h3⟩ := crtBasisLoop_spec inv hinv i pi hpi hpiU ps (j + 1) (b * pj) (a * ij % pi)
        hb' hpos' hfit hcop' ha'
      refine ⟨a', ?_, h2, ?_⟩
      · rw [h1]; congr 1; push_cast; ring_nf
      · -- a' * (pj * rest) ≡ pj * (a * ij) ≡ a
        have e1 : a' * (pj * prodSkip i ps (j + 1)) = pj * (a' * prodSkip i ps (j + 1)) := by ring
        rw [e1, Nat.mul_mod, h3, Nat.mod_mod, ← Nat.mul_mod]
        have e2 : pj * (a * ij) = a * (pj * ij) := by ring
        rw [e2, Nat.mul_mod, hij3, Nat.mul_one, Nat.mod_mod]

theorem mapOpt_eq_mapM {α β} (f : α → Option β) : ∀ l : List α, mapOpt f l = l.mapM f
  | [] => by simp [mapOpt]
  | a :: as => by
    rw [List.mapM_cons, mapOpt, mapOpt_eq_mapM f as]
    cases f a with
    | none => rfl
    | some b => cases as.mapM f <;> rfl

theorem mapOpt_eq_some {α β} (f : α → Option β) (g : α → β) (l : List α) (h : ∀ x ∈ l, f x = some (g x)) :
    mapOpt f l = some (l.map g) :=
  (mapOpt_eq_mapM f l).trans (Loops.mapM_eq_map f g l h)

theorem list_prod_pos (ps : List Nat) (h : ∀ p ∈ ps, 1 ≤ p) : 1 ≤ ps.prod :=
  List.prod_pos (fun a ha => h a ha)

theorem crtProd_spec : ∀ (ps : List Nat) (acc : Int), 0 ≤ acc → (∀ p ∈ ps, 1 ≤ p) →
    acc * (ps.prod : Int) < I4096LIM → crtProd ps acc = some (acc * ps.prod)
  | [], acc, _, _, _ => by simp [crtProd]
  | p :: ps, acc, h0, hpos, hfit => by
    have hp : 1 ≤ p := hpos p (by simp)
    have hpos' : ∀ q ∈ ps, 1 ≤ q := fun q hq => hpos q (by simp [hq])
    have hprod : 1 ≤ ps.prod := list_prod_pos ps hpos'
    have e : acc * (((p :: ps).prod : Nat) : Int) = acc * p * ps.prod := by
      rw [List.prod_cons]; push_cast; ring
    rw [e] at hfit
    have h1 : (0 : Int) ≤ acc * p := by positivity
    have h2 : acc * (p : Int) < I4096LIM :=
      lt_of_le_of_lt (le_mul_of_one_le_right h1 (by exact_mod_cast hprod)) hfit
    have ih := crtProd_spec ps (acc * p) h1 hpos' hfit
    simp only [crtProd, fit4096_of_lt h1 h2, ih, e]

/-- 2^64 -/
def W64 : Int := 18446744073709551616

theorem crtSum_spec : ∀ (ms : List Nat) (bs : List Int) (acc B : Int), ms.length = bs.length →
    0 ≤ acc → (∀ m ∈ ms, (m : Int) < W64) → (∀ b ∈ bs, 0 ≤ b ∧ b < B) →
    acc + ms.length * (W64 * B) < I4096LIM → 0 ≤ B →
    crtSum ms bs acc = some (acc + (List.zipWith (fun (m : Nat) (b : Int) => (m : Int) * b) ms bs).sum)
  | [], [], acc, _, _, _, _, _, _, _ => by simp [crtSum]
  | [], _ :: _, _, _, h, _, _, _, _, _ => by simp at h
  | _ :: _, [], _, _, h, _, _, _, _, _ => by simp at h
  | m :: ms, b :: bs, acc, B, hlen, h0, hm, hb, hfit, hB => by
    obtain ⟨hb0, hb1⟩ := hb b (by simp)
    have hW : (0 : Int) ≤ W64 := by decide
    have ht0 : (0 : Int) ≤ m * b := mul_nonneg (Int.natCast_nonneg m) hb0
    have ht1 : (m : Int) * b ≤ W64 * B := mul_le_mul (hm m (by simp)).le hb1.le hb0 hW
    have hnn : (0 : Int) ≤ (ms.length : Int) * (W64 * B) :=
      mul_nonneg (Int.natCast_nonneg _) (mul_nonneg hW hB)
    rw [List.length_cons, Nat.cast_succ, add_mul, one_mul] at hfit
    have ih := crtSum_spec ms bs (acc + m * b) B (by simpa using hlen) (by linarith)
      (fun x hx => hm x (by simp [hx])) (fun x hx => hb x (by simp [hx])) (by linarith) hB
    simp only [crtSum, fit4096_of_lt ht0 (by linarith),
      fit4096_of_lt (show (0 : Int) ≤ acc + m * b by linarith) (by linarith), ih,
      List.zipWith_cons_cons, List.sum_cons, add_assoc]

theorem dvd_sum_sub_getElem (c : Int) : ∀ (ts : List Int) (k : Nat) (hk : k < ts.length),
    (∀ t (ht : t < ts.length), t ≠ k → c ∣ ts[t]) → c ∣ ts.sum - ts[k]
  | [], _, hk, _ => by simp at hk
  | x :: ts, 0, _, h => by
    simp only [List.sum_cons, List.getElem_cons_zero, add_sub_cancel_left]
    apply List.dvd_sum
    intro y hy
    obtain ⟨t, ht, rfl⟩ := List.getElem_of_mem hy
    exact h (t + 1) (Nat.succ_lt_succ ht) (Nat.succ_ne_zero t)
  | x :: ts, k + 1, hk, h => by
    have hk' : k < ts.length := by simp at hk; omega
    have ih := dvd_sum_sub_getElem c ts k hk'
      (fun t ht hne => h (t + 1) (Nat.succ_lt_succ ht) (by omega))
    have hx : c ∣ x := h 0 (Nat.succ_pos _) (by omega)
    simp only [List.sum_cons, List.getElem_cons_succ]
    have : x + ts.sum - ts[k] = x + (ts.sum - ts[k]) := by ring
    rw [this]
    exact dvd_add hx ih

theorem prod_dvd_of_pairwise_coprime : ∀ (ps : List Nat) (x : Int), ps.Pairwise Nat.Coprime →
    (∀ p ∈ ps, (p : Int) ∣ x) → ((ps.prod : Nat) : Int) ∣ x
  | [], x, _, _ => by simp
  | p :: ps, x, hco, h => by
    rw [List.pairwise_cons] at hco
    have ih := prod_dvd_of_pairwise_coprime ps x hco.2 (fun q hq => h q (by simp [hq]))
    have hp := h p (by simp)
    have hc : Nat.Coprime p ps.prod := Nat.coprime_list_prod_right_iff.mpr hco.1
    rw [Int.ofNat_dvd_left] at ih hp ⊢
    rw [List.prod_cons]
    exact Nat.Coprime.mul_dvd_of_dvd_of_dvd hc hp ih

theorem symLift_spec (S P d : Int) (hP : 0 < P) (hS : 0 ≤ S) (hdvd : P ∣ S - d)
    (hd1 : -P < 2 * d) (hd2 : 2 * d ≤ P) : symLift S P = some d := by
  unfold symLift
  rw [if_neg (by omega)]
  obtain ⟨k, hk⟩ := hdvd
  have htm : Int.tmod S P = S % P := Int.tmod_eq_emod_of_nonneg hS
  simp only [htm]
  by_cases hd : 0 ≤ d
  · have e : S % P = d := by
      have : S = d + P * k := by linarith
      rw [this, Int.add_mul_emod_self_left]
      exact Int.emod_eq_of_lt hd (by omega)
    rw [e]
    have : ¬ d > P / 2 := by omega
    simp [this]
  · have e : S % P = d + P := by
      have : S = (d + P) + P * (k - 1) := by ring_nf; linarith
      rw [this, Int.add_mul_emod_self_left]
      exact Int.emod_eq_of_lt (by omega) (by omega)
    rw [e]
    have : d + P > P / 2 := by omega
    simp [this]

/-- the end of both `crt`s: terms `t_k ≥ 0` with `t_k ≡ d (mod p_k)` and `t_k ≡ 0` modulo the other
moduli sum to a representative of `d` modulo the product, which the symmetric lift brings back to `d` -/
theorem symLift_sum (ps : List Nat) (hpos : ∀ p ∈ ps, 1 ≤ p) (hco : ps.Pairwise Nat.Coprime) (ts : List Int)
    (d : Int) (hlen : ts.length = ps.length) (h0 : ∀ t ∈ ts, 0 ≤ t)
    (hk : ∀ k (h1 : k < ps.length) (h2 : k < ts.length), ((ps[k] : Nat) : Int) ∣ ts[k] - d)
    (hne : ∀ k t (h1 : k < ps.length) (h2 : t < ts.length), t ≠ k → ((ps[k] : Nat) : Int) ∣ ts[t])
    (hd1 : -((ps.prod : Nat) : Int) < 2 * d) (hd2 : 2 * d ≤ ((ps.prod : Nat) : Int)) :
    symLift ts.sum ((ps.prod : Nat) : Int) = some d := by
  have hP : (0 : Int) < ((ps.prod : Nat) : Int) := by exact_mod_cast list_prod_pos ps hpos
  refine symLift_spec ts.sum _ d hP (List.sum_nonneg h0) ?_ hd1 hd2
  apply prod_dvd_of_pairwise_coprime ps _ hco
  intro p hpm
  obtain ⟨k, hk1, rfl⟩ := List.getElem_of_mem hpm
  have hk2 : k < ts.length := by omega
  rw [show ts.sum - d = (ts.sum - ts[k]) + (ts[k] - d) by ring]
  exact dvd_add (dvd_sum_sub_getElem _ ts k hk2 (fun t ht hne' => hne k t hk1 ht hne')) (hk k hk1 hk2)

theorem coprime_of_pairwise (ps : List Nat) (hco : ps.Pairwise Nat.Coprime) (s t : Nat)
    (hs : s < ps.length) (ht : t < ps.length) (hne : s ≠ t) : Nat.Coprime ps[s] ps[t] := by
  rw [List.pairwise_iff_getElem] at hco
  rcases Nat.lt_or_gt_of_ne hne with h | h
  · exact hco s t hs ht h
  · exact (hco t s ht hs h).symm

/-- `crt_basis[i]` is `≡ 1` modulo `p_i`, `≡ 0` modulo the other moduli, and below their product -/
theorem crtBasis_spec (inv : Inv) (hinv : InvSpec inv) (ps : List Nat) (hp : ∀ p ∈ ps, 1 < p)
    (hU : ∀ p ∈ ps, p < U64) (hco : ps.Pairwise Nat.Coprime) (hfit : ((ps.prod : Nat) : Int) < I4096LIM) (i : Nat) (hi : i < ps.length) :
    ∃ v, crtBasis inv ps i = some v ∧ 0 ≤ v ∧ v < ((ps.prod : Nat) : Int) ∧
      ((ps[i] : Nat) : Int) ∣ v - 1 ∧
      ∀ k (hk : k < ps.length), k ≠ i → ((ps[k] : Nat) : Int) ∣ v := by
  have hpi : 1 < ps[i] := hp _ (List.getElem_mem hi)
  have hpos : ∀ p ∈ ps, 1 ≤ p := fun p h => Nat.le_of_lt (hp p h)
  have hmul : prodSkip i ps 0 * ps[i] = ps.prod := by
    rw [prodSkip_eraseIdx i ps 0 (Nat.zero_le _), mul_comm]
    exact List.CommMonoid.mul_prod_eraseIdx hi
  have hskip_le : prodSkip i ps 0 ≤ ps.prod := by
    rw [← hmul]; exact Nat.le_mul_of_pos_right _ (by omega)
  have hfit1 : (1 : Int) * (prodSkip i ps 0 : Int) < I4096LIM := by
    have : ((prodSkip i ps 0 : Nat) : Int) ≤ ((ps.prod : Nat) : Int) := by exact_mod_cast hskip_le
    linarith
  have hcop : ∀ t (ht : t < ps.length), 0 + t ≠ i → Nat.Coprime ps[t] ps[i] := by
    intro t ht hne
    exact coprime_of_pairwise ps hco t i ht hi (by omega)
  obtain ⟨a', h1, h2, h3⟩ := crtBasisLoop_spec inv hinv i ps[i] hpi (hU _ (List.getElem_mem hi)) ps 0 1 1 (by norm_num)
    (fun p hpm => ⟨hpos p hpm, hU p hpm⟩) hfit1 hcop hpi
  have h3' : a' * prodSkip i ps 0 % ps[i] = 1 := by
    rw [h3]; exact Nat.mod_eq_of_lt hpi
  have hvlt : a' * prodSkip i ps 0 < ps.prod := by
    rw [← hmul, Nat.mul_comm]
    exact Nat.mul_lt_mul_of_pos_left h2 (prodSkip_pos i ps 0 hpos)
  refine ⟨((a' * prodSkip i ps 0 : Nat) : Int), ?_, Int.natCast_nonneg _, by exact_mod_cast hvlt, ?_, ?_⟩
  · unfold crtBasis
    rw [List.getElem?_eq_getElem hi]
    simp only [h1]
    have e : (1 : Int) * (prodSkip i ps 0 : Int) * (a' : Int) = ((a' * prodSkip i ps 0 : Nat) : Int) := by
      push_cast; ring
    rw [e]
    apply fit4096_of_lt (Int.natCast_nonneg _)
    have : ((a' * prodSkip i ps 0 : Nat) : Int) < ((ps.prod : Nat) : Int) := by exact_mod_cast hvlt
    linarith
  · exact Int.dvd_self_sub_of_emod_eq (by rw [← Int.natCast_mod, h3']; rfl)
  · intro k hk hne
    have := dvd_prodSkip i ps k hk hne
    have : ps[k] ∣ a' * prodSkip i ps 0 := Dvd.dvd.mul_left this a'
    exact_mod_cast this

/-- the term of index `i` in the sum of `_crt` (intsparse.rs) -/
theorem crtSparseTerm_spec (inv : Inv) (hinv : InvSpec inv) (modp ps : List Nat) (hlen : modp.length = ps.length)
    (hp : ∀ p ∈ ps, 1 < p) (hU : ∀ p ∈ ps, p < U64) (hco : ps.Pairwise Nat.Coprime) (i : Nat) (hi : i < ps.length) :
    ∃ v, crtSparseTerm inv modp ps i = some v ∧ 0 ≤ v ∧
      ((ps[i] : Nat) : Int) ∣ v - ((modp[i]'(by omega) : Nat) : Int) ∧
      ∀ k (hk : k < ps.length), k ≠ i → ((ps[k] : Nat) : Int) ∣ v := by
  have hi' : i < modp.length := by omega
  have hpi : 1 < ps[i] := hp _ (List.getElem_mem hi)
  have hcb : Nat.Coprime (prodSkip i ps 0 % ps[i]) ps[i] := by
    have hc0 : Nat.Coprime (prodSkip i ps 0) ps[i] := by
      rw [prodSkip_eraseIdx i ps 0 (Nat.zero_le _), Nat.coprime_list_prod_left_iff]
      intro x hx
      obtain ⟨t, ht, hne, rfl⟩ := List.mem_eraseIdx_iff_getElem.mp hx
      exact coprime_of_pairwise ps hco t i ht hi hne
    show Nat.gcd (prodSkip i ps 0 % ps[i]) ps[i] = 1
    rw [← Nat.gcd_rec]
    exact Nat.Coprime.symm hc0
  have hpiU : ps[i] < U64 := hU _ (List.getElem_mem hi)
  obtain ⟨iv, hiv1, hiv2, hiv3⟩ := hinv _ _ (lt_trans (Nat.mod_lt _ (by omega)) hpiU) hpiU hpi hcb
  refine ⟨((modp[i] * iv % ps[i] * prodSkip i ps 0 : Nat) : Int), ?_, Int.natCast_nonneg _, ?_, ?_⟩
  · unfold crtSparseTerm
    rw [List.getElem?_eq_getElem hi', List.getElem?_eq_getElem hi]
    simp only [hiv1]
    rw [if_neg (by omega)]
  · -- (m * iv % p) * B ≡ m * (iv * B) ≡ m  (mod p)
    have hB : iv * prodSkip i ps 0 % ps[i] = 1 := by
      rw [Nat.mul_comm, ← Nat.mod_mul_mod, hiv3]
    have key : (modp[i] * iv % ps[i] * prodSkip i ps 0) % ps[i] = modp[i] % ps[i] := by
      rw [Nat.mul_mod, Nat.mod_mod, ← Nat.mul_mod, Nat.mul_assoc, Nat.mul_mod, hB, Nat.mul_one, Nat.mod_mod]
    have : (modp[i] * iv % ps[i] * prodSkip i ps 0) ≡ modp[i] [MOD ps[i]] := key
    have := (Nat.modEq_iff_dvd.mp this.symm)
    simpa using this
  · intro k hk hne
    have := dvd_prodSkip i ps k hk hne
    have : ps[k] ∣ modp[i] * iv % ps[i] * prodSkip i ps 0 := Dvd.dvd.mul_left this _
    exact_mod_cast this

end Ymq.IntMat
