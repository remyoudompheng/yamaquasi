/-
C14 "small", helper lemmas (Mathlib): blocks of the model as matrices over `ZMod 2` (`sparseMat`, `cellMat`),
the block product `&Block * &Block` as `xᵗ·y`, the bit sums of `B·y`, and the 64-bit bounds of the words of `B·y`.
-/
import Ymq.Lemmas.Gf2Rank
import Ymq.Lemmas.Gf2Sparse
import Ymq.Lemmas.Gf2SmallRank
import Ymq.Model.Gf2Genblock

namespace Ymq.Gf2Small
open Ymq.Gf2 Ymq.Gf2Genblock
open scoped Matrix

theorem toZ_xsum_map {α} (l : List α) (f : α → Bool) :
    toZ (xsum (l.map f)) = ∑ r : Fin l.length, toZ (f l[r.1]) := by
  rw [Fin.sum_univ_fun_getElem l (fun a => toZ (f a))]
  induction l with
  | nil => simp
  | cons a l ih => simp only [List.map_cons, xsum_cons, toZ_xor, ih, List.sum_cons]

theorem zip_self (l : List Nat) : List.zip l l = l.map (fun w => (w, w)) := by
  induction l with
  | nil => rfl
  | cons a l ih => simp [ih]

/-- the dense matrix of a sparse matrix given by its columns -/
def sparseMat (k : Nat) (cols : List (List Nat)) : Matrix (Fin k) (Fin cols.length) (ZMod 2) :=
  fun i j => toZ (colParity cols[j.1] i.1)

/-- the words of an array as a matrix with 64 columns -/
def cellMat (rhs : Array Nat) (n : Nat) : Matrix (Fin n) (Fin 64) (ZMod 2) :=
  fun j t => toZ ((cell rhs j.1).testBit t.1)

theorem vec_eq_toZ (n w : Nat) (j : Fin n) : vec n w j = toZ (w.testBit j) := rfl

theorem cell_toArray (l : List Nat) (i : Nat) : cell l.toArray i = l.getD i 0 := by
  simp [cell, List.getD_eq_getElem?_getD]

theorem cell_getElem (l : List Nat) {i : Nat} (h : i < l.length) : cell l.toArray i = l[i] := by
  rw [cell_toArray, List.getD_eq_getElem?_getD, List.getElem?_eq_getElem h]; rfl

/-- `&Block * &Block`: `xᵗ·y` -/
theorem toMat_blockDot {n : Nat} {x y d : List Nat} (hx : x.length = n) (hy : y.length = n)
    (h : blockDot x y = some d) :
    toMat 64 d = (cellMat x.toArray n)ᵀ * cellMat y.toArray n := by
  unfold blockDot at h
  rw [if_pos (by rw [hx, hy])] at h
  injection h with h
  subst h
  funext i t
  rw [Matrix.mul_apply]
  show vec 64 (row _ i.1) t = _
  rw [vec_eq_toZ, row_map_range 64 _ i.2,
    testBit_foldl_sel (List.zip x y) (fun p => p.1.testBit i.1) (fun p => p.2) 0 t.1]
  simp only [Nat.zero_testBit, Bool.false_xor]
  rw [toZ_xsum_map]
  have hl : (List.zip x y).length = n := by simp [hx, hy]
  have : ∀ (L : Nat) (hL : (List.zip x y).length = L),
      ∑ r : Fin (List.zip x y).length, toZ ((List.zip x y)[r.1].1.testBit i.1 && (List.zip x y)[r.1].2.testBit t.1) =
      ∑ r : Fin L, toZ ((cell x.toArray r.1).testBit i.1) * toZ ((cell y.toArray r.1).testBit t.1) := by
    intro L hL
    subst hL
    apply Finset.sum_congr rfl
    intro r _
    have h1 : r.1 < x.length := by have := r.2; simp at this; omega
    have h2 : r.1 < y.length := by have := r.2; simp at this; omega
    rw [toZ_and, List.getElem_zip, cell_getElem _ h1, cell_getElem _ h2]
  rw [this n hl]
  rfl

theorem toZ_prodBitFrom (rhs : Array Nat) (i t : Nat) (cols : List (List Nat)) (j0 : Nat) :
    toZ (prodBitFrom rhs i t j0 cols) =
      ∑ j : Fin cols.length, toZ (colParity cols[j.1] i) * toZ ((cell rhs (j0 + j.1)).testBit t) := by
  rw [prodBitFrom_eq, toZ_xsum_range]
  apply Finset.sum_congr rfl
  intro j _
  rw [toZ_and, List.getD_eq_getElem?_getD, List.getElem?_eq_getElem j.2]
  rfl

theorem prodBitFrom_high (rhs : Array Nat) (i t : Nat) (cols : List (List Nat))
    (h : ∀ j, (cell rhs j).testBit t = false) (j0 : Nat) : prodBitFrom rhs i t j0 cols = false := by
  rw [prodBitFrom_eq]
  apply xsum_eq_false_of_forall
  intro b hb
  obtain ⟨c, _, rfl⟩ := List.mem_map.mp hb
  rw [h, Bool.and_false]

theorem comb_lt (a : Nat) (B : Mat) (h : ∀ b ∈ B, b < 2 ^ 64) : ∀ k0, comb a B k0 < 2 ^ 64 := by
  induction B with
  | nil => intro k0; simp [comb]
  | cons b B ih =>
    intro k0
    rw [comb]
    apply Nat.xor_lt_two_pow
    · split
      · exact h b (by simp)
      · exact Nat.two_pow_pos 64
    · exact ih (fun b' hb' => h b' (by simp [hb'])) (k0 + 1)

theorem cell_lt_of (l : List Nat) (h : ∀ w ∈ l, w < 2 ^ 64) (i : Nat) : cell l.toArray i < 2 ^ 64 := by
  simp only [cell]
  cases hj : l.toArray[i]? with
  | none => simp
  | some w =>
    simp only [Option.getD_some]
    have := Array.mem_of_getElem? hj
    exact h w (by simpa using this)

theorem optMul_lt (k : Nat) (cols : List (List Nat)) (y r : List Nat)
    (hk : k ≤ U32) (hn : cols.length ≤ U32) (hwf : ∀ col ∈ cols, ∀ a ∈ col, a < k)
    (hy : ∀ w ∈ y, w < 2 ^ 64) (h : optMul (qsOptimize k cols) y = some r) : ∀ w ∈ r, w < 2 ^ 64 := by
  obtain ⟨hyl, hk64⟩ := optMul_some_inv k cols y r h
  obtain ⟨blk, hb, _, hbits⟩ := optMul_spec k cols y hk64 hk hn hyl hwf
  rw [h] at hb; cases hb
  intro w hw
  obtain ⟨i, hi, rfl⟩ := List.getElem_of_mem hw
  apply Nat.lt_pow_two_of_testBit
  intro t ht
  have := hbits i t
  rw [List.getD_eq_getElem?_getD, List.getElem?_eq_getElem hi] at this
  simp only [Option.getD_some] at this
  rw [this, prodBitFrom_high _ _ _ _ (fun j => testBit_of_lt_of_ge (cell_lt_of y hy j) ht) 0, Bool.and_false]

theorem blockDot_lt {x y d : List Nat} (hy : ∀ w ∈ y, w < 2 ^ 64) (h : blockDot x y = some d) :
    d.length = 64 ∧ ∀ r ∈ d, r < 2 ^ 64 := by
  unfold blockDot at h
  split at h
  · cases h
    refine ⟨by simp, fun r hr => ?_⟩
    obtain ⟨i, _, rfl⟩ := List.mem_map.mp hr
    apply Nat.lt_pow_two_of_testBit
    intro t ht
    rw [testBit_foldl_sel (List.zip x y) (fun p => p.1.testBit i) (fun p => p.2) 0 t]
    simp only [Nat.zero_testBit, Bool.false_xor]
    apply xsum_eq_false_of_forall
    intro b hb
    obtain ⟨p, hp, rfl⟩ := List.mem_map.mp hb
    rw [testBit_of_lt_of_ge (hy p.2 (List.of_mem_zip hp).2) ht, Bool.and_false]
  · cases h

theorem row_lt_of_mem {g : Mat} (h : ∀ r ∈ g, r < 2 ^ 64) (i : Nat) : row g i < 2 ^ 64 := by
  simp only [row, List.getD_eq_getElem?_getD]
  cases hg : g[i]? with
  | none => simp
  | some r => simp only [Option.getD_some]; exact h r (List.mem_of_getElem? hg)

end Ymq.Gf2Small
