/-
C13 helper lemmas: what `Sieve::new` and `rehash` leave in the bucket tables, said once for both kinds of tables and
both loops: table `i` of a family is the table the loop started from (fresh, or recycled and reset) after ONE fold of
`add` over the flat list of the adds of the primes of its size class (`Filled`). What the tables then contain — every
hit up to the counted overflows (SieveState), every bucket a sublist of the registered entries (SieveBuckets: `read_filled`) — follows
from the lemmas about a fold of `add`. Also here: `iblAt`, the total reading of `idx_by_log`.
-/
import Ymq.Lemmas.SieveNew
import Ymq.Lemmas.Loops

namespace Ymq.Sieve

/-- offsets `Sieve::new` registers for prime index `pidx` of the second size class (total function). -/
def offsL (fb : FB) (r1 r2 : Array Nat) (interval pidx : Nat) : List Nat :=
  match fb.primes[pidx]?, r1[pidx]?, r2[pidx]? with
  | some p, some o1, some o2 => (largeOffsets interval p o1 o2).getD []
  | _, _, _ => []

/-- offsets registered by `vlargeOffsets` for prime index `pidx` (third class of `new`; both classes of `rehash`). -/
def offsV (fb : FB) (r1 r2 : Array Nat) (interval pidx : Nat) : List Nat :=
  match fb.primes[pidx]?, r1[pidx]?, r2[pidx]? with
  | some p, some o1, some o2 => (vlargeOffsets interval p o1 o2).getD []
  | _, _, _ => []

/-- the loop read the prime and the two roots of index `pidx`, and `g` (`largeOffsets`, `vlargeOffsets`) returned. -/
def Reads (g : Nat → Nat → Nat → Nat → Option (List Nat)) (fb : FB) (r1 r2 : Array Nat) (interval pidx : Nat) : Prop :=
  ∃ p o1 o2 l, fb.primes[pidx]? = some p ∧ r1[pidx]? = some o1 ∧ r2[pidx]? = some o2 ∧ g interval p o1 o2 = some l

section
variable {fb : FB} {r1 r2 : Array Nat} {interval : Nat}

theorem offsL_eq {pidx p o1 o2 : Nat} {l : List Nat} (hp : fb.primes[pidx]? = some p) (h1 : r1[pidx]? = some o1)
    (h2 : r2[pidx]? = some o2) (hl : largeOffsets interval p o1 o2 = some l) : offsL fb r1 r2 interval pidx = l := by
  simp only [offsL, hp, h1, h2, hl, Option.getD_some]

theorem offsV_eq {pidx p o1 o2 : Nat} {l : List Nat} (hp : fb.primes[pidx]? = some p) (h1 : r1[pidx]? = some o1)
    (h2 : r2[pidx]? = some o2) (hl : vlargeOffsets interval p o1 o2 = some l) : offsV fb r1 r2 interval pidx = l := by
  simp only [offsV, hp, h1, h2, hl, Option.getD_some]

theorem newLargeStep_offs {t t' : Table} {pidx : Nat} (h : newLargeStep fb r1 r2 interval t pidx = some t') :
    (offsL fb r1 r2 interval pidx).foldlM (fun (t : Table) off => t.add off (pidx % 2 ^ 32)) t = some t' ∧
      Reads largeOffsets fb r1 r2 interval pidx := by
  unfold newLargeStep at h
  simp only [Option.bind_eq_bind, Option.bind_eq_some_iff] at h
  obtain ⟨o1, h1, o2, h2, p, hp, h⟩ := h
  split at h
  · simp at h
  simp only [Option.pure_def, Option.bind_some, Option.bind_eq_some_iff] at h
  obtain ⟨offsets, ho, hf⟩ := h
  rw [offsL_eq hp h1 h2 ho]
  exact ⟨hf, p, o1, o2, offsets, hp, h1, h2, ho⟩

theorem newVLargeStep_offs {t t' : LTable} {pidx : Nat} (h : newVLargeStep fb r1 r2 interval t pidx = some t') :
    (offsV fb r1 r2 interval pidx).foldlM (fun (t : LTable) off => t.add off pidx) t = some t' ∧
      Reads vlargeOffsets fb r1 r2 interval pidx := by
  unfold newVLargeStep at h
  simp only [Option.bind_eq_bind, Option.bind_eq_some_iff] at h
  obtain ⟨o1, h1, o2, h2, p, hp, h⟩ := h
  split at h
  · simp at h
  simp only [Option.pure_def, Option.bind_some, Option.bind_eq_some_iff] at h
  obtain ⟨offsets, ho, hf⟩ := h
  rw [offsV_eq hp h1 h2 ho]
  exact ⟨hf, p, o1, o2, offsets, hp, h1, h2, ho⟩

theorem rehashTable_offs {t t' : Table} {pidx p : Nat} (hp : fb.primes[pidx]? = some p)
    (h : rehashTable r1 r2 interval p pidx t = some t') :
    (offsV fb r1 r2 interval pidx).foldlM (fun (t : Table) off => t.add off (pidx % 2 ^ 32)) t = some t' ∧
      Reads vlargeOffsets fb r1 r2 interval pidx := by
  unfold rehashTable at h
  simp only [Option.bind_eq_bind, Option.bind_eq_some_iff] at h
  obtain ⟨o1, h1, o2, h2, offsets, ho, hf⟩ := h
  rw [offsV_eq hp h1 h2 ho]
  exact ⟨hf, p, o1, o2, offsets, hp, h1, h2, ho⟩

theorem rehashLTable_offs {t t' : LTable} {pidx p : Nat} (hp : fb.primes[pidx]? = some p)
    (h : rehashLTable r1 r2 interval p pidx t = some t') :
    (offsV fb r1 r2 interval pidx).foldlM (fun (t : LTable) off => t.add off pidx) t = some t' ∧
      Reads vlargeOffsets fb r1 r2 interval pidx := by
  unfold rehashLTable at h
  simp only [Option.bind_eq_bind, Option.bind_eq_some_iff] at h
  obtain ⟨o1, h1, o2, h2, offsets, ho, hf⟩ := h
  rw [offsV_eq hp h1 h2 ho]
  exact ⟨hf, p, o1, o2, offsets, hp, h1, h2, ho⟩

end

theorem foldlM_flatMap_of_step {σ α β : Type} (stepf : σ → α → Option σ) (add : σ → β → Option σ) (G : α → List β)
    (h : ∀ t i t', stepf t i = some t' → (G i).foldlM add t = some t') :
    ∀ (L : List α) (t t' : σ), L.foldlM stepf t = some t' → (L.flatMap G).foldlM add t = some t' :=
  fun L t _ => Loops.foldlM_partial stepf (fun pre s => (pre.flatMap G).foldlM add t = some s) L
    (fun pre a _ s s' _ hs hf => by
      rw [List.flatMap_append, List.foldlM_append, hs, List.flatMap_singleton]; exact h s a s' hf) rfl

/-- the adds made for the primes `idx1 ≤ pidx < idx2`: offsets `O pidx`, prime index as it is passed to `add` (`red`). -/
def classAdds (O : Nat → List Nat) (red : Nat → Nat) (idx1 idx2 : Nat) : List (Nat × Nat) :=
  (List.range' idx1 (idx2 - idx1)).flatMap fun pidx => (O pidx).map fun off => (off, red pidx)

/-- a family of tables (`base` = bit length of the primes of table 0) while a loop over the factor base fills it:
table `i` is `T0[i]` after the adds of the primes of its class with index below `n`, and `Q` holds of these primes.
Both loops visit the primes in increasing order, `new` a size class at a time, `rehash` one by one. -/
def Filled {T : Type} (add : T → Nat × Nat → Option T) (fb : FB) (base : Nat) (O : Nat → List Nat) (red : Nat → Nat)
    (Q : Nat → Prop) (n : Nat) (T0 tabs : Array T) : Prop :=
  tabs.size = T0.size ∧ ∀ (i : Nat) (t : T), tabs[i]? = some t → ∃ t0 idx1 idx2, T0[i]? = some t0 ∧
    fb.ibl[i + base]? = some idx1 ∧ fb.ibl[i + base + 1]? = some idx2 ∧
    (classAdds O red idx1 (min n idx2)).foldlM add t0 = some t ∧ ∀ pidx, idx1 ≤ pidx → pidx < min n idx2 → Q pidx

section Filled
variable {T : Type} {add : T → Nat × Nat → Option T} {fb : FB} {base : Nat} {O : Nat → List Nat} {red : Nat → Nat}
  {Q : Nat → Prop}

theorem classAdds_nil {idx1 idx2 : Nat} (h : idx2 ≤ idx1) : classAdds O red idx1 idx2 = [] := by
  unfold classAdds
  rw [Nat.sub_eq_zero_of_le h]; rfl

theorem classAdds_append {idx1 n n' : Nat} (h1 : idx1 ≤ n) (h2 : n ≤ n') :
    classAdds O red idx1 n' = classAdds O red idx1 n ++ classAdds O red n n' := by
  unfold classAdds
  have e : n' - idx1 = (n - idx1) + (n' - n) := by omega
  have := List.range'_append (s := idx1) (m := n - idx1) (n := n' - n) (step := 1)
  simp only [Nat.one_mul] at this
  rw [e, ← this, List.flatMap_append]
  congr 3; omega

theorem classAdds_one (pidx : Nat) : classAdds O red pidx (pidx + 1) = (O pidx).map fun off => (off, red pidx) := by
  simp [classAdds]

theorem Filled.init (hfb : fb.WF) (T0 : Array T) (hib : ∀ i, i < T0.size → i + base + 1 < 26) {n : Nat}
    (hn : ∀ (l v : Nat), fb.ibl[l]? = some v → n ≤ v) : Filled add fb base O red Q n T0 T0 := by
  refine ⟨rfl, fun i t ht => ?_⟩
  have hi := (Array.getElem?_eq_some_iff.1 ht).1
  obtain ⟨v, hv⟩ := hfb.ibl_some (i + base) (by have := hib i hi; omega)
  obtain ⟨v', hv'⟩ := hfb.ibl_some (i + base + 1) (hib i hi)
  have hle : min n v' ≤ v := le_trans (Nat.min_le_left _ _) (hn _ _ hv)
  exact ⟨t, v, v', ht, hv, hv', by rw [classAdds_nil hle]; rfl, fun pidx h1 h2 => by omega⟩

theorem Filled.done (hfb : fb.WF) {T0 tabs : Array T} (h : Filled add fb base O red Q fb.primes.size T0 tabs)
    {i : Nat} {t : T} (ht : tabs[i]? = some t) :
    ∃ t0 idx1 idx2, T0[i]? = some t0 ∧ fb.ibl[i + base]? = some idx1 ∧ fb.ibl[i + base + 1]? = some idx2 ∧
      (classAdds O red idx1 idx2).foldlM add t0 = some t ∧ ∀ pidx, idx1 ≤ pidx → pidx < idx2 → Q pidx := by
  obtain ⟨t0, idx1, idx2, h0, hi1, hi2, hf, hq⟩ := h.2 i t ht
  rw [Nat.min_eq_right (hfb.ibl_le _ _ hi2)] at hf hq
  exact ⟨t0, idx1, idx2, h0, hi1, hi2, hf, hq⟩

/-- the loop goes on from prime `n` to prime `n'`, all of bit length `c`: the table of that class (if the family has
it) takes their adds, every other table is left alone. -/
theorem Filled.advance (hfb : fb.WF) {n n' c : Nat} (hnn : n ≤ n')
    (hcls : ∀ q, n ≤ q → q < n' → ∃ p, fb.primes[q]? = some p ∧ bitlen p = c)
    {T0 tabs tabs' : Array T} (h : Filled add fb base O red Q n T0 tabs) (hsz : tabs'.size = tabs.size)
    (hsame : ∀ i, i + base ≠ c → tabs'[i]? = tabs[i]?)
    (hmod : ∀ i t', i + base = c → tabs'[i]? = some t' →
      ∃ t, tabs[i]? = some t ∧ (classAdds O red n n').foldlM add t = some t' ∧ ∀ q, n ≤ q → q < n' → Q q) :
    Filled add fb base O red Q n' T0 tabs' := by
  refine ⟨hsz.trans h.1, fun i t' ht' => ?_⟩
  by_cases hc : i + base = c
  · obtain ⟨t, ht, hf, hq⟩ := hmod i t' hc ht'
    obtain ⟨t0, idx1, idx2, h0, hi1, hi2, hf0, hq0⟩ := h.2 i t ht
    refine ⟨t0, idx1, idx2, h0, hi1, hi2, ?_⟩
    by_cases he : n = n'
    · subst he
      rw [classAdds_nil (le_refl _)] at hf
      cases hf
      exact ⟨hf0, hq0⟩
    · -- `[n, n')` lies inside the class
      obtain ⟨p, hp, hb⟩ := hcls n (le_refl _) (by omega)
      obtain ⟨p', hp', hb'⟩ := hcls (n' - 1) (by omega) (by omega)
      have a1 := (hfb.class_of hp hi1 hi2).2 (by omega)
      have a2 := (hfb.class_of hp' hi1 hi2).2 (by omega)
      rw [Nat.min_eq_left (le_of_lt a1.2)] at hf0 hq0
      rw [Nat.min_eq_left (by omega : n' ≤ idx2), classAdds_append a1.1 hnn, List.foldlM_append, hf0]
      refine ⟨hf, fun pidx b1 b2 => ?_⟩
      rcases Nat.lt_or_ge pidx n with b3 | b3
      · exact hq0 pidx b1 b3
      · exact hq pidx b3 b2
  · rw [hsame i hc] at ht'
    obtain ⟨t0, idx1, idx2, h0, hi1, hi2, hf0, hq0⟩ := h.2 i t' ht'
    refine ⟨t0, idx1, idx2, h0, hi1, hi2, ?_⟩
    -- no prime of `[n, n')` is in the class of this table: the class ends before `n` or begins after `n'`
    have hdis : idx2 ≤ n ∨ n' ≤ idx1 ∨ idx2 ≤ idx1 ∨ n = n' := by
      by_contra hne
      simp only [not_or, not_le] at hne
      obtain ⟨b1, b2, b3, b4⟩ := hne
      have hq : ∀ q, n ≤ q → q < n' → idx1 ≤ q → q < idx2 → False := fun q c1 c2 c3 c4 => by
        obtain ⟨p, hp, hb⟩ := hcls q c1 c2
        have := (hfb.class_of hp hi1 hi2).1 ⟨c3, c4⟩
        omega
      rcases Nat.le_total n idx1 with hle | hle
      · exact hq idx1 hle b2 (le_refl _) b3
      · exact hq n (le_refl _) (by omega) hle b1
    have hmin : min n' idx2 - idx1 = min n idx2 - idx1 := by
      rcases hdis with d | d | d | d
      · rw [Nat.min_eq_right (le_trans d hnn), Nat.min_eq_right d]
      · rw [Nat.sub_eq_zero_of_le (le_trans (Nat.min_le_left _ _) d),
          Nat.sub_eq_zero_of_le (le_trans (Nat.min_le_left _ _) (le_trans hnn d))]
      · rw [Nat.sub_eq_zero_of_le (le_trans (Nat.min_le_right _ _) d),
          Nat.sub_eq_zero_of_le (le_trans (Nat.min_le_right _ _) d)]
      · rw [d]
    refine ⟨?_, fun pidx b1 b2 => hq0 pidx b1 (by omega)⟩
    unfold classAdds at hf0 ⊢
    rw [hmin]; exact hf0

theorem Filled.modify [Inhabited T] (hfb : fb.WF) {n n' c j : Nat} (hnn : n ≤ n')
    (hcls : ∀ q, n ≤ q → q < n' → ∃ p, fb.primes[q]? = some p ∧ bitlen p = c)
    {T0 tabs tabs' : Array T} (h : Filled add fb base O red Q n T0 tabs) {f : T → Option T}
    (hm : modifyM tabs j f = some tabs') (hj : j + base = c)
    (hf : ∀ x y, f x = some y → (classAdds O red n n').foldlM add x = some y ∧ ∀ q, n ≤ q → q < n' → Q q) :
    Filled add fb base O red Q n' T0 tabs' := by
  obtain ⟨x, y, hx, hxy, hsz, hy, hne⟩ := modifyM_spec hm
  refine h.advance hfb hnn hcls hsz (fun i hi => hne i (by omega)) (fun i t' hi ht' => ?_)
  have : i = j := by omega
  subst this
  rw [hy] at ht'
  cases ht'
  exact ⟨x, hx, hf x y hxy⟩

theorem Filled.keep (hfb : fb.WF) {n n' c : Nat} (hnn : n ≤ n')
    (hcls : ∀ q, n ≤ q → q < n' → ∃ p, fb.primes[q]? = some p ∧ bitlen p = c)
    {T0 tabs : Array T} (h : Filled add fb base O red Q n T0 tabs) (hno : ∀ i, i < T0.size → i + base ≠ c) :
    Filled add fb base O red Q n' T0 tabs :=
  h.advance hfb hnn hcls rfl (fun _ _ => rfl) (fun i t' hi ht' =>
    absurd hi (hno i (by rw [← h.1]; exact (Array.getElem?_eq_some_iff.1 ht').1)))

end Filled

/-- `idx_by_log[l]` (0 outside the table). -/
def iblAt (fb : FB) (l : Nat) : Nat := (fb.ibl[l]?).getD 0

theorem iblAt_eq {fb : FB} {l v : Nat} (h : fb.ibl[l]? = some v) : iblAt fb l = v := by
  simp only [iblAt, h, Option.getD_some]

theorem iblAt_mono {fb : FB} (hfb : fb.WF) {l l' : Nat} (h : l ≤ l') (hl : l' < 26) : iblAt fb l ≤ iblAt fb l' := by
  obtain ⟨v, hv⟩ := hfb.ibl_some l (by omega)
  obtain ⟨v', hv'⟩ := hfb.ibl_some l' hl
  rw [iblAt_eq hv, iblAt_eq hv']
  exact hfb.ibl_mono h hv hv'

theorem ibl_top {fb : FB} (hfb : fb.WF) {maxprime l v : Nat} (hmax : fb.primes.back? = some maxprime)
    (hv : fb.ibl[l]? = some v) (hl : bitlen maxprime < l) : v = fb.primes.size := by
  have hle := hfb.ibl_le _ _ hv
  by_contra hne
  obtain ⟨p, hp⟩ := hfb.prime_at (i := v) (by omega)
  have := bitlen_mono (hfb.le_back hp hmax)
  have := (hfb.ibl_spec l v v p hv hp).2 (by omega)
  omega

theorem iblAt_top {fb : FB} (hfb : fb.WF) {maxprime l : Nat} (hmax : fb.primes.back? = some maxprime)
    (hl : bitlen maxprime < l) (hl26 : l < 26) : iblAt fb l = fb.primes.size := by
  obtain ⟨v, hv⟩ := hfb.ibl_some l hl26
  rw [iblAt_eq hv]
  exact ibl_top hfb hmax hv hl

theorem iblAt_le {fb : FB} (hfb : fb.WF) {l : Nat} (hl : l < 26) : iblAt fb l ≤ fb.primes.size := by
  obtain ⟨v, hv⟩ := hfb.ibl_some l hl
  rw [iblAt_eq hv]
  exact hfb.ibl_le _ _ hv

section Loops
variable {fb : FB} {r1 r2 : Array Nat} {interval : Nat} {T0 : Array Table} {L0 : Array LTable}

/-- the two families of tables of a `Sieve`, filled by `rehash` (offsets `OT = offsV`) or by `new` (`OT = offsL`). `g` is the
offset function of the model that `OT` makes total (`vlargeOffsets` with `offsV`, `largeOffsets` with `offsL`: `offsV_eq`,
`offsL_eq`); the large tables are filled with `offsV` by both. -/
def FilledTL (fb : FB) (r1 r2 : Array Nat) (interval : Nat) (OT : Nat → List Nat)
    (g : Nat → Nat → Nat → Nat → Option (List Nat)) (n : Nat) (T0 tables : Array Table) (L0 ltables : Array LTable) :
    Prop :=
  Filled (fun (t : Table) a => t.add a.1 a.2) fb 16 OT (· % 2 ^ 32) (Reads g fb r1 r2 interval) n T0 tables ∧
  Filled (fun (t : LTable) a => t.add a.1 a.2) fb 19 (offsV fb r1 r2 interval) id
    (Reads vlargeOffsets fb r1 r2 interval) n L0 ltables

theorem rehashStep_filled (hfb : fb.WF) (hT3 : T0.size ≤ 3) {st st' : Array Table × Array LTable} {pidx : Nat}
    (h : FilledTL fb r1 r2 interval (offsV fb r1 r2 interval) vlargeOffsets pidx T0 st.1 L0 st.2)
    (hs : rehashStep fb r1 r2 interval st pidx = some st') :
    FilledTL fb r1 r2 interval (offsV fb r1 r2 interval) vlargeOffsets (pidx + 1) T0 st'.1 L0 st'.2 := by
  obtain ⟨tables, ltables⟩ := st
  obtain ⟨hT, hL⟩ := h
  obtain ⟨p, hp, hcase⟩ := rehashStep_cases hs
  have hcls : ∀ q, pidx ≤ q → q < pidx + 1 → ∃ p', fb.primes[q]? = some p' ∧ bitlen p' = bitlen p :=
    fun q h1 h2 => ⟨p, by rw [show q = pidx by omega]; exact hp, rfl⟩
  rcases hcase with ⟨hsm, rfl⟩ | ⟨h16, hv, tables', hm, rfl⟩ | ⟨hv, ltables', hm, rfl⟩
  · exact ⟨hT.keep hfb (by omega) hcls (fun i _ => by omega), hL.keep hfb (by omega) hcls (fun i _ => by omega)⟩
  · refine ⟨hT.modify hfb (by omega) hcls hm (by omega) (fun x y hxy => ?_),
      hL.keep hfb (by omega) hcls (fun i _ => by omega)⟩
    obtain ⟨a, b⟩ := rehashTable_offs hp hxy
    rw [classAdds_one, List.foldlM_map]
    exact ⟨a, fun q h1 h2 => by rw [show q = pidx by omega]; exact b⟩
  · refine ⟨hT.keep hfb (by omega) hcls (fun i _ => by omega),
      hL.modify hfb (by omega) hcls hm (by omega) (fun x y hxy => ?_)⟩
    obtain ⟨a, b⟩ := rehashLTable_offs hp hxy
    rw [classAdds_one, List.foldlM_map]
    exact ⟨a, fun q h1 h2 => by rw [show q = pidx by omega]; exact b⟩

theorem rehash_filled (hfb : fb.WF) {s s' : State} (h0 : s.nblocks ≠ 0) (hsz : s.tables.size ≤ 3)
    (hlsz : s.ltables.size ≤ 6) (h : rehash fb s r1 r2 = some s') :
    FilledTL fb r1 r2 (s.nblocks * BLOCK) (offsV fb r1 r2 (s.nblocks * BLOCK)) vlargeOffsets fb.primes.size
      (s.tables.map Table.reset) s'.tables (s.ltables.map LTable.reset) s'.ltables := by
  unfold rehash at h
  simp only [h0, if_false, Option.bind_eq_bind, Option.bind_eq_some_iff, Option.some.injEq] at h
  obtain ⟨⟨tables, ltables⟩, hf, rfl⟩ := h
  have := Loops.foldlM_range'_partial _ (fun n st => FilledTL fb r1 r2 (s.nblocks * BLOCK)
      (offsV fb r1 r2 (s.nblocks * BLOCK)) vlargeOffsets n (s.tables.map Table.reset) st.1
      (s.ltables.map LTable.reset) st.2) 0 fb.primes.size
    (fun i st st' _ _ hi hs => rehashStep_filled hfb (by rw [Array.size_map]; exact hsz) hi hs)
    ⟨Filled.init hfb _ (fun i hi => by rw [Array.size_map] at hi; omega) (fun _ _ _ => Nat.zero_le _),
      Filled.init hfb _ (fun i hi => by rw [Array.size_map] at hi; omega) (fun _ _ _ => Nat.zero_le _)⟩ hf
  rwa [Nat.zero_add] at this

theorem newStep_filled (hfb : fb.WF) (hT3 : T0.size ≤ 3) {st st' : Array Nat × Array Table × Array LTable} {log : Nat}
    (h : FilledTL fb r1 r2 interval (offsL fb r1 r2 interval) largeOffsets (iblAt fb log) T0 st.2.1 L0 st.2.2)
    (hs : newStep fb r1 r2 interval st log = some st') :
    FilledTL fb r1 r2 interval (offsL fb r1 r2 interval) largeOffsets (iblAt fb (log + 1)) T0 st'.2.1 L0 st'.2.2 := by
  obtain ⟨offs, tables, ltables⟩ := st
  obtain ⟨idx1, idx2, h1, h2, hcase⟩ := newStep_cases hs
  rw [iblAt_eq h1] at h
  rw [iblAt_eq h2]
  obtain ⟨hT, hL⟩ := h
  have hnn : idx1 ≤ idx2 := hfb.ibl_mono (by omega) h1 h2
  have hcls : ∀ q, idx1 ≤ q → q < idx2 → ∃ p, fb.primes[q]? = some p ∧ bitlen p = log := fun q a b => by
    obtain ⟨p, hp⟩ := hfb.prime_at (i := q) (by have := hfb.ibl_le _ _ h2; omega)
    exact ⟨p, hp, (hfb.class_of hp h1 h2).1 ⟨a, b⟩⟩
  -- the loop over the primes of the class is one fold of `add` over their adds
  have hfold : ∀ {τ : Type} (stepf : τ → Nat → Option τ) (ad : τ → Nat × Nat → Option τ) (O : Nat → List Nat)
      (red : Nat → Nat) (R : Nat → Prop),
      (∀ t i t', stepf t i = some t' → (O i).foldlM (fun t off => ad t (off, red i)) t = some t' ∧ R i) →
      ∀ x y, (List.range' idx1 (idx2 - idx1)).foldlM stepf x = some y →
        (classAdds O red idx1 idx2).foldlM ad x = some y ∧ ∀ q, idx1 ≤ q → q < idx2 → R q := by
    intro τ stepf ad O red R hst x y hxy
    refine ⟨foldlM_flatMap_of_step _ _ _ (fun t i t' h => by rw [List.foldlM_map]; exact (hst t i t' h).1) _ x y hxy,
      fun q a b => ?_⟩
    have hq : q ∈ List.range' idx1 (idx2 - idx1) := List.mem_range'_1.2 ⟨a, by omega⟩
    obtain ⟨pre, post, hl⟩ := List.append_of_mem hq
    rw [hl, List.foldlM_append] at hxy
    obtain ⟨s1, _, h2⟩ := Option.bind_eq_some_iff.1 hxy
    rw [List.foldlM_cons] at h2
    obtain ⟨s2, h3, _⟩ := Option.bind_eq_some_iff.1 h2
    exact (hst s1 q s2 h3).2
  rcases hcase with ⟨hl, offs', _, rfl⟩ | ⟨hl, hv, tables', hm, rfl⟩ | ⟨hv, ltables', hm, rfl⟩
  · exact ⟨hT.keep hfb hnn hcls (fun i _ => by omega), hL.keep hfb hnn hcls (fun i _ => by omega)⟩
  · exact ⟨hT.modify hfb hnn hcls hm (by omega) (hfold _ _ _ _ _ (fun t i t' h => newLargeStep_offs h)),
      hL.keep hfb hnn hcls (fun i _ => by omega)⟩
  · exact ⟨hT.keep hfb hnn hcls (fun i _ => by omega),
      hL.modify hfb hnn hcls hm (by omega) (hfold _ _ _ _ _ (fun t i t' h => newVLargeStep_offs h))⟩

theorem newFold_filled (hfb : fb.WF) {maxprime : Nat} (hmax : fb.primes.back? = some maxprime) (hT3 : T0.size ≤ 3)
    (hL6 : L0.size ≤ 6) {offs0 : Array Nat} {st' : Array Nat × Array Table × Array LTable}
    (hf : (List.range' 0 (bitlen maxprime + 1)).foldlM (newStep fb r1 r2 interval) (offs0, T0, L0) = some st') :
    FilledTL fb r1 r2 interval (offsL fb r1 r2 interval) largeOffsets fb.primes.size T0 st'.2.1 L0 st'.2.2 := by
  have hml := hfb.bitlen_back_le hmax
  obtain ⟨v0, hv0⟩ := hfb.ibl_some 0 (by omega)
  have hstart : ∀ (l v : Nat), fb.ibl[l]? = some v → iblAt fb 0 ≤ v := fun l v hv => by
    rw [iblAt_eq hv0]
    exact hfb.ibl_mono (Nat.zero_le l) hv0 hv
  have := Loops.foldlM_range'_partial _ (fun c st => FilledTL fb r1 r2 interval
      (offsL fb r1 r2 interval) largeOffsets (iblAt fb c) T0 st.2.1 L0 st.2.2) 0 (bitlen maxprime + 1)
    (fun c st st' _ _ hi hs => newStep_filled hfb hT3 hi hs)
    ⟨Filled.init hfb _ (fun i hi => by omega) hstart, Filled.init hfb _ (fun i hi => by omega) hstart⟩ hf
  rwa [Nat.zero_add, iblAt_top hfb hmax (Nat.lt_succ_self _) (by omega)] at this

end Loops

end Ymq.Sieve
