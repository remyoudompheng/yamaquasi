/-
The final check of `SmithNormalForm::reduce` (model: `St.checkDiag`): what `checkDiag true` certifies
about the state it returns, and that the saturating product cannot hide an overflow (`satFold_exact`).
-/
import Ymq.Model.Snf
import Mathlib.Algebra.BigOperators.Group.List.Basic
import Mathlib.Algebra.Order.Ring.Abs
import Mathlib.Data.List.Induction
import Mathlib.Tactic.Ring
import Mathlib.Tactic.Linarith

namespace Ymq.Snf
open Ymq.Arith (I128MIN I128MAX)

/-- 2^126 -/
def BIG : Int := 85070591730234615865843651857942052864

/-- a saturating product that ends on a non-zero value of magnitude below 2^126 was exact at every step:
read from the last factor backwards, a saturated step would end on `±2^127`, and an exact one has
`|acc| ≤ |acc * d|` -/
theorem satFold_exact (ds : List Int) : ∀ (acc X : Int), ds.foldl satMul128 acc = X → X ≠ 0 → |X| < BIG →
    acc * ds.prod = X := by
  induction ds using List.reverseRecOn with
  | nil => intro acc X hf _ _; simpa using hf
  | append_singleton l d ih =>
    intro acc X hf h0 hB
    rw [List.foldl_append, List.foldl_cons, List.foldl_nil] at hf
    generalize hY : l.foldl satMul128 acc = Y at hf
    unfold satMul128 at hf
    simp only [] at hf
    split at hf
    · rw [← hf] at hB; exact absurd hB (by decide)
    split at hf
    · rw [← hf] at hB; exact absurd hB (by decide)
    have hd : d ≠ 0 := fun e => h0 (by rw [← hf, e, mul_zero])
    have hY0 : Y ≠ 0 := fun e => h0 (by rw [← hf, e, zero_mul])
    have hle : |Y| ≤ |X| := by
      rw [← hf, abs_mul]; exact le_mul_of_one_le_right (abs_nonneg _) (Int.one_le_abs hd)
    rw [List.prod_append, List.prod_singleton, ← mul_assoc, ih acc Y hY hY0 (lt_of_le_of_lt hle hB), hf]

/-- the matrix is diagonal: every off-diagonal entry inside the square is `0` -/
def IsDiag (M : Mat) : Prop :=
  ∀ i j, i < M.length → j < M.length → i ≠ j → get2 M i j = some 0

theorem offDiagOk_full {M : Mat} (h : offDiagOk M true = true) : IsDiag M := by
  intro i j hi hj hij
  unfold offDiagOk at h
  rw [List.all_eq_true] at h
  have := h i (List.mem_range.mpr hi)
  simp only [if_true] at this
  rw [List.all_eq_true] at this
  have := this j (List.mem_filter.mpr ⟨List.mem_range.mpr hj, by simpa using Ne.symm hij⟩)
  simpa using this

theorem checkDiag_full {s s' : St} {det : Int} (h : s.checkDiag true = some (s', det)) :
    IsDiag s'.rows ∧ ∃ ds, diagList s'.rows = some ds ∧ ds.foldl satMul128 1 = det := by
  unfold St.checkDiag at h
  split at h
  · exact absurd h (by simp)
  · rename_i s1 _
    split at h
    · exact absurd h (by simp)
    · rename_i ds hds
      split at h
      · rename_i hok
        have := Option.some.inj h
        simp only [Prod.mk.injEq] at this
        obtain ⟨e1, e2⟩ := this
        subst e1
        exact ⟨offDiagOk_full hok, ds, hds, e2⟩
      · exact absurd h (by simp)

end Ymq.Snf
