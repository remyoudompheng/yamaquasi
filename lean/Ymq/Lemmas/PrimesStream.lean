/-
The stream of blocks of `PrimeSieve` (C17): a sieve whose small primes are all primes below 2^16
and whose offsets are those of block `b` returns exactly the primes of
`[65536·b, 65536·(b+1))` in increasing order and is then in the same relation with `b + 1`.
-/
import Mathlib.Tactic.NormNum.Prime
import Ymq.Lemmas.PrimesBlock

namespace Ymq.Primes

/-- the increasing list of the primes in `[a, a + n)` -/
def primesFrom (a n : Nat) : List Nat :=
  ((List.range n).map (a + ·)).filter (fun x => decide x.Prime)

theorem primesBelow_append (a n : Nat) : primesBelow (a + n) = primesBelow a ++ primesFrom a n := by
  unfold primesBelow primesFrom
  rw [List.range_add, List.filter_append]

theorem primesFrom_succ (a f : Nat) :
    primesFrom a (f + 1) = if a.Prime then a :: primesFrom (a + 1) f else primesFrom (a + 1) f := by
  have e : (List.range (f + 1)).map (a + ·) = a :: (List.range f).map (a + 1 + ·) := by
    rw [List.range_succ_eq_map, List.map_cons, List.map_map]
    exact congrArg _ (List.map_congr_left fun x _ => Nat.add_right_comm a 1 x ▸ rfl)
  unfold primesFrom
  rw [e, List.filter_cons]
  simp only [decide_eq_true_eq]

theorem mem_primesBelow {p m : Nat} : p ∈ primesBelow m ↔ p < m ∧ p.Prime := by
  simp [primesBelow]

theorem mem_primesFrom {p a n : Nat} : p ∈ primesFrom a n ↔ (a ≤ p ∧ p < a + n) ∧ p.Prime := by
  unfold primesFrom
  rw [List.mem_filter, List.mem_map]
  simp only [List.mem_range, decide_eq_true_eq]
  constructor
  · rintro ⟨⟨i, hi, rfl⟩, hp⟩
    exact ⟨⟨by omega, by omega⟩, hp⟩
  · rintro ⟨⟨h1, h2⟩, hp⟩
    exact ⟨⟨p - a, by omega, by omega⟩, hp⟩

theorem primesBelow_sorted (m : Nat) : (primesBelow m).Pairwise (· < ·) := by
  unfold primesBelow
  exact List.Pairwise.filter _ List.pairwise_lt_range

theorem primesFrom_sorted (a n : Nat) : (primesFrom a n).Pairwise (· < ·) := by
  unfold primesFrom
  apply List.Pairwise.filter
  rw [List.pairwise_map]
  exact List.Pairwise.imp (fun h => by omega) List.pairwise_lt_range

theorem block_prime_iff (b i : Nat) (hb1 : 1 ≤ b) (hb : b < 65536) (hi : i < 65536) :
    (65536 * b + i).Prime ↔ ¬ ∃ p ∈ primesBelow 65536, (65536 * b + i) % p = 0 := by
  constructor
  · rintro hN ⟨p, hp, hd⟩
    rw [mem_primesBelow] at hp
    have := Nat.Prime.eq_one_or_self_of_dvd hN p (Nat.dvd_of_mod_eq_zero hd)
    have := hp.2.two_le
    omega
  · intro hno
    by_contra hnp
    obtain ⟨q, m, hq, hm, hqm⟩ := exists_prime_mul_le (by omega) hnp
    refine hno ⟨q, mem_primesBelow.mpr ⟨?_, hq⟩, by rw [hm, Nat.mul_mod_right]⟩
    by_contra hge
    have := Nat.mul_le_mul (Nat.le_of_not_lt hge) ((Nat.le_of_not_lt hge).trans hqm)
    omega

theorem collect_general (s : Array Bool) (a n : Nat) (hs : s.size = n)
    (h : ∀ i, i < n → (s[i]! = false ↔ (a + i).Prime)) :
    collect s a = primesFrom a n := by
  unfold collect primesFrom
  rw [hs, List.filter_map]
  apply congrArg
  apply List.filter_congr
  intro i hi
  exact decide_eq_decide.mpr (h i (List.mem_range.mp hi))

theorem collect_spec (s : Array Bool) (b : Nat) (hs : s.size = 65536) (hb1 : 1 ≤ b)
    (hb : b < 65536)
    (hfl : ∀ i, i < 65536 → (flag s i = true ↔
      ∃ p ∈ primesBelow 65536, (65536 * b + i) % p = 0)) :
    collect s (b * 65536) = primesFrom (65536 * b) 65536 := by
  rw [Nat.mul_comm b 65536]
  apply collect_general s (65536 * b) 65536 hs
  intro i hi
  show flag s i = false ↔ _
  rw [block_prime_iff b i hb1 hb hi, ← hfl i hi]
  cases flag s i <;> simp

/-- the sieve is about to produce block `b`: its small primes are all primes below 2^16 and its
offsets are those of block `b` -/
structure Good (ps : PrimeSieve) (b : Nat) : Prop where
  smalls : ps.smalls = primesBelow 65536
  offsets : ps.offsets = ps.smalls.map (off b)
  bc : ps.bc = b

theorem sieve_block (b : Nat) (hb1 : 1 ≤ b) (hb : b < 65536) :
    ∃ s', sieveStep (Array.replicate 65536 false) (primesBelow 65536)
        ((primesBelow 65536).map (off b)) = some (s', (primesBelow 65536).map (off (b + 1))) ∧
      collect s' (b * 65536) = primesFrom (65536 * b) 65536 := by
  obtain ⟨s', hs', hsz', hfl'⟩ := sieveStep_spec b (primesBelow 65536)
    (Array.replicate 65536 false) (by simp)
    (fun p hp => ⟨(mem_primesBelow.mp hp).2.pos, (mem_primesBelow.mp hp).1.le⟩)
  refine ⟨s', hs', collect_spec s' b hsz' hb1 hb fun i hi => ?_⟩
  rw [hfl' i hi, flag_replicate 65536 i hi]
  simp

theorem next_spec (ps : PrimeSieve) (b : Nat) (h : Good ps b) (hb1 : 1 ≤ b) (hb : b < 65536) :
    ∃ ps', ps.next = some (primesFrom (65536 * b) 65536, ps') ∧ Good ps' (b + 1) := by
  obtain ⟨s', hs', hcol⟩ := sieve_block b hb1 hb
  refine ⟨{ ps with offsets := ps.smalls.map (off (b + 1)), bc := ps.bc + 1 }, ?_,
    ⟨h.smalls, rfl, by simp [h.bc]⟩⟩
  unfold PrimeSieve.next
  rw [if_neg (by rw [h.bc]; omega), if_neg (by rw [h.bc]; omega), h.offsets, h.smalls, hs']
  simp only
  rw [h.bc, hcol]

theorem next_end (ps : PrimeSieve) (h : ps.bc = 65536) : ps.next = some ([], ps) := by
  unfold PrimeSieve.next
  rw [if_pos h]

theorem primesBelow_65536 : primesBelow 65536 = primesBelow 65521 ++ [65521] := by
  rw [primesBelow_append 65521 15]
  refine congrArg _ ?_
  norm_num [primesFrom, List.range_succ]

/-- `new` passes its assertion, given that the model's `primes(6542)` is the list of all primes
below 2^16 (`HSmall`: a hypothesis here only because `primes_6542`, Lemmas/PrimesSmall, is proved downstream of this file) -/
theorem new_eq (HSmall : primes 6542 = some (primesBelow 65536)) :
    PrimeSieve.new = some
      ⟨primesBelow 65536, (primesBelow 65536).map (fun p => p - 1 - 65535 % p), 0⟩ := by
  have hlast : (primesBelow 65536).getLast? = some 65521 := by
    rw [primesBelow_65536]; simp
  unfold PrimeSieve.new
  rw [HSmall]
  simp only
  rw [if_pos hlast]

theorem new_spec (HSmall : primes 6542 = some (primesBelow 65536)) :
    ∃ ps0 ps1, PrimeSieve.new = some ps0 ∧ ps0.next = some (primesBelow 65536, ps1) ∧
      Good ps1 1 := by
  have hpos : ∀ p ∈ primesBelow 65536, 0 < p := fun p hp => (mem_primesBelow.mp hp).2.pos
  have hnew := new_eq HSmall
  -- (`L` keeps `decide` and `rfl` from evaluating the list)
  generalize hL : primesBelow 65536 = L at hpos hnew ⊢
  refine ⟨_, ⟨L, L.map (fun p => p - 1 - 65535 % p), 1⟩, hnew, ?_, hL.symm,
    List.map_congr_left fun p hp => off_init p (hpos p hp), rfl⟩
  unfold PrimeSieve.next
  simp only
  rw [if_neg (by decide), if_pos trivial]

end Ymq.Primes
