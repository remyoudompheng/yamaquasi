/-
SIQS root tables (C12): what `prepare_a` establishes for each prime, what `_finish_polynomial` does (exact
inversion, what it leaves behind, when it returns), the invariant of `Poly::first` / `Poly::next` and its
preservation along the Gray walk. The file opens with the lemmas of the two list helpers of the model, `allSome`
(= `List.mapM id`, read through Ymq/Lemmas/Loops.lean) and `withIdx` (= `zip` with `range'`).
-/
import Mathlib.Tactic.Ring
import Mathlib.Tactic.Linarith
import Mathlib.Tactic.LinearCombination
import Mathlib.Data.Int.ModEq
import Mathlib.Data.ZMod.Basic
import Mathlib.Data.Nat.Prime.Basic
import Ymq.Lemmas.PolyInv
import Ymq.Lemmas.PolyBits
import Ymq.Lemmas.PolyRoots
import Ymq.Lemmas.Loops
namespace Ymq.PolySiqs
open Ymq.SiqsPoly Ymq.PolyInv Ymq.PolyBits Ymq.PolyRoots

theorem allSome_eq_mapM {α} : ∀ l : List (Option α), allSome l = l.mapM id
  | [] => rfl
  | none :: _ => rfl
  | some x :: xs => by
    rw [allSome, allSome_eq_mapM xs, List.mapM_cons]
    cases xs.mapM id <;> rfl

theorem allSome_map {α β} (f : α → Option β) (l : List α) : allSome (l.map f) = l.mapM f := by
  rw [allSome_eq_mapM, List.mapM_map]; rfl

theorem allSome_eq_some {α} (l : List (Option α)) (l' : List α) : allSome l = some l' ↔ l = l'.map some := by
  rw [allSome_eq_mapM, Loops.mapM_eq_some_iff, List.map_id]

theorem allSome_getElem {α} {l : List (Option α)} {l' : List α} (h : allSome l = some l') :
    l.length = l'.length ∧ ∀ i (h1 : i < l.length) (h2 : i < l'.length), l[i] = some l'[i] := by
  rw [allSome_eq_mapM] at h
  exact (Loops.mapM_getElem h).imp Eq.symm id

theorem allSome_isSome {α} (l : List (Option α)) (h : ∀ x ∈ l, ∃ v, x = some v) : ∃ l', allSome l = some l' := by
  rw [allSome_eq_mapM]
  obtain ⟨ys, hys, _⟩ := Loops.mapM_total id (fun _ _ => True) l fun x hx => (h x hx).imp fun _ hv => ⟨hv, trivial⟩
  exact ⟨ys, hys⟩

theorem allSome_map_total {α β} {f : α → Option β} {P : α → β → Prop} (l : List α)
    (h : ∀ x ∈ l, ∃ y, f x = some y ∧ P x y) :
    ∃ ys, allSome (l.map f) = some ys ∧ ys.length = l.length ∧
      ∀ k (hk : k < l.length) (hk' : k < ys.length), P l[k] ys[k] := by
  rw [allSome_map]; exact Loops.mapM_total f P l h

theorem withIdx_eq_zip {α} : ∀ (k : Nat) (l : List α), withIdx k l = (List.range' k l.length).zip l
  | _, [] => rfl
  | k, x :: xs => by simp [withIdx, List.range'_succ, withIdx_eq_zip (k + 1) xs]

theorem withIdx_length {α} (k : Nat) (l : List α) : (withIdx k l).length = l.length := by
  simp [withIdx_eq_zip]

theorem withIdx_getElem {α} (k : Nat) (l : List α) (i : Nat) (h : i < (withIdx k l).length) :
    (withIdx k l)[i] = (k + i, l[i]'(by rw [withIdx_length] at h; exact h)) := by
  simp [withIdx_eq_zip]

theorem mem_withIdx {α} (l : List α) (k j : Nat) (x : α) :
    (j, x) ∈ withIdx k l ↔ ∃ (i : Nat) (h : i < l.length), j = k + i ∧ x = l[i] := by
  rw [List.mem_iff_getElem]
  constructor
  · rintro ⟨i, hi, e⟩
    rw [withIdx_getElem] at e
    exact ⟨i, by rwa [withIdx_length] at hi, (Prod.mk.inj e).1.symm, (Prod.mk.inj e).2.symm⟩
  · rintro ⟨i, hi, rfl, rfl⟩
    exact ⟨i, by rwa [withIdx_length], withIdx_getElem k l i _⟩

theorem withIdx_fst_nodup {α} (l : List α) (k : Nat) : ((withIdx k l).map (·.1)).Nodup := by
  rw [withIdx_eq_zip, List.map_fst_zip (by simp)]
  exact List.nodup_range'

theorem chk256_some {x y : Int} (h : chk256 x = some y) : y = x := by
  unfold chk256 at h
  split at h
  · exact (Option.some.inj h).symm
  · cases h

theorem chk256_cases (x : Int) : chk256 x = some x ∨ chk256 x = none := by
  unfold chk256; split <;> simp

theorem chkI32_some {x y : Int} (h : chkI32 x = some y) : y = x := by
  unfold chkI32 at h
  split at h
  · exact (Option.some.inj h).symm
  · cases h

/-- `start_offset` survives the cast to `i32` -/
def SoOk (so : Int) : Prop := -2147483648 ≤ so ∧ so < 2147483648

theorem wrapI32_eq {so : Int} (h : SoOk so) : wrapI32 so = so := by
  unfold wrapI32; obtain ⟨h1, h2⟩ := h; omega

/-- `(invMod …).getD 1` is the code's `unwrap_or(1)`: when `p ∣ a2a` there is no inverse and `rp`, `deltas`, `root0` are
computed from the dummy 1 and mean nothing. For odd `p` such entries are overwritten by `finishRoot` at every polynomial
(`divA`); for `p = 2` of type 2 see `exact_two`. -/
theorem mkPP_some {a2a B0 : Nat} {ds : List Nat} {so : Int} {q : Prime} {pp : PP}
    (h : mkPP a2a B0 ds so q = some pp) :
    q.p ≠ 0 ∧ pp.p = q.p ∧ pp.r = q.r ∧ pp.ainv = (invMod (a2a % q.p) q.p).getD 1 ∧
    pp.rp = pp.ainv * q.r % q.p ∧
    pp.deltas = ds.map (fun d => if d % q.p * pp.ainv % q.p = 0 then 0 else q.p - d % q.p * pp.ainv % q.p) ∧
    pp.root0 = ((-((B0 % q.p * pp.ainv % q.p : Nat) : Int) - (pp.rp : Int) - wrapI32 so) % (q.p : Int)).toNat ∧
    pp.divA = (a2a % q.p == 0 && q.p != 2) := by
  unfold mkPP at h
  simp only [Option.ite_none_left_eq_some] at h
  obtain ⟨hp0, h⟩ := h
  split at h
  · cases h
  · rename_i t ht
    split at h
    · cases h
    · rename_i val hval
      cases chkI32_some ht
      cases chkI32_some hval
      cases h
      exact ⟨hp0, rfl, rfl, rfl, rfl, rfl, rfl, rfl⟩

theorem mkPP_isSome {a2a root0 : Nat} {ds : List Nat} {so : Int} {q : Prime} (hp0 : q.p ≠ 0)
    (hp24 : q.p < 2 ^ 24) (hso1 : -(2 ^ 20 : Int) ≤ so) (hso2 : so ≤ 0) :
    ∃ pp, mkPP a2a root0 ds so q = some pp := by
  have hpos : 0 < q.p := Nat.pos_of_ne_zero hp0
  -- two residues below `2^24` and an offset in `[−2^20, 0]`: both `i32` subtractions fit
  have key : ∀ x y : Nat, chkI32 (-((x % q.p : Nat) : Int) - ((y % q.p : Nat) : Int))
        = some (-((x % q.p : Nat) : Int) - ((y % q.p : Nat) : Int)) ∧
      chkI32 (-((x % q.p : Nat) : Int) - ((y % q.p : Nat) : Int) - wrapI32 so)
        = some (-((x % q.p : Nat) : Int) - ((y % q.p : Nat) : Int) - wrapI32 so) := by
    intro x y
    have := Nat.mod_lt x hpos
    have := Nat.mod_lt y hpos
    unfold chkI32 wrapI32
    constructor <;> rw [if_pos (by omega)]
  unfold mkPP
  simp only [if_neg hp0, (key _ _).1, (key _ _).2]
  exact ⟨_, rfl⟩

/-- what `prepare_a` establishes for a prime `q` of the factor base that does not divide `a2a`
(`a2a` = A for type 1, 2A for type 2; `B0` = the first B; `ds[j] = r1ⱼ − r0ⱼ`). -/
structure PPOk (a2a : Nat) (B0 : Nat) (ds : List Nat) (so : Int) (q : Prime) (pp : PP) : Prop where
  hp : pp.p = q.p
  hdiv : pp.divA = false
  ainv : (a2a : ZMod q.p) * pp.ainv = 1
  rp : (pp.rp : ZMod q.p) = pp.ainv * q.r
  deltas : ∀ j (h : j < ds.length), pp.deltas.getD j 0 < q.p ∧
    (pp.deltas.getD j 0 : ZMod q.p) = -((ds[j] : Nat) : ZMod q.p) * pp.ainv
  root0_lt : pp.root0 < q.p
  root0 : (pp.root0 : ZMod q.p) = -(B0 : ZMod q.p) * pp.ainv - pp.rp - (so : ZMod q.p)

theorem mkPP_ok {a2a B0 : Nat} {ds : List Nat} {so : Int} {q : Prime} {pp : PP}
    (hprime : Nat.Prime q.p) (hnd : a2a % q.p ≠ 0) (hso : SoOk so)
    (h : mkPP a2a B0 ds so q = some pp) : PPOk a2a B0 ds so q pp := by
  have hppos : 0 < q.p := hprime.pos
  obtain ⟨_, hp, _, hainv, hrp, hdel, hroot0, hdiv⟩ := mkPP_some h
  obtain ⟨x, hx, _, hxinv⟩ := invMod_prime (a := a2a % q.p) hprime (by rwa [Nat.mod_mod])
  rw [hx, Option.getD_some] at hainv
  rw [wrapI32_eq hso] at hroot0
  obtain ⟨hr0lt, hr0⟩ := emod_toNat_spec hppos
    (-((B0 % q.p * pp.ainv % q.p : Nat) : Int) - (pp.rp : Int) - so)
  refine ⟨hp, ?_, ?_, ?_, ?_, hroot0 ▸ hr0lt, ?_⟩
  · rw [hdiv]; simp [hnd]
  · rw [hainv]
    exact zmod_mul_eq_one (by rw [← Nat.mod_mul_mod, hxinv, Nat.mod_eq_of_lt hprime.one_lt])
  · rw [hrp, ZMod.natCast_mod, Nat.cast_mul]
  · intro j hj
    simp only [hdel, List.getD_eq_getElem?_getD, List.getElem?_map, List.getElem?_eq_getElem hj,
      Option.map_some, Option.getD_some]
    have hxx : ((ds[j] % q.p * pp.ainv % q.p : Nat) : ZMod q.p) = (ds[j] : ZMod q.p) * pp.ainv := by
      rw [ZMod.natCast_mod, Nat.cast_mul, ZMod.natCast_mod]
    have hlt : ds[j] % q.p * pp.ainv % q.p < q.p := Nat.mod_lt _ hppos
    split
    · rename_i h0
      refine ⟨hppos, ?_⟩
      rw [neg_mul, ← hxx, h0, Nat.cast_zero, neg_zero]
    · refine ⟨by omega, ?_⟩
      rw [Nat.cast_sub hlt.le, ZMod.natCast_self, hxx]; ring
  · rw [hroot0, hr0]
    push_cast
    ring

/-- the invariant of `Poly::first`/`Poly::next` for one prime: both table entries are reduced and
`a2a·(r1+so) + b ≡ −r`, `a2a·(r2+so) + b ≡ r (mod p)`, stated in `ZMod p`, the form in which the walk is proved.
`C12.RootsOk` is the same statement with `Int.ModEq` (`rootInv_modEq`). (`Crt.RootsOk` of C10 is unrelated: NTT root tables.) -/
def RootInv (a2a : Nat) (so : Int) (q : Prime) (b : Int) (r12 : Nat × Nat) : Prop :=
  r12.1 < q.p ∧ r12.2 < q.p ∧
  (a2a : ZMod q.p) * ((r12.1 : ZMod q.p) + (so : ZMod q.p)) + (b : ZMod q.p) = -(q.r : ZMod q.p) ∧
  (a2a : ZMod q.p) * ((r12.2 : ZMod q.p) + (so : ZMod q.p)) + (b : ZMod q.p) = (q.r : ZMod q.p)

theorem first_inv {a2a B0 : Nat} {ds : List Nat} {so : Int} {q : Prime} {pp : PP}
    (hpos : 0 < q.p) (ok : PPOk a2a B0 ds so q pp) : RootInv a2a so q (B0 : Int) (firstRoots pp) := by
  unfold firstRoots RootInv
  rw [ok.hp]
  refine ⟨ok.root0_lt, Nat.mod_lt _ hpos, ?_, ?_⟩
  · simp only [Int.cast_natCast]
    rw [ok.root0, ok.rp]
    linear_combination (-(B0 : ZMod q.p) - (q.r : ZMod q.p)) * ok.ainv
  · simp only [Int.cast_natCast, ZMod.natCast_mod]
    push_cast
    rw [ok.root0, ok.rp]
    linear_combination (-(B0 : ZMod q.p) + (q.r : ZMod q.p)) * ok.ainv

theorem up_inv {a2a B0 : Nat} {ds : List Nat} {so : Int} {q : Prime} {pp : PP} {b : Int}
    {r12 : Nat × Nat} (hp31 : q.p < 2 ^ 31) (ok : PPOk a2a B0 ds so q pp)
    (inv : RootInv a2a so q b r12) (j : Nat) (hj : j < ds.length) :
    RootInv a2a so q (b + (ds[j] : Nat))
      (stepUp pp.p (pp.deltas.getD j 0) r12.1, stepUp pp.p (pp.deltas.getD j 0) r12.2) := by
  obtain ⟨h1, h2, e1, e2⟩ := inv
  obtain ⟨hd, ed⟩ := ok.deltas j hj
  have hpos : 0 < q.p := by omega
  unfold RootInv
  rw [ok.hp, stepUp_eq _ _ _ h1 hd hp31, stepUp_eq _ _ _ h2 hd hp31]
  refine ⟨Nat.mod_lt _ hpos, Nat.mod_lt _ hpos, ?_, ?_⟩
  · simp only [ZMod.natCast_mod]; push_cast; rw [ed]
    linear_combination e1 - ((ds[j] : Nat) : ZMod q.p) * ok.ainv
  · simp only [ZMod.natCast_mod]; push_cast; rw [ed]
    linear_combination e2 - ((ds[j] : Nat) : ZMod q.p) * ok.ainv

theorem down_inv {a2a B0 : Nat} {ds : List Nat} {so : Int} {q : Prime} {pp : PP} {b : Int}
    {r12 : Nat × Nat} (hp31 : q.p < 2 ^ 31) (ok : PPOk a2a B0 ds so q pp)
    (inv : RootInv a2a so q b r12) (j : Nat) (hj : j < ds.length) :
    RootInv a2a so q (b - (ds[j] : Nat))
      (stepDown pp.p (pp.deltas.getD j 0) r12.1, stepDown pp.p (pp.deltas.getD j 0) r12.2) := by
  obtain ⟨h1, h2, e1, e2⟩ := inv
  obtain ⟨hd, ed⟩ := ok.deltas j hj
  have hpos : 0 < q.p := by omega
  unfold RootInv
  rw [ok.hp, stepDown_eq _ _ _ h1 hd hp31, stepDown_eq _ _ _ h2 hd hp31]
  have cast_sub : ∀ r : Nat, r < q.p →
      (((r + q.p - pp.deltas.getD j 0) % q.p : Nat) : ZMod q.p)
        = (r : ZMod q.p) - (pp.deltas.getD j 0 : ZMod q.p) := by
    intro r _
    rw [ZMod.natCast_mod, Nat.cast_sub (by omega), Nat.cast_add, ZMod.natCast_self]; ring
  refine ⟨Nat.mod_lt _ hpos, Nat.mod_lt _ hpos, ?_, ?_⟩
  · rw [cast_sub _ h1]; push_cast; rw [ed]
    linear_combination e1 + ((ds[j] : Nat) : ZMod q.p) * ok.ainv
  · rw [cast_sub _ h2]; push_cast; rw [ed]
    linear_combination e2 + ((ds[j] : Nat) : ZMod q.p) * ok.ainv

/-- the quotient `(B² − n) / M` as `_finish_polynomial` computes it (truncated division) -/
def finishC (pa : APrep) (pol : Poly) : Int :=
  Int.tdiv (((pol.b.toNat * pol.b.toNat : Nat) : Int) - pol.n) (polyM pol.type2 pa.a)

theorem finish_iff {s : Sieve} {pa : APrep} {pol pol' : Poly} :
    finish s pa pol = some pol' ↔
    0 < pol.b ∧ pa.a ≠ 0 ∧
    polyM pol.type2 pa.a ∣ ((pol.b.toNat * pol.b.toNat : Nat) : Int) - pol.n ∧
    ∃ rs, allSome (finishRoots s pol.type2 pol.b.toNat (finishC pa pol) pa.pps pol.rs) = some rs ∧
      (pa.factors.length ≥ 5 → polyRoot s.nsqrt pol.type2 pa.a < s.intervalSize / 2) ∧
      bitlen pa.a + 2 * bitlen s.intervalSize < 255 ∧
      bitlen pol.b.natAbs + bitlen s.intervalSize < 255 ∧ bitlen pol.c.natAbs < 255 ∧
      pol' = { pol with c := wrap256 (finishC pa pol),
                        root := polyRoot s.nsqrt pol.type2 pa.a % W32, rs } := by
  unfold finish finishC
  simp only [Option.ite_none_left_eq_some, not_le, ne_eq, not_not]
  cases allSome (finishRoots s pol.type2 pol.b.toNat
      (Int.tdiv (((pol.b.toNat * pol.b.toNat : Nat) : Int) - pol.n) (polyM pol.type2 pa.a)) pa.pps pol.rs) with
  | none => simp
  | some rs =>
    simp only [Option.ite_none_left_eq_some, Option.some.injEq, not_and, not_not, Int.dvd_iff_emod_eq_zero,
      exists_eq_left', eq_comm (a := pol')]

theorem finish_getElem {s : Sieve} {pa : APrep} {pol0 pol : Poly} (h : finish s pa pol0 = some pol)
    (i : Nat) (h1 : i < pa.pps.length) (h2 : i < pol0.rs.length) (h3 : i < pol.rs.length) :
    finishRoot s pol0.type2 pol0.b.toNat (finishC pa pol0) (i == 0) pa.pps[i] pol0.rs[i] = some pol.rs[i] := by
  obtain ⟨_, _, _, rs, hrs, _, _, _, _, rfl⟩ := finish_iff.mp h
  obtain ⟨hl, hget⟩ := allSome_getElem hrs
  have hfin_i := hget i (by rw [hl]; exact h3) h3
  unfold finishRoots at hfin_i
  rw [List.getElem_zipWith, withIdx_getElem] at hfin_i
  simpa using hfin_i

theorem finish_len {s : Sieve} {pa : APrep} {pol0 pol : Poly} (h : finish s pa pol0 = some pol) :
    pol.rs.length = min pa.pps.length pol0.rs.length := by
  obtain ⟨_, _, _, rs, hrs, _, _, _, _, rfl⟩ := finish_iff.mp h
  obtain ⟨hl, _⟩ := allSome_getElem hrs
  show rs.length = _
  rw [← hl]; unfold finishRoots
  rw [List.length_zipWith, withIdx_length]

theorem finishRoot_isSome {s : Sieve} {type2 : Bool} {b : Nat} {c : Int} {first : Bool} {pp : PP}
    {r12 : Nat × Nat}
    (hinv : pp.divA = true → ∃ v, invMod ((if type2 then 1 else 2) * (b % pp.p)) pp.p = some v) :
    ∃ v, finishRoot s type2 b c first pp r12 = some v := by
  unfold finishRoot
  dsimp only
  split
  · rename_i hdiv
    obtain ⟨v, hv⟩ := hinv hdiv
    rw [hv]
    exact ⟨_, rfl⟩
  · exact ⟨_, rfl⟩

theorem finish_isSome {s : Sieve} {pa : APrep} {pol0 : Poly}
    (hb0 : 0 < pol0.b) (ha0 : pa.a ≠ 0)
    (hdvd : polyM pol0.type2 pa.a ∣ ((pol0.b.toNat * pol0.b.toNat : Nat) : Int) - pol0.n)
    (hinv : ∀ pp ∈ pa.pps, pp.divA = true →
      ∃ v, invMod ((if pol0.type2 then 1 else 2) * (pol0.b.toNat % pp.p)) pp.p = some v)
    (hroot : pa.factors.length ≥ 5 → polyRoot s.nsqrt pol0.type2 pa.a < s.intervalSize / 2)
    (h1 : bitlen pa.a + 2 * bitlen s.intervalSize < 255)
    (h2 : bitlen pol0.b.natAbs + bitlen s.intervalSize < 255)
    (h3 : bitlen pol0.c.natAbs < 255) :
    ∃ pol, finish s pa pol0 = some pol := by
  obtain ⟨rs, hrs⟩ := allSome_isSome (finishRoots s pol0.type2 pol0.b.toNat (finishC pa pol0) pa.pps pol0.rs) (by
    intro x hx
    unfold finishRoots at hx
    obtain ⟨i, hi, rfl⟩ := List.mem_iff_getElem.mp hx
    rw [List.getElem_zipWith, withIdx_getElem]
    exact finishRoot_isSome fun hdiv => hinv _ (List.getElem_mem _) hdiv)
  exact ⟨_, finish_iff.mpr ⟨hb0, ha0, hdvd, rs, hrs, hroot, h1, h2, h3, rfl⟩⟩

/-- what `_finish_polynomial` leaves behind, in terms of its output alone (it changes neither `B`, `n` nor the type):
`B > 0`, the modulus divides `B² − n`, the stored `C` is the wrapped exact quotient, and every table entry went through
`finishRoot` for that `B` and `C` -/
structure Finished (s : Sieve) (pa : APrep) (pol : Poly) : Prop where
  pos : 0 < pol.b
  a0 : pa.a ≠ 0
  quot : polyM pol.type2 pa.a * finishC pa pol = pol.b * pol.b - pol.n
  c : pol.c = wrap256 (finishC pa pol)
  rs : ∀ i (h1 : i < pa.pps.length) (h3 : i < pol.rs.length),
    ∃ r, finishRoot s pol.type2 pol.b.toNat (finishC pa pol) (i == 0) pa.pps[i] r = some pol.rs[i]

theorem finish_finished {s : Sieve} {pa : APrep} {pol0 pol : Poly} (h : finish s pa pol0 = some pol) :
    Finished s pa pol ∧ pol.idx = pol0.idx ∧ pol.type2 = pol0.type2 ∧ pol.a = pol0.a ∧ pol.b = pol0.b ∧
      pol.n = pol0.n := by
  have hget := finish_getElem h
  have hlen := finish_len h
  obtain ⟨hb, ha, hdvd, rs, hrs, _, _, _, _, rfl⟩ := finish_iff.mp h
  refine ⟨⟨hb, ha, ?_, rfl, fun i h1 h3 => ⟨_, hget i h1 (by omega) h3⟩⟩, rfl, rfl, rfl, rfl, rfl⟩
  rw [← Int.toNat_of_nonneg hb.le, ← Nat.cast_mul]
  exact Int.mul_tdiv_cancel' hdvd

theorem finishRoot_keep {s : Sieve} {type2 : Bool} {b : Nat} {c : Int} {first : Bool} {pp : PP}
    {r12 : Nat × Nat} (hdiv : pp.divA = false) (h2 : ¬ (type2 = true ∧ pp.p = 2)) :
    finishRoot s type2 b c first pp r12 = some r12 := by
  unfold finishRoot
  have : (first && type2 && pp.p == 2 && c.natAbs % 2 == 0) = false := by
    by_cases ht : type2 = true
    · have : pp.p ≠ 2 := fun h => h2 ⟨ht, h⟩
      simp [this]
    · simp [ht]
  simp [this, hdiv]

/-- primes dividing A: the single root of the polynomial, which is linear modulo `p` -/
theorem finishRoot_div {s : Sieve} {type2 : Bool} {b : Nat} {c : Int} {first : Bool} {pp : PP}
    {r12 r12' : Nat × Nat} (hprime : Nat.Prime pp.p) (hdiv : pp.divA = true)
    (h : finishRoot s type2 b c first pp r12 = some r12') :
    r12'.1 = r12'.2 ∧ r12'.1 < pp.p ∧
    ((if type2 then 1 else 2 : Nat) * b : ZMod pp.p) * ((r12'.1 : ZMod pp.p) + (s.startOffset : ZMod pp.p))
      + (c : ZMod pp.p) = 0 ∧
    ¬ (pp.p ∣ (if type2 then 1 else 2 : Nat) * b) := by
  unfold finishRoot at h
  simp only [hdiv, if_true] at h
  have hppos : 0 < pp.p := hprime.pos
  split at h
  · cases h
  · rename_i binv hbinv
    obtain ⟨_, hb2, _⟩ := invMod_some hppos hbinv
    obtain ⟨hofflt, hoff⟩ := emod_toNat_spec hppos s.startOffset
    have hbinv1 : (((if type2 = true then 1 else 2) * b : Nat) : ZMod pp.p) * (binv : ZMod pp.p) = 1 :=
      zmod_mul_eq_one ((((Nat.mod_modEq b pp.p).mul_left _).mul_right binv).symm.trans hb2)
    have hnd : ¬ (pp.p ∣ (if type2 = true then 1 else 2) * b) := fun hd =>
      not_dvd_of_zmod_inv hprime (a := (((if type2 = true then 1 else 2) * b : Nat) : Int))
        (by rw [Int.cast_natCast]; exact hbinv1) (Int.natCast_dvd_natCast.mpr hd)
    have hr0z : ((((if c < 0 then c.natAbs % pp.p else pp.p - c.natAbs % pp.p) * binv % pp.p : Nat)) : ZMod pp.p)
        = -(c : ZMod pp.p) * binv := by
      rw [ZMod.natCast_mod, Nat.cast_mul, neg_residue (c := c) hppos (by split <;> simp [*])]
    have hr0lt := Nat.mod_lt ((if c < 0 then c.natAbs % pp.p else pp.p - c.natAbs % pp.p) * binv) hppos
    generalize (if c < 0 then c.natAbs % pp.p else pp.p - c.natAbs % pp.p) * binv % pp.p = r0 at h hr0z hr0lt
    have key : ∀ r : Nat, (r : ZMod pp.p) = (r0 : ZMod pp.p) - (offModp s pp.p : ZMod pp.p) →
        (((if type2 = true then 1 else 2 : Nat) : ZMod pp.p) * b) * ((r : ZMod pp.p) + (s.startOffset : ZMod pp.p))
          + (c : ZMod pp.p) = 0 := by
      intro r hr
      rw [hr, show ((offModp s pp.p : Nat) : ZMod pp.p) = (s.startOffset : ZMod pp.p) from hoff, hr0z]
      push_cast at hbinv1 ⊢
      linear_combination (-(c : ZMod pp.p)) * hbinv1
    have hofflt' : offModp s pp.p < pp.p := hofflt
    injection h with h
    subst h
    refine ⟨rfl, by simp only; split <;> omega, ?_, hnd⟩
    apply key
    simp only
    split
    · rename_i hge; rw [Nat.cast_sub hge]
    · rw [Nat.cast_sub (by omega), Nat.cast_add, ZMod.natCast_self]; ring

theorem prepareA_iff {f : Factors} {a : Nat} {fb : List Prime} {so : Int} {pa : APrep} :
    prepareA f a fb so = some pa ↔ a < 2 ^ 254 ∧ ∃ prs : List (Nat × Nat),
      rootPairs f a (afsOf f a) 0 (afsOf f a) = some prs ∧ a ≠ 0 ∧
      ((a : Int) ∣ ((root0Of f.n (afsOf f a).isEmpty prs * root0Of f.n (afsOf f a).isEmpty prs : Nat) : Int) - f.n) ∧
      ∃ pps, allSome (fb.map (mkPP (a2aOf f.n a) (root0Of f.n (afsOf f a).isEmpty prs)
        (prs.map fun pr => pr.2 - pr.1) so)) = some pps ∧
      pa = { a, factors := (afsOf f a).map (·.2), roots := prs.map fun pr => ((pr.1 : Int), (pr.2 : Int)), pps } := by
  unfold prepareA
  simp only [Option.ite_none_left_eq_some, ge_iff_le, not_le]
  refine and_congr_right fun _ => ?_
  cases rootPairs f a (afsOf f a) 0 (afsOf f a) with
  | none => simp
  | some prs =>
    simp only [Option.ite_none_left_eq_some, Option.some.injEq, exists_eq_left', ne_eq, not_not,
      Int.dvd_iff_emod_eq_zero]
    refine and_congr_right fun _ => and_congr_right fun _ => ?_
    cases allSome (fb.map (mkPP (a2aOf f.n a) (root0Of f.n (afsOf f a).isEmpty prs)
        (prs.map fun pr => pr.2 - pr.1) so)) with
    | none => simp
    | some pps => simp [eq_comm]

theorem prepareA_some {f : Factors} {a : Nat} {fb : List Prime} {so : Int} {pa : APrep}
    (h : prepareA f a fb so = some pa) :
    ∃ prs : List (Nat × Nat),
      rootPairs f a (afsOf f a) 0 (afsOf f a) = some prs ∧
      pa.a = a ∧ a ≠ 0 ∧ a < 2 ^ 254 ∧ pa.factors = (afsOf f a).map (·.2) ∧
      pa.roots = prs.map (fun pr => ((pr.1 : Int), (pr.2 : Int))) ∧
      ((a : Int) ∣ ((root0Of f.n (afsOf f a).isEmpty prs * root0Of f.n (afsOf f a).isEmpty prs : Nat) : Int) - f.n) ∧
      allSome (fb.map (mkPP (a2aOf f.n a) (root0Of f.n (afsOf f a).isEmpty prs)
        (prs.map fun pr => pr.2 - pr.1) so)) = some pa.pps := by
  obtain ⟨h254, prs, hprs, ha0, hdvd, pps, hpps, rfl⟩ := prepareA_iff.mp h
  exact ⟨prs, hprs, rfl, ha0, h254, rfl, rfl, hdvd, hpps⟩

/-- what `prepare_a` provides to the walk: `B0` is the first `B` (the sum of the `r0`; for `A = 1` the constant 0 resp. 1
of `Poly::first`, field `b0'`), `ds[j] = r1ⱼ − r0ⱼ` is the step of `B` when bit `j` of the Gray code flips; it is even
(`ds_even`), so a step keeps the parity of `B` -/
structure Fam (n : Int) (fb : List Prime) (so : Int) (pa : APrep) (B0 : Nat) (ds : List Nat) : Prop where
  len : pa.pps.length = fb.length
  pp : ∀ i (h1 : i < fb.length) (h2 : i < pa.pps.length),
    mkPP (a2aOf n pa.a) B0 ds so fb[i] = some pa.pps[i]
  roots_len : pa.roots.length = ds.length
  roots : ∀ j (h1 : j < pa.roots.length) (h2 : j < ds.length),
    pa.roots[j].2 - pa.roots[j].1 = ((ds[j] : Nat) : Int)
  b0 : pa.factors.isEmpty = false → (pa.roots.map (·.1)).sum = (B0 : Int)
  b0' : pa.factors.isEmpty = true → B0 = if isType2 n then 1 else 0
  ds_even : ∀ j (h : j < ds.length), ds[j] % 2 = 0
  nf : pa.roots.length = pa.factors.length
  bd : ∀ r ∈ pa.roots, 0 ≤ r.1 ∧ r.1 ≤ r.2 ∧ r.2 ≤ 2 * (pa.a : Int)

/-- `rootPair` returns iff `R = (r·inv mod p)·c ≤ A` (the two underflow tests and `debug_assert!(r0 <= r1)` say no
more in either branch), and then `(A − R, A + R)` or `(R, 2A − R)` according to the parity rule -/
theorem rootPair_iff {a i : Nat} {fp : Prime} {c inv : Nat} {pr : Nat × Nat} :
    rootPair a i fp c inv = some pr ↔ fp.p ≠ 0 ∧ fp.r * inv % fp.p * c ≤ a ∧
      pr = if ((fp.r * inv % fp.p * c) % 2 == 1) != (i == 0)
        then (a - fp.r * inv % fp.p * c, a + fp.r * inv % fp.p * c)
        else (fp.r * inv % fp.p * c, 2 * a - fp.r * inv % fp.p * c) := by
  unfold rootPair
  simp only [Option.ite_none_left_eq_some]
  refine and_congr_right fun _ => ?_
  generalize fp.r * inv % fp.p * c = R
  split
  · simp only [Option.ite_none_left_eq_some, Option.some.injEq, not_lt, eq_comm (b := pr)]
  · simp only [Option.ite_none_left_eq_some, Option.ite_none_right_eq_some, Option.some.injEq, not_lt,
      eq_comm (b := pr)]
    constructor
    · rintro ⟨_, _, h⟩; exact ⟨by omega, h⟩
    · rintro ⟨_, h⟩; exact ⟨by omega, by omega, h⟩

theorem rootPairs_eq (f : Factors) (a : Nat) (afs : List (Nat × Prime)) : ∀ (l : List (Nat × Prime)) (i : Nat),
    rootPairs f a afs i l = allSome ((withIdx i l).map fun x =>
      (crtLoop f x.2.1 x.2.2.p afs 1 1).bind fun ci => rootPair a x.1 x.2.2 ci.1 ci.2)
  | [], _ => rfl
  | (idx, fp) :: rest, i => by
    have ih := rootPairs_eq f a afs rest (i + 1)
    simp only [rootPairs, withIdx, List.map_cons, Option.bind_eq_bind]
    cases crtLoop f idx fp.p afs 1 1 with
    | none => rfl
    | some ci =>
      cases h2 : rootPair a i fp ci.1 ci.2 with
      | none => simp only [Option.bind_some, h2, allSome, Option.bind_none]
      | some pr =>
        simp only [Option.bind_some, h2, allSome, ← ih]
        cases rootPairs f a afs (i + 1) rest <;> rfl

theorem rootPairs_getElem {f : Factors} {a : Nat} {afs l : List (Nat × Prime)} {i : Nat} {prs : List (Nat × Nat)}
    (h : rootPairs f a afs i l = some prs) :
    prs.length = l.length ∧ ∀ k (hk : k < l.length) (hk' : k < prs.length), ∃ c inv,
      crtLoop f l[k].1 l[k].2.p afs 1 1 = some (c, inv) ∧ rootPair a (i + k) l[k].2 c inv = some prs[k] := by
  rw [rootPairs_eq] at h
  obtain ⟨hl, hget⟩ := allSome_getElem h
  rw [List.length_map, withIdx_length] at hl
  refine ⟨hl.symm, fun k hk hk' => ?_⟩
  have := hget k (by simpa [withIdx_length] using hk) hk'
  rw [List.getElem_map, withIdx_getElem, Option.bind_eq_some_iff] at this
  obtain ⟨⟨c, inv⟩, h1, h2⟩ := this
  exact ⟨c, inv, h1, h2⟩

theorem rootPairs_le {f : Factors} {a : Nat} {afs : List (Nat × Prime)}
    (l : List (Nat × Prime)) (i : Nat) (prs : List (Nat × Nat)) (h : rootPairs f a afs i l = some prs) :
    prs.length = l.length ∧ ∀ pr ∈ prs, pr.1 ≤ pr.2 ∧ (pr.2 - pr.1) % 2 = 0 ∧ pr.2 ≤ 2 * a := by
  obtain ⟨hl, hget⟩ := rootPairs_getElem h
  refine ⟨hl, fun pr hpr => ?_⟩
  obtain ⟨k, hk, rfl⟩ := List.mem_iff_getElem.mp hpr
  obtain ⟨c, inv, _, h2⟩ := hget k (hl ▸ hk) hk
  obtain ⟨_, hR, e⟩ := rootPair_iff.mp h2
  rw [e]; split <;> simp only <;> omega

theorem sum_fst_cast (prs : List (Nat × Nat)) :
    ((prs.map fun pr => ((pr.1 : Int), (pr.2 : Int))).map (·.1)).sum = (((prs.map (·.1)).sum : Nat) : Int) := by
  induction prs with
  | nil => simp
  | cons x xs ih => simp only [List.map_cons, List.sum_cons, Nat.cast_add, ih]

theorem prepareA_fam {f : Factors} {a : Nat} {fb : List Prime} {so : Int} {pa : APrep}
    (h : prepareA f a fb so = some pa) :
    ∃ B0 ds, Fam f.n fb so pa B0 ds ∧ pa.a = a ∧ a ≠ 0 ∧ a < 2 ^ 254 := by
  obtain ⟨prs, hprs, ha, ha0, ha254, hfac, hroots, _, hpps⟩ := prepareA_some h
  obtain ⟨hlen, hle⟩ := rootPairs_le _ _ _ hprs
  obtain ⟨hl, hget⟩ := allSome_getElem hpps
  -- one bullet per field of `Fam`, in the order of the structure
  refine ⟨root0Of f.n (afsOf f a).isEmpty prs, prs.map (fun pr => pr.2 - pr.1),
    ⟨?_, ?_, ?_, ?_, ?_, ?_, ?_, ?_, ?_⟩, ha, ha0, ha254⟩
  · rw [← hl]; simp
  · intro i h1 h2
    have := hget i (by simp; exact h1) h2
    rw [ha]
    simpa using this
  · rw [hroots]; simp
  · intro j h1 h2
    simp only [hroots, List.getElem_map]
    have hj : j < prs.length := by rw [hroots] at h1; simpa using h1
    have := (hle prs[j] (List.getElem_mem hj)).1
    push_cast [Nat.cast_sub this]
    rfl
  · intro hne
    rw [hfac] at hne
    have hne' : (afsOf f a).isEmpty = false := by simpa using hne
    unfold root0Of
    rw [hne', hroots]
    simp only [Bool.false_and, Bool.false_eq_true, if_false]
    exact sum_fst_cast prs
  · intro he
    rw [hfac] at he
    have he' : (afsOf f a).isEmpty = true := by simpa using he
    have hnil : afsOf f a = [] := List.isEmpty_iff.mp he'
    rw [hnil] at hprs
    simp only [rootPairs, Option.some.injEq] at hprs
    subst hprs
    unfold root0Of
    rw [hnil]
    simp
  · intro j hj
    have hj' : j < prs.length := by simpa using hj
    simp only [List.getElem_map]
    exact (hle prs[j] (List.getElem_mem hj')).2.1
  · rw [hroots, hfac]; simp [hlen]
  · intro r hr
    rw [hroots] at hr
    obtain ⟨x, hx, rfl⟩ := List.mem_map.mp hr
    obtain ⟨h1, _, h2⟩ := hle x hx
    rw [ha]
    show (0 : Int) ≤ (x.1 : Int) ∧ (x.1 : Int) ≤ x.2 ∧ (x.2 : Int) ≤ 2 * a
    exact ⟨by positivity, by exact_mod_cast h1, by exact_mod_cast h2⟩

/-- the invariant of the whole table: every prime of the factor base that does not divide `a2a`
satisfies `RootInv` for the current `B` -/
def WalkInv (n : Int) (fb : List Prime) (pa : APrep) (so : Int) (pol : Poly) : Prop :=
  pol.rs.length = fb.length ∧ pol.type2 = isType2 n ∧ pol.n = n ∧
  (isType2 n = true → pol.b % 2 = 1) ∧
  ∀ i (h : i < fb.length) (h' : i < pol.rs.length), Nat.Prime fb[i].p → fb[i].p < 2 ^ 31 →
    a2aOf n pa.a % fb[i].p ≠ 0 → RootInv (a2aOf n pa.a) so fb[i] pol.b pol.rs[i]

theorem a2a_type2_two {n : Int} {a p : Nat} (h : a2aOf n a % p ≠ 0) : ¬ (isType2 n = true ∧ p = 2) := by
  rintro ⟨ht, rfl⟩
  apply h
  unfold a2aOf; rw [if_pos ht]; omega

/-- `_finish_polynomial` keeps the invariant: it only touches the entries of the primes dividing `a2a` -/
theorem finish_walk {n : Int} {fb : List Prime} {so : Int} {pa : APrep} {B0 : Nat} {ds : List Nat}
    {s : Sieve} {pol0 pol : Poly} (fam : Fam n fb so pa B0 ds) (hso : SoOk so)
    (hinv : WalkInv n fb pa so pol0) (h : finish s pa pol0 = some pol) :
    WalkInv n fb pa so pol := by
  obtain ⟨hlen, ht, hn, hodd, hroot⟩ := hinv
  have hlen' : pol.rs.length = fb.length := by rw [finish_len h, fam.len, hlen, Nat.min_self]
  obtain ⟨_, _, _, rs, _, _, _, _, _, hpol⟩ := finish_iff.mp h
  refine ⟨hlen', hpol ▸ ht, hpol ▸ hn, hpol ▸ hodd, ?_⟩
  intro i h1 h2 hprime hp31 hnd
  have hi0 : i < pol0.rs.length := by omega
  have hipp : i < pa.pps.length := by rw [fam.len]; exact h1
  have ok := mkPP_ok hprime hnd hso (fam.pp i h1 hipp)
  have hfin := finish_getElem h i hipp hi0 h2
  rw [finishRoot_keep ok.hdiv (by rw [ht, ok.hp]; exact a2a_type2_two hnd)] at hfin
  rw [← Option.some.inj hfin, show pol.b = pol0.b by rw [hpol]]
  exact hroot i h1 hi0 hprime hp31 hnd

theorem unitFix_cons (typ : Bool) (pps : List PP) (r : Nat × Nat) (rest : List (Nat × Nat)) :
    unitFix typ pps (r :: rest)
      = (if typ = true ∧ pps.head?.map (·.p) = some 2 then (r.1, r.1 + 1) else r) :: rest := by
  obtain ⟨r1, r2⟩ := r
  cases pps with
  | nil => simp [unitFix]
  | cons pp _ => by_cases h2 : pp.p = 2 <;> cases typ <;> simp [unitFix, h2]

theorem unitFix_spec (typ : Bool) (pps : List PP) :
    (unitFix typ pps (pps.map firstRoots)).length = pps.length ∧
    (∀ i (h1 : i < (unitFix typ pps (pps.map firstRoots)).length) (h2 : i < pps.length),
      pps[i].p ≠ 2 ∨ typ = false → (unitFix typ pps (pps.map firstRoots))[i] = firstRoots pps[i]) := by
  cases pps with
  | nil => simp [unitFix]
  | cons pp rest =>
    simp only [List.map_cons, unitFix_cons, List.head?_cons, Option.map_some, Option.some.injEq]
    refine ⟨by simp, fun i h1 h2 hor => ?_⟩
    cases i with
    | zero =>
      rw [List.getElem_cons_zero, if_neg]
      · rfl
      · rintro ⟨ht, hp⟩
        rcases hor with hor | hor
        · exact hor hp
        · rw [ht] at hor; cases hor
    | succ i => simp

/-- the polynomial that `Poly::first` hands to `_finish_polynomial` (families with at least one factor) -/
def firstPre (s : Sieve) (pa : APrep) : Poly :=
  { idx := 0, type2 := isType2 s.n, a := (pa.a : Int), b := (pa.roots.map (·.1)).sum, c := 0, root := 0,
    rs := pa.pps.map firstRoots, n := s.n }

theorem first_iff {s : Sieve} {pa : APrep} {pol : Poly} (hne : pa.factors.isEmpty = false) :
    first s pa = some pol ↔
      chk256 (firstPre s pa).b = some (firstPre s pa).b ∧
      (isType2 s.n = true → (firstPre s pa).b % 2 = 1) ∧ finish s pa (firstPre s pa) = some pol := by
  unfold first firstPre
  simp only [hne, Bool.false_eq_true, if_false]
  rcases chk256_cases ((pa.roots.map (·.1)).sum) with h1 | h1 <;>
    simp only [h1, reduceCtorEq, false_and, true_and, Option.ite_none_left_eq_some, not_and, not_not]

theorem first_unit {s : Sieve} {pa : APrep} {pol : Poly} (h : first s pa = some pol)
    (he : pa.factors.isEmpty = true) :
    bitlen s.n.natAbs < 128 ∧ pol.idx = 0 ∧ pol.a = 1 ∧ pol.type2 = isType2 s.n ∧ pol.n = s.n ∧
    pol.rs = unitFix (isType2 s.n) pa.pps (pa.pps.map firstRoots) ∧
    (isType2 s.n = false → pol.b = 0 ∧ pol.c = -(wrap256 s.n)) ∧
    (isType2 s.n = true → pol.b = 1 ∧ pol.c = (1 - wrap256 s.n) / 4) := by
  unfold first at h
  simp only [he, if_true, Option.ite_none_left_eq_some, not_not] at h
  obtain ⟨hbits, h⟩ := h
  cases ht : isType2 s.n <;> simp only [ht, Bool.false_eq_true, not_false_eq_true, not_true_eq_false, if_true,
    if_false, Option.some.injEq] at h <;> subst h
  · exact ⟨hbits, rfl, rfl, rfl, rfl, rfl, fun _ => ⟨rfl, rfl⟩, fun h2 => Bool.noConfusion h2⟩
  · exact ⟨hbits, rfl, rfl, rfl, rfl, rfl, fun h2 => Bool.noConfusion h2, fun _ => ⟨rfl, rfl⟩⟩

theorem first_walk {n : Int} {fb : List Prime} {mm : Nat} {pa : APrep} {B0 : Nat} {ds : List Nat}
    {pol : Poly} (fam : Fam n fb (mkSieve n mm).startOffset pa B0 ds) (hso : SoOk (mkSieve n mm).startOffset)
    (h : first (mkSieve n mm) pa = some pol) :
    WalkInv n fb pa (mkSieve n mm).startOffset pol ∧ pol.idx = 0 := by
  -- the invariant for a table that agrees with `firstRoots` off the prime 2 of type 2
  have key : ∀ (pol0 : Poly), pol0.b = (B0 : Int) → pol0.type2 = isType2 n → pol0.n = n →
      (isType2 n = true → pol0.b % 2 = 1) → pol0.rs.length = pa.pps.length →
      (∀ i (h1 : i < pol0.rs.length) (h2 : i < pa.pps.length), pa.pps[i].p ≠ 2 ∨ isType2 n = false →
        pol0.rs[i] = firstRoots pa.pps[i]) →
      WalkInv n fb pa (mkSieve n mm).startOffset pol0 := by
    intro pol0 hb ht hn hodd hl hrs
    refine ⟨by rw [hl, fam.len], ht, hn, hodd, ?_⟩
    intro i h1 h2 hprime hp31 hnd
    have hipp : i < pa.pps.length := by rw [fam.len]; exact h1
    have ok := mkPP_ok hprime hnd hso (fam.pp i h1 hipp)
    have h2' := a2a_type2_two hnd
    have : pa.pps[i].p ≠ 2 ∨ isType2 n = false := by
      rw [ok.hp]
      by_cases ht : isType2 n = true
      · left; intro hp2; exact h2' ⟨ht, hp2⟩
      · right; simpa using ht
    rw [hrs i h2 hipp this, hb]
    exact first_inv hprime.pos ok
  by_cases hempty : pa.factors.isEmpty = true
  · -- A = 1
    obtain ⟨hl, hr⟩ := unitFix_spec (isType2 n) pa.pps
    obtain ⟨_, hidx, _, ht, hn, hrs, h1, h2⟩ := first_unit h hempty
    have hb : pol.b = (B0 : Int) ∧ (isType2 n = true → pol.b % 2 = 1) := by
      rw [fam.b0' hempty]
      cases htt : isType2 n
      · exact ⟨(h1 htt).1, fun h => Bool.noConfusion h⟩
      · exact ⟨(h2 htt).1, fun _ => by rw [(h2 htt).1]; rfl⟩
    exact ⟨key pol hb.1 ht hn hb.2 (by rw [hrs]; exact hl) (by rw [hrs]; exact hr), hidx⟩
  · have hne : pa.factors.isEmpty = false := by simpa using hempty
    obtain ⟨hb, hodd, hfin⟩ := (first_iff hne).mp h
    have hw := finish_walk fam hso
      (key (firstPre (mkSieve n mm) pa) (fam.b0 hne) rfl rfl hodd (by simp [firstPre])
        (fun i h1 h2 _ => by simp [firstPre])) hfin
    obtain ⟨_, _, _, _, _, _, _, _, _, rfl⟩ := finish_iff.mp hfin
    exact ⟨hw, rfl⟩

/-- the bit in which the Gray codes of `i` and `i + 1` differ, as `Poly::next` computes it -/
def flipBit (i : Nat) : Nat := tz64 ((i ^^^ i >>> 1) ^^^ (i + 1 ^^^ (i + 1) >>> 1))

/-- that bit goes from 0 to 1 -/
def flipUp (i : Nat) : Bool := ((i ^^^ i >>> 1) >>> flipBit i) % 2 == 0

/-- the polynomial that `Poly::next` hands to `_finish_polynomial`: next index, `B ± (r1 − r0)` for the pair
`(r0, r1)` of the flipped bit, every table entry stepped by the delta of that bit -/
def nextPre (pa : APrep) (pol : Poly) (r0 r1 : Int) : Poly :=
  { pol with
    idx := pol.idx + 1
    b := if flipUp pol.idx then pol.b + r1 - r0 else pol.b + r0 - r1
    rs := List.zipWith (fun (pp : PP) (r : Nat × Nat) =>
      if flipUp pol.idx then
        (stepUp pp.p (pp.deltas.getD (flipBit pol.idx) 0) r.1, stepUp pp.p (pp.deltas.getD (flipBit pol.idx) 0) r.2)
      else
        (stepDown pp.p (pp.deltas.getD (flipBit pol.idx) 0) r.1,
          stepDown pp.p (pp.deltas.getD (flipBit pol.idx) 0) r.2)) pa.pps pol.rs }

/-- the Gray-code assertion and the shift amount of `Poly::next` never fail (`gray_step_aux`): they do not appear -/
theorem next_iff {s : Sieve} {pa : APrep} {pol pol' : Poly} :
    next s pa pol = some pol' ↔
    pol.idx + 1 < 2 ^ 64 ∧ ∃ r0 r1, pa.roots[flipBit pol.idx]? = some (r0, r1) ∧
      chk256 (pol.b + if flipUp pol.idx then r1 else r0) = some (pol.b + if flipUp pol.idx then r1 else r0) ∧
      chk256 (nextPre pa pol r0 r1).b = some (nextPre pa pol r0 r1).b ∧
      (flipUp pol.idx = false → pol.type2 = true → (nextPre pa pol r0 r1).b % 2 = 1) ∧
      finish s pa (nextPre pa pol r0 r1) = some pol' := by
  unfold next
  simp only [Option.ite_none_left_eq_some, ge_iff_le, not_le, nextPre, flipUp, flipBit, beq_iff_eq,
    beq_eq_false_iff_ne, ne_eq]
  refine and_congr_right fun h64 => ?_
  obtain ⟨_, hlt, hng, _⟩ := gray_step_aux pol.idx h64
  rw [and_iff_right hlt, and_iff_right (not_not.mpr hng)]
  cases pa.roots[tz64 ((pol.idx ^^^ pol.idx >>> 1) ^^^ (pol.idx + 1 ^^^ (pol.idx + 1) >>> 1))]? with
  | none => simp
  | some r =>
    obtain ⟨r0, r1⟩ := r
    simp only [Option.some.injEq, Prod.mk.injEq, ↓existsAndEq, true_and]
    split
    · rename_i hup
      rcases chk256_cases (pol.b + r1) with h1 | h1 <;> simp only [h1, reduceCtorEq, false_and, true_and]
      rcases chk256_cases (pol.b + r1 - r0) with h2 | h2 <;>
        simp only [h2, hup, reduceCtorEq, false_and, true_and, not_true_eq_false, false_imp_iff]
    · rename_i hup
      rcases chk256_cases (pol.b + r0) with h1 | h1 <;> simp only [h1, reduceCtorEq, false_and, true_and]
      rcases chk256_cases (pol.b + r0 - r1) with h2 | h2 <;>
        simp only [h2, hup, reduceCtorEq, false_and, true_and, Option.ite_none_left_eq_some, not_and, not_not,
          not_false_eq_true, true_imp_iff]

theorem next_walk {n : Int} {fb : List Prime} {so : Int} {pa : APrep} {B0 : Nat} {ds : List Nat}
    {s : Sieve} {pol pol' : Poly} (fam : Fam n fb so pa B0 ds) (hso : SoOk so)
    (hinv : WalkInv n fb pa so pol) (h : next s pa pol = some pol') :
    WalkInv n fb pa so pol' ∧ pol'.idx = pol.idx + 1 := by
  obtain ⟨hlen, ht, hn, hodd, hroot⟩ := hinv
  obtain ⟨_, r0, r1, hroots, _, _, hoddb, hfin⟩ := next_iff.mp h
  have hbr : flipBit pol.idx < pa.roots.length := (List.getElem?_eq_some_iff.mp hroots).1
  have hbd : flipBit pol.idx < ds.length := by rw [← fam.roots_len]; exact hbr
  have hd : r1 - r0 = ((ds[flipBit pol.idx] : Nat) : Int) := by
    have := fam.roots _ hbr hbd
    rwa [(List.getElem?_eq_some_iff.mp hroots).2] at this
  have hev := fam.ds_even _ hbd
  have hw : WalkInv n fb pa so (nextPre pa pol r0 r1) := by
    refine ⟨by simp [nextPre, fam.len, hlen], ht, hn, ?_, ?_⟩
    · intro htyp
      have := hodd htyp
      show (if flipUp pol.idx then pol.b + r1 - r0 else pol.b + r0 - r1) % 2 = 1
      split <;> omega
    intro i h1 h2 hprime hp31 hnd
    have hipp : i < pa.pps.length := by rw [fam.len]; exact h1
    have hirs : i < pol.rs.length := by rw [hlen]; exact h1
    have ok := mkPP_ok hprime hnd hso (fam.pp i h1 hipp)
    have inv := hroot i h1 hirs hprime hp31 hnd
    simp only [nextPre, List.getElem_zipWith]
    by_cases hup : flipUp pol.idx = true
    · rw [if_pos hup, if_pos hup, show pol.b + r1 - r0 = pol.b + ((ds[flipBit pol.idx] : Nat) : Int) by
        rw [← hd]; ring]
      exact up_inv hp31 ok inv _ hbd
    · rw [if_neg hup, if_neg hup, show pol.b + r0 - r1 = pol.b - ((ds[flipBit pol.idx] : Nat) : Int) by
        rw [← hd]; ring]
      exact down_inv hp31 ok inv _ hbd
  obtain ⟨_, _, _, _, _, _, _, _, _, hpol'⟩ := finish_iff.mp hfin
  exact ⟨finish_walk fam hso hw hfin, by rw [hpol']; rfl⟩

theorem polyAt_ind {s : Sieve} {pa : APrep} {P : Nat → Poly → Prop}
    (h0 : ∀ pol, first s pa = some pol → P 0 pol)
    (hs : ∀ i pol pol', P i pol → next s pa pol = some pol' → P (i + 1) pol') :
    ∀ idx pol, polyAt s pa idx = some pol → P idx pol
  | 0, pol, h => h0 pol h
  | i + 1, pol, h => by
    simp only [polyAt] at h
    split at h
    · cases h
    · exact hs i _ pol (polyAt_ind h0 hs i _ ‹_›) h

theorem polyAt_walk {n : Int} {fb : List Prime} {mm : Nat} {pa : APrep} {B0 : Nat} {ds : List Nat}
    (fam : Fam n fb (mkSieve n mm).startOffset pa B0 ds) (hso : SoOk (mkSieve n mm).startOffset) :
    ∀ (idx : Nat) (pol : Poly), polyAt (mkSieve n mm) pa idx = some pol →
      WalkInv n fb pa (mkSieve n mm).startOffset pol ∧ pol.idx = idx :=
  polyAt_ind (fun _ h => first_walk fam hso h) fun i _ _ hp h =>
    (next_walk fam hso hp.1 h).imp_right fun hidx => by rw [hidx, hp.2]

end Ymq.PolySiqs
