/-
The permutation-sign loop of `GFpEchelonBuilder::det` (src/matrix/intdense.rs): the number of swaps
counted by the cycle walk has the parity of the permutation (`Equiv.Perm.sign`).
Model: `Ymq.IntMat.cycleWalk` / `permSwaps` in Ymq/Model/IntMat.lean.
-/
import Ymq.Model.IntMat
import Mathlib.GroupTheory.Perm.Sign

namespace Ymq.IntMat

variable {n : Nat}

/-- the index vector of a permutation of `0..n-1` -/
def permList (τ : Equiv.Perm (Fin n)) : List Nat := List.ofFn (fun k : Fin n => (τ k : Nat))

theorem permList_length (τ : Equiv.Perm (Fin n)) : (permList τ).length = n := by
  simp [permList]

theorem permList_getElem? (τ : Equiv.Perm (Fin n)) (i : Nat) (hi : i < n) :
    (permList τ)[i]? = some ((τ ⟨i, hi⟩ : Fin n) : Nat) := by
  simp [permList, List.getElem?_ofFn, hi]

theorem permList_one (n : Nat) : permList (1 : Equiv.Perm (Fin n)) = List.range n := by
  apply List.ext_getElem
  · simp [permList]
  · intro k h1 h2
    simp [permList]

theorem mem_permList (σ : Equiv.Perm (Fin n)) (i : Nat) (hi : i < n) : i ∈ permList σ := by
  unfold permList
  rw [List.mem_ofFn]
  exact ⟨σ.symm ⟨i, hi⟩, by simp⟩

/-- `indices.iter().position(|&j| j == i)` finds the preimage of `i` -/
theorem permList_idxOf (σ : Equiv.Perm (Fin n)) {i pos : Nat} (h : (permList σ).idxOf? i = some pos) :
    ∃ hpos : pos < n, ((σ ⟨pos, hpos⟩ : Fin n) : Nat) = i := by
  rw [List.idxOf?_eq_some_iff] at h
  obtain ⟨hposl, hposv, _⟩ := h
  have hposn : pos < n := by rwa [permList_length] at hposl
  have := permList_getElem? σ pos hposn
  rw [List.getElem?_eq_getElem hposl, hposv] at this
  exact ⟨hposn, (Option.some.inj this).symm⟩

/-- `ind.swap(i, j)` composes the permutation with the transposition `(i j)` -/
theorem swapIdx_permList (τ : Equiv.Perm (Fin n)) (i j : Fin n) :
    swapIdx (permList τ) i j = some (permList (τ * Equiv.swap i j)) := by
  unfold swapIdx
  rw [permList_getElem? τ i i.2, permList_getElem? τ j j.2]
  simp only [Fin.eta]
  congr 1
  apply List.ext_getElem
  · simp [permList]
  · intro k h1 h2
    have hk : k < n := by simpa [permList] using h2
    simp only [permList, List.getElem_set, List.getElem_ofFn, Equiv.Perm.coe_mul, Function.comp_apply]
    by_cases hkj : (j : Nat) = k
    · have : (⟨k, hk⟩ : Fin n) = j := Fin.ext hkj.symm
      simp [hkj, this]
    · by_cases hki : (i : Nat) = k
      · have : (⟨k, hk⟩ : Fin n) = i := Fin.ext hki.symm
        simp [hkj, hki, this]
      · have h1 : (⟨k, hk⟩ : Fin n) ≠ i := fun h => hki (by rw [← h])
        have h2 : (⟨k, hk⟩ : Fin n) ≠ j := fun h => hkj (by rw [← h])
        simp [hkj, hki, Equiv.swap_apply_of_ne_of_ne h1 h2]

/-- one swap of the cycle walk fixes the point `j = τ i` and moves nothing new: Mathlib's
`card_support_swap_mul` read for the inverse, `(τ * swap i (τ i))⁻¹ = swap x (f x) * f` with `f = τ⁻¹`, `x = τ i` -/
theorem card_support_mul_swap_lt (τ : Equiv.Perm (Fin n)) (i : Fin n) (h : τ i ≠ i) :
    (τ * Equiv.swap i (τ i)).support.card < τ.support.card := by
  have := Equiv.Perm.card_support_swap_mul (f := τ⁻¹) (x := τ i) (by simpa using h.symm)
  have e : Equiv.swap (τ i) (τ⁻¹ (τ i)) * τ⁻¹ = (τ * Equiv.swap i (τ i))⁻¹ := by
    simp [Equiv.swap_comm]
  rwa [e, Equiv.Perm.support_inv, Equiv.Perm.support_inv] at this

/-- the walk with state `(i, τ, swaps)`: `τ` fixes every point below `i`; at a fixed point `i` advances, otherwise
`ind.swap(i, ind[i])` replaces `τ` by `τ * swap i (τ i)`, which flips the sign, counts one swap and moves fewer
points; so `(n - i) + #support + 1` steps of fuel are enough and `(-1)^swaps * sign τ` never changes -/
theorem cycleWalk_spec : ∀ (fuel i : Nat) (τ : Equiv.Perm (Fin n)) (swaps : Nat), i ≤ n →
    (∀ k : Fin n, (k : Nat) < i → τ k = k) → (n - i) + τ.support.card + 1 ≤ fuel →
    ∃ r, cycleWalk fuel i (permList τ) swaps = some r ∧
      (-1 : ℤˣ) ^ r = (-1 : ℤˣ) ^ swaps * Equiv.Perm.sign τ
  | 0, _, _, _, _, _, hf => by omega
  | fuel + 1, i, τ, swaps, hi, hfix, hf => by
    unfold cycleWalk
    rw [permList_length]
    by_cases hin : n ≤ i
    · rw [if_pos hin]
      have hτ : τ = 1 := by
        ext k
        have := hfix k (by omega)
        simp [this]
      exact ⟨swaps, rfl, by simp [hτ]⟩
    · rw [if_neg hin]
      have hi' : i < n := by omega
      rw [permList_getElem? τ i hi']
      simp only []
      by_cases hj : ((τ ⟨i, hi'⟩ : Fin n) : Nat) = i
      · rw [if_pos hj]
        have hfixi : τ ⟨i, hi'⟩ = ⟨i, hi'⟩ := Fin.ext hj
        apply cycleWalk_spec fuel (i + 1) τ swaps (by omega)
        · intro k hk
          by_cases hki : (k : Nat) = i
          · have : k = ⟨i, hi'⟩ := Fin.ext hki
            rw [this]; exact hfixi
          · exact hfix k (by omega)
        · omega
      · rw [if_neg hj]
        have hne : τ ⟨i, hi'⟩ ≠ ⟨i, hi'⟩ := fun h => hj (by rw [h])
        have hsw := swapIdx_permList τ ⟨i, hi'⟩ (τ ⟨i, hi'⟩)
        simp only [] at hsw
        rw [hsw]
        simp only []
        have hlt := card_support_mul_swap_lt τ ⟨i, hi'⟩ hne
        obtain ⟨r, hr1, hr2⟩ := cycleWalk_spec fuel i (τ * Equiv.swap ⟨i, hi'⟩ (τ ⟨i, hi'⟩)) (swaps + 1) hi
          (by
            intro k hk
            have hk1 : k ≠ ⟨i, hi'⟩ := fun h => by rw [h] at hk; simp at hk
            have hk2 : k ≠ τ ⟨i, hi'⟩ := by
              intro h
              have : τ k = τ ⟨i, hi'⟩ := by rw [hfix k hk]; exact h
              exact hk1 (τ.injective this)
            simp [Equiv.swap_apply_of_ne_of_ne hk1 hk2, hfix k hk])
          (by omega)
        refine ⟨r, hr1, ?_⟩
        rw [hr2, Equiv.Perm.sign_mul, Equiv.Perm.sign_swap (Ne.symm hne), pow_succ]
        simp [mul_comm, mul_left_comm]

theorem permSwaps_permList (σ : Equiv.Perm (Fin n)) :
    ∃ k, permSwaps (permList σ) = some k ∧ (-1 : ℤˣ) ^ k = Equiv.Perm.sign σ := by
  unfold permSwaps
  rw [permList_length]
  have hle : σ.support.card ≤ n := by simpa using Finset.card_le_univ σ.support
  obtain ⟨r, h1, h2⟩ := cycleWalk_spec (2 * n + 1) 0 σ 0 (Nat.zero_le _)
    (fun k hk => absurd hk (Nat.not_lt_zero _)) (by omega)
  exact ⟨r, h1, by simpa using h2⟩

end Ymq.IntMat
