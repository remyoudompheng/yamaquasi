/-
C13 helper lemmas: bucket contents of `SieveTable` and `SieveTableLarge`. One `add` appends its entry to the bucket of
the offset or counts an overflow (`readBucket_push` for both tables); after a sequence of adds every bucket shows its
old entries followed by a SUBLIST of the adds made to it (in order), and exactly those adds when the overflow counter
did not move (`BStore.fold`); a bucket that was unreadable stays so. `BStore` is what the two tables have in common for
this purpose. For a table filled from a fresh one (`Fresh`) this says what any bucket read back contains (`read_filled`).
SieveTable has the same `add` at the level of membership (`InB`, `Table.Has`, `Store`): that view also covers the overflow
slots, which `smooths` searches and `sieve_block` does not read, and counts what is lost (`Store.dropped = nOverflows - 32`),
where this one needs order and multiplicity of what the buckets show (`BStore.cnt = nOverflows`: any overflow).
-/
import Ymq.Lemmas.SieveState
import Ymq.Lemmas.Loops

namespace Ymq.Sieve

theorem mapM_congr_mem {α β} (g g' : α → Option β) : ∀ (L : List α), (∀ i ∈ L, g i = g' i) → L.mapM g = L.mapM g' :=
  fun _ h => Option.ext fun _ => by rw [Loops.mapM_eq_some_iff, Loops.mapM_eq_some_iff, List.map_congr_left h]

/-- the visible part of bucket `b` of a bucket store with `C` slots per bucket (`Table.bucket`, `LTable.bucket`). -/
def readBucket {α} (lens : Array Nat) (store : Array α) (C b : Nat) : Option (List α) :=
  match lens[b]? with
  | none => none
  | some len => (List.range' (b * C) len).mapM fun e => store[e]?

theorem readBucket_push {α} {lens : Array Nat} {store : Array α} {C b0 len : Nat} (e : α)
    (hle : ∀ (b v : Nat), lens[b]? = some v → v ≤ C) (hlen : lens[b0]? = some len) (hroom : len < C)
    (hidx : b0 * C + len < store.size) {b : Nat} {bk : List α} (hb : readBucket lens store C b = some bk) :
    readBucket (lens.setIfInBounds b0 (len + 1)) (store.setIfInBounds (b0 * C + len) e) C b =
      some (if b = b0 then bk ++ [e] else bk) := by
  have hb_lt : b0 < lens.size := (Array.getElem?_eq_some_iff.1 hlen).1
  unfold readBucket at hb ⊢
  by_cases hq : b = b0
  · subst hq
    rw [hlen] at hb
    simp only at hb
    have eb : (lens.setIfInBounds b (len + 1))[b]? = some (len + 1) := by
      simp [hb_lt]
    rw [eb]
    simp only
    rw [List.range'_concat, List.mapM_append]
    have e1 : (List.range' (b * C) len).mapM (fun i => (store.setIfInBounds (b * C + len) e)[i]?) = some bk := by
      rw [← hb]
      apply mapM_congr_mem
      intro i hi
      have := List.mem_range'_1.1 hi
      rw [Array.getElem?_setIfInBounds_ne (by omega)]
    rw [e1]
    have e2 : (store.setIfInBounds (b * C + len) e)[b * C + len]? = some e := by
      rw [Array.getElem?_setIfInBounds]; simp [hidx]
    simp [e2]
  · rw [Array.getElem?_setIfInBounds_ne (fun e => hq e.symm)]
    cases hbb : lens[b]? with
    | none => rw [hbb] at hb; simp at hb
    | some bl =>
      rw [hbb] at hb
      simp only at hb ⊢
      have hblC := hle b bl hbb
      rw [if_neg hq, ← hb]
      apply mapM_congr_mem
      intro i hi
      have := List.mem_range'_1.1 hi
      have hne : b0 * C + len ≠ i := by
        have := slot_ne (j := i - b * C) hq (by omega) hroom
        omega
      rw [Array.getElem?_setIfInBounds_ne hne]

theorem readBucket_isSome {α} {lens : Array Nat} {store : Array α} {C b : Nat} :
    (∃ bk, readBucket lens store C b = some bk) ↔
      ∃ len, lens[b]? = some len ∧ ∀ j, j < len → b * C + j < store.size := by
  unfold readBucket
  cases hl : lens[b]? with
  | none => simp
  | some len =>
    simp only [Option.some.injEq, exists_eq_left']
    constructor
    · rintro ⟨bk, hbk⟩ j hj
      obtain ⟨hlen, hget⟩ := Loops.mapM_getElem hbk
      rw [List.length_range'] at hlen
      have := hget j (by rw [List.length_range']; exact hj) (by rw [hlen]; exact hj)
      rw [List.getElem_range', Nat.one_mul] at this
      exact (Array.getElem?_eq_some_iff.1 this).1
    · intro h
      obtain ⟨bk, hbk, _⟩ := Loops.mapM_total (fun e => store[e]?) (fun _ _ => True) (List.range' (b * C) len) fun i hi => by
        have hm := List.mem_range'_1.1 hi
        have := h (i - b * C) (by omega)
        exact ⟨store[i]'(by omega), Array.getElem?_eq_getElem _, trivial⟩
      exact ⟨bk, hbk⟩

theorem readBucket_unpush {α} {lens : Array Nat} {store : Array α} {C b0 len : Nat} (e : α)
    (hlen : lens[b0]? = some len) {b : Nat} {bk' : List α}
    (h : readBucket (lens.setIfInBounds b0 (len + 1)) (store.setIfInBounds (b0 * C + len) e) C b = some bk') :
    ∃ bk, readBucket lens store C b = some bk := by
  obtain ⟨l', hl', hin⟩ := readBucket_isSome.1 ⟨bk', h⟩
  rw [Array.size_setIfInBounds] at hin
  refine readBucket_isSome.2 ?_
  by_cases hq : b = b0
  · subst hq
    exact ⟨len, hlen, fun j hj => hin j (by
      have hb := (Array.getElem?_eq_some_iff.1 hlen).1
      simp [hb] at hl'
      omega)⟩
  · rw [Array.getElem?_setIfInBounds_ne (fun e => hq e.symm)] at hl'
    exact ⟨l', hl', hin⟩

theorem Table.add_bucket {t t' : Table} {off pidx : Nat} (hwf : t.WF) (h : t.add off pidx = some t') :
    (t'.nOverflows = t.nOverflows ∧ (∀ b bk, t.bucket b = some bk →
        t'.bucket b = some (if b = off / 256 then bk ++ [(off % 256, pidx % 256)] else bk)) ∧
      ∀ b bk', t'.bucket b = some bk' → ∃ bk, t.bucket b = some bk) ∨
    (t'.nOverflows = t.nOverflows + 1 ∧ ∀ b, t'.bucket b = t.bucket b) := by
  obtain ⟨entries, blens, ovs, nOv⟩ := t
  obtain ⟨hle, hsz⟩ := hwf
  simp only at hle hsz
  unfold Table.add at h
  simp only [BUCKET_WIDTH, BUCKET_SIZE] at h
  split at h
  · simp at h
  split at h
  · simp at h
  rename_i blen hbl
  by_cases hroom : blen < 32
  · simp only [hroom, if_true] at h
    by_cases hidx : off / 256 * 32 + blen < entries.size
    · simp only [hidx, if_true, Option.some.injEq] at h
      subst h
      refine Or.inl ⟨rfl, fun b bk hb => ?_, fun b bk' hb => readBucket_unpush _ hbl hb⟩
      rw [Nat.mod_mod]
      exact readBucket_push _ hle hbl hroom hidx hb
    · simp [hidx] at h
  · simp only [hroom, if_false, Option.some.injEq] at h
    subst h
    exact Or.inr ⟨rfl, fun b => rfl⟩

theorem LTable.add_bucket {t t' : LTable} {off pidx : Nat} (hwf : t.WF) (h : t.add off pidx = some t') :
    (t'.overflows.size = t.overflows.size ∧ (∀ b bk, t.bucket b = some bk →
        t'.bucket b = some (if b = off / 16384 then bk ++ [(off % BLOCK % 65536, pidx % 65536)] else bk)) ∧
      ∀ b bk', t'.bucket b = some bk' → ∃ bk, t.bucket b = some bk) ∨
      (t'.overflows.size = t.overflows.size + 1 ∧ ∀ b, t'.bucket b = t.bucket b) := by
  obtain ⟨hits, lengths, ovs⟩ := t
  unfold LTable.WF at hwf
  simp only at hwf
  unfold LTable.add at h
  simp only [LBW, LBS] at h
  split at h
  · simp at h
  split at h
  · simp at h
  rename_i l hbl
  by_cases hroom : l < 1024
  · simp only [hroom, if_true] at h
    by_cases hidx : off / 16384 * 1024 + l < hits.size
    · simp only [hidx, if_true, Option.some.injEq] at h
      subst h
      exact Or.inl ⟨rfl, fun b bk hb => readBucket_push _ hwf hbl hroom hidx hb,
        fun b bk' hb => readBucket_unpush _ hbl hb⟩
    · simp [hidx] at h
  · simp only [hroom, if_false, Option.some.injEq] at h
    subst h
    exact Or.inr ⟨by simp, fun b => rfl⟩

theorem bucket_nil_of_lens {t : Table} (h : ∀ (b v : Nat), t.blens[b]? = some v → v = 0) {b : Nat}
    {bk : List (Nat × Nat)} (hb : t.bucket b = some bk) : bk = [] := by
  unfold Table.bucket at hb
  cases hl : t.blens[b]? with
  | none => rw [hl] at hb; simp at hb
  | some v => rw [hl, h b v hl] at hb; simpa using hb.symm

theorem lbucket_nil_of_lens {t : LTable} (h : ∀ (b v : Nat), t.lengths[b]? = some v → v = 0) {b : Nat}
    {bk : List (Nat × Nat)} (hb : t.bucket b = some bk) : bk = [] := by
  unfold LTable.bucket at hb
  cases hl : t.lengths[b]? with
  | none => rw [hl] at hb; simp at hb
  | some v => rw [hl, h b v hl] at hb; simpa using hb.symm

/-- what `SieveTable` and `SieveTableLarge` have in common as stores of bucket entries, beyond `Store`: `add` appends
the entry `ent (offset, prime index)` to the bucket of the offset (`W` positions per bucket) or counts an overflow
and leaves every bucket alone; `reset` empties the buckets; `sieve_block` reads `nb` buckets per block, and entry `e`
of the `b`-th of them stands for position `pos b e` of the block. Statements about bucket contents are made once
over this structure. -/
structure BStore (T : Type) extends Store T where
  bucket : T → Nat → Option (List (Nat × Nat))
  cnt : T → Nat
  W : Nat
  ent : Nat × Nat → Nat × Nat
  add_bucket : ∀ t off pidx t', WF t → add t off pidx = some t' →
    (cnt t' = cnt t ∧ (∀ b bk, bucket t b = some bk →
        bucket t' b = some (if b = off / W then bk ++ [ent (off, pidx)] else bk)) ∧
      ∀ b bk', bucket t' b = some bk' → ∃ bk, bucket t b = some bk) ∨
    (cnt t' = cnt t + 1 ∧ ∀ b, bucket t' b = bucket t b)
  reset : T → T
  reset_spec : ∀ t, WF t → WF (reset t) ∧ cnt (reset t) = 0 ∧ ∀ b bk, bucket (reset t) b = some bk → bk = []
  nb : Nat
  pos : Nat → Nat × Nat → Nat
  pos_ent : ∀ blkNo b off pidx, b < nb → off / W = blkNo * nb + b → pos b (ent (off, pidx)) + blkNo * BLOCK = off
  bucket_of : ∀ blkNo x, x < BLOCK → (blkNo * BLOCK + x) / W = blkNo * nb + x / W ∧ x / W < nb

def tstore : BStore Table where
  toStore := tableStore
  bucket := Table.bucket
  cnt := Table.nOverflows
  W := 256
  ent a := (a.1 % 256, a.2 % 256)
  add_bucket _ _ _ _ hw ha := Table.add_bucket hw ha
  reset := Table.reset
  reset_spec t hw := ⟨Table.reset_WF t hw.2, rfl, fun _ _ hb => bucket_nil_of_lens (fun _ _ h => getElem?_replicate_eq h) hb⟩
  nb := 128
  pos b e := b * 256 + e.1
  pos_ent blkNo b off pidx hb h := by
    show b * 256 + off % 256 + blkNo * BLOCK = off
    have : off / 256 = blkNo * 128 + b := h
    simp only [BLOCK]; omega
  bucket_of blkNo x hx := by
    show (blkNo * BLOCK + x) / 256 = blkNo * 128 + x / 256 ∧ x / 256 < 128
    simp only [BLOCK] at hx ⊢; omega

def lstore : BStore LTable where
  toStore := ltableStore
  bucket := LTable.bucket
  cnt t := t.overflows.size
  W := 16384
  ent a := (a.1 % BLOCK % 65536, a.2 % 65536)
  add_bucket _ _ _ _ hw ha := LTable.add_bucket hw ha
  reset := LTable.reset
  reset_spec t _ := ⟨LTable.reset_WF t, by simp [LTable.reset],
    fun _ _ hb => lbucket_nil_of_lens (fun _ _ h => getElem?_replicate_eq h) hb⟩
  nb := 2
  pos _ e := e.1
  pos_ent blkNo b off pidx hb h := by
    show off % BLOCK % 65536 + blkNo * BLOCK = off
    have : off / 16384 = blkNo * 2 + b := h
    simp only [BLOCK]; omega
  bucket_of blkNo x hx := by
    show (blkNo * BLOCK + x) / 16384 = blkNo * 2 + x / 16384 ∧ x / 16384 < 2
    simp only [BLOCK] at hx ⊢; omega

/-- entries of bucket `b` among a list of adds. -/
def BStore.sel {T : Type} (S : BStore T) (adds : List (Nat × Nat)) (b : Nat) : List (Nat × Nat) :=
  (adds.filter fun a => a.1 / S.W = b).map S.ent

theorem BStore.sel_concat {T : Type} (S : BStore T) (pre : List (Nat × Nat)) (a : Nat × Nat) (b : Nat) :
    S.sel (pre ++ [a]) b = S.sel pre b ++ (if a.1 / S.W = b then [S.ent a] else []) := by
  unfold BStore.sel
  rw [List.filter_append, List.map_append]
  by_cases h : a.1 / S.W = b <;> simp [h]

theorem BStore.fold {T : Type} (S : BStore T) (adds : List (Nat × Nat)) (t t' : T) (hwf : S.WF t)
    (h : adds.foldlM (fun t a => S.add t a.1 a.2) t = some t') :
    S.WF t' ∧ S.cnt t ≤ S.cnt t' ∧ (∀ b bk, S.bucket t b = some bk →
      ∃ ext, S.bucket t' b = some (bk ++ ext) ∧ ext.Sublist (S.sel adds b) ∧
        (S.cnt t' = S.cnt t → ext = S.sel adds b)) ∧
      ∀ b bk', S.bucket t' b = some bk' → ∃ bk, S.bucket t b = some bk := by
  refine Loops.foldlM_partial _ (fun pre s => S.WF s ∧ S.cnt t ≤ S.cnt s ∧ (∀ b bk, S.bucket t b = some bk →
      ∃ ext, S.bucket s b = some (bk ++ ext) ∧ ext.Sublist (S.sel pre b) ∧ (S.cnt s = S.cnt t → ext = S.sel pre b)) ∧
      ∀ b bk', S.bucket s b = some bk' → ∃ bk, S.bucket t b = some bk)
    adds ?_ ⟨hwf, le_refl _, fun b bk hb => ⟨[], by simpa using hb, List.Sublist.refl _, fun _ => rfl⟩,
      fun b bk' hb => ⟨bk', hb⟩⟩ h
  rintro pre a _ s s' _ ⟨w, hm, hb, hrd⟩ hf
  refine ⟨(S.add_spec w hf).1, ?_⟩
  rcases S.add_bucket s a.1 a.2 s' w hf with ⟨e, hbk, hun⟩ | ⟨e, hbk⟩
  · refine ⟨by omega, fun b bk hbt => ?_, fun b bk' hb' => (hun b bk' hb').elim fun bk1 h1 => hrd b bk1 h1⟩
    obtain ⟨ext, e1, e2, e3⟩ := hb b bk hbt
    refine ⟨ext ++ (if a.1 / S.W = b then [S.ent a] else []), ?_, ?_, fun hc => ?_⟩
    · rw [hbk b _ e1]
      by_cases hq : a.1 / S.W = b
      · rw [if_pos hq.symm, if_pos hq, List.append_assoc]
      · rw [if_neg (fun q => hq q.symm), if_neg hq, List.append_nil]
    · rw [S.sel_concat]; exact e2.append (List.Sublist.refl _)
    · rw [S.sel_concat, e3 (by omega)]
  · refine ⟨by omega, fun b bk hbt => ?_, fun b bk' hb' => hrd b bk' (by rw [← hbk b]; exact hb')⟩
    obtain ⟨ext, e1, e2, _⟩ := hb b bk hbt
    refine ⟨ext, by rw [hbk b]; exact e1, ?_, fun hc => by omega⟩
    rw [S.sel_concat]
    exact e2.trans (List.sublist_append_left _ _)

/-- tables as `new` and `reset` leave them: nothing counted, every READABLE bucket empty (no size is asked: `sieve_block`
reads buckets that are readable since it returned, and `add` never makes an unreadable bucket readable). -/
def Fresh {T : Type} (S : BStore T) (T0 : Array T) : Prop :=
  ∀ (i : Nat) (t0 : T), T0[i]? = some t0 → S.WF t0 ∧ S.cnt t0 = 0 ∧ ∀ b bk, S.bucket t0 b = some bk → bk = []

theorem Fresh.reset {T : Type} {S : BStore T} {tabs : Array T} (hwf : ∀ (i : Nat) (t : T), tabs[i]? = some t → S.WF t) :
    Fresh S (tabs.map S.reset) := by
  intro i t0 ht
  obtain ⟨t, ht', rfl⟩ := getElem?_map_some ht
  exact S.reset_spec t (hwf i t ht')

/-- a bucket read back from a table that was filled from a fresh one: a sublist of the entries registered for it, all of
them when the table has counted no overflow. -/
theorem BStore.read_filled {T : Type} (S : BStore T) {adds : List (Nat × Nat)} {t0 t : T} (hw : S.WF t0)
    (hc : S.cnt t0 = 0) (hnil : ∀ b bk, S.bucket t0 b = some bk → bk = [])
    (hf : adds.foldlM (fun t a => S.add t a.1 a.2) t0 = some t) {b : Nat} {es : List (Nat × Nat)}
    (hes : S.bucket t b = some es) : es.Sublist (S.sel adds b) ∧ (S.cnt t = 0 → es = S.sel adds b) := by
  obtain ⟨_, _, hfw, hrd⟩ := S.fold adds t0 t hw hf
  obtain ⟨bk0, hb0⟩ := hrd b es hes
  cases hnil b bk0 hb0
  obtain ⟨ext, e1, e2, e3⟩ := hfw b [] hb0
  rw [hes, List.nil_append] at e1
  cases e1
  exact ⟨e2, fun hz => e3 (by rw [hz, hc])⟩

theorem newTables_fresh {n maxlog : Nat} {recycled : Option (Array Table × Array LTable)} {T0 : Array Table}
    {L0 : Array LTable} (hrec : RecycledOK recycled) (h : newTables n maxlog recycled = some (T0, L0)) :
    Fresh tstore T0 ∧ Fresh lstore L0 := by
  obtain ⟨hT, hL, _⟩ := newTables_spec hrec h
  obtain ⟨_, _, _, iT, iL⟩ := newTables_cases h
  refine ⟨fun i t0 ht => ⟨(hT i t0 ht).1, (hT i t0 ht).2.1, fun b bk hb => bucket_nil_of_lens ?_ hb⟩,
    fun i t0 ht => ⟨(hL i t0 ht).1, ?_, fun b bk hb => lbucket_nil_of_lens ?_ hb⟩⟩
  · rcases iT i t0 ht with ⟨_, rfl⟩ | ⟨_, _, _, _, _, rfl⟩ <;> exact fun _ _ h => getElem?_replicate_eq h
  · rcases iL i t0 ht with ⟨_, rfl⟩ | ⟨_, _, _, _, _, rfl⟩ <;> rfl
  · rcases iL i t0 ht with ⟨_, rfl⟩ | ⟨_, _, _, _, _, rfl⟩ <;> exact fun _ _ h => getElem?_replicate_eq h

/-- entries of prime index `pidx` in bucket `b`, for the offsets `O pidx`. -/
def BStore.part {T : Type} (S : BStore T) (O : Nat → List Nat) (red : Nat → Nat) (b pidx : Nat) : List (Nat × Nat) :=
  ((O pidx).filter fun off => off / S.W = b).map fun off => S.ent (off, red pidx)

theorem BStore.sel_classAdds {T : Type} (S : BStore T) (O : Nat → List Nat) (red : Nat → Nat) (idx1 idx2 b : Nat) :
    S.sel (classAdds O red idx1 idx2) b = (List.range' idx1 (idx2 - idx1)).flatMap (S.part O red b) := by
  unfold BStore.sel classAdds
  rw [List.filter_flatMap, List.map_flatMap]
  congr 1; funext pidx
  unfold BStore.part
  simp only [List.filter_map, List.map_map]; rfl

end Ymq.Sieve
