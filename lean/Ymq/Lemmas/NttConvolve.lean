/-
C10: `convolve_modn_ntt` end to end (`convolveNtt_spec`): `from_mint` + scatter (`scatter_vec`), the transform
pipeline per prime (`nttPipeline_spec`), `V < P/2` (`crt_call_bound`), CRT uniqueness, `_crt` (`crt_spec`),
`pprods_modn[q] ≡ -qP`, `zn.redc` (`redcElt_spec`, `redcElt_spec1` for a single prime).
-/
import Ymq.Lemmas.NttMint
import Ymq.Lemmas.FIntFft
import Ymq.Lemmas.PolyZMod

namespace Ymq.Crt
open Ymq.Mg64 (W)
open Ymq.Gen.Params
open Ymq.Kronecker (cycSum cycSum_le)

theorem new_crt_facts (n logsize : Nat) (m : Mzp) (h : new n logsize = some m) (hw2 : 2 ≤ m.w) :
    m.primes.length = m.w ∧ m.primes.Pairwise Nat.Coprime ∧ (∀ p ∈ m.primes, 0 < p) ∧
    m.pprod = m.primes.prod ∧
    (∀ j, j < m.w → m.crtP.getD j 0 * P m j = m.pprod) ∧
    (∀ j, j < m.w → ((m.crtP.getD j 0 : Nat) : ZMod (P m j)) * ((m.crtPinv.getD j 0 : Nat) : ZMod (P m j)) = 1) ∧
    (∀ j, m.crtPModn.getD j 0 = m.crtP.getD j 0 % n) := by
  have k := isNew h
  have ht := tabOk_of_new n logsize m h
  have hok := tables_ok m.w (List.mem_range.2 (by have := k.w_le; omega)) hw2
  unfold tablesOk at hok
  simp only [Bool.and_eq_true, Bool.or_eq_true, decide_eq_true_eq, List.all_eq_true, List.mem_range,
    ← k.hpprod] at hok
  obtain ⟨_, k5⟩ := hok
  have hcrtP : ∀ j, j < m.w → m.crtP.getD j 0 = prodExcept (NTT_PRIME_VALUES.take m.w) j := by
    intro j hj
    rw [k.hcrtP, List.getD_eq_getElem?_getD, List.getElem?_map, List.getElem?_range hj]; rfl
  refine ⟨k.primes_len, ?_, ?_, ?_, ?_, ?_, ?_⟩
  · rw [k.hprimes]; exact List.Pairwise.sublist (List.take_sublist _ _) primes_coprime
  · intro p hp
    obtain ⟨j, hj, rfl⟩ := List.getElem_of_mem hp
    rw [← Loops.getD_eq_getElem _ 0 hj]
    exact Nat.zero_lt_of_lt (ht j (k.primes_len ▸ hj)).pos
  · rw [k.hpprod, k.hprimes, List.prod_eq_foldl]
  · intro j hj
    have := (k5 j hj).2
    rw [(k.prime_eq hj 1).1] at this
    rw [hcrtP j hj]
    exact this
  · intro j hj
    have hi := (Loops.mapM_range_partial 0 k.hpinv).2 j hj
    rw [(k.prime_eq hj 1).1] at hi
    have := Ymq.PolyMul.invMod_sound _ _ _ (Nat.zero_lt_of_lt (ht j hj).pos) hi
    rw [ZMod.natCast_mod, ← hcrtP j hj] at this
    exact this
  · intro j
    rw [k.hmodn, List.getD_eq_getElem?_getD, List.getD_eq_getElem?_getD, List.getElem?_map]
    cases m.crtP[j]? <;> simp


theorem resid_of_mfe {p : Nat} (h : PrimeOk p) (x V : Nat) (hx : mf p x = ((V : Nat) : ZMod p)) :
    ((x : Nat) : ZMod p) = ((V : Nat) : ZMod p) * ((W : Nat) : ZMod p) := by
  rw [← hx, mf_mul_W h]

/-- **`redc` of an element holding the residues of `V < P/2`** (`w ≥ 2`): `V·R⁻¹ mod n` -/
theorem redcElt_spec (n logsize : Nat) (m : Mzp) (h : new n logsize = some m) (hn : 0 < n) (hw2 : 2 ≤ m.w)
    (r : List Nat) (hr : EltOk m r) (V : Nat) (hV : 2 * V < m.pprod)
    (hres : ∀ j, j < m.w → mfe m r j = ((V : Nat) : ZMod (P m j))) (rinv : Nat) :
    redc m rinv r = some (V * rinv % n) := by
  have ok := new_crtOk n logsize m h hn hw2
  have ht := tabOk_of_new n logsize m h
  obtain ⟨lps, hco, hpos, hprod, hcp, hcpinv, hmodn⟩ := new_crt_facts n logsize m h hw2
  have en := (isNew h).hn
  obtain ⟨xs, lxs, hxs, hall⟩ := crt_spec m ok hw2 r hr.1 hr.2
  -- xs_j ≡ V·crt_pinv[j], hence V ≡ xs_j·(P/p_j) (mod p_j)
  have hxsV : ∀ j, j < m.w → ((V : Nat) : ZMod (P m j)) =
      ((xs.getD j 0 : Nat) : ZMod (P m j)) * ((m.crtP.getD j 0 : Nat) : ZMod (P m j)) := by
    intro j hj
    have hc : ((xs.getD j 0 * W : Nat) : ZMod (P m j)) = ((r.getD j 0 * m.crtPinv.getD j 0 : Nat) : ZMod (P m j)) :=
      (ZMod.natCast_eq_natCast_iff' _ _ _).2 (hxs j hj).2
    push_cast at hc
    -- `xs·R = r·pinv` times `(P/p_j)/R`, with `r = V·R`, `R·R⁻¹ = 1` and `(P/p_j)·pinv = 1`
    linear_combination (-(m.crtP.getD j 0 * uinv (P m j) : ZMod (P m j))) * hc +
      (-(m.crtPinv.getD j 0 * m.crtP.getD j 0 * uinv (P m j) : ZMod (P m j))) *
        resid_of_mfe (ht j hj) _ V (hres j hj) +
      ((xs.getD j 0 * m.crtP.getD j 0 - V * m.crtPinv.getD j 0 * m.crtP.getD j 0 : ZMod (P m j))) *
        W_uinv (ht j hj) + (-(V : ZMod (P m j))) * hcpinv j hj
  have hget : ∀ i : Fin m.primes.length, m.primes.get i = P m i.val := by
    intro i
    show _ = m.primes.getD i.val 0
    rw [List.getD_eq_getElem?_getD, List.getElem?_eq_getElem i.isLt]; rfl
  have hdiv : ∀ i : Fin m.primes.length, m.primes.prod / m.primes.get i = m.crtP.getD i.val 0 := by
    intro i
    have hi : i.val < m.w := by rw [← lps]; exact i.isLt
    rw [hget i, ← hprod, ← hcp i.val hi]
    exact Nat.mul_div_cancel _ (by have := (ht i.val hi).pos; omega)
  obtain ⟨q, ⟨hq, hrec⟩, _⟩ := crt_unique' m.primes (by omega) hco hpos (fun i => xs.getD i.val 0) (by
      intro i
      rw [hget i]
      exact (hxs i.val (by rw [← lps]; exact i.isLt)).1) V (by rw [← hprod]; omega) (by
      intro i
      have hi : i.val < m.w := by rw [← lps]; exact i.isLt
      rw [hdiv i, hget i]
      apply (ZMod.natCast_eq_natCast_iff _ _ _).1
      push_cast
      exact hxsV i.val hi)
  have hrec' : V + q * m.pprod = ∑ j ∈ Finset.range m.w, xs.getD j 0 * m.crtP.getD j 0 := by
    rw [hprod, hrec, ← lps, ← Fin.sum_univ_eq_sum_range (fun j => xs.getD j 0 * m.crtP.getD j 0)]
    apply Finset.sum_congr rfl
    intro i _
    rw [hdiv i]
  rw [lps] at hq
  obtain ⟨ws, ecrt, _, vws⟩ := hall q V hrec' hV hq
  have hpn := pprods_neg n logsize m h hn q hq
  have hT : valWords ws ≡ V [MOD n] := by
    rw [vws, ← Fin.sum_univ_eq_sum_range (fun j => xs.getD j 0 * m.crtPModn.getD j 0)]
    exact crt_value' n m.pprod q V (fun i => xs.getD i.val 0) (fun i => m.crtP.getD i.val 0)
      (fun i => m.crtPModn.getD i.val 0) _
      (by rw [hrec', Fin.sum_univ_eq_sum_range (fun j => xs.getD j 0 * m.crtP.getD j 0)])
      (fun i => by rw [hmodn]; exact Nat.mod_modEq _ _) (by rw [Nat.ModEq, hpn, Nat.zero_mod])
  obtain ⟨qp, eqp, hqp⟩ := ok.pprods q hq
  have hgetq : m.pprodsModn.getD q 0 = qp := by rw [List.getD_eq_getElem?_getD, eqp]; rfl
  have hTlt : valWords ws < m.n * W ^ m.kw := by
    rw [vws, hgetq]
    refine lt_of_lt_of_le (ok.sum_lt xs (fun j hj => lt_trans (hxs j hj).1 (ht j hj).lt) qp hqp)
      (Nat.mul_le_mul_left _ (Nat.le_self_pow (by have := kw_pos n logsize m h hn; omega) W))
  unfold redc
  rw [ecrt]
  simp only
  rw [if_pos hTlt, en]
  congr 1
  exact Nat.ModEq.mul_right rinv hT


theorem valWords_zeros (k : Nat) : valWords (List.replicate k 0) = 0 := by
  induction k with
  | zero => rfl
  | succ k ih => rw [List.replicate_succ, valWords, ih]; simp

/-- `redc` for a single prime -/
theorem redcElt_spec1 (n logsize : Nat) (m : Mzp) (h : new n logsize = some m) (hn : 0 < n) (hw1 : m.w = 1)
    (r : List Nat) (hr : EltOk m r) (V : Nat) (hV : 2 * V < m.pprod)
    (hres : ∀ j, j < m.w → mfe m r j = ((V : Nat) : ZMod (P m j))) (rinv : Nat) :
    redc m rinv r = some (V * rinv % n) := by
  have ht := tabOk_of_new n logsize m h
  have hpo := ht 0 (by omega)
  have k := isNew h
  have en := k.hn
  have hprimes : m.primes = [P m 0] := by
    have hl : m.primes.length = 1 := k.primes_len.trans hw1
    match hm : m.primes, hl with
    | [a], _ => show [a] = [m.primes.getD 0 0]; rw [hm]; rfl
  have hpp : m.pprod = P m 0 := by
    rw [k.hpprod, ← List.prod_eq_foldl, ← k.hprimes, hprimes]; simp
  have hp0 : m.primes[0]? = some (P m 0) := by rw [hprimes]; rfl
  have hr0 : r.getD 0 0 < P m 0 := hr.2 0 (by omega)
  obtain ⟨v, ev, vlt, hvm⟩ := mgRedc_mf hpo (r.getD 0 0) (lt_of_lt_of_le hr0 (Nat.le_mul_of_pos_right _ (by decide)))
  have hvV : v = V := natCast_inj_lt vlt (by omega) (hvm.trans (hres 0 (by omega)))
  unfold redc crt
  rw [if_neg (by rw [hr.1]; simp), if_pos hw1, hp0]
  simp only [ev, Option.map_some]
  have hval : valWords (v :: List.replicate m.kw 0) = v := by
    rw [valWords, valWords_zeros, Nat.mul_zero, Nat.add_zero]
  rw [hval, en, hvV]
  rw [if_pos]
  have hWle : W ≤ W ^ m.kw := Nat.le_self_pow (by have := kw_pos n logsize m h hn; omega) W
  have h1 : 1 * W ^ m.kw ≤ n * W ^ m.kw := Nat.mul_le_mul_right _ hn
  rw [Nat.one_mul] at h1
  have h2 : V < P m 0 := by rw [hpp] at hV; omega
  have h3 : P m 0 < W := hpo.ltW
  exact lt_of_lt_of_le (lt_trans h2 h3) (le_trans hWle h1)


theorem log2Exact_eq : ∀ f l, log2Exact f l = Ymq.FInt.log2Exact f l := by
  intro f
  induction f with
  | zero => intro l; rfl
  | succ f ih => intro l; unfold log2Exact Ymq.FInt.log2Exact; rw [ih]

theorem log2Exact_pow' : ∀ (f k : Nat), k < f → log2Exact f (2 ^ k) = some k := by
  intro f k h
  rw [log2Exact_eq]; exact Ymq.FInt.log2Exact_pow f k h

/-- the operand vector after `from_mint` + scatter -/
theorem scatter_vec (n logsize : Nat) (m : Mzp) (h : new n logsize = some m) (hn : 0 < n)
    (hbits : Ymq.Checked.bitlen n ≤ 512) (K : Nat) (p : List Nat) (hp : ∀ v ∈ p, v < n) (lp : p.length ≤ 2 ^ K) :
    ∃ F, scatterRev m K (p.map (Ymq.Limbs.ofNat 8)) 0 (List.replicate (2 ^ K) (List.replicate m.w 0)) = some F ∧
      VecOk m F (2 ^ K) ∧ ∀ t, t < 2 ^ K → ∀ j, j < m.w →
        mfe m (F.getD (bitrev K t) []) j = ((p.getD t 0 : Nat) : ZMod (P m j)) := by
  have ht := tabOk_of_new n logsize m h
  set Z : List Nat → List Nat := fun x => (fromMint m x).getD [] with hZ
  obtain ⟨F, e, lF, hF⟩ := scatterRev_spec m K Z (p.map (Ymq.Limbs.ofNat 8)) 0
    (List.replicate (2 ^ K) (List.replicate m.w 0)) (by simpa using lp) (by simp) (by
      intro x hx
      obtain ⟨v, hv, rfl⟩ := List.mem_map.1 hx
      obtain ⟨z, ez, _, _⟩ := fromMint_spec n logsize m h hn hbits v (hp v hv)
      rw [hZ]; simp only [ez, Option.getD_some])
  have hzero : ∀ s, s < 2 ^ K → (List.replicate (2 ^ K) (List.replicate m.w 0)).getD s [] = List.replicate m.w 0 := by
    intro s hs
    exact List.getD_replicate _ hs
  have hdesc : ∀ t, t < 2 ^ K → EltOk m (F.getD (bitrev K t) []) ∧
      ∀ j, j < m.w → mfe m (F.getD (bitrev K t) []) j = ((p.getD t 0 : Nat) : ZMod (P m j)) := by
    intro t ht'
    rw [hF t ht']
    simp only [List.length_map, Nat.zero_add, Nat.zero_le, true_and, Nat.sub_zero]
    by_cases htp : t < p.length
    · rw [if_pos htp]
      have hget : (p.map (Ymq.Limbs.ofNat 8)).getD t [] = Ymq.Limbs.ofNat 8 (p.getD t 0) := by
        rw [List.getD_eq_getElem?_getD, List.getElem?_map, List.getD_eq_getElem?_getD,
          List.getElem?_eq_getElem htp]; rfl
      have hvn : p.getD t 0 < n := by
        apply hp
        rw [List.getD_eq_getElem?_getD, List.getElem?_eq_getElem htp]; simp
      obtain ⟨z, ez, hz, hzv⟩ := fromMint_spec n logsize m h hn hbits (p.getD t 0) hvn
      rw [hget, hZ]
      simp only [ez, Option.getD_some]
      exact ⟨hz, hzv⟩
    · rw [if_neg htp, hzero _ (bitrev_lt K t)]
      refine ⟨eltOk_zero m ht, fun j hj => ?_⟩
      rw [mfe_zero m j hj, List.getD_eq_default _ _ (by omega)]
      simp
  refine ⟨F, e, .of_getD lF fun s hs => ?_, fun t ht' => (hdesc t ht').2⟩
  have := (hdesc (bitrev K s) (bitrev_lt K s)).1
  rwa [bitrev_invol K s hs] at this

theorem getD_le_of_mem {n : Nat} {p : List Nat} (hp : ∀ v ∈ p, v < n) (a : Nat) : p.getD a 0 ≤ n := by
  rw [List.getD_eq_getElem?_getD]
  cases hh : p[a]? with
  | none => simp
  | some v => exact le_of_lt (hp v (List.mem_of_getElem? hh))

/-- **`convolve_modn_ntt` is the cyclic convolution modulo `n`** (word-level model, end to end) -/
theorem convolveNtt_spec (n logsize : Nat) (m : Mzp) (hm : new n logsize = some m) (hn : 0 < n)
    (hbits : Ymq.Checked.bitlen n ≤ 512) (hL : logsize ≤ 31) (K : Nat) (h1 : 1 ≤ K) (hk : K ≤ logsize)
    (p1 p2 : List Nat) (hp1 : ∀ v ∈ p1, v < n) (hp2 : ∀ v ∈ p2, v < n) (l1 : p1.length ≤ 2 ^ K)
    (l2 : p2.length ≤ 2 ^ K) (rinv reslen offset : Nat) :
    ∃ rts res, rootsPacked m = some rts ∧
      convolveNtt m rts rinv (2 ^ K) (p1.map (Ymq.Limbs.ofNat 8)) (p2.map (Ymq.Limbs.ofNat 8)) reslen offset =
        some res ∧ res.length = reslen ∧
      ∀ t, t < reslen → res.getD t 0 =
        if offset + t < 2 ^ K then
          cycSum (2 ^ K) (fun a => p1.getD a 0) (fun a => p2.getD a 0) (offset + t) * rinv % n
        else 0 := by
  have ek := (isNew hm).hk
  have hkm : K ≤ m.k := by rw [ek]; exact hk
  have hK31 : m.k ≤ 31 := by rw [ek]; exact hL
  obtain ⟨F1, e1, v1, s1⟩ := scatter_vec n logsize m hm hn hbits K p1 hp1 l1
  obtain ⟨F2, e2, v2, s2⟩ := scatter_vec n logsize m hm hn hbits K p2 hp2 l2
  obtain ⟨rts, g1, g2, hh, r, erts, eg1, eg2, eh, er, vr, sr⟩ :=
    nttPipeline_spec n logsize m hm hK31 K h1 hkm F1 F2 v1 v2
  set c := cycSum (2 ^ K) (fun a => p1.getD a 0) (fun a => p2.getD a 0) with hc
  have hres : ∀ i, i < 2 ^ K → ∀ j, j < m.w → mfe m (r.getD i []) j = ((c i : Nat) : ZMod (P m j)) := by
    intro i hi j hj
    rw [sr j hj i hi, hc, Ymq.Dft.cast_cycSum]
    exact Ymq.Dft.cyc_congr _ (fun a ha => s1 a ha j hj) (fun a ha => s2 a ha j hj) i
  have hweq := (isNew hm).w_eq
  have hredc : ∀ i, i < 2 ^ K → redc m rinv (r.getD i []) = some (c i * rinv % n) := by
    intro i hi
    have hV' := crt_call_bound_lt n logsize m hm (2 ^ K) (c i) (Nat.pow_le_pow_right (by decide) hk)
      (cycSum_le _ (n * n) _ _ (fun u v => Nat.mul_le_mul (getD_le_of_mem hp1 u) (getD_le_of_mem hp2 v)) i)
    by_cases hw1 : m.w = 1
    · exact redcElt_spec1 n logsize m hm hn hw1 _ (vr.getD i hi) _ hV' (hres i hi) rinv
    · exact redcElt_spec n logsize m hm hn (by omega) _ (vr.getD i hi) _ hV' (hres i hi) rinv
  obtain ⟨res, eres, lres, hresv⟩ := Loops.mapM_range_total (β := Nat) 0
    (Q := fun t v => v = if offset + t < 2 ^ K then c (offset + t) * rinv % n else 0)
    (fun t => if offset + t < 2 ^ K then redc m rinv (r.getD (offset + t) []) else some 0) reslen (by
      intro t _
      by_cases hlt : offset + t < 2 ^ K
      · exact ⟨_, by rw [if_pos hlt]; exact hredc _ hlt, by rw [if_pos hlt]⟩
      · exact ⟨0, by rw [if_neg hlt], by rw [if_neg hlt]⟩)
  refine ⟨rts, res, erts, ?_, lres, hresv⟩
  unfold convolveNtt
  rw [log2Exact_pow' 64 K (by omega)]
  simp only
  rw [if_neg (by omega), if_neg (by omega)]
  simp only [e1, e2, eg1, eg2, eh, er]
  exact eres

end Ymq.Crt
