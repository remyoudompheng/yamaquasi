/-
The prime walk of `pm1_impl` (stage 2 for `b2 <= MULTIEVAL_THRESHOLD`, Model/Pm1Impl.lean `walk*`) on residues:
`exp_modn` and `exp_modn_large` on the residues `a*b % m` the model computes with (`expModn_rel` at the relation
`residues`); the gap table `gaps[i] ≡ g^(2i+2)`, long enough after `extendGaps` for the index `gap/2 − 1` of the walk
and of the baby steps of `pm1_stage2_polyeval`; over a block of increasing odd numbers the walk does not panic, keeps
`x ≡ g^p_prev`, and every `l` of the block with `p_prev < l ≤ b2` has its term `g^l − 1` in the product.
-/
import Ymq.Lemmas.Pm1Impl
import Ymq.Lemmas.Stage2ExpLarge
import Mathlib.Data.ZMod.Basic

namespace Ymq.Pm1Impl
open Ymq.ExpModn

/-- the residues the model computes with stand for elements of `ZMod m` -/
theorem residues (m : Nat) : Hom (mulm m) (fun a (x : ZMod m) => (a : ZMod m) = x) :=
  ⟨fun {a b x y} h1 h2 => by rw [← h1, ← h2]; simp [mulm]⟩

theorem cast_onem (m : Nat) : ((onem m : Nat) : ZMod m) = 1 := by simp [onem]

theorem modEq_of_cast {m g e x : Nat} (h : (x : ZMod m) = (g : ZMod m) ^ e) : x ≡ g ^ e [MOD m] := by
  rw [← ZMod.natCast_eq_natCast_iff, h]; push_cast; rfl

theorem expModn_mod {m : Nat} (g e : Nat) (he : e < 2 ^ 64) :
    ∃ x, expModn (mulm m) (onem m) g e = some x ∧ x ≡ g ^ e [MOD m] := by
  obtain ⟨r, hr, h⟩ := expModn_rel (residues m) (cast_onem m) rfl e he
  exact ⟨r, hr, modEq_of_cast h⟩

theorem expModnLarge_mod {m : Nat} (g e : Nat) (he : e < 2 ^ 1024) :
    ∃ x, expModnLarge (mulm m) (onem m) g e = some x ∧ x ≡ g ^ e [MOD m] := by
  obtain ⟨r, hr, h⟩ := expModnLarge_rel (residues m) (cast_onem m) rfl e he
  exact ⟨r, hr, modEq_of_cast h⟩

theorem mulm_pow {m g a b i j k : Nat} (ha : a ≡ g ^ i [MOD m]) (hb : b ≡ g ^ j [MOD m]) (hk : i + j = k) :
    mulm m a b ≡ g ^ k [MOD m] := by
  subst hk
  rw [pow_add]
  exact (Nat.mod_modEq _ _).trans (ha.mul hb)

/-- `gaps[i] ≡ g^(2i+2)` -/
def GInv (m g : Nat) (gaps : List Nat) : Prop :=
  gaps ≠ [] ∧ ∀ i v, gaps[i]? = some v → v ≡ g ^ (2 * i + 2) [MOD m]

theorem g2_modEq (m g : Nat) : mulm m g g ≡ g ^ 2 [MOD m] :=
  mulm_pow (by rw [pow_one]) (by rw [pow_one]) rfl

theorem ginv_init (m g : Nat) : GInv m g [mulm m g g] := by
  refine ⟨by simp, fun i v hv => ?_⟩
  match i, hv with
  | 0, hv =>
    simp only [List.getElem?_cons_zero, Option.some.injEq] at hv
    subst hv
    exact g2_modEq m g
  | i + 1, hv => simp at hv

theorem extendGaps_spec {m g g2 : Nat} (hg2 : g2 ≡ g ^ 2 [MOD m]) :
    ∀ (f : Nat) (gaps : List Nat) (half : Nat), GInv m g gaps → half + 1 ≤ gaps.length + f →
      ∃ gaps', extendGaps m g2 f gaps half = some gaps' ∧ half < gaps'.length ∧ GInv m g gaps'
  | 0, gaps, half, hinv, hlen => ⟨gaps, rfl, by omega, hinv⟩
  | f + 1, gaps, half, hinv, hlen => by
    rw [extendGaps]
    split
    · rename_i hle
      have hne := hinv.1
      have hpos : 0 < gaps.length := List.length_pos_iff.mpr hne
      have hlast : gaps.getLast? = some (gaps[gaps.length - 1]'(by omega)) := by
        rw [List.getLast?_eq_getElem?, List.getElem?_eq_getElem]
      rw [hlast]
      simp only
      apply extendGaps_spec hg2 f _ half _ (by simp; omega)
      refine ⟨by simp, fun i v hv => ?_⟩
      by_cases hi : i < gaps.length
      · rw [List.getElem?_append_left hi] at hv
        exact hinv.2 i v hv
      · rw [List.getElem?_append_right (by omega)] at hv
        have hi0 : i - gaps.length = 0 := by
          by_contra hc
          rw [List.getElem?_eq_none (by simp; omega)] at hv
          exact absurd hv (by simp)
        rw [hi0] at hv
        simp only [List.getElem?_cons_zero, Option.some.injEq] at hv
        subst hv
        have hie : i = gaps.length := by omega
        subst hie
        exact mulm_pow (hinv.2 (gaps.length - 1) _ (List.getElem?_eq_getElem (by omega))) hg2 (by omega)
    · rename_i hgt
      exact ⟨gaps, rfl, by omega, hinv⟩

/-- the walk invariant: `x ≡ g^p_prev`, `gaps[i] ≡ g^(2i+2)` modulo the ring modulus -/
def WInv (m g : Nat) (w : W) : Prop := w.x ≡ g ^ w.pPrev [MOD m] ∧ GInv m g w.gaps

/-- one prime of the walk: no panic for an even positive gap, the invariant is kept, the new term is `g^p − 1` -/
theorem walkStep_spec {m g g2 b2 : Nat} (hg2 : g2 ≡ g ^ 2 [MOD m]) {w : W} (hinv : WInv m g w) {p : Nat}
    (hp : w.pPrev < p) (heven : (p - w.pPrev) % 2 = 0) :
    ∃ w', walkStep m g2 b2 w p = some (w', decide (p > b2)) ∧ WInv m g w' ∧ w'.pPrev = p ∧
      w'.product = mulm m w.product (subm m w'.x (onem m)) := by
  unfold walkStep
  rw [if_neg (by omega)]
  simp only
  obtain ⟨gaps', hext, hlen, hg'⟩ := extendGaps_spec hg2 ((p - w.pPrev) / 2 + 1) w.gaps ((p - w.pPrev) / 2) hinv.2 (by omega)
  rw [hext]
  simp only
  have hhalf : 0 < (p - w.pPrev) / 2 := by omega
  rw [if_neg (by omega)]
  have hidx : (p - w.pPrev) / 2 - 1 < gaps'.length := by omega
  rw [List.getElem?_eq_getElem hidx]
  exact ⟨_, rfl, ⟨mulm_pow hinv.1 (hg'.2 _ _ (List.getElem?_eq_getElem hidx)) (by show w.pPrev + _ = p; omega), hg'⟩, rfl, rfl⟩

theorem dvd_subm_one {q m a : Nat} (hq : q ∣ m) (hm : 0 < m) (ha : a ≡ 1 [MOD q]) : q ∣ subm m a (onem m) := by
  unfold subm onem
  rw [Nat.dvd_mod_iff hq]
  rcases Nat.lt_or_ge 1 m with h1 | h1
  · rw [Nat.mod_mod, Nat.mod_eq_of_lt h1]
    have h2 : a + (m - 1) ≡ 1 + (m - 1) [MOD q] := ha.add_right _
    rw [show 1 + (m - 1) = m by omega] at h2
    exact (Nat.modEq_zero_iff_dvd.mp (h2.trans (Nat.modEq_zero_iff_dvd.mpr hq)))
  · have : m = 1 := by omega
    subst this
    have : q = 1 := Nat.dvd_one.mp hq
    subst this
    exact one_dvd _

theorem dvd_mulm_right {q m a b : Nat} (hq : q ∣ m) (hb : q ∣ b) : q ∣ mulm m a b := by
  unfold mulm
  rw [Nat.dvd_mod_iff hq]
  exact Dvd.dvd.mul_left hb a

theorem dvd_mulm_left {q m a b : Nat} (hq : q ∣ m) (ha : q ∣ a) : q ∣ mulm m a b := by
  unfold mulm
  rw [Nat.dvd_mod_iff hq]
  exact Dvd.dvd.mul_right ha b

theorem walkBlock_spec {m g g2 b2 : Nat} (hm : 0 < m) (hg2 : g2 ≡ g ^ 2 [MOD m]) :
    ∀ (blk : List Nat) (w : W), WInv m g w → blk.Pairwise (· < ·) → (∀ p ∈ blk, p % 2 = 1) → w.pPrev % 2 = 1 →
      ∃ w', walkBlock m g2 b2 blk w = some w' ∧ WInv m g w' ∧ w'.pPrev % 2 = 1 ∧ w.pPrev ≤ w'.pPrev ∧
        (∀ q, q ∣ m → q ∣ w.product → q ∣ w'.product) ∧
        ∀ l ∈ blk, w.pPrev < l → l ≤ b2 → ∀ q, q ∣ m → g ^ l ≡ 1 [MOD q] → q ∣ w'.product
  | [], w, hinv, _, _, hodd => ⟨w, rfl, hinv, hodd, le_rfl, fun _ _ h => h, fun l hl => absurd hl (by simp)⟩
  | p :: ps, w, hinv, hsorted, hodds, hodd => by
    rw [List.pairwise_cons] at hsorted
    have hodds' : ∀ p ∈ ps, p % 2 = 1 := fun x hx => hodds x (List.mem_cons_of_mem _ hx)
    rw [walkBlock]
    by_cases hle : p ≤ w.pPrev
    · have hs : walkStep m g2 b2 w p = some (w, false) := by unfold walkStep; rw [if_pos hle]
      rw [hs]
      simp only
      obtain ⟨w', h1, h2, h3, h4, h5, h6⟩ := walkBlock_spec hm hg2 ps w hinv hsorted.2 hodds' hodd
      refine ⟨w', h1, h2, h3, h4, h5, fun l hl hlt => ?_⟩
      rcases List.mem_cons.mp hl with rfl | hl
      · omega
      · exact h6 l hl hlt
    · have hpo := hodds p List.mem_cons_self
      obtain ⟨w1, hs, hinv1, hp1, hprod1⟩ := walkStep_spec (b2 := b2) hg2 hinv (p := p) (by omega) (by omega)
      rw [hs]
      have hmono1 : ∀ q, q ∣ m → q ∣ w.product → q ∣ w1.product := fun q hq hd => by
        rw [hprod1]; exact dvd_mulm_left hq hd
      have hfound1 : ∀ q, q ∣ m → g ^ p ≡ 1 [MOD q] → q ∣ w1.product := fun q hq hd => by
        rw [hprod1]
        refine dvd_mulm_right hq (dvd_subm_one hq hm ?_)
        have hx := hinv1.1
        rw [hp1] at hx
        exact (Nat.ModEq.of_dvd hq hx).trans hd
      by_cases hb : p > b2
      · simp only [hb, decide_true]
        refine ⟨w1, rfl, hinv1, by omega, by omega, hmono1, fun l hl hlt hlb => ?_⟩
        rcases List.mem_cons.mp hl with rfl | hl
        · omega
        · have := hsorted.1 l hl; omega
      · simp only [hb, decide_false]
        obtain ⟨w', h1, h2, h3, h4, h5, h6⟩ := walkBlock_spec hm hg2 ps w1 hinv1 hsorted.2 hodds' (by omega)
        refine ⟨w', h1, h2, h3, by omega, fun q hq hd => h5 q hq (hmono1 q hq hd), fun l hl hlt hlb q hq hd => ?_⟩
        rcases List.mem_cons.mp hl with rfl | hl
        · exact h5 q hq (hfound1 q hq hd)
        · exact h6 l hl (by have := hsorted.1 l hl; omega) hlb q hq hd

end Ymq.Pm1Impl
