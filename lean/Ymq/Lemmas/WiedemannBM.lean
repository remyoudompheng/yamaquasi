/-
Berlekamp–Massey on a Krylov sequence: the returned vector divides the reversed characteristic
polynomial; it equals it when its degree is `n` (then `charpoly[size]` is `(-1)^n det M`), and
when its degree is smaller and `det M ≠ 0` the cofactor is not constant (`wied_deficient`).
-/
import Ymq.Lemmas.WiedemannAlg
import Ymq.Lemmas.BerlekampMasseyMinimal
import Ymq.Model.Wiedemann

namespace Ymq.Wied
open Polynomial Matrix Ymq.BM

variable {p : ℕ} {o : Ops} {κ : ZMod p} {n : ℕ}

theorem wied_core [Fact p.Prime] (ok : OpsOK o p κ) (hn : 1 ≤ n)
    (M : Matrix (Fin n) (Fin n) (ZMod p)) (w : Matrix (Fin 1) (Fin n) (ZMod p))
    (v : Matrix (Fin n) (Fin 1) (ZMod p)) (seq : List ℕ) (hlen : seq.length = 2 * n)
    (hr : ∀ x ∈ seq, x < p)
    (hs : ∀ k, k < 2 * n → ((seq.getD k 0 : ℕ) : ZMod p) = krylovSeq M w v k)
    (h2 : TwoTerms seq) :
    ∃ out A, core o seq = some out ∧ out.length = 2 * n ∧ (∀ x ∈ out, x < p) ∧
      out.getD 0 0 = 1 ∧ (∀ j, n < j → out.getD j 0 = 0) ∧
      M.charpoly.reverse = toPoly p out * A ∧
      ∀ i, n ≤ i + A.natDegree → i < 2 * n → (toPoly p out * toPoly p seq).coeff i = 0 := by
  have hp : 0 < p := (Fact.out : p.Prime).pos
  have hred := red_of_mem hp seq hr
  obtain ⟨i, j, hij, hi, hj⟩ := h2
  have hS : ∀ k, k < 2 * n → (toPoly p seq).coeff k = krylovSeq M w v k := by
    intro k hk; rw [coeff_toPoly]; exact hs k hk
  have hT0 : M.charpoly.reverse.coeff 0 ≠ 0 := by
    rw [reverse_charpoly_coeff_zero]; exact one_ne_zero
  have hTa : ∀ i, n ≤ i → i < seq.length →
      (M.charpoly.reverse * toPoly p seq).coeff i = 0 := by
    intro i h1 h2; rw [hlen] at h2
    exact reverse_charpoly_annihilates M w v _ hS i h1 h2
  obtain ⟨out, e, hne⟩ := core_complete ok seq hred hij hi hj M.charpoly.reverse hT0
    (by rw [hlen]; have := reverse_charpoly_natDegree_le M; omega)
    (fun i h1 h2 => hTa i (by rw [hlen] at h1; omega) h2)
  obtain ⟨s1, s2, s3, _, _⟩ := core_sound_list ok seq hr out e hne
  obtain ⟨A, a1, a2, a3⟩ := core_minimal_dvd ok seq hred hij hi hj M.charpoly.reverse hT0 n
    (by rw [hlen]) (reverse_charpoly_natDegree_le M) hTa out e
  exact ⟨out, A, e, by rw [s1, hlen], s2, s3, a2, a1,
    fun i h1 h2 => a3 i h1 (by rw [hlen]; exact h2)⟩

theorem natDegree_of_factor {T P A : (ZMod p)[X]} [Fact p.Prime] (hT : T ≠ 0) (hA : T = P * A) :
    T.natDegree = P.natDegree + A.natDegree := by
  rw [hA]
  exact natDegree_mul (fun h => hT (by rw [hA, h, zero_mul])) (fun h => hT (by rw [hA, h, mul_zero]))

/-- a constant cofactor is 1, because both polynomials have constant term 1 -/
theorem wied_of_const_cofactor [Fact p.Prime] (M : Matrix (Fin n) (Fin n) (ZMod p)) (out : List ℕ)
    (A : (ZMod p)[X]) (h0 : out.getD 0 0 = 1) (hA : M.charpoly.reverse = toPoly p out * A)
    (hdA : A.natDegree = 0) : toPoly p out = M.charpoly.reverse := by
  obtain ⟨a, rfl⟩ : ∃ a, A = C a := ⟨A.coeff 0, eq_C_of_natDegree_eq_zero hdA⟩
  have hc0 := congrArg (fun P => P.coeff 0) hA
  simp only [mul_coeff_zero, coeff_C_zero, reverse_charpoly_coeff_zero, coeff_toPoly] at hc0
  have : co p out 0 = 1 := by unfold co gd; rw [h0]; simp
  rw [this, one_mul] at hc0
  rw [hA, ← hc0, C_1, mul_one]

theorem wied_full [Fact p.Prime] (M : Matrix (Fin n) (Fin n) (ZMod p)) (out : List ℕ)
    (A : (ZMod p)[X]) (h0 : out.getD 0 0 = 1)
    (hA : M.charpoly.reverse = toPoly p out * A) (htop : ((out.getD n 0 : ℕ) : ZMod p) ≠ 0) :
    toPoly p out = M.charpoly.reverse := by
  have hTne : M.charpoly.reverse ≠ 0 := by
    intro h; have := reverse_charpoly_coeff_zero M; rw [h] at this; simp at this
  have hdO : n ≤ (toPoly p out).natDegree := by
    apply le_natDegree_of_ne_zero
    rw [coeff_toPoly]; exact htop
  have hd := natDegree_of_factor hTne hA
  have hdT := reverse_charpoly_natDegree_le M
  exact wied_of_const_cofactor M out A h0 hA (by omega)

/-- the value read by `_detp4` in the full-complexity case -/
theorem wied_det_of_full [Fact p.Prime] (M : Matrix (Fin n) (Fin n) (ZMod p)) (out : List ℕ)
    (h : toPoly p out = M.charpoly.reverse) :
    M.det = (-1) ^ n * ((out.getD n 0 : ℕ) : ZMod p) := by
  rw [reverse_charpoly_coeff_top, ← h, coeff_toPoly]; rfl

theorem wied_deficient [Fact p.Prime] (M : Matrix (Fin n) (Fin n) (ZMod p)) (out : List ℕ)
    (A : (ZMod p)[X]) (hz : ∀ j, n < j → out.getD j 0 = 0)
    (hA : M.charpoly.reverse = toPoly p out * A) (htop : ((out.getD n 0 : ℕ) : ZMod p) = 0)
    (hdet : M.det ≠ 0) (hn : 1 ≤ n) : 1 ≤ A.natDegree := by
  have hTn : M.charpoly.reverse.coeff n ≠ 0 := by
    intro h0
    apply hdet
    rw [reverse_charpoly_coeff_top, h0, mul_zero]
  have hTne : M.charpoly.reverse ≠ 0 := fun h => hTn (by rw [h]; simp)
  have hdT : n ≤ M.charpoly.reverse.natDegree := le_natDegree_of_ne_zero hTn
  have hdO : (toPoly p out).natDegree ≤ n - 1 := by
    rw [natDegree_le_iff_coeff_eq_zero]
    intro N hN
    rw [coeff_toPoly]
    by_cases hNn : N = n
    · subst hNn; exact htop
    · unfold co gd; rw [hz N (by omega)]; simp
  have hd := natDegree_of_factor hTne hA
  omega

end Ymq.Wied
