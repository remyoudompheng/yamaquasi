/-
C09 (extension) — the cofactor-width statement of the extended Lehmer gcd with a sharper domain, and
the full-correctness form of `inv_mod`.
Property theorems and the private helper `coprime_of_mul_mod` (other helper lemmas: Ymq/Lemmas/GcdRow.lean,
GcdRow2.lean, GcdEgcd2.lean, GcdCof7.lean).
Same model as Props/C09.lean (Ymq/Model/Gcd.lean: `none` = the real code panics in the checked
profile, or the fuel ran out — excluded by `gcd_terminates`).
-/
import Ymq.Props.C09
import Ymq.Lemmas.GcdCof7
import Mathlib.Data.Nat.ModEq

namespace Ymq.C09
open Ymq.Gcd

/-- `reduce64(x, y)` for **all** pairs of 64-bit words: the FIRST row `(a, b)` of the returned matrix is
below `2^34` in absolute value (the second one is below `2^36`: `reduce64_inv`). Reason: the first row
is the second row of the state before the last continuing iteration, which passed the matrix-size test
`bits(q+1) + bits(max |c| |d|) <= 36` with `q + 1 >= 2`. This is what bounds the error term of a
Lehmer step in `gcd_internal` (the product of the two rows' sizes is below `2^70`, not `2^72`). -/
theorem reduce64_first_row (x y : Nat) (hx : x < 2 ^ 64) (hy : y < 2 ^ 64) (a b c d : Int)
    (h : reduce64 x y = some (a, b, c, d)) : a.natAbs < 2 ^ 34 ∧ b.natAbs < 2 ^ 34 := by
  obtain ⟨_, _, ⟨_, ⟨ha, hb, _⟩, _⟩, _⟩ := reduce64_of_some (by rw [W_eq]; exact hx) (by rw [W_eq]; exact hy) h
  rw [Int.abs_eq_natAbs] at ha hb
  exact ⟨by exact_mod_cast ha, by exact_mod_cast hb⟩

example : reduce64 18446744073709551615 12345678901234567 =
    some (-3133215, 4681606876, 11521471, -17215223933) ∧ (4681606876 : Int).natAbs < 2 ^ 34 := by
  decide +kernel

/-- `reduce64(x, y)` for **all** pairs of 64-bit words: every product of an entry of the first row by an
entry of the second row of the returned matrix is at most `(11/12) * 2^70` (`3 |e1| |e2| <= 11 * 2^68`).
Reason: nearest-integer quotients keep, in each column, the previous cofactor at most `2/3` of the
current one, so the last step `s' = k s -+ p`, `k <= q + 1`, gives `|s'| <= (q + 5/3) |s| + 1`, and the
matrix-size test that was passed says `(q + 2) * max(|c|, |d|) < 2^36`, `max(|c|, |d|) < 2^34`. The
largest product met by a directed search is `0.90 * 2^70`. -/
theorem reduce64_row_product (x y : Nat) (hx : x < 2 ^ 64) (hy : y < 2 ^ 64) (a b c d : Int)
    (h : reduce64 x y = some (a, b, c, d)) :
    3 * (a.natAbs * c.natAbs) ≤ 11 * 2 ^ 68 ∧ 3 * (a.natAbs * d.natAbs) ≤ 11 * 2 ^ 68 ∧
    3 * (b.natAbs * c.natAbs) ≤ 11 * 2 ^ 68 ∧ 3 * (b.natAbs * d.natAbs) ≤ 11 * 2 ^ 68 := by
  obtain ⟨_, _, ⟨_, _, hR⟩, _⟩ := reduce64_of_some (by rw [W_eq]; exact hx) (by rw [W_eq]; exact hy) h
  have h1 := hR.pac; have h2 := hR.pad; have h3 := hR.pbc; have h4 := hR.pbd
  simp only [Int.abs_eq_natAbs] at h1 h2 h3 h4
  have e : (11 * 2 ^ 68 : Nat) = 3246626956972881084416 := by norm_num
  rw [e]
  exact ⟨by exact_mod_cast h1, by exact_mod_cast h2, by exact_mod_cast h3, by exact_mod_cast h4⟩

example : reduce64 9252754402567472798 744673999053474881 =
    some (-1376391535, 17101997453, -4964999032, 61691312857) ∧
    10 * (17101997453 * 61691312857) > 8 * 2 ^ 70 := by
  decide +kernel

/-- `num_integer::Integer::extended_gcd(x0, y0)` on i64 in the situation of the `<64`-bit exit of
`gcd_internal` (`0 < y0 <= x0 < 2^63`): no i64 operation overflows, the result is `(g, ex, ey)` with
`g = gcd(x0, y0) = ex * x0 + ey * y0`, and the cofactors are at most HALF the operands:
`2 |ex| <= y0`, `2 |ey| <= x0` (or `x0 = y0`, where `|ey| <= 1`) — the classical bound, from the last
quotient being at least 2. -/
theorem egcd_i64_half (x0 y0 : Nat) (hx : x0 < 2 ^ 63) (hy : 0 < y0) (hyx : y0 ≤ x0) :
    ∃ g ex ey : Int, egcdI64 x0 y0 = some (g, ex, ey) ∧ g = Nat.gcd x0 y0 ∧ ex * x0 + ey * y0 = g ∧
      2 * ex.natAbs ≤ y0 ∧ (2 * ey.natAbs ≤ x0 ∨ (x0 = y0 ∧ ey.natAbs ≤ 1)) := by
  obtain ⟨g, s, t, he, h1, h2, _, _, b3, b4⟩ :=
    egcdI64_total (X := x0) (Y := y0) (by norm_num at hx ⊢; exact hx) hy hyx
  rw [Int.abs_eq_natAbs] at b3 b4
  exact ⟨g, s, t, he, h2, h1.symm, by exact_mod_cast b3,
    b4.imp (fun b => by exact_mod_cast b) fun ⟨b4, b5⟩ => ⟨b4, by exact_mod_cast b5⟩⟩

example : egcdI64 (12 : Nat) (5 : Nat) = some (1, -2, 5) ∧ egcdI64 (7 : Nat) (7 : Nat) = some (7, 0, 1) := by
  decide +kernel

/-- `no_panic`, extended variant with the real cofactor width, on the domain `max(n, p) < 2^(64N-7)`
(1017 bits for N = 16, 505 bits for N = 8, 249 bits for N = 4; `no_panic_ext` had `64N-12`):
`gcd_internal::<N, true>` never panics — no `BInt<N>` cofactor operation overflows, nor any other
site — and it returns the gcd with valid Bezout cofactors; the returned `u` and `v` are at most
`64 * max(n, p) + 1 < 2^(64N-1)` in absolute value (they fit `BInt<N>`). The domain is SHARP: `no_panic_ext_threshold`.
Invariant behind it (Ymq/Lemmas/GcdCof7.lean), for the state after the swap (`y <= x`, rows `(A, B)`
of `x` and `(C, D)` of `y`): `|A| * y <= 121 * max(n, p)`, `|B| * y <= 121 * max(n, p)` and all four
cofactors at most `63 * max(n, p) + 1`. With the determinant identity `x * C - y * A = -+p`, the
half-size bound of the i64 `extended_gcd` cofactors (`egcdI64_total`) and the bound `(11/12) * 2^70` on
the products of the two rows of a `reduce64` matrix (`reduce64_row_product`), every product and sum
formed by the quotient step, the Lehmer step and the final combination is at most
`64 * max(n, p) + 1 < 2^(64N-1)`.
The classical Euclid bound (constant 1) does not hold for this algorithm: after a Lehmer step the new
pair is `(u, v) * 2^k` plus an error of up to `2^36 * 2^k` that can exceed `u * 2^k` by a factor `2^8`,
and the products `|A| * y` really reach about `115 * max(n, p)` (intermediate values of `57 * max(n, p)`
were found by a directed search: see ADV_TOPS in props/c09.py). -/
theorem no_panic_ext_wide (N : Nat) (hN : 0 < N) (n p : Nat) (hn : n < 2 ^ (64 * N - 7))
    (hp : p < 2 ^ (64 * N - 7)) :
    ∃ (d : Nat) (u v : Int), gcdInternal N true n p = some (d, u, v) ∧
      d = Nat.gcd n p ∧ u * n + v * p = d ∧ u.natAbs ≤ 64 * max n p + 1 ∧ v.natAbs ≤ 64 * max n p + 1 := by
  obtain ⟨d, u, v, hr, hu, hv⟩ := gcdInternal_ext_total hN hn hp
  have hr' := hr
  unfold gcdInternal at hr'
  obtain ⟨h1, h2⟩ := gcdLoop_some hN _ _ d u v hr' (GInv_init true n p)
  refine ⟨d, u, v, hr, h1, h2 rfl, ?_, ?_⟩
  · rw [Int.abs_eq_natAbs] at hu
    exact_mod_cast hu
  · rw [Int.abs_eq_natAbs] at hv
    exact_mod_cast hv

example : (2 ^ 248 + 12345 : Nat) < 2 ^ (64 * 4 - 7) ∧ ¬ (2 ^ 248 + 12345 : Nat) < 2 ^ (64 * 4 - 12) ∧
    ∃ u v, gcdInternal 4 true (2 ^ 248 + 12345) (2 ^ 247 + 77) = some (1, u, v) := by
  refine ⟨by decide, by decide, ?_⟩
  obtain ⟨d, u, v, h, hd, _⟩ := no_panic_ext_wide 4 (by decide) (2 ^ 248 + 12345) (2 ^ 247 + 77)
    (by decide) (by decide)
  have : d = 1 := by rw [hd]; decide +kernel
  subst this
  exact ⟨u, v, h⟩

/-- the exact threshold of the cofactor width for N = 4 (`BInt<4>`, 256 bits): every pair of operands
below `2^249` (`64N - 7` bits) is handled without panic, and a pair below `2^250` is not. (The lower
side holds for every N: `no_panic_ext_wide`; the witness is `no_panic_ext_domain_sharp`.) -/
theorem no_panic_ext_threshold :
    (∀ n p : Nat, n < 2 ^ 249 → p < 2 ^ 249 → ∃ d u v, gcdInternal 4 true n p = some (d, u, v)) ∧
    (∃ n p : Nat, n < 2 ^ 250 ∧ p < 2 ^ 250 ∧ gcdInternal 4 true n p = none) := by
  refine ⟨fun n p hn hp => ?_, ?_⟩
  · obtain ⟨d, u, v, h, _⟩ := no_panic_ext_wide 4 (by decide) n p hn hp
    exact ⟨d, u, v, h⟩
  · obtain ⟨h1, h2, h3⟩ := no_panic_ext_domain_sharp
    exact ⟨_, _, h1, h2, h3⟩

/-- a modular inverse exists only for coprime operands -/
private theorem coprime_of_mul_mod {n p x : Nat} (h : n * x % p = 1 % p) : Nat.gcd n p = 1 := by
  by_cases hp : p = 1
  · subst hp; simp
  · by_cases hp0 : p = 0
    · subst hp0
      have : n * x = 1 := by simpa using h
      have hn : n = 1 := Nat.eq_one_of_mul_eq_one_right this
      subst hn; simp
    · have h1 : 1 % p = 1 := Nat.mod_eq_of_lt (by omega)
      rw [h1] at h
      have hg : Nat.gcd n p ∣ n * x % p :=
        (Nat.dvd_mod_iff (Nat.gcd_dvd_right n p)).2 (Dvd.dvd.mul_right (Nat.gcd_dvd_left n p) x)
      rw [h] at hg
      exact Nat.dvd_one.1 hg

/-- full-correctness form of `inv_mod::<N>(n, p)` (termination + result, both directions) for a non-zero
modulus and operands below `2^(64N-7)`: it returns (no panic, the loop ends within its fuel), and
* if `gcd(n, p) = 1` the result is `Ok(x)` with `x < p` and `n * x ≡ 1 (mod p)` — the unique such `x`;
* if `gcd(n, p) ≠ 1` the result is `Err(gcd(n, p))`.
Hence `Ok` iff coprime, `Err` iff not coprime. (`p = 0` is refused by the assertion: `inv_mod_spec`.) -/
theorem inv_mod_total (N : Nat) (hN : 0 < N) (n p : Nat) (hp0 : p ≠ 0)
    (hn : n < 2 ^ (64 * N - 7)) (hp : p < 2 ^ (64 * N - 7)) :
    (Nat.gcd n p = 1 → ∃ x, invMod N n p = some (.ok x) ∧ x < p ∧ n * x % p = 1 % p ∧
        ∀ x', x' < p → n * x' % p = 1 % p → x' = x) ∧
    (Nat.gcd n p ≠ 1 → invMod N n p = some (.err (Nat.gcd n p))) := by
  obtain ⟨r, hr⟩ := invMod_total hN hp0 hn hp
  have hs := inv_mod_spec N hN n p r hr
  cases r with
  | ok x =>
    simp only at hs
    have hg := coprime_of_mul_mod hs.2
    refine ⟨fun _ => ⟨x, hr, hs.1, hs.2, ?_⟩, fun hne => absurd hg hne⟩
    intro x' hx' hm
    -- uniqueness: n is invertible modulo p
    have e : n * x % p = n * x' % p := by rw [hs.2, hm]
    have hmod : x % p = x' % p :=
      Nat.ModEq.cancel_left_of_coprime (m := p) (c := n) (by rw [Nat.gcd_comm]; exact hg) e
    rw [Nat.mod_eq_of_lt hs.1, Nat.mod_eq_of_lt hx'] at hmod
    exact hmod.symm
  | err d =>
    simp only at hs
    refine ⟨fun h1 => absurd (hs.1 ▸ h1) hs.2, fun _ => by rw [hr, hs.1]⟩

example : (Nat.gcd 3 7 = 1 ∧ invMod 8 3 7 = some (.ok 5)) ∧ (Nat.gcd 6 9 ≠ 1 ∧ invMod 8 6 9 = some (.err 3)) ∧
    (7 : Nat) < 2 ^ (64 * 8 - 7) := by
  decide +kernel

end Ymq.C09
