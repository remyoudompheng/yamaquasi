/-
C03 — factoring is total: it answers or fails cleanly, never crashes.
Only property theorems live here (helper lemmas: Ymq/Lemmas/Factor*.lean).

Scope: the control flow of `factor` / `factor_impl` / `check_factors` (src/lib.rs) around the
sub-algorithms, which are oracle fields constrained by `OracleOK`
(Ymq/Lemmas/FactorOracle.lean). Panic sites covered: `assert!(n.bits() <= 64)` ×3,
`unreachable!("impossible")` ×2 (both shown dead), `n / d` with `d = 0`, `residue /= gcd` with `gcd = 0`,
`assert!(residue.is_one())`, `assert_eq!(n, p)` and `assert_eq!(*n, product)` in
`check_factors`; termination: every recursive call is on a proper divisor, so the recursion
depth is at most `bits n` (the model's `.fuel` outcome cannot occur with `fuel ≥ bits n`).
Panics inside the sub-algorithms themselves are the business of the other properties.
-/
import Ymq.Lemmas.FactorExample

namespace Ymq.C03
open Ymq.Factor

variable {σ : Type}

/-- **`factor_total`** (full statement, all ten selectors). Under the oracle contract, for every
`n` (inputs above 500 bits are refused with the declared failure), every selector whose size
precondition is met, every `prime` and `abort` behaviour and enough fuel: `factor` returns a list
(whose product is `n`) or the declared failure value — never a panic site of lib.rs, never fuel
exhaustion (= the recursion terminates, depth ≤ bits of the trial-divided value).
The size precondition (`SelectorPre`: Qs64/Rho/Squfof need at most 64 bits) and the fuel bound
are stated on the value AFTER trial division by the 46 small primes, exactly where lib.rs
asserts (`assert!(n.bits() <= 64)` in `factor_impl`): e.g. `2^10 · (64-bit composite)` with
selector Rho is inside the theorem. `factor_total_of_input` is the form with both bounds on `n`.

History: on the tree as given this statement was FALSE for selector `Rho`. When
`pollard_rho::rho` returned `None` on a composite, the `Algo::Rho` arm neither pushed nor
returned; control left the `match`, passed `prefs.abort()` and reached
`_ => unreachable!("impossible")`. In the model of that tree an `OracleOK` oracle whose `rho` fails on 47053
(`toyNoRho` below) gave `factor … 188212 .rho = .panic _`, and the statement held only under the extra
hypothesis "rho never fails on a rejected number".
The defect was reproduced on the real code (`factor(4611610225450740157, Algo::Rho)`
panicked) and repaired in /repo (`fix:` 21688e6: the arm pushes `n` and returns, like Squfof);
the model follows the repaired code. -/
theorem factor_total (o : Oracle σ) (hok : OracleOK o) (fuel n : Nat) (alg : Algo) (os : σ)
    (hsel : SelectorPre alg (trialDivideBy 1100 Ymq.Gen.Primality.smallPrimes n []).1)
    (hfuel : bits (trialDivideBy 1100 Ymq.Gen.Primality.smallPrimes n []).1 ≤ fuel) :
    (∃ l, factor o fuel n alg os = .ok l ∧ l.prod = n) ∨ factor o fuel n alg os = .failure :=
  factor_total_aux hok fuel n alg os (by rw [trialDiv_def]; exact hsel)
    (by rw [trialDiv_def]; exact hfuel)

/-- corollary: both bounds on the input `n` itself (divisors are not longer than `n`) -/
theorem factor_total_of_input (o : Oracle σ) (hok : OracleOK o) (fuel n : Nat) (alg : Algo)
    (os : σ) (hsel : SelectorPre alg n) (hfuel : bits n ≤ fuel) :
    (∃ l, factor o fuel n alg os = .ok l ∧ l.prod = n) ∨ factor o fuel n alg os = .failure :=
  factor_total_aux hok fuel n alg os (pre_of_input hsel hfuel).1 (pre_of_input hsel hfuel).2

/-- **`factorImpl_total`**: the inner recursion — `factor_impl(n)` with `n ≥ 1` ends with `.ok`
under the same hypotheses (fuel `bits n` suffices: each recursive call is on a proper divisor). -/
theorem factorImpl_total (o : Oracle σ) (hok : OracleOK o) (fuel n : Nat) (alg : Algo)
    (s : St σ) (hn : 1 ≤ n) (hsel : SelectorPre alg n) (hfuel : bits n ≤ fuel) :
    ∃ s', factorImpl o fuel n alg s = .ok s' :=
  factorImpl_total_aux hok alg fuel n s hn hfuel hsel

open Ymq.Factor.Toy

/-- selector Rho, `rho` succeeding -/
example : (∃ l, factor toy 18 188212 .rho () = .ok l ∧ l.prod = 188212) ∨
    factor toy 18 188212 .rho () = .failure :=
  factor_total toy toy_ok 18 188212 .rho () (fun _ => by decide +kernel) (by decide +kernel)

example : factor toy 18 188212 .rho () = .ok [2, 2, 211, 223] := by decide +kernel

/-- selector Rho, `rho` FAILING on the composite 47053 (the former panic): now the composite is
left in the list … -/
example : factor toyNoRho 18 188212 .rho () = .ok [2, 2, 47053] := by decide +kernel

/-- … or, when it is alone, the declared failure is returned -/
example : factor toyNoRho 16 47053 .rho () = .failure := by decide +kernel

example : (∃ l, factor toyNoRho 16 47053 .rho () = .ok l ∧ l.prod = 47053) ∨
    factor toyNoRho 16 47053 .rho () = .failure :=
  factor_total toyNoRho toyNoRho_ok 16 47053 .rho () (fun _ => by decide +kernel)
    (by decide +kernel)

/-- the precondition sits after trial division: `2^10 · (63-bit composite)` with selector Rho has 73 bits — outside the
input-form precondition, inside `factor_total` (lib.rs asserts after trial division) -/
example : ¬ SelectorPre .rho (1024 * 4611610225450740157) ∧
    ((∃ l, factor toyNoRho 63 (1024 * 4611610225450740157) .rho () = .ok l ∧
        l.prod = 1024 * 4611610225450740157) ∨
      factor toyNoRho 63 (1024 * 4611610225450740157) .rho () = .failure) :=
  ⟨fun h => absurd (h (Or.inr (Or.inl rfl))) (by decide +kernel),
    factor_total toyNoRho toyNoRho_ok 63 _ .rho () (fun _ => by decide +kernel)
      (by decide +kernel)⟩

example : (∃ l, factor toy 18 188212 .siqs () = .ok l ∧ l.prod = 188212) ∨
    factor toy 18 188212 .siqs () = .failure :=
  factor_total_of_input toy toy_ok 18 188212 .siqs () (fun h => by simp at h) (by decide +kernel)

/-- the `.failure` disjunct through a sieve selector: a single composite left unsplit -/
example : factor toy 26 (211 * 211 * 223) .qs () = .failure := by decide +kernel

example : (∃ l, factor toy 18 188212 .siqs () = .ok l ∧ l.prod = 188212) ∨
    factor toy 18 188212 .siqs () = .failure :=
  factor_total toy toy_ok 18 188212 .siqs () (fun h => by simp at h) (by decide +kernel)

example : ∃ s', factorImpl toy 16 47053 .ecm (initSt () [2, 2]) = .ok s' :=
  factorImpl_total toy toy_ok 16 47053 .ecm _ (by decide) (fun h => by simp at h)
    (by decide +kernel)

example : ∃ s', factorImpl toyNoRho 16 47053 .rho (initSt () [2, 2]) = .ok s' :=
  factorImpl_total toyNoRho toyNoRho_ok 16 47053 .rho _ (by decide) (fun _ => by decide +kernel)
    (by decide +kernel)

end Ymq.C03
