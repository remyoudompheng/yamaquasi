/-
C11, explicit-stack formulation. Since fix e402536 the code's `walk_doubles` runs on an explicit
stack of `WalkFrame`s and `combine_double` is `combine_double_step` plus the requested walk
(src/relations.rs:336-401, 522-581). Ymq/Model/RelationsWalk.lean mirrors that code line by line
(`walkFrame`, `frameStep`, `walkIter`, `combineDoubleStep`, `addStack`, `runHistoryStack`); the
theorems of Ymq/Props/C11.lean are about the recursive formulation (`walkDoubles`, `add`,
`runHistory`). This file proves that the two formulations compute the same thing and restates the
store theorems for the model that mirrors the code.
-/
import Ymq.Props.C11
import Ymq.Lemmas.RelationsWalkBound

namespace Ymq.C11
open Ymq.Relations

/-- `combine_double` is `combine_double_step` followed by the walk it requests — for every walker,
every relation and every store, including all error cases (the 8 panic sites of
`combine_double_step` are those of the recursive model's `combineDouble`). -/
theorem combine_double_eq_step (walk : Nat → Store → M Store) (r : Relation) (p q : Nat) (s : Store) :
    combineDouble walk r p q s = combineDoubleStep r p q s >>= afterStep walk :=
  combineDouble_eq_step walk r p q s

/-- `walk_stack_eq_rec`: for every store and every requested walk, the explicit-stack loop and
the recursive walk return the same thing — same resulting store (hence same combination order),
same error — as soon as neither runs out of its fuel:
(1) a result of the loop with `k` iterations other than "out of iterations" is the result of the
recursive walk for every recursion fuel `> k`;
(2) a result of the recursive walk other than "out of fuel" is the result of the loop for every
sufficiently large number of iterations: in particular the loop TERMINATES whenever the recursion
does (and the recursion does within `doubles.len() + 1` levels: `add_no_panic`). -/
theorem walk_stack_eq_rec (root : Nat) (s : Store) :
    (∀ k R, walkStack k root s = R → R ≠ .error .fuel → ∀ f, k + 1 ≤ f → walkDoubles f root s = R) ∧
    (∀ f R, walkDoubles f root s = R → R ≠ .error .fuel → ∃ c, ∀ k, c ≤ k → walkStack k root s = R) :=
  ⟨fun k _ h hR _ hf => ((walkStack_le_rec k root s).trans (walkDoubles_fuel_le hf root s)).elim h hR,
    fun f _ h hR => let ⟨c, hc, _⟩ := walkStack_of_rec f root s; ⟨c, fun k hk => (hc k hk).elim h hR⟩⟩

/-- the same for a whole `add`: whatever the explicit-stack `add` returns (other than "out of
iterations") is what the recursive `add` returns (when that does not run out of recursion fuel). -/
theorem add_stack_eq_add (r : Relation) (pq : Option (Nat × Nat)) (s : Store) (R R' : M Store)
    (h : add r pq s = R) (hR : R ≠ .error .fuel) (h' : addStack r pq s = R')
    (hR' : R' ≠ .error .fuel) : R' = R :=
  addStack_eq_add h hR h' hR'

/-- `add_inv` for the model that mirrors the code -/
theorem add_inv_stack (s s' : Store) (r : Relation) (pq : Option (Nat × Nat)) (hi : Inv s)
    (hn : s.n ≤ 2 ^ 512) (hin : InputOK s.n r pq) (h : addStack r pq s = .ok s') :
    Inv s' ∧ s'.n = s.n ∧ s'.maxlarge = s.maxlarge := by
  have := addWith_keeps isWalk_stack (addStack_eq_addWith r pq s ▸ h) ⟨hi, by rw [X512_eq]; exact hn⟩ hin
  exact ⟨this.2.2, this.1, this.2.1⟩

/-- `history_inv` for the model that mirrors the code: every finite history of `add`s (explicit
stack) from `RelationSet::new` ends in a store satisfying the invariant. -/
theorem history_inv_stack (n fbsize maxlarge : Nat) (hn : n ≤ 2 ^ 512)
    (ops : List (Relation × Option (Nat × Nat))) (hok : HistoryOK n ops) (s' : Store)
    (h : runHistoryStack ops (Store.new n fbsize maxlarge) = .ok s') : Inv s' ∧ s'.n = n := by
  have := isRun_stack.keeps isWalk_stack ops _ s' h ⟨inv_new n fbsize maxlarge, by rw [X512_eq]; exact hn⟩ hok
  exact ⟨this.2.2, this.1⟩

/-- `cycles_valid` for the model that mirrors the code -/
theorem cycles_valid_stack (n fbsize maxlarge : Nat) (hn : n ≤ 2 ^ 512)
    (ops : List (Relation × Option (Nat × Nat))) (hok : HistoryOK n ops) (s' : Store)
    (h : runHistoryStack ops (Store.new n fbsize maxlarge) = .ok s') :
    ∀ r ∈ s'.cycles, r.cofactor = 1 ∧ (r.x : Int) * r.x ≡ fprod r.factors [ZMOD n] := by
  obtain ⟨hi, hn'⟩ := history_inv_stack n fbsize maxlarge hn ops hok s' h
  exact hi.cycles_congr hn'

/-- `doubles_disjoint` for the model that mirrors the code -/
theorem doubles_disjoint_stack (n fbsize maxlarge : Nat) (hn : n ≤ 2 ^ 512)
    (ops : List (Relation × Option (Nat × Nat))) (hok : HistoryOK n ops) (s' : Store)
    (h : runHistoryStack ops (Store.new n fbsize maxlarge) = .ok s') :
    ∀ p q b, ((p, q), b) ∈ s'.doubles → (∀ c, (p, c) ∉ s'.partials) ∧ (∀ c, (q, c) ∉ s'.partials) := by
  exact (disj_iff_mem s').mp (isRun_stack.disj isWalk_stack ops _ s' h
    ⟨inv_new n fbsize maxlarge, by rw [X512_eq]; exact hn⟩ hok (fun k ⟨b, hb⟩ => by cases hb))

/-- `walk_iter_bound`: the closed-form iteration bound of the explicit-stack walk. In a store
satisfying `Inv` (`n ≤ 2^512`), whatever the recursive walk returns (other than "out of recursion
fuel") the `while` loop returns within `Store.iterFuel = 2·L²·(L+1) + 1` iterations,
`L = doubles.len() + doubles_rev.len()`: the recursion depth that overflowed the real stack is now a
proved loop bound. (Accounting: a frame with k ≤ L keys costs 2k + 1 iterations of its own and starts
at most 2k nested walks; the first action of a non-empty frame removes a stored double — for a frame
with reverse keys only by the mirror invariant — and charging 4L ≥ 4k for every removed entry pays for
all of it: cost ≤ 1 + 4L·(L − L′) ≤ 2·L²·(L+1) + 1.) -/
theorem walk_iter_bound (root : Nat) (s : Store) (hi : Inv s) (hn : s.n ≤ 2 ^ 512) (f : Nat)
    (R : M Store) (h : walkDoubles f root s = R) (hR : R ≠ .error .fuel) :
    ∀ F, s.iterFuel ≤ F → walkStack F root s = R :=
  fun _ hF => (walkStack_bound ⟨hi, by rw [X512_eq]; exact hn⟩ hF).elim h hR

/-- ... in particular, inside the contract (store satisfying `Inv` and `Inv2`, `root` a key of
`partial`, as at every call site of `add`) the loop never returns "out of iterations". -/
theorem walk_iter_bound_contract (root : Nat) (s : Store) (hi : Inv s) (hi2 : Inv2 s)
    (hn : s.n ≤ 2 ^ 512) (hn0 : 0 < s.n) (hroot : ∃ b, (root, b) ∈ s.partials) :
    ∀ F, s.iterFuel ≤ F → walkStack F root s ≠ .error .fuel ∧
      walkStack F root s = walkDoubles (s.doubles.length + 1) root s := by
  intro F hF
  have hX : s.n ≤ X512 := by rw [X512_eq]; exact hn
  have hnp := walkDoubles_np (s.doubles.length + 1) root s ⟨hi, hX⟩ hi2 hn0 hroot (Nat.lt_succ_self _)
  have hR : walkDoubles (s.doubles.length + 1) root s ≠ .error .fuel := by
    intro hc; have := hnp _ hc; cases this
  have := (walkStack_bound ⟨hi, hX⟩ hF).elim rfl hR
  exact ⟨by rw [this]; exact hR, this⟩

/-- inside the validity contract the explicit-stack `add` returns exactly what the recursive `add`
returns (all results other than "out of recursion fuel"), and so do whole histories. -/
theorem add_stack_of_add (s : Store) (r : Relation) (pq : Option (Nat × Nat)) (hi : Inv s)
    (hn : s.n ≤ 2 ^ 512) (hin : InputOK s.n r pq) (R : M Store) (h : add r pq s = R)
    (hR : R ≠ .error .fuel) : addStack r pq s = R :=
  (addStack_of_add hi (by rw [X512_eq]; exact hn) hin).elim h hR

theorem history_stack_eq_rec (n fbsize maxlarge : Nat) (hn : n ≤ 2 ^ 512)
    (ops : List (Relation × Option (Nat × Nat))) (hok : HistoryOK n ops) (R : M Store)
    (h : runHistory ops (Store.new n fbsize maxlarge) = R) (hR : R ≠ .error .fuel) :
    runHistoryStack ops (Store.new n fbsize maxlarge) = R :=
  (runHistoryStack_of_run ops _ (inv_new n fbsize maxlarge) (by rw [X512_eq]; exact hn) hok).elim h hR

/-- `add_no_panic` for the model that mirrors the code: inside the callers' contract no assertion,
unwrap, index or debug assertion of `add` / `combine_double_step` / `walk_doubles` is reachable and
the `while` loop ends within `Store.iterFuel` iterations; the only error left is the `u64`
exponent / cycle-length counter overflow, as in the recursive theorem. -/
theorem add_no_panic_stack (s : Store) (r : Relation) (pq : Option (Nat × Nat)) (hi : Inv s)
    (hi2 : Inv2 s) (hn : s.n ≤ 2 ^ 512) (hin : InputOK2 s r pq) :
    ∀ e, addStack r pq s = .error e → e = .overflow :=
  addStack_np_full hi hi2 (by rw [X512_eq]; exact hn) hin

/-- `history_no_panic` for the model that mirrors the code. -/
theorem history_no_panic_stack (n fbsize maxlarge : Nat) (hn : n ≤ 2 ^ 512)
    (ops : List (Relation × Option (Nat × Nat))) (hok : HistoryOK2 n maxlarge ops) :
    ∀ e, runHistoryStack ops (Store.new n fbsize maxlarge) = .error e → e = .overflow :=
  runHistoryStack_np_full ops _ ⟨inv_new n fbsize maxlarge, by rw [X512_eq]; exact hn⟩
    (inv2_new n fbsize maxlarge) hok

/-- non-vacuity: on the history modulo 15 (single, partner, p = q double, double with one known
prime and a walk) both formulations return the same store. -/
example :
    let ops : List (Relation × Option (Nat × Nat)) :=
      [({ x := 2, cofactor := 77, cyclelen := 1, factors := [(2, 1)] }, some (11, 7)),
       ({ x := 3, cofactor := 7, cyclelen := 1, factors := [(2, 2), (3, 1)] }, none),
       ({ x := 5, cofactor := 7, cyclelen := 1, factors := [(5, 1), (-1, 1)] }, none),
       ({ x := 4, cofactor := 121, cyclelen := 1, factors := [] }, some (11, 11))]
    (runHistoryStack ops (Store.new 15 3 50)).toOption = (runHistory ops (Store.new 15 3 50)).toOption ∧
    ((runHistoryStack ops (Store.new 15 3 50)).toOption.map fun s => (s.cycles.length, s.partials.map (·.1),
      s.doubles.length)) = some (2, [7, 11], 0) := by
  decide +kernel

end Ymq.C11
