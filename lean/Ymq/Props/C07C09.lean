/-
C07 ∘ C09: `ZmodN::inv` / `ZmodN::gcd` with `arith_gcd::inv_mod` / `big_gcd` instantiated by the MODEL of
arith_gcd.rs (Ymq/Model/Gcd.lean, tied to the code under C09), using C09's `inv_mod_spec`,
`inv_mod_no_panic` and `no_panic`. `ZmodN::inv` is specified under a hypothesis about `inv_mod` at the operand
(`ZmodN.inv_spec_at`: at `val x` only; C07's `inv_spec` asks it of every `a`, which the model cannot give where
`inv_mod::<8>` panics); here that hypothesis is discharged, for moduli of at most 500 bits (the supported range).
Kept in its own module so that neither property's file depends on the other.
-/
import Ymq.Props.C07
import Ymq.Props.C09

namespace Ymq.C09
open Ymq.Gcd Ymq.Limbs Ymq.ZmodN

/-- `arith_gcd::inv_mod::<8>(a, n).ok()` as computed by the C09 model -/
def invModC09 (a n : Nat) : Option Nat :=
  match invMod 8 a n with
  | some (.ok i) => some i
  | _ => none

/-- `ZmodN::inv` on top of the C09 model of `inv_mod`, wherever `inv_mod::<8>(x, n)` returns at all: `None` only if
`gcd(x, n) ≠ 1`, otherwise the Montgomery form of the inverse (`r·x ≡ R² (mod n)`). -/
theorem zmodn_inv_of_returns (c : Ctx) (hc : Valid c) (x : List Nat) (r : InvRes)
    (hr : invMod 8 (val x) c.n = some r) :
    (Nat.gcd (val x) c.n ≠ 1 ∧ ZmodN.inv invModC09 c x = some none) ∨
    (∃ r, ZmodN.inv invModC09 c x = some (some r) ∧ val r < c.n ∧
      val r * val x % c.n = Limbs.W ^ c.k * Limbs.W ^ c.k % c.n ∧ r.length = 8 ∧ Wf r) := by
  have hs := inv_mod_spec 8 (by decide) (val x) c.n r hr
  refine ZmodN.inv_spec_at hc invModC09 x ?_
  unfold invModC09
  rw [hr]
  cases r with
  | ok i => exact ⟨hs.1, by rw [Nat.mul_comm]; exact hs.2⟩
  | err d => simp only at hs ⊢; rw [← hs.1]; exact hs.2

/-- `ZmodN::inv` on top of the C09 model of `inv_mod`, modulus and operand below `2^500 = 2^(64*8-12)`: no panic;
`None` only if `gcd(x, n) ≠ 1`, otherwise the Montgomery form of the inverse (`r·x ≡ R² (mod n)`).
No hypothesis about `inv_mod` is left. -/
theorem zmodn_inv_spec (c : Ctx) (hc : Valid c) (hn : c.n < 2 ^ (64 * 8 - 12)) (x : List Nat)
    (hx : val x < 2 ^ (64 * 8 - 12)) :
    (Nat.gcd (val x) c.n ≠ 1 ∧ ZmodN.inv invModC09 c x = some none) ∨
    (∃ r, ZmodN.inv invModC09 c x = some (some r) ∧ val r < c.n ∧
      val r * val x % c.n = Limbs.W ^ c.k * Limbs.W ^ c.k % c.n ∧ r.length = 8 ∧ Wf r) := by
  obtain ⟨r, hr⟩ := inv_mod_no_panic 8 (by decide) (val x) c.n (Nat.pos_iff_ne_zero.mp hc.npos) hx hn
  exact zmodn_inv_of_returns c hc x r hr

/-- `ZmodN::gcd` on top of the C09 model of `big_gcd`: never panics and is `gcd(n, x)`. -/
theorem zmodn_gcd_spec (c : Ctx) (x : List Nat) (hn : c.n < 2 ^ (64 * 8)) (hx : val x < 2 ^ (64 * 8)) :
    bigGcd 8 c.n (val x) = some (ZmodN.gcd c x) := by
  rw [Ymq.C07.gcd_spec]
  exact no_panic 8 (by decide) c.n (val x) hn hx

/-- non-vacuity: the 3-word modulus `n = 2^192 - 237` of C07's examples -/
example : invModC09 3 (2 ^ 192 - 237) = some 4184734490257787175890526282138444277401570296309356341773 ∧
    3 * 4184734490257787175890526282138444277401570296309356341773 % (2 ^ 192 - 237) = 1 := by
  decide +kernel

end Ymq.C09
