/-
C02 ∘ C06: the control-flow theorem of C02 with the primality oracle instantiated by the MODEL of
`pseudoprime` (Ymq/Model/Pseudoprime.lean, tied to the code under C06), and C06's soundness of
the 64-bit test. Kept in its own module so that neither property's file depends on the other.
-/
import Ymq.Props.C02
import Ymq.Props.C06

namespace Ymq.C02
open Ymq.Factor Ymq.Pseudoprime Ymq.Mg64

variable {σ : Type}

/-- `auto_complete` with a soundness hypothesis restricted to a class `P` of numbers: with no
give-up event, every appended element of class `P` is prime. -/
theorem auto_complete_on (o : Oracle σ) (P : Nat → Prop)
    (hsound : ∀ t m, P m → (o.prime t m).1 = true → Nat.Prime m)
    (fuel n : Nat) (alg : Algo) (s s' : St σ) (h : factorImpl o fuel n alg s = .ok s')
    (hg : s'.giveups = []) :
    ∃ new, s'.factors = s.factors ++ new ∧ ∀ x ∈ new, P x → Nat.Prime x := by
  obtain ⟨new, gnew, h1, h2, h3⟩ := auto_composite_needs_giveup o fuel n alg s s' h
  rw [hg] at h2
  have hgn : gnew = [] := (List.append_eq_nil_iff.mp h2.symm).2
  refine ⟨new, h1, ?_⟩
  intro x hx hP
  rcases h3 x hx with ⟨t, ht⟩ | hx'
  · exact hsound t x hP ht
  · rw [hgn] at hx'; simp at hx'

/-- an oracle whose primality field is the modelled `pseudoprime` (whatever its other fields do) -/
def UsesPseudoprime (o : Oracle σ) : Prop :=
  ∀ t m, (o.prime t m).1 = (pseudoprime m == some true)

/-- **Auto mode returns primes below 2^64** (model level): if the primality oracle is the modelled
`pseudoprime`, then under the three literature hypotheses of C06 (minimal strong pseudoprimes
ψ₂ = 1373653, ψ₅ = 2152302898747, ψ₁₂ > 2^64 — explicit hypotheses, not axioms), a run of
`factor_impl` that logged no give-up event appends only primes among its elements below 2^64.
Every other behaviour of the sub-algorithms is arbitrary. -/
theorem auto_complete_64 (o : Oracle σ) (hpp : UsesPseudoprime o)
    (Hψ2 : ∀ n, n % 2 = 1 → 1 < n → n < 1373653 → (∀ b ∈ [2, 3], SPRP n b) → Nat.Prime n)
    (Hψ5 : ∀ n, n % 2 = 1 → 1 < n → n < 2152302898747 →
      (∀ b ∈ [2, 3, 5, 7, 11], SPRP n b) → Nat.Prime n)
    (Hψ12 : ∀ n, n % 2 = 1 → 1 < n → n < 2 ^ 64 →
      (∀ b ∈ [2, 3, 5, 7, 11, 13, 17, 19, 23, 29, 31, 37], SPRP n b) → Nat.Prime n)
    (fuel n : Nat) (alg : Algo) (s s' : St σ) (h : factorImpl o fuel n alg s = .ok s')
    (hg : s'.giveups = []) :
    ∃ new, s'.factors = s.factors ++ new ∧ ∀ x ∈ new, x < 2 ^ 64 → Nat.Prime x := by
  refine auto_complete_on o (fun m => m < 2 ^ 64) ?_ fuel n alg s s' h hg
  intro t m hm ht
  rw [hpp t m] at ht
  have hps := eq_of_beq ht
  rw [C06.pseudoprime_eq_isprime64 m hm] at hps
  exact C06.isprime64_sound Hψ2 Hψ5 Hψ12 m hm hps

end Ymq.C02
