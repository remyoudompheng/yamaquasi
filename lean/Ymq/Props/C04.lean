/-
C04 — results do not depend on thread count or thread interleaving.
Only property theorems live here (helper lemmas: Ymq/Lemmas/Sched.lean).

Model (Ymq/Model/Sched.lean): workers own lists of work units; each `add` to the shared store is
atomic (write lock); the completion flag is read Relaxed, i.e. possibly stale. A schedule is an
ARBITRARY list of (worker, stale?, abort answer) choices, so every interleaving and every pattern of missed
flag updates is quantified over. The store (`σ`, `add`), the completion test (`enough`), the
invariant and the notion of a good relation are parameters: the relation store of C11 is one
instance (`sched_relations_valid`, Props/C04Relations.lean).

What is NOT provable here and is explored on real runs instead: that the multi-threaded result
is complete whenever the single-threaded one is (which relations a polynomial yields, and hence
when `enough` fires, is number theory), and the absence of deadlocks/data races in `RwLock`/rayon
themselves (trusted runtime).
-/
import Ymq.Lemmas.Sched

namespace Ymq.C04
open Ymq.Sched

variable {ρ σ : Type}

/-- For EVERY schedule (interleaving of the workers' atomic actions) and every pattern of stale
flag reads: the shared store equals the sequential replay of the linearised add history, that
history consists only of relations the workers' work units produce, and any invariant that one
`add` preserves for good relations holds at the end (and, the schedule being arbitrary, after
every prefix). Flags influence only WHICH prefix of each worker's program runs. -/
theorem sched_inv (add : σ → ρ → σ) (enough : σ → Bool) (Inv : σ → Prop) (Good : ρ → Prop)
    (hadd : ∀ s r, Inv s → Good r → Inv (add s r))
    (s0 : σ) (progs : List (List (List ρ))) (h0 : Inv s0)
    (hgood : ∀ prog ∈ progs, ∀ u ∈ prog, ∀ r ∈ u, Good r) (sched : List (Nat × Bool × Bool)) :
    let c := run add enough (init s0 progs) sched
    c.store = c.log.foldl add s0 ∧ Inv c.store ∧ (∀ r ∈ c.log, Good r) ∧
      (∀ r ∈ c.log, ∃ prog ∈ progs, ∃ u ∈ prog, r ∈ u) := by
  refine run_fresh add enough Inv Good hadd _ (init s0 progs) rfl h0 ?_ sched
  intro l hl r hr
  obtain ⟨prog, hprog, rfl⟩ := List.mem_map.1 hl
  rw [pendingAdds_compile, List.mem_flatten] at hr
  obtain ⟨u, hu, hru⟩ := hr
  exact ⟨hgood prog hprog u hu r hru, prog, hprog, u, hu, hru⟩

/-- the completion flag is monotone under every schedule: once some worker has published
completion no later action clears it (so a stale reader can only be late, never wrong) -/
theorem sched_done_monotone (add : σ → ρ → σ) (enough : σ → Bool) (c : Cfg ρ σ)
    (sched : List (Nat × Bool × Bool)) (h : c.done = true) : (run add enough c sched).done = true :=
  run_induction add enough (·.done = true) (fun c w st ab h => by
    by_cases he : effective c w
    · obtain ⟨a, rest, ha⟩ := he
      rw [step_eq add enough ha]
      cases a <;> simp [act, h]
    · rw [step_idle add enough he]; exact h) sched c h

/-- termination, part 1 (bounded work): along any schedule the workers perform at most
`remaining c` actions in total — the number of actions in their finite work lists
(SIQS `a_ints`, MPQS polynomial blocks, ECM seeds); stale flag reads cannot create work. -/
theorem sched_bounded_work (add : σ → ρ → σ) (enough : σ → Bool) (c : Cfg ρ σ)
    (sched : List (Nat × Bool × Bool)) (h : allEffective add enough c sched) :
    sched.length + remaining (run add enough c sched) ≤ remaining c :=
  run_measure add enough remaining (fun _ => True) (fun c w st ab _ he => (step_remaining add enough c w st ab).2 he)
    sched c h (fun _ _ => trivial)

/-- termination, part 2 (progress): unless all workers have finished some worker can act, and
that action strictly decreases the remaining work whatever it reads — no action waits for
another worker in the modelled protocol. -/
theorem sched_progress (add : σ → ρ → σ) (enough : σ → Bool) (c : Cfg ρ σ)
    (h : finished c = false) :
    ∃ w, ∀ st ab, remaining (step add enough c w st ab) < remaining c := by
  obtain ⟨w, hw⟩ := progress c h
  exact ⟨w, fun st ab => (step_remaining add enough c w st ab).2 hw⟩

/-! ### non-vacuity: two workers, relations = numbers, store = their sum, invariant = evenness -/

example :
    let progs : List (List (List Nat)) := [[[2, 4], [6]], [[8], [10, 12]]]
    let c := run (· + ·) (fun s => decide (s ≥ 14)) (init 0 progs)
      [(0, false, false), (1, false, false), (0, false, false), (1, false, false), (1, false, false),
       (0, false, false), (0, false, false), (1, false, false), (0, false, false), (0, true, false),
       (1, false, false)]
    c.log = [8, 2, 4] ∧ c.store = 14 ∧ c.done = true ∧ finished c = false := by decide

example : ∀ r ∈ ([8, 2, 4] : List Nat), r % 2 = 0 := by decide

end Ymq.C04
