/-
C14 — binary kernel solvers return only genuine, non-zero dependencies.
Property theorems, with the test matrix `M34` of the non-vacuity examples (helper lemmas: Ymq/Lemmas/Gf2*.lean).

Reading guide. A matrix for `kernel_gauss` is the list `M` of its columns, each a bit list
(`BVec = List Bool`, index 0 first, as `bitvec_simd::BitVec`); `Rect size M` says that every column
has `size` entries. `mulVec size M v` is the product `M·v` over GF(2) (xor of the columns selected
by `v`), `isZero v` is `BitVec::none()`, `lzTop` is `BitVec::leading_zeros`.
`kernelGauss M = some K` means "the Rust routine returns `K` (same order) without reaching any
panic site (assert, debug_assert, index, length check of xor_inplace) in either build profile".
The state of the loop is `(pre, rest)`: the positions `[..done]` and `[done..]` of the three
parallel vectors `zeros`, `coefs`, `cols` (one record `Col` per position).
A sparse matrix is `(k, cols)`: `k` rows, `cols` the list of columns, each a list of row indices
(any order, repetitions allowed: an index listed an even number of times cancels, as in
`impl Mul<&Block> for &SparseMat`); `denseOfSparse k cols` is its dense form. A block is a list of
64-bit words (one per row). `matZ`, `vecZ` translate bit lists to Mathlib matrices/vectors over `ZMod 2`.
All theorems are about the model Ymq/Model/Gf2.lean.
-/
import Ymq.Lemmas.Gf2Gauss
import Ymq.Lemmas.Gf2Sparse
import Ymq.Lemmas.Gf2LanczosFinal
import Ymq.Lemmas.Gf2Rank
import Ymq.Lemmas.Gf2Rot

namespace Ymq.C14
open Ymq.Gf2

/-- Loop invariant of `kernel_gauss`, for every state visited by the loop (`Reach`): the
coefficient tracking is faithful — at every position `cols[j] = M · coefs[j]` and
`zeros[j] = cols[j].leading_zeros()`; the processed columns `[..done]` are non-zero and have
strictly increasing leading positions, all smaller than those of the columns still to process;
and the rows of `coefs` stay linearly independent (`coefs` is the identity multiplied by swaps and
transvections, hence invertible). -/
theorem gauss_inv (size : Nat) (M : List BVec) (hR : Rect size M) (pre rest : List Col)
    (h : Reach size M pre rest) :
    (∀ e ∈ pre ++ rest, e.coef.length = M.length ∧ e.col.length = size ∧
        mulVec size M e.coef = e.col ∧ e.z = lzTop e.col) ∧
    pre.length + rest.length = M.length ∧
    (∀ e ∈ pre, e.z < size) ∧ pre.Pairwise (fun a b => a.z < b.z) ∧
    (∀ e ∈ pre, ∀ r ∈ rest, e.z < r.z) ∧
    Indep ((pre ++ rest).map (·.coef)) := by
  have hI := h.inv hR
  exact ⟨fun e he => ⟨(hI.entries e he).hcoef, (hI.entries e he).hcol, (hI.entries e he).hmul,
    (hI.entries e he).hz⟩, hI.len, hI.preLt, hI.preSorted, hI.preRest, hI.indep⟩

/-- `kernel_gauss` never panics on a rectangular matrix (any shape, any content): neither the
`assert!` on the lengths, nor the two `debug_assert!`s, nor an index, nor the length check of
`xor_inplace`. -/
theorem gauss_total (size : Nat) (M : List BVec) (hR : Rect size M) : ∃ K, kernelGauss M = some K := by
  obtain ⟨_, rest, hk, _, _⟩ := kernelGauss_spec size M hR
  exact ⟨_, hk⟩

/-- Every vector returned by `kernel_gauss` has one entry per column, is annihilated by the
matrix (`M · v = 0`) and is non-zero. -/
theorem gauss_kernel (size : Nat) (M : List BVec) (hR : Rect size M) (K : List BVec)
    (h : kernelGauss M = some K) :
    ∀ v ∈ K, v.length = M.length ∧ mulVec size M v = List.replicate size false ∧ isZero v = false := by
  intro v hv
  obtain ⟨h1, h2, i, hi⟩ := kernelGauss_mem hR h v hv
  refine ⟨h1, h2, ?_⟩
  cases hz : isZero v with
  | false => rfl
  | true => rw [(isZero_iff v).mp hz i] at hi; cases hi

/-- The family returned by `kernel_gauss` is linearly independent over GF(2): the only
xor-combination of returned vectors that vanishes is the empty one (list form), equivalently
Mathlib's `LinearIndependent (ZMod 2)` for the vectors read in `GF(2)^ncols`. -/
theorem gauss_independent (size : Nat) (M : List BVec) (hR : Rect size M) (K : List BVec)
    (h : kernelGauss M = some K) :
    (∀ c : List Bool, c.length = K.length → mulVec M.length K c = List.replicate M.length false →
        ∀ b ∈ c, b = false) ∧
    LinearIndependent (ZMod 2) (fun j : Fin K.length => vecZ M.length K[j]) := by
  have hind := kernelGauss_indep hR h
  have hlen : ∀ v ∈ K, v.length = M.length := fun v hv => (kernelGauss_mem hR h v hv).1
  refine ⟨fun c hc hzero b hb => ?_, hind.linearIndependent M.length (fun v hv => by rw [hlen v hv])⟩
  have hall := hind (K.zip c) (List.map_fst_zip (by omega)) (fun i => by
    rw [combZ_zip, ← bitAt_mulVec M.length K c hlen, hzero, bitAt_replicate_false])
  rw [← List.map_snd_zip (l₁ := K) (l₂ := c) (by omega)] at hb
  obtain ⟨z, hz, rfl⟩ := List.mem_map.mp hb
  exact hall z hz

/-- The number of vectors returned by `kernel_gauss` is the number of columns minus the rank of
the matrix (Mathlib's `Matrix.rank` over `ZMod 2`): with `gauss_kernel` and `gauss_independent`, the
returned family is a basis of the kernel. -/
theorem gauss_count (size : Nat) (M : List BVec) (hR : Rect size M) (K : List BVec)
    (h : kernelGauss M = some K) : K.length = M.length - (matZ size M).rank := by
  have := kernelGauss_count hR h
  omega

/-- `qs_optimize` denotes the same matrix: for every block `y` the product computed from the
optimised representation (dense 64-row block + coordinate list, in ANY order of the coordinate
list) equals the plain sparse product `&SparseMat * &Block`, including the cases where both
panic (block of the wrong length). Domain: a well-formed sparse matrix (row indices `< k`) with
at least 64 rows (with fewer rows the optimised product indexes out of range, see
`optMul_few_rows`) and fewer than 2^32 rows and columns (the coordinates are stored as `u32`). -/
theorem qs_optimize_same_matrix (k : Nat) (cols : List (List Nat)) (y : List Nat)
    (hk64 : 64 ≤ k) (hk : k ≤ 2 ^ 32) (hn : cols.length ≤ 2 ^ 32)
    (hwf : ∀ col ∈ cols, ∀ a ∈ col, a < k) :
    optMul (qsOptimize k cols) y = spMul k cols y ∧
    ∀ xy', (qsOptimize k cols).xy.Perm xy' →
      optMul { qsOptimize k cols with xy := xy' } y = spMul k cols y := by
  have h := optMul_eq_spMul k cols y hk64 hk hn hwf
  exact ⟨h, fun xy' hp => by rw [optMul_perm _ _ _ hp, h]⟩

/-- The block product `&Block * &Block` as the code computes it (rotation trick: `m[r] ^= x &
y.rotate_right(r)` over the rows, `SmallMat::transpose`, row `r` rotated left by `r`) is the
bilinear product `out[i] = xor of the y-words whose x-word has bit i`, for all blocks of 64-bit
words of any length (both refuse blocks of different lengths). `optMul` uses the latter form. -/
theorem block_product_rotation (x y : List Nat) (hy : ∀ w ∈ y, w < 2 ^ 64) :
    blockDotRot x y = blockDot x y :=
  blockDotRot_eq x y hy

/-- With fewer than 64 rows `impl Mul<&Block> for &SparseMatOpt` panics (`out.0[i] = dense.0[i]`
for `i < 64` indexes out of range), whatever the matrix: `kernel_lanczos` needs 64 rows. -/
theorem optMul_few_rows (k : Nat) (cols : List (List Nat)) (y : List Nat) (hk : k < 64) :
    optMul (qsOptimize k cols) y = none := by
  cases h : optMul (qsOptimize k cols) y with
  | none => rfl
  | some blk => have := (optMul_some_inv k cols y blk h).2; omega

/-- Final stage of `kernel_lanczos` (B·Y, `kernel_gauss` on its bit columns, Y·K, removal of the
null vectors), for EVERY block `y` — the randomised Lanczos iteration is an arbitrary producer of
`y`: each returned vector has one entry per column, is non-zero, and is annihilated by `B`
(`B · v = 0` with `B` the dense form of the sparse matrix). Domain: row indices `< k`, fewer than
2^32 rows and columns (`u32` coordinates). -/
theorem lanczos_final (k : Nat) (cols : List (List Nat)) (y : List Nat) (basis : List BVec)
    (hk : k ≤ 2 ^ 32) (hn : cols.length ≤ 2 ^ 32) (hwf : ∀ col ∈ cols, ∀ a ∈ col, a < k)
    (h : lanczosFinal k cols y = some basis) :
    ∀ v ∈ basis, v.length = cols.length ∧ isZero v = false ∧
      mulVec k (denseOfSparse k cols) v = List.replicate k false :=
  lanczosFinal_spec k cols y basis hk hn hwf h

/-- The final stage does not panic when the matrix is well formed, has at least 64 rows and the
block has one word per column. -/
theorem lanczos_final_total (k : Nat) (cols : List (List Nat)) (y : List Nat) (hk64 : 64 ≤ k)
    (hk : k ≤ 2 ^ 32) (hn : cols.length ≤ 2 ^ 32) (hy : y.length = cols.length)
    (hwf : ∀ col ∈ cols, ∀ a ∈ col, a < k) : ∃ basis, lanczosFinal k cols y = some basis := by
  obtain ⟨blk, ho, _, _⟩ := optMul_spec k cols y hk64 hk hn hy hwf
  obtain ⟨ker, hg⟩ := gauss_total blk.length (byBits blk) (rect_byBits blk)
  exact ⟨popNull ker.length (ker.map (fun kv => y.map (fun w => dotBits w kv))),
    by simp only [lanczosFinal, ho, hg]⟩

/-! ### non-vacuity: a concrete 3×4 matrix (columns 110, 011, 101, 111) and a concrete sparse matrix -/

/-- columns (1,1,0), (0,1,1), (1,0,1), (1,1,1): rank 3, kernel spanned by (1,1,1,0) -/
def M34 : List BVec :=
  [[true, true, false], [false, true, true], [true, false, true], [true, true, true]]

theorem rect_M34 : Rect 3 M34 := by
  intro c hc
  simp only [M34, List.mem_cons, List.not_mem_nil, or_false] at hc
  rcases hc with rfl | rfl | rfl | rfl <;> rfl

theorem kernelGauss_M34 : kernelGauss M34 = some [[true, true, true, false]] := by decide

example : Reach 3 M34 [] (initCols M34.length 0 M34) := Reach.init
example : Reach 3 M34 [{ z := 0, coef := [false, true, false, false], col := [false, true, true] }]
    [{ z := 1, coef := [true, false, false, false], col := [true, true, false] },
     { z := 1, coef := [false, true, true, false], col := [true, true, false] },
     { z := 2, coef := [false, true, false, true], col := [true, false, false] }] :=
  Reach.step Reach.init (by rfl)
example : ∃ K, kernelGauss M34 = some K ∧ K ≠ [] := ⟨_, kernelGauss_M34, by simp⟩
example : mulVec 3 M34 [true, true, true, false] = List.replicate 3 false := by decide
example : (matZ 3 M34).rank = 3 := by
  have h2 := kernelGauss_count rect_M34 kernelGauss_M34
  have h4 : M34.length = 4 := rfl
  have h1 : ([[true, true, true, false]] : List BVec).length = 1 := rfl
  omega

/-- 64 rows, two equal columns `e0`; block `y = (1, 1)`: the final stage returns `(1, 1)` -/
example : lanczosFinal 64 [[0], [0]] [1, 1] = some [[true, true]] := by decide +kernel
example : (64 : Nat) ≤ 2 ^ 32 ∧ ([[0], [0]] : List (List Nat)).length ≤ 2 ^ 32 ∧
    ∀ col ∈ ([[0], [0]] : List (List Nat)), ∀ a ∈ col, a < 64 := by decide
example : blockDotRot [3, 1] [5, 2] = some ([7, 5] ++ List.replicate 62 0) := by decide +kernel
example : optMul (qsOptimize 70 [[0, 65, 3, 3, 3], [64], []]) [1, 2, 4] = spMul 70 [[0, 65, 3, 3, 3], [64], []] [1, 2, 4] ∧
    optMul (qsOptimize 70 [[0, 65, 3, 3, 3], [64], []]) [1, 2, 4] ≠ none := by decide +kernel

end Ymq.C14
