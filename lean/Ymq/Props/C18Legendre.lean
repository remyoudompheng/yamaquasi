/-
Property C18, sub-piece `legendre`: `fn legendre(d: &Uint, p: u32) -> i32` of src/classgroup.rs
(model: `Ymq.ClassGroup.legendre`, Ymq/Model/ClassGroupLegendre.lean) is the Legendre symbol.

`d < 2^1024` is the type bound of `Uint = U1024`, not a restriction of the property.
-/
import Ymq.Lemmas.ClassGroupLegendre
import Mathlib.Tactic.NormNum.Prime

namespace Ymq.C18
open Ymq.ClassGroup

/-- For every odd prime `p < 2^30` and every `d : Uint`, `legendre(d, p)` returns the Legendre
symbol `(d / p)` (Mathlib's `legendreSym`).

`_partial`: the full statement is "every odd prime `p : u32`", i.e. `p < 2^32`. What is
missing is exactly the set of primes `2^30 ≤ p < 2^32`: there the statement is FALSE for the code
as it is — `Dividers::new` starts with `assert!(p >> 30 == 0)` and panics in both profiles
(`legendre_panics_of_ge_two_pow_30`, `legendre_large_prime_panics`). On `p < 2^30` nothing is
missing (no hypothesis besides primality, oddness and the type bounds). -/
theorem legendre_eq_legendreSym_partial (p : Nat) [Fact p.Prime] (h2 : p ≠ 2) (h30 : p < 2 ^ 30)
    (d : Nat) (hd : d < 2 ^ 1024) :
    legendre d p = some (legendreSym p d) := by
  obtain ⟨dv, hnew⟩ := new_of_odd_prime p Fact.out h2 h30
  have hp3 : 3 ≤ p := by have := (Fact.out : p.Prime).two_le; omega
  rw [legendre_of_new d p dv hnew hd]
  rcases euler_residue p h2 d with ⟨hl, hx⟩ | ⟨hl, hx⟩ | ⟨hl, hx⟩
  · rw [hl, hx, if_neg (by omega)]; rfl
  · rw [hl, hx, if_neg (by omega)]; rfl
  · rw [hl, hx, if_pos (by omega), if_neg (by omega)]
    congr 1
    omega

/-- On odd primes `p < 2^30`, `legendre` has no reachable panic site in the checked profile
(no overflow in `pow * sq`, `sq * sq`, no failing `debug_assert` in `modu63` or at the end). -/
theorem legendre_no_panic (p : Nat) [Fact p.Prime] (h2 : p ≠ 2) (h30 : p < 2 ^ 30)
    (d : Nat) (hd : d < 2 ^ 1024) :
    (legendre d p).isSome = true := by
  rw [legendre_eq_legendreSym_partial p h2 h30 d hd]; rfl

/-- `p = 2`: the code returns the parity of `d` (1 for odd `d`, 0 for even `d`); never `-1`. -/
theorem legendre_two (d : Nat) (hd : d < 2 ^ 1024) :
    legendre d 2 = some ((d % 2 : Nat) : Int) := by
  rw [legendre_of_new d 2 _ Dividers.new_two hd]
  have h : d ^ (2 / 2) % 2 = d % 2 := by norm_num
  rw [h, if_neg (by omega)]

/-- Any modulus accepted by `Dividers::new` (every `3 ≤ p < 2^30` that is not a power of two,
and 2): the result is decided by the residue `x = d^(p/2) mod p`: `x` for `x ≤ 1`, `-1` for
`x = p - 1`, and the `debug_assert!(pow == p - 1)` fails otherwise (checked profile; the release
profile, not modelled, returns `x - p`). -/
theorem legendre_residue_form (d p : Nat) (dv : Dividers.Div) (hnew : Dividers.new p = some dv)
    (hd : d < 2 ^ 1024) :
    legendre d p =
      if d ^ (p / 2) % p > 1 then
        (if d ^ (p / 2) % p ≠ p - 1 then none else some ((d ^ (p / 2) % p : Nat) - (p : Int)))
      else some ((d ^ (p / 2) % p : Nat) : Int) :=
  legendre_of_new d p dv hnew hd

/-- Counter-witness to "every `p : u32`": from `2^30` on the code panics whatever `d` is
(`assert!(p >> 30 == 0)` in `Dividers::new`, both profiles). -/
theorem legendre_panics_of_ge_two_pow_30 (d p : Nat) (hp : 2 ^ 30 ≤ p) : legendre d p = none := by
  have hnew : Dividers.new p = none := by
    unfold Dividers.new
    have : p / 2 ^ 30 ≠ 0 := by
      have := (Nat.le_div_iff_mul_le (show 0 < 2 ^ 30 by norm_num)).mpr (show 1 * 2 ^ 30 ≤ p by omega)
      omega
    rw [if_pos this]
  unfold legendre
  rw [hnew]

/-- Counter-witness to the full statement: `2147483647 = 2^31 - 1` is an odd prime below `2^32`
and `legendre(d, 2147483647)` panics for every `d`. -/
theorem legendre_large_prime_panics :
    Nat.Prime 2147483647 ∧ 2147483647 ≠ 2 ∧ 2147483647 < 2 ^ 32 ∧
      ∀ d, legendre d 2147483647 = none :=
  ⟨prime_mersenne_31, by norm_num, by norm_num,
    fun d => legendre_panics_of_ge_two_pow_30 d _ (by norm_num)⟩

/-- `p = 0` (division by zero), `p = 1` (`127 - sz` underflows), `p = 4` (`"incorrect divider"`):
`Dividers::new` panics, whatever `d` is. -/
theorem legendre_panics_small_moduli (d : Nat) :
    legendre d 0 = none ∧ legendre d 1 = none ∧ legendre d 4 = none := by
  have h0 : Dividers.new 0 = none := by decide +kernel
  have h1 : Dividers.new 1 = none := by decide +kernel
  have h4 : Dividers.new 4 = none := by decide +kernel
  refine ⟨?_, ?_, ?_⟩ <;> unfold legendre <;> simp only [h0, h1, h4]

/-- Composite modulus: `2^4 mod 9 = 7` is neither `≤ 1` nor `8`, the final `debug_assert` fails
(checked profile only; the release profile returns `-2`). `8^4 mod 9 = 1`: no panic, result 1. -/
theorem legendre_composite_debug_assert : legendre 2 9 = none ∧ legendre 8 9 = some 1 := by
  obtain ⟨dv, hnew⟩ := Dividers.new_some 9 (by norm_num) (by norm_num) (by decide)
  constructor
  · rw [legendre_of_new 2 9 dv hnew (by decide +kernel)]
    decide
  · rw [legendre_of_new 8 9 dv hnew (by decide +kernel)]
    decide

/-! ### non-vacuity -/

/-- hypotheses of `legendre_eq_legendreSym_partial` / `legendre_no_panic`: p = 7, d = 3 -/
example : Nat.Prime 7 ∧ (7 : Nat) ≠ 2 ∧ (7 : Nat) < 2 ^ 30 ∧ (3 : Nat) < 2 ^ 1024 :=
  ⟨by norm_num, by norm_num, by norm_num, by decide +kernel⟩
example : legendre 3 7 = some (-1) ∧ legendre 2 7 = some 1 ∧ legendre 14 7 = some 0 := by
  decide +kernel
/-- largest prime below `2^16`, a 1024-bit `d` -/
example : (legendre (2 ^ 1023 + 12345) 65521).isSome = true := by
  have : Fact (Nat.Prime 65521) := ⟨by norm_num⟩
  exact legendre_no_panic 65521 (by norm_num) (by norm_num) _ (by decide +kernel)
/-- `legendre_two` -/
example : legendre 5 2 = some 1 ∧ legendre 4 2 = some 0 := by decide +kernel
/-- `legendre_residue_form`: `Dividers::new 15` succeeds -/
example : ∃ dv, Dividers.new 15 = some dv :=
  Dividers.new_some 15 (by norm_num) (by norm_num) (by decide)
/-- `legendre_panics_of_ge_two_pow_30` -/
example : (2 : Nat) ^ 30 ≤ 2147483647 := by norm_num

end Ymq.C18
