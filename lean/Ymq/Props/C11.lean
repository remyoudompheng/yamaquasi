/-
C11 — every combined relation is a true congruence and yields only proper divisors.
The property theorems (helper lemmas: Ymq/Lemmas/Relations*.lean; `X512_eq` is the one helper here).

Reading guide. The model (Ymq/Model/Relations.lean) mirrors src/relations.rs line by line.
`f … = .ok v` means "the Rust routine returns `v` without reaching any panic site"; errors are
`.panic` (assert!/unwrap/index/division by zero, both profiles), `.debug` (debug_assert!, checked
profile), `.overflow` (arithmetic overflow, checked profile), `.fuel` (model artefact).
`Valid n r` is the congruence a relation stands for: `x² ≡ cofactor · ∏ pᵏ (mod n)` over ℤ, the sign
`(-1, k)` being an ordinary factor; `fprod` is `∏ pᵏ`. `Typed r` says that the fields have their Rust
types (u64 cofactor/cycle length/exponents, i64 primes). `Inv s` (Ymq/Lemmas/RelationsStore.lean) is
the store invariant: every published cycle has cofactor 1 and is valid; `partial[p]` decodes to a
valid relation with cofactor `p`; `doubles[(p,q)]` decodes to a valid relation with cofactor `p·q`,
`p < q`; `doubles_rev` mirrors `doubles`. `bnum`/`num_integer` operations are Nat/Int arithmetic.
The theorems about single relations and the final step hold for every modulus; the store theorems
need `n ≤ 2^512` because the packed form keeps only 8 words of `x` (`above_512_bits_counterexample`
shows that the bound is needed for this reason; the code's other limit, `Uint` products of two
reduced operands below 2^1024, is not modelled). The library refuses inputs above 500 bits and multipliers are below 2^8, so every store the
sieves build has `n < 2^508`.
-/
import Ymq.Lemmas.RelationsStore
import Ymq.Lemmas.RelationsFinal
import Ymq.Lemmas.RelationsDisjoint
import Ymq.Lemmas.RelationsNoPanic

namespace Ymq.C11
open Ymq.Relations

set_option exponentiation.threshold 600 in
theorem X512_eq : X512 = 2 ^ 512 := by decide +kernel

/-- `Relation::verify` is sound: it never accepts a relation that is not a congruence. (It is not
complete, see `verify_false_negative`.) -/
theorem verify_sound (n : Nat) (r : Relation) (hty : Typed r) (h : verify n r = .ok true) :
    Valid n r := by
  unfold Typed at hty
  exact _root_.Ymq.Relations.verify_sound hty.2.2 h

/-- `RelationSet::combine`: if both inputs are congruences modulo `n`, whenever the routine returns
(i.e. one cofactor divides the other: the code's `assert!`) the result is a congruence whose
cofactor is the quotient; the divisor `d` enters the factor list as `(d as i64, 2)`, so it must
fit in an `i64`. -/
theorem combine_valid (n : Nat) (r1 r2 r : Relation) (h : combine n r1 r2 = .ok r)
    (h1 : Valid n r1) (h2 : Valid n r2) (hd : divisorCof r1 r2 < I63) :
    Valid n r ∧ r.cofactor * divisorCof r1 r2 * divisorCof r1 r2 = r1.cofactor * r2.cofactor ∧
      r.x < n ∧ r.cyclelen = r1.cyclelen + r2.cyclelen := by
  obtain ⟨_, _, _, _, hlen, _⟩ := combine_ok h
  exact ⟨combine_valid' h h1 h2 hd, (combine_divisor h).2.1, combine_x_lt h, hlen⟩

/-- the code's `assert!(r2.cofactor % r1.cofactor == 0)`: when neither cofactor divides the other
`combine` does not return. -/
theorem combine_undivisible (n : Nat) (r1 r2 : Relation) (ha : r1.cofactor % r2.cofactor ≠ 0)
    (hb : r2.cofactor % r1.cofactor ≠ 0) : ∀ r, combine n r1 r2 ≠ .ok r := by
  intro r h
  obtain ⟨_, _, _, _, _, _, hc⟩ := combine_ok h
  rcases hc with ⟨_, h1, _⟩ | ⟨_, _, _, h2, _⟩
  · exact ha h1
  · exact hb h2

/-- non-vacuity: 3² ≡ 7·(2²·3), 5² ≡ 7·(5·(-1)) (mod 15); the combination is 0² ≡ 5·(-1)·2²·3·7². -/
example :
    let r1 : Relation := { x := 3, cofactor := 7, cyclelen := 1, factors := [(2, 2), (3, 1)] }
    let r2 : Relation := { x := 5, cofactor := 7, cyclelen := 1, factors := [(5, 1), (-1, 1)] }
    Valid 15 r1 ∧ Valid 15 r2 ∧ divisorCof r2 r1 < I63 ∧
    (combine 15 r2 r1).toOption = some {
      x := 0, cofactor := 1, cyclelen := 2, factors := [(5, 1), (-1, 1), (2, 2), (3, 1), (7, 2)] } := by
  decide

/-- `unpack (pack r)`: for every relation the encoder accepts (`pack r = .ok b`: primes in
`(0, 2^32)`, odd or 2, exponents `> 0`, or the sign `-1`) with Rust-typed fields and no factor entry
with base 1, decoding returns the same cofactor and cycle length, `x mod 2^512` (8 words are kept)
and the factor list up to what the encoding deliberately normalises: `(-1, even)` is dropped,
`(-1, odd)` becomes `(-1, 1)`. -/
theorem unpack_pack (r : Relation) (b : List Nat) (h : pack r = .ok b) (hty : Typed r)
    (hno : NoOne r.factors) :
    unpack b = .ok {
      x := r.x % 2 ^ 512, cofactor := r.cofactor, cyclelen := r.cyclelen,
      factors := normFactors r.factors } := by
  rw [← X512_eq]; exact unpack_pack' h hty hno

/-- the normalisation of the factor list does not change the product -/
theorem normFactors_prod (fs : List (Int × Nat)) : fprod (normFactors fs) = fprod fs :=
  fprod_norm fs

/-- hence the packed form decodes to the same congruence, for every modulus. -/
theorem unpack_pack_verify (n : Nat) (r : Relation) (b : List Nat) (h : pack r = .ok b)
    (hty : Typed r) (hno : NoOne r.factors) (hx : r.x < 2 ^ 512) :
    ∃ r', unpack b = .ok r' ∧ r'.x = r.x ∧ r'.cofactor = r.cofactor ∧ r'.cyclelen = r.cyclelen ∧
      (Valid n r' ↔ Valid n r) := by
  refine ⟨_, unpack_pack r b h hty hno, Nat.mod_eq_of_lt hx, rfl, rfl, ?_⟩
  unfold Valid
  simp only [Nat.mod_eq_of_lt hx, fprod_norm]

/-- non-vacuity, with the relation of the repository's own round-trip test -/
example :
    let r : Relation := {
      x := 135487168713871387841578923567, cofactor := 7915738421, cyclelen := 4,
      factors := [(-1, 1), (2, 17), (3, 5), (5, 1), (9109, 1), (9173, 2), (9241, 3), (9349, 1),
        (19349, 1), (39349, 1), (289349, 1), (3879645, 1)] }
    (pack r).toOption.isSome ∧ (pack r >>= unpack).toOption = some r := by
  decide +kernel

/-- Domain remark: the code 1 stands for the prime 2, and `pack` accepts the base 1 (it passes
`p > 0 && p % 2 == 1`), so a factor entry `(1, k)` comes back as `(2, k)`. No caller produces the
base 1 (`NoOne` above; the store never squares a cofactor 1 into a factor list). -/
theorem pack_one_becomes_two :
    (pack { x := 0, cofactor := 1, cyclelen := 1, factors := [(1, 1)] } >>= unpack).toOption =
      some { x := 0, cofactor := 1, cyclelen := 1, factors := [(2, 1)] } := by
  decide +kernel

/-- One `add` preserves the store invariant, for every relation inside the callers' contract
`InputOK` (Rust types, a true congruence, no base 1, cofactor = p·q for the supplied pair, neither
being 1) — whichever branch is taken (complete, single large prime with or without partner, trivial
duplicate, double with 0/1/2 known primes, p = q, recursive walks of any depth). -/
theorem add_inv (s s' : Store) (r : Relation) (pq : Option (Nat × Nat)) (hi : Inv s)
    (hn : s.n ≤ 2 ^ 512) (hin : InputOK s.n r pq) (h : add r pq s = .ok s') :
    Inv s' ∧ s'.n = s.n ∧ s'.maxlarge = s.maxlarge := by
  have := add_keeps h hi (by rw [X512_eq]; exact hn) hin
  exact ⟨this.2.2, this.1, this.2.1⟩

/-- Every finite history of `add`s from `RelationSet::new` (any ordering, duplicates, trivial
relations, p = q, chains) ends in a store satisfying the invariant. By induction over the history. -/
theorem history_inv (n fbsize maxlarge : Nat) (hn : n ≤ 2 ^ 512)
    (ops : List (Relation × Option (Nat × Nat))) (hok : HistoryOK n ops) (s' : Store)
    (h : runHistory ops (Store.new n fbsize maxlarge) = .ok s') : Inv s' ∧ s'.n = n := by
  have := isRun_rec.keeps isWalk_rec ops _ s' h ⟨inv_new n fbsize maxlarge, by rw [X512_eq]; exact hn⟩ hok
  exact ⟨this.2.2, this.1⟩

/-- Every relation the store publishes as complete, after any history, has cofactor 1 and is a
true congruence `x² ≡ ∏ pᵏ (mod n)`. -/
theorem cycles_valid (n fbsize maxlarge : Nat) (hn : n ≤ 2 ^ 512)
    (ops : List (Relation × Option (Nat × Nat))) (hok : HistoryOK n ops) (s' : Store)
    (h : runHistory ops (Store.new n fbsize maxlarge) = .ok s') :
    ∀ r ∈ s'.cycles, r.cofactor = 1 ∧ (r.x : Int) * r.x ≡ fprod r.factors [ZMOD n] := by
  obtain ⟨hi, hn'⟩ := history_inv n fbsize maxlarge hn ops hok s' h
  exact hi.cycles_congr hn'

/-- non-vacuity: a history modulo 15 with a single, its partner, a double and a p = q double. -/
example :
    let ops : List (Relation × Option (Nat × Nat)) :=
      [({ x := 3, cofactor := 7, cyclelen := 1, factors := [(2, 2), (3, 1)] }, none),
       ({ x := 5, cofactor := 7, cyclelen := 1, factors := [(5, 1), (-1, 1)] }, none),
       ({ x := 4, cofactor := 121, cyclelen := 1, factors := [] }, some (11, 11)),
       ({ x := 2, cofactor := 77, cyclelen := 1, factors := [(2, 1)] }, some (11, 7))]
    HistoryOK 15 ops ∧
    ((runHistory ops (Store.new 15 3 50)).toOption.map fun s => (s.cycles.length, s.partials.map (·.1))) =
      some (2, [7, 11]) := by
  refine ⟨?_, by decide +kernel⟩
  intro op hop
  simp only [List.mem_cons, List.not_mem_nil, or_false] at hop
  rcases hop with rfl | rfl | rfl | rfl <;> exact InputOK.of_dec (by decide)

/-- The separate invariant the property's anchor names ("No key is common with partial map"): the
code does maintain it. If no stored double has a prime that is a key of `partial` before an `add`,
none has afterwards — although the invariant is broken in the middle of a walk (the trailing
`walk_doubles` calls re-enter walks that are still in progress further up the stack; the proof
carries the set of their roots). Validity (`add_inv`) does not depend on it. -/
theorem doubles_disjoint_add (s s' : Store) (r : Relation) (pq : Option (Nat × Nat)) (hi : Inv s)
    (hn : s.n ≤ 2 ^ 512) (hin : InputOK s.n r pq) (h : add r pq s = .ok s')
    (hd : ∀ p q b, ((p, q), b) ∈ s.doubles → (∀ c, (p, c) ∉ s.partials) ∧ (∀ c, (q, c) ∉ s.partials)) :
    ∀ p q b, ((p, q), b) ∈ s'.doubles → (∀ c, (p, c) ∉ s'.partials) ∧ (∀ c, (q, c) ∉ s'.partials) := by
  exact (disj_iff_mem s').mp (addWith_disj isWalk_rec (add_eq_addWith r pq s ▸ h)
    ⟨hi, by rw [X512_eq]; exact hn⟩ hin ((disj_iff_mem s).mpr hd))

/-- ... hence after every finite history from the empty store. -/
theorem doubles_disjoint (n fbsize maxlarge : Nat) (hn : n ≤ 2 ^ 512)
    (ops : List (Relation × Option (Nat × Nat))) (hok : HistoryOK n ops) (s' : Store)
    (h : runHistory ops (Store.new n fbsize maxlarge) = .ok s') :
    ∀ p q b, ((p, q), b) ∈ s'.doubles → (∀ c, (p, c) ∉ s'.partials) ∧ (∀ c, (q, c) ∉ s'.partials) := by
  exact (disj_iff_mem s').mp (isRun_rec.disj isWalk_rec ops _ s' h
    ⟨inv_new n fbsize maxlarge, by rw [X512_eq]; exact hn⟩ hok (fun k ⟨b, hb⟩ => by cases hb))

/-- `pack` accepts exactly what the callers produce: every factor entry is the sign or a prime in
`(0, 2^32)`, 2 or odd, with a positive exponent (`FOK`). -/
theorem pack_total (r : Relation) (hf : FOK r.factors) : ∃ b, pack r = .ok b :=
  Relations.pack_total hf

/-- `add` never panics inside the callers' contract. `InputOK2 s r pq` states the contract exactly
as the three sieves guarantee it (siqs.rs:1386-1433, mpqs.rs:732-757, qsieve.rs:441-460 with
fbase::cofactor): a true congruence with Rust-typed fields; `x < n` (they reduce `x` modulo `n`);
factor entries `(-1, k)` or `(p, k)`, `0 < p < 2^32`, `p = 2` or odd, `k > 0`; `cyclelen = 1 > 0`; a
cofactor that is 1, or (below `maxlarge ≤ 2^32 - 1`) a large prime `c` with `1 < c`, `c` odd,
`c + 1 < 2^32`, or the product of the supplied pair `(p, q)` of such primes; no prime listed twice
with an odd exponent after its first entry (`TailEven`; the sieves list every prime once). On a store satisfying
`Inv` and `Inv2` (stored relations can be packed again, keys are usable large primes), no `assert!`,
`assert_eq!`, `unwrap`, index, `debug_assert!` (`x < n`, `rr.verify`) or division by zero is
reachable, `assert!(ok)` in `walk_doubles` holds, and the recursion of `walk_doubles`/
`combine_double` terminates within the fuel `doubles.len() + 1` (each non-leaf call removes a stored
double first). The only error the model can still return is `.overflow`: a `u64` exponent or
cycle-length sum exceeding 2^64 (checked profile only; needs ~2^58 combined relations). -/
theorem add_no_panic (s : Store) (r : Relation) (pq : Option (Nat × Nat)) (hi : Inv s)
    (hi2 : Inv2 s) (hn : s.n ≤ 2 ^ 512) (hin : InputOK2 s r pq) :
    ∀ e, add r pq s = .error e → e = .overflow :=
  add_np hi hi2 (by rw [X512_eq]; exact hn) hin

/-- `Inv2` is preserved as well (so `add_no_panic` applies again to the resulting store). -/
theorem add_inv2 (s s' : Store) (r : Relation) (pq : Option (Nat × Nat)) (hi : Inv s)
    (hi2 : Inv2 s) (hn : s.n ≤ 2 ^ 512) (hin : InputOK2 s r pq) (h : add r pq s = .ok s') :
    Inv2 s' :=
  addWith_inv2 isWalk_rec (add_eq_addWith r pq s ▸ h) ⟨hi, by rw [X512_eq]; exact hn⟩ hi2 hin

/-- Whole histories: from `RelationSet::new`, any finite sequence of `add`s inside the contract
runs to completion (or stops on a `u64` counter overflow), never on a panic. -/
theorem history_no_panic (n fbsize maxlarge : Nat) (hn : n ≤ 2 ^ 512)
    (ops : List (Relation × Option (Nat × Nat))) (hok : HistoryOK2 n maxlarge ops) :
    ∀ e, runHistory ops (Store.new n fbsize maxlarge) = .error e → e = .overflow :=
  isRun_rec.errIn2 isWalk_rec
    (fun hg h2 hin => by rw [← add_eq_addWith]; exact add_np hg.1 h2 hg.2 hin) ops _
    ⟨inv_new n fbsize maxlarge, by rw [X512_eq]; exact hn⟩ (inv2_new n fbsize maxlarge) hok

/-- Duplicate prime entries. `combine` appends the squared large prime as a NEW entry, so a
published cycle can list a prime several times; but only the first entry of a prime is ever
increased and every appended duplicate has exponent 2, so — for inputs that list no prime twice
with an odd exponent after its first entry — in every relation the store publishes all entries of
a prime except the first are even (`TailEven`). Consequently the parity bit that `final_step`
computes for a prime (the OR of the parities of its entries: `BitVec::set`) IS the parity of its
total exponent: the relations that reach `final_step` are normalised enough for its matrix. -/
theorem cycles_tail_even (n fbsize maxlarge : Nat) (hn : n ≤ 2 ^ 512)
    (ops : List (Relation × Option (Nat × Nat))) (hok : HistoryOK2 n maxlarge ops) (s' : Store)
    (h : runHistory ops (Store.new n fbsize maxlarge) = .ok s') :
    ∀ r ∈ s'.cycles, TailEven r.factors ∧
      ∀ p, (orParity p r.factors = true ↔ totalExp p r.factors % 2 = 1) := by
  have hi2 := isRun_rec.inv2 isWalk_rec ops _ s' h ⟨inv_new n fbsize maxlarge, by rw [X512_eq]; exact hn⟩
    (inv2_new n fbsize maxlarge) hok
  intro r hr
  exact ⟨hi2.cyc r hr, fun p => tailEven_parity p (hi2.cyc r hr)⟩

/-- the hypothesis is needed: with a prime listed twice with odd exponents the OR-parity is 1 but
the total exponent is even (such a relation is outside the contract; `final_step` then fails its
`assert!(exp % 2 == 0)` rather than produce a wrong square). -/
example : orParity 3 [(3, 1), (3, 1)] = true ∧ totalExp 3 [(3, 1), (3, 1)] % 2 = 0 ∧
    ¬ TailEven [(3, 1), (3, 1)] := by decide

/-- non-vacuity of the complete contract: the history modulo 15 used above satisfies it. -/
example :
    let ops : List (Relation × Option (Nat × Nat)) :=
      [({ x := 3, cofactor := 7, cyclelen := 1, factors := [(2, 2), (3, 1)] }, none),
       ({ x := 5, cofactor := 7, cyclelen := 1, factors := [(5, 1), (-1, 1)] }, none),
       ({ x := 4, cofactor := 121, cyclelen := 1, factors := [] }, some (11, 11)),
       ({ x := 2, cofactor := 77, cyclelen := 1, factors := [(2, 1)] }, some (11, 7))]
    HistoryOK2 15 50 ops := by
  intro ops op hop
  simp only [ops, List.mem_cons, List.not_mem_nil, or_false] at hop
  rcases hop with rfl | rfl | rfl | rfl <;> exact InputOK2.of_dec (by decide)

/-- `try_factor(n, a, b)` for reduced operands `a, b < n` (what `final_step` passes: outputs of
`ZmodN::to_int`): no assertion is reachable — in particular not for `a = b = 0`, after fix
bf2c32c — and every returned pair is a proper factorisation `p·q = n`, `1 < p`, `1 < q` (hence
`p, q < n`). The hypothesis `a² ≡ b² (mod n)` is not needed for this. -/
theorem try_factor_proper (n a b : Nat) (ha : a < n) (hb : b < n) :
    ∃ res, tryFactor n a b = .ok res ∧
      ∀ p q, res = some (p, q) → p * q = n ∧ 1 < p ∧ 1 < q ∧ p < n ∧ q < n := by
  obtain ⟨res, h1, h2⟩ := tryFactor_proper' ha hb
  refine ⟨res, h1, ?_⟩
  intro p q hpq
  obtain ⟨hm, hp, hq⟩ := h2 p q hpq
  refine ⟨hm, hp, hq, ?_, ?_⟩
  · rw [← hm]; exact (Nat.lt_mul_iff_one_lt_right (by omega)).mpr hq
  · rw [← hm]; exact (Nat.lt_mul_iff_one_lt_left (by omega)).mpr hp

/-- non-vacuity: n = 15, a = 4, b = 11 (4² ≡ 11² ≡ 1): trivial; a = 4, b = 1: the split 5·3. -/
example : (tryFactor 15 4 11).toOption = some none ∧ (tryFactor 15 4 1).toOption = some (some (5, 3)) ∧
    (tryFactor 15 0 0).toOption = some none := by
  decide

/-- The exponent accumulation of `final_step` followed by `combine`: for complete valid relations
(`FinalRel`), any kernel vector `eq` (an arbitrary list of indices: the kernel solver is property
C14), slots holding `-1` or non-negative primes: whenever the accumulated exponents are all even
(`expFactors` passes its `assert!(exp % 2 == 0)`) the pair `(a, b)` handed to `try_factor` satisfies
`a² ≡ b² (mod n)` — the code's `assert_eq!((a * a) % n, (b * b) % n)` cannot fail — and `a, b < n`. -/
theorem even_combination_square (n : Nat) (hn : 0 < n) (slots : List Int) (rels : List Relation)
    (eq : List Nat) (hrels : ∀ r ∈ rels, FinalRel n r)
    (hslots : ∀ f ∈ slots, f = -1 ∨ (0 ≤ f ∧ f < (I63 : Int)))
    (acc : List Nat × List Nat × List (Int × Nat)) (fs : List (Int × Nat)) (ab : Nat × Nat)
    (hacc : accRels slots rels eq [] (slots.map fun _ => 0) [] = .ok acc)
    (hfs : expFactors slots acc.2.1 = .ok fs)
    (hab : combineAB n acc.1 (acc.2.2 ++ fs) = .ok ab) :
    ab.1 * ab.1 % n = ab.2 * ab.2 % n ∧ ab.1 < n ∧ ab.2 < n := by
  obtain ⟨h1, h2⟩ := accRels_spec n slots rels hrels eq [] _ [] acc.1 acc.2.1 acc.2.2 hacc EvenF_nil
    (by rw [slotProd_zero]; simp [xprod, Int.ModEq])
  obtain ⟨h3, h4⟩ := expFactors_spec slots _ fs hfs hslots
  obtain ⟨ha, hb, ha', hb'⟩ := combineAB_spec (a := ab.1) (b := ab.2) hab hn
  refine ⟨?_, ha', hb'⟩
  have hev : EvenF (acc.2.2 ++ fs) := EvenF_append.mpr ⟨h1, h4⟩
  have hsq := halfProd_sq hev
  have haZ : ((ab.1 : Nat) : Int) ≡ (xprod acc.1 : Nat) [ZMOD n] := Int.natCast_modEq_iff.mpr ha
  have hbZ : ((ab.2 : Nat) : Int) ≡ (halfProd (acc.2.2 ++ fs) : Nat) [ZMOD n] :=
    Int.natCast_modEq_iff.mpr hb
  have hfin : ((ab.1 * ab.1 : Nat) : Int) ≡ ((ab.2 * ab.2 : Nat) : Int) [ZMOD n] := by
    push_cast
    refine (haZ.mul haZ).trans (h2.trans ?_)
    have e : slotProd slots acc.2.1 * fprod acc.2.2 =
        ((halfProd (acc.2.2 ++ fs) : Nat) : Int) * (halfProd (acc.2.2 ++ fs) : Nat) := by
      rw [hsq, fprod_append, h3, mul_comm]
    rw [e]
    exact (hbZ.mul hbZ).symm
  exact Int.natCast_modEq_iff.mp hfin

/-- consequently one whole iteration of the kernel loop (`kernelStep`: accumulate, combine, the
`assert_eq!`, `try_factor`) yields proper divisors only. -/
theorem kernel_step_proper (n : Nat) (slots : List Int) (rels : List Relation) (eq : List Nat)
    (a b p q : Nat) (h : kernelStep n slots rels eq = .ok (a, b, some (p, q))) :
    p * q = n ∧ 1 < p ∧ 1 < q :=
  kernelStep_proper h

/-- `final_step` as a whole (model of everything around the kernel solver: occurrence table,
stable sort, relation filter, kernel loop with the `pseudoprime` early exit, sort + dedup): for ANY
relations, ANY factor base, ANY kernel vectors (even wrong ones) and ANY primality oracle, IF the
routine returns (`= .ok`: no assertion fails — guaranteed for the accumulate/combine part by
`even_combination_square` when the exponents are even, and for `try_factor` by
`try_factor_proper`; it is NOT claimed that `final_step` returns for arbitrary input: wrong kernel
vectors or relations outside the factor base trip its assertions), every element of the returned
list is a divisor `d` of `n` with `1 < d < n`. -/
theorem final_step_proper (n : Nat) (fb : List Nat) (rels : List Relation)
    (kernel : List (List Nat)) (isPrime : Nat → Bool) (slots : List Int) (cnt : Nat)
    (divs : List Nat) (h : finalStep n fb rels kernel isPrime = .ok (slots, cnt, divs)) :
    ∀ d ∈ divs, 1 < d ∧ d < n ∧ d ∣ n :=
  finalStep_proper h

/-- non-vacuity: two relations modulo 15 whose product has even exponents; the step finds 3·5. -/
example :
    let rels : List Relation :=
      [{ x := 7, cofactor := 1, cyclelen := 1, factors := [(2, 2)] },
       { x := 2, cofactor := 1, cyclelen := 1, factors := [(2, 2)] }]
    (∀ r ∈ rels, FinalRel 15 r) ∧
    (kernelStep 15 [2] rels [0, 1]).toOption = some (14, 4, some (3, 5)) ∧
    (finalStep 15 [2] rels [[0, 1]] (fun _ => true)).toOption = some ([2], 2, [3, 5]) := by
  refine ⟨?_, by decide, by decide +kernel⟩
  intro r hr
  simp only [List.mem_cons, List.not_mem_nil, or_false] at hr
  rcases hr with rfl | rfl
  all_goals exact ⟨rfl, by decide, by intro f hf; revert f; decide⟩

/-! ## remarks on the edges of the contract (witnesses replayed on the real code) -/

/-- `verify` is not complete: when a prefix of the product vanishes modulo `n` and the sign follows,
`n - 0 = n` is compared unreduced. 0² ≡ 3·5·(-1) (mod 15) is a congruence that `verify` rejects.
(Needs `n ∣ x²`; harmless for the store, whose combined relations end with a positive factor.) -/
theorem verify_false_negative :
    let r : Relation := { x := 0, cofactor := 1, cyclelen := 1, factors := [(3, 1), (5, 1), (-1, 1)] }
    Valid 15 r ∧ (verify 15 r).toOption = some false := by
  decide

/-- `try_factor` relies on reduced operands: with `a = b = n` the sum is `2n`, `gcd(n, 2n) = n`
passes the `gcd > 1` test and `assert!(q.bits() > 1)` fails (`q = 1`). `final_step` only passes
outputs of `ZmodN::to_int`, which are `< n` (`even_combination_square`). -/
theorem try_factor_unreduced_panics :
    (match tryFactor 15 15 15 with | .error .panic => true | _ => false) = true := by decide

/-- The bound `n ≤ 2^512` of the store theorems is needed (the packed form keeps 8 words of `x`,
and `Uint` products wrap at 2^1024). Counter-witness with a 513-bit prime modulus: two valid
single-large-prime relations (7·3 and 7·5) with `x < n`; the first has `x ≥ 2^512`, its packed form
no longer is a congruence, and the combination fails the debug assertion `rr.verify` (checked
profile: panic; the release build publishes a cycle that is not a congruence — replayed in
corpus/C11). The library refuses inputs above 500 bits and multipliers are below 2^8, so the
sieves only build stores with `n < 2^508`. -/
theorem above_512_bits_counterexample :
    let n : Nat := 16726041804270452572290053156948817748302028439234336854656539114103478183465965372217202988186037484404750841932642732943597871402046223214758872027837567
    let r1 : Relation := {
      x := 15692708161746241229803632486591312320814626935488773036482119882159453705390675389337822573304650612417145097212410872130448361809799395515650842531628730,
      cofactor := 7, cyclelen := 1, factors := [(3, 1)] }
    let r2 : Relation := {
      x := 6548632574640154080079276714760476942672874677017165959893492956524203208114864690947907327015696768442505403271716254125661913297297375997971857171444119,
      cofactor := 7, cyclelen := 1, factors := [(5, 1)] }
    2 ^ 512 < n ∧ r1.x < n ∧ r2.x < n ∧ Valid n r1 ∧ Valid n r2 ∧
    (pack r1 >>= unpack).toOption.map (fun r => decide (Valid n r)) = some false ∧
    (match runHistory [(r1, none), (r2, none)] (Store.new n 4 100) with
      | .error .debug => true
      | _ => false) = true := by
  decide +kernel

/-- The contract's bound `p + 1 < 2^32` on large primes is needed: the callers only guarantee
`p ≤ maxlarge ≤ 2^32 - 1`, and for the one remaining value `p = 2^32 - 1` (= 3·5·17·257·65537, not a
prime, so unreachable unless the cofactor splitter returns a composite) `walk_doubles(p)` computes
`root + 1` in `u32`: overflow panic in the checked profile; the release build wraps to 0 and
`BTreeMap::range` panics unless the maps are empty. History: a single large prime 5, then a double
(5, 4294967295), both valid modulo 7. Replayed on the real code (corpus/C11, checked profile). -/
theorem walk_root_max :
    (match runHistory
        [({ x := 1, cofactor := 5, cyclelen := 1, factors := [(3, 1)] }, none),
         ({ x := 1, cofactor := 21474836475, cyclelen := 1, factors := [] }, some (5, 4294967295))]
        (Store.new 7 1 4294967295) with
      | .error .panic => true
      | _ => false) = true := by
  decide +kernel

end Ymq.C11
