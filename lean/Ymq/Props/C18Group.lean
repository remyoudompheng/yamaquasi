/-
C18 — the reference form arithmetic of the driver is the arithmetic of the class group.

`Form.compose` (Cohen, Algorithm 5.4.7 with the model's own extended gcd, followed by `Form.reduce`) is what the
Lean driver uses to re-check every relation line of the real runs (`cg_relcheck`, `relationValue`). Here:
* `xgcd_correct`: the extended gcd of the model (fuel included) returns the gcd with Bezout coefficients;
* `compose_is_composition`: for forms with positive first coefficients and the same discriminant `D` (primitive or
  not) the result has discriminant `D` and is a composition in the sense of Gauss' bilinear identity
  `f1(x1,y1) · f2(x2,y2) = f3(X, Y)`, `X`, `Y` integer bilinear forms;
* `compose_raw_identity`: the same before reduction with the explicit substitution;
* `compose_dirichlet`: when `gcd(a1, a2, (b1+b2)/2) = 1` the result is, up to proper equivalence, the Dirichlet
  composition of two forms properly equivalent to the inputs (`Comp`, the relation `relation_genuine` is stated with);
* `compose_concordant`: on literally concordant inputs it is properly equivalent to `(a1 a2, b, c)`;
* `reduce_reduced`: the fuel `reduceFuel` of the model suffices (positive definite forms): the output of `Form.reduce`
  is reduced, `-a < b ≤ a ≤ c`, `b ≥ 0` when `a = c`; `reduce_mem_reducedForms`: for a primitive form it is one of the
  forms `classNumber` counts; `reduced_unique`: two properly equivalent reduced forms are equal (the uniqueness half of
  Gauss' theorem); hence `reduce_eq_iff_pequiv` ("equal reduced forms" IS "same class") and `class_representative_unique`:
  every proper equivalence class of primitive positive definite forms of discriminant `D` contains exactly one form of
  the enumeration `reducedForms D` — `classNumber D` is the number of classes;
* `relation_genuine_conductor`: `relation_genuine` for a non-fundamental discriminant with the primitivity hypothesis
  discharged from the rejection of conductor primes the code performs;
* `add_equal_larges_panics`, `store_total_iff_distinct`: the `assert!(p != q)` of `CRelationSet::add`: exact condition;
* `emitted_relations_genuine`: `emit_hom` composed with `relation_genuine`: every emitted relation is genuine.
-/
import Ymq.Props.C18
import Ymq.Props.C18Forms
import Ymq.Lemmas.ClassGroupGauss
import Ymq.Lemmas.ClassGroupReduce
import Ymq.Lemmas.ClassGroupUnique

namespace Ymq.C18
open Ymq.ClassGroup

/-- The extended gcd of the model, `xgcd a b` for `b ≥ 0` (the only way `Form.compose` calls it on positive
definite forms): `u a + v b = g`, `g ∣ a`, `g ∣ b`, `g ≥ 0` — so `g = gcd(a, b)`; in particular the fuel
`2 (log2 |a| + log2 |b|) + 8` of the model is enough (the remainder halves every two steps). -/
theorem xgcd_correct (a b : Int) (hb : 0 ≤ b) (g u v : Int) (h : xgcd a b = (g, u, v)) :
    u * a + v * b = g ∧ g ∣ a ∧ g ∣ b ∧ 0 ≤ g ∧ (∀ d : Int, d ∣ a → d ∣ b → d ∣ g) := by
  obtain ⟨h1, h2, h3, h4⟩ := xgcd_spec a b hb g u v h
  refine ⟨h1, h2, h3, h4, ?_⟩
  intro d da db
  rw [← h1]; exact dvd_add (da.mul_left u) (db.mul_left v)

/-- `Form.compose` before the final reduction, with the explicit bilinear substitution: for `a1 ≤ a2` (the order
the algorithm works in), `e = gcd(a1, a2, s)`, `s = (b1 + b2)/2`, `v_i = a_i / e`, `σ = s / e`, there are integers
`r, m, k3` with `g = composeRaw f1 f2 = (v1 v2, b2 + 2 v2 r, r m - e k3)` and
`f1(x1,y1) f2(x2,y2) = g(e x1x2 - r x1y2 - m y1x2 + k3 y1y2, v1 x1y2 + v2 y1x2 + σ y1y2)`. -/
theorem compose_raw_identity (f1 f2 : Form) (h1 : 0 < f1.a) (h12 : f1.a ≤ f2.a) (hd : f1.disc = f2.disc) :
    ∃ e v1 v2 σ r m k3 : Int, 0 < e ∧ f1.a = e * v1 ∧ f2.a = e * v2 ∧ f1.b + f2.b = 2 * (e * σ) ∧
      (∀ d : Int, d ∣ f1.a → d ∣ f2.a → d ∣ e * σ → d ∣ e) ∧
      f1.composeRaw f2 = ⟨v1 * v2, f2.b + 2 * v2 * r, r * m - e * k3⟩ ∧
      (f1.composeRaw f2).disc = f1.disc ∧
      ∀ x1 y1 x2 y2 : Int, f1.eval x1 y1 * f2.eval x2 y2
        = (f1.composeRaw f2).eval (e * x1 * x2 - r * x1 * y2 - m * y1 * x2 + k3 * y1 * y2)
            (v1 * x1 * y2 + v2 * y1 * x2 + σ * y1 * y2) := by
  have hraw : f1.composeRaw f2 = composeCore f1 f2 := by
    unfold Form.composeRaw; rw [if_neg (by omega)]
  obtain ⟨e, v1, v2, σ, r, m, k3, x2, P, t, he0, -, hv1, hv2, h2s, hbez, -, -, hg, hdisc, hid⟩ :=
    composeCore_spec f1 f2 h1 hd
  rw [hraw]
  refine ⟨e, v1, v2, σ, r, m, k3, he0, hv1, hv2, h2s, ?_, hg, by rw [hdisc, hd], hid⟩
  intro d d1 d2 d3
  rw [hbez, ← hv1, ← hv2]
  exact dvd_sub (dvd_sub (d3.mul_left _) (d2.mul_left _)) (d1.mul_left _)

/-- (1) `Form.compose` IS A COMPOSITION. Forms `f1`, `f2` with positive first coefficients and the same
discriminant (no primitivity needed for this part): the form `f3 = f1.compose f2` the driver computes (Cohen 5.4.7,
own `xgcd`, then `Form.reduce` with the model's fuel) has the same discriminant and satisfies the bilinear identity
of Gauss: there are integer bilinear forms `X = bil α`, `Y = bil β` in `(x1, y1)`, `(x2, y2)` with
`f1(x1, y1) · f2(x2, y2) = f3(X, Y)` for all integers. (Explicit `X`, `Y` before reduction: `compose_raw_identity`;
the reduction composes them with the inverse of its SL2(Z) matrix.) -/
theorem compose_is_composition (f1 f2 : Form) (h1 : 0 < f1.a) (h2 : 0 < f2.a) (hd : f1.disc = f2.disc) :
    (f1.compose f2).disc = f1.disc ∧ GaussComposes f1 f2 (f1.compose f2) := by
  rw [compose_eq_raw]
  have hred := (reduce_pequiv (f1.composeRaw f2) (reduceFuel (f1.composeRaw f2))).2
  have key : (f1.composeRaw f2).disc = f1.disc ∧ GaussComposes f1 f2 (f1.composeRaw f2) := by
    unfold Form.composeRaw
    by_cases h : f1.a > f2.a
    · rw [if_pos h]
      obtain ⟨hd', hc⟩ := composeCore_gauss f2 f1 h2 hd.symm
      exact ⟨by rw [hd', hd], hc.swap⟩
    · rw [if_neg h]
      exact composeCore_gauss f1 f2 h1 hd
  exact ⟨by rw [hred.2, key.1], key.2.pequiv hred.1⟩

/-- (1') When `gcd(a1, a2, (b1 + b2)/2) = 1` (in particular for concordant forms, and whenever `gcd(a1, a2) = 1`)
`f1.compose f2` is a Dirichlet composition up to proper equivalence: `Comp f1 f2 (f1.compose f2)` — the relation
`IsProduct` / `relation_genuine` are built from. -/
theorem compose_dirichlet (f1 f2 : Form) (h1 : 0 < f1.a) (h2 : 0 < f2.a) (hd : f1.disc = f2.disc)
    (hg : gcd3 f1.a f2.a ((f1.b + f2.b) / 2) = 1) : Comp f1 f2 (f1.compose f2) := by
  rw [compose_eq_raw]
  have hred := (reduce_pequiv (f1.composeRaw f2) (reduceFuel (f1.composeRaw f2))).2.1
  have key : Comp f1 f2 (f1.composeRaw f2) := by
    unfold Form.composeRaw
    by_cases h : f1.a > f2.a
    · rw [if_pos h]
      have hg' : gcd3 f2.a f1.a ((f2.b + f1.b) / 2) = 1 := by rw [gcd3_comm12, add_comm]; exact hg
      obtain ⟨f', g', h', e1, e2, e3, a1, a2, b, c, rfl, rfl, rfl, hc⟩ :=
        composeCore_comp f2 f1 h2 (by omega) hd.symm hg'
      refine ⟨_, _, _, e2, e1, e3, a2, a1, b, c, rfl, rfl, ?_, by rw [gcd3_comm12]; exact hc⟩
      rw [mul_comm]
    · rw [if_neg h]
      exact composeCore_comp f1 f2 h1 (by omega) hd hg
  obtain ⟨f', g', h', e1, e2, e3, hdc⟩ := key
  exact ⟨f', g', h', e1, e2, e3.trans hred, hdc⟩

/-- (1'') On concordant inputs `(a1, b, a2 c)`, `(a2, b, a1 c)` with `gcd(a1, a2, b) = 1` the driver's composition is
properly equivalent to the Dirichlet composition `(a1 a2, b, c)` of `dirichlet_composition`. -/
theorem compose_concordant (a1 a2 b c : Int) (h1 : 0 < a1) (h2 : 0 < a2) (hg : gcd3 a1 a2 b = 1) :
    PEquiv ⟨a1 * a2, b, c⟩ ((⟨a1, b, a2 * c⟩ : Form).compose ⟨a2, b, a1 * c⟩) := by
  rw [compose_eq_raw]
  refine PEquiv.trans ?_ (reduce_pequiv _ _).2.1
  unfold Form.composeRaw
  simp only
  by_cases h : a1 > a2
  · rw [if_pos h]
    have := composeCore_concordant a2 a1 b c h2 (by omega) (by rw [gcd3_comm12]; exact hg)
    rwa [mul_comm a2 a1] at this
  · rw [if_neg h]
    exact composeCore_concordant a1 a2 b c h1 (by omega) hg


/-- (2) THE FUEL OF `Form.reduce` SUFFICES and its output is reduced. Positive definite form (`a > 0`, `D < 0`): with the
fuel `reduceFuel f = 2 (log2 a + log2 c) + 8` of the model the result satisfies `-a < b ≤ a ≤ c`, `b ≥ 0` when `a = c`
(the boundary conventions of `Form.isReducedPrim`), is properly equivalent to `f` and has the same discriminant.
(`log2 a + 3` iterations are enough: the first coefficient halves at every swap except possibly the last one.) -/
theorem reduce_reduced (f : Form) (ha : 0 < f.a) (hd : f.disc < 0) :
    IsReducedPD (f.reduce (reduceFuel f)) ∧ PEquiv f (f.reduce (reduceFuel f)) ∧
      (f.reduce (reduceFuel f)).disc = f.disc :=
  ⟨reduceFuel_suffices f ha hd, (reduce_pequiv f _).2⟩

/-- the same for every fuel `≥ log2 a + 3` -/
theorem reduce_reduced_fuel (f : Form) (ha : 0 < f.a) (hd : f.disc < 0) (fuel : Nat)
    (hf : f.a.natAbs.log2 + 3 ≤ fuel) : IsReducedPD (f.reduce fuel) :=
  reduce_of_fuel f ha hd fuel hf

/-- (2') For a PRIMITIVE positive definite form the reduced form computed by the model is one of the forms enumerated
by `reducedForms` (whose number is `classNumber`): every proper equivalence class of primitive forms of discriminant
`D < 0` has a representative in the enumeration (unique: `class_representative_unique`). -/
theorem reduce_mem_reducedForms (f : Form) (ha : 0 < f.a) (hd : f.disc < 0) (hp : gcd3 f.a f.b f.c = 1) :
    f.reduce (reduceFuel f) ∈ reducedForms f.disc := by
  obtain ⟨h1, h2, h3⟩ := reduce_reduced f ha hd
  apply reducedForms_complete
  rw [← h3]
  exact isReducedPrim_of_PD h1 (pequiv_gcd3 h2 hp)


/-- (2'') UNIQUENESS OF THE REDUCED FORM (Gauss): two properly equivalent reduced positive definite forms are equal.
(A reduced form takes its minimum `a` on nonzero integer vectors, at `(±1, 0)` only when `a < c`; when `a = c` for both
forms the discriminant and `b ≥ 0` decide.) -/
theorem reduced_unique (f g : Form) (hf : IsReducedPD f) (hg : IsReducedPD g) (he : PEquiv f g) : f = g := by
  by_cases h1 : f.a < f.c
  · exact reduced_unique_lt hf hg h1 he
  by_cases h2 : g.a < g.c
  · exact (reduced_unique_lt hg hf h2 he.symm).symm
  -- `a = c` for both: `b ≥ 0`, and `b² = D + 4a²` is the same
  have hd := he.disc_eq
  obtain ⟨p, q, r, s, hdet, hfg⟩ := he
  obtain ⟨haa, -, -⟩ := reduced_a_eq hf hg hdet hfg
  obtain ⟨fa, -, -, f3, f4⟩ := hf
  obtain ⟨-, -, -, g3, g4⟩ := hg
  have e1 : f.a = f.c := by omega
  have e2 : g.a = g.c := by omega
  have fb := f4 e1
  have gb := g4 e2
  have hb : f.b = g.b := by
    simp only [Form.disc] at hd
    rw [← e1, ← e2, haa] at hd
    have : (f.b - g.b) * (f.b + g.b) = 0 := by linear_combination -hd
    rcases mul_eq_zero.1 this with h | h <;> omega
  exact form_ext_disc haa.symm hb (by omega) hd.symm

/-- "equal reduced forms" is "same class": for positive definite forms the reductions computed by the model (with its
fuel) are equal if and only if the forms are properly equivalent. This is what makes the driver's test
`relationValue D l == principal D` a test of triviality in the class group. -/
theorem reduce_eq_iff_pequiv (f g : Form) (hf : 0 < f.a) (hfd : f.disc < 0) (hg : 0 < g.a) (hgd : g.disc < 0) :
    f.reduce (reduceFuel f) = g.reduce (reduceFuel g) ↔ PEquiv f g := by
  obtain ⟨rf, ef, _⟩ := reduce_reduced f hf hfd
  obtain ⟨rg, eg, _⟩ := reduce_reduced g hg hgd
  constructor
  · intro h
    exact ef.trans (h ▸ eg.symm)
  · intro h
    exact reduced_unique _ _ rf rg (ef.symm.trans (h.trans eg))

/-- THE ENUMERATION COUNTS CLASSES: every primitive positive definite form of discriminant `D < 0` is properly
equivalent to exactly one form of `reducedForms D`. So `classNumber D = (reducedForms D).length` (`reduced_enum`) is
the number of proper equivalence classes of primitive positive definite forms of discriminant `D` — the form class
number `h(D)`. -/
theorem class_representative_unique (f : Form) (ha : 0 < f.a) (hd : f.disc < 0) (hp : gcd3 f.a f.b f.c = 1) :
    ∃ g, (g ∈ reducedForms f.disc ∧ PEquiv f g) ∧ ∀ g', g' ∈ reducedForms f.disc ∧ PEquiv f g' → g' = g := by
  obtain ⟨rf, ef, _⟩ := reduce_reduced f ha hd
  refine ⟨f.reduce (reduceFuel f), ⟨reduce_mem_reducedForms f ha hd hp, ef⟩, ?_⟩
  rintro g' ⟨hm, he⟩
  exact reduced_unique _ _ (isReducedPD_of_prim (reducedForms_sound hm)) rf (he.symm.trans ef)

/-- (3) `relation_genuine` FOR A NON-FUNDAMENTAL DISCRIMINANT: the primitivity hypothesis `hprim` is discharged from
what the code does. `D` is odd or `D/4 ≡ 2, 3 (mod 4)` (`h16`: what `classgroup()` guarantees for a type 1 polynomial,
since it reduces `D = 4N`, `N ≡ 1 mod 4` to `N`), the candidate primes are primes (`hfp`; the proof does not use it: an
accepted odd candidate is prime by `hfacs`), every odd candidate prime whose square divides `D` is in the conductor list (`hcond`: `classgroup()` lists the factor-base primes with `r = 0`
and `p² ∣ D`), and — NAMED HYPOTHESES about parts that are not modelled — no prime of `A` and no large prime has its
square dividing `D` (`hafs`, `hlarge`: `select_siqs_factors` is not modelled; a conductor prime above the factor base
is invisible to the code). Then a relation that was NOT rejected (`relationOf = .rel r`) is genuine. -/
theorem relation_genuine_conductor (D : Int) (type1 : Bool) (a b c x : Int) (maxprime maxlarge : Nat)
    (double : Bool) (conductor : List Nat) (fb : List (Nat × Nat)) (facs : List Nat)
    (afs : List (Nat × Nat)) (lp lq : Nat) (r : Rel)
    (hb : 0 ≤ b) (hdisc : polyDisc type1 a b c = D) (hty : type1 = true ↔ (2 : Int) ∣ D)
    (h16 : D % 2 = 1 ∨ D % 16 = 8 ∨ D % 16 = 12)
    (hfacs : ∀ p ∈ facs, FbOk D type1 conductor fb p) (hfp : ∀ q ∈ facs, q.Prime)
    (hcond : ∀ q ∈ facs, q ≠ 2 → ((q : Int) * q ∣ D) → q ∈ conductor)
    (hafs : ∀ pr ∈ afs, pr.1.Prime ∧ pr.1 ≠ 2 ∧ ¬ ((pr.1 : Int) * pr.1 ∣ D) ∧
      ∃ ref, bPlus pr.1 pr.2 type1 = some ref ∧ IsBPlus D pr.1 ref)
    (haprod : a = ((afs.map Prod.fst).prod : Nat))
    (hrel : relationOf type1 a b c x maxprime maxlarge double conductor fb facs afs lp lq = .rel r)
    (hlarge : ∀ pe, (r.large1 = some pe ∨ r.large2 = some pe) →
      pe.1.Prime ∧ pe.1 ≠ 2 ∧ ¬ ((pe.1 : Int) * pe.1 ∣ D)) :
    (∀ pe ∈ r.entries, pe.2 ≠ 0 → pe.1.Prime ∧ IsBPlus D pe.1 (theRoot D pe.1)) ∧
    ∃ L, L.Perm (expand D (theRoot D) r.entries) ∧ IsProduct D L (principal D) := by
  obtain ⟨n, hn, hs⟩ := relationOf_sfact D type1 a b c x maxprime maxlarge double conductor fb facs afs lp lq r
    hb hdisc hty hfacs (fun pr h => ⟨(hafs pr h).1, (hafs pr h).2.1, (hafs pr h).2.2.2⟩) haprod hrel
    (fun pe h => ⟨(hlarge pe h).1, (hlarge pe h).2.1⟩)
  have hid := polyEval_disc type1 a b c x
  rw [hdisc, mul_assoc, ← hn] at hid
  refine (hs.mono fun _ h => h.1).genuine (hdisc ▸ polyDisc_mod4 type1 a b c) hid
    ((hs.mono fun q hq => ⟨hq.1, fun h2 hD => ?_⟩).prim hid h16)
  -- an odd prime of the relation whose square divides `D`: not a candidate (it would be a conductor prime), not a
  -- prime of `A`, not a large prime
  rcases hq.2 with h | ⟨hf, hc⟩ | hm | ⟨pe, hpe, rfl⟩
  · exact h2 h
  · exact hc (hcond q hf h2 hD)
  · obtain ⟨pr, hpr, rfl⟩ := List.mem_map.1 hm
    exact (hafs pr hpr).2.2.1 hD
  · exact (hlarge pe hpe).2.2 hD

/-- (4) the panic site of `CRelationSet::add` itself: a relation whose two large primes are equal fires
`assert!(p != q)` (all profiles), whatever the state of the store -/
theorem add_equal_larges_panics (s : CSet) (r : Rel) (p : Nat) (e1 e2 : Int)
    (h1 : r.large1 = some (p, e1)) (h2 : r.large2 = some (p, e2)) : add s r = none := by
  unfold add; rw [h1, h2]; simp

theorem run_none_of_equal_larges : ∀ (rs : List Rel) (s : CSet),
    (∃ r ∈ rs, ∃ p e1 e2, r.large1 = some (p, e1) ∧ r.large2 = some (p, e2)) → run s rs = none
  | [], _, h => by simp at h
  | r :: rs, s, h => by
    rw [run]
    cases ha : add s r with
    | none => rfl
    | some s' =>
      simp only
      obtain ⟨r', hr', p, e1, e2, h1, h2⟩ := h
      rcases List.mem_cons.1 hr' with rfl | hm
      · rw [add_equal_larges_panics s r' p e1 e2 h1 h2] at ha; simp at ha
      · exact run_none_of_equal_larges rs s' ⟨r', hm, p, e1, e2, h1, h2⟩

/-- (4') EXACT CONDITION for histories whose large primes are below `u32::MAX`: the store goes through the whole
history without a panic if and only if no relation has two equal large primes. (`sieve_block_poly` never builds one:
for `q = p` it stores the exponent 2 in `large1` and leaves `large2` empty.) -/
theorem store_total_iff_distinct (maxlarge : Nat) (rs : List Rel)
    (h32 : ∀ r ∈ rs, (∀ pe, r.large1 = some pe → pe.1 + 1 < 2 ^ 32) ∧ (∀ pe, r.large2 = some pe → pe.1 + 1 < 2 ^ 32)) :
    (∃ s, run { maxlarge := maxlarge } rs = some s) ↔
      ∀ r ∈ rs, ∀ pe qe, r.large1 = some pe → r.large2 = some qe → pe.1 ≠ qe.1 := by
  constructor
  · rintro ⟨s, hs⟩ r hr ⟨p, e1⟩ ⟨q, e2⟩ h1 h2 heq
    simp only at heq
    subst heq
    rw [run_none_of_equal_larges rs _ ⟨r, hr, p, e1, e2, h1, h2⟩] at hs
    simp at hs
  · intro h
    exact store_total maxlarge rs (fun r hr => ⟨(h32 r hr).1, (h32 r hr).2, h r hr⟩)

/-- the conclusion of `relation_genuine`: the entries of `r` are primes with normalised roots and the prime forms
`[p]^{±1}` they stand for compose (iterated Dirichlet composition, up to order) to the principal form -/
def Genuine (D : Int) (r : Rel) : Prop :=
  (∀ pe ∈ r.entries, pe.2 ≠ 0 → pe.1.Prime ∧ IsBPlus D pe.1 (theRoot D pe.1)) ∧
  ∃ L, L.Perm (expand D (theRoot D) r.entries) ∧ IsProduct D L (principal D)

/-- (5) `emit_hom` COMPOSED WITH `relation_genuine`. The hypothesis of `emit_hom` ("the map kills every input
relation") is, for the map "class of the product of the prime forms", the conclusion `Genuine D r` of
`relation_genuine` / `relation_genuine_fundamental` / `relation_genuine_conductor` for every relation the sieve hands
to `add`. Without a formalised class GROUP (composition well defined on classes) it cannot be fed to `emit_hom` as a
homomorphism into an abelian group; through `emitted_subset_inputs` it composes directly: for every history of `add` calls,
if every relation added is genuine, every relation the store emits (every line of relations.sieve) is genuine. -/
theorem emitted_relations_genuine (D : Int) (maxlarge : Nat) (rs : List Rel) (s : CSet)
    (h : run { maxlarge := maxlarge } rs = some s) (hin : ∀ r ∈ rs, Genuine D r) :
    ∀ r ∈ s.emitted, Genuine D r :=
  fun r hr => hin r (emitted_subset_inputs maxlarge rs s h r hr)

/-! ### non-vacuity -/

example : xgcd 240 46 = (2, -9, 47) := by decide +kernel
/-- D = -23: `(2,1,3) ∘ (2,1,3) = (2,-1,3)` (the class of order 3), `e = gcd(2,2,1) = 1` -/
example : (⟨2, 1, 3⟩ : Form).compose ⟨2, 1, 3⟩ = ⟨2, -1, 3⟩ ∧ (⟨2, 1, 3⟩ : Form).disc = -23
    ∧ gcd3 2 2 ((1 + 1) / 2) = 1 := by decide +kernel
/-- a case with `e > 1`: D = -84, `(2,2,11) ∘ (2,2,11)` = principal, `e = gcd(2,2,2) = 2` -/
example : (⟨2, 2, 11⟩ : Form).compose ⟨2, 2, 11⟩ = ⟨1, 0, 21⟩ ∧ (⟨2, 2, 11⟩ : Form).disc = -84 := by decide +kernel
/-- concordant: D = -23, (2, 1, 3) and (3, 1, 2): a1 a2 = 6, c = 1 -/
example : gcd3 2 3 1 = 1 ∧ (⟨2, 1, 3 * 1⟩ : Form).compose ⟨3, 1, 2 * 1⟩ = ⟨1, 1, 6⟩ := by decide +kernel

/-- `reduce_reduced`: D = -23, (8, -3, 1) reduces to (1, 1, 6) -/
example : (0 : Int) < (⟨8, -3, 1⟩ : Form).a ∧ (⟨8, -3, 1⟩ : Form).disc < 0 ∧
    (⟨8, -3, 1⟩ : Form).reduce (reduceFuel ⟨8, -3, 1⟩) = ⟨1, 1, 6⟩ := by decide +kernel
example : gcd3 8 (-3) 1 = 1 := by decide
/-- `reduced_unique`: (2, -1, 3) and (2, 1, 3) are both reduced, hence NOT properly equivalent (h(-23) = 3) -/
example : IsReducedPD ⟨2, 1, 3⟩ := by unfold IsReducedPD; decide
/-- `IsReducedPD` is satisfiable -/
example : IsReducedPD ⟨2, -1, 3⟩ := by unfold IsReducedPD; decide
/-- `add_equal_larges_panics` / `store_total_iff_distinct` -/
example : add { maxlarge := 1000 } ⟨[(3, 1)], some (101, 1), some (101, 1)⟩ = none := by decide
example : (run { maxlarge := 1000 } [⟨[(3, 1)], some (101, 1), some (103, 1)⟩]).isSome = true := by decide
/-- hypotheses `h16`/`hcond` of `relation_genuine_conductor` on a non-fundamental discriminant: D = -3 · 5² = -75 ≡ 1 mod 4 -/
example : ((-75 : Int) % 2 = 1) ∧ ((5 : Int) * 5 ∣ -75) ∧ 5 ∈ [5] := by decide
/-- `relation_genuine_conductor` on a real non-fundamental candidate: D = -75 = -3 · 5², polynomial x² + x + 19,
conductor list [5]: x = 1 gives P = 21 = 3 · 7 (accepted, relation `[3]^-1 [7]`), x = 2 gives P = 25 (REJECTED: 5 is a
conductor prime — the form (5, 5, 5) met there is imprimitive) -/
example : relationOf false 1 1 19 1 151 302 false [5] [(3, 0), (5, 0), (7, 3)] [3, 5, 7] [] 1 1
      = .rel ⟨[(3, -1), (7, 1)], none, none⟩ ∧
    relationOf false 1 1 19 2 151 302 false [5] [(3, 0), (5, 0), (7, 3)] [3, 5, 7] [] 1 1 = .skip ∧
    polyDisc false 1 1 19 = -75 ∧ (∀ q ∈ [3, 5, 7], q ≠ 2 → ((q : Int) * q ∣ -75) → q ∈ [5]) := by
  refine ⟨by decide +kernel, by decide +kernel, by decide, by decide⟩
/-- `Genuine` holds for the empty relation -/
example : Genuine (-23) ⟨[], none, none⟩ := by
  refine ⟨by simp [Rel.entries], [], ?_, IsProduct.nil⟩
  simp [Rel.entries, expand]

end Ymq.C18
