/-
C04 / C05 for the worker programs of siqs() and mpqs() AS THE SOURCE SHAPES THEM.

The protocol theorems of Props/C04.lean and Props/C05Sched.lean are about arbitrary configurations of
the scheduling model; their two statements about initial configurations use the hand-written program
`compile` (poll, check, adds, publish per unit). Here the programs are built from the shapes that
translate/sched.py reads in src/siqs.rs and src/mpqs.rs on every run (Ymq/Gen/SchedShape.lean):

* `sched_inv_shape`        whatever the shape, every schedule and every pattern of stale reads leaves the
                           store equal to the sequential replay of the lock-order history, made of relations
                           of the workers' own polynomials only, and keeps any invariant `add` preserves;
* `sched_inv_any_programs` the same for arbitrary action lists (covers classical QS's fork-join by over-approximation);
* `shape_adds_exactly`     with the side condition `addsOnce`, a worker's program adds exactly the relations
                           of its polynomials, once each, in order (nothing is dropped or duplicated by the
                           loop structure);
* `abort_bounded_shape`    with the side condition `pollsPerUnit`: the abort predicate may start answering
                           `true` at ANY moment (after any schedule prefix); from then on the workers perform
                           at most two work units' worth of actions each before all of them have stopped,
                           however many units are left;
* `source_shapes_ok`       the six shapes generated from the current source meet the side conditions (by
                           `decide` on the generated data: this is the obligation that breaks when a poll, a
                           flag read, the add or the completion decision is moved or deleted in the source);
* `siqs_mt_*`, `mpqs_mt_*`, … the instances; `source_ecm_shape_ok`, `ecm_abort_bounded`, `ecm_unit_length` for the
  curve loop of ecm.rs read as the shape `ecmCurve` (a unit = one curve: read `done`, poll, work, publish; no shared store,
  no add: a curve's program is its `pre`). The same closure `do_curve` is read a second time as `ecmUnit` (below), with the
  report of a factor as the one add of a unit, so that the found-factor flag can be related to what was reported.

The drivers of src/classgroup.rs, src/qsieve.rs and, as a unit with an add, src/ecm.rs (same translator):
* classgroup() has the worker structure of siqs(): its two shapes `cgMt`, `cgSt` are in the generated list `all`, so
  `sched_inv_shape`, `shape_adds_exactly`, `abort_bounded_shape`, `source_shapes_ok` cover them; `cg_mt_abort_bounded`,
  `cg_st_abort_bounded` are the instances (a unit = one A value). What reaches the store there is the prefix of a polynomial's
  relations that the store itself accepts before it is complete (`if rels.done() { break; }` under the lock, pinned by the translator).
* classical QS: ONE coordinating thread; a unit = one large block PAIR = the forward and the backward arm (only adds), joined, then
  poll, completion decision, exit test (`ForkShape`). `qs_adds_exactly` + `qs_block_interleaving`: per pair exactly the two arms'
  relations, interleaved in lock order with a pool, forward then backward without; `qs_abort_bounded`, `qs_unit_length`;
  `source_fork_ok` pins the generated data (the poll is the first thing after the join).
* ECM read as a unit (`ecmUnit`): entry test `done || abort`, then for a reporting curve the report and the flag;
  `ecm_unit_abort_bounded`, `ecm_flag_sound` (flag set => something was reported, by a curve of the input), `source_ecm_unit_ok`
  (the flag is declared, read in exit conditions, set to true: no other use).
* `source_named_ok`: for EVERY driver, and in particular wherever a true poll only leaves the unit (closure `return`; generated list
  `leavesLoop`), the poll is in `pre` before any add: later units run their entry test and nothing else.

What this does not model: the cost of an action (the time between two polls is measured on the real code
by the C05 check), `prepare_a` / `batch_inversion` (no protocol action). In the action-level model (Ymq/Model/Sched.lean) a
true poll ends the WORKER; in the source it ends the unit for the drivers listed `false` in `leavesLoop` — the difference is the entry tests of the remaining
units (no add, no sieving: `source_named_ok`), which the step bounds here do not count. `abort_unit_bounded` (last section) is the
statement on the unit-level model (Ymq/Model/SchedUnits.lean) that has both reactions: relations added after the request are at
most one unit's worth per worker, for either reaction, for every shape that polls in `pre`; `ecm_unit_abort_faithful` its ECM instance.
-/
import Ymq.Lemmas.SchedShape
import Ymq.Lemmas.SchedUnits
import Ymq.Props.C04
import Ymq.Props.C05Sched

namespace Ymq.C04Shape
open Ymq.Sched Ymq.Gen.SchedShape

variable {ρ σ : Type}

/-- Whatever the shape, every schedule and every pattern of stale reads leaves the store equal to the sequential replay of the
lock-order history, made of relations of the workers' own polynomials only, and keeps any invariant `add` preserves. -/
theorem sched_inv_shape (add : σ → ρ → σ) (enough : σ → Bool) (Inv : σ → Prop) (Good : ρ → Prop)
    (hadd : ∀ s r, Inv s → Good r → Inv (add s r)) (sh : Shape)
    (s0 : σ) (progs : List (List (List (List ρ)))) (h0 : Inv s0)
    (hgood : ∀ prog ∈ progs, ∀ u ∈ prog, ∀ p ∈ u, ∀ r ∈ p, Good r) (sched : List (Nat × Bool × Bool)) :
    let c := run add enough (initShape sh s0 progs) sched
    c.store = c.log.foldl add s0 ∧ Inv c.store ∧ (∀ r ∈ c.log, Good r) ∧
      (∀ r ∈ c.log, ∃ prog ∈ progs, ∃ u ∈ prog, ∃ p ∈ u, r ∈ p) := by
  refine run_fresh add enough Inv Good hadd _ (initShape sh s0 progs) rfl h0 ?_ sched
  intro l hl r hr
  obtain ⟨prog, hprog, rfl⟩ := List.mem_map.1 hl
  obtain ⟨u, hu, p, hp, hrp⟩ := mem_pendingAdds_compileShape sh prog r hr
  exact ⟨hgood prog hprog u hu p hp r hrp, prog, hprog, u, hu, p, hp, hrp⟩

/-- The same for ANY worker programs (arbitrary lists of actions, not built from a shape): this is what covers
drivers whose loop structure is not one of the translated shapes — classical QS runs, per large block, a
forward and a backward block sieve as a fork-join pair and polls in the joining thread; a barrier only
removes schedules, so every real execution is still a schedule of the barrier-free programs. -/
theorem sched_inv_any_programs (add : σ → ρ → σ) (enough : σ → Bool) (Inv : σ → Prop) (Good : ρ → Prop)
    (hadd : ∀ s r, Inv s → Good r → Inv (add s r))
    (s0 : σ) (pcs : List (List (Act ρ))) (done0 : Bool) (h0 : Inv s0)
    (hgood : ∀ l ∈ pcs, ∀ r ∈ pendingAdds l, Good r) (sched : List (Nat × Bool × Bool)) :
    let c := run add enough { store := s0, log := [], done := done0, pcs := pcs } sched
    c.store = c.log.foldl add s0 ∧ Inv c.store ∧ (∀ r ∈ c.log, Good r) ∧
      (∀ r ∈ c.log, ∃ l ∈ pcs, r ∈ pendingAdds l) :=
  run_fresh add enough Inv Good hadd _ { store := s0, log := [], done := done0, pcs := pcs } rfl h0
    (fun l hl r hr => ⟨hgood l hl r hr, l, hl, hr⟩) sched

/-- With the side condition `addsOnce`, a worker's program adds exactly the relations of its polynomials, once each, in order:
the loop structure drops and duplicates nothing. -/
theorem shape_adds_exactly (sh : Shape) (h : addsOnce sh = true) (prog : List (List (List ρ))) :
    pendingAdds (compileShape sh prog) = prog.flatten.flatten := by
  unfold addsOnce at h
  simp only [Bool.and_eq_true, beq_iff_eq] at h
  exact pendingAdds_compileShape sh h.1.1 prog

/-- With the side condition `pollsPerUnit`: the abort predicate may start answering `true` after ANY schedule prefix `before`; from
then on the workers perform at most two work units' worth of actions each (`B` bounds the length of a unit's program: the rest of
the unit a worker is in and, when that unit's poll is already behind it, the next unit up to its poll), however many units are left. -/
theorem abort_bounded_shape (add : σ → ρ → σ) (enough : σ → Bool) (sh : Shape)
    (hp : pollsPerUnit sh = true) (s0 : σ) (progs : List (List (List (List ρ)))) (B : Nat)
    (hB : ∀ prog ∈ progs, ∀ u ∈ prog, (compileUnit sh u).length ≤ B)
    (before after : List (Nat × Bool × Bool))
    (heff : allEffective add enough (run add enough (initShape sh s0 progs) before) after)
    (hab : allAbort after) :
    after.length ≤ progs.length * (2 * B) := by
  have hinv := suffixInv_run add enough sh progs before _ (suffixInv_init sh s0 progs)
  have h1 := abort_steps_bounded add enough after _ heff hab
  have h2 := abortBudget_le_of_suffixInv sh hp B progs hB _ hinv
  omega

/-- one worker: at most two units' worth of actions after the request -/
theorem abort_bounded_single (add : σ → ρ → σ) (enough : σ → Bool) (sh : Shape)
    (hp : pollsPerUnit sh = true) (s0 : σ) (prog : List (List (List ρ))) (B : Nat)
    (hB : ∀ u ∈ prog, (compileUnit sh u).length ≤ B) (before after : List (Nat × Bool × Bool))
    (heff : allEffective add enough (run add enough (initShape sh s0 [prog]) before) after)
    (hab : allAbort after) : after.length ≤ 2 * B := by
  have := abort_bounded_shape add enough sh hp s0 [prog] B
    (by intro p hp u hu; simp at hp; subst hp; exact hB u hu) before after heff hab
  simpa using this

/-- the obligations on the shapes generated from the current source -/
theorem source_shapes_ok :
    ∀ x ∈ Ymq.Gen.SchedShape.all,
      pollsPerUnit x.2 = true ∧ addsOnce x.2 = true ∧ publishesPerPoly x.2 = true := by decide

/-- in the thread-pool branches the poll comes before any work of the unit: a worker that starts a
unit after the abort request performs no add -/
theorem source_mt_poll_first :
    siqsMt.pre.contains K.poll = true ∧ mpqsMt.pre.contains K.poll = true ∧
      siqsMt.pre.contains K.add = false ∧ mpqsMt.pre.contains K.add = false := by decide

theorem siqs_mt_abort_bounded (add : σ → ρ → σ) (enough : σ → Bool) (s0 : σ)
    (progs : List (List (List (List ρ)))) (B : Nat)
    (hB : ∀ prog ∈ progs, ∀ u ∈ prog, (compileUnit siqsMt u).length ≤ B)
    (before after : List (Nat × Bool × Bool))
    (heff : allEffective add enough (run add enough (initShape siqsMt s0 progs) before) after)
    (hab : allAbort after) : after.length ≤ progs.length * (2 * B) :=
  abort_bounded_shape add enough siqsMt (by decide) s0 progs B hB before after heff hab

theorem mpqs_mt_abort_bounded (add : σ → ρ → σ) (enough : σ → Bool) (s0 : σ)
    (progs : List (List (List (List ρ)))) (B : Nat)
    (hB : ∀ prog ∈ progs, ∀ u ∈ prog, (compileUnit mpqsMt u).length ≤ B)
    (before after : List (Nat × Bool × Bool))
    (heff : allEffective add enough (run add enough (initShape mpqsMt s0 progs) before) after)
    (hab : allAbort after) : after.length ≤ progs.length * (2 * B) :=
  abort_bounded_shape add enough mpqsMt (by decide) s0 progs B hB before after heff hab

theorem siqs_st_abort_bounded (add : σ → ρ → σ) (enough : σ → Bool) (s0 : σ)
    (prog : List (List (List ρ))) (B : Nat)
    (hB : ∀ u ∈ prog, (compileUnit siqsSt u).length ≤ B)
    (before after : List (Nat × Bool × Bool))
    (heff : allEffective add enough (run add enough (initShape siqsSt s0 [prog]) before) after)
    (hab : allAbort after) : after.length ≤ 2 * B :=
  abort_bounded_single add enough siqsSt (by decide) s0 prog B hB before after heff hab

theorem mpqs_st_abort_bounded (add : σ → ρ → σ) (enough : σ → Bool) (s0 : σ)
    (prog : List (List (List ρ))) (B : Nat)
    (hB : ∀ u ∈ prog, (compileUnit mpqsSt u).length ≤ B)
    (before after : List (Nat × Bool × Bool))
    (heff : allEffective add enough (run add enough (initShape mpqsSt s0 [prog]) before) after)
    (hab : allAbort after) : after.length ≤ 2 * B :=
  abort_bounded_single add enough mpqsSt (by decide) s0 prog B hB before after heff hab

/-- ECM: one curve polls the abort predicate (after reading `done`) before it does anything else; a curve adds
nothing to a shared store and only ever publishes completion -/
theorem source_ecm_shape_ok :
    pollsPerUnit ecmCurve = true ∧ ecmCurve.pre.take 2 = [K.check, K.poll] ∧
      ecmCurve.pre.contains K.add = false ∧ ecmCurve.body = [] ∧ ecmCurve.post = [] := by decide

/-- ECM with a pool: each worker owns a list of curves (seeds); after the abort request at most two
curves' worth of protocol actions per worker remain (the cost of a curve is measured, not modelled) -/
theorem ecm_abort_bounded (add : σ → ρ → σ) (enough : σ → Bool) (s0 : σ)
    (progs : List (List (List (List ρ)))) (B : Nat)
    (hB : ∀ prog ∈ progs, ∀ u ∈ prog, (compileUnit ecmCurve u).length ≤ B)
    (before after : List (Nat × Bool × Bool))
    (heff : allEffective add enough (run add enough (initShape ecmCurve s0 progs) before) after)
    (hab : allAbort after) : after.length ≤ progs.length * (2 * B) :=
  abort_bounded_shape add enough ecmCurve (by decide) s0 progs B hB before after heff hab

/-- a curve's program in the reading `ecmCurve` does not depend on relations: its length is the number of protocol actions read
in the source, so `B` in `ecm_abort_bounded` can be taken to be that number -/
theorem ecm_unit_length (u : List (List ρ)) : (compileUnit ecmCurve u).length = ecmCurve.pre.length := by
  simp [compileUnit, ecmCurve, expand, expandK]

/-! ### non-vacuity: two SIQS workers, two A values each, two polynomials per A; the abort answer turns
`true` while worker 0 is inside its first A: it finishes that A (bounded by its unit), reaches the poll
of its second A and stops; worker 1 stops at the poll of its first A. 10 actions in a unit of the
largest size here; 11 steps after the flip, within 2 * (2 * 10). -/

example :
    let progs : List (List (List (List Nat))) := [[[[2, 4], [6]], [[1], [3]]], [[[8], [10, 12]], [[5], []]]]
    let c0 := run (· + ·) (fun _ => false) (initShape siqsMt 0 progs)
      [(0, false, false), (0, false, false), (0, false, false), (0, false, false), (0, false, false)]
    let after := [(0, false, true), (1, false, true), (0, false, true), (1, false, true), (0, false, true),
      (1, false, true), (0, false, true), (0, false, true), (0, false, true), (0, false, true), (0, false, true)]
    let c := run (· + ·) (fun _ => false) c0 after
    c0.log = [2] ∧ c.log = [2, 4, 6] ∧ finished c = true ∧ after.length = 11 ∧
      (∀ prog ∈ progs, ∀ u ∈ prog, (compileUnit siqsMt u).length ≤ 10) := by decide

example : (compileShape siqsMt [[[2, 4], [6]]] : List (Act Nat)) =
    [Act.check, Act.check, Act.poll, Act.check, Act.add 2, Act.add 4, Act.publish,
     Act.check, Act.add 6, Act.publish] := by decide

/-- every driver's shape with the name used in `leavesLoop` -/
def named : List (String × Shape) := namedShapes

/-- obligations on the generated data, every driver: the names line up with the generated list of poll reactions; every unit
polls; relations are added once per polynomial / arm / reporting curve and nowhere else; and wherever a true poll only leaves
the UNIT (closure `return`: siqs, mpqs, classgroup with a pool; an ECM curve) the poll sits in `pre` before any add, so the
units that follow an abort request run their `pre` up to the poll and nothing else -/
theorem source_named_ok :
    named.map Prod.fst = leavesLoop.map Prod.fst ∧
    ∀ x ∈ named.zip leavesLoop,
      pollsPerUnit x.1.2 = true ∧ addsOnce x.1.2 = true ∧ (x.2.2 = false → pollFirst x.1.2 = true) := by decide

/-- classical QS, generated data: two arms that only add (per small block); after the join FIRST the poll, then the completion
decision on the store and the exit it guards; identical with and without a pool apart from the fork; both leave the loop -/
theorem source_fork_ok :
    forkOk qsMtFork = true ∧ forkOk qsStFork = true ∧ qsMtFork.forked = true ∧ qsStFork.forked = false ∧
      qsMtFork.after = [K.poll, K.publish, K.check] ∧ qsStFork.after = qsMtFork.after := by decide

/-- ECM, generated data: a curve starts with `done || abort` and nothing else; reporting a factor is the only thing that sets the
flag; the flag is declared, read in exit conditions and set to true — no other use -/
theorem source_ecm_unit_ok :
    ecmUnit.pre = [K.check, K.poll] ∧ ecmUnit.body = [K.add, K.publish] ∧ ecmUnit.post = [] ∧
      (∀ u ∈ ecmDoneUses, u = Use.decl ∨ u = Use.exitCond ∨ u = Use.setTrue) ∧
      ecmDoneUses.count Use.decl = 1 ∧ ecmDoneUses.count Use.exitCond = 1 ∧
      ecmDoneUses.count Use.setTrue = ecmCurve.pre.count K.publish := by decide


/-- classgroup with a pool / sequential: instances of `abort_bounded_shape` (a unit = one A value) -/
theorem cg_mt_abort_bounded (add : σ → ρ → σ) (enough : σ → Bool) (s0 : σ)
    (progs : List (List (List (List ρ)))) (B : Nat)
    (hB : ∀ prog ∈ progs, ∀ u ∈ prog, (compileUnit cgMt u).length ≤ B)
    (before after : List (Nat × Bool × Bool))
    (heff : allEffective add enough (run add enough (initShape cgMt s0 progs) before) after)
    (hab : allAbort after) : after.length ≤ progs.length * (2 * B) :=
  abort_bounded_shape add enough cgMt (by decide) s0 progs B hB before after heff hab

theorem cg_st_abort_bounded (add : σ → ρ → σ) (enough : σ → Bool) (s0 : σ)
    (prog : List (List (List ρ))) (B : Nat)
    (hB : ∀ u ∈ prog, (compileUnit cgSt u).length ≤ B)
    (before after : List (Nat × Bool × Bool))
    (heff : allEffective add enough (run add enough (initShape cgSt s0 [prog]) before) after)
    (hab : allAbort after) : after.length ≤ 2 * B :=
  abort_bounded_single add enough cgSt (by decide) s0 prog B hB before after heff hab

/-- **classical QS adds exactly the relations of its arms**: per large block, without a pool the forward arm's relations then
the backward arm's; with a pool the interleaving of the two (lock order) — see `qs_block_interleaving` -/
theorem qs_adds_exactly (f : ForkShape) (blocks : List (List ρ × List ρ × List Bool)) :
    pendingAdds (compileFork f blocks) =
      blocks.flatMap (fun b => if f.forked then merge b.1 b.2.1 b.2.2 else b.1 ++ b.2.1) := by
  unfold compileFork
  rw [pendingAdds_compileShape (forkShape f) (by simp [forkShape])]
  induction blocks with
  | nil => rfl
  | cons b bs ih =>
    simp only [List.map_cons, List.flatten_cons, List.flatMap_cons, List.flatten_append, ih]
    congr 1
    unfold forkUnit
    split <;> simp

/-- an interleaving drops and duplicates nothing and keeps the order of each arm -/
theorem qs_block_interleaving (a b : List ρ) (ch : List Bool) :
    (merge a b ch).Perm (a ++ b) ∧ a.Sublist (merge a b ch) ∧ b.Sublist (merge a b ch) := by
  fun_induction merge a b ch with
  | case1 b _ => simp
  | case2 x a _ => simp
  | case3 x a y b => exact ⟨.refl _, List.sublist_append_left _ _, List.sublist_append_right _ _⟩
  | case4 x a y b cs ih => exact ⟨ih.1.cons x, ih.2.1.cons_cons x, ih.2.2.cons x⟩
  | case5 x a y b c cs _ ih =>
    exact ⟨(ih.1.cons y).trans (by simpa using (List.perm_middle (a := y) (l₁ := x :: a) (l₂ := b)).symm),
      ih.2.1.cons y, ih.2.2.cons_cons y⟩

/-- **classical QS, bounded work after an abort request** (a unit = one large block PAIR: both arms, the poll, the completion
test): the predicate may start answering `true` after any prefix; from then on the coordinating thread — and with it the
two arms, which only exist inside a unit — performs at most two units' worth of actions: the rest of the pair being sieved
and, when the poll of that pair was already passed, the next pair up to its poll. However many large blocks are left. -/
theorem qs_abort_bounded (add : σ → ρ → σ) (enough : σ → Bool) (f : ForkShape)
    (hp : f.after.contains K.poll = true) (s0 : σ) (blocks : List (List ρ × List ρ × List Bool)) (B : Nat)
    (hB : ∀ b ∈ blocks, (compileUnit (forkShape f) (forkUnit f b)).length ≤ B)
    (before after : List (Nat × Bool × Bool))
    (heff : allEffective add enough (run add enough (initFork f s0 blocks) before) after)
    (hab : allAbort after) : after.length ≤ 2 * B :=
  abort_bounded_single add enough (forkShape f) (by simpa [pollsPerUnit, forkShape] using hp) s0
    (blocks.map (forkUnit f)) B
    (by intro u hu; obtain ⟨b, hb, rfl⟩ := List.mem_map.mp hu; exact hB b hb) before after heff hab

/-- the length of a unit of the generated QS shapes: the relations of both arms plus the three actions after the join -/
theorem qs_unit_length (b : List ρ × List ρ × List Bool) :
    (compileUnit (forkShape qsMtFork) (forkUnit qsMtFork b)).length = b.1.length + b.2.1.length + 3 ∧
    (compileUnit (forkShape qsStFork) (forkUnit qsStFork b)).length = b.1.length + b.2.1.length + 3 := by
  have hm := (qs_block_interleaving b.1 b.2.1 b.2.2).1.length_eq
  constructor
  · simp [compileUnit, forkShape, forkUnit, qsMtFork, expand, expandK, hm]
  · simp [compileUnit, forkShape, forkUnit, qsStFork, expand, expandK]
    omega

/-- **ECM, bounded work after an abort request** (a unit = one curve): each worker owns a list of curves, `some r` = the curve
reports `r`; after the predicate starts answering `true` at most 8 protocol actions per worker remain in the model, where a true
poll ends the worker. In the source a true poll ends the CURVE (`leavesLoop` says so): every later curve still runs its entry
test `done || abort` and, by `source_named_ok` (`pollFirst`), nothing else. -/
theorem ecm_unit_abort_bounded (add : σ → ρ → σ) (enough : σ → Bool) (s0 : σ)
    (progs : List (List (Option ρ))) (before after : List (Nat × Bool × Bool))
    (heff : allEffective add enough
      (run add enough (initShape ecmUnit s0 (progs.map (fun p => p.map curveUnit))) before) after)
    (hab : allAbort after) : after.length ≤ progs.length * 8 := by
  have := abort_bounded_shape add enough ecmUnit (by decide) s0 (progs.map (fun p => p.map curveUnit)) 4
    (by
      intro prog hprog u hu
      obtain ⟨p, _, rfl⟩ := List.mem_map.mp hprog
      obtain ⟨o, _, rfl⟩ := List.mem_map.mp hu
      cases o <;> simp [compileUnit, curveUnit, ecmUnit, expand, expandK]) before after heff hab
  simpa using this

/-- **ECM's found-factor flag is sound**: with the reports as the store, in every reachable configuration (any schedule, any
stale reads, any abort answers) the flag is set only if some curve has reported, and everything reported is the report of
one of the curves handed to the workers. So a curve skipped because it saw the flag never makes ecm() answer `None`. -/
theorem ecm_flag_sound (progs : List (List (Option ρ))) (sched : List (Nat × Bool × Bool)) :
    let c := run (fun s r => s ++ [r]) (fun s => !s.isEmpty)
      (initShape ecmUnit ([] : List ρ) (progs.map (fun p => p.map curveUnit))) sched
    (c.done = true → c.log ≠ []) ∧ c.store = c.log ∧ (∀ r ∈ c.log, ∃ prog ∈ progs, some r ∈ prog) := by
  intro c
  obtain ⟨hs, -, -, hmem⟩ := run_fresh (fun (s : List ρ) r => s ++ [r]) (fun s => !s.isEmpty) (fun _ => True)
    (fun _ => True) (fun _ _ _ _ => trivial) (fun r => ∃ prog ∈ progs, some r ∈ prog)
    (initShape ecmUnit ([] : List ρ) (progs.map (fun p => p.map curveUnit))) rfl trivial
    (by
      intro l hl r hr
      obtain ⟨_, hq', rfl⟩ := List.mem_map.1 hl
      obtain ⟨q, hq, rfl⟩ := List.mem_map.1 hq'
      obtain ⟨u, hu, p, hp, hrp⟩ := mem_pendingAdds_compileShape ecmUnit _ r hr
      obtain ⟨o, ho, rfl⟩ := List.mem_map.1 hu
      cases o with
      | none => simp [curveUnit] at hp
      | some x =>
        obtain rfl := List.mem_singleton.1 hp
        obtain rfl := List.mem_singleton.1 hrp
        exact ⟨trivial, q, hq, ho⟩) sched
  have hstore : c.store = c.log := by
    show (run _ _ _ sched).store = (run _ _ _ sched).log
    rw [hs, foldl_snoc]; rfl
  refine ⟨fun hd hnil => ?_, hstore, hmem⟩
  have := run_done_enough (fun (s : List ρ) r => s ++ [r]) (fun s => !s.isEmpty)
    (by intro s r _; simp) sched _ (by simp [initShape]) hd
  rw [hstore] at this
  simp [hnil] at this


/-- classical QS with a pool, two large blocks: the first pair's adds interleave (backward arm first), then poll, completion
decision, exit test; the abort answer turns `true` while the first pair is being sieved: the pair is finished (2 more adds), the
poll stops the loop, the second pair is never started: 3 steps, within 2 * 6 -/
example :
    let blocks : List (List Nat × List Nat × List Bool) := [([2, 4], [6], [false, true]), ([1], [3], [])]
    let c0 := run (· + ·) (fun _ => false) (initFork qsMtFork 0 blocks) [(0, false, false)]
    let after := [(0, false, true), (0, false, true), (0, false, true)]
    let c := run (· + ·) (fun _ => false) c0 after
    (compileFork qsMtFork blocks : List (Act Nat)) =
      [Act.add 6, Act.add 2, Act.add 4, Act.poll, Act.publish, Act.check, Act.add 1, Act.add 3, Act.poll, Act.publish, Act.check] ∧
    (compileFork qsStFork blocks : List (Act Nat)) =
      [Act.add 2, Act.add 4, Act.add 6, Act.poll, Act.publish, Act.check, Act.add 1, Act.add 3, Act.poll, Act.publish, Act.check] ∧
    c0.log = [6] ∧ c.log = [6, 2, 4] ∧ finished c = true ∧ after.length = 3 ∧ allAbort after ∧
      (∀ b ∈ blocks, (compileUnit (forkShape qsMtFork) (forkUnit qsMtFork b)).length ≤ 6) := by
  refine ⟨by decide, by decide, by decide, by decide, by decide, by decide, by simp [allAbort], by decide⟩

example : qsMtFork.after.contains K.poll = true ∧ qsStFork.after.contains K.poll = true := by decide

/-- classgroup with a pool: two workers, the abort answer turns `true` while worker 0 is inside its first A value -/
example :
    let progs : List (List (List (List Nat))) := [[[[2, 4], [6]], [[1], [3]]], [[[8], [10, 12]], [[5], []]]]
    let c0 := run (· + ·) (fun _ => false) (initShape cgMt 0 progs) [(0, false, false), (0, false, false), (0, false, false), (0, false, false)]
    let after := [(0, false, true), (1, false, true), (0, false, true), (1, false, true), (0, false, true),
      (0, false, true), (0, false, true), (0, false, true), (0, false, true), (0, false, true)]
    let c := run (· + ·) (fun _ => false) c0 after
    c0.log = [2] ∧ c.log = [2, 4, 6] ∧ finished c = true ∧ after.length = 10 ∧
      (∀ prog ∈ progs, ∀ u ∈ prog, (compileUnit cgMt u).length ≤ 9) := by decide

example : (compileShape cgSt [[[2, 4], [6]]] : List (Act Nat)) =
    [Act.check, Act.add 2, Act.add 4, Act.publish, Act.check, Act.add 6, Act.publish, Act.check, Act.poll] := by decide

/-- ECM with a pool: worker 0 owns curves (nothing, report 7), worker 1 owns (nothing, report 9, nothing): worker 0 reports 7 and sets
the flag; worker 1, inside its first curve's entry test, sees the flag and stops: `9` is never reported, the flag is set and the
log is not empty -/
example :
    let progs : List (List (Option Nat)) := [[none, some 7], [none, some 9, none]]
    let c := run (fun s r => s ++ [r]) (fun s => !s.isEmpty) (initShape ecmUnit ([] : List Nat) (progs.map (fun p => p.map curveUnit)))
      [(0, false, false), (0, false, false), (0, false, false), (0, false, false), (0, false, false), (0, false, false), (1, false, false)]
    c.log = [7] ∧ c.done = true ∧ finished c = true := by decide

example :
    let progs : List (List (Option Nat)) := [[none, some 7], [none, some 9, none]]
    let after := [(0, false, true), (1, false, true), (0, false, true), (1, false, true)]
    (compileShape ecmUnit (([none, some 7] : List (Option Nat)).map curveUnit)) = [Act.check, Act.poll, Act.check, Act.poll, Act.add 7, Act.publish] ∧
    finished (run (fun s r => s ++ [r]) (fun s => !s.isEmpty) (initShape ecmUnit ([] : List Nat) (progs.map (fun p => p.map curveUnit))) after) = true ∧
      after.length ≤ progs.length * 8 := by decide

example : (merge [1, 2, 3] [10, 20] [false, true, true, false] : List Nat) = [10, 1, 2, 20, 3] := by decide


/-- **Abort request on the unit-level model** (Ymq/Model/SchedUnits.lean: unit boundaries kept; `leaves = false`: a poll answered
`true` ends the UNIT, the worker goes on to its next unit and polls again — the par_iter closures of siqs / mpqs / classgroup and
ECM's do_curve; `leaves = true`: it ends the loop). For every shape whose `pre` polls (generated data: `source_named_ok`), every
schedule prefix `before`, every later schedule on which the predicate answers `true`, with or without stale flag reads and
WITHOUT any assumption on how many steps are taken: the relations added after the request are at most `B` per worker, where `B`
bounds the relations of ONE unit — the remainder of the unit each worker is in; no later unit adds anything, however many remain. -/
theorem abort_unit_bounded (leaves : Bool) (add : σ → ρ → σ) (enough : σ → Bool) (sh : Shape)
    (hp : sh.pre.contains K.poll = true) (s0 : σ) (progs : List (List (List (List ρ)))) (B : Nat)
    (hB : ∀ prog ∈ progs, ∀ u ∈ prog, (pendingAdds (compileUnit sh u)).length ≤ B)
    (before after : List (Nat × Bool × Bool)) (hab : allAbort after) :
    (runU leaves add enough (runU leaves add enough (initU sh s0 progs) before) after).log.length ≤
      (runU leaves add enough (initU sh s0 progs) before).log.length + progs.length * B := by
  have h0 := invU_init sh hp s0 progs B hB
  obtain ⟨i1, l1⟩ := runU_inv leaves add enough B before _ h0
  obtain ⟨_, r2⟩ := runU_abort leaves add enough B after _ i1 hab
  have hp' := potU_le B _ i1
  rw [l1] at hp'
  have hl : (initU sh s0 progs : UCfg ρ σ).ws.length = progs.length := by simp [initU]
  rw [hl] at hp'
  omega

/-- ECM: after an abort request each worker reports at most once more (the curve it is in), whatever the number of curves left -/
theorem ecm_unit_abort_faithful (add : σ → ρ → σ) (enough : σ → Bool) (s0 : σ) (progs : List (List (Option ρ)))
    (before after : List (Nat × Bool × Bool)) (hab : allAbort after) :
    (runU false add enough (runU false add enough (initU ecmUnit s0 (progs.map (fun p => p.map curveUnit))) before) after).log.length ≤
      (runU false add enough (initU ecmUnit s0 (progs.map (fun p => p.map curveUnit))) before).log.length + progs.length := by
  have := abort_unit_bounded false add enough ecmUnit (by decide) s0 (progs.map (fun p => p.map curveUnit)) 1
    (by
      intro prog hprog u hu
      obtain ⟨p, _, rfl⟩ := List.mem_map.mp hprog
      obtain ⟨o, _, rfl⟩ := List.mem_map.mp hu
      cases o <;> simp [compileUnit, curveUnit, ecmUnit, expand, expandK, pendingAdds]) before after hab
  simpa using this

/-- non-vacuity: one SIQS worker with a pool, two A values; the request arrives inside the first A (after `add 2`): the worker
finishes that A (4, 6), takes the second A, runs its entry test (check, check, poll -> `true`: leaves the UNIT) and is finished:
1 and 3 are never added; 2 relations after the request, within 1 * 3 -/
example :
    let progs : List (List (List (List Nat))) := [[[[2, 4], [6]], [[1], [3]]]]
    let c0 := runU false (· + ·) (fun _ => false) (initU siqsMt 0 progs)
      [(0, false, false), (0, false, false), (0, false, false), (0, false, false), (0, false, false), (0, false, false)]
    let after := [(0, false, true), (0, false, true), (0, false, true), (0, false, true), (0, false, true),
      (0, false, true), (0, false, true), (0, false, true), (0, false, true)]
    let c := runU false (· + ·) (fun _ => false) c0 after
    c0.log = [2] ∧ c.log = [2, 4, 6] ∧ finishedU c = true ∧ allAbort after ∧
      (∀ prog ∈ progs, ∀ u ∈ prog, (pendingAdds (compileUnit siqsMt u)).length ≤ 3) := by
  refine ⟨by decide, by decide, by decide, by simp [allAbort], by decide⟩


/-- **`sched_inv_shape` on the unit-level model** (both reactions to a true poll, `leaves` arbitrary): whatever the shape, the
schedule, the stale reads and the abort answers, the store is the sequential replay of the lock-order history, which consists of
relations of the workers' own polynomials only, and every invariant `add` preserves is kept -/
theorem sched_inv_units (leaves : Bool) (add : σ → ρ → σ) (enough : σ → Bool) (Inv : σ → Prop) (Good : ρ → Prop)
    (hadd : ∀ s r, Inv s → Good r → Inv (add s r)) (sh : Shape)
    (s0 : σ) (progs : List (List (List (List ρ)))) (h0 : Inv s0)
    (hgood : ∀ prog ∈ progs, ∀ u ∈ prog, ∀ p ∈ u, ∀ r ∈ p, Good r) (sched : List (Nat × Bool × Bool)) :
    let c := runU leaves add enough (initU sh s0 progs) sched
    c.store = c.log.foldl add s0 ∧ Inv c.store ∧ (∀ r ∈ c.log, Good r) ∧
      (∀ r ∈ c.log, ∃ prog ∈ progs, ∃ u ∈ prog, ∃ p ∈ u, r ∈ p) := by
  intro c
  have h := runU_spec leaves add enough s0 (fun r => Good r ∧ ∃ prog ∈ progs, ∃ u ∈ prog, ∃ p ∈ u, r ∈ p) sched
    (initU sh s0 progs) (by simp [initU]) (by simp [initU])
    (by
      intro x hx
      simp only [initU, List.mem_map] at hx
      obtain ⟨prog, hprog, rfl⟩ := hx
      refine ⟨by simp [pendingAdds], ?_⟩
      intro u hu r hr
      obtain ⟨v, hv, rfl⟩ := List.mem_map.mp hu
      obtain ⟨u', hu', p, hp, hrp⟩ := mem_pendingAdds_compileShape sh [v] r (by simpa [compileShape] using hr)
      simp only [List.mem_singleton] at hu'
      subst hu'
      exact ⟨hgood prog hprog _ hv p hp r hrp, prog, hprog, _, hv, p, hp, hrp⟩)
  obtain ⟨a1, a2⟩ := h
  refine ⟨a1, ?_, fun r hr => (a2 r hr).1, fun r hr => (a2 r hr).2⟩
  show Inv c.store
  rw [a1]
  exact foldl_inv add Inv Good hadd _ s0 h0 (fun r hr => (a2 r hr).1)

example :
    let c := runU false (· + ·) (fun s => s ≥ 6) (initU cgMt 0 [[[[2, 4], [6]]], [[[1], [3]]]])
      [(0, false, false), (1, false, false), (0, false, false), (0, false, false), (1, false, false), (0, false, false), (0, false, false),
       (1, false, false), (1, false, false), (1, false, false), (0, false, false), (0, false, false), (1, false, false), (0, false, false), (1, false, false)]
    c.log = [2, 1, 4] ∧ c.store = 7 ∧ c.done = true ∧ finishedU c = true := by decide

end Ymq.C04Shape
