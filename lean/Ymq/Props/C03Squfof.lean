/-
C03 / C01 for `squfof::squfof` (src/squfof.rs), the sub-algorithm behind `Algo::Squfof`:
the model `Ymq.Squfof.squfof` (Ymq/Model/Squfof.lean, every overflow / underflow / division /
assertion site of the checked profile is a `none`) NEVER panics, for every `n` and every admissible
seed (`squfof_no_panic`), and every pair it returns multiplies to `n` (`squfof_sound`) and is a
proper split unless `n` is one of the 15 primes ≤ 47 (`squfof_proper`, exact:
`squfof_trivial_split_small_primes`).

The only parameter is the floating point seed of `isqrt`, `(m as f64).sqrt() as u64`: all theorems
that need it hold for EVERY seed within 1 of the floor square root (`SeedOK`, named hypothesis;
an IEEE-754 fact checked by the `squfof_seed` stream), and the run does not depend on which
admissible seed is used (`squfof_seed_irrelevant`).

HISTORY: before the repair f24afb6 (/repo) `squfof(n)` divided by zero as soon as a round `k ≥ 2`
was reached with `n·k` a perfect square (`squfof(2)`, every prime ≤ 47, `50`, `6000163058`,
`9223371873646019282`; direct calls only, `factor()` removes the primes ≤ 199 first): the guard
`nsqrt * nsqrt == n` compares with `n`, not `n·k`. Such a round is now skipped
(`attempt_skips_square`). Consequence of the skip: rounds `k ≥ n` are reachable for `n ≤ 50`, where
`p_prev` can be a multiple of `n`; the code guards `f > 1` only, so `squfof(p) = (p, 1)` for the
primes `p ≤ 47` (a trivial split; before the repair these calls panicked). Composite `n ≤ 50` and
every `n ≥ 51` get proper splits.
-/
import Ymq.Lemmas.SqufofTop
import Ymq.Lemmas.FactorClosed
import Ymq.Lemmas.FactorClosedExample

namespace Ymq.C03Squfof
open Ymq.Squfof

/-- **isqrt**: from every admissible seed `squfof::isqrt` returns the floor square root; in
particular its `n / r` never divides by zero, `r - 1` never underflows, the loop stops within the
8 iterations the model allows (from any seed `r ≥ ⌊√n⌋`, `r − ⌊√n⌋ + 2` suffice:
`Ymq.Squfof.sqLoop_desc`). C08 `squfof_isqrt_spec` is the partial-correctness half ("whenever it
returns"); this adds termination and absence of panics. -/
theorem isqrt_total {seed : Nat → Nat} (hs : SeedOK seed) {m : Nat} (hm : m < 2 ^ 64) :
    isqrt seed m = some (Nat.sqrt m) :=
  isqrt_eq hs hm

/-- the run is the same for every admissible seed -/
theorem squfof_seed_irrelevant {seed seed' : Nat → Nat} (hs : SeedOK seed) (hs' : SeedOK seed')
    (n : Nat) : squfof seed n = squfof seed' n :=
  kLoop_seed hs hs' n 50 1

/-- **C01, soundness** (every seed, every `n`, no hypothesis): a returned pair multiplies to `n`
and its first component exceeds 1 unless `n < 2` (`squfof(0) = (0, 0)`, `squfof(1) = (1, 1)`:
the square test of round 1). -/
theorem squfof_sound (seed : Nat → Nat) (n a b : Nat) (h : squfof seed n = some (some (a, b))) :
    a * b = n ∧ (2 ≤ n → 1 < a) := by
  obtain ⟨j, _, hres⟩ := kLoop_first n 50 1 _ h (by simp)
  rcases hres with ⟨h0, _⟩ | ⟨a', b', h1, h2⟩
  · simp at h0
  · injection h1 with h1; injection h1 with h1; injection h1 with ha hb
    subst ha hb
    obtain ⟨e, g⟩ := attempt_ret h2
    refine ⟨e, fun hn => ?_⟩
    rcases g with ⟨_, g⟩ | g
    · rcases Nat.lt_or_ge 1 a with h | h
      · exact h
      · have : a = 0 ∨ a = 1 := by omega
        rcases this with rfl | rfl <;> omega
    · exact g

/-- **C03, no panic (full strength)**: for every `n` (in particular every `n < 2^64`) and every
admissible seed `squfof(n)` reaches no overflow, underflow, division by zero or failed assertion
of the checked profile: it returns `None` or a pair. -/
theorem squfof_no_panic {seed : Nat → Nat} (hs : SeedOK seed) (n : Nat) :
    ∃ r, squfof seed n = some r := by
  cases hr : squfof seed n with
  | some r => exact ⟨r, rfl⟩
  | none =>
    obtain ⟨j, _, ⟨_, h0⟩ | ⟨_, _, h1, _⟩⟩ := kLoop_first n 50 1 _ hr (by simp)
    · obtain ⟨r, hr', _⟩ := attempt_round hs n (1 + j)
      rw [hr'] at h0; cases h0
    · cases h1

/-- every single round is panic free -/
theorem attempt_no_panic {seed : Nat → Nat} (hs : SeedOK seed) (n k : Nat) :
    ∃ r, attempt seed n k = some r :=
  (attempt_round hs n k).imp fun _ h => h.1

/-- the repaired case: a multiplier with `n·k < 2^64` a perfect square other than `n` itself
(`k ≥ 2`, `n ≥ 1`) is skipped (`q == 0`, squfof.rs:26); it used to divide by zero. -/
theorem attempt_skips_square {seed : Nat → Nat} (hs : SeedOK seed) {n k : Nat}
    (hlt : n * k < 2 ^ 64) (hsq : IsSquare (n * k)) (hne : n * k ≠ n) :
    attempt seed n k = some .next := by
  apply attempt_square_skips hs hlt _ hne
  obtain ⟨r, hr⟩ := hsq
  rw [hr, Nat.sqrt_eq]

/-- the shape of every returned pair for `n ≥ 51`: the two exits named in Lemmas/FactorClosed.lean,
with the fact `0 < p_prev < n` at the gcd exit PROVED (it was a named premise there):
`p_prev ≤ ⌊√(nk)⌋ < n` because `k ≤ 50 < n`. (For `n ≤ 50` the statement is false after the repair:
`squfof_trivial_split_small_primes`.) -/
theorem squfof_exit {seed : Nat → Nat} (hs : SeedOK seed) {n a b : Nat} (hn : 51 ≤ n)
    (h : squfof seed n = some (some (a, b))) : Ymq.Factor.SqufofExit n a b := by
  obtain ⟨j, hj, ⟨h0, _⟩ | ⟨a', b', h1, h2⟩⟩ := kLoop_first n 50 1 _ h (by simp)
  · cases h0
  obtain ⟨rfl, rfl⟩ := Prod.mk.inj (Option.some.inj (Option.some.inj h1))
  obtain ⟨r, hr, hcase⟩ := attempt_round hs n (1 + j)
  obtain rfl := Option.some.inj (hr.symm.trans h2)
  cases hcase with
  | square _ hsq => exact .square _ hsq rfl rfl
  | gcd pf g1 g2 g3 =>
    -- `p_prev² ≤ n·k < n²` because `k ≤ 50 < n`
    refine .gcd pf g1 ?_ rfl g3 rfl
    have : n * (1 + j) < n * n := Nat.mul_lt_mul_of_pos_left (by omega) (by omega)
    exact Nat.mul_self_lt_mul_self_iff.mp (lt_of_le_of_lt g2 this)

/-- the 15 primes ≤ 47 -/
def smallPrimes47 : List Nat := [2, 3, 5, 7, 11, 13, 17, 19, 23, 29, 31, 37, 41, 43, 47]

/-- row `n` of the table for `n ≤ 50`: the pair `(n, 1)` when `n` is a prime ≤ 47, a proper split
otherwise -/
def smallRow (n : Nat) : Bool :=
  match squfof exactSeed n with
  | some (some (a, b)) =>
    if n ∈ smallPrimes47 then a == n && b == 1
    else a * b == n && decide (1 < a) && decide (a < n) && decide (1 < b) && decide (b < n)
  | _ => false

/-- the model on every `2 ≤ n ≤ 50`, evaluated once -/
theorem smallTable : ∀ n < 51, 2 ≤ n → smallRow n = true := by decide +kernel

/-- **C01, proper split**: for every `n ≥ 2` that is not one of the primes ≤ 47 a returned pair is a
factorisation into two factors strictly between 1 and `n`. The excluded set is exact
(`squfof_trivial_split_small_primes`); `factor()` hands over composites ≥ 211² only. -/
theorem squfof_proper {seed : Nat → Nat} (hs : SeedOK seed) {n a b : Nat} (hn : 2 ≤ n)
    (hp : n ∉ smallPrimes47) (h : squfof seed n = some (some (a, b))) :
    a * b = n ∧ 1 < a ∧ a < n ∧ 1 < b ∧ b < n := by
  rcases Nat.lt_or_ge n 51 with hsmall | hbig
  · have hrow := smallTable n hsmall hn
    rw [squfof_seed_irrelevant hs exactSeed_ok] at h
    simpa [smallRow, h, hp, and_assoc] using hrow
  · have hpk := (squfof_exit hs hbig h).pairOK hn
    obtain ⟨h1, h2, h3⟩ := hpk
    refine ⟨h1, h2, ?_, h3, ?_⟩
    · rcases Nat.lt_or_ge a n with h | h
      · exact h
      · have : n * 2 ≤ a * b := Nat.mul_le_mul h h3
        omega
    · rcases Nat.lt_or_ge b n with h | h
      · exact h
      · have : 2 * n ≤ a * b := Nat.mul_le_mul h2 h
        omega

/-- **witnesses that the exclusion in `squfof_proper` is exact**: for every prime `p ≤ 47` the
repaired code returns the trivial split `(p, 1)` (a round `k > p` finds `p_prev` divisible by `p`;
the code guards `f > 1` only). Before the repair these calls divided by zero in round `k = p`. -/
theorem squfof_trivial_split_small_primes {seed : Nat → Nat} (hs : SeedOK seed) :
    ∀ p ∈ smallPrimes47, squfof seed p = some (some (p, 1)) := by
  intro p hp
  have hp2 : 2 ≤ p ∧ p < 51 := (by decide : ∀ p ∈ smallPrimes47, 2 ≤ p ∧ p < 51) p hp
  have hrow := smallTable p hp2.2 hp2.1
  rw [squfof_seed_irrelevant hs exactSeed_ok]
  unfold smallRow at hrow
  split at hrow
  · rename_i a b h
    rw [if_pos hp, Bool.and_eq_true, beq_iff_eq, beq_iff_eq] at hrow
    rw [h, hrow.1, hrow.2]
  · cases hrow

/-- the model, on the arguments `factor()` can produce (`n ≥ 51`; every argument of
`squfof::squfof` inside `factor_impl` is a composite without prime factor ≤ 199, so `n ≥ 211²`),
as the `squfof` field of the oracle record of Model/Factor.lean. Below 51 the field answers
`None`: there the real function may return `(p, 1)`, which the contract does not allow.
This field, `squfof_uses_exit` and `sqOracle` discharge `UsesSqufofExit` for the closed theorems of
Props/C01Closed.lean by building the guard `51 ≤ n` into the field; Lemmas/FactorClosed2.lean
(`SqufofModel` + `guardOracle`) takes the model as it is and puts the guard on the oracle. -/
def squfofField (seed : Nat → Nat) {σ : Type} (t : σ) (n : Nat) : Option (Nat × Nat) × σ :=
  (if n ≤ 50 then none else (squfof seed n).getD none, t)

/-- **C01 link**: an oracle whose `squfof` field answers `Some` only for `n ≥ 51` and then as the
model does satisfies `UsesSqufofExit`, the premise of the closed factor theorems
(Props/C01Closed.lean) that was justified by K/O only; the named fact `0 < p_prev < n` of
`SqufofExit.gcd` is discharged by the invariant. -/
theorem squfof_uses_exit {seed : Nat → Nat} (hs : SeedOK seed) {σ : Type} (o : Ymq.Factor.Oracle σ)
    (ho : ∀ t n a b, (o.squfof t n).1 = some (a, b) → 51 ≤ n ∧ squfof seed n = some (some (a, b))) :
    Ymq.Factor.UsesSqufofExit o := by
  intro t n a b h
  obtain ⟨hn, hm⟩ := ho t n a b h
  exact squfof_exit hs hn hm

theorem squfofField_spec (seed : Nat → Nat) {σ : Type} (t : σ) (n a b : Nat)
    (h : (squfofField seed t n).1 = some (a, b)) : 51 ≤ n ∧ squfof seed n = some (some (a, b)) := by
  unfold squfofField at h
  simp only [] at h
  by_cases hn : n ≤ 50
  · rw [if_pos hn] at h; simp at h
  · rw [if_neg hn] at h
    refine ⟨by omega, ?_⟩
    cases hr : squfof seed n with
    | none => rw [hr] at h; simp at h
    | some r =>
      rw [hr] at h
      simp only [Option.getD_some] at h
      rw [h]

/-- the seed hypothesis is satisfiable -/
example : SeedOK exactSeed := exactSeed_ok

/-- success in round 1 (the first number of the repository's own test) -/
example : squfof exactSeed 11111 = some (some (41, 271)) := by decide +kernel

theorem squfof_58447 : squfof exactSeed 58447 = some (some (211, 277)) := by decide +kernel

/-- success that needs a multiplier: `58447 = 211·277` in round `k = 2`, `61601 = 229·269` in
round `k = 6` (both are inputs `factor()` can hand over) -/
example : squfof exactSeed 58447 = some (some (211, 277)) := squfof_58447
example : squfof exactSeed 61601 = some (some (229, 269)) := by decide +kernel

/-- the LAST multiplier: `163³` fails in rounds 1..49 and is split in round `k = 50` -/
example : squfof exactSeed 4330747 = some (some (163, 26569)) := by decide +kernel

/-- the square exit -/
example : squfof exactSeed 49729 = some (some (223, 223)) := by decide +kernel

/-- failure: a prime runs through all 50 multipliers -/
example : squfof exactSeed 10007 = some none := by decide +kernel

/-- the `checked_mul` break: `n·2 ≥ 2^64` after a failed round 1 would need a long run; the break
itself, on the first multiplier that overflows -/
example : attempt exactSeed 18446744073709551557 2 = some .stop := by decide +kernel

/-- the repaired inputs answer what the real code answers now (they divided by zero before) -/
example : squfof exactSeed 2 = some (some (2, 1)) := by decide +kernel
example : squfof exactSeed 50 = some (some (2, 25)) := by decide +kernel
example : squfof exactSeed 6000163058 = some (some (2, 3000081529)) := by decide +kernel

/-- a skipped round: `50·2 = 10²` -/
example : attempt exactSeed 50 2 = some .next := by decide +kernel

/-- the hypotheses of `squfof_proper` hold for a concrete input -/
example : 211 * 277 = 58447 ∧ 1 < 211 ∧ 211 < 58447 ∧ 1 < 277 ∧ 277 < 58447 :=
  squfof_proper exactSeed_ok (by decide) (by decide) squfof_58447

open Ymq.Factor Ymq.Factor.Closed in
/-- the model oracle of Props/C01Closed.lean with its `squfof` field (there: constantly `None`)
replaced by the SQUFOF model -/
def sqOracle : Oracle Unit := { modelOracle with squfof := squfofField exactSeed }

open Ymq.Factor Ymq.Factor.Closed in
theorem sqOracle_uses_exit : UsesSqufofExit sqOracle :=
  squfof_uses_exit exactSeed_ok sqOracle (fun t n a b h => squfofField_spec exactSeed t n a b h)

open Ymq.Factor Ymq.Factor.Closed in
/-- every premise of the closed factor theorems holds for it -/
example : OracleOK sqOracle :=
  oracleOK_of_models_aux (o := sqOracle) model_pp model_finalStep model_qs64 model_rho model_pm1
    model_ecm sqOracle_uses_exit model_unexpected ⟨model_residual.unexpectedNotWhole⟩

open Ymq.Factor in
/-- `factor(4·58447, Algo::Squfof)`: trial division, then the modelled SQUFOF splits 211·277 with
the multiplier `k = 2`, the modelled `pseudoprime` accepts both parts -/
example : factor sqOracle 20 233788 .squfof () = .ok [2, 2, 211, 277] := by decide +kernel

end Ymq.C03Squfof
