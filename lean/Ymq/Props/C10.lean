/-
C10 — Polynomial products, convolutions and multipoint evaluation match the schoolbook
definitions. Only property theorems live here, and what several of them share (the lemmas `exists_ite_some`,
`mulCoef_cast`, `fftLongmul_end_to_end`; `cyc1`, the one-word cyclic product of the counter-witness); helper lemmas: Ymq/Lemmas/{FInt*,Kronecker*,Crt*,Ntt*} and the Poly* files imported below.

Reading guide.
* Specifications (`Ymq.PolySpec`, Ymq/Model/PolySpec.lean): `cycCoef size f g k` is coefficient `k` of
  the cyclic product modulo `X^size - 1` of the coefficient functions `f`, `g`; `coef p i` is the `i`-th
  entry of an array (zero beyond the end).
* `Ymq.Kronecker.convolve wrap cyc n k rinv nbits size p q reslen offset` is the model of
  `arith_fft::convolve_modn` (dispatch table translated from the source + `_convolve_modn::<N>`): `p`, `q`
  hold the residues stored in the `MInt`s (Montgomery form), `cyc N` stands for `mulfft::<N>`,
  `zn.redc_large`/`zn.add` are exact modular arithmetic (property C07), `rinv = R⁻¹ mod n`,
  `R = 2^(64k)`. `wrap = true` is the code after commit `fix: convolve_modn dropped the wrap-around
  digits …`; `wrap = false` is the index formula of the pinned tree.
* `Ymq.FInt.FI` is the word-exact model of `FInt<N>` (`N` words + top word), `value` its integer,
  `Norm` the code's normal form, `WfN N` "`N` words below 2^64", `Fmod N = 2^(64N) + 1`.
  `f … = some r` means: no panic site (debug assertion, overflow check, index check) is reached.
* `Ymq.Kronecker.cycFft N` is the transform product as the code forms it: packed words as `FInt<N>` with
  top word 0, the word-level model `Ymq.FInt.mulfft`, values read back. `mulfft_exact` proves that it
  meets `ExactCyc`, so `kronecker_cyclic_fft` has no hypothesis about the transform.
* `Ymq.PolyMul.*` (Ymq/Model/{PolyMul,PolySeries,PolyTree}.lean) are buffer/value-level models of
  `arith_poly.rs` over abstract coefficient operations `Ops α`; `Hom o φ` says that `φ` maps them to the
  operations of a commutative ring (`natOps_hom`: residues modulo `n` to `ZMod n`).
* Inside the `arith_poly` models `convolve_modn_ntt` is the exact convolution; `fft_longmul_word_eq` and
  `fft_midmul_word_eq` identify that step with the word-level model (`convolve_modn_ntt_spec`).
-/
import Ymq.Lemmas.KroneckerModel
import Ymq.Lemmas.KroneckerFft
import Ymq.Lemmas.FIntFft
import Ymq.Lemmas.FIntRoot
import Ymq.Lemmas.CrtLemmas
import Ymq.Lemmas.CrtEstimate
import Ymq.Lemmas.CrtColumns
import Ymq.Lemmas.NttRoots
import Ymq.Lemmas.NttPipeline
import Ymq.Lemmas.CrtBound
import Ymq.Lemmas.NttConvolve
import Ymq.Lemmas.PolyDft
import Ymq.Lemmas.PolyZMod
import Ymq.Lemmas.PolyMiddle
import Ymq.Lemmas.PolyTree
import Ymq.Lemmas.PolyRootsEval
import Ymq.Lemmas.PolyBarrett
import Ymq.Lemmas.PolyMont
import Ymq.Lemmas.PolyMontFin

namespace Ymq.C10
open Ymq.PolySpec

section Kronecker
open Ymq.Kronecker Ymq.Gen.Params

/-- **Every arm of the dispatch table of `convolve_modn` meets the preconditions of
`_convolve_modn::<N>`** (`ArmOk`, Ymq/Lemmas/KroneckerDispatch.lean): digits of the packed product
cannot overlap (`size·n² ≤ 2^(64·stride)` for every `n < 2^nbits`), the product does not wrap modulo
`F` (`(2A-1)·stride ≤ N`), the last packed coefficient fits, the transform length `size/A` is within
the precomputed roots (`≤ 256·N`), and the digit slices are admissible for `redc_large` (shorter
than `3·MINT_WORDS` words, between `k` and `k+16` words, value below `n·R²` because `size < 2^64`).
The table is the one translated from the source on every run (`Ymq.Gen.Params`). -/
theorem dispatch_ok (nbits size fsize logpack stride : Nat)
    (h : arith_fft.convolve_dispatch nbits size = some (fsize, logpack, stride))
    (hb : nbits ≤ CONVOLVE_MAX_BITS) :
    ∃ N, CONVOLVE_FSIZE_N.lookup fsize = some N ∧ ArmOk nbits size N logpack stride := by
  unfold arith_fft.convolve_dispatch at h
  simp only [Bool.and_eq_true, decide_eq_true_eq] at h
  have hb' : nbits ≤ 500 := hb
  rcases ite_eq_iff.1 h with ⟨h1, e⟩ | ⟨h1, h⟩
  · cases e
    exact ⟨16, by decide, .of_corner h1.2 h1.1 (Nat.zero_le _) (by decide +kernel)⟩
  rcases ite_eq_iff.1 h with ⟨h2, e⟩ | ⟨h2, h⟩
  · cases e
    exact ⟨16, by decide, .of_corner h2.2 h2.1 (Nat.zero_le _) (by decide +kernel)⟩
  rcases ite_eq_iff.1 h with ⟨h3, e⟩ | ⟨h3, h⟩
  · cases e
    exact ⟨32, by decide, .of_corner h3.2 h3.1 (Nat.zero_le _) (by decide +kernel)⟩
  -- the rows with packing factor 4 and 8 are only reached by `size > 4096`
  have hlo : 4097 ≤ size := by omega
  rcases ite_eq_iff.1 h with ⟨h4, e⟩ | ⟨h4, h⟩
  · cases e
    exact ⟨64, by decide, .of_corner h4.2 h4.1 hlo (by decide +kernel)⟩
  rcases ite_eq_iff.1 h with ⟨h5, e⟩ | ⟨h5, h⟩
  · cases e
    exact ⟨64, by decide, .of_corner h5.2 hb' hlo (by decide +kernel)⟩
  rcases ite_eq_iff.1 h with ⟨h6, e⟩ | ⟨h6, h⟩
  · cases e
    exact ⟨128, by decide, .of_corner h6.2 h6.1 hlo (by decide +kernel)⟩
  rcases ite_eq_iff.1 h with ⟨h7, e⟩ | ⟨h7, h⟩
  · cases e
    exact ⟨128, by decide, .of_corner h7.2 hb' hlo (by decide +kernel)⟩
  rcases ite_eq_iff.1 h with ⟨h8, e⟩ | ⟨h8, h⟩
  · cases e
    exact ⟨256, by decide, .of_corner h8.2 hb' hlo (by decide +kernel)⟩
  cases h

example : arith_fft.convolve_dispatch 150 8192 = some (1024, 1, 5) ∧ (150 : Nat) ≤ CONVOLVE_MAX_BITS := by
  decide

/-- **Packing and unpacking are exact.** Let `B = 2^(64·stride)`, `A = 2^logpack`, coefficients
`< n` with `size·n² ≤ B` and `(2A-1)·stride ≤ N`. Then
(1) the packing loop of `_convolve_modn` (which overwrites 8 words per coefficient) produces
`Σ_j p[a·A+j]·B^j`;
(2) the exact integer cyclic product `wordProd … i` of the packed words is below `2^(64N)` — no wrap
modulo `F = 2^(64N)+1`;
(3) its slice `j` (`&vpq[i].0[stride·j .. stride·(j+1)]`) is exactly `digitSum … i j`, the sum of the
coefficient products `p[a·A+j1]·q[b·A+j2]` over `a + b ≡ i (mod L)`, `j1 + j2 = j` — no overlap. -/
theorem pack_unpack (N L logpack stride n : Nat) (p q : Array Nat)
    (hp : ∀ u, coef p u < n) (hq : ∀ u, coef q u < n) (hL : 0 < L)
    (hdig : L * 2 ^ logpack * (n * n) ≤ W ^ stride) (hfit : (2 * 2 ^ logpack - 1) * stride ≤ N)
    (i j : Nat) (hj : j < 2 * 2 ^ logpack - 1) :
    (∀ a, packWord stride (2 ^ logpack) p a = packVal (2 ^ logpack) (W ^ stride) (coef p) a) ∧
    wordProd (2 ^ logpack) (W ^ stride) L (coef p) (coef q) i < W ^ N ∧
    digit N stride (wordProd (2 ^ logpack) (W ^ stride) L (coef p) (coef q) i) j =
      some (digitSum (2 ^ logpack) L (coef p) (coef q) i j) := by
  have hsz : 0 < L * 2 ^ logpack := Nat.mul_pos hL (Nat.pow_pos (by decide))
  obtain ⟨_, hlt, hd⟩ := digits_exact N L _ stride n _ _ hp hq hsz hdig hfit i
  refine ⟨fun a => packWord_eq stride _ p a fun u => lt_of_lt_of_le (hp u) ?_, hlt, hd j hj⟩
  have h1 : 1 * (n * n) ≤ L * 2 ^ logpack * (n * n) := Nat.mul_le_mul_right _ hsz
  have h2 : n ≤ n * n := Nat.le_mul_self n
  omega

/-- non-vacuity of `pack_unpack`: `N = 16`, `A = 2`, `stride = 5`, `n = 7`, one transform word -/
example : (∀ a, packWord 5 (2 ^ 1) #[1, 6] a = packVal (2 ^ 1) (W ^ 5) (coef #[1, 6]) a) ∧
    wordProd (2 ^ 1) (W ^ 5) 1 (coef #[1, 6]) (coef #[3, 2]) 0 < W ^ 16 ∧
    digit 16 5 (wordProd (2 ^ 1) (W ^ 5) 1 (coef #[1, 6]) (coef #[3, 2]) 0) 1 =
      some (digitSum (2 ^ 1) 1 (coef #[1, 6]) (coef #[3, 2]) 0 1) := by
  apply pack_unpack 16 1 1 5 7 #[1, 6] #[3, 2] ?_ ?_ (by decide) (by decide) (by decide) 0 1 (by decide)
  · intro u
    rcases u with _ | _ | u
    · decide
    · decide
    · rw [coef_ge _ _ (by simp)]; decide
  · intro u
    rcases u with _ | _ | u
    · decide
    · decide
    · rw [coef_ge _ _ (by simp)]; decide

/-- the exact cyclic product used by the driver satisfies the hypothesis `ExactCyc` of
`kronecker_cyclic` (non-vacuity of that hypothesis) -/
theorem cycExact_exact (N : Nat) : ExactCyc N (cycExact N) := by
  intro x y hxy hpos hle ⟨m, hm⟩ _ _
  unfold cycExact
  have h1 : ¬ (x.size ≠ y.size) := by omega
  have h2 : ¬ (x.size = 0 ∨ x.size ≠ 2 ^ x.size.log2) := by
    rw [hm, Nat.log2_two_pow]
    have : 0 < 2 ^ m := Nat.pow_pos (by decide)
    omega
  have h3 : ¬ (x.size > 256 * N) := by omega
  simp only [h1, h2, h3, if_false]
  refine ⟨_, rfl, by simp, ?_⟩
  intro i hi
  rw [coef_ofFn _ i hi]

theorem exists_ite_some {α : Type} {c : Prop} [Decidable c] (a : α) {e : Option α}
    (h : ∃ x, e = some x) : ∃ x, (if c then some a else e) = some x := by
  by_cases hc : c
  · exact ⟨a, if_pos hc⟩
  · rw [if_neg hc]; exact h

/-- **`convolve_modn` is the cyclic convolution.** For every modulus `n` of `1 ≤ nbits ≤ 500` bits
(`k = ⌈nbits/64⌉` words), every power-of-two `size ≤ 524288` (every arm of the dispatch table),
every operand length `0 < |p| ≤ size`, `|q| ≤ size`, coefficients `< n`, and every output window
`offset + reslen ≤ size`: if the Fermat transform product `cyc N` is the exact cyclic product of the
word vectors (below `2^(64N)`) modulo `2^(64N)+1` for the word counts `N = 2^a ≤ 256` of the table
(hypothesis `ExactCyc`; discharged for the word-level `mulfft` in `kronecker_cyclic_fft`), then the model of `convolve_modn` (after the fix) does not reach a
panic site and returns `res[t] = (Σ_{a+b ≡ offset+t (mod size)} p[a]·q[b]) · R⁻¹ mod n`, i.e. the
Montgomery form of the schoolbook cyclic convolution coefficient `offset + t`. -/
theorem kronecker_cyclic (cyc : Nat → Array Nat → Array Nat → Option (Array Nat))
    (n k rinv nbits size : Nat) (p q : Array Nat) (reslen offset : Nat)
    (hn : 0 < n) (hnb : n < 2 ^ nbits) (hb1 : 0 < nbits) (hb : nbits ≤ 500)
    (hk : k = (nbits + 63) / 64)
    (hp : ∀ u, coef p u < n) (hq : ∀ u, coef q u < n)
    (hps : 0 < p.size) (hps2 : p.size ≤ size) (hqs : q.size ≤ size)
    (hsize : ∃ m, size = 2 ^ m) (h2 : 2 ≤ size) (hmax : size ≤ 524288)
    (hwin : offset + reslen ≤ size)
    (hcyc : ∀ N, (∃ a, N = 2 ^ a) → N ≤ 256 → ExactCyc N (cyc N)) :
    ∃ res, Kronecker.convolve true cyc n k rinv nbits size p q reslen offset = some res ∧ res.size = reslen ∧
      ∀ t < reslen, coef res t = cycCoef size (coef p) (coef q) (offset + t) * rinv % n := by
  -- the table accepts (nbits, size)
  have hdisp : ∃ arm, arith_fft.convolve_dispatch nbits size = some arm := by
    unfold arith_fft.convolve_dispatch
    iterate 7 apply exists_ite_some
    -- the last row admits every `nbits ≤ 512`, `size ≤ 524288`
    exact ⟨_, if_pos (by
      simp only [Bool.and_eq_true, decide_eq_true_eq]
      exact ⟨le_trans hb (by decide), hmax⟩)⟩
  obtain ⟨⟨fsize, logpack, stride⟩, harm⟩ := hdisp
  obtain ⟨N, hN, ok⟩ := dispatch_ok nbits size fsize logpack stride harm hb
  obtain ⟨hNpow, hN256⟩ := fsize_table_ok fsize N hN
  unfold Kronecker.convolve
  rw [harm]
  simp only
  rw [if_neg (by simp only [CONVOLVE_MAX_BITS]; omega), hN]
  simp only
  obtain ⟨m, hm⟩ := hsize
  have hk1 : 1 ≤ k := by omega
  have hWk : W ≤ W ^ k := by
    calc W = W ^ 1 := (pow_one W).symm
      _ ≤ W ^ k := Nat.pow_le_pow_right (by decide) hk1
  have hnk : n ≤ W ^ k := by
    have : 2 ^ nbits ≤ W ^ k := by
      have hW : W = 2 ^ 64 := by decide
      rw [hW, ← pow_mul]
      exact Nat.pow_le_pow_right (by decide) (by omega)
    omega
  have hsmall : size * n ≤ W ^ k * W ^ k :=
    Nat.mul_le_mul (le_trans (le_of_lt ok.small) hWk) hnk
  have hnn : n * n ≤ 2 ^ (2 * nbits) := by
    have : 2 ^ (2 * nbits) = 2 ^ nbits * 2 ^ nbits := by rw [← pow_add]; congr 1; omega
    rw [this]
    exact Nat.mul_le_mul (le_of_lt hnb) (le_of_lt hnb)
  have hdig : size * (n * n) ≤ W ^ (if stride = 0 then 16 else stride) :=
    le_trans (Nat.mul_le_mul_left _ hnn) ok.digit
  obtain ⟨s1, s2, s3⟩ := ok.slice
  by_cases hst : stride = 0
  · subst hst
    obtain ⟨hl0, hN16⟩ := ok.unpacked rfl
    simp only [if_true] at hdig s1 s2 s3
    have hroots := ok.roots
    rw [hl0, pow_zero, Nat.div_one] at hroots
    exact convolveModn_unpacked (cyc N) n k rinv N size logpack p q reslen offset hn hp hq hps hps2 hqs
      (by omega) (by omega) ⟨m, hm⟩ hroots hdig (by omega) hsmall hwin (hcyc N hNpow hN256)
  · simp only [if_neg hst] at hdig s1 s2 s3
    have hAle := ok.pack h2
    have hlm : logpack ≤ m := by
      rw [hm] at hAle
      exact (Nat.pow_le_pow_iff_right (by decide)).1 hAle
    have hdvd : 2 ^ logpack ∣ size := by rw [hm]; exact pow_dvd_pow 2 hlm
    have hApos : 0 < 2 ^ logpack := Nat.pow_pos (by decide)
    obtain ⟨res, h1, h2', h3⟩ := convolveModn_packed (cyc N) n k rinv N size logpack stride p q reslen offset
      hn hp hq hps hps2 hqs hst (Nat.div_pos hAle hApos) (Nat.div_mul_cancel hdvd).symm
      ⟨m - logpack, by rw [hm, Nat.pow_div hlm (by decide)]⟩ ok.roots hdig ok.fit ok.copy
      (by simp only [MINT_WORDS] at s1; omega) (by omega) (by omega) hsmall (hcyc N hNpow hN256)
    exact ⟨res, h1, h2', fun t ht => h3 t ht (by omega)⟩

/-- non-vacuity: all hypotheses of `kronecker_cyclic` are met by `n = 7` (3 bits, `R⁻¹ = 4`),
`size = 8`, with the driver's exact cyclic product. -/
example : ∃ res, Kronecker.convolve true cycExact 7 1 4 3 8 #[1, 2, 3] #[4, 5] 8 0 = some res ∧ res.size = 8 ∧
    ∀ t < 8, coef res t = cycCoef 8 (coef #[1, 2, 3]) (coef #[4, 5]) (0 + t) * 4 % 7 := by
  apply kronecker_cyclic cycExact 7 1 4 3 8 #[1, 2, 3] #[4, 5] 8 0 (by decide) (by decide) (by decide)
    (by decide) (by decide) ?_ ?_ (by decide) (by decide) (by decide) ⟨3, by decide⟩ (by decide)
    (by decide) (by decide) (fun N _ _ => cycExact_exact N)
  · intro u
    rcases u with _ | _ | _ | u
    · decide
    · decide
    · decide
    · rw [coef_ge _ _ (by simp)]; decide
  · intro u
    rcases u with _ | _ | u
    · decide
    · decide
    · rw [coef_ge _ _ (by simp)]; decide

/-- **The word-level `mulfft` is an exact cyclic product**: `ExactCyc N (cycFft N)` for every word
count `N = 2^a ≤ 256` (every `N` of the dispatch table: `fsize_table_ok`). `cycFft` turns the packed
words into `FInt<N>` with top word 0 as `_convolve_modn` does, runs the word-level model of `mulfft`
(recursive `fft` forward on both operands, `FInt::mul` pointwise, `fft` inverse) and reads the
values back: for `2^m ≤ 256N` words below `2^(64N)` no panic site is reached (twiddle exponents within
`u32`, shifts within range, all `debug_assert!(is_reduced)`) and entry `i` is
`(Σ_{a+b ≡ i (mod 2^m)} x_a·y_b) mod (2^(64N)+1)` in canonical form.
Built on `fft_spec`/`mulfft_spec` below, i.e. on `dft_conv` instantiated in `ℤ/(2^(64N)+1)` with the
root `√2^(256N/2^m)` (`root_half`), and on `fint_mul_karatsuba` for the products inside `FInt::mul`. -/
theorem mulfft_exact (N a : Nat) (hNa : N = 2 ^ a) (hN : N ≤ 256) : ExactCyc N (cycFft N) :=
  cycFft_exact N a hNa hN

/-- **`convolve_modn` over the word-level transform is the cyclic convolution**: `kronecker_cyclic`
with `cyc = cycFft` and no hypothesis on the transform. For every modulus of `1..500` bits, every
power-of-two `size ≤ 524288`, operands of any admissible lengths with coefficients `< n` and every
output window, the composed model (dispatch table, packing, word-level `mulfft`, digit extraction,
`redc_large`, scatter with wrap-around) reaches no panic site and returns the Montgomery form of
the schoolbook cyclic convolution. -/
theorem kronecker_cyclic_fft (n k rinv nbits size : Nat) (p q : Array Nat) (reslen offset : Nat)
    (hn : 0 < n) (hnb : n < 2 ^ nbits) (hb1 : 0 < nbits) (hb : nbits ≤ 500)
    (hk : k = (nbits + 63) / 64)
    (hp : ∀ u, coef p u < n) (hq : ∀ u, coef q u < n)
    (hps : 0 < p.size) (hps2 : p.size ≤ size) (hqs : q.size ≤ size)
    (hsize : ∃ m, size = 2 ^ m) (h2 : 2 ≤ size) (hmax : size ≤ 524288)
    (hwin : offset + reslen ≤ size) :
    ∃ res, Kronecker.convolve true cycFft n k rinv nbits size p q reslen offset = some res ∧ res.size = reslen ∧
      ∀ t < reslen, coef res t = cycCoef size (coef p) (coef q) (offset + t) * rinv % n :=
  kronecker_cyclic cycFft n k rinv nbits size p q reslen offset hn hnb hb1 hb hk hp hq hps hps2 hqs hsize h2 hmax
    hwin (fun N ⟨a, ha⟩ hN => cycFft_exact N a ha hN)

/-- non-vacuity: the same instance (`n = 7`, `size = 8`) through the word-level transform -/
example : ∃ res, Kronecker.convolve true cycFft 7 1 4 3 8 #[1, 2, 3] #[4, 5] 8 0 = some res ∧ res.size = 8 ∧
    ∀ t < 8, coef res t = cycCoef 8 (coef #[1, 2, 3]) (coef #[4, 5]) (0 + t) * 4 % 7 := by
  apply kronecker_cyclic_fft 7 1 4 3 8 #[1, 2, 3] #[4, 5] 8 0 (by decide) (by decide) (by decide)
    (by decide) (by decide) ?_ ?_ (by decide) (by decide) (by decide) ⟨3, by decide⟩ (by decide)
    (by decide) (by decide)
  · intro u
    rcases u with _ | _ | _ | u
    · decide
    · decide
    · decide
    · rw [coef_ge _ _ (by simp)]; decide
  · intro u
    rcases u with _ | _ | u
    · decide
    · decide
    · rw [coef_ge _ _ (by simp)]; decide

/-- an exact cyclic product for transform length 1 (`L = 1`: the product of the two words modulo `F`) -/
def cyc1 (N : Nat) (x y : Array Nat) : Option (Array Nat) :=
  some #[coef x 0 * coef y 0 % (W ^ N + 1)]

/-- **Counter-witness for the index formula of the pinned tree (defect F11).** `n = 7`, `R⁻¹ = 4`,
`N = 16`, `A = 2`, `stride = 5`, `size = 2`, `p = q = 1 + X` (Montgomery residues 1): the cyclic square
is `2 + 2X`, i.e. `res = [2·4 mod 7, 2·4 mod 7] = [1, 1]`. With `idx = i·A + j` (no `% size`) the
digit `j = 2` of the only FFT word — the coefficient of `X^2 = X^size` — falls outside the window and is
dropped: the old formula returns `[4, 1]`; with `idx = (i·A + j) % size` the model returns `[1, 1]`.
Replayed on the implementation: `pf_convolve 7 2 0 2 1,1 1,1` answered `1,2` (plain integers) before
the fix and `2,2` after. -/
theorem kronecker_old_index_drops_wrap :
    convolveModn false (cyc1 16) 7 1 4 16 2 1 5 #[1, 1] #[1, 1] 2 0 = some #[4, 1] ∧
    convolveModn true (cyc1 16) 7 1 4 16 2 1 5 #[1, 1] #[1, 1] 2 0 = some #[1, 1] ∧
    (cycCoef 2 (coef #[1, 1]) (coef #[1, 1]) 0 * 4 % 7 = 1 ∧
     cycCoef 2 (coef #[1, 1]) (coef #[1, 1]) 1 * 4 % 7 = 1) := by
  decide +kernel

end Kronecker

section FIntSpecs
open Ymq.FInt Ymq.Limbs

/-- `FInt::reduce`: for ANY top word the routine returns the normal form of the same residue
modulo `F = 2^(64N)+1` (all three branches: `z[0] ≥ top`, borrow chain, borrow out + add back). -/
theorem reduce_spec {N : Nat} (x : FI) (hN : 0 < N) (hx : WfN N x) (ht : x.top < W) :
    ∃ r, reduce x = some r ∧ WfN N r ∧ Norm r ∧ r.value ≡ x.value [MOD Fmod N] :=
  reduce_spec' x hN hx ht

example : reduce ⟨[1, 0], 3⟩ = some ⟨[W - 1, W - 1], 0⟩ ∧ WfN 2 ⟨[1, 0], 3⟩ := by
  refine ⟨by decide, by decide, ?_⟩
  intro a ha; simp at ha; rcases ha with rfl | rfl <;> decide

/-- `FInt::add_assign` (any small top words, operands need not be normalised): normal form of the sum. -/
theorem add_assign_spec {N : Nat} (x y : FI) (hN : 0 < N) (hx : WfN N x) (hy : WfN N y)
    (ht : x.top + y.top + 1 < W) :
    ∃ r, addAssign x y = some r ∧ WfN N r ∧ Norm r ∧ r.value ≡ x.value + y.value [MOD Fmod N] :=
  addAssign_spec' x y hN hx hy ht

/-- `FInt::add_small`: the exact value `self + x` (the result is NOT normalised, as documented). -/
theorem add_small_spec {N : Nat} (a : FI) (x : Nat) (hN : 0 < N) (ha : WfN N a) (hx : x < W)
    (ht : a.top + 1 < W) :
    ∃ r, addSmall a x = some r ∧ WfN N r ∧ r.value = a.value + x ∧ r.top ≤ a.top + 1 :=
  addSmall_spec' a x hN ha hx ht

/-- `FInt::sub_assign` with a normalised subtrahend: normal form of the difference
(`r + y ≡ x`), including the case `y = 2^(64N) ≡ -1`. -/
theorem sub_assign_spec {N : Nat} (x y : FI) (hN : 0 < N) (hx : WfN N x) (hy : WfN N y)
    (hny : Norm y) (ht : x.top + 2 < W) :
    ∃ r, subAssign x y = some r ∧ WfN N r ∧ Norm r ∧ r.value + y.value ≡ x.value [MOD Fmod N] :=
  subAssign_spec' x y hN hx hy hny ht

/-- `butterfly(x, y)`: on normal forms both branches (the `add/sub` fallback when a top word is set
and the fused carry loop) return the normal forms of `x + y` and `x - y`. -/
theorem butterfly_spec {N : Nat} (x y : FI) (hN : 0 < N) (hx : WfN N x) (hy : WfN N y)
    (hnx : Norm x) (hny : Norm y) :
    ∃ a b, butterfly x y = some (a, b) ∧ WfN N a ∧ WfN N b ∧ Norm a ∧ Norm b ∧
      a.value ≡ x.value + y.value [MOD Fmod N] ∧ b.value + y.value ≡ x.value [MOD Fmod N] :=
  butterfly_spec' x y hN hx hy hnx hny

/-- `FInt::shl(s)` for EVERY shift amount: on a normal form no panic site is reached, the result is
a normal form and the residue is multiplied by `2^s`. Covers the reduction `s % 128N`, the `-1 << s`
case, the four whole-word branches (`sw = 0`, `< N`, `= N`, `> N`) with both "common case without
carries" shortcuts and their carry fallbacks, and the bit-shift loop. -/
theorem shl_spec {N : Nat} (x : FI) (s : Nat) (hN : 0 < N) (hx : WfN N x) (hn : Norm x) :
    ∃ r, shl x s = some r ∧ WfN N r ∧ Norm r ∧ r.value ≡ x.value * 2 ^ s [MOD Fmod N] :=
  shl_spec' x s hN hx hn

/-- `FInt::shr(s)`, `s ≤ 128N`: division by `2^s` (`r·2^s ≡ x`). -/
theorem shr_spec {N : Nat} (x : FI) (s : Nat) (hN : 0 < N) (hx : WfN N x) (hn : Norm x)
    (hs : s ≤ 128 * N) :
    ∃ r, shr x s = some r ∧ WfN N r ∧ Norm r ∧ r.value * 2 ^ s ≡ x.value [MOD Fmod N] :=
  shr_spec' x s hN hx hn hs

example : WfN 2 ⟨[5, 7], 0⟩ ∧ Norm ⟨[5, 7], 0⟩ ∧ shl ⟨[5, 7], 0⟩ 64 = some ⟨[W - 7, 4], 0⟩ := by
  refine ⟨⟨by decide, ?_⟩, Or.inl rfl, by decide⟩
  intro a ha; simp at ha; rcases ha with rfl | rfl <;> decide

/-- `√2`: `(2^(48N) - 2^(16N))² ≡ 2 (mod 2^(64N) + 1)` for every `N`. -/
theorem sqrt2_sq (N : Nat) : sqrt2 N * sqrt2 N ≡ 2 [MOD Fmod N] := sqrt2_sq' N

/-- `FInt::twiddle(i, k)` multiplies by `ω^i` with `ω = √2^(256N/2^k)`, a `2^k`-th root of unity,
with the code's exponent formula `shift = (128·i·N) >> k` and its half-shift rule
(`i` odd and `2^k = 256N`): valid whenever `2^k` divides `128N` (pure shifts) or equals `256N`
(`mulfft` asserts `l ≤ 256N`; `N` is a power of two in every instantiation). No u32 overflow for
`128·i·N < 2^32`. -/
theorem twiddle_spec {N : Nat} (x : FI) (i k : Nat) (hN : 0 < N) (hx : WfN N x) (hn : Norm x)
    (hk : k < 32) (hi : 128 * i * N < 2 ^ 32) (hdiv : 2 ^ k ∣ 128 * N ∨ 2 ^ k = 256 * N) :
    ∃ r, twiddle x i k = some r ∧ WfN N r ∧ Norm r ∧
      r.value ≡ x.value * root N k ^ i [MOD Fmod N] :=
  twiddle_spec' x i k hN hx hn hk hi hdiv

/-- the root used at full length is a square root of 2, hence `ω^(2^k) = √2^(256N) ≡ 1`:
`root N k` is a `2^k`-th root of unity whenever `2^k` divides `256N`. -/
theorem root_pow (N k : Nat) (hdvd : 2 ^ k ∣ 256 * N) : root N k ^ 2 ^ k ≡ 1 [MOD Fmod N] :=
  root_pow' N k hdvd

example : (2 : Nat) ^ 12 = 256 * 16 ∧ 128 * 4095 * 16 < 2 ^ 32 := by decide

/-- the twiddle root is PRINCIPAL: `ω^(2^(k-1)) ≡ -1 (mod F)` for `k ≥ 1`, `2^k ∣ 256N` — the
hypothesis of `dft_conv` for the Fermat transform. -/
theorem root_half (N k : Nat) (hk : 0 < k) (hdvd : 2 ^ k ∣ 256 * N) :
    root N k ^ 2 ^ (k - 1) + 1 ≡ 0 [MOD Fmod N] :=
  root_half' N k hk hdvd

/-- **The Karatsuba routine inside `FInt::mul` is the exact product of the word vectors** (`kmul`:
`z.fill(0)`, `mulbasic` for `n ≤ 16` words with its `u128`/`u64` overflow checks, else split at `n/2`,
`plo + phi` and `qlo + qhi` with their carries, the middle product with the carry corrections
(`carryp & carryq`, the two conditional `_add_slices`), the low and high products in `tmp`, the two
`_sub_slices`, `carrymid - (carrylo + carryhi)` and its `debug_assert!`, the two `_add_slices` of the
recombination, the propagation of the carry of the low half added by commit b8c535f,
`debug_assert!(carry2 == 0)`). For word vectors of `n` words each with `kOk f n` (halving stays even
down to `≤ 16` words: every `n ≤ 16` and every power of two, `kOk_pow2`) and `|tmp| ≥ 4n`: no panic
site is reached and the `2n` result words are `val p · val q`. -/
theorem fint_mul_karatsuba (f tl : Nat) (p q : List Nat) (hk : kOk f p.length = true)
    (hl : q.length = p.length) (ht : 4 * p.length ≤ tl) (wp : Wf p) (wq : Wf q) :
    ∃ z, kmul f tl p q = some z ∧ z.length = 2 * p.length ∧ Wf z ∧ val z = val p * val q :=
  kmul_spec f tl p q hk hl ht wp wq

example : kmul 2 8 [W - 1, W - 1] [W - 1, W - 1] = some [1, 0, W - 2, W - 1] := by decide

/-- **`FInt::mul` multiplies residues** (both `top = 1` shortcuts and the general branch: the word-level
Karatsuba product `kmul`, then `FInt(z[0], 0).sub(&FInt(z[1], 0))`): on normal forms, for `N` in the
Karatsuba domain, no panic site is reached, the result is a normal form and its residue is the
product. `vz N x` is the residue of `x` in `ZMod (2^(64N)+1)`. -/
theorem mul_spec {N : Nat} (x y : FI) (hN : 0 < N) (hk : kOk KFUEL N = true) (hx : WfN N x) (hy : WfN N y)
    (hnx : Norm x) (hny : Norm y) :
    ∃ r, mul x y = some r ∧ WfN N r ∧ Norm r ∧ vz N r = vz N x * vz N y :=
  mul_spec' x y hN hk hx hy hnx hny

example : mul ⟨[W - 1], 0⟩ ⟨[W - 1], 0⟩ = some ⟨[4], 0⟩ := by decide

/-- **The word-level recursive `fft` is the radix-2 recursion of `dft_conv`** (`Ymq.Dft.fftRec`) in
`ℤ/(2^(64N)+1)`: for `2^k` entries in normal form, `k < 32`, twiddle exponents within `u32`
(`128·2^k·N < 2^32`), `2^k ∣ 128N` or `2^k = 256N`, and `depth + k ≤ 128N`, the model (strided even/odd
recursion, `twiddle(idx, k)` resp. `twiddle(2^k - idx, k)`, `butterfly`, the length-1 and length-2
base cases, `shr(depth + …)` in the inverse direction) reaches no panic site, returns normal forms,
and entry `j` times `2^(depth+k)` (inverse direction; `1` forward) is `fftRec k ω (residues of xs) j`
with `ω = √2^(256N/2^k)` forward and `ω⁻¹ = ω^(2^k-1)` inverse (`rt N k fwd`). -/
theorem fft_spec {N : Nat} (hN : 0 < N) (d : FI) (fwd : Bool) (k : Nat) (xs : List FI) (depth : Nat)
    (hlen : xs.length = 2 ^ k) (hg : Good N xs) (hk : k < 32) (hb : 128 * 2 ^ k * N < 2 ^ 32)
    (hdiv : 2 ^ k ∣ 128 * N ∨ 2 ^ k = 256 * N) (hdep : depth + k ≤ 128 * N) :
    ∃ ys, fft k xs depth fwd = some ys ∧ ys.length = 2 ^ k ∧ Good N ys ∧
      ∀ j, j < 2 ^ k →
        vz N (ys.getD j d) * (if fwd then 1 else 2 ^ (depth + k)) =
          Ymq.Dft.fftRec k (rt N k fwd) (fun i => vz N (xs.getD i d)) j :=
  Ymq.FInt.fft_spec hN d fwd k xs depth hlen hg hk hb hdiv hdep

/-- **`mulfft` is the cyclic convolution modulo `2^(64N)+1`** (`dft_conv` instantiated by the
word-level model): forward `fft` of both operands, `FInt::mul` pointwise, inverse `fft`; for `2^k`
entries in normal form (`Good`), `N` in the Karatsuba domain, `k < 32`, `128·2^k·N < 2^32`, `2^k ∣ 128N` or
`2^k = 256N`: no panic
site, normal forms, and entry `m` has residue `Σ_a p1[a]·p2[(m - a) mod 2^k]`. -/
theorem mulfft_spec {N : Nat} (hN : 0 < N) (hkk : kOk KFUEL N = true) (d : FI) (k : Nat) (p1 p2 : List FI)
    (h1 : p1.length = 2 ^ k) (h2 : p2.length = 2 ^ k) (g1 : Good N p1) (g2 : Good N p2)
    (hk : k < 32) (hb : 128 * 2 ^ k * N < 2 ^ 32) (hdiv : 2 ^ k ∣ 128 * N ∨ 2 ^ k = 256 * N) :
    ∃ out, mulfft N p1 p2 = some out ∧ out.length = 2 ^ k ∧ Good N out ∧
      ∀ m, m < 2 ^ k → vz N (out.getD m d) =
        Ymq.Dft.cyc (2 ^ k) (fun i => vz N (p1.getD i d)) (fun i => vz N (p2.getD i d)) m :=
  Ymq.FInt.mulfft_spec hN hkk d k p1 p2 h1 h2 g1 g2 hk hb hdiv

/-- `N = 1`, length 2: `(3 + 5X)(7 + 11X) mod (X² - 1) = 76 + 68X` -/
example : mulfft 1 [⟨[3], 0⟩, ⟨[5], 0⟩] [⟨[7], 0⟩, ⟨[11], 0⟩] = some [⟨[76], 0⟩, ⟨[68], 0⟩] := by decide

end FIntSpecs

section CrtSpecs
open Finset

/-- **CRT reconstruction is unique**: for pairwise coprime `p_i` (`P = ∏ p_i`), `0 ≤ V < P` and
`xs_i < p_i` with `V ≡ xs_i·(P/p_i) (mod p_i)` (i.e. `xs_i = x_i·(P/p_i)⁻¹ mod p_i` for the residues
`x_i` of `V`, as computed by `_crt`), there is exactly one `q` with
`V = Σ xs_i·(P/p_i) - q·P`, and `q < w` (so the table `pprods_modn` of `w` multiples suffices). -/
theorem crt_unique (ps : List Nat) (hw : 0 < ps.length) (hco : ps.Pairwise Nat.Coprime)
    (hpos : ∀ p ∈ ps, 0 < p) (xs : Fin ps.length → Nat) (hxs : ∀ i, xs i < ps.get i) (V : Nat)
    (hV : V < ps.prod) (hc : ∀ i, V ≡ xs i * (ps.prod / ps.get i) [MOD ps.get i]) :
    ∃! q, q < ps.length ∧ V + q * ps.prod = ∑ i, xs i * (ps.prod / ps.get i) :=
  Ymq.Crt.crt_unique' ps hw hco hpos xs hxs V hV hc

/-- non-vacuity: `p = (3, 5)`, `V = 7`, `xs = (2, 4)`: `2·5 + 4·3 = 22 = 7 + 1·15` -/
example : ∃! q, q < [3, 5].length ∧
    7 + q * [3, 5].prod = ∑ i : Fin [3, 5].length, (if i.val = 0 then 2 else 4) * ([3, 5].prod / [3, 5].get i) :=
  crt_unique [3, 5] (by decide) (by decide) (by decide) (fun i => if i.val = 0 then 2 else 4) (by decide) 7
    (by decide) (by decide)

/-- **Value assembled by `_crt`**: with the right quotient `q`, `T = pprods_modn[q] + Σ xs_j·crt_p_modn[j]`
is congruent to the reconstructed integer `V` modulo `n` (`crt_p_modn[j] ≡ P/p_j`,
`pprods_modn[q] ≡ -q·P`). -/
theorem crt_value {w : Nat} (n P q V : Nat) (xs cp c : Fin w → Nat) (qp : Nat)
    (hrec : V + q * P = ∑ i, xs i * cp i) (hcn : ∀ i, c i ≡ cp i [MOD n])
    (hqp : qp + q * P ≡ 0 [MOD n]) :
    qp + ∑ i, xs i * c i ≡ V [MOD n] :=
  Ymq.Crt.crt_value' n P q V xs cp c qp hrec hcn hqp

/-- **Quotient estimate of `_crt`, error analysis.** `S = Σ xs_i·c_i = q·P + V`
with `V < P/2`; the code keeps of each `c_i = P/p_i` the part above a scale `M`, rounds up, sums
`top = Σ xs_i·(c_i/M + 1)` in 128 bits and returns `(top >> 64) / hi` where `hi = ⌊P/(2^64·M)⌋`.
If `Σ xs_i ≤ 2^64` and `2q + 3 ≤ hi`, the estimate is exactly `q`. The three branches of the code are
the instances `M = W^(plen-2)` (`hi ≥ 2^8`), `M = 2^32·W^(plen-2)` (`hi ≥ 2^24`) and
`M = 2^32·W^(plen-3)` (`hi ≥ 2^32`), with `q < w ≤ 26`.
This is the arithmetic core (hence `_partial`); `crt_q_estimate` below ties it to the words read by the
model `Ymq.Crt.qEstimate` and to the tables of `MultiZmodP::new`; `V < P/2` for the values `_crt` is called
on follows from `w = (2·bits + logsize)/58 + 1` (`crt_call_bound`). -/
theorem crt_q_estimate_partial {w : Nat} (P q V M hi Wd : Nat) (xs c : Fin w → Nat)
    (hM : 0 < M) (hWd : 0 < Wd) (hhi : 0 < hi)
    (hS : V + q * P = ∑ i, xs i * c i) (hV : 2 * V < P)
    (hlo : hi * Wd * M ≤ P) (hup : P < (hi + 1) * Wd * M)
    (hxs : ∑ i, xs i ≤ Wd) (hq : 2 * q + 3 ≤ hi) :
    (∑ i, xs i * (c i / M + 1)) / Wd / hi = q :=
  Ymq.Crt.q_estimate' P q V M hi Wd xs c hM hWd hhi hS hV hlo hup hxs hq

/-- non-vacuity: `P = 101·103`, `V = 1000`, `xs = (96, 15)`, `c = (103, 101)`, `q = 1`; scale `M = 2`,
`Wd = 128`, `hi = 40`: `(96·52 + 15·51)/128/40 = 1` -/
example : (∑ i : Fin 2, (if i.val = 0 then 96 else 15) * ((if i.val = 0 then 103 else 101) / 2 + 1)) / 128 / 40 = 1 :=
  crt_q_estimate_partial (w := 2) 10403 1 1000 2 40 128 (fun i => if i.val = 0 then 96 else 15)
    (fun i => if i.val = 0 then 103 else 101) (by decide) (by decide) (by decide) (by decide) (by decide)
    (by decide) (by decide) (by decide) (by decide)

/-- **The quotient estimate of `_crt`, as the model reads the tables, is the CRT quotient.** For the
context `m` built by the model of `MultiZmodP::new(zn, logsize)` from the translated prime table (any
modulus and size it accepts, `w ≥ 2` primes; `w = 1` does not use the estimate), residues `xs_i < 2^59`,
and `Σ xs_i·(P/p_i) = V + q·P` with `2V < P`, `q ≤ 25` (`crt_unique`: `q < w ≤ 26`): the model
`Ymq.Crt.qEstimate` — branch selection on the top word of `P`, the reads
`crt[plen-1] << 32 | crt[plen-2] >> 32` (no bits are lost by the shift), `crt[plen-2]`,
`crt[plen-2] << 32 | crt[plen-3] >> 32`, the `u128` sums (no overflow), the divisor
(`ptop >> 96`, `hi`, `ptop >> 32`, never zero) — reaches no panic site and returns exactly `q`.
This ties `crt_q_estimate_partial` to the words the model reads (`qEstimate_spec`) and to the actual
tables (`new_estOk`: `P` has exactly `plen` words, `crt_p[i]·p_i = P`, `p_i > 2^58`, three words when the
top word is below `2^8`; decided on the table for every `w ≤ 26`). -/
theorem crt_q_estimate (n logsize : Nat) (m : Ymq.Crt.Mzp) (hm : Ymq.Crt.new n logsize = some m)
    (hw2 : 2 ≤ m.w) (xs : List Nat) (hxs : ∀ i, i < m.w → xs.getD i 0 < 2 ^ 59) (q V : Nat)
    (hS : V + q * m.pprod = ∑ i ∈ range m.w, xs.getD i 0 * m.crtP.getD i 0)
    (hV : 2 * V < m.pprod) (hq : q ≤ 25) : Ymq.Crt.qEstimate m xs = some q :=
  Ymq.Crt.qEstimate_spec m (Ymq.Crt.new_estOk n logsize m hm hw2) xs hxs q V hS hV hq

/-- **`MultiZmodP::_crt` (model `Ymq.Crt.crt`), `w ≥ 2` primes**: for the context built by the model of
`MultiZmodP::new(zn, logsize)` (`n > 0`) and residues `x_j < p_j`, no panic site is reached — every
`mg_mul64` (C07 `mgMul_spec`; the primes of the translated table are `< 2^59` with Montgomery constant
`p - 2`), the quotient estimate (`crt_q_estimate`), the index `pprods_modn[q]`, the `u128` column sums
(never `≥ 2^128`), `assert!(carry == 0)` — the scaled residues `xs_j < p_j`,
`xs_j·2^64 ≡ x_j·crt_pinv[j] (mod p_j)` exist, and whenever `Σ xs_j·(P/p_j) = V + q·P` with `2V < P`,
`q < w` (`crt_unique`), the `kw + 1` words written to `res` are exactly
`pprods_modn[q] + Σ_j xs_j·crt_p_modn[j]` (`crt_value`: congruent to `V` modulo `n`, given
`pprods_modn[q] ≡ -q·P`, which is `pprods_modn_spec`). -/
theorem crt_spec (n logsize : Nat) (m : Ymq.Crt.Mzp) (hm : Ymq.Crt.new n logsize = some m) (hn : 0 < n)
    (hw2 : 2 ≤ m.w) (x : List Nat) (hx : x.length = m.w)
    (hxr : ∀ j, j < m.w → x.getD j 0 < m.primes.getD j 0) :
    ∃ xs : List Nat, xs.length = m.w ∧
      (∀ j, j < m.w → xs.getD j 0 < m.primes.getD j 0 ∧
        xs.getD j 0 * Ymq.Mg64.W % m.primes.getD j 0 = x.getD j 0 * m.crtPinv.getD j 0 % m.primes.getD j 0) ∧
      ∀ q V, V + q * m.pprod = ∑ j ∈ range m.w, xs.getD j 0 * m.crtP.getD j 0 → 2 * V < m.pprod → q < m.w →
        ∃ ws, Ymq.Crt.crt m x = some ws ∧ ws.length = m.kw + 1 ∧
          Ymq.Crt.valWords ws = m.pprodsModn.getD q 0 + ∑ j ∈ range m.w, xs.getD j 0 * m.crtPModn.getD j 0 :=
  Ymq.Crt.crt_spec m (Ymq.Crt.new_crtOk n logsize m hm hn hw2) hw2 x hx hxr

/-- non-vacuity: a 61-bit modulus at `logsize = 3` gets three primes -/
example : (Ymq.Crt.new (2 ^ 61 - 1) 3).map (·.w) = some 3 := by decide +kernel

/-- **The table `NTT_PRIMES`** (translated from the source on every run): the moduli are pairwise
coprime (hypothesis of `crt_unique`), each is `≡ 1 (mod 2^49)` and lies in `(2^58, 2^59)`,
`p·(p-2) ≡ -1 (mod 2^64)` (the constant `p - 2` passed to `mg_mul` by `mg_mul64`), and the listed
element `g` satisfies `g^(2^31) ≡ -1 (mod p)`: it has order exactly `2^32` and `g^(2^(32-k))`, the
root built by `MultiZmodP::new`, is a principal `2^k`-th root of unity (hypothesis of `dft_conv`). -/
theorem ntt_table_ok :
    Ymq.Gen.Params.NTT_PRIME_VALUES.Pairwise Nat.Coprime ∧
    ∀ r ∈ Ymq.Gen.Params.NTT_PRIMES, r.1 % 2 ^ 49 = 1 ∧ 2 ^ 58 < r.1 ∧ r.1 < 2 ^ 59 ∧
      (r.1 * (r.1 - 2) + 1) % 2 ^ 64 = 0 ∧ r.2 ^ 2 ^ 31 % r.1 = r.1 - 1 := by
  refine ⟨Ymq.Crt.primes_coprime, fun r hr => ?_⟩
  obtain ⟨h1, h2, h3, h4, h5⟩ := Ymq.Crt.rows_ok r hr
  exact ⟨h1, h2, h3, h4, by rw [← Ymq.Crt.sqIter_eq]; exact h5⟩

/-- **The root tables of `MultiZmodP::new`** (model `Ymq.Crt.rootsPacked`: `ωs[i] = mg_mul64(g_i^(2^(32-logsize)),
R²)`, the `2^logsize` successive products, the packed levels `roots[log]` = `2^(log-1)` forward then
`2^(log-1)` backward entries, and the `debug_assert!` sanity check `ω^(2^logsize) == 1` at the end of `new`,
PROVED to pass): for every context built by the model of `new` with `logsize ≤ 31` no
panic site is reached and the tables meet `RootsOk`: level `k` holds the Montgomery forms of `ω_k^i` and
`ω_k^(-i)` (`i < 2^(k-1)`), `ω_k = g^(2^(32-k))` (`omk`), with `ω_(k+1)² = ω_k`, `ω_k^(2^(k-1)) = -1`
(principal root: hypothesis of `dft_conv`), `ω_k·ω_k⁻¹ = 1`, for every prime of the context. -/
theorem ntt_roots_spec (n logsize : Nat) (m : Ymq.Crt.Mzp) (hm : Ymq.Crt.new n logsize = some m)
    (hK : m.k ≤ 31) :
    ∃ rts, Ymq.Crt.rootsPacked m = some rts ∧ Ymq.Crt.RootsOk m rts (Ymq.Crt.omk m) :=
  Ymq.Crt.rootsPacked_ok n logsize m hm hK

/-- **`MultiZmodP::ntt_inplace` is the DFT recursion of `dft_conv` per prime** (word-level model
`Ymq.Crt.nttInplace`: `k = 1` butterfly, else the two half transforms, then `muladdsub_inplace` with the
forward or backward half of `roots[k]`; `div_pow2(depth + 1)` at the leaves of the inverse direction;
Montgomery `u64` arithmetic by the C07 models of `mg_mul`/`mg_redc`, every `u64` addition and
subtraction of the butterflies checked). For a context built by the model of `new`, `1 ≤ k ≤ logsize ≤ 31`,
`depth + k ≤ 64` and a vector of `2^k` elements of `w` reduced residues (`VecOk`): no panic site is
reached, every output residue is reduced, and for every prime `j` and index `i`,
`out[i]_j · (1 | 2^(depth+k)) = fftRec k ω (t ↦ v[bitrev k t]_j) i` in `ZMod p_j` — `mfe` reads a residue
out of its Montgomery form, `ω = omk m j k fwd` is `g_j^(2^(32-k))` or its inverse, the input is taken in
bit-reversed order as the code documents. With `dft_conv` (1): `out` is the DFT of the bit-reversed
input. -/
theorem ntt_inplace_spec (n logsize : Nat) (m : Ymq.Crt.Mzp) (hm : Ymq.Crt.new n logsize = some m)
    (hK : m.k ≤ 31) (fwd : Bool) (k : Nat) (v : List (List Nat)) (depth : Nat) (h1 : 1 ≤ k) (hk : k ≤ m.k)
    (hv : Ymq.Crt.VecOk m v (2 ^ k)) (hd : depth + k ≤ 64) :
    ∃ rts, Ymq.Crt.rootsPacked m = some rts ∧
      ∃ out, Ymq.Crt.nttInplace m rts k v depth fwd = some out ∧ Ymq.Crt.VecOk m out (2 ^ k) ∧
        ∀ j, j < m.w → ∀ i, i < 2 ^ k →
          Ymq.Crt.mfe m (out.getD i []) j * (if fwd then 1 else 2 ^ (depth + k)) =
            Ymq.Dft.fftRec k (Ymq.Crt.omk m j k fwd)
              (fun t => Ymq.Crt.mfe m (v.getD (Ymq.Crt.bitrev k t) []) j) i := by
  obtain ⟨rts, e, hr⟩ := Ymq.Crt.rootsPacked_ok n logsize m hm hK
  exact ⟨rts, e, Ymq.Crt.nttInplace_spec m (Ymq.Crt.tabOk_of_new n logsize m hm) rts _ hr fwd k v depth h1 hk hv hd⟩

/-- **The transform pipeline of `convolve_modn_ntt` is the cyclic convolution per prime** (part (3) of `dft_conv`
instantiated by the word-level model): for a context built by the model of `new`, `1 ≤ K ≤ logsize ≤ 31` and
two vectors `f1`, `f2` of `2^K` elements of reduced residues (as `from_mint` leaves them at the
bit-reversed positions), the forward `ntt_inplace` of both, `mzp.mul`, the swap loop
`if i < irev { swap }` and the inverse `ntt_inplace` reach no panic site, every residue stays reduced,
and residue `j` of element `i` of the result is `Σ_a x_a·y_((i - a) mod 2^K)` in `ZMod p_j`
(`Ymq.Dft.cyc`), `x_t = f1[bitrev K t]_j`, `y_t = f2[bitrev K t]_j` read out of their Montgomery forms.
`from_mint` before and `redc` (`crt_spec` + `zn.redc`) after, hence the statement modulo `n`, are added in
`convolve_modn_ntt_spec`. -/
theorem ntt_pipeline_spec (n logsize : Nat) (m : Ymq.Crt.Mzp) (hm : Ymq.Crt.new n logsize = some m)
    (hK : m.k ≤ 31) (K : Nat) (h1 : 1 ≤ K) (hk : K ≤ m.k) (f1 f2 : List (List Nat))
    (hf1 : Ymq.Crt.VecOk m f1 (2 ^ K)) (hf2 : Ymq.Crt.VecOk m f2 (2 ^ K)) :
    ∃ rts g1 g2 h r, Ymq.Crt.rootsPacked m = some rts ∧ Ymq.Crt.nttInplace m rts K f1 0 true = some g1 ∧
      Ymq.Crt.nttInplace m rts K f2 0 true = some g2 ∧ Ymq.Crt.mulV m g1 g2 = some h ∧
      Ymq.Crt.nttInplace m rts K (Ymq.Crt.swapLoop K (2 ^ K) 0 h) 0 false = some r ∧
      Ymq.Crt.VecOk m r (2 ^ K) ∧
      ∀ j, j < m.w → ∀ i, i < 2 ^ K →
        Ymq.Crt.mfe m (r.getD i []) j =
          Ymq.Dft.cyc (2 ^ K) (fun t => Ymq.Crt.mfe m (f1.getD (Ymq.Crt.bitrev K t) []) j)
            (fun t => Ymq.Crt.mfe m (f2.getD (Ymq.Crt.bitrev K t) []) j) i :=
  Ymq.Crt.nttPipeline_spec n logsize m hm hK K h1 hk f1 f2 hf1 hf2

/-- **`V < P/2` at the `_crt` call sites of `convolve_modn_ntt`.** For the context built by the model of
`MultiZmodP::new(zn, logsize)` (`w = (2·bits(n) + logsize)/58 + 1` primes, each above `2^58`: decided on the
translated table) every integer `V ≤ size·n²` with `size ≤ 2^logsize` — in particular every coefficient
`Σ_(a+b ≡ i) x_a·y_b` of the cyclic product of two operands with entries `< n` (`assert!(mzp.k >= logsize)`
in `convolve_modn_ntt`) — satisfies `2V < P`: the hypothesis of `crt_q_estimate` / `crt_spec` holds where
`redc` is called. -/
theorem crt_call_bound (n logsize : Nat) (m : Ymq.Crt.Mzp) (hm : Ymq.Crt.new n logsize = some m)
    (hn : 0 < n) (size V : Nat) (hs : size ≤ 2 ^ logsize) (hV : V ≤ size * (n * n)) :
    2 * V < m.pprod :=
  (Ymq.Crt.crt_call_bound n logsize m hm size V hs hV).resolve_right (by omega)

/-- **`MultiZmodP::from_mint`** (model `Ymq.Crt.fromMint`; the table `rpowers[j][i] = R^(i+1) mod p_j` of `new`
is proved on the way, `rp_full`): for a reduced `MInt` holding `v < n` (`n` of at most 512 bits) no panic
site is reached (`assert!(sz <= 8)`, the `debug_assert!` on the unused words, the `u128` sums, `mg_redc`),
every residue is reduced and residue `j` is the Montgomery form of `v mod p_j`. -/
theorem from_mint_spec (n logsize : Nat) (m : Ymq.Crt.Mzp) (hm : Ymq.Crt.new n logsize = some m) (hn : 0 < n)
    (hbits : Ymq.Checked.bitlen n ≤ 512) (v : Nat) (hv : v < n) :
    ∃ z, Ymq.Crt.fromMint m (Ymq.Limbs.ofNat 8 v) = some z ∧ Ymq.Crt.EltOk m z ∧
      ∀ j, j < m.w → Ymq.Crt.mfe m z j = ((v : Nat) : ZMod (Ymq.Crt.P m j)) :=
  Ymq.Crt.fromMint_spec n logsize m hm hn hbits v hv

/-- **`pprods_modn[q] ≡ -q·P (mod n)`** for the table built by the model of `MultiZmodP::new`
(`pprod_modn`, its zero special case, the `for _ in 2..w` loop with the conditional subtraction). -/
theorem pprods_modn_spec (n logsize : Nat) (m : Ymq.Crt.Mzp) (hm : Ymq.Crt.new n logsize = some m)
    (hn : 0 < n) (q : Nat) (hq : q < m.w) : (m.pprodsModn.getD q 0 + q * m.pprod) % n = 0 :=
  Ymq.Crt.pprods_neg n logsize m hm hn q hq

/-- **`convolve_modn_ntt` is the cyclic convolution modulo `n`, end to end at word level.** For every modulus
`n > 0` of at most 512 bits (the code's `assert!(sz <= 8)`), every context built by the model of
`MultiZmodP::new(zn, logsize)` with `logsize ≤ 31`, every `size = 2^K` with `1 ≤ K ≤ logsize`
(`assert!(mzp.k >= logsize)`), operands `p1`, `p2` of at most `size` residues `< n` (the integers held by the
`MInt`s, i.e. Montgomery forms; given to the model as 8-word vectors), every `reslen`, `offset` and
`rinv`: the word-level model — root tables, `from_mint` of every coefficient written to its bit-reversed
position, two forward `ntt_inplace`, `mul`, the swap loop, inverse `ntt_inplace`, then for every output
`redc` = `_crt` (quotient estimate, column sums, carry assertion) + `zn.redc` — reaches no panic site and
returns `res[t] = (Σ_(a+b ≡ offset+t (mod size)) p1[a]·p2[b])·rinv mod n` for `offset + t < size` and `0` beyond:
with `rinv = R⁻¹ mod n` the Montgomery form of the schoolbook cyclic convolution coefficient, exactly as
`kronecker_cyclic_fft` states for `convolve_modn`. `V < P/2` at the `_crt` calls is proved from the operand
bounds (`crt_call_bound`), the CRT quotient is `crt_unique`, both `w = 1` and `w ≥ 2` are covered. -/
theorem convolve_modn_ntt_spec (n logsize : Nat) (m : Ymq.Crt.Mzp) (hm : Ymq.Crt.new n logsize = some m)
    (hn : 0 < n) (hbits : Ymq.Checked.bitlen n ≤ 512) (hL : logsize ≤ 31) (K : Nat) (h1 : 1 ≤ K)
    (hk : K ≤ logsize) (p1 p2 : List Nat) (hp1 : ∀ v ∈ p1, v < n) (hp2 : ∀ v ∈ p2, v < n)
    (l1 : p1.length ≤ 2 ^ K) (l2 : p2.length ≤ 2 ^ K) (rinv reslen offset : Nat) :
    ∃ rts res, Ymq.Crt.rootsPacked m = some rts ∧
      Ymq.Crt.convolveNtt m rts rinv (2 ^ K) (p1.map (Ymq.Limbs.ofNat 8)) (p2.map (Ymq.Limbs.ofNat 8))
        reslen offset = some res ∧ res.length = reslen ∧
      ∀ t, t < reslen → res.getD t 0 =
        if offset + t < 2 ^ K then
          cycCoef (2 ^ K) (fun a => p1.getD a 0) (fun a => p2.getD a 0) (offset + t) * rinv % n
        else 0 := by
  obtain ⟨rts, res, e1, e2, e3, e4⟩ := Ymq.Crt.convolveNtt_spec n logsize m hm hn hbits hL K h1 hk p1 p2 hp1 hp2
    l1 l2 rinv reslen offset
  refine ⟨rts, res, e1, e2, e3, fun t ht => ?_⟩
  rw [e4 t ht, Ymq.Kronecker.cycCoef_eq]

/-- non-vacuity of the hypotheses on the context: `new 1000003 2` succeeds and `n = 1000003` has at most 512 bits -/
example : (Ymq.Crt.new 1000003 2).isSome = true ∧ Ymq.Checked.bitlen 1000003 ≤ 512 := by decide +kernel

end CrtSpecs

section Transform
open Ymq.Dft

/-- **`dft_conv`.** In any commutative ring, for a root with `ω^(2^(k-1)) = -1` (a principal
`2^k`-th root of unity; `ω = 1` for `k = 0`) and `ω·ω' = 1`:
(1) the radix-2 recursion of `arith_fft::fft` / `MultiZmodP::ntt_inplace` (`fftRec`: transform even
and odd entries with `ω²`, twiddle the odd half by `ω^j`, butterfly) computes the DFT
`Σ_i f i·ω^(ij)`;
(2) transforming again with the inverse root gives `2^k·f` (the code's inverse direction divides by
`2^k`: `shr` / `div_pow2`);
(3) forward transforms, pointwise product, inverse transform = `2^k` times the cyclic convolution
(`mulfft`, `convolve_modn_ntt`).
This is the statement about the algebraic recursion; `fft_spec`/`mulfft_spec` instantiate it by the
word-level model of the Fermat transform (`root_half`: the code's twiddle root meets the hypothesis).
`ntt_inplace_spec`/`ntt_pipeline_spec` instantiate it by the word-level model of `MultiZmodP::ntt_inplace`
(`ntt_roots_spec` gives the roots). -/
theorem dft_conv {R : Type*} [CommRing R] (k : Nat) (ω ω' : R)
    (hω : k = 0 ∨ ω ^ 2 ^ (k - 1) = -1) (h0 : k = 0 → ω = 1) (hinv : ω * ω' = 1) (f g : Nat → R) :
    (∀ j < 2 ^ k, fftRec k ω f j = dft (2 ^ k) ω f j) ∧
    (∀ m < 2 ^ k, dft (2 ^ k) ω' (dft (2 ^ k) ω f) m = (2 ^ k : R) * f m) ∧
    (∀ m < 2 ^ k, fftRec k ω' (fun j => fftRec k ω f j * fftRec k ω g j) m =
      (2 ^ k : R) * cyc (2 ^ k) f g m) :=
  ⟨fun j hj => fftRec_eq_dft k ω hω f j hj, fun m hm => dft_inverse k ω ω' hω hinv f m hm,
   fun m hm => fft_mul_eq_cyc k ω ω' hω h0 hinv f g m hm⟩

example : (1 = 0 ∨ (-1 : ℤ) ^ 2 ^ (1 - 1) = -1) ∧ (-1 : ℤ) * (-1) = 1 := by decide

end Transform

section Products
open Ymq.PolyMul Polynomial

/-- **`Poly::_basic_mul`, unequal lengths included.** For operands of ANY lengths `|p|, |q| ≥ 1`, any
`z` with `|z| ≥ |p| + |q| - 1` and ANY previous contents of `z`, the model of the double loop — with
the code's "first term" rule `i == 0 || j + 1 == q.len()` — reaches no panic site and leaves in `z`
the schoolbook product followed by zeros: as polynomials over any commutative ring image `φ` of the
coefficient operations, `poly(z') = poly(p)·poly(q)`. (A rule comparing `j + 1` with `p.len()`
instead of `q.len()` breaks this statement for `|p| ≠ |q|`.) -/
theorem basic_mul_spec {α R : Type} [CommRing R] {o : Ops α} {φ : α → R} (h : Hom o φ)
    (z p q : List α) (hp : 1 ≤ p.length) (hq : 1 ≤ q.length) (hz : p.length + q.length - 1 ≤ z.length) :
    ∃ z', basicMul o z p q = some z' ∧ z'.length = z.length ∧
      poly (z'.map φ) = poly (p.map φ) * poly (q.map φ) :=
  basicMul_spec h z p q hp hq hz

/-- **`Poly::karatsuba` equals the schoolbook product.** `karaOk f lp lq zl tl`
(Ymq/Model/PolyMul.lean, executable) says that for operand lengths `lp`, `lq`, `|z| = zl`, `|tmp| = tl`
and recursion fuel `f` no panic site is reached. On that domain the model — threshold 20, the
schoolbook fallback for unbalanced operands added by commit 5b13664, split point
`half = ⌈max(lp, lq)/2⌉`, sums `plo + phi`, `qlo + qhi` built in `tmp[2half..]`, middle product in
`tmp[..2half]` with `z` as scratch, low/high products in `z[..2half]`, `z[2half..]` with
`tmp[2half..]` as scratch, subtraction of the high product on its first `hilen` entries only,
final addition into `z[half..3half]` — returns `poly(z') = poly(p)·poly(q)`, whatever the buffers
contained before. -/
theorem karatsuba_spec {α R : Type} [CommRing R] {o : Ops α} {φ : α → R} (h : Hom o φ)
    (f : Nat) (z p q tmp : List α) (hok : karaOk f p.length q.length z.length tmp.length = true) :
    ∃ z' tmp', karatsuba o f z p q tmp = some (z', tmp') ∧ z'.length = z.length ∧
      tmp'.length = tmp.length ∧ poly (z'.map φ) = poly (p.map φ) * poly (q.map φ) :=
  Ymq.PolyMul.karatsuba_spec h f z p q tmp _ _ _ _ rfl rfl rfl rfl hok

/-- **the domain is everything**: after the fix EVERY pair of operand lengths `lp, lq ≥ 1` is
admitted as soon as `|z| ≥ lp + lq`, `|tmp| ≥ 3·max(lp, lq)` and the fuel covers
`max(lp, lq) ≤ 20·2^f` — in particular `lp < lq`, 64 × 40 (panic before the fix) and 43 × 22. -/
theorem karatsuba_domain :
    (∀ f lp lq zl tl, 1 ≤ lp → 1 ≤ lq → max lp lq ≤ 20 * 2 ^ f → lp + lq ≤ zl → 3 * max lp lq ≤ tl →
      karaOk (f + 1) lp lq zl tl = true) ∧
    karaOk 64 15 17 32 96 = true ∧ karaOk 64 31 33 64 192 = true ∧ karaOk 64 64 40 128 384 = true :=
  ⟨karaOk_total, by decide, by decide, by decide⟩

/-- **`Poly::mul_karatsuba`** for all lengths `1 ≤ |q| ≤ |p| ≤ 20·2^63` (its buffers are sized by
`|p|`): the schoolbook product padded to `2|p|` coefficients, over any commutative ring image of the
coefficient operations. -/
theorem mul_karatsuba_spec {α R : Type} [CommRing R] {o : Ops α} {φ : α → R} (h : Hom o φ)
    (p q : List α) (hl : q.length ≤ p.length) (h1 : 1 ≤ q.length) (h2 : p.length ≤ 20 * 2 ^ 63) :
    ∃ z', mulKaratsuba o p q = some z' ∧ z'.length = 2 * p.length ∧
      poly (z'.map φ) = poly (p.map φ) * poly (q.map φ) := by
  unfold mulKaratsuba FUEL
  obtain ⟨z', tmp', e, lz, _, hp⟩ := Ymq.PolyMul.karatsuba_spec h 64 (List.replicate (2 * p.length) o.zero) p q
    (List.replicate (6 * p.length) o.zero) _ _ _ _ rfl rfl List.length_replicate List.length_replicate
    (karaOk_total 63 _ _ _ _ (by omega) h1 (by rw [max_eq_left hl]; exact h2) (by omega)
      (by rw [max_eq_left hl]; omega))
  rw [e]
  exact ⟨z', rfl, lz, hp⟩

/-- the schoolbook coefficient of the specification is the coefficient of the product over `ZMod n` -/
theorem mulCoef_cast (n : Nat) (hn : 0 < n) (p q : List Nat) (k : Nat) :
    ((mulCoef (fun i => p.getD i 0) (fun i => q.getD i 0) k : ℕ) : ZMod n) =
      (poly (p.map (Nat.cast : ℕ → ZMod n)) * poly (q.map (Nat.cast : ℕ → ZMod n))).coeff k := by
  rw [coeff_poly_mul_hom (natOps_hom n hn), mulCoef, Ymq.Kronecker.sumTo_eq]
  push_cast
  rfl

/-- the same for what the driver runs (`natOps n`, residues modulo `n > 0`): every coefficient of
the model's answer is congruent modulo `n` to the schoolbook coefficient `PolySpec.mulCoef`. -/
theorem mul_karatsuba_zmod (n : Nat) (hn : 0 < n) (p q : List Nat) (hl : q.length ≤ p.length)
    (h1 : 1 ≤ q.length) (h2 : p.length ≤ 20 * 2 ^ 63) :
    ∃ z', mulKaratsuba (natOps n) p q = some z' ∧ z'.length = 2 * p.length ∧
      ∀ k, ((z'.getD k 0 : ℕ) : ZMod n) =
        ((mulCoef (fun i => p.getD i 0) (fun i => q.getD i 0) k : ℕ) : ZMod n) := by
  obtain ⟨z', e, lz, hp⟩ := mul_karatsuba_spec (natOps_hom n hn) p q hl h1 h2
  refine ⟨z', e, lz, fun k => ?_⟩
  rw [mulCoef_cast n hn, ← hp, coeff_den (natOps_hom n hn)]
  rfl

example : mulKaratsuba (natOps 7) [1, 2, 3] [1, 1, 1] = some [1, 3, 6, 5, 3, 0] := by decide

end Products

section Series
open Ymq.PolyMul Polynomial

/-- **`_middlemul` (Hanrot–Quercia–Zimmermann) is the middle slice of the product.** For `|q| = n`,
`1 ≤ n ≤ 2^f` (fuel `f + 1`), `|p| = 2n - 1`, `|z| ≥ n`, scratch `≥ mmNeed n` (the exact requirement of
the recursion: `2|p|` at every level) and an NTT context with `2n ≤ 2^k` if there is one, the model
reaches no panic site and output `i` is coefficient `n - 1 + i` of `p·q`, over any commutative ring
image of the coefficient operations — through `n = 1, 2`, the NTT shortcuts for `n` and `n - 1` a
power of two (`_fft_midmul` is the exact cyclic convolution: the NTT itself is `fft_midmul_word_eq`,
`convolve_modn_ntt_spec`), and the recursion `a - b`, `c + b`. -/
theorem middlemul_spec {α R : Type} [CommRing R] {o : Ops α} {φ : α → R} (h : Hom o φ) (c : Ctx)
    (f zlen : Nat) (p q : List α) (tmplen : Nat) (h1 : 1 ≤ q.length) (h2 : q.length ≤ 2 ^ f)
    (hp : p.length = 2 * q.length - 1) (hz : q.length ≤ zlen) (ht : mmNeed q.length ≤ tmplen)
    (hfit : Fits c q.length) :
    ∃ m, middlemul c o (f + 1) zlen p q tmplen = some m ∧ m.length = q.length ∧
      ∀ i, i < q.length →
        φ (m.getD i o.zero) = (poly (p.map φ) * poly (q.map φ)).coeff (q.length - 1 + i) :=
  Ymq.PolyMul.middlemul_spec h c f zlen p q tmplen _ rfl h1 h2 hp hz ht hfit

/-- the public `Poly::middlemul` (scratch `2|p| + 16`) for `1 ≤ |q| ≤ 2^15`; the scratch bounds:
`mmNeed n ≤ 5n - 3` (what `_inv_mod_xn`/`_div_mod_xn` can offer) and `mmNeed n ≤ 4n + d` for
`n ≤ 2^(d+1)` -/
theorem middlemul_pub_spec {α R : Type} [CommRing R] {o : Ops α} {φ : α → R} (h : Hom o φ) (c : Ctx)
    (p q : List α) (h1 : 1 ≤ q.length) (h2 : q.length ≤ 2 ^ 15) (hp : p.length = 2 * q.length - 1)
    (hfit : Fits c q.length) :
    (∃ m, middlemulPub c o p q = some m ∧ m.length = q.length ∧
      ∀ i, i < q.length → φ (m.getD i o.zero) = (poly (p.map φ) * poly (q.map φ)).coeff (q.length - 1 + i)) ∧
    (∀ n, 3 ≤ n → mmNeed n ≤ 5 * n - 3) ∧ (∀ d n, n ≤ 2 ^ (d + 1) → mmNeed n ≤ 4 * n + d) :=
  ⟨middlemulPub_spec h c p q h1 h2 hp hfit, mmNeed_le, mmNeed_depth⟩

/-- **`_inv_mod_xn`: `p · z ≡ 1 (mod x^len)`** for every `1 ≤ len ≤ min(2^f, 2^62)` (fuel `f + 1`),
whenever `zn.inv(p[0])` succeeds, with scratch `≥ 4·len` and a large enough NTT context: no panic
site is reached. The model follows the code after commit f80a81f: base cases of length 1, 2, 3,
precision schedule `half_up = ⌈len/2⌉`, the `1 + xC` shortcut exactly under `z[0] == 1`,
`half_up ≥ 2`, `len = 2·half_up - 1`, `half_up - 1` a power of two, the general branch on the
zero-padded `p[1..]`, then the low product and the negation. -/
theorem inv_mod_xn_spec {α R : Type} [CommRing R] {o : Ops α} {φ : α → R} (h : HomE o φ) (c : Ctx)
    (f : Nat) (p : List α) (tmplen : Nat) (h1 : 1 ≤ p.length) (h2 : p.length ≤ 2 ^ f)
    (h62 : p.length ≤ 2 ^ 62) (ht : 4 * p.length ≤ tmplen) (hfit : Fits c (p.length - p.length / 2))
    (hinv : ∃ i, o.inv (p.getD 0 o.zero) = some i) :
    ∃ z, invModXn c o (f + 1) p tmplen = some z ∧ z.length = p.length ∧
      ∀ k, k < p.length → (poly (p.map φ) * poly (z.map φ)).coeff k = if k = 0 then 1 else 0 := by
  obtain ⟨z, e, lz, hz⟩ := invModXn_spec h c f p tmplen _ rfl h1 h2 h62 (Or.inr (Or.inr ht)) hfit hinv
  exact ⟨z, e, lz, fun k hk => (hz k hk).trans coeff_one⟩

/-- **`_div_mod_xn` / `Poly::div_mod_xn`: `q · z ≡ p (mod x^len)`** for equal lengths
`1 ≤ len ≤ 2^62`, whenever `zn.inv(q[0])` succeeds; the public wrapper's scratch `6·len` (after the
fix; `5·len` was one short for `len = 3`) always suffices. -/
theorem div_mod_xn_spec {α R : Type} [CommRing R] {o : Ops α} {φ : α → R} (h : HomE o φ) (c : Ctx)
    (p q : List α) (hl : p.length = q.length) (h1 : 1 ≤ q.length) (h62 : q.length ≤ 2 ^ 62)
    (hfit : Fits c (q.length - q.length / 2)) (hinv : ∃ i, o.inv (q.getD 0 o.zero) = some i) :
    ∃ z, divModXnPub c o p q = some z ∧ z.length = q.length ∧
      ∀ k, k < q.length → (poly (q.map φ) * poly (z.map φ)).coeff k = (poly (p.map φ)).coeff k := by
  unfold divModXnPub
  exact divModXn_spec h c p q (6 * p.length) _ hl rfl h1 h62 (by omega) (fun _ => by omega) hfit hinv

/-- the same for what the driver runs (`natOps n`, `n > 0`; `invMod` is proved sound): the answer of
the model of `Poly::div_mod_xn` satisfies `Σ_{a ≤ k} q[a]·z[k-a] ≡ p[k] (mod n)` for every `k < len`. -/
theorem div_mod_xn_zmod (n : Nat) (hn : 0 < n) (c : Ctx) (p q : List Nat) (hl : p.length = q.length)
    (h1 : 1 ≤ q.length) (h62 : q.length ≤ 2 ^ 62) (hfit : Fits c (q.length - q.length / 2))
    (hinv : ∃ i, Ymq.PolySpec.invMod (q.getD 0 0) n = some i) :
    ∃ z, divModXnPub c (natOps n) p q = some z ∧ z.length = q.length ∧
      ∀ k, k < q.length →
        ((mulCoef (fun i => q.getD i 0) (fun i => z.getD i 0) k : ℕ) : ZMod n) = ((p.getD k 0 : ℕ) : ZMod n) := by
  obtain ⟨z, e, lz, hz⟩ := div_mod_xn_spec (natOps_homE n hn) c p q hl h1 h62 hfit hinv
  refine ⟨z, e, lz, fun k hk => ?_⟩
  rw [mulCoef_cast n hn, hz k hk, coeff_den (natOps_hom n hn)]
  rfl

example : divModXnPub (Ctx.new 1) (natOps 7) [1, 0, 0, 0] [1, 1, 1, 1] = some [1, 6, 0, 0] ∧
    invModXn (Ctx.new 1) (natOps 7) FUEL [1, 1, 1, 1] 24 = some [1, 6, 0, 0] := by decide

end Series

section Trees
open Ymq.PolyMul Polynomial

/-- **`Poly::_product_tree`**: for `|roots| ≥ 1` and `n = 2^bitlen(|roots| - 1) ≤ 2^62` leaves the model
reaches no panic site; the `logn + 1` layers form a chain (`Chain`: every node of layer `i + 1` is the
product of its two children in layer `i`; nodes of layer `i` are monic of degree `2^i`, given by
their low coefficients), built by the three merge forms of the code (`i = 1`, `i = 2` written out,
`_longmul` of the low parts plus `x^d(a + b)` above), and the top node is `x^(n-|roots|)·∏(x - r_i)`. -/
theorem product_tree_spec {α R : Type} [CommRing R] {o : Ops α} {φ : α → R} (h : Hom o φ) (c : Ctx)
    (roots : List α) (h1 : 1 ≤ roots.length) (h62 : Ymq.Checked.bitlen (roots.length - 1) ≤ 62)
    (hfit : Fits c (2 ^ Ymq.Checked.bitlen (roots.length - 1))) :
    ∃ layers, productTree c o roots = some layers ∧
      layers.length = Ymq.Checked.bitlen (roots.length - 1) + 1 ∧ Chain φ 1 layers ∧
      ∃ top, layers.getLast? = some [top] ∧ top.length = 2 ^ Ymq.Checked.bitlen (roots.length - 1) ∧
        mon φ top = rootsPoly φ roots * X ^ (2 ^ Ymq.Checked.bitlen (roots.length - 1) - roots.length) :=
  productTree_spec h c roots h1 h62 hfit

/-- **`Poly::from_roots(roots) = ∏ (x - r_i)`** (`rootsPoly`), `|roots| + 1` coefficients. -/
theorem from_roots_spec {α R : Type} [CommRing R] {o : Ops α} {φ : α → R} (h : Hom o φ) (c : Ctx)
    (roots : List α) (h1 : 1 ≤ roots.length) (h62 : Ymq.Checked.bitlen (roots.length - 1) ≤ 62)
    (hfit : Fits c (2 ^ Ymq.Checked.bitlen (roots.length - 1))) :
    ∃ z, fromRoots c o roots = some z ∧ z.length = roots.length + 1 ∧
      poly (z.map φ) = (roots.map fun r => X - C (φ r)).prod :=
  fromRoots_spec h c roots h1 h62 hfit

example : fromRoots (Ctx.new 1) (natOps 101) [1, 2, 3] = some [95, 11, 95, 1] := by decide

/-- **`Poly::_multi_eval(tree)` evaluates at the leaves of the tree** (Bernstein's scaled remainder
tree as coded: reversed inverse of the top node by `_inv_mod_xn`, one `_middlemul` per node on the way
down, the leaf rule). For any chain of layers with leaves `x + l_j`, top node of `n` low coefficients
(`n ≤ 2^61`, `layers.length = log₂ n + 1`) and `1 ≤ |p| ≤ n + 1`: no panic site is reached and
`vals[j] = p(-l_j)` for every leaf `j`. -/
theorem multi_eval_tree_spec {α R : Type} [CommRing R] [Nontrivial R] {o : Ops α} {φ : α → R}
    (h : HomE o φ) (c : Ctx) (p : List α) (layers : List (List (List α))) (top : List α)
    (hch : Chain φ 1 layers) (htop : layers.getLast? = some [top])
    (hlen : layers.length = top.length.log2 + 1) (hn1 : 1 ≤ top.length) (hn62 : top.length ≤ 2 ^ 61)
    (hp1 : 1 ≤ p.length) (hp2 : p.length ≤ top.length + 1)
    (hfit : Fits c (top.length / 2 + 1)) (hinv : ∃ i, o.inv o.one = some i) :
    ∃ vals, multiEvalTree c o p layers = some vals ∧ vals.length = (layers.getD 0 []).length ∧
      ∀ j, j < (layers.getD 0 []).length →
        φ (vals.getD j o.zero) =
          (poly (p.map φ)).eval (-(φ (((layers.getD 0 []).getD j []).getD 0 o.zero))) :=
  multiEvalTree_spec h c p layers top hch htop _ rfl hlen hn1 hn62 hp1 hp2 hfit hinv

/-- **`Poly::multi_eval(a)[j] = p(a_j)`** for every point, in order, for `|p| ≥ 1`, `|a| ≥ 1`
(sizes up to `2^60`), a large enough NTT context (if one is used at all) and `zn.inv(1)` succeeding:
no panic site is reached (the `assert!` on the chunk sizes included). The model follows the code
after commit 6f9ca4a: chunk count and length, `a.chunks(chunklen)`, padding of a chunk shorter than
`deg p` with zero points, `_product_tree`, `_multi_eval`, `truncate`. -/
theorem multi_eval_spec {α R : Type} [CommRing R] [Nontrivial R] {o : Ops α} {φ : α → R}
    (h : HomE o φ) (c : Ctx) (p a : List α) (hp1 : 1 ≤ p.length) (ha1 : 1 ≤ a.length)
    (h61 : max a.length (p.length - 1) ≤ 2 ^ 60)
    (hfit : Fits c (2 * max a.length (p.length - 1))) (hinv : ∃ i, o.inv o.one = some i) :
    ∃ v, multiEval c o p a = some v ∧ v.length = a.length ∧
      ∀ j, j < a.length → φ (v.getD j o.zero) = (poly (p.map φ)).eval (φ (a.getD j o.zero)) :=
  multiEval_spec h c p a hp1 ha1 h61 hfit hinv

/-- what the driver runs: residues modulo a prime-or-not `n > 1`, ring context `PolyRing::new(zn, size)` -/
theorem multi_eval_zmod (n : Nat) (hn : 1 < n) (size : Nat) (p a : List Nat) (hp1 : 1 ≤ p.length)
    (ha1 : 1 ≤ a.length) (h61 : max a.length (p.length - 1) ≤ 2 ^ 60)
    (hsize : 2 * max a.length (p.length - 1) ≤ 2 ^ Ymq.Checked.bitlen (size - 1)) :
    ∃ v, multiEval (Ctx.new size) (natOps n) p a = some v ∧ v.length = a.length ∧
      ∀ j, j < a.length →
        ((v.getD j 0 : ℕ) : ZMod n) = (poly (p.map fun x => ((x : ℕ) : ZMod n))).eval ((a.getD j 0 : ℕ) : ZMod n) := by
  have : Fact (1 < n) := ⟨hn⟩
  exact multi_eval_spec (natOps_homE n (by omega)) (Ctx.new size) p a hp1 ha1 h61 (fits_new _ _ hsize)
    (natOps_inv_one n hn)

example : multiEval (Ctx.new 4) (natOps 101) [1, 2, 3] [0, 1, 2, 3, 4] = some [1, 6, 17, 34, 57] := by decide

/-- **`Poly::roots_eval(a, b)[j] = ∏_i (b_j - a_i)`, branch `|a| < n`** (`n = 2^bitlen(|b| - 1)`, the size
of the tree over `b`; the ring context is the code's `PolyRing::new(zn, b.len())`): `from_roots(a)`,
then `_multi_eval` on the tree of `b`, `truncate(b.len())`. No panic site is reached.
Both branches: `roots_eval_spec` below. -/
theorem roots_eval_direct_spec {α R : Type} [CommRing R] [Nontrivial R] {o : Ops α} {φ : α → R}
    (h : HomE o φ) (a b : List α) (hb1 : 1 ≤ b.length) (ha1 : 1 ≤ a.length)
    (hb61 : Ymq.Checked.bitlen (b.length - 1) ≤ 61)
    (hab : a.length < 2 ^ Ymq.Checked.bitlen (b.length - 1)) (hinv : ∃ i, o.inv o.one = some i) :
    ∃ vals, rootsEval o a b = some vals ∧ vals.length = b.length ∧
      ∀ j, j < b.length →
        φ (vals.getD j o.zero) = (a.map fun r => φ (b.getD j o.zero) - φ r).prod :=
  rootsEval_direct_spec h a b hb1 ha1 hb61 hab hinv

example : rootsEval (natOps 101) [1, 2, 3] [0, 5, 7, 9] = some [95, 24, 19, 33] := by decide

/-- **`Poly::roots_eval(a, b)[j] = ∏_i (b_j - a_i)`, both branches**, for `|a| ≥ 1`, `2 ≤ |b| ≤ 2^61`,
over any coefficient operations whose `==` is equality of residues (`HomC`) and with `zn.inv(1)`
succeeding; no panic site is reached. For `|a| ≥ n = 2^bitlen(|b| - 1)` the model follows the code:
reversed top node of the tree over `b` with `revq[n]` left zero, `_inv_mod_xn` of it to `n + 1` terms,
`assert!(revq[0] == 1)`, `a.chunks(n)`, `from_roots` of every chunk, `resize`/conditional subtraction of
`Q`/`assert!`/`truncate`, and for every further chunk the three `_longmul`s (product, high half times
reversed inverse, quotient slice `quo[n-1 .. 2n-2]` times `Q`), the `debug_assert!` that the high
halves agree (PROVED to hold: `barrett_high`, the reversal argument), the subtraction of the low
halves; finally `_multi_eval` on the tree and `truncate(b.len())`.
`|b| = 1` (`n = 1`) is `roots_eval_unit_spec`; `roots_eval_full_spec` joins the two. -/
theorem roots_eval_spec {α R : Type} [CommRing R] [Nontrivial R] {o : Ops α} {φ : α → R}
    (h : HomC o φ) (a b : List α) (ha1 : 1 ≤ a.length) (hb2 : 2 ≤ b.length)
    (hb61 : Ymq.Checked.bitlen (b.length - 1) ≤ 61) (hinv : ∃ i, o.inv o.one = some i) :
    ∃ vals, rootsEval o a b = some vals ∧ vals.length = b.length ∧
      ∀ j, j < b.length →
        φ (vals.getD j o.zero) = (a.map fun r => φ (b.getD j o.zero) - φ r).prod :=
  rootsEval_spec h a b ha1 (by omega) hb61 hinv

/-- the same for what the driver runs: residues modulo `n > 1` -/
theorem roots_eval_zmod (n : Nat) (hn : 1 < n) (a b : List Nat) (ha1 : 1 ≤ a.length) (hb2 : 2 ≤ b.length)
    (hb61 : Ymq.Checked.bitlen (b.length - 1) ≤ 61) :
    ∃ vals, rootsEval (natOps n) a b = some vals ∧ vals.length = b.length ∧
      ∀ j, j < b.length →
        ((vals.getD j 0 : ℕ) : ZMod n) = (a.map fun r => ((b.getD j 0 : ℕ) : ZMod n) - ((r : ℕ) : ZMod n)).prod := by
  have : Fact (1 < n) := ⟨hn⟩
  exact roots_eval_spec (natOps_homC n (by omega)) a b ha1 hb2 hb61
    (natOps_inv_one n hn)

/-- **`Poly::roots_eval(a, [b])`: a single evaluation point.** The tree over `b` has size `n = 1`, so the code
always takes the chunked branch with chunks of one root: `revq = [1, 0]`, `_inv_mod_xn` returns `[1, -0]` by
its length-2 shortcut (no scratch needed: `tmp` has 6 entries), every round multiplies two constants by
`_longmul`, the quotient slice `quo[0..0]` is EMPTY, the third `_longmul` runs on an empty first operand
(`_basic_mul` zero-fills `z`), the `debug_assert!` compares `pp[1] = 0` with `pq[1] = 0`, and the result is
`pp[0] - 0`. The model reaches no panic site and returns `∏_i (b - a_i)`. -/
theorem roots_eval_unit_spec {α R : Type} [CommRing R] [Nontrivial R] {o : Ops α} {φ : α → R}
    (h : HomC o φ) (a : List α) (b0 : α) (ha1 : 1 ≤ a.length) (hinv : ∃ i, o.inv o.one = some i) :
    ∃ vals, rootsEval o a [b0] = some vals ∧ vals.length = 1 ∧
      φ (vals.getD 0 o.zero) = (a.map fun r => φ b0 - φ r).prod := by
  have hbl : Ymq.Checked.bitlen (([b0] : List α).length - 1) = 0 := rfl
  obtain ⟨vals, e, l, hv⟩ := rootsEval_long_spec h a [b0] le_rfl (by rw [hbl]; decide) (by rw [hbl]; exact ha1) hinv
  exact ⟨vals, e, l, hv 0 Nat.one_pos⟩

/-- **`Poly::roots_eval` for every `|a| ≥ 1`, `1 ≤ |b| ≤ 2^61`**: `roots_eval_spec` and `roots_eval_unit_spec`
together. -/
theorem roots_eval_full_spec {α R : Type} [CommRing R] [Nontrivial R] {o : Ops α} {φ : α → R}
    (h : HomC o φ) (a b : List α) (ha1 : 1 ≤ a.length) (hb1 : 1 ≤ b.length)
    (hb61 : Ymq.Checked.bitlen (b.length - 1) ≤ 61) (hinv : ∃ i, o.inv o.one = some i) :
    ∃ vals, rootsEval o a b = some vals ∧ vals.length = b.length ∧
      ∀ j, j < b.length →
        φ (vals.getD j o.zero) = (a.map fun r => φ (b.getD j o.zero) - φ r).prod :=
  rootsEval_spec h a b ha1 hb1 hb61 hinv

/-- the same for what the driver runs with `natOps n` (`pf_roots_eval`) -/
theorem roots_eval_full_zmod (n : Nat) (hn : 1 < n) (a b : List Nat) (ha1 : 1 ≤ a.length) (hb1 : 1 ≤ b.length)
    (hb61 : Ymq.Checked.bitlen (b.length - 1) ≤ 61) :
    ∃ vals, rootsEval (natOps n) a b = some vals ∧ vals.length = b.length ∧
      ∀ j, j < b.length →
        ((vals.getD j 0 : ℕ) : ZMod n) = (a.map fun r => ((b.getD j 0 : ℕ) : ZMod n) - ((r : ℕ) : ZMod n)).prod := by
  have : Fact (1 < n) := ⟨hn⟩
  exact roots_eval_full_spec (natOps_homC n (by omega)) a b ha1 hb1 hb61
    (natOps_inv_one n hn)

example : rootsEval (natOps 101) [1, 2, 3] [7] = some [19] := by decide

/-- the long branch on an instance: `|a| = 5 ≥ n = 2`, three chunks -/
example : rootsEval (natOps 101) [1, 2, 3, 4, 5] [7, 9] = some [13, 54] := by decide

end Trees

section Production
open Ymq.PolyMul Polynomial

/-- **The Montgomery operations of `ZmodN` are an instance of the coefficient operations** of every
arith_poly theorem above: `montOps n kw rinv` (`mul a b = a·b·R⁻¹ mod n`, `one = R mod n`,
`inv a = a⁻¹·R² mod n`, `==` on residues; C07 proves that `ZmodN` computes these) maps to `ZMod n` by
`mphi x = x·R⁻¹` as a ring homomorphic image with sound `inv` and sound and complete `==` (`HomC`),
whenever `R·rinv ≡ 1 (mod n)`. So `karatsuba_spec`, `middlemul_spec`, `inv_mod_xn_spec`, `div_mod_xn_spec`,
`product_tree_spec`, `from_roots_spec`, `multi_eval_spec`, `roots_eval_spec` hold verbatim for the
operations the code runs, with values read out of their Montgomery forms. -/
theorem mont_ops_hom (n kw rinv : Nat) (hn : 0 < n) (hR : 2 ^ (64 * kw) * rinv % n = 1 % n) :
    HomC (montOps n kw rinv) (mphi n rinv) :=
  montOps_homC n kw rinv hn hR

/-- **The NTT branch of `_longmul` in the arith_poly models IS the word-level `convolve_modn_ntt`.** Under the
Montgomery operations, for operands of reduced residues, a context built by the model of
`MultiZmodP::new(zn, k)` (`k ≤ 31`, `n` of at most 512 bits) and `bitlen(deg p + deg q) ≤ k`, the list the
model `fftLongmul` writes (exact product coefficients, zero beyond `2^logsize`) equals, entry by entry, the
output of the word-level model of `convolve_modn_ntt(mzp, 2^logsize, p, q, z, 0)` — root tables,
`from_mint`, bit-reversed scatter, `ntt_inplace`, `mul`, swap loop, inverse transform, `_crt`, `zn.redc`
(`convolve_modn_ntt_spec`). This discharges the "exact convolution" assumption of the models at this call. -/
theorem fft_longmul_refines (n k : Nat) (m : Ymq.Crt.Mzp) (hm : Ymq.Crt.new n k = some m) (hn : 0 < n)
    (hbits : Ymq.Checked.bitlen n ≤ 512) (hk31 : k ≤ 31) (kw rinv zlen : Nat) (p q : List Nat)
    (hp1 : 1 ≤ p.length) (hq1 : 1 ≤ q.length) (hpq : 3 ≤ p.length + q.length)
    (hk : Ymq.Checked.bitlen (p.length - 1 + (q.length - 1)) ≤ k)
    (hpn : ∀ v ∈ p, v < n) (hqn : ∀ v ∈ q, v < n) :
    ∃ rts, Ymq.Crt.rootsPacked m = some rts ∧
      Ymq.Crt.convolveNtt m rts rinv (2 ^ Ymq.Checked.bitlen (p.length - 1 + (q.length - 1)))
        (p.map (Ymq.Limbs.ofNat 8)) (q.map (Ymq.Limbs.ofNat 8)) zlen 0 =
      fftLongmul k (montOps n kw rinv) zlen p q :=
  fftLongmul_refines n k m hm hn hbits hk31 kw rinv zlen p q hp1 hq1 hpq hk hpn hqn

/-- **The NTT branch of `_middlemul` (`_fft_midmul`) in the arith_poly models IS the word-level
`convolve_modn_ntt`** with `size = 2|q|`, `offset = |q| - 1` (`|q| = 2^e`, `e + 1 ≤ k`). -/
theorem fft_midmul_refines (n k : Nat) (m : Ymq.Crt.Mzp) (hm : Ymq.Crt.new n k = some m) (hn : 0 < n)
    (hbits : Ymq.Checked.bitlen n ≤ 512) (hk31 : k ≤ 31) (kw rinv zlen e : Nat) (p q : List Nat)
    (hq : q.length = 2 ^ e) (hp : p.length = 2 * q.length - 1) (he : e + 1 ≤ k)
    (hpn : ∀ v ∈ p, v < n) (hqn : ∀ v ∈ q, v < n) :
    ∃ rts, Ymq.Crt.rootsPacked m = some rts ∧
      Ymq.Crt.convolveNtt m rts rinv (2 * q.length) (p.map (Ymq.Limbs.ofNat 8)) (q.map (Ymq.Limbs.ofNat 8))
        zlen (q.length - 1) = fftMidmul k (montOps n kw rinv) zlen p q :=
  fftMidmul_refines n k m hm hn hbits hk31 kw rinv zlen e p q hq hp he hpn hqn

/-- the step shared by `mul_fft_end_to_end` and `longmul_ntt_end_to_end`: `fftLongmul` under the Montgomery operations
returns, is the output of the word-level `convolve_modn_ntt`, and holds the product coefficients, for any `zlen` -/
theorem fftLongmul_end_to_end (n k : Nat) (m : Ymq.Crt.Mzp) (hm : Ymq.Crt.new n k = some m) (hn : 0 < n)
    (hbits : Ymq.Checked.bitlen n ≤ 512) (hk31 : k ≤ 31) (kw rinv : Nat)
    (hR : 2 ^ (64 * kw) * rinv % n = 1 % n) (zlen : Nat) (p q : List Nat)
    (hp1 : 1 ≤ p.length) (hq1 : 1 ≤ q.length) (hpq : 3 ≤ p.length + q.length)
    (hk : Ymq.Checked.bitlen (p.length - 1 + (q.length - 1)) ≤ k)
    (hpn : ∀ v ∈ p, v < n) (hqn : ∀ v ∈ q, v < n) :
    ∃ rts z, Ymq.Crt.rootsPacked m = some rts ∧ fftLongmul k (montOps n kw rinv) zlen p q = some z ∧
      Ymq.Crt.convolveNtt m rts rinv (2 ^ Ymq.Checked.bitlen (p.length - 1 + (q.length - 1)))
        (p.map (Ymq.Limbs.ofNat 8)) (q.map (Ymq.Limbs.ofNat 8)) zlen 0 = some z ∧ z.length = zlen ∧
      ∀ i, i < zlen →
        mphi n rinv (z.getD i 0) = (poly (p.map (mphi n rinv)) * poly (q.map (mphi n rinv))).coeff i := by
  obtain ⟨rts, e1, e2⟩ := fftLongmul_refines n k m hm hn hbits hk31 kw rinv zlen p q hp1 hq1 hpq hk hpn hqn
  have hlt := bitlen_lt (p.length - 1 + (q.length - 1))
  obtain ⟨z, ez, lz, hz⟩ := fftLongmul_spec (montOps_homC n kw rinv hn hR).toHomE.toHom k zlen p q hp1 hq1 hpq (by
    have : 2 ^ Ymq.Checked.bitlen (p.length - 1 + (q.length - 1)) ≤ 2 ^ k :=
      Nat.pow_le_pow_right (by decide) hk
    omega)
  exact ⟨rts, z, e1, ez, by rw [e2, ez], lz, hz⟩

/-- **`Poly::mul_fft` / the production branch of `_longmul`, end to end in one statement.** For the Montgomery
operations, a ring context with NTT (`c.mzp = some k`, the `MultiZmodP` built by `new(zn, k)`), operands
`p`, `q` of reduced residues with `|p| + |q| ≥ 3` and `bitlen(deg p + deg q) ≤ k ≤ 31`: the model of
`Poly::mul_fft` reaches no panic site, its output is exactly the output of the word-level model of
`convolve_modn_ntt`, and read out of Montgomery form it is the polynomial product:
`mphi(z[i]) = (P·Q).coeff i` in `ZMod n`. -/
theorem mul_fft_end_to_end (n k : Nat) (m : Ymq.Crt.Mzp) (hm : Ymq.Crt.new n k = some m) (hn : 0 < n)
    (hbits : Ymq.Checked.bitlen n ≤ 512) (hk31 : k ≤ 31) (kw rinv : Nat)
    (hR : 2 ^ (64 * kw) * rinv % n = 1 % n) (c : Ctx) (hc : c.mzp = some k) (p q : List Nat)
    (hp1 : 1 ≤ p.length) (hq1 : 1 ≤ q.length) (hpq : 3 ≤ p.length + q.length)
    (hk : Ymq.Checked.bitlen (p.length - 1 + (q.length - 1)) ≤ k)
    (hpn : ∀ v ∈ p, v < n) (hqn : ∀ v ∈ q, v < n) :
    ∃ rts z, Ymq.Crt.rootsPacked m = some rts ∧ mulFft c (montOps n kw rinv) p q = some z ∧
      Ymq.Crt.convolveNtt m rts rinv (2 ^ Ymq.Checked.bitlen (p.length - 1 + (q.length - 1)))
        (p.map (Ymq.Limbs.ofNat 8)) (q.map (Ymq.Limbs.ofNat 8)) (p.length + q.length - 1) 0 = some z ∧
      z.length = p.length + q.length - 1 ∧
      ∀ i, i < p.length + q.length - 1 →
        mphi n rinv (z.getD i 0) = (poly (p.map (mphi n rinv)) * poly (q.map (mphi n rinv))).coeff i := by
  obtain ⟨rts, z, e1, ez, e2, lz, hz⟩ := fftLongmul_end_to_end n k m hm hn hbits hk31 kw rinv hR (p.length + q.length - 1)
    p q hp1 hq1 hpq hk hpn hqn
  refine ⟨rts, z, e1, ?_, e2, lz, hz⟩
  unfold mulFft
  rw [hc]
  simp only
  rw [if_neg (by omega)]
  exact ez

/-- **`_longmul`, production branch, end to end** (`USE_FFT && p.len() >= FFT_THRESHOLD && zr.mzp.is_some()`):
as `mul_fft_end_to_end`, for any output length `zlen`. -/
theorem longmul_ntt_end_to_end (n k : Nat) (m : Ymq.Crt.Mzp) (hm : Ymq.Crt.new n k = some m) (hn : 0 < n)
    (hbits : Ymq.Checked.bitlen n ≤ 512) (hk31 : k ≤ 31) (kw rinv : Nat)
    (hR : 2 ^ (64 * kw) * rinv % n = 1 % n) (c : Ctx) (hc : c.mzp = some k) (zlen tmplen : Nat)
    (p q : List Nat) (hp28 : Ymq.Gen.Params.FFT_THRESHOLD ≤ p.length) (hq1 : 1 ≤ q.length)
    (hk : Ymq.Checked.bitlen (p.length - 1 + (q.length - 1)) ≤ k)
    (hpn : ∀ v ∈ p, v < n) (hqn : ∀ v ∈ q, v < n) :
    ∃ rts z, Ymq.Crt.rootsPacked m = some rts ∧ longmul c (montOps n kw rinv) zlen tmplen p q = some z ∧
      Ymq.Crt.convolveNtt m rts rinv (2 ^ Ymq.Checked.bitlen (p.length - 1 + (q.length - 1)))
        (p.map (Ymq.Limbs.ofNat 8)) (q.map (Ymq.Limbs.ofNat 8)) zlen 0 = some z ∧ z.length = zlen ∧
      ∀ i, i < zlen →
        mphi n rinv (z.getD i 0) = (poly (p.map (mphi n rinv)) * poly (q.map (mphi n rinv))).coeff i := by
  have h28 : 28 ≤ p.length := hp28
  obtain ⟨rts, z, e1, ez, e2, lz, hz⟩ := fftLongmul_end_to_end n k m hm hn hbits hk31 kw rinv hR zlen p q (by omega) hq1
    (by omega) hk hpn hqn
  refine ⟨rts, z, e1, ?_, e2, lz, hz⟩
  unfold longmul
  rw [hc]
  simp only
  rw [if_pos hp28]
  exact ez

/-- **`Poly::middlemul`, production branch (`|q| = 2^e ≥ FFT_THRESHOLD`), end to end in one statement.** For
the Montgomery operations, a ring context with NTT (`c.mzp = some k`, `e + 1 ≤ k ≤ 31`, the `MultiZmodP` of
`new(zn, k)`) and reduced operands with `|p| = 2|q| - 1`: the model of `Poly::middlemul` reaches no panic
site, its output is the (first `|q|` entries of the) output of the word-level model of
`convolve_modn_ntt(mzp, 2|q|, p, q, z, |q| - 1)`, and read out of Montgomery form it is the middle slice
`(P·Q).coeff(|q| - 1 + i)`. -/
theorem middlemul_ntt_end_to_end (n k : Nat) (m : Ymq.Crt.Mzp) (hm : Ymq.Crt.new n k = some m) (hn : 0 < n)
    (hbits : Ymq.Checked.bitlen n ≤ 512) (hk31 : k ≤ 31) (kw rinv : Nat)
    (hR : 2 ^ (64 * kw) * rinv % n = 1 % n) (c : Ctx) (hc : c.mzp = some k) (e : Nat) (p q : List Nat)
    (hq : q.length = 2 ^ e) (hq28 : Ymq.Gen.Params.FFT_THRESHOLD ≤ q.length) (hp : p.length = 2 * q.length - 1)
    (he : e + 1 ≤ k) (hpn : ∀ v ∈ p, v < n) (hqn : ∀ v ∈ q, v < n) :
    ∃ rts w, Ymq.Crt.rootsPacked m = some rts ∧
      Ymq.Crt.convolveNtt m rts rinv (2 * q.length) (p.map (Ymq.Limbs.ofNat 8)) (q.map (Ymq.Limbs.ofNat 8))
        q.length (q.length - 1) = some w ∧
      middlemulPub c (montOps n kw rinv) p q = some (w.take q.length) ∧ (w.take q.length).length = q.length ∧
      ∀ i, i < q.length → mphi n rinv ((w.take q.length).getD i 0) =
        (poly (p.map (mphi n rinv)) * poly (q.map (mphi n rinv))).coeff (q.length - 1 + i) := by
  have h28 : 28 ≤ q.length := hq28
  have hh := (montOps_homC n kw rinv hn hR).toHomE.toHom
  obtain ⟨rts, e1, e2⟩ := fftMidmul_refines n k m hm hn hbits hk31 kw rinv q.length e p q hq hp he hpn hqn
  have hpow : isPow2 q.length = true := by
    unfold isPow2; rw [hq, Nat.log2_two_pow]; simp
  have h2k : 2 * q.length ≤ 2 ^ k := by
    calc 2 * q.length = 2 ^ (e + 1) := by rw [hq, pow_succ]; ring
      _ ≤ 2 ^ k := Nat.pow_le_pow_right (by decide) he
  obtain ⟨z, ez, lz, hz⟩ := mm_pow2 hh k q.length p q _ rfl hpow hp le_rfl h2k
  obtain ⟨w, ew⟩ : ∃ w, fftMidmul k (montOps n kw rinv) q.length p q = some w := by
    cases hf : fftMidmul k (montOps n kw rinv) q.length p q with
    | none => rw [hf] at ez; simp at ez
    | some w => exact ⟨w, rfl⟩
  have hzw : z = w.take q.length := by
    rw [ew] at ez; simpa using ez.symm
  refine ⟨rts, w, e1, by rw [e2, ew], ?_, by rw [← hzw]; exact lz, by rw [← hzw]; exact hz⟩
  unfold middlemulPub
  rw [if_neg (by omega), if_neg (by omega)]
  unfold FUEL middlemul
  rw [if_neg (by omega), if_neg (by omega), if_neg (by omega), if_neg (by omega), if_neg (by omega)]
  have hmode : mmMode c q.length = (1, k) := by
    unfold mmMode
    rw [hc]
    simp only
    rw [if_pos hq28, if_pos hpow]
  rw [hmode]
  simp only
  rw [ew]
  rfl

/-- the public routines on the operations the code runs: `Poly::div_mod_xn` under the Montgomery operations
(`q·z ≡ p (mod x^len)` read out of Montgomery form), any ring context -/
theorem div_mod_xn_mont (n kw rinv : Nat) (hn : 0 < n) (hR : 2 ^ (64 * kw) * rinv % n = 1 % n) (c : Ctx)
    (p q : List Nat) (hl : p.length = q.length) (h1 : 1 ≤ q.length) (h62 : q.length ≤ 2 ^ 62)
    (hfit : Fits c (q.length - q.length / 2))
    (hinv : ∃ i, (montOps n kw rinv).inv (q.getD 0 0) = some i) :
    ∃ z, divModXnPub c (montOps n kw rinv) p q = some z ∧ z.length = q.length ∧
      ∀ k, k < q.length →
        (poly (q.map (mphi n rinv)) * poly (z.map (mphi n rinv))).coeff k = (poly (p.map (mphi n rinv))).coeff k :=
  div_mod_xn_spec (montOps_homC n kw rinv hn hR).toHomE c p q hl h1 h62 hfit hinv

/-- `Poly::multi_eval` under the Montgomery operations: the values of `p` at all points -/
theorem multi_eval_mont (n kw rinv : Nat) (hn : 1 < n) (hR : 2 ^ (64 * kw) * rinv % n = 1 % n) (c : Ctx)
    (p a : List Nat) (hp1 : 1 ≤ p.length) (ha1 : 1 ≤ a.length) (h61 : max a.length (p.length - 1) ≤ 2 ^ 60)
    (hfit : Fits c (2 * max a.length (p.length - 1)))
    (hinv : ∃ i, (montOps n kw rinv).inv (montOps n kw rinv).one = some i) :
    ∃ v, multiEval c (montOps n kw rinv) p a = some v ∧ v.length = a.length ∧
      ∀ j, j < a.length →
        mphi n rinv (v.getD j 0) = (poly (p.map (mphi n rinv))).eval (mphi n rinv (a.getD j 0)) := by
  have : Fact (1 < n) := ⟨hn⟩
  exact multi_eval_spec (montOps_homC n kw rinv (by omega) hR).toHomE c p a hp1 ha1 h61 hfit hinv

/-- `Poly::roots_eval` under the Montgomery operations: `∏_i (b_j - a_i)`, both branches -/
theorem roots_eval_mont (n kw rinv : Nat) (hn : 1 < n) (hR : 2 ^ (64 * kw) * rinv % n = 1 % n)
    (a b : List Nat) (ha1 : 1 ≤ a.length) (hb2 : 2 ≤ b.length) (hb61 : Ymq.Checked.bitlen (b.length - 1) ≤ 61)
    (hinv : ∃ i, (montOps n kw rinv).inv (montOps n kw rinv).one = some i) :
    ∃ vals, rootsEval (montOps n kw rinv) a b = some vals ∧ vals.length = b.length ∧
      ∀ j, j < b.length →
        mphi n rinv (vals.getD j 0) = (a.map fun r => mphi n rinv (b.getD j 0) - mphi n rinv r).prod := by
  have : Fact (1 < n) := ⟨hn⟩
  exact roots_eval_spec (montOps_homC n kw rinv (by omega) hR) a b ha1 hb2 hb61 hinv

/-- **The Montgomery operations on reduced residues** (`montFin : Ops (Fin n)`: the same operations as `montOps`,
on the type of integers `< n` — `MInt`s are reduced by construction, here by typing) are an instance of the
coefficient operations of every arith_poly theorem (`HomC`, `x ↦ x·R⁻¹`). -/
theorem mont_fin_hom (n kw rinv : Nat) (hn : 0 < n) (hR : 2 ^ (64 * kw) * rinv % n = 1 % n) :
    HomC (montFin n kw rinv hn) (fun x => mphi n rinv x.val) :=
  montFin_homC n kw rinv hn hR

/-- **The production path of arith_poly, end to end: the exact product step of the models IS the code's
`_fft_longmul` over the word-level `convolve_modn_ntt`, ON EVERY INPUT.** For the Montgomery operations on
reduced residues, `n > 0` of at most 512 bits, `k ≤ 31`, the `MultiZmodP` built by the model of `new(zn, k)`
and its root tables: for ALL output lengths and ALL operand lists (no size or shape hypothesis: when the
code's checks fail — empty operand, `logsize = 0`, `mzp.k < logsize` — both sides are the same panic),
`fftLongmul k montFin zlen p q`, the step every arith_poly model calls on the NTT branch of `_longmul`, equals
`wordLongmul` = `_fft_longmul` as coded over the word-level model of `convolve_modn_ntt`
(`convolve_modn_ntt_spec`). Since the two functions are extensionally equal, every theorem about a model that
calls this step (`_longmul` in `mergeMonic`/`_product_tree`/`from_roots`, the Newton steps of `_inv_mod_xn`/
`_div_mod_xn`, the Barrett loop of `roots_eval`), instantiated at `montFin` by `mont_fin_hom`, is a theorem
about the composition with the word-level transform: the production path is covered without any assumption
on the NTT. -/
theorem fft_longmul_word_eq (n kw rinv : Nat) (hn : 0 < n) (k : Nat) (m : Ymq.Crt.Mzp)
    (hm : Ymq.Crt.new n k = some m) (hbits : Ymq.Checked.bitlen n ≤ 512) (hk31 : k ≤ 31)
    (rts : List (List (List Nat))) (hrts : Ymq.Crt.rootsPacked m = some rts) (zlen : Nat) (p q : List (Fin n)) :
    (fftLongmul k (montFin n kw rinv hn) zlen p q).map (·.map Fin.val) =
      wordLongmul m rts rinv zlen (p.map Fin.val) (q.map Fin.val) :=
  fftLongmul_word_eq k m hm hbits hk31 rts hrts zlen p q

/-- **The same for the middle-product step**: `fftMidmul k montFin zlen p q`, called by the models on both NTT
shortcuts of `_middlemul` (hence inside `_inv_mod_xn`, `_div_mod_xn`, `_multi_eval`, `multi_eval`,
`roots_eval`), equals on every input `wordMidmul` = `_fft_midmul` as coded (`assert!` on the power of two
and on `|p| = 2|q| - 1`, `convolve_modn_ntt(mzp, 2|q|, p, q, z, |q| - 1)`) over the word-level model. -/
theorem fft_midmul_word_eq (n kw rinv : Nat) (hn : 0 < n) (k : Nat) (m : Ymq.Crt.Mzp)
    (hm : Ymq.Crt.new n k = some m) (hbits : Ymq.Checked.bitlen n ≤ 512) (hk31 : k ≤ 31)
    (rts : List (List (List Nat))) (hrts : Ymq.Crt.rootsPacked m = some rts) (zlen : Nat) (p q : List (Fin n)) :
    (fftMidmul k (montFin n kw rinv hn) zlen p q).map (·.map Fin.val) =
      wordMidmul m rts rinv zlen (p.map Fin.val) (q.map Fin.val) :=
  fftMidmul_word_eq k m hm hbits hk31 rts hrts zlen p q

/-- `Poly::roots_eval` under the Montgomery operations (`pfm_roots_eval`), every `|b| ≥ 1` -/
theorem roots_eval_full_mont (n kw rinv : Nat) (hn : 1 < n) (hR : 2 ^ (64 * kw) * rinv % n = 1 % n)
    (a b : List Nat) (ha1 : 1 ≤ a.length) (hb1 : 1 ≤ b.length) (hb61 : Ymq.Checked.bitlen (b.length - 1) ≤ 61)
    (hinv : ∃ i, (montOps n kw rinv).inv (montOps n kw rinv).one = some i) :
    ∃ vals, rootsEval (montOps n kw rinv) a b = some vals ∧ vals.length = b.length ∧
      ∀ j, j < b.length →
        mphi n rinv (vals.getD j 0) = (a.map fun r => mphi n rinv (b.getD j 0) - mphi n rinv r).prod := by
  have : Fact (1 < n) := ⟨hn⟩
  exact roots_eval_full_spec (montOps_homC n kw rinv (by omega) hR) a b ha1 hb1 hb61 hinv

end Production

end Ymq.C10
