/-
C06 — Primality decisions are exact on 64 bits and one-sided above.
Only property theorems live here (helper lemmas: Ymq/Lemmas/Miller*.lean).

Models: `Ymq.Mg64.isprime64` (word-exact, Montgomery form, panics and fuel = `none`) and
`Ymq.Pseudoprime.pseudoprime` (ZmodN operations taken as exact modular arithmetic — C07).
The small-prime table, the three base sets, the two shift thresholds and the presence of the
even guard are *generated* from the Rust source (Ymq/Gen/Primality.lean); the proofs below
consume them through `decide` facts, so that a changed constant breaks the build.
`SPRP n b` is the textbook strong-probable-prime predicate (Ymq/Lemmas/MillerSpec.lean).
-/
import Ymq.Lemmas.MillerTiers

namespace Ymq.C06
open Ymq.Mg64 Ymq.Pseudoprime Ymq.Gen.Primality

/-- `mg_2adic_inv`: for every odd `n` the loop stops within the 65 turns of fuel of the model
(termination: the number of correct low bits grows at every turn), nothing overflows or underflows,
and the result `v < 2^64` satisfies `n v ≡ -1 (mod 2^64)`. -/
theorem mg2adicInv_spec (n : Nat) (hodd : n % 2 = 1) :
    ∃ v, mg2adicInv n = some v ∧ v < 2 ^ 64 ∧ (n * v + 1) % 2 ^ 64 = 0 := by
  simpa [W_eq] using mg2adicInv_odd n hodd

example : mg2adicInv 7 = some 10540996613548315209 := by decide +kernel

/-- The Miller closure of `isprime64` decides the strong-probable-prime predicate: on odd
`3 ≤ p < 2^64` the Montgomery set-up succeeds and, for every base `b < p`, `miller` does not
panic and answers `true` iff `p` is a strong probable prime to base `b`. -/
theorem miller_iff_sprp (p : Nat) (h3 : 3 ≤ p) (hodd : p % 2 = 1) (hlt : p < 2 ^ 64) :
    ∃ c, mkCtx p = some c ∧ ∀ b, b < p → ∃ r, miller c b = some r ∧ (r = true ↔ SPRP p b) := by
  rw [← W_eq] at hlt
  obtain ⟨pinv, hok, hmk⟩ := mkCtx_spec p (by omega) hodd hlt
  obtain ⟨_, _, hpd, hd, hd64⟩ := tz_podd_spec p (by omega) hodd hlt
  refine ⟨_, hmk, fun b hb => ⟨_, miller_eq_millerBase hok _ _ b hd64 hb, ?_⟩⟩
  exact millerBase_iff_SPRP p _ _ b (by omega) hodd hd hpd
    (lt_trans hd64 (Nat.pow_lt_pow_right (by decide) (by decide)))

example : SPRP 2047 2 := ⟨1023, 1, by decide, by decide, Or.inl (by decide +kernel)⟩

/-- **The 64-bit test never rejects a prime.** -/
theorem isprime64_complete (p : Nat) (hp : Nat.Prime p) (hlt : p < 2 ^ 64) :
    isprime64 p = some true := by
  rw [← W_eq] at hlt
  rcases Nat.lt_or_ge p 199 with h | h
  · rw [isprime64_small p h, (smallTable_exact p h).2 hp]
  · have hodd : p % 2 = 1 := by
      rcases hp.eq_two_or_odd with h2 | h2
      · omega
      · exact h2
    obtain ⟨_, _, hpd, _, hd64⟩ := tz_podd_spec p (by omega) hodd hlt
    rw [isprime64_odd_eq p h hodd hlt, Option.some.injEq, runTiersN_true_iff]
    intro t ht _ b hb
    obtain ⟨b0, b199⟩ := tiers_bases_small t ht b hb
    exact millerBase_prime p _ _ b hp hpd (fun hdv => by have := Nat.le_of_dvd b0 hdv; omega)
      (lt_trans hd64 (Nat.pow_lt_pow_right (by decide) (by decide)))

example : Nat.Prime 18446744073709551557 → isprime64 18446744073709551557 = some true :=
  fun h => isprime64_complete _ h (by decide)
example : isprime64 18446744073709551557 = some true := by decide +kernel

/-- **Even inputs**: the answer is `p = 2`, and the code returns (no hang, no panic).
Needs the generated flag `rejectsEven = true`: on a tree without the even guard this theorem does
not build (there `mg_2adic_inv` never returns for even `p ≥ 200`). -/
theorem isprime64_even (p : Nat) (heven : p % 2 = 0) (_hlt : p < 2 ^ 64) :
    isprime64 p = some (decide (p = 2)) := by
  rcases Nat.lt_or_ge p 199 with h | h
  · rw [isprime64_small p h, smallTable_even p h heven]
  · have hg : rejectsEven = true := by decide
    unfold isprime64
    rw [if_neg (by rw [smallTable_last]; omega), if_pos (by simp [hg, heven])]
    have : p ≠ 2 := by omega
    simp [this]

example : isprime64 200 = some false ∧ isprime64 2 = some true := by decide +kernel

/-- **Totality**: `isprime64` returns normally (no panic in either profile, loops within their
fuel) on every 64-bit input. -/
theorem isprime64_total (p : Nat) (hlt : p < 2 ^ 64) : isprime64 p ≠ none := by
  rcases Nat.lt_or_ge p 199 with h | h
  · rw [isprime64_small p h]; simp
  · rcases Nat.mod_two_eq_zero_or_one p with h2 | h2
    · rw [isprime64_even p h2 hlt]; simp
    · rw [isprime64_odd_eq p h h2 (by rw [W_eq]; exact hlt)]; simp

/-- **Soundness of the 64-bit test** relative to the published minimal strong pseudoprimes
(Pomerance–Selfridge–Wagstaff 1980, Jaeschke 1993, Sorenson–Webster 2015), which enter as the
explicit named hypotheses `Hψ2`, `Hψ5`, `Hψ12` with the literature constants written out:
no odd composite below ψ₂ = 1373653 is a strong probable prime to bases 2, 3; none below
ψ₅ = 2152302898747 to bases 2..11; none below 2^64 (< ψ₁₂) to the twelve prime bases up to 37.
The proof uses the *generated* tiers: `tiers_cover_0/20/40` (`decide`) say that the bases active
from 0, 2^20, 2^40 on contain these sets, and 2^20 ≤ ψ₂, 2^40 ≤ ψ₅. -/
theorem isprime64_sound
    (Hψ2 : ∀ n, n % 2 = 1 → 1 < n → n < 1373653 → (∀ b ∈ [2, 3], SPRP n b) → Nat.Prime n)
    (Hψ5 : ∀ n, n % 2 = 1 → 1 < n → n < 2152302898747 →
      (∀ b ∈ [2, 3, 5, 7, 11], SPRP n b) → Nat.Prime n)
    (Hψ12 : ∀ n, n % 2 = 1 → 1 < n → n < 2 ^ 64 →
      (∀ b ∈ [2, 3, 5, 7, 11, 13, 17, 19, 23, 29, 31, 37], SPRP n b) → Nat.Prime n)
    (p : Nat) (hlt : p < 2 ^ 64) (h : isprime64 p = some true) : Nat.Prime p := by
  rcases Nat.lt_or_ge p 199 with h199 | h199
  · rw [isprime64_small p h199] at h
    exact (smallTable_exact p h199).1 (Option.some.inj h)
  · rcases Nat.mod_two_eq_zero_or_one p with h2 | hodd
    · exfalso
      rw [isprime64_even p h2 hlt] at h
      have : p ≠ 2 := by omega
      simp [this] at h
    · have hltW : p < W := by rw [W_eq]; exact hlt
      obtain ⟨_, _, hpd, hd, hd64⟩ := tz_podd_spec p (by omega) hodd hltW
      rw [isprime64_odd_eq p h199 hodd hltW] at h
      have hrun := Option.some.inj h
      have hd1024 := lt_trans hd64 (Nat.pow_lt_pow_right (by decide : 1 < 2) (by decide : 64 < 1024))
      have sprp : ∀ k, 2 ^ k ≤ p → ∀ b ∈ basesUpTo k tiers, SPRP p b := fun k hk b hb =>
        (millerBase_iff_SPRP p _ _ b (by omega) hodd hd hpd hd1024).1
          (runTiersN_basesUpTo hk hrun hb)
      rcases Nat.lt_or_ge p (2 ^ 20) with c20 | c20
      · exact Hψ2 p hodd (by omega) (lt_of_lt_of_le c20 (by norm_num))
          (fun b hb => sprp 0 (by omega) b (tiers_cover_0 b hb))
      · rcases Nat.lt_or_ge p (2 ^ 40) with c40 | c40
        · exact Hψ5 p hodd (by omega) (lt_of_lt_of_le c40 (by norm_num))
            (fun b hb => sprp 20 c20 b (tiers_cover_20 b hb))
        · exact Hψ12 p hodd (by omega) hlt
            (fun b hb => sprp 40 c40 b (tiers_cover_40 b hb))

/-- **Exactness on 64 bits** (the statement of the property), under the same three literature
hypotheses: `isprime64 p` returns, and returns `true` exactly for the primes. -/
theorem isprime64_exact
    (Hψ2 : ∀ n, n % 2 = 1 → 1 < n → n < 1373653 → (∀ b ∈ [2, 3], SPRP n b) → Nat.Prime n)
    (Hψ5 : ∀ n, n % 2 = 1 → 1 < n → n < 2152302898747 →
      (∀ b ∈ [2, 3, 5, 7, 11], SPRP n b) → Nat.Prime n)
    (Hψ12 : ∀ n, n % 2 = 1 → 1 < n → n < 2 ^ 64 →
      (∀ b ∈ [2, 3, 5, 7, 11, 13, 17, 19, 23, 29, 31, 37], SPRP n b) → Nat.Prime n)
    (p : Nat) (hlt : p < 2 ^ 64) : ∃ r, isprime64 p = some r ∧ (r = true ↔ Nat.Prime p) := by
  cases hr : isprime64 p with
  | none => exact absurd hr (isprime64_total p hlt)
  | some r =>
    refine ⟨r, rfl, ?_, ?_⟩
    · intro hrt; subst hrt; exact isprime64_sound Hψ2 Hψ5 Hψ12 p hlt hr
    · intro hp
      have := isprime64_complete p hp hlt
      rw [hr] at this; exact Option.some.inj this

/-- The constants of `Hψ2` and `Hψ5` are sharp, and `SPRP` means what the literature means: ψ₂ is
composite and a strong probable prime to bases 2 and 3 (not 5); ψ₅ to bases 2, 3, 5, 7, 11 (not
13). Hence neither bound can be raised and the thresholds 2^20, 2^40 of the code cannot be moved
above ψ₂, ψ₅. -/
example : SPRP 1373653 2 ∧ SPRP 1373653 3 ∧ ¬ SPRP 1373653 5 ∧ ¬ Nat.Prime 1373653 := by
  refine ⟨?_, ?_, ?_, ?_⟩
  · exact (sprp_iff_millerBase _ _ (by decide) (by decide) (by decide)).2 (by decide +kernel)
  · exact (sprp_iff_millerBase _ _ (by decide) (by decide) (by decide)).2 (by decide +kernel)
  · rw [sprp_iff_millerBase _ _ (by decide) (by decide) (by decide)]; decide +kernel
  · intro h
    have := h.eq_one_or_self_of_dvd 829 ⟨1657, by decide⟩
    omega

example : (∀ b ∈ [2, 3, 5, 7, 11], SPRP 2152302898747 b) ∧ ¬ SPRP 2152302898747 13 ∧
    ¬ Nat.Prime 2152302898747 := by
  refine ⟨?_, ?_, ?_⟩
  · intro b hb
    rw [sprp_iff_millerBase _ _ (by decide) (by decide) (by decide)]
    revert b; decide +kernel
  · rw [sprp_iff_millerBase _ _ (by decide) (by decide) (by decide)]; decide +kernel
  · intro h
    have := h.eq_one_or_self_of_dvd 6763 ⟨10627 * 29947, by decide⟩
    omega

/-- the premise of soundness is satisfiable, and a composite that fools bases 2 and 3 alone
(ψ₂ itself, above 2^20) is rejected by the model thanks to the second tier -/
example : isprime64 1000003 = some true ∧ isprime64 1373653 = some false := by decide +kernel

/-! ### `pseudoprime` (multiprecision) -/

/-- **`pseudoprime` never rejects a prime**, at every size the function accepts (`ZmodN::new`
asserts at most 512 bits; see `pseudoprime_oversize`). -/
theorem pseudoprime_complete (p : Nat) (hp : Nat.Prime p) (hlt : p < 2 ^ 512) :
    pseudoprime p = some true := by
  unfold pseudoprime
  rcases hp.eq_two_or_odd with h2 | hodd
  · subst h2; rfl
  · rw [if_neg (by omega)]
    by_cases hW : p < W
    · rw [if_pos hW]; exact isprime64_complete p hp (by rw [← W_eq]; exact hW)
    · rw [if_neg hW, if_neg (by omega)]
      simp only [Option.some.injEq, List.all_eq_true]
      intro b hb
      obtain ⟨b0, bW⟩ := smallPrimes_small b hb
      refine millerBase_prime p _ _ b hp (pp_split p hodd)
        (fun hdv => by have := Nat.le_of_dvd b0 hdv; omega) ?_
      calc p / 2 ^ tz64 (p % W - 1) ≤ p := Nat.div_le_self _ _
        _ < 2 ^ 512 := hlt
        _ < 2 ^ 1024 := Nat.pow_lt_pow_right (by decide) (by decide)

/-- a 68-bit prime whose low word is 1 (`p = 12·2^64 + 1`: the `s = 64`, even `p >> s` corner)
is accepted by the model -/
example : pseudoprime 221360928884514619393 = some true := by decide +kernel

/-- **Even inputs** of any size: the answer is `p = 2`. -/
theorem pseudoprime_even (p : Nat) (heven : p % 2 = 0) : pseudoprime p = some (decide (p = 2)) := by
  unfold pseudoprime; rw [if_pos heven]

example : pseudoprime (2 ^ 700) = some false ∧ pseudoprime 2 = some true := by
  constructor
  · rw [pseudoprime_even _ (by decide +kernel)]; decide +kernel
  · decide +kernel

/-- **Agreement with the 64-bit test** on every input that fits in 64 bits (including the even
ones, which `pseudoprime` answers itself). -/
theorem pseudoprime_eq_isprime64 (p : Nat) (hlt : p < 2 ^ 64) : pseudoprime p = isprime64 p := by
  rcases Nat.mod_two_eq_zero_or_one p with h2 | h2
  · rw [pseudoprime_even p h2, isprime64_even p h2 hlt]
  · unfold pseudoprime
    rw [if_neg (by omega), if_pos (by rw [W_eq]; exact hlt)]

example : pseudoprime 1373653 = some false := by
  rw [pseudoprime_eq_isprime64 _ (by norm_num)]; decide +kernel

/-- `pseudoprime` returns normally on every input below 2^512. -/
theorem pseudoprime_total (p : Nat) (hlt : p < 2 ^ 512) : pseudoprime p ≠ none := by
  rcases Nat.mod_two_eq_zero_or_one p with h2 | h2
  · rw [pseudoprime_even p h2]; simp
  · by_cases hW : p < 2 ^ 64
    · rw [pseudoprime_eq_isprime64 p hW]; exact isprime64_total p hW
    · unfold pseudoprime
      rw [if_neg (by omega), if_neg (by rw [W_eq]; exact hW), if_neg (by omega)]
      simp

/-- Odd inputs of more than 512 bits are *refused by a panic* (`assert!` in `ZmodN::new`), in
both build profiles: the model returns `none`. (This is finding F12 of DESIGN.md §4, judged under
C03; it bounds `pseudoprime_complete`.) -/
theorem pseudoprime_oversize (p : Nat) (hodd : p % 2 = 1) (hge : 2 ^ 512 ≤ p) :
    pseudoprime p = none := by
  unfold pseudoprime
  have : ¬ p < W := by
    rw [W_eq]
    have : (2 : Nat) ^ 64 < 2 ^ 512 := Nat.pow_lt_pow_right (by decide) (by decide)
    omega
  rw [if_neg (by omega), if_neg this, if_pos hge]

end Ymq.C06
