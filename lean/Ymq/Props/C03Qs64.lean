/-
C03 / C01 / C11 for `qsieve64::qsieve` (selector `Qs64`): the small hard-coded quadratic sieve is
INSIDE the model (Ymq/Model/Qsieve64.lean mirrors src/qsieve64.rs line by line down to the call of
`relations::final_step`, and the lines after it). The property theorems live here (with three
arithmetic helpers: `qs64_proper_of_ne`, `small_prime_mem`, `not_square_of_between`); lemmas about
the model: Ymq/Lemmas/Qsieve64{Valid,Sieve,Total}.lean.

Reading guide. `qsRels n k = .ok o`: with multiplier `k`, the real function reaches either an early
`return Some((a, b))` (`o = .early a b`) or the call `final_step(n, fb, rels)` (`o = .rels fb rels`)
without meeting any panic site of the checked profile (assertion, overflow/underflow, index, division
by zero) and every loop terminates. `qsieve n k kernel isPrime` continues through the model of
`final_step` (C11; the kernel vectors and `pseudoprime` are inputs there). The multiplier `k` is an
input: `select_multiplier` picks it with `f64` arithmetic (not modelled); its integer part guarantees
`1 ≤ k < 30` and `n·k < 2^64`.

What `factor_impl` (lib.rs) guarantees when it calls `qsieve(n)`: `n` fits 64 bits (`assert!`), is
not 1, has no prime factor in `SMALL_PRIMES` (2..199, removed by `factor`; the recursive calls receive
divisors of such numbers), is not a perfect power and not a (pseudo)prime. `Admissible n` keeps the
two facts the proofs need: no prime factor below 200, not a perfect square.
-/
import Ymq.Lemmas.Qsieve64Total
import Ymq.Props.C11
import Ymq.Lemmas.FactorClosed
import Mathlib.Algebra.GCDMonoid.Nat
import Mathlib.Tactic.IntervalCases

namespace Ymq.C03Qs64
open Ymq.Relations Ymq.Qsieve64
open Ymq.Gen.Primality (smallPrimes)

/-- what `factor` / `factor_impl` guarantee about the argument of `qsieve64::qsieve` -/
def Admissible (n : Nat) : Prop := (∀ p ∈ smallPrimes, ¬ p ∣ n) ∧ ∀ s : Nat, n ≠ s * s

/-- Every relation `qsieve` hands to `final_step` — for EVERY `n` and EVERY multiplier `k`, whatever
the sieve marked — is complete (cofactor 1: a pending large cofactor `c` enters only combined with
its partner, as the factor `(c, 2)`) and a true congruence `x² ≡ ∏ pᵉ (mod n)` (sign included as the
base `-1`), with bases `-1` or in `[0, 2^63)`: C11's `FinalRel`, the input contract of the
exponent-accumulation theorem `C11.even_combination_square`. -/
theorem qs64_relations_valid (n k : Nat) (fb : List FbEntry) (rels : List Relation)
    (h : qsRels n k = .ok (.rels fb rels)) :
    ∀ r ∈ rels, r.cofactor = 1 ∧ (r.x : Int) * r.x ≡ fprod r.factors [ZMOD n] ∧
      ∀ f ∈ r.factors, f.1 = -1 ∨ (0 ≤ f.1 ∧ f.1 < (2 ^ 63 : Int)) := by
  intro r hr
  obtain ⟨h1, h2, h3⟩ := qsRels_valid h r hr
  refine ⟨h1, ?_, ?_⟩
  · unfold Valid at h2
    rw [h1] at h2
    simpa using h2
  · intro f hf
    rw [← I63_eq]; exact h3 f hf

/-- the same in C11's vocabulary -/
theorem qs64_relations_finalRel (n k : Nat) (fb : List FbEntry) (rels : List Relation)
    (h : qsRels n k = .ok (.rels fb rels)) : ∀ r ∈ rels, FinalRel n r :=
  qsRels_valid h

/-- `UsesQs64` for the model (the hypothesis of Ymq/Lemmas/FactorClosed.lean, with one more conjunct:
the relations satisfy `FinalRel`): when neither `n` nor `n·k` is a perfect square (true for every admissible `n`, `admissible_not_square`)
a result `Some((a, b))` of `qsieve` is `(d, n / d)` for the first element `d` of the list returned by
the modelled `final_step` on SOME factor base and relations that satisfy C11's input contract
`FinalRel` (the proof takes those of the model, `qsRels`; the statement does not say so). -/
theorem qs64_uses_final_step (n k : Nat) (kernel : List (List Nat)) (isPrime : Nat → Bool) (a b : Nat)
    (hn : n < 2 ^ 64) (hsq : ∀ s : Nat, n ≠ s * s) (hnk : ∀ s : Nat, n * k ≠ s * s)
    (h : qsieve n k kernel isPrime = .ok (some (a, b))) :
    ∃ fb rels kernel isPrime slots cnt ds,
      finalStep n fb rels kernel isPrime = .ok (slots, cnt, ds) ∧ ds.head? = some a ∧ b = n / a ∧
      ∀ r ∈ rels, FinalRel n r := by
  rcases qsieve_some h with hs | ⟨fb, rels, slots, cnt, ds, d, ho, hfs, hd, rfl, rfl⟩
  · exfalso
    rcases setup_early hs with ⟨_, h2⟩ | ⟨h2, _⟩
    · exact hsq _ h2
    · exact hnk _ h2
  · obtain ⟨_, h2, _⟩ := Ymq.C11.final_step_proper n _ rels kernel isPrime slots cnt ds hfs d
      (List.mem_of_mem_head? hd)
    rw [Nat.mod_eq_of_lt (by rw [W64_eq]; omega)]
    exact ⟨_, rels, kernel, isPrime, slots, cnt, ds, hfs, hd, rfl, qsRels_valid ho⟩

/-- a returned pair is a proper split as soon as `2 ≤ n` and the multiplier is not `n` itself -/
theorem qs64_proper_of_ne {n k : Nat} {kernel : List (List Nat)} {isPrime : Nat → Bool} {a b : Nat}
    (hn : n < 2 ^ 64) (hn2 : 2 ≤ n) (hne : k ≠ n)
    (h : qsieve n k kernel isPrime = .ok (some (a, b))) : a * b = n ∧ 1 < a ∧ 1 < b := by
  rcases qsieve_some h with hs | ⟨fb, rels, slots, cnt, ds, d, _, hfs, hd, rfl, rfl⟩
  · rcases setup_early hs with ⟨rfl, h2⟩ | ⟨h2, h3, h4⟩
    · have h1a : 1 < a := by
        by_contra hle
        have := Nat.mul_le_mul (Nat.le_of_not_lt hle) (Nat.le_of_not_lt hle)
        omega
      exact ⟨h2.symm, h1a, h1a⟩
    · -- `b ≤ 1` would give `n = a·b ≤ b ≤ 1` since `a = b / k ≤ b`
      have hb1 : 1 < b := by
        by_contra hle
        have := Nat.mul_le_mul (h4 ▸ Nat.div_le_self b k : a ≤ b) (Nat.le_of_not_lt hle)
        omega
      refine ⟨h3.symm, ?_, hb1⟩
      -- `a ≤ 1` would give `n = 0` or `n = b`, then `n·k = n·n` and `k = n`
      by_contra hle
      rcases (by omega : a = 0 ∨ a = 1) with h0 | h1
      · rw [h0] at h3; omega
      · rw [h1, Nat.one_mul] at h3
        rw [← h3] at h2
        exact hne (Nat.eq_of_mul_eq_mul_left (by omega) h2)
  · obtain ⟨h1, h2, h3⟩ := Ymq.C11.final_step_proper n _ rels kernel isPrime slots cnt ds hfs d
      (List.mem_of_mem_head? hd)
    rw [Nat.mod_eq_of_lt (by rw [W64_eq]; omega)]
    refine ⟨Nat.mul_div_cancel' h3, h1, ?_⟩
    by_contra hle
    have := Nat.mul_le_mul_left d (Nat.le_of_not_lt hle)
    have := Nat.mul_div_cancel' h3
    omega

/-- Whenever `qsieve` returns `Some((a, b))` for `30 ≤ n < 2^64` and a multiplier `k < 30`, the pair
is a proper split: `a·b = n`, `1 < a`, `1 < b` — the two early exits (perfect square `n`, perfect
square `n·k`) included; for the main exit this is C11 `final_step_proper`. The bound `30 ≤ n` only
excludes `n = k`, see `qs64_improper_when_n_eq_k`. -/
theorem qs64_proper (n k : Nat) (kernel : List (List Nat)) (isPrime : Nat → Bool) (a b : Nat)
    (hn : n < 2 ^ 64) (hk : k < 30) (hn30 : 30 ≤ n)
    (h : qsieve n k kernel isPrime = .ok (some (a, b))) : a * b = n ∧ 1 < a ∧ 1 < b :=
  qs64_proper_of_ne hn (by omega) (by omega) h

/-- Counter-witness for `n < 30`: when the multiplier equals `n` (then `n·k = n²`) the second early
exit returns `(nsqrt / k, nsqrt) = (1, n)`. The real `select_multiplier` does choose `k = n` for
`n = 6, 15, 21, …` (`qsieve(6) = Some((1, 6))` on the real code, both profiles). Unreachable from
`factor`: such `n` have prime factors below 200. -/
theorem qs64_improper_when_n_eq_k :
    (qsieve 6 6 [] (fun _ => true)).toOption = some (some (1, 6)) := by
  decide +kernel

theorem small_prime_mem : ∀ q, q < 30 → q.Prime → q ∈ smallPrimes := by
  intro q hq hp
  interval_cases q <;> first | decide | (exfalso; revert hp; norm_num)

/-- for an admissible `n` no multiplier below 30 makes `n·k` a perfect square -/
theorem admissible_not_square (n k : Nat) (hk1 : 1 ≤ k) (hk : k < 30) (ha : Admissible n) :
    ∀ s : Nat, n * k ≠ s * s := by
  obtain ⟨hsmall, hns⟩ := ha
  intro s hs
  have hcop : Nat.Coprime n k := by
    rw [Nat.coprime_iff_gcd_eq_one]
    by_contra hg
    obtain ⟨q, hq, hqd⟩ := Nat.exists_prime_and_dvd hg
    have hqn : q ∣ n := dvd_trans hqd (Nat.gcd_dvd_left n k)
    have hqk : q ∣ k := dvd_trans hqd (Nat.gcd_dvd_right n k)
    have : q ≤ k := Nat.le_of_dvd (by omega) hqk
    exact hsmall q (small_prime_mem q (by omega) hq) hqn
  have : ∃ d, n = d ^ 2 := by
    refine exists_eq_pow_of_mul_eq_pow (b := k) (c := s) ?_ (by rw [hs]; ring)
    rw [Nat.isUnit_iff]
    exact hcop
  obtain ⟨d, hd⟩ := this
  exact hns d (by rw [hd]; ring)

/-- `Admissible` from the model of what `factor_impl` tests before it dispatches: no small prime
divides `n` (trial division in `factor`) and `arith::perfect_power(n)` returned `None` (C08 model):
the exponent 2 is tried first, with the exact floor square root. -/
theorem admissible_of_guards (n : Nat) (hsmall : ∀ p ∈ smallPrimes, ¬ p ∣ n)
    (hpp : Ymq.Arith.perfectPower n = some none) : Admissible n :=
  ⟨hsmall, fun s hs =>
    (Ymq.Arith.ppFuel_spec _ n none hpp).1 2 (by decide) ⟨s, by rw [hs, Nat.pow_two]⟩⟩

/-- The sieve / relation part of `qsieve` reaches NO panic site, for every `n` and `k` such that
`n·k` fits a `u64` and is not a perfect square: `isqrt² `, `n * k`, `2 * nsqrt`, `nk - nsqrt²`; every
`sqrt_mod` and `Dividers::new` of `FBase::new64` and its assertion (C08); the `i64` expressions
`rt as i64 - offset - nsqrt as i64`, `i as i64 + offset`, `nsqrt as i64 + x`,
`(x + b as i64) * x - c as i64`, `-v`; `Dividers::modi64` / `divmod64` (C08); the `u8` accumulator
`interval[off] += logp` (at most 177, although the `logp` of the whole factor base can add up to
292: the distinct primes `p > 3` that divide the sieved value `V ≠ 0`, `|V| ≤ 2^56`, have product
`≤ |V|`, and each is counted at most twice); `n.bits()/2 + 16 - maxlarge.bits() - 2`; the
trial-division loops terminate because `V ≠ 0`; `dummy_rset.combine` meets equal non-zero cofactors,
its `u64` exponent sums stay below 2·2991. No hypothesis on parity or size of `n` is needed here
(the panics for even or tiny `n` are inside `final_step`). -/
theorem qs64_no_panic_of_nonsquare (n k : Nat) (h64 : n * k < 2 ^ 64)
    (hsq : ∀ s : Nat, n * k ≠ s * s) : ∃ o, qsRels n k = .ok o :=
  qsRels_total h64 hsq

/-- … in particular for every `n` that `factor_impl` can pass and every multiplier inside the
contract of `select_multiplier`. -/
theorem qs64_no_panic (n k : Nat) (hk1 : 1 ≤ k) (hk : k < 30) (h64 : n * k < 2 ^ 64)
    (ha : Admissible n) : ∃ o, qsRels n k = .ok o :=
  qsRels_total h64 (admissible_not_square n k hk1 hk ha)

/-- The hypothesis "`n·k` is not a perfect square" is needed for the MODEL's contract on `k`
(`1 ≤ k < 30`, `n·k < 2^64`): for `n = 18`, `k = 8` (`n·k = 12²`, `12 / 8 · 12 ≠ 18`: no early exit)
the candidate at `x = 0` has `v = 0` and its trial-division loop never terminates (`.fuel`); before
that, in the first block every prime of the base hits that position and `Σ logp = 292` overflows
the `u8` (the driver answers `panic` for `qs64_rels 18 8`; too slow for the kernel). The
real `select_multiplier` prefers the square-free multiplier (`k = 2` for `n = 18`, with an early
exit): no `n` was found for which it selects such a `k` (6783 candidates `n = s·m²` scanned). -/
theorem qs64_square_nk_counterexample :
    (match setup 18 8 with
      | .ok (.run c) =>
        (match candidate c (blockOffset c 0) c.bsize with | .error .fuel => true | _ => false)
      | _ => false) = true := by
  decide +kernel

/-- the `qs64` field of an oracle of the `Factor` model answers with the model of `qsieve`, for some
multiplier, kernel vectors and primality answers, on a 64-bit `n` such that neither `n` nor `n·k` is
a perfect square (every `n` that `factor_impl` passes, `admissible_of_guards` and
`admissible_not_square`). It serves `usesQs64_of_model`, i.e. the hypothesis `UsesQs64` of the closed
theorems of Props/C01Closed.lean; those of Props/C01Closed2/3 go through `Factor.Qs64Model`
(Lemmas/FactorClosed2.lean: `k < 30`, no condition on `n`) and `qs64_proper` instead. -/
def Qs64IsModel {σ : Type} (o : Ymq.Factor.Oracle σ) : Prop :=
  ∀ t n a b, (o.qs64 t n).1 = some (a, b) →
    ∃ k kernel isPrime, n < 2 ^ 64 ∧ (∀ s : Nat, n ≠ s * s) ∧ (∀ s : Nat, n * k ≠ s * s) ∧
      qsieve n k kernel isPrime = .ok (some (a, b))

/-- … then the hypothesis `UsesQs64` of Ymq/Lemmas/FactorClosed.lean (otherwise tied to the code
only by the exploration of C01) holds: "whatever `qs64` returns comes out of the modelled `final_step`". -/
theorem usesQs64_of_model {σ : Type} (o : Ymq.Factor.Oracle σ) (h : Qs64IsModel o) :
    Ymq.Factor.UsesQs64 o := by
  intro t n a b hq
  obtain ⟨k, kernel, isPrime, hn, hsq, hnk, hm⟩ := h t n a b hq
  obtain ⟨fb, rels, kernel', isPrime', slots, cnt, ds, h1, h2, h3, _⟩ :=
    qs64_uses_final_step n k kernel isPrime a b hn hsq hnk hm
  exact ⟨fb, rels, kernel', isPrime', slots, cnt, ds, h1, h2, h3⟩

theorem not_square_of_between {n r : Nat} (h1 : r * r < n) (h2 : n < (r + 1) * (r + 1)) :
    ∀ s : Nat, n ≠ s * s :=
  fun s hs => Nat.not_exists_sq h1 h2 ⟨s, hs.symm⟩

/-- `n = 47053 = 211·223` is admissible; the real `select_multiplier` chooses `k = 13` for it. -/
example : Admissible 47053 ∧ 1 ≤ 13 ∧ 13 < 30 ∧ 47053 * 13 < 2 ^ 64 :=
  ⟨⟨by decide, not_square_of_between (r := 216) (by norm_num) (by norm_num)⟩, by decide, by decide,
    by norm_num⟩

def ex_r4 : Relation :=
  { x := 3310, cofactor := 1, cyclelen := 1, factors := [(3, 2), (7, 1), (11, 2), (23, 1), (59, 1)] }
def ex_r12 : Relation :=
  { x := 3302, cofactor := 593, cyclelen := 1, factors := [(3, 1), (5, 1), (13, 1), (89, 1)] }
def ex_r93 : Relation :=
  { x := 3221, cofactor := 593, cyclelen := 1, factors := [(2, 4), (3, 1), (7, 3)] }
def ex_rr : Relation :=
  { x := 1764, cofactor := 1, cyclelen := 2,
    factors := [(2, 4), (3, 2), (7, 3), (5, 1), (13, 1), (89, 1), (593, 2)] }

/-- the model on `n = 47053`, `k = 13` (multiplier above 1, `nsqrt = 782`): the candidate at index 4
of the first block (`offset = −4096`) has `u = nsqrt + x = −3310 < 0` and is the complete relation
`3310² ≡ 3²·7·11²·23·59`; the candidates at indices 12 and 93 both have the cofactor 593 and are
combined into a relation in which 593 appears squared. All of them are congruences modulo `n`. -/
example :
    (match setup 47053 13 with
      | .ok (.run c) =>
        decide (c.nsqrt = 782 ∧ blockOffset c 0 = -4096) &&
        decide ((candidate c (blockOffset c 0) 4).toOption = some (some ex_r4)) &&
        decide ((candidate c (blockOffset c 0) 12).toOption = some (some ex_r12)) &&
        decide ((candidate c (blockOffset c 0) 93).toOption = some (some ex_r93)) &&
        decide (((process c ex_r12 { rels := [], larges := [] }).bind (process c ex_r93)).toOption.map
          (fun s => (s.rels, s.larges)) = some ([ex_rr], [(593, ex_r12)])) &&
        decide (Valid 47053 ex_r4 ∧ Valid 47053 ex_r12 ∧ Valid 47053 ex_r93 ∧ Valid 47053 ex_rr)
      | _ => false) = true := by
  decide +kernel

end Ymq.C03Qs64
