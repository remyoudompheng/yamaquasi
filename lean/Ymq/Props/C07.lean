/-
C07 — Montgomery modular arithmetic equals ordinary arithmetic modulo n.
Only property theorems live here (helper lemmas: Ymq/Lemmas/{MontCore, Mg64, Inv2adic, M128, Limbs, ZmodN*, ArithGcd}.lean).

Reading guide. `ZmodN.Valid c` (Ymq/Lemmas/ZmodN.lean) says that the context `c` is what
`ZmodN::new` builds: `1 ≤ k ≤ 8`, `n` odd, `n < W^k` (`W = 2^64`, so `R = W^k = 2^(64k)`),
`n·ninv ≡ -1 (mod 2^64)`, `r`, `r2` = the 8-word forms of `R mod n`, `R² mod n`; `new_spec` proves
that `new n` returns such a context for every odd `n < 2^512`. An `MInt` is a list `m` with
`m.length = 8` and `Wf m` (all entries `< 2^64`); `val m` is its integer value. `f … = some r`
means "the Rust routine returns `r` without reaching any panic site (debug assertion, overflow
check, index check) in either build profile".
All theorems are about the word-level model (Ymq/Model/{Mg64,Limbs,ZmodN,M128}.lean).
-/
import Ymq.Lemmas.Mg64
import Ymq.Lemmas.ZmodNNew
import Ymq.Lemmas.M128
import Ymq.Model.Mg64Inv
import Ymq.Lemmas.ArithGcd

namespace Ymq.C07

section Word64
open Ymq.Mg64

/-- `mg_redc`: on its documented domain (`x < n·2^64`, `n·ninv ≡ -1 mod 2^64`) the routine does
not panic (no underflow/overflow/debug assertion in either profile), returns a fully reduced
residue `r < n`, and `r·2^64 ≡ x (mod n)`. -/
theorem mgRedc_spec (n ninv x : Nat) (hn : 0 < n) (hnW : n < W) (hninv : (n * ninv + 1) % W = 0)
    (hx : x < n * W) :
    ∃ r, mgRedc n ninv x = some r ∧ r < n ∧ r * W % n = x % n :=
  mgRedc_of_lt hn le_rfl hnW.le hninv hx

/-- `mg_mul`: Montgomery product of two reduced residues. -/
theorem mgMul_spec (n ninv x y : Nat) (hn : 0 < n) (hnW : n < W) (hninv : (n * ninv + 1) % W = 0)
    (hx : x < n) (hy : y < W) :
    ∃ r, mgMul n ninv x y = some r ∧ r < n ∧ r * W % n = x * y % n :=
  mgMul_of_lt hn hnW hninv hx hy

/-- `mg_2adic_inv`: for every odd `n` (a `u64`; the statement does not even need `n < 2^64`) the
loop terminates within the fuel (at most 64 turns), nothing overflows, and the result `v < 2^64`
satisfies `n·v ≡ -1 (mod 2^64)`. (Loop analysis: Ymq/Lemmas/Inv2adic.lean, shared with C06.) -/
theorem mg2adicInv_spec (n : Nat) (hodd : n % 2 = 1) :
    ∃ v, mg2adicInv n = some v ∧ v < W ∧ (n * v + 1) % W = 0 :=
  mg2adicInv_odd n hodd

/-- non-vacuity: the hypotheses are met by n = 7, ninv = 10540996613548315209. -/
example : (7 * 10540996613548315209 + 1) % W = 0 ∧ mgMul 7 10540996613548315209 3 5 = some 4 ∧
    4 * W % 7 = 3 * 5 % 7 := by decide

/-- `mg_inv(n, ninv, r2, x)` (64-bit inversion in Montgomery form: input `x = a·R`, output `R/a`), for
every odd `n < 2^64`, valid `ninv`, any words `r2`, `x`: no panic site of `mg_redc`, `inv_mod64`
(C08 model and theorem `invMod64_spec`, i128 extended Euclid after the repair dd3553b) or `mg_mul` is
reached; the call returns `None` exactly when `gcd(x, n) ≠ 1`, and otherwise `r < n` with
`r·x ≡ r2 (mod n)` — with the intended `r2 = R² mod n` this is `r·x ≡ R²`, i.e. `r = (x/R)⁻¹·R`. -/
theorem mgInv_spec (n ninv r2 x : Nat) (hodd : n % 2 = 1) (hnW : n < W)
    (hninv : (n * ninv + 1) % W = 0) (hr2 : r2 < W) (hx : x < W) :
    (Nat.gcd x n = 1 → ∃ r, mgInv n ninv r2 x = some (some r) ∧ r < n ∧ r * x % n = r2 % n) ∧
    (Nat.gcd x n ≠ 1 → mgInv n ninv r2 x = some none) := by
  have hn : 0 < n := by omega
  have hW64 : W = 2 ^ 64 := W_eq
  have hcop : Nat.Coprime W n := (W_eq ▸ Mont.coprime_two_pow hodd 64).symm
  obtain ⟨mm, e1, e2, e3⟩ := mgRedc_spec n ninv x hn hnW hninv
    (lt_of_lt_of_le hx (Nat.le_mul_of_pos_left W hn))
  have hg : Nat.gcd mm n = Nat.gcd x n :=
    (Nat.Coprime.gcd_mul_right_cancel mm hcop).symm.trans (Nat.ModEq.gcd_eq e3)
  obtain ⟨i1, i2⟩ := Ymq.Arith.invMod64_spec mm n (by rw [← hW64]; exact lt_trans e2 hnW)
    (by rw [← hW64]; exact hnW) hn
  unfold mgInv
  rw [e1]
  constructor
  · intro hgx
    obtain ⟨mi, f1, f2, f3⟩ := i1 (by rw [hg]; exact hgx)
    obtain ⟨r, g1, g2, g3⟩ := mgMul_spec n ninv mi r2 hn hnW hninv f2 hr2
    simp only [f1, g1]
    refine ⟨r, rfl, g2, ?_⟩
    -- r·W ≡ mi·r2, mm·W ≡ x, mm·mi ≡ 1  ⟹  r·x ≡ r·mm·W ≡ mi·r2·mm ≡ r2
    have hA : r * W ≡ mi * r2 [MOD n] := g3
    have hB : mm * W ≡ x [MOD n] := e3
    have hC : mm * mi ≡ 1 [MOD n] := f3
    calc r * x ≡ r * (mm * W) [MOD n] := hB.symm.mul_left r
      _ = (r * W) * mm := by ring
      _ ≡ (mi * r2) * mm [MOD n] := hA.mul_right mm
      _ = (mm * mi) * r2 := by ring
      _ ≡ 1 * r2 [MOD n] := hC.mul_right r2
      _ = r2 := Nat.one_mul r2
  · intro hgx
    simp only [i2 (by rw [hg]; exact hgx)]

/-- non-vacuity / concrete values: n = 2^64 - 59 (above 2^63), r2 = R² mod n; a non-unit for n = 15. -/
example :
    mgInv 18446744073709551557 14694863923124558067 3481 12345 = some (some 7810541212902375536) ∧
    7810541212902375536 * 12345 % 18446744073709551557 = 3481 ∧
    mgInv 15 1229782938247303441 1 6 = some none := by decide +kernel

end Word64

/-! ## The multiword ring `ZmodN` -/

open Ymq.Limbs Ymq.ZmodN

/-- `ZmodN::new(n)`: for every odd `n < 2^512` the constructor does not panic (the 2-adic inverse
loop terminates) and returns a well-formed context with `k = words(n)`. -/
theorem new_spec (n : Nat) (hodd : n % 2 = 1) (hlt : n < 2 ^ 512) :
    ∃ c, ZmodN.new n = some c ∧ Valid c ∧ c.n = n ∧ c.k = nwords n :=
  new_valid' n hodd hlt

/-- `ZmodN::mul` (`_mint_mulmod` + final conditional subtraction), every modulus the constructor
admits (up to 512 bits): for `x, y < n` no panic site is reached, the result is fully reduced and
`r·R ≡ x·y (mod n)`. -/
theorem mulmod_spec (c : Ctx) (hc : Valid c) (x y : List Nat) (hx : Wf x) (hlx : x.length = 8)
    (hly : y.length = 8) (hvx : val x < c.n) (hvy : val y < c.n) :
    ∃ r, ZmodN.mul c x y = some r ∧ val r < c.n ∧ val r * W ^ c.k % c.n = val x * val y % c.n ∧
      r.length = 8 ∧ Wf r :=
  mul_spec' hc x y hx hlx hly hvx hvy

/-- `_mint_mulmod` alone: for `y < n` and ANY 8 words `x` it returns (no `debug_assert!(z[i] == 0)`
failure, no out-of-bounds `res[8]` write) a value below `2n` congruent to `x[..k]·y·R⁻¹`. -/
theorem mintMulmod_spec (c : Ctx) (hc : Valid c) (x y : List Nat) (hx : Wf x) (hlx : x.length = 8)
    (hly : y.length = 8) (hvy : val y < c.n) :
    ∃ m, mintMulmod c x y = some m ∧ m.length = 8 ∧ Wf m ∧ val m < 2 * c.n ∧
      val m * W ^ c.k % c.n = val (x.take c.k) * val y % c.n :=
  ZmodN.mintMulmod_spec hc x y hx hlx hly hvy

/-- Answer to the `FIXME: can it happen?` in `_mint_mulmod`: no. Whenever the row loop ends with
`overflow = true`, adding `2^(64k) - n` to the `k` result words produces carry 0, so the
`res[SIZE] = 1` write (out of bounds for `SIZE = 8`) is unreachable for `y < n`. -/
theorem mulmod_overflow_carry_zero (c : Ctx) (hc : Valid c) (x y : List Nat) (hx : Wf x)
    (hlx : x.length = 8) (hly : y.length = 8) (hvy : val y < c.n) (res : List Nat)
    (hres : mulRows c.k c.ninv (c.nd.take c.k) (y.take c.k) (x.take c.k) (zeros (c.k + 1)) =
      some (res, true)) :
    (addc res (compl (c.nd.take c.k)) 1).2 = 0 := by
  obtain ⟨res', ovf, f1, f2, f3, f4, _⟩ := mulRows_valid hc x y hx hlx hly hvy
  rw [hres] at f1
  cases f1
  exact (add_compl_n hc res f2 f4).1

/-- `ZmodN::add` for moduli below 2^511 (`2n ≤ 2^512`; covers the documented 500-bit range):
no panic, result reduced and `≡ x + y`. See `add_512bit_counterexample` for 512-bit moduli. -/
theorem add_spec (c : Ctx) (hc : Valid c) (h2n : 2 * c.n ≤ W ^ 8) (x y : List Nat) (hx : Wf x) (hy : Wf y)
    (hlx : x.length = 8) (hly : y.length = 8) (hvx : val x < c.n) (hvy : val y < c.n) :
    ∃ r, ZmodN.add c x y = some r ∧ val r < c.n ∧ val r % c.n = (val x + val y) % c.n ∧
      r.length = 8 ∧ Wf r :=
  add_spec' hc x y hx hy hlx hly hvx hvy (by right; omega)

/-- `ZmodN::sub` for moduli below 2^511: no panic, result reduced and `r + y ≡ x`. -/
theorem sub_spec (c : Ctx) (hc : Valid c) (h2n : 2 * c.n ≤ W ^ 8) (x y : List Nat) (hx : Wf x) (hy : Wf y)
    (hlx : x.length = 8) (hly : y.length = 8) (hvx : val x < c.n) (hvy : val y < c.n) :
    ∃ r, ZmodN.sub c x y = some r ∧ val r < c.n ∧ (val r + val y) % c.n = val x % c.n ∧
      r.length = 8 ∧ Wf r :=
  sub_spec' hc x y hx hy hlx hly hvx hvy (by right; right; omega)

/-- Exact domain of `add`: it also works for 449..512-bit moduli as long as `x + y < 2^512`. -/
theorem add_spec_partial (c : Ctx) (hc : Valid c) (x y : List Nat) (hx : Wf x) (hy : Wf y)
    (hlx : x.length = 8) (hly : y.length = 8) (hvx : val x < c.n) (hvy : val y < c.n)
    (hfit : c.k < 8 ∨ val x + val y < W ^ 8) :
    ∃ r, ZmodN.add c x y = some r ∧ val r < c.n ∧ val r % c.n = (val x + val y) % c.n ∧
      r.length = 8 ∧ Wf r :=
  add_spec' hc x y hx hy hlx hly hvx hvy hfit

/-- Exact domain of `sub`: fine for 8-word moduli unless `x < y` and `x + n ≥ 2^512`. -/
theorem sub_spec_partial (c : Ctx) (hc : Valid c) (x y : List Nat) (hx : Wf x) (hy : Wf y)
    (hlx : x.length = 8) (hly : y.length = 8) (hvx : val x < c.n) (hvy : val y < c.n)
    (hfit : c.k < 8 ∨ val y ≤ val x ∨ val x + c.n < W ^ 8) :
    ∃ r, ZmodN.sub c x y = some r ∧ val r < c.n ∧ (val r + val y) % c.n = val x % c.n ∧
      r.length = 8 ∧ Wf r :=
  sub_spec' hc x y hx hy hlx hly hvx hvy hfit

set_option exponentiation.threshold 600 in
/-- Counter-witness outside the documented 500-bit range: for the 512-bit modulus `n = 2^512 - 1`
and `x = y = n - 1` the sum needs 513 bits, `mint_add` drops the carry
(`debug_assert!(carry == 0)`: panic in the checked profile, i.e. `none` in the model; the release
build returns `x + y - 2^512`, which is not `x + y mod n`). `sub` has the same shape of failure
(`x < y`, `x + n ≥ 2^512`) in the checked profile only. -/
theorem add_512bit_counterexample :
    (ZmodN.new (2 ^ 512 - 1)).bind
      (fun c => ZmodN.add c (ofNat 8 (2 ^ 512 - 2)) (ofNat 8 (2 ^ 512 - 2))) = none ∧
    (ZmodN.new (2 ^ 512 - 1)).bind
      (fun c => ZmodN.sub c (ofNat 8 1) (ofNat 8 2)) = none := by
  decide +kernel

/-- `ZmodN::redc` (after the carry fix, commit dcd4c9f) for moduli below 2^511: every 16-word
`x < n·R` is reduced without panic (the carry ripple never leaves the array) to `r < n` with
`r·R ≡ x (mod n)`. -/
theorem redc_spec (c : Ctx) (hc : Valid c) (h2n : 2 * c.n ≤ W ^ 8) (x : List Nat) (hx : Wf x)
    (hlx : x.length = 16) (hvx : val x < c.n * W ^ c.k) :
    ∃ r, ZmodN.redc c x = some r ∧ val r < c.n ∧ val r * W ^ c.k % c.n = val x % c.n ∧
      r.length = 8 ∧ Wf r :=
  redc_spec' hc x hx hlx hvx (redc_fit_of_small hc _ hvx h2n)

/-- Exact condition used by the proof, valid for every admitted modulus: `x + R·n ≤ 2^1024`. -/
theorem redc_spec_partial (c : Ctx) (hc : Valid c) (x : List Nat) (hx : Wf x)
    (hlx : x.length = 16) (hvx : val x < c.n * W ^ c.k) (hfit : val x + W ^ c.k * c.n ≤ W ^ 16) :
    ∃ r, ZmodN.redc c x = some r ∧ val r < c.n ∧ val r * W ^ c.k % c.n = val x % c.n ∧
      r.length = 8 ∧ Wf r :=
  redc_spec' hc x hx hlx hvx hfit

/-- `ZmodN::from_int`: `x < n` is mapped to the reduced representative of `x·R`. -/
theorem from_int_spec (c : Ctx) (hc : Valid c) (x : Nat) (hx : x < c.n) :
    ∃ m, ZmodN.fromInt c x = some m ∧ val m = x * W ^ c.k % c.n ∧ m.length = 8 ∧ Wf m := by
  obtain ⟨m, e1, _, e3, e4, e5⟩ := fromInt_spec hc x hx
  exact ⟨m, e1, e3, e4, e5⟩

/-- `ZmodN::to_int`, every admitted modulus: `r < n`, `r·R ≡ m`. -/
theorem to_int_spec (c : Ctx) (hc : Valid c) (m : List Nat) (hm : Wf m) (hlm : m.length = 8)
    (hvm : val m < c.n) :
    ∃ r, ZmodN.toInt c m = some r ∧ r < c.n ∧ r * W ^ c.k % c.n = val m % c.n := by
  obtain ⟨r, e1, e2, e3, _, _⟩ := redc_pad hc m MW hm (by rw [hlm]; rfl)
    (lt_of_lt_of_le hvm (Nat.le_mul_of_pos_right _ (Nat.pow_pos W_pos)))
    (Or.inr (hlm ▸ val_lt hm))
  exact ⟨val r, by simp [toInt, e1, toUint], e2, e3⟩

/-- Conversion into the internal representation and back is the identity, for every admitted
modulus (up to 512 bits) and every `x < n`. -/
theorem from_to_int (c : Ctx) (hc : Valid c) (x : Nat) (hx : x < c.n) :
    ∃ m, ZmodN.fromInt c x = some m ∧ ZmodN.toInt c m = some x := by
  obtain ⟨m, e1, e2, e3, e4, e5⟩ := fromInt_spec hc x hx
  obtain ⟨r, f1, f2, f3⟩ := to_int_spec c hc m e5 e4 e2
  have := Mont.eq_of_modEq_of_lt (Mont.form_redc hc.cop f3 (e3 ▸ Nat.mod_modEq _ _)) f2
  rw [Nat.mod_eq_of_lt hx] at this
  exact ⟨m, e1, this ▸ f1⟩

/-- `ZmodN::redc_large` for moduli below 2^511: a slice of `k ≤ len ≤ k+16`, `len < 24` words
with value `< n·R²` is reduced to `r < n`, `r·R ≡ x (mod n)`. -/
theorem redc_large_spec (c : Ctx) (hc : Valid c) (h2n : 2 * c.n ≤ W ^ 8) (x : List Nat) (hx : Wf x)
    (hl1 : c.k ≤ x.length) (hl2 : x.length ≤ c.k + 16) (hl3 : x.length < 24)
    (hvx : val x < c.n * W ^ c.k * W ^ c.k) :
    ∃ r, ZmodN.redcLarge c x = some r ∧ val r < c.n ∧ val r * W ^ c.k % c.n = val x % c.n ∧
      r.length = 8 ∧ Wf r := by
  have hk := hc.kle
  have hnp := hc.npos
  have ex := val_take_drop x c.k
  have hlo := val_take_lt hx c.k
  have hlo8 : val (x.take c.k) < W ^ 8 := lt_of_lt_of_le hlo (Nat.pow_le_pow_right W_pos hk)
  have hhi : val (x.drop c.k) < c.n * W ^ c.k := by
    have : W ^ c.k * val (x.drop c.k) < W ^ c.k * (c.n * W ^ c.k) := by
      calc W ^ c.k * val (x.drop c.k) ≤ val x := by omega
        _ < c.n * W ^ c.k * W ^ c.k := hvx
        _ = W ^ c.k * (c.n * W ^ c.k) := by ring
    exact Nat.lt_of_mul_lt_mul_left this
  obtain ⟨m, e1, e2, e3, e4, e5⟩ := redc_pad hc (x.take c.k) (2 * MW - c.k) (Wf_take hx _)
    (by simp only [MW, List.length_take]; omega)
    (lt_of_lt_of_le hlo (Nat.le_mul_of_pos_left _ hnp)) (Or.inr hlo8)
  obtain ⟨mh, f1, f2, f3, f4, f5⟩ := redc_pad hc (x.drop c.k) (2 * MW - (x.length - c.k))
    (Wf_drop hx _) (by simp only [MW, List.length_drop]; omega) hhi (Or.inl h2n)
  obtain ⟨t, g1, g2, g3, g4, g5⟩ := mul_r2_spec hc mh f5 f4 f2
  obtain ⟨r, k1, k2, k3, k4, k5⟩ := add_spec' hc m t e5 g5 e4 g4 e2 g2 (by right; omega)
  unfold redcLarge
  have c1 : ¬ ¬ (x.length < 3 * MW) := by simp only [MW]; omega
  have c2 : ¬ (x.length < c.k) := by omega
  have c3 : ¬ (x.length - c.k > 2 * MW) := by simp only [MW]; omega
  simp only [c1, c2, c3, if_false, e1, f1, g1, k1]
  refine ⟨r, rfl, k2, ?_, k4, k5⟩
  -- (m + t)·R ≡ lo + hi·R
  have ht : val t ≡ val (x.drop c.k) [MOD c.n] := (g3 ▸ Nat.mod_modEq _ _ : val t ≡ _ [MOD c.n]).trans f3
  rw [ex, Nat.mul_comm (W ^ c.k)]
  exact (Nat.ModEq.mul_right _ k3).trans (by rw [Nat.add_mul]; exact Nat.ModEq.add e3 (ht.mul_right _))

/-- `ZmodN::inv`, relative to the specification of `arith_gcd::inv_mod` (property C09), given as
the named hypothesis `inv_mod_spec`: the call returns `None` only if `gcd(x, n) ≠ 1`, and
otherwise the Montgomery form of the inverse: `r·x ≡ R² (mod n)` (i.e. `r = (x/R)⁻¹·R`).
Inversion therefore fails exactly when the operand shares a factor with `n`
(`r·x ≡ R²` with `gcd(R, n) = 1` forces `gcd(x, n) = 1`). -/
theorem inv_spec (c : Ctx) (hc : Valid c) (invmod : Nat → Nat → Option Nat) (x : List Nat)
    (inv_mod_spec : ∀ a, match invmod a c.n with
      | some i => i < c.n ∧ i * a % c.n = 1 % c.n
      | none => Nat.gcd a c.n ≠ 1) :
    (Nat.gcd (val x) c.n ≠ 1 ∧ ZmodN.inv invmod c x = some none) ∨
    (∃ r, ZmodN.inv invmod c x = some (some r) ∧ val r < c.n ∧
      val r * val x % c.n = W ^ c.k * W ^ c.k % c.n ∧ r.length = 8 ∧ Wf r) :=
  inv_spec_at hc invmod x (inv_mod_spec (val x))

/-- `ZmodN::gcd` is `gcd(n, x)` by definition of the model (`arith_gcd::big_gcd` is C09). -/
theorem gcd_spec (c : Ctx) (x : List Nat) : ZmodN.gcd c x = Nat.gcd c.n (val x) := rfl

/-! ### non-vacuity: a concrete 3-word modulus `n = 2^192 - 237` satisfies every hypothesis -/

set_option exponentiation.threshold 600 in
example : ∃ c, ZmodN.new (2 ^ 192 - 237) = some c ∧ Valid c ∧ 2 * c.n ≤ W ^ 8 := by
  obtain ⟨c, h1, h2, h3, _⟩ := new_spec (2 ^ 192 - 237) (by decide) (by decide)
  refine ⟨c, h1, h2, ?_⟩
  rw [h3]; decide

example :
    let n := 2 ^ 192 - 237
    (ZmodN.new n).bind (fun c => ZmodN.mul c (ofNat 8 3) (ofNat 8 5)) =
      some (ofNat 8 3098822375697222149235389715254417597822681801697434759414) ∧
    3098822375697222149235389715254417597822681801697434759414 * W ^ 3 % n = 3 * 5 % n ∧
    (ZmodN.new n).bind (fun c => ZmodN.add c (ofNat 8 3) (ofNat 8 5)) = some (ofNat 8 8) ∧
    (ZmodN.new n).bind (fun c => ZmodN.sub c (ofNat 8 3) (ofNat 8 5)) = some (ofNat 8 (n - 2)) ∧
    (ZmodN.new n).bind (fun c => ZmodN.redc c (ofNat 16 12345678901234567890123456789)) =
      some (ofNat 8 5641445863448789040915709481617068743918577823792107487988) ∧
    (ZmodN.new n).bind (fun c => ZmodN.fromInt c 42) = some (ofNat 8 9954) ∧
    (ZmodN.new n).bind (fun c => ZmodN.toInt c (ofNat 8 9954)) = some 42 ∧
    (ZmodN.new n).bind (fun c => ZmodN.redcLarge c [1, 2, 3, 4, 5]) =
      some (ofNat 8 5005789991510897317999936911759543325129247206926122638380) ∧
    (ZmodN.new n).bind (fun c => ZmodN.inv invModRef c (ofNat 8 3)) = some (some (ofNat 8 18723)) := by
  decide +kernel

/-- the `overflow = true` path of `_mint_mulmod` is really taken (so `mulmod_overflow_carry_zero`
is not vacuous): `n = 2^64 - 1`, `x = y = n - 1`. -/
example :
    mulRows 1 1 [2 ^ 64 - 1] [2 ^ 64 - 2] [2 ^ 64 - 2] (zeros 2) = some ([0], true) := by
  decide +kernel

/-! ## The 128-bit type `M128` (src/ecm128.rs) -/

/-- `M128::mul`: Montgomery product with multiplier `R = 2^64` when `n < 2^64` (the code then
calls `mg_mul` on the low words) and `R = 2^128` otherwise; `ninv` must satisfy
`n·ninv ≡ -1 (mod R)`. No overflow in `mul256`, no underflow in the final correction. -/
theorem M128_mul_spec (n ninv x y : Nat) (hn : 0 < n) (hn2 : n < M128.W2)
    (hninv : if n < Mg64.W then (n * ninv + 1) % Mg64.W = 0 else (n * ninv + 1) % M128.W2 = 0)
    (hx : x < n) (hy : y < n) :
    ∃ r, M128.mul n ninv x y = some r ∧ r < n ∧
      r * (if n < Mg64.W then Mg64.W else M128.W2) % n = x * y % n := by
  by_cases hs : n < Mg64.W
  · simp only [hs, if_true] at hninv ⊢
    have hd : n / Mg64.W = 0 := Nat.div_eq_of_lt hs
    have h1 : (n * (ninv % Mg64.W) + 1) % Mg64.W = 0 := by
      rw [Nat.add_mod, Nat.mul_mod, Nat.mod_mod, ← Nat.mul_mod, ← Nat.add_mod]; exact hninv
    unfold M128.mul
    simp only [hd, if_true, Nat.mod_eq_of_lt hs, Nat.mod_eq_of_lt (lt_trans hx hs),
      Nat.mod_eq_of_lt (lt_trans hy hs)]
    exact mgMul_spec n (ninv % Mg64.W) x y hn hs h1 hx (lt_trans hy hs)
  · simp only [hs, if_false] at hninv ⊢
    exact M128.mul_spec_big n ninv x y (by omega) hn2 hninv hx (lt_trans hy hn2)

/-- `M128::add`, `M128::sub`: modular addition / subtraction without overflow or underflow. -/
theorem M128_add_sub_spec (n x y : Nat) (hn2 : n < M128.W2) (hx : x < n) (hy : y < n) :
    (∃ r, M128.add n x y = some r ∧ r < n ∧ r % n = (x + y) % n) ∧
    (∃ r, M128.sub n x y = some r ∧ r < n ∧ (r + y) % n = x % n) :=
  ⟨M128.add_spec n x y hn2 hx hy, M128.sub_spec n x y hn2 hx hy⟩

set_option exponentiation.threshold 600 in
/-- The 128-bit variant computes the same function as the general ring on its domain: for an odd
modulus `n < 2^128` (1 or 2 words), `c = ZmodN::new(n)`, and residues `x, y < n`, `M128::mul`,
`add`, `sub` return exactly the integer value of the `MInt` returned by `ZmodN::mul`, `add`, `sub`
(same representation: `R = 2^64` for one word, `2^128` for two). -/
theorem M128_eq_ZmodN (n ninv x y : Nat) (hodd : n % 2 = 1) (hn2 : n < M128.W2)
    (hninv : if n < Mg64.W then (n * ninv + 1) % Mg64.W = 0 else (n * ninv + 1) % M128.W2 = 0)
    (hx : x < n) (hy : y < n) (c : Ctx) (hc : ZmodN.new n = some c) :
    (ZmodN.mul c (fromUint x) (fromUint y)).map val = M128.mul n ninv x y ∧
    (ZmodN.add c (fromUint x) (fromUint y)).map val = M128.add n x y ∧
    (ZmodN.sub c (fromUint x) (fromUint y)).map val = M128.sub n x y ∧
    M128.mul n ninv x y ≠ none := by
  have hW2 : M128.W2 = Limbs.W ^ 2 := by decide
  have hn512 : n < 2 ^ 512 := lt_trans hn2 (by decide)
  obtain ⟨c', h1, hv, hcn, hck⟩ := new_spec n hodd hn512
  rw [hc] at h1; cases h1
  have hnp : 0 < n := by omega
  have hn8 : n < Limbs.W ^ 8 := hcn ▸ hv.nlt8
  have hx8 : x < Limbs.W ^ 8 := lt_trans hx hn8
  have hy8 : y < Limbs.W ^ 8 := lt_trans hy hn8
  -- R of the two variants agree: one word below `2^64`, two words from there on
  have hR : (if n < Mg64.W then Mg64.W else M128.W2) = Limbs.W ^ c.k := by
    have hw := nwords_eq_succ_iff (lt_of_lt_of_le hn8 (Nat.pow_le_pow_right Limbs.W_pos (by decide)))
    rw [hck]
    split_ifs with hs
    · rw [(hw 0).2 ⟨hnp, by rw [pow_one]; exact hs⟩, pow_one]; rfl
    · rw [(hw 1).2 ⟨by rw [pow_one]; exact Nat.le_of_not_lt hs, hW2 ▸ hn2⟩, hW2]
  have hfit : 2 * c.n ≤ Limbs.W ^ 8 := by
    rw [hcn]
    have : M128.W2 * 2 ≤ Limbs.W ^ 8 := by decide
    omega
  obtain ⟨r1, a1, a2, a3⟩ := M128_mul_spec n ninv x y hnp hn2 hninv hx hy
  have hvx : val (fromUint x) < c.n := by rw [fromUint_val hx8, hcn]; exact hx
  have hvy : val (fromUint y) < c.n := by rw [fromUint_val hy8, hcn]; exact hy
  obtain ⟨m1, b1, b2, b3, _, _⟩ := mulmod_spec c hv (fromUint x) (fromUint y) (fromUint_Wf x)
    (fromUint_length x) (fromUint_length y) hvx hvy
  obtain ⟨⟨r2, c1, c2, c3⟩, ⟨r3, d1, d2, d3⟩⟩ := M128_add_sub_spec n x y hn2 hx hy
  obtain ⟨m2, e1, e2, e3, _, _⟩ := add_spec c hv hfit (fromUint x) (fromUint y) (fromUint_Wf x)
    (fromUint_Wf y) (fromUint_length x) (fromUint_length y) hvx hvy
  obtain ⟨m3, f1, f2, f3, _, _⟩ := sub_spec c hv hfit (fromUint x) (fromUint y) (fromUint_Wf x)
    (fromUint_Wf y) (fromUint_length x) (fromUint_length y) hvx hvy
  rw [fromUint_val hx8, fromUint_val hy8, hcn] at b3 e3 f3
  rw [hcn] at b2 e2 f2
  rw [hR] at a3
  -- two reduced residues in the same class are equal
  refine ⟨?_, ?_, ?_, by rw [a1]; simp⟩
  · rw [a1, b1]
    exact congrArg some (Nat.ModEq.eq_of_lt_of_lt
      (Nat.ModEq.cancel_right_of_coprime (hcn ▸ hv.cop) (b3.trans a3.symm)) b2 a2)
  · rw [c1, e1]
    exact congrArg some (Nat.ModEq.eq_of_lt_of_lt (e3.trans c3.symm) e2 c2)
  · rw [d1, f1]
    exact congrArg some (Nat.ModEq.eq_of_lt_of_lt
      (Nat.ModEq.add_right_cancel' y (f3.trans d3.symm)) f2 d2)

/-- non-vacuity of the M128 theorems: `n = 2^128 - 159` (two words) with its 128-bit inverse. -/
example :
    let n := 340282366920938463463374607431768211297
    let ninv := 235415473970460572207366080613172976479
    n % 2 = 1 ∧ n < M128.W2 ∧ ¬ n < Mg64.W ∧ (n * ninv + 1) % M128.W2 = 0 ∧
    M128.mul n ninv 3 5 = some 128408440347523948476745134879912532565 ∧
    (ZmodN.new n).bind (fun c => (ZmodN.mul c (fromUint 3) (fromUint 5)).map val) =
      some 128408440347523948476745134879912532565 := by
  decide +kernel

/-- `M128::inv_2adic` (after /repo commit a0db7d0 "fix: M128::inv_2adic overflowed u128 ..."): for
every odd `n < 2^128` the loop terminates within the fuel, no panic site is reached and the result
`v < R` satisfies `n·v ≡ -1 (mod R)` (`R = 2^64` for `n < 2^64`, else `2^128`). Before the fix the
statement was false in the checked profile: the loop starts from `mg_2adic_inv(n as u64)` (the
NEGATED 64-bit inverse) and `x += 1 << 127` overflowed for `n = (2^129+1)/3`. -/
theorem M128_inv2adic_spec (n : Nat) (hodd : n % 2 = 1) (hn2 : n < M128.W2) :
    ∃ v, M128.inv2adic n = some v ∧
      (if n < Mg64.W then v < Mg64.W ∧ (n * v + 1) % Mg64.W = 0
       else v < M128.W2 ∧ (n * v + 1) % M128.W2 = 0) :=
  M128.inv2adic_spec n hodd hn2

/-- the former overflow witness `n = (2^129+1)/3` now returns `2^128 - 3` -/
example : M128.inv2adic 226854911280625642308916404954512140971 =
    some 340282366920938463463374607431768211453 := by decide +kernel

/-- `M128::r_r2`: returns `(R mod n, R² mod n)` for the multiplier `R` of `M128::mul`
(the seven Montgomery squarings of `2R` give `2^128·R`). -/
theorem M128_r_r2_spec (n ninv : Nat) (hodd : n % 2 = 1) (hn2 : n < M128.W2)
    (hninv : if n < Mg64.W then (n * ninv + 1) % Mg64.W = 0 else (n * ninv + 1) % M128.W2 = 0) :
    M128.rR2 n ninv = some (if n < Mg64.W then (Mg64.W % n, Mg64.W * Mg64.W % n)
      else (M128.W2 % n, M128.W2 * M128.W2 % n)) := by
  have hnp : 0 < n := by omega
  have hn0 : n ≠ 0 := by omega
  have hr : (M128.W2 - n) % M128.W2 % n = M128.W2 % n := by
    rw [Nat.mod_eq_of_lt (by omega : M128.W2 - n < M128.W2)]
    conv_rhs => rw [show M128.W2 = (M128.W2 - n) + n by omega, Nat.add_mod_right]
  unfold M128.rR2
  simp only [hn0, if_false, hr]
  by_cases hs : n < Mg64.W
  · have hd : n / Mg64.W = 0 := Nat.div_eq_of_lt hs
    simp only [hd, hs, if_true, M128.W2_eq]
  · have hd : ¬ (n / Mg64.W = 0) := Nat.div_ne_zero_iff.2 ⟨Mg64.W_pos.ne', not_lt.1 hs⟩
    simp only [hs, if_false] at hninv
    simp only [hd, hs, if_false]
    have hrn : M128.W2 % n < n := Nat.mod_lt _ hnp
    obtain ⟨two, e1, e2, e3⟩ := M128.add_spec n (M128.W2 % n) (M128.W2 % n) hn2 hrn hrn
    have h2 : two % n = 2 * M128.W2 % n := by
      rw [e3, ← Nat.add_mod, Nat.two_mul]
    obtain ⟨r2, f1, f2, f3⟩ := M128.sqLoop_spec n ninv hodd (by omega) hn2 hninv 7 2 two e2 h2
    simp only [e1, f1]
    have : (2 : Nat) ^ 2 ^ 7 = M128.W2 := by decide
    rw [this, Nat.mod_eq_of_lt f2] at f3
    rw [f3]

end Ymq.C07
