/-
C15, part C: the curve constructors (model: Ymq/Model/Suyama.lean, control flow around the formulas
translated in Ymq/Gen/Curves.lean; lemmas: Ymq/Lemmas/CurveBuild.lean).

Every statement is over an arbitrary commutative ring `R` with an arithmetic context `ctx` satisfying
`Ctx.Lawful` (what C07/C09 prove of `ZmodN`); `zmodCtx_lawful` shows that `Z/n` is such a context, so no
statement is vacuous. "The code returns a curve" = `Res.ok`, "the code returns the factor f" = `Res.err f`,
"the code panics" = `Res.panic`.
-/
import Ymq.Lemmas.CurveBuild
import Ymq.Lemmas.CurveBuildFin
import Mathlib.Algebra.Group.Basic
import Mathlib.Algebra.Group.PUnit
import Mathlib.Tactic.Linarith

namespace Ymq.C15
open Ymq.Suyama Ymq.Gen.Curves Ymq.Curve

section
variable {R : Type} [CommRing R] (ctx : Ctx R)

/-- `Z/n` (n > 0) with its own inverse, gcd and equality is a lawful context: the hypotheses `ctx.Lawful` of
the theorems below are satisfiable for every modulus. -/
theorem lawful_nonvacuous (n : Nat) [NeZero n] : (zmodCtx n).Lawful := zmodCtx_lawful n

/-- `Suyama11::new`: `Err(UnexpectedFactor(3))` exactly when `3 ∣ n`; otherwise neither the debug assertion
`3 * one_third == 1` nor `assert!(s.is_valid(G))` fires (both profiles), and the constants returned are
the translated ones at an inverse of 3, with the generator on the parameter curve. -/
theorem suyama_new_spec (hl : ctx.Lawful) (hR : ((ctx.n : Nat) : R) = 0) (chk : Bool) :
    (ctx.n % 3 = 0 → suyamaNew chk ctx = .err 3) ∧
    (ctx.n % 3 ≠ 0 → ∃ t : R, ((3 : Nat) : R) * t = 1 ∧ suyamaNew chk ctx = .ok (suyamaConsts t) ∧
      suyamaIsValid (suyamaConsts t).1 (suyamaConsts t).2.1 (suyamaConsts t).2.2.1 (suyamaConsts t).2.2.2
        ⟨(suyamaConsts t).2.2.1, (suyamaConsts t).2.2.2, 1⟩) := by
  refine ⟨fun h => by simp [suyamaNew, h], fun h => ?_⟩
  have key : ∃ k : Nat, (if ctx.n % 3 = 1 then ctx.ofNat (ctx.n - ctx.n / 3) else ctx.ofNat (ctx.n / 3 + 1)) = (k : R) ∧
      ∃ m : Nat, 3 * k = m * ctx.n + 1 := by
    by_cases h1 : ctx.n % 3 = 1
    · refine ⟨ctx.n - ctx.n / 3, by simp [h1, hl.ofNat_cast], 2, by omega⟩
    · refine ⟨ctx.n / 3 + 1, by simp [h1, hl.ofNat_cast], 1, by omega⟩
  obtain ⟨k, hk, m, hm⟩ := key
  have h3 : ((3 : Nat) : R) * (k : R) = 1 := by
    have : ((3 * k : Nat) : R) = ((m * ctx.n + 1 : Nat) : R) := by rw [hm]
    push_cast at this ⊢
    rw [this, hR]; ring
  have hv := suyama_generator_valid (k : R) h3
  refine ⟨(k : R), h3, ?_, hv⟩
  unfold suyamaNew
  simp only [h, if_false]
  rw [hk]
  have e1 : ctx.eq (ctx.ofNat 3 * (k : R)) 1 = true := by
    rw [hl.eq_iff, hl.ofNat_cast]; exact h3
  have e2 : ctx.eq (suyamaIsValidSides (suyamaConsts (k : R)).1 (suyamaConsts (k : R)).2.1 (suyamaConsts (k : R)).2.2.1
      (suyamaConsts (k : R)).2.2.2 ⟨(suyamaConsts (k : R)).2.2.1, (suyamaConsts (k : R)).2.2.2, 1⟩).1
      (suyamaIsValidSides (suyamaConsts (k : R)).1 (suyamaConsts (k : R)).2.1 (suyamaConsts (k : R)).2.2.1
      (suyamaConsts (k : R)).2.2.2 ⟨(suyamaConsts (k : R)).2.2.1, (suyamaConsts (k : R)).2.2.2, 1⟩).2 = true := by
    rw [hl.eq_iff]; exact hv
  simp [e1, e2]

/-- `Suyama11::element(seed)`: never panics for a seed ≥ 2 (`assert!(seed > 1)`, `assert!(bit > 0)`, the
`u32` decrement of `bit`); a point it returns is on the parameter curve; a factor it returns divides the
modulus and is not 1. -/
theorem element_sound (hl : ctx.Lawful) (a b gx gy : R) (hg : suyamaIsValid a b gx gy ⟨gx, gy, 1⟩)
    (seed : Nat) (h2 : 2 ≤ seed) :
    element ctx a b gx gy seed ≠ .panic ∧
    (∀ p, element ctx a b gx gy seed = .ok p → suyamaIsValid a b gx gy p) ∧
    (∀ d, element ctx a b gx gy seed = .err d → d ∣ ctx.n ∧ d ≠ 1) := by
  rw [element_eq ctx a b gx gy seed h2]
  exact ladder_sound (G := PUnit) _ _ _ (fun p _ => suyamaIsValid a b gx gy p) PUnit.unit _
    (fun p _ => suyama_double_closed a b gx gy p) (fun p _ hp => suyama_add_g_closed a b gx gy p hp hg)
    (fun p q d h => elementCheck_some ctx hl p q d h) seed _ _ (log2_pos h2) hg

/-- The ladder of `element` is left-to-right double-and-add: in any commutative group, with `double` the
doubling and `add_g` the addition of `G`, and no early exit, it returns `seed • G` (the code's comment says
"(seed + 2)G"; the code and its test compute `[seed]G`). -/
theorem element_ladder_spec {G : Type} [AddCommGroup G] (g : G) (seed : Nat) (h2 : 2 ≤ seed) :
    ladder (fun x => x + x) (fun x => x + g) (fun _ _ => none) seed (Nat.log2 seed) g = .ok (seed • g) := by
  have h1 : seed >>> Nat.log2 seed = 1 := by
    rw [Nat.shiftRight_eq_div_pow]
    have hlo : 2 ^ Nat.log2 seed ≤ seed := Nat.log2_self_le (by omega)
    have hhi : seed < 2 ^ (Nat.log2 seed + 1) := Nat.lt_log2_self
    rw [Nat.div_eq_iff (Nat.pow_pos (by decide))]
    rw [pow_succ] at hhi
    omega
  exact (ladder_sound _ _ _ Eq g (fun _ => False) (fun _ _ h => h ▸ rfl) (fun _ _ h => h ▸ rfl)
    (fun _ _ _ h => by cases h) seed _ g (log2_pos h2) (by rw [h1, one_nsmul])).eq_ok

/-- `Suyama11::params`: with a lawful context it never panics (the `assert!(d != 1)` of
`UnexpectedLargeFactor::new` cannot fire: a non-invertible square has a non-invertible root); the pair it
returns satisfies `(σ + 1)(3x + z) = 72 z`, `r (3x + z)² = 432 y z`; a factor it returns divides `n`, ≠ 1. -/
theorem params_sound (hl : ctx.Lawful) (a b gx gy : R) (pt : Pt R) :
    params ctx a b gx gy pt ≠ .panic ∧
    (∀ s r, params ctx a b gx gy pt = .ok (s, r) →
      (s + 1) * (3 * pt.x + pt.z) = 72 * pt.z ∧ r * ((3 * pt.x + pt.z) * (3 * pt.x + pt.z)) = 432 * (pt.y * pt.z)) ∧
    (∀ d, params ctx a b gx gy pt = .err d → d ∣ ctx.n ∧ d ≠ 1) := by
  have h := invOr_sound ctx hl (x := paramsDen pt) (v := suyamaParams ctx.invT a b gx gy pt)
    (G := fun sr => (sr.1 + 1) * (3 * pt.x + pt.z) = 72 * pt.z ∧
      sr.2 * ((3 * pt.x + pt.z) * (3 * pt.x + pt.z)) = 432 * (pt.y * pt.z))
    not_isUnit_of_sq (suyama_params_rel ctx.invT a b gx gy pt)
  exact ⟨h.1, fun s r e => h.2.1 (s, r) e, h.2.2⟩

theorem paramsPoint_sound (hl : ctx.Lawful) (a b gx gy : R) (pt : Pt R) :
    paramsPoint ctx a b gx gy pt ≠ .panic ∧ (∀ g, paramsPoint ctx a b gx gy pt = .ok g → True) ∧
    (∀ d, paramsPoint ctx a b gx gy pt = .err d → d ∣ ctx.n ∧ d ≠ 1) := by
  obtain ⟨p1, _, p3⟩ := params_sound ctx hl a b gx gy pt
  exact Res.bind_sound (Ga := fun _ => True) ⟨p1, fun _ _ => trivial, p3⟩
    fun _ _ => ⟨by simp, fun _ _ => trivial, fun d h => by simp at h⟩

/-- `Curve::twisted_from_point` (with `zn_divide`): never panics; a curve it returns is the a = -1 curve
through the given generator: the generator satisfies the code's own `is_valid` with the returned `d`;
a factor it returns divides `n`, ≠ 1. -/
theorem twisted_from_point_sound (hl : ctx.Lawful) (g : Pt R) :
    twistedFromPoint ctx g ≠ .panic ∧
    (∀ c, twistedFromPoint ctx g = .ok c → c.twisted = true ∧ c.g = g ∧ ecmIsValid c.d true c.g) ∧
    (∀ d, twistedFromPoint ctx g = .err d → d ∣ ctx.n ∧ d ≠ 1) :=
  invOr_sound ctx hl (G := fun c : CurveData R => c.twisted = true ∧ c.g = g ∧ ecmIsValid c.d true c.g) id
    fun h => ⟨rfl, rfl, twisted_from_point_valid ctx.invT 0 true g h⟩

/-- The Suyama-11 construction as `ecm()` composes it (`element`, `params_point`, `twisted_from_point`):
for every seed ≥ 2 it does not panic; when it returns a curve, the generator lies on that curve (a = -1,
the code's `is_valid`); when a denominator is not invertible it returns a divisor `d ≠ 1` of `n` — never a
curve with a bogus `d`. -/
theorem suyama_curve_sound (hl : ctx.Lawful) (a b gx gy : R) (hg : suyamaIsValid a b gx gy ⟨gx, gy, 1⟩)
    (seed : Nat) (h2 : 2 ≤ seed) :
    suyamaCurve ctx a b gx gy seed ≠ .panic ∧
    (∀ c, suyamaCurve ctx a b gx gy seed = .ok c → c.twisted = true ∧ ecmIsValid c.d true c.g) ∧
    (∀ d, suyamaCurve ctx a b gx gy seed = .err d → d ∣ ctx.n ∧ d ≠ 1) := by
  unfold suyamaCurve
  refine Res.bind_sound (Res.bind_sound (element_sound ctx hl a b gx gy hg seed h2)
    fun el _ => paramsPoint_sound ctx hl a b gx gy el) fun g _ => ?_
  obtain ⟨t1, t2, t3⟩ := twisted_from_point_sound ctx hl g
  exact ⟨t1, fun c h => ⟨(t2 c h).1, (t2 c h).2.2⟩, t3⟩

/-- `Curve::from_point(zn, x, y)` for `0 < x, y < 2^31` (the fallback points `(3s+5, 4s+5)` of `ecm()` are such):
no panic in either profile; a curve it returns is the a = +1 curve through `(x, y, 1)`; when `x y` is
not invertible the reported `u64` is the gcd of `x y` and `n` itself (no truncation: it is at most
`x y < 2^62`), a divisor `≠ 1` of `n`. -/
theorem from_point_sound (hl : ctx.Lawful) (chk : Bool) (x y : Nat) (hx : 0 < x) (hy : 0 < y)
    (hx31 : x < 2 ^ 31) (hy31 : y < 2 ^ 31) :
    fromPoint chk ctx x y ≠ .panic ∧
    (∀ c, fromPoint chk ctx x y = .ok c → c.twisted = false ∧ c.g = ⟨(x : R), (y : R), 1⟩ ∧ ecmIsValid c.d false c.g) ∧
    (∀ f, fromPoint chk ctx x y = .err f → f ∣ ctx.n ∧ f ≠ 1) := by
  have hxy : 0 < x * y := Nat.mul_pos hx hy
  have hs : ¬ (x * x + y * y = 0) := by
    have : 0 < x * x := Nat.mul_pos hx hx
    omega
  have hc : (chk && (x * x + y * y == 0)) = false := by
    have : (x * x + y * y == 0) = false := by simpa using hs
    simp [this]
  rw [fromPoint_eq ctx hl chk hx31 hy31, hc, if_neg Bool.false_ne_true]
  cases h2 : ctx.inv (ctx.ofNat (x * y)) with
  | none =>
    refine ⟨by simp, fun c h => by simp at h, fun f h => ?_⟩
    simp only [Res.err.injEq] at h
    have hle : Nat.gcd ctx.n (x * y) ≤ x * y := Nat.le_of_dvd hxy (Nat.gcd_dvd_right _ _)
    have hlt : x * y < 2 ^ 64 := by
      calc x * y < 2 ^ 31 * 2 ^ 31 := Nat.mul_lt_mul'' hx31 hy31
        _ < 2 ^ 64 := by norm_num
    rw [Nat.mod_eq_of_lt (by omega), ← hl.gcd_ofNat] at h
    subst h
    exact ⟨hl.gcd_dvd _, fun h1' => hl.inv_none _ h2 (hl.gcd_one _ h1')⟩
  | some i2 =>
    refine ⟨by simp, fun c h => ?_, fun f h => by simp at h⟩
    simp only [Res.ok.injEq] at h
    subst h
    have e2 := mul_invT ctx hl h2
    rw [hl.ofNat_cast] at e2
    exact ⟨rfl, rfl, from_point_valid ctx.invT (x : R) (y : R) (mul_invT_of_isUnit ctx hl isUnit_one)
      (by push_cast at e2; exact e2)⟩

/-- Defect of `Curve::from_point` on a zero coordinate (direct calls only; `ecm()` never passes one): `x y = 0` is
not invertible, `inv_mod` reports `gcd(0, n) = n`, and `fraction_modn` truncates it to its low word: the
"factor" returned is `n mod 2^64` — for a modulus above `2^64` in general not a divisor of `n` (release
profile; with `x = y = 0` the checked profile panics on `x*x + y*y - 1` before). -/
theorem from_point_zero_coordinate (hl : ctx.Lawful) [Nontrivial R] (x y : Nat) (hx31 : x < 2 ^ 31)
    (hy31 : y < 2 ^ 31) (h0 : x * y = 0) :
    fromPoint false ctx x y = .err (ctx.n % 2 ^ 64) := by
  rw [fromPoint_eq ctx hl false hx31 hy31, Bool.false_and, if_neg Bool.false_ne_true, h0]
  cases h2 : ctx.inv (ctx.ofNat 0) with
  | none => simp only [Nat.gcd_zero_right]
  | some i2 =>
    have := hl.inv_some _ _ h2
    rw [hl.ofNat_cast] at this
    simp at this

/-- counter-witness: modulo the prime `2^128 + 51`, `from_point(0, 3)` returns the "factor" 51, which does not
divide the modulus (observed on the real code: `from_point release 340282366920938463463374607431768211507 0 3`
answers `err 51`). -/
theorem from_point_zero_truncated_witness :
    (zmodCtx (2 ^ 128 + 51)).Lawful ∧
    (∀ (ctx : Ctx (ZMod (2 ^ 128 + 51))), ctx.Lawful → ctx.n = 2 ^ 128 + 51 → fromPoint false ctx 0 3 = .err 51) ∧
    ¬ (51 ∣ 2 ^ 128 + 51) := by
  have : NeZero (2 ^ 128 + 51) := ⟨by norm_num⟩
  have : Fact (1 < 2 ^ 128 + 51) := ⟨by norm_num⟩
  refine ⟨zmodCtx_lawful _, fun ctx hl hn => ?_, by norm_num⟩
  have := from_point_zero_coordinate ctx hl 0 3 (by norm_num) (by norm_num) (by norm_num)
  rw [this, hn]
  norm_num

/-- Curve selection of `ecm::ecm` (`do_curve` before `ecm_curve`), any seed ≥ 2 — in particular every seed
of `ecm_seeds_spec`: no panic (both profiles); a curve that is run has its generator on it (the code's
`is_valid`, a = -1 for the Suyama-11 curve, a = +1 for the fallback curve); a pair `(p, n/p)` that is
returned has `1 < p < n`, `p ∣ n`: a proper divisor. -/
theorem select_curve_sound (hl : ctx.Lawful) (hn : 0 < ctx.n) (chk : Bool) (a b gx gy : R)
    (hg : suyamaIsValid a b gx gy ⟨gx, gy, 1⟩) (seed : Nat) (h2 : 2 ≤ seed) :
    (selectCurve chk ctx a b gx gy seed ≠ .panic) ∧
    (∀ c, selectCurve chk ctx a b gx gy seed = .curve c → ecmIsValid c.d c.twisted c.g) ∧
    (∀ p, selectCurve chk ctx a b gx gy seed = .factor p → p ∣ ctx.n ∧ 1 < p ∧ p < ctx.n) := by
  obtain ⟨s1, s2, s3⟩ := suyama_curve_sound ctx hl a b gx gy hg seed h2
  have hfb := from_point_sound ctx hl chk (fallbackPoint seed).1 (fallbackPoint seed).2
    (by simp [fallbackPoint]) (by simp [fallbackPoint])
    (by simp only [fallbackPoint]; have := Nat.mod_lt seed (show 0 < 2 ^ 24 by norm_num); omega)
    (by simp only [fallbackPoint]; have := Nat.mod_lt seed (show 0 < 2 ^ 24 by norm_num); omega)
  obtain ⟨f1, f2, f3⟩ := hfb
  have proper : ∀ p, p ∣ ctx.n → p ≠ 1 → p ≠ ctx.n → p ∣ ctx.n ∧ 1 < p ∧ p < ctx.n := by
    intro p hd h1 hne
    have hp0 : p ≠ 0 := fun h => by subst h; simp at hd; omega
    have := Nat.le_of_dvd hn hd
    exact ⟨hd, by omega, by omega⟩
  unfold selectCurve
  simp only [show ¬ ¬ (2 ≤ seed) from fun h => h h2, if_false]
  cases hs : suyamaCurve ctx a b gx gy seed with
  | panic => exact absurd hs s1
  | ok c =>
    refine ⟨by simp, fun c' h => ?_, fun p h => by simp at h⟩
    simp only [Sel.curve.injEq] at h
    subst h
    obtain ⟨ht, hv⟩ := s2 _ hs
    rw [ht]; exact hv
  | err p0 =>
    obtain ⟨hd, h1⟩ := s3 _ hs
    by_cases hp : p0 = ctx.n
    · simp only [hp, if_true]
      cases hf : fromPoint chk ctx (fallbackPoint seed).1 (fallbackPoint seed).2 with
      | panic => exact absurd hf f1
      | ok c =>
        refine ⟨by simp, fun c' h => ?_, fun p h => by simp at h⟩
        simp only [Sel.curve.injEq] at h
        subst h
        obtain ⟨ht, _, hv⟩ := f2 _ hf
        rw [ht]; exact hv
      | err f =>
        obtain ⟨fd, fne⟩ := f3 _ hf
        by_cases hfn : f = ctx.n
        · simp [hfn]
        · simp only [hfn, if_false]
          refine ⟨by simp, fun c h => by simp at h, fun p h => ?_⟩
          simp only [Sel.factor.injEq] at h
          subst h
          exact proper _ fd fne hfn
    · simp only [hp, if_false]
      refine ⟨by simp, fun c h => by simp at h, fun p h => ?_⟩
      simp only [Sel.factor.injEq] at h
      subst h
      exact proper _ hd h1 hp

/-- The seeds of `ecm::ecm`: `curves` of them, each in `[2, 2^32)` — so `assert!(seeds.len() == curves)`,
`assert!(seed >= 2)` of `do_curve` and `assert!(seed > 1)` of `element` never fire and the seed fits `u32`. -/
theorem ecm_seeds_spec (n curves : Nat) (l : List Nat) (h : ecmSeeds n curves = some l) :
    l.length = curves ∧ ∀ s ∈ l, 2 ≤ s ∧ s < 2 ^ 32 := by
  have key : ∀ m0 wide k seed, (ecmSeedsLoop m0 wide k seed).length = k ∧
      ∀ s ∈ ecmSeedsLoop m0 wide k seed, 2 ≤ s ∧ s < 2 ^ 32 := by
    intro m0 wide k
    induction k with
    | zero => intro seed; simp [ecmSeedsLoop]
    | succ k ih =>
      intro seed
      simp only [ecmSeedsLoop, List.length_cons, List.mem_cons]
      refine ⟨by rw [(ih _).1], fun s hs => ?_⟩
      rcases hs with rfl | hs
      · constructor
        · exact Nat.le_max_left _ _
        · cases wide
          · have := Nat.mod_lt (seed * m0 % 2 ^ 64) (show 0 < 2 ^ 16 by norm_num)
            simp only [Bool.false_eq_true, if_false]
            omega
          · have := Nat.mod_lt (seed * m0 % 2 ^ 64) (show 0 < 2 ^ 32 by norm_num)
            simp only [if_true]
            omega
      · exact (ih _).2 s hs
  unfold ecmSeeds at h
  split at h
  · cases h
  · simp only [Option.some.injEq] at h
    subst h
    exact key _ _ _ _

/-- One curve of `ecm128::ecm` (seed in `1..=curves`, `curves < 2^32 - 1`): no panic; a pair `(p, n/p)` that
is returned while selecting the curve has `p ∣ n`, `1 < p < n`. -/
theorem select128_sound (hl : ctx.Lawful) (a b gx gy : R)
    (hg : suyamaIsValid a b gx gy ⟨gx, gy, 1⟩) (seed : Nat) (h1 : 1 ≤ seed) (hs : seed + 1 < 2 ^ 32) :
    select128 ctx a b gx gy seed ≠ .panic ∧
    (∀ p, select128 ctx a b gx gy seed = .factor p → p ∣ ctx.n ∧ 1 < p ∧ p < ctx.n) := by
  have hmod : seed % 2 ^ 32 + 1 = seed + 1 := by rw [Nat.mod_eq_of_lt (by omega)]
  unfold select128
  rw [hmod]
  simp only [show ¬ (seed + 1 ≥ 2 ^ 32) from by omega, if_false]
  obtain ⟨b1, _, b2⟩ := Res.bind_sound (element_sound ctx hl a b gx gy hg (seed + 1) (by omega))
    fun el _ => paramsPoint_sound ctx hl a b gx gy el
  cases hb : (element ctx a b gx gy (seed + 1)).bind (paramsPoint ctx a b gx gy) with
  | panic => exact absurd hb b1
  | ok g => exact ⟨by simp, fun p h => by simp at h⟩
  | err d =>
    obtain ⟨hd, hne⟩ := b2 _ hb
    by_cases hlt : d < ctx.n
    · simp only [hlt, if_true]
      refine ⟨by simp, fun p h => ?_⟩
      simp only [Sel128.factor.injEq] at h
      subst h
      have hp0 : d ≠ 0 := fun h => by subst h; simp at hd; omega
      exact ⟨hd, by omega, hlt⟩
    · simp [hlt]

/-- `impl From<&ecm::Curve> for ecm128::Curve`: panics (`assert!(c.is_twisted128())`) unless the curve is
twisted over a modulus of exactly two words; then the generator is taken over unchanged. -/
theorem curve128_from_spec (c : CurveData R) (words : Nat) :
    (curve128From c words = none ↔ ¬ (c.twisted = true ∧ words = 2)) ∧
    (∀ g, curve128From c words = some g → g = c.g) := by
  unfold curve128From
  by_cases h : c.twisted = true ∧ words = 2
  · simp [h.1, h.2]
  · have : (c.twisted && words == 2) = false := by
      cases ht : c.twisted
      · simp
      · have : ¬ words = 2 := fun hw => h ⟨ht, hw⟩
        simp [this]
    simp [this, h]

/-- `seed as u32 + 1` of `ecm128::ecm` at `seed ≡ 2^32 - 1`: a panic in both profiles (overflow in the checked
profile; in release the sum wraps to 0 and `element(0)` fails `assert!(seed > 1)`). Out of reach of the
callers (`curves ≤ 256`); this is why `select128_sound` assumes `seed + 1 < 2^32`. -/
theorem select128_overflow_panics (a b gx gy : R) (seed : Nat) (h : seed % 2 ^ 32 = 2 ^ 32 - 1) :
    select128 ctx a b gx gy seed = .panic := by
  unfold select128
  rw [if_pos (by rw [h]; norm_num)]

end

/-! ### the same statements for the context the native driver runs

The K comparison of `suyama`, `curve_build`, `from_point`, `ecm_select` runs `finCtx n` (canonical residues
`Fin n`, inverse by extended Euclid; Model/Suyama.lean) through `suyamaNewFin`, `suyamaCurveFin`, `fromPointFin`,
`selectCurveFin`. `finCtx n` is lawful, so the theorems above hold of these very functions. -/
section
open scoped Fin.CommRing
variable (n : Nat) [NeZero n]

/-- the context of the driver (residues in `Fin n`, `inv` by extended Euclid with fuel `n + 1`) is lawful:
`inv` finds the inverse of every unit and fails on every non-unit. -/
theorem driver_ctx_lawful : (finCtx n).Lawful := finCtx_lawful n

theorem driver_ctx_char : (((finCtx n).n : Nat) : Fin n) = 0 := by
  obtain ⟨k, rfl⟩ := Nat.exists_eq_succ_of_ne_zero (NeZero.ne n)
  exact ZMod.natCast_self (k + 1)

/-- `suyama_new_spec` for the driver's `Suyama11::new` -/
theorem suyama_new_fin_spec (chk : Bool) :
    (n % 3 = 0 → suyamaNewFin n chk = .err 3) ∧
    (n % 3 ≠ 0 → ∃ t : Fin n, ((3 : Nat) : Fin n) * t = 1 ∧ suyamaNewFin n chk = .ok (suyamaConsts t) ∧
      suyamaIsValid (suyamaConsts t).1 (suyamaConsts t).2.1 (suyamaConsts t).2.2.1 (suyamaConsts t).2.2.2
        ⟨(suyamaConsts t).2.2.1, (suyamaConsts t).2.2.2, 1⟩) :=
  suyama_new_spec (finCtx n) (finCtx_lawful n) (driver_ctx_char n) chk

/-- `suyama_curve_sound` for the function answering `curve_build .. s` in the driver -/
theorem suyama_curve_fin_sound (a b gx gy : Fin n) (hg : suyamaIsValid a b gx gy ⟨gx, gy, 1⟩)
    (seed : Nat) (h2 : 2 ≤ seed) :
    suyamaCurveFin n a b gx gy seed ≠ .panic ∧
    (∀ c, suyamaCurveFin n a b gx gy seed = .ok c → c.twisted = true ∧ ecmIsValid c.d true c.g) ∧
    (∀ d, suyamaCurveFin n a b gx gy seed = .err d → d ∣ n ∧ d ≠ 1) :=
  suyama_curve_sound (finCtx n) (finCtx_lawful n) a b gx gy hg seed h2

/-- `from_point_sound` for the function answering `from_point` / `curve_build .. e` in the driver -/
theorem from_point_fin_sound (chk : Bool) (x y : Nat) (hx : 0 < x) (hy : 0 < y)
    (hx31 : x < 2 ^ 31) (hy31 : y < 2 ^ 31) :
    fromPointFin n chk x y ≠ .panic ∧
    (∀ c, fromPointFin n chk x y = .ok c → c.twisted = false ∧ c.g = ⟨(x : Fin n), (y : Fin n), 1⟩ ∧
      ecmIsValid c.d false c.g) ∧
    (∀ f, fromPointFin n chk x y = .err f → f ∣ n ∧ f ≠ 1) :=
  from_point_sound (finCtx n) (finCtx_lawful n) chk x y hx hy hx31 hy31

/-- `select_curve_sound` for the function answering `ecm_select` in the driver -/
theorem select_curve_fin_sound (chk : Bool) (a b gx gy : Fin n)
    (hg : suyamaIsValid a b gx gy ⟨gx, gy, 1⟩) (seed : Nat) (h2 : 2 ≤ seed) :
    (selectCurveFin n chk a b gx gy seed ≠ .panic) ∧
    (∀ c, selectCurveFin n chk a b gx gy seed = .curve c → ecmIsValid c.d c.twisted c.g) ∧
    (∀ p, selectCurveFin n chk a b gx gy seed = .factor p → p ∣ n ∧ 1 < p ∧ p < n) :=
  select_curve_sound (finCtx n) (finCtx_lawful n) (Nat.pos_of_ne_zero (NeZero.ne n)) chk a b gx gy hg seed h2

/-- `ecm::ecm(n, curves, ..)` as the driver answers `ecm_select`, for every modulus `n > 0` prime to 3 and
every number of curves below `2^63`: `Suyama11::new(..).unwrap()` succeeds, and for every seed of the
generator `do_curve` does not panic before `ecm_curve`, runs only curves whose generator is on them, and
returns only proper divisors of `n` (both profiles). -/
theorem ecm_select_fin_sound (chk : Bool) (curves : Nat) (h3 : n % 3 ≠ 0) :
    ∃ a b gx gy : Fin n, suyamaNewFin n chk = .ok (a, b, gx, gy) ∧
      ∀ l, ecmSeeds n curves = some l → ∀ s ∈ l,
        (selectCurveFin n chk a b gx gy s ≠ .panic) ∧
        (∀ c, selectCurveFin n chk a b gx gy s = .curve c → ecmIsValid c.d c.twisted c.g) ∧
        (∀ p, selectCurveFin n chk a b gx gy s = .factor p → p ∣ n ∧ 1 < p ∧ p < n) := by
  obtain ⟨t, _, hok, hv⟩ := (suyama_new_fin_spec n chk).2 h3
  refine ⟨_, _, _, _, hok, fun l hl s hs => ?_⟩
  exact select_curve_fin_sound n chk _ _ _ _ hv s ((ecm_seeds_spec n curves l hl).2 s hs).1

/-- `select128_sound` for the function answering `ecm128_select` in the driver -/
theorem select128_fin_sound (a b gx gy : Fin n)
    (hg : suyamaIsValid a b gx gy ⟨gx, gy, 1⟩) (seed : Nat) (h1 : 1 ≤ seed) (hs : seed + 1 < 2 ^ 32) :
    select128Fin n a b gx gy seed ≠ .panic ∧
    (∀ p, select128Fin n a b gx gy seed = .factor p → p ∣ n ∧ 1 < p ∧ p < n) :=
  select128_sound (finCtx n) (finCtx_lawful n) a b gx gy hg seed h1 hs

end

/-! non-vacuity of the remaining hypotheses -/
example : select128 (zmodCtx 35) 0 0 0 0 (2 ^ 32 - 1) = .panic := select128_overflow_panics _ _ _ _ _ _ (by norm_num)
example : (match suyamaNewFin 35 true with | .ok _ => true | _ => false) = true := by decide
example : (match suyamaNewFin 35 false with
    | .ok (a, b, gx, gy) => (match selectCurveFin 35 false a b gx gy 3 with | .factor p => p | _ => 0)
    | _ => 0) = 7 := by decide
example : ∃ l, ecmSeeds (311 * 3259) 3 = some l := ⟨_, rfl⟩
example : suyamaIsValid (-3 : Int) 3 1 1 ⟨1, 1, 1⟩ := by simp [suyamaIsValid, suyamaIsValidSides]
example : ladder (fun x : Int => x + x) (fun x => x + 1) (fun _ _ => none) 5 (Nat.log2 5) 1 = .ok 5 := by decide
example : curve128From (⟨true, 0, ⟨1, 2, 3⟩⟩ : CurveData Int) 2 = some ⟨1, 2, 3⟩ := rfl
example : ((zmodCtx 35).n : ZMod 35) = 0 := by decide

end Ymq.C15
