/-
C06, word level — `pseudoprime` above 64 bits runs on the limb-level Montgomery ring.
Only property theorems live here (helper lemmas: Ymq/Lemmas/PseudoprimeWord.lean).

`Ymq.PseudoprimeWord.pseudoprimeW` is the Miller–Rabin loop of lib.rs `pseudoprime` written over
C07's limb-level model of `ZmodN` (`new`, `from_int`, CIOS `mul` + conditional subtraction, `sub`,
`one`, `zero`, `==` on 8-word `MInt`s), every `assert!`/`debug_assert!`/overflow/index site of
those routines being a `none`.  Props/C06.lean is about `Ymq.Pseudoprime.pseudoprime`, which takes
the ring operations as exact arithmetic on residues.  The theorems below close that gap by
composition with C07 (`mul_spec'`, `sub_spec'`, `fromInt_spec`, `new_valid'`): the two models are
the same function, on every input.  Note that the composition needs no size margin: `pseudoprime`
only uses `mul` (specified for every admitted modulus) and `sub(0, one)` (the case of `sub` that
cannot overflow), so 512-bit moduli — where C07's `add`/`sub` have a counter-example — are covered.

The 64-bit path needs no second model: `Ymq.Mg64.isprime64` is word-exact (`mgRedc`,
`mgMul`, `mg2adicInv` with their overflow/underflow sites), and the theorems of Props/C06.lean
(`isprime64_complete/_sound/_exact/_total/_even`, `miller_iff_sprp`) are about that model.
-/
import Ymq.Props.C06
import Ymq.Lemmas.PseudoprimeWord
import Ymq.Lemmas.ZmodNNew

namespace Ymq.C06
open Ymq.Mg64 Ymq.Pseudoprime Ymq.PseudoprimeWord Ymq.Gen.Primality

/-- **Word-level refinement, every input**: the Miller–Rabin loop over the limb-level `ZmodN`
returns exactly what the residue-level model returns — `some` of the same Boolean for every
`p < 2^512` (so no panic site of `ZmodN::{new, from_int, mul, sub}` is reached, in either build
profile, 8-word moduli included), and `none` (the `assert!` of `ZmodN::new`) for the same odd
`p ≥ 2^512`. -/
theorem pseudoprime_word_eq (p : Nat) : pseudoprimeW p = pseudoprime p := by
  unfold pseudoprimeW pseudoprime
  by_cases h2 : p % 2 = 0
  · rw [if_pos h2, if_pos h2]
  · rw [if_neg h2, if_neg h2]
    by_cases hW : p < Ymq.Mg64.W
    · rw [if_pos hW, if_pos hW]
    · rw [if_neg hW, if_neg hW]
      have hodd : p % 2 = 1 := by omega
      by_cases hbig : p ≥ 2 ^ 512
      · rw [if_pos hbig]
        have : ZmodN.new p = none := by
          unfold ZmodN.new
          rw [if_neg (by omega), if_pos (by simp only [ZmodN.MW]; omega)]
        rw [this]
      · rw [if_neg hbig]
        obtain ⟨c, hc, hv, hn, _⟩ := ZmodN.new_valid' p hodd (by omega)
        have hlow : p % Ymq.Limbs.W ≠ 0 := by
          have h64 : p % Ymq.Limbs.W % 2 = 1 := low_odd hodd
          intro h0; rw [h0] at h64; omega
        have hWp : Ymq.Mg64.W ≤ p := by omega
        have h1 : 1 < c.n := by rw [hn]; have : 1 < Ymq.Mg64.W := by decide
                                omega
        simp only [hc, if_neg hlow]
        have := basesW_eq hv h1 (tz64 (p % Ymq.Limbs.W - 1))
          (p / 2 ^ tz64 (p % Ymq.Limbs.W - 1)) smallPrimes
          (fun b hb => by rw [hn]; exact lt_of_lt_of_le (smallPrimes_small b hb).2 hWp)
        rw [this, hn]
        rfl

/-- non-vacuity on concrete multiword inputs, computed by the kernel on the limb-level model: the
Miller steps for the first and the last base on the 68-bit prime `12·2^64 + 1` (low word 1:
`s = 64`, even `p >> s = 12`); accepted inputs at all 46 bases and 8-word inputs (e.g. the largest 512-bit prime
`2^512 - 569`) are run through the same definitions by the native driver (op `pseudoprime_word`,
K stream of props/c06.py). -/
example : (ZmodN.new 221360928884514619393).bind
    (fun c => (millerBaseW c 64 12 2).bind fun a => (millerBaseW c 64 12 199).map fun b => (a, b))
    = some (true, true) := by decide +kernel

/-- **No panic at word level**: for every `p < 2^512` (even, one word, 2..8 words) the word-level
model returns; in particular none of the `debug_assert!`s of `ZmodN::mul` / `ZmodN::sub`, the
`debug_assert!(z[i] == 0)` and the `res[SIZE]` write of `_mint_mulmod`, the asserts of `mint_lt` /
`mint_sub`, the 2-adic inverse loop of `ZmodN::new` can fail inside `pseudoprime`. -/
theorem pseudoprime_word_total (p : Nat) (hlt : p < 2 ^ 512) : pseudoprimeW p ≠ none := by
  rw [pseudoprime_word_eq]; exact pseudoprime_total p hlt

/-- the whole function on the composite `2^128 + 1` (3 words), computed by the kernel -/
example : pseudoprimeW (2 ^ 128 + 1) = some false := by decide +kernel

/-- **The word-level `pseudoprime` never rejects a prime**, at every size the function accepts
(2..8 words; one word goes through `isprime64`). -/
theorem pseudoprime_complete_word (p : Nat) (hp : Nat.Prime p) (hlt : p < 2 ^ 512) :
    pseudoprimeW p = some true := by
  rw [pseudoprime_word_eq]; exact pseudoprime_complete p hp hlt

example : Nat.Prime 221360928884514619393 → pseudoprimeW 221360928884514619393 = some true :=
  fun h => pseudoprime_complete_word _ h (by decide +kernel)

/-- **Even inputs** of any size (0, 2, multiword evens, evens above 512 bits): answer `p = 2`,
decided before any ring is built. -/
theorem pseudoprime_word_even (p : Nat) (heven : p % 2 = 0) :
    pseudoprimeW p = some (decide (p = 2)) := by
  rw [pseudoprime_word_eq]; exact pseudoprime_even p heven

example : pseudoprimeW (2 ^ 700) = some false ∧ pseudoprimeW 2 = some true ∧
    pseudoprimeW 0 = some false ∧ pseudoprimeW (2 ^ 64 + 2) = some false := by
  refine ⟨?_, ?_, ?_, ?_⟩ <;> (rw [pseudoprime_word_even _ (by decide +kernel)]; decide +kernel)

/-- **Below 2** (the quantifier of the property includes 0 and 1): both models answer `false`,
as does `isprime64`. -/
theorem pseudoprime_below_two (p : Nat) (h : p < 2) :
    pseudoprime p = some false ∧ pseudoprimeW p = some false ∧ isprime64 p = some false := by
  have : p = 0 ∨ p = 1 := by omega
  rcases this with rfl | rfl <;> refine ⟨?_, ?_, ?_⟩ <;> decide +kernel

example : pseudoprime 1 = some false := (pseudoprime_below_two 1 (by decide)).1

/-- **Agreement with the 64-bit test** for the word-level model. -/
theorem pseudoprime_word_eq_isprime64 (p : Nat) (hlt : p < 2 ^ 64) :
    pseudoprimeW p = isprime64 p := by
  rw [pseudoprime_word_eq]; exact pseudoprime_eq_isprime64 p hlt

example : pseudoprimeW 1373653 = some false := by
  rw [pseudoprime_word_eq_isprime64 _ (by norm_num)]; decide +kernel

/-- Odd inputs of more than 512 bits: the word-level model stops at the `assert!` of `ZmodN::new`. -/
theorem pseudoprime_word_oversize (p : Nat) (hodd : p % 2 = 1) (hge : 2 ^ 512 ≤ p) :
    pseudoprimeW p = none := by
  rw [pseudoprime_word_eq]; exact pseudoprime_oversize p hodd hge

example : pseudoprimeW (2 ^ 512 + 1) = none :=
  pseudoprime_word_oversize _ (by decide +kernel) (by norm_num)

/-- **What the multiword test decides**: for odd `2^64 ≤ p < 2^512` with `p ≢ 1 (mod 2^65)` the
word-level `pseudoprime` answers `true` exactly when `p` is a strong probable prime (textbook
predicate `SPRP`) to each of the 46 bases of `SMALL_PRIMES`.  For `p ≡ 1 (mod 2^65)` only `←` holds
in general: `s = trailing_zeros(low word - 1)` is capped at 64, `p >> 64` stays even and the chain
starts at `b^(2^j d)` instead of `b^d` (a weaker test, still never rejecting a prime:
`pseudoprime_complete_word`); hence `_partial`. -/
theorem pseudoprime_word_iff_sprp_partial (p : Nat) (hodd : p % 2 = 1) (hW : 2 ^ 64 ≤ p)
    (hlt : p < 2 ^ 512) (h65 : p % 2 ^ 65 ≠ 1) :
    pseudoprimeW p = some true ↔ ∀ b ∈ smallPrimes, SPRP p b := by
  have hd := podd_odd p hodd h65
  have hpd := pp_split p hodd
  have hd' : p / 2 ^ tz64 (p % W - 1) < 2 ^ 1024 :=
    calc p / 2 ^ tz64 (p % W - 1) ≤ p := Nat.div_le_self _ _
      _ < 2 ^ 512 := hlt
      _ < 2 ^ 1024 := Nat.pow_lt_pow_right (by decide) (by decide)
  have h2 : 2 < p := lt_of_lt_of_le (by decide) hW
  rw [pseudoprime_word_eq]
  unfold pseudoprime
  rw [if_neg (by omega), if_neg (by rw [W_eq]; omega), if_neg (by omega)]
  simp only [Option.some.injEq, List.all_eq_true]
  exact ⟨fun h b hb => (millerBase_iff_SPRP p _ _ b h2 hodd hd hpd hd').1 (h b hb),
    fun h b hb => (millerBase_iff_SPRP p _ _ b h2 hodd hd hpd hd').2 (h b hb)⟩

/-- the hypotheses are satisfiable: `2^64 + 13` (the smallest prime above `2^64`; 65 bits, so
`p mod 2^65 = p ≠ 1`) -/
example : pseudoprimeW (2 ^ 64 + 13) = some true ↔ ∀ b ∈ smallPrimes, SPRP (2 ^ 64 + 13) b :=
  pseudoprime_word_iff_sprp_partial _ (by decide) (by decide) (by decide +kernel) (by decide)

/-- **Why `p ≡ 1 (mod 2^65)` is excluded above** (counter-witness at the level of one base): for
`n = 5 · 1010881575239283428557 = 137·2^65 + 1` (73 bits, low word 1) the code takes `s = 64` and
the even exponent `n >> 64 = 274`; for `b = 1010881575239283428556` (a square root of 1 other than
±1) the Miller step of `pseudoprime` answers `true` (`b^274 = 1`) although `n` is not a strong
probable prime to base `b` (`b^137 = b ≠ ±1`, `b^(137·2^r) = 1` for `r ≥ 1`).  `b` is not one of
the 46 bases: no input on which `pseudoprime` itself is fooled this way is known. -/
theorem millerBase_low_word_one_counterexample :
    (5054407876196417142785 : Nat) % 2 ^ 65 = 1 ∧
    tz64 (5054407876196417142785 % W - 1) = 64 ∧
    millerBase 5054407876196417142785 64 (5054407876196417142785 / 2 ^ 64)
      1010881575239283428556 = true ∧
    ¬ SPRP 5054407876196417142785 1010881575239283428556 := by
  refine ⟨by decide +kernel, by decide +kernel, by decide +kernel, ?_⟩
  rw [← millerBase_iff_SPRP 5054407876196417142785 65 137 1010881575239283428556 (by decide)
    (by decide) (by decide) (by decide +kernel)
    (lt_trans (by decide : 137 < 2 ^ 8) (Nat.pow_lt_pow_right (by decide) (by decide)))]
  decide +kernel

end Ymq.C06
