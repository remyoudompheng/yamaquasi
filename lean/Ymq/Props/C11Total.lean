/-
C11, totality on the realistic domain: for histories of at most 2^32 adds of input relations with
cycle length 1 and exponent sum + 2 at most 2^30, no `u64` exponent or cycle-length counter of the
relation store can overflow; together with `history_no_panic` the store operations are then total.
(Lemmas: Ymq/Lemmas/RelationsNoOverflow.lean.)
-/
import Ymq.Props.C11Walk
import Ymq.Lemmas.RelationsNoOverflow

namespace Ymq.C11
open Ymq.Relations

/-- the inputs the sieves produce: cycle length 1, sum of the exponents (+2) at most 2^30 -/
def SmallInputs (ops : List (Relation × Option (Nat × Nat))) : Prop :=
  ∀ op ∈ ops, total op.1.factors + 2 ≤ 2 ^ 30 ∧ op.1.cyclelen = 1

theorem smallInputs_relB {ops : List (Relation × Option (Nat × Nat))} (h : SmallInputs ops) :
    ∀ op ∈ ops, RelB (2 ^ 30) op.1 ∧ op.1.cyclelen = 1 := by
  intro op hop
  obtain ⟨h1, h2⟩ := h op hop
  exact ⟨by unfold RelB; rw [h2]; omega, h2⟩

theorem cap_domain {T : Nat} (hT : T ≤ 2 ^ 32) : Cap (2 ^ 30) T :=
  Cap.mono (T := 2 ^ 32) ⟨by decide, by decide⟩ hT

/-- `cyclelen_bounded` (the potential argument): after any history of `N` adds of inputs with cycle
length 1, for every pending single-large-prime relation, (its cycle length) + (the sum of the cycle
lengths of all pending doubles) ≤ N; and every pending relation `r` has (sum of its exponents) + 2 ≤
2^30 · cyclelen(r). A walk moves the cycle length of a consumed double from the sum into a single, an
`add` raises the bound by the cycle length of its input; `combine` is additive in both quantities. -/
theorem cyclelen_bounded (n fbsize maxlarge : Nat) (hn : n ≤ 2 ^ 512)
    (ops : List (Relation × Option (Nat × Nat))) (hok : HistoryOK n ops) (hsmall : SmallInputs ops)
    (s' : Store) (h : runHistory ops (Store.new n fbsize maxlarge) = .ok s') :
    Inv3 (2 ^ 30) ops.length s' := by
  have := runHistory_inv3 ops _ s' 0 h ⟨inv_new n fbsize maxlarge, by rw [X512_eq]; exact hn⟩
    (fun op hop => ⟨hok op hop, smallInputs_relB hsmall op hop⟩) (inv3_new _ 0 n fbsize maxlarge)
  simpa using this

/-- `history_no_overflow`: on that domain (at most 2^32 adds) no exponent sum and no cycle-length
sum computed by `combine` reaches 2^64: the history never ends in `.overflow`. -/
theorem history_no_overflow (n fbsize maxlarge : Nat) (hn : n ≤ 2 ^ 512)
    (ops : List (Relation × Option (Nat × Nat))) (hok : HistoryOK n ops) (hsmall : SmallInputs ops)
    (hlen : ops.length ≤ 2 ^ 32) :
    runHistory ops (Store.new n fbsize maxlarge) ≠ .error .overflow :=
  fun h => runHistory_nov (cap_domain hlen) ops _ 0 ⟨inv_new n fbsize maxlarge, by rw [X512_eq]; exact hn⟩
    (fun op hop => ⟨hok op hop, smallInputs_relB hsmall op hop⟩) (inv3_new _ 0 n fbsize maxlarge)
    (by omega) _ h rfl

theorem historyOK_of_OK2 {n maxlarge : Nat} {ops : List (Relation × Option (Nat × Nat))}
    (h : HistoryOK2 n maxlarge ops) : HistoryOK n ops := by
  intro op hop
  exact (h op hop (Store.new n 0 maxlarge) rfl rfl).base

/-- `history_total`: inside the callers' contract, on the domain above, every history runs to
completion — no panic, no debug assertion, no counter overflow, recursion within its fuel — and
ends in a store satisfying all three invariants. `history_no_panic` is unconditional there. -/
theorem history_total (n fbsize maxlarge : Nat) (hn : n ≤ 2 ^ 512)
    (ops : List (Relation × Option (Nat × Nat))) (hok : HistoryOK2 n maxlarge ops)
    (hsmall : SmallInputs ops) (hlen : ops.length ≤ 2 ^ 32) :
    ∃ s', runHistory ops (Store.new n fbsize maxlarge) = .ok s' ∧ Inv s' ∧ Inv2 s' ∧
      Inv3 (2 ^ 30) ops.length s' := by
  have hok1 := historyOK_of_OK2 hok
  have hnp := history_no_panic n fbsize maxlarge hn ops hok
  have hno := history_no_overflow n fbsize maxlarge hn ops hok1 hsmall hlen
  cases hr : runHistory ops (Store.new n fbsize maxlarge) with
  | error e =>
    have := hnp e hr
    subst this
    exact absurd hr hno
  | ok s' =>
    refine ⟨s', rfl, (history_inv n fbsize maxlarge hn ops hok1 s' hr).1, ?_,
      cyclelen_bounded n fbsize maxlarge hn ops hok1 hsmall s' hr⟩
    exact isRun_rec.inv2 isWalk_rec ops _ s' hr ⟨inv_new n fbsize maxlarge, by rw [X512_eq]; exact hn⟩
      (inv2_new n fbsize maxlarge) hok

/-- `history_total_stack`: totality for the model that mirrors the code (explicit-stack walk): it
returns the very same store (so `Inv3` of `history_total` holds of it too), its `while` loops within
`Store.iterFuel` iterations. -/
theorem history_total_stack (n fbsize maxlarge : Nat) (hn : n ≤ 2 ^ 512)
    (ops : List (Relation × Option (Nat × Nat))) (hok : HistoryOK2 n maxlarge ops)
    (hsmall : SmallInputs ops) (hlen : ops.length ≤ 2 ^ 32) :
    ∃ s', runHistoryStack ops (Store.new n fbsize maxlarge) = .ok s' ∧
      runHistory ops (Store.new n fbsize maxlarge) = .ok s' ∧ Inv s' ∧ Inv2 s' := by
  obtain ⟨s', h1, h2, h3, _⟩ := history_total n fbsize maxlarge hn ops hok hsmall hlen
  refine ⟨s', ?_, h1, h2, h3⟩
  exact history_stack_eq_rec n fbsize maxlarge hn ops (historyOK_of_OK2 hok) _ h1 (by intro hc; cases hc)

/-- non-vacuity: the history modulo 15 is inside the domain -/
example :
    SmallInputs
      [({ x := 3, cofactor := 7, cyclelen := 1, factors := [(2, 2), (3, 1)] }, none),
       ({ x := 5, cofactor := 7, cyclelen := 1, factors := [(5, 1), (-1, 1)] }, none),
       ({ x := 4, cofactor := 121, cyclelen := 1, factors := [] }, some (11, 11)),
       ({ x := 2, cofactor := 77, cyclelen := 1, factors := [(2, 1)] }, some (11, 7))] := by
  intro op hop
  simp only [List.mem_cons, List.not_mem_nil, or_false] at hop
  rcases hop with rfl | rfl | rfl | rfl <;> decide

end Ymq.C11
