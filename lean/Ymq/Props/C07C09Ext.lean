/-
C07 ∘ C09 (extension): `ZmodN::inv` on top of the C09 model of `inv_mod::<8>` on the sharp domain of the
cofactor-width theorem (`no_panic_ext_wide`; `inv_mod_total` and the `invMod_total` under it): moduli and operands
below `2^505`.
-/
import Ymq.Props.C07C09
import Ymq.Props.C09Ext

namespace Ymq.C09
open Ymq.Gcd Ymq.Limbs Ymq.ZmodN

/-- `ZmodN::inv` on top of the C09 model of `inv_mod`, modulus and operand below `2^505 = 2^(64*8-7)` (the sharp domain of
`inv_mod::<8>`: `no_panic_ext_threshold`): no panic;
`None` only if `gcd(x, n) ≠ 1`, otherwise the Montgomery form of the inverse (`r·x ≡ R² (mod n)`).
No hypothesis about `inv_mod` is left. -/
theorem zmodn_inv_spec_wide (c : Ctx) (hc : Valid c) (hn : c.n < 2 ^ (64 * 8 - 7)) (x : List Nat)
    (hx : val x < 2 ^ (64 * 8 - 7)) :
    (Nat.gcd (val x) c.n ≠ 1 ∧ ZmodN.inv invModC09 c x = some none) ∨
    (∃ r, ZmodN.inv invModC09 c x = some (some r) ∧ val r < c.n ∧
      val r * val x % c.n = Limbs.W ^ c.k * Limbs.W ^ c.k % c.n ∧ r.length = 8 ∧ Wf r) := by
  obtain ⟨r, hr⟩ := invMod_total (N := 8) (by decide) (Nat.pos_iff_ne_zero.mp hc.npos) hx hn
  exact zmodn_inv_of_returns c hc x r hr

set_option exponentiation.threshold 600 in
/-- the hypotheses are satisfiable above the old bound `2^500` by a REAL Montgomery context: the odd modulus
`n = 2^504 + 1` (`ZmodN::new` returns a `Valid` context for it: C07 `new_spec`) lies in `[2^500, 2^505)`, and
`x = 2^504 ≡ -1` is a unit of the same size -/
example : ∃ c x, Valid c ∧ c.n = 2 ^ 504 + 1 ∧ c.n % 2 = 1 ∧ c.n < 2 ^ (64 * 8 - 7) ∧ ¬ c.n < 2 ^ (64 * 8 - 12) ∧
    val x < 2 ^ (64 * 8 - 7) ∧ ¬ val x < 2 ^ (64 * 8 - 12) ∧ Nat.gcd (val x) c.n = 1 := by
  obtain ⟨c, _, h2, h3, _⟩ := Ymq.C07.new_spec (2 ^ 504 + 1) (by decide) (by decide)
  refine ⟨c, ofNat 8 (2 ^ 504), h2, h3, ?_⟩
  rw [h3]
  decide +kernel

set_option exponentiation.threshold 600 in
/-- … and on it the theorem yields the inverse branch (the `None` branch is excluded: the operand is a unit) -/
example : ∃ c x r, Valid c ∧ c.n = 2 ^ 504 + 1 ∧ ZmodN.inv invModC09 c x = some (some r) ∧ val r < c.n ∧
    val r * val x % c.n = Limbs.W ^ c.k * Limbs.W ^ c.k % c.n := by
  obtain ⟨c, _, h2, h3, _⟩ := Ymq.C07.new_spec (2 ^ 504 + 1) (by decide) (by decide)
  have hx : val (ofNat 8 (2 ^ 504)) < 2 ^ (64 * 8 - 7) ∧ Nat.gcd (val (ofNat 8 (2 ^ 504))) (2 ^ 504 + 1) = 1 := by
    decide +kernel
  rcases zmodn_inv_spec_wide c h2 (by rw [h3]; decide +kernel) (ofNat 8 (2 ^ 504)) hx.1 with ⟨hg, _⟩ | ⟨r, hr, hlt, hmul, _⟩
  · rw [h3] at hg; exact absurd hx.2 hg
  · exact ⟨c, _, r, h2, h3, hr, hlt, hmul⟩

end Ymq.C09
