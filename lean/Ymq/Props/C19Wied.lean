/-
C19 / Wiedemann: the callers of `berlekamp_massey` / `berlekamp_massey_big` in src/matrix/intsparse.rs
(models: Ymq/Model/Wiedemann.lean, Ymq/Model/WiedemannKer.lean). In the order of the file:
* one lane of `_detp4` after the Krylov loop (`laneDet`: Berlekamp–Massey, `charpoly[size]`, the
  sign): `p` an odd prime below `2^63`, `M` an `n × n` matrix over `ZMod p`, `seq` the `2n` reduced
  terms of a scalar Krylov sequence `s_k = w M^k v` (`_detp4`: `w = e_0`, `v` = the Fibonacci start
  vector) with at least two non-zero terms (`s_0 = 1` in `_detp4`; a sequence `[1,0,...,0]` is the
  recorded panic `sparse-det-degenerate-sequence-panic`);
* `mulp` and the Krylov loop of the model: a lane from the matrix to the determinant;
* `detz`: CRT over blocks of four moduli that stops at the first repeated value, the finding
  `sparse-det-early-termination` in general and its two witnesses;
* `select_crtprimes`;
* the kernel path `mulpbig`, `ker_pbig`, `ker_p256`;
* instances on which the hypotheses of each theorem hold.
-/
import Ymq.Lemmas.WiedemannDetz
import Ymq.Lemmas.WiedemannWitnessDet
import Ymq.Lemmas.WiedemannKerAlg
import Ymq.Props.C06
import Mathlib.Tactic.NormNum.Prime

namespace Ymq.C19Wied
open Ymq.BM Ymq.Wied Polynomial Matrix

/-- linear complexity below `n`: a recurrence of order `L < n` holds on the whole sequence
(`krylov_deficient` of props/c19.py) -/
def Deficient (p n : ℕ) (seq : List ℕ) : Prop :=
  ∃ L taps, L < n ∧ List.getD taps 0 0 % p ≠ 0 ∧ (∀ j, L < j → List.getD taps j 0 % p = 0) ∧
    ∀ i, L ≤ i → i < seq.length → convAt taps seq i % p = 0

/-- Cayley–Hamilton on the Krylov sequence: `Σ_m χ_m s_{k+m} = 0` for the characteristic
polynomial `χ` of `M`, over any field — a recurrence of order `n`. -/
theorem krylov_recurrence {F : Type*} [Field F] {n : ℕ} (M : Matrix (Fin n) (Fin n) F)
    (w : Matrix (Fin 1) (Fin n) F) (v : Matrix (Fin n) (Fin 1) F) (k : ℕ) :
    ∑ m ∈ Finset.range (n + 1), M.charpoly.coeff m * krylovSeq M w v (k + m) = 0 :=
  charpoly_annihilates M w v k

/-- what `laneDet` computes from the Berlekamp–Massey output -/
private theorem laneDet_eval (p n : ℕ) (hp : 0 < p) (hn : 1 ≤ n) (seq out : List ℕ) (h : bm p seq = some out)
    (hl : out.length = 2 * n) (hr : ∀ x ∈ out, x < p) :
    (out.getD n 0 = 0 → laneDet n p seq = some 0) ∧
    (out.getD n 0 ≠ 0 → ∃ d, laneDet n p seq = some d ∧ d < p ∧ d ≠ 0 ∧
      (d : ZMod p) = (-1) ^ n * ((out.getD n 0 : ℕ) : ZMod p)) := by
  have hidx : out[n]? = some (out.getD n 0) := getElem?_of_lt out n (by omega)
  have hc : out.getD n 0 < p := red_of_mem hp out hr n
  generalize out.getD n 0 = c0 at *
  constructor
  · intro h0
    simp [laneDet, h, hidx, h0]
  · intro h0
    rcases Nat.even_or_odd n with he | ho
    · refine ⟨c0, ?_, hc, h0, ?_⟩
      · have : ¬ n % 2 = 1 := by have := Nat.even_iff.mp he; omega
        simp [laneDet, h, hidx, this]
      · rw [he.neg_one_pow, one_mul]
    · refine ⟨p - c0, ?_, by omega, by omega, ?_⟩
      · have h1 : n % 2 = 1 := Nat.odd_iff.mp ho
        have h2 : ¬ p < c0 := by omega
        simp [laneDet, h, hidx, h1, h0, h2]
      · rw [ho.neg_one_pow, Nat.cast_sub (le_of_lt hc), ZMod.natCast_self]; ring

/-- **Full complexity.** On the Krylov sequence of `M`, `berlekamp_massey` does not panic; if the
returned vector has degree exactly `n` it is the reversed characteristic polynomial of `M`
(coefficient by coefficient) and the value `_detp4` reads off, with the code's sign convention
(`p - c0` for odd size and `c0 ≠ 0`), is `det M`; if its degree is smaller the lane returns 0. -/
theorem detp4_spec_full_complexity (p : ℕ) [hpf : Fact p.Prime] (hodd : p % 2 = 1) (hlt : p < 2 ^ 63)
    (n : ℕ) (hn : 1 ≤ n) (M : Matrix (Fin n) (Fin n) (ZMod p))
    (w : Matrix (Fin 1) (Fin n) (ZMod p)) (v : Matrix (Fin n) (Fin 1) (ZMod p))
    (seq : List ℕ) (hlen : seq.length = 2 * n) (hr : ∀ x ∈ seq, x < p)
    (hs : ∀ k, k < 2 * n → ((seq.getD k 0 : ℕ) : ZMod p) = krylovSeq M w v k)
    (h2 : TwoTerms seq) :
    ∃ out, bm p seq = some out ∧ out.length = 2 * n ∧
      (out.getD n 0 ≠ 0 →
        (∀ j, ((out.getD j 0 : ℕ) : ZMod p) = M.charpoly.reverse.coeff j) ∧
        ∃ d, laneDet n p seq = some d ∧ d < p ∧ (d : ZMod p) = M.det) ∧
      (out.getD n 0 = 0 → laneDet n p seq = some 0) := by
  have hp : p.Prime := hpf.out
  obtain ⟨pinv, hpinv, e⟩ := bm_prelude p hodd hlt seq
  have ok := mgOps_ok p pinv hodd hlt hpinv
  obtain ⟨out, A, c1, c2, c3, c4, c5, c6, _⟩ := wied_core ok hn M w v seq hlen hr hs h2
  rw [← e] at c1
  obtain ⟨l0, l1⟩ := laneDet_eval p n hp.pos hn seq out c1 c2 c3
  refine ⟨out, c1, c2, ?_, l0⟩
  intro htop
  have hc : out.getD n 0 < p := red_of_mem hp.pos out c3 n
  have htop' : ((out.getD n 0 : ℕ) : ZMod p) ≠ 0 := by
    rw [Ne, cast_eq_zero_of_lt hc]; exact htop
  have hfull := wied_full M out A c4 c6 htop'
  refine ⟨fun j => ?_, ?_⟩
  · rw [← hfull, coeff_toPoly]; rfl
  · obtain ⟨d, d1, d2, _, d4⟩ := l1 htop
    exact ⟨d, d1, d2, by rw [d4, wied_det_of_full M out hfull]⟩

/-- **The recorded finding `sparse-det-false-zero`, exactly.** For a matrix that is nonsingular
modulo `p`, the lane returns 0 (a false zero) if and only if the Krylov sequence has linear
complexity below `n`. (For a singular matrix the lane returns 0 in either case, correctly.) -/
theorem detp4_false_zero_iff_deficient (p : ℕ) [hpf : Fact p.Prime] (hodd : p % 2 = 1)
    (hlt : p < 2 ^ 63) (n : ℕ) (hn : 1 ≤ n) (M : Matrix (Fin n) (Fin n) (ZMod p))
    (w : Matrix (Fin 1) (Fin n) (ZMod p)) (v : Matrix (Fin n) (Fin 1) (ZMod p))
    (seq : List ℕ) (hlen : seq.length = 2 * n) (hr : ∀ x ∈ seq, x < p)
    (hs : ∀ k, k < 2 * n → ((seq.getD k 0 : ℕ) : ZMod p) = krylovSeq M w v k)
    (h2 : TwoTerms seq) (hdet : M.det ≠ 0) :
    laneDet n p seq = some 0 ↔ Deficient p n seq := by
  have hp : p.Prime := hpf.out
  obtain ⟨pinv, hpinv, e⟩ := bm_prelude p hodd hlt seq
  have ok := mgOps_ok p pinv hodd hlt hpinv
  obtain ⟨out, A, c1, c2, c3, c4, c5, c6, c7⟩ := wied_core ok hn M w v seq hlen hr hs h2
  have c1' : bm p seq = some out := by rw [e]; exact c1
  obtain ⟨l0, l1⟩ := laneDet_eval p n hp.pos hn seq out c1' c2 c3
  have hc : out.getD n 0 < p := red_of_mem hp.pos out c3 n
  constructor
  · intro hz
    have htop : out.getD n 0 = 0 := by
      by_contra hne
      obtain ⟨d, d1, _, d3, _⟩ := l1 hne
      rw [hz] at d1
      exact d3 (Option.some.inj d1).symm
    have hA := wied_deficient M out A c5 c6 (by rw [htop]; simp) hdet hn
    refine ⟨n - 1, out, by omega, ?_, ?_, ?_⟩
    · rw [c4, Nat.mod_eq_of_lt hp.one_lt]; omega
    · intro j hj
      by_cases hjn : j = n
      · rw [hjn, htop]; simp
      · rw [c5 j (by omega)]; simp
    · intro i h1 h2'
      rw [mod_eq_zero_iff_cast, convAt_cast]
      exact c7 i (by omega) (by rw [hlen] at h2'; exact h2')
  · rintro ⟨L, taps, hL, t0, t1, t2⟩
    obtain ⟨m1, _⟩ := core_minimal_list ok seq hr h2 L taps (by rw [hlen]; omega) t0 t1 t2 out c1
    exact l0 (m1 n hL)


/-! ### `mulp` and the Krylov loop of the model -/

/-- **`mulp`, one lane (`mulp_spec`).** `posW r`, `negW r` are the two sums whose maximum over
the rows is `SparseMat::norm()`. If the lane's vector has `size` entries, each at most `Bd`, and
`posW r · Bd < 2^63`, `negW r · Bd < 2^63` for every row (with `Bd = p - 1` this is the code's
assumption `p · norm < 2^63`, `select_crtprimes`' `debug_assert!`), then for `0 < p < 2^63` no
`i64` operation overflows in the checked profile, nothing panics, and the lane returns
`(Σ_j M_ij v_j) mod p` for every row `i` — in matrix form `M · v` over `ZMod p`. The lanes of
`mulp::<N>` do not interact (each lane is this function of its own modulus and vector). -/
theorem mulp_spec (p : ℕ) (hp0 : 0 < p) (hp : (p : Int) < I63) (m : Mat) (v : List ℕ)
    (hlen : v.length = m.length) (hcols : ∀ r ∈ m, ∀ je ∈ r, je.1 < m.length)
    (Bd : Int) (hB0 : 0 ≤ Bd) (hv : ∀ j, ((v.getD j 0 : ℕ) : Int) ≤ Bd)
    (hw : ∀ r ∈ m, posW r * Bd < I63 ∧ negW r * Bd < I63) :
    ∃ out, mulpLane m p v = some out ∧ out.length = m.length ∧
      (∀ i, out.getD i 0 = (rowDot (fun j => v.getD j 0) (m.getD i []) % (p : Int)).toNat) ∧
      colOf p m.length out = matOf p m.length m * colOf p m.length v := by
  refine ⟨_, mulpLane_spec m p hp0 hp v hlen Bd hB0 hv hw, by simp, fun i => ?_,
    mulp_matrix m.length m hcols v hp0⟩
  exact getD_map_zero _ (by simp [rowDot, sumSel]) m i

/-- The bound matters: with `p · norm ≥ 2^63` the checked profile panics on an `i64` overflow
(the release profile wraps silently: the real code answers 1310722 instead of `p - 65534` for this
request, `im_mulp4 0:32767,0:32767 p,p,p,p v,v,v,v` with `p = 2^48 + 21`, `v = p - 1`). -/
theorem mulp_overflow_witness :
    mulpLane [[(0, 32767), (0, 32767)]] 281474976710677 [281474976710676] = none := by
  decide +kernel

/-- the code's own bound `norm() · max(p, 65537) ≤ 2^63` as an entry bound `Bd = max(p, 65537) - 1`
with `weight · Bd < 2^63` for every row -/
private theorem budget_of_norm (p : ℕ) (m : Mat)
    (hnorm : (norm m : Int) * ((max p 65537 : ℕ) : Int) ≤ 2 ^ 63) :
    ∃ Bd : Int, (p : Int) ≤ Bd + 1 ∧ 65536 ≤ Bd ∧
      ∀ r ∈ m, posW r * Bd < I63 ∧ negW r * Bd < I63 := by
  have hmx : (65537 : Int) ≤ ((max p 65537 : ℕ) : Int) := by exact_mod_cast le_max_right p 65537
  have hmp : (p : Int) ≤ ((max p 65537 : ℕ) : Int) := by exact_mod_cast le_max_left p 65537
  have hn0 : (0 : Int) ≤ (norm m : Int) := Int.natCast_nonneg _
  refine ⟨((max p 65537 : ℕ) : Int) - 1, by omega, by omega, weights_of_norm m _ (by omega) ?_⟩
  rw [I63_eq]
  rcases Nat.eq_zero_or_pos (norm m) with h0 | h0
  · rw [h0]; norm_num
  · have : (1 : Int) ≤ (norm m : Int) := by exact_mod_cast h0
    rw [mul_sub, mul_one]
    omega

/-- **One lane of `_detp4`, from the matrix to the determinant.** For a validated matrix `m` of
size `n ≥ 1`, an odd prime `p < 2^63` and a bound `Bd ≥ max(p - 1, 65536)` with
`weight · Bd < 2^63` for every row: the Krylov loop does not panic and yields `2n` reduced terms
`s_t = e_0 · M^t · v` (`M = matOf p n m`, `v` = the Fibonacci start vector); if the sequence has two
non-zero terms, Berlekamp–Massey does not panic, and the lane returns `det M` whenever the
returned polynomial has degree `n`, and 0 otherwise. -/
theorem detp4_lane_of_model (p : ℕ) [hpf : Fact p.Prime] (hodd : p % 2 = 1) (hlt : p < 2 ^ 63)
    (n : ℕ) (hn : 1 ≤ n) (m : Mat) (hm : m.length = n) (hcols : ∀ r ∈ m, ∀ je ∈ r, je.1 < n)
    (Bd : Int) (hBp : (p : Int) ≤ Bd + 1) (hB65 : 65536 ≤ Bd)
    (hw : ∀ r ∈ m, posW r * Bd < I63 ∧ negW r * Bd < I63) :
    ∃ seq, krylov m p (2 * m.length + 1) (startVec m.length 0 1) [] = some seq ∧
      seq.length = 2 * n ∧
      (TwoTerms seq → ∃ out, bm p seq = some out ∧
        (out.getD n 0 ≠ 0 → ∃ d, laneDet n p seq = some d ∧ d < p ∧
          (d : ZMod p) = (matOf p n m).det) ∧
        (out.getD n 0 = 0 → laneDet n p seq = some 0)) := by
  have hp : p.Prime := hpf.out
  have hpI : (p : Int) < I63 := by rw [I63_eq]; exact_mod_cast hlt
  obtain ⟨seq, k1, k2, k3, k4⟩ := krylov_model_spec n hn m hm hcols hp.one_lt hpI Bd hBp hB65 hw
  refine ⟨seq, k1, k2, fun h2 => ?_⟩
  obtain ⟨out, o1, _, o3, o4⟩ := detp4_spec_full_complexity p hodd hlt n hn (matOf p n m)
    (e0 p n) (colOf p n (startVec n 0 1)) seq k2 k3 k4 h2
  exact ⟨out, o1, fun h => (o3 h).2, o4⟩

/-- The same with the code's own bound: `norm() · max(p, 65537) ≤ 2^63` (for the moduli of
`select_crtprimes`, `p · norm < 2^63` is its `debug_assert!`; 65537 bounds the start vector). -/
theorem detp4_lane_of_norm (p : ℕ) [hpf : Fact p.Prime] (hodd : p % 2 = 1) (hlt : p < 2 ^ 63)
    (n : ℕ) (hn : 1 ≤ n) (m : Mat) (hm : m.length = n) (hcols : ∀ r ∈ m, ∀ je ∈ r, je.1 < n)
    (hnorm : (norm m : Int) * ((max p 65537 : ℕ) : Int) ≤ 2 ^ 63) :
    ∃ seq, krylov m p (2 * m.length + 1) (startVec m.length 0 1) [] = some seq ∧
      seq.length = 2 * n ∧
      (TwoTerms seq → ∃ out, bm p seq = some out ∧
        (out.getD n 0 ≠ 0 → ∃ d, laneDet n p seq = some d ∧ d < p ∧
          (d : ZMod p) = (matOf p n m).det) ∧
        (out.getD n 0 = 0 → laneDet n p seq = some 0)) := by
  obtain ⟨Bd, b1, b2, b3⟩ := budget_of_norm p m hnorm
  exact detp4_lane_of_model p hodd hlt n hn m hm hcols Bd b1 b2 b3

/-- **A lane of a matrix that is singular modulo `p` returns 0** — correctly, and whatever the
linear complexity of the sequence is — provided the sequence is not the degenerate `1, 0, …, 0`:
its first term is 1, the hypothesis `h1` says that the second, `(row 0) · v mod p`, is not 0. -/
theorem lane_zero_of_singular (p : ℕ) [hpf : Fact p.Prime] (hodd : p % 2 = 1) (hlt : p < 2 ^ 63)
    (n : ℕ) (hn : 1 ≤ n) (m : Mat) (hm : m.length = n) (hcols : ∀ r ∈ m, ∀ je ∈ r, je.1 < n)
    (hnorm : (norm m : Int) * ((max p 65537 : ℕ) : Int) ≤ 2 ^ 63)
    (hdet : (matOf p n m).det = 0)
    (h1 : rowDot (fun j => (startVec n 0 1).getD j 0) (m.getD 0 []) % (p : Int) ≠ 0) :
    ∃ seq, krylov m p (2 * m.length + 1) (startVec m.length 0 1) [] = some seq ∧
      laneDet n p seq = some 0 := by
  have : Fact (1 < p) := ⟨hpf.out.one_lt⟩
  obtain ⟨Bd, b1, b2, b3⟩ := budget_of_norm p m hnorm
  have hpI : (p : Int) < I63 := by rw [I63_eq]; exact_mod_cast hlt
  obtain ⟨seq, k1, k2, k3, k4⟩ := krylov_model_spec n hn m hm hcols hpf.out.one_lt hpI Bd b1 b2 b3
  refine ⟨seq, k1, ?_⟩
  have t0 : seq.getD 0 0 ≠ 0 := by
    intro h
    have h0 := k4 0 (by omega)
    have e : colOf p n (startVec n 0 1) ⟨0, hn⟩ 0 = 1 := by
      obtain ⟨n', rfl⟩ : ∃ n', n = n' + 1 := ⟨n - 1, by omega⟩
      simp [colOf, startVec]
    rw [h, krylovSeq_e0 n hn, pow_zero, Matrix.one_mul, e, Nat.cast_zero] at h0
    exact zero_ne_one h0
  have t1 : seq.getD 1 0 ≠ 0 := by
    intro h
    have h0 := k4 1 (by omega)
    rw [h, krylovSeq_e0 n hn, pow_one, matOf_mul_colOf n m hcols, Nat.cast_zero] at h0
    exact h1 (Int.emod_eq_zero_of_dvd ((ZMod.intCast_zmod_eq_zero_iff_dvd _ p).mp h0.symm))
  obtain ⟨out, _, _, o3, o4⟩ := detp4_spec_full_complexity p hodd hlt n hn (matOf p n m)
    (e0 p n) (colOf p n (startVec n 0 1)) seq k2 k3 k4 ⟨0, 1, by decide, t0, t1⟩
  by_cases htop : out.getD n 0 = 0
  · exact o4 htop
  · obtain ⟨d, d1, d2, d3⟩ := (o3 htop).2
    rw [hdet] at d3
    rw [(cast_eq_zero_of_lt d2).mp d3] at d1
    exact d1

/-! ### `detz`: CRT with termination on the first repeated value -/

/-- **`detz` from its lanes (partial).** `detz` does NOT use the Hadamard/norm bound: it rebuilds
the determinant after every block of four moduli and returns as soon as two consecutive values
agree (the first comparison is with the initial value 0). What can be proved: if
`select_crtprimes` returns (at least) eight pairwise coprime moduli below `2^64`, every lane of the
first two blocks returns a residue of the integer `d` (`p_i ∣ r_i - d`: what
`detp4_spec_full_complexity` gives lane by lane for `d = det M`), and already the product of the
FIRST FOUR moduli exceeds `2|d|`, then `detz` returns `d` (without panic, `unreachable!()` not
reached). Without the bound on the first block the statement is false:
`detz_early_termination_witness`. `hinv` is discharged by `Ymq.C19.invMod64_invSpec`. -/
theorem detz_of_detp_partial (isprime : ℕ → Option Bool) (inv : Ymq.IntMat.Inv)
    (hinv : Ymq.IntMat.InvSpec inv) (m : Mat) (d : Int)
    (p0 p1 p2 p3 p4 p5 p6 p7 : ℕ) (rest : List ℕ) (r0 r1 r2 r3 r4 r5 r6 r7 : ℕ)
    (hsel : selectPrimes isprime m = some (p0 :: p1 :: p2 :: p3 :: p4 :: p5 :: p6 :: p7 :: rest))
    (hb1 : detp m [p0, p1, p2, p3] = some [r0, r1, r2, r3])
    (hb2 : detp m [p4, p5, p6, p7] = some [r4, r5, r6, r7])
    (hp : ∀ q ∈ [p0, p1, p2, p3, p4, p5, p6, p7], 1 < q ∧ q < Ymq.IntMat.U64)
    (hcop : [p0, p1, p2, p3, p4, p5, p6, p7].Pairwise Nat.Coprime)
    (h0 : (p0 : Int) ∣ (r0 : Int) - d) (h1 : (p1 : Int) ∣ (r1 : Int) - d)
    (h2 : (p2 : Int) ∣ (r2 : Int) - d) (h3 : (p3 : Int) ∣ (r3 : Int) - d)
    (h4 : (p4 : Int) ∣ (r4 : Int) - d) (h5 : (p5 : Int) ∣ (r5 : Int) - d)
    (h6 : (p6 : Int) ∣ (r6 : Int) - d) (h7 : (p7 : Int) ∣ (r7 : Int) - d)
    (hd1 : -((p0 * p1 * p2 * p3 : ℕ) : Int) < 2 * d)
    (hd2 : 2 * d < ((p0 * p1 * p2 * p3 : ℕ) : Int)) :
    detz isprime inv m = some d := by
  rw [detz_of_selected hsel]
  exact detzLoop_first_block inv hinv m d p0 p1 p2 p3 p4 p5 p6 p7 rest r0 r1 r2 r3 r4 r5 r6 r7 _
    hb1 hb2 hp hcop h0 h1 h2 h3 h4 h5 h6 h7 hd1 hd2

/-- **The finding `sparse-det-early-termination` in general.** If the first four selected moduli
are prime and the matrix is singular modulo each of them (its determinant is a multiple of their
product; the Krylov sequences not degenerate, see `lane_zero_of_singular`), then all four lanes of
the first block return 0, the first reconstruction is 0 = the initial value of `res.det`, and
`detz` returns 0 whatever the determinant is. -/
theorem detz_zero_of_first_block (isprime : ℕ → Option Bool) (inv : Ymq.IntMat.Inv)
    (hinv : Ymq.IntMat.InvSpec inv) (m : Mat) (hn : 1 ≤ m.length)
    (hcols : ∀ r ∈ m, ∀ je ∈ r, je.1 < m.length) (p0 p1 p2 p3 : ℕ) (rest : List ℕ)
    (hsel : selectPrimes isprime m = some (p0 :: p1 :: p2 :: p3 :: rest))
    (h65 : norm m * 65537 ≤ 2 ^ 63)
    (hq : ∀ q ∈ [p0, p1, p2, p3], q.Prime ∧ (matOf q m.length m).det = 0 ∧
      rowDot (fun j => (startVec m.length 0 1).getD j 0) (m.getD 0 []) % (q : Int) ≠ 0) :
    detz isprime inv m = some 0 := by
  obtain ⟨_, c2, c3⟩ := selectPrimes_spec isprime m _ hsel
  have hsub : [p0, p1, p2, p3].Sublist (p0 :: p1 :: p2 :: p3 :: rest) :=
    List.take_sublist 4 (p0 :: p1 :: p2 :: p3 :: rest)
  have hlt : ∀ q ∈ [p0, p1, p2, p3], q < 2 ^ 63 := fun q hq' => by
    obtain ⟨_, e2, e3, _⟩ := c3 q (hsub.subset hq')
    exact lt_of_le_of_lt (Nat.le_mul_of_pos_right q e3) e2
  have hlanes : detp m [p0, p1, p2, p3] = some ([p0, p1, p2, p3].map fun _ => 0) := by
    apply detp_of_lanes
    intro q hq'
    obtain ⟨a, c, d⟩ := hq q hq'
    obtain ⟨_, e2, _, e4⟩ := c3 q (hsub.subset hq')
    have := Fact.mk a
    refine lane_zero_of_singular q (by omega) (hlt q hq') m.length hn m rfl hcols ?_ c d
    have : norm m * max q 65537 ≤ 2 ^ 63 := by
      rcases max_cases q 65537 with ⟨h, _⟩ | ⟨h, _⟩ <;> rw [h]
      · rw [Nat.mul_comm]; exact le_of_lt e2
      · exact h65
    exact_mod_cast this
  rw [detz_of_selected hsel, detzLoop_block inv hinv m 0 _ p0 p1 p2 p3 rest [] [] _ 0 hlanes
    (fun q hq' => ⟨(hq q hq').1.one_lt, lt_trans (hlt q hq') (by unfold Ymq.IntMat.U64; norm_num)⟩)
    (pairwise_coprime_of_decreasing _ (c2.sublist hsub) (fun q hq' => (hq q hq').1))
    (.cons (by simp) (.cons (by simp) (.cons (by simp) (.cons (by simp) .nil))))
    (by
      have : 0 < ([] ++ [p0, p1, p2, p3] : List ℕ).prod :=
        Ymq.IntMat.list_prod_pos _ fun q hq' => (hq q hq').1.pos
      omega)
    (by positivity)]
  exact if_neg (not_not.mpr rfl)

/-- **Counter-witness (finding `sparse-det-early-termination`).** For the nonsingular 15 × 15
matrix `advMat` (determinant `± 108 · p_0 p_1 p_2 p_3`, 201 bits, where `p_0 … p_3` are the moduli of
the first block; see Ymq/Lemmas/WiedemannWitness.lean; the determinant is not part of the statement:
it is `adv_det` with `advDet_ne_zero` in Ymq/Lemmas/WiedemannWitnessDet.lean) the model of `detz` — prime selection,
four correct lanes, CRT — returns 0 after a single block, because the first reconstruction equals
the initial value of `res.det`. The real code returns 0 as well, in both profiles
(`im_det_sparse`, props/c19_wied.py `WITNESSES`). -/
theorem detz_early_termination_witness :
    (mkMat advMat).bind (detz Ymq.Mg64.isprime64 Ymq.Arith.invMod64) = some 0 := by
  rw [adv_valid, Option.bind_some]
  refine detz_zero_of_first_block _ _ Ymq.C19.invMod64_invSpec advMat (by decide) (by decide)
    _ _ _ _ _ adv_primes (by decide +kernel) fun q hq =>
    ⟨adv_first_block_prime q hq, adv_singular q (adv_first_block_dvd q hq), ?_⟩
  revert q; decide +kernel


/-- **Counter-witness, closed inside Lean.** `advMat2` (the matrix of
`detz_early_termination_witness` with its digit column moved to the last position; see
Ymq/Lemmas/WiedemannWitnessDet.lean) is a validated 15 × 15 integer matrix whose determinant is
`advDet ≠ 0` (the number `108 · p_0 p_1 p_2 p_3`; `det = advDet` is proved through an explicit triangularisation
`A · U = L`, `det U = 1`), and the model of `detz` returns 0 on it: the returned value is not the
determinant. The real code returns 0 as well in both profiles. -/
theorem detz_early_termination_witness_closed :
    (intMatOf 15 advMat2).det = advDet ∧ advDet ≠ 0 ∧
      (mkMat advMat2).bind (detz Ymq.Mg64.isprime64 Ymq.Arith.invMod64) = some 0 := by
  refine ⟨adv2_det, advDet_ne_zero, ?_⟩
  rw [adv2_valid, Option.bind_some]
  refine detz_zero_of_first_block _ _ Ymq.C19.invMod64_invSpec advMat2 (by decide) (by decide)
    _ _ _ _ _ adv2_primes (by decide +kernel) fun q hq =>
    ⟨adv_first_block_prime q hq, adv2_singular q (adv_first_block_dvd q hq), ?_⟩
  revert q; decide +kernel

/-! ### `select_crtprimes` -/

/-- soundness of the primality test used by `select_crtprimes` -/
def IsprimeSound (isprime : ℕ → Option Bool) : Prop :=
  ∀ q, q < 2 ^ 64 → isprime q = some true → q.Prime

/-- `isprime64` (model of property C06) is sound under C06's three named literature hypotheses
(minimal strong pseudoprimes ψ₂, ψ₅, and none below 2^64 to the twelve prime bases up to 37). -/
theorem isprime64_isprimeSound
    (Hψ2 : ∀ n, n % 2 = 1 → 1 < n → n < 1373653 → (∀ b ∈ [2, 3], Ymq.Pseudoprime.SPRP n b) → Nat.Prime n)
    (Hψ5 : ∀ n, n % 2 = 1 → 1 < n → n < 2152302898747 →
      (∀ b ∈ [2, 3, 5, 7, 11], Ymq.Pseudoprime.SPRP n b) → Nat.Prime n)
    (Hψ12 : ∀ n, n % 2 = 1 → 1 < n → n < 2 ^ 64 →
      (∀ b ∈ [2, 3, 5, 7, 11, 13, 17, 19, 23, 29, 31, 37], Ymq.Pseudoprime.SPRP n b) → Nat.Prime n) :
    IsprimeSound Ymq.Mg64.isprime64 :=
  fun q hq h => Ymq.C06.isprime64_sound Hψ2 Hψ5 Hψ12 q hq h

/-- **`select_crtprimes`.** Whenever it returns, it returns exactly `max(size, 8)` moduli, in
strictly decreasing order (hence distinct), each accepted by the primality test — prime when the
test is sound — each with `q · norm < 2^63` (so `q < 2^63`), and pairwise coprime. It panics when
`norm = 0` (zero matrix: recorded in `sparse-det-degenerate-sequence-panic`). -/
theorem select_crtprimes_spec (isprime : ℕ → Option Bool) (hsound : IsprimeSound isprime) (m : Mat)
    (out : List ℕ) (h : selectPrimes isprime m = some out) :
    out.length = max m.length 8 ∧ out.Pairwise (· > ·) ∧ out.Pairwise Nat.Coprime ∧
      ∀ q ∈ out, q.Prime ∧ q * norm m < 2 ^ 63 ∧ q < 2 ^ 63 := by
  obtain ⟨h1, h2, h3⟩ := selectPrimes_spec isprime m out h
  have hq : ∀ q ∈ out, q.Prime ∧ q * norm m < 2 ^ 63 ∧ q < 2 ^ 63 := by
    intro q hq
    obtain ⟨a, b, c, _⟩ := h3 q hq
    have hlt : q < 2 ^ 63 := lt_of_le_of_lt (Nat.le_mul_of_pos_right q c) b
    exact ⟨hsound q (lt_trans hlt (by norm_num)) a, b, hlt⟩
  exact ⟨h1, h2, pairwise_coprime_of_decreasing out h2 (fun q hq' => (hq q hq').1), hq⟩

theorem select_crtprimes_zero_norm (isprime : ℕ → Option Bool) (m : Mat) (h : norm m = 0) :
    selectPrimes isprime m = none := by
  rw [selectPrimes_eq, if_neg (by omega)]

/-- **`detz` from its lanes, with the moduli the code selects (partial, see
`detz_of_detp_partial`).** Coprimality and the range of the moduli are not hypotheses here: they
follow from `select_crtprimes_spec`. -/
theorem detz_of_detp_selected_partial (isprime : ℕ → Option Bool) (hsound : IsprimeSound isprime)
    (inv : Ymq.IntMat.Inv) (hinv : Ymq.IntMat.InvSpec inv) (m : Mat) (d : Int)
    (p0 p1 p2 p3 p4 p5 p6 p7 : ℕ) (rest : List ℕ) (r0 r1 r2 r3 r4 r5 r6 r7 : ℕ)
    (hsel : selectPrimes isprime m = some (p0 :: p1 :: p2 :: p3 :: p4 :: p5 :: p6 :: p7 :: rest))
    (hb1 : detp m [p0, p1, p2, p3] = some [r0, r1, r2, r3])
    (hb2 : detp m [p4, p5, p6, p7] = some [r4, r5, r6, r7])
    (h0 : (p0 : Int) ∣ (r0 : Int) - d) (h1 : (p1 : Int) ∣ (r1 : Int) - d)
    (h2 : (p2 : Int) ∣ (r2 : Int) - d) (h3 : (p3 : Int) ∣ (r3 : Int) - d)
    (h4 : (p4 : Int) ∣ (r4 : Int) - d) (h5 : (p5 : Int) ∣ (r5 : Int) - d)
    (h6 : (p6 : Int) ∣ (r6 : Int) - d) (h7 : (p7 : Int) ∣ (r7 : Int) - d)
    (hd1 : -((p0 * p1 * p2 * p3 : ℕ) : Int) < 2 * d)
    (hd2 : 2 * d < ((p0 * p1 * p2 * p3 : ℕ) : Int)) :
    detz isprime inv m = some d := by
  obtain ⟨_, _, c3, c4⟩ := select_crtprimes_spec isprime hsound m _ hsel
  have hsub : [p0, p1, p2, p3, p4, p5, p6, p7].Sublist
      (p0 :: p1 :: p2 :: p3 :: p4 :: p5 :: p6 :: p7 :: rest) :=
    List.take_sublist 8 (p0 :: p1 :: p2 :: p3 :: p4 :: p5 :: p6 :: p7 :: rest)
  refine detz_of_detp_partial isprime inv hinv m d p0 p1 p2 p3 p4 p5 p6 p7 rest
    r0 r1 r2 r3 r4 r5 r6 r7 hsel hb1 hb2 ?_ (c3.sublist hsub) h0 h1 h2 h3 h4 h5 h6 h7 hd1 hd2
  intro q hq
  obtain ⟨a, _, c⟩ := c4 q (hsub.subset hq)
  exact ⟨a.one_lt, lt_trans c (by unfold Ymq.IntMat.U64; norm_num)⟩


/-! ### the kernel path: `mulpbig`, `ker_pbig`, `ker_p256` -/

/-- the asserts of `SparseMat::new` -/
theorem mkMat_valid (rows m : Mat) (h : mkMat rows = some m) :
    m = rows ∧ m.length < 65536 ∧ ∀ r ∈ m, ∀ je ∈ r, je.1 < m.length ∧ -32768 ≤ je.2 ∧ je.2 ≤ 32767 := by
  unfold mkMat at h
  split at h
  · simp at h
  · split at h
    · rename_i h1 h2
      have := Option.some.inj h
      subst this
      refine ⟨rfl, by omega, fun r hr je hje => ?_⟩
      rw [List.all_eq_true] at h2
      have := h2 r hr
      rw [List.all_eq_true] at this
      have := this je hje
      simp only [Bool.and_eq_true, decide_eq_true_eq] at this
      exact ⟨this.1.1, this.1.2, this.2⟩
    · simp at h

/-- **`ker_p256` is sound.** For a validated matrix, a modulus `p < 2^255` and whatever start
vector `v0` of reduced residues the generator supplied (`gen_range(1..p)` for `p < 2^64`, a `u64`
otherwise): if `ker_p256(p)` returns `Some(v)` then `v` has `size` entries, all `< p`, not all
zero, and `M · v = 0` over `ZMod p`. (The code checks this itself with its two final asserts; the
theorem says that the check is exact: `mulpbig` either panics on an overflow or returns the true
product, in each of the four integer widths of the dispatch.) No primality of `p` is needed. -/
theorem ker_p256_sound (rows m : Mat) (hm : mkMat rows = some m) (p : ℕ) (hp : p < 2 ^ 255)
    (v0 : List ℕ) (hv0 : ∀ x ∈ v0, x < p) (v : List ℕ) (h : kerP256 m p v0 = some (some v)) :
    v.length = m.length ∧ (∀ j, v.getD j 0 < p) ∧ (∃ x ∈ v, x ≠ 0) ∧
      matOf p m.length m * colOf p m.length v = 0 := by
  obtain ⟨_, _, hv⟩ := mkMat_valid rows m hm
  obtain ⟨⟨a, b⟩, c, d⟩ := kerBig_sound (kerWidth m p) m (fun r hr je hje => (hv r hr je hje).1) p
    (kerWidth_bound m p hp) v0 hv0 v h
  exact ⟨a, b, c, d⟩

/-- **`ker_p256` returns `None`** exactly when Berlekamp–Massey succeeds on the Krylov sequence
and both `charpoly[size]` and `charpoly[size - 1]` vanish ("double root"). -/
theorem ker_p256_none_iff (m : Mat) (p : ℕ) (v0 : List ℕ) :
    kerP256 m p v0 = some none ↔
      ∃ seq cp, krylovBig (kerWidth m p) m p (2 * m.length + 1) (startVec m.length 0 1) [] = some seq ∧
        bmBig p seq = some cp ∧ cp[m.length]? = some 0 ∧ cp[m.length - 1]? = some 0 :=
  kerBig_none_iff (kerWidth m p) m p v0

/-- **Panic classes of `ker_p256`** (besides overflow outside the documented widths and the two
final asserts): (i) `charpoly[size] ≠ 0`, i.e. the matrix is nonsingular modulo `p` or the sequence
is deficient — `assert!(c0.is_zero())`; (ii) every panic of `berlekamp_massey_big`, in particular
the degenerate Krylov sequence `[a,0,...,0]` (row 0 of the matrix orthogonal to the Krylov space:
the recorded `sparse-det-degenerate-sequence-panic`). -/
theorem ker_p256_panics (m : Mat) (p : ℕ) (v0 seq : List ℕ)
    (h1 : krylovBig (kerWidth m p) m p (2 * m.length + 1) (startVec m.length 0 1) [] = some seq) :
    (∀ cp c0, bmBig p seq = some cp → cp[m.length]? = some c0 → c0 ≠ 0 → kerP256 m p v0 = none) ∧
    (p.Prime → p < 2 ^ 244 → (∀ x ∈ seq, x < p) → seq.getD 0 0 ≠ 0 →
      (∀ i, 1 ≤ i → seq.getD i 0 = 0) → kerP256 m p v0 = none) := by
  refine ⟨fun cp c0 h2 h3 hc => kerBig_panic_of_c0 _ m p v0 seq cp c0 h1 h2 h3 hc, ?_⟩
  intro hp hlt hr ha hz
  apply kerBig_panic_of_bm _ m p v0 seq h1
  have := Fact.mk hp
  exact (core_none_iff (bigOps_ok p hlt) seq hr).mpr (Or.inr (Or.inl ⟨ha, hz⟩))


theorem kerWidth_ge (m : Mat) (p : ℕ) : (65537 : Int) ≤ 2 ^ (kerWidth m p - 1) := by
  unfold kerWidth
  simp only
  split
  · norm_num
  · split
    · norm_num
    · split <;> norm_num

/-- **`ker_p256` on a matrix that is singular modulo `p`** (`p` prime below `2^244`, Krylov
sequence with two non-zero terms — the situation the function is written for). If the Krylov
loop, the Horner loop and the last product do not overflow (they return), then:
Berlekamp–Massey does not panic; `assert!(c0.is_zero())` holds; when `charpoly[size-1] = 0` the
answer is `None`; otherwise the polynomial read IS the reversed characteristic polynomial of `M`
modulo `p`, the assert `M v = 0` holds by Cayley–Hamilton, and the answer is `Some(v)` with
`v = Σ_{t<n} c_t M^(n-1-t) v0` — unless that vector is zero, the only remaining panic
(`assert!(v.iter().any(..))`, an unlucky start vector). -/
theorem ker_p256_singular (rows m : Mat) (hm : mkMat rows = some m) (hn : 1 ≤ m.length) (p : ℕ)
    [Fact p.Prime] (hlt : p < 2 ^ 244) (hdet : (matOf p m.length m).det = 0) (seq : List ℕ)
    (h1 : krylovBig (kerWidth m p) m p (2 * m.length + 1) (startVec m.length 0 1) [] = some seq)
    (h2 : TwoTerms seq) (v0 : List ℕ) (hl0 : v0.length = m.length) (hv0 : ∀ x ∈ v0, x < p) :
    ∃ cp, bmBig p seq = some cp ∧ cp.getD m.length 0 = 0 ∧
      (cp.getD (m.length - 1) 0 = 0 → kerP256 m p v0 = some none) ∧
      (cp.getD (m.length - 1) 0 ≠ 0 → ∀ v z,
        hornerBig (kerWidth m p) m p cp v0 (m.length - 1) 1 v0 = some v →
        mulpBig (kerWidth m p) m p v = some z →
        kerP256 m p v0 = if v.any (· != 0) then some (some v) else none) := by
  obtain ⟨_, _, hval⟩ := mkMat_valid rows m hm
  have hcols : ∀ r ∈ m, ∀ je ∈ r, je.1 < m.length := fun r hr je hje => (hval r hr je hje).1
  have hpw := kerWidth_bound m p (lt_trans hlt (by norm_num))
  obtain ⟨cp, b1, b2, b3, b4⟩ := kerBig_singular (kerWidth m p) hlt hpw (kerWidth_ge m p) m hcols
    hn hdet seq h1 h2
  have hp0 : 0 < p := (Fact.out : p.Prime).pos
  have hi0 : cp[m.length]? = some 0 := by
    rw [getElem?_of_lt cp m.length (by omega)]; exact congrArg some b3
  have hi1 : cp[m.length - 1]? = some (cp.getD (m.length - 1) 0) :=
    getElem?_of_lt cp (m.length - 1) (by omega)
  refine ⟨cp, b1, b3, fun hc1 => ?_, fun hc1 v z hh hmz => ?_⟩
  · exact (kerBig_none_iff _ m p v0).mpr ⟨seq, cp, h1, b1, hi0, by rw [hi1, hc1]⟩
  · have hred0 : RedVec p m.length v0 := by
      refine ⟨hl0, fun j => ?_⟩
      exact red_of_mem hp0 v0 hv0 j
    have hz := b4 hc1 v0 v z hred0 hh hmz
    have hall : (z.all (· == 0)) = true := by
      rw [List.all_eq_true]; intro x hx; simp [hz x hx]
    unfold kerP256 kerBig
    simp only [h1, b1, hi0, hi1, ne_eq, not_true_eq_false, if_false, hc1, hl0, hh, hmz, hall]
    by_cases ha : (v.any (· != 0)) = true
    · simp [ha]
    · simp [ha]

/-! ### non-vacuity: the hypotheses of every theorem above hold on concrete instances -/

section NonVacuity

/-- `[[1, 2], [3, 5]]`: determinant `-1`, norm 8 -/
def exM : Mat := [[(0, 1), (1, 2)], [(0, 3), (1, 5)]]
/-- `[[1, 2], [2, 4]]`: singular -/
def exK : Mat := [[(0, 1), (1, 2)], [(0, 2), (1, 4)]]
/-- `x²` divides the characteristic polynomial -/
def exN : Mat := [[(0, 1), (1, 1), (2, 1)], [], []]
/-- a 1 × 1 matrix `(1)` written with two cancelling entries `±2^52`: norm `2^52 + 1`, so that the
moduli of `select_crtprimes` are small enough for a primality test by trial division -/
def exB : Mat := [[(0, 1), (0, 4503599627370496), (0, -4503599627370496)]]
/-- a primality test that is sound by construction: it accepts eight numbers, all prime -/
def exIsprime : ℕ → Option Bool :=
  fun q => some (decide (q ∈ [2039, 1979, 1949, 1889, 1709, 1619, 1559, 1499]))

local instance exFact7 : Fact (Nat.Prime 7) := ⟨by decide⟩

private theorem exM_weights (Bd : Int) (h : 8 * Bd < I63) (h0 : 0 ≤ Bd) :
    ∀ r ∈ exM, posW r * Bd < I63 ∧ negW r * Bd < I63 := by
  have h63 : (0 : Int) < I63 := by norm_num [I63]
  intro r hr
  simp only [exM, List.mem_cons, List.mem_nil_iff, or_false] at hr
  rcases hr with rfl | rfl <;> norm_num [posW, negW, sumSel] <;> constructor <;> linarith

/-- `mulp_spec`: hypotheses satisfied by `exM`, `p = 7`, `v = (1, 2)`, `Bd = 6` (the theorem
applies); the conclusion evaluated: `M v = (5, 13) ≡ (5, 6)`. -/
example : ∃ out, mulpLane exM 7 [1, 2] = some out ∧ out.length = exM.length := by
  obtain ⟨out, h1, h2, _⟩ := mulp_spec 7 (by decide) (by norm_num [I63]) exM [1, 2] rfl
    (by decide) 6 (by norm_num) (fun j => by rcases j with _ | _ | j <;> simp)
    (exM_weights 6 (by norm_num [I63]) (by norm_num))
  exact ⟨out, h1, h2⟩

example : mulpLane exM 7 [1, 2] = some [5, 6] := by decide +kernel

/-- `detp4_spec_full_complexity`, `detp4_false_zero_iff_deficient`: their hypotheses (a Krylov
sequence of a matrix over `ZMod p`, reduced, with two non-zero terms; `det ≠ 0` for the second)
hold for `M = exM mod 7`, `w = e_0`, `v = (1, 2)`: the sequence is `1, 5, 3, 2`. -/
example : ∃ seq : List ℕ, seq.length = 2 * 2 ∧ (∀ x ∈ seq, x < 7) ∧
    (∀ k, k < 2 * 2 → ((seq.getD k 0 : ℕ) : ZMod 7) =
      krylovSeq (matOf 7 2 exM) (e0 7 2) (colOf 7 2 (startVec 2 0 1)) k) ∧
    TwoTerms seq ∧ (matOf 7 2 exM).det ≠ 0 ∧ (7 % 2 = 1 ∧ 7 < 2 ^ 63 ∧ 1 ≤ 2) := by
  obtain ⟨seq, k1, k2, k3, k4⟩ := krylov_model_spec (p := 7) 2 (by decide) exM rfl (by decide)
    (by decide) (by norm_num [I63]) 65536 (by norm_num) (by norm_num)
    (exM_weights 65536 (by norm_num [I63]) (by norm_num))
  have hk : krylov exM 7 (2 * exM.length + 1) (startVec exM.length 0 1) [] = some [1, 5, 3, 2] := by
    decide +kernel
  have hs : seq = [1, 5, 3, 2] := Option.some.inj (k1.symm.trans hk)
  subst hs
  refine ⟨[1, 5, 3, 2], k2, k3, k4, ⟨0, 1, by decide, by decide, by decide⟩, ?_, by decide,
    by norm_num, by decide⟩
  rw [Matrix.det_fin_two]
  simp [matOf, exM]
  decide

/-- the conclusion of `detp4_spec_full_complexity` on that instance, by evaluation:
the lane returns `6 ≡ -1 = det` -/
example : bm 7 [1, 5, 3, 2] = some [1, 1, 6, 0] ∧ laneDet 2 7 [1, 5, 3, 2] = some 6 := by
  decide +kernel

/-- `detp4_lane_of_model` / `detp4_lane_of_norm`: hypotheses satisfied by `exM`, `p = 7`
(`norm · max(p, 65537) = 8 · 65537 ≤ 2^63`); the theorem applies. -/
example : ∃ seq, krylov exM 7 (2 * exM.length + 1) (startVec exM.length 0 1) [] = some seq ∧
    seq.length = 2 * 2 ∧
    (TwoTerms seq → ∃ out, bm 7 seq = some out ∧
      (out.getD 2 0 ≠ 0 → ∃ d, laneDet 2 7 seq = some d ∧ d < 7 ∧
        (d : ZMod 7) = (matOf 7 2 exM).det) ∧
      (out.getD 2 0 = 0 → laneDet 2 7 seq = some 0)) :=
  detp4_lane_of_norm 7 (by decide) (by norm_num) 2 (by decide) exM rfl (by decide)
    (by
      have : norm exM = 8 := by decide +kernel
      rw [this]; norm_num)

example : ∃ seq, krylov exM 7 (2 * exM.length + 1) (startVec exM.length 0 1) [] = some seq ∧
    seq.length = 2 * 2 ∧
    (TwoTerms seq → ∃ out, bm 7 seq = some out ∧
      (out.getD 2 0 ≠ 0 → ∃ d, laneDet 2 7 seq = some d ∧ d < 7 ∧
        (d : ZMod 7) = (matOf 7 2 exM).det) ∧
      (out.getD 2 0 = 0 → laneDet 2 7 seq = some 0)) :=
  detp4_lane_of_model 7 (by decide) (by norm_num) 2 (by decide) exM rfl (by decide) 65536
    (by norm_num) (by norm_num) (exM_weights 65536 (by norm_num [I63]) (by norm_num))

/-- the eight moduli `select_crtprimes` picks for `exM` (norm 8: the primes `30k - 1` below 2^60) -/
def exPrimes : List ℕ := [1152921504606846869, 1152921504606846719, 1152921504606846419,
  1152921504606846269, 1152921504606846179, 1152921504606845849, 1152921504606845789,
  1152921504606845399]

private theorem exM_sel : selectPrimes Ymq.Mg64.isprime64 exM = some exPrimes := by
  rw [selectPrimes_plain]; decide +kernel

private theorem exM_b1 : detp exM [1152921504606846869, 1152921504606846719,
    1152921504606846419, 1152921504606846269] = some [1152921504606846868,
    1152921504606846718, 1152921504606846418, 1152921504606846268] := by decide +kernel

private theorem exM_b2 : detp exM [1152921504606846179, 1152921504606845849,
    1152921504606845789, 1152921504606845399] = some [1152921504606846178,
    1152921504606845848, 1152921504606845788, 1152921504606845398] := by decide +kernel

/-- `detz_of_detp_partial`: all its hypotheses hold for `exM` (`d = det = -1`) with the real
moduli of `select_crtprimes`, the real lanes (residues `q - 1`) and `inv = invMod64`; the theorem
gives `detz = -1`, and so does the evaluation of the model. -/
example : detz Ymq.Mg64.isprime64 Ymq.Arith.invMod64 exM = some (-1) :=
  detz_of_detp_partial Ymq.Mg64.isprime64 Ymq.Arith.invMod64 Ymq.C19.invMod64_invSpec exM (-1)
    1152921504606846869 1152921504606846719 1152921504606846419 1152921504606846269
    1152921504606846179 1152921504606845849 1152921504606845789 1152921504606845399 []
    1152921504606846868 1152921504606846718 1152921504606846418 1152921504606846268
    1152921504606846178 1152921504606845848 1152921504606845788 1152921504606845398
    exM_sel exM_b1 exM_b2 (by decide +kernel) (by decide +kernel)
    ⟨1, by norm_num⟩ ⟨1, by norm_num⟩ ⟨1, by norm_num⟩ ⟨1, by norm_num⟩
    ⟨1, by norm_num⟩ ⟨1, by norm_num⟩ ⟨1, by norm_num⟩ ⟨1, by norm_num⟩
    (by norm_num) (by norm_num)

set_option maxRecDepth 100000 in
example : detz Ymq.Mg64.isprime64 Ymq.Arith.invMod64 exM = some (-1) := by
  rw [detz_of_selected exM_sel]
  refine (detzLoop_step _ _ _ _ _ _ _ _ _ _ _ _ (-1) exM_b1 (by decide +kernel)).trans ?_
  rw [if_pos (by decide)]
  refine (detzLoop_step _ _ _ _ _ _ _ _ _ _ _ _ (-1) exM_b2 (by decide +kernel)).trans ?_
  exact if_neg (by decide)

private theorem exIsprime_sound : IsprimeSound exIsprime := by
  intro q _ h
  simp only [exIsprime, Option.some.injEq, decide_eq_true_eq, List.mem_cons, List.mem_nil_iff,
    or_false] at h
  rcases h with rfl | rfl | rfl | rfl | rfl | rfl | rfl | rfl <;> norm_num

private theorem exB_sel : selectPrimes exIsprime exB =
    some [2039, 1979, 1949, 1889, 1709, 1619, 1559, 1499] := by decide +kernel

private theorem exB_b1 : detp exB [2039, 1979, 1949, 1889] = some [1, 1, 1, 1] := by
  decide +kernel

private theorem exB_b2 : detp exB [1709, 1619, 1559, 1499] = some [1, 1, 1, 1] := by
  decide +kernel

/-- `select_crtprimes_spec`: its hypotheses (a sound primality test, a returned selection) hold
for `exB` with the trial-division test; the theorem applies. (For `isprime64` soundness is the
content of C06's three literature hypotheses, see `isprime64_isprimeSound`.) -/
example : [2039, 1979, 1949, 1889, 1709, 1619, 1559, 1499].Pairwise Nat.Coprime ∧
    ∀ q ∈ [2039, 1979, 1949, 1889, 1709, 1619, 1559, 1499],
      q.Prime ∧ q * norm exB < 2 ^ 63 ∧ q < 2 ^ 63 :=
  let h := select_crtprimes_spec exIsprime exIsprime_sound exB _ exB_sel
  ⟨h.2.2.1, h.2.2.2⟩

/-- `detz_of_detp_selected_partial`: all hypotheses hold for `exB` (`d = det = 1`); the theorem
gives `detz = 1`. -/
example : detz exIsprime Ymq.Arith.invMod64 exB = some 1 :=
  detz_of_detp_selected_partial exIsprime exIsprime_sound Ymq.Arith.invMod64
    Ymq.C19.invMod64_invSpec exB 1 2039 1979 1949 1889 1709 1619 1559 1499 [] 1 1 1 1 1 1 1 1
    exB_sel exB_b1 exB_b2
    ⟨0, by norm_num⟩ ⟨0, by norm_num⟩ ⟨0, by norm_num⟩ ⟨0, by norm_num⟩
    ⟨0, by norm_num⟩ ⟨0, by norm_num⟩ ⟨0, by norm_num⟩ ⟨0, by norm_num⟩
    (by norm_num) (by norm_num)

private theorem exK_ker : kerP256 exK 7 [3, 5] = some (some [5, 1]) := by decide +kernel

/-- `ker_p256_sound`: hypotheses satisfied by the singular `exK`, `p = 7`, start vector `(3, 5)`:
the model returns `(5, 1)`, and the theorem gives `M · (5, 1) = 0` over `ZMod 7`. -/
example : [5, 1].length = exK.length ∧ (∀ j, [5, 1].getD j 0 < 7) ∧ (∃ x ∈ [5, 1], x ≠ 0) ∧
    matOf 7 exK.length exK * colOf 7 exK.length [5, 1] = 0 :=
  ker_p256_sound exK exK (by decide) 7 (by norm_num) [3, 5] (by decide) [5, 1] exK_ker

set_option maxRecDepth 100000 in
/-- `ker_p256_none_iff`: both sides are inhabited (`exN`: `x²` divides the characteristic
polynomial, the answer is `None`). -/
example : kerP256 exN 7 [1, 2, 3] = some none := by decide +kernel

private theorem exK_kry :
    krylovBig (kerWidth exK 7) exK 7 (2 * exK.length + 1) (startVec exK.length 0 1) [] =
      some [1, 5, 4, 6] := by decide +kernel

/-- `ker_p256_singular`: hypotheses satisfied by `exK`, `p = 7` (determinant `1·4 - 2·2 = 0`,
Krylov sequence `1, 5, 4, 6`); the theorem applies. -/
example : ∃ cp, bmBig 7 [1, 5, 4, 6] = some cp ∧ cp.getD exK.length 0 = 0 ∧
    (cp.getD (exK.length - 1) 0 = 0 → kerP256 exK 7 [3, 5] = some none) ∧
    (cp.getD (exK.length - 1) 0 ≠ 0 → ∀ v z,
      hornerBig (kerWidth exK 7) exK 7 cp [3, 5] (exK.length - 1) 1 [3, 5] = some v →
      mulpBig (kerWidth exK 7) exK 7 v = some z →
      kerP256 exK 7 [3, 5] = if v.any (· != 0) then some (some v) else none) :=
  ker_p256_singular exK exK (by decide) (by decide) 7 (by norm_num)
    (by show (matOf 7 2 exK).det = 0; rw [Matrix.det_fin_two]; simp [matOf, exK]; decide) [1, 5, 4, 6] exK_kry
    ⟨0, 1, by decide, by decide, by decide⟩ [3, 5] rfl (by decide)

end NonVacuity

end Ymq.C19Wied
