/-
C05 — an abort request stops work promptly and still yields a consistent answer.
Only property theorems live here (helper lemmas: Ymq/Lemmas/Factor*.lean).

In the model `abort` is a field of the stateful oracle: an ARBITRARY function of the oracle
state (which every sub-algorithm call may change). Quantifying over it covers every flip
instant and every non-monotone predicate. The poll points inside the sieves / ECM belong to
the sub-algorithms (C11/C16 side); here: the poll point of `factor_impl` (`if prefs.abort()`, lib.rs).
`abort_never_wrong_product`, `abort_consistent`, `abort_consistent_of_input` are `C01.factor_exact`, `C03.factor_total`,
`C03.factor_total_of_input` at the oracle `{ o with abort := ab }`: the contract `OracleOK` has no clause on `abort`, so "for
every abort behaviour" is an instance of "for every oracle". `abort_stops` is the statement about the poll itself.
-/
import Ymq.Lemmas.FactorExample
import Ymq.Props.C01

namespace Ymq.C05
open Ymq.Factor

variable {σ : Type}

/-- **never a wrong product**: under the oracle contract, for EVERY abort behaviour `ab`, every
selector, every fuel and `n` (no precondition at all): a list returned by `factor` multiplies to
exactly `n` (composite entries allowed), is sorted, and every entry divides `n`. -/
theorem abort_never_wrong_product (o : Oracle σ) (hok : OracleOK o) (ab : σ → Nat → Bool × σ)
    (fuel n : Nat) (alg : Algo) (os : σ) (l : List Nat)
    (h : factor { o with abort := ab } fuel n alg os = .ok l) :
    l.prod = n ∧ l.Pairwise (· ≤ ·) ∧ ∀ x ∈ l, x ∣ n :=
  let ⟨h1, h2, h3⟩ := Ymq.C01.factor_exact _ (hok.with_abort ab) fuel n alg os l h
  ⟨h1, h2, fun x hx => (h3 x hx).1⟩

/-- **`abort_consistent`** (all ten selectors): under the oracle contract, for EVERY abort
behaviour `ab` (arbitrary stateful function: any flip instant, monotone or not), selector
precondition met and enough fuel (both on the value after trial division, as in
`C03.factor_total`): `factor` returns a list with product exactly `n` or the declared failure
value — no panic, no non-termination of the recursion.

History: before the `fix:` 21688e6 of the `Algo::Rho` arm (see `C03.factor_total`) this needed
the extra hypothesis that `rho` never fails when the selector is Rho. -/
theorem abort_consistent (o : Oracle σ) (hok : OracleOK o) (ab : σ → Nat → Bool × σ)
    (fuel n : Nat) (alg : Algo) (os : σ)
    (hsel : SelectorPre alg (trialDivideBy 1100 Ymq.Gen.Primality.smallPrimes n []).1)
    (hfuel : bits (trialDivideBy 1100 Ymq.Gen.Primality.smallPrimes n []).1 ≤ fuel) :
    (∃ l, factor { o with abort := ab } fuel n alg os = .ok l ∧ l.prod = n) ∨
      factor { o with abort := ab } fuel n alg os = .failure :=
  factor_total_aux (hok.with_abort ab) fuel n alg os (by rw [trialDiv_def]; exact hsel)
    (by rw [trialDiv_def]; exact hfuel)

/-- corollary: both bounds on the input `n` itself -/
theorem abort_consistent_of_input (o : Oracle σ) (hok : OracleOK o) (ab : σ → Nat → Bool × σ)
    (fuel n : Nat) (alg : Algo) (os : σ) (hsel : SelectorPre alg n) (hfuel : bits n ≤ fuel) :
    (∃ l, factor { o with abort := ab } fuel n alg os = .ok l ∧ l.prod = n) ∨
      factor { o with abort := ab } fuel n alg os = .failure :=
  factor_total_aux (hok.with_abort ab) fuel n alg os (pre_of_input hsel hfuel).1
    (pre_of_input hsel hfuel).2

/-- **`abort_stops`**: sieve selectors (Qs/Mpqs/Siqs), `n` neither 1, nor a perfect power, nor
accepted by `pseudoprime`. If the abort predicate answers `true` at the poll `if prefs.abort()` of `factor_impl`, then
`factor_impl` pushes `n` unsplit, logs the give-up and returns: the result is given in closed
form — it holds with fuel 1 (no recursive call is made), does not mention `o.sieve` (the sieve is
not started), and the final oracle state is the one left by the abort poll itself (no further
work unit of any kind is started in the modelled control flow). ANY oracle. -/
theorem abort_stops (o : Oracle σ) (fuel n : Nat) (alg : Algo) (s : St σ)
    (halg : alg = .qs ∨ alg = .mpqs ∨ alg = .siqs) (hn : n ≠ 1)
    (hpp : (o.pp s.os n).1 = none)
    (hprime : (o.prime (o.pp s.os n).2 n).1 = false)
    (habort : (o.abort (o.prime (o.pp s.os n).2 n).2 n).1 = true) :
    factorImpl o (fuel + 1) n alg s =
      .ok ({ s with os := (o.abort (o.prime (o.pp s.os n).2 n).2 n).2 }.giveup n) := by
  rw [factorImpl_succ]
  rcases halg with rfl | rfl | rfl <;>
    simp [factorStep, compositePhase, autoPhase, armPhase, sievePhase, hn, hpp, hprime, habort]

open Ymq.Factor.Toy

/-- every flip instant `k` and the non-monotone `flicker` are instances -/
example (k : Nat) :
    (∃ l, factor { toyN with abort := flipAt k } 18 188212 .siqs 0 = .ok l ∧ l.prod = 188212) ∨
      factor { toyN with abort := flipAt k } 18 188212 .siqs 0 = .failure :=
  abort_consistent toyN toyN_ok (flipAt k) 18 188212 .siqs 0 (fun h => by simp at h)
    (by decide +kernel)

/-- selector Rho with a failing `rho`, any constant abort answer -/
example (k : Nat) :
    (∃ l, factor { toyNoRho with abort := fun s _ => (decide (k = 0), s) } 18 188212 .rho () = .ok l ∧
      l.prod = 188212) ∨
      factor { toyNoRho with abort := fun s _ => (decide (k = 0), s) } 18 188212 .rho () = .failure :=
  abort_consistent toyNoRho toyNoRho_ok _ 18 188212 .rho () (fun _ => by decide +kernel)
    (by decide +kernel)

/-- flip before the first poll: n is returned unsplit (composite entry, product still n) -/
example : factor { toyN with abort := flipAt 0 } 18 188212 .siqs 0 = .ok [2, 2, 47053] := by
  decide +kernel

/-- flip after the poll: the sieve runs, full factorization -/
example : factor { toyN with abort := flipAt 3 } 18 188212 .siqs 0 = .ok [2, 2, 211, 223] := by
  decide +kernel

/-- non-monotone predicate (true on even ticks only): the poll happens at tick 2 -/
example : factor { toyN with abort := flicker } 18 188212 .siqs 0 = .ok [2, 2, 47053] := by
  decide +kernel

example : [2, 2, 47053].prod = 188212 ∧ [2, 2, 47053].Pairwise (· ≤ ·) ∧
    ∀ x ∈ [2, 2, 47053], x ∣ 188212 :=
  abort_never_wrong_product toyN toyN_ok (flipAt 0) 18 188212 .siqs 0 _ (by decide +kernel)

/-- `abort_stops` instantiated: fuel 1, state after = tick 3 (pp, prime, abort: three calls) -/
example : factorImpl { toyN with abort := flipAt 0 } 1 47053 .siqs (initSt 0 [2, 2]) =
    .ok { os := 3, factors := [2, 2, 47053], pm1done := false, giveups := [47053] } :=
  abort_stops { toyN with abort := flipAt 0 } 0 47053 .siqs (initSt 0 [2, 2]) (Or.inr (Or.inr rfl))
    (by decide) rfl rfl rfl

end Ymq.C05
