/-
C12 — sieving polynomials carry correct roots and square-root identities.
Only property theorems live here. Helper lemmas: Ymq/Lemmas/PolyBits, PolyInv, PolyRoots (shared arithmetic), PolySiqs,
PolySiqsExact, PolyCrt, PolyWalkB, PolySizes, PolyWalkTotal, PolySelect* (SIQS), PolyMpqs, PolyQs; the other `Poly*` files
of that directory belong to C10 (arith_poly).

Reading guide.
* Models: Ymq/Model/SiqsPoly.lean (`prepareA`, `first`, `next`, `finish`, `polyAt s pa idx` = `Poly::first`
  followed by `idx` calls of `Poly::next`), Ymq/Model/MpqsPoly.lean, Ymq/Model/QsRoots.lean,
  Ymq/Gen/QsShift.lean (translated `next_lgblock`). `f … = some r` means that the Rust routine returns `r`
  without reaching a panic site of the checked profile.
* The factor base is data: a list of `(p, r)`; `FbOk n fb` states what `FBase::new` is expected to provide
  (primes below 2^24, `r < p`, `r² ≡ n (mod p)`); the oracle of props/c12.py checks it on every run.
* `so` is the start offset `-(M/2)` of the sieve interval: table entry `r` stands for the position `x = r + so`.
* `a2aOf n A` is `A` for type 1 polynomials (`n ≢ 1 mod 4`) and `2A` for type 2.
* `Dividers`/`Inverter`/`inv_mod` are taken at their specification (properties C08, C09).
-/
import Ymq.Lemmas.PolySiqsExact
import Ymq.Lemmas.PolyCrt
import Ymq.Lemmas.PolyWalkB
import Ymq.Lemmas.PolyWalkTotal
import Ymq.Lemmas.PolySelectNever
import Ymq.Lemmas.PolyMpqs
import Ymq.Lemmas.PolyQs
import Ymq.Gen.CallSites

namespace Ymq.C12
open Ymq.SiqsPoly Ymq.PolySiqs

/-- what `FBase::new(n, ·)` provides: primes below 2^24 with a reduced square root of `n`. -/
structure FbOk (n : Int) (fb : List Prime) : Prop where
  prime : ∀ q ∈ fb, Nat.Prime q.p
  small : ∀ q ∈ fb, q.p < 2 ^ 24
  root : ∀ q ∈ fb, q.r < q.p ∧ (q.r : Int) * q.r ≡ n [ZMOD q.p]

/-! ### SIQS -/

/-- SIQS defining identities. Type 1 (`n ≢ 1 mod 4`): with `C = (B² − n)/A`,
`(Ax+B)² − n = A·(Ax² + 2Bx + C)`; type 2: with `C = (B² − n)/(4A)`,
`(2Ax+B)² − n = 4A·(Ax² + Bx + C)`. -/
theorem siqs_identity (A B n x : Int) :
    (A ∣ B * B - n → (A * x + B) ^ 2 - n = A * (A * x ^ 2 + 2 * B * x + (B * B - n) / A)) ∧
    (4 * A ∣ B * B - n →
      (2 * A * x + B) ^ 2 - n = 4 * A * (A * x ^ 2 + B * x + (B * B - n) / (4 * A))) := by
  constructor
  · intro h
    have hc : A * ((B * B - n) / A) = B * B - n := Int.mul_ediv_cancel' h
    generalize (B * B - n) / A = c at hc
    linear_combination (-1 : Int) * hc
  · intro h
    have hc : 4 * A * ((B * B - n) / (4 * A)) = B * B - n := Int.mul_ediv_cancel' h
    generalize (B * B - n) / (4 * A) = c at hc
    linear_combination (-1 : Int) * hc

example : (7 : Int) ∣ 5 * 5 - 4 ∧ (4 * 3 : Int) ∣ 7 * 7 - 13 := by decide

/-- The identity for the polynomials the model produces: whenever the stored coefficients are the
exact ones (`Exact`, see `poly_exact`), `polyVal pol x` (= `Ax² + 2Bx + C` resp. `Ax² + Bx + C`)
satisfies `(Ax+B)² − n = A·P(x)` resp. `(2Ax+B)² − n = 4A·P(x)`. -/
theorem siqs_identity_model (pol : Poly) (A : Nat) (x : Int) (hex : Exact pol A) :
    (pol.type2 = false → ((A : Int) * x + pol.b) ^ 2 - pol.n = A * polyVal pol x) ∧
    (pol.type2 = true → (2 * (A : Int) * x + pol.b) ^ 2 - pol.n = 4 * A * polyVal pol x) := by
  obtain ⟨ha, hc⟩ := hex
  unfold polyVal
  unfold polyM at hc
  rw [ha]
  constructor <;> intro ht <;> rw [ht] at hc ⊢
  · simp only [Bool.false_eq_true, if_false] at hc ⊢
    linear_combination (-1 : Int) * hc
  · simp only [if_true] at hc ⊢
    linear_combination (-1 : Int) * hc

/-- the value returned by the model of `Poly::eval` is `polyVal` -/
theorem eval_eq_polyVal (pol : Poly) (x v y : Int) (h : eval pol x = some (v, y)) :
    v = polyVal pol x := by
  unfold eval at h
  unfold polyVal
  by_cases ht : pol.type2 = true
  · simp only [ht, not_true_eq_false, if_false, Option.bind_eq_bind, Option.bind_eq_some_iff, Option.some.injEq,
      Prod.mk.injEq] at h
    obtain ⟨ax, h1, u, h2, w, h3, v', h4, y', _, rfl, _⟩ := h
    rw [ht, if_pos rfl, chk256_some h4, chk256_some h3, chk256_some h2, chk256_some h1]; ring
  · simp only [ht, Bool.false_eq_true, not_false_eq_true, if_true, Option.bind_eq_bind, Option.bind_eq_some_iff,
      Option.some.injEq, Prod.mk.injEq] at h
    obtain ⟨t, h1, axb, h2, u, h3, w, h4, v', h5, rfl, _⟩ := h
    rw [if_neg ht, chk256_some h5, chk256_some h4, chk256_some h3, chk256_some h2, chk256_some h1]; ring

/-- `Poly::next`, the `u32` min trick: for `r, d < p < 2^31`,
`min(r + d, (r + d).wrapping_sub(p)) = (r + d) mod p` and
`let t = r.wrapping_sub(d); min(t, t.wrapping_add(p)) = (r − d) mod p`. -/
theorem min_trick (r d p : Nat) (hr : r < p) (hd : d < p) (hp : p < 2 ^ 31) :
    stepUp p d r = (r + d) % p ∧ stepDown p d r = (r + p - d) % p :=
  ⟨PolyBits.stepUp_eq r d p hr hd hp, PolyBits.stepDown_eq r d p hr hd hp⟩

example : stepUp 7 5 6 = 4 ∧ stepDown 7 5 3 = 5 := by decide

/-- `Poly::next`: for every `idx < 2^63` the Gray codes of `idx` and `idx + 1` differ exactly in bit
`t = trailing_zeros(idx + 1)` (`tzN`); the code's `bit` equals `t`, is a valid shift amount, and the
assertion `next_gray == prev_gray ^ (1 << bit)` holds. -/
theorem gray_step (idx : Nat) (h : idx < 2 ^ 63) :
    let pg := idx ^^^ (idx >>> 1)
    let ng := (idx + 1) ^^^ ((idx + 1) >>> 1)
    let bit := tz64 (pg ^^^ ng)
    bit = PolyBits.tzN (idx + 1) ∧ bit < 64 ∧ ng = pg ^^^ (1 <<< bit) ∧
      (∀ i, ng.testBit i = (pg.testBit i ^^ decide (bit = i))) ∧
      2 ^ bit ∣ idx + 1 ∧ ¬ 2 ^ (bit + 1) ∣ idx + 1 := by
  intro pg ng bit
  obtain ⟨h1, h2, h3, h4⟩ := PolyBits.gray_step_aux idx (by omega)
  obtain ⟨h5, h6⟩ := PolyBits.tzN_pos_spec (idx + 1) (by omega)
  refine ⟨h1, h2, h3, h4, ?_, ?_⟩
  · show 2 ^ tz64 (pg ^^^ ng) ∣ idx + 1
    rw [h1]; exact h5
  · show ¬ 2 ^ (tz64 (pg ^^^ ng) + 1) ∣ idx + 1
    rw [h1]; exact h6

/-- the step from index 11 to 12 flips bit 2 = trailing_zeros(12) -/
example : (11 : Nat) < 2 ^ 63 ∧ tz64 ((11 ^^^ (11 >>> 1)) ^^^ (12 ^^^ (12 >>> 1))) = 2 := by decide

/-- The root invariant for one prime `q = (p, r)` of the factor base with `p ∤ a2a`:
both entries are reduced, `a2a·(r1 + so) + B ≡ −r` and `a2a·(r2 + so) + B ≡ r (mod p)`.
(`PolySiqs.RootInv`, which `WalkInv` is made of, is the same statement in `ZMod p`: `rootInv_modEq`.) -/
def RootsOk (a2a : Nat) (so : Int) (q : Prime) (b : Int) (r12 : Nat × Nat) : Prop :=
  r12.1 < q.p ∧ r12.2 < q.p ∧
  (a2a : Int) * ((r12.1 : Int) + so) + b ≡ -(q.r : Int) [ZMOD q.p] ∧
  (a2a : Int) * ((r12.2 : Int) + so) + b ≡ (q.r : Int) [ZMOD q.p]

/-- the invariant for the whole table of a polynomial -/
def TableOk (n : Int) (fb : List Prime) (A : Nat) (so : Int) (pol : Poly) : Prop :=
  pol.rs.length = fb.length ∧
  ∀ i (h : i < fb.length) (h' : i < pol.rs.length), a2aOf n A % fb[i].p ≠ 0 →
    RootsOk (a2aOf n A) so fb[i] pol.b pol.rs[i]

private theorem soOk_of {n : Int} {mm : Nat} (hmm : mm < 2 ^ 32) : SoOk (mkSieve n mm).startOffset := by
  show SoOk (-((mm : Int) / 2))
  unfold SoOk; omega

private theorem tableOk_of {n : Int} {fb : List Prime} {pa : APrep} {so : Int} {pol : Poly}
    (hfb : FbOk n fb) (hw : WalkInv n fb pa so pol) : TableOk n fb pa.a so pol := by
  obtain ⟨hlen, _, _, _, hroot⟩ := hw
  refine ⟨hlen, ?_⟩
  intro i h h' hnd
  have hmem : fb[i] ∈ fb := List.getElem_mem h
  exact rootInv_modEq (hroot i h h' (hfb.prime _ hmem)
    (lt_trans (hfb.small _ hmem) (by norm_num)) hnd)

/-- `roots_inv`: the root invariant holds after `Poly::first` and is preserved by `Poly::next`
(for every prime of the factor base that does not divide `a2a`, i.e. every odd prime not dividing `A`,
and the prime 2 for type 1 polynomials). The hypothesis `WalkInv` of the second part is the
lemma-level form of the invariant (it implies `TableOk`, and is what the first part establishes). -/
theorem roots_inv (n : Int) (fb : List Prime) (f : Factors) (a mm : Nat) (pa : APrep)
    (hfb : FbOk n fb) (hn : f.n = n) (hmm : mm < 2 ^ 32)
    (hpa : prepareA f a fb (-((mm : Int) / 2)) = some pa) :
    (∀ pol, first (mkSieve n mm) pa = some pol →
      WalkInv n fb pa (-((mm : Int) / 2)) pol ∧ TableOk n fb a (-((mm : Int) / 2)) pol ∧ pol.idx = 0) ∧
    (∀ pol pol', WalkInv n fb pa (-((mm : Int) / 2)) pol → next (mkSieve n mm) pa pol = some pol' →
      WalkInv n fb pa (-((mm : Int) / 2)) pol' ∧ TableOk n fb a (-((mm : Int) / 2)) pol' ∧
        pol'.idx = pol.idx + 1) := by
  obtain ⟨B0, ds, fam, hpaa, _, _⟩ := prepareA_fam hpa
  rw [hn] at fam
  constructor
  · intro pol h
    obtain ⟨hw, hidx⟩ := first_walk (mm := mm) fam (soOk_of hmm) h
    exact ⟨hw, hpaa ▸ tableOk_of hfb hw, hidx⟩
  · intro pol pol' hw h
    obtain ⟨hw', hidx⟩ := next_walk (s := mkSieve n mm) fam (soOk_of (n := n) hmm) hw h
    exact ⟨hw', hpaa ▸ tableOk_of hfb hw', hidx⟩

/-- `roots_walk`: by induction the invariant holds for EVERY index of the Gray walk: whenever the
model produces the polynomial number `idx` of the family of `A`, its table satisfies `TableOk`
(incremental updates with wrapping arithmetic never drift). -/
theorem roots_walk (n : Int) (fb : List Prime) (f : Factors) (a mm idx : Nat) (pa : APrep) (pol : Poly)
    (hfb : FbOk n fb) (hn : f.n = n) (hmm : mm < 2 ^ 32)
    (hpa : prepareA f a fb (-((mm : Int) / 2)) = some pa)
    (hpol : polyAt (mkSieve n mm) pa idx = some pol) :
    pol.idx = idx ∧ pol.n = n ∧ pol.type2 = isType2 n ∧ TableOk n fb a (-((mm : Int) / 2)) pol := by
  obtain ⟨B0, ds, fam, hpaa, _, _⟩ := prepareA_fam hpa
  rw [hn] at fam
  obtain ⟨hw, hidx⟩ := polyAt_walk (mm := mm) fam (soOk_of hmm) idx pol hpol
  exact ⟨hidx, hw.2.2.1, hw.2.1, hpaa ▸ tableOk_of hfb hw⟩

/-- The stored `C` is exact: for a family with at least one factor, whenever the exact quotient
`(B² − n)/A` (resp. `/(4A)`) fits in an `I256`, `pol.a = A` and `A·C = B² − n` (resp. `4A·C`).
(The code asserts `pol.c.abs().bits() < 255` *before* storing the new `C`, i.e. on the previous
polynomial's value, so the size condition is a hypothesis here.) -/
theorem poly_exact (n : Int) (fb : List Prime) (f : Factors) (a mm idx : Nat) (pa : APrep) (pol : Poly)
    (hpa : prepareA f a fb (-((mm : Int) / 2)) = some pa) (hne : pa.factors.isEmpty = false)
    (hpol : polyAt (mkSieve n mm) pa idx = some pol)
    (hfit : -P255 ≤ (pol.b * pol.b - pol.n) / polyM pol.type2 a ∧
      (pol.b * pol.b - pol.n) / polyM pol.type2 a < P255) : Exact pol a := by
  obtain ⟨_, _, _, hpaa, _, _⟩ := prepareA_fam hpa
  have hat := PolyWalkB.polyAt_at hne idx pol hpol
  rw [← hpaa] at hfit ⊢
  exact hat.fin.exact hat.a hfit

/-- `roots_exact`: for every polynomial of the Gray walk whose stored coefficients are exact, and every
prime `p = fb[i].p` of the factor base, with `P = polyVal pol` and `x` any sieve position:
* `p ∤ a2a` (odd `p ∤ A`; also `p = 2` for type 1): `p ∣ P(x + so) ⟺ x ≡ r1p[i] ∨ x ≡ r2p[i] (mod p)`;
* odd `p ∣ A`: `r1p[i] = r2p[i] < p` and `p ∣ P(x + so) ⟺ x ≡ r1p[i] (mod p)`;
* `p = 2` at index 0, type 2, `A` odd: `2 ∣ P(x + so) ⟹ x ≡ r1p[0] ∨ x ≡ r2p[0] (mod 2)` (superset).
Families with at least one factor (`hne`); the unit polynomial `A = 1` is `roots_exact_unit`. -/
theorem roots_exact (n : Int) (fb : List Prime) (f : Factors) (a mm idx : Nat) (pa : APrep) (pol : Poly)
    (hfb : FbOk n fb) (hn : f.n = n) (hmm : mm < 2 ^ 32)
    (hpa : prepareA f a fb (-((mm : Int) / 2)) = some pa) (hne : pa.factors.isEmpty = false)
    (hpol : polyAt (mkSieve n mm) pa idx = some pol) (hex : Exact pol a)
    (i : Nat) (hi : i < fb.length) (hi' : i < pol.rs.length) (x : Int) :
    (a2aOf n a % fb[i].p ≠ 0 →
      ((fb[i].p : Int) ∣ polyVal pol (x + -((mm : Int) / 2)) ↔
        (x ≡ (pol.rs[i].1 : Int) [ZMOD fb[i].p] ∨ x ≡ (pol.rs[i].2 : Int) [ZMOD fb[i].p]))) ∧
    (a2aOf n a % fb[i].p = 0 → fb[i].p ≠ 2 →
      pol.rs[i].1 = pol.rs[i].2 ∧ pol.rs[i].1 < fb[i].p ∧
      ((fb[i].p : Int) ∣ polyVal pol (x + -((mm : Int) / 2)) ↔
        x ≡ (pol.rs[i].1 : Int) [ZMOD fb[i].p])) ∧
    (fb[i].p = 2 → i = 0 → isType2 n = true → a % 2 = 1 →
      ((2 : Int) ∣ polyVal pol (x + -((mm : Int) / 2)) →
        (x ≡ (pol.rs[i].1 : Int) [ZMOD 2] ∨ x ≡ (pol.rs[i].2 : Int) [ZMOD 2]))) := by
  obtain ⟨B0, ds, fam, hpaa, _, _⟩ := prepareA_fam hpa
  rw [hn] at fam
  obtain ⟨hw, _⟩ := polyAt_walk (mm := mm) fam (soOk_of hmm) idx pol hpol
  have hat := PolyWalkB.polyAt_at hne idx pol hpol
  have hmem : fb[i] ∈ fb := List.getElem_mem hi
  have hprime := hfb.prime _ hmem
  have hp31 : fb[i].p < 2 ^ 31 := lt_trans (hfb.small _ hmem) (by norm_num)
  rw [← hpaa] at hex ⊢
  refine ⟨?_, ?_, ?_⟩
  · intro hnd
    exact exact_generic hw hex i hi hi' hprime hp31 hnd (hfb.root _ hmem).2 x
  · intro hdiv hp2
    exact exact_div (mm := mm) fam hat.fin hex i hi hi' hprime hdiv hp2 x
  · intro hp2 hi0 ht2 haodd
    subst hi0
    have hbodd : pol.b % 2 = 1 := hw.2.2.2.1 ht2
    exact exact_two (mm := mm) fam hat.fin (hat.type2.trans ht2) hex hbodd haodd hi hi' hp2 x

open Ymq.PolySizes in
/-- `poly_exact_domain`: on the parameter domain `SizeDom n M A nf` — `0 < n < 2^448`, `2^15 ≤ M < 2^20`
(the values of `siqs::interval_size`), `A` within a factor 4 of the target `max(2000, isqrt(2n or n/2)/(M/2))`
of `select_siqs_factors` (the widest window `select_a` ever uses), at most 32 factors — the exact `C` of
EVERY polynomial of the walk fits: `Exact pol A` holds without a size hypothesis, and `|C| < 2^254`, so the
code's `assert!(pol.c.abs().bits() < 255)`, which reads the PREVIOUS polynomial's `C`, can never fire on this
domain and never lets a truncated `C` through (it is redundant there; see `stale_c_check_witness` for what
happens outside). Also `0 ≤ B ≤ 2·nf·A`. -/
theorem poly_exact_domain (n : Int) (fb : List Prime) (f : Factors) (a mm idx : Nat) (pa : APrep) (pol : Poly)
    (hn : f.n = n) (hpa : prepareA f a fb (-((mm : Int) / 2)) = some pa) (hne : pa.factors.isEmpty = false)
    (hpol : polyAt (mkSieve n mm) pa idx = some pol) (d : SizeDom n mm a pa.factors.length) :
    Exact pol a ∧ -(2 ^ 254 : Int) < pol.c ∧ pol.c < 2 ^ 254 ∧
    0 ≤ pol.b ∧ pol.b ≤ 2 * (pa.factors.length : Int) * a ∧ a < 2 ^ 213 := by
  obtain ⟨h1, h2, h3⟩ := PolyWalkB.poly_exact_dom hpa hne hpol d
  obtain ⟨h4, h5⟩ := PolyWalkB.bsumZ_roots_le hpa (PolyWalkB.grayBits idx)
  rw [← (PolyWalkB.polyAt_at hne idx pol hpol).b] at h4 h5
  exact ⟨h1, h2, h3, h4, h5, dom_A_lt d⟩

/-- the witness family of the next two theorems: a 300-bit `n ≡ 3 (mod 4)` with the absurd `A = 5·7` -/
private def nW : Int := 1741878535172816664252695627013383064478395081129382887605633762352202768132695533298853231
private def fbW : List Prime := [⟨2, 1⟩, ⟨3, 1⟩, ⟨5, 1⟩, ⟨7, 2⟩, ⟨17, 5⟩, ⟨23, 2⟩, ⟨31, 14⟩, ⟨37, 7⟩]
private def selW : List Prime := [⟨3, 1⟩, ⟨5, 1⟩, ⟨7, 2⟩, ⟨17, 5⟩]

/-- `stale_c_check_witness` (outside the domain): through the public `prepare_a`/`Poly::first`/`Poly::next` with
`A = 35` for a 300-bit `n`, the exact `C ≈ −n/35` has 295 bits; the model (and the real code: corpus seed
`siqs_custom … 35 …`, both profiles) returns the polynomials number 0 and 1 WITHOUT a panic and with a stored
`C` that is not the exact one: the size check of `_finish_polynomial` reads the previous value (0 for the first
polynomial, the truncated one afterwards). `select_a` cannot produce such an `A` (`poly_exact_domain`). -/
theorem stale_c_check_witness :
    ((mkFactors nW selW).bind fun f => (prepareA f 35 fbW (-16384)).bind fun pa =>
      (polyAt (mkSieve nW 32768) pa 1).bind fun pol =>
        if polyM pol.type2 35 * pol.c ≠ pol.b * pol.b - pol.n then some () else none).isSome = true := by
  decide +kernel

/-- a 470-bit `n` and the `A` (18 factors, 0.08 % below the target) chosen for it by the real `select_a` with the
driver's own `nfactors` and `interval_size` -/
private def nBig : Int := 2801120721798084443194319083525012728238471807768780386264106652898873979939203804654861052419561097756762317772743590938885607899115726189749
private def aBig : Nat := 134255733937125049937363673407333452819852353612476957981450426063
private def selBig : List Prime := [⟨3529, 604⟩, ⟨3533, 649⟩, ⟨3539, 1604⟩, ⟨3803, 1367⟩, ⟨3943, 1554⟩, ⟨4013, 2031⟩,
  ⟨4049, 2609⟩, ⟨4051, 1374⟩, ⟨4283, 75⟩, ⟨4297, 4181⟩, ⟨4339, 354⟩, ⟨4397, 3888⟩, ⟨4423, 3389⟩, ⟨4493, 975⟩,
  ⟨4517, 3880⟩, ⟨4547, 901⟩, ⟨4603, 273⟩, ⟨4673, 1456⟩]

open Ymq.PolySizes in
/-- `size_assert_fails_470` (counter-witness to totality above 2^448): for this 470-bit `n`, interval
`M = 557056 = siqs::interval_size(470)`, and `A` within 0.1 % of the target, `prepare_a` succeeds but
`Poly::first` does not return: `_finish_polynomial` stops at `assert!(a.a.bits() + 2 * mlog < 255)`
(217 + 2·20). Every hypothesis of `SizeDom` holds except `n < 2^448`. On the real code (both profiles)
`siqs_walk <n> 1 20000 auto auto 4 0 …` panics at that assertion for every probed `n` of 466 bits and more.
When this was found `siqs::siqs` had no size guard (MPQS refuses above 448 bits, QS above 400); since the repair
`a235189` it refuses `n` above 448 bits, the bound of `siqs_walk_total`; `prepare_a`/`Poly::first` called directly
still behave as stated here. -/
theorem size_assert_fails_470 :
    (2 : Int) ^ 448 ≤ nBig ∧ siqsTarget nBig 557056 ≤ 4 * aBig ∧ aBig ≤ 4 * siqsTarget nBig 557056 ∧
    ((mkFactors nBig selBig).bind fun f =>
      (prepareA f aBig (⟨2, 1⟩ :: selBig) (-((557056 : Nat) : Int) / 2)).bind fun pa =>
        if (first (mkSieve nBig 557056) pa).isNone ∧ pa.factors.length = 18 then some () else none).isSome
      = true := by
  decide +kernel

open Ymq.PolySizes Ymq.PolyCrt in
/-- `siqs_walk_total`: totality of the SIQS polynomial preparation on the parameter domain. For a factor base as
`FBase::new` provides it, a selection of distinct primes with roots of `n`, none dividing `n` (`SelOk`, `SelNz`:
`select_siqs_factors` skips the primes with root 0), its table of inverses (`mkFactors`), `A` the product of the
selected primes dividing it (at least one; `A` odd for type 2) and `SizeDom n M A nf` (`0 < n < 2^448`,
`2^15 ≤ M < 2^20`, `target/4 ≤ A ≤ 4·target`, `nf ≤ 32`), and `A ≥ ¾·target` when `nf ≥ 5` (any tolerance divisor
≥ 4; `a_tolerance_divisor` is ≥ 20 from 111 bits on, where `nfactors` reaches 5): `prepare_a` returns, and
`Poly::first` followed by `idx` calls of `Poly::next` returns for EVERY `idx < 2^(nf−1)`. No panic site of the
checked profile is reachable: `assert!(a.bits() < 255)`, `debug_assert!(r0 <= r1)`, the two divisibility
`debug_assert`s, `assert!(b.bit(0))`, the Gray-code `assert`, `assert!(pol.b.is_positive())`,
`unreachable!("no inverse of b")`, the rounded-root `assert`, the three bit-length `assert`s, `i32`/`I256`
overflow, index bounds. Above `2^448` this fails: `size_assert_fails_470`. -/
theorem siqs_walk_total (n : Int) (sel fb : List Prime) (f : Factors) (a mm : Nat)
    (hfb : FbOk n fb) (hs : SelOk n sel) (hz : SelNz n sel) (hf : mkFactors n sel = some f)
    (ha : a = ((afsOf f a).map (·.2.p)).prod) (hne : afsOf f a ≠ [])
    (haodd : isType2 n = true → a % 2 = 1)
    (d : SizeDom n mm a (afsOf f a).length)
    (hroot : (afsOf f a).length ≥ 5 → 3 * siqsTarget n mm ≤ 4 * a) :
    ∃ pa, prepareA f a fb (-((mm : Int) / 2)) = some pa ∧ pa.factors.length = (afsOf f a).length ∧
      ∀ idx, idx < 2 ^ ((afsOf f a).length - 1) → ∃ pol, polyAt (mkSieve n mm) pa idx = some pol :=
  walk_total hfb.prime hfb.small hs hz hf ha hne haodd d hroot

/-- `roots_exact_unit`: the unit polynomial `A = 1` (no factor; `x² − n` for type 1, `x² + x + (1 − n)/4`
for type 2) returned by `Poly::first`: its coefficients are exact (`n` below 2^128 is asserted by the code),
every prime of the factor base not dividing `a2a` (all primes for type 1, all odd primes for type 2) has
exactly its two roots in the table, and for type 2 the prime 2 gets `(r, r + 1)`, a superset. -/
theorem roots_exact_unit (n : Int) (fb : List Prime) (f : Factors) (mm : Nat) (pa : APrep) (pol : Poly)
    (hfb : FbOk n fb) (hn : f.n = n) (hmm : mm < 2 ^ 32)
    (hpa : prepareA f 1 fb (-((mm : Int) / 2)) = some pa) (he : pa.factors.isEmpty = true)
    (hpol : first (mkSieve n mm) pa = some pol)
    (i : Nat) (hi : i < fb.length) (hi' : i < pol.rs.length) (x : Int) :
    Exact pol 1 ∧
    (a2aOf n 1 % fb[i].p ≠ 0 →
      ((fb[i].p : Int) ∣ polyVal pol (x + -((mm : Int) / 2)) ↔
        (x ≡ (pol.rs[i].1 : Int) [ZMOD fb[i].p] ∨ x ≡ (pol.rs[i].2 : Int) [ZMOD fb[i].p]))) ∧
    (fb[i].p = 2 → i = 0 → isType2 n = true →
      (x ≡ (pol.rs[i].1 : Int) [ZMOD 2] ∨ x ≡ (pol.rs[i].2 : Int) [ZMOD 2])) := by
  obtain ⟨B0, ds, fam, hpaa, _, _⟩ := prepareA_fam hpa
  rw [hn] at fam
  obtain ⟨hw, _⟩ := first_walk (mm := mm) fam (soOk_of hmm) hpol
  have hex : Exact pol 1 := unit_exact hpol he
  have hmem : fb[i] ∈ fb := List.getElem_mem hi
  refine ⟨hex, ?_, ?_⟩
  · intro hnd
    rw [← hpaa] at hex hnd
    exact exact_generic hw hex i hi hi' (hfb.prime _ hmem)
      (lt_trans (hfb.small _ hmem) (by norm_num)) hnd (hfb.root _ hmem).2 x
  · intro hp2 hi0 ht2
    subst hi0
    have hipp : 0 < pa.pps.length := by rw [fam.len]; exact hi
    obtain ⟨_, hpp, _⟩ := mkPP_some (fam.pp 0 hi hipp)
    exact unit_two (s := mkSieve n mm) hpol he ht2 hipp (by rw [hpp, hp2]) hi' x

open Ymq.PolyCrt in
/-- `siqs_B_sq`: the CRT basis of `prepare_a`. For a selection of distinct primes with square roots of
`n` (`SelOk`), the table of inverses of `select_siqs_factors` (`mkFactors`), `A` the product of the
selected primes dividing it, and `prs` the pairs `[r0ⱼ, r1ⱼ]` computed by the model (`rootPairs`): for EVERY
choice `g` of one root per factor, `B = Σⱼ (if g j then r1ⱼ else r0ⱼ)` satisfies `A ∣ B² − n`; and for
type 2 (`n ≡ 1 mod 4`, `A` odd, at least one factor) `B` is odd and `4A ∣ B² − n` (the parity rule: the
roots of factor 0 are odd, all others even). In particular the code's
`debug_assert!((b*b − n) % a == 0)` and `assert!(b.bit(0))` hold for the first polynomial
(`g = fun _ => false`) and for every Gray-code combination. -/
theorem siqs_B_sq (n : Int) (sel : List Prime) (f : Factors) (a : Nat) (prs : List (Nat × Nat))
    (hs : SelOk n sel) (hf : mkFactors n sel = some f)
    (ha : a = ((afsOf f a).map (·.2.p)).prod)
    (hprs : rootPairs f a (afsOf f a) 0 (afsOf f a) = some prs) (g : Nat → Bool) :
    (a : Int) ∣ (bsum g 0 prs : Int) * (bsum g 0 prs : Int) - n ∧
    (n % 4 = 1 → a % 2 = 1 → prs ≠ [] →
      bsum g 0 prs % 2 = 1 ∧ (4 * (a : Int)) ∣ (bsum g 0 prs : Int) * (bsum g 0 prs : Int) - n) :=
  crt_B_sq hs hf ha hprs g

open Ymq.PolyCrt Ymq.PolyWalkB in
/-- `walk_B_sq`: for EVERY polynomial of the Gray walk (family with at least one factor), `B` is the sum
of the CRT roots selected by the Gray code of `idx` (`grayBits idx j` = bit `j` of `idx ^ (idx >> 1)`),
hence `A ∣ B² − n`, and for type 2 (`A` odd) `B` is odd and `4A ∣ B² − n`: the assertions
`debug_assert!(((b*b − n) % a).is_zero())` of `_finish_polynomial` and `assert!(self.b.bit(0))` of
`Poly::first`/`Poly::next` cannot fail, independently of the copies of these checks in the model. -/
theorem walk_B_sq (n : Int) (sel fb : List Prime) (f : Factors) (a mm idx : Nat) (so : Int)
    (pa : APrep) (pol : Poly) (hs : SelOk n sel) (hf : mkFactors n sel = some f)
    (ha : a = ((afsOf f a).map (·.2.p)).prod)
    (hpa : prepareA f a fb so = some pa) (hne : pa.factors.isEmpty = false)
    (hpol : polyAt (mkSieve n mm) pa idx = some pol) :
    pol.b = bsumZ (grayBits idx) 0 pa.roots ∧ (a : Int) ∣ pol.b * pol.b - n ∧
    (n % 4 = 1 → a % 2 = 1 → pol.b % 2 = 1 ∧ (4 * (a : Int)) ∣ pol.b * pol.b - n) := by
  rw [(polyAt_at hne idx pol hpol).b]
  exact ⟨rfl, bsumZ_sq hs hf ha hpa hne (grayBits idx)⟩

/-! #### non-vacuity of the SIQS theorems: a concrete family (n = 1050589 ≡ 5 mod 8, A = 7·11) -/

private def fbEx : List Prime := [⟨2, 1⟩, ⟨3, 1⟩, ⟨5, 2⟩, ⟨7, 1⟩, ⟨11, 1⟩, ⟨23, 8⟩]
private def selEx : List Prime := [⟨5, 2⟩, ⟨7, 1⟩, ⟨11, 1⟩]
private def fEx : Factors := (mkFactors 1050589 selEx).get (by decide)

example : FbOk 1050589 fbEx := ⟨by decide, by decide, by decide⟩

open Ymq.PolyCrt in
/-- the hypotheses of `siqs_B_sq` are satisfiable (A = 7·11, type 2) -/
example : SelOk 1050589 selEx ∧ mkFactors 1050589 selEx = some fEx ∧
    77 = ((afsOf fEx 77).map (·.2.p)).prod ∧
    (rootPairs fEx 77 (afsOf fEx 77) 0 (afsOf fEx 77)).isSome = true ∧ (1050589 : Int) % 4 = 1 := by
  refine ⟨⟨by decide, by decide, by decide⟩, ?_, by decide, by decide, by decide⟩
  unfold fEx; simp

/-- the hypotheses of `roots_inv`, `roots_walk`, `poly_exact`, `roots_exact` are satisfiable -/
example : ∃ pa pol, prepareA fEx 77 fbEx (-((32768 : Nat) : Int) / 2) = some pa ∧
    pa.factors.isEmpty = false ∧ polyAt (mkSieve 1050589 32768) pa 1 = some pol ∧ Exact pol 77 := by
  have h : ((prepareA fEx 77 fbEx (-((32768 : Nat) : Int) / 2)).bind fun pa =>
      (polyAt (mkSieve 1050589 32768) pa 1).bind fun pol =>
        if pa.factors.isEmpty = false ∧ pol.a = 77 ∧ polyM pol.type2 77 * pol.c = pol.b * pol.b - pol.n
        then some () else none).isSome = true := by decide
  simp only [Option.isSome_iff_exists, Option.bind_eq_some_iff, Option.ite_none_right_eq_some] at h
  obtain ⟨_, pa, hpa, pol, hp, hc, _⟩ := h
  exact ⟨pa, pol, hpa, hc.1, hp, hc.2.1, hc.2.2⟩

/-- non-vacuity of `roots_exact_unit`: the unit forms of `n = 1022119` (type 1) and `n = 1050589` (type 2) -/
example : ((prepareA ((mkFactors 1022119 []).get (by decide)) 1 [⟨2, 1⟩, ⟨3, 1⟩, ⟨5, 2⟩, ⟨31, 7⟩] (-16384)).bind fun pa =>
    first (mkSieve 1022119 32768) pa).isSome = true ∧
    ((prepareA ((mkFactors 1050589 []).get (by decide)) 1 fbEx (-16384)).bind fun pa =>
    first (mkSieve 1050589 32768) pa).isSome = true := by decide

set_option exponentiation.threshold 1100 in
open Ymq.PolySizes Ymq.PolyCrt in
/-- non-vacuity of `siqs_walk_total` / `poly_exact_domain`: `n = 1050589`, `A = 7·11·23`, `M = 32768` (target 2000) -/
example : FbOk 1050589 fbEx ∧ SelOk 1050589 [⟨7, 1⟩, ⟨11, 1⟩, ⟨23, 8⟩] ∧ SelNz 1050589 [⟨7, 1⟩, ⟨11, 1⟩, ⟨23, 8⟩] ∧
    (∃ f, mkFactors 1050589 [⟨7, 1⟩, ⟨11, 1⟩, ⟨23, 8⟩] = some f ∧ 1771 = ((afsOf f 1771).map (·.2.p)).prod ∧
      (afsOf f 1771).length = 3) ∧
    SizeDom 1050589 32768 1771 3 := by
  refine ⟨⟨by decide, by decide, by decide⟩, ⟨by decide, by decide, by decide⟩, by unfold SelNz; decide, ?_,
    ⟨by decide, by decide, by decide, by decide, by decide, by decide, by decide⟩⟩
  have h : ((mkFactors 1050589 [⟨7, 1⟩, ⟨11, 1⟩, ⟨23, 8⟩]).bind fun f =>
      if 1771 = ((afsOf f 1771).map (·.2.p)).prod ∧ (afsOf f 1771).length = 3 then some () else none).isSome
        = true := by decide
  simp only [Option.isSome_iff_exists, Option.bind_eq_some_iff, Option.ite_none_right_eq_some] at h
  obtain ⟨_, f, hf, hc, _⟩ := h
  exact ⟨f, hf, hc.1, hc.2⟩

/-! ### the choice of `A`: `select_siqs_factors` and `select_a` (Ymq/Model/SiqsSelect.lean) -/

open Ymq.SiqsSelect Ymq.PolySelect Ymq.PolySizes Ymq.PolyCrt in
/-- `select_window_assert`: for `nfacs ≥ 1`, a defined target (`mm ≥ 2`) below 2^255, `select_siqs_factors`
returns if and only if its pool — the primes of index ≥ 1 with non-zero root among the first `2·idx + 4·nfacs` of the
factor base, `idx` = number of primes with `p^nfacs < target` — has MORE than `nfacs` elements: this is exactly when
`assert!(selected_idx.len() > nfacs)` (siqs.rs, "cannot sample … primes") holds. When it returns, the target is
`siqsTarget n mm`, and the selection is a sublist of the factor base without its first prime, all roots non-zero,
of more than `nfacs` and at most `4·nfacs` primes; with `FbOk` and distinct primes it satisfies `SelOk` and
`SelNz` (the hypotheses of `siqs_B_sq`, `walk_B_sq`, `siqs_walk_total`). -/
theorem select_window_assert (fb : List Prime) (n : Int) (nfacs mm : Nat) (hnf : 0 < nfacs) :
    (∀ tgt, target n mm = some tgt → bitlen tgt < 256 →
      ((∃ r, selectFactors fb n nfacs mm = some r) ↔
        (pool fb (partitionPoint fb nfacs tgt) nfacs).length > nfacs)) ∧
    (∀ tgt sel, selectFactors fb n nfacs mm = some (tgt, sel) →
      tgt = siqsTarget n mm ∧ sel.Sublist (fb.drop 1) ∧ (∀ q ∈ sel, q.r ≠ 0) ∧
      nfacs < sel.length ∧ sel.length ≤ 4 * nfacs ∧
      (FbOk n fb → (fb.map (·.p)).Nodup → SelOk n sel ∧ SelNz n sel)) := by
  refine ⟨fun tgt ht hb => selectFactors_isSome_iff fb n nfacs mm tgt hnf ht hb, ?_⟩
  intro tgt sel h
  obtain ⟨h1, _, h3, h4, h5, h6⟩ := selectFactors_some hnf h
  refine ⟨h1, h3, h4, h5, h6, ?_⟩
  intro hfb hnd
  exact sel_ok hfb.prime hfb.root hnd h3 h4

open Ymq.SiqsSelect Ymq.PolySelect Ymq.PolySizes Ymq.PolyCrt in
/-- `select_a_sound`: every `A` returned by `select_a` (exhaustive branch for at most 5 factors and a target of at
most 66 bits, sampling loop otherwise; `nfacs ≥ 1`) is the product of `nfacs` selected primes with distinct indices.
For a selection with `SelOk` this is exactly the shape the other theorems ask for: `A = ∏ (afsOf f A)` with
`nfacs` factors (`afsOf` = the selected primes dividing `A`, as `prepare_a` finds them). On the sampling branch `A`
lies strictly inside the tolerance window of some divisor `d`, hence `A ≤ 4·target`; `target ≤ 4A` unless `d = 1`
and `3·target ≤ 4A` when `d ≥ 4` (the hypotheses of `SizeDom` / `siqs_walk_total`). -/
theorem select_a_sound (n : Int) (sel : List Prime) (f : Factors) (tgt nfacs want fuel : Nat) (as : List Nat)
    (hnf : 0 < nfacs) (hs : SelOk n sel) (hf : mkFactors n sel = some f)
    (h : selectA n tgt nfacs want (sel.map (·.p)) fuel = some as) (A : Nat) (hA : A ∈ as) :
    IsProd (sel.map (·.p)) nfacs A ∧ A = ((afsOf f A).map (·.2.p)).prod ∧ (afsOf f A).length = nfacs ∧
    (¬ (nfacs ≤ 5 ∧ bitlen tgt ≤ 66) →
      ∃ d, (tolWindow tgt d).1 < A ∧ A < (tolWindow tgt d).2 ∧ A ≤ 4 * tgt ∧
        (d ≠ 1 → tgt ≤ 4 * A) ∧ (4 ≤ d → 3 * tgt ≤ 4 * A)) := by
  obtain ⟨h1, h2⟩ := selectA_sound hnf h A hA
  obtain ⟨h3, h4⟩ := isProd_afs hs hf h1
  refine ⟨h1, h3, h4, ?_⟩
  intro hns
  obtain ⟨d, hd1, hd2⟩ := h2 hns
  obtain ⟨b1, b2, b3⟩ := tolWindow_bounds hd1 hd2
  exact ⟨d, hd1, hd2, b1, b2, b3⟩

open Ymq.SiqsSelect Ymq.PolySelect Ymq.PolySizes in
/-- `siqs_select_walk_total`: end to end. For a factor base as `FBase::new` provides it (distinct primes, 2 only in
front), `0 < n < 2^448`, `2^15 ≤ M < 2^20`, `1 ≤ nfacs ≤ 32`: whenever `select_siqs_factors` returns a selection and
`select_a` returns a list containing `A` with `target/4 ≤ A ≤ 4·target` (and `A ≥ ¾·target` for 5 factors and more),
the table of inverses exists, `prepare_a` returns, `A` has exactly `nfacs` factors and every polynomial of the Gray
walk is produced: no panic site between the choice of `A` and the sieve is reachable. -/
theorem siqs_select_walk_total (n : Int) (fb sel : List Prime) (nfacs mm want fuel tgt A : Nat) (as : List Nat)
    (hfb : FbOk n fb) (hnd : (fb.map (·.p)).Nodup) (h2 : ∀ q ∈ fb.drop 1, q.p ≠ 2)
    (hnf : 0 < nfacs) (hnf32 : nfacs ≤ 32)
    (hsel : selectFactors fb n nfacs mm = some (tgt, sel))
    (has : selectA n tgt nfacs want (sel.map (·.p)) fuel = some as) (hA : A ∈ as)
    (hn0 : 0 < n) (hn : n < 2 ^ 448) (hm1 : 32768 ≤ mm) (hm2 : mm < 2 ^ 20)
    (hlo : tgt ≤ 4 * A) (hhi : A ≤ 4 * tgt) (h34 : nfacs ≥ 5 → 3 * tgt ≤ 4 * A) :
    ∃ f pa, mkFactors n sel = some f ∧ prepareA f A fb (-((mm : Int) / 2)) = some pa ∧
      pa.factors.length = nfacs ∧
      ∀ idx, idx < 2 ^ (nfacs - 1) → ∃ pol, polyAt (mkSieve n mm) pa idx = some pol :=
  select_walk_total hfb.prime hfb.small hfb.root hnd h2 hnf hnf32 hsel has hA hn0 hn hm1 hm2 hlo hhi h34

open Ymq.SiqsSelect Ymq.PolySelect in
/-- `select_a_never_returns`: termination of the sampling loop of `select_a` is conditional. If the selection
admits fewer than `want` products of `nfacs` primes (`C(|selection|, nfacs) < want`), the model returns `none` for
EVERY number of iterations granted: the loop `while iters < 1000 * want || candidates.len() < want` can neither
reach `want` candidates nor the early exit. (The loop does not poll `should_abort`.) -/
theorem select_a_never_returns (n : Int) (tgt nfacs want : Nat) (ps : List Nat) (hnf : 0 < nfacs)
    (hsamp : ¬ (nfacs ≤ 5 ∧ bitlen tgt ≤ 66)) (hfew : Nat.choose ps.length nfacs < want) :
    ∀ fuel, selectA n tgt nfacs want ps fuel = none :=
  selectA_never hnf hsamp hfew

/-- a 150-bit `n` with the 8-prime factor base `FBase::new(n, 8)` builds (preference `fb_size = 8`) -/
private def nHang : Int := 1273723276440496174502151209271051750591428621
private def fbHang : List Prime := [⟨2, 1⟩, ⟨5, 1⟩, ⟨7, 2⟩, ⟨11, 9⟩, ⟨13, 9⟩, ⟨17, 5⟩, ⟨19, 7⟩, ⟨31, 1⟩]

open Ymq.SiqsSelect in
/-- `select_a_hang_witness`: for this `n` and factor base, with the driver's own `nfactors = 6`,
`interval_size = 32768`, `a_value_count = 98`: `select_siqs_factors` returns the 7 primes of the pool, only
`C(7, 6) = 7 < 98` products exist, and `select_a` never returns. On the real code
`siqs_select 1273723276440496174502151209271051750591428621 1 8 auto auto auto` does not answer (corpus seed). -/
theorem select_a_hang_witness :
    ∃ tgt sel, selectFactors fbHang nHang 6 32768 = some (tgt, sel) ∧ sel.length = 7 ∧
      ∀ fuel, selectA nHang tgt 6 98 (sel.map (·.p)) fuel = none := by
  have h : ((selectFactors fbHang nHang 6 32768).bind fun r =>
      if r.2.length = 7 then some () else none).isSome = true := by decide +kernel
  simp only [Option.isSome_iff_exists, Option.bind_eq_some_iff, Option.ite_none_right_eq_some] at h
  obtain ⟨_, ⟨tgt, sel⟩, hsel, hl, _⟩ := h
  refine ⟨tgt, sel, hsel, hl, ?_⟩
  apply select_a_never_returns nHang tgt 6 98 _ (by norm_num) (by omega)
  rw [List.length_map, hl]; decide

open Ymq.SiqsSelect in
/-- `select_assert_fires_witness`: for `n = 747329918201907168682715089996070935618991551` and its 8-prime factor
base (13 divides `n`), `nfacs = 6`: the pool has 6 elements and the assertion of `select_siqs_factors` fires
(real code: `internal error: cannot sample 6 primes from fb[0..6]`, corpus seed). -/
theorem select_assert_fires_witness :
    selectFactors [⟨2, 1⟩, ⟨3, 1⟩, ⟨5, 1⟩, ⟨7, 4⟩, ⟨11, 4⟩, ⟨13, 0⟩, ⟨19, 9⟩, ⟨23, 3⟩]
      747329918201907168682715089996070935618991551 6 32768 = none := by
  decide +kernel

open Ymq.Gen.Params in
/-- `siqs_params_in_domain`: the translated parameter functions keep the sieve inside `SizeDom` for every input of
at most 448 bits: `interval_size` lies in `[2^15, 2^20)`, `nfactors` in `[2, 17]`, and wherever `nfactors ≥ 5`
the tolerance divisor is at least 20 (so `A ≥ ¾·target` at the default tolerance). -/
theorem siqs_params_in_domain (bits : Nat) (hb : bits ≤ 448) (ud : Bool) :
    (∃ mm, siqs.interval_size bits ud = some mm ∧ 32768 ≤ mm ∧ mm < 2 ^ 20) ∧
    (∃ nf, siqs.nfactors bits = some nf ∧ 2 ≤ nf ∧ nf ≤ 17 ∧
      ∃ dv, siqs.a_tolerance_divisor bits = some dv ∧ 3 ≤ dv ∧ (5 ≤ nf → 20 ≤ dv)) := by
  have key : ∀ b ∈ List.range 449, ∀ u ∈ [true, false],
      ((siqs.interval_size b u).any fun mm => decide (32768 ≤ mm ∧ mm < 2 ^ 20)) = true ∧
      ((siqs.nfactors b).any fun nf => decide (2 ≤ nf ∧ nf ≤ 17) &&
        (siqs.a_tolerance_divisor b).any fun dv => decide (3 ≤ dv ∧ (5 ≤ nf → 20 ≤ dv))) = true := by
    decide +kernel
  obtain ⟨h1, h2⟩ := key bits (List.mem_range.mpr (by omega)) ud (by cases ud <;> simp)
  simp only [Option.any_eq_true, Bool.and_eq_true, decide_eq_true_eq] at h1 h2
  obtain ⟨mm, hm, hm1, hm2⟩ := h1
  obtain ⟨nf, hn, ⟨a1, a2⟩, dv, hd, d1, d2⟩ := h2
  exact ⟨⟨mm, hm, hm1, hm2⟩, nf, hn, a1, a2, dv, hd, d1, d2⟩

open Ymq.SiqsSelect in
/-- non-vacuity of `select_window_assert`, `select_a_sound`, `siqs_select_walk_total`: `n = 1050589`, 3 factors,
`M = 32768`: the exhaustive branch returns `A = 7·11·23 = 1771` among the 3 values closest to the target 2000 -/
example : (fbEx.map (·.p)).Nodup ∧ (∀ q ∈ fbEx.drop 1, q.p ≠ 2) ∧
    ((selectFactors fbEx 1050589 3 32768).bind fun r =>
      (selectA 1050589 r.1 3 3 (r.2.map (·.p)) 100).bind fun as =>
        if 1771 ∈ as ∧ r.1 ≤ 4 * 1771 ∧ 1771 ≤ 4 * r.1 then some () else none).isSome = true := by
  refine ⟨by decide, by decide, by decide +kernel⟩

/-! ### MPQS -/

open Ymq.MpqsPoly Ymq.PolyMpqs in
/-- `hensel_lift`: the arithmetic of `make_poly`. For `r² ≡ n (mod D)` and `i` an inverse of `2r` modulo `D`:
`b = r + ((c·i) mod D)·D` satisfies `b² ≡ n (mod D²)`, where `c = ((n − r²)/D) mod D` when `r² ≤ n` and
`c = (D − ((r² − n)/D) mod D) mod D` when `r² > n` (tiny `n`: the branch the code takes since the repair of the
`n − h1*h1` underflow); and this is the value the model computes (`henselB`), so the code's
`debug_assert!((b * b) % (d * d) == n % (d * d))` cannot fail. `D` need not be prime (composite pseudo-squares
are covered). -/
theorem hensel_lift (n d r : Nat) :
    (∀ i, 0 < d → r * r % d = n % d → r * r ≤ n → 2 * r * i % d = 1 % d →
      (r + (n - r * r) / d % d * i % d * d) * (r + (n - r * r) / d % d * i % d * d) % (d * d)
        = n % (d * d)) ∧
    (∀ i, 0 < d → r * r % d = n % d → n < r * r → 2 * r * i % d = 1 % d →
      (r + (d - (r * r - n) / d % d) % d * i % d * d) * (r + (d - (r * r - n) / d % d) % d * i % d * d) % (d * d)
        = n % (d * d)) ∧
    (∀ b, henselB n d r = some b → b * b % (d * d) = n % (d * d)) :=
  ⟨fun i hd hr hle hi => hensel n d r i hd hr hle hi, fun i hd hr hlt hi => hensel_neg n d r i hd hr hlt hi,
    fun _ h => henselB_sq h⟩

open Ymq.MpqsPoly in
example : henselB 1000003000009 211 58 = some 43313 ∧ (henselB 55019 307 251).isSome = true := by decide +kernel

open Ymq.MpqsPoly Ymq.PolyMpqs in
/-- `mpqs_identity`: every polynomial returned by the model of `make_poly` has `A = D²` and satisfies
* `n ≡ 1 (mod 4)`: `B` odd, `(2Ax + B)² − n = 4A·(Ax² + Bx + C)`, `bb = (n + B)/2`;
* otherwise: `B = 2·bb`, `(Ax + bb)² − n = A·(Ax² + Bx + C)`;
and `dinv·D ≡ 1 (mod n)` (so that `y = |Ax + bb|·dinv` squares to `P(x)` modulo `n`). -/
theorem mpqs_identity (n d r : Nat) (pol : MpqsPoly.Poly) (h : makePoly n d r = some pol) (x : Int) :
    pol.a = d * d ∧ pol.d = d ∧ d * pol.dinv % n = 1 % n ∧
    (n % 4 = 1 → pol.b % 2 = 1 ∧ 2 * pol.bb = n + pol.b ∧
      (2 * (pol.a : Int) * x + pol.b) ^ 2 - n = 4 * pol.a * mpqsVal pol x) ∧
    (n % 4 ≠ 1 → pol.b = 2 * pol.bb ∧
      ((pol.a : Int) * x + pol.bb) ^ 2 - n = pol.a * mpqsVal pol x) := by
  obtain ⟨ok, hd, _, hdinv⟩ := makePoly_ok h
  refine ⟨by rw [ok.da, hd], hd, hdinv, ?_, ?_⟩
  · intro h4
    obtain ⟨hb, hc, hbb⟩ := ok.odd h4
    refine ⟨hb, hbb, ?_⟩
    unfold mpqsVal
    linear_combination (-1 : Int) * hc
  · intro h4
    obtain ⟨hb, hc⟩ := ok.even h4
    refine ⟨hb, ?_⟩
    unfold mpqsVal
    rw [hb]; push_cast
    linear_combination (-1 : Int) * hc

open Ymq.MpqsPoly in
example : (makePoly 1000003000009 211 58).isSome = true := by decide +kernel

set_option exponentiation.threshold 1100 in
open Ymq.MpqsPoly Ymq.PolyMpqs in
/-- `make_poly_total`: `make_poly(n, D, r)` returns — none of `assert!(d.bits() < 128)`, `assert!(b.bits() < 256)`,
`assert!(c.abs().bits() < 256)`, the three `debug_assert`s, the two `inv_mod(..).unwrap()`, the subtraction
`n - h1*h1`, `d*d - b` — can fail whenever: `D` odd, `1 < D < 2^127` (`mpqs` asserts `d_target.bits() < 127`),
`r < D`, `r² ≡ n (mod D)`, `gcd(2r, D) = gcd(D, n) = 1` (what `sieve_for_polys` checks before it emits `(D, r)`;
`D` need not be prime), `r² ≤ n` (implied by `D² ≤ n`), and `n < 2^254·D²` (for `n < 2^448`, the guard of `mpqs`,
this holds as soon as `D ≥ 2^97`, far below the values `≈ (2n)^(1/4)/√(M/2)` the driver uses; it also holds for
every `n < 2^254`). (`r² ≤ n` is kept as a hypothesis here; for `r² > n` the code used to underflow and now takes the
second branch of `hensel_lift`: corpus seeds `mpqs_poly 55019 1 40 32768 307`.) -/
theorem make_poly_total (n d r : Nat) (hd1 : 1 < d) (hdodd : d % 2 = 1) (hd : d < 2 ^ 127) (hr : r < d)
    (hsq : r * r % d = n % d) (hle : r * r ≤ n) (hg1 : Nat.gcd (2 * r) d = 1) (hg2 : Nat.gcd d n = 1)
    (hn1 : 1 < n) (hnd : n < 2 ^ 254 * (d * d)) : ∃ pol, makePoly n d r = some pol := by
  have hd1 : 0 < d := by omega
  have hr1 : 1 ≤ r := by
    by_contra hc
    have : r = 0 := by omega
    subst this
    simp at hg1
    omega
  have hdd : d * d < 2 ^ 254 := sq_lt_254 hd
  have hrr : r * r < 2 ^ 1024 := by
    have : r * r < d * d := Nat.mul_lt_mul'' hr hr
    have : (2 : Nat) ^ 254 < 2 ^ 1024 := by norm_num
    omega
  obtain ⟨i, hi⟩ := PolyInv.invMod_isSome hd1 hg1
  obtain ⟨b0, hb0, hb0lt⟩ : ∃ b0, b0 = r + (n - r * r) / d % d * i % d * d ∧ b0 < d * d := by
    refine ⟨_, rfl, ?_⟩
    have h2 : (n - r * r) / d % d * i % d + 1 ≤ d := Nat.mod_lt _ hd1
    have := Nat.mul_le_mul_right d h2
    rw [Nat.add_mul, Nat.one_mul] at this
    omega
  have hhb : henselB n d r = some b0 := by
    unfold henselB
    rw [if_neg (by omega), if_neg (by simpa using hsq), chkU_isSome hrr]
    dsimp only
    rw [if_pos hle, hi]
    dsimp only
    rw [← hb0]
    exact chkU_isSome (by
      have : (2 : Nat) ^ 254 < 2 ^ 1024 := by norm_num
      omega)
  have hbsq := henselB_sq hhb
  obtain ⟨dinv, hdinv⟩ := PolyInv.invMod_isSome (by omega : 0 < n) hg2
  have hbitd : bitlen d < 128 := by have := PolyBits.bitlen_le_of_lt hd; omega
  have hbitb : bitlen b0 < 256 := by
    have := PolyBits.bitlen_le_of_lt (lt_trans hb0lt hdd); omega
  -- size of `c` for any `b < d²` and modulus `M ≥ d²`
  have hc : ∀ (b M : Nat), b < d * d → d * d ≤ M →
      bitlen (Int.tdiv (((b * b : Nat) : Int) - (n : Int)) (M : Int)).natAbs < 256 := by
    intro b M hb hM
    have hMpos : 0 < M := lt_of_lt_of_le (Nat.mul_pos hd1 hd1) hM
    have hbb : b * b < d * d * M :=
      lt_of_lt_of_le (Nat.mul_lt_mul'' hb hb) (Nat.mul_le_mul_left _ hM)
    have hnM : n < 2 ^ 254 * M := lt_of_lt_of_le hnd (Nat.mul_le_mul_left _ hM)
    have hdd' : d * d * M ≤ 2 ^ 254 * M := Nat.mul_le_mul_right M hdd.le
    have habs : (Int.tdiv (((b * b : Nat) : Int) - (n : Int)) (M : Int)).natAbs < 2 ^ 254 := by
      rw [Int.natAbs_tdiv, Int.natAbs_natCast]
      exact (Nat.div_lt_iff_lt_mul hMpos).mpr (by omega)
    have := PolyBits.bitlen_le_of_lt habs
    omega
  unfold makePoly
  rw [hhb]
  dsimp only
  rw [if_neg (by omega), hdinv]
  dsimp only
  rw [if_neg (by omega), if_neg (by omega), if_neg (by simpa using hbsq)]
  split
  · rename_i hn4
    obtain ⟨hob, h4⟩ := oddB_sq hdodd (by omega) hb0lt hbsq hn4
    unfold mkOdd
    rw [if_neg (by omega)]
    dsimp only
    rw [if_neg (by simpa using h4), if_neg (not_not.mpr (hc (oddB d b0) (4 * (d * d)) hob (by omega)))]
    exact ⟨_, rfl⟩
  · have heb : evenB d b0 < d * d := by
      have : 0 < b0 := by omega
      unfold evenB; split <;> omega
    unfold mkEven
    rw [if_neg (by omega)]
    dsimp only
    rw [if_neg (not_not.mpr (hc (evenB d b0) (d * d) heb le_rfl))]
    exact ⟨_, rfl⟩

set_option exponentiation.threshold 1100 in
example : (1 : Nat) < 211 ∧ 211 % 2 = 1 ∧ 211 < 2 ^ 127 ∧ 58 < 211 ∧ 58 * 58 % 211 = 1000003000009 % 211 ∧
    58 * 58 ≤ 1000003000009 ∧ Nat.gcd (2 * 58) 211 = 1 ∧ Nat.gcd 211 1000003000009 = 1 ∧
    1000003000009 < 2 ^ 254 * (211 * 211) := by decide

open Ymq.MpqsPoly Ymq.PolyMpqs in
/-- `sieve_for_polys_sound`: every pair `(D, r)` returned by `sieve_for_polys(n, bmin, width)` (any width) has
`bmin ≤ D < bmin + width`, `D ≡ 3 (mod 4)`, `r² ≡ n (mod D)`, `gcd(n mod D, D) = 1`, and no small prime `p < 200` divides
`D` except possibly `D = p` itself below `bmin`'s reach (`bmin ≤ p` and `D < 2p`): exactly the hypotheses
`make_poly_total` and `hensel_lift` need (with `D` odd since `D ≡ 3 mod 4`). -/
theorem sieve_for_polys_sound (n bmin width : Nat) : ∀ dr ∈ sieveForPolys n bmin width,
    bmin ≤ dr.1 ∧ dr.1 < bmin + width ∧ dr.1 % 4 = 3 ∧ dr.2 * dr.2 % dr.1 = n % dr.1 ∧
    Nat.gcd (n % dr.1) dr.1 = 1 ∧
    (∀ p ∈ Ymq.Gen.Primality.smallPrimes, p ∣ dr.1 → ¬ (bmin > p ∨ dr.1 ≥ 2 * p)) := by
  intro dr hdr
  unfold sieveForPolys at hdr
  obtain ⟨i, hi, hf⟩ := List.mem_filterMap.mp hdr
  have hiw : i < width := List.mem_range.mp hi
  simp only [Option.ite_none_left_eq_some, Option.ite_none_right_eq_some, Option.some.injEq, not_not] at hf
  obtain ⟨hmark, h4, hd0, hg, hsq, rfl⟩ := hf
  refine ⟨by omega, by omega, by omega, hsq, hg, ?_⟩
  intro p hp hdvd hcond
  apply hmark
  apply List.any_eq_true.mpr
  refine ⟨p, hp, ?_⟩
  unfold marked
  simp only [Bool.and_eq_true, beq_iff_eq, Bool.or_eq_true, decide_eq_true_eq]
  exact ⟨Nat.mod_eq_zero_of_dvd hdvd, hcond⟩

open Ymq.MpqsPoly in
example : sieveForPolys 1000003000009 150 100 = [(151, 49), (179, 110), (191, 20), (199, 50), (211, 58), (227, 195)] := by
  decide +kernel

open Ymq.Gen.CallSites in
/-- `callsite_offsets`: the start offsets at the call sites the harness cannot reach — `sieve_a` → `prepare_a`,
`siqs_sieve_poly` → `Sieve::new`, `SieveSIQS::new` → `offset_modp`, `mpqs_poly` → `prepare_prime`/`Sieve::new`
(expressions translated from the source, `translate/callsites.py`, which also pins the Gray-walk loop of `sieve_a`, the
chunks of 16 and `dinv_modp[idx]` of `process_poly_block`/`mpqs_poly` and the set-up loops of `qsieve()`) — all equal
`−⌊M/2⌋`, the offset `so` of every theorem here (`(mkSieve n M).startOffset`). -/
theorem callsite_offsets (n : Int) (mm : Nat) :
    siqsPrepareOffset mm = -((mm : Int) / 2) ∧ siqsSieveOffset mm = -((mm : Int) / 2) ∧
    siqsContextOffset mm = -((mm : Int) / 2) ∧ mpqsOffset mm = -((mm : Int) / 2) ∧
    (mkSieve n mm).startOffset = -((mm : Int) / 2) ∧ mpqsChunk = 16 := by
  have h1 : Int.tdiv (-(mm : Int)) 2 = -((mm : Int) / 2) := by
    rw [Int.neg_tdiv, Int.tdiv_eq_ediv_of_nonneg (by omega)]
  have h2 : -(Int.tdiv (mm : Int) 2) = -((mm : Int) / 2) := by
    rw [Int.tdiv_eq_ediv_of_nonneg (by omega)]
  exact ⟨h1, h1, h2, h1, rfl, rfl⟩

open Ymq.MpqsPoly Ymq.PolyMpqs in
/-- `prepare_prime_exact`: all three branches of `Poly::prepare_prime`, for a polynomial returned by
`make_poly`, a prime `p` of the factor base with root `r` (`r < p`, `r² ≡ n`), `dinv` as
`batch_inversion` provides it (`dinvModp`: the inverse of `D` modulo `p`, 0 when `p ∣ D`), and any
sieve position `x` (entry `r` of the table stands for the position `x = r + offset`):
* `p = 2`: the entries are `(0, 1)`: a superset of the roots;
* odd `p ∣ D`: `r1 = r2 < p` and `p ∣ P(x + offset) ⟺ x ≡ r1` — for either sign of `C`;
* odd `p ∤ D`: `r1, r2 < p` and `p ∣ P(x + offset) ⟺ x ≡ r1 ∨ x ≡ r2`. -/
theorem prepare_prime_exact (n d r0 : Nat) (pol : MpqsPoly.Poly) (hpol : makePoly n d r0 = some pol)
    (p r : Nat) (offset : Int) (hp : Nat.Prime p) (hr : r < p) (hsq : (r : Int) * r ≡ n [ZMOD p])
    (r1 r2 : Nat) (h : preparePrime pol p r (dinvModp d p) offset = some (r1, r2)) (x : Int) :
    (p = 2 → (r1, r2) = (0, 1) ∧ (x ≡ (r1 : Int) [ZMOD p] ∨ x ≡ (r2 : Int) [ZMOD p])) ∧
    (p ≠ 2 → p ∣ d → r1 = r2 ∧ r1 < p ∧
      ((p : Int) ∣ mpqsVal pol (x + offset) ↔ x ≡ (r1 : Int) [ZMOD p])) ∧
    (p ≠ 2 → ¬ p ∣ d → r1 < p ∧ r2 < p ∧
      ((p : Int) ∣ mpqsVal pol (x + offset) ↔ (x ≡ (r1 : Int) [ZMOD p] ∨ x ≡ (r2 : Int) [ZMOD p]))) := by
  obtain ⟨ok, hd, _, _⟩ := makePoly_ok hpol
  refine ⟨?_, ?_, ?_⟩
  · intro h2
    subst h2
    obtain ⟨e, hx⟩ := preparePrime_two (pol := pol) (r := r) (dinv := dinvModp d 2) (offset := offset)
    rw [e] at h
    injection h with h
    injection h with ha hb
    subst ha hb
    exact ⟨rfl, hx x⟩
  · intro h2 hpd
    have hz : dinvModp d p = 0 := by
      unfold dinvModp
      rw [PolyInv.invMod_zero hp.two_le (by rw [Nat.mod_mod]; exact Nat.mod_eq_zero_of_dvd hpd)]
      rfl
    rw [hz] at h
    exact preparePrime_div ok hp h2 (hd ▸ hpd) h x
  · intro h2 hpd
    obtain ⟨i, hi, hilt, hinv⟩ := PolyInv.invMod_prime (a := d % p) hp
      (by rw [Nat.mod_mod]; intro h0; exact hpd (Nat.dvd_of_mod_eq_zero h0))
    have hz : dinvModp d p = i := by unfold dinvModp; rw [hi]; rfl
    rw [hz] at h
    have hi0 : i ≠ 0 := by
      intro h0; rw [h0, Nat.mul_zero, Nat.zero_mod] at hinv; cases hinv
    have hdi : pol.d * i % p = 1 := by
      rw [hd, Nat.mul_mod]
      rw [Nat.mul_mod, Nat.mod_mod] at hinv
      exact hinv
    exact preparePrime_generic ok hp h2 hsq hi0 hdi h x

open Ymq.MpqsPoly in
/-- non-vacuity: `D = 19` lies in the factor base of `n = 1000003000009`; branches `p = 2`, `p ∣ D`, generic -/
example : ((makePoly 1000003000009 19 7).bind fun pol =>
    (preparePrime pol 2 1 (dinvModp 19 2) (-16384)).bind fun _ =>
    (preparePrime pol 19 7 (dinvModp 19 19) (-16384)).bind fun _ =>
    preparePrime pol 17 7 (dinvModp 19 17) (-16384)).isSome = true := by decide +kernel

/-! ### classical quadratic sieve -/

open Ymq.QsRoots Ymq.PolyQs in
/-- `qs_roots_exact`: for the context built by `SieveQS::new(n)` and a prime `(p, r)` of the factor base
(`r < p`, `r² ≡ n`): with `m = 2` in "only odds" mode (`n ≡ 1 mod 8`) and `m = 1` otherwise,
* forward: `p ∣ (R + m·x)² − n ⟺ x ≡ f1 ∨ x ≡ f2 (mod p)` for the pair returned by `prepare_prime_fwd`;
* backward: `p ∣ (R − m·(x+1))² − n ⟺ x ≡ b1 ∨ x ≡ b2 (mod p)` for `prepare_prime_bck`;
for every prime when `m = 1` and every odd prime when `m = 2`; in "only odds" mode the prime 2 gets
`(0, 1)`, a superset. -/
theorem qs_roots_exact (n : Nat) (q : QS) (hq : QsRoots.new n = some q) (pr : Prime)
    (hp : Nat.Prime pr.p) (hr : pr.r < pr.p) (hsq : (pr.r : Int) * pr.r ≡ (n : Int) [ZMOD pr.p])
    (x : Int) :
    q.n = n ∧ q.onlyOdds = (n % 8 == 1) ∧
    (¬ (q.onlyOdds = true ∧ pr.p = 2) →
      (∀ f1 f2, prepareFwd q pr = some (f1, f2) → f1 < pr.p ∧ f2 < pr.p ∧
        ((pr.p : Int) ∣ fwdVal q x ↔ (x ≡ (f1 : Int) [ZMOD pr.p] ∨ x ≡ (f2 : Int) [ZMOD pr.p]))) ∧
      (∀ b1 b2, prepareBck q pr = some (b1, b2) → b1 < pr.p ∧ b2 < pr.p ∧
        ((pr.p : Int) ∣ bckVal q x ↔ (x ≡ (b1 : Int) [ZMOD pr.p] ∨ x ≡ (b2 : Int) [ZMOD pr.p])))) ∧
    (q.onlyOdds = true → pr.p = 2 →
      prepareFwd q pr = some (0, 1) ∧ prepareBck q pr = some (0, 1) ∧
      (x ≡ ((0 : Nat) : Int) [ZMOD 2] ∨ x ≡ ((1 : Nat) : Int) [ZMOD 2])) := by
  have hqn : q.n = n ∧ q.onlyOdds = (n % 8 == 1) := by
    simp only [QsRoots.new, Option.ite_none_left_eq_some, Option.some.injEq] at hq
    obtain ⟨_, _, rfl⟩ := hq
    exact ⟨rfl, rfl⟩
  refine ⟨hqn.1, hqn.2, ?_, ?_⟩
  · intro hno
    have hodd : q.onlyOdds = true → pr.p ≠ 2 := fun h1 h2 => hno ⟨h1, h2⟩
    rw [← hqn.1] at hsq
    exact ⟨fun f1 f2 h => qs_fwd_exact hp hr hsq hodd h x,
      fun b1 b2 h => qs_bck_exact hp hsq hodd h x⟩
  · intro hoo hp2
    obtain ⟨p, r⟩ := pr
    simp only at hp2 hr
    subst hp2
    obtain ⟨e1, e2⟩ := qs_two (q := q) (r := r) hoo hr
    exact ⟨e1, e2, Int.emod_two_eq_zero_or_one x⟩

open Ymq.QsRoots in
example : ((QsRoots.new 1000003000009).bind fun q =>
    (prepareFwd q ⟨17, 7⟩).bind fun _ => prepareBck q ⟨17, 7⟩).isSome = true := by decide +kernel

open Ymq.Gen.QsShift Ymq.PolyQs in
/-- `lgblock_shift`: the body of `next_lgblock` (translated from the source text) maps both roots
`r < p < 2^31` to `(r − L) mod p`, where `o = L mod p` and `L = nblocks·BLOCK_SIZE` is the size of a large
block; and `(r − L) mod p` is the right entry for the next large block: position `x` of the new block is
position `x + L` of the old one, `x + L ≡ r ⟺ x ≡ (r − L) mod p`. Hence by induction `k` shifts give
`(r − k·L) mod p`. -/
theorem lgblock_shift (nb p r1 r2 : Nat) (h1 : r1 < p) (h2 : r2 < p) (hp : p < 2 ^ 31) :
    shiftPair (blkszModp nb p) p r1 r2
      = ((r1 + p - blkszModp nb p) % p, (r2 + p - blkszModp nb p) % p) ∧
    (shiftPair (blkszModp nb p) p r1 r2).1 < p ∧ (shiftPair (blkszModp nb p) p r1 r2).2 < p ∧
    (∀ x : Int, (x + (largeBlockSize nb : Int) ≡ (r1 : Int) [ZMOD p]) ↔
      x ≡ ((shiftPair (blkszModp nb p) p r1 r2).1 : Int) [ZMOD p]) ∧
    (∀ x : Int, (x + (largeBlockSize nb : Int) ≡ (r2 : Int) [ZMOD p]) ↔
      x ≡ ((shiftPair (blkszModp nb p) p r1 r2).2 : Int) [ZMOD p]) := by
  have hppos : 0 < p := by omega
  have ho : blkszModp nb p < p := Nat.mod_lt _ hppos
  have e := shiftPair_eq (blkszModp nb p) p r1 r2 ho h1 h2 hp
  rw [e]
  exact ⟨rfl, Nat.mod_lt _ hppos, Nat.mod_lt _ hppos,
    fun x => shift_root_iff nb p r1 hppos x, fun x => shift_root_iff nb p r2 hppos x⟩

open Ymq.Gen.QsShift in
example : shiftPair (blkszModp 2 1009) 1009 5 1000 = (54, 40) := by decide

end Ymq.C12
