/-
C16, Pollard P-1 end to end: theorems about the whole-function model of `pollard_pm1::pm1_impl`,
`pm1_quick`, `pm1_only` (Ymq/Model/Pm1Impl.lean; tied to the real code by the requests `pm1_impl`,
`pm1_quick_full`, `pm1_only_full`, `pm1_polyeval` of props/c16_pm1.py, which compare the complete returned
value in both profiles).

What is proved here: every value the model returns — through any of its exits: a stage-1 gcd check, the
`g == 1` exit, the prime walk, the polynomial stage 2 with its `f2.contains(n)` guard — is a proper split
of `n`, for every `pseudoprime` oracle and without any assumption on the values handed to `gcd_factors`
(the `debug_assert!`s of `find_factors` are what makes the product telescope); the entry panic sites;
`pm1_quick` ignoring inputs of at most 84 bits.

What is NOT proved here: absence of panics on the domain `factor()` passes (odd `3 ≤ n < 2^500`, `4 ≤ b1 < 4294967291`):
the facts exist separately — stage-1 exponents fit (`pm1_stage1_divides`, C17, for the stream without the `g == 1` exit),
`exp_modn`/`exp_modn_large` never reach `unreachable!` (`exp_modn_spec`, over a commutative monoid; on the residues
`a*b % m`: `pm1_exp_modn_residues`, Props/C16Pm1b.lean), the gap-table indices are in range (`pm1_gap_table_in_range`,
Props/C16Pm1b.lean), the `debug_assert!` of `find_factors` holds for increasing gcd chains (`gcd_factors_prod`) — but the
chain property of `gpows` across a ring shrink is not derived, so no `pm1_impl_no_panic` is stated; and the end-to-end "finds what the bounds promise" statement for the whole function — the latter is covered
piecewise by `pm1_stage1_divides` (C17), `pm1_hit`/`pm1_cover`/`pm1_found` and `walk_reported_*` (Props/C16.lean)
and, for the glue between the pieces, by the K stream only.
-/
import Ymq.Lemmas.Pm1Impl
import Ymq.Lemmas.Pm1ImplExample

namespace Ymq.C16
open Ymq.Pm1Impl Ymq.ExpModn Ymq.Gen

/-- `gcd_factors` (with the `debug_assert!`s of `find_factors` on): WHATEVER the value list is, a returned
`(facs, rest)` satisfies `facs.prod · rest = n` with every part `> 1` and `rest > 0`.  (`gcd_factors_prod` needs the
increasing-gcd hypothesis because it also proves that nothing panics and what the product is.) -/
theorem pm1_gcd_factors_sound {n : Nat} {vals : List Nat} {pp : Nat → Bool} {fs : List Nat} {rest : Nat} (hn : 0 < n)
    (h : gcdFactors n vals pp = some (fs, rest)) : fs.prod * rest = n ∧ (∀ f ∈ fs, 1 < f) ∧ 0 < rest :=
  let ⟨h1, h2, h3, _⟩ := gcdFactors_of_some hn h
  ⟨h1, h2, h3⟩

example : gcdFactors 77 [1, 63, 63] (fun _ => true) = some ([7], 11) := by decide +kernel

/-- `check_gcd_factors` keeps `factors.prod · nred = n`, all factors `> 1`, `n` not recorded — for every value list. -/
theorem pm1_check_gcd_factors_sound {n : Nat} {pp : Nat → Bool} {st st' : CgfState} {b : Bool} (hinv : CgfInv n st)
    (h : checkGcdFactors n pp st = some (b, st')) : CgfInv n st' :=
  checkGcdFactors_inv_of_some hinv h

example : CgfInv 77 ⟨[], 77, [1, 63, 63]⟩ ∧
    checkGcdFactors 77 (fun _ => true) ⟨[], 77, [1, 63, 63]⟩ = some (true, ⟨[7], 11, [1, 63, 63]⟩) :=
  ⟨⟨by simp, by simp, by decide, by simp⟩, by decide +kernel⟩

/-- **`pm1_impl` returns proper splits only.** For every `n > 0`, all bounds and every `pseudoprime` oracle: if
`pm1_impl(n, b1, b2)` returns `Some((factors, cofactor))` then `factors.prod · cofactor = n`, every listed factor is
`> 1` and different from `n`, the list is not empty and the cofactor is positive.  Nothing is claimed about primality
of the parts: a part is either accepted by `pseudoprime` or is the gcd increment of a single step (`gcd_factors_prod`);
`p²` comes back as one part (request family `sq`).  The cofactor is `1` exactly when the listed factors multiply to `n`
(complete factorisation, at least two parts since `n` itself is never listed). -/
theorem pm1_impl_proper {n b1 b2 : Nat} {pp : Nat → Bool} (hn : 0 < n) {fs : List Nat} {rest : Nat}
    (h : pm1Impl n b1 b2 pp = some (some (fs, rest))) :
    fs.prod * rest = n ∧ (∀ f ∈ fs, 1 < f) ∧ 0 < rest ∧ n ∉ fs ∧ fs ≠ [] :=
  pm1Impl_proper hn h fs rest rfl

/-- non-vacuity: a complete run inside the logic, `pm1_impl(77, 4, 4) = Some(([7], 11))` -/
example : pm1Impl 77 4 4 (fun _ => true) = some (some ([7], 11)) := ex_pm1Impl

/-- a complete factorisation has at least two parts -/
theorem pm1_impl_complete_two_parts {n b1 b2 : Nat} {pp : Nat → Bool} (hn : 0 < n) {fs : List Nat}
    (h : pm1Impl n b1 b2 pp = some (some (fs, 1))) : 2 ≤ fs.length := by
  obtain ⟨hp, _, _, hnot, hne⟩ := pm1_impl_proper hn h
  match fs, hp, hnot, hne with
  | [], _, _, hne => exact absurd rfl hne
  | [f], hp, hnot, _ => simp at hp; simp [hp] at hnot
  | _ :: _ :: _, _, _, _ => simp

example : (0 : Nat) < 271750259454572315341 := by decide

/-- the same for the strategy functions -/
theorem pm1_quick_proper {n : Nat} {pp : Nat → Bool} (hn : 0 < n) {fs : List Nat} {rest : Nat}
    (h : pm1Quick n pp = some (some (fs, rest))) :
    fs.prod * rest = n ∧ (∀ f ∈ fs, 1 < f) ∧ 0 < rest ∧ n ∉ fs ∧ fs ≠ [] :=
  viaArms_proper hn h fs rest rfl

theorem pm1_only_proper {n : Nat} {pp : Nat → Bool} (hn : 0 < n) {fs : List Nat} {rest : Nat}
    (h : pm1Only n pp = some (some (fs, rest))) :
    fs.prod * rest = n ∧ (∀ f ∈ fs, 1 < f) ∧ 0 < rest ∧ n ∉ fs ∧ fs ≠ [] :=
  viaArms_proper hn h fs rest rfl

/-- `pm1_quick` ignores numbers of at most 84 bits (returns `None` without touching them) … -/
theorem pm1_quick_ignores_small {n : Nat} (pp : Nat → Bool) (h : ExpModn.bitlen n ≤ 84) : pm1Quick n pp = some none := by
  have key : ∀ b, b ≤ 84 → armRun Stage2.pm1QuickArms b = some [] := by decide
  unfold pm1Quick viaArms
  rw [key _ h]

/-- the first size not reached when the rows are read in order from `next`: a row counts if it starts at or below
`next`, has no guard and runs accepted by `P` -/
def armsCover (P : List (Nat × Nat) → Bool) : List (Nat × Nat × Nat × List (Nat × Nat)) → Nat → Nat
  | [], next => next
  | (lo, hi, g, runs) :: t, next =>
    if lo ≤ next ∧ g = 0 ∧ P runs = true then armsCover P t (max next (hi + 1)) else next

theorem armsCover_spec (P : List (Nat × Nat) → Bool) : ∀ (arms : List (Nat × Nat × Nat × List (Nat × Nat))) (next b : Nat),
    next ≤ b → b < armsCover P arms next → ∃ runs, armRun arms b = some runs ∧ P runs = true
  | [], next, b, h1, h2 => by rw [armsCover] at h2; omega
  | (lo, hi, g, runs) :: t, next, b, h1, h2 => by
    rw [armsCover] at h2
    split at h2
    · rename_i hrow
      obtain ⟨hlo, rfl, hP⟩ := hrow
      by_cases hb : b ≤ hi
      · exact ⟨runs, by simp [armRun, (by omega : lo ≤ b), hb], hP⟩
      · obtain ⟨r, hr, hPr⟩ := armsCover_spec P t _ b (by omega) h2
        exact ⟨r, by simpa [armRun, List.find?_cons, hb] using hr, hPr⟩
    · omega

/-- … and every size has an arm in both tables (no `match` falls through up to the 1024 bits of `Uint`;
`pm1_only` always runs, with `b1 > 3`) -/
theorem pm1_arms_total : ∀ b, b ≤ 1024 →
    (armRun Stage2.pm1QuickArms b).isSome = true ∧
      (match armRun Stage2.pm1OnlyArms b with | some [(b1, _)] => decide (3 < b1) | _ => false) = true := by
  intro b hb
  obtain ⟨r1, h1, -⟩ := armsCover_spec (fun _ => true) Stage2.pm1QuickArms 0 b (Nat.zero_le _)
    (Nat.lt_of_le_of_lt hb (by decide +kernel))
  obtain ⟨r2, h2, hP⟩ := armsCover_spec (fun runs => match runs with | [(b1, _)] => decide (3 < b1) | _ => false)
    Stage2.pm1OnlyArms 0 b (Nat.zero_le _) (Nat.lt_of_le_of_lt hb (by decide +kernel))
  rw [h1, h2]
  refine ⟨rfl, ?_⟩
  split at hP
  · exact hP
  · exact absurd hP Bool.false_ne_true

example : ExpModn.bitlen 77 ≤ 84 := by decide

/-- the entry panic sites of `pm1_impl`: `assert!(b1 > 3)`, `ZmodN::new` on an even or > 512-bit `n` -/
theorem pm1_impl_entry_panics {n b1 b2 : Nat} (pp : Nat → Bool) (h : b1 ≤ 3 ∨ n % 2 = 0 ∨ 2 ^ 512 ≤ n) :
    pm1Impl n b1 b2 pp = none := by
  unfold pm1Impl
  split
  · rfl
  · by_cases hb : b1 ≤ 3
    · rw [if_pos hb]
    · rw [if_neg hb]
      have hz : znNewPanics n = true := by
        unfold znNewPanics
        rcases h with h | h | h
        · exact absurd h hb
        · simp [h]
        · simp [h]
      rw [hz]; rfl

example : (3 : Nat) ≤ 3 ∨ 77 % 2 = 0 ∨ 2 ^ 512 ≤ 77 := Or.inl (by decide)

/-- **The prime walk starts with the stop prime.** Stage 2 (`b2 <= MULTIEVAL_THRESHOLD`) accumulates, from its very first
product on, the term `g^p_prev − 1` of the prime `p_prev > b1` at which stage 1 stopped (that prime was never part of the
stage-1 exponent): the walk is the loop `walkOuter` started with `product = g^p_prev − 1`, `products = [1]`.  A walk
started at `product = 1` (seeded change C16-3) does not satisfy this equation; the request family `walk/stop-prime`
shows the difference on the real code.
This equation is the definitional unfolding of `walk` (it restates the model; on its own it is meaningful only through
the K stream).  The content — `gcd(m, g^p_prev − 1)` divides the running product from the first block on — is
`pm1_walk_stop_prime_found` / `pm1_walk_stop_prime_kept` (Props/C16Pm1b.lean), which use this unfolding. -/
theorem pm1_walk_includes_stop_prime (n b2 : Nat) (pp : Nat → Bool) (m g pPrev : Nat) (blk : List Nat)
    (ps : Ymq.Primes.PrimeSieve) (factors : List Nat) (nred : Nat) :
    walk n b2 pp m g pPrev blk ps factors nred =
      (expModn (mulm m) (onem m) g pPrev).bind fun x =>
        walkOuter n b2 pp m (mulm m g g) 65600 ps blk
          { x := x, product := subm m x (onem m), productsRev := [onem m], gaps := [mulm m g g], pPrev := pPrev } factors nred := by
  unfold walk
  cases expModn (mulm m) (onem m) g pPrev <;> rfl

example : expModn (mulm 77) (onem 77) 2 5 = some 32 := by decide +kernel

/-- … and every later prime `p` multiplies `g^p − 1` onto the running product and records it, so the gcd of the ring
modulus with the running product only grows: a prime factor caught by any term (the stop prime's included) is in every
later entry of `products`, in particular in the last one, which is what `check_gcd_factors` looks at. -/
theorem pm1_walk_product_accumulates {m g2 b2 : Nat} {w w' : W} {p : Nat} {fl : Bool}
    (h : walkStep m g2 b2 w p = some (w', fl)) :
    Nat.gcd m w.product ∣ Nat.gcd m w'.product ∧
      (w' = w ∨ (w.pPrev < p ∧ w'.pPrev = p ∧ w'.productsRev = w'.product :: w.productsRev ∧
        w'.product = mulm m w.product (subm m w'.x (onem m)))) := by
  unfold walkStep at h
  split at h
  · simp only [Option.some.injEq, Prod.mk.injEq] at h
    rw [← h.1]; exact ⟨dvd_rfl, Or.inl rfl⟩
  · rename_i hp
    simp only at h
    split at h
    · exact absurd h (by simp)
    · split at h
      · exact absurd h (by simp)
      · split at h
        · exact absurd h (by simp)
        · simp only [Option.some.injEq, Prod.mk.injEq] at h
          obtain ⟨rfl, _⟩ := h
          exact ⟨gcd_dvd_gcd_mul_mod m _ _, Or.inr ⟨by omega, rfl, rfl, rfl⟩⟩

example : (walkStep 77 (mulm 77 2 2) 100 { x := 32, product := 31, productsRev := [1], gaps := [mulm 77 2 2], pPrev := 5 } 7).isSome
    = true := by decide +kernel

end Ymq.C16
