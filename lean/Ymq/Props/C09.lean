/-
C09 — multiprecision gcd and modular inverse are exact, with valid Bezout cofactors.
Only property theorems live here (helper lemmas: Ymq/Lemmas/Gcd*.lean).
The model (Ymq/Model/Gcd.lean) returns `none` wherever the real code panics in the checked
profile (overflow of i64 / BUint / BInt arithmetic, index out of range, assertion) or where the
fuel of a loop runs out.
-/
import Ymq.Lemmas.GcdLoop
import Ymq.Lemmas.GcdReduceInv
import Ymq.Lemmas.GcdTerm
import Ymq.Lemmas.GcdInv
import Ymq.Lemmas.GcdTotal
import Ymq.Lemmas.GcdCof7

namespace Ymq.C09
open Ymq.Gcd

/-- a unimodular integer matrix applied to `(x, y)` preserves the gcd (one Lehmer step, one
quotient step: every step of `gcd_internal` has this shape). -/
theorem step_gcd (a b c d : Int) (x y : Nat) (hdet : a * d - b * c = 1 ∨ a * d - b * c = -1) :
    Nat.gcd (a * x + b * y).natAbs (c * x + d * y).natAbs = Nat.gcd x y :=
  nat_gcd_unimodular a b c d x y hdet

example : (2 : Int) * 3 - 5 * 1 = 1 ∧
    Nat.gcd ((2 : Int) * (12 : Nat) + 5 * (18 : Nat)).natAbs ((1 : Int) * (12 : Nat) + 3 * (18 : Nat)).natAbs
      = Nat.gcd 12 18 := by decide

/-- `reduce64(x, y)` for **all** pairs of 64-bit words (no precondition is needed): no panic (no i64
overflow, no failing debug assertion, the loop ends within 70 iterations), the returned matrix
satisfies `a x + b y = u`, `c x + d y = v` for the final `(u, v)` of the loop, which are not larger
than the inputs, `a d - b c = ±1`, and every entry is bounded by `2^36` in absolute value (the
code's debug assertions; in fact the bound is strict). -/
theorem reduce64_inv (x y : Nat) (hx : x < 2 ^ 64) (hy : y < 2 ^ 64) :
    ∃ (a b c d : Int) (u v : Nat), reduce64 x y = some (a, b, c, d) ∧
      a * x + b * y = u ∧ c * x + d * y = v ∧ u ≤ max x y ∧ v ≤ max x y ∧
      (a * d - b * c = 1 ∨ a * d - b * c = -1) ∧
      a.natAbs ≤ 2 ^ 36 ∧ b.natAbs ≤ 2 ^ 36 ∧ c.natAbs ≤ 2 ^ 36 ∧ d.natAbs ≤ 2 ^ 36 := by
  obtain ⟨a, b, c, d, u, v, hr, hinv, _⟩ := reduce64_spec x y (by rw [W_eq]; exact hx) (by rw [W_eq]; exact hy)
  have nat : ∀ {z : Int}, |z| < 2 ^ 36 → z.natAbs ≤ 2 ^ 36 := fun h => by
    rw [Int.abs_eq_natAbs] at h; omega
  refine ⟨a, b, c, d, u, v, hr, hinv.relu, hinv.relv, ?_, ?_, hinv.det, nat hinv.ba, nat hinv.bb,
    nat hinv.bc, nat hinv.bd⟩
  · rcases hinv.phase with ⟨_, _, _, _, rfl, rfl⟩ | ⟨_, _, _, _, rfl, rfl, _⟩ | ⟨h1, h2, _⟩ <;> omega
  · rcases hinv.phase with ⟨_, _, _, _, rfl, rfl⟩ | ⟨_, _, _, _, rfl, rfl, _⟩ | ⟨h1, h2, _⟩ <;> omega

example : reduce64 18446744073709551615 12345678901234567 =
    some (-3133215, 4681606876, 11521471, -17215223933) := by decide +kernel

/-- `gcd_internal::<N, EXT>` (partial correctness, all operands, every fuel): whenever the loop
returns, `d = gcd(n, p)` and, in the extended variant, `u*n + v*p = d` over the integers.
No bound on the operands is needed: every arithmetic overflow is a panic site of the model, and the
only silent wrap (`BInt::cast_from(q)` of a quotient `>= 2^(64N-1)`) can only happen when `y = 1`,
where the wrapped row has value 0 and is never used.
(`gcdLoop N K` : `K` = width of the `BInt` cofactors, the real code is `K = N`, and
`gcdInternal N ext n p = gcdLoop N N ext (gcdFuel N) (initSt n p)`.) -/
theorem gcd_internal_spec (N : Nat) (hN : 0 < N) (ext : Bool) (fuel n p d : Nat) (u v : Int)
    (h : gcdLoop N N ext fuel (initSt n p) = some (d, u, v)) :
    d = Nat.gcd n p ∧ (ext = true → u * n + v * p = d) :=
  gcdLoop_some hN fuel _ d u v h (GInv_init ext n p)

example : gcdLoop 16 16 true 10 (initSt 1234567890123456789012345678901234567890
      9876543210987654321098765432109876543210) = some (90000000009000000000900000000090, -8, 1) := by
  decide +kernel

/-- termination of `gcd_internal` with an explicit fuel bound: for operands that are values of
`BUint<N>`, running the loop with more than `3 (bits n + bits p) + 1` units of fuel gives the same
result as running it with exactly that much — so with that fuel (and with the fuel
`gcdFuel N = 384 N + 3` used by `gcdInternal`, which is larger) the model never returns `none` for
lack of fuel: `none` can only be a panic site. Reason: every iteration that continues shrinks the
product `x * y` by a factor `3/4` at least (quotient steps: `1/2`; Lehmer steps: analysis of
`reduce64` on the top words). -/
theorem gcd_terminates (N : Nat) (ext : Bool) (n p : Nat) (hn : n < 2 ^ (64 * N)) (hp : p < 2 ^ (64 * N))
    (f : Nat) (hf : 3 * (bits n + bits p) + 1 ≤ f) :
    gcdLoop N N ext f (initSt n p) = gcdLoop N N ext (3 * (bits n + bits p) + 1) (initSt n p) ∧
    3 * (bits n + bits p) + 1 ≤ gcdFuel N :=
  ⟨gcdLoop_fuel f hf, gcdFuel_ge hn hp⟩

example : (12345678901234567890 : Nat) < 2 ^ (64 * 4) ∧ 3 * (bits 12345678901234567890 + bits 987654321) + 1 = 283 ∧
    gcdFuel 4 = 1539 := by decide +kernel

/-- `big_gcd::<N>` returns the gcd (including zero operands) whenever it returns. -/
theorem big_gcd_spec (N : Nat) (hN : 0 < N) (n p d : Nat) (h : bigGcd N n p = some d) :
    d = Nat.gcd n p := by
  unfold bigGcd at h
  split at h
  · rename_i hp; simp at h; subst h; subst hp; simp
  · split at h
    · rename_i hn; simp at h; subst h; subst hn; simp
    · split at h
      · simp at h
      · rename_i d' u v hg
        simp at h; subst h
        exact (gcd_internal_spec N hN false _ n p _ u v hg).1

example : bigGcd 8 (2 ^ 300 * 3) (2 ^ 200 * 9) = some (2 ^ 200 * 3) := by decide +kernel

/-- `mulword::<N>(w, sz, n)`: the index `nd[sz]` (and `nd[i]`, `i < sz`) is in range and the result
is the exact product whenever `sz <= N`, the operand fits in its `sz` low words and either a free
word is left for the carry (`sz < N`) or the product fits in `sz` words — the situation of
`dot_product` inside `gcd_internal`, where `n < 2^bits`, `w < 2^36`, `bits + 36 < 64 N`. -/
theorem mulword_no_panic (N w sz n : Nat) (hsz : sz ≤ N) (hn : n < (2 ^ 64) ^ sz)
    (h : sz < N ∨ n * w < (2 ^ 64) ^ sz) : mulword N w sz n = some (w * n) := by
  rw [← W_eq] at hn h
  exact mulword_eq hsz hn h

example : mulword 2 5 2 (2 ^ 100) = some (5 * 2 ^ 100) ∧ mulword 2 (2 ^ 40) 2 (2 ^ 100) = none := by
  decide +kernel

/-- `no_panic`, non-extended variant (`big_gcd`, hence `ZmodN::gcd`): on the whole of `BUint<N>`
(no bound below the type width is needed), including operands within 36 bits of the type width
(quotient fallback), operands with a small top word, the `mulword` index, the `BUint` addition in
`dot_product`, every i64 operation and debug assertion of `reduce64`, `top64`, and fuel: `big_gcd`
returns, and what it returns is the gcd. The extended variant is `no_panic_ext`. -/
theorem no_panic (N : Nat) (hN : 0 < N) (n p : Nat) (hn : n < 2 ^ (64 * N)) (hp : p < 2 ^ (64 * N)) :
    bigGcd N n p = some (Nat.gcd n p) := by
  have hd : ∃ d, bigGcd N n p = some d := by
    unfold bigGcd
    split
    · exact ⟨_, rfl⟩
    · split
      · exact ⟨_, rfl⟩
      · obtain ⟨⟨d, u, v⟩, hr⟩ := gcdInternal_noext_total (N := N) hn hp
        rw [hr]; exact ⟨_, rfl⟩
  obtain ⟨d, hd⟩ := hd
  rw [hd, big_gcd_spec N hN n p d hd]

example : ((2 ^ 1018 + 12345) * 35 : Nat) < 2 ^ (64 * 16) ∧ bigGcd 16 ((2 ^ 1018 + 12345) * 35) ((2 ^ 1000 + 15) * 35) = some 35 := by
  decide +kernel

/-- Outside the domain of `no_panic_ext`, on the whole of `BUint<N>`: the only panic sites the
extended variant can reach are the `BInt` range checks on the cofactors. The model's loop takes the
width `K` (in words) of the `BInt` cofactors as a separate parameter (the real code is `K = N`); for
every pair of `BUint<N>` operands there is a width `K` for which `gcd_internal::<N, true>` returns the
gcd with valid Bezout cofactors — so the `mulword` index, the `BUint` operations, `top64`,
`reduce64`, the i64 `extended_gcd` and the fuel are never the reason of a panic, for any operands. -/
theorem no_panic_ext_any_width (N : Nat) (hN : 0 < N) (n p : Nat) (hn : n < 2 ^ (64 * N)) (hp : p < 2 ^ (64 * N)) :
    ∃ (K d : Nat) (u v : Int), gcdLoop N K true (gcdFuel N) (initSt n p) = some (d, u, v) ∧
      d = Nat.gcd n p ∧ u * n + v * p = d := by
  obtain ⟨K, ⟨d, u, v⟩, hr⟩ := gcdLoop_ext_exists (n := n) (p := p) hn hp
  obtain ⟨h1, h2⟩ := gcdLoop_some hN _ _ d u v hr (GInv_init true n p)
  exact ⟨K, d, u, v, hr, h1, h2 rfl⟩

example : gcdInternal 4 true 1234567890123456789012345678901234567890 987654321098765432109876543210 =
    gcdLoop 4 4 true (gcdFuel 4) (initSt 1234567890123456789012345678901234567890 987654321098765432109876543210) :=
  rfl

/-- `no_panic`, extended variant with the real cofactor width: for operands below `2^(64N-12)`
(1012 bits for N = 16, 500 bits for N = 8, 244 bits for N = 4 — exactly the supported range of the
property) `gcd_internal::<N, true>` never panics: no `BInt<N>` cofactor operation overflows (nor any
other site), and it returns the gcd with valid Bezout cofactors.
This is `no_panic_ext_wide` (Props/C09Ext.lean: operands below `2^(64N-7)`, the sharp domain; the
invariant behind it is in Ymq/Lemmas/GcdCof7.lean) on the smaller domain `64N-12`. Intermediate
products of about `50 * max(n, p)` do occur, see `no_panic_ext_domain_sharp`. -/
theorem no_panic_ext (N : Nat) (hN : 0 < N) (n p : Nat) (hn : n < 2 ^ (64 * N - 12))
    (hp : p < 2 ^ (64 * N - 12)) :
    ∃ (d : Nat) (u v : Int), gcdInternal N true n p = some (d, u, v) ∧
      d = Nat.gcd n p ∧ u * n + v * p = d := by
  have hle : 2 ^ (64 * N - 12) ≤ 2 ^ (64 * N - 7) := Nat.pow_le_pow_right (by decide) (by omega)
  obtain ⟨d, u, v, hr, _⟩ := gcdInternal_ext_total hN (Nat.lt_of_lt_of_le hn hle) (Nat.lt_of_lt_of_le hp hle)
  have hr' := hr
  unfold gcdInternal at hr'
  obtain ⟨h1, h2⟩ := gcdLoop_some hN _ _ d u v hr' (GInv_init true n p)
  exact ⟨d, u, v, hr, h1, h2 rfl⟩

example : (2 ^ 243 + 12345 : Nat) < 2 ^ (64 * 4 - 12) ∧
    ∃ u v, gcdInternal 4 true (2 ^ 243 + 12345) (2 ^ 240 + 77) = some (1, u, v) := by
  refine ⟨by decide, ?_⟩
  obtain ⟨d, u, v, h, hd, _⟩ := no_panic_ext 4 (by decide) (2 ^ 243 + 12345) (2 ^ 240 + 77)
    (by decide) (by decide)
  have : d = 1 := by rw [hd]; decide +kernel
  subst this
  exact ⟨u, v, h⟩

/-- the domain of `no_panic_ext` cannot be extended to `64N - 6` bits: for N = 4 this pair of 250-bit
operands makes the `BInt<4>` cofactor arithmetic of the final `<64`-bit combination overflow (model:
`none`; real code: panic "attempt to multiply with overflow" in the checked profile, a correct
result in the release profile, where the wrapped products cancel). Below `64N - 6` bits there is no
panic: `no_panic_ext_wide` (Props/C09Ext.lean). -/
theorem no_panic_ext_domain_sharp :
    (1685388928722287561573468839125071511021812907006236161640012683817539665347 : Nat) < 2 ^ (64 * 4 - 6) ∧
    (1724353979614899190960037120248823706984006128851863788760191301092522462335 : Nat) < 2 ^ (64 * 4 - 6) ∧
    gcdInternal 4 true 1685388928722287561573468839125071511021812907006236161640012683817539665347
      1724353979614899190960037120248823706984006128851863788760191301092522462335 = none := by
  decide +kernel

/-- `inv_mod::<N>(n, p)` never panics for a non-zero modulus and operands below `2^(64N-12)`
(what it returns is described by `inv_mod_spec`). -/
theorem inv_mod_no_panic (N : Nat) (hN : 0 < N) (n p : Nat) (hp0 : p ≠ 0)
    (hn : n < 2 ^ (64 * N - 12)) (hp : p < 2 ^ (64 * N - 12)) : ∃ r, invMod N n p = some r :=
  have hle : 2 ^ (64 * N - 12) ≤ 2 ^ (64 * N - 7) := Nat.pow_le_pow_right (by decide) (by omega)
  invMod_total hN hp0 (Nat.lt_of_lt_of_le hn hle) (Nat.lt_of_lt_of_le hp hle)

/-- `inv_mod::<N>(n, p)` for every `n` and every modulus `p` (`p = 0` is refused by the assertion:
the model returns `none`): whenever it returns,
* `Ok(x)`: `x < p` and `n * x ≡ 1 (mod p)` (for `p = 1` this reads `x = 0`);
* `Err(d)`: `d = gcd(n, p)` and `d ≠ 1` (for `n = 0`, `p ≠ 1` the gcd is `p`).
On the pinned tree `inv_mod(0, 1)` returned `Err(1)`, violating the second clause (and the doc
comment "Err(gcd) if gcd > 1"); repaired by the `fix:` commit 370d025 in /repo, which the model
follows. The case `p = 1`, `n > 0` needs the sign of the cofactor: `gcdLoop_one_nonneg`. -/
theorem inv_mod_spec (N : Nat) (hN : 0 < N) (n p : Nat) (r : InvRes)
    (h : invMod N n p = some r) :
    match r with
    | .ok x => x < p ∧ n * x % p = 1 % p
    | .err d => d = Nat.gcd n p ∧ d ≠ 1 := by
  by_cases hp2 : 2 ≤ p
  · exact invMod_some_ge2 N hN n p hp2 r h
  · have hp : p = 0 ∨ p = 1 := by omega
    rcases hp with rfl | rfl
    · simp [invMod] at h
    · unfold invMod at h
      rw [if_neg (by omega)] at h
      split at h
      · simp at h; subst h; simp
      · rename_i hn0
        split at h
        · simp at h
        · rename_i d u v hg
          have hd := (gcdLoop_some hN _ _ d u v hg (GInv_init true n 1)).1
          have hu := gcdLoop_one_nonneg (Nat.pos_of_ne_zero hn0) _ d u v hg
          rw [Nat.gcd_one_right] at hd
          rw [if_neg (by omega), if_neg (by omega)] at h
          simp at h; subst h
          simp [Nat.mod_one]

example : invMod 8 3 7 = some (.ok 5) ∧ invMod 8 6 9 = some (.err 3) ∧ invMod 8 0 9 = some (.err 9) ∧
    invMod 8 0 1 = some (.ok 0) ∧ invMod 8 5 1 = some (.ok 0) := by
  decide +kernel

end Ymq.C09
