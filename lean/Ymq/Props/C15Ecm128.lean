/-
C15 / C16 — one run of the 128-bit ECM end to end (`ecm128::ecm_curve` and the curve loop of `ecm128::ecm`; model:
Ymq/Model/Ecm128Curve.lean, an interpreter over abstract point operations; lemmas: Ymq/Lemmas/Ecm128Curve*.lean).

As in Props/C15Stage2.lean the group-level statements read the point operations in an additive commutative group in which
the formulas are the group law (`grp128`: `ext`/`proj` are the identity, `double`/`dblext` are `x + x`, `add` is `+`,
`dbladd q g = (q + q) + g`, the coordinate negation is `-`); the exceptional points of the extended addition (listed
finding) are outside these statements. Only property theorems live here.
-/
import Ymq.Lemmas.Ecm128CurveGroup
import Ymq.Lemmas.Ecm128CurveTotal
import Ymq.Lemmas.SmoothBaseLoop
import Ymq.Props.C15Stage2

namespace Ymq.C15
open Ymq.Chain Ymq.EcmCurve Ymq.Ecm128Curve Ymq.Stage2 Ymq.Gen

section Group
variable {G : Type} [AddCommGroup G]

/-- **Stage 1 of `ecm128::ecm_curve`.** For `u64` blocks, whatever number `xv` reads off a point and whatever `n` is: if
stage 1 goes on to stage 2 it does so with `[∏ factors] P`; it never panics; and with no exit the blocks applied in
order give that point. -/
theorem e128_stage1_point_spec (n : Nat) (xv : G → Nat) (factors : List Nat) (hf : ∀ f ∈ factors, f < 2 ^ 64) (P : G) :
    GoesTo (Ecm128Curve.stage1 (grp128 : Ops128 G G) n xv factors P) (factors.prod • P) ∧
    NoPanic (Ecm128Curve.stage1 (grp128 : Ops128 G G) n xv factors P) ∧
    Ecm128Curve.stage1Point (grp128 : Ops128 G G) factors P = some (factors.prod • P) := by
  obtain ⟨h1, h2, q, e, rfl⟩ := Ecm128Curve.stage1_sim grp128_fused (grp128Sim (G := G)) n xv factors P P hf rfl
  exact ⟨(goesTo_iff _ _).mpr h1, h2, e⟩

/-- … for the blocks of `SmoothBase::new(b1, false)` as `ecm128::ecm` builds them (C17). `ecm_curve` reads `sb.factors`
only: the statement about the prime powers below `b1` is about `factors` and `larges` together (C17 does not prove that
`larges` is empty when `use_large` is false; on every instance evaluated it is — see the example below). -/
theorem e128_stage1_point_of_smoothbase (b1 : Nat) (hb : b1 ≤ 2 ^ 24) (P : G) :
    ∃ f l, Ymq.SmoothBase.new b1 false = some (f, l) ∧
      Ecm128Curve.stage1Point (grp128 : Ops128 G G) f P = some (f.prod • P) ∧
      ∀ p k, p.Prime → p ^ k < b1 → p ^ k ∣ f.prod * l.prod := by
  obtain ⟨f, l, h1, h2, _, h4⟩ := Ymq.C17.smoothbase_divides_16M b1 false hb
  exact ⟨f, l, h1, (e128_stage1_point_spec 0 (fun _ => 0) f h2 P).2.2, h4⟩

/-- **Baby steps.** For an even `d1 ≥ 4` the walk never indexes outside `gaps` and never underflows, and the table holds
`[b] Q` for exactly the `b` of `babyIdx d1` (the index list of `ecm::ecm_curve`), in order. -/
theorem e128_baby_steps_spec (Q : G) {d1 : Nat} (hev : 2 ∣ d1) (h4 : 4 ≤ d1) :
    Ecm128Curve.babySteps (grp128 : Ops128 G G) d1 Q = some ((babyIdx d1).map (· • Q)) := by
  obtain ⟨r, e, hr⟩ := Ecm128Curve.babySteps_sim (grp128Sim (G := G)) (rfl : Q = Q) hev h4
  rw [e, eq_of_forall₂_eq hr]

/-- **Giant steps.** The table holds `[i d1] Q` for exactly `i = 1, 2, 3, …, d2` (`giantIdx d2`), in order: the first by
`scalar64_mul`, the second by `dblext`, the others by `d2 - 2` extended additions. -/
theorem e128_giant_steps_spec (Q : G) {d1 : Nat} (hd : d1 < 2 ^ 64) (d2 : Nat) :
    Ecm128Curve.giantSteps (grp128 : Ops128 G G) d1 d2 Q = some ((giantIdx d2).map (fun i => (i * d1) • Q)) := by
  obtain ⟨r, e, hr⟩ := Ecm128Curve.giantSteps_sim grp128_fused (grp128Sim (G := G)) (rfl : Q = Q) hd d2
  rw [e, eq_of_forall₂_eq hr]

end Group

/-- **The index sets of the model are the ones C16 quantifies over for ecm128** (`ecm128IsGrid`, `ecm128_cover`,
`ecm128_grid_exact`; their loop bounds `Stage2Arms.ecm128Baby` / `ecm128Giant` are read from src/ecm128.rs by the
translator): `b ∈ babyIdx d1 ⇔ isEcmBabyOf ecm128Baby d1 b`, `i ∈ giantIdx d2 ⇔ isGiant ecm128Giant d2 i ⇔ 1 ≤ i ≤ d2`
— the closed range `[1, d2]` —, and the giant table has `giantCount ecm128Giant d2` entries. -/
theorem e128_index_sets (d1 d2 : Nat) (h2 : 2 ≤ d2) :
    (∀ b, b ∈ babyIdx d1 ↔ isEcmBabyOf Stage2Arms.ecm128Baby d1 b = true) ∧
    (∀ i, i ∈ giantIdx d2 ↔ isGiant Stage2Arms.ecm128Giant d2 i = true) ∧
    (giantIdx d2).length = giantCount Stage2Arms.ecm128Giant d2 ∧
    (∀ i, i ∈ giantIdx d2 ↔ 1 ≤ i ∧ i ≤ d2) :=
  index_sets rfl rfl d1 d2 h2

section Cover
variable {G : Type} [AddCommGroup G]

/-- **The tables cover what C16 promises for ecm128.** For `6 ∣ d1`, `2 ≤ d2`, `d1` a `u64` and a prime `l` with
`d1/2 < l ≤ d2·d1 + d1/2 − 1` not dividing `d1` (`C16.ecm128_cover`): the giant table of the model contains `[i d1] Q`
and the baby table `[b] Q` for a pair with `l = i d1 ± b`; if `[l] Q = O` every even coordinate function (`y`) takes the
same value on the two entries. -/
theorem e128_tables_cover (Q : G) {d1 d2 l : Nat} (h6 : 6 ∣ d1) (hd : 0 < d1) (hd64 : d1 < 2 ^ 64) (hd2 : 2 ≤ d2)
    (hp : l.Prime) (hnd : ¬ l ∣ d1) (hlo : d1 / 2 < l) (hhi : l ≤ d2 * d1 + d1 / 2 - 1) :
    ecm128IsGrid d1 d2 l = true ∧
    ∃ bt gt, Ecm128Curve.babySteps (grp128 : Ops128 G G) d1 Q = some bt ∧
      Ecm128Curve.giantSteps (grp128 : Ops128 G G) d1 d2 Q = some gt ∧
      ∃ i b, (l = i * d1 + b ∨ l + b = i * d1) ∧ (i * d1) • Q ∈ gt ∧ b • Q ∈ bt ∧
        ∀ {Y : Type} (y : G → Y), (∀ P, y (-P) = y P) → l • Q = 0 → y ((i * d1) • Q) = y (b • Q) := by
  have hev : 2 ∣ d1 := Nat.dvd_trans (by decide) h6
  have h4 : 4 ≤ d1 := by have := Nat.le_of_dvd hd h6; omega
  obtain ⟨bt, gt, hb, hg, h⟩ := stage2_tables_cover Q h6 hd hd64 hd2 hp hnd hlo hhi
  exact ⟨(Ymq.C16.ecm128_cover h6 hd hd2 hp hnd hlo hhi).1, bt, gt,
    (e128_baby_steps_spec Q hev h4).trans ((baby_steps_spec Q hev h4).symm.trans hb),
    (e128_giant_steps_spec Q hd64 d2).trans ((giant_steps_spec Q hd64 d2).symm.trans hg), h⟩

end Cover

section Ring

/-- **Equal coordinates ⇒ the accumulated product is 0.** If the (normalised) `y` of some giant step equals the `y` of
some baby step, `buffer` — the value whose gcd with `n` is returned — is 0 (over `Z/p`: `p` divides it). -/
theorem e128_accumulate_vanishes {X : Type} [CommRing X] (bys gys : List X) (one : X) (k : Nat) (gy : X)
    (hk : gys[k]? = some gy) (hmem : gy ∈ bys) :
    accumulate (· * ·) (· - ·) bys gys one = 0 :=
  accumulate_eq_zero bys gys one k (List.getElem?_eq_some_iff.mp hk).1 (prodRows_hit bys gys one k gy hk hmem)

/-- … from the projective coordinates through the normalisation: over a domain, if no `z` vanishes and the affine `y/z`
of baby step `ib < nb` and of giant step `k` agree, the accumulated product is 0. -/
theorem e128_hit_product_zero {F : Type} [CommRing F] [IsDomain F] (steps : List (F × F)) (hz : ∀ e ∈ steps, e.2 ≠ 0)
    (nb ib k : Nat) (hib : ib < nb) (eb eg : F × F) (hb : steps[ib]? = some eb) (hg : steps[nb + k]? = some eg)
    (haff : eg.1 * eb.2 = eb.1 * eg.2) (one : F) :
    accumulate (· * ·) (· - ·) ((normY (· * ·) steps).take nb) ((normY (· * ·) steps).drop nb) one = 0 := by
  have hnl : (normY (· * ·) steps).length = steps.length := by
    unfold normY; rw [List.length_map, ynorm_length]
  have hgl : nb + k < steps.length := (List.getElem?_eq_some_iff.mp hg).1
  exact accumulate_eq_zero _ _ one k (by rw [List.length_drop, hnl]; omega)
    (stage2_hit_product_zero steps hz nb ib k hib eb eg hb hg haff one)

end Ring

/-- **What `ecm128::ecm_curve` returns is a proper factorisation**, for every environment (any point operations, any
arithmetic): a returned pair `(d, e)` has `1 < d < n` and `d · e = n`. -/
theorem e128_returned_pair_sound {P E X : Type} (env : Ecm128Curve.Env P E X) (factors : List Nat) (d1 d2 : Nat) (g : P)
    (d e : Nat) (h : Ecm128Curve.ecmCurve env factors d1 d2 g = some (some (d, e))) :
    1 < d ∧ d < env.n ∧ d * e = env.n := by
  unfold Ecm128Curve.ecmCurve at h
  split at h
  · cases h
  · rename_i r hr
    obtain ⟨x, hx⟩ := stage1_ret _ _ _ _ _ _ hr
    simp only [Option.some.injEq] at h
    exact gcdExit_sound (h ▸ hx.symm)
  · split at h
    · cases h
    · unfold Ecm128Curve.stage2 at h
      split at h
      · cases h
      · split at h
        · cases h
        · simp only [Option.some.injEq] at h
          exact gcdExit_sound h

section NoPanic
open Ymq.Gen.Curves Ymq.Curve
variable {R : Type} [CommRing R]

/-- **`ecm128::ecm_curve` never panics on the domain `ecm128::ecm` passes**: over any commutative ring, for the translated
`e128*` formulas, a generator on the curve `-x² + y² = 1 + d x² y²`, an `is_valid` that accepts the extended form of the
points of the curve (`C15.e128_is_valid_of_curve`), `u64` blocks and an even `d1 ≥ 4` that is a `u64`: the chain builder
does not overflow, `gaps` is never indexed outside, `b - bexp` and `gap / 2 - 1` never underflow, `assert_eq!(bs[0], 1)`
and `assert!(c.is_valid(..))` hold. (`gcd` and `n / d` with `d > 1` cannot panic.) -/
theorem e128_curve_no_panic {X : Type} (env : Ecm128Curve.Env (Pt R) (Ext R) X) (g0 : Pt R) (d : R)
    (hops : env.ops = curveOps128 g0 Ecm128Curve.negExt)
    (hvalid : ∀ p, ecmIsValid d true p → env.valid (env.ops.ext p) = true)
    (factors : List Nat) (hf : ∀ f ∈ factors, f < 2 ^ 64) {d1 : Nat} (hev : 2 ∣ d1) (h4 : 4 ≤ d1) (hd : d1 < 2 ^ 64)
    (d2 : Nat) (g : Pt R) (hg : ecmIsValid d true g) :
    Ecm128Curve.ecmCurve env factors d1 d2 g ≠ none :=
  Ecm128Curve.ecmCurve_total env (hops ▸ curveOps128_fused g0) (hops ▸ curveOps128_closed g0 d) hvalid factors hf hev h4 hd
    d2 g hg

/-- … as `ecm128::ecm` calls it: `SmoothBase::new(b1, false)` for `b1 ≤ 2^24` (C17) and `stage2_params(b2)` for any
`b2` (every row of the table has an even `d1 ≥ 4` below `2^64`). -/
theorem e128_curve_b_no_panic {X : Type} (env : Ecm128Curve.Env (Pt R) (Ext R) X) (g0 : Pt R) (d : R)
    (hops : env.ops = curveOps128 g0 Ecm128Curve.negExt)
    (hvalid : ∀ p, ecmIsValid d true p → env.valid (env.ops.ext p) = true)
    (b1 b2 : Nat) (hb : b1 ≤ 2 ^ 24) (g : Pt R) (hg : ecmIsValid d true g) :
    Ecm128Curve.ecmCurveB env b1 b2 g ≠ none := by
  obtain ⟨f, l, h1, h2, _, _⟩ := Ymq.C17.smoothbase_divides_16M b1 false hb
  obtain ⟨lab, d1, d2, hsel, hev, h4, h64⟩ := stage2Select_row b2
  unfold Ecm128Curve.ecmCurveB
  simp only [h1, hsel]
  exact e128_curve_no_panic env g0 d hops hvalid f h2 hev h4 h64 d2 g hg

end NoPanic

/-- **The curve loop of `ecm128::ecm`.** What the loop returns comes from the first seed that yields something: a pair
`(p, n / p)` for a factor `p` met while selecting the curve of a seed, or the pair returned by the curve run on the
generator of a seed; all earlier seeds were skipped or their runs returned `None`. -/
theorem e128_ecm_loop_spec {P : Type} (n : Nat) (pick : Nat → Pick P) (run : P → Option (Option (Nat × Nat)))
    (seeds : List Nat) (r : Nat × Nat) (h : ecmLoop n pick run seeds = some (some r)) :
    ∃ pre s post, seeds = pre ++ s :: post ∧
      (∀ t ∈ pre, pick t = .skip ∨ ∃ g, pick t = .gen g ∧ run g = some none) ∧
      ((∃ p, pick s = .factor p ∧ p ≠ 0 ∧ r = (p, n / p)) ∨ ∃ g, pick s = .gen g ∧ run g = some (some r)) := by
  induction seeds with
  | nil => simp [ecmLoop] at h
  | cons s rest ih =>
    unfold ecmLoop at h
    cases hp : pick s with
    | panic => rw [hp] at h; cases h
    | factor p =>
      rw [hp] at h
      simp only at h
      split at h
      · cases h
      · rename_i hp0
        simp only [Option.some.injEq] at h
        exact ⟨[], s, rest, rfl, by simp, Or.inl ⟨p, hp, hp0, h.symm⟩⟩
    | skip =>
      rw [hp] at h
      obtain ⟨pre, s', post, e, h1, h2⟩ := ih h
      refine ⟨s :: pre, s', post, by rw [e]; rfl, ?_, h2⟩
      intro t ht
      rcases List.mem_cons.mp ht with rfl | ht
      · exact Or.inl hp
      · exact h1 t ht
    | gen g =>
      rw [hp] at h
      simp only at h
      cases hr : run g with
      | none => rw [hr] at h; cases h
      | some v =>
        rw [hr] at h
        cases v with
        | some r' =>
          simp only [Option.some.injEq] at h
          exact ⟨[], s, rest, rfl, by simp, Or.inr ⟨g, hp, by rw [hr, h]⟩⟩
        | none =>
          simp only at h
          obtain ⟨pre, s', post, e, h1, h2⟩ := ih h
          refine ⟨s :: pre, s', post, by rw [e]; rfl, ?_, h2⟩
          intro t ht
          rcases List.mem_cons.mp ht with rfl | ht
          · exact Or.inr ⟨g, hp, hr⟩
          · exact h1 t ht

/-- Sharpness of the giant range for ecm128 (what an off-by-one would lose): with `d1 = 66`, `d2 = 10` the value
691 = 10·66 + 31 is on the grid only through `i = d2`. -/
theorem e128_giant_range_sharp :
    10 ∈ giantIdx 10 ∧ 0 ∉ giantIdx 10 ∧ 11 ∉ giantIdx 10 ∧ ecm128IsGrid 66 10 691 = true ∧ ecm128IsGrid 66 9 691 = false := by
  decide

/-! ## non-vacuity -/

example : (∀ f ∈ [43589145600, 10131543907], f < 2 ^ 64) := by decide
example : Ecm128Curve.stage1Point (grp128 : Ops128 Int Int) [6, 35] 1 = some 210 := by
  rw [(e128_stage1_point_spec 0 (fun _ => 0) [6, 35] (by decide) (1 : Int)).2.2]; decide
example : Ymq.SmoothBase.new 100 false = some ([43589145600, 10131543907, 25828479029, 293391909323], []) :=
  (Ymq.SmoothBase.new_flag (by decide) false true).trans Ymq.SmoothBase.new_100
example : Ecm128Curve.babySteps (grp128 : Ops128 Int Int) 66 1 = some [1, 5, 7, 13, 17, 19, 23, 25, 29, 31] := by
  rw [e128_baby_steps_spec (1 : Int) (by decide) (by decide)]; decide
example : Ecm128Curve.giantSteps (grp128 : Ops128 Int Int) 66 4 1 = some [66, 132, 198, 264] := by
  rw [e128_giant_steps_spec (1 : Int) (by decide) 4]; decide
example : (6 ∣ 66) ∧ Nat.Prime 691 ∧ ¬ 691 ∣ 66 ∧ 66 / 2 < 691 ∧ 691 ≤ 10 * 66 + 66 / 2 - 1 :=
  ⟨by decide, by norm_num, by decide, by decide, by decide⟩
/-- a hit in row 1 of three (ℤ, baby `y`s 3 and 5, giant `y`s 7, 5, 9): the accumulated product is 0 -/
example : accumulate (· * ·) (· - ·) [3, 5] [7, 5, 9] (1 : Int) = 0 := by decide
example : ∃ steps : List (Int × Int), (∀ e ∈ steps, e.2 ≠ 0) ∧ steps[0]? = some (1, 2) ∧ steps[1 + 0]? = some (2, 4) ∧
    (2 : Int) * 2 = 1 * 4 := ⟨[(1, 2), (2, 4)], by decide, rfl, rfl, by decide⟩
/-- `gcdExit`: a proper divisor is returned, 0 (both factors at once) and units are not -/
example : gcdExit 35 14 = some (7, 5) ∧ gcdExit 35 0 = none ∧ gcdExit 35 3 = none := by decide
/-- non-vacuity of `e128_curve_no_panic` / `e128_curve_b_no_panic`: an environment over ℤ satisfying every hypothesis
(the neutral element `(0 : 1 : 1)` is on every curve) -/
example : Ecm128Curve.ecmCurveB (⟨curveOps128 ⟨0, 1, 1⟩ Ecm128Curve.negExt, 35, fun p => p.x.natAbs, fun p => (p.y, p.z), 1,
    (· * ·), (· - ·), Int.natAbs, fun _ => true⟩ : Ecm128Curve.Env (Ymq.Gen.Curves.Pt Int) (Ymq.Gen.Curves.Ext Int) Int)
    16 660 ⟨0, 1, 1⟩ ≠ none :=
  e128_curve_b_no_panic _ ⟨0, 1, 1⟩ (1 : Int) rfl (fun _ _ => rfl) 16 660 (by decide) ⟨0, 1, 1⟩
    (by simp [Ymq.Gen.Curves.ecmIsValid, Ymq.Gen.Curves.ecmIsValidSides])
/-- the loop: seed 1 skipped, seed 2 run without success, seed 3 yields a factor during selection -/
example : ecmLoop 35 (fun s => if s = 1 then Pick.skip else if s = 2 then Pick.gen () else Pick.factor 5)
    (fun _ => some none) [1, 2, 3] = some (some (5, 7)) := by decide

end Ymq.C15
