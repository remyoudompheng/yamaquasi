/-
C01 ∘ (C08, C11, C16): the control-flow theorems of C01/C03 with the oracle contract `OracleOK`
discharged, clause by clause, from the MODELS of the sub-algorithms that the other properties
verified. Every field enters through its exits (`Uses…` predicates: "what the field returns is an output of the
modelled exit"); the contract holds for the oracle itself. Props/C01Closed2.lean and Props/C01Closed3.lean state the same
three theorems (suffixes `_v2`, `_v3`) under premises in which `qs64`, `squfof`, resp. also `pp`, `rho`, are the models of the
WHOLE functions; those premises imply the ones here for every field but `qs64` / `squfof`, where a guarded oracle is needed.
Helper definitions and lemmas: Ymq/Lemmas/FactorClosed.lean (its header has the table of clauses).
-/
import Ymq.Lemmas.FactorClosedExample
import Ymq.Props.C01
import Ymq.Props.C03

namespace Ymq.C01
open Ymq.Factor

variable {σ : Type}

/-- **`oracleOK_of_models`**: the contract `OracleOK` holds for every oracle whose fields return
outputs of the modelled sub-algorithms. Discharged clauses and their sources:
* `pp`            ← `UsesPerfectPower`: C08 `perfect_power_spec` (Model/Arith.lean `perfectPower`);
* `sieveDivs`     ← `UsesFinalStep`:    C11 `final_step_proper` (Model/Relations.lean `finalStep`,
                     for SOME factor base / relations / kernel vectors / primality answers);
* `qs64`          ← `UsesQs64`:         C11 `final_step_proper` + `divs.first()`, `(p, n / p)`;
* `rho`           ← `UsesRho64`:        C16 `rho64_proper` (Model/ExpModn.lean `rho64`);
* `pm1q`, `pm1`   ← `UsesPm1`:          C16 `check_gcd_factors_inv`, `pm1_polyeval_inv`,
                     `pm1_result_proper` along `Pm1Reach` (states reachable by `pm1_impl`);
* `ecmauto`, `ecm`, `ecm128` ← `UsesEcmExits`: C16 `guard_proper`, `check_gcd_factor_proper`;
* `squfof`        ← `UsesSqufofExit`:   the two exits of squfof.rs (square; gcd with `p_prev`);
* `sieveUnexpected` ← `UsesUnexpectedFactor` (fbase.rs `check_divisors`: a prime divisor of `n`)
                     + `ResidualOK`.
STILL ASSUMED:
* `ResidualOK o`: an `UnexpectedFactor(d)` is not the sieved number itself (`d ≠ n`; sufficient:
  `n` is not prime — `unexpected_ne_of_composite` — or `d < B ≤ n` — `unexpected_ne_of_size`);
* inside `UsesSqufofExit`: the named fact `0 < p_prev < n` at the final gcd (premise of
  `SqufofExit.gcd`; squfof.rs guards `f > 1` only). `squfof_pprev_lt` derives it from
  `p_prev ≤ 2·isqrt(k·n)`, `k ≤ 50`, for every `n ≥ 201`;
* `prime` and `abort` stay arbitrary (no clause). -/
theorem oracleOK_of_models (o : Oracle σ) (hpp : UsesPerfectPower o) (hfs : UsesFinalStep o)
    (hqs : UsesQs64 o) (hrho : UsesRho64 o) (hpm1 : UsesPm1 o) (hecm : UsesEcmExits o)
    (hsq : UsesSqufofExit o) (hun : UsesUnexpectedFactor o) (hres : ResidualOK o) : OracleOK o :=
  oracleOK_of_models_aux hpp hfs hqs hrho hpm1 hecm hsq hun hres

/-- **`factor_exact_closed`**: `factor_exact` for oracles that are the models (hypotheses and what
is still assumed: see `oracleOK_of_models`): a returned list multiplies to exactly `n`, is
sorted, every element divides `n` and is `≥ 2` (for `n ≥ 1`). -/
theorem factor_exact_closed (o : Oracle σ) (hpp : UsesPerfectPower o) (hfs : UsesFinalStep o)
    (hqs : UsesQs64 o) (hrho : UsesRho64 o) (hpm1 : UsesPm1 o) (hecm : UsesEcmExits o)
    (hsq : UsesSqufofExit o) (hun : UsesUnexpectedFactor o) (hres : ResidualOK o)
    (fuel n : Nat) (alg : Algo) (os : σ) (l : List Nat)
    (h : factor o fuel n alg os = .ok l) :
    l.prod = n ∧ l.Pairwise (· ≤ ·) ∧ ∀ x ∈ l, x ∣ n ∧ (1 ≤ n → 2 ≤ x) :=
  factor_exact o (oracleOK_of_models o hpp hfs hqs hrho hpm1 hecm hsq hun hres) fuel n alg os l h

/-- **`factor_total_closed`**: `C03.factor_total` for oracles that are the models: selector
precondition met and enough fuel (both on the trial-divided value) ⟹ a list with product `n` or the declared failure; no
panic site of lib.rs, recursion depth `≤ bits n`. -/
theorem factor_total_closed (o : Oracle σ) (hpp : UsesPerfectPower o) (hfs : UsesFinalStep o)
    (hqs : UsesQs64 o) (hrho : UsesRho64 o) (hpm1 : UsesPm1 o) (hecm : UsesEcmExits o)
    (hsq : UsesSqufofExit o) (hun : UsesUnexpectedFactor o) (hres : ResidualOK o)
    (fuel n : Nat) (alg : Algo) (os : σ)
    (hsel : SelectorPre alg (trialDivideBy 1100 Ymq.Gen.Primality.smallPrimes n []).1)
    (hfuel : bits (trialDivideBy 1100 Ymq.Gen.Primality.smallPrimes n []).1 ≤ fuel) :
    (∃ l, factor o fuel n alg os = .ok l ∧ l.prod = n) ∨ factor o fuel n alg os = .failure :=
  Ymq.C03.factor_total o (oracleOK_of_models o hpp hfs hqs hrho hpm1 hecm hsq hun hres) fuel n alg os
    hsel hfuel

/-! ### non-vacuity: an oracle assembled from the actual model functions -/

open Ymq.Factor.Closed

/-- `modelOracle` = modelled `perfect_power`, `pseudoprime`, `rho64(·, 1, 128)` and `final_step`
(on two relations modulo 15); it satisfies every hypothesis -/
example : OracleOK modelOracle :=
  oracleOK_of_models modelOracle model_pp model_finalStep model_qs64 model_rho model_pm1 model_ecm
    model_squfof model_unexpected model_residual

/-- the modelled `final_step` splits 15 inside `factor_impl` (selector Siqs) -/
example : factorImpl modelOracle 5 15 .siqs (initSt () []) =
    .ok { os := (), factors := [5, 3], pm1done := false, giveups := [] } := by decide +kernel

private theorem run_rho : factor modelOracle 20 188212 .rho () = .ok [2, 2, 211, 223] := by
  decide +kernel

/-- the modelled `rho64` splits 47053 = 211·223; the modelled `pseudoprime` accepts both parts -/
example : factor modelOracle 20 188212 .rho () = .ok [2, 2, 211, 223] := run_rho

example : [2, 2, 211, 223].prod = 188212 ∧ [2, 2, 211, 223].Pairwise (· ≤ ·) ∧
    ∀ x ∈ [2, 2, 211, 223], x ∣ 188212 ∧ (1 ≤ 188212 → 2 ≤ x) :=
  factor_exact_closed modelOracle model_pp model_finalStep model_qs64 model_rho model_pm1
    model_ecm model_squfof model_unexpected model_residual 20 188212 .rho () _ run_rho

example : (∃ l, factor modelOracle 20 188212 .rho () = .ok l ∧ l.prod = 188212) ∨
    factor modelOracle 20 188212 .rho () = .failure :=
  factor_total_closed modelOracle model_pp model_finalStep model_qs64 model_rho model_pm1
    model_ecm model_squfof model_unexpected model_residual 20 188212 .rho () (fun _ => by decide +kernel) (by decide +kernel)

/-- the modelled `perfect_power` drives the perfect-power branch: 211² -/
example : factor modelOracle 20 (211 * 211) .rho () = .ok [211, 211] := by decide +kernel

/-- `Pm1Reach` is inhabited beyond `init`: one `check_gcd_factors` call on 15 with values whose
gcds are 1 and 3 records the factor 3 -/
example : Pm1Reach 15 (fun _ => true) { factors := [3], nred := 5, vals := [1, 3] } ∧
    Ymq.ExpModn.splitResult { factors := [3], nred := 5, vals := [1, 3] } = some ([3], 5) := by
  refine ⟨?_, by decide⟩
  refine Pm1Reach.check { factors := [], nred := 15, vals := [1, 3] } _ true
    (Pm1Reach.init [1, 3]) (by decide) ?_ (by decide +kernel)
  intro i j hij hj
  have : j = 0 ∨ j = 1 := by simp at hj; omega
  rcases this with rfl | rfl
  · have : i = 0 := by omega
    subst this; exact dvd_rfl
  · have : i = 0 ∨ i = 1 := by omega
    rcases this with rfl | rfl <;> decide

/-- the polynomial path of P-1 (C16 `pm1PolyStep`): a proper factor is recorded … -/
example : Pm1Reach 15 (fun _ => true) { factors := [3], nred := 5, vals := [] } := by
  refine Pm1Reach.polyeval { factors := [], nred := 15, vals := [1, 3] } _
    (Pm1Reach.init [1, 3]) (by decide) ?_ (by decide +kernel)
  intro i j hij hj
  have : j = 0 ∨ j = 1 := by simp at hj; omega
  rcases this with rfl | rfl
  · have : i = 0 := by omega
    subst this; exact dvd_rfl
  · have : i = 0 ∨ i = 1 := by omega
    rcases this with rfl | rfl <;> decide

/-- … while the whole of `n` found in one step is refused (guard of the `fix:` 9b94f92; before
it this was the state `([n], 1)` on which `factor_impl(n, Pm1)` recursed forever) -/
example : Ymq.ExpModn.pm1PolyStep 15 (fun _ => false) { factors := [], nred := 15, vals := [1, 15] } =
    some none := by decide +kernel

example : EcmExit 15 3 5 := EcmExit.guard 3 (by decide)

/-- the SQUFOF gcd exit from the size bound: n = 211·223, k = 1, p_prev = 223 ≤ 2·⌊√n⌋ = 432 -/
example : SqufofExit 47053 223 211 :=
  SqufofExit.gcd_of_bound (k := 1) (x := 223) (by decide) (by decide) (by decide)
    (by decide +kernel) (by decide) (by decide) (by decide)

end Ymq.C01
