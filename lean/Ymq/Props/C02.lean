/-
C02 — automatic mode returns the complete prime factorization.
Only property theorems live here (helper lemmas: Ymq/Lemmas/Factor*.lean).

What can be a theorem (about the control flow of `factor_impl`, for ANY behaviour of the
sub-algorithms): an element reaches the output only (a) as one of the 46 trial-division primes,
(b) after `pseudoprime` accepted it, or (c) through an explicit give-up event, which the model
logs in `St.giveups` (a sub-algorithm returned None / no divisor / only the trivial divisor, or
abort was requested). Hence: no give-up event and a pseudoprime test that never accepts a
composite (C06) ⟹ the output is the prime factorization. That no give-up event occurs is
heuristic (success of rho/ECM/SIQS) and is explored by the K/O streams, not proved.
-/
import Ymq.Lemmas.FactorExample

namespace Ymq.C02
open Ymq.Factor

variable {σ : Type}

/-- **`auto_composite_needs_giveup`**. For ANY oracle (stateful, adversarial), any fuel, and any
selector — in particular `Algo.auto`, and the QS/ECM selectors named by the property —: a
successful `factor_impl(n)` only appends to the vector and to the give-up log, and every
appended element was answered `true` by `o.prime` (in some oracle state `t`) or is an explicit
give-up event of this run. So a composite can only be output after a give-up (or a wrong
pseudoprime verdict). -/
theorem auto_composite_needs_giveup (o : Oracle σ) (fuel n : Nat) (alg : Algo) (s s' : St σ)
    (h : factorImpl o fuel n alg s = .ok s') :
    ∃ new gnew, s'.factors = s.factors ++ new ∧ s'.giveups = s.giveups ++ gnew ∧
      ∀ x ∈ new, (∃ t, (o.prime t x).1 = true) ∨ x ∈ gnew := by
  obtain ⟨new, gnew, happ, _⟩ := factorImpl_appended o alg fuel n s s' h
  exact ⟨new, gnew, happ.factors, happ.giveups, happ.accepted⟩

/-- the same for a pseudoprime test whose verdict does not depend on the oracle state (true of
the real, deterministic `pseudoprime`): the verdict can be read off in the initial state. -/
theorem auto_composite_needs_giveup_det (o : Oracle σ)
    (hdet : ∀ t t' m, (o.prime t m).1 = (o.prime t' m).1)
    (fuel n : Nat) (s s' : St σ) (h : factorImpl o fuel n .auto s = .ok s') :
    ∃ new, s'.factors = s.factors ++ new ∧
      ∀ x ∈ new, (o.prime s.os x).1 = true ∨ x ∈ s'.giveups := by
  obtain ⟨new, gnew, h1, h2, h3⟩ := auto_composite_needs_giveup o fuel n .auto s s' h
  refine ⟨new, h1, ?_⟩
  intro x hx
  rcases h3 x hx with ⟨t, ht⟩ | hg
  · exact Or.inl (by rw [hdet s.os t x]; exact ht)
  · exact Or.inr (by rw [h2]; exact List.mem_append_right _ hg)

/-- **`auto_complete`**: if the run logged no give-up event and the pseudoprime test never
accepts a composite, every appended element is prime. -/
theorem auto_complete (o : Oracle σ) (hsound : ∀ t m, (o.prime t m).1 = true → Nat.Prime m)
    (fuel n : Nat) (alg : Algo) (s s' : St σ) (h : factorImpl o fuel n alg s = .ok s')
    (hg : s'.giveups = []) :
    ∃ new, s'.factors = s.factors ++ new ∧ ∀ x ∈ new, Nat.Prime x := by
  obtain ⟨new, gnew, h1, h2, h3⟩ := auto_composite_needs_giveup o fuel n alg s s' h
  rw [hg] at h2
  have hgn : gnew = [] := (List.append_eq_nil_iff.mp h2.symm).2
  refine ⟨new, h1, ?_⟩
  intro x hx
  rcases h3 x hx with ⟨t, ht⟩ | hx'
  · exact hsound t x ht
  · rw [hgn] at hx'; simp at hx'

/-- **entry point**: every element of a list returned by `factor` for `n ≠ 0` is one of the 46
trial-division primes, or was accepted by `o.prime`, or is a give-up event of the run
(`factorGiveups` = the give-up log of the `factor_impl` call made by `factor`). -/
theorem factor_composite_needs_giveup (o : Oracle σ) (fuel n : Nat) (alg : Algo) (os : σ)
    (l : List Nat) (hn : n ≠ 0) (h : factor o fuel n alg os = .ok l) :
    ∀ x ∈ l, x ∈ Ymq.Gen.Primality.smallPrimes ∨ (∃ t, (o.prime t x).1 = true) ∨
      x ∈ factorGiveups o fuel n alg os := by
  rcases factor_ok h with ⟨h0, _⟩ | ⟨_, s', hrun, rfl, _⟩
  · exact absurd h0 hn
  · intro x hx
    have hx' : x ∈ s'.factors := (sortNat_perm _).mem_iff.mp hx
    obtain ⟨new, gnew, h1, h2, h3⟩ := auto_composite_needs_giveup o fuel _ alg _ s' hrun
    have hgu : factorGiveups o fuel n alg os = gnew := by
      unfold factorGiveups; rw [hrun]; simpa [initSt] using h2
    rw [h1] at hx'
    rcases List.mem_append.mp hx' with h4 | h4
    · exact Or.inl ((trialDiv_spec n).2 x h4)
    · rcases h3 x h4 with h5 | h5
      · exact Or.inr (Or.inl h5)
      · exact Or.inr (Or.inr (hgu ▸ h5))

/-- **`factor_auto_complete`**: `n ≠ 0`, no give-up event, a pseudoprime test that never accepts a
composite ⟹ every returned element is prime. Under the oracle contract the list moreover
multiplies to `n` and is sorted: it is THE prime factorization of `n`. -/
theorem factor_auto_complete (o : Oracle σ) (hsound : ∀ t m, (o.prime t m).1 = true → Nat.Prime m)
    (fuel n : Nat) (alg : Algo) (os : σ) (l : List Nat) (hn : n ≠ 0)
    (h : factor o fuel n alg os = .ok l) (hg : factorGiveups o fuel n alg os = []) :
    (∀ x ∈ l, Nat.Prime x) ∧ l.Pairwise (· ≤ ·) ∧ (OracleOK o → l.prod = n) := by
  refine ⟨?_, ?_, ?_⟩
  · intro x hx
    rcases factor_composite_needs_giveup o fuel n alg os l hn h x hx with h1 | ⟨t, ht⟩ | h1
    · exact smallPrimes_prime x h1
    · exact hsound t x ht
    · rw [hg] at h1; simp at h1
  · rcases factor_ok h with ⟨h0, _⟩ | ⟨_, s', _, rfl, _⟩
    · exact absurd h0 hn
    · exact sortNat_sorted _
  · intro hok
    rcases factor_ok h with ⟨h0, _⟩ | ⟨h0, s', hrun, rfl, _⟩
    · exact absurd h0 hn
    · rw [sortNat_prod]; exact factorRun_prod hok h0 hrun

open Ymq.Factor.Toy

/-- Auto on 2²·211·223: rho (47053 has 16 bits < 52) splits, both parts accepted, no give-up -/
example : factor toy 5 188212 .auto () = .ok [2, 2, 211, 223] ∧
    factorGiveups toy 5 188212 .auto () = [] := by decide +kernel

example : (∀ x ∈ [2, 2, 211, 223], Nat.Prime x) ∧ [2, 2, 211, 223].Pairwise (· ≤ ·) ∧
    (OracleOK toy → [2, 2, 211, 223].prod = 188212) :=
  factor_auto_complete toy toy_prime_sound 5 188212 .auto () _ (by decide)
    (by decide +kernel) (by decide +kernel)

/-- a run WITH a give-up event: selector Qs on 211²·223, the sieve finds nothing; the composite
is output (as `.failure` at top level since it is alone) and logged -/
example : factorImpl toy 5 (211 * 211 * 223) .qs (initSt () []) =
    .ok { os := (), factors := [9928183], pm1done := false, giveups := [9928183] } := by
  decide +kernel

/-- at the entry point: the composite 211²·223 is output, and it is in the give-up log -/
example : factor toy 5 (2 * 211 * 211 * 223) .qs () = .ok [2, 9928183] ∧
    factorGiveups toy 5 (2 * 211 * 211 * 223) .qs () = [9928183] := by decide +kernel

/-- selector Rho with a failing `rho` (give-up site added by the `fix:` of the Rho arm): the
composite 47053 is output and logged -/
example : factor toyNoRho 18 188212 .rho () = .ok [2, 2, 47053] ∧
    factorGiveups toyNoRho 18 188212 .rho () = [47053] := by decide +kernel

example : ∃ new gnew, [9928183] = [] ++ new ∧ [9928183] = [] ++ gnew ∧
    ∀ x ∈ new, (∃ t, (toy.prime t x).1 = true) ∨ x ∈ gnew :=
  auto_composite_needs_giveup toy 5 (211 * 211 * 223) .qs (initSt () [])
    { os := (), factors := [9928183], pm1done := false, giveups := [9928183] } (by decide +kernel)

example : ∃ new, [2, 2, 211, 223] = [2, 2] ++ new ∧
    ∀ x ∈ new, (toy.prime () x).1 = true ∨ x ∈ ([] : List Nat) :=
  auto_composite_needs_giveup_det toy (fun _ _ _ => rfl) 5 47053 (initSt () [2, 2])
    { os := (), factors := [2, 2, 211, 223], pm1done := false, giveups := [] } (by decide +kernel)

example : ∃ new, [2, 2, 211, 223] = [2, 2] ++ new ∧ ∀ x ∈ new, Nat.Prime x :=
  auto_complete toy toy_prime_sound 5 47053 .auto (initSt () [2, 2])
    { os := (), factors := [2, 2, 211, 223], pm1done := false, giveups := [] } (by decide +kernel)
    rfl

end Ymq.C02
