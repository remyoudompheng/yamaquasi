/-
C17 — Prime enumeration is exact and smoothness exponents cover every prime power.
Only property theorems live here (helper lemmas: Ymq/Lemmas/Primes*.lean, SmoothBase*.lean).

Reading guide.  All theorems are about the executable models of Ymq/Model/Primes.lean
(`primes` = `fbase::primes`, `PrimeSieve.new/next/nth` = `fbase::PrimeSieve`) and
Ymq/Model/SmoothBase.lean (`SmoothBase.new` = `ecm::SmoothBase::new`, `PM1Base.new`,
`Pm1.stage1 thr b1` = the exponents that stage 1 of `pm1_impl` hands to `exp_modn` /
`exp_modn_large`, with the flush threshold of the 1024-bit block as a parameter).
`f … = some r` means: the Rust routine returns `r` without reaching any panic site (overflow
check of either integer type, assertion, index check) — in particular no value ever wraps.
`primesBelow m` is the increasing list of all primes `< m`, `primesFrom a n` that of the primes
in `[a, a + n)` (Ymq/Lemmas/PrimesSieve.lean, PrimesStream.lean), both defined with Mathlib's
`Nat.Prime`.

Proved inside Lean, not assumed:
* `HSmall` — block 0 of the sieve model, `primes 6542`, is the list of all primes below 2^16:
  theorem `Ymq.Primes.primes_6542` (correctness of the sieve model + π(65536) = 6542 computed in
  the kernel, one gcd per number: `Ymq.Primes.prime_iff_coprime_factorial`);
* `HGap` for `B1 ≤ 2^24` — each of the first 258 blocks contains a prime (`Ymq.Primes.gap_257`).
Remaining named hypotheses: `HRosser` (theorem `primes_exact`) and `HGap` beyond 2^24
(theorem `smoothbase_divides`).
-/
import Ymq.Lemmas.PrimesSmall
import Ymq.Lemmas.PrimesGap
import Ymq.Lemmas.PrimesRosser
import Ymq.Lemmas.SmoothBaseTop
import Ymq.Lemmas.SmoothBasePm1Base
import Ymq.Lemmas.SmoothBasePm1Witness
import Mathlib.Data.Nat.Prime.Nth
import Mathlib.NumberTheory.PrimeCounting

namespace Ymq.C17
open Ymq.Primes

/-- **Soundness of `primes`.** Whenever the bound `max(100, n·bitlen n)` fits a `u32`, `primes n`
returns — without panic — the increasing list of *all* primes below `2·⌊bound/2⌋` (the range the
odd-only sieve covers), truncated to `n` entries.  (Eratosthenes: an odd number in range is left
unmarked iff it is prime; the `p² > bound` shortcut and the first marked multiple `3p` lose
nothing; the early `break` returns the same prefix.) -/
theorem primes_sound (n bnd : Nat) (h : bound n = some bnd) :
    primes n = some ((primesBelow (2 * (bnd / 2))).take n) :=
  primes_eq n bnd h

/-- the bound in closed form; outside this domain (`n·bitlen n ≥ 2^32`, i.e. `n ≥ 153 391 690`) the
checked profile panics on the `u32` multiplication and the model returns `none` -/
theorem primes_sound_domain (n : Nat) :
    (n * bitlen n < 2 ^ 32 →
      primes n = some ((primesBelow (2 * (max 100 (n * bitlen n) / 2))).take n)) ∧
    (¬ n * bitlen n < 2 ^ 32 → primes n = none) := by
  constructor
  · intro h
    exact primes_eq n _ (by unfold bound; rw [if_pos h])
  · intro h
    unfold primes bound
    rw [if_neg h]

/-- **Length.** `primes n` has exactly `n` entries whenever there are at least `n` primes below the
sieve bound (true for every `n` under `HRosser`, see `primes_exact`). -/
theorem primes_len (n bnd : Nat) (h : bound n = some bnd)
    (hpi : n ≤ (primesBelow (2 * (bnd / 2))).length) :
    ∃ l, primes n = some l ∧ l.length = n :=
  ⟨_, primes_eq n bnd h, by rw [List.length_take]; omega⟩

/-- Rosser-type bound used by the code ("the n-th prime is always less than n·bitlen(n) except for
n = 1"), up to `K`: the `k`-th prime (1-based) is below `k·bitlen k` for `2 ≤ k ≤ K`. -/
def HRosserUpTo (K : Nat) : Prop := ∀ k, 2 ≤ k → k ≤ K → Nat.nth Nat.Prime (k - 1) < k * bitlen k

/-- … for every `k ≥ 2`.  Literature fact (`p_k < k(ln k + ln ln k)` for `k ≥ 6`,
Rosser–Schoenfeld 1962, and `log₂ k < bitlen k`); a *hypothesis* of `primes_exact`, not an axiom. -/
def HRosser : Prop := ∀ K, HRosserUpTo K

/-- exactness for one `k`, from the bound up to `k` -/
theorem primes_exact_upto (k : Nat) (hR : HRosserUpTo k) (hk : k * bitlen k < 2 ^ 32) :
    primes k = some ((List.range k).map (Nat.nth Nat.Prime)) := by
  rw [(primes_sound_domain k).1 hk]
  apply congrArg
  apply take_primesBelow
  by_cases h0 : k = 0
  · exact Or.inl h0
  · right
    have hlt : Nat.nth Nat.Prime (k - 1) < max 100 (k * bitlen k) := by
      by_cases h1 : k = 1
      · subst h1
        rw [show 1 - 1 = 0 from rfl, Nat.nth_prime_zero_eq_two]
        omega
      · have := hR k (by omega) (Nat.le_refl k)
        omega
    -- an odd bound loses its last (even) number only
    have := (Nat.prime_nth_prime (k - 1)).eq_two_or_odd
    omega

/-- **Exactness.** Under `HRosser`, for every `k` in the domain (`k·bitlen k < 2^32`), `primes k`
is exactly the list of the first `k` primes `[nth Prime 0, …, nth Prime (k-1)]`. -/
theorem primes_exact (hR : HRosser) (k : Nat) (hk : k * bitlen k < 2 ^ 32) :
    primes k = some ((List.range k).map (Nat.nth Nat.Prime)) :=
  primes_exact_upto k (hR k) hk

/-- **Exactness, unconditionally, for every `k ≤ 564`** (all primes below 4096): the bound
`p_k < k·bitlen k` is checked in the kernel on the list of primes computed with a verified
primality test, so `HRosser` is not contradictory on the range where it can be checked here. -/
theorem primes_small_exact (k : Nat) (hk : k ≤ 564) :
    primes k = some ((List.range k).map (Nat.nth Nat.Prime)) := by
  have hk32 : k * bitlen k < 2 ^ 32 := by
    have : bitlen k ≤ 10 := Ymq.SmoothBase.bitlen_le_of_lt (by omega)
    have : k * bitlen k ≤ 564 * 10 := Nat.mul_le_mul hk this
    omega
  exact primes_exact_upto k (fun j h2 hj => rosser_564 j h2 (by omega)) hk32

/-- non-vacuity of the hypothesis of `primes_exact` on the checked range -/
example : HRosserUpTo 564 := fun k h2 hk => rosser_564 k h2 hk

/-- non-vacuity of `primes_sound` / `primes_len`: the bound exists for every n in the domain, and
`primes 5` is what one expects -/
example : bound 5 = some 100 ∧ primes 5 = some [2, 3, 5, 7, 11] := by decide +kernel

/-- F2 (fixed by commit 2c6d400): `primes(0)` and `primes(1)` are now truncated -/
theorem primes_zero_one : primes 0 = some [] ∧ primes 1 = some [2] :=
  ⟨primes_small_exact 0 (by decide), by
    rw [primes_small_exact 1 (by decide), List.range_one, List.map_singleton,
      Nat.nth_prime_zero_eq_two]⟩

/-- **Offsets invariant.** After `b + 1` calls of `next` (`b < 65536`) on a fresh sieve the state
holds all primes below 2^16 as small primes, block counter `b + 1`, and for every small prime `p`
the offset `(p − 65536·(b+1) mod p) mod p`: the distance from the start of the next block to the
next multiple of `p`. -/
theorem offsets_invariant (b : Nat) (hb : b < 65536) :
    ∃ ps0 blk ps', PrimeSieve.new = some ps0 ∧ PrimeSieve.nth b ps0 = some (blk, ps') ∧
      ps'.smalls = primesBelow 65536 ∧ ps'.offsets = offsetsAt ps'.smalls (b + 1) ∧
      ps'.bc = b + 1 := by
  obtain ⟨ps0, ps', hnew, hn, hg⟩ := nth_fresh b hb
  exact ⟨ps0, _, ps', hnew, hn, hg.smalls, by rw [offsetsAt_eq]; exact hg.offsets, hg.bc⟩

/-- **Block specification.** Call number `b + 1` (`b ∈ [0, 65535]`) of `next` on a fresh sieve
returns — without panic — exactly the primes of `[65536·b, 65536·(b+1))` in increasing order
(block 0 is the list of all primes below 2^16: `HSmall`, proved).  Every composite below 2^32 has
a prime factor below 2^16, so sieving with the small primes is complete. -/
theorem block_spec (b : Nat) (hb : b < 65536) :
    ∃ ps0 ps', PrimeSieve.new = some ps0 ∧
      PrimeSieve.nth b ps0 = some (primesFrom (65536 * b) 65536, ps') := by
  obtain ⟨ps0, ps', hnew, hn, _⟩ := nth_fresh b hb
  exact ⟨ps0, ps', hnew, hn⟩

/-- the blocks are strictly increasing lists of primes and consecutive blocks tile `[0, 2^32)`:
together they enumerate every prime below 2^32 exactly once, in increasing order -/
theorem blocks_tile (b : Nat) :
    primesBelow (65536 * (b + 1)) = primesBelow (65536 * b) ++ primesFrom (65536 * b) 65536 ∧
    (primesFrom (65536 * b) 65536).Pairwise (· < ·) ∧
    ∀ p, p ∈ primesFrom (65536 * b) 65536 ↔ (65536 * b ≤ p ∧ p < 65536 * (b + 1)) ∧ p.Prime := by
  refine ⟨by rw [show 65536 * (b + 1) = 65536 * b + 65536 by ring, primesBelow_append],
    primesFrom_sorted _ _, fun p => ?_⟩
  rw [mem_primesFrom, show 65536 * (b + 1) = 65536 * b + 65536 by ring]

/-- **End of the stream.** From call number 65537 on, `next` returns the empty block forever. -/
theorem sieve_end (b : Nat) (hb : 65536 ≤ b) :
    ∃ ps0 ps', PrimeSieve.new = some ps0 ∧ PrimeSieve.nth b ps0 = some ([], ps') := by
  obtain ⟨ps0, psE, hnew, hn, hg⟩ := nth_fresh 65535 (by decide)
  refine ⟨ps0, psE, hnew, ?_⟩
  rw [show b = 65535 + 1 + (b - 65536) by omega, nth_add 65535 ps0 _ psE hn]
  exact nth_end _ psE hg.bc

/-- the driver's shortcut `blockAt b = blockOf ps0 b` (offsets computed from `offsetsAt` instead of
walking `b` blocks) returns the same block as the sequential model (`block_spec`, `sieve_end`) -/
theorem blockAt_spec (b : Nat) (ps0 : PrimeSieve) (hnew : PrimeSieve.new = some ps0) :
    blockOf ps0 b = some (if b < 65536 then primesFrom (65536 * b) 65536 else []) := by
  have hsm0 : ps0.smalls = primesBelow 65536 := by
    rw [new_eq primes_6542] at hnew
    rw [← Option.some.inj hnew]
  unfold blockOf
  by_cases h0 : b = 0
  · subst h0
    rw [if_pos rfl, if_pos (by decide), hsm0, Nat.mul_zero, ← primesBelow_eq_primesFrom_zero]
  · rw [if_neg h0]
    by_cases hge : b ≥ 65536
    · rw [if_pos hge, if_neg (by omega)]
    · obtain ⟨s', hs', hcol⟩ := sieve_block b (by omega) (by omega)
      rw [if_neg hge, if_pos (by omega), offsetsAt_eq, hsm0, hs']
      exact congrArg some hcol

open Ymq.SmoothBase in
/-- **Packing.** On every strictly increasing list of numbers `≥ 2` and every `b1 < 2^32` the
packing loop of `SmoothBase::new` reaches no panic site (no `u64` overflow of `pow * p`,
`pow *= 16`, `buffer *= pow`; no `U1024` overflow of `buffer_lg *= buffer`), every `u64` block is
`< 2^64`, every large block `< 2^1024`, and for every list element `p < b1` each power
`p^k < b1` divides the product of all blocks. -/
theorem smoothbase_pack_divides (b1 : Nat) (useLarge : Bool) (ps : List Nat) (hb : b1 < 2 ^ 32)
    (hps : ∀ p ∈ ps, 2 ≤ p) (hsort : ps.Pairwise (· < ·)) :
    ∃ f l, pack b1 useLarge ps = some (f, l) ∧ (∀ x ∈ f, x < 2 ^ 64) ∧
      (∀ x ∈ l, x < 2 ^ 1024) ∧
      ∀ p ∈ ps, p < b1 → ∀ k, p ^ k < b1 → p ^ k ∣ f.prod * l.prod :=
  pack_spec b1 useLarge ps hb hps hsort

/-- every 2^16-wide block that `SmoothBase::new(b1, _)` reads before it sees a prime `> b1`
contains a prime (the maximal prime gap below 2^32 is 336: literature fact; proved here for the
first 258 blocks, `HGap_16M`) -/
def HGap (b1 : Nat) : Prop := ∀ c, c ≤ b1 / 65536 + 1 → primesFrom (65536 * c) 65536 ≠ []

theorem HGap_16M (b1 : Nat) (hb : b1 ≤ 2 ^ 24) : HGap b1 := by
  intro c hc
  exact gap_257 c (by omega)

/-- **SmoothBase.** For every `b1 < 65536·65535` (with `HGap b1` when `b1 ≥ 65536`) and both values
of `use_large`: `SmoothBase::new` does not panic (no empty block is indexed, nothing overflows),
every `u64` block is `< 2^64`, every large block `< 2^1024`, and **every prime power `q < b1`
divides the product of all blocks**. -/
theorem smoothbase_divides (b1 : Nat) (useLarge : Bool) (hb : b1 < 4294901760)
    (hgap : 65536 ≤ b1 → HGap b1) :
    ∃ f l, Ymq.SmoothBase.new b1 useLarge = some (f, l) ∧ (∀ x ∈ f, x < 2 ^ 64) ∧
      (∀ x ∈ l, x < 2 ^ 1024) ∧
      ∀ p k, p.Prime → p ^ k < b1 → p ^ k ∣ f.prod * l.prod := by
  by_cases hsm : b1 < 65536
  · obtain ⟨l, hl, hsrc⟩ := Ymq.SmoothBase.sbPrimes_small b1 hsm
    exact Ymq.SmoothBase.new_of_source b1 useLarge (by omega) l hl hsrc
  · obtain ⟨l, hl, hsrc⟩ := Ymq.SmoothBase.sbPrimes_large b1 (by omega) hb primes_6542
      (hgap (by omega))
    exact Ymq.SmoothBase.new_of_source b1 useLarge (by omega) l hl hsrc

/-- … unconditionally for every `b1 ≤ 2^24 = 16 777 216` (covers the property's range `B1 ≤ 10^6`
and the thorough tier's `10^7`) -/
theorem smoothbase_divides_16M (b1 : Nat) (useLarge : Bool) (hb : b1 ≤ 2 ^ 24) :
    ∃ f l, Ymq.SmoothBase.new b1 useLarge = some (f, l) ∧ (∀ x ∈ f, x < 2 ^ 64) ∧
      (∀ x ∈ l, x < 2 ^ 1024) ∧
      ∀ p k, p.Prime → p ^ k < b1 → p ^ k ∣ f.prod * l.prod :=
  smoothbase_divides b1 useLarge (by omega) (fun _ => HGap_16M b1 hb)

/-- non-vacuity: a concrete instance, evaluated on the model -/
example : Ymq.SmoothBase.new 100 true = some ([43589145600, 10131543907, 25828479029, 293391909323], []) :=
  Ymq.SmoothBase.new_100

open Ymq.Pm1 in
/-- **Inner loop of P−1 stage 1** over one strictly increasing list of numbers `2 ≤ p < 2^32`,
for any flush threshold `thr` with `thr + 64 ≤ 1024`: no panic (in particular the `U1024`
product `expblock_lg *= expblock` never overflows), and for every list element `p ≤ b1` both `p`
and every power `p^k < b1` divide the accumulated exponent. -/
theorem pm1_block_divides (thr b1 : Nat) (hthr : thr + 64 ≤ 1024) (hthr1 : 1 ≤ thr)
    (hb : b1 < 2 ^ 32) (ps : List Nat) (st : St) (hst : Inv thr st)
    (hps : ∀ p ∈ ps, 2 ≤ p ∧ p < 2 ^ 32) (hsort : ps.Pairwise (· < ·)) (hprev : st.pPrev ≤ b1) :
    ∃ st' fl, block thr b1 ps st = some (st', fl) ∧ Inv thr st' ∧ total st ∣ total st' ∧
      ∀ p ∈ ps, p ≤ b1 → p ∣ total st' ∧ ∀ k, p ^ k < b1 → p ^ k ∣ total st' := by
  obtain ⟨st', fl, h1, h2, h3, h4, _, _⟩ :=
    Ymq.Pm1.block_spec thr b1 hthr hthr1 hb ps st hst hps hsort hprev
  exact ⟨st', fl, h1, h2, h3, h4⟩

open Ymq.Pm1 in
/-- **P−1 stage 1.** For the threshold of the code (`1024 − 64`) and every `4 ≤ B1 < 4294967291`
(the largest prime below 2^32): stage 1 of `pm1_impl` reaches no panic site — no `u64` and no
`U1024` overflow — every exponent handed to `exp_modn` is `< 2^64`, every exponent handed to
`exp_modn_large` is `< 2^1024`, and **every prime `p ≤ B1` and every prime power `p^k < B1`
divides the product of the exponents** (the accumulated exponent of 2). -/
theorem pm1_stage1_divides (b1 : Nat) (h4 : 4 ≤ b1) (hb : b1 < 4294967291) :
    ∃ evs, stage1 THR b1 = some evs ∧ (∀ e ∈ evs, EvOK e) ∧
      ∀ p, p.Prime → p ≤ b1 → p ∣ evProd evs ∧ ∀ k, p ^ k < b1 → p ^ k ∣ evProd evs :=
  stage1_spec THR b1 4294967291 (by decide) (by decide) h4 prime_4294967291 hb (by decide)
    primes_6542

open Ymq.Pm1 in
/-- the same for every flush threshold `1 ≤ thr ≤ 960` of the parametrised model: `1024 − 64` is
the largest threshold for which the no-overflow argument goes through -/
theorem pm1_stage1_divides_thr (thr b1 : Nat) (hthr : thr + 64 ≤ 1024) (hthr1 : 1 ≤ thr)
    (h4 : 4 ≤ b1) (hb : b1 < 4294967291) :
    ∃ evs, stage1 thr b1 = some evs ∧ (∀ e ∈ evs, EvOK e) ∧
      ∀ p, p.Prime → p ≤ b1 → p ∣ evProd evs ∧ ∀ k, p ^ k < b1 → p ^ k ∣ evProd evs :=
  stage1_spec thr b1 4294967291 hthr hthr1 h4 prime_4294967291 hb (by decide) primes_6542

open Ymq.Pm1 in
/-- **Counter-witness for the old threshold (commit 2a39e49).** With the flush threshold
`1024 − 32` that `pm1_impl` had before the fix, `B1 = 65536` reaches the `U1024` overflow site of
`expblock_lg *= expblock` while consuming the first 90 primes — whatever follows them: the release
profile silently wraps (prime powers are lost from the exponent), the checked profile panics. -/
theorem pm1_stage1_overflow_992 (rest : List Nat) :
    block (1024 - 32) 65536 (first90 ++ rest) st0 = none ∧
    (block (1024 - 64) 65536 first90 st0).isSome = true :=
  ⟨block_none_append 992 65536 first90 rest st0 witness_prefix, witness_prefix_960⟩

open Ymq.Pm1 in
/-- … and on the complete model: `stage1` with threshold `1024 − 32` fails for `B1 = 65536`,
while it succeeds with `1024 − 64` (`pm1_stage1_divides`). -/
theorem pm1_stage1_overflow_992_model :
    stage1 (1024 - 32) 65536 = none ∧ (stage1 (1024 - 64) 65536).isSome = true := by
  refine ⟨stage1_992_overflow, ?_⟩
  obtain ⟨evs, h, _⟩ := pm1_stage1_divides 65536 (by decide) (by decide)
  rw [show (1024 - 64 : Nat) = THR from rfl, h]; rfl

/-- **PM1Base.** `PM1Base::new()` does not panic, every compact block fits a `u32`, and for every
prime `p < 500` each power `p^k < 1024` divides the product of the blocks. -/
theorem pm1base_divides :
    ∃ f l, Ymq.PM1Base.new = some (f, l) ∧ (∀ x ∈ f, x < 2 ^ 32) ∧
      ∀ p k, p.Prime → p < 500 → p ^ k < 1024 → p ^ k ∣ f.prod :=
  Ymq.PM1Base.new_spec

end Ymq.C17
