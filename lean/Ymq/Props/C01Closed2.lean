/-
C01 ∘ (C03/qs64, C03/squfof): the closed factor theorems of Props/C01Closed.lean with `qsieve64::qsieve` and `squfof::squfof`
inside the model (suffix `_v2`). Against Props/C01Closed.lean two premises differ: the field answers as the MODEL of the
whole function does, where there it answers as one modelled exit does —

  Props/C01Closed.lean                here
  `UsesQs64 o`        (the pair comes out of `final_step` for SOME relations)
                                      `Qs64Model o`: `(o.qs64 t n).1 = some (a, b)` only if the
                                      model `Qsieve64.qsieve n k kernel isPrime` returns `(a, b)`
                                      for some multiplier `k < 30`, kernel vectors, primality answers
  `UsesSqufofExit o`  (one of two exits, with the NAMED FACT `0 < p_prev < n`)
                                      `SqufofModel exactSeed o`: only if the model
                                      `Squfof.squfof exactSeed n` returns `(a, b)`

so that neither the abstract relations / kernel of `UsesQs64` nor the named fact `0 < p_prev < n` of `UsesSqufofExit` is
among the premises. Neither premise restricts `n`. The models do return improper pairs for tiny arguments
(`qsieve(6) = (1, 6)`; `squfof(p) = (p, 1)` for primes `p ≤ 47`), so `OracleOK o` is NOT a consequence;
what is proved instead is that `factor` never calls them on such arguments:
`factor o = factor (guardOracle o)` (`factor_guard_eq`: trial division strips the primes `≤ 199`, every
recursive argument divides the stripped value, so every argument of the two fields is `≥ 211`; the
arms assert 64 bits) and `OracleOK (guardOracle o)`. No premise on the `none` answers of `pp` is
needed: the models handle perfect squares themselves (their first exits).
Helper definitions and lemmas: Ymq/Lemmas/FactorClosed2.lean.

STILL ASSUMED in the `_v2` theorems:
* `UsesPerfectPower`, `UsesFinalStep`, `UsesRho64`, `UsesPm1`, `UsesEcmExits`: "the field returns an output of the
  model", tied to the code by the K streams of C08/C11/C16 (as in Props/C01Closed.lean);
* `UsesUnexpectedFactor o`, `ResidualOK o`: an `UnexpectedFactor(d)` is a divisor `≥ 2` of the sieved number and not that number
  itself (as in Props/C01Closed.lean; `check_divisors` is not modelled);
* `Qs64Model`, `SqufofModel`: tied to the code by the K streams of C03 (`qs64`, `qs64_rels`, `squfof`);
  inside `Qs64Model` the multiplier is only known to be `< 30` (`select_multiplier` uses `f64`), the
  kernel vectors and primality answers are arbitrary; inside `SqufofModel` the seed is the exact
  floor square root — for any other seed within 1 of it (`SeedOK`, the IEEE fact about
  `(n as f64).sqrt()`) the run is the same (`squfofModel_exactSeed`);
* `prime` and `abort` stay arbitrary.
-/
import Ymq.Lemmas.FactorClosed2
import Ymq.Props.C01Closed

namespace Ymq.C01
open Ymq.Factor

variable {σ : Type}

/-- every admissible seed gives the same SQUFOF run, so the premise may as well name the exact one -/
theorem squfofModel_exactSeed {seed : Nat → Nat} (hs : Ymq.Squfof.SeedOK seed) (o : Oracle σ)
    (h : SqufofModel seed o) : SqufofModel Ymq.Squfof.exactSeed o := by
  intro t n a b hq
  rw [← Ymq.C03Squfof.squfof_seed_irrelevant hs Ymq.Squfof.exactSeed_ok n]
  exact h t n a b hq

/-- **`oracleOK_of_models_v2`**: for every oracle whose fields return outputs of the models — the
`qs64` and `squfof` fields outputs of the models of the WHOLE functions — the contract `OracleOK`
holds for `guardOracle o` (= `o` with those two fields silenced outside `51 ≤ n`, `bits n ≤ 64`), and
`factor` cannot tell `o` from `guardOracle o`, for any fuel, input, selector and oracle state. -/
theorem oracleOK_of_models_v2 (o : Oracle σ) (hpp : UsesPerfectPower o) (hfs : UsesFinalStep o)
    (hqs : Qs64Model o) (hrho : UsesRho64 o) (hpm1 : UsesPm1 o) (hecm : UsesEcmExits o)
    (hsq : SqufofModel Ymq.Squfof.exactSeed o) (hun : UsesUnexpectedFactor o) (hres : ResidualOK o) :
    OracleOK (guardOracle o) ∧
      ∀ fuel n alg os, factor o fuel n alg os = factor (guardOracle o) fuel n alg os := by
  have hok := oracleOK_guard Ymq.Squfof.exactSeed_ok hpp hfs hqs hrho hpm1 hecm hsq hun hres
  exact ⟨hok, fun fuel n alg os => factor_guard_eq o hok fuel n alg os⟩

/-- **`factor_exact_closed_v2`**: a list returned by `factor` multiplies to exactly `n`, is sorted,
every element divides `n` and is `≥ 2` (for `n ≥ 1`) — with `qsieve64::qsieve` and `squfof::squfof`
inside the model. -/
theorem factor_exact_closed_v2 (o : Oracle σ) (hpp : UsesPerfectPower o) (hfs : UsesFinalStep o)
    (hqs : Qs64Model o) (hrho : UsesRho64 o) (hpm1 : UsesPm1 o) (hecm : UsesEcmExits o)
    (hsq : SqufofModel Ymq.Squfof.exactSeed o) (hun : UsesUnexpectedFactor o) (hres : ResidualOK o)
    (fuel n : Nat) (alg : Algo) (os : σ) (l : List Nat)
    (h : factor o fuel n alg os = .ok l) :
    l.prod = n ∧ l.Pairwise (· ≤ ·) ∧ ∀ x ∈ l, x ∣ n ∧ (1 ≤ n → 2 ≤ x) := by
  obtain ⟨hok, heq⟩ := oracleOK_of_models_v2 o hpp hfs hqs hrho hpm1 hecm hsq hun hres
  rw [heq] at h
  exact factor_exact (guardOracle o) hok fuel n alg os l h

/-- **`factor_total_closed_v2`**: selector precondition met and enough fuel (both on the
trial-divided value) ⟹ a list with product `n` or the declared failure; no panic site of lib.rs —
with `qsieve64::qsieve` and `squfof::squfof` inside the model. -/
theorem factor_total_closed_v2 (o : Oracle σ) (hpp : UsesPerfectPower o) (hfs : UsesFinalStep o)
    (hqs : Qs64Model o) (hrho : UsesRho64 o) (hpm1 : UsesPm1 o) (hecm : UsesEcmExits o)
    (hsq : SqufofModel Ymq.Squfof.exactSeed o) (hun : UsesUnexpectedFactor o) (hres : ResidualOK o)
    (fuel n : Nat) (alg : Algo) (os : σ)
    (hsel : SelectorPre alg (trialDivideBy 1100 Ymq.Gen.Primality.smallPrimes n []).1)
    (hfuel : bits (trialDivideBy 1100 Ymq.Gen.Primality.smallPrimes n []).1 ≤ fuel) :
    (∃ l, factor o fuel n alg os = .ok l ∧ l.prod = n) ∨ factor o fuel n alg os = .failure := by
  obtain ⟨hok, heq⟩ := oracleOK_of_models_v2 o hpp hfs hqs hrho hpm1 hecm hsq hun hres
  rw [heq]
  exact Ymq.C03.factor_total (guardOracle o) hok fuel n alg os hsel hfuel

/-- the call-site fact behind the `_v2` theorems, stated on its own: the value `factor` hands to
`factor_impl` has no prime factor `≤ 199`, hence is 1 or at least 211 -/
theorem trial_divided_noSmall (n : Nat) (h0 : n ≠ 0) (hb : bits n ≤ 500) :
    (∀ p ∈ Ymq.Gen.Primality.smallPrimes, ¬ p ∣ (trialDivideBy 1100 Ymq.Gen.Primality.smallPrimes n []).1) ∧
    ((trialDivideBy 1100 Ymq.Gen.Primality.smallPrimes n []).1 = 1 ∨
      211 ≤ (trialDivideBy 1100 Ymq.Gen.Primality.smallPrimes n []).1) := by
  have h := trialDiv_noSmall h0 hb
  rw [trialDiv_def] at h
  refine ⟨h, ?_⟩
  by_cases h1 : (trialDivideBy 1100 Ymq.Gen.Primality.smallPrimes n []).1 = 1
  · exact Or.inl h1
  · exact Or.inr (h.ge h1)

/-- the premises cannot be weakened to "OracleOK o": an oracle that IS the qsieve64 model violates the
`qs64` clause at `n = 6` (never reached by `factor`) -/
theorem qs64_model_violates_oracleOK_clause :
    (Ymq.Qsieve64.qsieve 6 6 [] (fun _ => true)).toOption = some (some (1, 6)) ∧ ¬ PairOK 6 1 6 :=
  ⟨Ymq.C03Qs64.qs64_improper_when_n_eq_k, fun h => by have := h.2.1; omega⟩

/-! ### non-vacuity: oracles whose `qs64` / `squfof` fields ARE the models -/

open Ymq.Factor.Closed

/-- `Option` view of a model run (`.error` = the real function does not return) -/
def qs64Of : Ymq.Relations.M (Option (Nat × Nat)) → Option (Nat × Nat)
  | .ok r => r
  | .error _ => none

/-- `modelOracle` of Props/C01Closed.lean with its two constant-`None` fields replaced by the models,
WITHOUT any guard on `n`: `qsieve` with multiplier 1 and no kernel vector (then only its two early
exits answer `Some`: the whole sieve cannot be evaluated by the kernel), `squfof` with the exact seed -/
def modelOracle2 : Oracle Unit :=
  { modelOracle with
    qs64 := fun s n => (qs64Of (Ymq.Qsieve64.qsieve n 1 [] (fun _ => true)), s)
    squfof := fun s n => ((Ymq.Squfof.squfof Ymq.Squfof.exactSeed n).getD none, s) }

theorem model2_qs64 : Qs64Model modelOracle2 := by
  intro t n a b h
  refine ⟨1, [], fun _ => true, by decide, ?_⟩
  change qs64Of (Ymq.Qsieve64.qsieve n 1 [] (fun _ => true)) = some (a, b) at h
  cases hr : Ymq.Qsieve64.qsieve n 1 [] (fun _ => true) with
  | error e => rw [hr] at h; simp [qs64Of] at h
  | ok r => rw [hr] at h; simp only [qs64Of] at h; rw [h]

theorem model2_squfof : SqufofModel Ymq.Squfof.exactSeed modelOracle2 := by
  intro t n a b h
  change (Ymq.Squfof.squfof Ymq.Squfof.exactSeed n).getD none = some (a, b) at h
  cases hr : Ymq.Squfof.squfof Ymq.Squfof.exactSeed n with
  | none => rw [hr] at h; simp at h
  | some r => rw [hr] at h; simp only [Option.getD_some] at h; rw [h]

/-- every premise of the `_v2` theorems holds for it … -/
example : OracleOK (guardOracle modelOracle2) ∧
    ∀ fuel n alg os, factor modelOracle2 fuel n alg os = factor (guardOracle modelOracle2) fuel n alg os :=
  oracleOK_of_models_v2 modelOracle2 model_pp model_finalStep model2_qs64 model_rho model_pm1 model_ecm
    model2_squfof model_unexpected ⟨model_residual.unexpectedNotWhole⟩

/-- … although the contract `OracleOK` itself fails for it: its `squfof` field returns the trivial split `(2, 1)` -/
example : ¬ OracleOK modelOracle2 := by
  intro h
  have := h.squfof () 2 2 1 (by decide) (by decide +kernel)
  exact absurd this.2.2 (by decide)

private theorem run_squfof : factor modelOracle2 20 233788 .squfof () = .ok [2, 2, 211, 277] := by
  decide +kernel

/-- `factor(4·58447, Algo::Squfof)`: trial division, then the UNGUARDED SQUFOF model splits 211·277 -/
example : factor modelOracle2 20 233788 .squfof () = .ok [2, 2, 211, 277] := run_squfof

example : [2, 2, 211, 277].prod = 233788 ∧ [2, 2, 211, 277].Pairwise (· ≤ ·) ∧
    ∀ x ∈ [2, 2, 211, 277], x ∣ 233788 ∧ (1 ≤ 233788 → 2 ≤ x) :=
  factor_exact_closed_v2 modelOracle2 model_pp model_finalStep model2_qs64 model_rho model_pm1 model_ecm
    model2_squfof model_unexpected ⟨model_residual.unexpectedNotWhole⟩ 20 233788 .squfof () _ run_squfof

example : (∃ l, factor modelOracle2 20 233788 .squfof () = .ok l ∧ l.prod = 233788) ∨
    factor modelOracle2 20 233788 .squfof () = .failure :=
  factor_total_closed_v2 modelOracle2 model_pp model_finalStep model2_qs64 model_rho model_pm1 model_ecm
    model2_squfof model_unexpected ⟨model_residual.unexpectedNotWhole⟩ 20 233788 .squfof ()
    (fun _ => by decide +kernel) (by decide +kernel)

/-- the same oracle with a `perfect_power` that never answers (`UsesPerfectPower` holds trivially):
then a square reaches the `Qs64` arm and the qsieve64 MODEL splits it (its first early exit) -/
def modelOracle3 : Oracle Unit := { modelOracle2 with pp := fun s _ => (none, s) }

theorem model3_pp : UsesPerfectPower modelOracle3 := by
  intro t n r h
  change (none : Option (Nat × Nat)) = some r at h
  cases h

private theorem run_qs64 : factor modelOracle3 20 (4 * 44521) .qs64 () = .ok [2, 2, 211, 211] := by
  decide +kernel

example : factor modelOracle3 20 (4 * 44521) .qs64 () = .ok [2, 2, 211, 211] := run_qs64

example : [2, 2, 211, 211].prod = 4 * 44521 ∧ [2, 2, 211, 211].Pairwise (· ≤ ·) ∧
    ∀ x ∈ [2, 2, 211, 211], x ∣ 4 * 44521 ∧ (1 ≤ 4 * 44521 → 2 ≤ x) :=
  factor_exact_closed_v2 modelOracle3 model3_pp model_finalStep model2_qs64 model_rho model_pm1 model_ecm
    model2_squfof model_unexpected ⟨model_residual.unexpectedNotWhole⟩ 20 (4 * 44521) .qs64 () _ run_qs64

example : (∃ l, factor modelOracle3 20 (4 * 44521) .qs64 () = .ok l ∧ l.prod = 4 * 44521) ∨
    factor modelOracle3 20 (4 * 44521) .qs64 () = .failure :=
  factor_total_closed_v2 modelOracle3 model3_pp model_finalStep model2_qs64 model_rho model_pm1 model_ecm
    model2_squfof model_unexpected ⟨model_residual.unexpectedNotWhole⟩ 20 (4 * 44521) .qs64 ()
    (fun _ => by decide +kernel) (by decide +kernel)

end Ymq.C01
