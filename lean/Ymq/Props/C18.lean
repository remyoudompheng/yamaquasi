/-
C18 — "a reported class group is the true class group": the part that can be proved.

PARTIAL BY NATURE. The class number reported by `classgroup::classgroup` is a divisor of a gcd
of determinants selected by an analytic estimate (`estimate`: a truncated Euler product in f64),
and the relations come from a sieve whose correctness rests on the theory of composition of
binary quadratic forms. "The estimate brackets h" is not a theorem here; it is explored by the
correspondence/oracle runs of props/c18.py (independent reduced-form counts). "A sieved relation
is a genuine relation" is proved in Ymq/Props/C18Forms.lean (`relation_genuine`: the prime forms of
the entries of a relation built by `relationOf` compose, by explicit Dirichlet compositions, to the
principal form); that composition is well defined on classes (Gauss) is not formalised, and every
line of relations.sieve of the sampled runs is re-checked by independent form arithmetic.
`classgroup::legendre` is in Ymq/Props/C18Legendre.lean. Ymq/Props/C18Group.lean: the driver's form arithmetic
(`Form.compose`, `Form.reduce`) is Gauss composition / reduction, the reduced form of a class is unique (so
`classNumber` counts classes), `hprim` of `relation_genuine` from the conductor rejection, `emit_hom` composed with
`relation_genuine` (`emitted_relations_genuine`).
What IS proved in this file, for all inputs, about the models of Ymq/Model/ClassGroup.lean:

* `b_plus_unique`, `bPlus_spec_odd`, `bPlus_spec_even`: the documented sign convention is well
  defined (exactly one normalised root per prime) and `Prime::b_plus` returns it;
* `sign_total`, `sign_exclusive`, `large_sign_consistent`, `poly_factors_total`: the sign
  decision of `sieve_block_poly` / `Poly::factors` is total (no `debug_assert!` can fire),
  exclusive, and the parity rule for large primes is the same convention;
* `store_total`, `complete_relations_emitted`: the store never panics on well-formed histories
  (recursion of `update_tree` terminates within the model's fuel) and never loses a complete relation;
* `relation_no_panic`: no panic site of the relation construction is reachable on its domain;
* `emitted_subset_inputs`, `emit_hom`: for every history of `CRelationSet::add` calls the
  emitted relations are relations that were added; hence every homomorphism that kills the sieved
  relations kills every emitted relation (every line of relations.sieve, `relLine_val`);
* `filter_hom`: the relation filter before the linear algebra only derives consequences of its input;
* `reduced_enum_*`, `reduced_enum`: the reference enumeration of reduced primitive forms is exact.
  That every class contains exactly one of these forms (Gauss) is `class_representative_unique` in
  Ymq/Props/C18Group.lean; that the number of form classes is the class number `h(D)` of the quadratic
  order is a named classical fact that is not proved;
* `invariants_multiply`, `invariantsOk_spec`: the reported cyclic factors multiply to the reported
  class number whenever the Smith diagonal does (property C19).
-/
import Ymq.Lemmas.ClassGroupStore
import Ymq.Lemmas.ClassGroupForms
import Ymq.Lemmas.ClassGroupSign
import Ymq.Lemmas.ClassGroupGenuine
import Ymq.Lemmas.ClassGroupTotal
import Ymq.Lemmas.ClassGroupFilter
import Mathlib.Algebra.BigOperators.Group.List.Basic
import Mathlib.Algebra.Group.Basic
import Mathlib.Data.Finset.Card
import Mathlib.Data.List.Basic

namespace Ymq.C18
open Ymq.ClassGroup

/-- For every prime `p` (2 included) and every `D` there is at most one normalised root `b`:
`0 ≤ b ≤ p`, `b ≡ D (mod 2)`, `b² ≡ D (mod 4p)`. This is what makes "the prime form `[p]`" and
hence the sign of an exponent in a relation line well defined. -/
theorem b_plus_unique (D : Int) (p b b' : Nat) (hp : p.Prime) (h : IsBPlus D p b)
    (h' : IsBPlus D p b') : b = b' :=
  isBPlus_unique hp h h'

/-- For an odd `p` and `0 < r < p`, exactly one of the two square roots `r`, `p - r` is odd (and
exactly one is even): the parity requirement selects one of them. -/
theorem parity_exactly_one (p r : Nat) (hodd : p % 2 = 1) (h0 : 0 < r) (hr : r < p) :
    (r % 2 = 1 ∧ (p - r) % 2 = 0) ∨ (r % 2 = 0 ∧ (p - r) % 2 = 1) := by
  rcases Nat.mod_two_eq_zero_or_one r with h | h
  · exact Or.inr ⟨h, by omega⟩
  · exact Or.inl ⟨h, by omega⟩

/-- `Prime::b_plus(false)` (odd discriminant `D ≡ 1 mod 4`, odd prime `p`, stored root `r < p` with
`r² ≡ D mod p`, `r = 0` when `p ∣ D`): the code returns the normalised root — one of `r`, `p - r`,
the one that is odd (`p` itself when `r = 0`). -/
theorem bPlus_spec_odd (D : Int) (p r : Nat) (hodd : p % 2 = 1) (hr : r < p) (hD : D % 4 = 1)
    (hroot : (p : Int) ∣ (r : Int) * r - D) :
    ∃ b, bPlus p r false = some b ∧ IsBPlus D p b ∧ (b = r ∨ b = p - r) := by
  unfold bPlus
  simp only [Bool.false_eq_true, if_false]
  by_cases hpar : r % 2 = 1
  · rw [if_pos hpar]
    exact ⟨r, rfl, isBPlus_of_root hodd (Or.inr hD) hr.le (by omega) hroot, Or.inl rfl⟩
  · rw [if_neg hpar, if_pos hr.le]
    exact ⟨p - r, rfl, isBPlus_of_root hodd (Or.inr hD) (Nat.sub_le _ _) (by omega)
      (root_compl hr.le hroot), Or.inr rfl⟩

/-- `Prime::b_plus(true)` (discriminant `4N`, the factor base was built for `N`: `r² ≡ N mod p`):
the code returns the normalised root for `4N`, the even one of `2r mod p`, `p - (2r mod p)`. -/
theorem bPlus_spec_even (N : Int) (p r : Nat) (hodd : p % 2 = 1)
    (hroot : (p : Int) ∣ (r : Int) * r - N) :
    ∃ b, bPlus p r true = some b ∧ IsBPlus (4 * N) p b ∧ (b = 2 * r % p ∨ b = p - 2 * r % p) := by
  unfold bPlus
  simp only [if_true]
  have hlt : 2 * r % p < p := Nat.mod_lt _ (by omega)
  -- `2r mod p = 2r - p q` is a root of `4N` modulo `p`
  have hroot' : (p : Int) ∣ ((2 * r % p : Nat) : Int) * (2 * r % p : Nat) - 4 * N := by
    obtain ⟨c, hc⟩ := hroot
    have hdm : (p : Int) * ((2 * r / p : Nat) : Int) + ((2 * r % p : Nat) : Int) = 2 * r := by
      exact_mod_cast Nat.div_add_mod (2 * r) p
    exact ⟨4 * c - 4 * r * (2 * r / p : Nat) + p * (2 * r / p : Nat) * (2 * r / p : Nat), by
      linear_combination 4 * hc + (((2 * r % p : Nat) : Int) + 2 * r - p * (2 * r / p : Nat)) * hdm⟩
  have hD : 4 * N % 4 = 0 ∨ 4 * N % 4 = 1 := Or.inl (Int.mul_emod_right 4 N)
  by_cases hpar : 2 * r % p % 2 = 0
  · rw [if_pos hpar]
    exact ⟨_, rfl, isBPlus_of_root hodd hD hlt.le (by omega) hroot', Or.inl rfl⟩
  · rw [if_neg hpar, if_pos hlt.le]
    exact ⟨_, rfl, isBPlus_of_root hodd hD (Nat.sub_le _ _) (by omega) (root_compl hlt.le hroot'),
      Or.inr rfl⟩

/-- Totality of the sign decision: `p` an odd prime of the factor base with normalised root `ref`,
`bx² ≡ D (mod p)` (which holds because `bx² - 4AV = D` and `p ∣ V`): the value compared is `ref`
or `p - ref`, so the `debug_assert!` of `sieve_block_poly` cannot fire and the exponent is `±e`,
positive exactly when `bx mod p = b_plus`. -/
theorem sign_total (D : Int) (p ref : Nat) (bx : Int) (e : Nat) (hp : p.Prime)
    (href : IsBPlus D p ref) (hbx : (p : Int) ∣ bx * bx - D) :
    (modSigned bx p = ref ∧ signedExp p ref bx e = some (e : Int)) ∨
    (modSigned bx p ≠ ref ∧ modSigned bx p = p - ref ∧ signedExp p ref bx e = some (-(e : Int))) := by
  unfold signedExp
  simp only
  rcases modSigned_cases hp href hbx with h | h
  · left; exact ⟨h, by rw [if_pos h]⟩
  · by_cases h' : modSigned bx p = ref
    · left; exact ⟨h', by rw [if_pos h']⟩
    · right; exact ⟨h', h, by rw [if_neg h', if_pos h]⟩

/-- For an odd prime the two outcomes of the comparison exclude each other (`b_plus ≠ p - b_plus`),
whether or not `p` divides `D`. -/
theorem sign_exclusive (p ref : Nat) (hodd : p % 2 = 1) (hle : ref ≤ p) : ref ≠ p - ref := by
  omega

/-- The parity rule applied to large primes is the same convention as the comparison with
`b_plus` applied to factor-base primes (`type1` = even discriminant `4N`). -/
theorem large_sign_consistent (D : Int) (p ref : Nat) (bx : Int) (type1 : Bool) (hp : p.Prime)
    (hodd : p % 2 = 1) (href : IsBPlus D p ref) (hbx : (p : Int) ∣ bx * bx - D)
    (hty : type1 = true ↔ (2 : Int) ∣ D) :
    largeSign type1 bx p = 1 ↔ modSigned bx p = ref :=
  largeSign_iff hp hodd href hbx hty

/-- `Poly::factors` is total on its domain, both polynomial types: every prime `(p, r)` of `A` is a
prime whose stored root gives the normalised root `ref` (`bPlus_spec_odd` / `bPlus_spec_even`), the
coefficient satisfies `B ≥ 0` and `y² ≡ D (mod p)` for `y = 2B` (type 1, `D = 4N`) resp. `y = B`
(type 2) — which holds because `p ∣ A`. No `debug_assert!` fires and every sign is `±1`. -/
theorem poly_factors_total (D : Int) (type1 : Bool) (b : Int) (hb : 0 ≤ b) (afs : List (Nat × Nat))
    (h : ∀ pr ∈ afs, pr.1.Prime ∧ (∃ ref, bPlus pr.1 pr.2 type1 = some ref ∧ IsBPlus D pr.1 ref) ∧
      ((pr.1 : Int) ∣ (if type1 then 2 * b else b) * (if type1 then 2 * b else b) - D)) :
    ∃ l, polyFactors type1 b afs = some l ∧ l.map Prod.fst = afs.map Prod.fst ∧
      ∀ x ∈ l, x.2 = 1 ∨ x.2 = -1 := by
  refine ⟨_, polyFactors_eq hb afs h, by rw [List.map_map]; rfl, fun x hx => ?_⟩
  obtain ⟨pr, -, rfl⟩ := List.mem_map.1 hx
  exact resSign_abs _ _ _

/-- The whole relation construction of `sieve_block_poly` (evaluation, `cofactor` trial division,
conversion loop, `Poly::factors`, large primes) reaches no panic site: for a positive definite
polynomial (`A > 0`, `B ≥ 0`) whose form has discriminant `D < 0`, candidate primes that are 2,
conductor primes or factor-base primes with a correct root, and primes of `A` with correct roots.
(`bx² - 4 A P(x) = D` is proved inside: `polyEval_disc`.) -/
theorem relation_no_panic (D : Int) (type1 : Bool) (a b c x : Int) (maxprime maxlarge : Nat)
    (double : Bool) (conductor : List Nat) (fb : List (Nat × Nat)) (facs : List Nat)
    (afs : List (Nat × Nat)) (lp lq : Nat)
    (ha : 0 < a) (hb : 0 ≤ b) (hdisc : polyDisc type1 a b c = D) (hD : D < 0)
    (hfacs : ∀ p ∈ facs, FbOk D type1 conductor fb p)
    (hafs : ∀ pr ∈ afs, pr.1.Prime ∧ ((pr.1 : Int) ∣ a) ∧
      ∃ ref, bPlus pr.1 pr.2 type1 = some ref ∧ IsBPlus D pr.1 ref) :
    relationOf type1 a b c x maxprime maxlarge double conductor fb facs afs lp lq ≠ .panic := by
  have hv := polyEval_pos type1 a b c x ha (by rw [hdisc]; exact hD)
  have hid := polyEval_disc type1 a b c x
  rw [hdisc] at hid
  rcases relationOf_cases type1 a b c x maxprime maxlarge double conductor fb facs afs lp lq hv
    with h | h | ⟨p, q, -, h⟩ <;> rw [h]
  · exact RelOut.noConfusion
  · exact RelOut.noConfusion
  -- both loops return: the conversion rejects or gives the exponents, `Poly::factors` gives the signs
  generalize (polyEval type1 a b c x).1 = v at hv hid
  generalize (polyEval type1 a b c x).2 = y at hid
  rw [convFactors_trial hv hid hfacs, polyFactors_of_dvd hb hdisc afs hafs]
  by_cases hc : ∃ pe ∈ (trialDivide facs v.toNat).1, pe.1 ≠ 2 ∧ pe.1 ∈ conductor
  · rw [if_pos hc]; exact RelOut.noConfusion
  · rw [if_neg hc]; exact RelOut.noConfusion

/-- For every history of `add` calls (complete relations, partials, double partials; cycles of
any length in the large prime graph; whatever the fuel), every relation the store has emitted is
one of the relations that were added. The store never combines or alters relations. -/
theorem emitted_subset_inputs (maxlarge : Nat) (rs : List Rel) (s : CSet)
    (h : run { maxlarge := maxlarge } rs = some s) : ∀ r ∈ s.emitted, r ∈ rs := by
  have inv : StoreInv rs s := by
    apply run_inv rs _ s h
    · exact ⟨by simp, by simp⟩
    · exact fun r hr => hr
  intro r hr
  exact inv.1 r (by simpa [CSet.emitted] using hr)

/-- Nothing is lost: every complete relation (no large prime) handed to `add` is among the emitted
relations at the end of the history. -/
theorem complete_relations_emitted (maxlarge : Nat) (rs : List Rel) (s : CSet)
    (h : run { maxlarge := maxlarge } rs = some s) :
    ∀ r ∈ rs, r.large1 = none → r.large2 = none → r ∈ s.emitted := by
  intro r hr h1 h2
  have := run_complete rs _ s h r hr h1 h2
  simpa [CSet.emitted] using this

/-- The relation store is total: for every history of relations whose large primes are below
`u32::MAX` (the sieve only accepts large primes below 2^32 that are prime, so never 2^32 - 1) and
distinct within a relation (`assert!(p != q)`), no panic site of `add` / `add_path` /
`update_tree` is reached — `paths.get(&p).unwrap()` is always defined and the recursion of
`update_tree` ends within the fuel of the model (so the fuel is not an artefact). -/
theorem store_total (maxlarge : Nat) (rs : List Rel) (h : ∀ r ∈ rs, RelOk r) :
    ∃ s, run { maxlarge := maxlarge } rs = some s :=
  run_some rs _ (by intro v hv; simp [verts] at hv) h

/-- value of a relation under an assignment `g` of group elements to primes (factor base primes
and large primes alike): `Σ e • g p` -/
def relVal {G : Type*} [AddCommGroup G] (g : Nat → G) (r : Rel) : G :=
  (r.factors.map fun pe => pe.2 • g pe.1).sum
    + (match r.large1 with | some pe => pe.2 • g pe.1 | none => 0)
    + (match r.large2 with | some pe => pe.2 • g pe.1 | none => 0)

/-- `emit_hom`: let `G` be any abelian group and `g` any assignment of elements of `G` to primes
(e.g. `p ↦` class of the prime form `[p]`). If the induced additive map kills every INPUT relation
(every relation the sieve handed to `add`), it kills every relation EMITTED by the store, for all
histories. Triviality of the lines of relations.sieve is inherited from the sieved relations. -/
theorem emit_hom {G : Type*} [AddCommGroup G] (g : Nat → G) (maxlarge : Nat) (rs : List Rel)
    (s : CSet) (h : run { maxlarge := maxlarge } rs = some s)
    (hin : ∀ r ∈ rs, relVal g r = 0) : ∀ r ∈ s.emitted, relVal g r = 0 :=
  fun r hr => hin r (emitted_subset_inputs maxlarge rs s h r hr)

/-- the same for an arbitrary map on relations (no additivity needed) -/
theorem emit_hom_map {β : Type*} (φ : Rel → β) (z : β) (maxlarge : Nat) (rs : List Rel) (s : CSet)
    (h : run { maxlarge := maxlarge } rs = some s)
    (hin : ∀ r ∈ rs, φ r = z) : ∀ r ∈ s.emitted, φ r = z :=
  fun r hr => hin r (emitted_subset_inputs maxlarge rs s h r hr)

/-- value of a text line of relations.sieve: `p` stands for `g p`, `-p` for `-g p` -/
def lineVal {G : Type*} [AddCommGroup G] (g : Nat → G) (l : List Int) : G :=
  (l.map fun x => if x > 0 then g x.natAbs else -g x.natAbs).sum

theorem lineVal_append {G : Type*} [AddCommGroup G] (g : Nat → G) (l l' : List Int) :
    lineVal g (l ++ l') = lineVal g l + lineVal g l' := by
  simp [lineVal]

theorem lineVal_one {G : Type*} [AddCommGroup G] (g : Nat → G) (pe : Nat × Int) (hp : 0 < pe.1) :
    lineVal g (List.replicate pe.2.natAbs (if pe.2 > 0 then (pe.1 : Int) else -(pe.1 : Int)))
      = pe.2 • g pe.1 := by
  obtain ⟨p, e⟩ := pe
  simp only at hp ⊢
  simp only [lineVal, List.map_replicate, List.sum_replicate]
  by_cases he : e > 0
  · have hpos : ((p : Int) > 0) := by exact_mod_cast hp
    simp only [if_pos he, if_pos hpos, Int.natAbs_natCast]
    rw [← natCast_zsmul]
    congr 1
    omega
  · have hneg : ¬ (-(p : Int) > 0) := by omega
    simp only [if_neg he, if_neg hneg, Int.natAbs_neg, Int.natAbs_natCast]
    rw [smul_neg, ← natCast_zsmul, ← neg_smul]
    congr 1
    omega

/-- The line written to relations.sieve for a relation has the value of the relation (primes are
positive): the text format loses nothing. -/
theorem relLine_val {G : Type*} [AddCommGroup G] (g : Nat → G) (r : Rel)
    (hf : ∀ pe ∈ r.factors, 0 < pe.1) (h1 : ∀ pe, r.large1 = some pe → 0 < pe.1)
    (h2 : ∀ pe, r.large2 = some pe → 0 < pe.1) :
    lineVal g (relLine r) = relVal g r := by
  unfold relLine relVal
  simp only [lineVal_append]
  congr 1
  · congr 1
    · have : ∀ l : List (Nat × Int), (∀ pe ∈ l, 0 < pe.1) →
          lineVal g (l.flatMap fun pe => List.replicate pe.2.natAbs
            (if pe.2 > 0 then (pe.1 : Int) else -(pe.1 : Int))) = (l.map fun pe => pe.2 • g pe.1).sum := by
        intro l
        induction l with
        | nil => intro _; simp [lineVal]
        | cons x t ih =>
          intro hl
          rw [List.flatMap_cons, lineVal_append, List.map_cons, List.sum_cons,
            ih (fun pe hpe => hl pe (List.mem_cons_of_mem _ hpe)),
            lineVal_one g x (hl x List.mem_cons_self)]
      exact this r.factors hf
    · cases h : r.large1 with
      | none => simp [lineVal]
      | some pe => exact lineVal_one g pe (h1 pe h)
  · cases h : r.large2 with
    | none => simp [lineVal]
    | some pe => exact lineVal_one g pe (h2 pe h)

open Ymq.ClassGroup.Filter in
/-- `filter_hom`: soundness of the relation filter that precedes the linear algebra
(`RelFilterSparse::{new, pivot_one, pivot, rowsub, trim, remove_duplicates}` driven by the loop of
`group_structure_dense`). Whatever pivots are chosen, whatever is trimmed, wherever an `i32`
overflow stops the elimination: if the assignment `g` of elements of an abelian group to primes
kills every relation handed to the filter, then it kills every row the filter keeps
(relations.filtered) and every saved relation `p = ∏ l^e` holds (`g p = Σ e • g l`,
relations.removed). The filter only derives consequences of its input; it cannot introduce a
false relation. (Nothing is claimed about completeness: `trim` discards rows on purpose.) -/
theorem filter_hom {G : Type*} [AddCommGroup G] (g : Nat → G) (rels : List Rel) (s : FSt) (dups : Nat)
    (h : filterDense rels = some (s, dups)) (hin : ∀ r ∈ rels, relVal g r = 0) :
    (∀ row ∈ s.rows, rowVal g row = 0) ∧ (∀ pr ∈ s.removed, g pr.1 = rowVal g pr.2) := by
  have h0 : FInv g (FSt.new rels) := by
    apply new_inv
    intro r hr
    have := hin r hr
    obtain ⟨fs, l1, l2⟩ := r
    cases l1 <;> cases l2 <;>
      simp only [relVal, relRow, rowVal, List.map_append, List.sum_append, List.map_cons, List.map_nil,
        List.sum_cons, List.sum_nil, List.append_nil, add_zero] at this ⊢ <;> exact this
  unfold filterDense at h
  simp only at h
  split at h
  · simp at h
  · rename_i s1 hs1
    have h1 := filterLoop_inv _ _ s1 h0 hs1
    have h2 := removeDuplicates_inv h1
    simp only [Option.some.injEq] at h
    rw [h] at h2
    exact h2

/-- soundness of the enumeration -/
theorem reduced_enum_sound (D : Int) : ∀ f ∈ reducedForms D, IsReducedPrim D f :=
  fun _ h => reducedForms_sound h

/-- completeness of the enumeration -/
theorem reduced_enum_complete (D : Int) : ∀ f, IsReducedPrim D f → f ∈ reducedForms D :=
  fun _ h => reducedForms_complete h

/-- no form is listed twice -/
theorem reduced_enum_nodup (D : Int) : (reducedForms D).Nodup := reducedForms_nodup D

/-- `reducedForms D` enumerates exactly the reduced primitive forms `(a, b, c)` of discriminant `D`
(`b² - 4ac = D`, `|b| ≤ a ≤ c`, `b ≥ 0` if `|b| = a` or `a = c`, `gcd(a, b, c) = 1`), each once; so
`classNumber D` is their number. That every class of primitive positive definite forms contains exactly one
reduced form (Gauss) is `class_representative_unique` in Ymq/Props/C18Group.lean; NAMED CLASSICAL FACT, NOT
PROVED: the number of form classes is the class number `h(D)` of the quadratic order of discriminant `D`. -/
theorem reduced_enum (D : Int) :
    ∃ s : Finset Form, (∀ f, f ∈ s ↔ IsReducedPrim D f) ∧ classNumber D = s.card := by
  refine ⟨(reducedForms D).toFinset, ?_, ?_⟩
  · intro f
    rw [List.mem_toFinset]
    exact ⟨fun h => reducedForms_sound h, fun h => reducedForms_complete h⟩
  · unfold classNumber
    rw [List.toFinset_card_of_nodup (reducedForms_nodup D)]

/-- The cyclic factors reported by `group_structure_dense` (diagonal entries of the reduced
relation matrix different from 1) multiply to the product of the diagonal; hence to the reported
class number `h` whenever the diagonal does (that is the Smith form property C19). -/
theorem invariants_multiply (diag : List Nat) (h : Nat) (hd : diag.prod = h) :
    (invariantsOf diag).prod = h := by
  have key : ∀ l : List Nat, (invariantsOf l).prod = l.prod := by
    intro l
    unfold invariantsOf
    induction l with
    | nil => simp
    | cons x t ih =>
      by_cases hx : x = 1
      · subst hx
        rw [List.filter_cons_of_neg (by simp), ih, List.prod_cons, Nat.one_mul]
      · rw [List.filter_cons_of_pos (by simpa using hx), List.prod_cons, ih, List.prod_cons]
  rw [key, hd]

/-- what the executable check `invariantsOk` (run by the driver on every real result) means -/
theorem invariantsOk_spec (h : Nat) (invs : List Nat) :
    invariantsOk h invs = true ↔ invs.prod = h ∧ ∀ d ∈ invs, d ≠ 1 ∧ d ≠ 0 := by
  unfold invariantsOk
  have hf : ∀ (l : List Nat) (a : Nat), l.foldl (· * ·) a = a * l.prod := by
    intro l
    induction l with
    | nil => intro a; simp
    | cons x t ih => intro a; rw [List.foldl_cons, ih, List.prod_cons, Nat.mul_assoc]
  simp only [Bool.and_eq_true, decide_eq_true_eq, List.all_eq_true, ne_eq, hf, Nat.one_mul]

/-! ### non-vacuity -/

example : IsBPlus (-23) 13 9 := by unfold IsBPlus; decide
example : bPlus 13 6 false = some 7 := by decide
example : IsBPlus (-23) 2 1 ∧ IsBPlus (-56) 2 0 ∧ IsBPlus (-84) 2 2 := by unfold IsBPlus; decide
/-- hypotheses of `bPlus_spec_odd` are satisfiable: D = -23, p = 13, r = 4 (16 ≡ -23 mod 13) -/
example : (13 : Nat) % 2 = 1 ∧ (4 : Nat) < 13 ∧ (-23 : Int) % 4 = 1 ∧ ((13 : Nat) : Int) ∣ ((4 : Nat) : Int) * (4 : Nat) - (-23) := by
  decide
/-- hypotheses of `bPlus_spec_even`: N = -14 (D = -56), p = 3, r = 1 -/
example : (3 : Nat) % 2 = 1 ∧ ((3 : Nat) : Int) ∣ ((1 : Nat) : Int) * (1 : Nat) - (-14) := by decide
/-- `sign_total`: D = -23, p = 13, ref = 9, bx = 17 (17² + 23 = 312 = 13 · 24) -/
example : Nat.Prime 13 ∧ IsBPlus (-23) 13 9 ∧ ((13 : Nat) : Int) ∣ (17 : Int) * 17 - (-23) := by
  refine ⟨by decide, by unfold IsBPlus; decide, by decide⟩
example : signedExp 13 9 17 2 = some (-2) := by decide
example : signedExp 13 9 (-17) 2 = some 2 := by decide
/-- a history with a partial, a second partial closing a cycle through the root, and a double -/
example : (run { maxlarge := 1000 }
    [⟨[(3, 1)], some (101, 1), none⟩, ⟨[(5, 1)], some (101, -1), none⟩, ⟨[(7, 1)], some (101, 1), some (103, 1)⟩]).map
      (fun s => s.emitted.length) = some 2 := by decide
/-- `RelOk` is satisfiable -/
example : RelOk ⟨[(7, 1)], some (101, 1), some (103, 1)⟩ := by
  refine ⟨?_, ?_, ?_⟩
  · intro pe h; simp only [Option.some.injEq] at h; subst h; decide
  · intro pe h; simp only [Option.some.injEq] at h; subst h; decide
  · intro pe qe h1 h2; simp only [Option.some.injEq] at h1 h2; subst h1; subst h2; decide
/-- the filter on a small input (also a K corpus line): `101`, `7`, `5` are eliminated, two rows in `3` remain -/
example : (match Ymq.ClassGroup.Filter.filterDense
    [⟨[(3, 1), (5, -1)], none, none⟩, ⟨[(3, 1)], some (101, 1), none⟩, ⟨[(5, 1)], some (101, -1), none⟩,
     ⟨[(7, 1), (3, 2)], none, none⟩, ⟨[(7, -1), (5, 1)], none, none⟩] with
    | some (s, d) => (s.rows, s.removed, d)
    | none => ([], [], 0))
    = ([[(3, 2)], [(3, 3)]], [(101, [(3, -1)]), (7, [(3, -2)]), (5, [(3, 1)])], 0) := by
  decide +kernel
example : classNumber (-23) = 3 := by decide +kernel
/-- `relation_no_panic` on a real candidate: D = -23, unit polynomial x² + x + 6, x = 1: P = 8 = 2³, y = 3 -/
example : relationOf false 1 1 6 1 151 302 false [] [(2, 1), (3, 1), (13, 9)] [2, 3, 13] [] 1 1
    = .rel ⟨[(2, -3)], none, none⟩ := by decide +kernel
example : polyDisc false 1 1 6 = -23 ∧ FbOk (-23) false [] [(2, 1), (3, 1), (13, 9)] 2 := by
  refine ⟨by decide, Or.inl rfl⟩
example : IsReducedPrim (-23) ⟨2, -1, 3⟩ := by unfold IsReducedPrim Form.disc gcd3; decide
example : invariantsOf [1, 2, 1, 30] = [2, 30] ∧ [1, 2, 1, 30].prod = 60 := by decide
example : invariantsOk 60 [2, 30] = true := by decide

end Ymq.C18
