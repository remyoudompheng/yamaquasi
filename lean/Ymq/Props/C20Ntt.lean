/-
C20 / C10: the NTT moduli of `arith_fft::NTT_PRIMES` are PRIME — proved, not assumed.

The table is translated from the source (Ymq/Gen/Params.lean, `NTT_PRIMES`); the Pratt certificates
(a primitive root and the factorisation of p − 1, whose odd part is below 2¹⁰) are generated by
translate/nttcert.py as suggestions (Ymq/Gen/NttCert.lean) and re-checked here in the kernel by
`prattTable`, which is sound by Lucas' criterion (Lemmas/Stage2Pratt.lean). With `ntt_roots_order`
(Props/C20.lean: the listed element has order exactly 2³²) this gives: Z/p is a field containing a
primitive 2³²-th root of unity. This is a fact about the table; C10 does not use it: `dft_conv` holds in any
commutative ring and needs only `ω^(2^(k-1)) = -1`, which `ntt_table_ok` / `ntt_roots_spec` (C10) get from
`g^(2^31) ≡ -1` alone.
-/
import Ymq.Props.C20
import Ymq.Lemmas.Stage2Pratt
import Ymq.Gen.NttCert

namespace Ymq.C20
open Ymq.Stage2 Ymq.Gen.Params

/-- the certificates are for exactly the moduli of the source table, in order -/
theorem ntt_certs_cover : Ymq.Gen.NttCert.certs.map (·.1) = NTT_PRIME_VALUES := by decide +kernel

private theorem ntt_certs_check :
    (prattTable [] Ymq.Gen.NttCert.certs).isSome = true := by decide +kernel

/-- every modulus of `NTT_PRIMES` is a prime number -/
theorem ntt_primes_prime : ∀ pr ∈ NTT_PRIMES, pr.1.Prime := by
  intro pr hpr
  cases hk : prattTable [] Ymq.Gen.NttCert.certs with
  | none =>
    have := ntt_certs_check
    rw [hk] at this
    exact absurd this (by simp)
  | some known =>
    have hsound := prattTable_sound _ [] known (by simp) hk
    have hval : pr.1 ∈ NTT_PRIME_VALUES := List.mem_map.mpr ⟨pr, hpr, rfl⟩
    rw [← ntt_certs_cover] at hval
    obtain ⟨e, he, hep⟩ := List.mem_map.mp hval
    have := (prattTable_mem _ [] known hk).2 e he
    rw [hep] at this
    exact hsound _ this

/-- each modulus is an odd prime with a primitive 2³²-th root of unity in the table -/
theorem ntt_field_with_root : ∀ pr ∈ NTT_PRIMES,
    pr.1.Prime ∧ pr.2 ^ 2 ^ 32 % pr.1 = 1 ∧ pr.2 ^ 2 ^ 31 % pr.1 = pr.1 - 1 := by
  intro pr hpr
  have h := ntt_roots_order pr hpr
  have e1 : NTT_ROOT_LOG = 32 := rfl
  rw [e1] at h
  exact ⟨ntt_primes_prime pr hpr, h.1, h.2.1⟩

end Ymq.C20
