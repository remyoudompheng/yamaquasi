/-
C15 — elliptic-curve arithmetic implements the group law.
Part A: addition chains (models: Ymq/Model/Chain.lean; helper lemmas: Ymq/Lemmas/Recode.lean, Chain*.lean, EcmCurveGroup.lean).
Part B: curve formulas (translated: Ymq/Gen/Curves.lean; the identities for every `a`: Ymq/Lemmas/Curve*.lean).
Only property theorems live here.
-/
import Ymq.Lemmas.EcmCurveGroup
import Ymq.Lemmas.CurveAddClosed
import Ymq.Lemmas.CurveDoubleClosed
import Ymq.Lemmas.CurveAddextClosed
import Ymq.Lemmas.CurveAddDouble
import Ymq.Lemmas.CurveAddextAdd
import Ymq.Lemmas.CurveSuyama
import Ymq.Lemmas.CurveMisc

namespace Ymq.C15
open Ymq.Chain

/-! ## A. addition chains -/

/-- `make_addition_chain` is total on the non-zero 64-bit scalars — including 2^64-1 … 2^64-7 and
the scalars that need 33 opcodes —, never overflows or indexes out of its buffer (the model
returns `none` at every such site), and the chain it returns denotes `k`; it has at most 33
opcodes (= the buffer its callers allocate), every opcode but the last is odd with `|x| ≤ 7` or even
in `[2, 126]`, the last one is odd in `[1, 7]` (`WF 7`). -/
theorem chain_eval (k : Nat) (h0 : 0 < k) (hk : k < 2 ^ 64) :
    ∃ c, makeChain k = some c ∧ evalChain c = (k : Int) ∧ c.length ≤ 33 ∧ WF 7 c :=
  makeChain_spec k h0 hk

/-- non-vacuity / sharpness of the length bound: this scalar takes all 33 opcodes -/
theorem chain_eval_len33_witness :
    (makeChain 10453154975102079249).map List.length = some 33 := by decide

/-- Counter-witness for the buffer of 32 opcodes the pinned tree used ("the chain length is never
more than 32"): with capacity 32 the builder indexes `chain[32]` for k = 0x9111111111111111
(observed on the real code: panic in both profiles; repaired by a `fix:` commit). -/
theorem chain_cap32_witness : makeChainCap 32 10453154975102079249 = none := by decide

example : makeChain (2 ^ 64 - 1) = some [-1, 126, 1] := by decide

/-- `make_addition_chain_long` is total on the non-zero 1024-bit scalars: no u128/u32/i8 overflow or
underflow (`exp += ..`, `nbits - bits`, `curbits -= 1`), no index outside its 384-entry buffer — the
chain has at most 294 opcodes —, and the chain it returns denotes `n`; every opcode but the last is
odd with `|x| ≤ 63` or even in `[2, 126]`, the last one is odd in `[1, 63]` (`WF 63`). -/
theorem chain_long_eval (n : Nat) (h0 : 0 < n) (hn : n < 2 ^ 1024) :
    ∃ c, makeChainLong n = some c ∧ evalChain c = (n : Int) ∧ c.length ≤ 294 ∧ WF 63 c := by
  have hcap : 295 ≤ Ymq.Gen.Curves.chainLongCap := by decide
  obtain ⟨c, h1, h2, h3, h4⟩ := makeChainLongCap_spec h0 hn hcap
  exact ⟨c, h1, h2, h4, h3⟩

example : makeChainLong (2 ^ 64) = some [120, 8, 1] := by decide

section Group
variable {G : Type} [AddCommGroup G]

/-- Any well-formed chain, run by the interpreter loop of `scalar64_chainmul` /
`scalar1024_chainmul` in an additive commutative group (doubling = `x + x`) over a table
`gaps[i] = (2i+1) P`, computes `(evalChain c) P`. -/
theorem chain_interp_spec (gaps : List G) (P : G) (m : Int) (hg : GapsOk gaps P m) (c : List Int)
    (hc : WF m c) :
    runChain id dbl dbl (fun a b => a + b) (fun a b => a - b) gaps c = some (evalChain c • P) := by
  obtain ⟨q, e, rfl⟩ := EcmCurve.runChain_sim (EcmCurve.grpSim (G := G)) (EcmCurve.gapsSim_of_gapsOk hg) c hc
  exact e

/-- `scalar64_chainmul(k, P)` over a group: returns normally and computes `k P` for every 64-bit
scalar (0 included). -/
theorem chainmul_spec (k : Nat) (hk : k < 2 ^ 64) (P : G) :
    scalar64Chainmul (0 : G) id id dbl dbl (fun a b => a + b) (fun a b => a + b) (fun a b => a - b) k P
      = some (k • P) :=
  EcmCurve.grp_mul64 k hk P

/-- `scalar64_mul_dbladd(k, P)` over a group computes `k P`. -/
theorem dbladd_spec (k : Nat) (hk : k < 2 ^ 64) (P : G) :
    scalar64MulDbladd (0 : G) (fun a b => a + b) dbl k P = some (k • P) := by
  unfold scalar64MulDbladd
  rw [dblAddLoop_spec 64 k 0 P hk, zero_add]

/-- chain multiplication = double-and-add, for every 64-bit scalar -/
theorem chainmul_eq_dbladd (k : Nat) (hk : k < 2 ^ 64) (P : G) :
    scalar64Chainmul (0 : G) id id dbl dbl (fun a b => a + b) (fun a b => a + b) (fun a b => a - b) k P
      = scalar64MulDbladd (0 : G) (fun a b => a + b) dbl k P := by
  rw [chainmul_spec k hk, dbladd_spec k hk]

/-- `ecm128::Curve::scalar64_mul(k, P)` (fused double-add, subtraction through the negated table
entry) computes `k P` for every 64-bit scalar. -/
theorem mul128_spec (k : Nat) (hk : k < 2 ^ 64) (P : G) :
    scalar64Mul128 (0 : G) id id dbl dbl (fun a b => a + b) (fun q g => dbl q + g) (fun g => -g) k P
      = some (k • P) :=
  (scalar64Mul128_eq _ _ _ _ _ _ _ _ (fun a b => a + b) (fun a b => a - b) (fun _ _ => rfl)
    (fun _ _ => (sub_eq_add_neg _ _).symm) k P).trans (EcmCurve.grp_mul64 k hk P)

/-- Defect witness kept for the record: without the `k == 0` special case (pinned tree) the chain
`[0]` selects `gaps[0]` and the 128-bit routine returned `P` instead of the neutral element
(repaired by a `fix:` commit; no caller passes 0). -/
theorem mul128_zero_witness (P : G) :
    runChain id dbl id (fun q g => dbl q + g) (fun q g => dbl q + -g)
      (mkGaps (fun a b => a + b) (dbl P) 4 (id P)) [0] = some P := by
  simp [runChain, mkGaps, foldOps]

/-- `scalar1024_chainmul(n, P)` over a group: returns normally and computes `n P` for every
1024-bit scalar (0 included). -/
theorem chainmul1024_spec (n : Nat) (hn : n < 2 ^ 1024) (P : G) :
    scalar1024Chainmul (0 : G) id id dbl dbl (fun a b => a + b) (fun a b => a + b) (fun a b => a - b) n P
      = some (n • P) :=
  EcmCurve.grp_mul1024 n hn P

example : GapsOk (mkGaps (fun a b => a + b) (dbl (1 : Int)) 4 (id 1)) (1 : Int) 7 := by
  simpa using EcmCurve.gapsOk_mkGaps (1 : Int) 4

end Group

/-! ## B. curve formulas

`ecmAdd`, `ecmDouble`, … are the bodies of the Rust functions, translated on every run by
translate/curves.py (Gen/Curves.lean); `ecmIsValid d tw p` is the code's own `is_valid`
(`(±x²+y²)z² = z⁴ + d x²y²`, `tw = true` for a = -1), `ecmIsValidext` its `is_validext`
(`±x²+y² = z² + d t²`), `OnQuadric` is `t z = x y`, `ProjEq` the three cross products of
`projective_equal`. All statements hold over every commutative ring (so over Z/n for composite n). -/

section Curves
open Ymq.Gen.Curves Ymq.Curve
variable {R : Type} [CommRing R]

/-- `Curve::add` maps curve points to curve points (a = +1 and a = -1). -/
theorem add_closed (d : R) (tw : Bool) (p q : Pt R) (hp : ecmIsValid d tw p) (hq : ecmIsValid d tw q) :
    ecmIsValid d tw (ecmAdd d tw p q) := by
  obtain ⟨X1, Y1, Z1⟩ := p; obtain ⟨X2, Y2, Z2⟩ := q
  cases tw
  · simp only [ecmIsValid, ecmIsValidSides, ecmAdd, Bool.false_eq_true, ↓reduceIte] at hp hq ⊢
    simpa only [one_mul] using add_closed_gen 1 d (X1 * X1) (Y1 * Y1) (Z1 * Z1) (X2 * X2) (Y2 * Y2) (Z2 * Z2)
      (X1 * X2 * (Y1 * Y2)) (Z1 * Z2) _ _ ((X1 + Y1) * (X2 + Y2) - (X1 * X2 + Y1 * Y2)) (Y1 * Y2 - X1 * X2)
      (by linear_combination hp) (by linear_combination hq) (by ring) (by ring) rfl rfl (by ring) (by ring)
  · simp only [ecmIsValid, ecmIsValidSides, ecmAdd, ↓reduceIte] at hp hq ⊢
    simpa only [neg_one_mul, neg_add_eq_sub] using add_closed_gen (-1) d (X1 * X1) (Y1 * Y1) (Z1 * Z1) (X2 * X2)
      (Y2 * Y2) (Z2 * Z2) (X1 * X2 * (Y1 * Y2)) (Z1 * Z2) _ _ ((X1 + Y1) * (X2 + Y2) - (X1 * X2 + Y1 * Y2))
      (X1 * X2 + Y1 * Y2) (by linear_combination hp) (by linear_combination hq) (by ring) (by ring) rfl rfl
      (by ring) (by ring)

/-- `Curve::double` maps curve points to curve points. -/
theorem double_closed (d : R) (tw : Bool) (p : Pt R) (hp : ecmIsValid d tw p) :
    ecmIsValid d tw (ecmDouble d tw p) := by
  obtain ⟨X1, Y1, Z1⟩ := p
  cases tw
  · simp only [ecmIsValid, ecmIsValidSides, ecmDouble, Bool.false_eq_true, ↓reduceIte] at hp ⊢
    simpa only [one_mul] using double_closed_gen 1 d (X1 * X1) (Y1 * Y1) (Z1 * Z1)
      ((X1 + Y1) * (X1 + Y1) - (X1 * X1 + Y1 * Y1)) (X1 * X1 + Y1 * Y1) (X1 * X1 - Y1 * Y1)
      (X1 * X1 + Y1 * Y1 - Z1 * Z1 - Z1 * Z1) hp (by ring) (by ring) (by ring)
  · simp only [ecmIsValid, ecmIsValidSides, ecmDouble, ↓reduceIte] at hp ⊢
    simpa only [neg_one_mul, neg_add_eq_sub] using double_closed_gen (-1) d (X1 * X1) (Y1 * Y1) (Z1 * Z1)
      ((X1 + Y1) * (X1 + Y1) - (X1 * X1 + Y1 * Y1)) (Y1 * Y1 - X1 * X1) (0 - (X1 * X1 + Y1 * Y1))
      (Y1 * Y1 - X1 * X1 - Z1 * Z1 - Z1 * Z1) hp (by ring) (by ring) (by ring)

/-- `Curve::dblext`: the result satisfies the extended curve equation and lies on the quadric. -/
theorem dblext_closed (d : R) (tw : Bool) (p : Pt R) (hp : ecmIsValid d tw p) :
    ecmIsValidext d tw (ecmDblext d tw p) ∧ OnQuadric (ecmDblext d tw p) := by
  obtain ⟨X1, Y1, Z1⟩ := p
  cases tw
  · simp only [ecmIsValid, ecmIsValidSides, ecmIsValidext, ecmIsValidextSides, ecmDblext, OnQuadric,
      Bool.false_eq_true, ↓reduceIte] at hp ⊢
    refine ⟨?_, by ring⟩
    simpa only [one_mul] using double_core 1 d (X1 * X1) (Y1 * Y1) (Z1 * Z1)
      ((X1 + Y1) * (X1 + Y1) - X1 * X1 - Y1 * Y1) (X1 * X1 + Y1 * Y1) (X1 * X1 - Y1 * Y1)
      (X1 * X1 + Y1 * Y1 - (Z1 * Z1 + Z1 * Z1)) hp (by ring) (by ring) (by ring)
  · simp only [ecmIsValid, ecmIsValidSides, ecmIsValidext, ecmIsValidextSides, ecmDblext, OnQuadric,
      ↓reduceIte] at hp ⊢
    refine ⟨?_, by ring⟩
    simpa only [neg_one_mul, ← sub_eq_add_neg] using double_core (-1) d (X1 * X1) (Y1 * Y1) (Z1 * Z1)
      ((X1 + Y1) * (X1 + Y1) - X1 * X1 - Y1 * Y1) (Y1 * Y1 - X1 * X1) (0 - (X1 * X1 + Y1 * Y1))
      (Y1 * Y1 - X1 * X1 - (Z1 * Z1 + Z1 * Z1)) hp (by ring) (by ring) (by ring)

/-- `Curve::to_extended` -/
theorem to_extended_closed (d : R) (tw : Bool) (p : Pt R) (hp : ecmIsValid d tw p) :
    ecmIsValidext d tw (ecmToExtended d tw p) ∧ OnQuadric (ecmToExtended d tw p) := by
  obtain ⟨X1, Y1, Z1⟩ := p
  cases tw
  all_goals
    simp only [ecmIsValid, ecmIsValidSides, ecmIsValidext, ecmIsValidextSides, ecmToExtended, OnQuadric,
      Bool.false_eq_true, ↓reduceIte] at hp ⊢
    exact ⟨by linear_combination hp, by ring⟩

/-- `Curve::addext` (extended coordinates): curve equation and `T Z = X Y` are preserved. -/
theorem addext_closed (d : R) (tw : Bool) (p q : Ext R) (hp : ecmIsValidext d tw p) (hpq : OnQuadric p)
    (hq : ecmIsValidext d tw q) (hqq : OnQuadric q) :
    ecmIsValidext d tw (ecmAddext d tw p q) ∧ OnQuadric (ecmAddext d tw p q) := by
  obtain ⟨X1, Y1, Z1, T1⟩ := p; obtain ⟨X2, Y2, Z2, T2⟩ := q
  cases tw
  · simp only [ecmIsValidext, ecmIsValidextSides, ecmAddext, ecmAddextAux, OnQuadric, Bool.false_eq_true,
      ↓reduceIte] at hp hpq hq hqq ⊢
    simpa only [one_mul] using addext_closed_gen 1 d 1 X1 Y1 Z1 T1 X2 Y2 Z2 T2 (T1 * Z2 + Z1 * T2)
      ((X1 - Y1) * (X2 + Y2) + (Y1 * Y2 - X1 * X2)) (Y1 * Y2 + X1 * X2) (T1 * Z2 - Z1 * T2)
      (by linear_combination hp) hpq (by linear_combination hq) hqq (by ring) (by ring) (by ring) (by ring)
  · simp only [ecmIsValidext, ecmIsValidextSides, ecmAddext, ecmAddextAux, OnQuadric, ↓reduceIte] at hp hpq hq hqq ⊢
    have := addext_closed_gen (-1) d 2 X1 Y1 Z1 T1 X2 Y2 Z2 T2
      (T1 * Z2 + T1 * Z2 + (Z1 * T2 + Z1 * T2))
      ((Y1 + X1) * (Y2 - X2) - (Y1 - X1) * (Y2 + X2)) ((Y1 + X1) * (Y2 - X2) + (Y1 - X1) * (Y2 + X2))
      (T1 * Z2 + T1 * Z2 - (Z1 * T2 + Z1 * T2))
      (by linear_combination hp) hpq (by linear_combination hq) hqq (by ring) (by ring) (by ring) (by ring)
    rwa [neg_one_mul, ← sub_eq_add_neg] at this

/-- `Curve::addextproj`: the projective result is on the curve. -/
theorem addextproj_closed (d : R) (tw : Bool) (p q : Ext R) (hp : ecmIsValidext d tw p) (hpq : OnQuadric p)
    (hq : ecmIsValidext d tw q) (hqq : OnQuadric q) : ecmIsValid d tw (ecmAddextproj d tw p q) := by
  rw [addextproj_eq]
  obtain ⟨h1, h2⟩ := addext_closed d tw p q hp hpq hq hqq
  exact toProj_valid d tw _ h1 h2

/-- `Curve::subextproj P Q = addextproj P (-Q)` with `-(x, y, z, t) = (-x, y, z, -t)` (syntactic). -/
theorem subextproj_neg (d : R) (tw : Bool) (p q : Ext R) :
    ecmSubextproj d tw p q = ecmAddextproj d tw p (negExt q) := by
  simp only [ecmSubextproj, negExt, zero_sub]

/-- `Curve::subextproj`: the result is on the curve. -/
theorem subextproj_closed (d : R) (tw : Bool) (p q : Ext R) (hp : ecmIsValidext d tw p) (hpq : OnQuadric p)
    (hq : ecmIsValidext d tw q) (hqq : OnQuadric q) : ecmIsValid d tw (ecmSubextproj d tw p q) := by
  rw [subextproj_neg]
  obtain ⟨h1, h2⟩ := negExt_valid d tw q hq hqq
  exact addextproj_closed d tw p _ hp hpq h1 h2

/-- `add P P ~ double P` (both formulas are unified; informative wherever neither triple is zero) -/
theorem add_self_double (d : R) (tw : Bool) (p : Pt R) (hp : ecmIsValid d tw p) :
    ProjEq (ecmAdd d tw p p) (ecmDouble d tw p) := by
  obtain ⟨X1, Y1, Z1⟩ := p
  cases tw
  · simp only [ecmIsValid, ecmIsValidSides, ecmAdd, ecmDouble, ProjEq, Bool.false_eq_true, ↓reduceIte] at hp ⊢
    exact add_self_double_gen d (X1 * X1) (Y1 * Y1) (Z1 * Z1) _ _ _ _ _ _ _ _ hp rfl rfl rfl (by ring) (by ring)
  · simp only [ecmIsValid, ecmIsValidSides, ecmAdd, ecmDouble, ProjEq, ↓reduceIte] at hp ⊢
    exact add_self_double_gen d (X1 * X1) (Y1 * Y1) (Z1 * Z1) _ _ _ _ _ _ _ _ hp rfl rfl rfl (by ring) (by ring)

/-- `dblext ~ double` -/
theorem dblext_double (d : R) (tw : Bool) (p : Pt R) (hp : ecmIsValid d tw p) :
    ProjEq (ecmDblext d tw p).toProj (ecmDouble d tw p) := by
  cases tw
  all_goals
    simp only [ecmDouble, ecmDblext, Ext.toProj, ProjEq, Bool.false_eq_true, ↓reduceIte]
    exact ⟨by ring, by ring, by ring⟩

/-- `addext ~ add` (on the projections): equal as projective points, or `addext` degenerate (the zero
triple, see `addext_self_zero`; then the statement is vacuous) -/
theorem addext_add (d : R) (tw : Bool) (p q : Ext R) (hp : ecmIsValidext d tw p) (hpq : OnQuadric p)
    (hq : ecmIsValidext d tw q) (hqq : OnQuadric q) :
    ProjEq (ecmAddext d tw p q).toProj (ecmAdd d tw p.toProj q.toProj) := by
  obtain ⟨X1, Y1, Z1, T1⟩ := p; obtain ⟨X2, Y2, Z2, T2⟩ := q
  cases tw
  · simp only [ecmIsValidext, ecmIsValidextSides, ecmAdd, ecmAddext, ecmAddextAux, Ext.toProj, OnQuadric, ProjEq,
      Bool.false_eq_true, ↓reduceIte] at hp hpq hq hqq ⊢
    exact addext_add_gen 1 d 1 X1 Y1 Z1 T1 X2 Y2 Z2 T2 _ _ _ _ _ _ _ _ _ (by linear_combination hp) hpq
      (by linear_combination hq) hqq (by ring) (by ring) (by ring) (by ring) rfl rfl rfl (by ring) (by ring)
  · simp only [ecmIsValidext, ecmIsValidextSides, ecmAdd, ecmAddext, ecmAddextAux, Ext.toProj, OnQuadric, ProjEq,
      ↓reduceIte] at hp hpq hq hqq ⊢
    exact addext_add_gen (-1) d 2 X1 Y1 Z1 T1 X2 Y2 Z2 T2 _ _ _ _ _ _ _ _ _ (by linear_combination hp) hpq
      (by linear_combination hq) hqq (by ring) (by ring) (by ring) (by ring) rfl rfl rfl (by ring) (by ring)

/-- the 128-bit formulas are the a = -1 formulas of ecm.rs, and `dbladd = add ∘ dblext` without `t` -/
theorem e128_eq_ecm (g : Pt R) (d : R) (p : Pt R) (pe qe : Ext R) :
    e128Add g pe qe = ecmAddext d true pe qe ∧ e128Dblext g p = ecmDblext d true p ∧
    e128Double g p = ecmDouble d true p ∧ e128Ext g p = ecmToExtended d true p ∧
    e128Dbladd g p qe = (ecmAddext d true (ecmDblext d true p) qe).toProj := by
  refine ⟨e128_add_eq g d pe qe, e128_dblext_eq g d p, e128_double_eq g d p, e128_ext_eq g d p, ?_⟩
  rw [e128_dbladd_eq, e128_add_eq g d, e128_dblext_eq g d]

/-- `ecm128::Curve::dbladd` maps curve points to curve points and `dbladd P Q ~ add (double P) Q` -/
theorem e128_dbladd_spec (g : Pt R) (d : R) (p : Pt R) (q : Ext R) (hp : ecmIsValid d true p)
    (hq : ecmIsValidext d true q) (hqq : OnQuadric q) :
    ecmIsValid d true (e128Dbladd g p q) ∧
      ProjEq (e128Dbladd g p q) (ecmAdd d true (ecmDblext d true p).toProj q.toProj) := by
  obtain ⟨h1, h2⟩ := dblext_closed d true p hp
  rw [(e128_eq_ecm g d p q q).2.2.2.2]
  exact ⟨by rw [← addextproj_eq]; exact addextproj_closed d true _ q h1 h2 hq hqq,
    addext_add d true _ q h1 h2 hq hqq⟩

/-- `ecm128::Curve::is_valid` accepts every point of the generator's curve -/
theorem e128_is_valid_of_curve (g : Pt R) (d : R) (p : Ext R) (hg : ecmIsValid d true g)
    (hp : ecmIsValidext d true p) : e128IsValid g p := by
  refine e128_is_valid_of g d p ?_ hp
  rw [e128_ext_eq g d]
  exact (to_extended_closed d true g hg).1

/-- Suyama-11 parameter curve `y² z = x³ + a x z² + b z³`: `Suyama11::double` is closed -/
theorem suyama_double_on_curve (a b gx gy : R) (p : Pt R) (hp : suyamaIsValid a b gx gy p) :
    suyamaIsValid a b gx gy (suyamaDouble a b gx gy p) :=
  suyama_double_closed a b gx gy p hp

/-- `Suyama11::add_g` (mixed addition of the generator) is closed -/
theorem suyama_add_g_on_curve (a b gx gy : R) (p : Pt R) (hp : suyamaIsValid a b gx gy p)
    (hg : suyamaIsValid a b gx gy ⟨gx, gy, 1⟩) : suyamaIsValid a b gx gy (suyamaAddG a b gx gy p) :=
  suyama_add_g_closed a b gx gy p hp hg

/-- the generator (12 - 1/3, 24) built by `Suyama11::new` is on its curve (`3 · one_third = 1` is
the code's own debug assertion) -/
theorem suyama_generator_on_curve (t : R) (h3 : ((3 : Nat) : R) * t = 1) :
    suyamaIsValid (suyamaConsts t).1 (suyamaConsts t).2.1 (suyamaConsts t).2.2.1 (suyamaConsts t).2.2.2
      ⟨(suyamaConsts t).2.2.1, (suyamaConsts t).2.2.2, 1⟩ := suyama_generator_valid t h3

/-- `params_point` followed by `twisted_from_point` (as `ecm()` composes them): the translated
generator `suyamaParamsPoint ..` lies on the a = -1 curve with the `d` that the translated
`ecmTwistedFromPoint` computes from it, whenever the inverse taken by `twisted_from_point` exists.
(The membership itself holds for any point with invertible `x²y²`: `d` is defined from the point; what
is specific to the Suyama family — `d` depending on σ only, torsion Z/12 — is not part of C15.) -/
theorem params_point_on_curve (inv : R → R) (a b gx gy : R) (pt : Pt R)
    (h : ((suyamaParamsPoint inv a b gx gy pt).x * (suyamaParamsPoint inv a b gx gy pt).x *
          ((suyamaParamsPoint inv a b gx gy pt).y * (suyamaParamsPoint inv a b gx gy pt).y)) *
        inv ((suyamaParamsPoint inv a b gx gy pt).x * (suyamaParamsPoint inv a b gx gy pt).x *
          ((suyamaParamsPoint inv a b gx gy pt).y * (suyamaParamsPoint inv a b gx gy pt).y)) = 1) :
    ecmIsValid (ecmTwistedFromPoint inv 0 true (suyamaParamsPoint inv a b gx gy pt)) true
      (suyamaParamsPoint inv a b gx gy pt) :=
  twisted_from_point_valid inv 0 true _ h

/-- `Suyama11::params`: the returned `(σ, r)` satisfy `σ = 72z/(3x+z) - 1`, `r = 432 y z/(3x+z)²`
(denominators cleared), whenever the inverse it takes exists. -/
theorem suyama_params_spec (inv : R → R) (a b gx gy : R) (pt : Pt R)
    (hinv : ((pt.z + pt.x + (pt.x + pt.x)) * (pt.z + pt.x + (pt.x + pt.x))) *
      inv ((pt.z + pt.x + (pt.x + pt.x)) * (pt.z + pt.x + (pt.x + pt.x))) = 1) :
    ((suyamaParams inv a b gx gy pt).1 + 1) * (3 * pt.x + pt.z) = 72 * pt.z ∧
    (suyamaParams inv a b gx gy pt).2 * ((3 * pt.x + pt.z) * (3 * pt.x + pt.z)) = 432 * (pt.y * pt.z) :=
  suyama_params_rel inv a b gx gy pt hinv

/-- Incompleteness of the dedicated extended addition, stated so that the agreement theorems are not
over-read: on equal arguments `addext` returns the zero quadruple, for which `ProjEq` (the
`addext_add` and `e128_dbladd_spec` conclusions) is vacuous. -/
theorem addext_self_zero (d : R) (tw : Bool) (p : Ext R) : ecmAddext d tw p p = ⟨0, 0, 0, 0⟩ :=
  addext_self d tw p

/-- `Curve::from_point(x, y)`: `(x, y, 1)` lies on the a = +1 curve with the returned `d`. -/
theorem from_point_on_curve (inv : R → R) (x y : R) (h1 : (1 : R) * inv 1 = 1)
    (hxy : (x * y) * inv (x * y) = 1) :
    ecmIsValid (ecmFromPoint inv x y).1 false (ecmFromPoint inv x y).2 := from_point_valid inv x y h1 hxy

end Curves

/-! non-vacuity: the hypotheses are satisfiable by non-trivial points (over ℤ) -/
section NonVacuity
open Ymq.Gen.Curves Ymq.Curve

example : ecmIsValid (1 : Int) false ⟨1, 2, 1⟩ := by
  simp [ecmIsValid, ecmIsValidSides]
example : ecmIsValid (-1 : Int) true ⟨1, 2, 2⟩ := by
  simp [ecmIsValid, ecmIsValidSides]
example : ecmIsValidext (-1 : Int) true (ecmToExtended (-1) true ⟨1, 2, 2⟩) ∧
    OnQuadric (ecmToExtended (-1 : Int) true ⟨1, 2, 2⟩) :=
  to_extended_closed (-1) true ⟨1, 2, 2⟩ (by simp [ecmIsValid, ecmIsValidSides])
example : suyamaIsValid (-3 : Int) 3 1 1 ⟨1, 1, 1⟩ := by
  simp [suyamaIsValid, suyamaIsValidSides]
example : ∃ (inv : Int → Int) (x y : Int), (1 : Int) * inv 1 = 1 ∧ (x * y) * inv (x * y) = 1 :=
  ⟨fun _ => 1, 1, 1, by simp, by simp⟩

/-- Finding witness (model level, over ℤ): on the point (1, 0, 1) of order 4 of x² + y² = 1 + 5x²y² the
chain multiplication by 3 returns the zero triple while double-and-add returns 3P = (-1 : 0 : 1) up to
scaling. Same behaviour of the real code (K); a witness of order 1269: known_findings.json, key
`chainmul-zero-triple-on-degenerate-step`. -/
theorem chainmul_degenerate_witness :
    ((scalar64Chainmul (⟨0, 1, 1⟩ : Pt Int) (ecmToExtended 5 false) Ext.toProj (ecmDouble 5 false)
        (ecmDblext 5 false) (ecmAddext 5 false) (ecmAddextproj 5 false) (ecmSubextproj 5 false) 3 ⟨1, 0, 1⟩).map
        (fun p => (p.x, p.y, p.z)) = some (0, 0, 0)) ∧
    ((scalar64MulDbladd (⟨0, 1, 1⟩ : Pt Int) (ecmAdd 5 false) (ecmDouble 5 false) 3 ⟨1, 0, 1⟩).map
        (fun p => (p.x + p.z, p.y)) = some (0, 0)) := by
  decide

end NonVacuity

end Ymq.C15
