/-
C08 — Word-level division, inversion and square-root primitives are exact.
Only property theorems live here (helper lemmas: Ymq/Lemmas/Dividers*.lean, Inverter.lean,
Arith*.lean). Every theorem is about the executable model (Ymq/Model/{Dividers,Inverter,Arith});
`= some …` means "no panic site of the checked profile is reached and the value is …".
-/
import Ymq.Lemmas.Dividers
import Ymq.Lemmas.DividersUint
import Ymq.Lemmas.ArithSqrt
import Ymq.Lemmas.Inverter
import Ymq.Lemmas.ArithGcd

namespace Ymq.C08
open Ymq.Limbs (W val Wf)
open Ymq.Dividers Ymq.Arith

/-- `Dividers::new(p)` does not panic for p = 2 and for every 3 ≤ p < 2^30 that is not a power
of two (in particular for every prime below 2^30). -/
theorem new_no_panic (p : Nat) (h : p = 2 ∨ (3 ≤ p ∧ p < 2 ^ 30 ∧ ∀ k, p ≠ 2 ^ k)) :
    ∃ d, new p = some d ∧ d.p = p := by
  rcases h with rfl | ⟨h3, h30, hk⟩
  · exact ⟨_, new_two, rfl⟩
  · obtain ⟨d, hd⟩ := new_some p h3 h30 ((W_mod_ne_zero_iff p h30).mpr hk)
    exact ⟨d, hd, (new_ok p d hd).1⟩

/-- … and that is exactly the accepted domain: every other `p` panics
(`assert!(p >> 30 == 0)`, division by zero, `incorrect divider`). -/
theorem new_domain (p : Nat) (d : Div) (h : new p = some d) :
    p = 2 ∨ (3 ≤ p ∧ p < 2 ^ 30 ∧ ∀ k, p ≠ 2 ^ k) := by
  by_cases h2 : p = 2
  · exact Or.inl h2
  · obtain ⟨hp, g⟩ := new_good p d h h2
    have h3 := g.p3; have h30 := g.p30; have hnz := g.r64nz
    rw [hp] at h3 h30 hnz
    exact Or.inr ⟨h3, h30, (W_mod_ne_zero_iff p h30).mp hnz⟩

/-- Key lemma about the 64-bit reciprocal: `0 < m64·p − 2^(64+s64) ≤ p`, and the stored
`r64` is `2^64 mod p`. -/
theorem recip_key (p : Nat) (d : Div) (h : new p = some d) (h2 : p ≠ 2) :
    0 < d.m64 * p - 2 ^ (64 + d.s64) ∧ d.m64 * p - 2 ^ (64 + d.s64) ≤ p ∧
    2 ^ 63 < d.m64 ∧ d.m64 < 2 ^ 64 ∧ d.r64 = 2 ^ 64 % p := by
  obtain ⟨hp, g⟩ := new_good p d h h2
  obtain ⟨h1, h2, h3, h4⟩ := g.recip64
  have h5 := g.r64
  rw [hp] at h1 h2 h5
  exact ⟨by omega, by omega, h3, h4, by rw [h5, W_eq]⟩

/-- Key lemma about the 17-bit reciprocal used by `modu16`: `0 < m16·p − 2^s16 ≤ p`. -/
theorem recip16_key (p : Nat) (d : Div) (h : new p = some d) (h2 : p ≠ 2) :
    0 < d.m16 * p - 2 ^ d.s16 ∧ d.m16 * p - 2 ^ d.s16 ≤ p ∧ 2 ^ 16 < d.m16 ∧ d.m16 ≤ 2 ^ 17 := by
  obtain ⟨hp, g⟩ := new_good p d h h2
  obtain ⟨h1, h2, h3, h4⟩ := g.recip16
  rw [hp] at h1 h2
  exact ⟨by omega, by omega, h3, h4⟩

/-- `divmod64` returns the true quotient and remainder for every `u64` operand and every
divisor accepted by the constructor. -/
theorem divmod64_spec (p : Nat) (d : Div) (h : new p = some d) (n : Nat) (hn : n < 2 ^ 64) :
    divmod64 d n = some (n / p, n % p) := by
  obtain ⟨hp, ok⟩ := new_ok p d h
  rw [← hp]; exact divmod64_ok d ok n hn

/-- `modu63` is exact (without correction step) whenever the top bit of `n` is clear. -/
theorem modu63_spec (p : Nat) (d : Div) (h : new p = some d) (n : Nat) (hn : n < 2 ^ 63) :
    modu63 d n = some (n % p) := by
  obtain ⟨hp, ok⟩ := new_ok p d h
  rw [← hp]; exact modu63_ok d ok n hn

/-- `modu16` is exact for every `u16` operand. (The statement needs no bound `p < 2^16`: for
larger `p` the estimated quotient is 0.) -/
theorem modu16_spec (p : Nat) (d : Div) (h : new p = some d) (n : Nat) (hn : n < 2 ^ 16) :
    modu16 d n = some (n % p) := by
  obtain ⟨hp, ok⟩ := new_ok p d h
  rw [← hp]; exact modu16_ok d ok n hn

/-- `modi64` returns the least non-negative residue for every `i64`, `i64::MIN` included. -/
theorem modi64_spec (p : Nat) (d : Div) (h : new p = some d) (n : Int)
    (hlo : -2 ^ 63 ≤ n) (hhi : n < 2 ^ 63) :
    ∃ r, modi64 d n = some r ∧ (r : Int) = n % (p : Int) := by
  obtain ⟨hp, ok⟩ := new_ok p d h
  rw [← hp]; exact modi64_ok d ok n hlo hhi

/-- `mod_u128` is exact for every `u128` operand. -/
theorem mod_u128_spec (p : Nat) (d : Div) (h : new p = some d) (n : Nat) (hn : n < 2 ^ 128) :
    modU128 d n = some (n % p) := by
  obtain ⟨hp, ok⟩ := new_ok p d h
  rw [← hp]; exact modU128_ok d ok n hn

/-! ### Dividers: multiword operands

A `BUint<N>` is its little-endian digit list `ds` (`Wf ds`: every digit `< 2^64`), its value is
`val ds`. -/

/-- `mod_uint` is exact for every multiword operand (any number `N ≥ 1` of words). -/
theorem mod_uint_spec (p : Nat) (d : Div) (h : new p = some d) (ds : List Nat) (hne : ds ≠ [])
    (hw : Wf ds) : modUint d ds = some (val ds % p) := by
  obtain ⟨hp, ok⟩ := new_ok p d h
  rw [← hp]; exact modUint_ok d ok ds hne hw

/-- `divmod_uint` (through `divmod_uint_inplace`) returns the exact multiword quotient — same number
of words, every word `< 2^64`, no word-level overflow on the way, the final debug assertion
holds — and the exact remainder. -/
theorem divmod_uint_spec (p : Nat) (d : Div) (h : new p = some d) (ds : List Nat) (hw : Wf ds) :
    ∃ qs r, divmodUint d ds = some (qs, r) ∧ qs.length = ds.length ∧ Wf qs ∧
      val qs = val ds / p ∧ r = val ds % p := by
  obtain ⟨hp, ok⟩ := new_ok p d h
  rw [← hp]; exact divmodUint_ok d ok ds hw

example : ((new 274177).bind fun d => modUint d (Limbs.ofNat 16 37714305606241449883)) = some 0 ∧
    ((new 7).bind fun d => (divmodUint d [18446744073709551615, 18446744073709551615]).map
      fun qr => (val qr.1, qr.2)) = some (48611766702991209066196372490252601636, 3) := by
  decide +kernel

/-- non-vacuity: the constructor accepts 3, 274177 and 2^30 − 1, and the routines compute. -/
example : (∃ d, new 3 = some d) ∧ (∃ d, new 274177 = some d) ∧ (∃ d, new 1073741823 = some d) :=
  ⟨(new_no_panic 3 (Or.inr ⟨by decide, by decide, fun k hk => by
      have : W % 3 ≠ 0 := by decide
      exact (W_mod_ne_zero_iff 3 (by decide)).mp this k hk⟩)).imp fun _ h => h.1,
   new_some 274177 (by decide) (by decide) (by decide),
   new_some 1073741823 (by decide) (by decide) (by decide)⟩

/-- `Inverter::new(p)` for odd `3 ≤ p < 2^28`: no panic, eight entries, entry `j` is
`−2^−(8j+8) mod p`. -/
theorem inverter_new_spec (p : Nat) (hodd : p % 2 = 1) (hp3 : 3 ≤ p) (hp28 : p < 2 ^ 28) :
    ∃ tab, Inverter.new p = some tab ∧ tab.length = 8 ∧
      ∀ j, j < 8 → tab.getD j 0 < p ∧ (tab.getD j 0 * 2 ^ (8 * j + 8) + 1) % p = 0 := by
  obtain ⟨tab, h1, h2, h3⟩ := Inverter.new_spec p hodd hp3 hp28
  refine ⟨tab, h1, h2, fun j hj => ?_⟩
  obtain ⟨h4, h5⟩ := h3 j (by omega)
  refine ⟨h4, ?_⟩
  apply Nat.mod_eq_zero_of_dvd
  rw [← ZMod.natCast_eq_zero_iff]
  push_cast
  rw [h5]; ring

/-- `Inverter::invert(x, div)`: for every odd `3 ≤ p < 2^28` (accepted by both constructors) and every
`0 < x < p` coprime to `p`, the loop terminates (within the `p + x + 1` iterations the model allows),
no assertion, overflow or shift-amount check fails, `powidx < 8`, and the result is the inverse:
`r < p ∧ x·r ≡ 1 (mod p)`. Full statement, not partial. -/
theorem invert_spec (p x : Nat) (d : Div) (tab : List Nat)
    (hd : Dividers.new p = some d) (ht : Inverter.new p = some tab)
    (hodd : p % 2 = 1) (hp3 : 3 ≤ p) (hp28 : p < 2 ^ 28)
    (hx0 : 0 < x) (hxp : x < p) (hcop : Nat.Coprime x p) :
    ∃ r, Inverter.invert tab d x = some r ∧ r < p ∧ x * r % p = 1 := by
  obtain ⟨hdp, ok⟩ := new_ok p d hd
  obtain ⟨tab', h1, h2, h3⟩ := Inverter.new_spec p hodd hp3 hp28
  rw [ht] at h1
  injection h1 with h1
  subst h1
  exact Inverter.invert_ok tab d p x ok hdp hodd hp3 hp28 h2 h3 hx0 hxp hcop

/-- the case the property names: `p` an odd prime below `2^28`, any `x ∈ [1, p)`. -/
theorem invert_spec_prime (p x : Nat) (d : Div) (tab : List Nat)
    (hd : Dividers.new p = some d) (ht : Inverter.new p = some tab)
    (hp : p.Prime) (hp2 : p ≠ 2) (hp28 : p < 2 ^ 28) (hx0 : 0 < x) (hxp : x < p) :
    ∃ r, Inverter.invert tab d x = some r ∧ r < p ∧ x * r % p = 1 := by
  have h2 := hp.two_le
  have hodd : p % 2 = 1 := by
    rcases hp.eq_two_or_odd with h | h
    · exact absurd h hp2
    · exact h
  have hcop : Nat.Coprime x p :=
    ((Nat.Prime.coprime_iff_not_dvd hp).mpr (fun hdvd =>
      absurd (Nat.le_of_dvd hx0 hdvd) (by omega))).symm
  exact invert_spec p x d tab hd ht hodd (by omega) hp28 hx0 hxp hcop

/-- `p = 2`: `Inverter::new(2)` is the dummy all-zero table and `invert` returns `x % 2` for every
`x` (also `x = 0`: the `assert!(x != 0)` comes after the `p == 2` return), whatever table is
passed; for odd `x` that is the inverse. -/
theorem invert_two (d : Div) (tab : List Nat) (x : Nat) (hd : Dividers.new 2 = some d) :
    Inverter.new 2 = some (List.replicate 8 0) ∧ Inverter.invert tab d x = some (x % 2) ∧
    (x % 2 = 1 → x * (x % 2) % 2 = 1) := by
  have hp : d.p = 2 := (new_ok 2 d hd).1
  refine ⟨by decide, ?_, fun h => by rw [h]; omega⟩
  unfold Inverter.invert Inverter.invertFuel
  rw [if_pos hp]

/-- both constructors and `invert` together: nothing is assumed beyond the domain. -/
theorem invert_total (p x : Nat) (hodd : p % 2 = 1) (hp3 : 3 ≤ p) (hp28 : p < 2 ^ 28)
    (hx0 : 0 < x) (hxp : x < p) (hcop : Nat.Coprime x p) :
    ∃ d tab r, Dividers.new p = some d ∧ Inverter.new p = some tab ∧
      Inverter.invert tab d x = some r ∧ r < p ∧ x * r % p = 1 := by
  have hpow : ∀ k, p ≠ 2 ^ k := by
    intro k hk
    cases k with
    | zero => simp at hk; omega
    | succ k => rw [hk, Nat.pow_succ] at hodd; omega
  obtain ⟨d, hd, _⟩ := new_no_panic p (Or.inr ⟨hp3, by omega, hpow⟩)
  obtain ⟨tab, ht, _, _⟩ := inverter_new_spec p hodd hp3 hp28
  obtain ⟨r, hr⟩ := invert_spec p x d tab hd ht hodd hp3 hp28 hx0 hxp hcop
  exact ⟨d, tab, r, hd, ht, hr⟩

example : ((Dividers.new 7).bind fun d => (Inverter.new 7).bind fun tab => Inverter.invert tab d 3) = some 5 ∧
    ((Dividers.new 268435399).bind fun d => (Inverter.new 268435399).bind fun tab =>
      Inverter.invert tab d 2) = some 134217700 := by
  decide +kernel

/-! ### pow_mod, sqrt_mod

`B` is the number of values of the Rust integer type (`2^64` for `u64`, `2^1024` for `Uint`). -/

/-- `mulmod(a, b, p) = a·b mod p` whenever the product fits the type (and `p ≠ 0`); an overflowing
product is a panic of the checked profile. -/
theorem mulmod_spec (B a b p : Nat) (hp : 0 < p) (hab : a * b < B) :
    mulmod B a b p = some (a * b % p) :=
  mulmod_eq hp hab

/-- `pow_mod(n, k, p) = n^k mod p` for every modulus `p > 1` whose square fits the type
(`(p-1)² < B`: no product overflows, in either profile). For `k = 0` the routine returns 1, also
when `p = 1` (where `n^0 mod 1 = 0`): that is the only deviation from `n^k % p`. -/
theorem pow_mod_spec (B n k p : Nat) (hp : 0 < p) (hB : (p - 1) * (p - 1) < B) :
    powMod B n k p = some (if k = 0 then 1 else n ^ k % p) :=
  powMod_eq hp hB

/-- corollary: for `p > 1` the value is `n^k % p` for every `k`. -/
theorem pow_mod_spec_gt_one (B n k p : Nat) (hp : 1 < p) (hB : (p - 1) * (p - 1) < B) :
    powMod B n k p = some (n ^ k % p) := by
  rw [pow_mod_spec B n k p (by omega) hB]
  by_cases hk : k = 0
  · subst hk; simp [Nat.mod_eq_of_lt hp]
  · simp [hk]

/-- the behaviour at `p = 1`, `k = 0` -/
example : powMod (2 ^ 64) 5 0 1 = some 1 ∧ 5 ^ 0 % 1 = 0 := by decide

/-- `sqrt_mod` is sound for every prime modulus, every type width and every `n`:
a returned value is a reduced square root of `n`. (An overflowing product or a failed assertion
makes the model return `none`, so no size hypothesis is needed.) -/
theorem sqrt_mod_sound (B n p r : Nat) (hp : p.Prime) (h : sqrtMod B n p = some (some r)) :
    r < p ∧ r * r % p = n % p := by
  have : Fact p.Prime := ⟨hp⟩
  have hp0 : 0 < p := hp.pos
  rcases sqrtMod_some hp0 h with ⟨hn0, hr⟩ | ⟨rfl, hn, hr⟩ | ⟨hp3, hn0, hC | hD | hE⟩
  · cases hr; exact ⟨hp0, by rw [hn0, Nat.zero_mul, Nat.zero_mod]⟩
  · cases hr; exact ⟨by decide, hn.symm⟩
  · obtain ⟨-, r1, hr1, hr⟩ := hC
    split_ifs at hr with hrr
    cases hr
    exact ⟨hr1 ▸ Nat.mod_lt _ hp0, hrr⟩
  · cases hD.2
  · obtain ⟨he, q1, hq1, hl⟩ := hE
    obtain ⟨j, hj1, hj2, hj3, hj4⟩ := tsLoop_some B (n % p) p q1 hq1 hp3 _ _ _ hl
    cases hj4
    -- `n` is a square, so the first successful iteration is some `j < p`, invertible mod `p`
    obtain ⟨k0, hk1, hk2, hk3⟩ := ts_exists (n % p) q1 (by rwa [Nat.mod_mod])
      (isSquare_of_pow_eq_one hn0 he)
    have hjk : j ≤ k0 := by
      by_contra hlt
      exact hj2 k0 hk1 (by omega) hk3
    have hj0 : (j : ZMod p) ≠ 0 := by
      intro h0
      rw [ZMod.natCast_eq_zero_iff] at h0
      have := Nat.le_of_dvd (by omega) h0
      omega
    refine ⟨Nat.mod_lt _ hp0, ?_⟩
    rw [← Nat.mod_mod n p, ← ZMod.natCast_eq_natCast_iff']
    unfold tsVal
    rw [tsOk_iff] at hj3
    simp only [Nat.cast_mul, ZMod.natCast_mod, Nat.cast_pow, tsNk_cast]
    simp only [ZMod.natCast_mod] at hj3
    exact ts_root hj0 hj3

/-- `sqrt_mod` answers `None` only for quadratic non-residues (Euler's criterion). -/
theorem sqrt_mod_none (B n p : Nat) (hp : p.Prime) (h : sqrtMod B n p = some none) :
    ¬ ∃ x, x * x % p = n % p := by
  have : Fact p.Prime := ⟨hp⟩
  rintro ⟨x, hx⟩
  -- a square root makes `n` a square in `ZMod p`, so Euler's test succeeds
  have hE' : n % p ≠ 0 → (n : ZMod p) ^ (p / 2) = 1 := fun hn0 => by
    rw [← ZMod.euler_criterion p (cast_ne_zero_of_mod hn0)]
    refine ⟨(x : ZMod p), ?_⟩
    rw [← ZMod.natCast_eq_natCast_iff'] at hx
    push_cast at hx
    exact hx.symm
  rcases sqrtMod_some hp.pos h with ⟨_, hr⟩ | ⟨_, _, hr⟩ | ⟨hp3, hn0, hC | hD | hE⟩
  · cases hr
  · cases hr
  · obtain ⟨h34, r1, hr1, hr⟩ := hC
    split_ifs at hr with hrr
    apply hrr
    rw [hr1, ← Nat.mod_mod n p, ← ZMod.natCast_eq_natCast_iff']
    simp only [Nat.cast_mul, ZMod.natCast_mod, Nat.cast_pow]
    rw [← pow_add, show p / 4 + 1 + (p / 4 + 1) = p / 2 + 1 by omega, pow_succ, hE' hn0, one_mul]
  · apply hD.1
    rw [← Nat.mod_eq_of_lt (by omega : 1 < p), ← ZMod.natCast_eq_natCast_iff']
    simp only [ZMod.natCast_mod, Nat.cast_pow, Nat.cast_one]
    exact hE' hn0
  · obtain ⟨-, q1, hq1, hl⟩ := hE
    obtain ⟨j, -, -, -, h4⟩ := tsLoop_some B _ p q1 hq1 hp3 _ _ none hl
    cases h4

/-- `sqrt_mod` reaches no panic site (no overflowing product, `assert!(exp2 < 24)` holds, the
`for k in 1..(1 << 24)` loop finds a root before it runs out: `unreachable!` is unreachable) for
every prime `p` whose square fits the type, provided `p ≡ 3 (mod 4)` (the multiword case) or
`p < 2^24` (the factor-base range). For primes `p ≡ 1 (mod 2^24)` the code panics by design
(`assert!(exp2 < 24)`); see the corpus. -/
theorem sqrt_mod_no_panic (B n p : Nat) (hp : p.Prime) (hB : (p - 1) * (p - 1) < B)
    (hdom : p % 4 = 3 ∨ p < 2 ^ 24) : ∃ res, sqrtMod B n p = some res := by
  have : Fact p.Prime := ⟨hp⟩
  have hp0 : 0 < p := hp.pos
  unfold sqrtMod
  rw [if_neg (by omega)]
  simp only []
  by_cases hn0 : n % p = 0
  · rw [if_pos hn0]; exact ⟨_, rfl⟩
  rw [if_neg hn0]
  by_cases hp2 : p = 2
  · rw [if_pos hp2]; exact ⟨_, rfl⟩
  rw [if_neg hp2]
  have hp3 : 2 < p := by have := hp.two_le; omega
  have hnp : n % p < p := Nat.mod_lt _ hp0
  by_cases h34 : p % 4 = 3
  · rw [if_pos h34, powMod_eq hp0 hB]
    simp only []
    rw [mulmod_eq hp0 (by
      have : (n % p) ^ (p / 4 + 1) % p < p := Nat.mod_lt _ hp0
      rw [if_neg (by omega)]
      calc _ ≤ (p - 1) * (p - 1) := Nat.mul_le_mul (by omega) (by omega)
        _ < B := hB)]
    exact ⟨_, rfl⟩
  · rw [if_neg h34, powMod_eq hp0 hB, if_neg (by omega)]
    simp only []
    have hp24 : p < 2 ^ 24 := by
      rcases hdom with h | h
      · exact absurd h h34
      · exact h
    by_cases he : (n % p) ^ (p / 2) % p = 1
    · rw [if_neg (by simpa using he)]
      have hW : W = 2 ^ 64 := by decide
      have hpW : p % W = p := Nat.mod_eq_of_lt (by rw [hW]; omega)
      rw [hpW, if_neg (by omega), if_neg (by have := tz64_lt (p - 1) (by omega) (by omega); omega)]
      obtain ⟨q, hq⟩ := oddPart_some (p + 1) (p / 2) (by omega) (by omega)
      rw [hq]
      simp only []
      -- Euler: n is a square, so some k0 < p succeeds
      have hsq := isSquare_of_pow_eq_one hn0 he
      obtain ⟨k0, hk1, hk2, hk3⟩ := ts_exists (n % p) (q / 2 + 1) (by rwa [Nat.mod_mod]) hsq
      exact tsLoop_total B (n % p) p (q / 2 + 1) k0 (by omega) hp3 hnp hB hk2 hk3 tsIters 1 hk1
        (by unfold tsIters; omega)
    · rw [if_pos (by simpa using he)]; exact ⟨_, rfl⟩

/-- Together: on that domain `sqrt_mod` returns a root exactly when one exists. -/
theorem sqrt_mod_exact (B n p : Nat) (hp : p.Prime) (hB : (p - 1) * (p - 1) < B)
    (hdom : p % 4 = 3 ∨ p < 2 ^ 24) :
    (∃ r, sqrtMod B n p = some (some r) ∧ r < p ∧ r * r % p = n % p) ∨
    (sqrtMod B n p = some none ∧ ¬ ∃ x, x * x % p = n % p) := by
  obtain ⟨res, h⟩ := sqrt_mod_no_panic B n p hp hB hdom
  cases res with
  | some r => exact Or.inl ⟨r, h, sqrt_mod_sound B n p r hp h⟩
  | none => exact Or.inr ⟨h, sqrt_mod_none B n p hp h⟩

/-- the two instances the property quantifies over. `u64`: every prime below `2^24` (the
factor-base range), every `n`. -/
theorem sqrt_mod_u64_factor_base (n p : Nat) (hp : p.Prime) (hp24 : p < 2 ^ 24) :
    (∃ r, sqrtMod (2 ^ 64) n p = some (some r) ∧ r < p ∧ r * r % p = n % p) ∨
    (sqrtMod (2 ^ 64) n p = some none ∧ ¬ ∃ x, x * x % p = n % p) := by
  apply sqrt_mod_exact _ n p hp _ (Or.inr hp24)
  have h0 := hp.pos
  calc (p - 1) * (p - 1) < 2 ^ 24 * 2 ^ 24 := Nat.mul_lt_mul'' (by omega) (by omega)
    _ < 2 ^ 64 := by norm_num

/-- `Uint` (1024 bits): every multiword prime `p ≡ 3 (mod 4)` below `2^512`, every `n`. -/
theorem sqrt_mod_uint_3mod4 (n p : Nat) (hp : p.Prime) (h34 : p % 4 = 3) (hp512 : p < 2 ^ 512) :
    (∃ r, sqrtMod (2 ^ 1024) n p = some (some r) ∧ r < p ∧ r * r % p = n % p) ∨
    (sqrtMod (2 ^ 1024) n p = some none ∧ ¬ ∃ x, x * x % p = n % p) := by
  apply sqrt_mod_exact _ n p hp _ (Or.inl h34)
  have h0 := hp.pos
  calc (p - 1) * (p - 1) < 2 ^ 512 * 2 ^ 512 := Nat.mul_lt_mul'' (by omega) (by omega)
    _ = 2 ^ 1024 := by rw [← Nat.pow_add]

/-- the documented assertion: a prime `p ≡ 1 (mod 2^24)` makes `sqrt_mod` panic on residues -/
example : sqrtMod (2 ^ 64) 2 167772161 = none := by decide +kernel

example : sqrtMod (2 ^ 64) 2 7 = some (some 4) ∧ sqrtMod (2 ^ 64) 3 7 = some none ∧
    sqrtMod (2 ^ 64) 5 41 = some (some 13) := by decide +kernel

/-- `inv_mod64(n, p)` on the whole `u64 × u64` domain with `p > 0` (after the repair dd3553b the
extended gcd runs on `i128`; `num_integer`'s loop is modelled step by step): no `i128` overflow,
the `assert!(x >= 0)` holds, `Some(r)` with `r < p`, `n·r ≡ 1 (mod p)` exactly when
`gcd(n, p) = 1`, `None` otherwise. -/
theorem inv_mod64_spec (n p : Nat) (hn : n < 2 ^ 64) (hp : p < 2 ^ 64) (hp0 : 0 < p) :
    (Nat.gcd n p = 1 → ∃ r, invMod64 n p = some (some r) ∧ r < p ∧ n * r % p = 1 % p) ∧
    (Nat.gcd n p ≠ 1 → invMod64 n p = some none) :=
  invMod64_spec n p hn hp hp0

example : invMod64 3 18446744073709551557 = some (some 6148914691236517186) ∧
    invMod64 18446744073709551615 7 = some (some 1) ∧ invMod64 6 9 = some none := by decide +kernel

/-- A fact about the *specification function* `nthRoot` (a bisection defined in
Ymq/Model/Arith.lean), not about code: it is the floor of the k-th root. The library routines it
stands for (`num_integer::Roots::{nth_root, sqrt}` for `u64`, the `bnum` instance for `Uint`, hence
`arith::isqrt`) are NOT modelled; they are tied to `nthRoot` by the K/O runs only. -/
theorem nth_root_spec (n k : Nat) (hk : 0 < k) :
    (nthRoot n k) ^ k ≤ n ∧ n < (nthRoot n k + 1) ^ k :=
  nthRoot_spec n k hk

/-- Same remark: `isqrt := nthRoot · 2` is the specification function that stands for
`arith::isqrt = num_integer::sqrt`; this is a fact about that function, the library code is tied
to it by K/O only. (`squfof::isqrt`, which lives in the repository, is modelled: next theorem.) -/
theorem isqrt_spec (n : Nat) : isqrt n * isqrt n ≤ n ∧ n < (isqrt n + 1) * (isqrt n + 1) :=
  isqrt_spec' n

/-- `squfof::isqrt`: for *every* seed and every number of allowed iterations, a returned value
is the floor of the square root (termination from the floating-point seed is validated by the
correspondence runs only). -/
theorem squfof_isqrt_spec (fuel n seed r : Nat) (h : squfofIsqrt fuel n seed = some r) :
    r * r ≤ n ∧ n < (r + 1) * (r + 1) :=
  squfofIsqrt_some fuel n seed r h

example : squfofIsqrt 10 18446744073709551615 4294967296 = some 4294967295 := by decide +kernel

/-- `perfect_power` *relative to the floor-root specification function* `nthRoot` (the control flow
of `perfect_power` is modelled, the library `nth_root` it calls is not): `Some((r, k))` means
`r^k = n` with `k ≥ 2`; `None` means that `n` is not an e-th power for any of the exponents
2, 3, 5, 7, 11, 13, 17, 19 the code tries. -/
theorem perfect_power_spec (n : Nat) (res : Option (Nat × Nat)) (h : perfectPower n = some res) :
    match res with
    | some (r, k) => r ^ k = n ∧ 2 ≤ k
    | none => ∀ e ∈ ppExps, ¬ ∃ r, r ^ e = n := by
  have := (ppFuel_spec _ _ _ h).1
  cases res with
  | some rk => exact this
  | none => exact this

/-- What the recursion on the root guarantees: for `n ≥ 2` the returned root `r` is not itself an
e-th power for any of the tried exponents e ∈ {2, 3, 5, 7, 11, 13, 17, 19} (so `perfect_power(r)`
would answer `None`, and `k` collects every tried prime exponent that can be split off, e.g.
`6669042837601 ↦ (1607, 4)`, not `(2582449, 2)`). Nothing is claimed about exponents with all
prime factors above 19 (`2^46 ↦ (2^23, 2)`). For `n ∈ {0, 1}` the answer is `(n, 2)`.
Relative to the floor-root specification function `nthRoot`, like `perfect_power_spec`. -/
theorem perfect_power_root_primitive (n r k : Nat) (h : perfectPower n = some (some (r, k)))
    (hn : 2 ≤ n) : ∀ e ∈ ppExps, ¬ ∃ s, s ^ e = r :=
  (ppFuel_spec _ n _ h).2 hn r k rfl

example : perfectPower (2 ^ 46) = some (some (2 ^ 23, 2)) ∧ perfectPower (2 ^ 23) = some none ∧
    perfectPower 0 = some (some (0, 2)) := by decide +kernel

/-- Relative to `nthRoot` again: `perfect_power` terminates (recursion depth ≤ n) and its exponent
product never overflows `u32`, for every argument of the widest type used (`n < 2^1024`). After the repair 78b984c this
includes `n = 0` and `n = 1` (before it the recursion was unbounded there). -/
theorem perfect_power_no_panic (n : Nat) (hn : n < 2 ^ 1024) : ∃ res, perfectPower n = some res :=
  ppFuel_total (n + 1) n (by omega) hn

example : perfectPower 6669042837601 = some (some (1607, 4)) ∧ perfectPower 2 = some none ∧
    perfectPower 1 = some (some (1, 2)) := by decide +kernel

end Ymq.C08
