/-
C14, part "small" — the 64x64 bit-matrix core (`SmallMat`) that drives block Lanczos.
Property theorems, with the predicate `WF` of their hypotheses (helper lemmas: Ymq/Lemmas/Gf2Small*.lean).

Reading guide. A `SmallMat` is the list `M` of its `n` rows, each a word (`Nat`) whose bit `j` is the
entry `(i, j)`; the Rust code has `n = LSIZE = 64` and every theorem below is proved for ALL sizes `n`
(instantiate `n := 64`; small sizes are used for the non-vacuity examples). `WF n M`: `n` rows, each
below `2^n` (what 64 `u64` words are). `dbg = true` is the checked profile (`debug_assert!` active),
`dbg = false` the release profile. `f n dbg M = some r` means "the Rust routine returns `r` without
reaching any panic site of that profile"; `none` = panic. `toMat n M` is the matrix over `ZMod 2`
(Mathlib), `vec n w` a word as a vector; ranks are Mathlib's `Matrix.rank`.
The theorems are about the models Ymq/Model/Gf2Small.lean (tied to the code by the K stream `sm_*`/`smr_*`),
Ymq/Model/Gf2Genblock.lean (`genblock`) and Ymq/Model/Gf2Lanczos.lean (the main loop of `kernel_lanczos`).
-/
import Ymq.Lemmas.Gf2SmallCallsite
import Ymq.Lemmas.Gf2SmallInverse
import Ymq.Lemmas.Gf2SmallVRun
import Ymq.Props.C14

namespace Ymq.C14Small
open Ymq.Gf2Small
open scoped Matrix

/-- what 64 `u64` words are, for a general size -/
def WF (n : Nat) (M : Mat) : Prop := M.length = n ∧ ∀ k, k < n → row M k < 2 ^ n

/-- `SmallMat::rank` never panics (the `debug_assert!(rank == mask.count_ones())` holds, the shift
`1 << idx` is in range) and returns `(rk, mask)` where `mask` has exactly `rk` bits, all below `n`;
`rk` is the rank of the matrix (Mathlib `Matrix.rank` over `ZMod 2`); the ORIGINAL rows selected by
`mask` are linearly independent and span the row space (a basis of the row space).
Which basis: `mask` collects `orig_idx` of the pivot rows of the elimination by increasing column
(pivot = first row, in the CURRENT order after the swaps, whose lowest set bit is the column); it is
NOT always the lexicographically first independent set of rows (`rank_not_greedy`). -/
theorem rank_spec (n : Nat) (dbg : Bool) (M : Mat) (hM : WF n M) :
    ∃ rk mask, rank n dbg M = some (rk, mask) ∧ rk ≤ n ∧ mask < 2 ^ n ∧ popcount n mask = rk ∧
      (toMat n M).rank = rk ∧
      LinearIndependent (ZMod 2) (fun t : {t : Fin n // mask.testBit t = true} => toMat n M t.1) ∧
      Submodule.span (ZMod 2) (Set.range fun t : {t : Fin n // mask.testBit t = true} => toMat n M t.1) =
        Submodule.span (ZMod 2) (Set.range (toMat n M).row) := by
  obtain ⟨rk, mask, hr, hF⟩ := rank_spec_aux dbg hM.2
  refine ⟨rk, mask, hr, hF.rk_le, hF.maskLt, hF.pc, hF.matrix_rank, hF.independent, ?_⟩
  rw [← selSpan_eq_range, hF.sel, spanOf_row_eq]

/-- the answer of `rank` does not depend on the profile -/
theorem rank_profile_independent (n : Nat) (M : Mat) (hM : WF n M) : rank n true M = rank n false M := by
  obtain ⟨rk, mask, hr, hF⟩ := rank_spec_aux true hM.2
  rw [hr]
  unfold rank at hr ⊢
  cases hf : (List.range n).foldlM (rankCol n) (rankInit n M) with
  | none => rw [hf] at hr; cases hr
  | some st =>
    rw [hf] at hr
    simp only [Bool.false_and, Bool.false_eq_true, if_false]
    simp only [] at hr
    by_cases hc : (true && st.rk != popcount n st.mask) = true
    · rw [if_pos hc] at hr; cases hr
    · rw [if_neg hc] at hr; exact hr.symm

/-- soundness for every size `n` (no bound from the 256-entry index array): every value returned
by `pseudoinverse` on its documented domain is the inverse on `S`; see `pseudoinverse_spec` for the
total statement. -/
theorem pseudoinverse_sound (n : Nat) (dbg : Bool) (T : Mat) (hT : WF n T) (rk S : Nat)
    (hr : rank n dbg T = some (rk, S)) (hD : Supported n T S) (W : Mat)
    (h : pseudoinverse n dbg T = some W) :
    W.length = n ∧ (∀ k, k < n → row W k < 2 ^ n) ∧ Supported n W S ∧
    toMat n W * toMat n T = toMat n (maskedId n S) := by
  obtain ⟨W', hW', hp⟩ := pseudoinverse_eq dbg hT.2 hr hD
  rw [hp] at h
  split at h
  · cases h; exact hW'
  · cases h

/-- `SmallMat::inverse` never panics; it returns `Some(W)` with `W·M = M·W = 1` when `M` is
invertible and `None` exactly when it is not (`IsUnit` of the matrix over `ZMod 2`). -/
theorem inverse_spec (n : Nat) (dbg : Bool) (M : Mat) (hM : WF n M) :
    (∃ W, inverse n dbg M = some (some W) ∧ toMat n W * toMat n M = 1 ∧ toMat n M * toMat n W = 1) ∨
    (inverse n dbg M = some none ∧ ¬ IsUnit (toMat n M)) :=
  Gf2Small.inverse_spec hM.2

/-- `inverse` returns `Some` iff the matrix is invertible -/
theorem inverse_some_iff (n : Nat) (dbg : Bool) (M : Mat) (hM : WF n M) :
    (∃ W, inverse n dbg M = some (some W)) ↔ IsUnit (toMat n M) := by
  rcases inverse_spec n dbg M hM with ⟨W, hW, h1, h2⟩ | ⟨hN, hU⟩
  · exact ⟨fun _ => ⟨⟨toMat n M, toMat n W, h2, h1⟩, rfl⟩, fun _ => ⟨W, hW⟩⟩
  · constructor
    · rintro ⟨W, hW⟩; rw [hN] at hW; cases hW
    · intro h; exact absurd h hU

/-- the answer of `inverse` does not depend on the profile (no `debug_assert!` can fail) -/
theorem inverse_profile_independent (n : Nat) (M : Mat) (hM : WF n M) :
    inverse n true M = inverse n false M :=
  inverse_dbg_irrelevant hM.2

/-- `transpose`, entrywise, and the result consists of `n` words of `n` bits -/
theorem transpose_spec (n : Nat) (M : Mat) :
    (transpose n M).length = n ∧ ∀ i, i < n → row (transpose n M) i < 2 ^ n ∧
      ∀ j, j < n → (row (transpose n M) i).testBit j = (row M j).testBit i := by
  refine ⟨length_transpose n M, fun i hi => ⟨row_transpose_lt M i, fun j hj => ?_⟩⟩
  rw [testBit_transpose M hi j]; simp [hj]

/-- `mask` never fails its `debug_assert!(!self.symmetric() || m.symmetric())` (masking keeps
symmetry) and keeps exactly the entries `(i, j)` with `i` and `j` in the mask -/
theorem mask_spec (n : Nat) (dbg : Bool) (M : Mat) (mk : Nat) :
    ∃ R, mask n dbg M mk = some R ∧ R.length = n ∧
      (∀ i, i < n → ∀ j, (row R i).testBit j = (mk.testBit i && (mk.testBit j && (row M i).testBit j))) ∧
      (symmetric n M = true → symmetric n R = true) :=
  ⟨maskRows n M mk, mask_eq n dbg M mk, length_maskRows n M mk,
    fun _ hi j => testBit_maskRows M mk hi j, fun h => symmetric_maskRows mk h⟩

/-- `reverse` (rows and columns taken from the other end), `reverse_lane`, both involutive -/
theorem reverse_spec (n : Nat) (M : Mat) (hM : WF n M) :
    WF n (reverse n M) ∧ reverse n (reverse n M) = M ∧
    (∀ i, i < n → ∀ j, j < n → (row (reverse n M) i).testBit j = (row M (n - 1 - i)).testBit (n - 1 - j)) ∧
    (∀ l j, (reverseLane n l).testBit j = (decide (j < n) && l.testBit (n - 1 - j))) := by
  refine ⟨⟨length_reverse n M, fun i hi => by rw [row_reverse M hi]; exact reverseLane_lt n _⟩,
    reverse_reverse hM.1 hM.2, fun i hi j hj => ?_, fun l j => testBit_reverseLane n l j⟩
  rw [testBit_reverse M hi j]; simp [hj]

/-- `symmetric` decides symmetry -/
theorem symmetric_spec (n : Nat) (M : Mat) :
    symmetric n M = true ↔ ∀ i j, i < n → j < n → (row M i).testBit j = (row M j).testBit i :=
  symmetric_iff n M

/-- `identity` is the identity matrix -/
theorem identity_spec (n : Nat) : (identity n).length = n ∧ toMat n (identity n) = 1 := by
  refine ⟨length_identity n, ?_⟩
  funext i
  show vec n (row (identity n) i) = _
  rw [row_identity i.2, vec_shiftLeft_one i.2]
  funext j
  simp [Matrix.one_apply, Pi.single_apply, eq_comm]

/-- `SmallMat::pseudoinverse` on its documented domain ("null coefficients outside of a set of
indices I"): if `T` is null outside `S × S` where `S` is the mask that `rank` selects for `T` (hence
`|S| = rank T` and the `S × S` block is invertible; symmetry is NOT needed), NO panic site is reached in
either profile — the `.unwrap()` on `position`, the `lz` assertions, `r == 1 << i`, `i < j`, both
`minv.rank() == self.rank()`, the slice `idx[..rk]` — and the value returned is the matrix `W`
supported on `S × S` (rows outside `S` null, rows inside `S`) with `W · T = identity on S`
(`maskedId n S`: row `s` is `1 << s` for `s ∈ S`, null otherwise): Montgomery's `W = S (Sᵗ T S)⁻¹ Sᵗ`.
`n ≤ 256`: `idx` is a 256-entry array (the code has `n = 64`). -/
theorem pseudoinverse_spec (n : Nat) (dbg : Bool) (T : Mat) (hT : WF n T) (hn : n ≤ 256) (rk S : Nat)
    (hr : rank n dbg T = some (rk, S)) (hD : Supported n T S) :
    ∃ W, pseudoinverse n dbg T = some W ∧ W.length = n ∧ (∀ k, k < n → row W k < 2 ^ n) ∧
      Supported n W S ∧ toMat n W * toMat n T = toMat n (maskedId n S) :=
  pseudoinverse_total dbg hn hT.2 hr hD

theorem pseudoinverse_no_panic (n : Nat) (dbg : Bool) (T : Mat) (hT : WF n T) (hn : n ≤ 256) (rk S : Nat)
    (hr : rank n dbg T = some (rk, S)) (hD : Supported n T S) : ∃ W, pseudoinverse n dbg T = some W := by
  obtain ⟨W, hW, _⟩ := pseudoinverse_spec n dbg T hT hn rk S hr hD
  exact ⟨W, hW⟩

/-- `rank_reverse` = `rank` of the reversed matrix with the mask read from the other end: it never
panics and returns `(rk, S)` with `popcount S = rk = Matrix.rank M` (of `M` itself), the rows of `M`
selected by `S` linearly independent; `S` reversed is the selection `rank` makes in `reverse n M`
("the same selection taken from the other end"). -/
theorem rank_reverse_spec (n : Nat) (dbg : Bool) (M : Mat) (hM : WF n M) :
    ∃ rk S, rankReverse n dbg M = some (rk, S) ∧ S < 2 ^ n ∧ popcount n S = rk ∧
      (toMat n M).rank = rk ∧
      LinearIndependent (ZMod 2) (fun t : {t : Fin n // S.testBit t = true} => toMat n M t.1) ∧
      rank n dbg (reverse n M) = some (rk, reverseLane n S) := by
  obtain ⟨rk, S, hr, hS⟩ := rankReverse_selected dbg M
  refine ⟨rk, S, hr, hS.lt, hS.pc, hS.rank, hS.indep, ?_⟩
  unfold rankReverse at hr
  obtain ⟨rk', mk', hr', hF⟩ := rank_spec_aux dbg (M := reverse n M) (fun k hk => reverse_lt M hk)
  rw [hr'] at hr
  injection hr with hr
  injection hr with h1 h2
  subst h1; subst h2
  rw [hr', reverseLane_reverseLane hF.maskLt]

/-- Montgomery's lemma at the place where the code asserts it (`submatrix()`:
`debug_assert!(m.rank() == (r, mask))`): for a SYMMETRIC matrix `G`, masking by the selection of `rank`
gives a matrix whose own selection is the same — the principal submatrix on a maximal independent set
of rows of a symmetric matrix is invertible (`montgomery_masked_independent`, proved for symmetric
matrices over any field; the code's non-greedy choice does not matter, any `rank G` independent rows
do). `submatrix` therefore never panics on symmetric input. -/
theorem submatrix_spec (n : Nat) (dbg : Bool) (G : Mat) (hG : WF n G) (hsym : symmetric n G = true) :
    ∃ rk S, rank n dbg G = some (rk, S) ∧ rank n dbg (maskRows n G S) = some (rk, S) ∧
      submatrix n dbg G = some (maskRows n G S) := by
  obtain ⟨rk, S, hr, hS⟩ := rank_selected dbg hG.2
  have hm := rank_masked_of_symmetric dbg hG.2 hsym hS
  refine ⟨rk, S, hr, hm, ?_⟩
  unfold submatrix
  rw [hsym, hr]
  simp only [Bool.not_true, Bool.and_false, Bool.false_eq_true, if_false, mask_eq,
    symmetric_maskRows S hsym, hm, bne_self_eq_false]

/-- the call site of `kernel_lanczos` (`pipeline`: `gram.rank()` or `gram.rank_reverse()`,
`gram.mask(mask).pseudoinverse()`, `debug_assert!(ginv.rank() == (rk, mask))`) on a SYMMETRIC matrix
(what the code passes: the Gram matrix `bv · bv`): no panic site is reached, in either profile and either
direction; `rk = rank G`, `S` has `rk` bits and selects independent rows; the masked matrix
`T = G.mask(S)` is in the domain of `pseudoinverse` (its own selection is `(rk, S)`); `W` is supported on
`S × S`, `W·T` = identity on `S`, `W·T·W = W`. -/
theorem pipeline_spec (n : Nat) (dbg rev : Bool) (G : Mat) (hG : WF n G) (hn : n ≤ 256)
    (hsym : symmetric n G = true) :
    ∃ rk S W, Ymq.Gf2Genblock.pipeline n dbg rev G = some (rk, S, W) ∧
      (toMat n G).rank = rk ∧ popcount n S = rk ∧
      LinearIndependent (ZMod 2) (fun t : {t : Fin n // S.testBit t = true} => toMat n G t.1) ∧
      rank n dbg (maskRows n G S) = some (rk, S) ∧ Supported n W S ∧
      toMat n W * toMat n (maskRows n G S) = toMat n (maskedId n S) ∧
      toMat n W * toMat n (maskRows n G S) * toMat n W = toMat n W := by
  obtain ⟨rk, S, W, hp, hS, hm, hl, hlt, hSup, hmul⟩ := pipeline_total dbg rev hn hG.2 hsym
  refine ⟨rk, S, W, hp, hS.rank, hS.pc, hS.indep, hm, hSup, hmul, ?_⟩
  rw [hmul]
  funext i
  rw [Matrix.mul_apply_eq_vecMul]
  show vec n (row (maskedId n S) i) ᵥ* toMat n W = vec n (row W i)
  rw [row_maskedId i.2]
  cases hb : S.testBit i with
  | true => simp only [if_true]; exact vecMul_unit W i.2
  | false =>
    simp only [Bool.false_eq_true, if_false]
    rw [hSup.rowsZero i i.2 hb, vec_zero, Matrix.zero_vecMul]

open Ymq.Gf2Genblock in
/-- Exact exit condition of the model of `genblock` on ANY stream of drawn blocks: when every
drawn block has a Gram matrix `(B·A·y)ᵗ(B·A·y)` of rank below 64 the loop refuses them all (the real
loop has no other exit: it draws again, forever if no admissible block exists). -/
theorem genblock_never_ends (dbg : Bool) (b : Ymq.Gf2.SparseOpt) (ys : List (List Nat))
    (h : ∀ y, y ∈ ys → ∃ g rk mk, gramOf b y = some g ∧ rank 64 dbg g = some (rk, mk) ∧ rk ≠ 64) :
    genblock dbg b ys = .exhausted ys.length := by
  have key : ∀ (ys : List (List Nat)) (k : Nat),
      (∀ y, y ∈ ys → ∃ g rk mk, gramOf b y = some g ∧ rank 64 dbg g = some (rk, mk) ∧ rk ≠ 64) →
      genblockFrom dbg b k ys = .exhausted (k + ys.length) := by
    intro ys
    induction ys with
    | nil => intro k _; rfl
    | cons y ys ih =>
      intro k h
      obtain ⟨g, rk, mk, hg, hr, hne⟩ := h y (by simp)
      unfold genblockFrom
      simp only [hg, hr, hne, if_false]
      rw [ih (k + 1) (fun y' hy' => h y' (by simp [hy'])), List.length_cons]
      congr 1; omega
  have := key ys 0 h
  rwa [Nat.zero_add] at this

open Ymq.Gf2Genblock in
/-- conversely a stream whose first block has a Gram matrix of rank 64 returns that block at once -/
theorem genblock_accepts (dbg : Bool) (b : Ymq.Gf2.SparseOpt) (y : List Nat) (ys : List (List Nat))
    (g : Mat) (mk : Nat) (hg : gramOf b y = some g) (hr : rank 64 dbg g = some (64, mk)) :
    genblock dbg b (y :: ys) = .accepted 0 y := by
  unfold genblock genblockFrom
  simp only [hg, hr, if_true]

open Ymq.Gf2Genblock Ymq.Gf2 in
/-- The hang rule. The Gram matrix tested by `genblock` is `Pᵗ·P` with
`P = B·mul_aab_opt(B, y)`, so its rank is at most `rank B` (`gram_rank_le_cube` with `rank_cube_le`, Mathlib `Matrix.rank` of
the dense matrix `sparseMat k cols`, repeated indices cancelling in pairs): when `rank B < 64` the model
of `genblock` refuses EVERY stream of blocks (one 64-bit word per column), without panic — the real loop
never ends. Corollary-level statement; the exact rule is `genblock_never_ends_hang_rule`. -/
theorem genblock_never_ends_low_rank (dbg : Bool) (k : Nat) (cols : List (List Nat)) (ys : List (List Nat))
    (hk64 : 64 ≤ k) (hk : k ≤ 2 ^ 32) (hn : cols.length ≤ 2 ^ 32) (hwf : ∀ col ∈ cols, ∀ a ∈ col, a < k)
    (hrank : (sparseMat k cols).rank < 64)
    (hys : ∀ y ∈ ys, y.length = cols.length ∧ ∀ w ∈ y, w < 2 ^ 64) :
    genblock dbg (qsOptimize k cols) ys = .exhausted ys.length := by
  apply genblock_never_ends
  exact genblock_refuses_all_cube dbg k cols ys hk64 hk hn hwf
    (Nat.lt_of_le_of_lt (rank_cube_le k cols) hrank) hys

open Ymq.Gf2Genblock Ymq.Gf2 in
/-- `mul_aab_opt(B, y)` of the model (dense 64-row part `a.block * tmp[..64]` through `comb`, the other
rows through the transposed coordinate list) is the matrix product `Bᵗ·(B·y)`; `sparseMat k cols` is the
dense matrix of the sparse columns (repeated row indices cancel in pairs), `cellMat` a block as a
matrix with 64 columns. -/
theorem mul_aab_opt_spec (k : Nat) (cols : List (List Nat)) (y ay : List Nat)
    (hk : k ≤ 2 ^ 32) (hn : cols.length ≤ 2 ^ 32) (hwf : ∀ col ∈ cols, ∀ a ∈ col, a < k)
    (h : mulAabOpt (qsOptimize k cols) y = some ay) :
    ay.length = cols.length ∧
    cellMat ay.toArray cols.length =
      (sparseMat k cols)ᵀ * (sparseMat k cols * cellMat y.toArray cols.length) :=
  cellMat_mulAabOpt k cols y ay hk hn hwf h

open Ymq.Gf2Genblock Ymq.Gf2 in
/-- the Gram matrix tested by `genblock` is `yᵗ (BᵗB)³ y` (`gramA = BᵗB`), hence of rank at most
`rank (BᵗB)³` -/
theorem gram_rank_le_cube (k : Nat) (cols : List (List Nat)) (y g : List Nat)
    (hk : k ≤ 2 ^ 32) (hn : cols.length ≤ 2 ^ 32) (hwf : ∀ col ∈ cols, ∀ a ∈ col, a < k)
    (h : gramOf (qsOptimize k cols) y = some g) :
    toMat 64 g = (cellMat y.toArray cols.length)ᵀ *
      ((gramA k cols * gramA k cols * gramA k cols) * cellMat y.toArray cols.length) ∧
    (toMat 64 g).rank ≤ (gramA k cols * gramA k cols * gramA k cols).rank :=
  ⟨gram_eq_cube k cols y g hk hn hwf h, Gf2Small.gram_rank_le_cube k cols y g hk hn hwf h⟩

open Ymq.Gf2Genblock Ymq.Gf2 in
/-- The oracle's EXACT hang rule inside the model: when `rank (BᵗB)³ < 64` the model of `genblock`
refuses every block of EVERY stream (one 64-bit word per column), without panic: no admissible block
exists and the real loop, which has no other exit, never ends. (The converse — an admissible block
exists when `rank (BᵗB)³ ≥ 64` — is the classification of symmetric bilinear forms over GF(2); it is
not proved.) -/
theorem genblock_never_ends_hang_rule (dbg : Bool) (k : Nat) (cols : List (List Nat)) (ys : List (List Nat))
    (hk64 : 64 ≤ k) (hk : k ≤ 2 ^ 32) (hn : cols.length ≤ 2 ^ 32) (hwf : ∀ col ∈ cols, ∀ a ∈ col, a < k)
    (hrank : (gramA k cols * gramA k cols * gramA k cols).rank < 64)
    (hys : ∀ y ∈ ys, y.length = cols.length ∧ ∀ w ∈ y, w < 2 ^ 64) :
    genblock dbg (qsOptimize k cols) ys = .exhausted ys.length := by
  apply genblock_never_ends
  exact genblock_refuses_all_cube dbg k cols ys hk64 hk hn hwf hrank hys

open Ymq.Gf2Genblock Ymq.Gf2 in
/-- concrete witness: the 64 x 2 matrix with two columns `e₀` (any matrix with fewer than 64 columns
has rank below 64): no admissible block exists, the loop can never end, for EVERY random stream -/
theorem genblock_never_ends_witness (dbg : Bool) (ys : List (List Nat))
    (hys : ∀ y ∈ ys, y.length = 2 ∧ ∀ w ∈ y, w < 2 ^ 64) :
    genblock dbg (qsOptimize 64 [[0], [0]]) ys = .exhausted ys.length := by
  apply genblock_never_ends_low_rank dbg 64 [[0], [0]] ys (by decide) (by decide) (by decide)
    (by decide) ?_ hys
  have := Matrix.rank_le_width (sparseMat 64 [[0], [0]])
  simp only [List.length_cons, List.length_nil] at this
  omega

open Ymq.Gf2Lanczos Ymq.Gf2 in
/-- One iteration of the main loop of `kernel_lanczos` (`lanczosStep`: `next = A·W_last ^ V_last`, the
projections on the earlier blocks and their purge, the Gram matrix, `rank`/`rank_reverse`, the exit on
`rk == 0`, mask, pseudo-inverse, update of `Y`) reaches NO panic site of the release profile on a
well-formed state, and the state it leaves is well formed again (so this holds for every iteration of a
run). Well formed (`WFL`): the four vectors `vs, ws, invgs, masks` have the same length, every block of
`ws` is purged or has one 64-bit word per column, the last blocks of `vs`, `ws` and `Y`, `A·Y₀` have one
64-bit word per column; the matrix has row indices `< k`, `64 ≤ k ≤ 2^32` rows, at most `2^32` columns.
The proof uses `pipeline`'s ingredients: the Gram matrix `(B·next)·(B·next)` is symmetric
(`symmetric_blockDot_self`), so Montgomery's lemma puts its masked form into the domain of `pseudoinverse`.
In the CHECKED profile the additional `debug_assert!`s of the loop are Montgomery's A-orthogonality
invariants themselves (`lanczos_step_checked_orthogonal`); that they never fail is `lanczos_loop_no_panic`. -/
theorem lanczos_step_no_panic_release (k : Nat) (cols : List (List Nat)) (ay : List Nat) (st : LState)
    (hM : MatOK k cols) (hay : BlockOK cols.length ay) (h : WFL cols.length st) :
    (∃ st', lanczosStep false (qsOptimize k cols) ay st = .finished st' ∧ st'.y = st.y) ∨
    (∃ st' mk, lanczosStep false (qsOptimize k cols) ay st = .continue st' mk ∧ WFL cols.length st') :=
  lanczosStep_release_ok hM hay h

open Ymq.Gf2Lanczos Ymq.Gf2 in
/-- the state built from the block returned by `genblock` (lines 141-158: `ay = A·Y`, inverse of its Gram
matrix, first reduction of `Y`) is well formed whenever the initial computation returns, in either
profile: with `lanczos_step_no_panic_release` every iteration of a release run is free of panics. (That
the initial `g.inverse().unwrap()` succeeds is `genblock`'s acceptance test, rank 64, with `inverse_some_iff`.) -/
theorem lanczos_init_well_formed (k : Nat) (cols : List (List Nat)) (dbg : Bool) (y0 ay : List Nat) (st : LState)
    (hM : MatOK k cols) (hy0 : BlockOK cols.length y0)
    (h : lanczosInit dbg (qsOptimize k cols) y0 = some (st, ay)) :
    WFL cols.length st ∧ BlockOK cols.length ay :=
  lanczosInit_wf hM dbg hy0 h

open Ymq.Gf2Lanczos Ymq.Gf2 in
/-- Montgomery's invariant as the code tests it, `AOrth b w x`: `&w * &mul_aab(b, &x) == SmallMat::default()`,
i.e. `wᵗ·A·x = 0` with `A = BᵗB`. When an iteration of the CHECKED profile returns (`.continue`), the new
block `W` (last of `ws`: the direction masked by the selection) is A-orthogonal to the updated `Y`, the
new pseudo-inverse (last of `invgs`) has the rank selection `(rk, mask)` of the Gram matrix with `rk ≠ 0`,
and the pushed mask is `!mask`. (Extraction of the modelled `debug_assert!`s; the projections' assertions
`(A·W_j)ᵗ·next = 0` are modelled in `projStep` likewise. That they hold on every reachable state — the
classical induction of block Lanczos — is `lanczos_checked_assertions_hold`.) -/
theorem lanczos_step_checked_orthogonal (b : SparseOpt) (ay : List Nat) (st st' : LState) (mk : Nat)
    (h : lanczosStep true b ay st = .continue st' mk) :
    AOrth b (st'.ws.getLast?.getD []) st'.y ∧
    (∃ rk, rk ≠ 0 ∧ rank 64 true (st'.invgs.getLast?.getD []) = some (rk, mk)) ∧
    st'.masks.getLast? = some (M64 ^^^ mk) := by
  unfold lanczosStep at h
  split at h
  · cases h
  split at h
  rotate_left
  · cases h
  split at h
  · cases h
  split at h
  · cases h
  simp only [] at h
  split at h
  · cases h
  split at h
  · cases h
  split at h
  · cases h
  split at h
  · cases h
  split at h
  · cases h
  rename_i rk mk' hrank
  split at h
  · cases h
  rename_i hrk
  split at h
  · cases h
  split at h
  · cases h
  rename_i ginv hpinv
  split at h
  · cases h
  rename_i hginv
  split at h
  · cases h
  split at h
  · cases h
  rename_i y' hy'
  split at h
  · simp at h
  rename_i ayy hm
  split at h
  · cases h
  rename_i horth
  injection h with h1 h2
  subst h1; subst h2
  refine ⟨⟨ayy, hm, ?_⟩, ⟨rk, hrk, ?_⟩, by simp⟩
  · simpa using horth
  · simpa using hginv

open Ymq.Gf2Lanczos Ymq.Gf2 in
/-- The INDUCTIVE STEP of block Lanczos on the CHECKED model (Montgomery 1995), both the no-panic
statement and the classical invariant. `LInv k cols Y0 st hist Ss` (`Q x y = xᵗ·A·y`, `A = BᵗB`, `hist` =
every block `W_j` ever selected, purged or not, `Ss` their masks, `Y0` the block of `genblock`):
the state is well formed; every kept `ws[j]` is `hist[j]`, is masked by `S_j`, and `invgs[j]` is supported
on `S_j × S_j` with `invgs[j]·(W_jᵗ A W_j) = 1` on `S_j` (`KeptOK`: `W_jᵗ A W_j` invertible on its mask);
`W_jᵗ A W_l = 0` for all `j ≠ l` of the history (`orth`); `Y` is A-orthogonal to every selected block
(`yAll`), and every block A-orthogonal to the whole history is A-orthogonal to `Y + Y0` (`yOrth`).
From such a state, and given the three-term property of this iteration (`h3`: the blocks that are no
longer projected — purged earlier, or consumed now, `mask == 0` — are A-orthogonal to the direction
`A·W_last ^ V_last`), one iteration of the checked profile reaches NO panic site: every
`debug_assert!` of the loop holds — `ws[j]·av == 0` at a purge, `(A·W_j)ᵗ·next == 0` after each
projection, `ginv.rank() == (rk, mask)`, `W·A·Y == 0` — and the invariant holds again for the new state
with the new block appended to the history.
The three-term property `h3` is a consequence of the extended invariant
(`lanczos_three_term_of_extended_invariant`); the unconditional loop-level statement is
`lanczos_loop_no_panic`. -/
theorem lanczos_step_no_panic_checked (k : Nat) (cols : List (List Nat)) (Y0 ay : List Nat) (st : LState)
    (hist : List (List Nat)) (Ss : List Nat) (hM : MatOK k cols)
    (hay : Ymq.Gf2Genblock.mulAabOpt (qsOptimize k cols) Y0 = some ay) (hayOK : BlockOK cols.length ay)
    (hInv : LInv k cols Y0 st hist Ss)
    (h3 : ∀ next0, Direction k cols st next0 → ∀ j, j < st.ws.length →
      ¬ Projected st.ws st.masks st.ws.length j → Q k cols (hist.getD j []) next0 = 0) :
    (∃ st', lanczosStep true (qsOptimize k cols) ay st = .finished st' ∧ st'.y = st.y ∧
      ∀ w ∈ st'.ws, w.isEmpty = false → ∃ j : Nat, st.ws[j]? = some w) ∨
    (∃ st' mk w, lanczosStep true (qsOptimize k cols) ay st = .continue st' mk ∧
      LInv k cols Y0 st' (hist ++ [w]) (Ss ++ [mk])) := by
  rcases lanczosStep_checked_ok hM hay hayOK hInv h3 with h | ⟨st', mk, w, h1, h2, _⟩
  · exact Or.inl h
  · exact Or.inr ⟨st', mk, w, h1, h2⟩

open Ymq.Gf2Lanczos Ymq.Gf2 in
/-- BASE CASE of the invariant: the state built by `lanczosInit` from the block `Y0` of `genblock`
(either profile) satisfies `LInv` with history `[A·Y0]` and mask `!0`, and `ay = A·Y0` -/
theorem lanczos_init_invariant (k : Nat) (cols : List (List Nat)) (dbg : Bool) (Y0 ay : List Nat) (st : LState)
    (hM : MatOK k cols) (hY0 : BlockOK cols.length Y0)
    (h : lanczosInit dbg (qsOptimize k cols) Y0 = some (st, ay)) :
    Ymq.Gf2Genblock.mulAabOpt (qsOptimize k cols) Y0 = some ay ∧ LInv k cols Y0 st [ay] [M64] :=
  lanczosInit_inv hM dbg hY0 h

open Ymq.Gf2Lanczos Ymq.Gf2 in
/-- the classical invariant read off `LInv`: pairwise A-orthogonality of the selected blocks, the Gram
matrix of a kept block inverted on its mask by `invgs[j]` (two-sided: `right_inverse_on_support`), `Y`
A-orthogonal to every selected block -/
theorem lanczos_invariant (k : Nat) (cols : List (List Nat)) (Y0 : List Nat) (st : LState)
    (hist : List (List Nat)) (Ss : List Nat) (hInv : LInv k cols Y0 st hist Ss) :
    (∀ j l, j < st.ws.length → l < st.ws.length → j ≠ l → Q k cols (hist.getD j []) (hist.getD l []) = 0) ∧
    (∀ (j : Nat) (w : List Nat), st.ws[j]? = some w → w.isEmpty = false → w = hist.getD j [] ∧
      ∃ ig, st.invgs[j]? = some ig ∧ toMat 64 ig * Q k cols w w = projS (Ss.getD j 0) ∧
        Q k cols w w * toMat 64 ig = projS (Ss.getD j 0)) ∧
    (∀ j, j < st.ws.length → Q k cols (hist.getD j []) st.y = 0) := by
  refine ⟨hInv.orth, ?_, hInv.yAll⟩
  intro j w hw hne
  obtain ⟨e, ig, hig, hK⟩ := hInv.kept j w hw hne
  exact ⟨e, ig, hig, hK.inv, hK.right_inv⟩

open Ymq.Gf2Lanczos Ymq.Gf2 in
/-- LOOP LEVEL, release profile: from the block `Y0` of `genblock` (one 64-bit word per column) on a
well-formed matrix, when the initial computation returns, the main loop with fuel reaches no panic site:
if `lanczosLoop false` answers `none` it ran out of fuel after `fuel` iterations that all continued
(`IterN`), so every iteration of a release run is panic free. -/
theorem lanczos_loop_no_panic_release (k : Nat) (cols : List (List Nat)) (Y0 ay : List Nat) (st : LState)
    (fuel : Nat) (acc : List (Nat × List Nat × List Nat)) (hM : MatOK k cols) (hY0 : BlockOK cols.length Y0)
    (h : lanczosInit false (qsOptimize k cols) Y0 = some (st, ay))
    (hnone : lanczosLoop false (qsOptimize k cols) ay fuel st acc = none) :
    ∃ st', IterN false (qsOptimize k cols) ay fuel st st' := by
  obtain ⟨hwf, hay⟩ := lanczosInit_wf hM false hY0 h
  exact lanczosLoop_release hM hay fuel st acc hwf hnone

open Ymq.Gf2Lanczos Ymq.Gf2 in
/-- LOOP LEVEL, checked profile, up to the first purge: from the block `Y0` of `genblock`, the checked
loop — every `debug_assert!` of every iteration on A-orthogonality and on the rank, and the assertions
after the loop — reaches no panic site as long as every block of the history is still projected
(`AllProjected`: no block purged or consumed): if `lanczosLoop true` answers `none`, it either ran out of
fuel after `fuel` continuing iterations, or it reached, WITHOUT panic and with the invariant `LInv` still
holding, a state where some block is no longer projected. This is a corollary of the unconditional
`lanczos_loop_no_panic`: with at least one column the first alternative always holds; without columns the
only block is `[]`, which the model reads as purged. -/
theorem lanczos_loop_no_panic_unpurged (k : Nat) (cols : List (List Nat)) (Y0 ay : List Nat) (st : LState)
    (fuel : Nat) (acc : List (Nat × List Nat × List Nat)) (hM : MatOK k cols) (hY0 : BlockOK cols.length Y0)
    (h : lanczosInit true (qsOptimize k cols) Y0 = some (st, ay))
    (hnone : lanczosLoop true (qsOptimize k cols) ay fuel st acc = none) :
    (∃ st', IterN true (qsOptimize k cols) ay fuel st st') ∨
    (∃ n st' hist' Ss', n ≤ fuel ∧ IterN true (qsOptimize k cols) ay n st st' ∧ LInv k cols Y0 st' hist' Ss' ∧
      ¬ AllProjected st') := by
  obtain ⟨hay, hInv⟩ := lanczosInit_inv hM true hY0 h
  have hayOK := (lanczosInit_wf hM true hY0 h).2
  rcases Nat.eq_zero_or_pos cols.length with h0 | hn0
  · -- a matrix without columns: the only block is `[]`, which the model reads as purged
    refine Or.inr ⟨0, st, _, _, Nat.zero_le _, .zero st, hInv, fun hall => ?_⟩
    obtain ⟨ginv, y, rfl⟩ := lanczosInit_shape h
    have := (hall 0 Nat.zero_lt_one).1
    rw [List.length_eq_zero_iff.mp (hayOK.1.trans h0)] at this
    cases this
  · exact Or.inl (lanczosLoop_checked hM hn0 hay hayOK fuel st acc (lanczosInit_reach hM hn0 true hY0 h) hnone)

open Ymq.Gf2Lanczos Ymq.Gf2 in
/-- Montgomery's THREE-TERM PROPERTY from the extended invariant. `VInv` adds the directions `V_m` to the
ghost history: the recurrence `V_{j+1} = A·W_j + V_j + Σ_{l ≤ j} W_l c_l` read against blocks A-orthogonal to
`W_0…W_j` (`recur`), "the vectors of `V_m` selected in one of the blocks `m…i-1` vanish against every block
A-orthogonal to `W_0…W_{i-1}`" (`dd`, with `pc Ss m t = !S_m & … & !S_{t-1}`), `W_lᵗ A V_i = 0` for `l < i`
(`vOrth`), and "a block no longer projected has `!S_{j+1} & … & !S_{i-1} = 0`" (`notProj`: the purge
condition `mask == 0`). Under `LInv` and `VInv` the hypothesis `h3` of `lanczos_step_no_panic_checked`
holds: every block no longer projected is A-orthogonal to the direction `A·W_i ^ V_i`; hence the checked
step reaches no panic site (`lanczosStep_checked_of_VInv`).
A step preserves `VInv` (`VInv_step`, base case `lanczosInit_vinv`): see `lanczos_loop_no_panic`. -/
theorem lanczos_three_term_of_extended_invariant (k : Nat) (cols : List (List Nat)) (Y0 : List Nat) (st : LState)
    (hist vhist : List (List Nat)) (Ss : List Nat) (hM : MatOK k cols) (hInv : LInv k cols Y0 st hist Ss)
    (hV : VInv k cols st hist vhist Ss) :
    ∀ next0, Direction k cols st next0 → ∀ j, j < st.ws.length →
      ¬ Projected st.ws st.masks st.ws.length j → Q k cols (hist.getD j []) next0 = 0 :=
  three_term_of_VInv hM hInv hV

open Ymq.Gf2Lanczos Ymq.Gf2 in
/-- LOOP LEVEL, CHECKED profile, unconditional: from the block `Y0` of `genblock` (one 64-bit word per
column) on a well-formed matrix with at least one column, when the initial computation returns, the
main loop with fuel reaches NO panic site: if `lanczosLoop true` answers `none` it ran out of fuel after
`fuel` iterations that all continued. In particular every `debug_assert!` of every iteration — the
purge assertion `ws[j]·av == 0`, `(A·W_j)ᵗ·next == 0` after each projection, `ginv.rank() == (rk, mask)`,
`W·A·Y == 0` — and the assertions after the loop hold. (Induction over the loop with the invariants
`LInv` and `VInv`: base `lanczos_init_invariant` / `lanczosInit_vinv`, step
`lanczos_step_no_panic_checked` with Montgomery's three-term property
`lanczos_three_term_of_extended_invariant`, preservation `VInv_step`.) -/
theorem lanczos_loop_no_panic (k : Nat) (cols : List (List Nat)) (Y0 ay : List Nat) (st : LState)
    (fuel : Nat) (acc : List (Nat × List Nat × List Nat)) (hM : MatOK k cols) (hn0 : 0 < cols.length)
    (hY0 : BlockOK cols.length Y0) (h : lanczosInit true (qsOptimize k cols) Y0 = some (st, ay))
    (hnone : lanczosLoop true (qsOptimize k cols) ay fuel st acc = none) :
    ∃ st', IterN true (qsOptimize k cols) ay fuel st st' := by
  exact lanczosLoop_checked hM hn0 (lanczosInit_inv hM true hY0 h).1 (lanczosInit_wf hM true hY0 h).2 fuel st acc
    (lanczosInit_reach hM hn0 true hY0 h) hnone

open Ymq.Gf2Lanczos Ymq.Gf2 in
/-- every state reached by a checked run satisfies the classical invariant (`lanczos_invariant`:
pairwise A-orthogonality of all selected blocks, two-sided inverses of the Gram blocks on their masks, `Y`
A-orthogonal to every selected block) and its next iteration does not panic: all assertions hold -/
theorem lanczos_checked_assertions_hold (k : Nat) (cols : List (List Nat)) (Y0 ay : List Nat) (st st' : LState)
    (n : Nat) (hM : MatOK k cols) (hn0 : 0 < cols.length) (hY0 : BlockOK cols.length Y0)
    (h : lanczosInit true (qsOptimize k cols) Y0 = some (st, ay))
    (hit : IterN true (qsOptimize k cols) ay n st st') :
    (∃ hist Ss, LInv k cols Y0 st' hist Ss) ∧ lanczosStep true (qsOptimize k cols) ay st' ≠ .panic := by
  have hay := (lanczosInit_inv hM true hY0 h).1
  have hayOK := (lanczosInit_wf hM true hY0 h).2
  have hR := IterN_reach hM hn0 hay hayOK hit (lanczosInit_reach hM hn0 true hY0 h)
  refine ⟨hR.linv, ?_⟩
  rcases hR.step hM hn0 hay hayOK with ⟨s1, hs, _⟩ | ⟨s1, mk, hs, _⟩
  · rw [hs]; exact fun hh => by cases hh
  · rw [hs]; exact fun hh => by cases hh

open Ymq.Gf2Lanczos Ymq.Gf2 in
/-- "kernel_lanczos returns only genuine, non-zero dependencies" for the composed model
`kernelLanczos` (initial block, main loop with fuel, final stage; the block of `genblock` is the input):
every returned vector has one entry per column, is non-zero and is annihilated by `B`; both profiles.
(C14's `lanczos_final`, which holds for every `Y`, applied to the `Y` the loop really produces.) -/
theorem kernel_lanczos_sound (dbg : Bool) (k : Nat) (cols : List (List Nat)) (y0 : List Nat) (fuel : Nat)
    (basis : List BVec) (hk : k ≤ 2 ^ 32) (hn : cols.length ≤ 2 ^ 32) (hwf : ∀ col ∈ cols, ∀ a ∈ col, a < k)
    (h : kernelLanczos dbg k cols y0 fuel = some basis) :
    ∀ v ∈ basis, v.length = cols.length ∧ isZero v = false ∧
      mulVec k (denseOfSparse k cols) v = List.replicate k false := by
  unfold kernelLanczos at h
  split at h
  · cases h
  · split at h
    · cases h
    · exact Ymq.C14.lanczos_final k cols _ basis hk hn hwf h

open Ymq.Gf2Lanczos Ymq.Gf2 in
/-- release profile, totality of the composed model: on a well-formed matrix with at least 64 rows, from
a block `Y0` (one 64-bit word per column) on which the initial computation returns (i.e. accepted by
`genblock`: its Gram matrix is invertible), `kernelLanczos false` reaches no panic site in any of the
three stages: an answer `none` means that the fuel ran out after `fuel` continuing iterations. -/
theorem kernel_lanczos_release_no_panic (k : Nat) (cols : List (List Nat)) (y0 : List Nat) (fuel : Nat)
    (hM : MatOK k cols) (hY0 : BlockOK cols.length y0)
    (hinit : ∃ st ay, lanczosInit false (qsOptimize k cols) y0 = some (st, ay))
    (hnone : kernelLanczos false k cols y0 fuel = none) :
    ∃ st ay st', lanczosInit false (qsOptimize k cols) y0 = some (st, ay) ∧
      IterN false (qsOptimize k cols) ay fuel st st' := by
  obtain ⟨st, ay, hi⟩ := hinit
  obtain ⟨hwf, hay⟩ := lanczosInit_wf hM false hY0 hi
  unfold kernelLanczos at hnone
  rw [hi] at hnone
  simp only [] at hnone
  cases hl : lanczosLoop false (qsOptimize k cols) ay fuel st [] with
  | none =>
    obtain ⟨st', hit⟩ := lanczosLoop_release hM hay fuel st [] hwf hl
    exact ⟨st, ay, st', hi, hit⟩
  | some r =>
    obtain ⟨st', its⟩ := r
    rw [hl] at hnone
    simp only [] at hnone
    have hy := lanczosLoop_release_y hM hay fuel st st' [] its hwf hl
    obtain ⟨basis, hb⟩ := Ymq.C14.lanczos_final_total k cols st'.y hM.hk64 hM.hk hM.hn hy.1 hM.hwf
    rw [hb] at hnone; cases hnone

/-! ### non-vacuity and counter-witnesses (small sizes: the theorems hold for every `n`; the same
matrices padded with null rows to 64x64 are corpus requests of the K/O streams) -/

example : WF 3 [4, 4, 3] := ⟨rfl, by decide⟩
/-- rank 0, rank 1, identity -/
example : rank 3 true [0, 0, 0] = some (0, 0) ∧ rank 3 true [0, 2, 0] = some (1, 2) ∧
    rank 3 true (identity 3) = some (3, 7) := by decide
/-- a symmetric matrix of rank `n - 1` and its pseudo-inverse through the call-site sequence -/
example : Ymq.Gf2Genblock.pipeline 4 true false [1, 2, 4, 0] = some (3, 7, [1, 2, 4, 0]) ∧
    Ymq.Gf2Genblock.pipeline 4 true true [6, 5, 3, 0] = some (2, 6, [0, 4, 2, 0]) := by decide
example : rank 4 true (maskRows 4 [6, 5, 3, 0] 6) = some (2, 6) := by decide
/-- hypotheses of `pipeline_spec`, `submatrix_spec` (symmetric, well formed) and of `pseudoinverse_spec`
(masked by its own selection) are satisfiable -/
example : WF 4 [6, 5, 3, 0] ∧ symmetric 4 [6, 5, 3, 0] = true ∧ (4 : Nat) ≤ 256 := ⟨⟨rfl, by decide⟩, by decide, by decide⟩
example : Supported 4 (maskRows 4 [6, 5, 3, 0] 6) 6 := supported_maskRows 4 [6, 5, 3, 0] 6
example : inverse 3 true [3, 2, 7] = some (some [3, 2, 5]) ∧ inverse 3 true [3, 3, 7] = some none := by decide

/-- the mask of `rank` is not always the first independent rows: for the symmetric matrix with rows
`001, 001, 110` (bit 0 first: rows 4, 4, 3) rows 0 and 2 come first, `rank` selects rows 1 and 2 -/
theorem rank_not_greedy : symmetric 3 [4, 4, 3] = true ∧ rank 3 true [4, 4, 3] = some (2, 6) := by decide

/-- `pseudoinverse` OUTSIDE its documented domain, symmetric but not masked input: the `unwrap` of
`position` panics in BOTH profiles (rows 4, 4, 3), and on rows 3, 3 the checked profile fails
`debug_assert!(r == 1 << i)` while the release profile returns a matrix that is not supported on the
mask (row 1 is non-null although the mask is {0}). Not reachable from `kernel_lanczos`, which masks first. -/
theorem pseudoinverse_unmasked_counterwitness :
    pseudoinverse 3 true [4, 4, 3] = none ∧ pseudoinverse 3 false [4, 4, 3] = none ∧
    symmetric 2 [3, 3] = true ∧ rank 2 true [3, 3] = some (1, 1) ∧
    pseudoinverse 2 true [3, 3] = none ∧ pseudoinverse 2 false [3, 3] = some [1, 1] := by decide

/-- the call-site sequence on a NON-symmetric matrix (single entry (1,0)): the selected block is
singular; the release profile returns rank 1 with a null "inverse", the checked profile panics on
`debug_assert!(ginv.rank() == (rk, mask))`. Symmetry of the Gram matrix `(B·v)ᵗ(B·v)` is what
`kernel_lanczos` relies on. -/
theorem pipeline_nonsymmetric_counterwitness :
    Ymq.Gf2Genblock.pipeline 2 false false [0, 1] = some (1, 2, [0, 0]) ∧
    Ymq.Gf2Genblock.pipeline 2 true false [0, 1] = none := by decide

end Ymq.C14Small
