/-
C20 — parameter tables satisfy their consumers' preconditions at every size.

Everything quantified below is *generated from the Rust source* (Ymq/Gen/Params.lean,
Ymq/Gen/Stage2.lean, translator translate/params.py).  `Holds o p` = "the Rust expression does
not fail (no underflow, overflow, shift out of range, division by zero, index out of range,
failed assert) and its value satisfies p".  Domain: `factor()` refuses inputs above
`LIB_MAX_BITS = 500` bits; the functions of the ORIGINAL `n` (`qs_fb_size`, `mpqs_fb_size`,
`clsgrp_fb_size`, the hard-wired ECM / P-1 arms) are therefore reached with at most 500 bits, the
functions of the MULTIPLIED `n·k`, `k < MAX_MULTIPLIER = 200 < 2^8` (everything in siqs.rs, and
`mpqs_interval_size`, `large_prime_factor`, `double_large_factor`, `nblocks` of mpqs.rs / qsieve.rs)
with at most 508 bits (`reachable_bits_ok`).  Every theorem is decided for all `sz ≤ 520`, both
values of every flag, every table, every row; `MultiZmodP::new` for `bits ≤ 512` (`ZmodN::new`
refuses more) and the convolution dispatch for `bits ≤ 500` (its own assert).
Finite domains are decided by the kernel (`decide +kernel`); statements with an unbounded
variable (factor base bound, B2, prepared length) are proved symbolically, and so is `select_fb_size`,
for every table that meets `Dec.TableOk` (decided on the three tables of the source); the convolution dispatch is
decided arm by arm (`Arms.check`, on the arms read off the generated cascade), not argument by argument.
Only property theorems live here (helper lemmas: Ymq/Lemmas/Params.lean; `select_fb_size`, the large sweeps
and those from which several theorems here are read off: Ymq/Lemmas/ParamsDec1.lean … ParamsDec4.lean).
-/
import Ymq.Lemmas.Params
import Ymq.Lemmas.ParamsDefs
import Ymq.Lemmas.ParamsDec1
import Ymq.Lemmas.ParamsDec2
import Ymq.Lemmas.ParamsDec3
import Ymq.Lemmas.ParamsDec4

namespace Ymq.C20
open Ymq.Checked Ymq.Gen Ymq.Gen.Params

/-- Sizes that reach the parameter functions: at most `LIB_MAX_BITS` for the original `n`, at most
`LIB_MAX_BITS + 8` for `n·k` with a multiplier `k < MAX_MULTIPLIER` (`bits(n·k) ≤ bits n + bits k`);
both are inside the decided domain `sz ≤ 520` (and inside `ZmodN`'s 512).  SIQS, MPQS and classical
QS refuse earlier (448, 448, 400 bits of `n·k`). -/
theorem reachable_bits_ok :
    LIB_MAX_BITS + bitlen (MAX_MULTIPLIER - 1) = 508 ∧ LIB_MAX_BITS + bitlen (MAX_MULTIPLIER - 1) ≤ 64 * MINT_WORDS ∧
    64 * MINT_WORDS ≤ 520 ∧ SIQS_MAX_BITS ≤ 520 ∧ MPQS_MAX_BITS ≤ 520 ∧ QS_MAX_BITS ≤ 520 := by decide

/-- `isqrt` (the model of `(x as f64).sqrt() as u32`) is the floor square root. -/
theorem isqrt_is_floor_sqrt (n : Nat) (h : n < 2 ^ 64) :
    isqrt n * isqrt n ≤ n ∧ n < (isqrt n + 1) * (isqrt n + 1) := isqrt_spec n h

/-! ## factor base sizes (params.rs) -/

/-- `factor_base_size(n)`: no failure (`a - 10`, `<<` in range, the `f64` detour exact) and a
positive size, for every bit length. -/
theorem factor_base_size_ok : ∀ sz, sz ≤ 520 →
    Holds (params.factor_base_size sz) fun v => 0 < v :=
  fun sz h => (Dec.factor_base_size sz h).imp fun _ hv => hv.1

/-- The three tables are strictly increasing in their key: `partition_point` is used on a
partitioned slice and the interpolation never divides by `next.0 - prev.0 = 0`. -/
theorem fbsizes_keys_increasing : ∀ t ∈ fbTables, (t.map (·.1)).Pairwise (· < ·) := by decide +kernel

/-- `select_fb_size(bitsize, use_double, table)` on each of the three tables, for every bit size a
`Uint` can have: no index out of range, no division by zero, no underflow (`bitsize - 200`,
`next.0 - bitsize`, `bitsize - prev.0`), no `u32` overflow in the interpolation, result in
1..500000. -/
theorem select_fb_size_ok : ∀ t ∈ fbTables, ∀ b, b ≤ 1024 → ∀ d : Bool,
    Holds (params.select_fb_size b d t) fun v => 0 < v ∧ v ≤ 500000 := Dec.select_fb_size

theorem qs_fb_size_ok : ∀ b, b ≤ 520 → ∀ d : Bool,
    Holds (params.qs_fb_size b d) fun v => 0 < v ∧ v ≤ 500000 := by decide +kernel

theorem mpqs_fb_size_ok : ∀ b, b ≤ 520 → ∀ d : Bool,
    Holds (params.mpqs_fb_size b d) fun v => 0 < v ∧ v ≤ 500000 := by
  intro b hb d
  unfold params.mpqs_fb_size
  split
  · exact Dec.select_fb_size _ (by simp [fbTables]) b (by omega) d
  · exact holds_some.2 (by decide)

theorem clsgrp_fb_size_ok : ∀ b, b ≤ 520 → ∀ d : Bool,
    Holds (params.clsgrp_fb_size b d) fun v => 0 < v ∧ v ≤ 100000 := by
  intro b hb d
  unfold params.clsgrp_fb_size
  split
  · next h =>
    -- the table is consulted below its last key only (the cut-off of the guard `h` is compared with that key by `decide`)
    refine (Dec.select_fb_size_spec Dec.cg_table_ok b (by omega) d).imp fun v hv => ⟨hv.1, ?_⟩
    have := hv.2.2 fun r hr => Nat.lt_of_lt_of_le (of_decide_eq_true h) (by revert r; decide)
    omega
  · exact holds_some.2 (by decide)

/-! ## SIQS (siqs.rs) -/

/-- `siqs::fb_size(n, use_double)`; the third argument is the truth value of `n % 8 == 1`
(type-2 polynomials: the size of `n >> 2` is used). -/
theorem siqs_fb_size_ok : ∀ sz, sz ≤ 520 → ∀ d m8 : Bool,
    Holds (siqs.fb_size sz d m8) fun v => 0 < v :=
  fun sz h d m8 => (Dec.siqs_fb_size sz h d m8).imp fun _ hv => hv.1.1

/-- Note (not a consumer precondition: `prepare_factor_base` keeps 24-bit primes only and
`FBase::new` truncates to what was prepared): unlike `qs_fb_size`/`mpqs_fb_size`, the SIQS request
is not capped at the "maximal factor base size" 500000.  Full statement, refuted: -/
theorem siqs_fb_size_le_cap_fails :
    ¬ (∀ sz, sz ≤ 520 → ∀ d m8 : Bool, Holds (siqs.fb_size sz d m8) fun v => v ≤ 500000) := by
  intro h
  have := h 393 (by decide) true false
  revert this
  decide +kernel

/-- counter-witnesses: the first sizes above the cap are 361 bits without and 391 bits with double
large primes (524288); 393 bits with double large primes request 557056 primes, more than exist
(about 539000 primes `p < 2^24` with `(n/p) ≠ -1`; observed on the real code:
`FBase::new(n, 557056).len() = 539216` for a 393-bit `n`); 512 bits request 7340032. -/
theorem siqs_fb_size_cap_witness :
    siqs.fb_size 361 false false = some 524288 ∧ siqs.fb_size 391 true false = some 524288 ∧
    siqs.fb_size 393 true false = some 557056 ∧ siqs.fb_size 512 true false = some 7340032 := by
  decide +kernel

/-- what holds: the cap is respected up to 360 bits (any flags) and up to 390 bits with double
large primes. -/
theorem siqs_fb_size_le_cap_partial : ∀ sz, sz ≤ 390 → ∀ d m8 : Bool, (sz ≤ 360 ∨ d = true) →
    Holds (siqs.fb_size sz d m8) fun v => v ≤ 500000 :=
  fun sz h d m8 hc => (Dec.siqs_fb_size sz (by omega) d m8).imp fun _ hv => hv.2.1 h hc

/-- `nfactors`: at least one factor (`nfacs - 1` does not underflow) and `1 << (nfacs - 1)` is in
range even for the `i32` the expression defaults to. -/
theorem siqs_nfactors_ok : ∀ sz, sz ≤ 520 →
    Holds (siqs.nfactors sz) fun k => 1 ≤ k ∧ k - 1 < 31 :=
  fun sz h => (Dec.siqs_nfactors sz h).imp fun _ hk => hk.1

/-- `select_siqs_factors` needs more than `nfacs` primes after dropping the first one: the factor
base (padded to a multiple of 8 by `FBase::new`) is large enough at every size. -/
theorem siqs_nfactors_fits_fbase : ∀ sz, sz ≤ 520 → ∀ d m8 : Bool,
    Holds (siqs.nfactors sz) fun k => Holds (siqs.fb_size sz d m8) fun fb =>
      k + 2 ≤ 8 * ((fb + 7) / 8) := by
  intro sz h d m8
  obtain ⟨fb, hfb, -, -, k, hk, hkfb⟩ := Dec.siqs_fb_size sz h d m8
  exact ⟨k, hk, fb, hfb, hkfb⟩

/-- `select_a` marks the primes chosen among the `4 * nfacs` selected by `select_siqs_factors` in a
bit mask (`1 << g`, `g < 4 * nfacs`): the mask is wide enough at every size.  (Before the repair
e726329 the mask was a `u64` and `1 << g` overflowed from 425 bits on, `nfacs ≥ 17`.) -/
theorem siqs_select_a_mask_ok : ∀ sz, sz ≤ 520 →
    Holds (siqs.nfactors sz) fun k => SELECT_PER_NFAC * k ≤ SELECT_A_MASK_BITS :=
  fun sz h => (Dec.siqs_nfactors sz h).imp fun _ hk => hk.2.1

/-- the former `u64` mask was too narrow exactly from 425 bits on (witness of the repaired defect) -/
theorem siqs_select_a_u64_mask_witness :
    (∀ sz, sz ≤ 424 → Holds (siqs.nfactors sz) fun k => SELECT_PER_NFAC * k ≤ 64) ∧
    (∀ sz, sz ≤ 520 → 425 ≤ sz → Holds (siqs.nfactors sz) fun k => 64 < SELECT_PER_NFAC * k) :=
  ⟨fun sz h => (Dec.siqs_nfactors sz (by omega)).imp fun _ hk => hk.2.2.1 h,
    fun sz h h' => (Dec.siqs_nfactors sz h).imp fun _ hk => hk.2.2.2 h'⟩

/-- the polynomials of SIQS fit the 256-bit integers they are computed in, for every size SIQS
accepts (`SIQS_MAX_BITS`, refusal added by the repair a235189). -/
theorem siqs_poly_fits_ok : ∀ sz, sz ≤ SIQS_MAX_BITS → ∀ d : Bool,
    Holds (siqs.interval_size sz d) (SiqsPolyFits sz) :=
  fun sz h d => (Dec.siqs_interval_size sz (Nat.le_trans h (by decide)) d).imp fun _ hm => hm.2.1 h

/-- the refusal is necessary: from 468 bits on the first assertion fails for every type-1 input
(`bits A ≥ bits X - bits(M/2) - 1`); observed on the real code from 465 bits. -/
theorem siqs_poly_overflows_witness : ∀ sz, sz ≤ 520 → 468 ≤ sz → ∀ d : Bool,
    Holds (siqs.interval_size sz d) fun M => 255 ≤ (sz + 2) / 2 - bitlen (M / 2) - 1 + 2 * bitlen M :=
  fun sz h h' d => (Dec.siqs_interval_size sz h d).imp fun _ hm => hm.2.2 h'

theorem siqs_a_value_count_ok : ∀ sz, sz ≤ 520 →
    Holds (siqs.a_value_count sz) fun v => 0 < v := by decide +kernel

/-- the tolerance divisor is used as a divisor -/
theorem siqs_a_tolerance_divisor_ok : ∀ sz, sz ≤ 520 →
    Holds (siqs.a_tolerance_divisor sz) fun v => 0 < v := by decide +kernel

/-- interval size: a positive multiple of `BLOCK_SIZE` that fits `u32` (`nblocks as u32 *
BLOCK_SIZE as u32` in sieve.rs); `mm / 2 ≥ 1` (divisor in `select_siqs_factors`). -/
theorem siqs_interval_size_ok : ∀ sz, sz ≤ 520 → ∀ d : Bool,
    Holds (siqs.interval_size sz d) fun m => 0 < m ∧ m % BLOCK_SIZE = 0 ∧ m < 2 ^ 32 ∧ 1 ≤ m / 2 :=
  fun sz h d => (Dec.siqs_interval_size sz h d).imp fun _ hm => hm.1

theorem siqs_large_prime_factor_ok : ∀ sz, sz ≤ 520 →
    Holds (siqs.large_prime_factor sz) fun f => 1 ≤ f ∧ f < 2 ^ 32 := by decide +kernel

/-- "B1*B2 must not exceed 2^16": the double large prime factor `D` is at most 2^16. -/
theorem siqs_double_large_factor_ok : ∀ sz, sz ≤ 520 →
    Holds (siqs.double_large_factor sz) fun D => D ≤ 2 ^ 16 := by decide +kernel

/-! ## MPQS (mpqs.rs) -/

/-- `mpqs_interval_size` (an `i64`, cast to `u32` by the caller). -/
theorem mpqs_interval_size_ok : ∀ sz, sz ≤ 520 →
    Holds (mpqs.mpqs_interval_size sz) fun m => 0 < m ∧ m % BLOCK_SIZE = 0 ∧ m < 2 ^ 32 ∧ 1 ≤ m / 2 := by
  decide +kernel

theorem mpqs_large_prime_factor_ok : ∀ sz, sz ≤ 520 →
    Holds (mpqs.large_prime_factor sz) fun f => 1 ≤ f ∧ f < 2 ^ 32 := by decide +kernel

theorem mpqs_double_large_factor_ok : ∀ sz, sz ≤ 520 →
    Holds (mpqs.double_large_factor sz) fun D => D ≤ 2 ^ 16 := by decide +kernel

/-! ## classical QS (qsieve.rs) -/

theorem qs_large_prime_factor_ok : ∀ sz, sz ≤ 520 →
    Holds (qsieve.large_prime_factor sz) fun f => 1 ≤ f ∧ f < 2 ^ 32 := by decide +kernel

/-- `SieveQS::nblocks`: positive, and `nblocks * BLOCK_SIZE` fits `u32`. -/
theorem qs_nblocks_ok : ∀ sz, sz ≤ 520 →
    Holds (qsieve.nblocks sz) fun k => 0 < k ∧ k * BLOCK_SIZE < 2 ^ 32 := by decide +kernel

/-! ## class group (classgroup.rs) -/

/-- `a_params`: at least one `A`, and `1 << (nfacs - 1)` (guarded by `nfacs > 1`) in range. -/
theorem cl_a_params_ok : ∀ sz, sz ≤ 520 →
    Holds (classgroup.a_params sz) fun r => 1 ≤ r.1 ∧ (r.2 ≤ 1 ∨ r.2 - 1 < 31) :=
  fun sz h => (Dec.cl_a_params sz h).imp fun _ hr => hr.1

/-- class group: same mask in `select_a` -/
theorem cl_select_a_mask_ok : ∀ sz, sz ≤ 520 →
    Holds (classgroup.a_params sz) fun r => SELECT_PER_NFAC * r.2 ≤ SELECT_A_MASK_BITS :=
  fun sz h => (Dec.cl_a_params sz h).imp fun _ hr => hr.2

theorem cl_interval_size_ok : ∀ sz, sz ≤ 520 →
    Holds (classgroup.interval_size sz) fun m => 0 < m ∧ m % BLOCK_SIZE = 0 ∧ m < 2 ^ 32 ∧ 1 ≤ m / 2 := by
  decide +kernel

theorem cl_large_prime_factor_ok : ∀ sz, sz ≤ 520 →
    Holds (classgroup.large_prime_factor sz) fun f => 1 ≤ f ∧ f < 2 ^ 32 := by decide +kernel

theorem cl_double_large_factor_ok : ∀ sz, sz ≤ 520 →
    Holds (classgroup.double_large_factor sz) fun D => D ≤ 2 ^ 16 := by decide +kernel

/-! ## large prime bounds: the statements of the four sieve drivers

`B = fbase.bound()` is below `2^FB_PRIME_BITS = 2^24` (`prepare_factor_base` drops larger primes,
`fbase_prime_bits_ok`).  The consumers: `assert!(maxlarge == (maxlarge as u32) as u64)`
(siqs/mpqs/classgroup), `maxlarge * maxlarge` in `fbase::cofactor` (all four), `u64` products
`maxprime * maxprime * D`, `maxlarge * maxprime * 2`. -/

private theorem mul32 {a b : Nat} (ha : a < 2 ^ 32) (hb : b < 2 ^ 32) : a * b < 2 ^ 64 := by
  calc a * b < 2 ^ 32 * 2 ^ 32 := Nat.mul_lt_mul'' ha hb
    _ = 2 ^ 64 := by norm_num

/-- `min(bound * factor, (1 << 32) - 1)`, the value `siqs::maxlarge`, `classgroup::maxlarge` and `qsieve::max_large_prime`
all compute: it fits 32 bits, so its square fits `u64` -/
private theorem maxlarge_ok {o : Option Nat} (bound f : Nat) (h : o = some (min (bound * f) 4294967295)) :
    Holds o fun m => m < 2 ^ 32 ∧ m * m < 2 ^ 64 :=
  h ▸ holds_some.2 ⟨by omega, mul32 (by omega) (by omega)⟩

private theorem h_clamp : (cshl 64 1 32).bind (fun t => csub t 1) = some 4294967295 := by decide

/-- the common body of `siqs::maxdouble`, `mpqs::maxdouble`, `classgroup::maxdouble` -/
private theorem maxdouble_ok {bound D : Nat} (hb : bound < 2 ^ FB_PRIME_BITS) (hD : D ≤ 2 ^ 16) :
    Holds ((cmul 64 bound bound).bind fun t => cmul 64 t D) fun m => m = bound * bound * D := by
  have hb' : bound < 2 ^ 24 := hb
  rw [cmul_some (mul32 (by omega) (by omega)), Option.bind_some, cmul_some (double_bound_fits bound D hb' hD)]
  exact holds_some.2 rfl

/-- SIQS: `min(maxprime * factor, (1 << 32) - 1)` does not overflow and fits 32 bits, so
`maxlarge * maxlarge` fits `u64`. -/
theorem siqs_maxlarge_ok (bound f : Nat) (hb : bound < 2 ^ 32) (hf : f < 2 ^ 32) :
    Holds (siqs.maxlarge bound f) fun m => m < 2 ^ 32 ∧ m * m < 2 ^ 64 := by
  exact maxlarge_ok bound f (by simp only [siqs.maxlarge, cmul_some (mul32 hb hf), h_clamp, Option.bind_some])

/-- SIQS: `maxprime * maxprime * double_large_factor(n)` fits `u64` for every 24-bit bound. -/
theorem siqs_maxdouble_ok (bound : Nat) (hb : bound < 2 ^ FB_PRIME_BITS) : ∀ sz, sz ≤ 520 →
    Holds (siqs.double_large_factor sz) fun D => Holds (siqs.maxdouble bound D) fun m => m = bound * bound * D :=
  fun sz hsz => (siqs_double_large_factor_ok sz hsz).imp fun _ hD => maxdouble_ok hb hD

/-- MPQS: clamp to `u32::MAX`, then `2 * maxprime` when double large primes are used; hence `bound < 2^31` where the other
drivers have `2^32`: `2 * bound` is not clamped and has to fit 32 bits as well. -/
theorem mpqs_maxlarge_ok (bound f : Nat) (d : Bool) (hb : bound < 2 ^ 31) (hf : f < 2 ^ 32) :
    Holds (mpqs.maxlarge bound f d) fun m => m < 2 ^ 32 ∧ m * m < 2 ^ 64 := by
  have h2b : 2 * bound < 2 ^ 64 := by omega
  have key : Holds (mpqs.maxlarge bound f d) fun m => m < 2 ^ 32 := by
    unfold mpqs.maxlarge
    simp only [cmul_some (mul32 (by omega : bound < 2 ^ 32) hf), cmul_some h2b, Option.bind_some, Holds]
    cases d <;> simp <;> split_ifs <;> first | omega | exact ⟨_, rfl, by omega⟩
  exact key.imp fun m hm => ⟨hm, mul32 hm hm⟩

theorem mpqs_maxdouble_ok (bound : Nat) (hb : bound < 2 ^ FB_PRIME_BITS) : ∀ sz, sz ≤ 520 →
    Holds (mpqs.double_large_factor sz) fun D => Holds (mpqs.maxdouble bound D) fun m => m = bound * bound * D :=
  fun sz hsz => (mpqs_double_large_factor_ok sz hsz).imp fun _ hD => maxdouble_ok hb hD

/-- classical QS: `max_large_prime(maxprime, factor)` fits 32 bits (before the repair d7a1b41 the
unclamped product reached 2^32 for 348..400-bit inputs and `maxlarge * maxlarge` overflowed). -/
theorem qs_maxlarge_ok (bound f : Nat) (hb : bound < 2 ^ 32) (hf : f < 2 ^ 32) :
    Holds (qsieve.max_large_prime bound f) fun m => m < 2 ^ 32 ∧ m * m < 2 ^ 64 := by
  exact maxlarge_ok bound f (by simp only [qsieve.max_large_prime, cmul_some (mul32 hb hf), h_clamp, Option.bind_some])

/-- classical QS: `maxlarge * maxprime * 2` fits `u64`. -/
theorem qs_max_cofactor_ok (maxlarge maxprime : Nat) (hl : maxlarge < 2 ^ 32) (hp : maxprime < 2 ^ FB_PRIME_BITS) :
    Holds (qsieve.max_cofactor_double maxlarge maxprime) fun _ => True := by
  have hp' : maxprime < 2 ^ 24 := hp
  have h1 : maxlarge * maxprime < 2 ^ 56 := by
    calc maxlarge * maxprime < 2 ^ 32 * 2 ^ 24 := Nat.mul_lt_mul'' hl hp'
      _ = 2 ^ 56 := by norm_num
  simp only [qsieve.max_cofactor_double, cmul_some (by omega : maxlarge * maxprime < 2 ^ 64),
    cmul_some (by omega : maxlarge * maxprime * 2 < 2 ^ 64), Option.bind_some, Holds]
  exact ⟨_, rfl, trivial⟩

theorem cl_maxlarge_ok (bound f : Nat) (hb : bound < 2 ^ 32) (hf : f < 2 ^ 32) :
    Holds (classgroup.maxlarge bound f) fun m => m < 2 ^ 32 ∧ m * m < 2 ^ 64 := by
  exact maxlarge_ok bound f (by simp only [classgroup.maxlarge, cmul_some (mul32 hb hf), h_clamp, Option.bind_some])

theorem cl_maxdouble_ok (bound : Nat) (hb : bound < 2 ^ FB_PRIME_BITS) : ∀ sz, sz ≤ 520 →
    Holds (classgroup.double_large_factor sz) fun D => Holds (classgroup.maxdouble bound D) fun m => m = bound * bound * D :=
  fun sz hsz => (cl_double_large_factor_ok sz hsz).imp fun _ hD => maxdouble_ok hb hD

/-- non-vacuity of the bound hypotheses -/
example : (15485863 : Nat) < 2 ^ FB_PRIME_BITS ∧ (640 : Nat) < 2 ^ 32 := by decide

/-! ## FBase::new (fbase.rs) -/

/-- every factor base size produced by a parameter function is an admissible request. -/
theorem fbase_request_ok : ∀ sz, sz ≤ 520 → ∀ d m8 : Bool,
    Holds (siqs.fb_size sz d m8) FbRequestOk ∧ Holds (params.factor_base_size sz) FbRequestOk ∧
    Holds (params.qs_fb_size sz d) FbRequestOk ∧ Holds (params.mpqs_fb_size sz d) FbRequestOk ∧
    Holds (params.clsgrp_fb_size sz d) FbRequestOk :=
  fun sz h d m8 =>
    ⟨(Dec.siqs_fb_size sz h d m8).imp fun _ hv => .of_le hv.1.2,
      (Dec.factor_base_size sz h).imp fun _ hv => .of_le hv.2,
      (qs_fb_size_ok sz h d).imp fun _ hv => .of_le (Nat.le_trans hv.2 (by decide)),
      (mpqs_fb_size_ok sz h d).imp fun _ hv => .of_le (Nat.le_trans hv.2 (by decide)),
      (clsgrp_fb_size_ok sz h d).imp fun _ hv => .of_le (Nat.le_trans hv.2 (by decide))⟩

/-- the number of primes kept, `8 * min((size + 7) / 8, prepared.len() / 8)`: a multiple of 8
(`assert!(primes.len() % 8 == 0)`, SIMD code), within what was prepared, non-empty as soon as 8
primes were prepared (`FBase::bound()` unwraps the last prime). -/
theorem fbase_padded_len_ok (size plen : Nat) (hs : size + 7 < 2 ^ 32) (hp : plen < 2 ^ 64) :
    Holds (fbase.padded_len size plen) fun l =>
      l % 8 = 0 ∧ l ≤ plen ∧ l ≤ size + 7 ∧ (1 ≤ size → 8 ≤ plen → 8 ≤ l) := by
  have h8 : (8 : Nat) ≠ 0 := by decide
  have hm : 8 * min ((size + 7) / 8) (plen / 8) < 2 ^ 64 := by omega
  simp only [fbase.padded_len, cadd_some hs, cdiv_some h8, Option.bind_some, cmul_some hm, Holds]
  exact ⟨_, rfl, by omega⟩

example : (500000 : Nat) + 7 < 2 ^ 32 ∧ (1000040 : Nat) < 2 ^ 64 := by decide

/-- primes of the factor base are below `2^24` (filter in `prepare_factor_base`), which is within
`Dividers::new`'s `p >> 30 == 0`; their bit length `l ≤ 24` indexes `idx_by_log` (26 entries) in
`FBase::new` and `log + 1 ≤ 25` in `Sieve::new`. -/
theorem fbase_prime_bits_ok :
    FB_PRIME_BITS ≤ DIVIDERS_MAX_BITS ∧ FB_PRIME_BITS + 2 ≤ IDX_BY_LOG_LEN := by decide

/-- `assert!(MAX_MULTIPLIER * MAX_MULTIPLIER < 1 << 16)` of `select_multiplier`. -/
theorem max_multiplier_ok : MAX_MULTIPLIER * MAX_MULTIPLIER < 2 ^ 16 := by decide

theorem stage2_rows_ok : ∀ r ∈ Stage2.ecmTable, RowOk r := by decide +kernel

theorem pm1_rows_ok : ∀ r ∈ Stage2.pm1Table, Pm1RowOk r := by decide +kernel

/-- `params::stage2_params(b2)` is total for every `b2 = num/den ≥ 0`: it returns a row of the
table, the nearest one, which is usable by ECM and P+1. -/
theorem stage2_select_total (num den : Nat) :
    ∃ row, Stage2.stage2Select num den = some row ∧ row ∈ Stage2.ecmTable ∧ RowOk row ∧
      ∀ r ∈ Stage2.ecmTable, absDiff (row.1 * den) num ≤ absDiff (r.1 * den) num := by
  obtain ⟨row, h1, h2, h3⟩ := nearestRow_spec Stage2.ecmTable (by decide) num den
  exact ⟨row, h1, h2, stage2_rows_ok row h2, h3⟩

/-- `pollard_pm1::stage2_params(b2)`: total, nearest, and every row it can return meets the
requirements of `pm1_stage2_polyeval` (which runs for `b2 > MULTIEVAL_THRESHOLD`; the statement
holds for every `b2`). -/
theorem pm1_select_ok (num den : Nat) :
    ∃ row, Stage2.pm1Stage2Select num den = some row ∧ row ∈ Stage2.pm1Table ∧ Pm1RowOk row ∧
      ∀ r ∈ Stage2.pm1Table, absDiff (row.1 * den) num ≤ absDiff (r.1 * den) num := by
  obtain ⟨row, h1, h2, h3⟩ := nearestRow_spec Stage2.pm1Table (by decide) num den
  exact ⟨row, h1, h2, pm1_rows_ok row h2, h3⟩

/-- hard-wired P-1 arms: `assert!(b1 > 3)`, `b1 as u32` and (for the prime-by-prime walk used
when `b2 ≤ MULTIEVAL_THRESHOLD`) `b2 as u32` lose nothing. -/
theorem pm1_arms_ok : ∀ arm ∈ Stage2.pm1QuickArms ++ Stage2.pm1OnlyArms, ∀ run ∈ arm.2.2.2,
    3 < run.1 ∧ run.1 < 2 ^ 32 ∧ 0 < run.2 ∧ (run.2 ≤ Stage2.multievalThreshold → run.2 < 2 ^ 32) := by
  decide +kernel

/-- hard-wired ECM arms (`ecm_auto`, `ecm_only`, `ecm128`, `ecm_semiprime`): at least one curve,
`b1` fits `u32` (`SmoothBase::new`: `b1 as u32`), positive `b2`; the ECM128 arms (which have no
polynomial stage 2) select quadratic rows only (`d1 < 4000`). -/
theorem ecm_arms_ok :
    (∀ arm ∈ Stage2.ecmAutoArms ++ Stage2.ecm128Arms, ∀ run ∈ arm.2.2.2,
      0 < run.1 ∧ 1 < run.2.1 ∧ run.2.1 < 2 ^ 32 ∧ 0 < run.2.2) ∧
    (∀ run ∈ Stage2.ecmOnlyRuns, 0 < run.1 ∧ 1 < run.2.1 ∧ run.2.1 < 2 ^ 32 ∧ 0 < run.2.2) ∧
    (∀ run ∈ Stage2.ecmSemiprimeArms, 0 < run.2.1 ∧ 1 < run.2.2.1 ∧ run.2.2.1 < 2 ^ 32 ∧ 0 < run.2.2.2) ∧
    (∀ arm ∈ Stage2.ecm128Arms, ∀ run ∈ arm.2.2.2,
      Holds (Stage2.stage2Select run.2.2 1) fun row => row.2.1 < Stage2.ecmPolyevalD1) ∧
    (∀ run ∈ Stage2.ecmSemiprimeArms,
      Holds (Stage2.stage2Select run.2.2.2 1) fun row => row.2.1 < Stage2.ecmPolyevalD1) := by
  decide +kernel

/-! ## NTT primes and MultiZmodP::new (arith_fft.rs) -/

/-- every listed modulus is `≡ 1 (mod 2^32)` (indeed mod 2^49), between 2^58 and 2^59 (so `2p`
fits `u64` and 58 bits per prime are available), `p - 2` is the negated inverse of `p` modulo
2^64 (used by `mg_mul64`), the listed element is reduced, and the moduli are distinct. -/
theorem ntt_primes_ok :
    NTT_PRIMES.length = NTT_PRIMES_LEN ∧ NTT_PRIME_VALUES.Pairwise (· < ·) ∧
    ∀ pr ∈ NTT_PRIMES, pr.1 % 2 ^ 32 = 1 ∧ 2 ^ 58 < pr.1 ∧ pr.1 < 2 ^ 59 ∧
      (pr.1 * (pr.1 - 2) + 1) % 2 ^ 64 = 0 ∧ 0 < pr.2 ∧ pr.2 < pr.1 := by decide +kernel

private theorem ntt_roots_order_pm : ∀ pr ∈ NTT_PRIMES,
    powmod pr.2 (2 ^ 32) pr.1 = 1 ∧ powmod pr.2 (2 ^ 31) pr.1 = pr.1 - 1 := by decide +kernel

/-- the listed element has multiplicative order exactly `2^32` modulo its prime:
`r^(2^32) ≡ 1` and `r^(2^31) ≡ -1 ≢ 1`.  (`MultiZmodP::new` squares it `32 - logsize` times to
get a root of order `2^logsize`.) -/
theorem ntt_roots_order : ∀ pr ∈ NTT_PRIMES,
    pr.2 ^ 2 ^ NTT_ROOT_LOG % pr.1 = 1 ∧ pr.2 ^ 2 ^ (NTT_ROOT_LOG - 1) % pr.1 = pr.1 - 1 ∧ pr.1 - 1 ≠ 1 := by
  intro pr hpr
  have h := ntt_roots_order_pm pr hpr
  have hp := (ntt_primes_ok.2.2 pr hpr).2.1
  rw [powmod_eq _ _ _ (by norm_num), powmod_eq _ _ _ (by norm_num)] at h
  have e1 : NTT_ROOT_LOG = 32 := rfl
  rw [e1]
  exact ⟨h.1, h.2, by omega⟩

/-- `MultiZmodP::new(zn, logsize)` for every modulus size and every `logsize ≤ 32`: the
arithmetic does not overflow, `w ≤ NTT_PRIMES.len()` (slice `NTT_PRIMES[..w]`), the assert
`w * primes[w-1] < 2^64` holds, and `58 w > 2 bits + logsize`. -/
theorem mzp_new_ok : ∀ bits, bits ≤ 512 → ∀ logsize, logsize ≤ 32 →
    Holds (arith_fft.mzp_w bits logsize) fun w =>
      1 ≤ w ∧ w ≤ NTT_PRIMES_LEN ∧ 2 * bits + logsize < 58 * w :=
  fun bits hb logsize hl => Dec.mzp_w_ok bits logsize (by unfold NTT_PRIMES_LEN; omega)

/-- the product of the first `w` primes has more than `58 w` bits (so
`assert!(pprod.bits() >= 2 * zn.n.bits() + logsize)` follows from `mzp_new_ok`) and fits the
`U2048` it is computed in. -/
theorem mzp_product_ok : ∀ w, w ≤ NTT_PRIMES_LEN →
    2 ^ (58 * w) ≤ (NTT_PRIME_VALUES.take w).prod ∧ (NTT_PRIME_VALUES.take w).prod < 2 ^ 2048 := by
  decide +kernel

/-! ## convolve_modn dispatch (arith_fft.rs) -/

/-- the dispatch is total on `bits ≤ 500` (the assert that follows it) and `size = 2^k ≤ 2^19`. -/
theorem convolve_dispatch_total : ∀ bits, bits ≤ CONVOLVE_MAX_BITS → ∀ k, k ≤ 19 →
    Holds (arith_fft.convolve_dispatch bits (2 ^ k)) fun _ => True :=
  fun bits hb k hk => (Dec.convolve bits hb k hk).imp fun _ _ => trivial

/-- every arm's packing hypotheses hold wherever the arm is selected, for sizes `2 ≤ 2^k ≤ 2^19`.
Partial: `size = 1` is excluded, see `convolve_dispatch_packing_fails_size_one`. -/
theorem convolve_dispatch_packing_partial : ∀ bits, bits ≤ CONVOLVE_MAX_BITS → ∀ k, k ≤ 19 → 1 ≤ k →
    Holds (arith_fft.convolve_dispatch bits (2 ^ k)) (DispatchOk bits k) :=
  fun bits hb k hk h1 => (Dec.convolve bits hb k hk).imp fun _ hr => hr h1

/-- Degenerate size: for `size = 1` and coefficients of at most 150 bits the first arm packs two
coefficients per FFT word, so the FFT length `size >> 1` is `0` and `mulfft` computes `l - 1` with
`l = 0`.  (`convolve_modn` has no caller inside the crate; reported as a note, not as a finding:
a convolution modulo `X - 1` is not a meaningful request.) -/
theorem convolve_dispatch_size_one : ∀ bits, bits ≤ 150 →
    Holds (arith_fft.convolve_dispatch bits 1) fun r => 2 ^ 0 / 2 ^ r.2.1 = 0 := by decide +kernel

/-- the full statement (all `2^k ≤ 2^19`) is false; witness `bits = 100`, `size = 1`.  Observed
on the real code: `convolve_modn(zn, 1, ..)` panics for a 100-bit modulus in both profiles. -/
theorem convolve_dispatch_packing_fails_size_one :
    ¬ (∀ bits, bits ≤ CONVOLVE_MAX_BITS → ∀ k, k ≤ 19 →
        Holds (arith_fft.convolve_dispatch bits (2 ^ k)) (DispatchOk bits k)) := by
  intro h
  have := h 100 (by decide) 0 (by decide)
  revert this
  decide +kernel

/-- the instantiations: `fsize = 64 N`. -/
theorem convolve_fsize_ok : ∀ fn ∈ CONVOLVE_FSIZE_N, fn.2 * 64 = fn.1 := by decide +kernel

end Ymq.C20
