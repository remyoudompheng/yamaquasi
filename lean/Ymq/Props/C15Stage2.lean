/-
C15 / C16 — one ECM curve run end to end (`ecm::ecm_curve`; model: Ymq/Model/EcmCurve.lean, an interpreter over
abstract point operations whose steps are the calls the routine makes; lemmas: Ymq/Lemmas/EcmCurveGroup.lean).

The group-level statements read the point operations in an additive commutative group `G` in which the curve
formulas are the group law (`grpOps`: both coordinate systems are `G`, `double`/`dblext` are `x + x`, `addext` /
`addextproj` are `+`, `subextproj` is `-`) — the same reading as `C15.chainmul_spec`; like there, the exceptional
points of the dedicated extended addition (`C15.addext_self_zero`, the listed finding) are outside the statements.
Only property theorems live here.
-/
import Ymq.Lemmas.EcmCurveGroup
import Ymq.Lemmas.EcmCurveTotal
import Ymq.Props.C15
import Ymq.Props.C16
import Ymq.Props.C17

namespace Ymq.C15
open Ymq.Chain Ymq.EcmCurve Ymq.Stage2 Ymq.Gen

section Group
variable {G : Type} [AddCommGroup G]

/-- **Stage 1.** For exponent blocks that fit their words (`SmoothBase::new` produces such blocks:
`stage1_point_of_smoothbase`), whatever `check_gcd_factor` answers and whatever coordinate it is shown: if stage 1
goes on to stage 2 it does so with the point `[∏ factors · ∏ larges] P`; it panics only if `check_gcd_factor` does
(or returns the factor 0); and with no early exit the blocks applied in order give that point. -/
theorem stage1_point_spec {X : Type} (n : Nat) (xOf : G → X) (one : X) (check : List X → Option (Option Nat))
    (factors larges : List Nat) (hf : ∀ f ∈ factors, f < 2 ^ 64) (hl : ∀ f ∈ larges, f < 2 ^ 1024) (P : G) :
    GoesTo (stage1 (grpOps : Ops G G) n xOf one check factors larges P) ((factors.prod * larges.prod) • P) ∧
    (CheckTotal check → NoPanic (stage1 (grpOps : Ops G G) n xOf one check factors larges P)) ∧
    stage1Point (grpOps : Ops G G) factors larges P = some ((factors.prod * larges.prod) • P) := by
  obtain ⟨h1, h2⟩ := stage1_sim (grpSim (G := G)) n xOf one check factors larges hf hl (rfl : P = P)
  obtain ⟨q, e, rfl⟩ := stage1Point_sim (grpSim (G := G)) factors larges hf hl (rfl : P = P)
  exact ⟨(goesTo_iff _ _).mpr h1, h2, e⟩

/-- … for the blocks of `SmoothBase::new(b1, true)` as `ecm()` builds them (C17: they exist, fit their words, and
every prime power below `b1` divides their product): stage 1 reaches `[E] P` with `q ∣ E` for every prime power
`q < b1`. -/
theorem stage1_point_of_smoothbase (b1 : Nat) (hb : b1 ≤ 2 ^ 24) (P : G) :
    ∃ f l, Ymq.SmoothBase.new b1 true = some (f, l) ∧
      stage1Point (grpOps : Ops G G) f l P = some ((f.prod * l.prod) • P) ∧
      ∀ p k, p.Prime → p ^ k < b1 → p ^ k ∣ f.prod * l.prod := by
  obtain ⟨f, l, h1, h2, h3, h4⟩ := Ymq.C17.smoothbase_divides_16M b1 true hb
  exact ⟨f, l, h1, (stage1_point_spec (X := Unit) 0 (fun _ => ()) () (fun _ => some none) f l h2 h3 P).2.2, h4⟩

/-- **Baby steps.** For an even `d1 ≥ 4` (every row of the table: `6 ∣ d1`) the walk over the `gaps` table never
indexes outside it and never underflows, and the table holds `[b] Q` for exactly the `b` of `babyIdx d1`, in order. -/
theorem baby_steps_spec (Q : G) {d1 : Nat} (hev : 2 ∣ d1) (h4 : 4 ≤ d1) :
    babySteps (grpOps : Ops G G) d1 Q = some ((babyIdx d1).map (· • Q)) := by
  obtain ⟨r, e, hr⟩ := babySteps_sim (grpSim (G := G)) (rfl : Q = Q) hev h4
  rw [e, eq_of_forall₂_eq hr]

/-- **Giant steps.** The table holds `[i d1] Q` for exactly the `i` of `giantIdx d2 = 1, 2, 3, …, d2` (for `d2 < 2`
still `1, 2`), in order: the first two by chain multiplication and doubling, the others by extended additions. -/
theorem giant_steps_spec (Q : G) {d1 : Nat} (hd : d1 < 2 ^ 64) (d2 : Nat) :
    giantSteps (grpOps : Ops G G) d1 d2 Q = some ((giantIdx d2).map (fun i => (i * d1) • Q)) := by
  obtain ⟨r, e, hr⟩ := giantSteps_sim (grpSim (G := G)) (rfl : Q = Q) hd d2
  rw [e, eq_of_forall₂_eq hr]

end Group

/-- **The index sets of the model are the ones C16 quantifies over.** `babyIdx` is the set `isEcmBabyOf ecmBaby`
and `giantIdx` the set `isGiant ecmGiant` that `ecmIsGrid` / `ecm_cover` / `ecm_grid_exact` are stated with (their
loop bounds are read from the source by the translator): `b ∈ babyIdx d1 ⇔ 1 ≤ b < d1/2 ∧ gcd(b, d1) = 1`,
`i ∈ giantIdx d2 ⇔ 1 ≤ i ≤ d2` — the closed range `[1, d2]`, not `[0, d2)` —, and the giant table has
`giantCount` entries. -/
theorem stage2_index_sets (d1 d2 : Nat) (h2 : 2 ≤ d2) :
    (∀ b, b ∈ babyIdx d1 ↔ isEcmBabyOf Stage2Arms.ecmBaby d1 b = true) ∧
    (∀ i, i ∈ giantIdx d2 ↔ isGiant Stage2Arms.ecmGiant d2 i = true) ∧
    (giantIdx d2).length = giantCount Stage2Arms.ecmGiant d2 ∧
    (∀ i, i ∈ giantIdx d2 ↔ 1 ≤ i ∧ i ≤ d2) :=
  index_sets rfl rfl d1 d2 h2

section Cover
variable {G : Type} [AddCommGroup G]

/-- **The tables cover what C16 promises.** For a table row (`6 ∣ d1`, `2 ≤ d2`, `d1` a `u64`) and a prime `l` with
`d1/2 < l ≤ d2·d1 + d1/2 − 1` not dividing `d1` (`C16.ecm_cover`): the giant table computed by the model contains
`[i d1] Q` and the baby table contains `[b] Q` for a pair with `l = i d1 ± b`; so if `[l] Q = O` these two entries
are opposite or equal points (`C16.ecm_hit`: any even coordinate function takes the same value on them). -/
theorem stage2_tables_cover (Q : G) {d1 d2 l : Nat} (h6 : 6 ∣ d1) (hd : 0 < d1) (hd64 : d1 < 2 ^ 64) (hd2 : 2 ≤ d2)
    (hp : l.Prime) (hnd : ¬ l ∣ d1) (hlo : d1 / 2 < l) (hhi : l ≤ d2 * d1 + d1 / 2 - 1) :
    ∃ bt gt, babySteps (grpOps : Ops G G) d1 Q = some bt ∧ giantSteps (grpOps : Ops G G) d1 d2 Q = some gt ∧
      ∃ i b, (l = i * d1 + b ∨ l + b = i * d1) ∧ (i * d1) • Q ∈ gt ∧ b • Q ∈ bt ∧
        ∀ {Y : Type} (y : G → Y), (∀ P, y (-P) = y P) → l • Q = 0 → y ((i * d1) • Q) = y (b • Q) := by
  have hev : 2 ∣ d1 := Nat.dvd_trans (by decide) h6
  have h6' : 6 ≤ d1 := Nat.le_of_dvd hd h6
  obtain ⟨_, i, b, hi1, hi2, hb1, hb2, hbg, hm⟩ := Ymq.C16.ecm_cover h6 hd hd2 hp hnd hlo hhi
  refine ⟨_, _, baby_steps_spec Q hev (by omega), giant_steps_spec Q hd64 d2, i, b, hm, ?_, ?_, ?_⟩
  · exact List.mem_map.mpr ⟨i, (giantIdx_mem hd2).mpr ⟨hi1, hi2⟩, rfl⟩
  · exact List.mem_map.mpr ⟨b, babyIdx_mem.mpr ⟨hb1, hb2, hbg⟩, rfl⟩
  · intro Y y heven h0
    have := Ymq.C16.ecm_hit (E := 1) (G := Q) y heven (by rw [one_mul]; exact h0) hm
    simpa using this

end Cover

section Ring
variable {X : Type} [CommRing X]

/-- **The accumulated product vanishes.** In the direct path (`d1 < 4000`): if the (normalised) `y` of the giant step
in row `k` equals the `y` of some baby step, then the value pushed for row `k` and every later one — in particular the
last value, the whole product — is 0; there is one value per giant step. Over `Z/p` this is "`p` divides the
product"; `gcd_factors` then extracts it (C16 `gcd_factors_prod`). -/
theorem stage2_difference_vanishes (bys gys : List X) (buf : X) (k : Nat) (gy : X) (hk : gys[k]? = some gy)
    (hmem : gy ∈ bys) :
    (prodRows (· * ·) (· - ·) bys gys buf).length = gys.length ∧
    ∀ j, k ≤ j → ∀ v, (prodRows (· * ·) (· - ·) bys gys buf)[j]? = some v → v = 0 :=
  ⟨prodRows_length bys gys buf, prodRows_hit bys gys buf k gy hk hmem⟩

/-- … from the projective coordinates, through the normalisation the routine performs (`ExpModn.ynorm`, run on the
concatenated tables): over a domain, if no `z` vanishes and the affine `y/z` of step `ib` (a baby step: `ib < nb`) and
of step `nb + k` (giant step `k`) agree, then after normalisation the product for row `k` and all later rows is 0. -/
theorem stage2_hit_product_zero {F : Type} [CommRing F] [IsDomain F] (steps : List (F × F)) (hz : ∀ e ∈ steps, e.2 ≠ 0)
    (nb ib k : Nat) (hib : ib < nb) (eb eg : F × F) (hb : steps[ib]? = some eb) (hg : steps[nb + k]? = some eg)
    (haff : eg.1 * eb.2 = eb.1 * eg.2) (buf : F) :
    ∀ j, k ≤ j → ∀ v,
      (prodRows (· * ·) (· - ·) ((normY (· * ·) steps).take nb) ((normY (· * ·) steps).drop nb) buf)[j]? = some v →
      v = 0 := by
  have hlen := ynorm_length steps
  have hibl : ib < steps.length := (List.getElem?_eq_some_iff.mp hb).1
  have hgl : nb + k < steps.length := (List.getElem?_eq_some_iff.mp hg).1
  obtain ⟨eb', hb'⟩ : ∃ e, (Ymq.ExpModn.ynorm (· * ·) steps)[ib]? = some e :=
    ⟨_, List.getElem?_eq_getElem (by omega)⟩
  obtain ⟨eg', hg'⟩ : ∃ e, (Ymq.ExpModn.ynorm (· * ·) steps)[nb + k]? = some e :=
    ⟨_, List.getElem?_eq_getElem (by omega)⟩
  have hcmp := (Ymq.C16.ynorm_compare steps hz (nb + k) ib eg eb eg' eb' hg hb hg' hb').mpr haff
  have heq : eg'.1 = eb'.1 := sub_eq_zero.mp hcmp
  apply prodRows_hit _ _ buf k eg'.1
  · unfold normY
    rw [List.getElem?_drop, List.getElem?_map, hg']; rfl
  · rw [heq]
    unfold normY
    apply List.mem_of_getElem? (i := ib)
    rw [List.getElem?_take_of_lt hib, List.getElem?_map, hb']; rfl

end Ring

section NoPanic
open Ymq.Gen.Curves Ymq.Curve
variable {R : Type} [CommRing R]

/-- the curve formulas preserve "on the curve" (projective) and "on the curve and on the quadric" (extended): the
closure theorems of Props/C15.lean collected -/
theorem curve_ops_closed (d : R) (tw : Bool) :
    OpsInv (curveOps d tw) (ecmIsValid d tw) (fun e => ecmIsValidext d tw e ∧ OnQuadric e) where
  zero := by cases tw <;> simp [curveOps, ecmIsValid, ecmIsValidSides]
  toExt := fun p hp => to_extended_closed d tw p hp
  toProj := fun e he => toProj_valid d tw e he.1 he.2
  double := fun p hp => double_closed d tw p hp
  dblext := fun p hp => dblext_closed d tw p hp
  addext := fun a b ha hb => addext_closed d tw a b ha.1 ha.2 hb.1 hb.2
  addp := fun a b ha hb => addextproj_closed d tw a b ha.1 ha.2 hb.1 hb.2
  subp := fun a b ha hb => subextproj_closed d tw a b ha.1 ha.2 hb.1 hb.2

/-- **`ecm_curve` never panics on the domain `ecm()` passes** (the model returns a value): over any commutative ring,
for the translated curve formulas, a generator on the curve (`select_curve_sound`: every curve `ecm()` runs has one),
an `is_valid` that accepts the points of the curve, exponent blocks that fit their words, an even `d1 ≥ 4` that is a
`u64`, and `check_gcd_factor` / `roots_eval` that return (hypotheses `CheckTotal`, `hre`: these are the routines of C16
and C10, not re-proved here): no chain builder overflows, no `gaps` table is indexed outside, the gap
arithmetic `b - bexp`, `gap / 2 - 1` never underflows, `assert_eq!(bs[0], 1)` and `assert!(c.is_valid(&g))` hold. -/
theorem ecm_curve_no_panic {X : Type} (env : Env (Pt R) (Ext R) X) (d : R) (tw : Bool) (hops : env.ops = curveOps d tw)
    (hvalid : ∀ p, ecmIsValid d tw p → env.valid p = true) (hc : CheckTotal env.check)
    (hre : ∀ a b, env.rootsEval a b ≠ none) (factors larges : List Nat) (hf : ∀ f ∈ factors, f < 2 ^ 64)
    (hl : ∀ f ∈ larges, f < 2 ^ 1024) {d1 : Nat} (hev : 2 ∣ d1) (h4 : 4 ≤ d1) (hd : d1 < 2 ^ 64) (d2 : Nat)
    (g : Pt R) (hg : ecmIsValid d tw g) :
    ecmCurve env factors larges d1 d2 g ≠ none :=
  ecmCurve_total env (hops ▸ curve_ops_closed d tw) hvalid hc hre factors larges hf hl hev h4 hd d2 g hg

/-- … as `ecm()` calls it: `SmoothBase::new(b1, true)` for `b1 ≤ 2^24` (C17) and `stage2_params(b2)` for any `b2`
(every row of the table has an even `d1 ≥ 4` below `2^64`). -/
theorem ecm_curve_b_no_panic {X : Type} (env : Env (Pt R) (Ext R) X) (d : R) (tw : Bool) (hops : env.ops = curveOps d tw)
    (hvalid : ∀ p, ecmIsValid d tw p → env.valid p = true) (hc : CheckTotal env.check)
    (hre : ∀ a b, env.rootsEval a b ≠ none) (b1 b2 : Nat) (hb : b1 ≤ 2 ^ 24) (g : Pt R) (hg : ecmIsValid d tw g) :
    ecmCurveB env b1 b2 g ≠ none := by
  obtain ⟨f, l, h1, h2, h3, _⟩ := Ymq.C17.smoothbase_divides_16M b1 true hb
  obtain ⟨lab, d1, d2, hsel, hev, h4, h64⟩ := stage2Select_row b2
  unfold ecmCurveB
  simp only [h1, hsel]
  exact ecm_curve_no_panic env d tw hops hvalid hc hre f l h2 h3 hev h4 h64 d2 g hg

end NoPanic

/-- non-vacuity of `ecm_curve_no_panic` / `ecm_curve_b_no_panic`: an environment over ℤ satisfying every hypothesis -/
example : ecmCurveB (⟨curveOps (1 : Int) false, 35, fun p => p.x, fun p => (p.y, p.z), 1, (· * ·), (· - ·), fun _ => true,
    fun _ => some none, fun _ _ => some []⟩ : Env (Ymq.Gen.Curves.Pt Int) (Ymq.Gen.Curves.Ext Int) Int) 16 660 ⟨1, 2, 1⟩ ≠ none :=
  ecm_curve_b_no_panic _ 1 false rfl (fun _ _ => rfl) (fun _ => ⟨by simp, by simp⟩) (fun _ _ => by simp) 16 660 (by decide)
    ⟨1, 2, 1⟩ (by simp [Ymq.Gen.Curves.ecmIsValid, Ymq.Gen.Curves.ecmIsValidSides])

/-! ## non-vacuity -/

example : babyIdx 66 = [1, 5, 7, 13, 17, 19, 23, 25, 29, 31] ∧ giantIdx 10 = [1, 2, 3, 4, 5, 6, 7, 8, 9, 10] := by
  decide
example : babySteps (grpOps : Ops Int Int) 66 1 = some [1, 5, 7, 13, 17, 19, 23, 25, 29, 31] := by
  rw [baby_steps_spec (1 : Int) (by decide) (by decide)]; decide
example : giantSteps (grpOps : Ops Int Int) 66 4 1 = some [66, 132, 198, 264] := by
  rw [giant_steps_spec (1 : Int) (by decide) 4]; decide
example : (∀ f ∈ [43589145600, 10131543907], f < 2 ^ 64) ∧ (∀ f ∈ ([] : List Nat), f < 2 ^ 1024) := by decide
example : CheckTotal (fun _ : List Nat => some none) := fun _ => ⟨by simp, by simp⟩
example : (6 ∣ 66) ∧ Nat.Prime 691 ∧ ¬ 691 ∣ 66 ∧ 66 / 2 < 691 ∧ 691 ≤ 10 * 66 + 66 / 2 - 1 :=
  ⟨by decide, by norm_num, by decide, by decide, by decide⟩
/-- a hit in row 1 of two: both values pushed from there on are 0 (ℤ, baby `y`s 3 and 5, giant `y`s 7 and 5 and 9) -/
example : prodRows (· * ·) (· - ·) [3, 5] [7, 5, 9] (1 : Int) = [8, 0, 0] := by decide
example : ∃ steps : List (Int × Int), (∀ e ∈ steps, e.2 ≠ 0) ∧ steps[0]? = some (1, 2) ∧ steps[1 + 0]? = some (2, 4) ∧
    (2 : Int) * 2 = 1 * 4 := ⟨[(1, 2), (2, 4)], by decide, rfl, rfl, by decide⟩

/-- Sharpness of the giant range (what an off-by-one would lose): with `d2 = 10`, `d1 = 66` the value 691 = 10·66 + 31 is
on the grid only through the giant index `i = d2`; the model's table has that entry and no entry for `i = 0` or `11`. -/
theorem giant_range_sharp :
    10 ∈ giantIdx 10 ∧ 0 ∉ giantIdx 10 ∧ 11 ∉ giantIdx 10 ∧ ecmIsGrid 66 10 691 = true ∧ ecmIsGrid 66 9 691 = false := by
  decide

end Ymq.C15
