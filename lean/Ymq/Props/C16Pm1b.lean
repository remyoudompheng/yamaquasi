/-
C16, the whole-function models of Pollard P-1 (Model/Pm1Impl.lean) and Williams P+1 (Model/Pp1Impl.lean) piece by piece:
what each loop of the two routines holds and that it does not panic (Props/C16Pm1.lean and Props/C16Pp1.lean hold the
statements about the functions as a whole).

  * P+1, stage 2: `pp1_baby_complete` / `pp1_baby_exact`: the baby-step list of `pp1` holds EVERY `b` the loop condition
    admits; with it `pp1_stage2_found` is the full form of `pp1_stage2_found_partial` (both the giant entry and the baby
    entry are entries of the model's lists), and `pp1_stage2_product_zero` says that the double product `roots_eval` is
    specified to compute over those lists vanishes.
  * P-1, residues: `pm1_exp_modn_residues`, `pm1_exp_modn_large_residues`, `pm1_apply_ev_no_panic`: `exp_modn` and
    `exp_modn_large` on the residues `a*b % m` of the model; `pm1_gap_table_in_range`: the gap-table index bounds.
  * P-1, prime walk: `pm1_walk_block_no_panic`: a sieve block of the walk never panics; `pm1_walk_stop_prime_found`,
    `pm1_walk_found_partial`: what the walk's product holds at the end of a block; `pm1_walk_stop_prime_kept`: the content
    behind `pm1_walk_includes_stop_prime` (which only unfolds `walk`).
  * P-1, polynomial stage 2: `pm1_baby_complete`: the baby steps of `pm1_stage2_polyeval` never panic and hold `g^r` for
    exactly the `r` of `isPm1Baby` (the set `pm1_cover` / `pm1_found` quantify over); `pm1_polyeval_baby_assert_holds`,
    `pm1_polyeval_giant_assert_holds`: the two `debug_assert!`s of `pm1_stage2_polyeval` (the model evaluates them:
    `expCheckPanics`) never fail; `pm1_polyeval_no_panic_partial`: `polyVals` has no panic (hypothesis: length of the
    model's baby list + 1 ≤ d2); `pm1_polyeval_no_panic`: the same from `pm1Deg d1 + 1 ≤ d2`.
  * P+1, panic sites: `pp1_stage1_block_no_panic`, `pp1_stage2_vals_no_panic`: the stage-1 loop of `pp1` over a sieve
    block and the computation of the stage-2 products never panic.
  Not proved: the gcd-chain property of `gpows`/`products` handed to `check_gcd_factors` (its `debug_assert!`s) across a
  ring shrink, hence no `pm1_impl_no_panic` for the whole function (the other two ingredients, `exp_modn` on residues and
  the gap-table bounds, are above); the walk across sieve blocks (`walkOuter`); the composition of `pm1_found` with
  `from_roots` / the chirp-z convolution of `polyVals` (`pm1_polyeval_found`).
-/
import Ymq.Lemmas.Pm1Walk
import Ymq.Lemmas.Pm1Baby
import Ymq.Lemmas.Pm1Giant
import Ymq.Props.C16Pp1
import Ymq.Props.C16Pm1

namespace Ymq.C16
open Ymq.Pp1Impl Ymq.ExpModn Ymq.Gen Ymq.Stage2
open Ymq.Pm1Impl (mulm subm onem W WInv GInv walkStep walkBlock extendGaps)

/-- **The baby-step list is complete.** Whatever the ring operations: `b = 1` and every odd `b < d1/2` with
`b % 3 ≠ 0` and `gcd(b, d1) = 1` (the exact condition of the loop in pp1.rs) has an entry in the list `pp1` hands to
`roots_eval` as baby steps.  (`pp1_baby_values` is the converse plus the value.) -/
theorem pp1_baby_complete {α : Type*} (mul sub : α → α → α) (g g2 : α) (d1 : Nat) {b : Nat}
    (hb : b = 1 ∨ (b % 2 = 1 ∧ b < d1 / 2 ∧ b % 3 ≠ 0 ∧ Nat.gcd b d1 = 1)) :
    b ∈ (Pp1Impl.babySteps mul sub g g2 d1).map (·.1) :=
  (babySteps_idx mul sub g g2 d1 b).mpr hb

example : (7 : Nat) % 2 = 1 ∧ 7 < 30 / 2 ∧ 7 % 3 ≠ 0 ∧ Nat.gcd 7 30 = 1 := by decide

/-- for `6 ∣ d1` the condition is `gcd(b, d1) = 1` alone: the list is exactly `{b < d1/2 : gcd(b, d1) = 1}` (the set
`pp1_cover` / `pp1_grid_exact` quantify over); `b = 1`, which the loop pushes unconditionally, is in it: `1 < d1/2` as soon as `d1 ≥ 6` -/
theorem pp1_baby_exact {α : Type*} (mul sub : α → α → α) (g g2 : α) {d1 : Nat} (h6 : 6 ∣ d1) (hd : 0 < d1) (b : Nat) :
    b ∈ (Pp1Impl.babySteps mul sub g g2 d1).map (·.1) ↔ (1 ≤ b ∧ b < d1 / 2 ∧ Nat.gcd b d1 = 1) := by
  have h6' := Nat.le_of_dvd hd h6
  rw [babySteps_idx]
  constructor
  · rintro (h1 | ⟨h2, hlt, h3, hg⟩)
    · rw [h1]; exact ⟨by omega, by omega, by simp⟩
    · exact ⟨by omega, hlt, hg⟩
  · rintro ⟨h1, hlt, hg⟩
    exact Or.inr ⟨odd_of_coprime_even (Nat.dvd_trans (by decide) h6) hg, hlt,
      not3_of_coprime (Nat.dvd_trans (by decide) h6) hg, hg⟩

example : (6 : Nat) ∣ 30 ∧ (1 ≤ 11 ∧ 11 < 30 / 2 ∧ Nat.gcd 11 30 = 1) := by decide

/-- **What stage 2 of `pp1` finds** (full form of `pp1_stage2_found_partial`): for a prime `l` prime to `d1` with
`d1/2 < l ≤ d2·d1 + d1/2 − 1` and `x^(E·l) = 1` (`x·y = 1`; in `F_{p²}`: `x` a root of `X² − seed·X + 1`, `E` the
stage-1 exponent, `l ∣ p + 1` or `l ∣ p − 1`), an entry `(i, v)` of the model's giant steps and an entry `(b, w)` of the
model's baby steps, both computed from `Q = V_E(x + y)` as `pp1` computes them, satisfy `v − w = 0`. -/
theorem pp1_stage2_found {R : Type*} [CommRing R] {x y : R} (hxy : x * y = 1) {E l d1 d2 : Nat}
    (h6 : 6 ∣ d1) (hd : 0 < d1) (hd2 : 1 ≤ d2) (hl : l.Prime) (hnd : ¬ l ∣ d1) (hlo : d1 / 2 < l)
    (hhi : l ≤ d2 * d1 + d1 / 2 - 1) (hm1 : x ^ (E * l) = 1) :
    ∃ iv ∈ giantSteps (· * ·) (· - ·) (2 : R) (chebV (chebV (x + y) E) d1) d2,
      ∃ bw ∈ Pp1Impl.babySteps (· * ·) (· - ·) (chebV (x + y) E) (chebV (chebV (x + y) E) 2) d1, iv.2 - bw.2 = 0 := by
  obtain ⟨iv, hiv, b, hb1, hblt, hbg, hz⟩ := pp1_stage2_found_partial hxy h6 hd hd2 hl hnd hlo hhi hm1
  have hmem := (pp1_baby_exact (· * ·) (· - ·) (chebV (x + y) E) (chebV (chebV (x + y) E) 2) h6 hd b).mpr ⟨hb1, hblt, hbg⟩
  obtain ⟨bw, hbw, hidx⟩ := List.mem_map.mp hmem
  refine ⟨iv, hiv, bw, hbw, ?_⟩
  have hval := (pp1_baby_values (chebV (x + y) E) d1 bw hbw).1
  rw [hval, hidx]
  exact hz

example : (6 : Nat) ∣ 510 ∧ Nat.Prime 601 ∧ ¬ 601 ∣ 510 ∧ 510 / 2 < 601 ∧ 601 ≤ 64 * 510 + 510 / 2 - 1 :=
  ⟨by decide, by norm_num, by decide, by decide, by decide⟩

/-- … hence the double product `∏_j ∏_i (baby_j − giant_i)` that `roots_eval` is specified to compute over the two lists
(`rootsEvalSpec`, cumulated by `stage2Vals`) is `0` in every ring where `x^(E·l) = 1`: modulo a prime factor `p` of `n`
with `l ∣ p ± 1` the last cumulative product is divisible by `p`. -/
theorem pp1_stage2_product_zero {R : Type*} [CommRing R] {x y : R} (hxy : x * y = 1) {E l d1 d2 : Nat}
    (h6 : 6 ∣ d1) (hd : 0 < d1) (hd2 : 1 ≤ d2) (hl : l.Prime) (hnd : ¬ l ∣ d1) (hlo : d1 / 2 < l)
    (hhi : l ≤ d2 * d1 + d1 / 2 - 1) (hm1 : x ^ (E * l) = 1) :
    ((Pp1Impl.babySteps (· * ·) (· - ·) (chebV (x + y) E) (chebV (chebV (x + y) E) 2) d1).map (fun bw =>
      ((giantSteps (· * ·) (· - ·) (2 : R) (chebV (chebV (x + y) E) d1) d2).map (fun iv => bw.2 - iv.2)).prod)).prod = 0 := by
  obtain ⟨iv, hiv, bw, hbw, hz⟩ := pp1_stage2_found hxy h6 hd hd2 hl hnd hlo hhi hm1
  apply List.prod_eq_zero
  refine List.mem_map.mpr ⟨bw, hbw, ?_⟩
  apply List.prod_eq_zero
  refine List.mem_map.mpr ⟨iv, hiv, ?_⟩
  have : bw.2 - iv.2 = -(iv.2 - bw.2) := by ring
  rw [this, hz, neg_zero]

example : ((-1 : ZMod 7) * (-1) = 1) ∧ ((-1 : ZMod 7) ^ (4 * 2) = 1) := by decide

/-- **`exp_modn` on the residues of the model.** For every modulus `m` (also `m = 0, 1`), every `g` and every `u64`
exponent, `exp_modn` computed with `a*b % m` does not reach `unreachable!` and returns a value `≡ g^e (mod m)`:
the relational specification `expModn_rel`, of which `exp_modn_spec` is the case of equality, at the cast `Nat → ZMod m`. -/
theorem pm1_exp_modn_residues (m g e : Nat) (he : e < 2 ^ 64) :
    ∃ x, expModn (mulm m) (onem m) g e = some x ∧ x ≡ g ^ e [MOD m] :=
  Ymq.Pm1Impl.expModn_mod g e he

example : expModn (mulm 77) (onem 77) 2 5 = some 32 ∧ (5 : Nat) < 2 ^ 64 := ⟨by decide +kernel, by norm_num⟩

/-- **`exp_modn_large` on the residues of the model**: for every modulus, every `g` and every exponent below `2^1024`
(`U1024`), no index of `g_smalls` is out of range and the value is `≡ g^e (mod m)` (`expModnLarge_rel` at the same cast). -/
theorem pm1_exp_modn_large_residues (m g e : Nat) (he : e < 2 ^ 1024) :
    ∃ x, expModnLarge (mulm m) (onem m) g e = some x ∧ x ≡ g ^ e [MOD m] :=
  Ymq.Pm1Impl.expModnLarge_mod g e he

example : 2 ^ 70 + 5 < 2 ^ 1024 :=
  lt_of_lt_of_le (show 2 ^ 70 + 5 < 2 ^ 71 by norm_num) (Nat.pow_le_pow_right (by decide) (by decide))

/-- hence a flush of stage 1 (`g = exp_modn(g, expblock)` resp. `exp_modn_large(g, expblock_lg)`) never panics when the
exponent fits its type (`pm1_stage1_divides`, C17: the flushed blocks fit), and raises `g` to that exponent -/
theorem pm1_apply_ev_no_panic (m g : Nat) (ev : Ymq.Pm1.Ev)
    (hfit : match ev with | .small e => e < 2 ^ 64 | .large e => e < 2 ^ 1024) :
    ∃ x, Ymq.Pm1Impl.applyEv m g ev = some x ∧
      x ≡ g ^ (match ev with | .small e => e | .large e => e) [MOD m] := by
  cases ev with
  | small e => exact pm1_exp_modn_residues m g e hfit
  | large e => exact pm1_exp_modn_large_residues m g e hfit

example : Ymq.Pm1Impl.applyEv 77 2 (.small 6) = some 64 := by decide +kernel

/-- **Gap-table index bounds.** `while gaps.len() <= half { gaps.push(gaps[last] * g2) }` from a non-empty table with
`gaps[i] ≡ g^(2i+2)`: `gaps[gaps.len() - 1]` is never out of range, afterwards `half < gaps.len()` — the index
`gap/2 − 1` the walk and the baby steps of `pm1_stage2_polyeval` read is in range — and the table still holds
`g^(2i+2)`. -/
theorem pm1_gap_table_in_range {m g g2 : Nat} (hg2 : g2 ≡ g ^ 2 [MOD m]) {gaps : List Nat} (hinv : GInv m g gaps)
    (half : Nat) :
    ∃ gaps', extendGaps m g2 (half + 1) gaps half = some gaps' ∧ half < gaps'.length ∧ GInv m g gaps' :=
  Ymq.Pm1Impl.extendGaps_spec hg2 (half + 1) gaps half hinv (by omega)

example : (mulm 77 2 2 ≡ 2 ^ 2 [MOD 77]) ∧ GInv 77 2 [mulm 77 2 2] ∧
    extendGaps 77 (mulm 77 2 2) 4 [mulm 77 2 2] 3 = some [4, 16, 64, 25] :=
  ⟨Ymq.Pm1Impl.g2_modEq 77 2, ⟨by simp, fun i v hv => by
    match i, hv with
    | 0, hv => simp at hv; subst hv; exact Ymq.Pm1Impl.g2_modEq 77 2
    | i + 1, hv => simp at hv⟩, by decide +kernel⟩

/-- **A sieve block of the prime walk never panics** (`assert!(gap > 0 && gap % 2 == 0)`, `gaps[gap/2 − 1]`): from a
state with `x ≡ g^p_prev`, `gaps[i] ≡ g^(2i+2)` and an odd `p_prev`, over a block of increasing odd numbers (what
`PrimeSieve` yields after its first block; the walk starts at `p_prev > b1 > 3`), for every ring modulus `m > 0`; the
state it ends in satisfies the same invariant. -/
theorem pm1_walk_block_no_panic {m g b2 : Nat} (hm : 0 < m) {w : W} (hinv : WInv m g w) (hodd : w.pPrev % 2 = 1)
    {blk : List Nat} (hsorted : blk.Pairwise (· < ·)) (hodds : ∀ p ∈ blk, p % 2 = 1) :
    ∃ w', walkBlock m (mulm m g g) b2 blk w = some w' ∧ WInv m g w' ∧ w'.pPrev % 2 = 1 := by
  obtain ⟨w', h1, h2, h3, _⟩ := Ymq.Pm1Impl.walkBlock_spec (b2 := b2) hm (Ymq.Pm1Impl.g2_modEq m g) blk w hinv hsorted hodds hodd
  exact ⟨w', h1, h2, h3⟩

example : [7, 11, 13].Pairwise (· < ·) ∧ (∀ p ∈ [7, 11, 13], p % 2 = 1) ∧ 5 % 2 = 1 := by decide

/-- **The stop prime is found.** The walk of `pm1_impl` starts (for `p_prev < 2^64`: it is a `u32`) without a panic of
`exp_modn`, from a state satisfying the walk invariant, and its first product is divisible by every divisor `q` of the
ring modulus with `g^p_prev ≡ 1 (mod q)`: with `pm1_walk_includes_stop_prime` and `pm1_walk_product_accumulates` the
stop prime's term is in every later product. -/
theorem pm1_walk_stop_prime_found {m : Nat} (hm : 0 < m) (g pPrev : Nat) (hp : pPrev < 2 ^ 64) :
    ∃ x, expModn (mulm m) (onem m) g pPrev = some x ∧
      WInv m g { x := x, product := subm m x (onem m), productsRev := [onem m], gaps := [mulm m g g], pPrev := pPrev } ∧
      ∀ q, q ∣ m → g ^ pPrev ≡ 1 [MOD q] → q ∣ subm m x (onem m) := by
  obtain ⟨x, hx, hmod⟩ := Ymq.Pm1Impl.expModn_mod (m := m) g pPrev hp
  exact ⟨x, hx, ⟨hmod, Ymq.Pm1Impl.ginv_init m g⟩, fun q hq hd => Ymq.Pm1Impl.dvd_subm_one hq hm ((Nat.ModEq.of_dvd hq hmod).trans hd)⟩

example : (2 ^ 5 ≡ 1 [MOD 31]) ∧ 31 ∣ 31 * 3 ∧ 31 ∣ subm 93 32 (onem 93) := by decide

/-- **What the prime walk finds, per sieve block.** From a state satisfying the walk invariant (the initial one does:
`pm1_walk_stop_prime_found`), over a block of increasing odd numbers: every `l` of the block with `p_prev < l ≤ b2` and
`g^l ≡ 1 (mod q)` for a divisor `q` of the ring modulus has `q ∣ product` in the state the block ends in (also when the
block is left early at the first `p > b2`), and divisors of the incoming product are kept.
`_partial`: the statement for the whole walk (`walkOuter`: every prime `l` with `p_prev_stop ≤ l ≤ b2`) needs in
addition that the blocks `PrimeSieve::next` yields are the increasing odd primes (`Primes.next_spec`, Lemmas/PrimesStream; C17 `block_spec`)
and that `check_gcd_factors` between two blocks does not panic; `walkOuter` hands `x`, `product`, `gaps`, `p_prev`
unchanged to the next block. -/
theorem pm1_walk_found_partial {m g b2 : Nat} (hm : 0 < m) {w w' : W} (hinv : WInv m g w) (hodd : w.pPrev % 2 = 1)
    {blk : List Nat} (hsorted : blk.Pairwise (· < ·)) (hodds : ∀ p ∈ blk, p % 2 = 1)
    (hw : walkBlock m (mulm m g g) b2 blk w = some w') :
    (∀ q, q ∣ m → q ∣ w.product → q ∣ w'.product) ∧
      ∀ l ∈ blk, w.pPrev < l → l ≤ b2 → ∀ q, q ∣ m → g ^ l ≡ 1 [MOD q] → q ∣ w'.product := by
  obtain ⟨w'', h1, _, _, _, h5, h6⟩ :=
    Ymq.Pm1Impl.walkBlock_spec (b2 := b2) hm (Ymq.Pm1Impl.g2_modEq m g) blk w hinv hsorted hodds hodd
  rw [hw] at h1
  simp only [Option.some.injEq] at h1
  subst h1
  exact ⟨h5, h6⟩

/-- **The stop prime's term stays in the product** (the content behind `pm1_walk_includes_stop_prime`, which is only
the unfolding of `walk`): for every ring modulus `m > 0` and every odd stop prime `p_prev < 2^64`, the walk starts
without a panic and, after the first sieve block it walks (increasing odd numbers), every divisor `q` of `m` with
`g^p_prev ≡ 1 (mod q)` divides the running product — also when no later prime contributes.  A walk started at
`product = 1` (seeded change C16-3) does not satisfy this. -/
theorem pm1_walk_stop_prime_kept {m : Nat} (hm : 0 < m) (g b2 : Nat) {pPrev : Nat} (hp : pPrev < 2 ^ 64)
    (hodd : pPrev % 2 = 1) {blk : List Nat} (hsorted : blk.Pairwise (· < ·)) (hodds : ∀ p ∈ blk, p % 2 = 1) :
    ∃ x w', expModn (mulm m) (onem m) g pPrev = some x ∧
      walkBlock m (mulm m g g) b2 blk
        { x := x, product := subm m x (onem m), productsRev := [onem m], gaps := [mulm m g g], pPrev := pPrev } = some w' ∧
      ∀ q, q ∣ m → g ^ pPrev ≡ 1 [MOD q] → q ∣ w'.product := by
  obtain ⟨x, hx, hinv, hq0⟩ := pm1_walk_stop_prime_found hm g pPrev hp
  obtain ⟨w', hw, _, _⟩ := pm1_walk_block_no_panic (b2 := b2) hm hinv hodd hsorted hodds
  exact ⟨x, w', hx, hw, fun q hq hd => (pm1_walk_found_partial hm hinv hodd hsorted hodds hw).1 q hq (hq0 q hq hd)⟩

/-- non-vacuity: `m = 93 = 3·31`, `g = 2`, stop prime `5` (`2^5 ≡ 1 mod 31`), block `[7, 11]`: 31 divides the product -/
example : (2 ^ 5 ≡ 1 [MOD 31]) ∧ expModn (mulm 93) (onem 93) 2 5 = some 32 ∧
    (walkBlock 93 (mulm 93 2 2) 11 [7, 11]
      { x := 32, product := subm 93 32 (onem 93), productsRev := [onem 93], gaps := [mulm 93 2 2], pPrev := 5 }).map
      (fun w => w.product % 31) = some 0 := by
  refine ⟨by decide, by decide +kernel, by decide +kernel⟩

/-- non-vacuity: `m = 381 = 3·127`, `g = 2`, stop prime `5`, block `[7, 11, 13]`, `b2 = 11`: `2^7 ≡ 1 mod 127` and
the product after the block is divisible by 127 -/
example : (2 ^ 7 ≡ 1 [MOD 127]) ∧ expModn (mulm 381) (onem 381) 2 5 = some 32 ∧
    (walkBlock 381 (mulm 381 2 2) 11 [7, 11, 13]
      { x := 32, product := subm 381 32 (onem 381), productsRev := [onem 381], gaps := [mulm 381 2 2], pPrev := 5 }).map
      (fun w => (w.product % 127, w.pPrev)) = some (0, 13) := by
  refine ⟨by decide, by decide +kernel, by decide +kernel⟩

/-- **The baby steps of `pm1_stage2_polyeval` are complete and never panic.** For every ring modulus `m`, every `g` and
every `d1` with `6 ∣ d1`: the baby loop of the model (gap table, `gaps[gap/2 − 1]`, fuel) returns a list `vs` that is,
entry by entry, `g^r (mod m)` over EXACTLY the list `(List.range (d1 + 2)).filter (isPm1Baby d1)` — the very list
`pm1_found` multiplies over (`0 < r ≤ d1 + 1`, `gcd(r, d1) = 1`, increasing): the roots of the polynomial `P` handed to
`from_roots` are the `g^r` of `pm1_found`, none missing, none added, none repeated. -/
theorem pm1_baby_complete (m g : Nat) {d1 : Nat} (h6 : 6 ∣ d1) (hd : 0 < d1) :
    ∃ vs, Ymq.Pm1Impl.babySteps m d1 g = some vs ∧
      List.Forall₂ (fun v r => v ≡ g ^ r [MOD m]) vs ((List.range (d1 + 2)).filter (isPm1Baby d1)) := by
  obtain ⟨vs, idx, e1, e2, e3, e4⟩ := Ymq.Pm1Impl.babySteps_spec_idx m g h6 hd
  exact ⟨vs, e1, Ymq.Pm1Impl.idx_eq_filter h6 le_rfl e3 e4 ▸ e2⟩

example : (6 : Nat) ∣ 30 ∧ Ymq.Pm1Impl.babySteps 1009 30 3 = some [3, 169, 572, 103, 271, 421, 804, 896, 1001] ∧
    ((List.range 32).filter (isPm1Baby 30)) = [1, 7, 11, 13, 17, 19, 23, 29, 31] := by
  refine ⟨by decide, by decide +kernel, by decide +kernel⟩

/-- **The second `debug_assert!` of `pm1_stage2_polyeval` never fails** (`gexp == exp_modn(g, d2²·d1/2)`, evaluated by
the model: `polyVals` is `none` when it fails or when its `exp_modn` panics): for every ring
modulus `m > 0`, a reduced `g`, an even `d1`, `d2 ≥ 1` and `d2²·d1 < 2^64` (the guard of the assertion), with
`dg = exp_modn(g, d1/2)`. -/
theorem pm1_polyeval_giant_assert_holds {m g d1 d2 dg : Nat} (hm : 0 < m) (hg : g < m) (hd1 : d1 % 2 = 0) (hd2 : 1 ≤ d2)
    (hfit : d2 * d2 * d1 < 2 ^ 64) (hdg : expModn (mulm m) (onem m) g (d1 / 2) = some dg) :
    Ymq.Pm1Impl.expCheckPanics m g
      (Ymq.Pm1Impl.gexpEnd m (Ymq.Pm1Impl.giantLoop m (mulm m dg dg) d2 (onem m) dg [] [])) (d2 * d2 * d1 / 2) = false :=
  Ymq.Pm1Impl.giant_assert_holds hm hg hd1 hd2 hfit hdg

example : expModn (mulm 1009) (onem 1009) 3 (30 / 2) = some 927 ∧ 4 * 4 * 30 < 2 ^ 64 ∧
    Ymq.Pm1Impl.gexpEnd 1009 (Ymq.Pm1Impl.giantLoop 1009 (mulm 1009 927 927) 4 (onem 1009) 927 [] []) = 3 ^ 240 % 1009 := by
  refine ⟨by decide +kernel, by norm_num, by decide +kernel⟩

/-- **The first `debug_assert!` of `pm1_stage2_polyeval` never fails** (`bg == exp_modn(g, bexp)` after the baby loop),
and the baby loop does not panic: for every ring modulus `m > 0`, a reduced `g` and `d1 + 1 < 2^64`. -/
theorem pm1_polyeval_baby_assert_holds {m g d1 : Nat} (hm : 0 < m) (hg : g < m) (hd : d1 + 1 < 2 ^ 64) :
    ∃ vs, Ymq.Pm1Impl.babySteps m d1 g = some vs ∧
      Ymq.Pm1Impl.expCheckPanics m g (vs.getLast?.getD g) (Ymq.Pm1Impl.babyLastExp d1 (d1 + 2) 1 1) = false :=
  Ymq.Pm1Impl.baby_assert_holds hm hg hd

example : Ymq.Pm1Impl.babyLastExp 30 32 1 1 = 31 ∧ (0 < 1009) ∧ (3 < 1009) ∧ 30 + 1 < 2 ^ 64 := by
  refine ⟨by decide +kernel, by decide, by decide, by norm_num⟩

/-- **`pm1_stage2_polyeval` does not panic** up to the cumulative products handed to `gcd_factors` (`polyVals`; the
panic sites of `gcd_factors` itself are `gcd_factors_prod`): for every ring modulus `m > 0`, a reduced `g`, `6 ∣ d1`,
`d1 + 1 < 2^64`, `d2` a power of two `≥ 56` (an NTT exists) — the `assert!`s, both `debug_assert!`s, the three `exp_modn`
calls, the gap-table indices, `negsteps[i]` and `p.len() − 2` are all passed.
`_partial`: the bound on the number of baby steps enters as the hypothesis `hlen` on the model's own baby list (and only
`d1 % 6 = 0` is needed); `pm1_polyeval_no_panic` below derives it from `pm1Deg d1 + 1 ≤ d2` (`pm1_baby_complete`: the
list is exactly the `pm1Deg d1` indices of `isPm1Baby`). -/
theorem pm1_polyeval_no_panic_partial {m g d1 d2 : Nat} (hm : 0 < m) (hg : g < m) (h6 : d1 % 6 = 0) (hd : d1 + 1 < 2 ^ 64)
    (hpow : d2 = 2 ^ Nat.log2 d2) (h56 : 56 ≤ d2)
    (hlen : ∀ vs, Ymq.Pm1Impl.babySteps m d1 g = some vs → vs.length + 1 ≤ d2) :
    (Ymq.Pm1Impl.polyVals m d1 d2 g).isSome = true :=
  Ymq.Pm1Impl.polyVals_isSome hm hg h6 hd hpow h56 hlen

example : (30 % 6 = 0) ∧ (64 = 2 ^ Nat.log2 64) ∧ (56 ≤ 64) ∧
    (Ymq.Pm1Impl.babySteps 1009 30 3).map (fun vs => decide (vs.length + 1 ≤ 64)) = some true ∧
    (Ymq.Pm1Impl.polyVals 1009 30 64 3).isSome = true := by
  refine ⟨by decide, by decide +kernel, by decide, by decide +kernel, by decide +kernel⟩

/-- **`pm1_stage2_polyeval` does not panic** (full form of `pm1_polyeval_no_panic_partial`: the number of baby steps is
`pm1Deg d1`, derived from `pm1_baby_complete`): for every ring modulus `m > 0`, a reduced `g`, `6 ∣ d1`, `d1 + 1 < 2^64`,
`d2` a power of two `≥ 56` with `pm1Deg d1 + 1 ≤ d2` (every row of the table: `pm1_degree`, `rows_ok`), the model computes
the cumulative products handed to `gcd_factors` without reaching any `assert!`, `debug_assert!`, index or `unwrap` site. -/
theorem pm1_polyeval_no_panic {m g d1 d2 : Nat} (hm : 0 < m) (hg : g < m) (h6 : 6 ∣ d1) (hd0 : 0 < d1) (hd : d1 + 1 < 2 ^ 64)
    (hpow : d2 = 2 ^ Nat.log2 d2) (h56 : 56 ≤ d2) (hdeg : pm1Deg d1 + 1 ≤ d2) :
    (Ymq.Pm1Impl.polyVals m d1 d2 g).isSome = true :=
  Ymq.Pm1Impl.polyVals_isSome hm hg (Nat.mod_eq_zero_of_dvd h6) hd hpow h56
    (fun vs hvs => by rw [Ymq.Pm1Impl.babySteps_length h6 hd0 hvs]; exact hdeg)

example : (6 ∣ 30) ∧ (64 = 2 ^ Nat.log2 64) ∧ (56 ≤ 64) ∧ pm1Deg 30 + 1 ≤ 64 := by
  refine ⟨by decide, by decide +kernel, by decide, by decide +kernel⟩

/-- **The stage-1 loop of `pp1` over a sieve block never panics**: for every ring modulus, every state, `b1 ≤ 2^32`
(`factor()` passes `b1 < 4294967291`) and a block of numbers `2 ≤ p < 2^32` (`PrimeSieve` yields `u32` primes): the power
loop `while pow * p < b1` neither overflows `u64` (checked profile) nor runs out of the model's fuel, and the Lucas
ladder has no panic site. -/
theorem pp1_stage1_block_no_panic (m : Nat) {b1 : Nat} (hb : b1 ≤ 2 ^ 32) (blk : List Nat) (s : Pp1Impl.S1)
    (hblk : ∀ p ∈ blk, 2 ≤ p ∧ p < 2 ^ 32) : ∃ s', Pp1Impl.block m b1 blk s = some s' :=
  Ymq.Pp1Impl.block_some m hb blk s hblk

example : (Pp1Impl.block 77 4 [2, 3, 5, 7] { g := 5, gpowsRev := [1], pPrev := 1 }).map (fun s => (s.g, s.pPrev)) = some (9, 5) := by
  decide +kernel

/-- **The stage-2 products of `pp1` are computed without a panic** (`assert!(d1 % 6 == 0)`,
`debug_assert!(gsteps.len() == d2)`): for every ring modulus and `g`, `6 ∣ d1`, `d2 ≥ 1` (every row of the table:
`rows_ok`). -/
theorem pp1_stage2_vals_no_panic (m g : Nat) {d1 d2 : Nat} (h6 : 6 ∣ d1) (hd2 : 1 ≤ d2) :
    ∃ vals, Pp1Impl.stage2Vals m d1 d2 g = some vals := by
  unfold stage2Vals
  rw [if_neg (by omega)]
  simp only
  have hlen : (giantSteps (mulm m) (subm m) (twom m) (cheb m g d1) d2).length = d2 := by
    have := congrArg List.length (giantSteps_idx (mulm m) (subm m) (twom m) (cheb m g d1) d2 hd2)
    simpa using this
  rw [if_neg (by rw [hlen]; simp)]
  exact ⟨_, rfl⟩

example : (6 ∣ 6) ∧ (Pp1Impl.stage2Vals 77 6 2 3).isSome = true := ⟨by decide, by decide +kernel⟩

end Ymq.C16
