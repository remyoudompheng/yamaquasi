/-
C03 / C01 — the rho stage inside the model: `pollard_rho::rho` (what lib.rs:270 and lib.rs:437 call)
and `pollard_rho::rho_semiprime` (what fbase.rs:486 calls), modelled line by line in
Ymq/Model/PollardRho.lean on top of the word-exact `rho64` of C16 (Ymq/Model/ExpModn.lean).

Only property theorems live here (lemmas: Ymq/Lemmas/PollardRho.lean). Outer `none` of the models =
the real function does not return normally (overflow of `x2 += c`, a panic site of `mg_redc`, the
`debug_assert!(pow2k & (pow2k - 1) == 0)`, or `mg_2adic_inv` looping on an even modulus).

* no panic: `rho64_no_panic` (odd `3 ≤ n ≤ 2^64 - 17`, `c ≤ 9`, ANY budget), `rho_no_panic`,
  `rho_semiprime_no_panic`; at the call sites of lib.rs: `rho_no_panic_call_site` (the argument has
  no prime factor `≤ 199` — `trial_divided_noSmall` and the recursion of Lemmas/FactorClosed2.lean —
  hence is odd, `≥ 211`, and, `noSmall_below_top`, not one of the eight odd words above `2^64 - 17`);
* results: `rho_proper` (a single proper factor in front), `rho_uses_rho64`, `rho_large_none`
  (multiword arguments are refused before any arithmetic), `rho_prime_none` (primes: all nine
  polynomials run their whole budget and the answer is `None`), `rho_prime_square` (`p²`: the only
  possible answer is `([p], p)`), `rho_semiprime_proper`.
NOT proved (heuristic, not true in general): that a composite is split (`rho_fail_search` of the
harness lists semiprimes on which all nine polynomials fail).
-/
import Ymq.Lemmas.PollardRho
import Ymq.Lemmas.FactorClosed2
import Mathlib.Data.Nat.Prime.Basic

namespace Ymq.C03Rho
open Ymq.PollardRho Ymq.ExpModn Ymq.Mg64
open Ymq.Factor (NoSmall)

/-- **`rho64` never panics** on an odd modulus `3 ≤ n ≤ 2^64 - 17` with an increment `c ≤ 9`, for
every iteration budget: `mg_2adic_inv` terminates, no `mg_mul` leaves the domain of `mg_redc`
although `x2` is not reduced after `x2 += c`, `x2 += c` does not overflow, the `debug_assert` on
`pow2k` holds at every interval end. -/
theorem rho64_no_panic (n c iters : Nat) (hodd : n % 2 = 1) (hn : 3 ≤ n) (htop : n + 17 ≤ W)
    (hc : c ≤ 9) : ∃ r, rho64 n c iters = some r := by
  obtain ⟨v, hv, _, hninv⟩ := mg2adicInv_odd n hodd
  unfold rho64
  simp only [Option.bind_eq_bind, hv, Option.bind_some]
  exact rhoLoop_total hn htop hc hninv iters 1 _
    ⟨by show 2 < W; rw [W_eq]; omega, by show 2 < n + c; omega, by show 1 < n; omega, ⟨1, rfl⟩⟩

example : rho64 8051 1 128 = some (some (97, 83)) := by decide +kernel

/-- **`rho` never panics** on an odd `n ≥ 3` that is multiword or at most `2^64 - 17`. -/
theorem rho_no_panic (n : Nat) (hodd : n % 2 = 1) (hn : 3 ≤ n) (htop : bits n ≤ 64 → n + 17 ≤ W) :
    ∃ r, rho n = some r := by
  unfold rho
  simp only
  split
  · exact ⟨_, rfl⟩
  · rename_i iters hit
    have hb := rhoIters_some hit
    have hmod : n % W = n := Nat.mod_eq_of_lt (lt_W_of_bits hb)
    rw [hmod]
    obtain ⟨r, hr⟩ := rhoTry_total (n0 := n) (iters := iters) rhoCs
      (fun c hc => rho64_no_panic n c iters hodd hn (htop hb)
        ((by decide : ∀ c ∈ rhoCs, c ≤ 9) c hc))
    rw [hr]
    cases r with
    | none => exact ⟨_, rfl⟩
    | some pq => exact ⟨_, rfl⟩

example : rho 8051 = some (some ([97], 83)) := by decide +kernel

/-- the eight odd words above `2^64 - 17` all have a prime factor `≤ 53` -/
theorem noSmall_below_top (n : Nat) (hns : NoSmall n) (hlt : n < W) : n + 17 ≤ W := by
  by_contra hcon
  have key : ∀ k, k < 17 → 1 ≤ k → ∃ p ∈ Ymq.Gen.Primality.smallPrimes, p ∣ W - k := by
    decide +kernel
  obtain ⟨p, hp, hd⟩ := key (W - n) (by omega) (by omega)
  have : W - (W - n) = n := by omega
  rw [this] at hd
  exact hns p hp hd

example : NoSmall 44521 ∧ 44521 < W := ⟨by unfold NoSmall; decide +kernel, by decide⟩

/-- **no panic at the call sites of lib.rs**: every argument `factor_impl` hands to `rho` is the
trial-divided value or a divisor of it, i.e. has no prime factor `≤ 199` (and is not 1: tested first) -/
theorem rho_no_panic_call_site (n : Nat) (hns : NoSmall n) (h1 : n ≠ 1) : ∃ r, rho n = some r := by
  have hge := hns.ge h1
  have hodd : n % 2 = 1 := by
    have h2 := hns 2 (by decide)
    rcases Nat.mod_two_eq_zero_or_one n with h | h
    · exact absurd (Nat.dvd_of_mod_eq_zero h) h2
    · exact h
  exact rho_no_panic n hodd (by omega) (fun hb => noSmall_below_top n hns (lt_W_of_bits hb))

example : ∃ r, rho 44521 = some r := rho_no_panic_call_site 44521 (by unfold NoSmall; decide +kernel) (by decide)

/-- **`rho` returns a proper split**: one factor `1 < a < n` in front, cofactor `b > 1`, `a·b = n`. -/
theorem rho_proper (n : Nat) (as : List Nat) (b : Nat) (h : rho n = some (some (as, b))) :
    ∃ a, as = [a] ∧ a * b = n ∧ 1 < a ∧ a < n ∧ 1 < b := by
  obtain ⟨_, c, _, iters, a, _, h64, has⟩ := rho_some h
  exact ⟨a, has, Ymq.C16.rho64_proper h64⟩

/-- a success of `rho` is the success of `rho64(n, c, iters)` for the budget of the size class and
some `c` of the range `1..10` of the code, i.e. `1 ≤ c ≤ 9` (this is the predicate `UsesRho64` of the closed factor theorems) -/
theorem rho_uses_rho64 (n : Nat) (as : List Nat) (b : Nat) (h : rho n = some (some (as, b))) :
    ∃ c iters a, rho64 n c iters = some (some (a, b)) ∧ as = [a] ∧ 1 ≤ c ∧ c ≤ 9 ∧
      rhoIters (bits n) = some iters := by
  obtain ⟨_, c, hc, iters, a, hit, h64, has⟩ := rho_some h
  have : 1 ≤ c ∧ c ≤ 9 := (by decide : ∀ c ∈ rhoCs, 1 ≤ c ∧ c ≤ 9) c hc
  exact ⟨c, iters, a, h64, has, this.1, this.2, hit⟩

/-- multiword arguments are refused (`_ => return None`) before any arithmetic, whatever `n` is -/
theorem rho_large_none (n : Nat) (h : 64 < bits n) : rho n = some none := by
  unfold rho
  simp only [rhoIters_none h]

example : 64 < bits (2 ^ 64) := by decide +kernel

/-- **primes**: `rho` answers `None` (after running all nine polynomials for the whole budget) -/
theorem rho_prime_none (n : Nat) (hp : n.Prime) (hn : 3 ≤ n) (htop : bits n ≤ 64 → n + 17 ≤ W) :
    rho n = some none := by
  have hodd : n % 2 = 1 := by
    rcases hp.eq_two_or_odd with h | h
    · omega
    · exact h
  obtain ⟨r, hr⟩ := rho_no_panic n hodd hn htop
  cases r with
  | none => exact hr
  | some ab =>
    obtain ⟨as, b⟩ := ab
    obtain ⟨a, _, hab, ha1, han, _⟩ := rho_proper n as b hr
    have hd : a ∣ n := ⟨b, hab.symm⟩
    rcases (Nat.dvd_prime hp).mp hd with h | h <;> omega

example : rho 211 = some none := by decide +kernel

/-- **prime squares**: the only split `rho` can return for `p²` is `([p], p)` -/
theorem rho_prime_square (p : Nat) (hp : p.Prime) (as : List Nat) (b : Nat)
    (h : rho (p * p) = some (some (as, b))) : as = [p] ∧ b = p := by
  obtain ⟨a, has, hab, ha1, han, hb1⟩ := rho_proper _ as b h
  have hd : a ∣ p * p := ⟨b, hab.symm⟩
  have hap : a = p := by
    have hd2 : a ∣ p ^ 2 := by rw [pow_two]; exact hd
    obtain ⟨k, hk, rfl⟩ := (Nat.dvd_prime_pow hp).mp hd2
    have hk' : k = 0 ∨ k = 1 ∨ k = 2 := by omega
    rcases hk' with rfl | rfl | rfl
    · simp at ha1
    · simp
    · rw [pow_two] at han; omega
  subst hap
  refine ⟨has, ?_⟩
  exact Nat.eq_of_mul_eq_mul_left (by omega) hab

example : rho (211 * 211) = some (some ([211], 211)) := by decide +kernel

/-- **`rho_semiprime` never panics** on an odd `3 ≤ n ≤ 2^64 - 17` -/
theorem rho_semiprime_no_panic (n : Nat) (hodd : n % 2 = 1) (hn : 3 ≤ n) (htop : n + 17 ≤ W) :
    ∃ r, rhoSemiprime n = some r := by
  have h64 : ∀ iters, ∀ c ∈ [1, 2, 3], ∃ r, rho64 n c iters = some r :=
    fun iters c hc => rho64_no_panic n c iters hodd hn htop (by simp at hc; omega)
  unfold rhoSemiprime
  split
  · exact rhoTry_total _ (h64 _)
  · split
    · exact rhoTry_total _ (h64 _)
    · exact rhoTry_total _ (fun c hc => h64 _ c (by simp at hc; simp [hc]))

/-- **`rho_semiprime` returns a proper split** -/
theorem rho_semiprime_proper (n a b : Nat) (h : rhoSemiprime n = some (some (a, b))) :
    a * b = n ∧ 1 < a ∧ a < n ∧ 1 < b := by
  unfold rhoSemiprime at h
  split at h
  · obtain ⟨c, _, h64⟩ := rhoTry_some _ h
    exact Ymq.C16.rho64_proper h64
  · split at h <;>
    · obtain ⟨c, _, h64⟩ := rhoTry_some _ h
      exact Ymq.C16.rho64_proper h64

example : rhoSemiprime 8051 = some (some (97, 83)) := by decide +kernel

end Ymq.C03Rho
