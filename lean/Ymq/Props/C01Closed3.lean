/-
C01 ∘ (C08, C03/rho, C03/qs64, C03/squfof): the closed factor theorems with `perfect_power`, `pollard_rho::rho`,
`qsieve64::qsieve` and `squfof::squfof` inside the model (suffix `_v3`). Against Props/C01Closed2.lean two premises differ:
the field IS the MODEL of the whole function —

  Props/C01Closed2.lean               here
  `UsesPerfectPower o` (a `Some` answer is an output of the model)
                                      `PerfectPowerModel o`: `(o.pp t n).1 = (Arith.perfectPower n).join`
  `UsesRho64 o`        (`([a], b)` with `(a, b)` returned by `rho64(n, c, iters)` for SOME `c`, `iters`)
                                      `RhoModel o`: `(o.rho t n).1 = (PollardRho.rho n).join`, the model of
                                      `pollard_rho::rho` as lib.rs calls it (budget by bit length, c = 1..9)

The other premises are those of Props/C01Closed2.lean: `Qs64Model`, `SqufofModel` (whole functions); `UsesFinalStep`,
`UsesPm1`, `UsesEcmExits` (outputs of modelled exits); `UsesUnexpectedFactor`, `ResidualOK` (assumed); `prime`, `abort` arbitrary.
`PM1Base::factor` / `pm1_quick` are not modelled as whole functions (`UsesPm1` is the premise on them). The new premises imply
the old ones (`usesPerfectPower_of_model`, `usesRho64_of_model`), so `factor_exact_closed_v3` and `factor_total_closed_v3` are
the `_v2` theorems at the derived premises; `oracleOK_of_models_v3` adds the guard on `rho` (`guardOracle3`).

Call-site facts (what `factor_impl` guarantees about the argument of `rho`): `NoSmall n ∧ n ≠ 1`
(`trial_divided_noSmall`, threaded through the recursion in Lemmas/FactorClosed2.lean), hence odd,
`≥ 211`, and below `2^64 - 16` when it fits a word (`C03Rho.noSmall_below_top`): the domain of
`C03Rho.rho_no_panic_call_site`. After a `None` of `pp` the argument is not a square (`pp_none_not_tried_power`).
`RhoModel` / `PerfectPowerModel` read a model panic as `None` (`.join`); `rho_call_sites_total` (the model returns
normally on EVERY `RhoGuard` argument, whatever the answer), `rho_join_harmless`, `pp_join_harmless` and
`rho_model_exact_on_guard` show that this reading never applies at a call site.
Tie to the code: both functions are deterministic; every real `factor` run of the C01 stream re-asks its
recorded `pp` and `rho` answers to the models (`model_followups` of props/c01_rho.py, called from props/c01.py), and `rho` / `rho_semiprime` have a
direct K stream (ops `rho`, `rho_semiprime`).
-/
import Ymq.Lemmas.FactorClosed3
import Ymq.Props.C01Closed2

namespace Ymq.C01
open Ymq.Factor

variable {σ : Type}

/-- the whole-function premise implies the exit premise of Props/C01Closed.lean and Props/C01Closed2.lean -/
theorem usesPerfectPower_of_model (o : Oracle σ) (h : PerfectPowerModel o) : UsesPerfectPower o :=
  usesPerfectPower_of_model' h

/-- the whole-function premise implies the exit premise of Props/C01Closed.lean and Props/C01Closed2.lean -/
theorem usesRho64_of_model (o : Oracle σ) (h : RhoModel o) : UsesRho64 o :=
  usesRho64_of_model' h

/-- after a `None` of the modelled `perfect_power` the argument is no e-th power, e ∈ {2,3,5,…,19} -/
theorem pp_none_not_tried_power (o : Oracle σ) (h : PerfectPowerModel o) (t : σ) (n : Nat)
    (hn : n < 2 ^ 1024) (hnone : (o.pp t n).1 = none) :
    ∀ e ∈ Ymq.Arith.ppExps, ¬ ∃ r, r ^ e = n := by
  obtain ⟨res, hres⟩ := Ymq.C08.perfect_power_no_panic n hn
  rw [h t n, hres] at hnone
  simp only [Option.join_some] at hnone
  subst hnone
  exact Ymq.C08.perfect_power_spec n none hres

/-- **`oracleOK_of_models_v3`**: `perfect_power`, `rho`, `qsieve64::qsieve`, `squfof::squfof` are the
models of the whole functions; the contract holds for `guardOracle3 o` (= `o` with `rho` silenced
outside `RhoGuard n := NoSmall n ∧ n ≠ 1` and `qs64` / `squfof` outside `51 ≤ n`, `bits n ≤ 64`), and
`factor` cannot tell `o` from `guardOracle3 o`, for any fuel, input, selector and oracle state: these
ARE the call-site facts (`rho` is only ever asked about numbers without prime factor `≤ 199`, where
`C03Rho.rho_no_panic_call_site` shows that `rho64` reaches no panic site). -/
theorem oracleOK_of_models_v3 (o : Oracle σ) (hpp : PerfectPowerModel o) (hfs : UsesFinalStep o)
    (hqs : Qs64Model o) (hrho : RhoModel o) (hpm1 : UsesPm1 o) (hecm : UsesEcmExits o)
    (hsq : SqufofModel Ymq.Squfof.exactSeed o) (hun : UsesUnexpectedFactor o) (hres : ResidualOK o) :
    OracleOK (guardOracle3 o) ∧
      ∀ fuel n alg os, factor o fuel n alg os = factor (guardOracle3 o) fuel n alg os := by
  have hok := oracleOK_guard3 hpp hfs hqs hrho hpm1 hecm hsq hun hres
  exact ⟨hok, fun fuel n alg os => factor_guard3_eq o hok fuel n alg os⟩

/-- **`rho_call_sites_total`**: on EVERY call-site argument (`RhoGuard n := NoSmall n ∧ n ≠ 1`, what
`factor_impl` guarantees about the argument of `rho`) the model of `pollard_rho::rho` returns normally:
no panic site of `rho64` (overflow of `x2 += c`, `mg_redc`, the `debug_assert` on `pow2k`) is reached
and `mg_2adic_inv` terminates — whatever the answer (`None` included) is. -/
theorem rho_call_sites_total (n : Nat) (hg : RhoGuard n) : ∃ r, Ymq.PollardRho.rho n = some r :=
  Ymq.C03Rho.rho_no_panic_call_site n hg.1 hg.2

/-- **the `.join` of `RhoModel` is harmless on the guard**: `RhoModel` reads a model panic as `None`;
on a call-site argument this reading never applies — `(rho n).join = r` says exactly `rho n = some r`. -/
theorem rho_join_harmless (n : Nat) (hg : RhoGuard n) (r : Option (List Nat × Nat)) :
    (Ymq.PollardRho.rho n).join = r ↔ Ymq.PollardRho.rho n = some r :=
  join_eq_iff_of_some (rho_call_sites_total n hg) r

/-- same for `PerfectPowerModel` below the size limit of `factor` (`n < 2^1024`; `factor` refuses
inputs above 500 bits and only passes divisors of the trial-divided input on) -/
theorem pp_join_harmless (n : Nat) (hn : n < 2 ^ 1024) (r : Option (Nat × Nat)) :
    (Ymq.Arith.perfectPower n).join = r ↔ Ymq.Arith.perfectPower n = some r :=
  join_eq_iff_of_some (Ymq.C08.perfect_power_no_panic n hn) r

/-- consequence for an oracle satisfying `RhoModel`: on the guard the field's answer IS the normal
return value of the model, `None` answers included (no "panic read as `None`") -/
theorem rho_model_exact_on_guard (o : Oracle σ) (h : RhoModel o) (t : σ) (n : Nat) (hg : RhoGuard n) :
    Ymq.PollardRho.rho n = some (o.rho t n).1 :=
  (rho_join_harmless n hg _).mp (h t n).symm

/-- corollary of `rho_call_sites_total` (it only speaks about `some` answers
of the guarded field, which exist only inside `RhoGuard`): where the `rho` field of `guardOracle3 o`
answers `some _`, the model of `pollard_rho::rho` returns normally. The statement about ALL call-site
arguments, `None` answers included, is `rho_call_sites_total`. -/
theorem rho_call_sites_return (o : Oracle σ) (t : σ) (n : Nat) (as : List Nat) (b : Nat)
    (h : ((guardOracle3 o).rho t n).1 = some (as, b)) : ∃ r, Ymq.PollardRho.rho n = some r :=
  rho_call_sites_total n (guarded_eq_some h).1

/-- **`factor_exact_closed_v3`**: a list returned by `factor` multiplies to exactly `n`, is sorted,
every element divides `n` and is `≥ 2` (for `n ≥ 1`) — with `perfect_power`, `pollard_rho::rho`,
`qsieve64::qsieve` and `squfof::squfof` inside the model. -/
theorem factor_exact_closed_v3 (o : Oracle σ) (hpp : PerfectPowerModel o) (hfs : UsesFinalStep o)
    (hqs : Qs64Model o) (hrho : RhoModel o) (hpm1 : UsesPm1 o) (hecm : UsesEcmExits o)
    (hsq : SqufofModel Ymq.Squfof.exactSeed o) (hun : UsesUnexpectedFactor o) (hres : ResidualOK o)
    (fuel n : Nat) (alg : Algo) (os : σ) (l : List Nat)
    (h : factor o fuel n alg os = .ok l) :
    l.prod = n ∧ l.Pairwise (· ≤ ·) ∧ ∀ x ∈ l, x ∣ n ∧ (1 ≤ n → 2 ≤ x) :=
  factor_exact_closed_v2 o (usesPerfectPower_of_model o hpp) hfs hqs (usesRho64_of_model o hrho) hpm1 hecm
    hsq hun hres fuel n alg os l h

/-- **`factor_total_closed_v3`**: selector precondition met and enough fuel ⟹ a list with product
`n` or the declared failure; no panic site of lib.rs — same four whole-function models. -/
theorem factor_total_closed_v3 (o : Oracle σ) (hpp : PerfectPowerModel o) (hfs : UsesFinalStep o)
    (hqs : Qs64Model o) (hrho : RhoModel o) (hpm1 : UsesPm1 o) (hecm : UsesEcmExits o)
    (hsq : SqufofModel Ymq.Squfof.exactSeed o) (hun : UsesUnexpectedFactor o) (hres : ResidualOK o)
    (fuel n : Nat) (alg : Algo) (os : σ)
    (hsel : SelectorPre alg (trialDivideBy 1100 Ymq.Gen.Primality.smallPrimes n []).1)
    (hfuel : bits (trialDivideBy 1100 Ymq.Gen.Primality.smallPrimes n []).1 ≤ fuel) :
    (∃ l, factor o fuel n alg os = .ok l ∧ l.prod = n) ∨ factor o fuel n alg os = .failure :=
  factor_total_closed_v2 o (usesPerfectPower_of_model o hpp) hfs hqs (usesRho64_of_model o hrho) hpm1 hecm
    hsq hun hres fuel n alg os hsel hfuel

/-! ### non-vacuity: an oracle whose `pp`, `rho`, `qs64`, `squfof` fields ARE the models -/

open Ymq.Factor.Closed

/-- `modelOracle2` (pp = the `perfect_power` model already) with the `rho` field the model of
`pollard_rho::rho`, unguarded -/
def modelOracle4 : Oracle Unit :=
  { modelOracle2 with rho := fun s n => ((Ymq.PollardRho.rho n).join, s) }

theorem model4_pp : PerfectPowerModel modelOracle4 := fun _ _ => rfl

theorem model4_rho : RhoModel modelOracle4 := fun _ _ => rfl

theorem model4_qs64 : Qs64Model modelOracle4 := fun t n a b h => model2_qs64 t n a b h

theorem model4_squfof : SqufofModel Ymq.Squfof.exactSeed modelOracle4 :=
  fun t n a b h => model2_squfof t n a b h

/-- every premise of the v3 theorems holds for it -/
example : OracleOK (guardOracle3 modelOracle4) ∧
    ∀ fuel n alg os, factor modelOracle4 fuel n alg os = factor (guardOracle3 modelOracle4) fuel n alg os :=
  oracleOK_of_models_v3 modelOracle4 model4_pp model_finalStep model4_qs64 model4_rho model_pm1 model_ecm
    model4_squfof model_unexpected ⟨model_residual.unexpectedNotWhole⟩

private theorem run_rho : factor modelOracle4 20 233788 .rho () = .ok [2, 2, 211, 277] := by
  decide +kernel

/-- `factor(4·58447, Algo::Rho)`: trial division, `perfect_power` and `pseudoprime` say no, then the
model of `pollard_rho::rho` (16 bits: budget 128, polynomial c = 1) splits 211·277 -/
example : factor modelOracle4 20 233788 .rho () = .ok [2, 2, 211, 277] := run_rho

/-- the automatic strategy takes the same road below 52 bits -/
example : factor modelOracle4 20 233788 .auto () = .ok [2, 2, 211, 277] := by decide +kernel

/-- a prime square is caught by the `perfect_power` model before `rho` is asked -/
example : factor modelOracle4 20 (211 * 211) .rho () = .ok [211, 211] := by decide +kernel

example : [2, 2, 211, 277].prod = 233788 ∧ [2, 2, 211, 277].Pairwise (· ≤ ·) ∧
    ∀ x ∈ [2, 2, 211, 277], x ∣ 233788 ∧ (1 ≤ 233788 → 2 ≤ x) :=
  factor_exact_closed_v3 modelOracle4 model4_pp model_finalStep model4_qs64 model4_rho model_pm1 model_ecm
    model4_squfof model_unexpected ⟨model_residual.unexpectedNotWhole⟩ 20 233788 .rho () _ run_rho

example : (∃ l, factor modelOracle4 20 233788 .auto () = .ok l ∧ l.prod = 233788) ∨
    factor modelOracle4 20 233788 .auto () = .failure :=
  factor_total_closed_v3 modelOracle4 model4_pp model_finalStep model4_qs64 model4_rho model_pm1 model_ecm
    model4_squfof model_unexpected ⟨model_residual.unexpectedNotWhole⟩ 20 233788 .auto ()
    (fun _ => by decide +kernel) (by decide +kernel)

example : (modelOracle4.pp () 58447).1 = none ∧ 58447 < 2 ^ 1024 := by decide +kernel

/-- non-vacuity of `rho_call_sites_total` / `rho_join_harmless` / `rho_call_sites_return`:
58447 = 211·277 is inside `RhoGuard` -/
example : RhoGuard 58447 := ⟨by unfold NoSmall; decide +kernel, by decide⟩

private theorem rhoGuard_211 : RhoGuard 211 := ⟨by unfold NoSmall; decide +kernel, by decide⟩

/-- … and so is the prime 211, where the answer is `None` (a case `rho_call_sites_return` does not speak of) -/
example : RhoGuard 211 ∧ Ymq.PollardRho.rho 211 = some none ∧ (modelOracle4.rho () 211).1 = none :=
  have h : Ymq.PollardRho.rho 211 = some none :=
    Ymq.C03Rho.rho_prime_none 211 (by norm_num) (by decide) fun _ => by decide
  ⟨rhoGuard_211, h, (model4_rho () 211).trans (by rw [h]; rfl)⟩

example : Ymq.PollardRho.rho 211 = some (modelOracle4.rho () 211).1 :=
  rho_model_exact_on_guard modelOracle4 model4_rho () 211 rhoGuard_211

/-- outside the guard the `.join` does matter: the model of `rho` on the even word 4 does not return
(`mg_2adic_inv` loops), and `.join` reads it as `None` -/
example : Ymq.PollardRho.rho 4 = none ∧ (Ymq.PollardRho.rho 4).join = none ∧ ¬ RhoGuard 4 := by decide +kernel

/-- non-vacuity of `pp_join_harmless` -/
example : (58447 : Nat) < 2 ^ 1024 ∧ Ymq.Arith.perfectPower 58447 = some none := by decide +kernel

end Ymq.C01
