/-
C19 — dense part (src/matrix/intdense.rs): totality of the echelon builder for a prime modulus, the
full `echelon_det`, the exact determinant without a hypothesis on the residues (helper lemmas:
Ymq/Lemmas/IntMatEchP.lean, IntMatEchPDet.lean), and two facts towards the refinement of the production
builder (Ymq/Lemmas/IntMatEchMont.lean; Ymq/Lemmas/IntMatEchRefA.lean is named in a docstring only).
-/
import Ymq.Props.C19
import Ymq.Lemmas.IntMatEchMont

namespace Ymq.C19
open Ymq.IntMat

/-- **No assertion of `GFpEchelonBuilder::{add, det}` fails for a prime modulus.** For `p` prime,
`p < 2^63` (the code casts `p as i64`), an `n × n` integer matrix (`n > 0`, every row of length `n`) and
an inverse routine meeting `inv_mod64_spec`, the determinant routine of the reference builder
(`add` row by row — `assert_eq!(v.len(), basis[0].len())`, the index accesses of the elimination
loop, `inv_mod64(..).unwrap()`, `assert_eq!(vp[i], self.r)`, `position(..).unwrap()`,
`indices.swap(idx, basis.len())` — then `det()` with `assert!(factors.len() == basis[0].len())` and
the cycle walk) reaches no panic site: it returns a reduced residue. The argument for
`indices.swap`: when the basis already holds `n` rows the eliminated vector vanishes on all `n`
pivot columns, hence no non-zero entry is found and `add` returns `false` before the swap. -/
theorem echelon_total (inv : Inv) (hinv : InvSpec inv) (p n : Nat) (hpr : p.Prime) (hp63 : p < 2 ^ 63)
    (hn : 0 < n) (mat : List (List Int)) (hlen : mat.length = n) (hrows : ∀ r ∈ mat, r.length = n) :
    ∃ d, detModPlain inv p { p := p, indices := [], basis := [], factors := [] } mat = some d ∧ d < p :=
  detModPlain_total inv hinv p n hn hpr (by unfold I63; exact hp63) mat _ [] (EchInv.init p n)
    (by simpa using hlen) hrows

/-- **Determinant modulo a prime `p` = sign · product of the pivots**, full statement for the reference
builder `EchP` (plain residues, sequential elimination; the driver answers `im_detp_plain` /
`im_echelon_plain` with it and the pipeline compares these answers with `GFpEchelonBuilder`): for `p`
prime below 2^63 and an `n × n` integer matrix the routine returns (no panic) the unique residue
`d < p` with `d ≡ det(matrix) (mod p)`. -/
theorem echelon_det (inv : Inv) (hinv : InvSpec inv) (p n : Nat) (hpr : p.Prime) (hp63 : p < 2 ^ 63)
    (hn : 0 < n) (mat : List (List Int)) (hlen : mat.length = n) (hrows : ∀ r ∈ mat, r.length = n) :
    ∃ d, detModPlain inv p { p := p, indices := [], basis := [], factors := [] } mat = some d ∧ d < p ∧
      ((d : Nat) : ZMod p) = (matOf p n mat).det := by
  obtain ⟨d, h, hd⟩ := echelon_total inv hinv p n hpr hp63 hn mat hlen hrows
  exact ⟨d, h, hd, echelon_det_partial inv p n hn mat hlen hrows d h⟩

/-- non-vacuity and use: with the model of `inv_mod64`, `p = 101`, the matrix `[[1, 2], [3, 4]]`;
the residue is the one computed in the example of `echelon_det_partial` -/
example : ∃ d, detModPlain Ymq.Arith.invMod64 101 { p := 101, indices := [], basis := [], factors := [] }
    [[1, 2], [3, 4]] = some d ∧ d < 101 ∧ ((d : Nat) : ZMod 101) = (matOf 101 2 [[1, 2], [3, 4]]).det :=
  echelon_det _ invMod64_invSpec 101 2 (by decide) (by norm_num) (by norm_num) _ rfl
    (by intro r hr; simp at hr; rcases hr with rfl | rfl <;> rfl)

/-- **Exact integer determinant with its sign, residues computed** — PARTIAL only in that (1) it
speaks about the reference builder `EchP` (see `echelon_det`) and (2) the size bound `-P < 2·det ≤ P`
is an input (the code derives it from a rounded `f64` estimate, floating point is not modelled).
Unlike `det_exact_partial` it does not assume that every modulus yields a residue: for
pairwise distinct primes below 2^63 every `detModPlain` returns, and the CRT reconstruction of the
returned residues is exactly `det` over `ℤ`. -/
theorem det_exact_total_partial (inv : Inv) (hinv : InvSpec inv) (n : Nat) (hn : 0 < n) (mat : List (List Int))
    (hlen : mat.length = n) (hrows : ∀ r ∈ mat, r.length = n)
    (primes : List Nat) (hpr : ∀ p ∈ primes, p.Prime) (h63 : ∀ p ∈ primes, p < 2 ^ 63) (hnd : primes.Nodup)
    (hfit : (primes.length : Int) * (W64 * ((primes.prod : Nat) : Int)) < I4096LIM)
    (hd1 : -((primes.prod : Nat) : Int) < 2 * (matZ n mat).det)
    (hd2 : 2 * (matZ n mat).det ≤ ((primes.prod : Nat) : Int)) :
    ∃ modp : List Nat, modp.length = primes.length ∧
      (∀ i (h1 : i < modp.length) (h2 : i < primes.length),
        detModPlain inv primes[i] { p := primes[i], indices := [], basis := [], factors := [] } mat = some modp[i]) ∧
      crtDense inv modp primes = some (matZ n mat).det := by
  choose! f hf using fun p hp => echelon_total inv hinv p n (hpr p hp) (h63 p hp) hn mat hlen hrows
  refine ⟨primes.map f, by simp, ?_, ?_⟩
  · intro i h1 h2
    rw [List.getElem_map]
    exact (hf _ (List.getElem_mem h2)).1
  · apply det_exact_partial inv hinv n hn mat hlen hrows (primes.map f) primes (by simp)
      (fun p hp => (hpr p hp).one_lt)
      (fun p hp => by have := h63 p hp; unfold U64; omega)
      _ _ _ (by simpa using hfit) hd1 hd2
    · -- distinct primes are pairwise coprime
      apply List.Pairwise.imp_of_mem _ (List.nodup_iff_pairwise_ne.mp hnd |> id)
      intro a b ha hb hab
      exact (Nat.coprime_primes (hpr a ha) (hpr b hb)).2 hab
    · intro m hm
      obtain ⟨p, hp, rfl⟩ := List.mem_map.mp hm
      have h1 := (hf p hp).2
      have h2 := h63 p hp
      have : f p < 2 ^ 64 := by omega
      unfold W64
      exact_mod_cast this
    · intro i h1 h2
      rw [List.getElem_map]
      exact (hf _ (List.getElem_mem h2)).1

/-- non-vacuity: two primes `101, 103`, the matrix `[[1, 2], [3, 4]]` of determinant `-2` -/
example : ∃ modp : List Nat, crtDense Ymq.Arith.invMod64 modp [101, 103] = some (-2) := by
  have hdet : (matZ 2 [[1, 2], [3, 4]]).det = -2 := by
    rw [Matrix.det_fin_two]; simp [matZ]
  obtain ⟨modp, _, _, h⟩ := det_exact_total_partial _ invMod64_invSpec 2 (by norm_num) [[1, 2], [3, 4]] rfl
    (by intro r hr; simp at hr; rcases hr with rfl | rfl <;> rfl)
    [101, 103] (by intro p hp; simp at hp; rcases hp with rfl | rfl <;> decide)
    (by intro p hp; simp at hp; rcases hp with rfl | rfl <;> norm_num) (by decide)
    (by
      have h := I4096LIM_ge
      have e : (([101, 103] : List Nat).length : Int) * (W64 * ((([101, 103] : List Nat).prod : Nat) : Int)) < 2 ^ 256 := by
        unfold W64; norm_num
      linarith)
    (by rw [hdet]; decide) (by rw [hdet]; decide)
  rw [hdet] at h
  exact ⟨modp, h⟩

open Ymq.Mg64 in
/-- **`mg_redc` on the sum of 8 products** (`GFpEchelonBuilder::submul_n`, the block path of `add`).
Beyond its documented domain `x < n·2^64`, for `x < 2·n·2^64` and `n ≤ 2^62` the model of `mg_redc`
reaches no panic site and returns `r < 2n` with `r·2^64 ≡ x (mod n)`: one conditional subtraction
(`if mw >= p { mw - p }`, fix ca90ec8) then gives the reduced residue. The sum of 8 products of residues
is below `8(p-1)^2 ≤ 2·p·2^64` exactly when `p ≤ 2^62`: this is the bound behind fix a30f559 (block
path only for `p < 2^62`). -/
theorem mg_redc_wide (n ninv x : Nat) (hn : 0 < n) (hnW : n ≤ 2 ^ 62) (hninv : (n * ninv + 1) % W = 0)
    (hx : x < 2 * n * W) :
    ∃ r, mgRedc n ninv x = some r ∧ r < 2 * n ∧ r * W % n = x % n :=
  mgRedc_of_lt hn (Nat.le_mul_of_pos_left n two_pos) (by have : W = 4 * 2 ^ 62 := by decide
                                                         omega) hninv hx

open Ymq.Mg64 in
/-- non-vacuity: `n = 7`, `x = 13·2^64 + 5 ≥ n·2^64` -/
example : (7 * 10540996613548315209 + 1) % W = 0 ∧ 7 * W ≤ 13 * W + 5 ∧ 13 * W + 5 < 2 * 7 * W ∧
    ∃ r, mgRedc 7 10540996613548315209 (13 * W + 5) = some r ∧ r < 14 ∧ r * W % 7 = (13 * W + 5) % 7 := by
  refine ⟨by decide, by decide, by decide, ?_⟩
  exact mg_redc_wide 7 _ _ (by decide) (by decide) (by decide) (by decide)

open Ymq.Mg64 in
/-- **One sequential elimination step in Montgomery form is the plain step** — PARTIAL refinement
`Ech → EchP`: for an odd modulus `1 < p < 2^63` with valid Montgomery constants, rows of reduced
residues and a non-zero reduced multiplier, `GFpEchelonBuilder::submul` on the Montgomery forms
returns (no panic) the Montgomery form of `v - m·w mod p` (`rowSubMul`, the step of the reference
builder `EchP`). Also proved as lemmas (Ymq/Lemmas/IntMatEchRefA.lean): `blockVs_spec` — the 8
multipliers of the block path satisfy `u_a = v[c_a] - Σ_{b<a} u_b·basis[i+b][c_a]` and the triangular
update reaches no panic site — and `EchCtx.subMulC_eq` (the closure `submul`). Missing for the full
refinement `detModP = detModPlain`: the column loop of `submul_n` on top of `mg_redc_wide`, the
uniqueness argument "block = 8 sequential steps" from the echelon form, and the bookkeeping of
`add`/`div`/`det` (conversions in and out of Montgomery form). The production model and the
reference model are both compared with the code by the pipeline (ops `im_echelon`, `im_detp`,
`im_echelon_plain`, `im_detp_plain`, `im_ech_raw`). -/
theorem echelon_submul_montgomery_partial (p pinv : Nat) (h : MontOk p pinv) (hp63 : p < 2 ^ 63) (E : Ech)
    (hEp : E.p = p) (hEi : E.pinv = pinv) (v w : List Nat) (m : Nat) (hl : v.length = w.length)
    (hv : ∀ x ∈ v, x < p) (hw : ∀ x ∈ w, x < p) (hm : m < p) (hm0 : m ≠ 0) :
    E.submul (v.map (mform p)) (w.map (mform p)) (mform p m) = some ((rowSubMul p v w m).map (mform p)) :=
  Ech.submul_mform h (by have : W = 2 * 2 ^ 63 := by decide
                         omega) E hEp hEi v w m hl hv hw hm hm0

open Ymq.Mg64 in
/-- non-vacuity: `p = 7` -/
example : ∃ E : Ech, MontOk 7 10540996613548315209 ∧ E.p = 7 ∧
    E.submul ([3, 5].map (mform 7)) ([1, 4].map (mform 7)) (mform 7 2) = some ((rowSubMul 7 [3, 5] [1, 4] 2).map (mform 7)) :=
  ⟨{ p := 7, pinv := 10540996613548315209, r := 2, r2 := 4, indices := [], basis := [], factors := [] },
    ⟨by decide, by decide, by decide, by decide⟩, rfl, by decide⟩

end Ymq.C19
