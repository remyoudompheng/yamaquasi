/-
C05, promptness half on the protocol model (Ymq/Model/Sched.lean): what the workers of a
multi-threaded sieve can still do once the caller's abort predicate answers `true`.

In the sieves every work unit (an A value in SIQS, a polynomial block in MPQS, a curve in ECM)
starts with a poll `done.load() || prefs.abort()` (src/siqs.rs `s.done.load(Ordering::Relaxed) || prefs.abort()`,
src/mpqs.rs `s.finished() || prefs.abort()`, src/ecm.rs `done.load(Ordering::Relaxed) || prefs.abort()`); inside a unit only `done` is read. The model's `Act.poll` is that poll; the
schedule carries the predicate's answers, so the predicate is arbitrary. `abortBudget c` is the
number of actions left in the workers' CURRENT units (up to and including their next poll).

Wall-clock latency is not a theorem (how long one unit takes is runtime behaviour): it is measured
by the check (seeded flip instants, exhaustive poll-index scans, minute-long inputs with a 5 s bound).
-/
import Ymq.Lemmas.Sched

namespace Ymq.C05
open Ymq.Sched

variable {ρ σ : Type}

/-- **Bounded work after an abort request**: along any schedule on which the abort predicate
answers `true` at every poll (every interleaving, every pattern of stale `done` reads), the workers
perform at most `abortBudget c` further actions in total — each worker finishes at most the
remainder of the work unit it is in and then stops at its next poll; no new unit is started. -/
theorem abort_bounded (add : σ → ρ → σ) (enough : σ → Bool) (c : Cfg ρ σ)
    (sched : List (Nat × Bool × Bool)) (heff : allEffective add enough c sched)
    (hab : allAbort sched) :
    sched.length + abortBudget (run add enough c sched) ≤ abortBudget c :=
  abort_steps_bounded add enough sched c heff hab

/-- the remainder of a unit is never more than what the worker has left at all -/
theorem abortBudget_le_remaining (c : Cfg ρ σ) : abortBudget c ≤ remaining c := by
  unfold abortBudget remaining
  induction c.pcs with
  | nil => simp
  | cons l ls ih =>
    simp only [List.map_cons, List.sum_cons]
    have := untilPoll_le_length l
    omega

/-- **Abort before the first stage**: if the predicate is already `true` when the workers start,
each worker performs exactly its first poll and nothing else: at most one action per worker, and
in particular no relation is added to the store. -/
theorem abort_before_start (add : σ → ρ → σ) (enough : σ → Bool) (s0 : σ)
    (progs : List (List (List ρ))) (sched : List (Nat × Bool × Bool))
    (heff : allEffective add enough (init s0 progs) sched) (hab : allAbort sched) :
    sched.length ≤ progs.length := by
  have h1 := abort_steps_bounded add enough sched (init s0 progs) heff hab
  have h2 := abortBudget_init_le s0 progs
  omega

/-! ### non-vacuity: two workers; the abort answer turns `true` while worker 0 is inside its first
unit: it completes that unit (2 adds + publish) and stops at the next poll; worker 1 stops at its
first poll; the second units ([6] and [10, 12]) are never started. -/

example :
    let progs : List (List (List Nat)) := [[[2, 4], [6]], [[8], [10, 12]]]
    let c0 := run (· + ·) (fun _ => false) (init 0 progs) [(0, false, false), (0, false, false)]
    let sched := [(0, false, true), (1, false, true), (0, false, true), (0, false, true), (0, false, true)]
    let c := run (· + ·) (fun _ => false) c0 sched
    abortBudget c0 = 5 ∧ c.log = [2, 4] ∧ finished c = true ∧ abortBudget c = 0 ∧ sched.length = 5 := by
  decide

example : allAbort [(0, false, true), (1, false, true), (0, false, true), (0, false, true), (0, false, true)] := by
  simp [allAbort]

end Ymq.C05
