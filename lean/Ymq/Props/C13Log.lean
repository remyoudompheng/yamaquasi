/-
C13, log accumulation and threshold part of `src/sieve.rs` (model: Ymq/Model/SieveLog.lean, one model per
build profile: `dbg = true` checked, `dbg = false` release; lemmas: Ymq/Lemmas/SieveLog*.lean, SieveTableSum.lean, SievePath.lean,
SieveBuckets.lean, SieveFill.lean).

`allHits fb s` is the list of ALL `blk[off] += log` sites of `sieve_block` in the order of the code (state `s`
after `Sieve.sieveBlock`), `hitSum hits x` the total added at position `x`, `byteAt blk x` the byte.

The closed forms of the byte array come in pairs, `accumulator_spec*` (what the bytes are) and `accumulator_no_overflow*`
(under the hypothesis of `log_sum_bound` no `+=` wraps). General: `accumulator_spec` / `accumulator_no_overflow` (any factor
base, any number of `rehash` rounds). Without a round (`rs = []`): `accumulator_spec_large` / `accumulator_no_overflow_new`.
These again for a factor base below 2^18 (`s.ltables.size = 0`, so nothing is asked of the large tables):
`accumulator_spec_tables` / `accumulator_no_overflow_tables`; for one below the block size (no bucket table at all):
`accumulator_spec_small` / `accumulator_no_overflow_small`. `accumulator_hits_spec`, `accumulator_spec_hits` and
`accumulator_no_overflow_hits` say the same of the list of `+=` sites, with the table term (resp. the bound on the sums) left
as it is. The cursor part rests on `SieveLog.smallHits_rootSum`, the table part on `SieveLog.path_facts` (Lemmas/SievePath.lean).
-/
import Ymq.Lemmas.SievePath
import Ymq.Props.C13

namespace Ymq.C13
open Ymq.Sieve Ymq.SieveLog

/-- `accumulator_hits_spec`. Whenever the model of `sieve_block` returns the byte array: every `+=` site
addresses a byte of the block, and byte `x` is the sum of the logs added at `x` by the sites of the code —
exactly in the checked profile (no wrap happened), modulo 256 in release. Per prime, the sites add
`bitlen p` exactly once at every position congruent to one of its (one or two, different) cursors and nowhere
else (`pairHits_sum`: classes ≤ 12, unrolled loop + tails; `singleHits_sum`: classes 13..15), so with the
cursor invariant (`cursor_inv`) a prime contributes its bit length exactly at the positions where it has a root.
(The closed form over the primes is `class_loops_cover` / `accumulator_spec_small` / `accumulator_spec_hits`.) -/
theorem accumulator_hits_spec (dbg : Bool) (fb : FB) (s : State) (blk : Array Nat)
    (h : blkOf dbg fb s = some blk) :
    ∃ hits, allHits fb s = some hits ∧ blk.size = 32768 ∧ (∀ g ∈ hits, g.1 < 32768) ∧
      (∀ x, byteAt blk x % 256 = hitSum hits x % 256) ∧ (dbg = true → ∀ x, byteAt blk x = hitSum hits x) ∧
      -- what the sites of one prime add up to (p ≤ 4096: classes ≤ 12; p ≤ 32768: classes 13..15)
      (∀ p c1 c2 lg x l, 0 < p → p ≤ 4096 → c1 < p → ((c2 < p ∧ c2 ≠ c1) ∨ c2 = NONE) → x < 32768 →
        pairHits p c1 c2 = some l →
        hitSum (l.map fun y => (y, lg)) x =
          (if x % p = c1 then lg else 0) + (if c2 ≠ NONE ∧ x % p = c2 then lg else 0)) ∧
      (∀ p c lg x l, 0 < p → c < p → c ≠ NONE → x < 32768 → singleHits p c = some l →
        hitSum (l.map fun y => (y, lg)) x = if x % p = c then lg else 0) := by
  unfold blkOf at h
  simp only [Option.bind_eq_bind, Option.bind_eq_some_iff] at h
  obtain ⟨hits, hh, hacc⟩ := h
  obtain ⟨hsz, hin⟩ := accumulate_inb dbg hits _ _ hacc
  obtain ⟨b', e1, e2, e3, _⟩ := accumulate_eq hits _ hin
  simp only [byteAt_replicate_zero, Nat.zero_add] at e2 e3
  refine ⟨hits, hh, by simpa [BLOCK] using hsz, fun g hg => by simpa [BLOCK] using hin g hg, ?_, ?_,
    fun p c1 c2 lg x l hp hp4 h1 h2 hx hl => pairHits_sum hp hp4 h1 h2 hx hl,
    fun p c lg x l hp hc hcn hx hl => singleHits_sum hp hc hcn hx hl⟩
  · cases dbg with
    | false => rw [e1] at hacc; cases hacc; exact e2
    | true =>
      rcases e3 with e3 | ⟨e3, e5⟩
      · rw [e3] at hacc; cases hacc
      · rw [e3] at hacc; cases hacc; exact fun x => by rw [e5 x]
  · rintro rfl
    rcases e3 with e3 | ⟨e3, e5⟩
    · rw [e3] at hacc; cases hacc
    · rw [e3] at hacc; cases hacc; exact e5

/-- `accumulator_overflow_iff` — the recorded finding `sieve-u8-log-accumulator-overflow` as a theorem about the
model: the checked model of `sieve_block` panics in the accumulation exactly when the logs added at some
position of the block sum to 256 or more; the release model never does (it wraps). -/
theorem accumulator_overflow_iff (fb : FB) (s : State) (hits : List (Nat × Nat)) (hh : allHits fb s = some hits)
    (hin : ∀ g ∈ hits, g.1 < 32768) :
    (blkOf true fb s = none ↔ ∃ x, x < 32768 ∧ 256 ≤ hitSum hits x) ∧ (∃ blk, blkOf false fb s = some blk) := by
  obtain ⟨b', e1, _, _, e4⟩ := accumulate_eq hits (Array.replicate BLOCK 0)
    (fun g hg => by simpa [BLOCK] using hin g hg)
  have e4' := e4 (fun x => by rw [byteAt_replicate_zero]; omega)
  simp only [byteAt_replicate_zero, Nat.zero_add, Array.size_replicate, BLOCK] at e4'
  have hb : ∀ dbg, blkOf dbg fb s = accumulate dbg (Array.replicate BLOCK 0) hits := fun dbg => by simp [blkOf, hh]
  rw [hb, hb]
  exact ⟨e4', b', e1⟩

/-- `accumulator_no_overflow_hits`. If at every position the logs added are bounded by the bit lengths of
distinct primes dividing a value `v ≠ 0` with `bitlen v + #primes ≤ 256` (the hypothesis of `log_sum_bound`: with
true roots the primes hitting `x` divide the polynomial value there), no `+=` site of `sieve_block` overflows:
the checked model returns, and the release model returns the same bytes (no wrap).
(The link `hitSum hits x ≤ Σ bitlen p` over the primes with a root at `x` is a hypothesis of this hits-level lemma; it
is PROVED in `accumulator_no_overflow` for every `+=` site — cursors, size-class tables, large tables — on the
`new`/`rehash` path.) -/
theorem accumulator_no_overflow_hits (fb : FB) (s : State) (hits : List (Nat × Nat))
    (hh : allHits fb s = some hits) (hin : ∀ g ∈ hits, g.1 < 32768)
    (hdiv : ∀ x, x < 32768 → ∃ (ps : Finset ℕ) (v : ℕ), (∀ p ∈ ps, p.Prime) ∧ v ≠ 0 ∧ (∀ p ∈ ps, p ∣ v) ∧
      bitlen v + ps.card ≤ 256 ∧ hitSum hits x ≤ ∑ p ∈ ps, bitlen p) :
    ∃ blk, blkOf true fb s = some blk ∧ blkOf false fb s = some blk ∧ ∀ x, byteAt blk x = hitSum hits x := by
  obtain ⟨blk, e1, _, e3, e4⟩ := accumulate_eq hits (Array.replicate BLOCK 0)
    (fun g hg => by simpa [BLOCK] using hin g hg)
  have e4' := e4 (fun x => by rw [byteAt_replicate_zero]; omega)
  simp only [byteAt_replicate_zero, Nat.zero_add, Array.size_replicate, BLOCK] at e3 e4'
  have hb : ∀ dbg, blkOf dbg fb s = accumulate dbg (Array.replicate BLOCK 0) hits := fun dbg => by simp [blkOf, hh]
  rw [hb, hb]
  -- no total reaches 256, so the checked accumulation returns
  have hno : ¬ accumulate true (Array.replicate BLOCK 0) hits = none := fun q => by
    obtain ⟨x, hx, hge⟩ := e4'.1 q
    obtain ⟨ps, v, hp, hv, hd, hb, hle⟩ := hdiv x hx
    have := log_sum_lt ps hp v hv hd
    omega
  rcases e3 with e3 | ⟨e3, e5⟩
  · exact absurd e3 hno
  · exact ⟨blk, e3, e1, e5⟩

/-- `smooths_threshold_spec`. For a threshold ≥ 1, whenever the scan of `smooths` returns: with
`threshold2 = threshold − min(skipbits (+15 with a root hint), threshold/2) ≥ 1`, position `x` is reported exactly
when `x < 32768`, its byte exceeds `threshold2` (strictly: the 16-byte chunk test `> threshold2 − 1` and the
per-byte test `t <= threshold2 → continue`), and the corrected value — the byte plus the logs of the skipped
smallest primes with a root at `x` (`addSkipped`) plus the root-distance bonus (`rootComp`), in `u8` arithmetic of
the profile — reaches `threshold`. Consequently (with `listed_complete`) a position whose byte exceeds
`threshold2` and whose corrected value reaches the threshold is reported with every factor-base prime that has
a root there. (Threshold 0: the checked profile panics on `threshold2 - 1`, release reports nothing:
`reportScan` with `thrOf`.) -/
theorem smooths_threshold_spec (dbg : Bool) (fb : FB) (s : State) (blk : Array Nat) (threshold : Nat)
    (root : Option Nat) (res : List Nat) (hthr : 1 ≤ threshold)
    (h : reportScan dbg fb s blk threshold root = some res) :
    ∃ threshold2, threshold2Of fb s threshold root = some threshold2 ∧ 1 ≤ threshold2 ∧
      ∀ x, x ∈ res ↔ (x < 32768 ∧ ∃ t0 t1 t2, blk[x]? = some t0 ∧ threshold2 < t0 ∧
        addSkipped dbg fb s x t0 = some t1 ∧ rootComp dbg s (mzerosOf s) root x t1 = some t2 ∧ threshold ≤ t2) := by
  obtain ⟨t2, h1, h2, h3⟩ := reportScan_mem hthr h
  refine ⟨t2, h1, h2, ?_⟩
  intro x
  rw [h3 x, scanElem_some_iff]
  simp [BLOCK]

/-- a synthetic factor base for the witness: 18 primes of 15 bits, roots 5 and 6 for all of them. -/
def witnessFB : FB := FB.ofPrimes #[16411, 16417, 16421, 16427, 16433, 16447, 16451, 16453, 16477, 16481, 16487, 16493, 16519, 16529, 16547, 16553, 16561, 16567]
def witnessR1 : Array Nat := #[5, 5, 5, 5, 5, 5, 5, 5, 5, 5, 5, 5, 5, 5, 5, 5, 5, 5]
def witnessR2 : Array Nat := #[6, 6, 6, 6, 6, 6, 6, 6, 6, 6, 6, 6, 6, 6, 6, 6, 6, 6]

/-- the witness evaluated: every `+=` site is inside the block and position 5 receives 270. -/
theorem witness_hits : (((Sieve.new 0 1 witnessFB witnessR1 witnessR2 none).bind (sieveBlock witnessFB)).bind
    (allHits witnessFB)).map (fun hs => (decide (∀ g ∈ hs, g.1 < 32768), hitSum hs 5)) = some (true, 270) := by
  decide +kernel

/-- `accumulator_overflow_witness`: on the synthetic factor base above (valid: increasing primes, reduced
different roots) position 5 of the first block receives 18·15 = 270 ≥ 256, so the checked model of `sieve_block`
panics while the release model returns (the byte wraps to 14): the finding as a theorem about the model. -/
theorem accumulator_overflow_witness (s0 s : State)
    (h0 : Sieve.new 0 1 witnessFB witnessR1 witnessR2 none = some s0) (h1 : sieveBlock witnessFB s0 = some s) :
    blkOf true witnessFB s = none ∧ ∃ blk, blkOf false witnessFB s = some blk := by
  have key := witness_hits
  rw [h0, Option.bind_some, h1, Option.bind_some] at key
  cases hh : allHits witnessFB s with
  | none => rw [hh] at key; simp at key
  | some hits =>
    rw [hh] at key
    simp only [Option.map_some, Option.some.injEq, Prod.mk.injEq, decide_eq_true_eq] at key
    obtain ⟨hin, hsum⟩ := key
    obtain ⟨a, b⟩ := accumulator_overflow_iff witnessFB s hits hh hin
    exact ⟨a.2 ⟨5, by omega, by omega⟩, b⟩

/-- non-vacuity of the witness: the two calls return. -/
example : ((Sieve.new 0 1 witnessFB witnessR1 witnessR2 none).bind (sieveBlock witnessFB)).isSome = true := by
  have key := witness_hits
  cases h : (Sieve.new 0 1 witnessFB witnessR1 witnessR2 none).bind (sieveBlock witnessFB) with
  | none => rw [h] at key; exact absurd key (by simp)
  | some s => rfl

/-- `class_loops_cover`. After `Sieve::new` (fresh or recycled tables), `b` rounds and `sieve_block()`: the `+=` sites
of the class loops of `sieve_block` — classes 2..12 with the 4-at-a-time unrolled loop and the two tail loops,
classes 13..15 one cursor at a time, index ranges taken from `idx_by_log` and clipped at `idxskip` — add at every
position `x` of the block exactly `Σ_{k = idxskip}^{2·nS−1} rootF k`: every non-skipped cursor slot (`nS` = number of
primes below 32768; slot `2i` ↔ root `r1[i]`, slot `2i+1` ↔ root `r2[i]` when it differs from `r1[i]`) is visited
exactly once and contributes the bit length of its prime exactly at the positions of its arithmetic progression
`b·32768 + x ≡ root (mod p)`; the skipped slots `k < idxskip` contribute nothing. -/
theorem class_loops_cover (fb : FB) (hfb : fb.WF) (r1 r2 : Array Nat) (hr : RootsOK fb r1 r2)
    (offset : Int) (nblocks : Nat) (recycled : Option (Array Table × Array LTable)) (hrec : RecycledOK recycled)
    (s0 s1 s : State) (h0 : Sieve.new offset nblocks fb r1 r2 recycled = some s0)
    (b : Nat) (h1 : runBlocks fb b s0 = some s1) (h2 : sieveBlock fb s1 = some s)
    (nS : Nat) (hnS : fb.ibl[16]? = some nS)
    (l : List (Nat × Nat)) (hl : smallHits fb s.idxskip s.loPrev = some l) :
    ∀ x, x < 32768 → hitSum l x = rangeSum (rootF fb r1 r2 b x) s.idxskip (2 * nS - s.idxskip) := by
  obtain ⟨hprev, hev⟩ := state_for_block hfb hr hrec h0 h1 h2 hnS
  exact fun x hx => smallHits_rootSum hfb hnS hev hprev hx hl

/-- `accumulator_spec_hits`: the general form (closed form for the primes below the block size + bucket tables).
Whenever the model of `sieve_block` returns the byte array of block `b`: byte `x` is
`Σ_{k = idxskip}^{2·nS−1} rootF k` — the sum of `bitlen p` over the non-skipped factor-base primes `p < 32768` with a
root at `x`, each prime counted once per distinct root (`class_loops_cover`) — plus the logs read back from the
bucket tables (`tableHits`), exactly in the checked profile and modulo 256 in release. When the factor base has no
prime ≥ 32768 (`s.tables.size = 0`: no bucket table exists and the code returns before the table loops) this is
the complete closed form `blk[x] = Σ bitlen p over the non-skipped primes with a root at x`.
(The table term `hitSum th x` is expanded into `Σ bitlen p over the primes ≥ 32768 with a root at x` by
`accumulator_spec` — any factor-base size, any number of `rehash` rounds — through `path_fill` and
`tableHits_sum`.) -/
theorem accumulator_spec_hits (dbg : Bool) (fb : FB) (hfb : fb.WF) (r1 r2 : Array Nat) (hr : RootsOK fb r1 r2)
    (offset : Int) (nblocks : Nat) (recycled : Option (Array Table × Array LTable)) (hrec : RecycledOK recycled)
    (s0 s1 s : State) (h0 : Sieve.new offset nblocks fb r1 r2 recycled = some s0)
    (b : Nat) (h1 : runBlocks fb b s0 = some s1) (h2 : sieveBlock fb s1 = some s)
    (nS : Nat) (hnS : fb.ibl[16]? = some nS) (blk : Array Nat) (h : blkOf dbg fb s = some blk) :
    ∃ th, tableHits s = some th ∧ (s.tables.size = 0 → th = []) ∧ ∀ x, x < 32768 →
      byteAt blk x % 256 = (rangeSum (rootF fb r1 r2 b x) s.idxskip (2 * nS - s.idxskip) + hitSum th x) % 256 ∧
      (dbg = true → byteAt blk x = rangeSum (rootF fb r1 r2 b x) s.idxskip (2 * nS - s.idxskip) + hitSum th x) := by
  obtain ⟨hits, hh, _, _, hm, hd, _⟩ := accumulator_hits_spec dbg fb s blk h
  obtain ⟨l, th, hl, hth, rfl⟩ := allHits_eq_some hh
  have hc := class_loops_cover fb hfb r1 r2 hr offset nblocks recycled hrec s0 s1 s h0 b h1 h2 nS hnS l hl
  refine ⟨th, hth, fun hsmall => tableHits_nil hsmall hth, fun x hx => ⟨?_, fun hdb => ?_⟩⟩
  · rw [hm x, hitSum_append, hc x hx]
  · rw [hd hdb x, hitSum_append, hc x hx]

/-- `accumulator_spec_small`: the full closed form `blk[x] = Σ bitlen p over the non-skipped primes with a root at x`
(exact in the checked profile, modulo 256 in release) for factor bases whose primes are all below the block size
(`s.tables.size = 0`: no bucket table exists). -/
theorem accumulator_spec_small (dbg : Bool) (fb : FB) (hfb : fb.WF) (r1 r2 : Array Nat) (hr : RootsOK fb r1 r2)
    (offset : Int) (nblocks : Nat) (recycled : Option (Array Table × Array LTable)) (hrec : RecycledOK recycled)
    (s0 s1 s : State) (h0 : Sieve.new offset nblocks fb r1 r2 recycled = some s0)
    (b : Nat) (h1 : runBlocks fb b s0 = some s1) (h2 : sieveBlock fb s1 = some s)
    (nS : Nat) (hnS : fb.ibl[16]? = some nS) (hsmall : s.tables.size = 0)
    (blk : Array Nat) (h : blkOf dbg fb s = some blk) :
    ∀ x, x < 32768 →
      byteAt blk x % 256 = rangeSum (rootF fb r1 r2 b x) s.idxskip (2 * nS - s.idxskip) % 256 ∧
      (dbg = true → byteAt blk x = rangeSum (rootF fb r1 r2 b x) s.idxskip (2 * nS - s.idxskip)) := by
  obtain ⟨th, _, hth, hx⟩ := accumulator_spec_hits dbg fb hfb r1 r2 hr offset nblocks recycled hrec s0 s1 s h0 b h1
    h2 nS hnS blk h
  have := hth hsmall
  subst this
  intro x hx'
  have := hx x hx'
  simpa [hitSum_nil] using this

/-- core of the no-overflow theorems, from the cursor invariant of the small primes and a bound `T` on the table
term that the primes ≥ 32768 of the given sets pay for. -/
theorem accumulator_core_no_overflow (fb : FB) (hfb : fb.WF) (r1 r2 : Array Nat) (hr : RootsOK fb r1 r2)
    (s : State) (nS : Nat) (hnS : fb.ibl[16]? = some nS) (B : Nat)
    (hprev : CurInv fb r1 r2 s.idxskip nS B s.loPrev) (hev : s.idxskip % 2 = 0) (T : Nat → Nat) (Z : Prop)
    (htab : ∀ th, tableHits s = some th → ∀ x, x < 32768 → hitSum th x ≤ T x ∧ (Z → hitSum th x = T x))
    (blk0 : Array Nat) (hrel : blkOf false fb s = some blk0)
    (hdiv : ∀ x, x < 32768 → ∃ (ps : Finset ℕ) (v : ℕ), (∀ p ∈ ps, p.Prime) ∧ v ≠ 0 ∧ (∀ p ∈ ps, p ∣ v) ∧
      bitlen v + ps.card ≤ 256 ∧
      (∀ i p o, s.idxskip ≤ 2 * i → fb.primes[i]? = some p → p < 32768 → (r1[i]? = some o ∨ r2[i]? = some o) →
        (B * 32768 + x) % p = o → p ∈ ps) ∧
      T x ≤ ∑ p ∈ ps.filter (fun p => ¬ p < 32768), bitlen p) :
    blkOf true fb s = some blk0 ∧
      ∀ x, x < 32768 →
        byteAt blk0 x ≤ rangeSum (rootF fb r1 r2 B x) s.idxskip (2 * nS - s.idxskip) + T x ∧
        (Z → byteAt blk0 x = rangeSum (rootF fb r1 r2 B x) s.idxskip (2 * nS - s.idxskip) + T x) := by
  obtain ⟨hits, hh, _, hin, _, _, _⟩ := accumulator_hits_spec false fb s blk0 hrel
  obtain ⟨l, th, hl, hth, rfl⟩ := allHits_eq_some hh
  have hc : ∀ x, x < 32768 → hitSum l x = rangeSum (rootF fb r1 r2 B x) s.idxskip (2 * nS - s.idxskip) :=
    fun x hx => smallHits_rootSum hfb hnS hev hprev hx hl
  have hbound : ∀ x, x < 32768 → ∃ (ps : Finset ℕ) (v : ℕ), (∀ p ∈ ps, p.Prime) ∧ v ≠ 0 ∧ (∀ p ∈ ps, p ∣ v) ∧
      bitlen v + ps.card ≤ 256 ∧ hitSum (l ++ th) x ≤ ∑ p ∈ ps, bitlen p := by
    intro x hx
    obtain ⟨ps, v, hp, hv, hdv, hbd, hmemS, hT⟩ := hdiv x hx
    refine ⟨ps, v, hp, hv, hdv, hbd, ?_⟩
    -- the primes below the block size pay for the cursors, the others for the tables
    rw [hitSum_append, hc x hx, ← Finset.sum_filter_add_sum_filter_not ps (fun p => p < 32768) bitlen]
    exact add_le_add
      (rootSum_le hfb hnS hev hr _ (fun i p o hge hpi hps ho hmod =>
        Finset.mem_filter.2 ⟨hmemS i p o hge hpi hps ho hmod, hps⟩))
      (le_trans (htab th hth x hx).1 hT)
  obtain ⟨blk, e1, e2, e3⟩ := accumulator_no_overflow_hits fb s (l ++ th) hh hin hbound
  rw [hrel] at e2
  have := Option.some.inj e2
  subst this
  refine ⟨e1, fun x hx => ⟨?_, fun hz => ?_⟩⟩
  · rw [e3 x, hitSum_append, hc x hx]
    exact Nat.add_le_add_left (htab th hth x hx).1 _
  · rw [e3 x, hitSum_append, hc x hx, (htab th hth x hx).2 hz]

/-- `accumulator_spec`: the closed form of the byte array of `sieve_block`, GENERAL: any factor-base size (primes below
the block size through the cursors, primes ≥ 32768 through the size-class tables and `SieveTableLarge`), any number
`rs.length ≥ 0` of rounds "sieve the whole interval, then `rehash(roots)`" after `Sieve::new` (fresh tables, or recycled
tables of the same `nblocks`), then `b < nblocks` rounds and `sieve_block()`. When no table has lost an entry
(`n_overflows = 0` in the size-class tables, empty overflow vector in the large tables) and the two roots of the last
root table differ for every prime ≥ 32768, byte `x` is
`Σ_{k = idxskip}^{2·nS−1} rootF k + Σ_{pidx = nS}^{#primes−1} tabF pidx`: the sum of `bitlen p` over the non-skipped primes
`p < 32768` with `((rs.length·nblocks + b)·32768 + x) mod p` a root given to `new` (once per distinct root; the cursors
run on across `rehash`), plus the sum of `bitlen p` over ALL primes `p ≥ 32768` with `(b·32768 + x) mod p` a root of the
LAST root table (`lastRoots`: the one of the last `rehash`, or the one given to `new`) — exactly in the checked profile,
modulo 256 in release. -/
theorem accumulator_spec (dbg : Bool) (fb : FB) (hfb : fb.WF) (r1 r2 : Array Nat) (hr : RootsOK fb r1 r2)
    (offset : Int) (nblocks : Nat) (recycled : Option (Array Table × Array LTable))
    (hrec : RecycledLens nblocks recycled) (rs : List (Array Nat × Array Nat))
    (hrL : RootsOK fb (lastRoots rs (r1, r2)).1 (lastRoots rs (r1, r2)).2)
    (hdL : RootsDistinct fb (lastRoots rs (r1, r2)).1 (lastRoots rs (r1, r2)).2)
    (s0 sb s1 s : State) (h0 : Sieve.new offset nblocks fb r1 r2 recycled = some s0)
    (hb : rehashRounds fb nblocks rs s0 = some sb)
    (b : Nat) (hbn : b < nblocks) (h1 : runBlocks fb b sb = some s1) (h2 : sieveBlock fb s1 = some s)
    (nS : Nat) (hnS : fb.ibl[16]? = some nS)
    (hov : ∀ (ti : Nat) (t : Table), s.tables[ti]? = some t → t.nOverflows = 0)
    (hovL : ∀ (ti : Nat) (t : LTable), s.ltables[ti]? = some t → t.overflows.size = 0)
    (blk : Array Nat) (h : blkOf dbg fb s = some blk) :
    ∀ x, x < 32768 →
      byteAt blk x % 256 = (rangeSum (rootF fb r1 r2 (rs.length * nblocks + b) x) s.idxskip (2 * nS - s.idxskip) +
        rangeSum (tabF fb (lastRoots rs (r1, r2)).1 (lastRoots rs (r1, r2)).2 (nblocks * BLOCK) (b * BLOCK + x)) nS
          (fb.primes.size - nS)) % 256 ∧
      (dbg = true → byteAt blk x =
        rangeSum (rootF fb r1 r2 (rs.length * nblocks + b) x) s.idxskip (2 * nS - s.idxskip) +
        rangeSum (tabF fb (lastRoots rs (r1, r2)).1 (lastRoots rs (r1, r2)).2 (nblocks * BLOCK) (b * BLOCK + x)) nS
          (fb.primes.size - nS)) := by
  obtain ⟨hprev, hev, htab⟩ := path_facts hfb hr hrec.1.ok hrL hdL (by omega) h0 hb h1 h2 hnS
  obtain ⟨hits, hh, _, _, hm, hd, _⟩ := accumulator_hits_spec dbg fb s blk h
  obtain ⟨l, th, hl, hth, rfl⟩ := allHits_eq_some hh
  intro x hx
  have hc := smallHits_rootSum hfb hnS hev hprev hx hl
  have ht := (htab th hth x hx).2 ⟨hov, hovL⟩
  exact ⟨by rw [hm x, hitSum_append, hc, ht], fun hdb => by rw [hd hdb x, hitSum_append, hc, ht]⟩

/-- `accumulator_no_overflow`: GENERAL (any factor-base size, any number of `rehash` rounds, NO hypothesis on the
overflow counters). On the path of `accumulator_spec`: if at every position `x` the primes with a root at `x` —
non-skipped primes below the block size (roots given to `new`, block `rs.length·nblocks + b` since `new`) and all primes
≥ 32768 (last root table, block `b` of the interval) — belong to a finite set of primes dividing some `v ≠ 0` with
`bitlen v + #primes ≤ 256` (the hypothesis of `log_sum_bound`), then no `+=` site of `sieve_block` overflows: the checked
model returns whenever the release model does, with the same bytes; every byte is at most the closed form of
`accumulator_spec` (entries lost to a bucket overflow are not added: every bucket holds a sublist of the registered
entries) and equal to it when no table has lost an entry. -/
theorem accumulator_no_overflow (fb : FB) (hfb : fb.WF) (r1 r2 : Array Nat) (hr : RootsOK fb r1 r2)
    (offset : Int) (nblocks : Nat) (recycled : Option (Array Table × Array LTable))
    (hrec : RecycledLens nblocks recycled) (rs : List (Array Nat × Array Nat))
    (hrL : RootsOK fb (lastRoots rs (r1, r2)).1 (lastRoots rs (r1, r2)).2)
    (hdL : RootsDistinct fb (lastRoots rs (r1, r2)).1 (lastRoots rs (r1, r2)).2)
    (s0 sb s1 s : State) (h0 : Sieve.new offset nblocks fb r1 r2 recycled = some s0)
    (hb : rehashRounds fb nblocks rs s0 = some sb)
    (b : Nat) (hbn : b < nblocks) (h1 : runBlocks fb b sb = some s1) (h2 : sieveBlock fb s1 = some s)
    (nS : Nat) (hnS : fb.ibl[16]? = some nS)
    (blk0 : Array Nat) (hrel : blkOf false fb s = some blk0)
    (hdiv : ∀ x, x < 32768 → ∃ (ps : Finset ℕ) (v : ℕ), (∀ p ∈ ps, p.Prime) ∧ v ≠ 0 ∧ (∀ p ∈ ps, p ∣ v) ∧
      bitlen v + ps.card ≤ 256 ∧
      (∀ i p o, s.idxskip ≤ 2 * i → fb.primes[i]? = some p → p < 32768 → (r1[i]? = some o ∨ r2[i]? = some o) →
        ((rs.length * nblocks + b) * 32768 + x) % p = o → p ∈ ps) ∧
      (∀ (i p o : Nat), fb.primes[i]? = some p → 32768 ≤ p →
        ((lastRoots rs (r1, r2)).1[i]? = some o ∨ (lastRoots rs (r1, r2)).2[i]? = some o) →
        (b * 32768 + x) % p = o → p ∈ ps)) :
    blkOf true fb s = some blk0 ∧
      ∀ x, x < 32768 →
        byteAt blk0 x ≤ rangeSum (rootF fb r1 r2 (rs.length * nblocks + b) x) s.idxskip (2 * nS - s.idxskip) +
          rangeSum (tabF fb (lastRoots rs (r1, r2)).1 (lastRoots rs (r1, r2)).2 (nblocks * BLOCK) (b * BLOCK + x)) nS
            (fb.primes.size - nS) ∧
        (((∀ (ti : Nat) (t : Table), s.tables[ti]? = some t → t.nOverflows = 0) ∧
          (∀ (ti : Nat) (t : LTable), s.ltables[ti]? = some t → t.overflows.size = 0)) →
          byteAt blk0 x = rangeSum (rootF fb r1 r2 (rs.length * nblocks + b) x) s.idxskip (2 * nS - s.idxskip) +
            rangeSum (tabF fb (lastRoots rs (r1, r2)).1 (lastRoots rs (r1, r2)).2 (nblocks * BLOCK) (b * BLOCK + x)) nS
              (fb.primes.size - nS)) := by
  obtain ⟨hprev, hev, htab⟩ := path_facts hfb hr hrec.1.ok hrL hdL (by omega) h0 hb h1 h2 hnS
  refine accumulator_core_no_overflow fb hfb r1 r2 hr s nS hnS _ hprev hev _ _ htab blk0 hrel ?_
  intro x hx
  obtain ⟨ps, v, hp, hv, hdv, hbd, hmemS, hmemL⟩ := hdiv x hx
  exact ⟨ps, v, hp, hv, hdv, hbd, hmemS, tabSum_le hfb hrL hnS _ (fun i p o hpi hbig ho hmod =>
    Finset.mem_filter.2 ⟨hmemL i p o hpi hbig ho hmod, by omega⟩)⟩

/-- test vectors, not a property: on the factor base `#[3, 5, 32771, 65537, 262147]` (16-bit, 17-bit and 19-bit prime: three
size-class tables, one large table) `new` and `sieve_block` return and nothing is lost, without a round and after one
round "sieve the interval, rehash with other roots". -/
theorem vectors_three_classes :
    (((Sieve.new 0 1 (FB.ofPrimes #[3, 5, 32771, 65537, 262147]) #[1, 2, 7, 65000, 100] #[2, 3, 9, 70, 20000]
        none).bind fun s0 => (sieveBlock (FB.ofPrimes #[3, 5, 32771, 65537, 262147]) s0).map fun s =>
        (s.tables.size, s.ltables.size, s.tables.all (fun t => t.nOverflows == 0),
          s.ltables.all (fun t => t.overflows.size == 0))) = some (3, 1, true, true)) ∧
    (((Sieve.new 0 1 (FB.ofPrimes #[3, 5, 32771, 65537, 262147]) #[1, 2, 7, 65000, 100] #[2, 3, 9, 70, 20000]
        none).bind fun s0 =>
      (rehashRounds (FB.ofPrimes #[3, 5, 32771, 65537, 262147]) 1 [(#[0, 1, 11, 3, 5000], #[1, 4, 12, 32000, 6])] s0).bind
        fun sb => (sieveBlock (FB.ofPrimes #[3, 5, 32771, 65537, 262147]) sb).map fun s =>
          (s.blkNo, s.tables.size, s.ltables.size, s.tables.all (fun t => t.nOverflows == 0),
            s.ltables.all (fun t => t.overflows.size == 0))) = some (0, 3, 1, true, true)) := by
  decide +kernel

/-- non-vacuity of `accumulator_spec` / `accumulator_no_overflow` on the rehash path: a factor base with a 16-bit, a
17-bit and a 19-bit prime, `new`, one round "sieve the interval, rehash with other roots", `sieve_block`: all calls
return, three size-class tables and one large table, nothing lost. -/
example : ((Sieve.new 0 1 (FB.ofPrimes #[3, 5, 32771, 65537, 262147]) #[1, 2, 7, 65000, 100] #[2, 3, 9, 70, 20000]
      none).bind fun s0 =>
    (rehashRounds (FB.ofPrimes #[3, 5, 32771, 65537, 262147]) 1 [(#[0, 1, 11, 3, 5000], #[1, 4, 12, 32000, 6])] s0).bind
      fun sb => (sieveBlock (FB.ofPrimes #[3, 5, 32771, 65537, 262147]) sb).map fun s =>
        (s.blkNo, s.tables.size, s.ltables.size, s.tables.all (fun t => t.nOverflows == 0),
          s.ltables.all (fun t => t.overflows.size == 0))) = some (0, 3, 1, true, true) :=
  vectors_three_classes.2

/-- `accumulator_spec_large`: the full closed form for ANY factor-base size (size-class tables and `SieveTableLarge`)
on the path `Sieve::new` (fresh tables, or recycled tables of the same `nblocks`) → `b < nblocks` rounds →
`sieve_block()`, when no table has lost an entry (`n_overflows = 0` in the size-class tables, empty overflow vector in
the large tables) and the two roots of every prime ≥ 32768 differ: byte `x` of block `b` is the sum of `bitlen p` over
the non-skipped primes `p < 32768` with a root at `x` (once per distinct root) plus the sum of `bitlen p` over ALL
primes `p ≥ 32768` with `(b·32768 + x) mod p ∈ {r1, r2}` — exactly in the checked profile, modulo 256 in release. -/
theorem accumulator_spec_large (dbg : Bool) (fb : FB) (hfb : fb.WF) (r1 r2 : Array Nat) (hr : RootsOK fb r1 r2)
    (hd : RootsDistinct fb r1 r2) (offset : Int) (nblocks : Nat) (recycled : Option (Array Table × Array LTable))
    (hrec : RecycledLens nblocks recycled)
    (s0 s1 s : State) (h0 : Sieve.new offset nblocks fb r1 r2 recycled = some s0)
    (b : Nat) (hb : b < nblocks) (h1 : runBlocks fb b s0 = some s1) (h2 : sieveBlock fb s1 = some s)
    (nS : Nat) (hnS : fb.ibl[16]? = some nS)
    (hov : ∀ (ti : Nat) (t : Table), s.tables[ti]? = some t → t.nOverflows = 0)
    (hovL : ∀ (ti : Nat) (t : LTable), s.ltables[ti]? = some t → t.overflows.size = 0)
    (blk : Array Nat) (h : blkOf dbg fb s = some blk) :
    ∀ x, x < 32768 →
      byteAt blk x % 256 = (rangeSum (rootF fb r1 r2 b x) s.idxskip (2 * nS - s.idxskip) +
        rangeSum (tabF fb r1 r2 (nblocks * BLOCK) (b * BLOCK + x)) nS (fb.primes.size - nS)) % 256 ∧
      (dbg = true → byteAt blk x = rangeSum (rootF fb r1 r2 b x) s.idxskip (2 * nS - s.idxskip) +
        rangeSum (tabF fb r1 r2 (nblocks * BLOCK) (b * BLOCK + x)) nS (fb.primes.size - nS)) := by
  have := accumulator_spec dbg fb hfb r1 r2 hr offset nblocks recycled hrec [] hr hd s0 s0 s1 s h0 rfl b hb h1 h2 nS
    hnS hov hovL blk h
  have e0 : ([] : List (Array Nat × Array Nat)).length * nblocks + b = b := by simp
  rw [e0] at this
  exact this

/-- non-vacuity of `accumulator_spec_large` / `accumulator_no_overflow_new`: a factor base with a 16-bit, a 17-bit and a
19-bit prime (three size-class tables, one large table), `new` and `sieve_block` return and nothing is lost. -/
example : ((Sieve.new 0 1 (FB.ofPrimes #[3, 5, 32771, 65537, 262147]) #[1, 2, 7, 65000, 100] #[2, 3, 9, 70, 20000]
      none).bind fun s0 => (sieveBlock (FB.ofPrimes #[3, 5, 32771, 65537, 262147]) s0).map fun s =>
      (s.tables.size, s.ltables.size, s.tables.all (fun t => t.nOverflows == 0),
        s.ltables.all (fun t => t.overflows.size == 0))) = some (3, 1, true, true) :=
  vectors_three_classes.1

/-- `accumulator_no_overflow_new`: `accumulator_no_overflow` for ANY factor-base size and WITHOUT any hypothesis on
the overflow counters, on the path `Sieve::new → b < nblocks rounds → sieve_block()`: if at every position `x` the
primes with a root at `x` — non-skipped primes below the block size and all primes ≥ 32768 — belong to a finite set of
primes dividing some `v ≠ 0` with `bitlen v + #primes ≤ 256` (the hypothesis of `log_sum_bound`), then no `+=` site of
`sieve_block` overflows, both families of table loops included: the checked model returns whenever the release model
does, with the same bytes; every byte is at most the closed form (bucket entries lost to an overflow are not added:
each bucket holds a sublist of the registered entries), and equal to it when no table has lost an entry. -/
theorem accumulator_no_overflow_new (fb : FB) (hfb : fb.WF) (r1 r2 : Array Nat) (hr : RootsOK fb r1 r2)
    (hd : RootsDistinct fb r1 r2) (offset : Int) (nblocks : Nat) (recycled : Option (Array Table × Array LTable))
    (hrec : RecycledLens nblocks recycled)
    (s0 s1 s : State) (h0 : Sieve.new offset nblocks fb r1 r2 recycled = some s0)
    (b : Nat) (hb : b < nblocks) (h1 : runBlocks fb b s0 = some s1) (h2 : sieveBlock fb s1 = some s)
    (nS : Nat) (hnS : fb.ibl[16]? = some nS)
    (blk0 : Array Nat) (hrel : blkOf false fb s = some blk0)
    (hdiv : ∀ x, x < 32768 → ∃ (ps : Finset ℕ) (v : ℕ), (∀ p ∈ ps, p.Prime) ∧ v ≠ 0 ∧ (∀ p ∈ ps, p ∣ v) ∧
      bitlen v + ps.card ≤ 256 ∧
      ∀ i p o, (s.idxskip ≤ 2 * i ∨ 32768 ≤ p) → fb.primes[i]? = some p → (r1[i]? = some o ∨ r2[i]? = some o) →
        (b * 32768 + x) % p = o → p ∈ ps) :
    blkOf true fb s = some blk0 ∧
      ∀ x, x < 32768 →
        byteAt blk0 x ≤ rangeSum (rootF fb r1 r2 b x) s.idxskip (2 * nS - s.idxskip) +
          rangeSum (tabF fb r1 r2 (nblocks * BLOCK) (b * BLOCK + x)) nS (fb.primes.size - nS) ∧
        ((∀ (ti : Nat) (t : Table), s.tables[ti]? = some t → t.nOverflows = 0) →
          (∀ (ti : Nat) (t : LTable), s.ltables[ti]? = some t → t.overflows.size = 0) →
          byteAt blk0 x = rangeSum (rootF fb r1 r2 b x) s.idxskip (2 * nS - s.idxskip) +
            rangeSum (tabF fb r1 r2 (nblocks * BLOCK) (b * BLOCK + x)) nS (fb.primes.size - nS)) := by
  obtain ⟨e1, e2⟩ := accumulator_no_overflow fb hfb r1 r2 hr offset nblocks recycled hrec [] hr hd s0 s0 s1 s h0 rfl b
    hb h1 h2 nS hnS blk0 hrel (fun x hx => by
      obtain ⟨ps, v, hp, hv, hdv, hbd, hmem⟩ := hdiv x hx
      have e0 : ([] : List (Array Nat × Array Nat)).length * nblocks + b = b := by simp
      rw [e0]
      exact ⟨ps, v, hp, hv, hdv, hbd, fun i p o hge hpi _ ho hmod => hmem i p o (Or.inl hge) hpi ho hmod,
        fun i p o hpi hbig ho hmod => hmem i p o (Or.inr hbig) hpi ho hmod⟩)
  have e0 : ([] : List (Array Nat × Array Nat)).length * nblocks + b = b := by simp
  rw [e0] at e2
  exact ⟨e1, fun x hx => ⟨(e2 x hx).1, fun hz hzL => (e2 x hx).2 ⟨hz, hzL⟩⟩⟩

/-- `accumulator_spec_tables`: the full closed form for factor bases below 2^18 (no `SieveTableLarge`: every prime
≥ 32768 is in one of the size-class tables of 16, 17 or 18 bits), on the path `Sieve::new` (fresh, or recycled tables
of the same `nblocks`) → `b < nblocks` rounds → `sieve_block()`, when no size-class table has counted an overflow
(`n_overflows = 0`, the case in which nothing can be lost) and the two roots of every prime ≥ 32768 differ
(`RootsDistinct`: the code registers the root twice otherwise). Byte `x` of block `b` is
`Σ_{k = idxskip}^{2·nS−1} rootF k + Σ_{pidx = nS}^{#primes−1} tabF pidx`: the sum of `bitlen p` over the non-skipped
primes `p < 32768` with a root at `x` (once per distinct root) plus the sum of `bitlen p` over ALL primes `p ≥ 32768`
with `(b·32768 + x) mod p ∈ {r1, r2}` — exactly in the checked profile, modulo 256 in release. `table_bucket_exact`
is carried through the nested loops of `Sieve::new` (`newFold_filled`: which adds are made for which prime and root
into which table) and through the read loops of `sieve_block` (`tableHits_sum`). -/
theorem accumulator_spec_tables (dbg : Bool) (fb : FB) (hfb : fb.WF) (r1 r2 : Array Nat) (hr : RootsOK fb r1 r2)
    (hd : RootsDistinct fb r1 r2) (offset : Int) (nblocks : Nat) (recycled : Option (Array Table × Array LTable))
    (hrec : RecycledBlens nblocks recycled)
    (s0 s1 s : State) (h0 : Sieve.new offset nblocks fb r1 r2 recycled = some s0)
    (b : Nat) (hb : b < nblocks) (h1 : runBlocks fb b s0 = some s1) (h2 : sieveBlock fb s1 = some s)
    (nS : Nat) (hnS : fb.ibl[16]? = some nS) (hl0 : s.ltables.size = 0)
    (hov : ∀ (ti : Nat) (t : Table), s.tables[ti]? = some t → t.nOverflows = 0)
    (blk : Array Nat) (h : blkOf dbg fb s = some blk) :
    ∀ x, x < 32768 →
      byteAt blk x % 256 = (rangeSum (rootF fb r1 r2 b x) s.idxskip (2 * nS - s.idxskip) +
        rangeSum (tabF fb r1 r2 (nblocks * BLOCK) (b * BLOCK + x)) nS (fb.primes.size - nS)) % 256 ∧
      (dbg = true → byteAt blk x = rangeSum (rootF fb r1 r2 b x) s.idxskip (2 * nS - s.idxskip) +
        rangeSum (tabF fb r1 r2 (nblocks * BLOCK) (b * BLOCK + x)) nS (fb.primes.size - nS)) := by
  obtain ⟨hprev, hev, htab⟩ := path_facts (rs := []) hfb hr hrec.ok hr hd (by omega) h0 rfl h1 h2 hnS
  rw [List.length_nil, Nat.zero_mul, Nat.zero_add] at hprev
  obtain ⟨hits, hh, _, _, hm, hdb, _⟩ := accumulator_hits_spec dbg fb s blk h
  obtain ⟨l, th, hl, hth, rfl⟩ := allHits_eq_some hh
  intro x hx
  have hc := smallHits_rootSum hfb hnS hev hprev hx hl
  have ht := (htab th hth x hx).2 ⟨hov, fun ti t ht => by have := (Array.getElem?_eq_some_iff.1 ht).1; omega⟩
  exact ⟨by rw [hm x, hitSum_append, hc, ht]; rfl, fun e => by rw [hdb e x, hitSum_append, hc, ht]; rfl⟩

/-- non-vacuity of `accumulator_spec_tables`: a factor base with a 16-bit and a 17-bit prime (two size-class tables,
no large table), `new` and `sieve_block` return and no overflow is counted. -/
example : ((Sieve.new 0 1 (FB.ofPrimes #[3, 5, 32771, 65537]) #[1, 2, 7, 65000] #[2, 3, 9, 70] none).bind fun s0 =>
    (sieveBlock (FB.ofPrimes #[3, 5, 32771, 65537]) s0).map fun s =>
      (s.tables.size, s.ltables.size, s.tables.all fun t => t.nOverflows == 0)) = some (2, 0, true) := by
  decide +kernel

/-- `accumulator_no_overflow_tables`: `accumulator_no_overflow` for factor bases below 2^18 on the path of
`accumulator_spec_tables` (no counted overflow in the size-class tables, distinct roots for the primes ≥ 32768): if at
every position `x` the primes with a root at `x` — non-skipped primes below the block size and ALL primes ≥ 32768 — belong
to a finite set of primes dividing some `v ≠ 0` with `bitlen v + #primes ≤ 256` (the hypothesis of `log_sum_bound`), then
no `+=` site of `sieve_block` overflows, table loops included: the checked model returns whenever the release model
does, with the same bytes, and every byte is the closed form (no wrap). -/
theorem accumulator_no_overflow_tables (fb : FB) (hfb : fb.WF) (r1 r2 : Array Nat) (hr : RootsOK fb r1 r2)
    (hd : RootsDistinct fb r1 r2) (offset : Int) (nblocks : Nat) (recycled : Option (Array Table × Array LTable))
    (hrec : RecycledBlens nblocks recycled)
    (s0 s1 s : State) (h0 : Sieve.new offset nblocks fb r1 r2 recycled = some s0)
    (b : Nat) (hb : b < nblocks) (h1 : runBlocks fb b s0 = some s1) (h2 : sieveBlock fb s1 = some s)
    (nS : Nat) (hnS : fb.ibl[16]? = some nS) (hl0 : s.ltables.size = 0)
    (hov : ∀ (ti : Nat) (t : Table), s.tables[ti]? = some t → t.nOverflows = 0)
    (blk0 : Array Nat) (hrel : blkOf false fb s = some blk0)
    (hdiv : ∀ x, x < 32768 → ∃ (ps : Finset ℕ) (v : ℕ), (∀ p ∈ ps, p.Prime) ∧ v ≠ 0 ∧ (∀ p ∈ ps, p ∣ v) ∧
      bitlen v + ps.card ≤ 256 ∧
      ∀ i p o, (s.idxskip ≤ 2 * i ∨ 32768 ≤ p) → fb.primes[i]? = some p → (r1[i]? = some o ∨ r2[i]? = some o) →
        (b * 32768 + x) % p = o → p ∈ ps) :
    blkOf true fb s = some blk0 ∧
      ∀ x, x < 32768 → byteAt blk0 x = rangeSum (rootF fb r1 r2 b x) s.idxskip (2 * nS - s.idxskip) +
        rangeSum (tabF fb r1 r2 (nblocks * BLOCK) (b * BLOCK + x)) nS (fb.primes.size - nS) := by
  obtain ⟨hprev, hev, htab⟩ := path_facts (rs := []) hfb hr hrec.ok hr hd (by omega) h0 rfl h1 h2 hnS
  rw [List.length_nil, Nat.zero_mul, Nat.zero_add] at hprev
  obtain ⟨e1, e2⟩ := accumulator_core_no_overflow fb hfb r1 r2 hr s nS hnS b hprev hev _ _ htab blk0 hrel (fun x hx => by
    obtain ⟨ps, v, hp, hv, hdv, hbd, hmem⟩ := hdiv x hx
    exact ⟨ps, v, hp, hv, hdv, hbd, fun i p o hge hpi _ ho hmod => hmem i p o (Or.inl hge) hpi ho hmod,
      tabSum_le hfb hr hnS _ (fun i p o hpi hbig ho hmod =>
        Finset.mem_filter.2 ⟨hmem i p o (Or.inr hbig) hpi ho hmod, by omega⟩)⟩)
  exact ⟨e1, fun x hx => (e2 x hx).2
    ⟨hov, fun ti t ht => by have := (Array.getElem?_eq_some_iff.1 ht).1; omega⟩⟩

/-- `accumulator_no_overflow_small`: for factor bases whose primes are all below the block size, under the hypothesis of
`log_sum_bound` — at every position `x` the non-skipped primes with a root at `x` (true roots: they divide the
polynomial value) all belong to a finite set of primes dividing some `v ≠ 0` with `bitlen v + #primes ≤ 256` — no `+=`
site of `sieve_block` overflows: the checked model returns whenever the release model does, with the same bytes,
and every byte is the closed form (no wrap). The link `Σ of the added logs ≤ Σ bitlen p over those primes` is
PROVED (`class_loops_cover`, each prime at most once per position, distinct primes). -/
theorem accumulator_no_overflow_small (fb : FB) (hfb : fb.WF) (r1 r2 : Array Nat) (hr : RootsOK fb r1 r2)
    (offset : Int) (nblocks : Nat) (recycled : Option (Array Table × Array LTable)) (hrec : RecycledOK recycled)
    (s0 s1 s : State) (h0 : Sieve.new offset nblocks fb r1 r2 recycled = some s0)
    (b : Nat) (h1 : runBlocks fb b s0 = some s1) (h2 : sieveBlock fb s1 = some s)
    (nS : Nat) (hnS : fb.ibl[16]? = some nS) (hsmall : s.tables.size = 0)
    (blk0 : Array Nat) (hrel : blkOf false fb s = some blk0)
    (hdiv : ∀ x, x < 32768 → ∃ (ps : Finset ℕ) (v : ℕ), (∀ p ∈ ps, p.Prime) ∧ v ≠ 0 ∧ (∀ p ∈ ps, p ∣ v) ∧
      bitlen v + ps.card ≤ 256 ∧
      ∀ i p o, s.idxskip ≤ 2 * i → fb.primes[i]? = some p → p < 32768 → (r1[i]? = some o ∨ r2[i]? = some o) →
        (b * 32768 + x) % p = o → p ∈ ps) :
    blkOf true fb s = some blk0 ∧
      ∀ x, x < 32768 → byteAt blk0 x = rangeSum (rootF fb r1 r2 b x) s.idxskip (2 * nS - s.idxskip) := by
  obtain ⟨hprev, hev⟩ := state_for_block hfb hr hrec h0 h1 h2 hnS
  obtain ⟨e1, e2⟩ := accumulator_core_no_overflow fb hfb r1 r2 hr s nS hnS b hprev hev (fun _ => 0) True
    (fun th hth x _ => by rw [tableHits_nil hsmall hth]; exact ⟨le_refl 0, fun _ => rfl⟩) blk0 hrel (fun x hx => by
      obtain ⟨ps, v, hp, hv, hd, hb, hmem⟩ := hdiv x hx
      exact ⟨ps, v, hp, hv, hd, hb, hmem, Nat.zero_le _⟩)
  exact ⟨e1, fun x hx => (e2 x hx).2 trivial⟩

/-- `smooth_candidate_reported`. After `Sieve::new`, `b < nblocks` rounds and `sieve_block()`, when
`smooths(threshold ≥ 1, root, roots)` returns `(res, facs)`: every position `x` of the block whose byte exceeds
`threshold2` and whose corrected value (byte + logs of the skipped primes with a root at `x` + root-distance bonus)
reaches the threshold — in particular a position where the polynomial value is fully smooth over the factor base
and the log sum of its non-skipped primes, which `accumulator_spec_small` identifies with the byte, clears the threshold —
IS reported (`x ∈ res`), and the factor list attached to it contains every factor-base prime with a root at `x`
(`listed_complete`; size classes 16..18 up to the `n_overflows − 32` counted losses): trial division by the list
(`cofactor_spec`) then leaves cofactor 1 for a fully smooth value. -/
theorem smooth_candidate_reported (dbg : Bool) (fb : FB) (hfb : fb.WF) (r1 r2 : Array Nat) (hr : RootsOK fb r1 r2)
    (offset : Int) (nblocks : Nat) (hN : nblocks ≤ 2 ^ 17)
    (recycled : Option (Array Table × Array LTable)) (hrec : RecycledOK recycled)
    (s0 : State) (h0 : Sieve.new offset nblocks fb r1 r2 recycled = some s0)
    (b : Nat) (hb : b < nblocks) (s1 : State) (h1 : runBlocks fb b s0 = some s1)
    (s : State) (h2 : sieveBlock fb s1 = some s)
    (blk : Array Nat) (threshold : Nat) (hthr : 1 ≤ threshold) (root : Option Nat)
    (res : List Nat) (facs : List (List Nat))
    (hsm : SieveLog.smooths dbg fb s blk threshold root r1 r2 = some (res, facs))
    (x : Nat) (hx : x < 32768) (threshold2 t0 t1 t2 : Nat) (ht2 : threshold2Of fb s threshold root = some threshold2)
    (hb0 : blk[x]? = some t0) (hgt : threshold2 < t0) (ha : addSkipped dbg fb s x t0 = some t1)
    (hc : rootComp dbg s (mzerosOf s) root x t1 = some t2) (hge : threshold ≤ t2) :
    x ∈ res ∧ ∃ f, (x, f) ∈ res.zip facs ∧
      ∃ lost : Nat → List (Nat × Nat),
        (∀ (ti : Nat) (t : Table), s.tables[ti]? = some t → (lost ti).length = t.nOverflows - 32) ∧
        ∀ pidx p o, fb.primes[pidx]? = some p → (r1[pidx]? = some o ∨ r2[pidx]? = some o) →
          (b * 32768 + x) % p = o →
          pidx ∈ f ∨ (16 ≤ bitlen p ∧ bitlen p ≤ 18 ∧ (b * 32768 + x, pidx % 2 ^ 32) ∈ lost (bitlen p - 16)) := by
  unfold SieveLog.smooths at hsm
  simp only [Option.bind_eq_bind, Option.bind_eq_some_iff, Option.some.injEq, Prod.mk.injEq] at hsm
  obtain ⟨res', hres, facs', hfacs, rfl, rfl⟩ := hsm
  obtain ⟨th2, e1, _, hmem⟩ := smooths_threshold_spec dbg fb s blk threshold root res' hthr hres
  rw [ht2] at e1
  have := Option.some.inj e1; subst this
  have hxr : x ∈ res' := (hmem x).2 ⟨hx, t0, t1, t2, hb0, hgt, ha, hc, hge⟩
  obtain ⟨z1, z2⟩ := factorsAt_zip res' facs' hfacs
  obtain ⟨f, hf⟩ := z2 x hxr
  obtain ⟨lost, hl, hcpl⟩ := listed_complete fb hfb r1 r2 hr offset nblocks hN recycled hrec s0 h0 b hb s1 h1 s h2
  exact ⟨hxr, f, hf, lost, hl, fun pidx p o hp hroot hmod => hcpl x hx f (z1 (x, f) hf) pidx p o hp hroot hmod⟩

/-- `table_bucket_exact` — the table-level half of "the bucket entries read back are exactly the registered hits":
starting from a table whose bucket `b` is empty (`Table.new`, or any table after `reset`), after any sequence of
`add(offset, pidx)` during which NO overflow was counted, the visible part of bucket `b` — what `sieve_block` reads
back and accumulates — is exactly the list of the adds with `offset / 256 = b`, in order and with multiplicity,
each as `(offset % 256, pidx % 256)`. (Strengthens `table_recovery`, which is about membership only.) -/
theorem table_bucket_exact (t0 t : Table) (hwf : t0.WF) (adds : List (Nat × Nat))
    (h : adds.foldlM (fun t a => t.add a.1 a.2) t0 = some t) (hov : t.nOverflows = t0.nOverflows)
    (b : Nat) (hb : t0.bucket b = some []) :
    t.bucket b = some ((adds.filter fun a => a.1 / 256 = b).map fun a => (a.1 % 256, a.2 % 256)) := by
  obtain ⟨ext, e1, _, e3⟩ := (tstore.fold adds t0 t hwf h).2.2.1 b [] hb
  exact e1.trans (by rw [e3 hov, List.nil_append]; rfl)

/-- non-vacuity: three adds into two buckets of a fresh table. -/
example : ((([(5, 7), (300, 9), (6, 263)] : List (Nat × Nat)).foldlM (fun (t : Table) a => t.add a.1 a.2) (Table.new 1)).bind
    fun t => t.bucket 0) = some [(5, 7), (6, 7)] := by decide +kernel

end Ymq.C13
