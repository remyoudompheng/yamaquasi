/-
Hand-off from the Smith form of C19 to the class group reported by C18.

`relationcls::group_structure_dense` ends with
    r.reduce();                                   -- SmithNormalForm::reduce (C19)
    g.h = r.h;  for i in 0..r.gens.len() { let d = r.rows[i][i]; if d != 1 { g.invariants.push(d as u128) } }
This file models those last lines on C19's model state (`Ymq.Snf.St`) and chains
C19 `snf_diag` (when `reduce` returns, the matrix is diagonal and its diagonal multiplies to `h`)
with C18 `invariants_multiply` (dropping the entries equal to 1 keeps the product):
whenever the model of `reduce` returns, the reported cyclic factors multiply to the reported class
number and none of them is 0 or 1.

Two facts about the state returned by `reduce` are NAMED HYPOTHESES here (they are checked on every
real run by the correspondence stream — `cg_full_model` runs `invariantsOk` on the real output — but
C19 has no theorem for them): the matrix is square (`rows.len() == gens.len()`, the loop above is
indexed by `gens`), and the diagonal entries are non-negative (they are residues modulo `h` or `h`
itself, so that `d as u128` does not wrap).
-/
import Ymq.Props.C18
import Ymq.Props.C19

namespace Ymq.C18C19
open Ymq.ClassGroup Ymq.Snf

/-- `d as u128` for an `i128` value (two's complement reinterpretation of a negative value) -/
def asU128 (d : Int) : Nat := if 0 ≤ d then d.toNat else (d + 2 ^ 128).toNat

/-- the last loop of `group_structure_dense`: `(g.h, g.invariants)`; `none` = index out of range -/
def reported (s : St) : Option (Nat × List Nat) :=
  match mapOpt (fun i => get2 s.rows i i) (List.range s.gens.length) with
  | none => none
  | some ds => some (s.h, (ds.filter (· ≠ 1)).map asU128)

theorem prod_toNat : ∀ l : List Int, (∀ d ∈ l, 0 ≤ d) → ((l.map Int.toNat).prod : Int) = l.prod
  | [], _ => by simp
  | x :: t, h => by
    have hx : 0 ≤ x := h x List.mem_cons_self
    have ih := prod_toNat t (fun d hd => h d (List.mem_cons_of_mem _ hd))
    simp only [List.map_cons, List.prod_cons, Nat.cast_mul, ih]
    rw [Int.toNat_of_nonneg hx]

theorem filter_map_comm (l : List Int) (hnn : ∀ d ∈ l, 0 ≤ d) :
    (l.filter (· ≠ 1)).map asU128 = invariantsOf (l.map Int.toNat) := by
  unfold invariantsOf
  rw [List.filter_map]
  have hf : l.filter ((fun d => decide (d ≠ 1)) ∘ Int.toNat) = l.filter (· ≠ 1) :=
    List.filter_congr (fun d hd => by
      have := hnn d hd; simp only [Function.comp]; congr 1; apply propext; omega)
  rw [hf]
  exact List.map_congr_left (fun d hd => if_pos (hnn d (List.mem_of_mem_filter hd)))

/-- **Chain C19 ∘ C18.** If the model of `SmithNormalForm::reduce` returns a state `s'` (no assertion
failed) with `0 < h < 2^125`, square and with a non-negative diagonal (named hypotheses, see the file
header), then the class group handed back by `group_structure_dense` reports `h = s'.h` and cyclic
factors that multiply to `h`, none equal to 0 or 1 — the executable check `invariantsOk` the driver
runs on every real result returns `true`. -/
theorem reported_invariants_multiply (s s' : St) (hred : s.reduce = some s') (h0 : 0 < s'.h)
    (h1 : s'.h < 2 ^ 125) (hsq : s'.rows.length = s'.gens.length)
    (hnn : ∀ ds, diagList s'.rows = some ds → ∀ d ∈ ds, 0 ≤ d) :
    ∃ invs, reported s' = some (s'.h, invs) ∧ invs.prod = s'.h ∧ invariantsOk s'.h invs = true := by
  obtain ⟨_, ds, hds, hprod⟩ := Ymq.C19.snf_diag s s' hred h0 h1
  have hnn' := hnn ds hds
  have hrep : reported s' = some (s'.h, invariantsOf (ds.map Int.toNat)) := by
    unfold reported
    unfold diagList at hds
    rw [← hsq, hds]
    simp only
    rw [filter_map_comm ds hnn']
  have hp : (ds.map Int.toNat).prod = s'.h := by
    have := prod_toNat ds hnn'
    rw [hprod] at this
    exact_mod_cast this
  have hinv := Ymq.C18.invariants_multiply (ds.map Int.toNat) s'.h hp
  refine ⟨_, hrep, hinv, ?_⟩
  rw [Ymq.C18.invariantsOk_spec]
  refine ⟨hinv, ?_⟩
  intro d hd
  unfold invariantsOf at hd
  obtain ⟨hmem, hne⟩ := List.mem_filter.1 hd
  refine ⟨by simpa using hne, ?_⟩
  -- a zero factor would make the product of the whole diagonal zero
  intro hz
  subst hz
  have : (ds.map Int.toNat).prod = 0 := List.prod_eq_zero hmem
  omega

/-- non-vacuity: the diagonal state `h = 60`, `rows = [[2, 0], [0, 30]]` (what the real code returns for
`D = -10148`, K corpus) reports `(60, [2, 30])` -/
example : reported { rows := [[2, 0], [0, 30]], q := [], gens := [37, 3], removed := [], h := 60, qm := 0, qe := 0 }
    = some (60, [2, 30]) := by decide

end Ymq.C18C19
