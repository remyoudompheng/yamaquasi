/-
C19 — integer determinants, lattice indices and Smith forms are exact.
Property theorems with their helper lemmas in Ymq/Lemmas/IntMat*.lean and Ymq/Lemmas/Snf*.lean; also here:
the proofs of the two CRT theorems (glue over Ymq/Lemmas/IntMatCrt.lean), `matZ`, `invMod64_invSpec`.

Reading guide. All theorems are about the executable models in Ymq/Model/IntMat.lean and
Ymq/Model/Snf.lean (tied to the Rust code by the differential harness). `f … = some r` means
"the Rust routine returns `r` without reaching any panic site of the checked profile".
Partial by design: the floating-point estimate windows of `compute_lattice_index` have no theorem
(K/O only). The Wiedemann / Berlekamp–Massey code of intsparse.rs is in Props/C19BM.lean and
Props/C19Wied.lean.
-/
import Ymq.Lemmas.IntMatCrt
import Ymq.Lemmas.ArithGcd
import Ymq.Lemmas.IntMatPerm
import Ymq.Lemmas.IntMatEchPDet
import Ymq.Lemmas.SnfDiag
import Ymq.Lemmas.SnfReduceCols
import Mathlib.Algebra.Order.BigOperators.Group.List
import Mathlib.Data.Int.GCD
import Mathlib.LinearAlgebra.Quotient.Basic

namespace Ymq.C19
open Ymq.IntMat

/-- **CRT with symmetric lift** (`crt` of intdense.rs, used by `det_matz` and
`CRTDetBuilder::det`). Let `p_0 … p_{n-1} > 1` be pairwise coprime, `P` their product, `m_i < 2^64`
residues of an integer `d` (`p_i ∣ m_i - d`, any representative), and `-P < 2d ≤ P` — this is the
exact range of the code's lift: `det > (prod >> 1)` subtracts `P`, so the result lies in
`(-P/2, P/2]`. If the `I4096` accumulator cannot overflow (`n·2^64·P < 2^4095`, true for at most 64
moduli below 2^62) then `crt` returns exactly `d`, with its sign.
`hinv` is the named hypothesis `inv_mod64_spec` (property C08). -/
theorem crt_symmetric (inv : Inv) (hinv : InvSpec inv) (modp primes : List Nat) (d : Int)
    (hlen : modp.length = primes.length)
    (hp : ∀ p ∈ primes, 1 < p) (hU : ∀ p ∈ primes, p < U64) (hcop : primes.Pairwise Nat.Coprime)
    (hm : ∀ m ∈ modp, (m : Int) < W64)
    (hres : ∀ i (h1 : i < modp.length) (h2 : i < primes.length),
      ((primes[i] : Nat) : Int) ∣ ((modp[i] : Nat) : Int) - d)
    (hfit : (modp.length : Int) * (W64 * ((primes.prod : Nat) : Int)) < I4096LIM)
    (hd1 : -((primes.prod : Nat) : Int) < 2 * d) (hd2 : 2 * d ≤ ((primes.prod : Nat) : Int)) :
    crtDense inv modp primes = some d := by
  have hpos : ∀ p ∈ primes, 1 ≤ p := fun p h => Nat.le_of_lt (hp p h)
  have hP1 : 1 ≤ primes.prod := list_prod_pos primes hpos
  have hP : (0 : Int) < ((primes.prod : Nat) : Int) := by exact_mod_cast hP1
  have hW : (0 : Int) < W64 := by unfold W64; decide
  unfold crtDense
  simp only []
  rw [if_neg (by omega), hlen, List.take_length]
  have hfitP : ((primes.prod : Nat) : Int) < I4096LIM := by
    rcases Nat.eq_zero_or_pos modp.length with hn | hn
    · -- no modulus: P = 1
      rw [List.eq_nil_of_length_eq_zero (hlen ▸ hn : primes.length = 0)]
      exact lt_of_lt_of_le (by norm_num) I4096LIM_ge
    · calc ((primes.prod : Nat) : Int) ≤ W64 * ((primes.prod : Nat) : Int) :=
            le_mul_of_one_le_left hP.le (by decide)
        _ ≤ (modp.length : Int) * (W64 * ((primes.prod : Nat) : Int)) :=
            le_mul_of_one_le_left (mul_pos hW hP).le (by exact_mod_cast hn)
        _ < I4096LIM := hfit
  choose! g hg using crtBasis_spec inv hinv primes hp hU hcop hfitP
  rw [mapOpt_eq_some (crtBasis inv primes) g (List.range primes.length)
    (fun x hx => (hg x (List.mem_range.mp hx)).1)]
  simp only []
  have hprod := crtProd_spec primes 1 (by norm_num) hpos (by simpa using hfitP)
  rw [hprod]
  simp only [one_mul]
  have hbs : ∀ b ∈ (List.range primes.length).map g, 0 ≤ b ∧ b < ((primes.prod : Nat) : Int) := by
    intro b hb
    obtain ⟨i, hi, rfl⟩ := List.mem_map.mp hb
    have := hg i (List.mem_range.mp hi)
    exact ⟨this.2.1, this.2.2.1⟩
  have hsum := crtSum_spec modp ((List.range primes.length).map g) 0 ((primes.prod : Nat) : Int)
    (by simp [hlen]) (le_refl _) hm hbs (by simpa using hfit) (le_of_lt hP)
  rw [hsum]
  simp only [zero_add]
  set ts := List.zipWith (fun (m : Nat) (b : Int) => (m : Int) * b) modp ((List.range primes.length).map g) with hts
  have htlen : ts.length = primes.length := by simp [hts, hlen]
  have htk : ∀ k (hk : k < primes.length), ts[k]'(by omega) = ((modp[k]'(by omega) : Nat) : Int) * g k := by
    intro k hk
    simp [hts]
  refine symLift_sum primes hpos hcop ts d htlen ?_ ?_ ?_ hd1 hd2
  · intro x hx
    obtain ⟨k, hk, rfl⟩ := List.getElem_of_mem hx
    rw [htk k (by omega)]
    exact mul_nonneg (Int.natCast_nonneg _) (hg k (by omega)).2.1
  · -- `m_k·g_k - d = m_k·(g_k - 1) + (m_k - d)`
    intro k hk _
    rw [htk k hk, show ((modp[k]'(by omega) : Nat) : Int) * g k - d =
      ((modp[k]'(by omega) : Nat) : Int) * (g k - 1) + (((modp[k]'(by omega) : Nat) : Int) - d) by ring]
    exact dvd_add (Dvd.dvd.mul_left (hg k hk).2.2.2.1 _) (hres k (by omega) hk)
  · intro k t hk ht hne
    rw [htk t (by omega)]
    exact Dvd.dvd.mul_left ((hg t (by omega)).2.2.2.2 k hk (Ne.symm hne)) _

/-- **CRT of intsparse.rs** (`crt` / `_crt::<N>`, used by `SparseMat::detz`), value level (bnum widths
are not modelled: the code assumes moduli below 2^63). Same statement as `crt_symmetric` for at least
two moduli; with a single modulus the code returns the residue itself, without lift. -/
theorem crt_sparse_symmetric (inv : Inv) (hinv : InvSpec inv) (modp primes : List Nat) (d : Int)
    (hlen : modp.length = primes.length) (hn : 2 ≤ modp.length)
    (hp : ∀ p ∈ primes, 1 < p) (hU : ∀ p ∈ primes, p < U64) (hcop : primes.Pairwise Nat.Coprime)
    (hres : ∀ i (h1 : i < modp.length) (h2 : i < primes.length),
      ((primes[i] : Nat) : Int) ∣ ((modp[i] : Nat) : Int) - d)
    (hd1 : -((primes.prod : Nat) : Int) < 2 * d) (hd2 : 2 * d ≤ ((primes.prod : Nat) : Int)) :
    crtSparse inv modp primes = some d := by
  have hpos : ∀ p ∈ primes, 1 ≤ p := fun p h => Nat.le_of_lt (hp p h)
  have hP1 : 1 ≤ primes.prod := list_prod_pos primes hpos
  have hP : (0 : Int) < ((primes.prod : Nat) : Int) := by exact_mod_cast hP1
  unfold crtSparse
  simp only []
  rw [if_neg (by omega), if_neg (by omega), if_neg (by omega), hlen, List.take_length]
  choose! g hg using crtSparseTerm_spec inv hinv modp primes hlen hp hU hcop
  rw [mapOpt_eq_some (crtSparseTerm inv modp primes) g (List.range primes.length)
    (fun x hx => (hg x (List.mem_range.mp hx)).1)]
  simp only []
  set ts := (List.range primes.length).map g with hts
  have htlen : ts.length = primes.length := by simp [hts]
  have htk : ∀ k (hk : k < primes.length), ts[k]'(by omega) = g k := by
    intro k hk
    simp [hts]
  refine symLift_sum primes hpos hcop ts d htlen ?_ ?_ ?_ hd1 hd2
  · intro x hx
    obtain ⟨k, hk, rfl⟩ := List.getElem_of_mem hx
    rw [htk k (by omega)]
    exact (hg k (by omega)).2.1
  · intro k hk _
    rw [htk k hk, show g k - d =
      (g k - ((modp[k]'(by omega) : Nat) : Int)) + (((modp[k]'(by omega) : Nat) : Int) - d) by ring]
    exact dvd_add (hg k hk).2.2.1 (hres k (by omega) hk)
  · intro k t hk ht hne
    rw [htk t (by omega)]
    exact (hg t (by omega)).2.2.2 k hk (Ne.symm hne)

/-- non-vacuity of `crt_symmetric`: the hypotheses hold for `d = -17`, moduli `5, 7`
(`P = 35`, residues `3, 4`) and the reference inverse of the driver (`Ymq.Arith.invMod64`
restricted to this instance is replaced by an explicit table). -/
example : ∃ inv : Inv, InvSpec inv ∧ crtDense inv [3, 4] [5, 7] = some (-17) := by
  -- a total inverse: search below p
  let inv : Inv := fun a p => some ((List.range p).find? (fun i => a * i % p = 1))
  have hinv : InvSpec inv := by
    intro a p _ _ hp hc
    obtain ⟨i, hi, hi2⟩ := Nat.exists_mul_mod_eq_one_of_coprime hc hp
    have hsome : ((List.range p).find? (fun i => a * i % p = 1)).isSome := by
      rw [List.find?_isSome]
      exact ⟨i, List.mem_range.mpr hi, by simpa using hi2⟩
    obtain ⟨j, hj⟩ := Option.isSome_iff_exists.mp hsome
    refine ⟨j, by simp [inv, hj], ?_, ?_⟩
    · exact List.mem_range.mp (List.mem_of_find?_eq_some hj)
    · have := List.find?_some hj
      simpa using this
  refine ⟨inv, hinv, ?_⟩
  apply crt_symmetric inv hinv [3, 4] [5, 7] (-17) rfl
  · intro p hp; simp at hp; omega
  · intro p hp; simp at hp; unfold U64; omega
  · simp [Nat.Coprime]
  · intro m hm; simp at hm; unfold W64; omega
  · intro i h1 h2
    have : i = 0 ∨ i = 1 := by simp at h1; omega
    rcases this with rfl | rfl <;> simp
  · have h := I4096LIM_ge
    have e : (([3, 4] : List Nat).length : Int) * (W64 * ((([5, 7] : List Nat).prod : Nat) : Int)) < 2 ^ 256 := by
      unfold W64; norm_num
    linarith
  · decide
  · decide

/-- **Permutation sign** (`GFpEchelonBuilder::det`, the loop over `ind = self.indices.clone()`).
For every permutation `σ` of `0..n-1`, given as the index vector `ind[i] = σ(i)`
(`permList σ`), the cycle walk terminates without index panic and the number `k` of `ind.swap`
calls it counts satisfies `(-1)^k = sign σ` (`Equiv.Perm.sign` of Mathlib): the code negates the
product of the pivots exactly for odd permutations. -/
theorem perm_sign (n : Nat) (σ : Equiv.Perm (Fin n)) :
    ∃ k, permSwaps (permList σ) = some k ∧ (-1 : ℤˣ) ^ k = Equiv.Perm.sign σ :=
  permSwaps_permList σ

/-- the model computes: the 3-cycle `0 → 1 → 2 → 0` is sorted with two swaps (even) -/
example : permSwaps [1, 2, 0] = some 2 := by decide

/-- **Determinant modulo `p` = sign · product of the pivots** — PARTIAL (stretch goal). The theorem is
about `EchP`, the reference echelon builder in plain modular arithmetic with the sequential
elimination (Ymq/Model/IntMat.lean): the same algorithm as `GFpEchelonBuilder::{add, det}` without
Montgomery form and without the 8-row blocks. The production model `Ech` (Montgomery form on the
C07 word model, blocked elimination) is not related to `EchP` by a proof: the driver answers every
echelon request with both models and the pipeline compares both with the implementation.
Statement: for an `n × n` integer matrix (`n > 0`), whenever the determinant routine
`detModPlain` (= `add` row by row, `0` as soon as a row is rejected, else `det()`, exactly what
`det_matz` does for one prime) returns `d` without reaching a panic site, `d ≡ det(matrix) (mod p)`:
* all rows accepted: `det() = sign(σ) · ∏ pivots`, the sign being the one computed by the cycle walk
  (`perm_sign`), equals the determinant (invariant of `add`: the basis is in echelon form w.r.t. the
  column order `σ = indices`, every accepted row is its pivot times its basis row plus earlier
  basis rows);
* a row rejected: it is a combination of the earlier rows, the determinant is `0`.
No hypothesis on `inv_mod64` and no primality of `p` is needed: the `assert_eq!(vp[i], self.r)` after
the division certifies the modular inverse. Totality for a prime `p < 2^63` and the full statement are
`echelon_total` / `echelon_det` (Ymq/Props/C19Dense.lean); still missing: the refinement `Ech → EchP`
(first steps: `mg_redc_wide`, `echelon_submul_montgomery_partial`). -/
theorem echelon_det_partial (inv : Inv) (p n : Nat) (hn : 0 < n) (mat : List (List Int))
    (hlen : mat.length = n) (hrows : ∀ r ∈ mat, r.length = n) (d : Nat)
    (h : detModPlain inv p { p := p, indices := [], basis := [], factors := [] } mat = some d) :
    ((d : Nat) : ZMod p) = (matOf p n mat).det := by
  have := detModPlain_spec inv p n hn mat _ [] d (EchInv.init p n) (by simpa using hlen) hrows h
  simpa using this

/-- non-vacuity: `[[1, 2], [3, 4]]` modulo `101` gives `99 = -2`, the singular `[[1, 2], [2, 4]]` gives `0`
(K corpus lines `im_detp 101 1,2;3,4`); the inverse is found by search below `p` -/
example : ∃ inv : Inv,
    detModPlain inv 101 { p := 101, indices := [], basis := [], factors := [] } [[1, 2], [3, 4]] = some 99 ∧
    detModPlain inv 101 { p := 101, indices := [], basis := [], factors := [] } [[1, 2], [2, 4]] = some 0 :=
  ⟨fun a p => some ((List.range p).find? (fun i => a * i % p = 1)), by decide, by decide⟩

/-- the model of `arith::inv_mod64` (Ymq/Model/Arith.lean, the function the driver runs) meets
`InvSpec`: theorem `invMod64_spec` of property C08 -/
theorem invMod64_invSpec : InvSpec Ymq.Arith.invMod64 := by
  intro a p ha hp hp1 hc
  have hU : (2 : Nat) ^ 64 = U64 := by unfold U64; norm_num
  obtain ⟨r, h1, h2, h3⟩ := (Ymq.Arith.invMod64_spec a p (by rw [hU]; exact ha) (by rw [hU]; exact hp) (by omega)).1 hc
  exact ⟨r, h1, h2, by rw [h3]; exact Nat.mod_eq_of_lt hp1⟩

/-- `crt_symmetric` for the model of `inv_mod64` itself: no hypothesis left -/
theorem crt_symmetric_closed (modp primes : List Nat) (d : Int)
    (hlen : modp.length = primes.length)
    (hp : ∀ p ∈ primes, 1 < p) (hU : ∀ p ∈ primes, p < U64) (hcop : primes.Pairwise Nat.Coprime)
    (hm : ∀ m ∈ modp, (m : Int) < W64)
    (hres : ∀ i (h1 : i < modp.length) (h2 : i < primes.length),
      ((primes[i] : Nat) : Int) ∣ ((modp[i] : Nat) : Int) - d)
    (hfit : (modp.length : Int) * (W64 * ((primes.prod : Nat) : Int)) < I4096LIM)
    (hd1 : -((primes.prod : Nat) : Int) < 2 * d) (hd2 : 2 * d ≤ ((primes.prod : Nat) : Int)) :
    crtDense Ymq.Arith.invMod64 modp primes = some d :=
  crt_symmetric _ invMod64_invSpec modp primes d hlen hp hU hcop hm hres hfit hd1 hd2

/-- the integer matrix of a list of integer rows -/
def matZ (n : Nat) (mat : List (List Int)) : Matrix (Fin n) (Fin n) Int :=
  fun t c => (mat.getD t []).getD c 0

/-- **Exact integer determinant with its sign** (reference pipeline of `det_matz`) — PARTIAL in the
same sense as `echelon_det_partial` (plain-arithmetic reference builder, partial correctness) and
with the prime list and the size bound as inputs (the prime walk only needs pairwise coprime moduli
`> 1`; the bound `-P < 2·det ≤ P` is what the rounded `f64` estimate `60·#primes ≥ bits` is meant to
guarantee and is NOT derived from it: floating point is not modelled). If every modulus `p_i` yields
a residue `detModPlain … = some m_i`, then the CRT reconstruction `crt(m, p)` returns exactly the
determinant of the integer matrix (Mathlib `Matrix.det` over `ℤ`), sign included. -/
theorem det_exact_partial (inv : Inv) (hinv : InvSpec inv) (n : Nat) (hn : 0 < n) (mat : List (List Int))
    (hlen : mat.length = n) (hrows : ∀ r ∈ mat, r.length = n)
    (modp primes : List Nat) (hl : modp.length = primes.length)
    (hp : ∀ p ∈ primes, 1 < p) (hU : ∀ p ∈ primes, p < U64) (hcop : primes.Pairwise Nat.Coprime)
    (hm : ∀ m ∈ modp, (m : Int) < W64)
    (hres : ∀ i (h1 : i < modp.length) (h2 : i < primes.length),
      detModPlain inv primes[i] { p := primes[i], indices := [], basis := [], factors := [] } mat = some modp[i])
    (hfit : (modp.length : Int) * (W64 * ((primes.prod : Nat) : Int)) < I4096LIM)
    (hd1 : -((primes.prod : Nat) : Int) < 2 * (matZ n mat).det)
    (hd2 : 2 * (matZ n mat).det ≤ ((primes.prod : Nat) : Int)) :
    crtDense inv modp primes = some (matZ n mat).det := by
  apply crt_symmetric inv hinv modp primes _ hl hp hU hcop hm _ hfit hd1 hd2
  intro i h1 h2
  have h := echelon_det_partial inv primes[i] n hn mat hlen hrows modp[i] (hres i h1 h2)
  -- the determinant over Z/p is the image of the integer determinant
  have hmap : matOf primes[i] n mat = (matZ n mat).map (Int.castRingHom (ZMod primes[i])) := by
    ext t c
    simp [matOf, matZ, vecI, Matrix.map_apply]
  have hdetmap := (Int.castRingHom (ZMod primes[i])).map_det (matZ n mat)
  rw [RingHom.mapMatrix_apply] at hdetmap
  rw [hmap, ← hdetmap] at h
  have h2' : (((modp[i] : Nat) : Int) : ZMod primes[i]) = (((matZ n mat).det : Int) : ZMod primes[i]) := by
    simpa using h
  rw [ZMod.intCast_eq_intCast_iff_dvd_sub] at h2'
  have : ((primes[i] : Nat) : Int) ∣ -((matZ n mat).det - ((modp[i] : Nat) : Int)) := (dvd_neg).mpr h2'
  simpa using this

/-! ### Smith normal form

`rowSpan h n M` (Ymq/Lemmas/SnfBasic.lean) is the `Z/h`-module generated by the rows of `M` in
`(Z/h)^n`: the relation lattice `L + hZ^n` modulo `h`; when `h` is a multiple of the exponent of
`Z^n/L` (in particular the lattice index, which is what `compute_lattice_index` supplies) the group
presented by `M` is `(Z/h)^n / rowSpan h n M`. Every operation of the code reduces its results
modulo `h`, so integer determinants are *not* preserved; what is preserved is this module, up to
the automorphism of `(Z/h)^n` recorded in `q`. `n = gens.len()`. -/

open Ymq.Snf

/-- **Elementary operations are unimodular over `Z/h`** — PARTIAL: proved for the `i128` arithmetic
path `0 < h < 2^63` (`s.small`), on which `normalize`, `submul_n::<1>`, `eliminate`, `colsub`,
`colswap` only use `modh128`/`rem_euclid`. Missing: the `I256` path (`h ≥ 2^63`) and the 8-row
block of `eliminate_block`, which need the correctness of the reciprocal reduction `modh256`
(compared with the code and oracle-checked, not proved).

* row operations (`normalize`: a row times a unit of `Z/h`; `submul_n` with one source row:
  `row_i -= m·row_j`; `eliminate`: that, or `(row_i, row_j) ← (a·row_i + b·row_j, c·row_i + d·row_j)`
  with `ad - bc = 1` from the extended gcd) leave `q`, `gens`, `h` alone and keep the relation
  module: the new rows are invertible `Z/h`-combinations of the old ones;
* `colsub(i, j, k)` applies the automorphism `v_i ← v_i - k·v_j` of `(Z/h)^n` to every row of `rows`
  and to every row of `q` (square state);
* `colswap(i, j)` exchanges coordinates `i, j` in `rows` and `q` and re-triangularises with row
  operations: the relation module becomes its image under the coordinate swap `φ`, the rows of `q`
  are mapped by the same `φ`. -/
theorem snf_ops_unimodular_partial (s s' : St) (hs : s.small = true) :
    (∀ i k, s.normalize i k = some s' → RowEquiv s s') ∧
    (∀ i j m, i ≠ j → s.submulN i j [m] = some s' → RowEquiv s s') ∧
    (∀ i j k, s.eliminate i j k = some s' → RowEquiv s s') ∧
    (∀ i j k, i < s.gens.length → j < s.gens.length → i ≠ j →
      s.rows.length ≤ s.gens.length → s.q.length ≤ s.gens.length → s.colsub i j k = some s' →
      s'.gens = s.gens ∧ s'.h = s.h ∧
      ∃ φ : (Fin s.gens.length → ZMod s.h) ≃ₗ[ZMod s.h] (Fin s.gens.length → ZMod s.h),
        RowsMapped s.h s.gens.length φ s.rows s'.rows ∧ RowsMapped s.h s.gens.length φ s.q s'.q) ∧
    (∀ i j, i < s.gens.length → j < s.gens.length → s.colswap i j = some s' →
      s'.gens = s.gens ∧ s'.h = s.h ∧
      ∃ φ : (Fin s.gens.length → ZMod s.h) ≃ₗ[ZMod s.h] (Fin s.gens.length → ZMod s.h),
        RowsMapped s.h s.gens.length φ s.q s'.q ∧
        rowSpan s.h s.gens.length s'.rows = (rowSpan s.h s.gens.length s.rows).map φ.toLinearMap) := by
  refine ⟨?_, ?_, ?_, ?_, ?_⟩
  · intro i k h; exact normalize_spec s s' i k hs h
  · intro i j m hij h; exact submul1_spec s s' i j m hs hij h
  · intro i j k h; exact eliminate_spec s s' i j k hs h
  · intro i j k hi hj hij hr hq h
    obtain ⟨h1, h2, _, _, _, φ, h3, h4⟩ := colsub_spec s s' i j k hs hi hj hij hr hq h
    exact ⟨h1, h2, φ, h3, h4⟩
  · intro i j hi hj h
    obtain ⟨h1, h2, _, φ, h3, h4⟩ := colswap_spec s s' i j hs hi hj h
    exact ⟨h1, h2, φ, h3, h4⟩

/-- non-vacuity: on the state `h = 100`, `rows = [[4, 6], [6, 3]]` the general branch of `eliminate`
(Bezout combination of the two rows) runs and returns `[[2, 97], [0, 88]]` (also a K corpus line) -/
example : ∃ s : St, s.small = true ∧
    (s.eliminate 0 1 0).map (·.rows) = some [[2, 97], [0, 88]] :=
  ⟨{ rows := [[4, 6], [6, 3]], q := [], gens := [2, 3], removed := [], h := 100, qm := 0, qe := 0 },
    by decide, by decide⟩

/-- **`reduce` ends on a diagonal presentation whose entries multiply to `h`**: when the model of
`SmithNormalForm::reduce` returns a state (no assertion failed), its matrix is diagonal and the
product of the diagonal is exactly the class number `h` held by the state — the saturating `i128`
product of the code cannot hide an overflow since `h < 2^125`. (`h` is the lattice index found by
`compute_lattice_index`, i.e. `|det|` of any basis of the relation lattice; the model never assigns
the field `h`.) -/
theorem snf_diag (s s' : St) (h : s.reduce = some s') (h0 : 0 < s'.h) (h1 : s'.h < 2 ^ 125) :
    IsDiag s'.rows ∧ ∃ ds, diagList s'.rows = some ds ∧ ds.prod = (s'.h : Int) := by
  unfold St.reduce at h
  split at h
  · exact absurd h (by simp)
  · split at h
    · exact absurd h (by simp)
    · split at h
      · exact absurd h (by simp)
      · split at h
        · exact absurd h (by simp)
        · split at h
          · exact absurd h (by simp)
          · split at h
            · exact absurd h (by simp)
            · rename_i s5 det hcd
              split at h
              · exact absurd h (by simp)
              · rename_i hdet
                have e : s5 = s' := Option.some.inj h
                subst e
                have hdet' : det = (s5.h : Int) := by
                  by_contra hne; exact hdet hne
                obtain ⟨hd, ds, hds, hfold⟩ := checkDiag_full hcd
                refine ⟨hd, ds, hds, ?_⟩
                have hh0 : (0 : Int) < (s5.h : Int) := by exact_mod_cast h0
                have hh1 : (s5.h : Int) < BIG := by
                  have : (s5.h : Int) < 2 ^ 125 := by exact_mod_cast h1
                  have : (2 : Int) ^ 125 < BIG := by unfold BIG; decide
                  omega
                have := satFold_exact ds 1 (s5.h : Int) (by rw [hfold, hdet']) (ne_of_gt hh0)
                  (by rw [abs_of_pos hh0]; exact hh1)
                simpa using this

/-- **The column phase `reduce_cols` is a change of generators** — PARTIAL (`0 < h < 2^63`, as
`snf_ops_unimodular_partial`; the row phase `reduce_rows`, which also discards relations and
generators, is not covered). For the square matrix handed to `reduce_cols`, whatever sequence of
`colsub`/`colswap` steps the loops perform (up to 10 passes, `while` loops with fuel), there is one
automorphism `φ` of `(Z/h)^n` such that the relation module of the result is the `φ`-image of the
relation module of the input and the rows of the returned `q` are the `φ`-images of the rows of the
identity matrix; consequently the group presented by the input and the group presented by the
(diagonal) output are isomorphic `Z/h`-modules, and `q` is the matrix of the isomorphism. -/
theorem snf_reduce_cols_iso_partial (s s' : St) (hs : s.small = true)
    (hsq : s.rows.length = s.gens.length) (h : s.reduceCols = some s') :
    (∃ φ : (Fin s.gens.length → ZMod s.h) ≃ₗ[ZMod s.h] (Fin s.gens.length → ZMod s.h),
      RowsMapped s.h s.gens.length φ (identity s.rows.length) s'.q ∧
      rowSpan s.h s.gens.length s'.rows = (rowSpan s.h s.gens.length s.rows).map φ.toLinearMap) ∧
    Nonempty (((Fin s.gens.length → ZMod s.h) ⧸ rowSpan s.h s.gens.length s.rows) ≃ₗ[ZMod s.h]
      ((Fin s.gens.length → ZMod s.h) ⧸ rowSpan s.h s.gens.length s'.rows)) := by
  obtain ⟨_, _, _, φ, h1, h2⟩ := reduceCols_spec s s' hs hsq h
  exact ⟨⟨φ, h1, h2⟩, ⟨Submodule.Quotient.equiv _ _ φ h2.symm⟩⟩

/-- non-vacuity: `reduce_cols` on `h = 8`, `[[2,1,0],[0,2,1],[0,0,2]]` returns the diagonal `1, 1, 0`
(i.e. `Z/8`), the K corpus line `snf_reduce_cols 8 5,3,2 2,1,0;0,2,1;0,0,2` -/
example : ∃ s : St, s.small = true ∧ s.rows.length = s.gens.length ∧
    (s.reduceCols).map (·.rows) = some [[1, 0, 0], [0, 1, 0], [0, 0, 0]] :=
  ⟨{ rows := [[2, 1, 0], [0, 2, 1], [0, 0, 2]], q := [], gens := [5, 3, 2], removed := [], h := 8, qm := 0, qe := 0 },
    by decide, by decide, by decide⟩

end Ymq.C19
