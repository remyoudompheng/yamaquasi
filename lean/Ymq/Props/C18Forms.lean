/-
C18 — "a sieved relation is a genuine relation": the theory of composition of binary quadratic
forms that the class group sieve rests on, proved for the model `relationOf` of
`classgroup::sieve_block_poly` (Ymq/Model/ClassGroup.lean), stated with forms directly.

* `value_form_equiv`: a form is properly equivalent to `(f(x,1), -(b+2ax), a)` and to `(a, b+2ax, f(x,1))`
  (explicit SL2(Z) matrices);
* `dirichlet_composition`: `(a₁, b, a₂c) ∘ (a₂, b, a₁c) = (a₁a₂, b, c)` with the bilinear Gauss identity;
* `concordant_product`: the form `(∏ qᵢ, b, c)` is the iterated composition of the forms `(qᵢ, b, ·)`;
* `prime_form_sign_odd`, `prime_form_sign_two`: the form `(p, y, ·)` is the prime form `[p]` or its
  conjugate exactly according to the test of the code (`y mod p` against `b_plus`; bit 1 of `y`);
* `relation_genuine`: the exponent vector emitted by `relationOf` (conversion loop, factors of `A`
  from `Poly::factors`, merge loop, large primes), read as a list of prime forms `[p]^{±1}`, composes
  to the principal form; `relation_genuine_fundamental`: the same for a fundamental discriminant
  without the primitivity hypothesis;
* `reduce_pequiv`: `Form.normalize` / `Form.reduce` (the reference arithmetic of the driver) are proper
  equivalences, hence preserve the discriminant.
-/
import Ymq.Lemmas.ClassGroupGenuine

namespace Ymq.C18
open Ymq.ClassGroup

/-- (1) If `m = f(x, 1)` for `f = (a, b, c)`, then `f` is properly equivalent to `(m, -(b + 2ax), a)`
(the comment of `sieve_block_poly`: "q is equivalent to (V, -Bx, A)") and to `(a, b + 2ax, m)`,
by the matrices `[[x, -1], [1, 0]]` and `[[1, x], [0, 1]]`. -/
theorem value_form_equiv (a b c x : Int) :
    PEquiv ⟨a, b, c⟩ ⟨(⟨a, b, c⟩ : Form).eval x 1, -(b + 2 * a * x), a⟩ ∧
    PEquiv ⟨a, b, c⟩ ⟨a, b + 2 * a * x, (⟨a, b, c⟩ : Form).eval x 1⟩ := by
  constructor
  · refine ⟨x, -1, 1, 0, by norm_num, ?_⟩
    simp only [Form.act, Form.eval, Form.mk.injEq]
    refine ⟨trivial, by ring, by ring⟩
  · have := pequiv_translate a b c x
    have e : a * x * x + b * x + c = (⟨a, b, c⟩ : Form).eval x 1 := by simp only [Form.eval]; ring
    rwa [e] at this

/-- (2) Dirichlet composition of concordant forms: `(a₁, b, a₂c)`, `(a₂, b, a₁c)` and `(a₁a₂, b, c)`
have the same discriminant and satisfy the bilinear Gauss identity
`f₁(x₁,y₁) f₂(x₂,y₂) = f₃(x₁x₂ - c y₁y₂, a₁x₁y₂ + a₂y₁x₂ + b y₁y₂)`. -/
theorem dirichlet_composition (a1 a2 b c : Int) :
    let f1 : Form := ⟨a1, b, a2 * c⟩
    let f2 : Form := ⟨a2, b, a1 * c⟩
    let f3 : Form := ⟨a1 * a2, b, c⟩
    f1.disc = f3.disc ∧ f2.disc = f3.disc ∧ ∀ x1 y1 x2 y2 : Int,
      f1.eval x1 y1 * f2.eval x2 y2
        = f3.eval (x1 * x2 - c * y1 * y2) (a1 * x1 * y2 + a2 * y1 * x2 + b * y1 * y2) := by
  simp only [Form.disc, Form.eval]
  refine ⟨by ring, by ring, ?_⟩
  intro x1 y1 x2 y2
  ring

/-- (3a) Iterated composition: if `b² - 4 (∏ qs) c = D` (`D ≡ 0, 1 mod 4`), all `q ≠ 0`, and
`gcd(q, ∏ rest, b) = 1` at every step, the form `(∏ qs, b, c)` is the product (in the sense of
`IsProduct`: iterated Dirichlet composition up to proper equivalence, starting from the principal
form) of the forms `(q, b, (b² - D)/4q)`, `q ∈ qs`. -/
theorem concordant_product (D b : Int) (hD : D % 4 = 0 ∨ D % 4 = 1) (qs : List Int) (c : Int)
    (h0 : ∀ q ∈ qs, q ≠ 0) (hcop : ChainCoprime b qs) (hd : b * b - 4 * qs.prod * c = D) :
    IsProduct D (qs.map fun q => formQB D q b) ⟨qs.prod, b, c⟩ :=
  dirichlet_chain hD qs c h0 hcop hd

/-- every form of a product has the discriminant `D`, and so has the product -/
theorem product_disc (D : Int) (hD : D % 4 = 0 ∨ D % 4 = 1) (l : List Form) (g : Form)
    (h : IsProduct D l g) : g.disc = D ∧ ∀ f ∈ l, f.disc = D := by
  induction h with
  | nil => exact ⟨principal_disc hD, by simp⟩
  | cons _ hc ih =>
    obtain ⟨h1, h2⟩ := hc.disc
    refine ⟨by rw [← h2]; exact ih.1, ?_⟩
    intro f hf
    rcases List.mem_cons.1 hf with rfl | hf
    · rw [h1, ← h2]; exact ih.1
    · exact ih.2 f hf
  | equiv _ he ih => exact ⟨by rw [he.disc_eq]; exact ih.1, ih.2⟩

/-- (3b) Odd prime `p` (ramified primes included) with normalised root `ρ` (`Prime::b_plus`), `y` with
`4p ∣ y² - D`: the form `(p, y, ·)` of discriminant `D` is properly equivalent to the prime form
`[p] = (p, ρ, ·)` when `y mod p = ρ` (the code then emits `+e`), and to its conjugate otherwise (the
code emits `-e`). -/
theorem prime_form_sign_odd (D : Int) (p ρ : Nat) (y : Int) (e : Nat) (hp : p.Prime) (hodd : p % 2 = 1)
    (hρ : IsBPlus D p ρ) (hy : (4 * (p : Int)) ∣ y * y - D) :
    (signedExp p ρ y e = some (e : Int) ∧ PEquiv (formQB D p y) (primeForm D p ρ)) ∨
    (signedExp p ρ y e = some (-(e : Int)) ∧ PEquiv (formQB D p y) (primeForm D p ρ).conj) := by
  have h := primeForm_of_modSigned hp hodd hρ hy
  have hyp : (p : Int) ∣ y * y - D := Dvd.dvd.trans (Dvd.intro_left 4 rfl) hy
  unfold signedExp
  simp only
  by_cases hm : modSigned y p = ρ
  · left; exact ⟨by rw [if_pos hm], h.1 hm⟩
  · right
    have hc : modSigned y p = p - ρ := by
      rcases modSigned_cases hp hρ hyp with h' | h'
      · exact absurd h' hm
      · exact h'
    exact ⟨by rw [if_neg hm, if_pos hc], h.2 hm⟩

/-- (3c) `p = 2` with normalised root `ρ`, `8 ∣ y² - D`: `(2, y, ·)` is `[2]` when bit 1 of `y` is clear
(positive exponent in the code) and its conjugate when it is set. -/
theorem prime_form_sign_two (D : Int) (ρ : Nat) (y : Int) (hρ : IsBPlus D 2 ρ)
    (hy : (8 : Int) ∣ y * y - D) :
    (bit1 y = false ∧ PEquiv (formQB D 2 y) (primeForm D 2 ρ)) ∨
    (bit1 y = true ∧ PEquiv (formQB D 2 y) (primeForm D 2 ρ).conj) := by
  have h := primeForm_of_bit1 hρ (by simpa using hy)
  cases hb : bit1 y
  · left; exact ⟨rfl, by simpa using h.1 hb⟩
  · right; exact ⟨rfl, by simpa using h.2 hb⟩

/-- every prime dividing the norm has a normalised root (so `theRoot D p` is it) -/
theorem normalised_root_exists (D : Int) (p : Nat) (y : Int) (hp : 0 < p)
    (hy : (4 * (p : Int)) ∣ y * y - D) : IsBPlus D p (theRoot D p) :=
  theRoot_spec (exists_isBPlus hp hy)

/-- (4) A SIEVED RELATION IS A GENUINE RELATION. Polynomial `(A, B, C)` of discriminant `D` (type 2:
`Ax² + Bx + C`, type 1: `Ax² + 2Bx + C`, `D` even exactly for type 1), `B ≥ 0`, `A` the product of the
odd primes `afs` with correct stored roots, candidate primes `facs` that are 2, conductor primes or
factor-base primes with correct stored roots (`FbOk`). If the model of the `'smoothloop` body of
`sieve_block_poly` returns the relation `r`, and
* the large primes of `r` are odd primes (what `fbase::cofactor` debug-asserts / `try_factor64`
  returns; NAMED HYPOTHESIS `hlarge`),
* no prime `p` divides `y = B + 2Ax` (resp. `2B + 2Ax`) while `p²` divides `A · P(x)` (primitivity of
  the forms met: NAMED HYPOTHESIS `hprim`; automatic for a fundamental `D`, see
  `relation_genuine_fundamental`; for a non-fundamental `D` it follows from the conductor-prime rejection,
  see `relation_genuine_conductor`),
then every prime `p` of `r` is a prime with a normalised root `theRoot D p` (the one `b_plus` returns,
`theRoot_eq`), and the list of forms obtained by writing `[p] = primeForm D p (theRoot D p)` `e` times
for an entry `(p, e)`, `e > 0`, and its conjugate `|e|` times for `e < 0` (factor base primes, primes
of `A` merged in, large primes) is, up to the order of the factors, a list whose iterated Dirichlet
composition is the principal form. -/
theorem relation_genuine (D : Int) (type1 : Bool) (a b c x : Int) (maxprime maxlarge : Nat)
    (double : Bool) (conductor : List Nat) (fb : List (Nat × Nat)) (facs : List Nat)
    (afs : List (Nat × Nat)) (lp lq : Nat) (r : Rel)
    (hb : 0 ≤ b) (hdisc : polyDisc type1 a b c = D) (hty : type1 = true ↔ (2 : Int) ∣ D)
    (hfacs : ∀ p ∈ facs, FbOk D type1 conductor fb p)
    (hafs : ∀ pr ∈ afs, pr.1.Prime ∧ pr.1 ≠ 2 ∧
      ∃ ref, bPlus pr.1 pr.2 type1 = some ref ∧ IsBPlus D pr.1 ref)
    (haprod : a = ((afs.map Prod.fst).prod : Nat))
    (hrel : relationOf type1 a b c x maxprime maxlarge double conductor fb facs afs lp lq = .rel r)
    (hlarge : ∀ pe, (r.large1 = some pe ∨ r.large2 = some pe) → pe.1.Prime ∧ pe.1 ≠ 2)
    (hprim : ∀ p : Nat, p.Prime → (p : Int) ∣ (polyEval type1 a b c x).2 →
      ¬ ((p : Int) * p ∣ a * (polyEval type1 a b c x).1)) :
    (∀ pe ∈ r.entries, pe.2 ≠ 0 → pe.1.Prime ∧ IsBPlus D pe.1 (theRoot D pe.1)) ∧
    ∃ L, L.Perm (expand D (theRoot D) r.entries) ∧ IsProduct D L (principal D) := by
  obtain ⟨n, hn, hs⟩ := relationOf_sfact D type1 a b c x maxprime maxlarge double conductor fb facs afs lp lq r
    hb hdisc hty hfacs hafs haprod hrel hlarge
  have hid := polyEval_disc type1 a b c x
  rw [hdisc, mul_assoc, ← hn] at hid
  rw [← hn] at hprim
  exact (hs.mono fun _ h => h.1).genuine (hdisc ▸ polyDisc_mod4 type1 a b c) hid hprim

/-- `D` is a fundamental discriminant (given `D ≡ 0, 1 mod 4`): no odd prime square divides it, and
`D/4 ≢ 0, 1 (mod 4)` when `4 ∣ D` -/
def IsFundamental (D : Int) : Prop :=
  ∀ p : Nat, p.Prime → ((p : Int) * p ∣ D) → p = 2 ∧ D % 16 ≠ 0 ∧ D % 16 ≠ 4

/-- for a fundamental discriminant the primitivity hypothesis of `relation_genuine` always holds -/
theorem primitive_of_fundamental (D : Int) (hf : IsFundamental D) (a v y : Int)
    (hid : y * y - 4 * a * v = D) (p : Nat) (hp : p.Prime) (hpy : (p : Int) ∣ y) :
    ¬ ((p : Int) * p ∣ a * v) := by
  intro hsq
  have hid' : y * y - 4 * (a * v) = D := by linear_combination hid
  obtain ⟨h2, h16, h4⟩ := hf p hp (sq_dvd_disc hid' hpy hsq)
  subst h2
  have := disc_emod_16 hid' (by exact_mod_cast hpy) (by exact_mod_cast hsq)
  omega

/-- (4') `relation_genuine` for a fundamental discriminant: the primitivity hypothesis is discharged. -/
theorem relation_genuine_fundamental (D : Int) (type1 : Bool) (a b c x : Int) (maxprime maxlarge : Nat)
    (double : Bool) (conductor : List Nat) (fb : List (Nat × Nat)) (facs : List Nat)
    (afs : List (Nat × Nat)) (lp lq : Nat) (r : Rel)
    (hfund : IsFundamental D)
    (hb : 0 ≤ b) (hdisc : polyDisc type1 a b c = D) (hty : type1 = true ↔ (2 : Int) ∣ D)
    (hfacs : ∀ p ∈ facs, FbOk D type1 conductor fb p)
    (hafs : ∀ pr ∈ afs, pr.1.Prime ∧ pr.1 ≠ 2 ∧
      ∃ ref, bPlus pr.1 pr.2 type1 = some ref ∧ IsBPlus D pr.1 ref)
    (haprod : a = ((afs.map Prod.fst).prod : Nat))
    (hrel : relationOf type1 a b c x maxprime maxlarge double conductor fb facs afs lp lq = .rel r)
    (hlarge : ∀ pe, (r.large1 = some pe ∨ r.large2 = some pe) → pe.1.Prime ∧ pe.1 ≠ 2) :
    (∀ pe ∈ r.entries, pe.2 ≠ 0 → pe.1.Prime ∧ IsBPlus D pe.1 (theRoot D pe.1)) ∧
    ∃ L, L.Perm (expand D (theRoot D) r.entries) ∧ IsProduct D L (principal D) := by
  apply relation_genuine D type1 a b c x maxprime maxlarge double conductor fb facs afs lp lq r
    hb hdisc hty hfacs hafs haprod hrel hlarge
  intro p hp hpy
  have hid := polyEval_disc type1 a b c x
  rw [hdisc] at hid
  exact primitive_of_fundamental D hfund a _ _ hid p hp hpy

/-- the root chosen by `theRoot` is the one the code computes: any `ref` with `IsBPlus D p ref`
(`bPlus_spec_odd` / `bPlus_spec_even`: what `Prime::b_plus` returns) -/
theorem theRoot_is_b_plus (D : Int) (p ref : Nat) (hp : p.Prime) (h : IsBPlus D p ref) :
    theRoot D p = ref := theRoot_eq hp h

/-- `Form.normalize` and `Form.reduce` (whatever the fuel) are proper equivalences (explicit
matrices: a translation, resp. translations and swaps); in particular they preserve the discriminant
and the represented integers. -/
theorem reduce_pequiv (f : Form) (fuel : Nat) :
    PEquiv f f.normalize ∧ PEquiv f (f.reduce fuel) ∧ (f.reduce fuel).disc = f.disc := by
  have hn : ∀ g : Form, PEquiv g g.normalize := by
    intro g
    unfold Form.normalize
    split
    · exact PEquiv.refl g
    · exact pequiv_translate g.a g.b g.c ((g.a - g.b) / (2 * g.a))
  have hr : ∀ (n : Nat) (g : Form), PEquiv g (g.reduce n) := by
    intro n
    induction n with
    | zero => intro g; exact PEquiv.refl g
    | succ n ih =>
      intro g
      rw [Form.reduce]
      split
      · exact (hn g).trans ((pequiv_swap _ _ _).trans (ih _))
      · split
        · rename_i h
          refine (hn g).trans ?_
          generalize g.normalize = m at h ⊢
          obtain ⟨ma, mb, mc⟩ := m
          simp only at h ⊢
          obtain ⟨h1, _⟩ := h
          subst h1
          exact pequiv_swap _ _ _
        · exact hn g
  exact ⟨hn f, hr fuel f, (hr fuel f).disc_eq⟩

/-! ### non-vacuity -/

example : PEquiv ⟨1, 1, 6⟩ ⟨8, -3, 1⟩ := by simpa [Form.eval] using (value_form_equiv 1 1 6 1).1
example : ChainCoprime 3 [2, 2, 2] ∧ (3 : Int) * 3 - 4 * ([2, 2, 2] : List Int).prod * 1 = -23 := by
  refine ⟨⟨by decide, by decide, by decide, trivial⟩, by decide⟩
/-- `prime_form_sign_odd`: D = -23, p = 13, ρ = 9, y = 17 -/
example : Nat.Prime 13 ∧ IsBPlus (-23) 13 9 ∧ (4 * ((13 : Nat) : Int)) ∣ (17 : Int) * 17 - (-23) := by
  refine ⟨by decide, by unfold IsBPlus; decide, by decide⟩
/-- `prime_form_sign_two`: D = -23, ρ = 1, y = 3 (bit 1 set: conjugate) -/
example : IsBPlus (-23) 2 1 ∧ (8 : Int) ∣ (3 : Int) * 3 - (-23) ∧ bit1 3 = true := by
  refine ⟨by unfold IsBPlus; decide, by decide, by decide⟩
example : IsFundamental (-23) := by
  intro p hp hd
  exfalso
  have h1 : ((p * p : Nat) : Int) ∣ (23 : Int) := by
    push_cast; exact (dvd_neg (a := (p : Int) * p) (b := 23)).1 (by simpa using hd)
  have h2 : p * p ∣ 23 := Int.natCast_dvd_natCast.1 h1
  have h3 : p * p ≤ 23 := Nat.le_of_dvd (by norm_num) h2
  have h4 : p ≤ 4 := by nlinarith
  have := hp.two_le
  interval_cases p <;> omega
/-- the hypotheses of `relation_genuine` on a real candidate: D = -23, polynomial x² + x + 6, x = 1:
P(1) = 8 = 2³, y = 3; the relation is `[2]^{-3} = 1` (the class of `[2]` has order 3) -/
example : relationOf false 1 1 6 1 151 302 false [] [(2, 1), (3, 1), (13, 9)] [2, 3, 13] [] 1 1
      = .rel ⟨[(2, -3)], none, none⟩ ∧
    polyDisc false 1 1 6 = -23 ∧ (false = true ↔ (2 : Int) ∣ -23) ∧
    (∀ p ∈ [2, 3, 13], FbOk (-23) false [] [(2, 1), (3, 1), (13, 9)] p) ∧
    (1 : Int) = ((([] : List (Nat × Nat)).map Prod.fst).prod : Nat) ∧ polyEval false 1 1 6 1 = (8, 3) := by
  refine ⟨by decide +kernel, by decide, by decide, ?_, by decide, by decide⟩
  intro p hp
  simp only [List.mem_cons, List.not_mem_nil, or_false] at hp
  rcases hp with rfl | rfl | rfl
  · exact Or.inl rfl
  · exact Or.inr (Or.inr ⟨by decide, 1, 1, by decide, by decide, by unfold IsBPlus; decide⟩)
  · exact Or.inr (Or.inr ⟨by decide, 9, 9, by decide, by decide, by unfold IsBPlus; decide⟩)
example : (Form.reduce 10 ⟨8, -3, 1⟩) = ⟨1, 1, 6⟩ := by decide

end Ymq.C18
