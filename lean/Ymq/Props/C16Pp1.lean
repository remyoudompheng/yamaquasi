/-
C16, Williams P+1 end to end: theorems about the whole-function model of `pp1::pp1` (Ymq/Model/Pp1Impl.lean; tied to
the real code by the request `pp1_impl` of props/c16_pp1.py, which compares the complete returned value in both profiles).

What is proved here: every value the model returns — through any of its exits: a stage-1 gcd check (factor list
containing `n`, complete split, nothing found), the `g == 1` and `p > b1` exits of a block, the last `check_gcd_factors`
after stage 2 — is a proper split of `n`, for every `pseudoprime` oracle and whatever `roots_eval` returns; the giant
steps the model computes are indexed by exactly `i = 1 .. d2` (the set `pp1_cover` / `pp1_grid_exact` quantify over; the
repaired defect F8 was `0 .. d2 - 1`) and hold `V_{i·d1}`; the baby steps hold `V_b` for odd `b < d1/2` prime to `3·d1`
(plus `b = 1`); the entry panic sites.

What is NOT proved here: transport of the ring-level statements to residues `a*b % m`, absence of panics for the whole
function, and the end-to-end "finds what the bounds promise" (pieces: C17, `pp1_found`, `pp1_stage2_found_partial` below;
glue: K stream).  In Props/C16Pm1b.lean: completeness of the baby-step list (`pp1_baby_complete` / `pp1_baby_exact`), the
full form `pp1_stage2_found` of `pp1_stage2_found_partial`, and the panic sites of the stage-1 loop over a sieve block and
of the stage-2 products (`pp1_stage1_block_no_panic`, `pp1_stage2_vals_no_panic`).
-/
import Ymq.Lemmas.Pp1Impl
import Ymq.Lemmas.Pp1ImplExample
import Ymq.Props.C16

namespace Ymq.C16
open Ymq.Pp1Impl Ymq.ExpModn Ymq.Gen Ymq.Stage2
open Ymq.Pm1Impl (mulm subm)

/-- **`pp1` returns proper splits only.** For every `n > 0`, every seed, all bounds and every `pseudoprime` oracle: if
`pp1(n, seed, b1, b2)` returns `Some((factors, cofactor))` then `factors.prod · cofactor = n`, every listed factor is
`> 1` and different from `n`, the list is not empty and the cofactor is positive. -/
theorem pp1_proper {n seed b1 b2 : Nat} {pp : Nat → Bool} (hn : 0 < n) {fs : List Nat} {rest : Nat}
    (h : pp1 n seed b1 b2 pp = some (some (fs, rest))) :
    fs.prod * rest = n ∧ (∀ f ∈ fs, 1 < f) ∧ 0 < rest ∧ n ∉ fs ∧ fs ≠ [] :=
  pp1_proper' hn h fs rest rfl

/-- non-vacuity: a complete run inside the logic (sieve, stage 1, first gcd check), `pp1(77, 5, 4, 4) = Some(([7], 11))` -/
example : pp1 77 5 4 4 (fun _ => true) = some (some ([7], 11)) := ex_pp1

/-- the same for the second stage alone, from any state satisfying the invariant of `check_gcd_factors` -/
theorem pp1_stage2_proper {n : Nat} {pp : Nat → Bool} {m g d1 d2 : Nat} {factors : List Nat} {nred : Nat}
    (hinv : CgfInv n ⟨factors, nred, []⟩) {fs : List Nat} {rest : Nat}
    (h : stage2 n pp m g d1 d2 factors nred = some (some (fs, rest))) :
    fs.prod * rest = n ∧ (∀ f ∈ fs, 1 < f) ∧ 0 < rest ∧ n ∉ fs ∧ fs ≠ [] :=
  stage2_proper hinv h fs rest rfl

/-- non-vacuity: stage 2 of `n = 77` from `g = 3` with `(d1, d2) = (6, 2)` evaluated inside the logic: the giant
steps `V_6, V_12` against the baby step `V_1` (`11 + 1 = 12`, `V_12(3) ≡ 3 mod 11`): `Some(([11], 7))`. -/
example : CgfInv 77 ⟨[], 77, []⟩ ∧ stage2 77 (fun _ => true) 77 3 6 2 [] 77 = some (some ([11], 7)) :=
  ⟨⟨by simp, by simp, by decide, by simp⟩, by decide +kernel⟩

/-- **The giant steps are `i = 1 .. d2`.** The list `pp1` hands to `roots_eval` as giant steps has one entry per
`i ∈ [1, d2]`, in this order, whatever the ring operations are: exactly the multipliers `pp1_cover` / `pp1_grid_exact`
quantify over (`1 ≤ i ∧ i ≤ d2`).  A loop shifted by one (`0 .. d2 - 1`, the state before commit 98e4ebc) does not
satisfy this. -/
theorem pp1_giant_range {α : Type} (mul sub : α → α → α) (two dg : α) {d2 : Nat} (hd2 : 1 ≤ d2) :
    (giantSteps mul sub two dg d2).map (·.1) = List.range' 1 d2 ∧
      ∀ i, i ∈ (giantSteps mul sub two dg d2).map (·.1) ↔ 1 ≤ i ∧ i ≤ d2 := by
  have h := giantSteps_idx mul sub two dg d2 hd2
  refine ⟨h, fun i => ?_⟩
  rw [h, List.mem_range'_1]
  omega

example : (giantSteps (mulm 35) (subm 35) (twom 35) (cheb 35 3 6) 2).map (·.1) = [1, 2] := by decide +kernel

/-- … and over a commutative ring the entry of index `i` is `V_{i·d1}(g)` (`dgprev = V_0 = 2`, `dg = V_{d1}`). -/
theorem pp1_giant_values {R : Type*} [CommRing R] (g : R) (d1 : Nat) {d2 : Nat} (hd2 : 1 ≤ d2) :
    giantSteps (· * ·) (· - ·) (2 : R) (chebV g d1) d2 = (List.range' 1 d2).map (fun i => (i, chebV g (i * d1))) :=
  giantSteps_vals g d1 d2 hd2

example : (1 : Nat) ≤ 64 := by decide

/-- every baby step is `(b, V_b(g))` with `b = 1` or `b` odd, `b < d1/2`, prime to `3` and to `d1` -/
theorem pp1_baby_values {R : Type*} [CommRing R] (g : R) (d1 : Nat) :
    ∀ x ∈ babySteps (· * ·) (· - ·) g (chebV g 2) d1,
      x.2 = chebV g x.1 ∧ (x.1 = 1 ∨ (x.1 % 2 = 1 ∧ x.1 < d1 / 2 ∧ x.1 % 3 ≠ 0 ∧ Nat.gcd x.1 d1 = 1)) := by
  intro x hx
  refine ⟨?_, (babySteps_idx _ _ _ _ d1 x.1).mp (List.mem_map_of_mem hx)⟩
  unfold babySteps at hx
  rw [List.mem_reverse] at hx
  refine babyLoop_vals g d1 d1 0 g g [(1, g)] (by simp [chebV]) (by simp [chebV]) ?_ x hx
  intro y hy
  rw [List.mem_singleton.mp hy]
  simp [chebV]

example : (babySteps (mulm 1009) (subm 1009) 3 (cheb 1009 3 2) 30).map (·.1) = [1, 7, 11, 13] := by decide +kernel

/-- **What stage 2 finds, on the giant side** (`pp1_found` composed with the model's giant list): for a prime `l` prime to
`d1` with `d1/2 < l ≤ d2·d1 + d1/2 − 1` and `x^(E·l) = 1`, some entry `(i, v)` of the giant steps computed from
`Q = V_E(x + y)` and some `b < d1/2` prime to `d1` satisfy `v − V_b(Q) = 0`.
`_partial`: that this `b` is in the model's baby list (completeness of `babyLoop`) is not derived here. -/
theorem pp1_stage2_found_partial {R : Type*} [CommRing R] {x y : R} (hxy : x * y = 1) {E l d1 d2 : Nat}
    (h6 : 6 ∣ d1) (hd : 0 < d1) (hd2 : 1 ≤ d2) (hl : l.Prime) (hnd : ¬ l ∣ d1) (hlo : d1 / 2 < l)
    (hhi : l ≤ d2 * d1 + d1 / 2 - 1) (hm1 : x ^ (E * l) = 1) :
    ∃ iv ∈ giantSteps (· * ·) (· - ·) (2 : R) (chebV (chebV (x + y) E) d1) d2,
      ∃ b, 1 ≤ b ∧ b < d1 / 2 ∧ Nat.gcd b d1 = 1 ∧ iv.2 - chebV (chebV (x + y) E) b = 0 := by
  obtain ⟨i, b, h1, h2, h3, h4, h5, hz⟩ := pp1_found hxy h6 hd hd2 hl hnd hlo hhi hm1
  refine ⟨(i, chebV (chebV (x + y) E) (i * d1)), ?_, b, h3, h4, h5, hz⟩
  rw [giantSteps_vals _ d1 d2 hd2, List.mem_map]
  exact ⟨i, by rw [List.mem_range'_1]; omega, rfl⟩

example : (6 : Nat) ∣ 510 ∧ Nat.Prime 601 ∧ ¬ 601 ∣ 510 ∧ 510 / 2 < 601 ∧ 601 ≤ 64 * 510 + 510 / 2 - 1 :=
  ⟨by decide, by norm_num, by decide, by decide, by decide⟩

/-- the entry panic sites of `pp1`: `assert!(b1 > 3)`, `ZmodN::new` on an even or > 512-bit `n`, and (checked profile
only) the `debug_assert!` of `ZmodN::mul` inside `from_int` for a seed that is not reduced -/
theorem pp1_entry_panics {n seed b1 b2 : Nat} (pp : Nat → Bool) (h : b1 ≤ 3 ∨ n % 2 = 0 ∨ 2 ^ 512 ≤ n ∨ n ≤ seed) :
    pp1 n seed b1 b2 pp = none := by
  unfold pp1
  split
  · rfl
  · by_cases hb : b1 ≤ 3
    · rw [if_pos hb]
    · rw [if_neg hb]
      by_cases hz : Ymq.Pm1Impl.znNewPanics n = true
      · rw [if_pos hz]
      · rw [if_neg hz]
        have hs : seed ≥ n := by
          rcases h with h | h | h | h
          · exact absurd h hb
          · exact absurd (by simp [Ymq.Pm1Impl.znNewPanics, h]) hz
          · exact absurd (by simp [Ymq.Pm1Impl.znNewPanics, h]) hz
          · exact h
        rw [if_pos hs]

example : (3 : Nat) ≤ 3 ∨ 77 % 2 = 0 ∨ 2 ^ 512 ≤ 77 ∨ 77 ≤ 3 := Or.inl (by decide)

end Ymq.C16
