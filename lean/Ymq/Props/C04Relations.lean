/-
C04 instantiated with the relation store of C11 (kept in its own module so that C04's generic
theorems do not depend on C11's files).
-/
import Ymq.Props.C04
import Ymq.Props.C11

namespace Ymq.C04
open Ymq.Sched Ymq.Relations

/-- the relation store of C11 as a store of the scheduling model: an `add` that panics poisons
the store (the real process would have aborted) -/
def addE (s : M Store) (op : Relation × Option (Nat × Nat)) : M Store :=
  match s with
  | .ok st => Ymq.Relations.add op.1 op.2 st
  | .error e => .error e

/-- **C04 ∘ C11**: for EVERY interleaving of the workers' atomic `add`s and every pattern of stale
completion-flag reads, if the relations found by the work units satisfy the callers' contract
(`InputOK`: true congruences with the cofactor data the sieve supplies) then whenever the shared
store has not panicked it satisfies the relation-store invariant of C11 — in particular every
published cycle is a true congruence — and it equals the sequential replay of the lock-order
history. -/
theorem sched_relations_valid (n fbsize maxlarge : Nat) (hn : n ≤ 2 ^ 512)
    (enough : M Store → Bool) (progs : List (List (List (Relation × Option (Nat × Nat)))))
    (hgood : ∀ prog ∈ progs, ∀ u ∈ prog, ∀ op ∈ u, InputOK n op.1 op.2)
    (sched : List (Nat × Bool × Bool)) :
    let c := run addE enough (init (.ok (Store.new n fbsize maxlarge)) progs) sched
    c.store = c.log.foldl addE (.ok (Store.new n fbsize maxlarge)) ∧
    (∀ st, c.store = .ok st → Inv st ∧ st.n = n ∧
      ∀ r ∈ st.cycles, r.cofactor = 1 ∧ (r.x : Int) * r.x ≡ fprod r.factors [ZMOD n]) := by
  intro c
  have h := sched_inv (ρ := Relation × Option (Nat × Nat)) (σ := M Store) addE enough
    (fun s => ∀ st, s = .ok st → Inv st ∧ st.n = n)
    (fun op => InputOK n op.1 op.2)
    (by
      intro s op hs hop st' hst'
      cases s with
      | error e => simp [addE] at hst'
      | ok st =>
        obtain ⟨hi, hnn⟩ := hs st rfl
        simp only [addE] at hst'
        have := C11.add_inv st st' op.1 op.2 hi (by rw [hnn]; exact hn) (by rw [hnn]; exact hop) hst'
        exact ⟨this.1, by rw [this.2.1, hnn]⟩)
    (.ok (Store.new n fbsize maxlarge)) progs
    (by
      intro st hst
      injection hst with hst; subst hst
      exact (C11.history_inv n fbsize maxlarge hn [] (by intro op hop; simp at hop) _ rfl))
    hgood sched
  obtain ⟨h1, h2, _, _⟩ := h
  refine ⟨h1, ?_⟩
  intro st hst
  obtain ⟨hi, hnn⟩ := h2 st hst
  exact ⟨hi, hnn, hi.cycles_congr hnn⟩

theorem foldl_addE_error (e : Err) (l : List (Relation × Option (Nat × Nat))) :
    l.foldl addE (.error e) = .error e := by
  induction l with
  | nil => rfl
  | cons a t ih => simp only [List.foldl_cons, addE]; exact ih

theorem foldl_addE_runHistory : ∀ (l : List (Relation × Option (Nat × Nat))) (s : Store),
    l.foldl addE (.ok s) = runHistory l s
  | [], s => rfl
  | (r, pq) :: t, s => by
    simp only [List.foldl_cons, addE, runHistory]
    cases h : Ymq.Relations.add r pq s with
    | error e => rw [foldl_addE_error]; rfl
    | ok s1 => rw [foldl_addE_runHistory t s1]; rfl

/-- **No consistency assertion of the shared store can fire under any schedule**: if every relation
the work units produce satisfies the callers' contract `InputOK2` (what siqs/mpqs/qs and
`fbase::cofactor` guarantee: C11), then for EVERY interleaving and every pattern of stale flag reads
the shared relation store never reaches an assert, unwrap or debug assertion of `RelationSet::add`
— the only error the model can return is the `u64` counter overflow. -/
theorem sched_no_panic (n fbsize maxlarge : Nat) (hn : n ≤ 2 ^ 512)
    (enough : M Store → Bool) (progs : List (List (List (Relation × Option (Nat × Nat)))))
    (hgood : ∀ prog ∈ progs, ∀ u ∈ prog, ∀ op ∈ u,
      ∀ s : Store, s.n = n → s.maxlarge = maxlarge → InputOK2 s op.1 op.2)
    (sched : List (Nat × Bool × Bool)) :
    ∀ e, (run addE enough (init (.ok (Store.new n fbsize maxlarge)) progs) sched).store = .error e →
      e = .overflow := by
  intro e he
  have h := sched_inv (ρ := Relation × Option (Nat × Nat)) (σ := M Store) addE enough
    (fun _ => True) (fun _ => True) (fun _ _ _ _ => trivial)
    (.ok (Store.new n fbsize maxlarge)) progs trivial (fun _ _ _ _ _ _ => trivial) sched
  obtain ⟨h1, _, _, h4⟩ := h
  rw [h1, foldl_addE_runHistory] at he
  refine C11.history_no_panic n fbsize maxlarge hn _ ?_ e he
  intro op hop s hs hm
  obtain ⟨prog, hp, u, hu, hou⟩ := h4 op hop
  exact hgood prog hp u hu op hou s hs hm

end Ymq.C04
