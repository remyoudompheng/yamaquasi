/-
C16 — group-order methods find every factor their bounds promise, and nothing false.

Model: Ymq/Model/Stage2.lean (tested exponent sets of every stage 2; loop bounds regenerated from
the source into Ymq/Gen/Stage2Arms.lean, tables and hard-wired arms in Ymq/Gen/Stage2.lean),
Ymq/Model/ExpModn.lean (exp_modn, chebyshev_modn, gcd_factors, rho64).

Structure of the argument for "p is found": C17 gives `order(p) ∣ E·l` for the stage-1 exponent E
and the one missing prime l; the cover theorems below give a grid value `m = l` (or a multiple of l)
`= i·d1 ± b` resp. `q·d1 − r`; the `*_hit` theorems turn that into a vanishing factor of the
accumulated product modulo p; `gcd_factors_prod` extracts it.
-/
import Ymq.Lemmas.Stage2Cover
import Ymq.Lemmas.Stage2Pm1
import Ymq.Lemmas.Stage2Totient
import Ymq.Lemmas.Stage2Algebra
import Ymq.Lemmas.Stage2Ladders
import Ymq.Lemmas.Stage2Exp
import Ymq.Lemmas.Stage2ExpLarge
import Ymq.Lemmas.Stage2Extract
import Ymq.Lemmas.Stage2Pratt
import Ymq.Lemmas.Params
import Mathlib.Data.Nat.Prime.Factorial

namespace Ymq.C16
open Ymq.Stage2 Ymq.Gen Ymq.ExpModn

theorem coprime_of_prime_not_dvd {l d1 : Nat} (hp : l.Prime) (hnd : ¬ l ∣ d1) : Nat.gcd l d1 = 1 :=
  (Nat.Prime.coprime_iff_not_dvd hp).mpr hnd

/-- ECM (`ecm::ecm_curve`): every prime `l ∤ d1` with `d1/2 < l ≤ d2·d1 + d1/2 − 1` is `i·d1 ± b` for a
giant step `1 ≤ i ≤ d2` and a baby step `b ∈ bs` (`1 ≤ b < d1/2`, `gcd(b, d1) = 1`). -/
theorem ecm_cover {d1 d2 l : Nat} (h6 : 6 ∣ d1) (hd : 0 < d1) (hd2 : 2 ≤ d2) (hp : l.Prime) (hnd : ¬ l ∣ d1)
    (hlo : d1 / 2 < l) (hhi : l ≤ d2 * d1 + d1 / 2 - 1) :
    ecmIsGrid d1 d2 l = true ∧
    ∃ i b, 1 ≤ i ∧ i ≤ d2 ∧ 1 ≤ b ∧ b < d1 / 2 ∧ Nat.gcd b d1 = 1 ∧ (l = i * d1 + b ∨ l + b = i * d1) := by
  have hgrid := std_cover (ecm_std d1 hd2) h6 hd
    (coprime_of_prime_not_dvd hp hnd) hlo hhi
  exact ⟨hgrid, (std_grid_iff (ecm_std d1 hd2) hd).mp hgrid⟩

/-- ECM128 (`ecm128::ecm_curve`): same grid. -/
theorem ecm128_cover {d1 d2 l : Nat} (h6 : 6 ∣ d1) (hd : 0 < d1) (hd2 : 2 ≤ d2) (hp : l.Prime) (hnd : ¬ l ∣ d1)
    (hlo : d1 / 2 < l) (hhi : l ≤ d2 * d1 + d1 / 2 - 1) :
    ecm128IsGrid d1 d2 l = true ∧
    ∃ i b, 1 ≤ i ∧ i ≤ d2 ∧ 1 ≤ b ∧ b < d1 / 2 ∧ Nat.gcd b d1 = 1 ∧ (l = i * d1 + b ∨ l + b = i * d1) := by
  have hgrid := std_cover (ecm128_std d1 hd2) h6 hd
    (coprime_of_prime_not_dvd hp hnd) hlo hhi
  exact ⟨hgrid, (std_grid_iff (ecm128_std d1 hd2) hd).mp hgrid⟩

/-- P+1 (`pp1::pp1`, giant steps `1..=d2` since commit 98e4ebc): same upper end as ECM. -/
theorem pp1_cover {d1 d2 l : Nat} (h6 : 6 ∣ d1) (hd : 0 < d1) (hd2 : 1 ≤ d2) (hp : l.Prime) (hnd : ¬ l ∣ d1)
    (hlo : d1 / 2 < l) (hhi : l ≤ d2 * d1 + d1 / 2 - 1) :
    pp1IsGrid d1 d2 l = true ∧
    ∃ i b, 1 ≤ i ∧ i ≤ d2 ∧ 1 ≤ b ∧ b < d1 / 2 ∧ Nat.gcd b d1 = 1 ∧ (l = i * d1 + b ∨ l + b = i * d1) := by
  have hgrid := std_cover (pp1_std h6 hd hd2) h6 hd
    (coprime_of_prime_not_dvd hp hnd) hlo hhi
  exact ⟨hgrid, (std_grid_iff (pp1_std h6 hd hd2) hd).mp hgrid⟩

/-- P-1, polynomial evaluation (`pm1_stage2_polyeval`): every prime `l ∤ d1` with
`l ≤ (d2 − 1 − deg)·d1 − 1` (`deg` = number of baby steps = `pm1Deg d1`) is `q·d1 − r` for an evaluated
multiplier `q` (`deg + q + 1 ≤ d2`, i.e. coefficient `k = d2 − 1 − q ∈ [deg, d2)`) and a baby step `r`. -/
theorem pm1_cover {d1 d2 l : Nat} (h6 : 6 ∣ d1) (hd : 0 < d1) (hp : l.Prime) (hnd : ¬ l ∣ d1)
    (hhi : l ≤ pm1Eff d1 d2) (hpos : 0 < pm1Eff d1 d2) :
    pm1IsGrid d1 d2 l = true ∧
    ∃ q r, pm1Deg d1 + q + 1 ≤ d2 ∧ isPm1Baby d1 r = true ∧ l + r = q * d1 := by
  have hg := coprime_of_prime_not_dvd hp hnd
  have hdeg : 1 ≤ pm1Deg d1 := by rw [pm1Deg_eq h6 hd]; omega
  have hhi' : l < (d2 - 1 - pm1Deg d1) * d1 := by
    unfold pm1Eff pm1EffDeg at hhi hpos
    delta Stage2Arms.pm1Neg Stage2Arms.pm1ValsOff at hhi hpos
    have : pm1Deg d1 + 2 - 2 = pm1Deg d1 := by omega
    rw [this] at hhi hpos
    omega
  obtain ⟨q, r, hq, hb, hm⟩ := pm1_cover_spec h6 hd hg hhi'
  exact ⟨pm1IsGridDeg_complete h6 hd hdeg ⟨q, r, hq, hb, Or.inl hm⟩, q, r, hq, hb, hm⟩

/-- the executable grid tests are exact (used by the driver for the correspondence runs) -/
theorem ecm_grid_exact {d1 d2 m : Nat} (hd : 0 < d1) (hd2 : 2 ≤ d2) :
    ecmIsGrid d1 d2 m = true ↔
      ∃ i b, 1 ≤ i ∧ i ≤ d2 ∧ 1 ≤ b ∧ b < d1 / 2 ∧ Nat.gcd b d1 = 1 ∧ (m = i * d1 + b ∨ m + b = i * d1) :=
  std_grid_iff (ecm_std d1 hd2) hd

theorem ecm128_grid_exact {d1 d2 m : Nat} (hd : 0 < d1) (hd2 : 2 ≤ d2) :
    ecm128IsGrid d1 d2 m = true ↔
      ∃ i b, 1 ≤ i ∧ i ≤ d2 ∧ 1 ≤ b ∧ b < d1 / 2 ∧ Nat.gcd b d1 = 1 ∧ (m = i * d1 + b ∨ m + b = i * d1) :=
  std_grid_iff (ecm128_std d1 hd2) hd

theorem pp1_grid_exact {d1 d2 m : Nat} (h6 : 6 ∣ d1) (hd : 0 < d1) (hd2 : 1 ≤ d2) :
    pp1IsGrid d1 d2 m = true ↔
      ∃ i b, 1 ≤ i ∧ i ≤ d2 ∧ 1 ≤ b ∧ b < d1 / 2 ∧ Nat.gcd b d1 = 1 ∧ (m = i * d1 + b ∨ m + b = i * d1) :=
  std_grid_iff (pp1_std h6 hd hd2) hd

theorem pm1_grid_exact {d1 d2 m : Nat} (h6 : 6 ∣ d1) (hd : 0 < d1) :
    pm1IsGrid d1 d2 m = true ↔
      ∃ q r, pm1Deg d1 + q + 1 ≤ d2 ∧ 0 < r ∧ r ≤ d1 + 1 ∧ Nat.gcd r d1 = 1 ∧ (m + r = q * d1 ∨ m + q * d1 = r) := by
  have hdeg : 1 ≤ pm1Deg d1 := by rw [pm1Deg_eq h6 hd]; omega
  unfold pm1IsGrid
  rw [pm1IsGridDeg_iff h6 hd hdeg]
  constructor
  · rintro ⟨q, r, hq, hb, hm⟩
    obtain ⟨h0, h1, hg⟩ := (pm1Baby_iff h6).mp hb
    exact ⟨q, r, hq, h0, h1, hg, hm⟩
  · rintro ⟨q, r, hq, h0, h1, hg, hm⟩
    exact ⟨q, r, hq, (pm1Baby_iff h6).mpr ⟨h0, h1, hg⟩, hm⟩

/-- the upper ends are exact: beyond them no multiple of `l` is tested -/
theorem ecm_nothing_above {d1 d2 l : Nat} (hd : 0 < d1) (hl : ecmEff d1 d2 < l) : ecmHits d1 d2 l = false :=
  sym_nothing_above (fun _ hb => (ecmBaby_iff.mp hb).2.1) hd hl

theorem pp1_nothing_above {d1 d2 l : Nat} (h6 : 6 ∣ d1) (hd : 0 < d1) (hl : pp1Eff d1 d2 < l) :
    pp1Hits d1 d2 l = false :=
  sym_nothing_above (fun _ hb => ((pp1Baby_iff h6 hd).mp hb).2.1) hd hl

theorem pm1_nothing_above {d1 d2 l : Nat} (h6 : 6 ∣ d1) (hd : 0 < d1) (hl : pm1Eff d1 d2 < l) (hl2 : d1 + 1 < l) :
    pm1Hits d1 d2 l = false := by
  have hdeg : 1 ≤ pm1Deg d1 := by rw [pm1Deg_eq h6 hd]; omega
  rw [Bool.eq_false_iff]
  intro h
  unfold pm1Hits hitsUpTo at h
  obtain ⟨k, _, hk⟩ := (anyBelow_iff _ _).mp h
  have := pm1_grid_le h6 (pm1IsGridDeg_sound hd hdeg hk)
  unfold pm1Eff pm1EffDeg at hl
  delta Stage2Arms.pm1Neg Stage2Arms.pm1ValsOff at hl
  have e : pm1Deg d1 + 2 - 2 = pm1Deg d1 := by omega
  rw [e] at hl
  have h2 : l ≤ (k + 1) * l := Nat.le_mul_of_pos_left _ (by omega)
  omega

/-- what the correspondence runs compare with the code: `*Hits l` ⇔ some positive multiple of `l` is a
grid value (for an element of exact order `l` this is "the factor is found in stage 2"). -/
theorem ecm_hits_exact {d1 d2 l : Nat} (hd : 0 < d1) (hl : 0 < l) :
    ecmHits d1 d2 l = true ↔ ∃ m, 0 < m ∧ l ∣ m ∧ ecmIsGrid d1 d2 m = true :=
  sym_hits_exact (fun _ hb => (ecmBaby_iff.mp hb).2.1) hd hl

theorem pp1_hits_exact {d1 d2 l : Nat} (h6 : 6 ∣ d1) (hd : 0 < d1) (hl : 0 < l) :
    pp1Hits d1 d2 l = true ↔ ∃ m, 0 < m ∧ l ∣ m ∧ pp1IsGrid d1 d2 m = true :=
  sym_hits_exact (fun _ hb => ((pp1Baby_iff h6 hd).mp hb).2.1) hd hl

theorem pm1_hits_exact {d1 d2 l : Nat} (h6 : 6 ∣ d1) (hd : 0 < d1) (hl : 0 < l) :
    pm1Hits d1 d2 l = true ↔ ∃ m, 0 < m ∧ l ∣ m ∧ pm1IsGrid d1 d2 m = true := by
  have hdeg : 1 ≤ pm1Deg d1 := by rw [pm1Deg_eq h6 hd]; omega
  unfold pm1Hits pm1IsGrid
  apply hitsUpTo_iff hl
  intro m hm
  have h1 := pm1_grid_le h6 (pm1IsGridDeg_sound hd hdeg hm)
  have h2 : (d2 - 1 - pm1Deg d1) * d1 ≤ (d2 + 1) * d1 := Nat.mul_le_mul_right _ (by omega)
  have h3 : (d2 + 1) * d1 = d2 * d1 + d1 := by ring
  have h4 : 6 ≤ d1 := Nat.le_of_dvd hd h6
  obtain ⟨q, r, hq, _, _⟩ := pm1IsGridDeg_sound hd hdeg hm
  have h5 : 1 * d1 ≤ d2 * d1 := Nat.mul_le_mul_right _ (by omega)
  omega

/-- `pm1_hit` (P-1; C17 supplies `p − 1 ∣ E·m` for `m` a multiple of the one missing prime):
`m = q·d1 − r` (or `r − q·d1`) on the grid ⇒ `p` divides the value `∏_r (g^(E·q·d1) − g^(E·r))` that
`pm1_stage2_polyeval` evaluates (up to a unit) at the giant step `q`. -/
theorem pm1_hit {p : Nat} (hp : p.Prime) {g : ℤ} (hg : ¬ (p : ℤ) ∣ g) {E m q d1 r : Nat} {rs : List Nat}
    (hr : r ∈ rs) (hE : p - 1 ∣ E * m) (hm : m + r = q * d1 ∨ m + q * d1 = r) :
    (p : ℤ) ∣ (rs.map (fun r => g ^ (E * (q * d1)) - g ^ (E * r))).prod :=
  Dvd.dvd.trans (pm1_factor_dvd hp hg hE hm) (List.dvd_prod (List.mem_map.mpr ⟨r, hr, rfl⟩))

/-- coefficient `k ∈ [deg, d2)` of the chirp-z convolution is a power of `h = g^(d1/2)` times
`P(h^(2·(d2−1−k))) = P(g^((d2−1−k)·d1))`: the index arithmetic of `pm1_stage2_polyeval`. -/
theorem chirpz_coeff {R : Type*} [CommRing R] (h : R) (P : Nat → R) {d2 k deg : Nat} (hk : k + 1 ≤ d2) (hdeg : deg ≤ k) :
    (Finset.range (deg + 1)).sum (fun i => P i * h ^ (d2 * d2 - (d2 - 1 - i) * (d2 - 1 - i)) * h ^ ((k - i) * (k - i))) =
      h ^ (d2 * d2 + k * k - (d2 - 1) * (d2 - 1)) *
        (Finset.range (deg + 1)).sum (fun i => P i * (h ^ (2 * (d2 - 1 - k))) ^ i) :=
  Ymq.Stage2.chirpz_coeff h P hk hdeg

/-- `pp1_hit` (P+1). Premises `x·y = 1`, seed `= x + y`, `x^(E·m) = 1`
(`x` of norm one in `F_{p²}`, order dividing `p + 1 ∣ E·m`: C17). Conclusion: the Lucas values compared by
stage 2 coincide, so their difference is a zero factor of the product. -/
theorem pp1_hit {R : Type*} [CommRing R] {x y : R} (hxy : x * y = 1) {E m i d1 b : Nat}
    (hm1 : x ^ (E * m) = 1) (hm : m = i * d1 + b ∨ m + b = i * d1) :
    chebV (chebV (x + y) E) (i * d1) - chebV (chebV (x + y) E) b = 0 := by
  rw [pp1_step_eq hxy hm1 hm, sub_self]

/-- `ecm_hit`: in an additive group with an even coordinate function (`y(−P) = y(P)`; C15),
`(E·m)•G = 0` and `m = i·d1 ± b` ⇒ the giant step `[i·d1]Q` and the baby step `[b]Q` of `Q = [E]G`
have the same coordinate. -/
theorem ecm_hit {A Y : Type*} [AddCommGroup A] (y : A → Y) (heven : ∀ P, y (-P) = y P) {G : A}
    {E m i d1 b : Nat} (hm0 : (E * m) • G = 0) (hm : m = i * d1 + b ∨ m + b = i * d1) :
    y ((i * d1) • (E • G)) = y (b • (E • G)) := by
  have hQ : m • (E • G) = 0 := by rw [← mul_nsmul]; exact hm0
  rcases hm with hm | hm
  · have : (i * d1) • (E • G) = -(b • (E • G)) := by
      rw [eq_neg_iff_add_eq_zero, ← add_nsmul, ← hm]; exact hQ
    rw [this, heven]
  · rw [← hm, add_nsmul, hQ, zero_add]

/-- `V_{m+n} = V_m V_n − V_{m−n}` (with `m = n + d`), from the three-term recurrence alone. -/
theorem chebyshev_recurrence {R : Type*} [CommRing R] (a : R) (n d : Nat) :
    chebV a (n + d + n) = chebV a (n + d) * chebV a n - chebV a d :=
  chebV_add a n d

/-- `chebyshev_modn` computes `V_k(g)` for every `k` (including `k = 0` since commit f403d5f). -/
theorem chebyshev_spec {R : Type*} [CommRing R] (g : R) (k : Nat) :
    chebyshevModn (· * ·) (· - ·) 2 g ((Stage2Arms.chebZero : Nat) : R) k = chebV g k := by
  unfold chebyshevModn
  by_cases hk : k = 0
  · subst hk
    delta Stage2Arms.chebZero
    simp [chebV]
  · rw [if_neg hk]
    obtain ⟨-, hlt, hb1⟩ := bitlen_bounds hk
    set eb := bitlen k with heb
    have h0 : k / 2 ^ (eb - 0) = 0 := by simp [Nat.div_eq_of_lt hlt]
    have hloop := chebLoop_spec g k eb (eb - 1) 0 (by omega)
    rw [h0] at hloop
    have e1 : (0 : Nat) + 1 = 1 := rfl
    have e2 : eb - (0 + (eb - 1)) = 1 := by omega
    rw [e2, pow_one] at hloop
    simp only [chebV, e1] at hloop
    simp only [hloop]
    have := congrArg Prod.fst (cheb_step g k)
    rwa [apply_ite Prod.fst] at this

/-- `exp_modn(g, e) = g^e` for every `e < 2^64`, and no `unreachable!` is reached. -/
theorem exp_modn_spec {M : Type*} [CommMonoid M] (g : M) (e : Nat) (he : e < 2 ^ 64) :
    expModn (· * ·) 1 g e = some (g ^ e) := by
  obtain ⟨r, hr, rfl⟩ := expModn_rel (R := fun a x : M => a = x) ⟨fun {a b x y} h1 h2 => by rw [h1, h2]⟩ rfl rfl e he
  exact hr

/-- `exp_modn_large(g, e) = g^e` for every `e < 2^1024` (6-bit windows), and no index of `g_smalls` is out of range. -/
theorem exp_modn_large_spec {M : Type*} [CommMonoid M] (g : M) (e : Nat) (he : e < 2 ^ 1024) :
    expModnLarge (· * ·) 1 g e = some (g ^ e) := by
  obtain ⟨r, hr, rfl⟩ := expModnLarge_rel (R := fun a x : M => a = x) ⟨fun {a b x y} h1 h2 => by rw [h1, h2]⟩ rfl rfl e he
  exact hr

/-- `gcd_factors`/`find_factors`: for a sequence with increasing gcds (`G i ∣ G j` for `i ≤ j`) the returned list
multiplies to `gcd_last / gcd_first`, every part is `> 1`, no debug assertion fails, `facs.prod · rest = n`, and
factors caught at different steps are not merged: every part is accepted by `pseudoprime` or is the increment
`G (j+1) / G j` of one single step. -/
theorem gcd_factors_prod (n : Nat) (vals : List Nat) (pp : Nat → Bool) (hn : 0 < n) (hne : vals ≠ [])
    (hchain : ∀ i j, i ≤ j → j < vals.length → Nat.gcd n (vals.getD i 0) ∣ Nat.gcd n (vals.getD j 0)) :
    ∃ facs rest, gcdFactors n vals pp = some (facs, rest) ∧
      facs.prod * Nat.gcd n (vals.getD 0 0) = Nat.gcd n (vals.getD (vals.length - 1) 0) ∧
      facs.prod * rest = n ∧ (∀ f ∈ facs, 1 < f) ∧
      ∀ f ∈ facs, pp f = true ∨ ∃ j, j + 1 < vals.length ∧
        f * Nat.gcd n (vals.getD j 0) = Nat.gcd n (vals.getD (j + 1) 0) :=
  gcdFactors_spec n vals pp hn hne hchain

/-- the precondition of `gcd_factors` holds for everything the stages pass to it: cumulative products -/
theorem cumulative_products_chain (n : Nat) (v t : Nat → Nat) (h : ∀ i, v (i + 1) = v i * t i % n) :
    ∀ i j, i ≤ j → Nat.gcd n (v i) ∣ Nat.gcd n (v j) := by
  intro i j hij
  induction j, hij using Nat.le_induction with
  | base => exact dvd_rfl
  | succ j _ ih => exact dvd_trans ih (by rw [h j]; exact gcd_dvd_gcd_mul_mod n (v j) (t j))

/-- `check_gcd_factors` (P-1, P+1) keeps the invariant `factors.prod · nred = n`, every recorded factor `> 1`,
`n` itself never recorded (the `fs.contains(n)` guard), and leaves a non-empty value list when the run continues. -/
theorem check_gcd_factors_inv (n : Nat) (pp : Nat → Bool) (st : CgfState) (hinv : CgfInv n st) (hne : st.vals ≠ [])
    (hchain : ∀ i j, i ≤ j → j < st.vals.length →
      Nat.gcd st.nred (st.vals.getD i 0) ∣ Nat.gcd st.nred (st.vals.getD j 0)) :
    ∃ b st', checkGcdFactors n pp st = some (b, st') ∧ CgfInv n st' ∧ (b = false → st'.vals ≠ []) := by
  obtain ⟨fs, rest, hg, _, hfr, hfgt, _⟩ := gcdFactors_spec st.nred st.vals pp hinv.2.2.1 hne hchain
  unfold checkGcdFactors
  simp only [hg]
  split
  · exact ⟨true, st, rfl, hinv, by simp⟩
  · rename_i hc
    have hinv1 : CgfInv n (if fs.isEmpty = true then st else { st with factors := st.factors ++ fs, nred := rest }) := by
      split
      · exact hinv
      · exact hinv.append hfr hfgt (by simpa using hc) st.vals
    split
    · exact ⟨true, _, rfl, hinv1, by simp⟩
    · cases hl : st.vals.getLast? with
      | none => exact absurd (List.getLast?_eq_none_iff.mp hl) hne
      -- the invariant does not read `vals`
      | some last => exact ⟨false, _, rfl, hinv1, by simp⟩

/-- the polynomial path of `pm1_impl` (stage 2 by `pm1_stage2_polyeval`, appended without `check_gcd_factors`): with the
guard `if f2.contains(n) { return None; }` (commit 9b94f92; its presence is read from the source into
`Stage2Arms.pm1PolyGuard`) every state it produces satisfies the invariant, and `n ∉ f2` holds for the list appended. -/
theorem pm1_polyeval_inv (n : Nat) (pp : Nat → Bool) (st : CgfState) (hinv : CgfInv n st) (hne : st.vals ≠ [])
    (hchain : ∀ i j, i ≤ j → j < st.vals.length →
      Nat.gcd st.nred (st.vals.getD i 0) ∣ Nat.gcd st.nred (st.vals.getD j 0)) :
    ∃ r, pm1PolyStep n pp st = some r ∧ ∀ st', r = some st' →
      CgfInv n st' ∧ ∃ f2 n2, gcdFactors st.nred st.vals pp = some (f2, n2) ∧ n ∉ f2 ∧
        st' = { factors := st.factors ++ f2, nred := n2, vals := [] } := by
  obtain ⟨fs, rest, hg, _, hfr, hfgt, _⟩ := gcdFactors_spec st.nred st.vals pp hinv.2.2.1 hne hchain
  have hguard : Stage2Arms.pm1PolyGuard = true := by delta Stage2Arms.pm1PolyGuard; rfl
  unfold pm1PolyStep
  simp only [hg, hguard, Bool.true_and]
  split
  · exact ⟨none, rfl, by simp⟩
  · rename_i hc
    have hnfs : n ∉ fs := by simpa using hc
    refine ⟨_, rfl, ?_⟩
    rintro st' ⟨rfl⟩
    exact ⟨hinv.append hfr hfgt hnfs [], fs, rest, rfl, hnfs, rfl⟩

/-- … so what `pm1_impl` / `pp1` return multiplies to `n` with all listed parts `> 1`, none equal to `n`. -/
theorem pm1_result_proper {n : Nat} {st : CgfState} (hinv : CgfInv n st) {fs : List Nat} {rest : Nat}
    (h : splitResult st = some (fs, rest)) :
    fs.prod * rest = n ∧ (∀ f ∈ fs, 1 < f) ∧ 0 < rest ∧ n ∉ fs ∧ fs ≠ [] :=
  splitResult_proper hinv h

/-- shrinking the ring to `Z/nred` (`nred ∣ n`) is consistent and does not change any gcd -/
theorem shrink_ring_consistent {n nred x : Nat} (h : nred ∣ n) :
    x % n % nred = x % nred ∧ Nat.gcd nred (x % n % nred) = Nat.gcd nred x := by
  have e := Nat.mod_mod_of_dvd x h
  refine ⟨e, ?_⟩
  rw [e, Nat.gcd_comm, ← Nat.gcd_rec, Nat.gcd_comm]

/-- `ecm::check_gcd_factor`: a returned value is a proper divisor (`ecm_curve` returns `(d, n/d)`). -/
theorem check_gcd_factor_proper (n : Nat) (vals : List Nat) (pp : Nat → Bool) (hn : 0 < n) (hne : vals ≠ [])
    (hchain : ∀ i j, i ≤ j → j < vals.length → Nat.gcd n (vals.getD i 0) ∣ Nat.gcd n (vals.getD j 0)) :
    ∃ r, checkGcdFactor n vals pp = some r ∧ ∀ d, r = some d → d * (n / d) = n ∧ 1 < d ∧ d < n ∧ 1 < n / d := by
  obtain ⟨fs, rest, hg, _, hfr, hfgt, _⟩ := gcdFactors_spec n vals pp hn hne hchain
  unfold checkGcdFactor
  simp only [hg]
  refine ⟨_, rfl, ?_⟩
  intro d hd
  have hmem : d ∈ fs.filter (· != n) := List.max?_mem hd
  rw [List.mem_filter] at hmem
  obtain ⟨hdfs, hdn⟩ := hmem
  have hdn' : d ≠ n := by simpa using hdn
  have hdvd : d ∣ n := Dvd.dvd.trans (List.dvd_prod hdfs) ⟨rest, hfr.symm⟩
  have h1 := hfgt d hdfs
  have hmul : d * (n / d) = n := Nat.mul_div_cancel' hdvd
  have hlt : d < n := lt_of_le_of_ne (Nat.le_of_dvd hn hdvd) hdn'
  exact ⟨hmul, h1, hlt, one_lt_of_mul_eq hmul hlt⟩

/-- `rho_impl`: whatever it returns multiplies to `n`, parts `> 1`, cofactor strictly between 1 and `n`. -/
theorem rho_impl_proper (n : Nat) (prods : List Nat) (pp : Nat → Bool) (hn : 0 < n) (hne : prods ≠ [])
    (hchain : ∀ i j, i ≤ j → j < prods.length → Nat.gcd n (prods.getD i 0) ∣ Nat.gcd n (prods.getD j 0)) :
    ∃ r, rhoImplResult n prods pp = some r ∧ ∀ fs rest, r = some (fs, rest) →
      fs.prod * rest = n ∧ (∀ f ∈ fs, 1 < f) ∧ 1 < rest ∧ rest < n ∧ fs ≠ [] := by
  obtain ⟨fs, rest, hg, _, hfr, hfgt, _⟩ := gcdFactors_spec n prods pp hn hne hchain
  unfold rhoImplResult
  simp only [hg]
  split
  · exact ⟨none, rfl, by simp⟩
  · rename_i hc
    refine ⟨_, rfl, ?_⟩
    intro fs' rest' h
    simp only [Option.some.injEq, Prod.mk.injEq] at h
    obtain ⟨rfl, rfl⟩ := h
    simp only [Bool.or_eq_true, beq_iff_eq, not_or] at hc
    have hrest0 : rest ≠ 0 := by rintro rfl; rw [Nat.mul_zero] at hfr; omega
    have hle : rest ≤ n := Nat.le_of_dvd hn ⟨fs.prod, by rw [Nat.mul_comm]; exact hfr.symm⟩
    refine ⟨hfr, hfgt, by omega, by omega, ?_⟩
    rintro rfl
    simp at hfr
    omega

/-- y-normalisation of `ecm_curve`: the two passes turn `y_k` into `y_k · ∏_{j≠k} z_j` (`ynSpec`), `z` untouched. -/
theorem ynorm_spec {M : Type*} [CommMonoid M] (l : List (M × M)) : ynorm (· * ·) l = ynSpec 1 l :=
  ynorm_eq_spec l

/-- … and over `Z/p` (no `z ≡ 0`) two normalised `y`s differ by a multiple of `p` exactly when the affine `y/z`
agree, i.e. (even coordinate, `ecm_hit`) when the points are equal up to sign modulo `p`. -/
theorem ynorm_compare {F : Type*} [CommRing F] [IsDomain F] (l : List (F × F)) (hz : ∀ e ∈ l, e.2 ≠ 0)
    (i k : Nat) (ei ek ei' ek' : F × F) (hi : l[i]? = some ei) (hk : l[k]? = some ek)
    (hi' : (ynorm (· * ·) l)[i]? = some ei') (hk' : (ynorm (· * ·) l)[k]? = some ek') :
    ei'.1 - ek'.1 = 0 ↔ ei.1 * ek.2 = ek.1 * ei.2 :=
  Ymq.ExpModn.ynorm_compare l hz i k ei ek ei' ek' hi hk hi' hk'

/-- `PM1Base::factor`, stage 1: a budget of at least 1024 applies every block of small prime powers. -/
theorem pm1base_full_stage1 (nf budget : Nat) (h : Stage2Arms.pm1base.1 ≤ budget) :
    pm1baseFmax Stage2Arms.pm1base nf budget = nf := by
  unfold pm1baseFmax
  have hc : Stage2Arms.pm1base.1 = 1024 := by delta Stage2Arms.pm1base; rfl
  rw [hc] at h ⊢
  apply Nat.min_eq_left
  rw [Nat.le_div_iff_mul_le (by decide)]
  rw [Nat.mul_comm]
  exact Nat.mul_le_mul_right _ h

/-- `PM1Base::factor`, stage 2 (`pm1base_cover`): with budget ≥ 1001 the tested exponents are exactly the first
`min(len, budget − 1000)` large primes, no index of `jumps` is out of range — for a table that starts at 503 and
consists of odd increasing numbers at most 128 apart (hypothesis HLarges: true of the real table, request
`s2_pm1base_data`; the table itself is C17's). -/
theorem pm1base_cover (larges : List Nat) (budget : Nat) (hb : 1001 ≤ budget) (hne : larges ≠ [])
    (hfirst : larges.head? = some 503) (hodd : ∀ p ∈ larges, p % 2 = 1)
    (hch : List.IsChain (fun a b => a < b ∧ b - a ≤ 128) larges) :
    pm1baseTested Stage2Arms.pm1base larges budget = some (larges.take (min larges.length (budget - 1000))) := by
  unfold pm1baseTested
  delta Stage2Arms.pm1base
  simp only
  rw [if_neg (by omega)]
  have hlen : 1 ≤ larges.length := by
    cases larges with
    | nil => exact absurd rfl hne
    | cons a t => simp
  rw [if_neg (by omega)]
  simp only [hfirst, bne_self_eq_false, Bool.false_eq_true, if_false]
  cases larges with
  | nil => exact absurd rfl hne
  | cons a t =>
    simp only [List.head?_cons, Option.some.injEq] at hfirst
    subst hfirst
    obtain ⟨m, hm⟩ : ∃ m, min (503 :: t).length (budget - 1000) = m + 1 := ⟨min (503 :: t).length (budget - 1000) - 1, by
      simp only [List.length_cons] at hlen ⊢; omega⟩
    rw [hm, List.take_succ_cons, List.drop_one, List.tail_cons]
    have hch' : List.IsChain (fun a b => a < b ∧ b - a ≤ 2 * 64) (503 :: t.take m) := by
      have := List.IsChain.take hch (m + 1)
      rwa [List.take_succ_cons] at this
    rw [pm1baseGaps_spec 64 (t.take m) 503 [503] (by decide)
      (fun p hp => hodd p (List.mem_cons_of_mem _ (List.mem_of_mem_take hp))) hch']
    simp

/-- `PM1Base::factor`: if `p − 1 ∣ E·l` for a tested exponent `l` then `p` divides the factor `2^(E·l) − 1` of the product. -/
theorem pm1base_hit {p : Nat} (hp : p.Prime) (hp2 : p ≠ 2) {E l : Nat} (hE : p - 1 ∣ E * l) :
    (p : ℤ) ∣ (2 : ℤ) ^ (E * l) - 1 := by
  have := Fact.mk hp
  rw [← ZMod.intCast_zmod_eq_zero_iff_dvd]
  push_cast
  have h2 : (2 : ZMod p) ≠ 0 := by
    intro h
    have : (p : ℤ) ∣ 2 := (ZMod.intCast_zmod_eq_zero_iff_dvd 2 p).mp (by exact_mod_cast h)
    have hle : p ≤ 2 := Nat.le_of_dvd (by decide) (by exact_mod_cast this)
    have := hp.two_le
    omega
  rw [pow_eq_one_of_dvd h2 hE, sub_self]

/-- the guard `d > 1 && d < n` with `d = gcd(n, ·)`: a returned pair is a proper split -/
theorem guard_proper {n x a b : Nat} (h : guard n (Nat.gcd n x) = some (a, b)) :
    a * b = n ∧ 1 < a ∧ a < n ∧ 1 < b :=
  guard_spec h

/-- `rho64`: whatever it returns is a proper split of `n`. -/
theorem rho64_proper {n c iters a b : Nat} (h : rho64 n c iters = some (some (a, b))) :
    a * b = n ∧ 1 < a ∧ a < n ∧ 1 < b := by
  unfold rho64 at h
  simp only [Option.bind_eq_bind] at h
  cases hi : Mg64.mg2adicInv n with
  | none => simp [hi] at h
  | some ninv =>
    simp only [hi, Option.bind_some] at h
    obtain ⟨x, hx⟩ := rhoLoop_some _ _ _ h
    exact guard_spec hx

/-- `6 ∣ d1`, `d2 ≥ 2`, `d1 > 0` -/
def rowOk (r : Nat × Nat × Nat) : Bool := r.2.1 % 6 == 0 && decide (2 ≤ r.2.2) && decide (0 < r.2.1)

def lookupFactors (d1 : Nat) : Option (List (Nat × Nat)) := Stage2Arms.d1Factors.lookup d1

/-- φ(d1) from the generated factorisation (0 when d1 is not listed) -/
def phiTab (d1 : Nat) : Nat := match lookupFactors d1 with | some fs => phiOf fs | none => 0

def factorsOk (d1 : Nat) : Bool :=
  match lookupFactors d1 with
  | some fs => valOf fs == d1 && okFactors fs
  | none => false

def pm1RowOk (r : Nat × Nat × Nat) : Bool :=
  rowOk r && factorsOk r.2.1 && r.2.2 == 2 ^ Nat.log2 r.2.2 && decide (phiTab r.2.1 + 2 ≤ r.2.2)

/-- 6 ∣ d1, d2 ≥ 2 everywhere and every d1 is the product of its listed factorisation (`factorsOk`); the rows of the P-1
table have d2 a power of two and leave room for the polynomial (`deg + 1 ≤ d2`: `pm1RowOk`). -/
theorem rows_ok :
    (Stage2.ecmTable.all fun r => rowOk r && factorsOk r.2.1) = true ∧ (Stage2.pm1Table.all pm1RowOk) = true := by
  constructor <;> decide +kernel

theorem factorsOk_totient {d1 : Nat} (h : factorsOk d1 = true) : Nat.totient d1 = phiTab d1 := by
  unfold factorsOk at h
  unfold phiTab
  split at h
  · rename_i fs hfs
    simp only [Bool.and_eq_true, beq_iff_eq] at h
    rw [← h.1]
    exact totient_valOf fs h.2
  · exact absurd h (by simp)

/-- degree of the polynomial of `pm1_stage2_polyeval` for a table row: `φ(d1) + 1` -/
theorem pm1_degree {r : Nat × Nat × Nat} (hr : r ∈ Stage2.pm1Table) : pm1Deg r.2.1 = phiTab r.2.1 + 1 := by
  have h := List.all_eq_true.mp rows_ok.2 r hr
  simp only [pm1RowOk, rowOk, Bool.and_eq_true, beq_iff_eq, decide_eq_true_eq] at h
  obtain ⟨⟨⟨⟨⟨h6, _⟩, hd⟩, hf⟩, _⟩, _⟩ := h
  rw [pm1Deg_eq (Nat.dvd_of_mod_eq_zero h6) hd, factorsOk_totient hf]

/-- effective B2 of a P-1 row in closed form -/
def pm1EffRow (r : Nat × Nat × Nat) : Nat := pm1EffDeg r.2.1 r.2.2 (phiTab r.2.1 + 1)

theorem pm1_rows_eff {r : Nat × Nat × Nat} (hr : r ∈ Stage2.pm1Table) : pm1Eff r.2.1 r.2.2 = pm1EffRow r := by
  unfold pm1Eff pm1EffRow; rw [pm1_degree hr]

/-- rows of the P-1 table that cannot be selected by a `b2 > MULTIEVAL_THRESHOLD`: a larger label is
at least as close to every such `b2`. -/
def dominated (r : Nat × Nat × Nat) : Bool :=
  Stage2.pm1Table.any fun q => decide (r.1 < q.1) && decide (r.1 + q.1 ≤ 2 * Stage2.multievalThreshold)

def pm1PolyRows : List (Nat × Nat × Nat) := Stage2.pm1Table.filter fun r => !dominated r

/-- every `b2 > MULTIEVAL_THRESHOLD` (integral) selects a row of `pm1PolyRows` -/
theorem pm1_poly_rows (b2 : Nat) (hb : Stage2.multievalThreshold < b2) :
    ∃ row, Stage2.pm1Stage2Select b2 1 = some row ∧ row ∈ pm1PolyRows := by
  obtain ⟨row, h1, h2, h3⟩ := Ymq.Checked.nearestRow_spec Stage2.pm1Table (by decide) b2 1
  refine ⟨row, h1, ?_⟩
  unfold pm1PolyRows
  rw [List.mem_filter]
  refine ⟨h2, ?_⟩
  rw [Bool.not_eq_true', Bool.eq_false_iff]
  intro hdom
  unfold dominated at hdom
  obtain ⟨q, hq, hc⟩ := List.any_eq_true.mp hdom
  simp only [Bool.and_eq_true, decide_eq_true_eq] at hc
  have := h3 q hq
  unfold Ymq.Checked.absDiff at this
  simp only [Nat.mul_one] at this
  split at this <;> split at this <;> omega

/-- the full statement: the label a run reports does not exceed its effective B2 -/
def ReportedLeEffective (rows : List (Nat × Nat × Nat)) (eff : Nat → Nat → Nat) : Prop :=
  ∀ r ∈ rows, r.1 ≤ eff r.2.1 r.2.2

def badOf (rows : List (Nat × Nat × Nat)) (eff : Nat × Nat × Nat → Nat) : List (Nat × Nat) :=
  rows.filterMap fun r => if r.1 ≤ eff r then none else some (r.1, eff r)

def labelsEff (l : List (Nat × Nat × Nat)) : List (Nat × Nat) := l.map fun t => (t.1, t.2.1)

/-- the rows that report too much, with their effective B2: exactly the generated lists -/
theorem ecm_badRows : badOf Stage2.ecmTable (fun r => ecmEff r.2.1 r.2.2) = labelsEff Stage2Arms.ecmBadRows := by
  decide +kernel

theorem pp1_badRows : badOf Stage2.ecmTable (fun r => pp1Eff r.2.1 r.2.2) = labelsEff Stage2Arms.pp1BadRows := by
  decide +kernel

theorem pm1_badRows_closed : badOf pm1PolyRows pm1EffRow = labelsEff Stage2Arms.pm1BadRows := by
  decide +kernel

theorem badOf_congr {rows : List (Nat × Nat × Nat)} {e1 e2 : Nat × Nat × Nat → Nat} (h : ∀ r ∈ rows, e1 r = e2 r) :
    badOf rows e1 = badOf rows e2 := by
  unfold badOf
  induction rows with
  | nil => rfl
  | cons a t ih =>
    have ha := h a (List.mem_cons_self ..)
    have ht := ih (fun r hr => h r (List.mem_cons_of_mem _ hr))
    simp only [List.filterMap_cons, ha, ht]

theorem pm1PolyRows_sub {r : Nat × Nat × Nat} (h : r ∈ pm1PolyRows) : r ∈ Stage2.pm1Table :=
  (List.mem_filter.mp h).1

theorem pm1_badRows : badOf pm1PolyRows (fun r => pm1Eff r.2.1 r.2.2) = labelsEff Stage2Arms.pm1BadRows := by
  rw [badOf_congr (fun r hr => pm1_rows_eff (pm1PolyRows_sub hr))]
  exact pm1_badRows_closed

theorem le_of_not_bad {rows : List (Nat × Nat × Nat)} {eff : Nat × Nat × Nat → Nat} {bad : List (Nat × Nat × Nat)}
    (hbad : badOf rows eff = labelsEff bad) {r : Nat × Nat × Nat} (hr : r ∈ rows) (hn : r.1 ∉ bad.map (·.1)) :
    r.1 ≤ eff r := by
  by_contra hc
  have hm : (r.1, eff r) ∈ labelsEff bad := by
    rw [← hbad]; unfold badOf; rw [List.mem_filterMap]; exact ⟨r, hr, by simp [hc]⟩
  obtain ⟨t, ht, he⟩ := List.mem_map.mp hm
  exact hn (List.mem_map.mpr ⟨t, ht, (Prod.mk.inj he).1⟩)

/-- counter-witnesses: the full statement fails for each of the three consumers -/
theorem reported_le_effective_ecm_counter : ¬ ReportedLeEffective Stage2.ecmTable ecmEff := by
  intro h
  have := h (33000, 510, 64) (by decide)
  revert this; decide

theorem reported_le_effective_pp1_counter : ¬ ReportedLeEffective Stage2.ecmTable pp1Eff := by
  intro h
  have := h (33000, 510, 64) (by decide)
  revert this; decide

theorem reported_le_effective_pm1_counter : ¬ ReportedLeEffective pm1PolyRows pm1Eff := by
  intro h
  have hr : ((980000, 510, 2048) : Nat × Nat × Nat) ∈ pm1PolyRows := by decide
  have := h _ hr
  rw [pm1_rows_eff (pm1PolyRows_sub hr)] at this
  revert this; decide

/-- … and holds for every row outside the generated lists (exact excluded sets) -/
theorem reported_le_effective_partial_ecm :
    ∀ r ∈ Stage2.ecmTable, r.1 ∉ Stage2Arms.ecmBadRows.map (·.1) → r.1 ≤ ecmEff r.2.1 r.2.2 :=
  fun _ hr hn => le_of_not_bad ecm_badRows hr hn

theorem reported_le_effective_partial_pp1 :
    ∀ r ∈ Stage2.ecmTable, r.1 ∉ Stage2Arms.pp1BadRows.map (·.1) → r.1 ≤ pp1Eff r.2.1 r.2.2 :=
  fun _ hr hn => le_of_not_bad pp1_badRows hr hn

theorem reported_le_effective_partial_pm1 :
    ∀ r ∈ pm1PolyRows, r.1 ∉ Stage2Arms.pm1BadRows.map (·.1) → r.1 ≤ pm1Eff r.2.1 r.2.2 :=
  fun _ hr hn => le_of_not_bad pm1_badRows hr hn

/-- `t = (label, eff, w)`: the row of `table` with that label has effective B2 `eff < w ≤ label`, and `w` is prime to its
`d1` and above `d1 + 1` -/
def witnessOk (eff : Nat → Nat → Nat) (table : List (Nat × Nat × Nat)) (t : Nat × Nat × Nat) : Bool :=
  table.any fun r => r.1 == t.1 && decide (eff r.2.1 r.2.2 = t.2.1) && decide (t.2.1 < t.2.2) && decide (t.2.2 ≤ r.1) &&
    Nat.gcd t.2.2 r.2.1 == 1 && decide (r.2.1 + 1 < t.2.2)

/-- For every bad row the generated witness `w` (third component) lies in `(effective B2, label]`,
does not divide `d1`… and, being above the upper end, is not tested: no multiple of it is a grid
value.  (That `w` is prime: `bad_row_witnesses_prime` below.) -/
theorem bad_rows_miss_a_value :
    (Stage2Arms.ecmBadRows.all (witnessOk ecmEff Stage2.ecmTable)) = true ∧
    (Stage2Arms.pp1BadRows.all (witnessOk pp1Eff Stage2.ecmTable)) = true ∧
    (Stage2Arms.pm1BadRows.all (witnessOk (fun d1 d2 => pm1EffRow (0, d1, d2)) Stage2.pm1Table)) = true := by
  refine ⟨?_, ?_, ?_⟩ <;> decide +kernel

/-- the Pratt certificates `certs` check, and every witness (third component) of `rows` is among the numbers they
prove prime or is below 2^16 and passes trial division -/
def certifiedBy (certs : List PrattEntry) (rows : List (Nat × Nat × Nat)) : Bool :=
  match prattTable [] certs with
  | some known => rows.all fun t => known.contains t.2.2 || (decide (t.2.2 < 65536) && isPrimeTD t.2.2)
  | none => false

/-- `prattTable` is sound by Lucas' criterion -/
theorem certifiedBy_sound {certs : List PrattEntry} {rows : List (Nat × Nat × Nat)} (h : certifiedBy certs rows = true) :
    ∀ t ∈ rows, Nat.Prime t.2.2 := by
  intro t ht
  unfold certifiedBy at h
  split at h
  · rename_i known hk
    simp only [List.all_eq_true, List.contains_iff_mem, Bool.or_eq_true, Bool.and_eq_true, decide_eq_true_eq] at h
    rcases h t ht with hm | ⟨hlt, htd⟩
    · exact prattTable_sound _ [] known (by simp) hk _ hm
    · exact isPrimeTD_sound (by omega) htd
  · exact absurd h Bool.false_ne_true

/-- every bad row misses a **prime** `w` with `effective B2 < w ≤ label`, `w ∤ d1` (`bad_rows_miss_a_value`):
the full statement `ReportedLeEffective` fails on an actual stage-2 prime, not only on a grid value.
The generated Pratt certificates are checked by kernel evaluation. -/
theorem bad_row_witnesses_prime :
    ∀ t ∈ Stage2Arms.ecmBadRows ++ Stage2Arms.pp1BadRows ++ Stage2Arms.pm1BadRows, Nat.Prime t.2.2 :=
  certifiedBy_sound (certs := Stage2Arms.witnessCerts) (by decide +kernel)

/-- every hard-wired B2 of `ecm128` / `ecm_semiprime` -/
def ecm128B2s : List Nat :=
  (Stage2.ecm128Arms.flatMap fun a => a.2.2.2.map fun r => r.2.2) ++ Stage2.ecmSemiprimeArms.map fun a => a.2.2.2

/-- ECM128 prints the requested B2: every hard-wired B2 of `ecm128` / `ecm_semiprime` is a table label
whose row is not a bad row. -/
theorem ecm128_arms_exact :
    (ecm128B2s.all fun b2 => match Stage2.stage2Select b2 1 with
      | some r => r.1 == b2 && decide (b2 ≤ ecm128Eff r.2.1 r.2.2)
      | none => false) = true := by
  decide +kernel

/-- the label `pm1_impl` prints for `b2`: the nearest label of the P-1 table -/
def walkLabel (b2 : Nat) : Nat := match Stage2.pm1Stage2Select b2 1 with | some r => r.1 | none => 0

/-- P-1 prime walk (`b2 ≤ MULTIEVAL_THRESHOLD`): the label printed is the nearest table label, the walk
stops at the first prime above `b2`.  Full statement "label ≤ b2" fails, e.g. b2 = 50000 is printed as 60000… -/
theorem walk_reported_counter : ¬ (∀ b2, b2 ≤ Stage2.multievalThreshold → walkLabel b2 ≤ b2) := by
  intro h
  have := h 50000 (by decide)
  revert this; decide

/-- every hard-wired B2 of `pm1_quick` / `pm1_only` and of the test-suite calls of `pm1_impl` -/
def pm1B2s : List Nat :=
  (Stage2.pm1QuickArms.flatMap fun a => a.2.2.2.map fun r => r.2) ++
  (Stage2.pm1OnlyArms.flatMap fun a => a.2.2.2.map fun r => r.2) ++ Stage2Arms.pm1TestCalls.map fun r => r.2

/-- … but holds for every hard-wired `(B1, B2)` of `pm1_quick` / `pm1_only` and of the test-suite that takes the walk. -/
theorem walk_reported_arms :
    (pm1B2s.all fun b2 => decide (Stage2.multievalThreshold < b2) || decide (walkLabel b2 ≤ b2)) = true := by
  decide +kernel

/-- all (B1, B2) with which ECM is called: `ecm_auto`, `ecm_only` -/
def ecmCalls : List (Nat × Nat) :=
  (Stage2.ecmAutoArms.flatMap fun a => a.2.2.2.map fun r => (r.2.1, r.2.2)) ++ Stage2.ecmOnlyRuns.map fun r => (r.2.1, r.2.2)

def ecm128Calls : List (Nat × Nat) :=
  (Stage2.ecm128Arms.flatMap fun a => a.2.2.2.map fun r => (r.2.1, r.2.2)) ++
  Stage2.ecmSemiprimeArms.map fun a => (a.2.2.1, a.2.2.2)

def pp1CallsB : List (Nat × Nat) := Stage2Arms.pp1Calls.map fun r => (r.2.1, r.2.2)

/-- between B1 and the start of the direct cover (`d1/2`) every prime divides a grid value -/
def gapCovered (hits : Nat → Nat → Nat → Bool) (lo : Nat) (d1 d2 : Nat) : Bool :=
  (List.range' lo (d1 / 2 + 1 - lo)).all fun l => !isPrimeTD l || decide (d1 % l = 0) || hits d1 d2 l

def contiguous (hits : Nat → Nat → Nat → Bool) (strict : Bool) (c : Nat × Nat) : Bool :=
  match Stage2.stage2Select c.2 1 with
  | some r => gapCovered hits (if strict then c.1 else c.1 + 1) r.2.1 r.2.2
  | none => false

/-- `gapCovered` with the trial division of every `l > B` replaced by one gcd: a prime above `B` is coprime to `B!`.
Nothing is claimed of an `l` coprime to `B!`, it has to pass the other two tests; so the evaluation succeeds when
`(B + 1)² > d1/2`. -/
def gapCoveredGcd (hits : Nat → Nat → Nat → Bool) (B lo d1 d2 : Nat) : Bool :=
  decide (d1 < 2 ^ 64) && (List.range' lo (d1 / 2 + 1 - lo)).all fun l =>
    (if B < l then Nat.gcd l B.factorial != 1 else !isPrimeTD l) || decide (d1 % l = 0) || hits d1 d2 l

theorem gapCovered_of_gcd {hits : Nat → Nat → Nat → Bool} {B lo d1 d2 : Nat}
    (h : gapCoveredGcd hits B lo d1 d2 = true) : gapCovered hits lo d1 d2 = true := by
  simp only [gapCoveredGcd, Bool.and_eq_true, decide_eq_true_eq, List.all_eq_true] at h
  obtain ⟨hd, h⟩ := h
  unfold gapCovered
  rw [List.all_eq_true]
  intro l hl
  have hl' := h l hl
  split at hl'
  · rename_i hB
    cases hp : isPrimeTD l
    · rfl
    · have hlt : l < 2 ^ 64 := by rw [List.mem_range'_1] at hl; omega
      rw [(isPrimeTD_sound hlt hp).coprime_factorial_of_lt hB] at hl'
      exact hl'
  · exact hl'

def contiguousGcd (hits : Nat → Nat → Nat → Bool) (strict : Bool) (c : Nat × Nat) : Bool :=
  match Stage2.stage2Select c.2 1 with
  | some r => gapCoveredGcd hits (Ymq.Checked.isqrt (r.2.1 / 2)) (if strict then c.1 else c.1 + 1) r.2.1 r.2.2
  | none => false

theorem contiguous_of_gcd {hits : Nat → Nat → Nat → Bool} {strict : Bool} {calls : List (Nat × Nat)}
    (h : calls.all (contiguousGcd hits strict) = true) : calls.all (contiguous hits strict) = true := by
  rw [List.all_eq_true] at h ⊢
  intro c hc
  have hc' := h c hc
  unfold contiguousGcd at hc'
  unfold contiguous
  split at hc'
  · exact gapCovered_of_gcd hc'
  · exact hc'

/-- ECM: stage 1 covers prime powers `< B1`; every prime `l ≥ B1` below `d1/2` (not dividing d1)
divides a grid value of the selected row, so the cover is contiguous from B1 to the effective B2. -/
theorem arms_contiguous_ecm : (ecmCalls.all (contiguous ecmHits true)) = true :=
  contiguous_of_gcd (by decide +kernel)

/-- ECM128: needed for (16, 660), (40, 1080), (50, 1920) where `d1/2 > B1`. -/
theorem arms_contiguous_ecm128 : (ecm128Calls.all (contiguous ecm128Hits true)) = true :=
  contiguous_of_gcd (by decide +kernel)

/-- P+1 (test-suite calls only; primes `≤ B1` are in stage 1). -/
theorem arms_contiguous_pp1 : (pp1CallsB.all (contiguous pp1Hits false)) = true :=
  contiguous_of_gcd (by decide +kernel)

/-- every prime factor of the selected d1 is below B1 (so "l ∤ d1" holds for every stage-2 prime) -/
def d1PrimesBelow (sel : Nat → Option (Nat × Nat × Nat)) (c : Nat × Nat) : Bool :=
  match sel c.2 with
  | some r => match lookupFactors r.2.1 with
    | some fs => fs.all fun pe => decide (pe.1 < c.1)
    | none => false
  | none => false

theorem arms_d1_primes_below_b1 :
    ((ecmCalls ++ ecm128Calls ++ pp1CallsB).all (d1PrimesBelow fun b2 => Stage2.stage2Select b2 1)) = true ∧
    (((Stage2.pm1QuickArms.flatMap fun a => a.2.2.2) ++ (Stage2.pm1OnlyArms.flatMap fun a => a.2.2.2)).all
      (d1PrimesBelow fun b2 => Stage2.pm1Stage2Select b2 1)) = true := by
  constructor <;> decide +kernel

/-- trial division accepts every prime below 2^64 -/
theorem isPrimeTD_of_prime {l : Nat} (hp : l.Prime) (hl : l < 2 ^ 64) : isPrimeTD l = true := by
  unfold isPrimeTD
  have h2 := hp.two_le
  simp only [Bool.and_eq_true, decide_eq_true_eq, Bool.not_eq_true', h2, true_and]
  rw [Bool.eq_false_iff]
  intro h
  obtain ⟨k, hk, hpk⟩ := (anyBelow_iff _ _).mp h
  simp only [Bool.and_eq_true, decide_eq_true_eq, beq_iff_eq] at hpk
  obtain ⟨hk2, hdiv⟩ := hpk
  have hs := (Ymq.Checked.isqrt_spec l hl).1
  have hkl : k ∣ l := Nat.dvd_of_mod_eq_zero hdiv
  rcases (Nat.dvd_prime hp).mp hkl with h1 | h1
  · omega
  · subst h1
    have hsk : k ≤ Ymq.Checked.isqrt k := by omega
    have h5 : k * 2 ≤ Ymq.Checked.isqrt k * Ymq.Checked.isqrt k := Nat.mul_le_mul hsk (by omega)
    omega

/-- above `d1/2` the grid covers directly (`hcover`), below it the gap was decided (`hcont`); `l ∤ d1` because the prime
factors of `d1` are below `B1` (`hprimes`) -/
theorem arm_covers {hits : Nat → Nat → Nat → Bool} {eff : Nat → Nat → Nat} {calls : List (Nat × Nat)}
    (hcover : ∀ {d1 d2 l : Nat}, 6 ∣ d1 → 0 < d1 → 2 ≤ d2 → l.Prime → ¬ l ∣ d1 → d1 / 2 < l → l ≤ eff d1 d2 →
      hits d1 d2 l = true)
    (hcont : calls.all (contiguous hits true) = true)
    (hprimes : ∀ c ∈ calls, d1PrimesBelow (fun b2 => Stage2.stage2Select b2 1) c = true)
    {b1 b2 : Nat} (hc : (b1, b2) ∈ calls) {lab d1 d2 : Nat}
    (hsel : Stage2.stage2Select b2 1 = some (lab, d1, d2)) {l : Nat} (hp : l.Prime) (hlo : b1 ≤ l)
    (hhi : l ≤ eff d1 d2) : hits d1 d2 l = true := by
  have hrow : (lab, d1, d2) ∈ Stage2.ecmTable := by
    obtain ⟨row, h1, h2, _⟩ := Ymq.Checked.nearestRow_spec Stage2.ecmTable (by decide) b2 1
    unfold Stage2.stage2Select at hsel
    rw [hsel] at h1; cases h1; exact h2
  have hok := List.all_eq_true.mp rows_ok.1 _ hrow
  simp only [rowOk, Bool.and_eq_true, beq_iff_eq, decide_eq_true_eq] at hok
  obtain ⟨⟨⟨h6, hd2⟩, hd⟩, hfac⟩ := hok
  -- l does not divide d1: all prime factors of d1 are below b1
  have hnd : ¬ l ∣ d1 := by
    intro hdv
    have hprimes := hprimes _ hc
    unfold d1PrimesBelow at hprimes
    simp only [hsel] at hprimes
    unfold factorsOk at hfac
    cases hlf : lookupFactors d1 with
    | none => simp [hlf] at hfac
    | some fs =>
      simp only [hlf, Bool.and_eq_true, beq_iff_eq] at hfac hprimes
      obtain ⟨pe, hmem, heq⟩ := prime_dvd_valOf hp fs hfac.2 (by rw [hfac.1]; exact hdv)
      have := List.all_eq_true.mp hprimes pe hmem
      simp only [decide_eq_true_eq] at this
      omega
  rcases Nat.lt_or_ge (d1 / 2) l with hbig | hsmall
  · exact hcover (Nat.dvd_of_mod_eq_zero h6) hd hd2 hp hnd hbig hhi
  · -- below d1/2: the decided gap check
    have hcont := List.all_eq_true.mp hcont (b1, b2) hc
    unfold contiguous at hcont
    simp only [hsel, if_true] at hcont
    unfold gapCovered at hcont
    have hmem : l ∈ List.range' b1 (d1 / 2 + 1 - b1) := by
      rw [List.mem_range'_1]; omega
    have := List.all_eq_true.mp hcont l hmem
    -- 11741730 is the largest `d1` of `ecmTable`; what is needed is `l < 2^64` for the trial division
    have hd1le : d1 ≤ 11741730 := by
      have : (Stage2.ecmTable.all fun r => decide (r.2.1 ≤ 11741730)) = true := by decide
      simpa using List.all_eq_true.mp this _ hrow
    simp only [Bool.or_eq_true, Bool.not_eq_true', isPrimeTD_of_prime hp (by omega : l < 2 ^ 64),
      decide_eq_true_eq] at this
    rcases this with (h | h) | h
    · exact absurd h (by simp)
    · exact absurd (Nat.dvd_of_mod_eq_zero h) hnd
    · exact h

/-- ECM with a hard-wired `(B1, B2)`: **every** prime `l` with `B1 ≤ l ≤ effective B2` of the selected
row divides a value of the grid (so it is found under C17 + `ecm_hit`), whether below or above `d1/2`. -/
theorem ecm_arm_covers {b1 b2 : Nat} (hc : (b1, b2) ∈ ecmCalls) {lab d1 d2 : Nat}
    (hsel : Stage2.stage2Select b2 1 = some (lab, d1, d2)) {l : Nat} (hp : l.Prime) (hlo : b1 ≤ l)
    (hhi : l ≤ ecmEff d1 d2) : ecmHits d1 d2 l = true := by
  refine arm_covers (fun {d1 d2 l} h6 hd hd2 hp hnd hbig hhi => ?_) arms_contiguous_ecm
    (fun c hc => List.all_eq_true.mp arms_d1_primes_below_b1.1 c (List.mem_append_left _ (List.mem_append_left _ hc)))
    hc hsel hp hlo hhi
  exact std_hits (ecm_std d1 hd2) h6 hd (coprime_of_prime_not_dvd hp hnd) hbig hhi

/-- ECM128 (`ecm128`, `ecm_semiprime`) with a hard-wired `(B1, B2)` — incl. (16, 660), (40, 1080), (50, 1920) where
`d1/2 > B1`: **every** prime `l` with `B1 ≤ l ≤ effective B2` of the selected
row divides a value of the grid (so it is found under C17 + `ecm_hit`), whether below or above `d1/2`. -/
theorem ecm128_arm_covers {b1 b2 : Nat} (hc : (b1, b2) ∈ ecm128Calls) {lab d1 d2 : Nat}
    (hsel : Stage2.stage2Select b2 1 = some (lab, d1, d2)) {l : Nat} (hp : l.Prime) (hlo : b1 ≤ l)
    (hhi : l ≤ ecm128Eff d1 d2) : ecm128Hits d1 d2 l = true := by
  refine arm_covers (fun {d1 d2 l} h6 hd hd2 hp hnd hbig hhi => ?_) arms_contiguous_ecm128
    (fun c hc => List.all_eq_true.mp arms_d1_primes_below_b1.1 c (List.mem_append_left _ (List.mem_append_right _ hc)))
    hc hsel hp hlo hhi
  exact std_hits (ecm128_std d1 hd2) h6 hd (coprime_of_prime_not_dvd hp hnd) hbig hhi

/-- P-1: a prime `p` with `p − 1 ∣ E·l` (C17: `E` the stage-1 exponent, `l ≤ effective B2` the one missing
prime, `l ∤ d1`) divides the value of the polynomial `∏_r (x − g^(E·r))` at one of the evaluated points. -/
theorem pm1_found {p : Nat} (hp : p.Prime) {g : ℤ} (hg : ¬ (p : ℤ) ∣ g) {E l d1 d2 : Nat}
    (h6 : 6 ∣ d1) (hd : 0 < d1) (hl : l.Prime) (hnd : ¬ l ∣ d1) (hhi : l ≤ pm1Eff d1 d2) (hpos : 0 < pm1Eff d1 d2)
    (hE : p - 1 ∣ E * l) :
    ∃ q, pm1Deg d1 + q + 1 ≤ d2 ∧
      (p : ℤ) ∣ (((List.range (d1 + 2)).filter (isPm1Baby d1)).map (fun r => g ^ (E * (q * d1)) - g ^ (E * r))).prod := by
  obtain ⟨_, q, r, hq, hb, hm⟩ := pm1_cover h6 hd hl hnd hhi hpos
  obtain ⟨_, hr1, _⟩ := (pm1Baby_iff h6).mp hb
  refine ⟨q, hq, pm1_hit hp hg ?_ hE (Or.inl hm)⟩
  rw [List.mem_filter]
  exact ⟨List.mem_range.mpr (by omega), hb⟩

/-- P+1: the giant step and the baby step whose Lucas values meet. -/
theorem pp1_found {R : Type*} [CommRing R] {x y : R} (hxy : x * y = 1) {E l d1 d2 : Nat}
    (h6 : 6 ∣ d1) (hd : 0 < d1) (hd2 : 1 ≤ d2) (hl : l.Prime) (hnd : ¬ l ∣ d1) (hlo : d1 / 2 < l)
    (hhi : l ≤ d2 * d1 + d1 / 2 - 1) (hm1 : x ^ (E * l) = 1) :
    ∃ i b, 1 ≤ i ∧ i ≤ d2 ∧ 1 ≤ b ∧ b < d1 / 2 ∧ Nat.gcd b d1 = 1 ∧
      chebV (chebV (x + y) E) (i * d1) - chebV (chebV (x + y) E) b = 0 := by
  obtain ⟨_, i, b, h1, h2, h3, h4, h5, hm⟩ := pp1_cover h6 hd hd2 hl hnd hlo hhi
  exact ⟨i, b, h1, h2, h3, h4, h5, pp1_hit hxy hm1 hm⟩

/-- ECM: the giant step and the baby step whose coordinates meet. -/
theorem ecm_found {A Y : Type*} [AddCommGroup A] (y : A → Y) (heven : ∀ P, y (-P) = y P) {G : A} {E l d1 d2 : Nat}
    (h6 : 6 ∣ d1) (hd : 0 < d1) (hd2 : 2 ≤ d2) (hl : l.Prime) (hnd : ¬ l ∣ d1) (hlo : d1 / 2 < l)
    (hhi : l ≤ d2 * d1 + d1 / 2 - 1) (hm0 : (E * l) • G = 0) :
    ∃ i b, 1 ≤ i ∧ i ≤ d2 ∧ 1 ≤ b ∧ b < d1 / 2 ∧ Nat.gcd b d1 = 1 ∧
      y ((i * d1) • (E • G)) = y (b • (E • G)) := by
  obtain ⟨_, i, b, h1, h2, h3, h4, h5, hm⟩ := ecm_cover h6 hd hd2 hl hnd hlo hhi
  exact ⟨i, b, h1, h2, h3, h4, h5, ecm_hit y heven hm0 hm⟩

example : ecmIsGrid 66 10 659 = true ∧ ecmIsGrid 66 10 691 = true ∧ ecmIsGrid 66 10 701 = false := by decide
example : (6 ∣ 66) ∧ Nat.Prime 691 ∧ ¬ 691 ∣ 66 ∧ 66 / 2 < 691 ∧ 691 ≤ 10 * 66 + 66 / 2 - 1 := by
  refine ⟨by decide, by norm_num, by decide, by decide, by decide⟩
example : pm1Deg 120 = 33 ∧ pm1Eff 120 64 = 3599 ∧ pm1IsGrid 120 64 3593 = true ∧ pm1IsGrid 120 64 3601 = false := by
  decide +kernel
example : (5 : ZMod 11) ^ (1 * 5) = 1 ∧ (11 - 1 ∣ 2 * 5) := by decide
example : ((-1 : ZMod 7) * (-1) = 1) ∧ ((-1 : ZMod 7) ^ (4 * 2) = 1) := by decide
example : expModn (· * ·) 1 (3 : ZMod 7) 6 = some 1 := by
  rw [exp_modn_spec _ _ (by norm_num)]; decide
example : (2 ^ 70 + 5 < 2 ^ 1024) ∧ expModnLarge (· * ·) 1 (1 : ZMod 7) (2 ^ 70 + 5) = some 1 := by
  have h : 2 ^ 70 + 5 < 2 ^ 1024 :=
    lt_of_lt_of_le (show 2 ^ 70 + 5 < 2 ^ 71 by norm_num) (Nat.pow_le_pow_right (by decide) (by decide))
  exact ⟨h, by rw [exp_modn_large_spec _ _ h, one_pow]⟩
example : chebV (3 : ZMod 7) 4 = 5 := by decide
example : gcdFactors 1001 [1, 7, 7, 77, 1001] (fun _ => false) = some ([7, 11, 13], 1) := by decide
example : CgfInv 1001 ⟨[7], 143, [2, 11, 11]⟩ ∧
    checkGcdFactors 1001 (fun _ => true) ⟨[7], 143, [2, 11, 11]⟩ = some (true, ⟨[7, 11], 13, [2, 11, 11]⟩) := by
  refine ⟨⟨by decide, by decide, by decide, by decide⟩, by decide⟩
example : pm1PolyStep 1001 (fun _ => false) ⟨[], 1001, [1, 1001]⟩ = some none ∧
    pm1PolyStep 1001 (fun _ => false) ⟨[], 1001, [1, 7]⟩ = some (some ⟨[7], 143, []⟩) := by decide
example : checkGcdFactor 1001 [1, 7, 7, 77] (fun _ => false) = some (some 11) := by decide
example : rhoImplResult 1001 [1, 7, 77] (fun _ => false) = some (some ([7, 11], 13)) := by decide
example : ynorm (· * ·) [((2 : ZMod 7), (3 : ZMod 7)), (4, 5), (6, 1)] = [(2 * 5 * 1, 3), (4 * 3 * 1, 5), (6 * 3 * 5, 1)] := by
  decide
example : pm1baseTested Stage2Arms.pm1base [503, 509, 521, 523] 1003 = some [503, 509, 521] := by decide
example : guard 15 (Nat.gcd 15 9) = some (3, 5) := by decide
example : ReportedLeEffective [(660, 66, 10)] ecmEff := by
  intro r hr; simp only [List.mem_singleton] at hr; subst hr; decide

end Ymq.C16
