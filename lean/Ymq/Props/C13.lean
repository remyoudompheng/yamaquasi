/-
C13 — sieve reports list every factor-base prime dividing each candidate.
Only property theorems live here (helper lemmas: Ymq/Lemmas/Sieve*.lean); all of them are about the
executable model Ymq/Model/Sieve.lean of src/sieve.rs and of `fbase::cofactor`.

Reading guide.
* `FB.WF fb` = what `FBase::new` guarantees about the fields the sieve reads: primes strictly
  increasing, in `[2, 2^24)`, `idx_by_log[l]` = index of the first prime of bit length ≥ l
  (`FB.ofPrimes_WF`: the factor bases `FB.ofPrimes ps` used by the correspondence check satisfy it).
  `RootsOK fb r1 r2` = both root tables are reduced (`r < p`; property C12 for the callers).
  `RecycledOK rec` = the `overflows` field of a recycled `SieveTable` has its 32 slots (a Rust type
  invariant: `[(u16, u8); 32]`); the CONTENTS of recycled tables are arbitrary.
* A prime with a single root has `r1 = r2`; the sieve then stores the marker `OFFSET_NONE = 0xffff` in
  the second cursor slot. Cursor slot `2i` belongs to root `r1[i]`, slot `2i+1` to `r2[i]`.
* `f … = some x` means: the Rust routine returns `x` without reaching a panic site (assert,
  debug_assert, overflow check, index check) or an out-of-bounds `get_unchecked`, in either profile.
  `no_panic` proves this for the whole pipeline `new; (sieve_block; next_block)^b; sieve_block; factor
  recovery at any position` on valid inputs (fresh or recycled tables); the other theorems say what is returned.
  The theorems of this file quantify over every position `r` of the block; WHICH positions are reported (log
  accumulation, thresholds, u8 accumulators) is modelled in Ymq/Model/SieveLog.lean, theorems in Props/C13Log.lean.
* `Dividers::{modu16, modi64, divmod_uint}` are exact (`%`, `/`) by property C08
  (`Ymq.C08.modu16_spec`, `modi64_spec`); the u16/u32 arithmetic around them is explicit in the model.
-/
import Ymq.Lemmas.SieveRounds
import Ymq.Lemmas.SieveCofactor
import Ymq.Lemmas.SieveFBase
import Ymq.Lemmas.SieveLogSum

namespace Ymq.C13
open Ymq.Sieve

/-- `cursor_inv`. After `Sieve::new` and `b` rounds of `sieve_block(); next_block()`, the cursor of a
small prime `p < 32768` (index `i`) and root `o` is `c = (o − b·32768) mod p`, reduced (`c < p`):
in the code's representation `(c + b·32768) % p = o`. A missing second root (`r1[i] = r2[i]`) is still
`OFFSET_NONE` (for the primes that are sieved, i.e. cursor index ≥ `idxskip`). Bookkeeping: `blk_no = b`,
`offset = start + b·32768`. Holds for fresh and for recycled tables. -/
theorem cursor_inv (fb : FB) (hfb : fb.WF) (r1 r2 : Array Nat) (hr : RootsOK fb r1 r2)
    (offset : Int) (nblocks : Nat) (recycled : Option (Array Table × Array LTable)) (hrec : RecycledOK recycled)
    (s0 : State) (h0 : Sieve.new offset nblocks fb r1 r2 recycled = some s0)
    (b : Nat) (s : State) (h1 : runBlocks fb b s0 = some s)
    (i p o1 o2 : Nat) (hp : fb.primes[i]? = some p) (hpB : p < 32768)
    (ho1 : r1[i]? = some o1) (ho2 : r2[i]? = some o2) :
    s.blkNo = b ∧ s.offset = offset + b * 32768 ∧
    (∃ c, s.lo[2 * i]? = some c ∧ c < p ∧ (c + b * 32768) % p = o1 ∧
      (c : Int) = ((o1 : Int) - (b : Int) * 32768) % (p : Int)) ∧
    (o1 ≠ o2 → ∃ c, s.lo[2 * i + 1]? = some c ∧ c < p ∧ (c + b * 32768) % p = o2 ∧
      (c : Int) = ((o2 : Int) - (b : Int) * 32768) % (p : Int)) ∧
    (o1 = o2 → s.idxskip ≤ 2 * i + 1 → s.lo[2 * i + 1]? = some NONE) := by
  obtain ⟨nS, hnS⟩ := hfb.ibl_some 16 (by omega)
  obtain ⟨b0, n0, f0, inv0⟩ := new_spec hfb hr hrec hnS h0
  obtain ⟨inv, bk, _, off, _⟩ := runBlocks_spec hfb hnS b 0 s0 s inv0 h1
  simp only [Nat.zero_add] at inv
  have hi : i < nS := (hfb.ibl_spec 16 i nS p hnS hp).2 ((bitlen_lt_succ_iff p 15).2 (by simpa using hpB))
  obtain ⟨a1, a2, c, h1', h2', hc, hlt, hinv, hlive, hdead⟩ := inv.cur.pair (by omega) hp
  rw [ho1] at h1'; rw [ho2] at h2'
  cases h1'; cases h2'
  refine ⟨by rw [bk, b0]; simp, by rw [off, f0]; simp [BLOCK],
    ⟨c, hc, hlt, by simpa [BLOCK] using hinv, cursor_int hlt hinv⟩, fun hne => ?_, fun heq hge => hdead heq hge⟩
  obtain ⟨c', hc', hlt', hinv'⟩ := hlive hne
  exact ⟨c', hc', hlt', by simpa [BLOCK] using hinv', cursor_int hlt' hinv'⟩

/-- non-vacuity of `cursor_inv`: a factor base crossing the `idxskip` boundary, a single-root prime,
two blocks. -/
example : ((Sieve.new 0 2 (FB.ofPrimes #[2, 3, 5, 7, 11]) #[0, 1, 2, 3, 4] #[1, 2, 2, 5, 9] none).bind
      (runBlocks (FB.ofPrimes #[2, 3, 5, 7, 11]) 2)).map (fun s => (s.lo, s.blkNo)) =
    some (#[0, 1, 0, 1, 1, 65535, 1, 3, 6, 0], 2) := by
  decide +kernel

/-- `small_recovery`. The tests `smooths` applies to a reported position `r < 32768` of block `b`, for a
cursor `c` that satisfies the cursor invariant, hold exactly when `b·32768 + r ≡ o (mod p)`:
`modu16(r) == c` for every `p` (used for `p < 2^14`), and `r == c || r == c + p` for `2^14 ≤ p < 2^15`,
where `c + p` does not overflow `u16`; the marker `OFFSET_NONE` matches no position. -/
theorem small_recovery (p c b o r : Nat) (hc : c < p) (hinv : (c + b * 32768) % p = o) (hr : r < 32768) :
    (r % p = c ↔ (b * 32768 + r) % p = o) ∧
    (16384 ≤ p → p < 32768 →
      (((r = c ∨ r = c + p % 65536) ↔ (b * 32768 + r) % p = o) ∧ c + p < 65536)) ∧
    (r % p ≠ NONE ∨ p > 65535) ∧ r ≠ NONE ∧ r ≠ NONE + p % 65536 := by
  refine ⟨recover_small hc (by simpa [BLOCK] using hinv), ?_, ?_, by unfold NONE; omega, by unfold NONE; omega⟩
  · intro h14 h15
    rw [Nat.mod_eq_of_lt (by omega : p < 65536)]
    have hm := recover_mid (B := b) (r := r) hc (by simp only [BLOCK]; omega) (by simp only [BLOCK]; exact hr)
      (by simp only [BLOCK]; exact hinv)
    simp only [BLOCK] at hm
    exact ⟨hm, by omega⟩
  · by_cases hp : p > 65535
    · exact Or.inr hp
    · left
      have : r % p < p := Nat.mod_lt _ (by omega)
      unfold NONE; omega

example : (5 + 3 * 32768) % 16411 = 98309 % 16411 ∧ (5 : Nat) < 16411 := by decide

/-- `table_recovery` (size classes 16..18). After any sequence of `add(offset, pidx)` on a well-formed
table (`Table.new`, or any table after `reset`), every added pair is returned by the lookup of `smooths`
at its position, except for the pairs of a list `lost` whose length is exactly the number of overflows
counted beyond the 32 overflow slots (`n_overflows − 32`, truncated at 0): nothing is lost while
`n_overflows ≤ 32`. -/
theorem table_recovery (t0 t : Table) (hwf : t0.WF) (h0 : t0.nOverflows = 0) (adds : List (Nat × Nat))
    (h : adds.foldlM (fun t a => t.add a.1 a.2) t0 = some t) :
    ∃ lost : List (Nat × Nat), lost.length = t.nOverflows - 32 ∧
      ∀ a ∈ adds, a ∈ lost ∨
        ∀ blkNo r l, a.1 = blkNo * 32768 + r → r < 32768 → t.lookup (blkNo * 32768) r = some l →
          a.2 % 256 ∈ l ∧ ∀ idx1 idx2, idx1 ≤ a.2 → a.2 < idx2 → a.2 ∈ candidates idx1 idx2 (a.2 % 256) := by
  obtain ⟨w, lost, hlen, hc⟩ := (Store.Covers.empty (S := tableStore) hwf (by simp [tableStore, h0])).fold h
  refine ⟨lost, hlen, fun a ha => ?_⟩
  rcases hc a (Or.inr ha) with hh | hl
  · right
    change t.Has a.1 (a.2 % 256) at hh
    intro blkNo r l ha1 hr hl
    refine ⟨?_, fun idx1 idx2 h1 h2 => mem_candidates h1 h2⟩
    have hh' : t.Has (blkNo * BLOCK + r) (a.2 % 256) := by simpa [BLOCK, ← ha1] using hh
    exact Table.lookup_of_has w (by simpa [BLOCK] using hr) (by simpa [BLOCK] using hl) hh'
  · exact Or.inl hl

/-- `table_recovery` (size classes ≥ 19): `SieveTableLarge` never loses an entry (its overflow vector
is unbounded and searched for every reported position). -/
theorem large_table_recovery (t0 t : LTable) (hwf : t0.WF) (adds : List (Nat × Nat))
    (h : adds.foldlM (fun t a => t.add a.1 a.2) t0 = some t) :
    ∀ a ∈ adds, ∀ blkNo r l, a.1 = blkNo * 32768 + r → r < 32768 → t.lookup blkNo r = some l →
      a.2 % 65536 ∈ l ∧ ∀ len, a.2 < len → a.2 ∈ lcandidates len (a.2 % 65536) := by
  obtain ⟨_, lost, hlen, hc⟩ := (Store.Covers.empty (S := ltableStore) hwf rfl).fold h
  cases List.eq_nil_of_length_eq_zero hlen
  intro a ha blkNo r l ha1 hr hl
  refine ⟨?_, fun len hlen => mem_lcandidates hlen⟩
  have hh : t.Has a.1 (a.2 % 65536) := (hc a (Or.inr ha)).resolve_right (by simp)
  rw [ha1] at hh
  exact LTable.lookup_of_has (by simpa [BLOCK] using hr) hl (by simpa [BLOCK] using hh)

/-- non-vacuity: 34 adds into one bucket of a fresh table: 32 in the bucket, 2 in overflow slots. -/
example : (do
      let t ← ((List.range 34).map fun k => (k, 300 + k)).foldlM (fun (t : Table) (a : Nat × Nat) => t.add a.1 a.2) (Table.new 1)
      let l ← t.lookup 0 33
      some (t.nOverflows, l)) = some (2, [77]) := by
  decide +kernel

/-- `recycled_clean`. `reset` only clears the counters, yet (1) right after `reset` every lookup is empty
whatever the arrays still contain, and (2) after `reset` and any sequence of adds, every pair the lookup
can see was added after the reset (bucket lengths and `n_overflows` are the only source of truth).
Same for `SieveTableLarge`. The recycled path of `Sieve::new` is covered by `listed_complete`, which holds
for arbitrary recycled contents. -/
theorem recycled_clean (t : Table) (hsz : t.overflows.size = 32) :
    (∀ base r l, t.reset.lookup base r = some l → l = []) ∧
    (∀ (adds : List (Nat × Nat)) (t' : Table), adds.foldlM (fun t a => t.add a.1 a.2) t.reset = some t' →
      ∀ off p8, t'.Has off p8 → ∃ a ∈ adds, off % 32768 = a.1 % 32768 ∧ p8 = a.2 % 256) ∧
    (∀ (lt : LTable),
      (∀ blkNo r l, lt.reset.lookup blkNo r = some l → l = []) ∧
      (∀ (adds : List (Nat × Nat)) (lt' : LTable), adds.foldlM (fun t a => t.add a.1 a.2) lt.reset = some lt' →
        ∀ off p16, lt'.Has off p16 → ∃ a ∈ adds, off % 32768 = a.1 % 32768 ∧ p16 = a.2 % 65536)) := by
  refine ⟨fun base r l h => Table.reset_lookup t base r l h, ?_, ?_⟩
  · intro adds t' h off p8 hh
    rcases (Store.fold_sound (S := tableStore) (Table.reset_WF t hsz) h).2 off p8 hh with h1 | h1
    · exact absurd h1 (Table.reset_not_has t off p8)
    · simpa [BLOCK, tableStore] using h1
  · intro lt
    refine ⟨fun blkNo r l h => LTable.reset_lookup lt blkNo r l h, ?_⟩
    intro adds lt' h off p16 hh
    rcases (Store.fold_sound (S := ltableStore) (LTable.reset_WF lt) h).2 off p16 hh with h1 | h1
    · exact absurd h1 (LTable.reset_not_has lt off p16)
    · simpa [BLOCK, ltableStore] using h1

/-- non-vacuity: a table with a stale entry and stale bucket contents shows nothing after `reset`. -/
example : (do
      let t ← (Table.new 1).add 5 7
      some (t.lookup 0 5, t.reset.lookup 0 5, t.reset.entries[0]?)) = some (some [7], some [], some (5, 7)) := by
  decide +kernel

/-- the factor lists are complete in a state satisfying the invariant (general form: covers `new`,
recycled tables and `rehash`). `B` = blocks sieved since `new` (cursors, roots `rS`), `s.blkNo` = block
number inside the interval registered in the bucket tables (roots `rL`). -/
theorem listed_complete_inv {fb : FB} {nS B : Nat} {rS1 rS2 rL1 rL2 : Array Nat} {s1 s : State}
    (hfb : fb.WF) (hnS : fb.ibl[16]? = some nS) (hinv : Inv fb nS rS1 rS2 rL1 rL2 B s1)
    (hblk : s1.blkNo < s1.nblocks) (hN : s1.nblocks ≤ 2 ^ 17) (h2 : sieveBlock fb s1 = some s) :
    ∃ lost : Nat → List (Nat × Nat),
      (∀ (ti : Nat) (t : Table), s.tables[ti]? = some t → (lost ti).length = t.nOverflows - 32) ∧
      ∀ r, r < 32768 → ∀ facs, factorsOf fb s rL1 rL2 r = some facs →
        ∀ pidx p o, fb.primes[pidx]? = some p →
          ((p < 32768 → (rS1[pidx]? = some o ∨ rS2[pidx]? = some o) → (B * 32768 + r) % p = o → pidx ∈ facs) ∧
           (32768 ≤ p → (rL1[pidx]? = some o ∨ rL2[pidx]? = some o) → (s1.blkNo * 32768 + r) % p = o →
              pidx ∈ facs ∨ (16 ≤ bitlen p ∧ bitlen p ≤ 18 ∧
                (s1.blkNo * 32768 + r, pidx % 2 ^ 32) ∈ lost (bitlen p - 16)))) := by
  obtain ⟨_, hprev, hb, hn, _, htab, hltab, _⟩ := sieveBlock_spec hfb hnS hinv h2
  have htabs := hinv.tabs
  rw [← htab, ← hltab, ← hn] at htabs
  have htsize := hinv.tsize
  rw [← htab, ← hltab] at htsize
  -- one `lost` list per size-class table
  have hex : ∀ ti : Nat, ∃ lost : List (Nat × Nat), ∀ t : Table, s.tables[ti]? = some t →
      lost.length = t.nOverflows - 32 ∧ ∀ pidx p x, fb.primes[pidx]? = some p → bitlen p = ti + 16 →
        IsHit fb rL1 rL2 (s.nblocks * BLOCK) pidx x → t.Has x (pidx % 256) ∨ (x, pidx % 2 ^ 32) ∈ lost := by
    intro ti
    cases ht : s.tables[ti]? with
    | none => exact ⟨[], fun t h => by simp at h⟩
    | some t =>
      obtain ⟨_, lost, hl, hc⟩ := htabs.table ht
      exact ⟨lost, fun t' h' => by rw [← Option.some.inj h']; exact ⟨hl, hc⟩⟩
  choose lost hlost using hex
  refine ⟨lost, fun ti t ht => (hlost ti t ht).1, ?_⟩
  intro r hr facs hf pidx p o hp
  have hblk' : s.blkNo < 2 ^ 17 := by rw [hb]; omega
  obtain ⟨c1, c2, c3⟩ := factorsOf_complete hfb hnS hprev htsize hblk' (by simpa [BLOCK] using hr) hf hp
  refine ⟨fun hpB hroot hx => c1 (by simpa [BLOCK] using hpB) o hroot (by simpa [BLOCK] using hx), ?_⟩
  intro hpB hroot hx
  obtain ⟨maxprime, hmax, hts, hls⟩ := htsize
  have hpm := bitlen_mono (hfb.le_back hp hmax)
  have h16 : 16 ≤ bitlen p := by
    by_contra hc
    have := (bitlen_lt_succ_iff p 15).1 (by omega)
    omega
  have hx' : (s.blkNo * BLOCK + r) % p = o := by rw [hb]; simpa [BLOCK] using hx
  have hp0 := hfb.ge2 _ _ hp
  have hhit : IsHit fb rL1 rL2 (s.nblocks * BLOCK) pidx (s.blkNo * BLOCK + r) := by
    refine IsHit.of_mod hp hroot ?_ hx'
    rw [hb, hn]
    have : (s1.blkNo + 1) * BLOCK ≤ s1.nblocks * BLOCK := Nat.mul_le_mul_right _ hblk
    simp only [BLOCK] at this ⊢; omega
  by_cases h18 : bitlen p ≤ 18
  · have hti : bitlen p - 16 < s.tables.size := by omega
    obtain ⟨hwf, _⟩ := htabs.table (Array.getElem?_eq_getElem hti)
    rcases (hlost _ _ (Array.getElem?_eq_getElem hti)).2 pidx p _ hp (by omega) hhit with hh | hl
    · exact Or.inl (c2 _ _ (Array.getElem?_eq_getElem hti) hwf (by omega) o hroot hx' hh)
    · right
      refine ⟨h16, h18, ?_⟩
      rw [hb] at hl
      simpa [BLOCK] using hl
  · have hli : bitlen p - 19 < s.ltables.size := by omega
    have hh := (htabs.ltable (Array.getElem?_eq_getElem hli)).2 pidx p _ hp (by omega) hhit
    exact Or.inl (c3 _ _ (Array.getElem?_eq_getElem hli) (by omega) o hroot hx' hh)

/-- `listed_complete`. After `Sieve::new` (fresh or recycled tables with ARBITRARY contents), `b < nblocks`
rounds of `sieve_block(); next_block()` and one more `sieve_block()`, the factor list `smooths` attaches to
ANY position `r` of the block contains every factor-base prime index `pidx` such that
`b·32768 + r ≡ o (mod p)` for one of its two roots `o` — except, for the size classes 16..18, the pairs of
a list `lost ti` whose length is the counted overflow excess `n_overflows − 32` of the table of the class.
Primes below 32768 and primes of bit length ≥ 19 are never missed. -/
theorem listed_complete (fb : FB) (hfb : fb.WF) (r1 r2 : Array Nat) (hr : RootsOK fb r1 r2)
    (offset : Int) (nblocks : Nat) (hN : nblocks ≤ 2 ^ 17)
    (recycled : Option (Array Table × Array LTable)) (hrec : RecycledOK recycled)
    (s0 : State) (h0 : Sieve.new offset nblocks fb r1 r2 recycled = some s0)
    (b : Nat) (hb : b < nblocks) (s1 : State) (h1 : runBlocks fb b s0 = some s1)
    (s : State) (h2 : sieveBlock fb s1 = some s) :
    ∃ lost : Nat → List (Nat × Nat),
      (∀ (ti : Nat) (t : Table), s.tables[ti]? = some t → (lost ti).length = t.nOverflows - 32) ∧
      ∀ r, r < 32768 → ∀ facs, factorsOf fb s r1 r2 r = some facs →
        ∀ pidx p o, fb.primes[pidx]? = some p → (r1[pidx]? = some o ∨ r2[pidx]? = some o) →
          (b * 32768 + r) % p = o →
          pidx ∈ facs ∨ (16 ≤ bitlen p ∧ bitlen p ≤ 18 ∧ (b * 32768 + r, pidx % 2 ^ 32) ∈ lost (bitlen p - 16)) := by
  obtain ⟨nS, hnS⟩ := hfb.ibl_some 16 (by omega)
  obtain ⟨b0, n0, _, inv0⟩ := new_spec hfb hr hrec hnS h0
  obtain ⟨inv, bk, nb, _⟩ := runBlocks_spec hfb hnS b 0 s0 s1 inv0 h1
  simp only [Nat.zero_add] at inv
  have hbk : s1.blkNo = b := by rw [bk, b0]; simp
  obtain ⟨lost, hl, hc⟩ := listed_complete_inv hfb hnS inv (by rw [hbk, nb, n0]; exact hb)
    (by rw [nb, n0]; exact hN) h2
  refine ⟨lost, hl, ?_⟩
  intro r hr' facs hf pidx p o hp hroot hx
  obtain ⟨c1, c2⟩ := hc r hr' facs hf pidx p o hp
  by_cases hpB : p < 32768
  · exact Or.inl (c1 hpB hroot hx)
  · rw [hbk] at c2
    exact c2 (by omega) hroot hx

/-- `listed_complete` for the classical quadratic sieve, ANY number of `rehash` calls: the caller sieves a
full interval (`nblocks` rounds), shifts the roots by the interval length and calls `rehash`, again and
again (`rehashRounds fb nblocks rs`, one root table of `rs` per `rehash`, `rs ≠ []`). The cursors of the
small primes run on from the roots `r1`, `r2` given to `new` (`rs.length·nblocks + b` blocks since `new`);
the bucket tables hold the roots `(r1', r2')` of the LAST `rehash` (block number `b` inside the current
interval). No hypothesis relates the tables of `rs` to each other or to `r1`, `r2` (the caller's shift
`r' = (r − nblocks·32768) mod p` makes the two congruences below the same one). -/
theorem listed_complete_rehash (fb : FB) (hfb : fb.WF) (r1 r2 : Array Nat) (hr : RootsOK fb r1 r2)
    (offset : Int) (nblocks : Nat) (hN : nblocks ≤ 2 ^ 17)
    (recycled : Option (Array Table × Array LTable)) (hrec : RecycledOK recycled)
    (rs : List (Array Nat × Array Nat)) (hrs : rs ≠ []) (r1' r2' : Array Nat)
    (hlast : rs.getLast? = some (r1', r2'))
    (s0 sb : State) (h0 : Sieve.new offset nblocks fb r1 r2 recycled = some s0)
    (hb : rehashRounds fb nblocks rs s0 = some sb)
    (b : Nat) (hbn : b < nblocks) (s1 : State) (h1 : runBlocks fb b sb = some s1)
    (s : State) (h2 : sieveBlock fb s1 = some s) :
    ∃ lost : Nat → List (Nat × Nat),
      (∀ (ti : Nat) (t : Table), s.tables[ti]? = some t → (lost ti).length = t.nOverflows - 32) ∧
      ∀ r, r < 32768 → ∀ facs, factorsOf fb s r1' r2' r = some facs →
        ∀ pidx p o, fb.primes[pidx]? = some p →
          ((p < 32768 → (r1[pidx]? = some o ∨ r2[pidx]? = some o) →
              ((rs.length * nblocks + b) * 32768 + r) % p = o → pidx ∈ facs) ∧
           (32768 ≤ p → (r1'[pidx]? = some o ∨ r2'[pidx]? = some o) → (b * 32768 + r) % p = o →
              pidx ∈ facs ∨ (16 ≤ bitlen p ∧ bitlen p ≤ 18 ∧
                (b * 32768 + r, pidx % 2 ^ 32) ∈ lost (bitlen p - 16)))) := by
  obtain ⟨nS, hnS⟩ := hfb.ibl_some 16 (by omega)
  obtain ⟨_, n0, _, inv0⟩ := new_spec hfb hr hrec hnS h0
  obtain ⟨invb, nb, bkb, _⟩ := rehashRounds_spec hfb hnS rs (r1, r2) 0 s0 sb inv0 n0 hb
  have hl : lastRoots rs (r1, r2) = (r1', r2') := by simp [lastRoots, hlast]
  rw [hl] at invb
  obtain ⟨inv, bk, n1, _⟩ := runBlocks_spec hfb hnS b _ sb s1 invb h1
  simp only [Nat.zero_add] at inv
  have hbk : s1.blkNo = b := by rw [bk, bkb hrs]; simp
  have hn1 : s1.nblocks = nblocks := by rw [n1, nb]
  obtain ⟨lost, hlo, hc⟩ := listed_complete_inv hfb hnS inv (by rw [hbk, hn1]; exact hbn)
    (by rw [hn1]; exact hN) h2
  refine ⟨lost, hlo, ?_⟩
  intro r hr' facs hf pidx p o hp
  have := hc r hr' facs hf pidx p o hp
  rw [hbk] at this
  exact this

/-- test vectors, not a property: on the factor base `#[2, 5, 32771]` (one prime of size class 16), the state after two
`rehash` rounds, and the factor lists at positions 7 and 3 of the first block. -/
theorem vectors_class16 :
    (((Sieve.new 0 1 (FB.ofPrimes #[2, 5, 32771]) #[0, 3, 7] #[1, 4, 100] none).bind
        (rehashRounds (FB.ofPrimes #[2, 5, 32771]) 1 [(#[0, 0, 10], #[1, 1, 103]), (#[0, 2, 13], #[1, 3, 106])])).map
        (fun s => (s.blkNo, s.lo)) = some (0, #[0, 1, 2, 3])) ∧
    ((do
        let s0 ← Sieve.new 0 1 (FB.ofPrimes #[2, 5, 32771]) #[0, 3, 7] #[1, 4, 100] none
        let s ← sieveBlock (FB.ofPrimes #[2, 5, 32771]) s0
        some (factorsOf (FB.ofPrimes #[2, 5, 32771]) s #[0, 3, 7] #[1, 4, 100] 7,
              factorsOf (FB.ofPrimes #[2, 5, 32771]) s #[0, 3, 7] #[1, 4, 100] 3)) = some (some [0, 2], some [0, 1])) := by
  decide +kernel

/-- non-vacuity of `listed_complete_rehash`: two `rehash` rounds on a base with a prime of size class 16. -/
example : ((Sieve.new 0 1 (FB.ofPrimes #[2, 5, 32771]) #[0, 3, 7] #[1, 4, 100] none).bind
      (rehashRounds (FB.ofPrimes #[2, 5, 32771]) 1 [(#[0, 0, 10], #[1, 1, 103]), (#[0, 2, 13], #[1, 3, 106])])).map
      (fun s => (s.blkNo, s.lo)) = some (0, #[0, 1, 2, 3])  :=
  vectors_class16.1

/-- non-vacuity of `listed_complete`: one prime of size class 16 (two roots), one block: position 7 lists
prime index 2 (= 32771, root 7), position 3 lists index 1 (= 5, root 3). -/
example : (do
      let s0 ← Sieve.new 0 1 (FB.ofPrimes #[2, 5, 32771]) #[0, 3, 7] #[1, 4, 100] none
      let s ← sieveBlock (FB.ofPrimes #[2, 5, 32771]) s0
      some (factorsOf (FB.ofPrimes #[2, 5, 32771]) s #[0, 3, 7] #[1, 4, 100] 7,
            factorsOf (FB.ofPrimes #[2, 5, 32771]) s #[0, 3, 7] #[1, 4, 100] 3)) = some (some [0, 2], some [0, 1]) :=
  vectors_class16.2

example : (FB.ofPrimes #[2, 5, 32771]).WF ∧ RootsOK (FB.ofPrimes #[2, 5, 32771]) #[0, 3, 7] #[1, 4, 100] ∧
    RecycledOK none := by
  refine ⟨FB.ofPrimes_WF _ (by decide) (by decide), ?_, fun _ _ h => by simp at h⟩
  intro i p hp
  have hi : i < 3 := (Array.getElem?_eq_some_iff.1 hp).1
  have : i = 0 ∨ i = 1 ∨ i = 2 := by omega
  rcases this with rfl | rfl | rfl <;> simp [FB.ofPrimes] at hp <;> subst hp <;> simp

/-- `no_panic`. On valid inputs — well-formed non-empty factor base, reduced roots, two different roots for
every prime ≥ 32768 (the debug assertion of `new`), at most 2^17 blocks (interval ≤ 2^32), a start offset
within ±2^62, fresh tables OR recycled tables of a sieve with the same factor base and number of blocks
(arbitrary contents) — no panic site of the modelled code is reached: `Sieve::new` returns, and for every
block `b < nblocks` the `b` rounds `sieve_block(); next_block()`, the next `sieve_block()`, the factor
recovery of `smooths` at EVERY position of the block and the following `next_block()` all return
(no underflow in `len - p - m`, no `u16`/`u32` overflow, every checked index and every `get_unchecked`
index in range, all loops terminate). The tables of every state reached can be recycled again
(`RecycledSized … (some (recycle s2))`), so the statement chains over any number of polynomials. -/
theorem no_panic (fb : FB) (hfb : fb.WF) (hne : fb.primes.size ≠ 0) (r1 r2 : Array Nat)
    (hr : RootsOK fb r1 r2) (hd : RootsDistinct fb r1 r2) (offset : Int) (ho1 : -2 ^ 62 ≤ offset)
    (ho2 : offset ≤ 2 ^ 62) (nblocks : Nat) (hN : nblocks ≤ 2 ^ 17)
    (recycled : Option (Array Table × Array LTable)) (hrec : RecycledSized fb nblocks recycled) :
    ∃ s0, Sieve.new offset nblocks fb r1 r2 recycled = some s0 ∧
      RecycledSized fb nblocks (some (recycle s0)) ∧
      ∀ b, b < nblocks → ∃ s1 s s2, runBlocks fb b s0 = some s1 ∧ sieveBlock fb s1 = some s ∧
        (∀ r, r < 32768 → ∃ facs, factorsOf fb s r1 r2 r = some facs) ∧ nextBlock s = some s2 ∧
        RecycledSized fb nblocks (some (recycle s2)) := by
  obtain ⟨nS, hnS⟩ := hfb.ibl_some 16 (by omega)
  obtain ⟨s0, h0, hsz0, _⟩ := new_total' (offset := offset) hfb hne hr hd hN hnS hrec
  obtain ⟨b0, n0, f0, inv0⟩ := new_spec hfb hr hrec.ok hnS h0
  refine ⟨s0, h0, recycle_sized inv0 hsz0, ?_⟩
  intro b hb
  have hb17 : (b : Int) < 2 ^ 17 := by exact_mod_cast (by omega : b < 2 ^ 17)
  obtain ⟨s1, s, s2, h1, h2, h3, h4, inv2, sz2, _⟩ := run_some hfb hnS hr hN b 0 s0 inv0 hsz0
    (by rw [b0]; omega) (by rw [f0]; omega)
  exact ⟨s1, s, s2, h1, h2, h4, h3, recycle_sized inv2 sz2⟩

/-- `no_panic` for the classical quadratic sieve, any number of `rehash` calls: after every full interval,
`rehash` with ANY reduced root table returns (it has no assertion on the roots), and so do the blocks of
the following interval, their factor recovery and `next_block`, as long as the running offset stays inside
`i64` (`(rs.length + 1)·nblocks ≤ 2^40` blocks). -/
theorem no_panic_rehash (fb : FB) (hfb : fb.WF) (hne : fb.primes.size ≠ 0) (r1 r2 : Array Nat)
    (hr : RootsOK fb r1 r2) (hd : RootsDistinct fb r1 r2)
    (rs : List (Array Nat × Array Nat)) (hrs : ∀ r ∈ rs, RootsOK fb r.1 r.2)
    (offset : Int) (ho1 : -2 ^ 62 ≤ offset) (ho2 : offset ≤ 2 ^ 62) (nblocks : Nat) (hN : nblocks ≤ 2 ^ 17)
    (hrounds : (rs.length + 1) * nblocks ≤ 2 ^ 40)
    (recycled : Option (Array Table × Array LTable)) (hrec : RecycledSized fb nblocks recycled) :
    ∃ s0 sb, Sieve.new offset nblocks fb r1 r2 recycled = some s0 ∧ rehashRounds fb nblocks rs s0 = some sb ∧
      ∀ b, b < nblocks → ∃ s1 s s2, runBlocks fb b sb = some s1 ∧ sieveBlock fb s1 = some s ∧
        (∀ r, r < 32768 → ∃ facs,
          factorsOf fb s (lastRoots rs (r1, r2)).1 (lastRoots rs (r1, r2)).2 r = some facs) ∧
        nextBlock s = some s2 := by
  obtain ⟨nS, hnS⟩ := hfb.ibl_some 16 (by omega)
  obtain ⟨s0, h0, hsz0, _⟩ := new_total' (offset := offset) hfb hne hr hd hN hnS hrec
  obtain ⟨b0, n0, f0, inv0⟩ := new_spec hfb hr hrec.ok hnS h0
  have hR : ((rs.length * nblocks : Nat) : Int) + (nblocks : Int) ≤ 2 ^ 40 := by
    have : rs.length * nblocks + nblocks ≤ 2 ^ 40 := by
      have e : (rs.length + 1) * nblocks = rs.length * nblocks + nblocks := by ring
      omega
    exact_mod_cast this
  have hnn : (0 : Int) ≤ (nblocks : Int) := by positivity
  obtain ⟨sb, hb, szb, ofb, bkb⟩ := rehashRounds_some hfb hnS rs (r1, r2) 0 s0 hrs inv0 hsz0 b0
    (by rw [f0]; omega)
  obtain ⟨invb, _, _, _⟩ := rehashRounds_spec hfb hnS rs (r1, r2) 0 s0 sb inv0 n0 hb
  have hlr : RootsOK fb (lastRoots rs (r1, r2)).1 (lastRoots rs (r1, r2)).2 := by
    unfold lastRoots
    cases hl : rs.getLast? with
    | none => simpa using hr
    | some x => simpa using hrs x (List.mem_of_getLast? hl)
  refine ⟨s0, sb, h0, hb, ?_⟩
  intro b hbn
  have hb17 : (b : Int) < (nblocks : Int) := by exact_mod_cast hbn
  obtain ⟨s1, s, s2, h1, h2, h3, h4, _⟩ := run_some hfb hnS hlr hN b _ sb invb szb
    (by rw [bkb]; omega) (by rw [ofb, f0]; omega)
  exact ⟨s1, s, s2, h1, h2, h4, h3⟩

/-- `cofactor_no_panic`. `fbase::cofactor` returns (no index panic, no `u64` overflow, the trial-division loop
terminates, the debug assertion `!certainly_composite(cofactor)` holds) when: the value is non-zero and below
`2^256` (`I256`), every listed index is inside the non-empty factor base (primes ≥ 2), `maxlarge < 2^32`
(asserted by the callers), and — the comment "Must be prime" of the code, named hypothesis — every divisor
of the value that is ≤ `maxlarge` and divisible by no listed prime is 1 or a prime (true when the list is
complete, `listed_complete`, and `maxlarge` is below the square of the largest factor-base prime).
For every behaviour of `try_factor64`. (`certainlyComposite_prime`: the Fermat test of
`certainly_composite`, modelled on the Montgomery routines of C07, accepts every prime below 2^64.) -/
theorem cofactor_no_panic (primes : Array Nat) (hp2 : ∀ (i pp : Nat), primes[i]? = some pp → 2 ≤ pp)
    (hne : primes.size ≠ 0) (x : Int) (hx : x ≠ 0) (hx256 : x.natAbs < 2 ^ 256) (facs : List Nat)
    (hfacs : ∀ pidx ∈ facs, pidx < primes.size) (maxlarge : Nat) (hml : maxlarge < 2 ^ 32) (double : Bool)
    (tf : Nat → Option (Nat × Nat))
    (must_be_prime : ∀ c : Nat, c ∣ x.natAbs → c ≤ maxlarge →
      (∀ pidx ∈ facs, ∀ pp, primes[pidx]? = some pp → ¬ pp ∣ c) → c = 1 ∨ c.Prime) :
    ∃ r, cofactor primes x facs maxlarge double tf = some r := by
  have h0 : x.natAbs ≠ 0 := Int.natAbs_ne_zero.2 hx
  obtain ⟨⟨cof, fs⟩, hloop⟩ := cofactorLoop_some hp2 hfacs
    (st := (x.natAbs, if x < 0 then [((-1 : Int), 1)] else [])) h0 hx256
  -- what the trial division leaves divides `x` and is divisible by no listed prime: "must be prime" applies to it
  obtain ⟨_, _, cdv, cnd, _⟩ := cofactor_loop primes hp2 x facs _ (cof, fs) h0 (fprod_sign x) hloop
  obtain ⟨r, hr⟩ := cofactorTail_some (primes := primes) (cof := cof) fs double tf hml hne (fun hle => by
    rcases must_be_prime cof cdv hle cnd with h | h
    · subst h; exact certainlyComposite_one
    · refine certainlyComposite_prime cof h ?_
      have : cof ≤ maxlarge := hle
      simp only [Mg64.W]; omega)
  exact ⟨r, by simp only [cofactor, hloop, Option.bind_eq_bind, Option.bind_some]; exact hr⟩

/-- non-vacuity of `cofactor_no_panic`'s arithmetic core: 1009 passes the Fermat test of the model. -/
example : certainlyComposite 1009 = some false ∧ certainlyComposite 1007 = some true := by decide +kernel

/-- `fbase_new_classes`. The `idx_by_log` table as `FBase::new` fills it (incrementally, while pushing the
primes) is the documented one, and it partitions the factor base by bit length: for primes strictly
increasing in `[2, 2^24)` the loop never writes outside its 26 entries, returns `mkIbl`, the result is a
well-formed factor base (`FB.WF`, the hypothesis of the sieve theorems), and prime `i` lies in
`[idx_by_log[l], idx_by_log[l+1])` exactly when its bit length is `l` — in particular
`i < idx_by_log[15] ⇔ p < 2^14`, `i < idx_by_log[16] ⇔ p < 2^15 = BLOCK_SIZE`, size class `l ≥ 16` ⇔
`2^(l-1) ≤ p < 2^l`: the class boundaries `Sieve::new`, `sieve_block` and `smooths` rely on. -/
theorem fbase_new_classes (ps : Array Nat) (hs : ps.toList.Pairwise (· < ·))
    (hr : ∀ p ∈ ps.toList, 2 ≤ p ∧ p < 2 ^ 24) :
    ∃ ibl, fbaseIbl ps.toList = some ibl ∧ ibl = mkIbl ps ∧ FB.WF { primes := ps, ibl := ibl } ∧
      ∀ (l i v v' p : Nat), ibl[l]? = some v → ibl[l + 1]? = some v' → ps[i]? = some p →
        ((v ≤ i ∧ i < v') ↔ bitlen p = l) ∧ (i < v' ↔ p < 2 ^ l) := by
  have h := fbaseIbl_eq ps.toList hs (fun p hp => (hr p hp).2)
  have hwf := fbase_new_WF ps _ hs hr h
  refine ⟨_, h, by simp, hwf, ?_⟩
  intro l i v v' p h1 h2 hp
  refine ⟨hwf.class_of (fb := { primes := ps, ibl := mkIbl ps.toList.toArray }) hp h1 h2, ?_⟩
  rw [hwf.ibl_spec (l + 1) i v' p h2 hp]
  exact bitlen_lt_succ_iff p l

example : fbaseIbl [2, 3, 5, 7, 11, 4099, 65537] =
    some #[0, 0, 0, 2, 4, 5, 5, 5, 5, 5, 5, 5, 5, 5, 6, 6, 6, 6, 7, 7, 7, 7, 7, 7, 7, 7] := by decide +kernel

/-- `log_sum_bound` (the bound behind `accumulator_no_overflow*` in Props/C13Log.lean, which use its first half, `log_sum_lt`). The byte `blk[pos]` of `sieve_block` accumulates
the bit length of every factor-base prime with a root at `pos` (at most once per prime: two different
roots, or one cursor when `r1 = r2`); with true roots these primes divide the polynomial value `v ≠ 0`.
For distinct primes dividing `v` the sum of bit lengths is `< bitlen v + (number of primes)`; hence the
`u8` accumulator cannot overflow (no panic with overflow checks, no wrapped value in release) as long as
`bitlen v + #primes ≤ 256`. Above that bound the overflow IS reachable through `factor()` (see the
finding reported with this property: a 398-bit `n`, `Algo::Qs`). -/
theorem log_sum_bound (s : Finset ℕ) (hs : ∀ p ∈ s, p.Prime) (v : ℕ) (hv : v ≠ 0) (hd : ∀ p ∈ s, p ∣ v) :
    (∑ p ∈ s, bitlen p) < bitlen v + s.card ∧ (bitlen v + s.card ≤ 256 → (∑ p ∈ s, bitlen p) ≤ 255) := by
  have := log_sum_lt s hs v hv hd
  exact ⟨this, fun h => by omega⟩

example : (∑ p ∈ ({3, 5, 7} : Finset ℕ), bitlen p) = 8 ∧ bitlen 105 = 7 := by decide

/-- non-vacuity of `no_panic`: the hypotheses hold for a small factor base with a prime of size class 16. -/
example : (FB.ofPrimes #[2, 5, 32771]).WF ∧ (FB.ofPrimes #[2, 5, 32771]).primes.size ≠ 0 ∧
    RecycledSized (FB.ofPrimes #[2, 5, 32771]) 3 none ∧
    RootsDistinct (FB.ofPrimes #[2, 5, 32771]) #[0, 3, 7] #[1, 4, 100] := by
  refine ⟨FB.ofPrimes_WF _ (by decide) (by decide), by decide, fun _ _ h => by simp at h, ?_⟩
  intro i p hp hge
  have hi : i < 3 := (Array.getElem?_eq_some_iff.1 hp).1
  have : i = 0 ∨ i = 1 ∨ i = 2 := by omega
  rcases this with rfl | rfl | rfl <;> simp [FB.ofPrimes] at hp <;> subst hp <;> simp at hge ⊢

/-- `cofactor_spec`. Whenever `fbase::cofactor` returns `Some(((p, q), factors))` for a non-zero value `x`:
the factors (`(-1, 1)` for a negative value, then `(prime, exponent)` with positive exponents, all of them
listed primes) and the cofactor multiply back to `x`; `p·q` is divisible by no listed prime; consequently,
if every prime `≤ bound` dividing `x` is among the listed primes (which `listed_complete` provides for the
factor-base primes, `bound` = largest factor-base prime, the other primes below it do not divide the
polynomial values: property C12), then the cofactor is 1 or has only prime factors above `bound`.
`try_factor64_sound` is the only thing assumed about `try_factor64` (Pollard rho / ECM, not modelled). -/
theorem cofactor_spec (primes : Array Nat) (hp2 : ∀ (i pp : Nat), primes[i]? = some pp → 2 ≤ pp)
    (x : Int) (hx : x ≠ 0) (facs : List Nat) (maxlarge : Nat) (double : Bool)
    (tf : Nat → Option (Nat × Nat)) (try_factor64_sound : ∀ n a b, tf n = some (a, b) → a * b = n)
    (p q : Nat) (factors : List (Int × Nat))
    (h : cofactor primes x facs maxlarge double tf = some (some ((p, q), factors))) :
    fprod factors * ((p * q : Nat) : Int) = x ∧
    (∀ be ∈ factors, be = (-1, 1) ∨ ∃ pidx ∈ facs, primes[pidx]? = some be.1.toNat ∧
      (be.1.toNat : Int) = be.1 ∧ 0 < be.2) ∧
    (∀ pidx ∈ facs, ∀ pp, primes[pidx]? = some pp → ¬ pp ∣ p * q) ∧
    (∀ bound : Nat,
      (∀ l : Nat, l.Prime → l ≤ bound → l ∣ x.natAbs → ∃ pidx ∈ facs, primes[pidx]? = some l) →
      p * q = 1 ∨ ∀ l : Nat, l.Prime → l ∣ p * q → bound < l) := by
  obtain ⟨c1, _, c3, c4, c5⟩ := cofactor_core hp2 hx try_factor64_sound h
  exact ⟨c1, c5, c4, fun bound hc => Or.inr (cofactor_large c3 c4 hc)⟩

/-- non-vacuity: `-(2^3·7·1009)` with factor base `{2, 3, 5, 7}`, list `[3, 0, 1]`: cofactor 1009. -/
example : cofactor #[2, 3, 5, 7] (-56504) [3, 0, 1] 5000 false (fun _ => none) =
    some (some ((1009, 1), [(-1, 1), (7, 1), (2, 3)])) := by decide +kernel

end Ymq.C13
