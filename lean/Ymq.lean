-- GENERATED by vlib/mkall.py: everything `lake build Ymq` must check.
import Ymq.Gen.CallSites
import Ymq.Gen.Curves
import Ymq.Gen.NttCert
import Ymq.Gen.Params
import Ymq.Gen.Primality
import Ymq.Gen.QsShift
import Ymq.Gen.SchedShape
import Ymq.Gen.SiqsSel
import Ymq.Gen.Stage2
import Ymq.Gen.Stage2Arms
import Ymq.Model.Arith
import Ymq.Model.BerlekampMassey
import Ymq.Model.Chain
import Ymq.Model.Checked
import Ymq.Model.ClassGroup
import Ymq.Model.ClassGroupFilter
import Ymq.Model.ClassGroupLegendre
import Ymq.Model.Crt
import Ymq.Model.Dividers
import Ymq.Model.Ecm128Curve
import Ymq.Model.EcmCurve
import Ymq.Model.ExpModn
import Ymq.Model.FInt
import Ymq.Model.Factor
import Ymq.Model.Gcd
import Ymq.Model.Gf2
import Ymq.Model.Gf2Genblock
import Ymq.Model.Gf2Lanczos
import Ymq.Model.Gf2Small
import Ymq.Model.IntMat
import Ymq.Model.Inverter
import Ymq.Model.Kronecker
import Ymq.Model.Limbs
import Ymq.Model.M128
import Ymq.Model.Mg64
import Ymq.Model.Mg64Inv
import Ymq.Model.MpqsPoly
import Ymq.Model.Ntt
import Ymq.Model.Pm1Impl
import Ymq.Model.PollardRho
import Ymq.Model.PolyMul
import Ymq.Model.PolySeries
import Ymq.Model.PolySpec
import Ymq.Model.PolyTree
import Ymq.Model.Pp1Impl
import Ymq.Model.Primes
import Ymq.Model.Pseudoprime
import Ymq.Model.PseudoprimeWord
import Ymq.Model.QsRoots
import Ymq.Model.Qsieve64
import Ymq.Model.Relations
import Ymq.Model.RelationsWalk
import Ymq.Model.Sched
import Ymq.Model.SchedShape
import Ymq.Model.SchedUnits
import Ymq.Model.Sieve
import Ymq.Model.SieveLog
import Ymq.Model.SiqsPoly
import Ymq.Model.SiqsSelect
import Ymq.Model.SmoothBase
import Ymq.Model.Snf
import Ymq.Model.Squfof
import Ymq.Model.Stage2
import Ymq.Model.Suyama
import Ymq.Model.Wiedemann
import Ymq.Model.WiedemannKer
import Ymq.Model.ZmodN
import Ymq.Lemmas.Arith
import Ymq.Lemmas.ArithGcd
import Ymq.Lemmas.ArithSqrt
import Ymq.Lemmas.BerlekampMasseyInit
import Ymq.Lemmas.BerlekampMasseyLoop
import Ymq.Lemmas.BerlekampMasseyMg
import Ymq.Lemmas.BerlekampMasseyMinimal
import Ymq.Lemmas.BerlekampMasseyOps
import Ymq.Lemmas.BerlekampMasseyPoly
import Ymq.Lemmas.BerlekampMasseySpec
import Ymq.Lemmas.BerlekampMasseyStep
import Ymq.Lemmas.BerlekampMasseyTop
import Ymq.Lemmas.BinPow
import Ymq.Lemmas.Bits
import Ymq.Lemmas.Chain
import Ymq.Lemmas.ChainGroup
import Ymq.Lemmas.ChainLong
import Ymq.Lemmas.ClassGroupCompose
import Ymq.Lemmas.ClassGroupFilter
import Ymq.Lemmas.ClassGroupForms
import Ymq.Lemmas.ClassGroupGauss
import Ymq.Lemmas.ClassGroupGenuine
import Ymq.Lemmas.ClassGroupLegendre
import Ymq.Lemmas.ClassGroupReduce
import Ymq.Lemmas.ClassGroupRel
import Ymq.Lemmas.ClassGroupSign
import Ymq.Lemmas.ClassGroupStore
import Ymq.Lemmas.ClassGroupTotal
import Ymq.Lemmas.ClassGroupUnique
import Ymq.Lemmas.CrtBound
import Ymq.Lemmas.CrtColumns
import Ymq.Lemmas.CrtEstimate
import Ymq.Lemmas.CrtLemmas
import Ymq.Lemmas.CrtNew
import Ymq.Lemmas.CurveAddClosed
import Ymq.Lemmas.CurveAddDouble
import Ymq.Lemmas.CurveAddextAdd
import Ymq.Lemmas.CurveAddextClosed
import Ymq.Lemmas.CurveBuild
import Ymq.Lemmas.CurveBuildFin
import Ymq.Lemmas.CurveDefs
import Ymq.Lemmas.CurveDoubleClosed
import Ymq.Lemmas.CurveMisc
import Ymq.Lemmas.CurveSuyama
import Ymq.Lemmas.Dividers
import Ymq.Lemmas.DividersUint
import Ymq.Lemmas.Ecm128CurveGroup
import Ymq.Lemmas.Ecm128CurveTotal
import Ymq.Lemmas.EcmCurveGroup
import Ymq.Lemmas.EcmCurveTotal
import Ymq.Lemmas.FIntBasic
import Ymq.Lemmas.FIntFft
import Ymq.Lemmas.FIntKara
import Ymq.Lemmas.FIntRoot
import Ymq.Lemmas.FIntShift
import Ymq.Lemmas.FactorBasic
import Ymq.Lemmas.FactorClosed
import Ymq.Lemmas.FactorClosed2
import Ymq.Lemmas.FactorClosed3
import Ymq.Lemmas.FactorClosedExample
import Ymq.Lemmas.FactorCombine
import Ymq.Lemmas.FactorExample
import Ymq.Lemmas.FactorInv
import Ymq.Lemmas.FactorOracle
import Ymq.Lemmas.FactorShape
import Ymq.Lemmas.FactorStep
import Ymq.Lemmas.FactorTop
import Ymq.Lemmas.Gcd
import Ymq.Lemmas.GcdCof7
import Ymq.Lemmas.GcdEgcd2
import Ymq.Lemmas.GcdInv
import Ymq.Lemmas.GcdLoop
import Ymq.Lemmas.GcdReduce
import Ymq.Lemmas.GcdReduceInv
import Ymq.Lemmas.GcdRow
import Ymq.Lemmas.GcdRow2
import Ymq.Lemmas.GcdStep
import Ymq.Lemmas.GcdTerm
import Ymq.Lemmas.GcdTotal
import Ymq.Lemmas.GcdWords
import Ymq.Lemmas.Gf2Basic
import Ymq.Lemmas.Gf2Gauss
import Ymq.Lemmas.Gf2LanczosFinal
import Ymq.Lemmas.Gf2Rank
import Ymq.Lemmas.Gf2Rot
import Ymq.Lemmas.Gf2SmallAab
import Ymq.Lemmas.Gf2SmallBasic
import Ymq.Lemmas.Gf2SmallBlockMat
import Ymq.Lemmas.Gf2SmallCallsite
import Ymq.Lemmas.Gf2SmallDomain
import Ymq.Lemmas.Gf2SmallElim
import Ymq.Lemmas.Gf2SmallEntry
import Ymq.Lemmas.Gf2SmallInverse
import Ymq.Lemmas.Gf2SmallLin
import Ymq.Lemmas.Gf2SmallLoopAlg
import Ymq.Lemmas.Gf2SmallLoopIter
import Ymq.Lemmas.Gf2SmallLoopProj
import Ymq.Lemmas.Gf2SmallLoopRun
import Ymq.Lemmas.Gf2SmallLoopShapes
import Ymq.Lemmas.Gf2SmallMontgomery
import Ymq.Lemmas.Gf2SmallPinv
import Ymq.Lemmas.Gf2SmallRank
import Ymq.Lemmas.Gf2SmallThreeTerm
import Ymq.Lemmas.Gf2SmallVRun
import Ymq.Lemmas.Gf2SmallVStep
import Ymq.Lemmas.Gf2Sparse
import Ymq.Lemmas.IntMatCrt
import Ymq.Lemmas.IntMatEchDet
import Ymq.Lemmas.IntMatEchMont
import Ymq.Lemmas.IntMatEchP
import Ymq.Lemmas.IntMatEchPDet
import Ymq.Lemmas.IntMatEchRefA
import Ymq.Lemmas.IntMatPerm
import Ymq.Lemmas.Inv2adic
import Ymq.Lemmas.Inverter
import Ymq.Lemmas.KroneckerDispatch
import Ymq.Lemmas.KroneckerFft
import Ymq.Lemmas.KroneckerModel
import Ymq.Lemmas.KroneckerSum
import Ymq.Lemmas.Limbs
import Ymq.Lemmas.Loops
import Ymq.Lemmas.M128
import Ymq.Lemmas.Mg64
import Ymq.Lemmas.MillerMont
import Ymq.Lemmas.MillerSpec
import Ymq.Lemmas.MillerTiers
import Ymq.Lemmas.MontCore
import Ymq.Lemmas.NttConvolve
import Ymq.Lemmas.NttMint
import Ymq.Lemmas.NttPipeline
import Ymq.Lemmas.NttRoots
import Ymq.Lemmas.NttSpec
import Ymq.Lemmas.Params
import Ymq.Lemmas.ParamsDec1
import Ymq.Lemmas.ParamsDec2
import Ymq.Lemmas.ParamsDec3
import Ymq.Lemmas.ParamsDec4
import Ymq.Lemmas.ParamsDefs
import Ymq.Lemmas.Pm1Baby
import Ymq.Lemmas.Pm1Giant
import Ymq.Lemmas.Pm1Impl
import Ymq.Lemmas.Pm1ImplExample
import Ymq.Lemmas.Pm1Walk
import Ymq.Lemmas.PollardRho
import Ymq.Lemmas.PolyBarrett
import Ymq.Lemmas.PolyBits
import Ymq.Lemmas.PolyCrt
import Ymq.Lemmas.PolyDft
import Ymq.Lemmas.PolyEval
import Ymq.Lemmas.PolyInv
import Ymq.Lemmas.PolyKaratsuba
import Ymq.Lemmas.PolyMiddle
import Ymq.Lemmas.PolyMont
import Ymq.Lemmas.PolyMontFin
import Ymq.Lemmas.PolyMpqs
import Ymq.Lemmas.PolyQs
import Ymq.Lemmas.PolyRoots
import Ymq.Lemmas.PolyRootsEval
import Ymq.Lemmas.PolySelect
import Ymq.Lemmas.PolySelectA
import Ymq.Lemmas.PolySelectNever
import Ymq.Lemmas.PolySelectTotal
import Ymq.Lemmas.PolySeries
import Ymq.Lemmas.PolySiqs
import Ymq.Lemmas.PolySiqsExact
import Ymq.Lemmas.PolySizes
import Ymq.Lemmas.PolyTree
import Ymq.Lemmas.PolyWalkB
import Ymq.Lemmas.PolyWalkTotal
import Ymq.Lemmas.PolyZMod
import Ymq.Lemmas.Pp1Impl
import Ymq.Lemmas.Pp1ImplExample
import Ymq.Lemmas.PrimesBlock
import Ymq.Lemmas.PrimesCount
import Ymq.Lemmas.PrimesFlags
import Ymq.Lemmas.PrimesGap
import Ymq.Lemmas.PrimesRosser
import Ymq.Lemmas.PrimesSieve
import Ymq.Lemmas.PrimesSmall
import Ymq.Lemmas.PrimesStream
import Ymq.Lemmas.PrimesTop
import Ymq.Lemmas.PseudoprimeWord
import Ymq.Lemmas.Qsieve64Sieve
import Ymq.Lemmas.Qsieve64Total
import Ymq.Lemmas.Qsieve64Valid
import Ymq.Lemmas.Recode
import Ymq.Lemmas.Relations
import Ymq.Lemmas.RelationsDisjoint
import Ymq.Lemmas.RelationsFinal
import Ymq.Lemmas.RelationsInv2
import Ymq.Lemmas.RelationsMono
import Ymq.Lemmas.RelationsNoOverflow
import Ymq.Lemmas.RelationsNoPanic
import Ymq.Lemmas.RelationsPack
import Ymq.Lemmas.RelationsStore
import Ymq.Lemmas.RelationsWalk
import Ymq.Lemmas.RelationsWalkBound
import Ymq.Lemmas.RelationsWalkCor
import Ymq.Lemmas.Sched
import Ymq.Lemmas.SchedShape
import Ymq.Lemmas.SchedUnits
import Ymq.Lemmas.SieveArith
import Ymq.Lemmas.SieveBuckets
import Ymq.Lemmas.SieveCofactor
import Ymq.Lemmas.SieveCursor
import Ymq.Lemmas.SieveFBase
import Ymq.Lemmas.SieveFill
import Ymq.Lemmas.SieveLog
import Ymq.Lemmas.SieveLogCover
import Ymq.Lemmas.SieveLogSum
import Ymq.Lemmas.SieveLogTables
import Ymq.Lemmas.SieveNew
import Ymq.Lemmas.SievePath
import Ymq.Lemmas.SieveRounds
import Ymq.Lemmas.SieveSmooths
import Ymq.Lemmas.SieveState
import Ymq.Lemmas.SieveTable
import Ymq.Lemmas.SieveTableSum
import Ymq.Lemmas.SieveTotal
import Ymq.Lemmas.SieveTotalRun
import Ymq.Lemmas.SmoothBaseLoop
import Ymq.Lemmas.SmoothBasePack
import Ymq.Lemmas.SmoothBasePm1
import Ymq.Lemmas.SmoothBasePm1Base
import Ymq.Lemmas.SmoothBasePm1Top
import Ymq.Lemmas.SmoothBasePm1Witness
import Ymq.Lemmas.SmoothBaseTop
import Ymq.Lemmas.SnfBasic
import Ymq.Lemmas.SnfCols
import Ymq.Lemmas.SnfDiag
import Ymq.Lemmas.SnfDivider
import Ymq.Lemmas.SnfEgcd
import Ymq.Lemmas.SnfOps
import Ymq.Lemmas.SnfReduceCols
import Ymq.Lemmas.SqufofIsqrt
import Ymq.Lemmas.SqufofLoops
import Ymq.Lemmas.SqufofStep
import Ymq.Lemmas.SqufofTop
import Ymq.Lemmas.Stage2Algebra
import Ymq.Lemmas.Stage2Cover
import Ymq.Lemmas.Stage2Exp
import Ymq.Lemmas.Stage2ExpLarge
import Ymq.Lemmas.Stage2Extract
import Ymq.Lemmas.Stage2Ladders
import Ymq.Lemmas.Stage2Pm1
import Ymq.Lemmas.Stage2Pratt
import Ymq.Lemmas.Stage2Totient
import Ymq.Lemmas.WiedemannAlg
import Ymq.Lemmas.WiedemannBM
import Ymq.Lemmas.WiedemannDetz
import Ymq.Lemmas.WiedemannKer
import Ymq.Lemmas.WiedemannKerAlg
import Ymq.Lemmas.WiedemannKrylov
import Ymq.Lemmas.WiedemannMulp
import Ymq.Lemmas.WiedemannPrimes
import Ymq.Lemmas.WiedemannWitness
import Ymq.Lemmas.WiedemannWitnessDet
import Ymq.Lemmas.ZmodN
import Ymq.Lemmas.ZmodNMul
import Ymq.Lemmas.ZmodNNew
import Ymq.Lemmas.ZmodNOps
import Ymq.Lemmas.ZmodNRedc
import Ymq.Props.C01
import Ymq.Props.C01Closed
import Ymq.Props.C01Closed2
import Ymq.Props.C01Closed3
import Ymq.Props.C02
import Ymq.Props.C02C06
import Ymq.Props.C03
import Ymq.Props.C03Qs64
import Ymq.Props.C03Rho
import Ymq.Props.C03Squfof
import Ymq.Props.C04
import Ymq.Props.C04Relations
import Ymq.Props.C04Shape
import Ymq.Props.C05
import Ymq.Props.C05Sched
import Ymq.Props.C06
import Ymq.Props.C06Word
import Ymq.Props.C07
import Ymq.Props.C07C09
import Ymq.Props.C07C09Ext
import Ymq.Props.C08
import Ymq.Props.C09
import Ymq.Props.C09Ext
import Ymq.Props.C10
import Ymq.Props.C11
import Ymq.Props.C11Total
import Ymq.Props.C11Walk
import Ymq.Props.C12
import Ymq.Props.C13
import Ymq.Props.C13Log
import Ymq.Props.C14
import Ymq.Props.C14Small
import Ymq.Props.C15
import Ymq.Props.C15Ecm128
import Ymq.Props.C15Stage2
import Ymq.Props.C15Suyama
import Ymq.Props.C16
import Ymq.Props.C16Pm1
import Ymq.Props.C16Pm1b
import Ymq.Props.C16Pp1
import Ymq.Props.C17
import Ymq.Props.C18
import Ymq.Props.C18C19
import Ymq.Props.C18Forms
import Ymq.Props.C18Group
import Ymq.Props.C18Legendre
import Ymq.Props.C19
import Ymq.Props.C19BM
import Ymq.Props.C19Dense
import Ymq.Props.C19Wied
import Ymq.Props.C20
import Ymq.Props.C20Ntt
import Ymq.Drv.All
import Ymq.Drv.Arith
import Ymq.Drv.BerlekampMassey
import Ymq.Drv.Chain
import Ymq.Drv.ClassGroup
import Ymq.Drv.ClassGroupFilter
import Ymq.Drv.ClassGroupLegendre
import Ymq.Drv.Ecm128Curve
import Ymq.Drv.EcmCurve
import Ymq.Drv.Factor
import Ymq.Drv.Gcd
import Ymq.Drv.Gf2
import Ymq.Drv.Gf2Small
import Ymq.Drv.IntMat
import Ymq.Drv.Mg64
import Ymq.Drv.Params
import Ymq.Drv.Pm1Impl
import Ymq.Drv.PollardRho
import Ymq.Drv.Poly
import Ymq.Drv.PolyFft
import Ymq.Drv.Pp1Impl
import Ymq.Drv.Primes
import Ymq.Drv.Pseudoprime
import Ymq.Drv.PseudoprimeWord
import Ymq.Drv.Qsieve64
import Ymq.Drv.Relations
import Ymq.Drv.SchedTrace
import Ymq.Drv.Sieve
import Ymq.Drv.Squfof
import Ymq.Drv.Stage2
import Ymq.Drv.Suyama
import Ymq.Drv.Util
import Ymq.Drv.Wiedemann
import Ymq.Drv.WiedemannKer
import Ymq.Drv.ZmodN
